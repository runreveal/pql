import PqlModel.Base.Bytes
import PqlModel.Base.BytesLemmas
import PqlModel.Base.Utf8
import PqlModel.Generated.Facts
import PqlModel.Lemmas.AccountedBasic
import PqlModel.Lemmas.AccountedExpr
import PqlModel.Lemmas.AccountedOps
import PqlModel.Lemmas.AccountedScan
import PqlModel.Lemmas.AccountedStmt
import PqlModel.Lemmas.AccountedTab
import PqlModel.Lemmas.CliIOExamples
import PqlModel.Lemmas.CliIOLines
import PqlModel.Lemmas.CliIOModel
import PqlModel.Lemmas.CliIOMulti
import PqlModel.Lemmas.CliIOSpec
import PqlModel.Lemmas.CliLemmasLast
import PqlModel.Lemmas.LexNewline
import PqlModel.Lemmas.CliLemmasRun
import PqlModel.Lemmas.CliLemmasSplit
import PqlModel.Lemmas.CliMainIRRun
import PqlModel.Lemmas.CliSemCompile
import PqlModel.Lemmas.CliSemDefs
import PqlModel.Lemmas.LexFollower
import PqlModel.Lemmas.CliSemParse
import PqlModel.Lemmas.CliSemRun
import PqlModel.Lemmas.CliSemShift
import PqlModel.Lemmas.CliSemSpans
import PqlModel.Lemmas.CliStreamIR
import PqlModel.Lemmas.CliStreamIRDen
import PqlModel.Lemmas.CliStreamIRMain
import PqlModel.Lemmas.Derives
import PqlModel.Lemmas.Dispatch
import PqlModel.Lemmas.DispatchRune
import PqlModel.Lemmas.DispatchScan
import PqlModel.Lemmas.DispatchSub
import PqlModel.Lemmas.E2EFinalChecks
import PqlModel.Lemmas.E2EFinalNoBang
import PqlModel.Lemmas.E2EFinalProgram
import PqlModel.Lemmas.E2EFinalScopedParts
import PqlModel.Lemmas.E2EFinalSplitSubst
import PqlModel.Lemmas.E2EIntended
import PqlModel.Lemmas.E2EMoreHolesLex
import PqlModel.Lemmas.E2EMoreInst
import PqlModel.Lemmas.E2EMoreInstTop
import PqlModel.Lemmas.E2EMoreNamesOK
import PqlModel.Lemmas.E2EMoreNamesWrite
import PqlModel.Lemmas.E2EMorePlets
import PqlModel.Lemmas.E2EProgram
import PqlModel.Lemmas.E2ESelect
import PqlModel.Lemmas.ErrsAlgebra
import PqlModel.Lemmas.ExactBasic
import PqlModel.Lemmas.ExactExpr
import PqlModel.Lemmas.ExactParse
import PqlModel.Lemmas.ExactParseExpr
import PqlModel.Lemmas.ExactSpan
import PqlModel.Lemmas.ExactSplit
import PqlModel.Lemmas.ExactStmts
import PqlModel.Lemmas.ExactWrite
import PqlModel.Lemmas.ExprIRSimp
import PqlModel.Lemmas.OpIRRun
import PqlModel.Lemmas.OpIRSimp
import PqlModel.Lemmas.WriteIRSimp
import PqlModel.Lemmas.ExprParseIRCursor
import PqlModel.Lemmas.ExprParseIRInner
import PqlModel.Lemmas.ExprParseIRLeaves
import PqlModel.Lemmas.ExprParseIRProd
import PqlModel.Lemmas.ExprParseIRSimp
import PqlModel.Lemmas.ExprParseIRSplit
import PqlModel.Lemmas.ExprParseIRTrail
import PqlModel.Lemmas.ExprParseIRUnits
import PqlModel.Lemmas.ExprShape
import PqlModel.Lemmas.ForwardBasic
import PqlModel.Lemmas.ForwardExpr
import PqlModel.Lemmas.ForwardOps
import PqlModel.Lemmas.ForwardSpine
import PqlModel.Lemmas.ForwardSplit
import PqlModel.Lemmas.ForwardStmt
import PqlModel.Lemmas.ForwardTab
import PqlModel.Lemmas.GapLemmas
import PqlModel.Lemmas.GlueAcc
import PqlModel.Lemmas.GlueArity
import PqlModel.Lemmas.GlueArityParse
import PqlModel.Lemmas.GlueArityScan
import PqlModel.Lemmas.GlueNum
import PqlModel.Lemmas.GlueWalk
import PqlModel.Lemmas.IRHeadlinesAux
import PqlModel.Lemmas.JoinCondition
import PqlModel.Lemmas.JoinFullBase
import PqlModel.Lemmas.JoinFullEval
import PqlModel.Lemmas.JoinFullGen
import PqlModel.Lemmas.JoinFullLink
import PqlModel.Lemmas.JoinFullNames
import PqlModel.Lemmas.JoinFullSem
import PqlModel.Lemmas.JoinFullStep
import PqlModel.Lemmas.JoinFullTop
import PqlModel.Lemmas.JoinSemChain
import PqlModel.Lemmas.JoinSemEval
import PqlModel.Lemmas.JoinSemKey
import PqlModel.Lemmas.JoinSemKinds
import PqlModel.Lemmas.JoinSemNorm
import PqlModel.Lemmas.JoinSemShape
import PqlModel.Lemmas.JoinSemSplit
import PqlModel.Lemmas.LayoutDefs
import PqlModel.Lemmas.LayoutLex
import PqlModel.Lemmas.LayoutSyn
import PqlModel.Lemmas.LayoutTop
import PqlModel.Lemmas.LexBasic
import PqlModel.Lemmas.LexGrammar
import PqlModel.Lemmas.LexIRCore
import PqlModel.Lemmas.LexIRCursor
import PqlModel.Lemmas.LexIRDecls
import PqlModel.Lemmas.LexIRExponent
import PqlModel.Lemmas.LexIRHex
import PqlModel.Lemmas.LexIRMantissa
import PqlModel.Lemmas.LexIRNumber
import PqlModel.Lemmas.LexLocal
import PqlModel.Lemmas.LexNumber
import PqlModel.Lemmas.LexReach
import PqlModel.Lemmas.LexRefines
import PqlModel.Lemmas.LexRenderAtoms
import PqlModel.Lemmas.LexRenderBytes
import PqlModel.Lemmas.LexRenderChunks
import PqlModel.Lemmas.LexRenderComb
import PqlModel.Lemmas.LexRenderNum
import PqlModel.Lemmas.LexRenderStep
import PqlModel.Lemmas.LexRenderWriter
import PqlModel.Lemmas.LexScanIRCore
import PqlModel.Lemmas.LexScanIRDecls
import PqlModel.Lemmas.LexScanIRExec
import PqlModel.Lemmas.LexScanIRIdent
import PqlModel.Lemmas.LexScanIRQuoted
import PqlModel.Lemmas.LexScanIRScan
import PqlModel.Lemmas.LexScanIRString
import PqlModel.Lemmas.LexSplit
import PqlModel.Lemmas.LexStmtOK
import PqlModel.Lemmas.LexStmtScope
import PqlModel.Lemmas.LexStmtSemi
import PqlModel.Lemmas.LexStmtSplit
import PqlModel.Lemmas.LexStmtWrite
import PqlModel.Lemmas.LinecolLemmas
import PqlModel.Lemmas.NoPanicIR
import PqlModel.Lemmas.ParamsBind
import PqlModel.Lemmas.ParamsBindTop
import PqlModel.Lemmas.ParamsHoles
import PqlModel.Lemmas.ParseCases
import PqlModel.Lemmas.ParseInduct
import PqlModel.Lemmas.ParseInductOk
import PqlModel.Lemmas.ParseCasesOps
import PqlModel.Lemmas.ParseFold
import PqlModel.Lemmas.ParseFuelBasic
import PqlModel.Lemmas.ParseFuelExpr
import PqlModel.Lemmas.ParseFuelLen
import PqlModel.Lemmas.ParseFuelOps
import PqlModel.Lemmas.ParseFuelTab
import PqlModel.Lemmas.ParseGood
import PqlModel.Lemmas.ParseMapBasic
import PqlModel.Lemmas.ParseMapExpr
import PqlModel.Lemmas.ParseMapOps
import PqlModel.Lemmas.ParseMapTab
import PqlModel.Lemmas.ParseStmtClauses
import PqlModel.Lemmas.ParseStmtDefs
import PqlModel.Lemmas.ParseStmtFuel
import PqlModel.Lemmas.ParseStmtOK
import PqlModel.Lemmas.ParseStmtOpSpec
import PqlModel.Lemmas.ParseStmtOps
import PqlModel.Lemmas.ParseStmtParts
import PqlModel.Lemmas.ParseStmtSelect
import PqlModel.Lemmas.ParseStmtSplit
import PqlModel.Lemmas.ParseStmtTop
import PqlModel.Lemmas.ParseStmtWrite
import PqlModel.Lemmas.ParsedOKExpr
import PqlModel.Lemmas.ParsedOKLeaves
import PqlModel.Lemmas.ParsedOKLets
import PqlModel.Lemmas.ParsedOKLift
import PqlModel.Lemmas.ParsedOKNum
import PqlModel.Lemmas.ParsedOKTr
import PqlModel.Lemmas.ParsedOKTree
import PqlModel.Lemmas.ParseNotFound
import PqlModel.Lemmas.PiecewiseDefs
import PqlModel.Lemmas.PiecewiseStmts
import PqlModel.Lemmas.PiecewiseTab
import PqlModel.Lemmas.RegexLemmas
import PqlModel.Lemmas.RejectCl
import PqlModel.Lemmas.RejectExpr
import PqlModel.Lemmas.RejectOps
import PqlModel.Lemmas.RejectShapes
import PqlModel.Lemmas.RejectTok
import PqlModel.Lemmas.ScopeCompile
import PqlModel.Lemmas.ScopeEq
import PqlModel.Lemmas.ScopeLets
import PqlModel.Lemmas.ScopeMode
import PqlModel.Lemmas.ScopeParen
import PqlModel.Lemmas.ScopeProgram
import PqlModel.Lemmas.ScopeRTAlias
import PqlModel.Lemmas.ScopeRTAll
import PqlModel.Lemmas.ScopeRTCalls
import PqlModel.Lemmas.ScopeRTGood
import PqlModel.Lemmas.ScopeRTLets
import PqlModel.Lemmas.ScopeRTLex
import PqlModel.Lemmas.ScopeRelated
import PqlModel.Lemmas.ScopeSubst
import PqlModel.Lemmas.ScopeWriteSub
import PqlModel.Lemmas.SelSemBody
import PqlModel.Lemmas.SelSemChain
import PqlModel.Lemmas.SelSemEngine
import PqlModel.Lemmas.SelSemNorm
import PqlModel.Lemmas.SelSemOps
import PqlModel.Lemmas.SelSemPost
import PqlModel.Lemmas.ShapeAll
import PqlModel.Lemmas.ShapeBasic
import PqlModel.Lemmas.ShapeCompile
import PqlModel.Lemmas.ShapeExpr
import PqlModel.Lemmas.ShapeInert
import PqlModel.Lemmas.ShapeJoin
import PqlModel.Lemmas.ShapeOps
import PqlModel.Lemmas.ShapeSplit
import PqlModel.Lemmas.SpanExtentAcc
import PqlModel.Lemmas.SpanExtentBasic
import PqlModel.Lemmas.SpanExtentExpr
import PqlModel.Lemmas.SpanExtentOps
import PqlModel.Lemmas.SpanExtentParts
import PqlModel.Lemmas.SpanExtentTidy
import PqlModel.Lemmas.SpanFree
import PqlModel.Lemmas.SplitABasic
import PqlModel.Lemmas.SplitARun
import PqlModel.Lemmas.SplitABlock
import PqlModel.Lemmas.SplitAReads
import PqlModel.Lemmas.SplitASim
import PqlModel.Lemmas.SplitBasic
import PqlModel.Lemmas.SplitIRBasic
import PqlModel.Lemmas.SplitIRJoin
import PqlModel.Lemmas.SplitIRSteps
import PqlModel.Lemmas.SplitImpHeap
import PqlModel.Lemmas.SplitImpMachine
import PqlModel.Lemmas.SplitImpOps
import PqlModel.Lemmas.SplitImpRefine
import PqlModel.Lemmas.SplitImpStep
import PqlModel.Lemmas.SplitQueriesBlock
import PqlModel.Lemmas.SplitQueriesClauses
import PqlModel.Lemmas.SplitQueriesInv
import PqlModel.Lemmas.SplitQueriesRun
import PqlModel.Lemmas.SqlRoundtripCalls
import PqlModel.Lemmas.SqlRoundtripCases
import PqlModel.Lemmas.SqlRoundtripComb
import PqlModel.Lemmas.SqlRoundtripForms
import PqlModel.Lemmas.SqlRoundtripToks
import PqlModel.Lemmas.StmtLoop
import PqlModel.Lemmas.TabCases
import PqlModel.Lemmas.TabDispatch
import PqlModel.Lemmas.TabShape
import PqlModel.Lemmas.UnparseInduct
import PqlModel.Lemmas.TreeInduct
import PqlModel.Lemmas.WalkLemmas
import PqlModel.Lemmas.WriteAllExpr
import PqlModel.Lemmas.WriteAllStmt
import PqlModel.Lemmas.WriteInvSplit
import PqlModel.Lemmas.WriterCases
import PqlModel.Lemmas.WriterCong
import PqlModel.Lemmas.WriterCongStmt
import PqlModel.Model.Ast
import PqlModel.Model.AstIR
import PqlModel.Model.AstIRSyntax
import PqlModel.Model.Cli
import PqlModel.Model.CliIOIR
import PqlModel.Model.CliIR
import PqlModel.Model.CliMainIR
import PqlModel.Model.Compile
import PqlModel.Model.ErrIR
import PqlModel.Model.ExprIR
import PqlModel.Model.ExprIRSyntax
import PqlModel.Model.ExprParseIR
import PqlModel.Model.ExprParseIRSyntax
import PqlModel.Model.ExprParseIRValues
import PqlModel.Model.JoinCondIR
import PqlModel.Model.Lex
import PqlModel.Model.LexIR
import PqlModel.Model.LexIRSyntax
import PqlModel.Model.LexScanIR
import PqlModel.Model.LexScanIRSyntax
import PqlModel.Model.Parse
import PqlModel.Model.ParseIR
import PqlModel.Model.ParseIRSyntax
import PqlModel.Model.Shared
import PqlModel.Model.SplitIR
import PqlModel.Model.SplitIRSyntax
import PqlModel.Model.Tmpl
import PqlModel.Model.Token
import PqlModel.Model.Walk
import PqlModel.Model.WriteIR
import PqlModel.Props.C01
import PqlModel.Props.C01LexRender
import PqlModel.Props.C01Sem
import PqlModel.Props.C01Syntactic
import PqlModel.Props.C01Templates
import PqlModel.Props.C01WriteExprIR
import PqlModel.Props.C01WriteExprIRAll
import PqlModel.Props.C01WriteExprIRCases
import PqlModel.Props.C02
import PqlModel.Props.C02EndToEnd
import PqlModel.Props.C02EndToEndSource
import PqlModel.Props.C02ProgramNames
import PqlModel.Props.C02Semantics
import PqlModel.Props.C02SemanticsCex
import PqlModel.Props.C02Split
import PqlModel.Props.C02SplitIR
import PqlModel.Props.C02SplitImperative
import PqlModel.Props.C02Statement
import PqlModel.Props.C03
import PqlModel.Props.C03Chain
import PqlModel.Props.C03ChainTake
import PqlModel.Props.C03Full
import PqlModel.Props.C03JoinCondIR
import PqlModel.Props.C03Semantics
import PqlModel.Props.C04
import PqlModel.Props.C04Numbers
import PqlModel.Props.C04Shape
import PqlModel.Props.C04ShapeCx
import PqlModel.Props.C04ShapeQuery
import PqlModel.Props.C05
import PqlModel.Props.C05LexStatement
import PqlModel.Props.C05NoPlaceholder
import PqlModel.Props.C05NoPlaceholderCli
import PqlModel.Props.C05ParseStatement
import PqlModel.Props.C05Parsed
import PqlModel.Props.C05SplitRefines
import PqlModel.Props.C05WriteIR
import PqlModel.Props.C05WriteIRAll
import PqlModel.Props.C05WriteIROps
import PqlModel.Props.C05WriteIRStmt
import PqlModel.Props.C06
import PqlModel.Props.C06CompileIR
import PqlModel.Props.C06Operand
import PqlModel.Props.C06Params
import PqlModel.Props.C06ParamsAtomic
import PqlModel.Props.C06ParamsExamples
import PqlModel.Props.C06Placeholders
import PqlModel.Props.C06Subst
import PqlModel.Props.C07
import PqlModel.Props.C07Defaults
import PqlModel.Props.C07ExprIR
import PqlModel.Props.C07Full
import PqlModel.Props.C07Keywords
import PqlModel.Props.C07Layout
import PqlModel.Props.C07OperatorIR
import PqlModel.Props.C07OperatorIRExtend
import PqlModel.Props.C07OperatorIRJoin
import PqlModel.Props.C07OperatorIRLet
import PqlModel.Props.C07OperatorIRParse
import PqlModel.Props.C07OperatorIRProject
import PqlModel.Props.C07OperatorIRRender
import PqlModel.Props.C07OperatorIRSort
import PqlModel.Props.C07OperatorIRSummarize
import PqlModel.Props.C07OperatorIRTabular
import PqlModel.Props.C07OperatorIRTerm
import PqlModel.Props.C07OperatorIRTreesA
import PqlModel.Props.C07OperatorIRTreesB
import PqlModel.Props.C07ParserIR
import PqlModel.Props.C08
import PqlModel.Props.C08ErrIR
import PqlModel.Props.C08ErrIRAlgebra
import PqlModel.Props.C08ErrIRShape
import PqlModel.Props.C08ErrIRUnits
import PqlModel.Props.C08Full
import PqlModel.Props.C08Reject
import PqlModel.Props.C08RejectCx
import PqlModel.Props.C09
import PqlModel.Props.C09Dispatch
import PqlModel.Props.C09Gaps
import PqlModel.Props.C09NumberIR
import PqlModel.Props.C09ScanIR
import PqlModel.Props.C09b
import PqlModel.Props.C10
import PqlModel.Props.C10Compile
import PqlModel.Props.C10Extent
import PqlModel.Props.C10Failed
import PqlModel.Props.C10Linecol
import PqlModel.Props.C10LinecolIR
import PqlModel.Props.C10SpanIR
import PqlModel.Props.C10SpanIRNodes
import PqlModel.Props.C11
import PqlModel.Props.C11Compile
import PqlModel.Props.C11WalkIR
import PqlModel.Props.C11WalkIRPushes
import PqlModel.Props.C11b
import PqlModel.Props.C12
import PqlModel.Props.C12Fuel
import PqlModel.Props.C12NoPanicIR
import PqlModel.Props.C13
import PqlModel.Props.C13Arity
import PqlModel.Props.C13Exact
import PqlModel.Props.C14
import PqlModel.Props.C14Order
import PqlModel.Props.C15
import PqlModel.Props.C15Parse
import PqlModel.Props.C15SplitIR
import PqlModel.Props.C16
import PqlModel.Props.C16IO
import PqlModel.Props.C16IOIR
import PqlModel.Props.C16IOIRMake
import PqlModel.Props.C16IOIRTrees
import PqlModel.Props.C16MainIR
import PqlModel.Props.C16RunIR
import PqlModel.Props.C16Semantics
import PqlModel.Props.C16StreamIR
import PqlModel.Props.C16a
import PqlModel.Props.IRHeadlines
import PqlModel.Props.IRHeadlinesA
import PqlModel.Props.IRHeadlinesB
import PqlModel.Props.IRHeadlinesC
import PqlModel.Props.IRHeadlinesD
import PqlModel.Props.IRHeadlinesIO
import PqlModel.Spec.AstRead
import PqlModel.Spec.ChunkToks
import PqlModel.Spec.CliSpec
import PqlModel.Spec.CompileOracle
import PqlModel.Spec.Grammar
import PqlModel.Spec.Intended
import PqlModel.Spec.LexOracle
import PqlModel.Spec.LexSpec
import PqlModel.Spec.Misuse
import PqlModel.Spec.ParseOracle
import PqlModel.Spec.Regex
import PqlModel.Spec.Rel
import PqlModel.Spec.Sql.Eval
import PqlModel.Spec.Sql.Lex
import PqlModel.Spec.Sql.Parse
import PqlModel.Spec.Sql.SameMeaning
import PqlModel.Spec.WalkOracle
