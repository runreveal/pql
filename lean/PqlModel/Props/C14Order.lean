/-
Property C14 — map-iteration order cannot leak.

In Go the initial scope is filled by a `for k, v := range opts.Parameters` loop, i.e. in an
arbitrary order of the (distinct) keys.  The model takes the parameters as a list; here we
prove that the result of `compileChunks` is the same for every ordering of that list.

Route: the scope is consulted only through `lookupScope`, and only for names the program mentions.
Two scopes that answer those lookups alike (`AgreeOn`) are indistinguishable for `writeExpr` /
`writeList` / `writeListMaybeParen'` and `splitQueries` / `splitOps` (Lemmas/ScopeEq, ScopeCompile), hence for
`Subquery.write`, `writeCtes` and the assembly, which are congruences (`SubAlike`, `finishChunks_alike` at
equality); the statement loop conses the same pair on both sides at every `let`,
so it keeps them in agreement; and a permutation of a list with distinct keys gives initial scopes
that answer every lookup alike (`ScopeEq`).
-/
import PqlModel.Lemmas.WriterCongStmt
namespace Pql.C14
open Pql

theorem compileChunks_eq (src : Bytes) (params : List (Bytes × Bytes)) (stmts : List Stmt) :
    compileChunks src params stmts =
      (compileStmts src stmts (paramScope params) none >>= fun r => finishChunks src r.1 r.2) := by
  unfold compileChunks finishChunks paramScope
  rfl

theorem subAlike_agree {src : Bytes} {m : Mode} {s s' : Scope} (sub : Subquery)
    (H : ∀ e ∈ subExprs sub, writeExpr ⟨src, s, m⟩ e = writeExpr ⟨src, s', m⟩ e) :
    SubAlike Eq ⟨src, s, m⟩ ⟨src, s', m⟩ sub sub := by
  simp only [subExprs, List.mem_append] at H
  have hcols : ∀ cs : List Column, (∀ c ∈ cs, writeExpr ⟨src, s, m⟩ c.x = writeExpr ⟨src, s', m⟩ c.x) →
      ListRel (ColAlike Eq ⟨src, s, m⟩ ⟨src, s', m⟩) cs cs :=
    fun cs h => .diag fun c hc => ⟨.of_eq (h c hc), .of_eq rfl⟩
  refine .of_map .eq (g := id) (gt := id) (ge := id) rfl (by simp) (by simp) (by simp) (fun o hop => ?_)
    (fun ts hts t ht => ⟨.of_eq (H _ (.inl (.inr (by rw [hts]; exact List.mem_map.2 ⟨t, ht, rfl⟩)))), rfl, rfl⟩)
    fun n hn => .of_eq (H n (.inr (by rw [hn]; exact List.mem_singleton.2 rfl)))
  have ho : ∀ e ∈ opWriteExprs o, ExprAlike Eq ⟨src, s, m⟩ ⟨src, s', m⟩ e e :=
    fun e he => .of_eq (H e (.inl (.inl (by rw [hop]; exact he))))
  cases o with
  | where_ p k e => exact .where_ (ho e (List.mem_singleton.2 rfl))
  | project p k cs =>
    refine .project (.diag fun c hc => ?_)
    rw [projCol_eq, projCol_eq]
    exact (ho _ (List.mem_map.2 ⟨c, hc, rfl⟩)).bind fun _ _ h => .of_eq (by rw [h])
  | extend p k cs => exact .extend (hcols cs fun c hc => (ho _ (List.mem_map.2 ⟨c, hc, rfl⟩)).eq)
  | summarize p k cs b gs =>
    exact .summarize (hcols cs fun c hc => (ho _ (List.mem_append_right _ (List.mem_map.2 ⟨c, hc, rfl⟩))).eq)
      (hcols gs fun c hc => (ho _ (List.mem_append_left _ (List.mem_map.2 ⟨c, hc, rfl⟩))).eq)
  | render => exact .render rfl rfl
  | count => exact .count
  | as_ => exact .as_
  | sort | take | top | join => exact .other rfl rfl

/-- everything after the statement loop looks up only names the query mentions: the two splits are the same list of
    subqueries, whose expressions are expressions of the query -/
theorem finishChunks_agree (src : Bytes) {s s' : Scope} (t : Tabular) (hm : ∀ e ∈ tabularExprs t, AgreeOn s s' e) :
    finishChunks src s (some t) = finishChunks src s' (some t) := by
  refine (finishChunks_alike .eq (Q := fun a b => a = b ∧ ∀ e ∈ subExprs a, AgreeOn s s' e) ?_ ?_).eq
  · rw [← splitQueries_agree t hm []]
    cases hsq : splitQueries src s [] t with
    | error e => exact ExRel.error_error e
    | ok subs =>
      exact ExRel.ok_ok (.diag fun sub hsub => ⟨rfl, splitQueries_all t hm [] subs (SubsAll.nil _) hsq sub hsub⟩)
  · rintro a _ ⟨rfl, h⟩
    exact ⟨rfl, Subquery.write_alike .eq (subAlike_agree a fun e he => writeExpr_agree e (h e he))⟩

/-- Compilation from two scopes that agree on every name still to be looked up: by the query already
    seen, by the let values before the query, by a query still to come.  A `let` writes the same value on
    both sides and conses the same pair. -/
theorem compile_from_agree (src : Bytes) :
    (stmts : List Stmt) → (s s' : Scope) → (q : Option Tabular) →
    (∀ t, q = some t → ∀ e ∈ tabularExprs t, AgreeOn s s' e) →
    (∀ e ∈ stmtsExprs stmts q.isSome, AgreeOn s s' e) →
      (compileStmts src stmts s q >>= fun r => finishChunks src r.1 r.2) =
        (compileStmts src stmts s' q >>= fun r => finishChunks src r.1 r.2)
  | [], s, s', q, hq, _ => by
    simp only [compileStmts]
    cases q with
    | none => rfl
    | some t => exact finishChunks_agree src t (hq t rfl)
  | .tabular t :: rest, s, s', q, hq, hm => by
    cases q with
    | some _ => simp only [compileStmts]
    | none =>
      simp only [compileStmts]
      simp only [stmtsExprs] at hm
      exact compile_from_agree src rest s s' (some t)
        (fun t' ht' e he => by cases ht'; exact hm e (List.mem_append_left _ he))
        (fun e he => hm e (List.mem_append_right _ he))
  | .let_ _ name _ x :: rest, s, s', q, hq, hm => by
    simp only [stmtsExprs] at hm
    have hrest : ∀ e ∈ stmtsExprs rest q.isSome, AgreeOn s s' e := fun e he => hm e (List.mem_append_right _ he)
    cases q with
    | some _ =>
      simp only [compileStmts]
      exact compile_from_agree src rest s s' _ hq hrest
    | none =>
      simp only [compileStmts, writeExpr_agree x (hm x (List.mem_append_left _ (List.mem_singleton.2 rfl)))]
      cases (writeExpr ⟨src, s', .let_⟩ x) with
      | error e => rfl
      | ok sql =>
        cases name with
        | none => rfl
        | some n =>
          exact compile_from_agree src rest _ _ none (fun _ ht' => nomatch ht')
            (fun e he => (hrest e he).cons _)

/-- **C14 (map-iteration order cannot leak).** The compiled chunks — hence the SQL text, and
    also the kind of failure — do not depend on the order in which the parameters are listed. -/
theorem C14_param_order_irrelevant (src : Bytes) (params params' : List (Bytes × Bytes)) (stmts : List Stmt)
    (hperm : params.Perm params') (hnodup : (params.map (·.1)).Nodup) :
    compileChunks src params stmts = compileChunks src params' stmts := by
  rw [compileChunks_eq, compileChunks_eq]
  exact compile_from_agree src stmts _ _ none (fun _ ht => nomatch ht)
    fun e _ => (paramScope_perm hperm hnodup).agreeOn e

/-- the same for `compile` on source text -/
theorem C14_compile_param_order_irrelevant (src : Bytes) (params params' : List (Bytes × Bytes))
    (hperm : params.Perm params') (hnodup : (params.map (·.1)).Nodup) :
    compile params src = compile params' src := by
  unfold compile
  simp only [C14_param_order_irrelevant src params params' _ hperm hnodup]

/-- **C14 / C06 (unused bindings do not change the output).** A parameter whose name occurs
    nowhere in the program as an unquoted single-part identifier — not in a let value before
    the query, not in an expression of the query (`project name` counts as `name`; a join
    without conditions counts as `true`) — can be added without changing the result. -/
theorem C14_unused_param_irrelevant (src : Bytes) (params : List (Bytes × Bytes)) (k val : Bytes)
    (stmts : List Stmt) (hunused : ∀ e ∈ stmtsExprs stmts false, exprMentions k e = false) :
    compileChunks src ((k, val) :: params) stmts = compileChunks src params stmts := by
  rw [compileChunks_eq, compileChunks_eq]
  exact compile_from_agree src stmts _ _ none (fun _ ht => nomatch ht)
    fun e he => (ScopeEqOff.extra k [Chunk.raw val] (paramScope params)).agreeOn (hunused e he)

/-- … wherever the map iteration happens to produce it -/
theorem C14_unused_param_irrelevant_anywhere (src : Bytes) (params params' : List (Bytes × Bytes)) (k val : Bytes)
    (stmts : List Stmt) (hperm : params'.Perm ((k, val) :: params)) (hnodup : (params'.map (·.1)).Nodup)
    (hunused : ∀ e ∈ stmtsExprs stmts false, exprMentions k e = false) :
    compileChunks src params' stmts = compileChunks src params stmts := by
  rw [C14_param_order_irrelevant src params' _ stmts hperm hnodup]
  exact C14_unused_param_irrelevant src params k val stmts hunused

/-- why a join without conditions counts as a mention of `true`: the condition the compiler
    makes up is the unquoted name `true`, and names are looked up in the scope before the
    built-in constants — a binding called `true` replaces it -/
theorem C14_condition_less_join_reads_true :
    writeExpr ⟨[], [(Bytes.ofString "true", [.raw [48]])], .join⟩ (buildJoinCondition .nil) = .ok [.raw [48]] ∧
      writeExpr ⟨[], [], .join⟩ (buildJoinCondition .nil) = .ok [.txt "TRUE"] := by
  constructor <;> rfl

end Pql.C14
