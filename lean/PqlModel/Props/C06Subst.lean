/-
Property C06 — substitution: "the binding's value is one operand wherever it lands".

The oracle compares `compile (lets ++ [query])` with `compile [resolveLets …]` on generated
programs.  Here the statement is proved for the expression writer, for every expression:

* `C06_let_value_is_unit`: what the statement loop stores for a let is the text of its value,
  in parentheses unless the value is an atom (name, literal, bare call).
* `C06_subst_expr`: with `n` bound by `let n = v`, writing `e` and writing `substExpr [(n, v)] e`
  without the binding succeed or fail together (with the same error), and the outputs are
  related by `StripOcc bv`: the second is the first with some occurrences of `( bv )` replaced
  by `bv`, where `bv` is the text of the value.  Nothing else differs.  Where the difference
  can occur is stated exactly by `C06_subst_operand_exact` (never in a position the writer
  wraps tightly; in operand positions only for a signed value) and `C06_subst_expr_atom`
  (never, if the value is an atom).
* `C06_subst_lets`: for any number of lets, writing under the scope the statement loop has
  built reads like writing the expression with all lets resolved (`resolveLets`' environment),
  up to `EqUpToParens`.
* `C06_subst_program`: the same for whole programs `lets ++ [query]` — the subquery splitter,
  the subquery writer and the CTE assembly commute with substitution — under the side
  conditions listed there (each one is needed: `JoinSafe` by the counterexample at the end, `TrueFree` and
  `tabNamed` by `E2EFinal.Cex.trueFree_needed`, `tabNamed_needed`, Props/C02EndToEndSource.lean).

`EqUpToParens` is the least equivalence on chunk lists that is a congruence for `++` and
contains `parenthesise xs ~ xs`.  It is a statement about text: it does not know which
parentheses are redundant for SQL's grammar (the position-exact statements above do that job
for one binding); related lists have the same chunks apart from `(` / `)` chunks
(`EqUpToParens.eraseParens_eq`).

Mode.  A let value is written in let mode, the substituted value in the mode of its use.  In
default mode this makes no difference (`writeExpr_of_let`).  In a join condition it does if
bindings are called `$left` / `$right` or values mention them: `C06_join_counterexample`.
Hence the side condition `JoinSafe`, which is vacuous outside join conditions.
-/
import PqlModel.Lemmas.ScopeLets
import PqlModel.Lemmas.ScopeWriteSub
import PqlModel.Props.C14Order
namespace Pql.C06
open Pql CompileOracle

/-- values the writers never parenthesise: names, literals, calls that are not rewritten into
    an operator expression -/
def isAtom : Expr → Bool
  | .paren _ x _ => isAtom x
  | .qident _ => true
  | .lit .. => true
  | .call fn _ _ _ =>
    match knownFunction fn.name with
    | some (_, true) => false
    | _ => true
  | _ => false

theorem isAtom_iff : (x : Expr) → isAtom x = (!needsWrap x && !isSigned x)
  | .paren _ x _ => by
    simp only [isAtom, needsWrap, isSigned]
    exact isAtom_iff x
  | .qident parts => by
    simp only [isAtom, needsWrap_qident, isSigned]
    rfl
  | .lit .. => by
    simp only [isAtom, needsWrap, isSigned, exprTypeName]
    decide
  | .call fn _ _ _ => by
    simp only [isAtom, needsWrap, isSigned]
    cases knownFunction fn.name with
    | none => rfl
    | some p =>
      obtain ⟨w, b⟩ := p
      cases b <;> rfl
  | .nil | .unary .. | .binary .. | .inE .. | .index .. => by
    simp only [isAtom, needsWrap, isSigned, exprTypeName]
    decide

/-- **C06 (the value of a let is one unit).** The chunks stored for `let n = x` are the text of
    `x` itself if `x` is an atom, and that text enclosed in parentheses otherwise. -/
theorem C06_let_value_is_unit (x : Expr) (body : List Chunk) :
    (isAtom x = true ∧ wrapTight x body = body) ∨
      (isAtom x = false ∧ wrapTight x body = parenthesise body) := by
  rw [isAtom_iff]
  unfold wrapTight wrapMaybe
  cases isSigned x <;> cases needsWrap x <;> simp

/-- … and this is what the statement loop puts on top of the scope -/
theorem C06_let_binds_unit (src : Bytes) (kw a : Span) (n : Ident) (x : Expr) (rest : List Stmt) (scope : Scope) :
    compileStmts src (.let_ kw (some n) a x :: rest) scope none =
      match writeExpr ⟨src, scope, .let_⟩ x with
      | .ok body => compileStmts src rest ((n.name, wrapTight x body) :: scope) none
      | .error e => .error e := by
  simp only [compileStmts]
  cases writeExpr ⟨src, scope, .let_⟩ x <;> rfl

/-- **C06 (substitution, one binding).** `s` is the scope before `let n = v`, whose value has
    been written (in let mode) to `bv`; the statement loop binds `n` to `wrapTight v bv`.
    For every expression `e` and every mode of use `m`, writing `e` with the binding and
    writing `e` with `n` replaced by `(v)` without it fail with the same error, or both
    succeed and the outputs differ only in that some occurrences of `( bv )` on the left are
    `bv` on the right. -/
theorem C06_subst_expr (src : Bytes) (s : Scope) (m : Mode) (n : Bytes) (v : Expr) (bv : List Chunk)
    (hlet : writeExpr ⟨src, s, .let_⟩ v = .ok bv) (hjoin : JoinSafe m n v) (e : Expr) :
    ExRel (StripOcc bv) (writeExpr ⟨src, (n, wrapTight v bv) :: s, m⟩ e)
      (writeExpr ⟨src, s, m⟩ (substExpr [(n, v)] e)) :=
  subst_expr_rel (substHyp_stripOcc hlet hjoin) e

/-- the same for any scope that looks like the one the statement loop builds -/
theorem C06_subst_expr_scopeEq (src : Bytes) (s sc : Scope) (m : Mode) (n : Bytes) (v : Expr) (bv : List Chunk)
    (hsc : ScopeEq sc ((n, wrapTight v bv) :: s))
    (hlet : writeExpr ⟨src, s, .let_⟩ v = .ok bv) (hjoin : JoinSafe m n v) (e : Expr) :
    ExRel (StripOcc bv) (writeExpr ⟨src, sc, m⟩ e) (writeExpr ⟨src, s, m⟩ (substExpr [(n, v)] e)) := by
  rw [writeExpr_scopeEq hsc e]
  exact C06_subst_expr src s m n v bv hlet hjoin e

theorem C06_subst_expr' (src : Bytes) (s : Scope) (m : Mode) (n : Bytes) (v : Expr) (bv : List Chunk)
    (hlet : writeExpr ⟨src, s, .let_⟩ v = .ok bv) (hjoin : JoinSafe m n v) (e : Expr) :
    (∃ out out', writeExpr ⟨src, (n, wrapTight v bv) :: s, m⟩ e = .ok out ∧
        writeExpr ⟨src, s, m⟩ (substExpr [(n, v)] e) = .ok out' ∧ StripOcc bv out out') ∨
      (∃ er, writeExpr ⟨src, (n, wrapTight v bv) :: s, m⟩ e = .error er ∧
        writeExpr ⟨src, s, m⟩ (substExpr [(n, v)] e) = .error er) :=
  (C06_subst_expr src s m n v bv hlet hjoin e).cases_on

theorem C06_subst_expr_parens (src : Bytes) (s : Scope) (m : Mode) (n : Bytes) (v : Expr) (bv : List Chunk)
    (hlet : writeExpr ⟨src, s, .let_⟩ v = .ok bv) (hjoin : JoinSafe m n v) (e : Expr) :
    ExRel EqUpToParens (writeExpr ⟨src, (n, wrapTight v bv) :: s, m⟩ e)
      (writeExpr ⟨src, s, m⟩ (substExpr [(n, v)] e)) :=
  (C06_subst_expr src s m n v bv hlet hjoin e).mono fun _ _ h => h.eqUpToParens

/-- **C06 (substitution is exact for atoms).** If the value is a name, a literal or a bare
    call, the two outputs are equal. -/
theorem C06_subst_expr_atom (src : Bytes) (s : Scope) (m : Mode) (n : Bytes) (v : Expr) (bv : List Chunk)
    (hlet : writeExpr ⟨src, s, .let_⟩ v = .ok bv) (hjoin : JoinSafe m n v) (hatom : isAtom v = true) (e : Expr) :
    writeExpr ⟨src, (n, wrapTight v bv) :: s, m⟩ e = writeExpr ⟨src, s, m⟩ (substExpr [(n, v)] e) := by
  have hw : wrapTight v bv = bv := by
    rcases C06_let_value_is_unit v bv with h | h
    · exact h.2
    · rw [hatom] at h
      cases h.1
  have hm : wrapMaybe v bv = bv := by
    rw [isAtom_iff] at hatom
    simp only [Bool.and_eq_true, Bool.not_eq_true'] at hatom
    simp [wrapMaybe, hatom.1]
  have H0 := substHyp_stripOcc (m := m) hlet hjoin
  have H : SubstHyp Eq src s m n v bv :=
    { cong := ChunkCong.eq, hv := H0.hv, bare := hw, maybe := by rw [hw, hm], join := H0.join }
  exact (subst_expr_rel H e).eq

/-- **C06 (substitution is exact in operand positions).** Where the writer itself puts the
    name in an operand position — under a sign, as the base of an index (tight), or, for a
    value that is not signed, as an operand of a binary operator / `in` / an operator-like
    built-in — the text that lands there is the same on both sides, for any value. -/
theorem C06_subst_operand_exact (src : Bytes) (s : Scope) (m : Mode) (n : Bytes) (v : Expr) (bv : List Chunk)
    (hlet : writeExpr ⟨src, s, .let_⟩ v = .ok bv) (hjoin : JoinSafe m n v) (x : Expr) (hx : isVar n x = true) :
    (writeExpr ⟨src, (n, wrapTight v bv) :: s, m⟩ x).map (wrapTight x) =
        (writeExpr ⟨src, s, m⟩ (substExpr [(n, v)] x)).map (wrapTight (substExpr [(n, v)] x)) ∧
      (isSigned v = false →
        (writeExpr ⟨src, (n, wrapTight v bv) :: s, m⟩ x).map (wrapMaybe x) =
          (writeExpr ⟨src, s, m⟩ (substExpr [(n, v)] x)).map (wrapMaybe (substExpr [(n, v)] x))) := by
  have H0 := substHyp_stripOcc (m := m) hlet hjoin
  obtain ⟨h1, h2, h3, h4⟩ := subst_isVar n v x hx
  rw [write_isVar_scope _ x hx, write_isVar_subst H0.hv x hx]
  simp only [Except.map, Except.ok.injEq]
  constructor
  · simp only [wrapTight, wrapMaybe, h1, h2, h3, h4]
    rfl
  · intro hs
    simp only [wrapTight, wrapMaybe, h1, h3, hs]
    rfl

/-- **C06 (substitution, all lets).** `lets` are the statements before the query, `s0` the
    scope of the parameters.  If the statement loop gets through them, then for every
    expression `e` of the query, writing `e` under the scope it has built and writing `e`
    with all lets resolved — by the environment `resolveLets` accumulates — under the
    parameters alone fail with the same error, or both succeed with outputs equal up to
    parentheses. -/
theorem C06_subst_lets (src : Bytes) (s0 : Scope) (m : Mode) (lets : List Stmt) (hl : IsLets lets)
    (hjoin : LetsJoinSafe m lets) (sc : Scope) (q : Option Tabular)
    (hrun : compileStmts src lets s0 none = .ok (sc, q)) (e : Expr) :
    ExRel EqUpToParens (writeExpr ⟨src, sc, m⟩ e) (writeExpr ⟨src, s0, m⟩ (substExpr (letsEnv lets []) e)) :=
  lets_writeRel hjoin (writeRel_init src s0 m) hrun e

/-- `letsEnv` is the environment of the oracle's `resolveLets` -/
theorem C06_resolveLets_env (lets : List Stmt) (t : Tabular) (hl : IsLets lets)
    (hnamed : ∀ st ∈ lets, ∀ kw a x, st ≠ Stmt.let_ kw none a x) :
    resolveLets (lets ++ [.tabular t]) [] = some (substTabular (letsEnv lets []) t) :=
  resolveLets_lets t lets [] hl hnamed

/-- outside join conditions there is no side condition -/
theorem letsJoinSafe_default (lets : List Stmt) : LetsJoinSafe .default lets := by
  intro _ _ _ _ _ _ _ hm
  cases hm

theorem compileStmts_lets_then_query (src : Bytes) (t : Tabular) (lets : List Stmt) (hl : IsLets lets) (s : Scope) :
    compileStmts src (lets ++ [.tabular t]) s none =
      match compileStmts src lets s none with
      | .ok (sc, _) => .ok (sc, some t)
      | .error e => .error e := by
  rw [compileStmts_append]
  cases h : compileStmts src lets s none with
  | error e => rfl
  | ok r =>
    obtain ⟨sc, q⟩ := r
    cases (compileStmts_isLets_none src hl h : q = none)
    rfl

/-- **C06 (lets, then the query).** For a program `lets ++ [query]`, the result is what the
    writers produce for the query under the scope `sc` the lets have built — the scope
    `C06_subst_lets` speaks about (every expression of the query is written by `writeExpr`
    under `sc`, in default mode, or in join mode for join conditions). -/
theorem C06_lets_then_query (src : Bytes) (params : List (Bytes × Bytes)) (lets : List Stmt) (t : Tabular)
    (hl : IsLets lets) (sc : Scope) (q : Option Tabular)
    (hrun : compileStmts src lets (paramScope params) none = .ok (sc, q)) :
    compileChunks src params (lets ++ [.tabular t]) = C14.finishChunks src sc (some t) := by
  rw [C14.compileChunks_eq, compileStmts_lets_then_query src t lets hl, hrun]
  rfl

/-- after the statement loop: the splitter and the writers commute with substitution -/
theorem finishChunks_rel {src : Bytes} {sc s0 : Scope} {env : List (Bytes × Expr)}
    (HD : WriteRel src sc s0 env .default) (HJ : WriteRel src sc s0 env .join) (hT : TrueFree env)
    (t : Tabular) (hN : tabNamed t) :
    ExRel EqUpToParens (C14.finishChunks src sc (some t)) (C14.finishChunks src s0 (some (substTabular env t))) :=
  finishChunks_alike EqUpToParens.cong.frame (splitQueries_rel HJ hT t hN [] [] .nil) (subRel_alike HD)

/-- no let is called `true` (the name the compiler makes up for a join without conditions) -/
theorem trueFree_letsEnv : (lets : List Stmt) → (env : List (Bytes × Expr)) → TrueFree env →
    (∀ st ∈ lets, ∀ kw n a x, st = Stmt.let_ kw (some n) a x → (n.name == Bytes.ofString "true") = false) →
    TrueFree (letsEnv lets env)
  | [], env, h, _ => by simpa only [letsEnv] using h
  | .tabular _ :: _, env, h, _ => by simpa only [letsEnv] using h
  | .let_ _ none _ _ :: _, env, h, _ => by simpa only [letsEnv] using h
  | .let_ kw (some n) a x :: rest, env, h, hn => by
    simp only [letsEnv]
    refine trueFree_letsEnv rest _ ?_ (fun st hst => hn st (List.mem_cons_of_mem _ hst))
    have hne := hn _ (List.mem_cons_self) kw n a x rfl
    unfold TrueFree at h ⊢
    simp only [substExpr, Bool.false_eq_true, if_false, List.find?_cons, hne] at h ⊢
    exact h

theorem trueFree_nil : TrueFree [] := substExpr_nil _

theorem lets_named_of_run (src : Bytes) (lets : List Stmt) (hl : IsLets lets) (s sc : Scope) (q : Option Tabular)
    (h : compileStmts src lets s none = .ok (sc, q)) : ∀ st ∈ lets, ∀ kw a x, st ≠ Stmt.let_ kw none a x :=
  compileStmts_induct src
    (motive := fun lets _ _ => IsLets lets → ∀ st ∈ lets, ∀ kw a x, st ≠ Stmt.let_ kw none a x)
    (fun _ _ _ hst => nomatch hst) (fun _ _ hl => hl.not_tabular.elim)
    (fun _ _ _ _ _ _ ih hl st hst kw a x e => by
      rcases List.mem_cons.mp hst with rfl | hst
      · cases e
      · exact ih hl.tail st hst kw a x e)
    h hl

/-- **C06 (substitution, whole program).** For a program `lets ++ [query]` whose lets the
    statement loop accepts: compiling it, and compiling the query with all lets resolved
    (`resolveLets`, the program the oracle compares with), fail with the same error or both
    succeed with chunk lists equal up to parentheses.

    Side conditions: no let is called `$left` / `$right` and no let value mentions them
    (`LetsJoinSafe`, see `C06_join_counterexample`); no let is called `true` (`TrueFree`: the
    condition the compiler makes up for a join without conditions is the *name* `true`, which
    a let would capture on one side only); every extend / summarize column is `name = expr`
    (`tabNamed`: an implicit column name is sliced from the source text, which the resolved
    program does not have — the oracle skips these programs too). -/
theorem C06_subst_program (src : Bytes) (params : List (Bytes × Bytes)) (lets : List Stmt) (t : Tabular)
    (hl : IsLets lets) (hjoin : LetsJoinSafe .join lets) (hT : TrueFree (letsEnv lets [])) (hN : tabNamed t)
    (sc : Scope) (q : Option Tabular)
    (hrun : compileStmts src lets (paramScope params) none = .ok (sc, q)) :
    ∃ t', resolveLets (lets ++ [.tabular t]) [] = some t' ∧
      ExRel EqUpToParens (compileChunks src params (lets ++ [.tabular t]))
        (compileChunks src params [.tabular t']) := by
  refine ⟨_, C06_resolveLets_env lets t hl (lets_named_of_run src lets hl _ sc q hrun), ?_⟩
  rw [C06_lets_then_query src params lets t hl sc q hrun]
  have hrhs : compileChunks src params [.tabular (substTabular (letsEnv lets []) t)] =
      C14.finishChunks src (paramScope params) (some (substTabular (letsEnv lets []) t)) := by
    rw [C14.compileChunks_eq]
    rfl
  rw [hrhs]
  exact finishChunks_rel
    (fun e => C06_subst_lets src _ .default lets hl (letsJoinSafe_default lets) sc q hrun e)
    (fun e => C06_subst_lets src _ .join lets hl hjoin sc q hrun e) hT t hN

/-- non-vacuity: `let a = -1; T | where a > 0` satisfies all hypotheses -/
example :
    let a : Ident := ⟨[97], .zero, false⟩
    let lets : List Stmt := [.let_ .zero (some a) .zero (.unary .zero .minus (.lit .zero .number [49]))]
    let query : Tabular :=
      .mk (some ⟨[84], .zero, false⟩) (.cons (.where_ .zero .zero (.binary (.qident [a]) .zero .gt (.lit .zero .number [48]))) .nil)
    ∃ t', resolveLets (lets ++ [.tabular query]) [] = some t' ∧
      ExRel EqUpToParens (compileChunks [] [] (lets ++ [.tabular query])) (compileChunks [] [] [.tabular t']) := by
  intro a lets query
  refine C06_subst_program [] [] lets query ?_ ?_ ?_ ?_ [([97], [.txt "(", .txt "-", .num [49], .txt ")"])] none rfl
  · intro st hst
    simp only [lets, List.mem_singleton] at hst
    exact ⟨_, _, _, _, hst⟩
  · intro st hst kw n a' x hx _
    simp only [lets, List.mem_singleton] at hst
    rw [hst] at hx
    cases hx
    refine ⟨by decide, by decide, ?_, ?_⟩ <;> rfl
  · rfl
  · exact ⟨trivial, trivial⟩

def cxScope : Scope := [(leftAlias, [.raw [49]]), (rightAlias, [.raw [50]])]
def cxValue : Expr :=
  .binary (.qident [⟨leftAlias, .zero, false⟩]) .zero .eq (.qident [⟨rightAlias, .zero, false⟩])
def cxName : Bytes := [97]
def cxUse : Expr := .qident [⟨cxName, .zero, false⟩]

/-- With parameters called `$left` and `$right`, `let a = $left == $right` stores
    `(coalesce(1 = 2, FALSE))`; used in a join condition, the substituted program writes the
    value in join mode, where the same equality is a join equality: `1 = 2`.  The two do not
    read alike (they differ on NULLs), so in join mode C06's substitution reading fails for
    bindings named after the join aliases. -/
theorem C06_join_counterexample :
    writeExpr ⟨[], cxScope, .let_⟩ cxValue =
        .ok [.txt "coalesce(", .raw [49], .txt " = ", .raw [50], .txt ", FALSE)"] ∧
      writeExpr ⟨[], (cxName, wrapTight cxValue [.txt "coalesce(", .raw [49], .txt " = ", .raw [50], .txt ", FALSE)"]) :: cxScope, .join⟩ cxUse =
        .ok [.txt "(", .txt "coalesce(", .raw [49], .txt " = ", .raw [50], .txt ", FALSE)", .txt ")"] ∧
      writeExpr ⟨[], cxScope, .join⟩ (substExpr [(cxName, cxValue)] cxUse) =
        .ok [.raw [49], .txt " = ", .raw [50]] := by
  refine ⟨?_, ?_, ?_⟩ <;> rfl

/-- … and the two outputs are not even equal up to parentheses -/
theorem C06_join_counterexample_not_related :
    ¬ EqUpToParens [.txt "(", .txt "coalesce(", .raw [49], .txt " = ", .raw [50], .txt ", FALSE)", .txt ")"]
      [.raw [49], .txt " = ", .raw [50]] := by
  intro h
  have := h.eraseParens_eq
  revert this
  decide

end Pql.C06
