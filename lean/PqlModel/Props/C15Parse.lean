/-
Property C15, parse half — `Parse` on a source against `Parse` on the pieces of `SplitStatements`.

Specification-level definitions (all in namespace `Pql.Piecewise`):
`shStmt d` (Lemmas/PiecewiseDefs.lean) — move every span of a statement `d` bytes to the right
  (`Span.null` and `Span.zero`, the two constants the parser writes into trees, are fixed points);
`mapE n m d` — move the positions of error leaves by `d`, sending the end-of-input position `n:n`
  of the piece to the end-of-input position `m:m` of the *whole* source;
`offsetsFrom 0 pieces` — start offset of every piece; `piecesAt src` pairs pieces and offsets;
`pieceStep` — what the loop of `Parse` does with the result of one piece.
-/
import PqlModel.Lemmas.PiecewiseStmts
import PqlModel.Lemmas.AccountedStmt
import PqlModel.Lemmas.LayoutLex
namespace Pql.Piecewise
open Pql Pql.C15
-- the structurally recursive copy of the scanner (what the elaborator's `decide` and `rfl` can unfold), for the
-- concrete instances here and in the modules that open this namespace
export Pql.Layout (scanFuel scanFuel_eq scan_eq_scanFuel)

/-- the pieces of `SplitStatements`, each with its start offset in `src`
    (sum of the lengths of the earlier pieces, plus one for each ';' between them) -/
def piecesAt (src : Bytes) : List (Bytes × Nat) :=
  (splitStatements src).zip (offsetsFrom 0 (splitStatements src))

/-- the offsets are those of `C15_piece_tokens_at` -/
theorem piecesAt_eq (src : Bytes) : piecesAt src = (splitStatements src).zip (pieceStarts src) := by
  rw [piecesAt, offsetsFrom_eq_pieceStarts]

theorem piecesAt_fst (src : Bytes) : (piecesAt src).map (·.1) = splitStatements src := by
  rw [piecesAt, List.map_fst_zip]
  rw [offsetsFrom_length]; exact Nat.le_refl _

/-- what the loop of `Parse` (source length `L`) does with piece `po.1` at offset `po.2`, in terms
    of `parse po.1`: the statements of the piece are appended, moved to the piece's offset; the
    errors of the piece are appended, moved likewise (end of input = end of the whole source) —
    unless they carry the not-found flag, in which case they *replace* the accumulated errors -/
def pieceStep (L : Nat) (st : List Stmt × Errs) (po : Bytes × Nat) : List Stmt × Errs :=
  (st.1 ++ (parse po.1).1.map (shStmt po.2),
   if isNF (parse po.1).2 then mapE po.1.length L po.2 (parse po.1).2
   else st.2 ++ mapE po.1.length L po.2 (parse po.1).2)

theorem stepAcc_piece (L : Nat) (st : List Stmt × Errs) (p : Bytes) (o : Nat)
    (h : ∀ t ∈ scan p, t.kind ≠ .semi) :
    stepAcc st (pStatement ⟨L⟩ (scanFrom p o)) = pieceStep L st (p, o) := by
  rw [scanFrom_eq_map_scan, pStatement_sh (n := p.length) (m := L) (d := o) (scan p) (TokP_scan p)]
  simp only [stepAcc, pieceStep, parse_nosemi_fst p h, parse_nosemi_snd p h, pStatement_flag]
  congr 1
  cases (pStatement ⟨p.length⟩ (scan p)).1 <;> rfl

theorem foldStmts_pieces (L : Nat) : ∀ (l : List (Bytes × Nat)) (st : List Stmt × Errs),
    (∀ po ∈ l, ∀ t ∈ scan po.1, t.kind ≠ .semi) →
    foldStmts ⟨L⟩ st (l.map fun po => scanFrom po.1 po.2) = l.foldl (pieceStep L) st
  | [], _, _ => rfl
  | po :: l, st, h => by
    rw [List.map_cons, foldStmts_cons, stepAcc_piece _ _ _ _ (h po List.mem_cons_self)]
    exact foldStmts_pieces L l _ fun po' hpo' => h po' (List.mem_cons_of_mem _ hpo')

/-- **C15 (parse, full).** `Parse` on a source is the fold of `pieceStep` over the pieces of
    `SplitStatements`, in order: both the statements and the errors of the whole are determined by
    `Parse` on each piece alone. -/
theorem C15_parse_pieces_full (src : Bytes) :
    parse src = (piecesAt src).foldl (pieceStep src.length) ([], []) := by
  rw [parse, parseTokens_eq_fold, semiGroups_scan]
  exact foldStmts_pieces _ _ _ fun po hpo => C15_no_semi_in_piece src _ (List.of_mem_zip hpo).1

/-- **C15 (parse, statements) — unconditional.** For every source, with or without errors: the
    statements `Parse` returns are, in order, the statements `Parse` returns for each piece of
    `SplitStatements` alone, with every span moved to the offset of the piece.  In particular a
    piece that fails does not disturb the statements of the other pieces. -/
theorem C15_parse_pieces (src : Bytes) :
    (parse src).1 = (piecesAt src).flatMap (fun po => (parse po.1).1.map (shStmt po.2)) := by
  rw [C15_parse_pieces_full, List.flatMap_eq_foldl]
  exact (List.foldl_hom Prod.fst (g₁ := pieceStep src.length) fun _ _ => rfl).symm

/-- **C15 (parse, errors).** The error of the whole source: go through the pieces in order;
    the error leaves of a piece (positions moved to the piece's offset, end of input = end of the
    whole source) are appended, except that a piece failing with a not-found error *discards* the
    errors of all earlier pieces (`resultError = joinErrors(err, …)` in `Parse`). -/
theorem C15_parse_errors (src : Bytes) :
    (parse src).2 = (piecesAt src).foldl (fun es po =>
      if isNF (parse po.1).2 then mapE po.1.length src.length po.2 (parse po.1).2
      else es ++ mapE po.1.length src.length po.2 (parse po.1).2) [] := by
  rw [C15_parse_pieces_full]
  exact (List.foldl_hom Prod.snd (g₁ := pieceStep src.length) fun _ _ => rfl).symm

/-- **C15 (parse, one piece).** A piece of `SplitStatements` parsed on its own yields at most one
    statement, and none exactly when it has no tokens or fails with a not-found error (neither
    a `let` statement nor a tabular expression starts there).  Any other failure still yields a
    partial statement. -/
theorem C15_piece_statements (src : Bytes) : ∀ p ∈ splitStatements src,
    (parse p).1.length ≤ 1 ∧ ((parse p).1 = [] ↔ scan p = [] ∨ isNF (parse p).2 = true) := by
  intro p hp
  have h := C15_no_semi_in_piece src p hp
  rw [parse_nosemi_fst p h, parse_nosemi_snd p h, ← pStatement_flag]
  have := pStatement_none_iff ⟨p.length⟩ (scan p)
  cases hv : (pStatement ⟨p.length⟩ (scan p)).1 with
  | none => rw [hv] at this; exact ⟨by simp, by simpa using this⟩
  | some s => rw [hv] at this; exact ⟨by simp, by simpa using this⟩

/-- **C15 (parse, error iff).** `Parse` succeeds on a source iff it succeeds on every piece. -/
theorem C15_parse_error_iff (src : Bytes) :
    (parse src).2 = [] ↔ ∀ p ∈ splitStatements src, (parse p).2 = [] := by
  -- no group has an error (`parseTokens_errs_nil`); the groups are the scans of the pieces, moved
  rw [parse, parseTokens_errs_nil, semiGroups_scan, List.forall_mem_map]
  change (∀ po ∈ piecesAt src, _) ↔ _
  rw [← piecesAt_fst, List.forall_mem_map]
  refine forall₂_congr fun po hpo => ?_
  rw [scanFrom_eq_map_scan, pStatement_sh (n := po.1.length) (scan po.1) (TokP_scan po.1), mapE_eq_nil,
    parse_nosemi_snd _ (C15_no_semi_in_piece src _ (List.of_mem_zip hpo).1)]

/-- **C15 (statement count).** When `Parse` succeeds it reports as many statements as there are
    pieces with at least one token (the statements are in the order of the pieces by
    `C15_parse_pieces`). -/
theorem C15_statement_count (src : Bytes) (h : (parse src).2 = []) :
    (parse src).1.length = ((splitStatements src).filter (fun p => decide (scan p ≠ []))).length := by
  have hp : parseTokens src.length (scan src) = ((parse src).1, []) := by rw [← h]; rfl
  -- one statement for each non-empty group (`parseTokens_ok_iff`); the groups are the scans of the pieces
  rw [← piecesAt_fst, List.filter_map, List.length_map, ((parseTokens_ok_iff _ _ _).1 hp).length_eq,
    splitStatementsToks_eq_groups, semiGroups_scan, List.filter_map, List.length_map]
  refine congrArg List.length (List.filter_congr (l := piecesAt src) fun po _ => ?_)
  simp [scanFrom_eq_map_scan]


/-! `a ++ ";" ++ b` is what cmd/pql compiles: accepted `let …;` texts, then the statement. -/

theorem map_shStmt_zero (l : List Stmt) : l.map (shStmt 0) = l := List.map_id'' shStmt_zero l

/-- `Parse` run in a longer source (`m` bytes) on the tokens of `p`: same statements, the errors
    differ only in the end-of-input position -/
theorem parse_in_context (p : Bytes) (m d : Nat) :
    parseTokens m ((scan p).map (Token.shift d)) =
      ((parse p).1.map (shStmt d), mapE p.length m d (parse p).2) :=
  parseTokens_sh (scan p) (TokP_scan p)

/-- **C15 (parse, at a semicolon).** If the scan of `a ++ ";" ++ b` is the scan of `a`, the
    semicolon token, and the scan of `b` moved behind it (no string, quoted name or comment
    that starts in `a` reaches the ';'), then the statements of `a ++ ";" ++ b` are those of `a`
    followed by those of `b` moved by `|a| + 1`, and the whole parses without error iff `a` and
    `b` do. -/
theorem C15_parse_semicolon (a b : Bytes)
    (H : scan (a ++ 59 :: b) = scan a ++ ⟨.semi, a.length, a.length + 1, []⟩ ::
      (scan b).map (Token.shift (a.length + 1))) :
    (parse (a ++ 59 :: b)).1 = (parse a).1 ++ (parse b).1.map (shStmt (a.length + 1)) ∧
    ((parse (a ++ 59 :: b)).2 = [] ↔ (parse a).2 = [] ∧ (parse b).2 = []) := by
  have h := parseTokens_append (a ++ 59 :: b).length (scan a) ⟨.semi, a.length, a.length + 1, []⟩
    ((scan b).map (Token.shift (a.length + 1))) rfl
  have ha := parse_in_context a (a ++ 59 :: b).length 0
  rw [map_shift_zero, map_shStmt_zero] at ha
  rw [← H, ha, parse_in_context b, mapE_eq_nil, mapE_eq_nil] at h
  exact h

/-- the same with the hypothesis in the form of `C15_scan_local` / `scanFrom_semi_split`:
    the scanner has a step boundary at the ';' -/
theorem C15_parse_semicolon_of_reaches (a b : Bytes) (hr : Reaches (a ++ 59 :: b) a.length) :
    (parse (a ++ 59 :: b)).1 = (parse a).1 ++ (parse b).1.map (shStmt (a.length + 1)) ∧
    ((parse (a ++ 59 :: b)).2 = [] ↔ (parse a).2 = [] ∧ (parse b).2 = []) :=
  C15_parse_semicolon a b (scan_semi_split a b hr)

/-- `let x = 1;;T | where a == ';'` — a `let`, an empty piece, a ';' inside a string literal -/
def srcEx : Bytes := [108, 101, 116, 32, 120, 32, 61, 32, 49, 59, 59, 84, 32, 124, 32, 119, 104, 101,
  114, 101, 32, 97, 32, 61, 61, 32, 39, 59, 39]

theorem srcEx_pieces : piecesAt srcEx =
    [([108, 101, 116, 32, 120, 32, 61, 32, 49], 0), ([], 10),
     ([84, 32, 124, 32, 119, 104, 101, 114, 101, 32, 97, 32, 61, 61, 32, 39, 59, 39], 11)] := by
  decide +kernel

/-- non-vacuity of `C15_statement_count`: the source parses without error, into two statements -/
theorem srcEx_ok : (parse srcEx).2 = [] ∧ (parse srcEx).1.length = 2 := by
  decide +kernel

theorem srcEx_piece_results :
    (piecesAt srcEx).map (fun po => ((parse po.1).1.length, (parse po.1).2)) =
      [(1, []), (0, []), (1, [])] := by
  rw [srcEx_pieces]
  decide +kernel

/-- `C15_parse_pieces` on the example: statement 1 is the statement of piece 1 (offset 0),
    statement 2 the statement of piece 3 moved by 11; piece 2 contributes nothing -/
theorem srcEx_statements : (parse srcEx).1 =
    (parse [108, 101, 116, 32, 120, 32, 61, 32, 49]).1.map (shStmt 0) ++
    ((parse []).1.map (shStmt 10) ++
    ((parse [84, 32, 124, 32, 119, 104, 101, 114, 101, 32, 97, 32, 61, 61, 32, 39, 59, 39]).1.map
      (shStmt 11) ++ [])) := by
  rw [C15_parse_pieces, srcEx_pieces]; rfl

/-- `let x = 1` -/
def exA : Bytes := [108, 101, 116, 32, 120, 32, 61, 32, 49]
/-- `;T | where a == ';'` -/
def exB : Bytes := [59, 84, 32, 124, 32, 119, 104, 101, 114, 101, 32, 97, 32, 61, 61, 32, 39, 59, 39]

/-- non-vacuity of the hypothesis of `C15_parse_semicolon` (`exA ++ ";" ++ exB = srcEx`) -/
theorem srcEx_semicolon_hyp :
    scan (exA ++ 59 :: exB) = scan exA ++ ⟨.semi, exA.length, exA.length + 1, []⟩ ::
      (scan exB).map (Token.shift (exA.length + 1)) := by
  have hm : (⟨.semi, 0 + exA.length, 0 + exA.length + 1, []⟩ : Token) ∈
      scanFrom (exA ++ 59 :: exB) 0 := by
    rw [← scanFuel_eq 29 _ 0 (by decide)]; decide +kernel
  have h := C15_scan_local exA exB 0 hm
  rw [scanFrom_eq_map_scan exB] at h
  simpa [scan] using h

/-- `T|where '` -/
def cexA : Bytes := [84, 124, 119, 104, 101, 114, 101, 32, 39]
/-- `'` -/
def cexB : Bytes := [39]

/-- **The hypothesis of `C15_parse_semicolon` is needed.**  `a = "T|where '"`, `b = "'"`: the ';'
    of `a ++ ";" ++ b` lies inside a string literal, the whole parses without error, `a` does not. -/
theorem C15_parse_semicolon_needs_hyp :
    (parse (cexA ++ 59 :: cexB)).2 = [] ∧ (parse cexA).2 ≠ [] := by
  decide +kernel

/-- **The hypothesis of `C15_statement_count` is needed.**  `1` is one piece with one token and
    parses (with a not-found error) to no statement. -/
theorem C15_statement_count_needs_ok :
    (parse [49]).1.length = 0 ∧ ((splitStatements [49]).filter (fun p => decide (scan p ≠ []))).length = 1 := by
  decide +kernel

/-- **Error positions are not those of the piece.**  `let x;T`: the error of the first statement
    ("expected '=', got EOF") is reported at 7:7, the end of the whole source, not at 5:5 (where
    `Parse "let x"` reports it) moved by the offset 0 of the piece; both statements are returned.
    This is the `n:n ↦ m:m` clause of `mapE` in `C15_parse_errors`. -/
theorem C15_eof_error_at_end_of_source :
    (parse [108, 101, 116, 32, 120, 59, 84]).2.map (·.span) = [some ⟨7, 7⟩] ∧
    (parse [108, 101, 116, 32, 120]).2.map (·.span) = [some ⟨5, 5⟩] ∧
    (parse [108, 101, 116, 32, 120, 59, 84]).1.length = 2 := by
  decide +kernel

/-- **A not-found failure discards the errors of the earlier pieces.**  `let x;)`: piece 1 alone
    has one error, piece 2 alone has two; the whole source reports only the two of piece 2
    (and still returns the partial `let` statement of piece 1). -/
theorem C15_notFound_discards_earlier_errors :
    (parse [108, 101, 116, 32, 120]).2.length = 1 ∧ (parse [41]).2.length = 2 ∧
    (parse [108, 101, 116, 32, 120, 59, 41]).2.map (·.span) = [some ⟨7, 7⟩, some ⟨6, 7⟩] ∧
    (parse [108, 101, 116, 32, 120, 59, 41]).1.length = 1 := by
  decide +kernel


/-- `C15_parse_semicolon` applies to the example (`exA ++ ";" ++ exB = srcEx`) -/
theorem srcEx_semicolon :
    (parse (exA ++ 59 :: exB)).1 = (parse exA).1 ++ (parse exB).1.map (shStmt (exA.length + 1)) ∧
    ((parse (exA ++ 59 :: exB)).2 = [] ↔ (parse exA).2 = [] ∧ (parse exB).2 = []) :=
  C15_parse_semicolon exA exB srcEx_semicolon_hyp

/-- **The hypothesis `TokP` of the commutation lemmas (`pStatement_sh`, `parseTokens_sh`) is
    needed.**  An (impossible) empty identifier token at 0:0 has the span `Span.zero`, which
    `shStmt` leaves alone while `Token.shift` moves it. -/
theorem pStatement_sh_needs_TokP :
    pStatement ⟨1⟩ ([⟨.ident, 0, 0, [84]⟩].map (Token.shift 1)) ≠
      ((pStatement ⟨0⟩ [⟨.ident, 0, 0, [84]⟩]).1.map (shStmt 1),
        mapE 0 1 1 (pStatement ⟨0⟩ [⟨.ident, 0, 0, [84]⟩]).2.1,
        (pStatement ⟨0⟩ [⟨.ident, 0, 0, [84]⟩]).2.2) := by
  intro h
  have := congrArg (fun r => r.1.map Stmt.spanOf) h
  revert this
  decide +kernel

/-- the `Rbrack` field of the index expression of `T | where <x>[<i>…` -/
def rbrackOf : Stmt → Option Span
  | .tabular (.mk _ (.cons (.where_ _ _ (.index _ _ _ rb)) .nil)) => some rb
  | _ => none

/-- **Why `shSpan` does not move `Span.zero`.**  In `T|where a[1` the closing bracket is missing and
    the `Rbrack` field of the (partial) index expression is Go's zero value 0:0 — a *valid* span.
    In `;T|where a[1` the same statement sits at offset 1 and its `Rbrack` is still 0:0, not 1:1:
    a shift of "every valid span" would be wrong on failed parses. -/
theorem C15_zero_span_is_not_moved :
    (parse [84, 124, 119, 104, 101, 114, 101, 32, 97, 91, 49]).1.map rbrackOf = [some ⟨0, 0⟩] ∧
    (parse [59, 84, 124, 119, 104, 101, 114, 101, 32, 97, 91, 49]).1.map rbrackOf = [some ⟨0, 0⟩] := by
  decide +kernel

end Pql.Piecewise
