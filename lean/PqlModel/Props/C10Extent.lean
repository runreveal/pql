/-
Property C10 — a node's overall span is the extent from its first to its last token, contains
the spans of all its parts and precedes those of its right siblings.

For every syntax tree whose `unparse` accounts, with positions, for a token list as `scan`
produces it (`TokOK`: tokens have `start ≤ stop` and are in source order) — which is what
`C08_accounted_parse` establishes for every tree `Parse` returns without error — the model of the
node's `Span()` method (`spanOf`, PqlModel/Model/Ast.lean) equals

    ⟨(first token).start, (last token).stop⟩

for trees of any depth: expressions, expression lists, sort terms, columns, render properties,
operators (from the pipe token), tabular expressions, statements; `C10_span_extent` is the
end-to-end statement for `parse`.

One hypothesis beyond `accounts` is needed from operators upwards: `tidy` (a `render` operator
without `with (…)` has neither `Lparen` nor `Rparen` set).  `unparse` does not mention those two
fields in that case, so `accounts` cannot constrain them, while `Span()` unions them;
`C10_span_extent_untidy_false` is the counterexample.  The parser only builds tidy trees
(`C10_parse_tidy`, whatever errors it reports), so the end-to-end theorem has no such hypothesis.
-/
import PqlModel.Props.C08Full
import PqlModel.Lemmas.SpanExtentTidy
import PqlModel.Lemmas.SpanExtentParts
namespace Pql.C10
open Pql Grammar

theorem extent_form {s : Span} {us : List UTok} {ts : List Token} (hus : us ≠ [])
    (ha : accounts true us ts = true) (h : s = ext ts) :
    ∃ hne : ts ≠ [], s = ⟨(ts.head hne).start, (ts.getLast hne).stop⟩ :=
  ⟨accounts_ne_nil hus ha, by rw [h, ext_eq_head_getLast]⟩

/-- **C10 (expressions).** The span of an expression, of any depth, is the extent of its tokens:
    from the start of the first to the end of the last one. -/
theorem C10_span_extent_expr (e : Expr) (us : List UTok) (ts : List Token)
    (hu : unparseExpr e = some us) (hok : TokOK ts) (ha : accounts true us ts = true) :
    ∃ hne : ts ≠ [], e.spanOf = ⟨(ts.head hne).start, (ts.getLast hne).stop⟩ :=
  extent_form (unparseExpr_ne_nil hu) ha (expr_ext hu ts hok ha)

/-- expression lists (`in (…)` values, call arguments, join conditions): the union of the
    elements' spans (`nodeSliceSpan`) is the extent of the list's tokens -/
theorem C10_span_extent_exprList (e : Expr) (es : ExprList) (us : List UTok) (ts : List Token)
    (hu : unparseExprList (.cons e es) = some us) (hok : TokOK ts) (ha : accounts true us ts = true) :
    ∃ hne : ts ≠ [], sliceSpan (ExprList.cons e es).spansOf = ⟨(ts.head hne).start, (ts.getLast hne).stop⟩ :=
  extent_form (unparseExprList_ne_nil hu) ha (exprList_ext hu ts hok ha)

theorem C10_span_extent_sortTerm (t : SortTerm) (us : List UTok) (ts : List Token)
    (hu : unparseSortTerm t = some us) (hok : TokOK ts) (ha : accounts true us ts = true) :
    ∃ hne : ts ≠ [], t.spanOf = ⟨(ts.head hne).start, (ts.getLast hne).stop⟩ :=
  extent_form (sortTerm_extSpec t us hu).1 ha ((sortTerm_extSpec t us hu).2 ts hok ha)

/-- project / extend / summarize columns `[name =] x`, `name` -/
theorem C10_span_extent_column (project : Bool) (c : Column) (us : List UTok) (ts : List Token)
    (hu : unparseColumn project c = some us) (hok : TokOK ts) (ha : accounts true us ts = true) :
    ∃ hne : ts ≠ [], c.spanOf = ⟨(ts.head hne).start, (ts.getLast hne).stop⟩ :=
  extent_form (column_extSpec project c us hu).1 ha ((column_extSpec project c us hu).2 ts hok ha)

theorem C10_span_extent_renderProp (p : RenderProp) (us : List UTok) (ts : List Token)
    (hu : unparseProp p = some us) (hok : TokOK ts) (ha : accounts true us ts = true) :
    ∃ hne : ts ≠ [], p.spanOf = ⟨(ts.head hne).start, (ts.getLast hne).stop⟩ :=
  extent_form (prop_extSpec p us hu).1 ha ((prop_extSpec p us hu).2 ts hok ha)

/-- **C10 (operators).** The span of an operator is the extent of its tokens, starting at the
    pipe token (all eleven operators; `join` contains a whole tabular expression). -/
theorem C10_span_extent_op (o : Op) (us : List UTok) (ts : List Token) (htidy : o.tidy = true)
    (hu : unparseOp o = some us) (hok : TokOK ts) (ha : accounts true us ts = true) :
    ∃ hne : ts ≠ [], o.spanOf = ⟨(ts.head hne).start, (ts.getLast hne).stop⟩ :=
  extent_form (unparseOp_head hu) ha (op_ext o us ts htidy hu hok ha)

/-- **C10 (tabular expressions)** `source | op | op …` -/
theorem C10_span_extent_tabular (t : Tabular) (us : List UTok) (ts : List Token) (htidy : t.tidy = true)
    (hu : unparseTabular t = some us) (hok : TokOK ts) (ha : accounts true us ts = true) :
    ∃ hne : ts ≠ [], t.spanOf = ⟨(ts.head hne).start, (ts.getLast hne).stop⟩ :=
  extent_form (unparseTabular_ne_nil hu) ha (tabular_ext t us ts htidy hu hok ha)

theorem unparseStmt_ne_nil {s : Stmt} {us : List UTok} (h : unparseStmt s = some us) : us ≠ [] :=
  unparseStmt_cases (P := fun _ us => us ≠ []) (fun _ _ _ _ _ _ => List.cons_ne_nil _ _)
    (fun _ _ => unparseTabular_ne_nil) s us h

theorem C10_span_extent_stmt (s : Stmt) (us : List UTok) (ts : List Token) (htidy : s.tidy = true)
    (hu : unparseStmt s = some us) (hok : TokOK ts) (ha : accounts true us ts = true) :
    ∃ hne : ts ≠ [], s.spanOf = ⟨(ts.head hne).start, (ts.getLast hne).stop⟩ :=
  extent_form (unparseStmt_ne_nil hu) ha (stmt_ext s us ts htidy hu hok ha)

/-- The parser only builds tidy trees — on any `TokOK` token list, whatever errors it reports. -/
theorem C10_parse_tidy (srcLen : Nat) (ts : List Token) (hok : TokOK ts) :
    ∀ s ∈ (parseTokens srcLen ts).1, s.tidy = true :=
  parseTokens_tidy srcLen ts hok

/-- **C10 (`_partial`: restricted to well-formed token lists).** If `parseTokens` succeeds without
    any error on a token list as a scanner produces it, each statement's `Span()` is the extent of
    its group of tokens. -/
theorem C10_span_extent_partial (srcLen : Nat) (ts : List Token) (stmts : List Stmt) (hok : TokOK ts)
    (h : parseTokens srcLen ts = (stmts, [])) :
    Forall₂ (fun st g => ∃ hne : g ≠ [], st.spanOf = ⟨(g.head hne).start, (g.getLast hne).stop⟩)
      stmts (splitStatementsToks ts) := by
  have hacc := C08.C08_accounted_partial srcLen ts stmts hok h
  have htidy := C10_parse_tidy srcLen ts hok
  rw [h] at htidy
  refine hacc.imp_mem ?_
  intro st hst g hg ⟨us, hus, ha⟩
  exact C10_span_extent_stmt st us g (htidy st hst) hus (splitStatementsToks_tokOK hok g hg) ha

/-- **C10 for `Parse`.** If `parse src` succeeds without any error, every statement's `Span()`
    is the extent — first token's start to last token's end — of its group of tokens of
    `scan src`; by the theorems above the same holds for every node inside, of any depth (each of
    them under its own `accounts` hypothesis: it is discharged for the expression positions of a parse in
    Props/C10Compile.lean, `C10_expr_span_is_source_text`, and not for operators and list items). -/
theorem C10_span_extent (src : Bytes) (stmts : List Stmt) (h : parse src = (stmts, [])) :
    Forall₂ (fun st g => ∃ hne : g ≠ [], st.spanOf = ⟨(g.head hne).start, (g.getLast hne).stop⟩)
      stmts (splitStatementsToks (scan src)) :=
  C10_span_extent_partial src.length (scan src) stmts (scan_tokOK src) h

theorem parsed_group (src : Bytes) (stmts : List Stmt) (h : parse src = (stmts, [])) :
    ∀ s ∈ stmts, ∃ g us, g.Sublist (scan src) ∧ unparseStmt s = some us ∧
      accounts true us g = true ∧ s.tidy = true := by
  intro s hs
  obtain ⟨g, hg, us, hus, ha⟩ := (C08.C08_accounted_parse src stmts h).exists_mem s hs
  have htidy := C10_parse_tidy src.length (scan src) (scan_tokOK src)
  rw [show parseTokens src.length (scan src) = (stmts, []) from h] at htidy
  exact ⟨g, us, splitStatementsToks_sublist _ g hg, hus, ha, htidy s hs⟩

theorem C10_span_extent_zip (src : Bytes) (stmts : List Stmt) (h : parse src = (stmts, [])) :
    stmts.length = (splitStatementsToks (scan src)).length ∧
    ∀ p ∈ stmts.zip (splitStatementsToks (scan src)),
      ∃ hne : p.2 ≠ [], p.1.spanOf = ⟨(p.2.head hne).start, (p.2.getLast hne).stop⟩ :=
  ⟨(C10_span_extent src stmts h).length_eq, (C10_span_extent src stmts h).zip⟩

/-- **C10 (a node's span contains its parts).** Every direct sub-expression has a valid span that
    lies within the span of its parent. -/
theorem C10_span_contains_parts (e : Expr) (us : List UTok) (ts : List Token)
    (hu : unparseExpr e = some us) (hok : TokOK ts) (ha : accounts true us ts = true) :
    ∀ c ∈ e.children, c.spanOf.isValid = true ∧ Span.within c.spanOf e.spanOf := by
  rw [expr_ext hu ts hok ha]
  exact (expr_placed e us ts hu ha).within expr_extSpec hok

/-- **C10 (a part's span precedes those of its right siblings).** The spans of the direct
    sub-expressions — operands, `in` values, call arguments, index — are in source order:
    each ends before every later one starts. -/
theorem C10_span_precedes_sibling (e : Expr) (us : List UTok) (ts : List Token)
    (hu : unparseExpr e = some us) (hok : TokOK ts) (ha : accounts true us ts = true) :
    (e.children.map Expr.spanOf).Pairwise (fun a b => a.stop ≤ b.start) :=
  (expr_placed e us ts hu ha).pairwise expr_extSpec hok

/-- `x op y`: the left operand ends before the operator, which ends before the right operand -/
theorem C10_span_precedes_sibling_binary (x y : Expr) (os : Span) (op : TokKind) (us : List UTok)
    (ts : List Token) (hu : unparseExpr (.binary x os op y) = some us) (hok : TokOK ts)
    (ha : accounts true us ts = true) :
    x.spanOf.stop ≤ os.start ∧ os.stop ≤ y.spanOf.start ∧ x.spanOf.stop ≤ y.spanOf.start := by
  cases dexpr_of_acc _ hu ha with
  | @binary _ _ _ _ t tx ty hx ht hy =>
    obtain ⟨_, hux, hax⟩ := hx.acc
    obtain ⟨_, huy, hay⟩ := hy.acc
    rw [expr_ext hux tx hok.left hax, expr_ext huy ty hok.right.tail hay, tokOk_span ht (sp := os)]
    have h1 := ext_stop_le_start (a := tx) (m := []) (b := [t]) (by simpa using hok.sublist (by simp))
      hx.ne_nil.2 (by simp)
    have h2 := ext_stop_le_start (a := [t]) (m := []) (b := ty) (by simpa using hok.right) (by simp)
      hy.ne_nil.2
    have hv := hok.right.head.le
    simp only [ext_single, Token.span] at h1 h2 ⊢
    omega

/-- argument / value / condition lists: every element's span is valid and lies within the list's
    span, and the elements are in source order -/
theorem C10_span_list_ordered (l : ExprList) (us : List UTok) (ts : List Token)
    (hu : unparseExprList l = some us) (hok : TokOK ts) (ha : accounts true us ts = true) :
    (∀ s ∈ l.spansOf, s.isValid = true ∧ Span.within s (sliceSpan l.spansOf)) ∧
    l.spansOf.Pairwise (fun a b => a.stop ≤ b.start) := by
  have hp := exprList_placed l us ts hu ha
  rw [exprList_ext hu ts hok ha, spansOf_eq_map]
  refine ⟨?_, hp.pairwise expr_extSpec hok⟩
  intro s hs
  obtain ⟨c, hc, rfl⟩ := List.mem_map.mp hs
  exact hp.within expr_extSpec hok c hc

/-- **C10 (any depth).** Every sub-expression `d` of an accounted expression `e`, at any depth,
    stands for a contiguous segment `seg` of `e`'s tokens, its span is that segment's extent, and
    it lies within the span of `e`. -/
theorem C10_span_extent_deep (e d : Expr) (us : List UTok) (ts : List Token) (hs : Expr.Sub d e)
    (hu : unparseExpr e = some us) (hok : TokOK ts) (ha : accounts true us ts = true) :
    ∃ p seg q, ts = p ++ seg ++ q ∧
      (∃ hne : seg ≠ [], d.spanOf = ⟨(seg.head hne).start, (seg.getLast hne).stop⟩) ∧
      d.spanOf.isValid = true ∧ Span.within d.spanOf e.spanOf := by
  obtain ⟨p, seg, q, us', rfl, hu', ha'⟩ := expr_sub_acc hs us ts hu ha
  have hoks : TokOK seg := hok.left.right
  have hne : seg ≠ [] := accounts_ne_nil (unparseExpr_ne_nil hu') ha'
  refine ⟨p, seg, q, rfl, C10_span_extent_expr d us' seg hu' hoks ha', ?_, ?_⟩
  · rw [expr_ext hu' seg hoks ha']; exact ext_valid hoks hne
  · rw [expr_ext hu' seg hoks ha', expr_ext hu _ hok ha]
    exact ext_within_infix hok hne

/-- comma-separated items (sort terms, columns, render properties — `f` / `sp` any of
    `unparseSortTerm` / `SortTerm.spanOf`, `unparseColumn b` / `Column.spanOf`, `unparseProp` /
    `RenderProp.spanOf`, see the instances below): every item's span is valid and lies within the
    list's span; the items are in source order -/
theorem C10_span_items_ordered {α : Type} {f : α → Option (List UTok)} {sp : α → Span} (hf : ExtSpec f sp)
    (cs : List α) (css : List (List UTok)) (ts : List Token) (hl : listM f cs = some css)
    (hok : TokOK ts) (ha : accounts true (sepBy commaTok css) ts = true) :
    (∀ c ∈ cs, (sp c).isValid = true ∧ Span.within (sp c) (sliceSpan (cs.map sp))) ∧
    (cs.map sp).Pairwise (fun a b => a.stop ≤ b.start) := by
  have hp := sepBy_placed cs css ts hl ha
  rw [sepBy_ext hf hl ts hok ha]
  exact ⟨hp.within hf hok, hp.pairwise hf hok⟩

theorem C10_span_sortTerms_ordered (cs : List SortTerm) (css : List (List UTok)) (ts : List Token)
    (hl : listM unparseSortTerm cs = some css) (hok : TokOK ts)
    (ha : accounts true (sepBy commaTok css) ts = true) :
    (∀ c ∈ cs, c.spanOf.isValid = true ∧ Span.within c.spanOf (sliceSpan (cs.map SortTerm.spanOf))) ∧
    (cs.map SortTerm.spanOf).Pairwise (fun a b => a.stop ≤ b.start) :=
  C10_span_items_ordered sortTerm_extSpec cs css ts hl hok ha

theorem C10_span_columns_ordered (project : Bool) (cs : List Column) (css : List (List UTok)) (ts : List Token)
    (hl : listM (unparseColumn project) cs = some css) (hok : TokOK ts)
    (ha : accounts true (sepBy commaTok css) ts = true) :
    (∀ c ∈ cs, c.spanOf.isValid = true ∧ Span.within c.spanOf (sliceSpan (cs.map Column.spanOf))) ∧
    (cs.map Column.spanOf).Pairwise (fun a b => a.stop ≤ b.start) :=
  C10_span_items_ordered (column_extSpec project) cs css ts hl hok ha

theorem C10_span_renderProps_ordered (cs : List RenderProp) (css : List (List UTok)) (ts : List Token)
    (hl : listM unparseProp cs = some css) (hok : TokOK ts)
    (ha : accounts true (sepBy commaTok css) ts = true) :
    (∀ c ∈ cs, c.spanOf.isValid = true ∧ Span.within c.spanOf (sliceSpan (cs.map RenderProp.spanOf))) ∧
    (cs.map RenderProp.spanOf).Pairwise (fun a b => a.stop ≤ b.start) :=
  C10_span_items_ordered prop_extSpec cs css ts hl hok ha

/-- the operators of a tabular expression `source | op | op …`: every operator's span is valid and
    lies within the span of the tabular expression, starts after the source name, and the
    operators are in source order -/
theorem C10_span_tabular_ops (src : Ident) (ops : OpList) (us : List UTok) (ts : List Token)
    (htidy : (Tabular.mk (some src) ops).tidy = true)
    (hu : unparseTabular (.mk (some src) ops) = some us) (hok : TokOK ts)
    (ha : accounts true us ts = true) :
    (∀ o ∈ ops.toList, o.spanOf.isValid = true ∧ Span.within o.spanOf (Tabular.mk (some src) ops).spanOf ∧
      src.span.stop ≤ o.spanOf.start) ∧
    (ops.toList.map Op.spanOf).Pairwise (fun a b => a.stop ≤ b.start) := by
  have hts := tabular_ext _ us ts htidy hu hok ha
  cases ho : unparseOps ops with
  | none => simp [unparseTabular, ho] at hu
  | some os =>
    rw [unparse_eq.tmk _ _ _ ho ho, Option.some.injEq] at hu
    subst hu
    obtain ⟨tn, tos, rfl, hn, h1⟩ := accounts_span_cons (u := identTok src) src.span rfl rfl rfl ha
    have hto : ops.tidy = true := by simpa [Tabular.tidy] using htidy
    have hp := ops_placed ops os tos hto ho h1
    have hp' := hp.prepend [tn]
    rw [hts]
    refine ⟨?_, hp'.pairwise op_extSpec hok⟩
    intro o ho'
    obtain ⟨hv, hw⟩ := hp'.within op_extSpec hok o ho'
    refine ⟨hv, hw, ?_⟩
    obtain ⟨p, seg, q, rfl, hne, hsp⟩ := hp.infix op_extSpec hok.tail o ho'
    rw [hsp, hn, ← ext_single]
    have hok' : TokOK ([tn] ++ p ++ seg) := by
      have h2 : TokOK (([tn] ++ p ++ seg) ++ q) := by simpa using hok
      exact h2.left
    exact ext_stop_le_start hok' (by simp) hne

/-- `T | render pie` as the parser would *not* build it: `Lparen` set although there is no `with` -/
def untidyOp : Op :=
  .render ⟨2, 3⟩ ⟨4, 10⟩ (some ⟨Bytes.ofString "pie", ⟨11, 14⟩, false⟩) .null ⟨0, 0⟩ [] .null

def untidyToks : List Token :=
  [⟨.pipe, 2, 3, []⟩, ⟨.ident, 4, 10, Bytes.ofString "render"⟩, ⟨.ident, 11, 14, Bytes.ofString "pie"⟩]

/-- A gap of the specification, not of the parser: `unparseOp` of a `render` without `with` does not
    mention `Lparen` / `Rparen`, `Span()` unions them: for an untidy tree `accounts` holds and the
    span (`0:14`) is not the extent of the tokens (`2:14`). -/
theorem C10_span_extent_untidy_false :
    ∃ us, unparseOp untidyOp = some us ∧ accounts true us untidyToks = true ∧
      untidyOp.spanOf = ⟨0, 14⟩ ∧ ext untidyToks = ⟨2, 14⟩ ∧ untidyOp.tidy = false := by
  refine ⟨_, rfl, by decide, by decide, by decide, by decide⟩

#print axioms C10_span_extent_expr
#print axioms C10_span_extent_exprList
#print axioms C10_span_extent_sortTerm
#print axioms C10_span_extent_column
#print axioms C10_span_extent_renderProp
#print axioms C10_span_extent_op
#print axioms C10_span_extent_tabular
#print axioms C10_span_extent_stmt
#print axioms C10_parse_tidy
#print axioms C10_span_extent_partial
#print axioms C10_span_extent
#print axioms C10_span_extent_zip
#print axioms C10_span_contains_parts
#print axioms C10_span_precedes_sibling
#print axioms C10_span_precedes_sibling_binary
#print axioms C10_span_list_ordered
#print axioms C10_span_extent_deep
#print axioms C10_span_items_ordered
#print axioms C10_span_sortTerms_ordered
#print axioms C10_span_columns_ordered
#print axioms C10_span_renderProps_ordered
#print axioms C10_span_tabular_ops
#print axioms C10_span_extent_untidy_false

end Pql.C10
