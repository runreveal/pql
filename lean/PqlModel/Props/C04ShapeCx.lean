/-
Property C04, parametricity half — non-vacuity examples and the necessity of every clause of the
side condition `NameInert` / `keyName` (each a concrete renaming that changes the structure);
`C04_slice_cx`: the slice condition on the source is necessary; `C04_render_cx`: why the exact statement
excludes `render`.
-/
import PqlModel.Props.C04ShapeQuery
namespace Pql.C04
open Pql

def bx : Bytes := [120]                       -- x
def by_ : Bytes := [121]                      -- y
def bT : Bytes := [84]                        -- T
def bTrue : Bytes := Bytes.ofString "true"
def idn (n : Bytes) (q : Bool := false) : Ident := ⟨n, .zero, q⟩

/-- `a.b == "c d" + x`, the second operand quoted -/
def exName : Expr :=
  .binary (.qident [idn [97], idn [98]]) .zero .eq
    (.binary (.qident [idn [99, 32, 100] true]) .zero .plus (.qident [idn bx]))

def addUnderscore : Bytes → Bytes := fun n => n ++ [95]

example : NameInert ⟨[], [], .default⟩ exName addUnderscore = true := by decide +kernel

example :
    writeExpr ⟨[], [], .default⟩ (mapName addUnderscore exName) =
      (writeExpr ⟨[], [], .default⟩ exName).map (List.map (Chunk.mapName addUnderscore)) :=
  C04_name_parametric _ rfl _ _ (by decide +kernel)

example :
    writeExpr ⟨[], [], .default⟩ (mapName addUnderscore exName) =
      .ok [.txt "coalesce(", .qid [97, 95], .txt ".", .qid [98, 95], .txt " = ", .txt "(", .qid [99, 32, 100, 95],
        .txt " ", .txt "+", .txt " ", .qid [120, 95], .txt ")", .txt ", FALSE)"] := rfl

/-- renaming `x` to the built-in constant `true`: an identifier chunk becomes the keyword `TRUE` -/
theorem C04_name_cx_to_builtin :
    NameInert ⟨[], [], .default⟩ (.qident [idn bx]) (fun _ => bTrue) = false ∧
    writeExpr ⟨[], [], .default⟩ (mapName (fun _ => bTrue) (.qident [idn bx])) = .ok [.txt "TRUE"] ∧
    (writeExpr ⟨[], [], .default⟩ (.qident [idn bx])).map (List.map (Chunk.mapName fun _ => bTrue)) =
      .ok [.qid bTrue] :=
  ⟨by decide +kernel, rfl, rfl⟩

/-- renaming the built-in constant `true` away: the keyword becomes an identifier -/
theorem C04_name_cx_from_builtin :
    NameInert ⟨[], [], .default⟩ (.qident [idn bTrue]) (fun _ => bx) = false ∧
    writeExpr ⟨[], [], .default⟩ (mapName (fun _ => bx) (.qident [idn bTrue])) = .ok [.qid bx] ∧
    (writeExpr ⟨[], [], .default⟩ (.qident [idn bTrue])).map (List.map (Chunk.mapName fun _ => bx)) =
      .ok [.txt "TRUE"] :=
  ⟨by decide +kernel, rfl, rfl⟩

/-- … whereas the quoted name `"true"` is data: any renaming of it is inert -/
example : NameInert ⟨[], [], .default⟩ (.qident [idn bTrue true]) (fun _ => bx) = true := by decide +kernel

/-- renaming `x` to `$left` outside a join: the expression no longer compiles -/
theorem C04_name_cx_to_alias :
    NameInert ⟨[], [], .default⟩ (.qident [idn bx]) (fun _ => leftAlias) = false ∧
    writeExpr ⟨[], [], .default⟩ (mapName (fun _ => leftAlias) (.qident [idn bx])) = .error .err ∧
    (writeExpr ⟨[], [], .default⟩ (.qident [idn bx])).map (List.map (Chunk.mapName fun _ => leftAlias)) =
      .ok [.qid leftAlias] :=
  ⟨by decide +kernel, rfl, rfl⟩

/-- `"$left".x == $right.x` in a join condition: `hasJoinTerms` compares names without looking at
    the quoting, so even the *quoted* name `"$left"` is structural there -/
def exJoin : Expr :=
  .binary (.qident [idn leftAlias true, idn bx]) .zero .eq (.qident [idn rightAlias, idn bx])

def unLeft : Bytes → Bytes := fun n => if n == leftAlias then [108] else n

theorem C04_name_cx_join_quoted :
    NameInert ⟨[], [], .join⟩ exJoin unLeft = false ∧
    writeExpr ⟨[], [], .join⟩ exJoin =
      .ok [.qid leftAlias, .txt ".", .qid bx, .txt " = ", .qid rightAlias, .txt ".", .qid bx] ∧
    writeExpr ⟨[], [], .join⟩ (mapName unLeft exJoin) =
      .ok [.txt "coalesce(", .qid [108], .txt ".", .qid bx, .txt " = ", .qid rightAlias, .txt ".", .qid bx,
        .txt ", FALSE)"] :=
  ⟨by decide +kernel, rfl, rfl⟩

/-- outside a join condition the same renaming is inert -/
example : NameInert ⟨[], [], .default⟩ (.qident [idn leftAlias true, idn bx]) unLeft = true := by decide +kernel

/-- renaming `x` to a name in scope (a parameter `y`): the identifier becomes the parameter's text -/
theorem C04_name_cx_scope :
    NameInert ⟨[], [(by_, [.raw [49]])], .default⟩ (.qident [idn bx]) (fun _ => by_) = false ∧
    writeExpr ⟨[], [(by_, [.raw [49]])], .default⟩ (mapName (fun _ => by_) (.qident [idn bx])) = .ok [.raw [49]] ∧
    (writeExpr ⟨[], [(by_, [.raw [49]])], .default⟩ (.qident [idn bx])).map
      (List.map (Chunk.mapName fun _ => by_)) = .ok [.qid by_] :=
  ⟨by decide +kernel, rfl, rfl⟩

/-- all of these concern a *single-part* name: as a qualified part, `true` is data -/
example : NameInert ⟨[], [], .default⟩ (.qident [idn bx, idn bTrue]) (fun _ => bx) = true := by decide +kernel

/-! ### programs: the source text and the positions change too

`T | extend 'ab'` becomes `T | extend 'xyz'`: the literal's value changes, its position grows by
one, and the unnamed column's alias — a slice of the source — changes from `'ab'` to `'xyz'`:
exactly one `.qstr` and one `.qid` chunk differ. -/

def exSrc : Bytes := Bytes.ofString "T | extend 'ab'"
def exSrc' : Bytes := Bytes.ofString "T | extend 'xyz'"

def exProg : List Stmt :=
  [.tabular (.mk (some ⟨bT, ⟨0, 1⟩, false⟩)
    (.cons (.extend ⟨2, 3⟩ ⟨4, 10⟩ [⟨none, .zero, .lit ⟨11, 15⟩ .string [97, 98]⟩]) .nil))]

def exMap : CMap :=
  ⟨fun _ => [120, 121, 122], id, id, fun sp => if sp.stop ≥ 15 then ⟨sp.start, sp.stop + 1⟩ else sp⟩

example :
    compileChunks exSrc [] exProg =
      .ok [.txt "SELECT *", .txt ", ", .qstr [97, 98], .txt " AS ", .qid [39, 97, 98, 39], .txt " FROM ", .qid bT,
        .txt ";"] ∧
    compileChunks exSrc' [] (exProg.map (mapStmt exMap)) =
      .ok [.txt "SELECT *", .txt ", ", .qstr [120, 121, 122], .txt " AS ", .qid [39, 120, 121, 122, 39], .txt " FROM ",
        .qid bT, .txt ";"] :=
  ⟨rfl, rfl⟩

/-- the hypotheses of `C04_compile_shape` hold for it -/
example :
    (compileChunks exSrc' [] (exProg.map (mapStmt exMap))).map (List.map Chunk.shape) =
      (compileChunks exSrc [] exProg).map (List.map Chunk.shape) :=
  C04_compile_shape exMap exSrc exSrc' [] exProg (by decide +kernel) (fun t ht => by
    cases ht with
    | head => decide +kernel
    | tail _ h => cases h)

/-- the slice condition is necessary: against a source that is too short the unnamed column's
    alias cannot be cut and the compilation panics -/
theorem C04_slice_cx :
    TabAll (sliceOp exMap exSrc []) (.mk (some ⟨bT, ⟨0, 1⟩, false⟩)
      (.cons (.extend ⟨2, 3⟩ ⟨4, 10⟩ [⟨none, .zero, .lit ⟨11, 15⟩ .string [97, 98]⟩]) .nil)) = false ∧
    compileChunks [] [] (exProg.map (mapStmt exMap)) = .error .panic :=
  ⟨by decide +kernel, rfl⟩

/-- exact statement (named column): `T | extend c = strcat('a', x) | where c == 'b' | take 5` -/
def exProg2 : List Stmt :=
  [.tabular (.mk (some (idn bT))
    (.cons (.extend .zero .zero [⟨some (idn [99]), .zero,
        .call (idn (Bytes.ofString "strcat")) .zero (.cons (.lit .zero .string [97]) (.cons (.qident [idn bx]) .nil)) .zero⟩])
    (.cons (.where_ .zero .zero (.binary (.qident [idn [99]]) .zero .eq (.lit .zero .string [98])))
    (.cons (.take .zero .zero (.lit .zero .number [53])) .nil))))]

example :
    compileChunks [] [] (exProg2.map (mapStrStmt fun v => v ++ v)) =
      (compileChunks [] [] exProg2).map (List.map (Chunk.mapStr fun v => v ++ v)) :=
  C04_compile_string_parametric_partial _ [] [] [] exProg2 (fun t ht => by
    cases ht with
    | head => decide +kernel
    | tail _ h => cases h)

example :
    compileChunks [] [] (exProg2.map (mapStrStmt fun v => v ++ v)) =
      .ok [.txt "WITH ", .qid (subqueryName 0), .txt " AS (", .txt "SELECT *", .txt ", ", .qstr [97, 97],
        .txt " || ", .qid bx, .txt " AS ", .qid [99], .txt " FROM ", .qid bT, .txt ")", .txt "\n",
        .txt "SELECT * FROM ", .qid (subqueryName 0), .txt " WHERE ", .txt "coalesce(", .qid [99], .txt " = ",
        .qstr [98, 98], .txt ", FALSE)", .txt " LIMIT ", .num [53], .txt ";"] :=
  rfl

/-- `render` is why the exact statement is partial: the chart type is an identifier of the PQL
    text but a *string* token of the SQL, so a string map does not act on the tree the way it
    acts on the chunks (the shape statement is unaffected) -/
def exRender : Subquery :=
  { name := [], source := [.qid bT], op := some (.render .zero .zero (some (idn [112])) .zero .zero [] .zero) }

theorem C04_render_cx :
    Subquery.write ⟨[], [], .default⟩ (mapSub (.ofStr fun _ => [113]) exRender) =
      .ok [.txt "SELECT *,\n", .txt "    ", .qstr [112], .txt " as \"render_type\"", .txt "\nFROM ", .qid bT] ∧
    (Subquery.write ⟨[], [], .default⟩ exRender).map (List.map (Chunk.mapStr fun _ => [113])) =
      .ok [.txt "SELECT *,\n", .txt "    ", .qstr [113], .txt " as \"render_type\"", .txt "\nFROM ", .qid bT] :=
  ⟨rfl, rfl⟩

end Pql.C04
