/-
Property C07 (also C02: the sort flags and the row-count check reach the emitted SQL), tie by translation:
`(*parser).sortTerm` and `(*parser).rowCount` of parser/parser.go — the whole bodies (Props/C07Defaults.lean reads only the
regenerated tables of the sort flags and of the row-count check).

`harness/extract_parse.go` regenerates both bodies into `Facts.parseIR` (units "sortTerm", "rowCount"; the
shapes that occur only in these two units: a `switch` without a tag, a `switch` with an initialiser, the comma-ok type assertion
`lit, ok := x.(*BasicLit)`, the condition `lit.IsInteger()`); `Model/ParseIR.lean` interprets them; `expr`
stays a primitive meaning the model's `pExpr` (`calleeAt`).  The regenerated IR decodes to the trees written
here, and their interpretation is the model's `pSortTerm` / `pRowCount` for every context, fuel and token list,
hypothesis-free (no panic, nothing stuck).

Composition.  In `calleeAt` (Props/C07OperatorIR.lean) a call of `sortTerm` / `rowCount` from `sortOperator`,
`takeOperator`, `topOperator` means the model's `pSortTerm` / `pRowCount`.  `calleeIR` is the same table with
these two entries INTERPRETED from their own regenerated units; `C07_calleeIR_eq` proves the two tables equal,
so every `C07_<method>_ir` theorem holds verbatim with the two productions run from their IR.
-/
import PqlModel.Props.C07OperatorIRSort
import PqlModel.Props.C07OperatorIRLet
import PqlModel.Lemmas.ParseCasesOps
namespace Pql.OpIR
open Pql
set_option linter.unusedSimpArgs false

/-- from the second `p.next()` on: the optional `nulls first` / `nulls last` -/
def sortTermNulls : List IStmt :=
  [.call "p" "next" [.set "tok", .set "ok"] [],
    .ite
      (.not (.truth (.var "ok")))
      [.ret [.var "term", .nil]]
      [],
    .ite
      (.and
        (.eq
          (.fld "Kind" (.var "tok"))
          (.kind "TokenIdentifier"))
        (.eq (.fld "Value" (.var "tok")) (.str "nulls")))
      [.scope
         [.call "p" "next" [.def_ "tok2", .blank] [],
          .ite
            (.and
              (.eq
                (.fld "Kind" (.var "tok2"))
                (.kind "TokenIdentifier"))
              (.eq
                (.fld "Value" (.var "tok2"))
                (.str "first")))
            [.assign (.fset "term" "NullsFirst") (.bool true),
             .assign
               (.fset "term" "NullsSpan")
               (.newSpan
                 (.fld "Start" (.fld "Span" (.var "tok")))
                 (.fld "End" (.fld "Span" (.var "tok2"))))]
            [.ite
               (.and
                 (.eq
                   (.fld "Kind" (.var "tok2"))
                   (.kind "TokenIdentifier"))
                 (.eq
                   (.fld "Value" (.var "tok2"))
                   (.str "last")))
               [.assign (.fset "term" "NullsFirst") (.bool false),
                .assign
                  (.fset "term" "NullsSpan")
                  (.newSpan
                    (.fld "Start" (.fld "Span" (.var "tok")))
                    (.fld "End" (.fld "Span" (.var "tok2"))))]
               [.prev "p",
                .ret
                  [.var "term",
                   .perr "p" false (.fld "Span" (.var "tok2"))]]]]]
      [.prev "p", .ret [.var "term", .nil]],
    .ret [.var "term", .nil]]

/-- from the `switch` on the token after the expression on: `asc` / `desc` set the flags, `nulls` is pushed back,
    anything else ends the term -/
def sortTermDir : List IStmt :=
  .ite
      (.eq
        (.fld "Kind" (.var "tok"))
        (.kind "TokenIdentifier"))
      [.ite
         (.eq (.fld "Value" (.var "tok")) (.str "asc"))
         [.assign (.fset "term" "Asc") (.bool true),
          .assign
            (.fset "term" "AscDescSpan")
            (.fld "Span" (.var "tok")),
          .assign (.fset "term" "NullsFirst") (.bool true)]
         [.ite
            (.eq
              (.fld "Value" (.var "tok"))
              (.str "desc"))
            [.assign (.fset "term" "Asc") (.bool false),
             .assign
               (.fset "term" "AscDescSpan")
               (.fld "Span" (.var "tok")),
             .assign (.fset "term" "NullsFirst") (.bool false)]
            [.ite
               (.eq
                 (.fld "Value" (.var "tok"))
                 (.str "nulls"))
               [.prev "p"]
               [.prev "p", .ret [.var "term", .nil]]]]]
      [.prev "p", .ret [.var "term", .nil]] :: sortTermNulls

def sortTermBody : List IStmt :=
  [.call "p" "expr" [.def_ "x", .def_ "err"] [],
    .ite
      (.ne (.var "err") (.nil))
      [.ret [.nil, .var "err"]]
      [],
    .assign
      (.def_ "term")
      (.withFld
        (.withFld
          (.withFld (.new "SortTerm") "X" (.var "x"))
          "AscDescSpan"
          (.nullSpan))
        "NullsSpan"
        (.nullSpan)),
    .call "p" "next" [.def_ "tok", .def_ "ok"] [],
    .ite
      (.not (.truth (.var "ok")))
      [.ret [.var "term", .nil]]
      []] ++ sortTermDir

theorem sortTerm_ir : unitOf "sortTerm" = some ⟨[("p", "*parser")], ["*SortTerm", "error"], sortTermBody⟩ := by rfl

def rowCountBody : List IStmt :=
  [.call "p" "expr" [.def_ "x", .def_ "err"] [],
    .ite
      (.ne (.var "err") (.nil))
      [.ret [.var "x", .var "err"]]
      [],
    .scope
      [.asType
         "BasicLit"
         [.def_ "lit", .def_ "ok"]
         (.var "x"),
       .ite
         (.truth (.var "ok"))
         [.ite
            (.not (.isInteger (.var "lit")))
            [.ret [.var "x", .errNoPos]]
            []]
         []],
    .ret [.var "x", .nil]]

theorem rowCount_ir : unitOf "rowCount" = some ⟨[("p", "*parser")], ["Expr", "error"], rowCountBody⟩ := by rfl

/-- `toSterm` (Model/ParseIR.lean) that also follows a pointer: `sortTerm` returns the `*SortTerm` it allocated, a record
    on the heap `h`, where the callers of `calleeAt` see the finished value `.sterm` -/
def toStermH (h : List Rec) : Val → Option (Option SortTerm)
  | .sterm t => some t
  | .nil => some none
  | .ref a =>
    match h[a]? with
    | some ⟨ty, [(_, x), (_, .bool asc), (_, .span ad), (_, .bool nf), (_, .span ns)]⟩ =>
      if ty == "SortTerm" then (toExpr x).map fun x => some ⟨x, asc, ad, nf, ns⟩ else none
    | _ => none
  | _ => none

theorem rowCount_run (c : PCtx) (fuel : Nat) (ts : List Token) :
    runP (fun _ => toExpr) "x" c rowCountBody fuel ts = .ok (pRowCount c fuel ts) := by
  unfold rowCountBody pRowCount runP
  generalize hr : pExpr c fuel ts = r
  obtain ⟨val, errs, rest⟩ := r
  cases errs with
  | cons e es => ir_simp [hr]
  | nil =>
    cases val with
    | lit s k v =>
      by_cases hi : litIsInteger k v = true
      · ir_simp [hr, hi]
      · ir_simp [hr, hi]
    | _ => ir_simp [hr]

theorem C07_rowCount_ir (c : PCtx) (fuel : Nat) (ts : List Token) :
    runP (fun _ => toExpr) "x" c (bodyOf "rowCount") fuel ts = .ok (pRowCount c fuel ts) := by
  simp only [bodyOf, rowCount_ir, Option.map_some, Option.getD_some, rowCount_run]

/-- `term` points at the record of the sort term `tm`, the last `p.next()` gave `tok` and `ok` -/
@[reducible] def termSt (tm : SortTerm) (tok : Token) (ok : Bool) (ts : List Token) (u : Option (List Token)) : St :=
  ⟨[("ok", .bool ok), ("tok", .tok tok), ("term", .ref 0), ("err", .errs []), ("x", .expr tm.x), ("p", .parser ts u)],
   [⟨"SortTerm", [("X", .expr tm.x), ("Asc", .bool tm.asc), ("AscDescSpan", .span tm.ascDescSpan),
      ("NullsFirst", .bool tm.nullsFirst), ("NullsSpan", .span tm.nullsSpan)]⟩]⟩

theorem sortTermNulls_run (c : PCtx) (k : Nat) (tm : SortTerm) (tok : Token) (ok : Bool) (u : Option (List Token))
    (ts : List Token) :
    result toStermH "term" none (execBlock (envAt c) sortTermNulls k (termSt tm tok ok ts u)) =
      .ok (nullsClause c tm ts) := by
  unfold nullsClause
  ir_simp [sortTermNulls, toStermH]
  rcases ts with _ | ⟨t, _ | ⟨t2, rest2⟩⟩
  · simp [eofTok]
  · by_cases hk : t.kind = .ident <;> by_cases hn : t.value = Bytes.ofString "nulls" <;>
      simp [hk, hn, isIdentNamed, eofTok, PCtx.eof, Span.index, Token.span, errAt]
  · by_cases hk : t.kind = .ident <;> by_cases hn : t.value = Bytes.ofString "nulls" <;> simp [hk, hn, isIdentNamed]
    by_cases hk2 : t2.kind = .ident <;> simp [hk2, Token.span]
    by_cases hf : t2.value = Bytes.ofString "first" <;> simp [hf]
    by_cases hl : t2.value = Bytes.ofString "last" <;> simp [hl]

theorem sortTermDir_run (c : PCtx) (k : Nat) (x : Expr) (t : Token) (rest : List Token) :
    result toStermH "term" none
        (execBlock (envAt c) sortTermDir k (termSt ⟨x, false, .null, false, .null⟩ t true rest (some (t :: rest)))) =
      .ok (nullsClause c (sortDir ⟨x, false, .null, false, .null⟩ (t :: rest)).1
        (sortDir ⟨x, false, .null, false, .null⟩ (t :: rest)).2) := by
  unfold sortDir
  ir_simp [sortTermDir, toStermH]
  by_cases hk : t.kind = .ident
  · by_cases ha : t.value = Bytes.ofString "asc"
    · simp [hk, ha, isIdentNamed]
      exact sortTermNulls_run c k ⟨x, true, t.span, true, .null⟩ t true _ rest
    by_cases hd : t.value = Bytes.ofString "desc"
    · simp +decide [hk, hd, isIdentNamed]
      exact sortTermNulls_run c k ⟨x, false, t.span, false, .null⟩ t true _ rest
    by_cases hn : t.value = Bytes.ofString "nulls"
    · simp +decide [hk, hn, isIdentNamed]
      exact sortTermNulls_run c k ⟨x, false, .null, false, .null⟩ t true _ (t :: rest)
    · simp [hk, ha, hd, hn, isIdentNamed, nullsClause]
  · simp [hk, isIdentNamed, nullsClause]

theorem sortTerm_run (c : PCtx) (fuel : Nat) (ts : List Token) :
    runP toStermH "term" c sortTermBody fuel ts = .ok (pSortTerm c fuel ts) := by
  unfold runP
  ir_simp [sortTermBody, toStermH]
  by_cases he : (pExpr c fuel ts).errs = []
  · rw [pSortTerm_ok he]
    rcases hr : (pExpr c fuel ts).rest with _ | ⟨t, rest⟩
    · simp [he, hr, sortDir, nullsClause]
    · simp [he, hr]
      exact sortTermDir_run c fuel _ t rest
  · rw [pSortTerm_err he]
    simp [he]

theorem C07_sortTerm_ir (c : PCtx) (fuel : Nat) (ts : List Token) :
    runP toStermH "term" c (bodyOf "sortTerm") fuel ts = .ok (pSortTerm c fuel ts) := by
  simp only [bodyOf, sortTerm_ir, Option.map_some, Option.getD_some, sortTerm_run]

/-- `calleeAt` with `sortTerm` and `rowCount` INTERPRETED from their own regenerated units (an interpretation
    that panics or is stuck gives `none`, which makes the calling statement stuck) -/
def calleeIR (c : PCtx) (fuel : Nat) (m : String) (args : List Val) (ts : List Token) : Option (List Val × List Token) :=
  match args with
  | [] =>
    if m == "sortTerm" then
      match runP toStermH "term" c (bodyOf "sortTerm") fuel ts with
      | .ok r => some ([.sterm r.val, .errs r.errs], r.rest)
      | .error _ => none
    else if m == "rowCount" then
      match runP (fun _ => toExpr) "x" c (bodyOf "rowCount") fuel ts with
      | .ok r => some ([.expr r.val, .errs r.errs], r.rest)
      | .error _ => none
    else calleeAt c fuel m [] ts
  | _ => calleeAt c fuel m args ts

theorem C07_calleeIR_eq (c : PCtx) : calleeIR c = calleeAt c := by
  funext fuel m args ts
  unfold calleeIR
  cases args with
  | cons a as => rfl
  | nil =>
    by_cases h1 : m = "sortTerm"
    · subst h1
      simp [C07_sortTerm_ir, calleeAt]
    · by_cases h2 : m = "rowCount"
      · subst h2
        simp [C07_rowCount_ir, calleeAt]
      · simp [h1, h2]

def envIR (c : PCtx) : Env := { c := c, callee := calleeIR c }

theorem envIR_eq (c : PCtx) : envIR c = envAt c := by
  simp [envIR, envAt, C07_calleeIR_eq]

def runOpIR (c : PCtx) (body : List IStmt) (fuel : Nat) (pipe kw : Token) (ts : List Token) : M (PRes Op) :=
  result toOp "op" none (run (envIR c) body fuel (opParams ts pipe kw))

theorem runOpIR_eq (c : PCtx) : runOpIR c = runOp c := by
  funext body fuel pipe kw ts
  simp [runOpIR, runOp, envIR_eq]

/-- `sortOperator` with `sortTerm` run from its own unit: translated code down to `expr`; likewise
    `takeOperator` with `rowCount` and `topOperator` with both, below -/
theorem C07_sortOperator_ir_composed (c : PCtx) (fuel : Nat) (pipe kw : Token) (ts : List Token) :
    (runOpIR c (bodyOf "sortOperator") fuel pipe kw ts).map some =
      .ok (pOperator c (fuel + 1) pipe.span (kwTok "sort" kw) ts) := by
  rw [runOpIR_eq]; exact C07_sortOperator_ir c fuel pipe kw ts

theorem C07_takeOperator_ir_composed (c : PCtx) (fuel : Nat) (pipe kw : Token) (ts : List Token) :
    (runOpIR c (bodyOf "takeOperator") fuel pipe kw ts).map some =
      .ok (pOperator c (fuel + 1) pipe.span (kwTok "take" kw) ts) := by
  rw [runOpIR_eq]; exact C07_takeOperator_ir c fuel pipe kw ts

theorem C07_topOperator_ir_composed (c : PCtx) (fuel : Nat) (pipe kw : Token) (ts : List Token) :
    (runOpIR c (bodyOf "topOperator") fuel pipe kw ts).map some =
      .ok (pOperator c (fuel + 1) pipe.span (kwTok "top" kw) ts) := by
  rw [runOpIR_eq]; exact C07_topOperator_ir c fuel pipe kw ts

/-- the tokens of `x desc nulls first`, `expr` being the model's: the regenerated body of `sortTerm` yields the
    term with both clauses -/
example :
    (runP toStermH "term" ⟨18⟩ (bodyOf "sortTerm") 8
        [⟨.ident, 0, 1, Bytes.ofString "x"⟩, ⟨.ident, 2, 6, Bytes.ofString "desc"⟩, ⟨.ident, 7, 12, Bytes.ofString "nulls"⟩,
         ⟨.ident, 13, 18, Bytes.ofString "first"⟩]).toOption.map
        (fun r => (r.val.map fun t => (t.asc, t.ascDescSpan, t.nullsFirst, t.nullsSpan), r.errs, r.rest.length)) =
      some (some (false, ⟨2, 6⟩, true, ⟨7, 18⟩), [], 0) := by
  rw [C07_sortTerm_ir]; decide

end Pql.OpIR
