/-
Property C01, semantic clause on the intended translation `tr` with the reference evaluator:
outside join conditions `==` / `!=` never yield NULL (`coalesce(…, FALSE)`), for every environment,
every group and all operand expressions.
-/
import PqlModel.Spec.Rel
namespace Pql.C01
open Pql Sql CompileOracle

theorem evalS_coalesceFalse (g : List Env) (env : Env) (x : SExpr) :
    evalS g env (coalesceFalse x) = (if evalS g env x = .null then .bool false else evalS g env x) := by
  simp only [coalesceFalse, fnCall, List.foldr]
  rw [evalS]
  have h1 : isAggName (Bytes.ofString "coalesce") = false := by decide
  have h2 : (lowerB (Bytes.ofString "coalesce") == Bytes.ofString "coalesce") = true := by decide
  simp only [h1, Bool.false_eq_true, ↓reduceIte, h2, evalArgs]
  rw [show evalS g env (.const "FALSE") = .bool false from by simp [evalS]]
  have hf : (Val.bool false != Val.null) = true := by decide
  by_cases hx : evalS g env x = .null
  · have : (evalS g env x != Val.null) = false := by simp [hx]
    simp [hx, List.find?, hf]
  · have : (evalS g env x != Val.null) = true := by simp [bne, hx]
    simp [hx, List.find?, this]

theorem evalS_coalesceFalse_ne_null (g : List Env) (env : Env) (x : SExpr) :
    evalS g env (coalesceFalse x) ≠ .null := by
  rw [evalS_coalesceFalse]
  split
  · intro hc; cases hc
  · assumption

theorem tr_eq_ne {a b : Expr} {os : Span} {op : TokKind} {s : SExpr} (hop : op = .eq ∨ op = .ne)
    (h : tr false (.binary a os op b) = some s) : ∃ x, s = coalesceFalse x := by
  simp only [tr, Bool.false_and, Bool.false_eq_true, ↓reduceIte, bind, Option.bind] at h
  cases ha : tr false a with
  | none => simp [ha] at h
  | some sa =>
    cases hb : tr false b with
    | none => simp [ha, hb] at h
    | some sb =>
      rcases hop with rfl | rfl <;> simp only [ha, hb, reduceCtorEq, ↓reduceIte, pure, Option.some.injEq] at h
      all_goals exact ⟨_, h.symm⟩

/-- **C01 (`==` never yields NULL).** Outside join conditions, the translation of `a == b`
    evaluates to a non-NULL value in every environment, whatever `a` and `b` are. -/
theorem C01_eq_never_null (a b : Expr) (s : SExpr) (g : List Env) (env : Env) (os : Span)
    (h : tr false (.binary a os .eq b) = some s) : evalS g env s ≠ .null := by
  obtain ⟨x, rfl⟩ := tr_eq_ne (Or.inl rfl) h
  exact evalS_coalesceFalse_ne_null g env x

/-- **C01 (`!=` never yields NULL).** -/
theorem C01_ne_never_null (a b : Expr) (s : SExpr) (g : List Env) (env : Env) (os : Span)
    (h : tr false (.binary a os .ne b) = some s) : evalS g env s ≠ .null := by
  obtain ⟨x, rfl⟩ := tr_eq_ne (Or.inr rfl) h
  exact evalS_coalesceFalse_ne_null g env x

end Pql.C01
