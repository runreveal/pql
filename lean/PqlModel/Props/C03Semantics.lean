/-
Property C03 — the intended SQL of a join computes the documented join.

  * `joinTables` (Lemmas/JoinSemKinds.lean) restates the join case of the pipeline interpreter
    `Rel.interpOp` as a function of the two tables (`C03_interp_join`).
  * `C03_join_link`: the SELECT of a join link of the intended chain
        SELECT * FROM l AS "$left" [LEFT] JOIN r AS "$right" ON c      (l possibly DISTINCT-ed)
    evaluates, in the reference SQL evaluator, to `joinTables` of the two tables the link reads.
  * the three kinds as statements over lists, the bare key, the AND of several conditions (the former speak of
    `condHolds lc rt c l r`, the latter of `holds env c`: the same test, `condHolds … = holds (onEnv lc l rt.cols r) c` by `rfl`).
  * `C03_chain` (Props/C03Chain.lean): the whole statement of  T | before | join (right) on … | after.
-/
import PqlModel.Lemmas.JoinSemKey
import PqlModel.Lemmas.JoinFullLink
import PqlModel.Props.C01Sem
namespace Pql.C03
open Pql Sql CompileOracle Intended JoinSem

/-- The join case of the documented meaning is `joinTables`, for every kind annotation
    (`kindOf none = "innerunique"`; an unknown kind would be read as `inner`, the compiler rejects it). -/
theorem C03_interp_join (src : Bytes) (db : DB) (t : Table) (p k a b : Span) (flavor : Option Ident) (d : Span)
    (right : Tabular) (e f : Span) (conds : ExprList) :
    Rel.interpOp src db t (.join p k a b flavor d right e f conds) =
      joinTables (kindOf flavor == Bytes.ofString "innerunique") (kindOf flavor == Bytes.ofString "leftouter")
        t (Rel.interp src db right) (buildJoinCondition conds) :=
  interpOp_join src db t p k a b flavor d right e f conds

/-- the three documented kinds (and the default) -/
theorem C03_interp_join_kinds (src : Bytes) (db : DB) (t : Table) (p k a b : Span) (d : Span)
    (right : Tabular) (e f : Span) (conds : ExprList) (sp : Span) (q : Bool) :
    Rel.interpOp src db t (.join p k a b none d right e f conds) =
      joinTables true false t (Rel.interp src db right) (buildJoinCondition conds) ∧
    Rel.interpOp src db t (.join p k a b (some ⟨Bytes.ofString "innerunique", sp, q⟩) d right e f conds) =
      joinTables true false t (Rel.interp src db right) (buildJoinCondition conds) ∧
    Rel.interpOp src db t (.join p k a b (some ⟨Bytes.ofString "inner", sp, q⟩) d right e f conds) =
      joinTables false false t (Rel.interp src db right) (buildJoinCondition conds) ∧
    Rel.interpOp src db t (.join p k a b (some ⟨Bytes.ofString "leftouter", sp, q⟩) d right e f conds) =
      joinTables false true t (Rel.interp src db right) (buildJoinCondition conds) := by
  refine ⟨?_, ?_, ?_, ?_⟩ <;> rw [C03_interp_join] <;> congr 1

/-- **C03 (the join link).** The SELECT of a join link evaluates to the documented join of the two
    tables it names: same output columns (left columns, then right columns), same rows in the same
    order; the ON environment is the left row under `$left` followed by the right row under `$right`;
    DISTINCT applies to the left table only; LEFT JOIN pads with one NULL per right column. -/
theorem C03_join_link (src : Bytes) (db : DB) (ctes : List (Bytes × Table)) (a : SubA)
    (unique left : Bool) (l r : Bytes) (cond : Expr) (sel : Select)
    (hsrc : a.source = .join unique left l r cond) (hop : a.op = none) (hsort : a.sort = none)
    (htake : a.take = none) (hsel : selOf src a = some sel) :
    evalSelect db ctes sel = joinTables unique left (lookupTable db ctes l) (lookupTable db ctes r) cond := by
  rw [JoinFull.evalSelect_join_sort src db ctes a unique left l r cond sel hsrc hop hsel
    (fun ts hts => by rw [hsort] at hts; cases hts) (fun h => by rw [hsort] at h; cases h)]
  simp only [SelSem.sortTakeA, hsort, htake, List.append_nil, List.foldl_nil]

/-- **C03 (inner).** `kind=inner`: the rows are exactly the pairs `l ++ r` with the condition TRUE,
    left-major (for each left row in order, its matching right rows in order), nothing else. -/
theorem C03_inner_all_pairs (lt rt : Table) (cond : Expr) :
    joinTables false false lt rt cond =
      ⟨lt.cols ++ rt.cols,
       lt.rows.flatMap fun l => (rt.rows.filter (condHolds lt.cols rt cond l)).map (l ++ ·)⟩ ∧
    ∀ row, row ∈ (joinTables false false lt rt cond).rows ↔
      ∃ l ∈ lt.rows, ∃ r ∈ rt.rows, condHolds lt.cols rt cond l r = true ∧ row = l ++ r := by
  have h : joinTables false false lt rt cond =
      ⟨lt.cols ++ rt.cols, lt.rows.flatMap fun l => (rt.rows.filter (condHolds lt.cols rt cond l)).map (l ++ ·)⟩ := by
    simp only [joinTables, Bool.false_eq_true, ↓reduceIte]
    congr 1
    apply SelSem.flatMap_congr'
    intro l _
    rw [joinRow_inner]; rfl
  refine ⟨h, fun row => ?_⟩
  rw [h]
  simp only [List.mem_flatMap, List.mem_map, List.mem_filter]
  constructor
  · rintro ⟨l, hl, r, ⟨hr, hc⟩, rfl⟩; exact ⟨l, hl, r, hr, hc, rfl⟩
  · rintro ⟨l, hl, r, hr, hc, rfl⟩; exact ⟨l, hl, r, ⟨hr, hc⟩, rfl⟩

/-- **C03 (innerunique, the default).** The join of the de-duplicated left table: duplicates of a
    left row are removed first (first occurrences kept, in order), the right side is untouched. -/
theorem C03_innerunique_dedups_left (left : Bool) (lt rt : Table) (cond : Expr) :
    joinTables true left lt rt cond = joinTables false left ⟨lt.cols, distinctRows lt.rows⟩ rt cond ∧
    (distinctRows lt.rows).Nodup ∧ (∀ r, r ∈ distinctRows lt.rows ↔ r ∈ lt.rows) ∧
    (distinctRows lt.rows).Sublist lt.rows :=
  ⟨rfl, distinctRows_spec lt.rows⟩

/-- a left table without duplicate rows: innerunique = inner -/
theorem C03_innerunique_eq_inner_of_nodup (left : Bool) (lt rt : Table) (cond : Expr) (h : lt.rows.Nodup) :
    joinTables true left lt rt cond = joinTables false left lt rt cond := by
  simp only [joinTables, distinctRows_of_nodup lt.rows h, ite_self]

/-- **C03 (leftouter).** Every left row contributes its matching pairs, or — when it has none —
    itself padded with one NULL per right column; so unmatched left rows are kept, and every row
    of the inner join is a row of the left outer join. -/
theorem C03_leftouter_keeps_unmatched (unique : Bool) (lt rt : Table) (cond : Expr) :
    (joinTables unique true lt rt cond).rows =
      ((if unique then distinctRows lt.rows else lt.rows).flatMap fun l =>
        if (matchesOf lt.cols rt cond l).isEmpty then [l ++ rt.cols.map fun _ => Val.null]
        else matchesOf lt.cols rt cond l) ∧
    (∀ l ∈ lt.rows, (∀ r ∈ rt.rows, condHolds lt.cols rt cond l r = false) →
      (l ++ rt.cols.map fun _ => Val.null) ∈ (joinTables unique true lt rt cond).rows) ∧
    (∀ row ∈ (joinTables unique false lt rt cond).rows, row ∈ (joinTables unique true lt rt cond).rows) := by
  have hrows : (joinTables unique true lt rt cond).rows =
      ((if unique then distinctRows lt.rows else lt.rows).flatMap fun l =>
        if (matchesOf lt.cols rt cond l).isEmpty then [l ++ rt.cols.map fun _ => Val.null]
        else matchesOf lt.cols rt cond l) := by
    simp only [joinTables]
    apply SelSem.flatMap_congr'
    intro l _
    rw [joinRow_eq]; simp [padRow]
  refine ⟨hrows, ?_, ?_⟩
  · intro l hl hno
    rw [hrows, List.mem_flatMap]
    refine ⟨l, ?_, ?_⟩
    · cases unique
      · simpa using hl
      · simpa using (distinctRows_spec lt.rows).2.1 l |>.mpr hl
    · have : matchesOf lt.cols rt cond l = [] := by
        simp only [matchesOf, List.map_eq_nil_iff, List.filter_eq_nil_iff]
        intro r hr; simp [hno r hr]
      simp [this]
  · intro row hrow
    rw [hrows]
    simp only [joinTables, List.mem_flatMap] at hrow ⊢
    obtain ⟨l, hl, hrow⟩ := hrow
    refine ⟨l, hl, ?_⟩
    rw [joinRow_inner] at hrow
    have : (matchesOf lt.cols rt cond l).isEmpty = false := by
      cases hm : matchesOf lt.cols rt cond l with
      | nil => rw [hm] at hrow; cases hrow
      | cons _ _ => rfl
    simp [this, hrow]

/-- **C03 (bare key).** In the ON environment of the pair (l, r), the bare key `k` holds iff SQL `=`
    on the left row's column `k` and the right row's column `k` is TRUE — `$left.k` is looked up in
    the left row only and `$right.k` in the right row only, also when both tables have a column `k`
    (a missing column is an uninterpreted term, never equal to a value). -/
theorem C03_bare_key_semantics (k : Bytes) (sp : Span) (h : builtinIdent k = none)
    (lcols : List Bytes) (l : List Val) (rcols : List Bytes) (r : List Val) :
    Rel.evalP true [] (onEnv lcols l rcols r) (rewriteSimpleJoinCondition (.qident [⟨k, sp, false⟩])) =
      binOp "="
        ((colVal lcols l k).getD (.term (Bytes.ofString "?col:" ++ leftA ++ [46] ++ k)))
        ((colVal rcols r k).getD (.term (Bytes.ofString "?col:" ++ rightA ++ [46] ++ k))) := by
  rw [evalP_bare_key k sp h, lookupCol_left, lookupCol_right]

/-- the join filter (`= TRUE`) cannot tell the plain `=` of a bare key from `coalesce(… = …, FALSE)` -/
theorem C03_bare_key_coalesce (g : List Env) (env : Env) (x : SExpr) :
    (evalS g env (coalesceFalse x) == .bool true) = (evalS g env x == .bool true) := by
  rw [Pql.C01.evalS_coalesceFalse]
  split
  · rename_i hn; rw [hn]; decide
  · rfl

/-- integer keys: the pair matches iff the keys are equal; a NULL key never matches -/
theorem C03_bare_key_int (k : Bytes) (sp : Span) (h : builtinIdent k = none)
    (lcols : List Bytes) (l : List Val) (rcols : List Bytes) (r : List Val) (x y : Int)
    (hl : colVal lcols l k = some (.int x)) (hr : colVal rcols r k = some (.int y)) :
    holds (onEnv lcols l rcols r) (rewriteSimpleJoinCondition (.qident [⟨k, sp, false⟩])) = decide (x = y) := by
  simp only [holds, C03_bare_key_semantics k sp h, hl, hr, Option.getD]
  unfold binOp
  have e1 : ("=" == "AND") = false := by decide
  have e2 : ("=" == "OR") = false := by decide
  have e3 : ("=" == "=") = true := by decide
  simp only [e1, e2, e3, Bool.false_eq_true, ↓reduceIte, cmpVals, Bool.true_or]
  have n1 : (Val.int x == Val.null) = false := by simp
  have n2 : (Val.int y == Val.null) = false := by simp
  simp only [n1, n2, Bool.or_self, Bool.false_eq_true, ↓reduceIte]
  by_cases hxy : x = y
  · subst hxy; simp
  · simp [hxy]

theorem C03_bare_key_null (k : Bytes) (sp : Span) (h : builtinIdent k = none)
    (lcols : List Bytes) (l : List Val) (rcols : List Bytes) (r : List Val)
    (hn : colVal lcols l k = some .null ∨ colVal rcols r k = some .null) :
    holds (onEnv lcols l rcols r) (rewriteSimpleJoinCondition (.qident [⟨k, sp, false⟩])) = false := by
  simp only [holds, C03_bare_key_semantics k sp h]
  unfold binOp
  have e1 : ("=" == "AND") = false := by decide
  have e2 : ("=" == "OR") = false := by decide
  simp only [e1, e2, Bool.false_eq_true, ↓reduceIte]
  rcases hn with hn | hn <;> simp [hn]

/-- **C03 (several conditions are AND-ed).** The join condition holds for a pair iff every listed
    condition (a bare key read as the equality of the two sides) holds. -/
theorem C03_conditions_anded (env : Env) (conds : ExprList) :
    holds env (buildJoinCondition conds) = conds.toList.all fun c => holds env (rewriteSimpleJoinCondition c) :=
  holds_buildJoinCondition env conds

/-! ### non-vacuity: the theorems on a concrete database -/
namespace Ex
def bs (s : String) : Bytes := Bytes.ofString s
def idt (s : String) : Ident := ⟨bs s, .zero, false⟩
/-- T(k, a): a duplicate row, a row without partner, a NULL key -/
def exT : Table := ⟨[bs "k", bs "a"], [[.int 1, .int 10], [.int 1, .int 10], [.int 2, .int 20], [.null, .int 30]]⟩
/-- U(k, b): two partners for key 1, a NULL key -/
def exU : Table := ⟨[bs "k", bs "b"], [[.int 1, .int 100], [.int 3, .int 300], [.int 1, .int 101], [.null, .int 0]]⟩
def exDB : DB := [(bs "T", exT), (bs "U", exU)]
/-- `on k` -/
def keyK : ExprList := .cons (.qident [idt "k"]) .nil
def exLink (u l : Bool) : SubA :=
  { name := subqueryName 1, source := .join u l (bs "T") (bs "U") (buildJoinCondition keyK) }

/-- `C03_join_link` on `T | join kind=innerunique (U) on k`: the duplicate T row is used once, both
    partners are found, NULL keys do not match -/
example : ∃ sel, selOf [] (exLink true false) = some sel ∧
    evalSelect exDB [] sel = ⟨[bs "k", bs "a", bs "k", bs "b"],
      [[.int 1, .int 10, .int 1, .int 100], [.int 1, .int 10, .int 1, .int 101]]⟩ := by
  cases h : selOf [] (exLink true false) with
  | none => exact absurd h (by decide +kernel)
  | some sel =>
    refine ⟨sel, rfl, ?_⟩
    rw [C03_join_link [] exDB [] (exLink true false) true false (bs "T") (bs "U") _ sel rfl rfl rfl rfl h]
    decide +kernel

/-- inner: the duplicate left row pairs twice -/
example : (joinTables false false exT exU (buildJoinCondition keyK)).rows =
    [[.int 1, .int 10, .int 1, .int 100], [.int 1, .int 10, .int 1, .int 101],
     [.int 1, .int 10, .int 1, .int 100], [.int 1, .int 10, .int 1, .int 101]] := by decide +kernel

/-- leftouter: the rows with key 2 and with the NULL key are kept, padded -/
example : (joinTables false true exT exU (buildJoinCondition keyK)).rows =
    [[.int 1, .int 10, .int 1, .int 100], [.int 1, .int 10, .int 1, .int 101],
     [.int 1, .int 10, .int 1, .int 100], [.int 1, .int 10, .int 1, .int 101],
     [.int 2, .int 20, .null, .null], [.null, .int 30, .null, .null]] := by decide +kernel

/-- the bare key on a pair of rows whose tables both have a column `k` -/
example : holds (onEnv exT.cols [.int 1, .int 10] exU.cols [.int 1, .int 100])
    (rewriteSimpleJoinCondition (.qident [idt "k"])) = true := by
  rw [show idt "k" = ⟨bs "k", .zero, false⟩ from rfl,
    C03_bare_key_int (bs "k") .zero (by decide +kernel) exT.cols _ exU.cols _ 1 1 (by decide +kernel) (by decide +kernel)]
  decide +kernel
end Ex

end Pql.C03
