/-
Property C08, second sentence — shapes run on the parser model, decidable forms of the neighbour
theorems, non-vacuity instances (every hypothesis of the theorem checked on a concrete source) and
the accepted sources that show each hypothesis / exception is necessary.
-/
import PqlModel.Props.C08Reject
import PqlModel.Lemmas.RejectShapes
import PqlModel.Props.C15Parse
namespace Pql.Reject
open Pql Pql.Grammar Pql.Piecewise

/-- **`T | join (U)` without `on` is rejected**, for all identifiers `T`, `U`, any layout. -/
theorem C08_join_without_on_rejected (src : Bytes) (T pp jn lp U rp : Token)
    (hs : scan src = [T, pp, jn, lp, U, rp])
    (hT : T.kind = .ident) (hpp : pp.kind = .pipe) (hjn : jn.kind = .ident) (hjv : jn.value = b "join")
    (hlp : lp.kind = .lparen) (hU : U.kind = .ident) (hrp : rp.kind = .rparen) : (parse src).2 ≠ [] := by
  refine rejected_of_pStatement src ?_ ?_
  · rw [hs]; intro t ht
    simp only [List.mem_cons, List.not_mem_nil, or_false] at ht
    rcases ht with rfl | rfl | rfl | rfl | rfl | rfl <;> simp [*]
  · rw [hs]; exact join_without_on _ T pp jn lp U rp hT hpp hjn hjv hlp hU hrp

/-- **`T | where f(,)` is rejected** (the optional comma before `)` needs an argument before it). -/
theorem C08_call_only_comma_rejected (src : Bytes) (T pp wh f lp cm rp : Token)
    (hs : scan src = [T, pp, wh, f, lp, cm, rp])
    (hT : T.kind = .ident) (hpp : pp.kind = .pipe) (hwh : wh.kind = .ident) (hwv : wh.value = b "where")
    (hf : f.kind = .ident) (hlp : lp.kind = .lparen) (hcm : cm.kind = .comma) (hrp : rp.kind = .rparen) :
    (parse src).2 ≠ [] := by
  refine rejected_of_pStatement src ?_ ?_
  · rw [hs]; intro t ht
    simp only [List.mem_cons, List.not_mem_nil, or_false] at ht
    rcases ht with rfl | rfl | rfl | rfl | rfl | rfl | rfl <;> simp [*]
  · rw [hs]; exact call_only_comma _ T pp wh f lp cm rp hT hpp hwh hwv hf hlp hcm hrp

/-- **`T | where a in ()` is rejected.** -/
theorem C08_in_empty_list_rejected (src : Bytes) (T pp wh a i lp rp : Token)
    (hs : scan src = [T, pp, wh, a, i, lp, rp])
    (hT : T.kind = .ident) (hpp : pp.kind = .pipe) (hwh : wh.kind = .ident) (hwv : wh.value = b "where")
    (ha : a.kind = .ident) (hi : i.kind = .in_) (hlp : lp.kind = .lparen) (hrp : rp.kind = .rparen) :
    (parse src).2 ≠ [] := by
  refine rejected_of_pStatement src ?_ ?_
  · rw [hs]; intro t ht
    simp only [List.mem_cons, List.not_mem_nil, or_false] at ht
    rcases ht with rfl | rfl | rfl | rfl | rfl | rfl | rfl <;> simp [*]
  · rw [hs]; exact in_empty_list _ T pp wh a i lp rp hT hpp hwh hwv ha hi hlp hrp

def adjAny (p : Token → Token → Bool) : List Token → Bool
  | a :: c :: l => p a c || adjAny p (c :: l)
  | _ => false

theorem adjAny_split (p : Token → Token → Bool) : ∀ g, adjAny p g = true →
    ∃ pre t1 t2 post, g = pre ++ t1 :: t2 :: post ∧ p t1 t2 = true
  | [], h | [_], h => by simp [adjAny] at h
  | a :: c :: l, h => by
    simp only [adjAny, Bool.or_eq_true] at h
    rcases h with h | h
    · exact ⟨[], a, c, l, rfl, h⟩
    · obtain ⟨pre, t1, t2, post, hg, hp⟩ := adjAny_split p (c :: l) h
      exact ⟨a :: pre, t1, t2, post, by rw [hg]; rfl, hp⟩

def adjAny3 (p : Token → Token → Token → Bool) : List Token → Bool
  | a :: c :: d :: l => p a c d || adjAny3 p (c :: d :: l)
  | _ => false

theorem adjAny3_split (p : Token → Token → Token → Bool) : ∀ g, adjAny3 p g = true →
    ∃ pre t0 t1 t2 post, g = pre ++ t0 :: t1 :: t2 :: post ∧ p t0 t1 t2 = true
  | [], h | [_], h | [_, _], h => by simp [adjAny3] at h
  | a :: c :: d :: l, h => by
    simp only [adjAny3, Bool.or_eq_true] at h
    rcases h with h | h
    · exact ⟨[], a, c, d, l, rfl, h⟩
    · obtain ⟨pre, t0, t1, t2, post, hg, hp⟩ := adjAny3_split p (c :: d :: l) h
      exact ⟨a :: pre, t0, t1, t2, post, by rw [hg]; rfl, hp⟩

theorem C08_two_operands_rejected' (src : Bytes)
    (h : ∃ g ∈ pieces src, adjAny (fun a c => operandEndTok a && operandStartTok c) g = true) :
    (parse src).2 ≠ [] := by
  obtain ⟨g, hg, ha⟩ := h
  obtain ⟨pre, t1, t2, post, hsh, hp⟩ := adjAny_split _ g ha
  simp only [Bool.and_eq_true] at hp
  exact C08_two_operands_rejected src g hg pre post t1 t2 hsh hp.1 hp.2

theorem C08_double_pipe_rejected' (src : Bytes)
    (h : ∃ g ∈ pieces src, adjAny (fun a c => a.kind == .pipe && c.kind == .pipe) g = true) :
    (parse src).2 ≠ [] := by
  obtain ⟨g, hg, ha⟩ := h
  obtain ⟨pre, t1, t2, post, hsh, hp⟩ := adjAny_split _ g ha
  simp only [Bool.and_eq_true, beq_iff_eq] at hp
  exact C08_double_pipe_rejected src g hg pre post t1 t2 hsh hp.1 hp.2

theorem C08_count_argument_rejected' (src : Bytes)
    (h : ∃ g ∈ pieces src, adjAny (fun a c => a.kind == .ident && a.value == b "count" && operandStartTok c) g = true) :
    (parse src).2 ≠ [] := by
  obtain ⟨g, hg, ha⟩ := h
  obtain ⟨pre, t1, t2, post, hsh, hp⟩ := adjAny_split _ g ha
  simp only [Bool.and_eq_true, beq_iff_eq] at hp
  exact C08_count_argument_rejected src g hg pre post t1 t2 hsh hp.1 hp.2

theorem C08_dangling_inside_rejected' (src : Bytes)
    (h : ∃ g ∈ pieces src, adjAny (fun a c => danglingKind a.kind && stopperKind c.kind && a.kind != .comma &&
      c.kind != .comma && !(a.kind == .lparen && c.kind == .rparen)) g = true) : (parse src).2 ≠ [] := by
  obtain ⟨g, hg, ha⟩ := h
  obtain ⟨pre, t1, t2, post, hsh, hp⟩ := adjAny_split _ g ha
  simp only [Bool.and_eq_true, bne_iff_ne, ne_eq, Bool.not_eq_true', Bool.and_eq_false_iff, beq_eq_false_iff_ne] at hp
  exact C08_dangling_inside_rejected src g hg pre post t1 t2 hsh hp.1.1.1.1 hp.1.1.1.2 hp.1.1.2 hp.1.2
    (by
      rintro ⟨h1, h2⟩
      rcases hp.2 with h | h
      · exact h h1
      · exact h h2)

def isDir (t : Token) : Bool := t.kind == .ident && (t.value == b "asc" || t.value == b "desc")

theorem C08_asc_desc_rejected' (src : Bytes)
    (h : ∃ g ∈ pieces src, adjAny3 (fun a c d => operandEndTok a && isDir c && isDir d) g = true) :
    (parse src).2 ≠ [] := by
  obtain ⟨g, hg, ha⟩ := h
  obtain ⟨pre, t0, t1, t2, post, hsh, hp⟩ := adjAny3_split _ g ha
  simp only [isDir, Bool.and_eq_true, Bool.or_eq_true, beq_iff_eq] at hp
  exact C08_asc_desc_rejected src g hg pre post t0 t1 t2 hsh hp.1.1 hp.1.2 hp.2

theorem C08_missing_argument_inside_rejected' (src : Bytes)
    (h : ∃ g ∈ pieces src, adjAny3 (fun a c d => a.kind == .pipe && c.kind == .ident && c.value != b "count" &&
      (d.kind == .pipe || d.kind == .rparen)) g = true) : (parse src).2 ≠ [] := by
  obtain ⟨g, hg, ha⟩ := h
  obtain ⟨pre, t0, t1, t2, post, hsh, hp⟩ := adjAny3_split _ g ha
  simp only [Bool.and_eq_true, Bool.or_eq_true, beq_iff_eq, bne_iff_ne, ne_eq] at hp
  exact C08_missing_argument_inside_rejected src g hg pre post t0 t1 t2 hsh hp.1.1.1 ⟨hp.1.1.2, hp.1.2⟩ hp.2

def endsPipeX (g : List Token) : Bool :=
  match g.reverse with
  | t2 :: t1 :: _ => t1.kind == .pipe && !(t2.kind == .ident && t2.value == b "count")
  | _ => false

theorem C08_missing_argument_rejected' (src : Bytes) (h : ∃ g ∈ pieces src, endsPipeX g = true) :
    (parse src).2 ≠ [] := by
  obtain ⟨g, hg, ha⟩ := h
  unfold endsPipeX at ha
  split at ha
  · next t2 t1 rest hr =>
    simp only [Bool.and_eq_true, beq_iff_eq, Bool.not_eq_true', Bool.and_eq_false_iff, beq_eq_false_iff_ne] at ha
    have hgr : g = rest.reverse ++ [t1, t2] := by
      have := congrArg List.reverse hr
      simpa using this
    exact C08_missing_argument_rejected src g hg rest.reverse t1 t2 hgr ha.1
      (by
        rintro ⟨h1, h2⟩
        rcases ha.2 with h | h
        · exact h h1
        · exact h h2)
  · exact absurd ha (by decide)

/-- `T | where a # 1` -/
def exErr : Bytes := [84, 32, 124, 32, 119, 104, 101, 114, 101, 32, 97, 32, 35, 32, 49]
/-- `T | where (a` -/
def exOpen : Bytes := [84, 32, 124, 32, 119, 104, 101, 114, 101, 32, 40, 97]
/-- `T | where a)` -/
def exSurplus : Bytes := [84, 32, 124, 32, 119, 104, 101, 114, 101, 32, 97, 41]
/-- `T | where a +` -/
def exDangling : Bytes := [84, 32, 124, 32, 119, 104, 101, 114, 101, 32, 97, 32, 43]
/-- `let x = ; T` -/
def exLetEmpty : Bytes := [108, 101, 116, 32, 120, 32, 61, 32, 59, 32, 84]
/-- `T | where a == 1 2` -/
def exTwo : Bytes := [84, 32, 124, 32, 119, 104, 101, 114, 101, 32, 97, 32, 61, 61, 32, 49, 32, 50]
/-- `T | take 5 6` -/
def exTake : Bytes := [84, 32, 124, 32, 116, 97, 107, 101, 32, 53, 32, 54]
/-- `T | count x` -/
def exCountX : Bytes := [84, 32, 124, 32, 99, 111, 117, 110, 116, 32, 120]
/-- `T | sort by a asc desc` -/
def exAscDesc : Bytes := [84, 32, 124, 32, 115, 111, 114, 116, 32, 98, 121, 32, 97, 32, 97, 115, 99, 32, 100, 101, 115, 99]
/-- `T || count` -/
def exPipes : Bytes := [84, 32, 124, 124, 32, 99, 111, 117, 110, 116]
/-- `T | where` -/
def exWhere : Bytes := [84, 32, 124, 32, 119, 104, 101, 114, 101]
/-- `T | project` -/
def exProject : Bytes := [84, 32, 124, 32, 112, 114, 111, 106, 101, 99, 116]
/-- `T | where | count` -/
def exWhereMid : Bytes := [84, 32, 124, 32, 119, 104, 101, 114, 101, 32, 124, 32, 99, 111, 117, 110, 116]
/-- `T | where a[ ]` -/
def exIndexEmpty : Bytes := [84, 32, 124, 32, 119, 104, 101, 114, 101, 32, 97, 91, 32, 93]
/-- `T | join (U)` -/
def exJoin : Bytes := [84, 32, 124, 32, 106, 111, 105, 110, 32, 40, 85, 41]
/-- `T | where f(,)` -/
def exCallComma : Bytes := [84, 32, 124, 32, 119, 104, 101, 114, 101, 32, 102, 40, 44, 41]
/-- `T | where a in ()` -/
def exInEmpty : Bytes := [84, 32, 124, 32, 119, 104, 101, 114, 101, 32, 97, 32, 105, 110, 32, 40, 41]
/-- `T | sort by a asc` -/
def okSortAsc : Bytes := [84, 32, 124, 32, 115, 111, 114, 116, 32, 98, 121, 32, 97, 32, 97, 115, 99]
/-- `T | where f(a,)` -/
def okCallComma : Bytes := [84, 32, 124, 32, 119, 104, 101, 114, 101, 32, 102, 40, 97, 44, 41]
/-- `T | count` -/
def okCount : Bytes := [84, 32, 124, 32, 99, 111, 117, 110, 116]
/-- `T | where f()` -/
def okCallEmpty : Bytes := [84, 32, 124, 32, 119, 104, 101, 114, 101, 32, 102, 40, 41]
/-- `T | sort by asc desc` -/
def okAscDesc : Bytes := [84, 32, 124, 32, 115, 111, 114, 116, 32, 98, 121, 32, 97, 115, 99, 32, 100, 101, 115, 99]
/-- `T | where on` -/
def okWhereOn : Bytes := [84, 32, 124, 32, 119, 104, 101, 114, 101, 32, 111, 110]
/-- `T | join (U) on a` -/
def okJoin : Bytes := [84, 32, 124, 32, 106, 111, 105, 110, 32, 40, 85, 41, 32, 111, 110, 32, 97]

theorem exErr_rejected : (parse exErr).2 ≠ [] :=
  C08_error_token_rejected exErr (by decide +kernel)
theorem exErr_not_compiled (params : List (Bytes × Bytes)) : compile params exErr = .error :=
  rejected_not_compiled _ exErr_rejected params
theorem exOpen_rejected : (parse exOpen).2 ≠ [] :=
  C08_unbalanced_rejected exOpen (by decide +kernel)
theorem exSurplus_rejected : (parse exSurplus).2 ≠ [] :=
  C08_unbalanced_rejected exSurplus (by decide +kernel)
theorem exDangling_rejected : (parse exDangling).2 ≠ [] :=
  C08_dangling_operator_rejected exDangling (by decide +kernel)
/-- `let x = ;` — the piece `let x =` ends in `=` -/
theorem exLetEmpty_rejected : (parse exLetEmpty).2 ≠ [] :=
  C08_dangling_operator_rejected exLetEmpty (by decide +kernel)
theorem exTwo_rejected : (parse exTwo).2 ≠ [] :=
  C08_two_operands_rejected' exTwo (by decide +kernel)
theorem exTake_rejected : (parse exTake).2 ≠ [] :=
  C08_two_operands_rejected' exTake (by decide +kernel)
theorem exCountX_rejected : (parse exCountX).2 ≠ [] :=
  C08_count_argument_rejected' exCountX (by decide +kernel)
theorem exAscDesc_rejected : (parse exAscDesc).2 ≠ [] :=
  C08_asc_desc_rejected' exAscDesc (by decide +kernel)
theorem exPipes_rejected : (parse exPipes).2 ≠ [] :=
  C08_double_pipe_rejected' exPipes (by decide +kernel)
theorem exWhere_rejected : (parse exWhere).2 ≠ [] :=
  C08_missing_argument_rejected' exWhere (by decide +kernel)
theorem exProject_rejected : (parse exProject).2 ≠ [] :=
  C08_missing_argument_rejected' exProject (by decide +kernel)
theorem exWhereMid_rejected : (parse exWhereMid).2 ≠ [] :=
  C08_missing_argument_inside_rejected' exWhereMid (by decide +kernel)
theorem exIndexEmpty_rejected : (parse exIndexEmpty).2 ≠ [] :=
  C08_dangling_inside_rejected' exIndexEmpty (by decide +kernel)
theorem exJoin_rejected : (parse exJoin).2 ≠ [] :=
  C08_join_without_on_rejected exJoin ⟨.ident, 0, 1, [84]⟩ ⟨.pipe, 2, 3, []⟩ ⟨.ident, 4, 8, b "join"⟩
    ⟨.lparen, 9, 10, []⟩ ⟨.ident, 10, 11, [85]⟩ ⟨.rparen, 11, 12, []⟩
    (by decide +kernel) rfl rfl rfl rfl rfl rfl rfl
theorem exCallComma_rejected : (parse exCallComma).2 ≠ [] :=
  C08_call_only_comma_rejected exCallComma ⟨.ident, 0, 1, [84]⟩ ⟨.pipe, 2, 3, []⟩ ⟨.ident, 4, 9, b "where"⟩
    ⟨.ident, 10, 11, [102]⟩ ⟨.lparen, 11, 12, []⟩ ⟨.comma, 12, 13, []⟩ ⟨.rparen, 13, 14, []⟩
    (by decide +kernel) rfl rfl rfl rfl rfl rfl rfl rfl
theorem exInEmpty_rejected : (parse exInEmpty).2 ≠ [] :=
  C08_in_empty_list_rejected exInEmpty ⟨.ident, 0, 1, [84]⟩ ⟨.pipe, 2, 3, []⟩ ⟨.ident, 4, 9, b "where"⟩
    ⟨.ident, 10, 11, [97]⟩ ⟨.in_, 12, 14, []⟩ ⟨.lparen, 15, 16, []⟩ ⟨.rparen, 16, 17, []⟩
    (by decide +kernel) rfl rfl rfl rfl rfl rfl rfl rfl

/-- two identifiers in a row where the second is spelled like a keyword (`a asc`): accepted — the
    second token of `C08_two_operands_rejected` must not be keyword-spelled (`operandStartTok`) -/
theorem name_then_keyword_accepted : (parse okSortAsc).2 = [] ∧
    (∃ g ∈ pieces okSortAsc, adjAny (fun a c => operandEndTok a && c.kind == .ident) g = true) := by
  decide +kernel

/-- a comma directly before `)` (`f(a,)`): accepted — the comma exclusion of
    `C08_dangling_inside_rejected` is necessary (documented exception) -/
theorem comma_before_closer_accepted : (parse okCallComma).2 = [] ∧
    (∃ g ∈ pieces okCallComma, adjAny (fun a c => danglingKind a.kind && stopperKind c.kind) g = true) := by
  decide +kernel

/-- `T | count`: accepted — the exception for `count` in `C08_missing_argument_rejected` is necessary -/
theorem count_alone_accepted : (parse okCount).2 = [] := by
  decide +kernel

/-- `f()`: accepted — the exception `(` `)` in `C08_dangling_inside_rejected` is necessary -/
theorem call_without_arguments_accepted : (parse okCallEmpty).2 = [] ∧
    (∃ g ∈ pieces okCallEmpty, adjAny (fun a c => a.kind == .lparen && c.kind == .rparen) g = true) := by
  decide +kernel

/-- `sort by asc desc` (a column named `asc`): accepted — `C08_asc_desc_rejected` needs the operand
    end before the two direction words -/
theorem column_named_asc_accepted : (parse okAscDesc).2 = [] ∧
    (∃ g ∈ pieces okAscDesc, adjAny (fun a c => isDir a && isDir c) g = true) := by
  decide +kernel

/-- `T | where on`: accepted (`on` is a column name here) — a keyword-spelled identifier at the end of
    a piece is not by itself an error; `C08_last_keyword_is_name` says it then is a name in the tree -/
theorem where_on_accepted : (parse okWhereOn).2 = [] := by
  decide +kernel

/-- `T | join (U) on a`: accepted (non-vacuity of the `join` shape: only the missing `on a` is wrong) -/
theorem join_with_on_accepted : (parse okJoin).2 = [] := by
  decide +kernel

/-! ### the hypothesis of `unparse_balanced` / `unparse_last_token` is necessary

A tree no parse returns: `let x = <literal of kind "(">`.  Its `unparse` is `let x = (`: not
balanced, and ending in `(`.  (`StmtAll EOK LOK` — every literal is a number or a string, every
operator an operator — is what `parsed_stmtAll` proves of every error-free parse.) -/

def oddStmt : Stmt := .let_ ⟨0, 3⟩ (some ⟨[120], ⟨4, 5⟩, false⟩) ⟨6, 7⟩ (.lit ⟨8, 9⟩ .lparen [])

theorem unparse_balanced_needs_hyp : ∃ us, unparseStmt oddStmt = some us ∧
    run [] ((us.map cl).map Cl.br) ≠ some [] ∧ (∀ u, us.getLast? = some u → cl u ∉ LO) :=
  ⟨_, rfl, by decide, by decide⟩

theorem oddStmt_not_stmtAll : ¬ StmtAll EOK LOK oddStmt := by
  simp [oddStmt, StmtAll, EOK, ParsedOK.sOK]

end Pql.Reject
