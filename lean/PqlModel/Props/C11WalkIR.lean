/-
Property C11 (and C12), tie by translation: the explicit-stack loop of `Walk` (parser/ast.go).

`harness/extract_ast.go` regenerates the body of `Walk` as an IR on every run (`Facts.astIR`, unit
"Walk"): `stack := []Node{n}`, the loop `for len(stack) > 0`, the pop (`curr := stack[len(stack)-1]`,
`stack = stack[:len(stack)-1]`), the type switch with one case per node type — `visit(n)` or
`if visit(n) { pushes }` — and the default `panic`.  The pushes of a case are the statement `pushTable`,
interpreted from the per-type tables `Facts.walkCases` / `Facts.walkLoops` that harness/extract.go regenerates
(`tablePushes`, Model/AstIR.lean); harness/extract_ast.go reads the same pushes again, strictly, and
`C11_walk_tables_agree` compares the two readings.

`C11_walk_ir` relates the interpretation to `walkV`, the model's `walk` with a visitor that may look at the
node as well as at the number of the call (`walkLoopV_decide`: it is `walkLoop` when the visitor only looks
at the number; `walkV_noPanic`: no `panic` event on a `NoPanic` tree, for EVERY such visitor, where
Props/C11b.lean speaks of `walk decide`); the Go stack grows at its end, the model's at its head
(`stack.reverse`).
-/
import PqlModel.Props.C11WalkIRPushes
import PqlModel.Props.C10SpanIRNodes
namespace Pql.AstIR
open Pql
set_option linter.unusedSimpArgs false

/-- how each case of the type switch calls the visitor, in source order -/
def expectedForms : List (String × String) :=
  [("Ident", "visit"), ("QualifiedIdent", "ifvisit"), ("TabularExpr", "ifvisit"), ("TableRef", "ifvisit"),
   ("CountOperator", "visit"), ("WhereOperator", "ifvisit"), ("SortOperator", "ifvisit"), ("SortTerm", "ifvisit"),
   ("TakeOperator", "ifvisit"), ("TopOperator", "ifvisit"), ("ProjectOperator", "ifvisit"),
   ("ProjectColumn", "ifvisit"), ("ExtendOperator", "ifvisit"), ("ExtendColumn", "ifvisit"),
   ("SummarizeOperator", "ifvisit"), ("SummarizeColumn", "ifvisit"), ("JoinOperator", "ifvisit"),
   ("AsOperator", "ifvisit"), ("BinaryExpr", "ifvisit"), ("UnaryExpr", "ifvisit"), ("InExpr", "ifvisit"),
   ("ParenExpr", "ifvisit"), ("BasicLit", "visit"), ("CallExpr", "ifvisit"), ("IndexExpr", "ifvisit"),
   ("LetStatement", "ifvisit"), ("RenderOperator", "ifvisit")]

theorem C11_walk_forms : Facts.astWalkCases.map (fun c => (c.1, c.2.1)) = expectedForms := by decide +kernel

/-- the two readings of the push statements (harness/extract.go `walkCases`, harness/extract_ast.go)
    agree: every case has the pushes `Facts.walkCases` lists for its type, there are as many cases as
    table rows, and the element-wise loops are the same -/
theorem C11_walk_tables_agree :
    (Facts.astWalkCases.all fun c => Facts.walkCases.find? (·.1 == c.1) == some (c.1, c.2.2)) = true ∧
      Facts.astWalkCases.length = Facts.walkCases.length ∧ Facts.astWalkLoops = Facts.walkLoops := by decide +kernel

def visitCall : Ex := .callVar "visit" [.var "n"]

def caseBody (c : String × String) : List St :=
  if c.2 == "visit" then [.expr visitCall] else [.ite visitCall [.pushTable "stack" "n" c.1] []]

def mkCase (c : String × String) : St := .case_ c.1 (caseBody c)

def stackLen : Ex := .op2 "sub" (.len (.var "stack")) (.int "1")

def loopBody : List St :=
  [.def_ "curr" (.idx (.var "stack") stackLen), .set "stack" (.sliceTo (.var "stack") stackLen),
   .typeSwitch "n" (.var "curr") (expectedForms.map mkCase) [.panic_]]

def loopCond : Ex := .op2 "gt" (.len (.var "stack")) (.int "0")

def walkIR : List St := [.def_ "stack" (.nodesLit [.var "n"]), .while_ loopCond loopBody]

set_option maxRecDepth 20000 in
theorem walk_dec : (irOf "Walk").map (fun x => (x.1, decode x.2)) = some (["n", "visit"], some walkIR) := by rfl

def walkLoopV (v : Nat → Node → Bool) : Nat → Nat → List Node → List WalkEvent
  | 0, _, _ => [.panic]
  | _, _, [] => []
  | fuel + 1, i, n :: stack =>
    match n with
    | .expr .nil => [.panic]
    | _ =>
      if v i n then
        match n.children with
        | some kids => eventOf n :: walkLoopV v fuel (i + 1) (kids ++ stack)
        | none => [eventOf n, .panic]
      else eventOf n :: walkLoopV v fuel (i + 1) stack

/-- `Walk(n, visit)` -/
def walkV (v : Nat → Node → Bool) (n : Node) : List WalkEvent := walkLoopV v (n.size + 1) 0 [n]

theorem walkLoopV_cons (v : Nat → Node → Bool) (fuel i : Nat) (n : Node) (stack : List Node) (hn : n ≠ .expr .nil) :
    walkLoopV v (fuel + 1) i (n :: stack) =
      if v i n then
        match n.children with
        | some kids => eventOf n :: walkLoopV v fuel (i + 1) (kids ++ stack)
        | none => [eventOf n, .panic]
      else eventOf n :: walkLoopV v fuel (i + 1) stack := by
  rw [walkLoopV]
  · exact hn

theorem walkLoopV_decide (decide : Nat → Bool) (fuel i : Nat) (stack : List Node) :
    walkLoopV (fun i _ => decide i) fuel i stack = walkLoop decide fuel i stack := by
  fun_induction walkLoopV (fun i _ => decide i) fuel i stack with
  | case1 | case2 | case3 => simp [walkLoop]
  | case4 fuel i n stack hv kids hc hn ih => simp only [walkLoop_cons _ _ _ _ _ hn, hv, hc, ih, if_true]
  | case5 fuel i n stack hv hc hn => simp only [walkLoop_cons _ _ _ _ _ hn, hv, hc, if_true]
  | case6 fuel i n stack hv hn ih => simp only [walkLoop_cons _ _ _ _ _ hn, hv, ih, Bool.false_eq_true, if_false]

theorem walkV_decide (decide : Nat → Bool) (n : Node) : walkV (fun i _ => decide i) n = walk decide n :=
  walkLoopV_decide decide _ _ _

theorem walkLoopV_noPanic (v : Nat → Node → Bool) (fuel i : Nat) (stack : List Node) (hs : ∀ n ∈ stack, NoPanic n)
    (hf : totalSize stack < fuel) : WalkEvent.panic ∉ walkLoopV v fuel i stack := by
  fun_induction walkLoopV v fuel i stack with
  | case1 => omega
  | case2 => simp
  | case3 => exact absurd rfl (hs _ (List.mem_cons_self ..)).ne_nil
  | case4 fuel i n stack hv kids hc hn ih =>
    have hk := (noPanic_iff_kids hc).1 (hs n (List.mem_cons_self ..))
    have := children_size n kids hc
    simp only [totalSize_cons] at hf
    simp only [hv, hc, if_true, List.mem_cons, not_or]
    exact ⟨fun e => eventOf_ne_panic n e.symm,
      ih (fun m hm => (List.mem_append.1 hm).elim (hk m) fun h => hs m (List.mem_cons_of_mem _ h))
        (by simp only [totalSize_append]; omega)⟩
  | case5 fuel i n stack hv hc hn =>
    obtain ⟨kids, hc', -⟩ := (hs n (List.mem_cons_self ..)).children
    rw [hc] at hc'; cases hc'
  | case6 fuel i n stack hv hn ih =>
    have : 0 < n.size := gsize_pos (.node n)
    simp only [totalSize_cons] at hf
    simp only [hv, Bool.false_eq_true, ↓reduceIte, List.mem_cons, not_or]
    exact ⟨fun e => eventOf_ne_panic n e.symm, ih (fun m hm => hs m (List.mem_cons_of_mem _ hm)) (by omega)⟩

theorem walkV_noPanic (v : Nat → Node → Bool) (n : Node) (h : NoPanic n) : WalkEvent.panic ∉ walkV v n :=
  walkLoopV_noPanic v (n.size + 1) 0 [n] (by simpa using h) (by simp)

def env0 (root : Val) (st : List GNode) : Env := [("stack", .nodes st), ("n", root), ("visit", .fn)]

/-- `curr := stack[len(stack)-1]` -/
theorem pop1 (sem : Sem) (root : Val) (st : List GNode) (g : GNode) :
    exec sem (.def_ "curr" (.idx (.var "stack") stackLen)) (env0 root (st ++ [g])) =
      pure (.next, ("curr", .node g) :: env0 root (st ++ [g])) := by
  have h0 : ¬ ((st.length : Int) < 0) := by omega
  ir_simp [env0, stackLen]
  simp [h0, pure_bind]

/-- `stack = stack[:len(stack)-1]` -/
theorem pop2 (sem : Sem) (root : Val) (st : List GNode) (g : GNode) :
    exec sem (.set "stack" (.sliceTo (.var "stack") stackLen)) (("curr", .node g) :: env0 root (st ++ [g])) =
      pure (.next, ("curr", .node g) :: env0 root st) := by
  have h0 : ¬ ((st.length : Int) < 0) := by omega
  have h1 : (st.length : Int) ≤ st.length + 1 := by omega
  ir_simp [env0, stackLen]
  simp [h0, h1, pure_bind]

def World.visit (w : World) (x : Node) : World := ⟨w.calls + 1, w.events ++ [eventOf x]⟩

theorem visit_eval (v : Nat → Node → Bool) (F : Nat) (x : Node) (rest : Env) (w : World) :
    eval (walkSem v F) (("n", .node (.node x)) :: rest) visitCall w = .ok (.bool (v w.calls x)) (w.visit x) := rfl

theorem execCases_map (sem : Sem) (ty : Option String) (env : Env) : ∀ forms : List (String × String),
    execCases sem ty (forms.map mkCase) env =
      match forms.find? (fun c => ty == some c.1) with
      | some c => execBlock sem (caseBody c) env >>= fun r => pure (some r)
      | none => pure none
  | [] => rfl
  | c :: forms => by
    simp only [List.map_cons, mkCase, execCases, List.find?]
    cases h : (ty == some c.1) <;> simp [h, execCases_map sem ty env forms, mkCase]

def envIn (root : Val) (st : List GNode) (x : Node) : Env :=
  ("n", .node (.node x)) :: ("curr", .node (.node x)) :: env0 root st

theorem case_visit (v : Nat → Node → Bool) (F : Nat) (root : Val) (st : List GNode) (x : Node) (w : World) (ty : String) :
    execBlock (walkSem v F) (caseBody (ty, "visit")) (envIn root st x) w = .ok (.next, envIn root st x) (w.visit x) := rfl

theorem case_ifvisit (v : Nat → Node → Bool) (F : Nat) (root : Val) (st : List GNode) (x : Node) (w : World) (ty : String)
    (hty : (GNode.node x).goType = some ty) :
    execBlock (walkSem v F) (caseBody (ty, "ifvisit")) (envIn root st x) w =
      if v w.calls x then
        match pushesOf x (w.visit x) with
        | .ok new w2 => .ok (.next, envIn root (st ++ new) x) w2
        | .panic w2 => .panic w2
        | .stuck => .stuck
      else .ok (.next, envIn root st x) (w.visit x) := by
  have hb : caseBody (ty, "ifvisit") = [.ite visitCall [.pushTable "stack" "n" ty] []] := rfl
  rw [hb]
  simp only [execBlock, exec, bind, M.bind, envIn, visit_eval]
  cases hv : v w.calls x
  · rfl
  · simp only [pushesOf, hty, if_true]
    cases hf : List.find? (fun x => x.fst == ty) Facts.walkCases with
    | none => simp [leaveM, AstIR.get, env0, List.find?, bind, M.bind, pure, M.pure, stuck, hf]
    | some c =>
      obtain ⟨t, pushes⟩ := c
      cases ht : tablePushes ty pushes (.node x) (w.visit x) <;>
        simp [leaveM, AstIR.get, env0, List.find?, bind, M.bind, pure, M.pure, stuck, assignIn, leaveTo, hf, ht]

def formOf (x : Node) : Option (String × String) :=
  expectedForms.find? (fun c => (GNode.node x).goType == some c.1)

/-- the row of `expectedForms` for one node form, found by evaluating the `find?` -/
syntax "form_case" : tactic
macro_rules
  | `(tactic| form_case) =>
    `(tactic| exact ⟨_, rfl, by simp [formOf, expectedForms, GNode.goType, List.find?, Node.children]⟩)

theorem formOf_cases : (x : Node) → x ≠ .expr .nil → ∃ ty, (GNode.node x).goType = some ty ∧
    ((formOf x = some (ty, "visit") ∧ x.children = some []) ∨ formOf x = some (ty, "ifvisit"))
  | .ident _, _ => by form_case
  | .expr .nil, h => absurd rfl h
  | .expr (.qident ..), _ | .expr (.lit ..), _ | .expr (.unary ..), _ | .expr (.binary ..), _
  | .expr (.inE ..), _ | .expr (.paren ..), _ | .expr (.call ..), _ | .expr (.index ..), _ => by form_case
  | .tabular _, _ | .tableRef _, _ | .sortTerm _, _ | .letStmt .., _ => by form_case
  | .op (.count ..), _ | .op (.where_ ..), _ | .op (.sort ..), _ | .op (.take ..), _ | .op (.top ..), _
  | .op (.project ..), _ | .op (.extend ..), _ | .op (.summarize ..), _ | .op (.join ..), _ | .op (.as_ ..), _
  | .op (.render ..), _ => by form_case
  | .column .project _, _ | .column .extend _, _ | .column .summarize _, _ => by form_case

theorem switch_eq (sem : Sem) (x : Node) (rest : Env) :
    exec sem (.typeSwitch "n" (.var "curr") (expectedForms.map mkCase) [.panic_]) (("curr", .node (.node x)) :: rest) =
      match formOf x with
      | some c => do
        let r ← execBlock sem (caseBody c) (("n", .node (.node x)) :: ("curr", .node (.node x)) :: rest)
        pure (r.1, leaveTo (("curr", .node (.node x)) :: rest) r.2)
      | none => goPanic := by
  simp only [exec, eval, AstIR.get, List.find?, beq_self_eq_true, pure_bind, execCases_map, formOf]
  cases expectedForms.find? (fun c => (GNode.node x).goType == some c.1) with
  | none => simp [pure_bind, leaveM, execBlock, exec, panic_bind]
  | some c => simp [bind_assoc', pure_bind]

theorem formOf_nil : formOf (.expr .nil) = none := by
  simp [formOf, expectedForms, GNode.goType, List.find?]

/-- popping the nil interface: no case matches, the default case panics (the visitor is not called) -/
theorem iter_nil (v : Nat → Node → Bool) (F : Nat) (root : Val) (st : List GNode) (w : World) :
    execBlock (walkSem v F) loopBody (env0 root (st ++ [.node (.expr .nil)])) w = .panic w := by
  simp only [loopBody, execBlock, pop1, pop2, pure_bind, switch_eq, formOf_nil, panic_bind]
  rfl

theorem iter_cons (v : Nat → Node → Bool) (F : Nat) (root : Val) (st : List GNode) (x : Node) (w : World)
    (hn : x ≠ .expr .nil) :
    execBlock (walkSem v F) loopBody (env0 root (st ++ [.node x])) w =
      if v w.calls x then
        match x.children with
        | some kids => .ok (.next, ("curr", .node (.node x)) :: env0 root (st ++ kids.reverse.map .node)) (w.visit x)
        | none => .panic (w.visit x)
      else .ok (.next, ("curr", .node (.node x)) :: env0 root st) (w.visit x) := by
  simp only [loopBody, execBlock, pop1, pop2, pure_bind, switch_eq]
  obtain ⟨ty, hty, hf⟩ := formOf_cases x hn
  rcases hf with ⟨hf, hc⟩ | hf
  · simp only [hf, hc, bind, M.bind]
    rw [show (("n", Val.node (GNode.node x)) :: ("curr", Val.node (GNode.node x)) :: env0 root st) = envIn root st x from rfl,
      case_visit]
    cases v w.calls x <;> simp [pure, M.pure, envIn, env0, leaveTo]
  · simp only [hf, bind, M.bind]
    rw [show (("n", Val.node (GNode.node x)) :: ("curr", Val.node (GNode.node x)) :: env0 root st) = envIn root st x from rfl,
      case_ifvisit _ _ _ _ _ _ _ hty, pushesOf_eq x hn]
    cases v w.calls x
    · simp [pure, M.pure, envIn, env0, leaveTo]
    · cases x.children <;> simp [pure, M.pure, goPanic, envIn, env0, leaveTo]

/-- what a run of the loop shows: its events, with a final `.panic` if it panicked; `none` if it is stuck or did not end
    by falling out of the loop -/
def summ : Out (Ctl × Env) → Option (List WalkEvent)
  | .ok (.next, _) w => some w.events
  | .panic w => some (w.events ++ [.panic])
  | _ => none

theorem cond_eval (sem : Sem) (root : Val) (st : List GNode) :
    eval sem (env0 root st) loopCond = pure (.bool (decide (0 < st.length))) := by
  ir_simp [loopCond, env0]
  simp

theorem leaveTo_env0 (root : Val) (a b : List GNode) (c : String × Val) :
    leaveTo (env0 root a) (c :: env0 root b) = env0 root b := by simp [leaveTo, env0]

theorem loop_eq (v : Nat → Node → Bool) (F : Nat) (root : Val) : ∀ (fuel : Nat) (stack : List Node) (w : World),
    totalSize stack < fuel →
    summ (whileLoop (fun env => eval (walkSem v F) env loopCond) (execBlock (walkSem v F) loopBody) fuel
        (env0 root (stack.reverse.map .node)) w) = some (w.events ++ walkLoopV v fuel w.calls stack)
  | 0, _, _, h => by omega
  | fuel + 1, [], w, _ => by
    simp only [List.reverse_nil, List.map_nil, whileLoop, cond_eval, List.length_nil, Nat.lt_irrefl, decide_false, pure_bind]
    simp [summ, walkLoopV, pure, M.pure]
  | fuel + 1, x :: stack, w, h => by
    have hpos : decide (0 < ((stack.reverse.map GNode.node) ++ [GNode.node x]).length) = true := by simp
    have hst : (x :: stack).reverse.map GNode.node = stack.reverse.map GNode.node ++ [GNode.node x] := by simp
    simp only [totalSize_cons] at h
    have hx : 0 < x.size := gsize_pos (.node x)
    rw [hst]
    simp only [whileLoop, cond_eval, hpos, pure_bind]
    by_cases hn : x = .expr .nil
    · subst hn
      simp only [bind, M.bind, iter_nil]
      simp [summ, walkLoopV]
    · simp only [bind, M.bind, iter_cons _ _ _ _ _ _ hn, walkLoopV_cons _ _ _ _ _ hn]
      cases hv : v w.calls x
      · have ih := loop_eq v F root fuel stack (w.visit x) (by omega)
        simp only [Bool.false_eq_true, if_false]
        rw [leaveTo_env0, ih]
        simp [World.visit]
      · simp only [if_true]
        cases hc : x.children with
        | none => simp [summ, World.visit]
        | some kids =>
          have hsz := children_size x kids hc
          have ih := loop_eq v F root fuel (kids ++ stack) (w.visit x) (by simp only [totalSize_append]; omega)
          have hr : stack.reverse.map GNode.node ++ kids.reverse.map GNode.node = (kids ++ stack).reverse.map GNode.node := by
            simp
          simp only []
          rw [leaveTo_env0, hr, ih]
          simp [World.visit]

/-- **`Walk` is translated code**: for every tree and every visitor — its answer may depend on the number of
    the call and on the node — the interpretation of the regenerated loop (pop, type switch, visitor call,
    pushes from the regenerated per-type tables, default panic) produces exactly the events of the model,
    a final `panic` included -/
theorem C11_walk_ir (v : Nat → Node → Bool) (n : Node) : (interpWalk v n).trace = some (walkV v n) := by
  unfold interpWalk
  rw [runUnit_eq walk_dec]
  have hl := loop_eq v (n.size + 1) (.node (.node n)) (n.size + 1) [n] ⟨0, []⟩ (by simp)
  simp only [List.reverse_cons, List.reverse_nil, List.nil_append, List.map_cons, List.map_nil, List.nil_append] at hl
  have h1 : exec (walkSem v (n.size + 1)) (.def_ "stack" (.nodesLit [.var "n"]))
      [("n", .node (.node n)), ("visit", .fn)] = pure (.next, env0 (.node (.node n)) [.node n]) := by
    ir_simp [env0, asNodes]
  have h2 : exec (walkSem v (n.size + 1)) (.while_ loopCond loopBody) (env0 (.node (.node n)) [.node n]) =
      whileLoop (fun env => eval (walkSem v (n.size + 1)) env loopCond) (execBlock (walkSem v (n.size + 1)) loopBody)
        (n.size + 1) (env0 (.node (.node n)) [.node n]) := rfl
  simp only [walkIR, List.length_cons, List.length_nil, beq_self_eq_true, if_true, List.zip_cons_cons, List.zip_nil_right,
    execBlock, h1, pure_bind, h2]
  simp only [bind, M.bind]
  revert hl
  cases whileLoop (fun env => eval (walkSem v (n.size + 1)) env loopCond) (execBlock (walkSem v (n.size + 1)) loopBody)
      (n.size + 1) (env0 (.node (.node n)) [.node n]) ⟨0, []⟩ with
  | stuck => simp [summ]
  | panic w => simp [summ, Out.trace, walkV]
  | ok r w =>
    obtain ⟨c, e⟩ := r
    cases c <;> simp [summ, Out.trace, walkV, finish, pure, M.pure]

/-- **`Walk` is translated code, for the model's own visitors** (`decide i` = the answer to the `i`-th
    call): the events the interpretation of the regenerated loop produces are the model's `walk` -/
theorem C11_walk_ir_model (decide : Nat → Bool) (n : Node) :
    (interpWalk (fun i _ => decide i) n).trace = some (walk decide n) := by
  rw [C11_walk_ir, walkV_decide]

/-- with the recursive pre-order of C11b: on a tree without nil in a required position the regenerated
    loop visits exactly the pre-order with pruning -/
theorem C11_walk_ir_preorder (decide : Nat → Bool) (n : Node) (h : NoPanic n) :
    (interpWalk (fun i _ => decide i) n).trace = some (preNode decide 0 n).1 := by
  rw [C11_walk_ir_model]
  unfold walk
  rw [walkLoop_eq_preList decide (n.size + 1) 0 [n] (by simpa using h) (by simp), preList_singleton]

/-- the nil interface as the root: the default case panics before the visitor is called -/
example (v : Nat → Node → Bool) : (interpWalk v (.expr .nil)).trace = some [.panic] := by
  rw [C11_walk_ir]; rfl

/-- a concrete run, computed by the interpreter itself: `a + 1` with a visitor that refuses the
    BinaryExpr's first child visits the root, `a` (not its part) and `1` -/
example :
    (interpWalk (fun i _ => i != 1)
      (.expr (.binary (.qident [⟨[97], ⟨0, 1⟩, false⟩]) ⟨2, 3⟩ .plus (.lit ⟨4, 5⟩ .number [49])))).trace =
      some [.visit "BinaryExpr" ⟨0, 5⟩, .visit "QualifiedIdent" ⟨0, 1⟩, .visit "BasicLit" ⟨4, 5⟩] := by
  rw [C11_walk_ir]; decide +kernel

end Pql.AstIR
