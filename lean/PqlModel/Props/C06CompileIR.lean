/-
Property C06 (and C13), tie by translation: the front part of `(*CompileOptions).Compile`.

`harness/extract_expr.go` regenerates an IR of `Compile` from its start up to the call of `splitQueries`
(unit `Compile:pre` of `Facts.exprIR`): `parser.Parse`, the fresh scope map with the copy loop over
`opts.Parameters`, the statement loop with its type switch (`*parser.TabularExpr`: "batch queries not
supported"; `*parser.LetStatement`: lets after the query skipped, a let-mode context, `writeExpressionTight`,
the value stored into the scope; default), "missing tabular queries", `splitQueries(nil, source, scope, expr)`.
`Model/ExprIR.lean` interprets it.  This file proves that the hand-written model is that interpretation, piece by
piece: the copy loop builds the model's initial scope (`C06_paramCopy_ir`; Go leaves the order of a map range open, and
any order gives the same lookups, `C06_paramCopy_order`), the statement loop is `compileStmts` (`C06_compileStmts_ir`;
statements that are a nil `*TabularExpr` excepted, which the parser never builds), then the whole front part
(`C06_compilePre_ir`) and `Compile` itself, the front part followed by the statement assembly of `Facts.writeIR`
(`WriteIR.interpAssembly`, C05): for every visiting order the model's `compile` on the parameters so rearranged
(`interpCompile_eq`), in list order the model's `compile` (`C06_compile_ir`).  `parser.Parse`, `splitQueries` and
`(*subquery).write` enter as the model's functions (`parseModel`, `splitModel`, `WriteIR.modelSem`); their own
regenerated bodies are the subject of C07, `C02_split_ir` and `C05_write_ir`.
-/
import PqlModel.Props.C01WriteExprIRAll
import PqlModel.Props.C05WriteIRStmt
import PqlModel.Props.C11b
import PqlModel.Lemmas.StmtLoop
namespace Pql.ExprIR
open Pql
open Pql.WriteIR (M IErr liftW goPanic stuck Path)
set_option linter.unusedSimpArgs false

def Stm (f : String) : Path := ⟨"stmt", f⟩
def ExprV : Path := ⟨"expr", ""⟩

def copyBody : List Stmt := [.mapSetPath "scope" ⟨"k", ""⟩ ⟨"v", ""⟩]

def letBody : List Stmt :=
  [.ite (.notNil ExprV) [.continue_] [],
   .ctx "ctx" "source" "scope" "letExprMode",
   .newSb "sb",
   .write "tight" (Stm "X"),
   .mapSetSb "scope" (Stm "Name.Name") "sb"]

def tabBody : List Stmt :=
  [.ite (.notNil ExprV) [.retErr "source" "stmt.Span()" "batch queries not supported"] [],
   .set "expr" (Stm "")]

def loopBody : List Stmt :=
  [.ite (.typeIs "stmt" "TabularExpr" (Stm "")) tabBody
     [.ite (.typeIs "stmt" "LetStatement" (Stm "")) letBody
        [.retErr "source" "stmt.Span()" "unhandled %T statement"]]]

def headIR : List Stmt := [.tryParse "stmts" "source", .varNil "expr" "*parser.TabularExpr", .makeMap "scope"]

def copyStmt : Stmt := .ite (.notNil ⟨"opts", ""⟩) [.forMap "k" "v" ⟨"opts", "Parameters"⟩ copyBody] []

def postIR : List Stmt :=
  [.ite (.isNil ExprV) [.errorf "missing tabular queries"] [], .trySplit "subqueries" "source" "scope" "expr"]

/-- the unit, cut where its proof is: the statements up to the fresh map, the copy loop, the statement loop, the rest -/
def compilePreIR : List Stmt := headIR ++ copyStmt :: .for_ "_" "stmt" ⟨"stmts", ""⟩ loopBody :: postIR

/-- what the translator regenerates for the front part of `Compile` -/
theorem compilePre_ir : decode (irOf "Compile:pre") = some compilePreIR := by rfl

/-- the variables of `Compile` once `scope` is declared -/
def cV (sc : List (Bytes × List Chunk)) (t : Tabular) (l : List Pql.Stmt) (o : Option (List (Bytes × Bytes)))
    (src : Bytes) : List (String × Val) :=
  [("scope", .scope sc), ("expr", .tab t), ("stmts", .stmts l), ("opts", .opts o), ("source", .str src)]

/-- the Go variable `expr` for the model's optional query -/
def tOf : Option Tabular → Tabular
  | none => .nil
  | some t => t

def scopeEntry (kv : Bytes × Bytes) : Bytes × List Chunk := (kv.1, [Chunk.raw kv.2])

theorem copy_loop (sem : Sem) (l : List Pql.Stmt) (o : Option (List (Bytes × Bytes))) (src : Bytes) :
    ∀ (ps : List (Bytes × Bytes)) (sc : List (Bytes × List Chunk)) (out : List Chunk),
      forEntries "k" "v" (execBlock sem copyBody) ps ⟨cV sc .nil l o src, out⟩ =
        .ok (.next, ⟨cV (ps.reverse.map scopeEntry ++ sc) .nil l o src, out⟩)
  | [], sc, out => by simp [forEntries]
  | kv :: ps, sc, out => by
    have ih := copy_loop sem l o src ps (scopeEntry kv :: sc) out
    rw [forEntries]
    have hb : execBlock sem copyBody (((⟨cV sc .nil l o src, out⟩ : State).declare "k" (.str kv.1)).declare "v" (.str kv.2)) =
        .ok (.next, ⟨("v", .str kv.2) :: ("k", .str kv.1) :: cV (scopeEntry kv :: sc) .nil l o src, out⟩) := by
      xe_simp [copyBody, cV, scopeEntry]
    rw [hb]
    simp only [bind_ok]
    rw [leave_two, ih]
    · simp [List.reverse_cons, List.map_append, List.append_assoc]
    · rfl

/-- **the copy loop over `opts.Parameters` is translated code**: visiting the entries in the order `sem.mapOrder ps`, it
    leaves in the fresh map one entry per parameter, the first visited innermost -/
theorem C06_paramCopy_ir (sem : Sem) (l : List Pql.Stmt) (ps : List (Bytes × Bytes)) (src : Bytes) (out : List Chunk) :
    exec sem copyStmt ⟨cV [] .nil l (some ps) src, out⟩ =
      .ok (.next, ⟨cV ((sem.mapOrder ps).reverse.map scopeEntry) .nil l (some ps) src, out⟩) := by
  have h := copy_loop sem l (some ps) src (sem.mapOrder ps) [] out
  simp only [List.append_nil] at h
  rw [copyStmt, exec]
  simp only [evalCond, State.get, cV, List.find?, nilAt, bind_ok, pure_ok, Option.isNone,
    show (("scope" : String) == "opts") = false by decide, show (("expr" : String) == "opts") = false by decide,
    show (("stmts" : String) == "opts") = false by decide, show (("opts" : String) == "opts") = true by decide]
  simp only [cV] at h
  xe_simp [h]

theorem C06_paramCopy_nil (sem : Sem) (l : List Pql.Stmt) (src : Bytes) (out : List Chunk) :
    exec sem copyStmt ⟨cV [] .nil l none src, out⟩ = .ok (.next, ⟨cV [] .nil l none src, out⟩) := by
  xe_simp [copyStmt, cV]

/-- Go leaves the order of `range` over a map unspecified; the keys of a map are distinct, so every order
    yields a scope with the same lookups -/
theorem C06_paramCopy_order (ps qs : List (Bytes × Bytes)) (hp : ps.Perm qs) (hd : (ps.map (·.1)).Nodup) (name : Bytes) :
    lookupScope (ps.map scopeEntry) name = lookupScope (qs.map scopeEntry) name := by
  unfold lookupScope
  induction hp with
  | nil => rfl
  | @cons x l₁ l₂ _ ih =>
    have hd' : (l₁.map (·.1)).Nodup := by
      simp only [List.map_cons, List.nodup_cons] at hd
      exact hd.2
    simp only [List.map_cons, List.find?_cons]
    cases (scopeEntry x).1 == name
    · exact ih hd'
    · rfl
  | swap x y l =>
    have hne : y.1 ≠ x.1 := by
      simp only [List.map_cons, List.nodup_cons, List.mem_cons, not_or] at hd
      exact hd.1.1
    simp only [List.map_cons, List.find?_cons]
    cases hy : (scopeEntry y).1 == name <;> cases hx : (scopeEntry x).1 == name
    · rfl
    · rfl
    · rfl
    · exfalso
      have h1 : y.1 = name := by simpa [scopeEntry] using hy
      have h2 : x.1 = name := by simpa [scopeEntry] using hx
      exact hne (h1.trans h2.symm)
  | trans h1 h2 ih1 ih2 =>
    rw [ih1 hd, ih2 ((h1.map _).nodup_iff.1 hd)]

/-- the callees the loop needs: `writeExpressionTight` in let mode -/
def TightOK (sem : Sem) (src : Bytes) : Prop :=
  ∀ sc e, sem.tight ⟨src, sc, .let_⟩ e = liftW ((writeExpr ⟨src, sc, .let_⟩ e).map (wrapTight e))

/-- one statement: the body of the loop against `compileStmts` on that statement -/
theorem stmt_step (sem : Sem) (src : Bytes) (ht : TightOK sem src) (l : List Pql.Stmt) (o : Option (List (Bytes × Bytes)))
    (s : Pql.Stmt) (sc : List (Bytes × List Chunk)) (q : Option Tabular) (hq : q ≠ some .nil) (hs : s ≠ .tabular .nil)
    (out : List Chunk) :
    match compileStmts src [s] sc q with
    | .error e => execBlock sem loopBody ⟨("stmt", .stmt s) :: cV sc (tOf q) l o src, out⟩ = .error (.go e)
    | .ok r => r.2 ≠ some .nil ∧ ∃ f out', (f = .next ∨ f = .cont) ∧
        execBlock sem loopBody ⟨("stmt", .stmt s) :: cV sc (tOf q) l o src, out⟩ =
          .ok (f, ⟨("stmt", .stmt s) :: cV r.1 (tOf r.2) l o src, out'⟩) := by
  cases s with
  | tabular t =>
    cases q with
    | none =>
      cases t with
      | nil => exact absurd rfl hs
      | mk source ops =>
        refine ⟨by simp, .next, out, Or.inl rfl, ?_⟩
        xe_simp [loopBody, tabBody, Stm, ExprV, cV, tOf]
    | some t' =>
      cases t' with
      | nil => exact absurd rfl hq
      | mk source ops =>
        show execBlock _ _ _ = _
        xe_simp [loopBody, tabBody, Stm, ExprV, cV, tOf]
  | let_ kw name asg x =>
    cases q with
    | some t' =>
      cases t' with
      | nil => exact absurd rfl hq
      | mk source ops =>
        refine ⟨by simp, .cont, out, Or.inr rfl, ?_⟩
        xe_simp [loopBody, letBody, Stm, ExprV, cV, tOf, compileStmts]
    | none =>
      have htx := ht sc x
      simp only [compileStmts]
      xe_simp [loopBody, letBody, Stm, ExprV, cV, tOf, htx]
      generalize Except.map (wrapTight x) (writeExpr ⟨src, sc, .let_⟩ x) = w
      cases w with
      | error e => rfl
      | ok sql =>
        cases name with
        | none => rfl
        | some n => exact ⟨by simp, .next, sql, Or.inl rfl, rfl⟩

theorem stmts_loop (sem : Sem) (src : Bytes) (ht : TightOK sem src) (l : List Pql.Stmt) (o : Option (List (Bytes × Bytes))) :
    ∀ (stmts : List Pql.Stmt) (i : Nat) (sc : List (Bytes × List Chunk)) (q : Option Tabular) (out : List Chunk),
      (∀ s ∈ stmts, s ≠ .tabular .nil) → q ≠ some .nil →
      match compileStmts src stmts sc q with
      | .error e => forEach "_" "stmt" (execBlock sem loopBody) i (stmts.map .stmt) ⟨cV sc (tOf q) l o src, out⟩ = .error (.go e)
      | .ok r => r.2 ≠ some .nil ∧
          ∃ out', forEach "_" "stmt" (execBlock sem loopBody) i (stmts.map .stmt) ⟨cV sc (tOf q) l o src, out⟩ =
            .ok (.next, ⟨cV r.1 (tOf r.2) l o src, out'⟩)
  | [], i, sc, q, out, _, hq => by simp [compileStmts, forEach, hq]
  | s :: rest, i, sc, q, out, hs, hq => by
    have h1 := stmt_step sem src ht l o s sc q hq (hs s (List.mem_cons_self ..)) out
    rw [show compileStmts src (s :: rest) sc q = _ from compileStmts_append src rest [s] sc q]
    simp only [List.map_cons, forEach, State.declare, show (("_" : String) == "_") = true by decide,
      show (("stmt" : String) == "_") = false by decide, ↓reduceIte, Bool.false_eq_true]
    cases hc : compileStmts src [s] sc q with
    | error e =>
      rw [hc] at h1
      simp only [bind_err]
      rw [h1]; rfl
    | ok r =>
      rw [hc] at h1
      obtain ⟨hq', f, out', hf, hb⟩ := h1
      have ih := stmts_loop sem src ht l o rest (i + 1) r.1 r.2 out' (fun s' hs' => hs s' (List.mem_cons_of_mem _ hs')) hq'
      simp only [bind_ok]
      rw [hb]
      simp only [bind_ok]
      rcases hf with rfl | rfl <;> exact ih

/-- `parser.Parse`: the statements, or an error -/
def parseModel (src : Bytes) : Option (List Pql.Stmt) :=
  if (parse src).2.isEmpty then some (parse src).1 else none

/-- `splitQueries(nil, source, scope, expr)` (tied to its own regenerated IR by `C02_split_ir`) -/
def splitModel (src : Bytes) (sc : List (Bytes × List Chunk)) (t : Tabular) : M (List Subquery) :=
  liftW (splitQueries src sc [] t)

/-- the callees of `Compile`: the expression writers interpreted from their regenerated bodies -/
def theSem (ord : List (Bytes × Bytes) → List (Bytes × Bytes)) : Sem := compileSem parseModel splitModel ord

theorem theSem_tight (ord) : (theSem ord).tight = interpWriteTight := by rw [theSem, compileSem]
theorem theSem_order (ord) : (theSem ord).mapOrder = ord := rfl

theorem tightOK (ord : List (Bytes × Bytes) → List (Bytes × Bytes)) (src : Bytes) : TightOK (theSem ord) src := by
  intro sc e
  rw [theSem_tight]
  exact C01_writeTight_ir ⟨src, sc, .let_⟩ e (fun h => by cases h)

/-- **C06 (the statement loop of `Compile` is translated code).**  For every list of statements (none of them a
    nil `*TabularExpr`), every scope and every query found so far, the interpretation of the regenerated loop —
    with the interpretation of `writeExpressionTight` and everything below it as the callee — ends in the error
    of the model's `compileStmts`, or leaves in `scope` and `expr` what `compileStmts` returns -/
theorem C06_compileStmts_ir (ord : List (Bytes × Bytes) → List (Bytes × Bytes)) (src : Bytes) (l : List Pql.Stmt)
    (o : Option (List (Bytes × Bytes))) (stmts : List Pql.Stmt) (sc : List (Bytes × List Chunk)) (q : Option Tabular)
    (out : List Chunk) (hs : ∀ s ∈ stmts, s ≠ .tabular .nil) (hq : q ≠ some .nil) :
    (forEach "_" "stmt" (execBlock (theSem ord) loopBody) 0 (stmts.map .stmt) ⟨cV sc (tOf q) l o src, out⟩).map
        (fun r => (r.1, r.2.vars)) =
      liftW ((compileStmts src stmts sc q).map fun r => (Flow.next, cV r.1 (tOf r.2) l o src)) := by
  have h := stmts_loop (theSem ord) src (tightOK ord src) l o stmts 0 sc q out hs hq
  cases hc : compileStmts src stmts sc q with
  | error e => rw [hc] at h; rw [h]; rfl
  | ok r =>
    rw [hc] at h
    obtain ⟨_, out', h⟩ := h
    rw [h]; rfl

/-- the side condition is needed: on a nil `*TabularExpr` statement Go's `expr != nil` stays false (a second
    query is then accepted, or "missing tabular queries" reported), the model counts it as the query -/
theorem C06_compileStmts_ir_needs_tab :
    (forEach "_" "stmt" (execBlock (theSem List.reverse) loopBody) 0 ([Pql.Stmt.tabular .nil].map .stmt)
        ⟨cV [] .nil [] none [], []⟩).map (fun r => (r.1, r.2.vars)) = .ok (.next, cV [] .nil [] none []) ∧
    (compileStmts [] [.tabular .nil] [] none).map (fun r => r.2) = .ok (some .nil) := by
  constructor <;> rfl

/-- non-vacuity: `let x = -1; T` -/
theorem C06_compileStmts_ir_nonvacuous :
    let stmts : List Pql.Stmt := [.let_ .zero (some ⟨[120], .zero, false⟩) .zero (.unary .zero .minus (.lit .zero .number [49])),
      .tabular (.mk (some ⟨[84], .zero, false⟩) .nil)]
    (∀ s ∈ stmts, s ≠ .tabular .nil) ∧
    (compileStmts [] stmts [] none).map (fun r => r.1) = .ok [([120], [.txt "(", .txt "-", .num [49], .txt ")"])] := by
  constructor
  · intro s hs
    simp at hs
    rcases hs with rfl | rfl <;> simp
  · rfl

def scope0 (ord : List (Bytes × Bytes) → List (Bytes × Bytes)) : Option (List (Bytes × Bytes)) → List (Bytes × List Chunk)
  | none => []
  | some ps => (ord ps).reverse.map scopeEntry

def finishPre : Flow × State → M (List (Bytes × List Chunk) × List Subquery)
  | (.next, st) => do
    match ← st.get "scope", ← st.get "subqueries" with
    | .scope sc, .subs l => pure (sc, l)
    | _, _ => stuck
  | _ => stuck

theorem interpCompilePre_eq (sem : Sem) (opts : Option (List (Bytes × Bytes))) (src : Bytes) :
    interpCompilePre sem opts src =
      execBlock sem compilePreIR ⟨[("opts", .opts opts), ("source", .str src)], []⟩ >>= finishPre := by
  unfold interpCompilePre
  rw [compilePre_ir]
  simp only []
  cases execBlock sem compilePreIR ⟨[("opts", .opts opts), ("source", .str src)], []⟩ with
  | error e => rfl
  | ok r => obtain ⟨f, st⟩ := r; cases f <;> rfl

theorem post_eq (ord : List (Bytes × Bytes) → List (Bytes × Bytes)) (src : Bytes) (l : List Pql.Stmt)
    (o : Option (List (Bytes × Bytes))) (sc : List (Bytes × List Chunk)) (q : Option Tabular) (hq : q ≠ some .nil)
    (out : List Chunk) :
    execBlock (theSem ord) postIR ⟨cV sc (tOf q) l o src, out⟩ >>= finishPre =
      liftW (match q with
        | none => .error .err
        | some t => (splitQueries src sc [] t).map fun subs => (sc, subs)) := by
  cases q with
  | none => xe_simp [postIR, ExprV, cV, tOf]
  | some t =>
    cases t with
    | nil => exact absurd rfl hq
    | mk source ops =>
      cases hsq : splitQueries src sc [] (.mk source ops) <;>
        xe_simp [postIR, ExprV, cV, tOf, theSem, compileSem, splitModel, noSem, hsq, finishPre, Except.map]

theorem pre_parse_error (ord : List (Bytes × Bytes) → List (Bytes × Bytes)) (opts : Option (List (Bytes × Bytes)))
    (src : Bytes) (hp : (parse src).2.isEmpty = false) : interpCompilePre (theSem ord) opts src = .error (.go .err) := by
  rw [interpCompilePre_eq]
  xe_simp [compilePreIR, headIR, theSem, compileSem, parseModel, noSem, hp]

/-- **C06 (the front part of `Compile` is translated code).**  For every options value (nil or not), every
    parameter list and every source whose statements contain no nil `*TabularExpr` (the parser never builds
    one): the interpretation of the regenerated statements of `Compile` up to the call of `splitQueries` fails
    as the parser / `compileStmts` / `splitQueries` fail, or leaves in `scope` and `subqueries` the model's
    scope and subqueries -/
theorem C06_compilePre_ir (ord : List (Bytes × Bytes) → List (Bytes × Bytes)) (opts : Option (List (Bytes × Bytes)))
    (src : Bytes) (hs : ∀ s ∈ (parse src).1, s ≠ .tabular .nil) :
    interpCompilePre (theSem ord) opts src =
      if (parse src).2.isEmpty then
        liftW (compileStmts src (parse src).1 (scope0 ord opts) none >>= fun sq =>
          match sq.2 with
          | none => .error .err
          | some t => (splitQueries src sq.1 [] t).map fun subs => (sq.1, subs))
      else .error (.go .err) := by
  cases hp : (parse src).2.isEmpty with
  | false => exact pre_parse_error ord opts src hp
  | true =>
    -- each piece of `compilePreIR` is run from the state the one before left: `h3`, `hcopy`, `hfor` with `hloop`, `post_eq`
    rw [interpCompilePre_eq]
    simp only [↓reduceIte]
    have h3 : ∀ rest, execBlock (theSem ord) (headIR ++ rest) ⟨[("opts", .opts opts), ("source", .str src)], []⟩ =
        execBlock (theSem ord) rest ⟨cV [] .nil (parse src).1 opts src, []⟩ := by
      intro rest
      xe_simp [headIR, theSem, compileSem, parseModel, noSem, hp, cV]
    have hcopy : exec (theSem ord) copyStmt ⟨cV [] .nil (parse src).1 opts src, []⟩ =
        .ok (.next, ⟨cV (scope0 ord opts) .nil (parse src).1 opts src, []⟩) := by
      cases opts with
      | none => exact C06_paramCopy_nil _ _ _ _
      | some ps => rw [C06_paramCopy_ir, theSem_order]; rfl
    have hloop := stmts_loop (theSem ord) src (tightOK ord src) (parse src).1 opts (parse src).1 0 (scope0 ord opts) none []
      hs (by simp)
    have hfor : ∀ st : State, st = ⟨cV (scope0 ord opts) .nil (parse src).1 opts src, []⟩ →
        exec (theSem ord) (.for_ "_" "stmt" ⟨"stmts", ""⟩ loopBody) st =
          forEach "_" "stmt" (execBlock (theSem ord) loopBody) 0 ((parse src).1.map .stmt) st := by
      intro st hst
      subst hst
      rw [exec]
      xe_simp [cV]
    rw [compilePreIR, h3, execBlock, hcopy]
    simp only [bind_ok]
    rw [execBlock, hfor _ rfl]
    cases hc : compileStmts src (parse src).1 (scope0 ord opts) none with
    | error e =>
      rw [hc] at hloop
      simp only [show tOf (none : Option Tabular) = Tabular.nil from rfl] at hloop
      rw [hloop]
      rfl
    | ok r =>
      rw [hc] at hloop
      obtain ⟨hq', out', hl⟩ := hloop
      simp only [show tOf (none : Option Tabular) = Tabular.nil from rfl] at hl
      rw [hl]
      simp only [bind_ok]
      have := post_eq ord src (parse src).1 opts r.1 r.2 hq' out'
      rw [this]

def resultM : CompileResult → M Bytes
  | .ok sql => .ok sql
  | .error => .error (.go .err)
  | .panic => .error (.go .panic)

/-- `(*CompileOptions).Compile(source)`: the front part, then the statement assembly — the unit `Compile` of
    `Facts.writeIR`, interpreted by `WriteIR.interpAssembly` (C05) — on what the front part left in `scope`
    and `subqueries`; the result is the bytes of what was written -/
def interpCompile (ord : List (Bytes × Bytes) → List (Bytes × Bytes)) (opts : Option (List (Bytes × Bytes)))
    (src : Bytes) : M Bytes := do
  let r ← interpCompilePre (theSem ord) opts src
  let cs ← WriteIR.interpAssembly WriteIR.modelSem src r.1 r.2
  pure (renderChunks cs)

/-- a program that parses without error has no nil `*TabularExpr` statement -/
theorem parsed_no_nil_tab (src : Bytes) (h : (parse src).2.isEmpty = true) : ∀ s ∈ (parse src).1, s ≠ .tabular .nil := by
  intro s hs hn
  have he : (parse src).2 = [] := List.isEmpty_iff.1 h
  have hp : parseTokens src.length (scan src) = ((parse src).1, []) := by
    show parse src = _
    rw [← he]
  have hc := C11.C11_parsed_complete _ _ _ hp s hs
  rw [hn] at hc
  cases hc with
  | mk _ kids hl hc hk => simp [Node.ofStmt, Node.children] at hc

/-- Go may visit the parameter map in any order `ord`: the scope that results is the one the list order gives for the
    parameters rearranged, so for EVERY `ord` the interpretation is the model's `compile` on those -/
theorem interpCompile_eq (ord : List (Bytes × Bytes) → List (Bytes × Bytes)) (opts : Option (List (Bytes × Bytes)))
    (src : Bytes) :
    interpCompile ord opts src = resultM (compile ((opts.map fun ps => (ord ps).reverse).getD []) src) := by
  unfold interpCompile compile
  cases hp : (parse src).2.isEmpty with
  | false =>
    rw [pre_parse_error _ opts src hp]
    simp [hp, resultM, bind, Except.bind]
  | true =>
    rw [C06_compilePre_ir ord opts src (parsed_no_nil_tab src hp)]
    have hs0 : scope0 ord opts =
        ((opts.map fun ps => (ord ps).reverse).getD []).map fun kv => (kv.1, [Chunk.raw kv.2]) := by
      cases opts <;> rfl
    simp only [hp, ↓reduceIte, Bool.not_true, Bool.false_eq_true, hs0]
    rw [WriteIR.compileChunks_eq]
    cases compileStmts src (parse src).1
        (((opts.map fun ps => (ord ps).reverse).getD []).map fun kv => (kv.1, [Chunk.raw kv.2])) none with
    | error e => cases e <;> rfl
    | ok sq =>
      obtain ⟨sc, q⟩ := sq
      cases q with
      | none => rfl
      | some t =>
        simp only [bind_ok]
        cases hsq : splitQueries src sc [] t with
        | error e => cases e <;> simp [liftW, Except.map, resultM, bind, Except.bind]
        | ok subs =>
          have ha := WriteIR.C05_assembly_ir src sc subs
          simp only [liftW, Except.map, bind_ok]
          rw [ha]
          cases WriteIR.assemble ⟨src, sc, .default⟩ subs with
          | error e => cases e <;> simp [liftW, resultM, bind, Except.bind]
          | ok cs => simp [liftW, resultM, bind, Except.bind, pure, Except.pure]

/-- **C06 / C13 (`Compile` is translated code, front to back).**  For every options value — nil, or with any
    parameter list — and every source: the interpretation of the regenerated front part of `Compile` (parse, fresh
    scope with the parameters copied in, the statement loop with its let-mode expression writer, the two error
    returns, the call of `splitQueries`) followed by the interpretation of the regenerated statement assembly
    yields exactly the model's `compile`: the same SQL bytes, an error where the model reports one, a panic where
    it panics.  Hypothesis-free.  The callees `parser.Parse`, `splitQueries` and `(*subquery).write` are the model's
    functions here (`theSem`, `WriteIR.modelSem`); that the last two are their regenerated bodies on the trees of an
    error-free parse is Lemmas/NoPanicIR.lean (`split_ir_safe`, `write_ir_safe`), the parser is C07.  (The map is visited in reverse list order here; by
    `C06_paramCopy_order` any other order gives a scope with the same lookups.) -/
theorem C06_compile_ir (opts : Option (List (Bytes × Bytes))) (src : Bytes) :
    interpCompile List.reverse opts src = resultM (compile (opts.getD []) src) := by
  rw [interpCompile_eq]
  cases opts <;> simp

/-- the parameters reach the scope whatever the order in which Go visits the map -/
theorem C06_compile_scope_order (ord : List (Bytes × Bytes) → List (Bytes × Bytes)) (ps : List (Bytes × Bytes))
    (hord : (ord ps).Perm ps) (hd : (ps.map (·.1)).Nodup) (name : Bytes) :
    lookupScope (scope0 ord (some ps)) name = lookupScope (scope0 List.reverse (some ps)) name := by
  show lookupScope ((ord ps).reverse.map scopeEntry) name = lookupScope (ps.reverse.reverse.map scopeEntry) name
  rw [List.reverse_reverse]
  have h1 : ((ord ps).reverse).Perm ps := (List.reverse_perm _).trans hord
  have hd' : (((ord ps).reverse).map (·.1)).Nodup := (h1.map _).nodup_iff.2 hd
  exact C06_paramCopy_order _ _ h1 hd' name

end Pql.ExprIR
