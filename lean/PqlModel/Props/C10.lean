/-
Property C10 — source positions in tokens and syntax trees are exact.

* table theorems over the regenerated `Span()` unions and struct fields;
* lemmas about span arithmetic (`unionSpans`): a union contains each valid part.
-/
import PqlModel.Model.Ast
import PqlModel.Generated.Facts
namespace Pql.C10
open Pql

def isScalarType (t : String) : Bool := t == "string" || t == "bool" || t == "TokenKind"

/-- fields that carry or contain positions: Span fields, nodes and node slices -/
def positionFields (fields : List (String × String)) : List String :=
  (fields.filter fun f => !isScalarType f.2).map (·.1)

def sameSet (a b : List String) : Bool := a.all b.contains && b.all a.contains && a.length == b.length

/-- Every `Span()` union lists every position-carrying field of its struct exactly once. -/
def unionsListEveryField : Bool :=
  Facts.structFields.all fun (ty, fields) =>
    match Facts.spanUnion.find? (·.1 == ty) with
    | some (_, _, args) => sameSet (args.map (·.2)) (positionFields fields)
    | none => false

theorem C10_union_lists_every_field : unionsListEveryField = true := by decide +kernel

/-- how a field of a given Go type may be used in a union without risking a nil dereference:
    Span fields directly; interfaces through `nodeSpan`; slices through `nodeSliceSpan`;
    pointers through `nodeSpan` or a method call on a type whose `Span()` guards nil -/
def argWellTyped (fields : List (String × String)) (arg : String × String) : Bool :=
  match fields.find? (·.1 == arg.2) with
  | none => false
  | some (_, ty) =>
    if ty == "Span" then arg.1 == "span"
    else if ty.startsWith "[]" then arg.1 == "slice"
    else if ty.startsWith "*" then
      arg.1 == "node" ||
      (arg.1 == "method" &&
        match Facts.spanUnion.find? (·.1 == (ty.drop 1).toString) with
        | some (_, guard, _) => guard
        | none => false)
    else arg.1 == "node" || (arg.1 == "method" && ty == "TabularDataSource")

def unionsWellTyped : Bool :=
  Facts.structFields.all fun (ty, fields) =>
    match Facts.spanUnion.find? (·.1 == ty) with
    | some (_, _, args) => args.all (argWellTyped fields)
    | none => false

/-- What each `Span()` method unites, as the model's `spanOf` functions have it; the table regenerated
    from the source must equal it (`C10_model_matches_span_table`). -/
def expectedSpanUnion : List (String × Bool × List (String × String)) :=
  [("AsOperator", false, [("span", "Pipe"), ("span", "Keyword"), ("method", "Name")]),
   ("BasicLit", true, [("span", "ValueSpan")]),
   ("BinaryExpr", true, [("node", "X"), ("span", "OpSpan"), ("node", "Y")]),
   ("CallExpr", true, [("method", "Func"), ("span", "Lparen"), ("slice", "Args"), ("span", "Rparen")]),
   ("CountOperator", true, [("span", "Pipe"), ("span", "Keyword")]),
   ("ExtendColumn", true, [("method", "Name"), ("span", "Assign"), ("node", "X")]),
   ("ExtendOperator", true, [("span", "Pipe"), ("span", "Keyword"), ("slice", "Cols")]),
   ("Ident", true, [("span", "NameSpan")]),
   ("InExpr", true, [("node", "X"), ("span", "In"), ("span", "Lparen"), ("slice", "Vals"), ("span", "Rparen")]),
   ("IndexExpr", true, [("node", "X"), ("span", "Lbrack"), ("node", "Index"), ("span", "Rbrack")]),
   ("JoinOperator", false, [("span", "Pipe"), ("span", "Keyword"), ("span", "Kind"), ("span", "KindAssign"),
      ("method", "Flavor"), ("span", "Lparen"), ("method", "Right"), ("span", "Rparen"), ("span", "On"),
      ("slice", "Conditions")]),
   ("LetStatement", true, [("span", "Keyword"), ("method", "Name"), ("span", "Assign"), ("node", "X")]),
   ("ParenExpr", true, [("span", "Lparen"), ("node", "X"), ("span", "Rparen")]),
   ("ProjectColumn", true, [("method", "Name"), ("span", "Assign"), ("node", "X")]),
   ("ProjectOperator", true, [("span", "Pipe"), ("span", "Keyword"), ("slice", "Cols")]),
   ("QualifiedIdent", true, [("slice", "Parts")]),
   ("RenderOperator", true, [("span", "Pipe"), ("span", "Keyword"), ("method", "ChartType"), ("span", "With"),
      ("span", "Lparen"), ("slice", "Props"), ("span", "Rparen")]),
   ("RenderProperty", true, [("method", "Name"), ("span", "Assign"), ("node", "Value")]),
   ("SortOperator", true, [("span", "Pipe"), ("span", "Keyword"), ("slice", "Terms")]),
   ("SortTerm", true, [("node", "X"), ("span", "AscDescSpan"), ("span", "NullsSpan")]),
   ("SummarizeColumn", true, [("method", "Name"), ("span", "Assign"), ("node", "X")]),
   ("SummarizeOperator", true, [("span", "Pipe"), ("span", "Keyword"), ("slice", "Cols"), ("span", "By"),
      ("slice", "GroupBy")]),
   ("TableRef", true, [("method", "Table")]),
   ("TabularExpr", true, [("method", "Source"), ("slice", "Operators")]),
   ("TakeOperator", true, [("span", "Pipe"), ("span", "Keyword"), ("node", "RowCount")]),
   ("TopOperator", true, [("span", "Pipe"), ("span", "Keyword"), ("node", "RowCount"), ("span", "By"), ("node", "Col")]),
   ("UnaryExpr", true, [("span", "OpSpan"), ("node", "X")]),
   ("WhereOperator", true, [("span", "Pipe"), ("span", "Keyword"), ("node", "Predicate")])]

theorem C10_model_matches_span_table : Facts.spanUnion = expectedSpanUnion := rfl

def Span.within (a u : Span) : Prop := u.start ≤ a.start ∧ a.stop ≤ u.stop

theorem isValid_iff (s : Span) : s.isValid = true ↔ (0 ≤ s.start ∧ 0 ≤ s.stop ∧ s.start ≤ s.stop) := by
  simp [Span.isValid, and_assoc]

theorem union_valid_of_right {u s : Span} (hs : s.isValid = true) : (Span.union u s).isValid = true := by
  unfold Span.union
  cases hu : u.isValid
  · simp [hs]
  · simp only [hs, Bool.not_true, Bool.false_eq_true, if_false, if_true]
    rw [isValid_iff] at *
    simp only
    omega

theorem union_valid_of_left {u s : Span} (hu : u.isValid = true) : (Span.union u s).isValid = true := by
  unfold Span.union
  cases hs : s.isValid
  · simp [hu]
  · simp only [hu, Bool.not_true, Bool.false_eq_true, if_false, if_true]
    rw [isValid_iff] at *
    simp only
    omega

theorem union_contains_right {u s : Span} (hs : s.isValid = true) : Span.within s (Span.union u s) := by
  unfold Span.union Span.within
  cases hu : u.isValid
  · simp [hs]
  · simp only [hs, Bool.not_true, Bool.false_eq_true, if_false, if_true]
    omega

theorem union_contains_left {u s : Span} (hu : u.isValid = true) : Span.within u (Span.union u s) := by
  unfold Span.union Span.within
  cases hs : s.isValid
  · simp
  · simp only [hu, Bool.not_true, Bool.false_eq_true, if_false, if_true]
    omega

theorem foldl_union_contains_acc (ss : List Span) (u : Span) (hu : u.isValid = true) :
    Span.within u (ss.foldl Span.union u) ∧ (ss.foldl Span.union u).isValid = true := by
  induction ss generalizing u with
  | nil => simp [Span.within, hu]
  | cons s ss ih =>
    simp only [List.foldl_cons]
    have hv := union_valid_of_left (s := s) hu
    have h1 := union_contains_left (s := s) hu
    have h2 := ih _ hv
    refine ⟨?_, h2.2⟩
    unfold Span.within at *
    omega

/-- **C10 (a node's span contains its parts).** Every valid span handed to `unionSpans` lies
    within the result — for unions of any length. -/
theorem C10_unions_contains (ss : List Span) (s : Span) (hmem : s ∈ ss) (hs : s.isValid = true) :
    Span.within s (Span.unions ss) := by
  unfold Span.unions
  suffices h : ∀ (u : Span), Span.within s (ss.foldl Span.union u) from h _
  induction ss with
  | nil => cases hmem
  | cons a ss ih =>
    intro u
    simp only [List.foldl_cons]
    rcases List.mem_cons.mp hmem with rfl | hin
    · have hv := union_valid_of_right (u := u) hs
      have h1 := union_contains_right (u := u) hs
      have h2 := (foldl_union_contains_acc ss _ hv).1
      unfold Span.within at *
      omega
    · exact ih hin _

end Pql.C10

namespace Pql

theorem spansOf_eq_map : ∀ (l : ExprList), l.spansOf = l.toList.map Expr.spanOf
  | .nil => rfl
  | .cons e es => by simp [ExprList.spansOf, ExprList.toList, spansOf_eq_map es]

theorem opSpansOf_eq_map : ∀ (l : OpList), l.spansOf = l.toList.map Op.spanOf
  | .nil => rfl
  | .cons o os => by simp [OpList.spansOf, OpList.toList, opSpansOf_eq_map os]

end Pql
