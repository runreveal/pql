/-
Property C05 (and C02), tie by translation: the statement assembly at the end of
`(*CompileOptions).Compile`, `quoteIdentifier`, `quoteSQLString`, `subqueryName`, `dataSourceSQL`
against the IR regenerated from pql.go (see Props/C05WriteIR.lean for the set-up).
-/
import PqlModel.Props.C05WriteIRAll
import PqlModel.Lemmas.ExactStmts
namespace Pql.WriteIR
open Pql
set_option linter.unusedSimpArgs false

def cteBody : List Stmt :=
  [.qid ⟨"sub", "name"⟩, .lit " AS (", .callWrite "sub", .lit ")",
   .ite (.notLast "i" ⟨"ctes", ""⟩) [.lit ",\n     "] [.lit "\n"]]

def compileIR : List Stmt :=
  [.init "ctes" "subqueries", .last "query" "subqueries", .ctx "source" "scope" "",
   .ite (.nonempty ⟨"ctes", ""⟩) [.lit "WITH ", .for_ "i" "sub" ⟨"ctes", ""⟩ cteBody] [],
   .callWrite "query", .lit ";", .ret]

theorem compile_ir : decode (irOf "Compile") = some compileIR := by rfl

/-- the tail of the model's `compileChunks`: from the subqueries to the statement -/
def assemble (ctx : Ctx) (subs : List Subquery) : W :=
  match subs.reverse with
  | [] => .error .panic
  | query :: ctesRev =>
    let ctes := ctesRev.reverse
    (if ctes.isEmpty then pure [] else writeCtes ctx ctes >>= fun c => pure (.txt "WITH " :: c)) >>= fun withPart =>
    query.write ctx >>= fun body =>
    pure (withPart ++ body ++ [.txt ";"])

theorem finishW_eq (src : Bytes) (scope : List (Bytes × List Chunk)) (t : Tabular) :
    Exact.finishW src (scope, some t) =
      (splitQueries src scope [] t >>= fun subs => assemble ⟨src, scope, .default⟩ subs) := by
  unfold Exact.finishW assemble
  dsimp only
  simp only [bind, Except.bind]
  cases splitQueries src scope [] t with
  | error e => rfl
  | ok subs =>
    dsimp only
    cases subs.reverse with
    | nil => rfl
    | cons query ctesRev =>
      dsimp only
      cases ctesRev.reverse.isEmpty
      · simp only [Bool.false_eq_true, if_false]
        cases writeCtes ⟨src, scope, .default⟩ ctesRev.reverse <;> rfl
      · rfl

theorem compileChunks_eq (src : Bytes) (params : List (Bytes × Bytes)) (stmts : List Pql.Stmt) :
    compileChunks src params stmts =
      (compileStmts src stmts (params.map fun kv => (kv.1, [Chunk.raw kv.2])) none >>= fun sq =>
        match sq.2 with
        | none => .error .err
        | some t => splitQueries src sq.1 [] t >>= fun subs => assemble ⟨src, sq.1, .default⟩ subs) := by
  rw [Exact.compileChunks_eq]
  congr 1
  funext sq
  obtain ⟨scope, q⟩ := sq
  cases q with
  | none => rfl
  | some t => exact finishW_eq src scope t

/-- the variables of `Compile` in scope inside the `WITH` loop -/
def asmVars (src : Bytes) (scope : List (Bytes × List Chunk)) (ctes : List Subquery) (q : Subquery) :
    List (String × Val) :=
  [("query", .sub q), ("ctes", .subs ctes), ("subqueries", .subs (ctes ++ [q])), ("source", .str src),
   ("scope", .scope scope)]

/-- one common table expression, as the loop of `Compile` writes it (`n` of them in all) -/
def cteW (ctx : Ctx) (n : Nat) (j : Nat) (s : Subquery) : M (List Chunk) :=
  liftW (s.write ctx) >>= fun b =>
    .ok (.qid s.name :: .txt " AS (" :: (b ++ [.txt ")", .txt (if j + 1 < n then ",\n     " else "\n")]))

theorem cte_body (src : Bytes) (scope : List (Bytes × List Chunk)) (ctes : List Subquery) (q : Subquery) (i : Nat)
    (s : Subquery) :
    (execBlock modelSem cteBody ⟨some ⟨src, scope, .default⟩, ("sub", .sub s) :: ("i", .nat i) :: asmVars src scope ctes q⟩
        >>= fun r => .ok (r.1, r.2.leave ⟨some ⟨src, scope, .default⟩, asmVars src scope ctes q⟩)) =
      (cteW ⟨src, scope, .default⟩ ctes.length i s >>= fun o =>
        .ok (o, ⟨some ⟨src, scope, .default⟩, asmVars src scope ctes q⟩)) := by
  wr_simp [cteBody, cteW, asmVars]
  by_cases hl : i + 1 < ctes.length <;> simp [hl]

/-- the induction of `collect_notLast` once more, not an instance of it: the last element is followed by `"\n"`, not
    by nothing, and the model's `writeCtes` recurses the same way -/
theorem collect_ctes (ctx : Ctx) (n : Nat) :
    ∀ (rest : List Subquery) (i : Nat), n = i + rest.length → collect (cteW ctx n) i rest = liftW (writeCtes ctx rest)
  | [], _, _ => rfl
  | [s], i, h => by
    have : ¬ (i + 1 < n) := by simp at h; omega
    simp only [collect, cteW, writeCtes, this]
    cases s.write ctx <;> simp [liftW, bind, Except.bind, pure, Except.pure]
  | s :: t :: rest, i, h => by
    have ih := collect_ctes ctx n (t :: rest) (i + 1) (by simp at h ⊢; omega)
    have : i + 1 < n := by simp at h; omega
    rw [collect, ih]
    simp only [cteW, writeCtes, this]
    cases s.write ctx with
    | error e => rfl
    | ok b => cases writeCtes ctx (t :: rest) <;> simp [liftW, bind, Except.bind, pure, Except.pure]

theorem cte_loop (src : Bytes) (scope : List (Bytes × List Chunk)) (ctes : List Subquery) (q : Subquery) :
    forEach "i" "sub" (execBlock modelSem cteBody) 0 (ctes.map .sub)
        ⟨some ⟨src, scope, .default⟩, asmVars src scope ctes q⟩ =
      (liftW (writeCtes ⟨src, scope, .default⟩ ctes) >>= fun o =>
        .ok (o, ⟨some ⟨src, scope, .default⟩, asmVars src scope ctes q⟩)) := by
  rw [forEach_collect Val.sub "i" "sub" _ _ _ _ ctes 0 (fun j s _ => cte_body src scope ctes q j s),
    collect_ctes _ ctes.length ctes 0 (by simp)]

/-- **C05 / C02 (the statement assembly of `Compile` is the translated Go code).**  For every list
    of subqueries `splitQueries` may return (also the empty one: both sides panic), every source
    and scope: the tail of the model's `compileChunks` — the `WITH name AS (…),\n     …\n` list of
    all subqueries but the last, the last one, `;` — is the interpretation of the IR regenerated
    from the end of `(*CompileOptions).Compile`, with the model's `Subquery.write` as the callee. -/
theorem C05_assembly_ir (src : Bytes) (scope : List (Bytes × List Chunk)) (subs : List Subquery) :
    interpAssembly modelSem src scope subs = liftW (assemble ⟨src, scope, .default⟩ subs) := by
  rcases List.eq_nil_or_concat subs with rfl | ⟨ctes, q, rfl⟩
  · rfl
  · have hl := cte_loop src scope ctes q
    unfold interpAssembly runUnit assemble
    simp only [compile_ir]
    simp only [asmVars] at hl
    wr_simp [compileIR, modeOf, hl]
    by_cases hne : ctes.length > 0
    · have hemp : ctes ≠ [] := by cases ctes <;> simp at hne ⊢
      wr_simp [hne, hemp]
    · have hemp : ctes = [] := by cases ctes <;> simp at hne ⊢
      subst hemp
      wr_simp

def quoteBody (esc : Stmt) (q : String) : List Stmt := [.ite (.byteIs "b" q) [esc] [.byte "b"]]

def quoteIdentifierIR : List Stmt :=
  [.declStr "quoteEscape" "\"\"", .grow, .lit "\"",
   .for_ "_" "b" ⟨"name", "[]byte"⟩ (quoteBody (.str ⟨"quoteEscape", ""⟩) "\""), .lit "\""]

def quoteSQLStringIR : List Stmt :=
  [.lit "'", .for_ "_" "b" ⟨"s", "[]byte"⟩ (quoteBody (.lit "''") "'"), .lit "'"]

theorem quoteIdentifier_ir : decode (irOf "quoteIdentifier") = some quoteIdentifierIR := by rfl
theorem quoteSQLString_ir : decode (irOf "quoteSQLString") = some quoteSQLStringIR := by rfl

theorem qid_body (vars : List (String × Val)) (i : Nat) (b : UInt8) :
    (execBlock noSem (quoteBody (.str ⟨"quoteEscape", ""⟩) "\"")
        ⟨none, ("b", .byte b) :: ("_", .nat i) :: ("quoteEscape", .str [34, 34]) :: vars⟩ >>= fun r =>
        .ok (r.1, r.2.leave ⟨none, ("quoteEscape", .str [34, 34]) :: vars⟩)) =
      ((fun (_ : Nat) (b : UInt8) => (Except.ok [Chunk.raw (if b == 34 then [34, 34] else [b])] : M (List Chunk))) i b >>=
        fun o => .ok (o, ⟨none, ("quoteEscape", .str [34, 34]) :: vars⟩)) := by
  have h1 : Bytes.ofString "\"" = [34] := by rfl
  by_cases hb : b = 34 <;> wr_simp [quoteBody, h1, hb]

theorem qstr_body (vars : List (String × Val)) (i : Nat) (b : UInt8) :
    (execBlock noSem (quoteBody (.lit "''") "'") ⟨none, ("b", .byte b) :: ("_", .nat i) :: vars⟩ >>= fun r =>
        .ok (r.1, r.2.leave ⟨none, vars⟩)) =
      ((fun (_ : Nat) (b : UInt8) => (Except.ok [if b == 39 then Chunk.txt "''" else Chunk.raw [b]] : M (List Chunk))) i b >>=
        fun o => .ok (o, ⟨none, vars⟩)) := by
  have h1 : Bytes.ofString "'" = [39] := by rfl
  by_cases hb : b = 39 <;> wr_simp [quoteBody, h1, hb]

theorem render_raw_bytes (q : UInt8) (s : Bytes) :
    renderChunks (s.flatMap fun b => [Chunk.raw (if b == q then [q, q] else [b])]) =
      s.flatMap fun b => if b == q then [q, q] else [b] := by
  induction s with
  | nil => rfl
  | cons b s ih => simp [renderChunks, Chunk.bytes] at ih ⊢; exact ih

/-- **`quoteIdentifier` is the translated Go code**: the bytes the interpretation of its IR writes
    are the model's `quoteIdentifier name`, for every string -/
theorem C05_quoteIdentifier_ir (name : Bytes) :
    (interpQuote "quoteIdentifier" "name" name).map renderChunks = .ok (quoteIdentifier name) := by
  have hl := forEach_collect Val.byte "_" "b" (execBlock noSem (quoteBody (.str ⟨"quoteEscape", ""⟩) "\"")) none
    [("quoteEscape", .str [34, 34]), ("name", .str name)] _ name 0 (fun j b _ => qid_body [("name", .str name)] j b)
  rw [collect_pure, bind_ok] at hl
  have h1 : Bytes.ofString "\"" = [34] := by rfl
  have h2 : Bytes.ofString "\"\"" = [34, 34] := by rfl
  have hr := render_raw_bytes 34 name
  unfold interpQuote runUnit
  simp only [quoteIdentifier_ir]
  wr_simp [quoteIdentifierIR, h2, hl]
  simp [renderChunks, Chunk.bytes, h1, quoteIdentifier, quoteWith] at hr ⊢
  exact hr

theorem render_esc_bytes (s : Bytes) :
    renderChunks (s.flatMap fun b => [if b == 39 then Chunk.txt "''" else Chunk.raw [b]]) =
      s.flatMap fun b => if b == 39 then [39, 39] else [b] := by
  have h2 : Bytes.ofString "''" = [39, 39] := by rfl
  induction s with
  | nil => rfl
  | cons b s ih =>
    by_cases hb : b = 39 <;> simp [renderChunks, Chunk.bytes, hb, h2] at ih ⊢ <;> exact ih

theorem C05_quoteSQLString_ir (s : Bytes) :
    (interpQuote "quoteSQLString" "s" s).map renderChunks = .ok (quoteSQLString s) := by
  have hl := forEach_collect Val.byte "_" "b" (execBlock noSem (quoteBody (.lit "''") "'")) none
    [("s", .str s)] _ s 0 (fun j b _ => qstr_body [("s", .str s)] j b)
  rw [collect_pure, bind_ok] at hl
  have h1 : Bytes.ofString "'" = [39] := by rfl
  have hr := render_esc_bytes s
  unfold interpQuote runUnit
  simp only [quoteSQLString_ir]
  wr_simp [quoteSQLStringIR, hl]
  simp [renderChunks, Chunk.bytes, h1, quoteSQLString, quoteWith] at hr ⊢
  exact hr

def subqueryNameIR : List Stmt := [.sprintfD "__subquery" "" "i"]
theorem subqueryName_ir : decode (irOf "subqueryName") = some subqueryNameIR := by rfl

/-- **`subqueryName` is the translated Go code**: `fmt.Sprintf("__subquery%d", i)` -/
theorem C05_subqueryName_ir (i : Nat) :
    (interpSubqueryName i).map renderChunks = .ok (subqueryName i) := by
  have h1 : Bytes.ofString "" = [] := by rfl
  unfold interpSubqueryName runUnit
  simp only [subqueryName_ir]
  wr_simp [subqueryNameIR]
  simp [renderChunks, Chunk.bytes, subqueryName, h1]

def tableRefIR : List Stmt := [.qid ⟨"src", "Table.Name"⟩, .ret]
theorem tableRef_ir : decode (irOf "dataSourceSQL:TableRef") = some tableRefIR := by rfl
theorem dataSource_default_ir : decode (irOf "dataSourceSQL:default") = some [.errorf "unhandled data source %T"] := by rfl

/-- **`dataSourceSQL` is the translated Go code**, for a table reference with a table: what
    `chainSubquery` in the model takes as the source of the first subquery of a pipeline -/
theorem C05_dataSource_ir (src : Option Ident) (h : src.isSome = true) :
    interpDataSource src = .ok [.qid (identName src)] := by
  have hk : caseKey "dataSourceSQL" "TableRef" = some "dataSourceSQL:TableRef" := by decide
  unfold interpDataSource runUnit
  simp only [hk, tableRef_ir]
  cases src with
  | none => simp at h
  | some t => wr_simp [tableRefIR, identName]

/-- without a table (never after an error-free parse) Go dereferences nil, the model has the empty name -/
theorem C05_dataSource_needs_table :
    interpDataSource none = .error (.go .panic) ∧ identName none = [] := by
  decide +kernel

/-- the regenerated table holds exactly the expected units -/
theorem C05_ir_keys :
    Facts.writeIR.map (·.1) =
      ["Compile", "dataSourceSQL:TableRef", "dataSourceSQL:default", "quoteIdentifier", "quoteSQLString", "subqueryName",
       "write:CountOperator", "write:ExtendOperator", "write:ProjectOperator", "write:RenderOperator",
       "write:SummarizeOperator", "write:WhereOperator", "write:default", "write:nil,AsOperator", "write:suffix"] := by
  rfl

/-- the type switches: what is switched on, and which dynamic types go to which unit -/
theorem C05_ir_switches :
    Facts.writeSwitches =
      [("dataSourceSQL", ["src", "src", ""],
        [(["TableRef"], "dataSourceSQL:TableRef"), (["default"], "dataSourceSQL:default")]),
       ("write", ["op", "sub", "op"],
        [(["nil", "AsOperator"], "write:nil,AsOperator"), (["ProjectOperator"], "write:ProjectOperator"),
         (["ExtendOperator"], "write:ExtendOperator"), (["SummarizeOperator"], "write:SummarizeOperator"),
         (["WhereOperator"], "write:WhereOperator"), (["CountOperator"], "write:CountOperator"),
         (["RenderOperator"], "write:RenderOperator"), (["default"], "write:default")])] := by
  rfl

end Pql.WriteIR
