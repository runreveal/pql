/-
Property C13, exactness: the compiler model fails with a compile error exactly when the
misuse specification (`Spec/Misuse.lean`) holds, and never panics.

The stages (expressions, join conditions, one query) and `compileChunks` are stated for well-formed statements;
`C13_exact_source`, `compile` on source text, needs no hypothesis: every error-free parse is well-formed.

Well-formedness (`Exact.wfStmt`, decidable) asks for the four things below.  `Stmt.Good` gives the
second and the `summarize` half of the fourth (`Exact.wf_alg`), not the others (see the three
witnesses at the end, none of which an error-free parse produces):
* every binary operator is one the compiler translates (`opsKnown`);
* a tabular expression is not nil, `top` has its column, a `let` has its name;
* a join flavour is absent or one of `inner`, `innerunique`, `leftouter`;
* extend / summarize columns have an expression.
`Exact.SpansInside src stmts` (decidable): the expression span of every unnamed extend /
summarize column lies inside the source, so that the implicit column name can be sliced.
-/
import PqlModel.Lemmas.ExactStmts
import PqlModel.Lemmas.ExactParse
import PqlModel.Lemmas.ExactSpan
namespace Pql.C13
open Pql Pql.Exact

/-- the model's arity check agrees with the documented arities for every built-in and every
    argument count up to 6 (the guards are `≠ n` / `= 0`, so larger counts behave like 6:
    `Exact.arity_agrees_all` has every count) -/
theorem C13_arity_agrees :
    ∀ row ∈ Facts.knownFunctions, ∀ n ∈ List.range 7,
      arityRejects row.2.1 n = Misuse.wrongArity (Bytes.ofString row.1) n :=
  fun row hrow n _ => arity_agrees_all row hrow n

/-- **C13 exactness, expressions.**  In every mode (`default ↦ plain`, `join ↦ join`,
    `let_ ↦ letValue`) and for every scope, `writeExpression` succeeds exactly when the expression
    breaks no documented rule, fails with a compile error exactly when it does, and never panics.
    `opsKnown e`: every binary operator in `e` is one of those the compiler translates (all the
    parser produces). -/
theorem C13_exact_expr (src : Bytes) (scope : List (Bytes × List Chunk)) (mode : Mode) (e : Expr)
    (hops : opsKnown e = true) :
    ((∃ cs, writeExpr ⟨src, scope, mode⟩ e = .ok cs) ↔
        Misuse.badExpr (posOf mode) (scope.map (·.1)) e = false) ∧
    (writeExpr ⟨src, scope, mode⟩ e = .error .err ↔
        Misuse.badExpr (posOf mode) (scope.map (·.1)) e = true) ∧
    writeExpr ⟨src, scope, mode⟩ e ≠ .error .panic :=
  have h := writeExpr_agrees ⟨src, scope, mode⟩ e hops
  ⟨h.ok_iff, h.err_iff, h.ne_panic⟩

/-- **C13 exactness, join conditions.**  The condition built from the `on` list translates (in
    join mode) exactly when no condition other than a bare key breaks a rule. -/
theorem C13_exact_conds (src : Bytes) (scope : List (Bytes × List Chunk)) (conds : ExprList)
    (hops : opsKnownList conds = true) :
    ((∃ cs, writeExpr ⟨src, scope, .join⟩ (buildJoinCondition conds) = .ok cs) ↔
        Misuse.badConds (scope.map (·.1)) conds = false) ∧
    writeExpr ⟨src, scope, .join⟩ (buildJoinCondition conds) ≠ .error .panic :=
  have h := buildJoin_agrees src scope conds hops
  ⟨h.ok_iff, h.ne_panic⟩

/-- **C13 exactness, one query.**  Splitting a well-formed tabular expression into subqueries and
    writing them (with the final scope, as `Compile` does after the statement loop) succeeds
    exactly when `Misuse.badTabular` is false, and never panics. -/
theorem C13_exact_tabular (src : Bytes) (scope : List (Bytes × List Chunk)) (t : Tabular)
    (hwf : wfTabular t = true) (hspans : spansTabular src t = true) :
    ((∃ cs, finishW src (scope, some t) = .ok cs) ↔ Misuse.badTabular (scope.map (·.1)) t = false) ∧
    finishW src (scope, some t) ≠ .error .panic :=
  have h := finish_agrees src scope t hwf hspans
  ⟨h.ok_iff, h.ne_panic⟩

/-- **C13 exactness.**  For well-formed statements whose implicit column names can be sliced
    from the source, the compiler model succeeds exactly when the program breaks no documented
    rule, fails with a compile error exactly when it breaks one, and never panics. -/
theorem C13_exact (src : Bytes) (params : List (Bytes × Bytes)) (stmts : List Stmt)
    (hwf : ∀ s ∈ stmts, wfStmt s = true) (hspans : SpansInside src stmts = true) :
    ((∃ cs, compileChunks src params stmts = .ok cs) ↔
        Misuse.misuse (params.map (·.1)) stmts = false) ∧
    (compileChunks src params stmts = .error .err ↔
        Misuse.misuse (params.map (·.1)) stmts = true) ∧
    compileChunks src params stmts ≠ .error .panic :=
  have h := compileChunks_agrees src params stmts hwf hspans
  ⟨h.ok_iff, h.err_iff, h.ne_panic⟩

/-- **The well-formedness hypothesis holds for every error-free parse.** -/
theorem C13_parsed_wf (srcLen : Nat) (ts : List Token) (stmts : List Stmt)
    (h : parseTokens srcLen ts = (stmts, [])) : ∀ s ∈ stmts, wfStmt s = true :=
  parseTokens_wf h

/-- **The span hypothesis holds for every error-free parse.** -/
theorem C13_parsed_spans (src : Bytes) (stmts : List Stmt) (h : parse src = (stmts, [])) :
    SpansInside src stmts = true :=
  parse_spansInside h

/-- **C13 exactness for `Compile` on source text** (no hypothesis).  `Compile` fails exactly when
    the source does not parse or the parsed program breaks a documented rule; otherwise it
    returns SQL; it never panics. -/
theorem C13_exact_source (params : List (Bytes × Bytes)) (src : Bytes) :
    (compile params src = .error ↔
        ((parse src).2 ≠ [] ∨ Misuse.misuse (params.map (·.1)) (parse src).1 = true)) ∧
    ((∃ sql, compile params src = .ok sql) ↔
        ((parse src).2 = [] ∧ Misuse.misuse (params.map (·.1)) (parse src).1 = false)) ∧
    compile params src ≠ .panic := by
  cases he : (parse src).2 with
  | nil =>
    have hp : parse src = ((parse src).1, []) := by rw [← he]
    have hp' : parseTokens src.length (scan src) = ((parse src).1, []) := hp
    have h := compileChunks_agrees src params (parse src).1 (parseTokens_wf hp') (parse_spansInside hp)
    unfold compile
    simp only [he, List.isEmpty_nil, Bool.not_true, Bool.false_eq_true, if_false, ne_eq, not_true_eq_false,
      false_or, true_and]
    rcases h.elim with ⟨cs, hr, hb⟩ | ⟨hr, hb⟩ <;>
      simp only [hr, hb, reduceCtorEq, Bool.false_eq_true, Bool.true_eq_false, not_false_eq_true, and_true,
        CompileResult.ok.injEq, exists_eq', exists_false]
  | cons e es =>
    unfold compile
    simp only [he, List.isEmpty_cons, Bool.not_false, if_true, ne_eq, reduceCtorEq, not_false_eq_true,
      true_or, false_and, exists_false, and_self]

/-- **C13 exactness, `Compile`.**  When the parsed statements are well-formed (as an error-free
    parse makes them), `Compile` fails exactly when the source does not parse or breaks a
    documented rule, and does not panic.  (Two clauses of `C13_exact_source`; the hypotheses are
    not needed: where the parse reports an error `Compile` fails before it looks at the
    statements.) -/
theorem C13_exact_compile (params : List (Bytes × Bytes)) (src : Bytes)
    (hwf : ∀ s ∈ (parse src).1, wfStmt s = true) (hspans : SpansInside src (parse src).1 = true) :
    (compile params src = .error ↔
        ((parse src).2 ≠ [] ∨ Misuse.misuse (params.map (·.1)) (parse src).1 = true)) ∧
    compile params src ≠ .panic :=
  have h := C13_exact_source params src
  ⟨h.1, h.2.2⟩

/-! ### `Stmt.Good` alone is not enough: three trees (none of them the result of an error-free parse)

On each of them every statement is `Good`, the spans are irrelevant (no unnamed column), and the
model and the specification disagree.  They are excluded by `wfStmt`. -/

def wIdent (s : String) : Ident := ⟨Bytes.ofString s, .zero, false⟩

/-- (a) `T | where $left . 1` with `.` as a *binary operator*: the compiler writes
    `NULL /* unhandled … */` without looking at the operands, the specification sees `$left` -/
def witnessOp : List Stmt :=
  [.tabular (.mk (some (wIdent "T")) (.cons (.where_ .zero .zero
    (.binary (.qident [wIdent "$left"]) .zero .dot (.lit .zero .number (Bytes.ofString "1")))) .nil))]

/-- (b) `T | join kind=fullouter (U) on k`: the compiler rejects the flavour (the parser reports
    it first), the specification has no such rule -/
def witnessFlavor : List Stmt :=
  [.tabular (.mk (some (wIdent "T")) (.cons (.join .zero .zero .zero .zero (some (wIdent "fullouter")) .zero
    (.mk (some (wIdent "U")) .nil) .zero .zero (.cons (.qident [wIdent "k"]) .nil)) .nil))]

/-- (c) `T | extend $left` as a column *without expression* (only `project` has those): the
    compiler model writes `NULL /* unhandled <nil> expression */` (`writeColumns`; pql.go:396 goes on
    to write the name as an expression, which the model leaves out), the specification reads the name
    as the expression -/
def witnessExtend : List Stmt :=
  [.tabular (.mk (some (wIdent "T")) (.cons (.extend .zero .zero [⟨some (wIdent "$left"), .zero, .nil⟩]) .nil))]

theorem witnessOp_good : ∀ s ∈ witnessOp, Stmt.Good s := by
  intro s hs
  simp only [witnessOp, List.mem_singleton] at hs
  subst hs
  simp [Stmt.Good, Tabular.Good, OpList.Good, Op.Good, Expr.Good]

theorem witnessFlavor_good : ∀ s ∈ witnessFlavor, Stmt.Good s := by
  intro s hs
  simp only [witnessFlavor, List.mem_singleton] at hs
  subst hs
  simp [Stmt.Good, Tabular.Good, OpList.Good, Op.Good, Expr.Good, ExprList.Good]

theorem witnessExtend_good : ∀ s ∈ witnessExtend, Stmt.Good s := by
  intro s hs
  simp only [witnessExtend, List.mem_singleton] at hs
  subst hs
  simp [Stmt.Good, Tabular.Good, OpList.Good, Op.Good, Expr.OptGood]

theorem witnessOp_disagrees :
    (∃ cs, compileChunks [] [] witnessOp = .ok cs) ∧ Misuse.misuse [] witnessOp = true :=
  ⟨⟨_, rfl⟩, by decide⟩

theorem witnessFlavor_disagrees :
    compileChunks [] [] witnessFlavor = .error .err ∧ Misuse.misuse [] witnessFlavor = false :=
  ⟨rfl, by decide⟩

theorem witnessExtend_disagrees :
    (∃ cs, compileChunks [] [] witnessExtend = .ok cs) ∧ Misuse.misuse [] witnessExtend = true :=
  ⟨⟨_, rfl⟩, by decide⟩

end Pql.C13
