/-
C05 / C01 / C03 side conditions, discharged for what the PARSER produces from source bytes.

Several headline theorems (C01 LexRender / ParseRoundtrip, C05 lexical and syntactic halves, C03)
are stated for arbitrary syntax trees under decidable side conditions on the tree:
`Expr.lexOK` / `Tabular.lexOK` / `stmtsLexOK`, `RT.shapeOK`, `C05.tabularOK`, `C05.hasSources`.
Here: every tree an error-free `parse src` returns satisfies them, provided

* (K4) no pass-through function is named like an SQL operator word or begins with `$`
  (`k4Free`, i.e. `CompileOracle.stmtsHaveKeywordFn stmts = false`), and
* (where the condition says "translatable") compilation succeeds.
-/
import PqlModel.Lemmas.ParsedOKTree
import PqlModel.Lemmas.ParsedOKLets
import PqlModel.Props.C13Exact
import PqlModel.Props.C05ParseStatement
namespace Pql.ParsedOK
open Pql Pql.Exact CompileOracle Sql Pql.RT Pql.C05

/-- **K4-freedom** (decidable): no pass-through (not built-in) function of the program is named
    like an SQL operator word (`NOT AND OR IN IS CASE WHEN THEN ELSE END AS`, any letter case) or
    begins with `$` — `CompileOracle.stmtsHaveKeywordFn`, the oracle's definition of finding K4 -/
def k4Free (stmts : List Stmt) : Bool := !stmtsHaveKeywordFn stmts

theorem StmtAll.and {E E' : Expr → Prop} {EL EL' : ExprList → Prop} : ∀ s : Stmt, StmtAll E EL s →
    StmtAll E' EL' s → StmtAll (fun e => E e ∧ E' e) (fun l => EL l ∧ EL' l) s
  | .let_ _ _ _ _, h, h' => ⟨h, h'⟩
  | .tabular t, h, h' => TabAll.and t h h'

theorem parsed_facts (src : Bytes) (stmts : List Stmt) (h : parse src = (stmts, [])) :
    ∀ s ∈ stmts, s.Good ∧
      StmtAll (fun e => sOK e = true ∧ leavesE tokP e = true)
        (fun l => (sOKList l = true ∧ l.length ≠ 0) ∧ leavesL tokP l = true) s ∧
      (∀ t, s = .tabular t → TabNE t = true) := by
  have hp : parseTokens src.length (scan src) = (stmts, []) := h
  intro s hs
  have h1 := parseTokens_good hp s hs
  have h2 := parseTokens_all (E := fun e => sOK e = true)
    (EL := fun l => sOKList l = true ∧ l.length ≠ 0)
    (fun _ _ _ he => pExpr_sOK he) (fun _ _ _ he => pExprList_sOK he) hp s hs
  have h3 := parseTokens_leaves tokP tokP_error src.length (scan src) stmts (scan_tokOK src)
    (tokP_scan src) hp s hs
  exact ⟨h1, StmtAll.and s h2 h3.1, h3.2⟩

theorem stmtsLexOK_of : ∀ stmts : List Stmt,
    (∀ s ∈ stmts, StmtAll (fun e => e.lexOK = true) (fun l => l.lexOK = true) s) →
    stmtsLexOK stmts = true
  | [], _ => rfl
  | .tabular t :: _, h => by
    simp only [stmtsLexOK]
    exact tabLexOK_of t (h (.tabular t) (by simp))
  | .let_ kw n a x :: rest, h => by
    simp only [stmtsLexOK, Bool.and_eq_true]
    exact ⟨h (.let_ kw n a x) (by simp), stmtsLexOK_of rest fun s hs => h s (List.mem_cons_of_mem _ hs)⟩

/-- **`lexOK` of parsed programs.**  If `parse src` reports no error and every pass-through function name is one
    SQL word (`fnNamesOK`, decidable), then the program satisfies `stmtsLexOK`: every number literal
    is `numOK` (the scanner's normalised decimal spelling is one SQL number), every unary operator
    is a sign, no `.nil` node occurs in an expression position. -/
theorem parsed_lexOK (src : Bytes) (stmts : List Stmt) (h : parse src = (stmts, []))
    (hfn : fnNamesOK stmts = true) : stmtsLexOK stmts = true := by
  apply stmtsLexOK_of
  intro s hs
  obtain ⟨_, h2, _⟩ := parsed_facts src stmts h s hs
  have h3 := stmtAll_fnAll nameP stmts hfn s hs
  refine StmtAll.imp ?_ ?_ s (StmtAll.and s h2 h3)
  · rintro e ⟨⟨h1, h2⟩, h3⟩; exact lexOK_of_names (fun _ _ h => h) e h1 h2 h3
  · rintro l ⟨⟨⟨h1, _⟩, h2⟩, h3⟩; exact lexOKList_of_names (fun _ _ h => h) l h1 h2 h3

/-- **Function identifiers of parsed trees**: unquoted (the parser accepts a call only after an
    identifier token, never after a back-quoted one) and of the form `[A-Za-z_$][A-Za-z0-9_]*`;
    hence (`nameOK_of_fnShape`) `nameOK` fails exactly for the names that begin with `$`. -/
theorem parsed_fnShape (src : Bytes) (stmts : List Stmt) (h : parse src = (stmts, [])) :
    ∀ s ∈ stmts, StmtAll (fun e => exprFnAll fnShape e = true) (fun l => listFnAll fnShape l = true) s := by
  intro s hs
  obtain ⟨_, h2, _⟩ := parsed_facts src stmts h s hs
  refine StmtAll.imp ?_ ?_ s h2
  · rintro e ⟨h1, h2⟩; exact fnShape_of e h1 h2
  · rintro l ⟨⟨h1, _⟩, h2⟩; exact fnShapeList_of l h1 h2

def noDollarFn (stmts : List Stmt) : Bool :=
  stmtsFnAll (fun fn => (knownFunction fn.name).isSome || fn.name.head? != some 36) stmts

theorem parsed_lexOK_dollar (src : Bytes) (stmts : List Stmt) (h : parse src = (stmts, []))
    (hd : noDollarFn stmts = true) : stmtsLexOK stmts = true := by
  apply stmtsLexOK_of
  intro s hs
  obtain ⟨_, h2, _⟩ := parsed_facts src stmts h s hs
  have h3 := stmtAll_fnAll _ stmts hd s hs
  refine StmtAll.imp ?_ ?_ s (StmtAll.and s h2 h3)
  · rintro e ⟨⟨h1, h2⟩, h3⟩; exact lexOK_of_names nameP_of_shape e h1 h2 h3
  · rintro l ⟨⟨⟨h1, _⟩, h2⟩, h3⟩; exact lexOKList_of_names nameP_of_shape l h1 h2 h3

theorem k4Free_stmtAll (stmts : List Stmt) (hk : k4Free stmts = true) :
    ∀ s ∈ stmts, StmtAll (fun e => exprHasKeywordFn e = false) (fun l => listHasKeywordFn l = false) s := by
  intro s hs
  simp only [k4Free, Bool.not_eq_true', stmtsHaveKeywordFn] at hk
  have := any_false hk s hs
  cases s with
  | tabular t => exact tabAll_noKw t this
  | let_ kw n a x => exact this

/-- **`shapeOK` of parsed programs.**  If `parse src` reports no error and the program is K4-free, every translated
    expression is `shapeOK` (qualified identifiers have at least one part, the list of every `in`
    test is non-empty, no pass-through function is named like an SQL operator word); join
    condition lists are moreover non-empty. -/
theorem parsed_shapeOK (src : Bytes) (stmts : List Stmt) (h : parse src = (stmts, []))
    (hk : k4Free stmts = true) :
    ∀ s ∈ stmts, StmtAll (fun e => shapeOK e = true)
      (fun l => shapeOKList l = true ∧ l.length ≠ 0) s := by
  intro s hs
  obtain ⟨_, h2, _⟩ := parsed_facts src stmts h s hs
  have h3 := k4Free_stmtAll stmts hk s hs
  refine StmtAll.imp ?_ ?_ s (StmtAll.and s h2 h3)
  · rintro e ⟨⟨h1, _⟩, h3⟩; exact shapeOK_of e h1 h3
  · rintro l ⟨⟨⟨h1, hl⟩, _⟩, h3⟩; exact ⟨shapeOKList_of l h1 h3, hl⟩

/-- the K4-free route to `lexOK` (K4-freedom includes "no `$`-initial pass-through name"), at every
    expression position of every statement (`stmtsLexOK` stops at the query) -/
theorem parsed_stmtAll_lexOK (src : Bytes) (stmts : List Stmt) (h : parse src = (stmts, []))
    (hk : k4Free stmts = true) :
    ∀ s ∈ stmts, StmtAll (fun e => e.lexOK = true) (fun l => l.lexOK = true) s := by
  intro s hs
  obtain ⟨_, h2, _⟩ := parsed_facts src stmts h s hs
  have h3 := k4Free_stmtAll stmts hk s hs
  refine StmtAll.imp ?_ ?_ s (StmtAll.and s h2 h3)
  · rintro e ⟨⟨h1, h2⟩, h3⟩; exact lexOK_of e h1 h2 h3
  · rintro l ⟨⟨⟨h1, _⟩, h2⟩, h3⟩; exact lexOKList_of l h1 h2 h3

theorem parsed_lexOK_k4 (src : Bytes) (stmts : List Stmt) (h : parse src = (stmts, []))
    (hk : k4Free stmts = true) : stmtsLexOK stmts = true :=
  stmtsLexOK_of stmts (parsed_stmtAll_lexOK src stmts h hk)

/-- **`hasSources` of parsed programs.**  Every pipeline of an error-free parse (right-hand sides of joins included)
    has a source table. -/
theorem parsed_hasSources (src : Bytes) (stmts : List Stmt) (h : parse src = (stmts, [])) :
    ∀ t, .tabular t ∈ stmts → hasSources t = true := by
  intro t ht
  have hp : parseTokens src.length (scan src) = (stmts, []) := h
  have := parseTokens_good hp _ ht
  exact hasSources_of_good t this

/-- what compiles breaks no documented rule (C13) -/
theorem misuse_of_compile (src sql : Bytes) (stmts : List Stmt) (h : parse src = (stmts, []))
    (hc : compile [] src = .ok sql) : Misuse.misuse [] stmts = false := by
  have := ((C13.C13_exact_source [] src).2.1.1 ⟨sql, hc⟩).2
  rw [h] at this
  exact this

theorem misuse_query : ∀ (stmts : List Stmt) (bound : List Bytes) (nq : Nat),
    Misuse.misuseStmts stmts bound nq = false →
    ∀ t, .tabular t ∈ stmts → ∃ b, Misuse.badTabular b t = false
  | [], _, _, _, t, ht => by cases ht
  | .tabular t' :: rest, bound, nq, h, t, ht => by
    simp only [Misuse.misuseStmts] at h
    split at h
    · cases h
    · simp only [Bool.or_eq_false_iff] at h
      rcases List.mem_cons.1 ht with ht | ht
      · cases ht; exact ⟨bound, h.1⟩
      · exact misuse_query rest bound (nq + 1) h.2 t ht
  | .let_ _ name _ x :: rest, bound, nq, h, t, ht => by
    simp only [Misuse.misuseStmts] at h
    have ht' : Stmt.tabular t ∈ rest := by
      rcases List.mem_cons.1 ht with ht | ht
      · cases ht
      · exact ht
    split at h
    · exact misuse_query rest bound nq h t ht'
    · simp only [Bool.or_eq_false_iff] at h
      exact misuse_query rest _ nq h.2 t ht'

/-- **`tabularOK` of parsed programs.**  If `parse src` reports no error, compilation succeeds and the program is
    K4-free, then the query `t` of the program (the program may contain `let` statements) satisfies
    `tabularOK`: every expression is `lexOK`, `shapeOK` and translatable (`tr` defined), the join
    condition built from every `on` list too (in join mode), and `sort` / `project` / `summarize`
    lists are non-empty.  (`tabularOK` is stated for `t` as written; for the let-resolved pipeline
    of a program with `let`s see `parsed_resolved_tabularOK`.) -/
theorem parsed_tabularOK (src sql : Bytes) (stmts : List Stmt) (h : parse src = (stmts, []))
    (hc : compile [] src = .ok sql) (hk : k4Free stmts = true) :
    ∀ t, .tabular t ∈ stmts → tabularOK t = true := by
  intro t ht
  have hm := misuse_of_compile src sql stmts h hc
  obtain ⟨b, hb⟩ := misuse_query stmts [] 0 hm t ht
  obtain ⟨hg, h2, hne⟩ := parsed_facts src stmts h _ ht
  have h3 := k4Free_stmtAll stmts hk _ ht
  have h4 := tabAll_notBad b t hb
  have hall : TabAll (fun e => exprOK e = true) (fun l => condsOK l = true) t := by
    refine TabAll.imp ?_ ?_ t (TabAll.and t (TabAll.and t h2 h3) h4)
    · rintro e ⟨⟨⟨h1, h2⟩, h3⟩, h4⟩; exact exprOKin_of_full false ⟨h1, h2, h3, h4⟩
    · rintro l ⟨⟨⟨⟨h1, _⟩, h2⟩, h3⟩, h4⟩; exact condsOK_of_full l h1 h2 h3 h4
  exact tabularOK_of t hg hall (hne t rfl)

/-- **C05, side conditions of parsed programs.**  For every source text on which `Parse` reports
    no error and `Compile` (without parameters) succeeds, and whose program is K4-free:
    the program satisfies `stmtsLexOK` (side condition of `C05_lexRender_program`), and its query `t`
    satisfies `tabularOK` (side condition of `C05_parse_statement` / `C05_statement_structure`),
    `Tabular.lexOK` (of `C05_lexRender_statement`) and `hasSources` (of `C05_reads_earlier_partial`, C03). -/
theorem C05_parsed_side_conditions (src sql : Bytes) (stmts : List Stmt)
    (hp : parse src = (stmts, [])) (hc : compile [] src = .ok sql) (hk : k4Free stmts = true) :
    stmtsLexOK stmts = true ∧
    ∀ t, .tabular t ∈ stmts → tabularOK t = true ∧ t.lexOK = true ∧ hasSources t = true := by
  refine ⟨parsed_lexOK_k4 src stmts hp hk, fun t ht => ?_⟩
  exact ⟨parsed_tabularOK src sql stmts hp hc hk t ht, tabLexOK_of t (parsed_stmtAll_lexOK src stmts hp hk _ ht),
    parsed_hasSources src stmts hp t ht⟩

theorem C05_parsed_side_conditions_single (src sql : Bytes) (t : Tabular)
    (hp : parse src = ([.tabular t], [])) (hc : compile [] src = .ok sql)
    (hk : k4Free [.tabular t] = true) :
    stmtsLexOK [.tabular t] = true ∧ tabularOK t = true ∧ t.lexOK = true ∧ hasSources t = true := by
  have := C05_parsed_side_conditions src sql _ hp hc hk
  exact ⟨this.1, this.2 t (by simp)⟩


theorem misuse_lets : ∀ (lets rest : List Stmt) (bound : List Bytes),
    (∀ s ∈ lets, ∃ kw n a x, s = Stmt.let_ kw n a x) →
    Misuse.misuseStmts (lets ++ rest) bound 0 = false →
    ∀ kw n a x, Stmt.let_ kw n a x ∈ lets → ∃ b, Misuse.badExpr .letValue b x = false
  | [], _, _, _, _, _, _, _, _, hm => by cases hm
  | .tabular t :: _, _, _, hl, _, _, _, _, _, _ => by
    obtain ⟨_, _, _, _, h⟩ := hl _ List.mem_cons_self
    cases h
  | .let_ kw' n' a' x' :: lets, rest, bound, hl, h, kw, n, a, x, hm => by
    simp only [List.cons_append, Misuse.misuseStmts, ge_iff_le, Nat.le_zero_eq, Nat.succ_ne_zero,
      if_false, Bool.or_eq_false_iff] at h
    rcases List.mem_cons.1 hm with hm | hm
    · cases hm; exact ⟨bound, h.1⟩
    · exact misuse_lets lets rest _ (fun s hs => hl s (List.mem_cons_of_mem _ hs)) h.2 kw n a x hm

/-- **Let values.**  In a program `lets ++ query :: rest` that parses, compiles and is K4-free, the
    value of every `let` before the query is `lexOK`, `shapeOK` and translatable (`exprOK`).
    (For the let-RESOLVED pipeline see `parsed_resolved_tabularOK`.) -/
theorem parsed_letValuesOK (src sql : Bytes) (lets rest : List Stmt)
    (hl : ∀ s ∈ lets, ∃ kw n a x, s = Stmt.let_ kw n a x)
    (h : parse src = (lets ++ rest, [])) (hc : compile [] src = .ok sql)
    (hk : k4Free (lets ++ rest) = true) :
    ∀ kw n a x, Stmt.let_ kw n a x ∈ lets → exprOK x = true := by
  intro kw n a x hx
  have hm := misuse_of_compile src sql _ h hc
  obtain ⟨b, hb⟩ := misuse_lets lets rest [] hl hm kw n a x hx
  have hmem : Stmt.let_ kw n a x ∈ lets ++ rest := List.mem_append_left _ hx
  obtain ⟨_, h2, _⟩ := parsed_facts src _ h _ hmem
  have h3 := k4Free_stmtAll _ hk _ hmem
  exact exprOKin_of_full false ⟨h2.1, h2.2, h3, arOK_of_notBad _ _ x hb⟩

/-- **`tabularOK` of the resolved query, for programs with `let`s.**  If `parse src` reports no error, compilation
    succeeds and the program is K4-free, then the let-RESOLVED query (`resolveLets`: every bound
    name replaced by its parenthesised, itself resolved, value — the pipeline on which
    `C06_subst_program` + `C05_parse_statement` speak about programs with lets) is `tabularOK`. -/
theorem parsed_resolved_tabularOK (src sql : Bytes) (stmts : List Stmt) (h : parse src = (stmts, []))
    (hc : compile [] src = .ok sql) (hk : k4Free stmts = true) :
    ∀ q, resolveLets stmts [] = some q → tabularOK q = true := by
  have hm := misuse_of_compile src sql stmts h hc
  refine resolveLets_tabularOK stmts [] [] (fun _ hkv => by cases hkv) ?_ hm
  intro s hs
  obtain ⟨hg, h2, hne⟩ := parsed_facts src stmts h s hs
  exact ⟨hg, StmtAll.and s h2 (k4Free_stmtAll stmts hk s hs), hne⟩

/-- **C05 (ParseStatement) on source text.**  For a source that is one query, parses, compiles
    and is K4-free: the SQL text `Compile` returns is the rendering of chunks whose tokens the
    reference SQL parser reads as the INTENDED statement — the side condition `tabularOK` of
    `C05_parse_statement` is discharged. -/
theorem C05_parse_statement_source (src sql : Bytes) (t : Tabular)
    (hp : parse src = ([.tabular t], [])) (hc : compile [] src = .ok sql)
    (hk : k4Free [.tabular t] = true) :
    ∃ cs st want, sql = renderChunks cs ∧ parseStatement (toksOf cs) = some st ∧
      Intended.intended src [.tabular t] = some want ∧ statementEq st want = true := by
  obtain ⟨cs, hcs, hsql⟩ := compile_ok_chunks src sql _ hp hc
  have hok := parsed_tabularOK src sql _ hp hc hk t (by simp)
  obtain ⟨st, want, h1, h2, h3⟩ := C05_parse_statement src t cs hok hcs
  exact ⟨cs, st, want, hsql, h1, h2, h3⟩

/-! ### examples, counterexamples (concrete source bytes; `decide +kernel` = evaluation by the kernel,
no axiom beyond `propext` / `Quot.sound`) -/

def isOk : CompileResult → Bool
  | .ok _ => true
  | _ => false

theorem isOk_iff (r : CompileResult) : isOk r = true ↔ ∃ sql, r = .ok sql := by
  cases r <;> simp [isOk]

def queryOf : List Stmt → Option Tabular
  | [] => none
  | .tabular t :: _ => some t
  | _ :: rest => queryOf rest

/-- an error-free parse as the pair the theorems take; stated over the pair as a variable, so that
    using it does not run the parser again -/
theorem eq_pair_nil {α β : Type} {p : α × List β} (h : p.2 = []) : p = (p.1, []) := by
  rw [← h]

/-- `t | where a > 1.50 and f(b) in (2, 0x1F) | project x = -a, b | join kind=inner (u | take 5) on k, $left.a == $right.b | summarize c = count() by b | sort by c desc | take 10` -/
def exSrc : Bytes :=
  [116, 32, 124, 32, 119, 104, 101, 114, 101, 32, 97, 32, 62, 32, 49, 46, 53, 48, 32, 97, 110, 100,
   32, 102, 40, 98, 41, 32, 105, 110, 32, 40, 50, 44, 32, 48, 120, 49, 70, 41, 32, 124, 32, 112, 114,
   111, 106, 101, 99, 116, 32, 120, 32, 61, 32, 45, 97, 44, 32, 98, 32, 124, 32, 106, 111, 105, 110,
   32, 107, 105, 110, 100, 61, 105, 110, 110, 101, 114, 32, 40, 117, 32, 124, 32, 116, 97, 107, 101,
   32, 53, 41, 32, 111, 110, 32, 107, 44, 32, 36, 108, 101, 102, 116, 46, 97, 32, 61, 61, 32, 36, 114,
   105, 103, 104, 116, 46, 98, 32, 124, 32, 115, 117, 109, 109, 97, 114, 105, 122, 101, 32, 99, 32, 61,
   32, 99, 111, 117, 110, 116, 40, 41, 32, 98, 121, 32, 98, 32, 124, 32, 115, 111, 114, 116, 32, 98,
   121, 32, 99, 32, 100, 101, 115, 99, 32, 124, 32, 116, 97, 107, 101, 32, 49, 48]

/-- what holds of `exSrc`; the statements below are its parts -/
theorem ex_eval : (parse exSrc).2 = [] ∧ isOk (compile [] exSrc) = true ∧ k4Free (parse exSrc).1 = true ∧
    fnNamesOK (parse exSrc).1 = true ∧
    ((queryOf (parse exSrc).1).map fun t => (tablesOf t).length) = some 2 ∧
    stmtsLexOK (parse exSrc).1 = true ∧ (queryOf (parse exSrc).1).map tabularOK = some true := by
  decide +kernel

theorem ex_fnNamesOK : fnNamesOK (parse exSrc).1 = true := ex_eval.2.2.2.1
theorem ex_nontrivial : ((queryOf (parse exSrc).1).map fun t => (tablesOf t).length) = some 2 := ex_eval.2.2.2.2.1

/-- **non-vacuity**: all hypotheses of `C05_parsed_side_conditions` hold of a concrete source with a
    float and a hex literal, a pass-through function, `in`, a unary sign, `project`, a join with a
    nested pipeline and two conditions, `summarize … by`, `sort`, `take` — hence its conclusion -/
theorem ex_side_conditions :
    stmtsLexOK (parse exSrc).1 = true ∧
    ∀ t, .tabular t ∈ (parse exSrc).1 → tabularOK t = true ∧ t.lexOK = true ∧ hasSources t = true := by
  obtain ⟨hp, hc, hk, _⟩ := ex_eval
  obtain ⟨sql, hc⟩ := (isOk_iff _).1 hc
  exact C05_parsed_side_conditions exSrc sql _ (eq_pair_nil hp) hc hk

/-- `stmtsLexOK` and `tabularOK` of the example (`ex_side_conditions`), evaluated instead of derived -/
theorem ex_direct : stmtsLexOK (parse exSrc).1 = true ∧ (queryOf (parse exSrc).1).map tabularOK = some true :=
  ex_eval.2.2.2.2.2

/-- `let n = 5; let m = n; t | where a > m and f(n) in (m, 2) | project a, m | take n` -/
def letSrc : Bytes :=
  [108, 101, 116, 32, 110, 32, 61, 32, 53, 59, 32, 108, 101, 116, 32, 109, 32, 61, 32, 110, 59, 32,
   116, 32, 124, 32, 119, 104, 101, 114, 101, 32, 97, 32, 62, 32, 109, 32, 97, 110, 100, 32, 102, 40,
   110, 41, 32, 105, 110, 32, 40, 109, 44, 32, 50, 41, 32, 124, 32, 112, 114, 111, 106, 101, 99, 116,
   32, 97, 44, 32, 109, 32, 124, 32, 116, 97, 107, 101, 32, 110]

theorem let_hyps : (parse letSrc).2 = [] ∧ isOk (compile [] letSrc) = true ∧ k4Free (parse letSrc).1 = true ∧
    (resolveLets (parse letSrc).1 []).map tabularOK = some true := by decide +kernel

/-- non-vacuity of `parsed_resolved_tabularOK` on a program with two (chained) lets -/
theorem let_resolved_ok : ∃ q, resolveLets (parse letSrc).1 [] = some q ∧ tabularOK q = true := by
  obtain ⟨h1, h2, h3, h4⟩ := let_hyps
  obtain ⟨sql, hc⟩ := (isOk_iff _).1 h2
  obtain ⟨q, hq, _⟩ := Option.map_eq_some_iff.1 h4
  exact ⟨q, hq, parsed_resolved_tabularOK letSrc sql _ (eq_pair_nil h1) hc h3 q hq⟩

/-- the conclusion of `let_resolved_ok`, evaluated instead of derived -/
theorem let_direct : (resolveLets (parse letSrc).1 []).map tabularOK = some true := let_hyps.2.2.2

/-- `t | where Not(a)` (finding K4) -/
def k4Src : Bytes := [116, 32, 124, 32, 119, 104, 101, 114, 101, 32, 78, 111, 116, 40, 97, 41]

/-- **`k4Free` is needed** for `shapeOK` / `tabularOK`: `t | where Not(a)` parses, compiles (to
    `… WHERE Not("a")`), all its function names are SQL words, but it is not `tabularOK` -/
theorem k4Free_needed :
    (parse k4Src).2 = [] ∧ isOk (compile [] k4Src) = true ∧ fnNamesOK (parse k4Src).1 = true ∧
    k4Free (parse k4Src).1 = false ∧ (queryOf (parse k4Src).1).map tabularOK = some false := by
  decide +kernel

/-- `t | where $f(a)` (finding K4, second clause) -/
def dollarSrc : Bytes := [116, 32, 124, 32, 119, 104, 101, 114, 101, 32, 36, 102, 40, 97, 41]

/-- **`fnNamesOK` (resp. `k4Free`) is needed** for `lexOK`: `t | where $f(a)` parses and compiles (to
    `… WHERE $f("a")`, which SQL reads as a parameter), but is not `lexOK` -/
theorem fnNamesOK_needed :
    (parse dollarSrc).2 = [] ∧ isOk (compile [] dollarSrc) = true ∧ fnNamesOK (parse dollarSrc).1 = false ∧
    noDollarFn (parse dollarSrc).1 = false ∧ k4Free (parse dollarSrc).1 = false ∧
    stmtsLexOK (parse dollarSrc).1 = false := by
  decide +kernel

/-- `t | where not(a, b)` -/
def aritySrc : Bytes := [116, 32, 124, 32, 119, 104, 101, 114, 101, 32, 110, 111, 116, 40, 97, 44, 32, 98, 41]

/-- **successful compilation is needed** for `tabularOK`: `t | where not(a, b)` parses, is K4-free
    and `lexOK`, but `Compile` rejects it (a documented misuse) and it is not translatable -/
theorem compile_needed :
    (parse aritySrc).2 = [] ∧ k4Free (parse aritySrc).1 = true ∧ compile [] aritySrc = .error ∧
    stmtsLexOK (parse aritySrc).1 = true ∧ (queryOf (parse aritySrc).1).map tabularOK = some false := by
  decide +kernel

/-- **an error-free parse is needed**: `t | where x in ()` and ``t | where `f`(1)`` are parse
    errors (so the empty `in` list and the quoted function name never reach the compiler) -/
theorem in_empty_rejected : (parse [116, 32, 124, 32, 119, 104, 101, 114, 101, 32, 120, 32, 105, 110, 32, 40, 41]).2 ≠ [] := by decide +kernel
theorem quoted_call_rejected : (parse [116, 32, 124, 32, 119, 104, 101, 114, 101, 32, 96, 102, 96, 40, 49, 41]).2 ≠ [] := by decide +kernel

/-- ```` `` | where `` == 1 | count ```` -/
def emptyNameSrc : Bytes := [96, 96, 32, 124, 32, 119, 104, 101, 114, 101, 32, 96, 96, 32, 61, 61, 32, 49, 32, 124, 32, 99, 111, 117, 110, 116]

/-- **observation** (not a violated side condition): a back-quoted identifier may be empty.  The
    source parses and compiles (to `… FROM "" WHERE coalesce("" = 1, FALSE)`); the tree has a table
    and a column with the empty name; `shapeOK` / `tabularOK` only ask for at least one *part* and
    hold. -/
theorem empty_quoted_name :
    (parse emptyNameSrc).2 = [] ∧ isOk (compile [] emptyNameSrc) = true ∧
    ((queryOf (parse emptyNameSrc).1).map fun | .mk (some i) _ => (i.name, i.quoted) | _ => ([0], false)) = some ([], true) ∧
    (queryOf (parse emptyNameSrc).1).map tabularOK = some true := by
  decide +kernel

end Pql.ParsedOK
