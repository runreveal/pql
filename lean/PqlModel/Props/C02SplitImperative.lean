/-
C02 / C03 / C05 support: the Go function `splitQueries` is IMPERATIVE (a slice of pointers `dst`,
a pointer `lastSubquery` through which `sort` / `take` / `op` / `name` are written in place, an
index `dstStart`, recursion for the right-hand side of a join).  The machine of
Lemmas/SplitImpMachine.lean (namespace `SplitImp`) models exactly that — heap of `subquery` objects, `dst : List Addr`,
`lastSubquery : Option Addr`, one definition per Go statement group — and this file proves that
the functional model's `splitQueries` / `splitOps` (Model/Compile.lean: `setLast`,
`chainSubquery dst dstStart src`, `lastOf`) computes the same result.  The hypotheses, `validDst`
(no dangling pointer) and `skeletonOk` (no nil `Source.Table` / `as` name), are needed (the
counterexamples `C02_refines_needs_…`), and every tree the parser returns without error satisfies
`skeletonOk`, so `Compile` with the machine in place of `splitQueries` is the same function.
-/
import PqlModel.Lemmas.SplitImpRefine
import PqlModel.Lemmas.ParseGood
import PqlModel.Lemmas.TreeInduct
import PqlModel.Lemmas.WriteInvSplit
import PqlModel.Props.C02Split
import PqlModel.Props.C05SplitRefines
import PqlModel.Props.C07Layout
namespace Pql.SplitImp
open Pql SplitQ

theorem valid_of_validDst {h : Heap} {dst : List Addr} (hv : validDst h dst = true) :
    ∀ a ∈ dst, a < h.size := by
  intro a ha
  have := List.all_eq_true.mp hv a ha
  simpa using this

/-- **The imperative machine refines to the functional model.**  For every source text, scope,
    tabular expression (any length, any nesting of joins), heap and initial slice `dst` without
    dangling pointers: running the machine and reading the returned slice through the final heap
    gives exactly what the functional `splitQueries` computes on the list the initial slice
    denotes — the same subqueries in the same order with the same name, source, op, sort, take —
    and when one side fails the other fails with the same error (`err` / `panic`). -/
theorem C02_splitQueries_refines (src : Bytes) (scope : List (Bytes × List Chunk)) (t : Tabular)
    (h : Heap) (dst : List Addr) (hv : validDst h dst = true) (hg : skeletonOk t = true) :
    (splitQueriesI src scope h dst t).map (fun r => abs r.1 r.2) =
      splitQueries src scope (abs h dst) t := by
  have sim := refines_tab src scope t h dst (valid_of_validDst hv) hg
  have := sim.eq_map (fun r => abs r.1 r.2) fun _ _ post => post.abs_eq.symm
  exact this.symm

/-- **… with the heap facts.**  A successful run of the machine: the functional model succeeds
    with the list the result denotes; all returned pointers are valid; the returned slice is the
    argument slice followed by at least one pointer to an object allocated during the call
    (`ext`, `grows`); no object that existed at the call has been written (`frame`). -/
theorem C02_splitQueriesI_post (src : Bytes) (scope : List (Bytes × List Chunk)) (t : Tabular)
    (h : Heap) (dst : List Addr) (hv : validDst h dst = true) (hg : skeletonOk t = true)
    (h' : Heap) (dst' : List Addr) (hrun : splitQueriesI src scope h dst t = .ok (h', dst')) :
    ∃ out, splitQueries src scope (abs h dst) t = .ok out ∧ PostQ h dst h' dst' out :=
  (refines_tab src scope t h dst (valid_of_validDst hv) hg).of_ok hrun

/-- **The recursive call cannot disturb its caller**: the pointers the caller passed are still the
    first pointers of the returned slice and denote the same subqueries as before — in
    particular `dst[leftSubquery]` and the object the caller's `lastSubquery` pointed to. -/
theorem C02_callee_preserves_caller_view (src : Bytes) (scope : List (Bytes × List Chunk)) (t : Tabular)
    (h : Heap) (dst : List Addr) (hv : validDst h dst = true) (hg : skeletonOk t = true)
    (h' : Heap) (dst' : List Addr) (hrun : splitQueriesI src scope h dst t = .ok (h', dst')) :
    dst'.take dst.length = dst ∧ abs h' dst = abs h dst := by
  obtain ⟨out, _, post⟩ := C02_splitQueriesI_post src scope t h dst hv hg h' dst' hrun
  obtain ⟨new, hnew, _⟩ := post.ext
  refine ⟨by rw [hnew]; simp, abs_congr fun a ha => ?_⟩
  unfold cell
  rw [post.frame.2 a (valid_of_validDst hv a ha)]

/-- any list of subqueries, put on a heap: object `i` at address `i`, `dst = [0, …, n-1]` -/
def loadList (dst0 : List Subquery) : Heap × List Addr := (dst0.toArray, List.range dst0.length)

theorem abs_loadList (dst0 : List Subquery) : abs (loadList dst0).1 (loadList dst0).2 = dst0 := by
  apply List.ext_getElem
  · simp [abs, loadList]
  · intro i h1 h2
    simp only [abs, loadList, List.length_map, List.length_range] at h1 h2 ⊢
    simp [cell, h2]

theorem validDst_loadList (dst0 : List Subquery) : validDst (loadList dst0).1 (loadList dst0).2 = true := by
  simp [validDst, loadList]

/-- the functional model's statement "for every initial `dst`" -/
theorem C02_splitQueries_refines_list (src : Bytes) (scope : List (Bytes × List Chunk)) (t : Tabular)
    (dst0 : List Subquery) (hg : skeletonOk t = true) :
    (splitQueriesI src scope (loadList dst0).1 (loadList dst0).2 t).map (fun r => abs r.1 r.2) =
      splitQueries src scope dst0 t := by
  rw [C02_splitQueries_refines src scope t _ _ (validDst_loadList dst0) hg, abs_loadList]

/-- `splitQueries(nil, source, scope, expr)`, the call in `Compile` -/
theorem C02_splitQueries_refines_top (src : Bytes) (scope : List (Bytes × List Chunk)) (t : Tabular)
    (hg : skeletonOk t = true) : runI src scope t = splitQueries src scope [] t :=
  C02_splitQueries_refines src scope t #[] [] rfl hg

/-- the state in which `splitQueries` enters its loop -/
theorem inv_entry (h : Heap) (dst : List Addr) (hv : validDst h dst = true) :
    Inv h.size dst.length ⟨h, dst, none⟩ :=
  ⟨valid_of_validDst hv, Nat.le_refl _, Nat.le_refl _, rfl⟩

/-- **The loop invariant** (`Inv`, Lemmas/SplitImpHeap.lean) holds whenever the loop of an
    activation has run over any operator list without error: `lastSubquery == nil` exactly when
    the activation has appended nothing yet (`len(dst) == dstStart`); otherwise it is the LAST
    element of `dst`, its address occurs nowhere else in `dst`, and the object was allocated by
    this activation (address `≥ n0`, the heap size at entry).  So every `lastSubquery.f = v` of
    the Go code writes the last subquery of the current pipeline (in the `as` and default cases:
    the fresh object, just before it is appended) and nothing else — which is what the
    functional model's `setLast` does.  The statement is about the states between two iterations;
    inside the join case `lastSubquery = dst[len(dst)-1]` is only read (`.name`) and replaced by a
    fresh object before the next iteration (`joinTailI`). -/
theorem C02_lastSubquery_is_last (src : Bytes) (scope : List (Bytes × List Chunk)) (source : Option Ident)
    (ops : OpList) (k n0 : Nat) (st st' : St) (inv : Inv n0 k st) (hs : source.isSome = true)
    (hg : opsOk ops = true) (hrun : loopI src scope source k st ops = .ok st') :
    Inv n0 k st' ∧
      (match st'.last with
        | none => st'.dst.length = k
        | some p => st'.dst.getLast? = some p ∧ p ∉ st'.dst.dropLast ∧ n0 ≤ p) := by
  obtain ⟨out, _, post⟩ := (refines_ops src scope ops source k st n0 inv hs hg).of_ok hrun
  refine ⟨post.inv, ?_⟩
  have hl := post.inv.last
  cases hlast : st'.last with
  | none => rw [hlast] at hl; exact hl
  | some p =>
    rw [hlast] at hl
    obtain ⟨_, hn0, pre, hd, hnot⟩ := hl
    simp only [hd, List.getLast?_append, List.getLast?_singleton, Option.some_or,
      List.dropLast_concat]
    exact ⟨trivial, hnot, hn0⟩

/-- **The machine can exhibit aliasing**: if the address `lastSubquery` holds occurred twice in
    `dst`, a write through the pointer would change both entries, while the functional model's
    `setLast` changes only the last.  (So `C02_splitQueries_refines` is a fact about the Go
    algorithm — fresh objects, unique last pointer — not about how the machine is written.) -/
theorem C02_aliasing_is_visible :
    let s : Subquery := { name := [], source := [] }
    let st : St := ⟨#[s], [0, 0], some 0⟩
    ∃ st', stAssign (fun x => { x with take := some .nil }) st = .ok st' ∧
      (abs st'.heap st'.dst).map (·.take.isSome) = [true, true] ∧
      (setLast (abs st.heap st.dst) fun x => { x with take := some .nil }).map (·.take.isSome) =
        [false, true] :=
  ⟨_, rfl, by decide +kernel, by decide +kernel⟩

-- decidable equality of results, for checking concrete instances by evaluation
-- (`DecidableEq` for `Op` / `Tabular` / `Expr` comes from Props/C07Layout.lean)
deriving instance DecidableEq for Subquery
deriving instance DecidableEq for Except

/-- `T | count` -/
def exCount : Tabular := .mk (some ⟨[84], .zero, false⟩) (.cons (.count .zero .zero) .nil)

/-- without `validDst`: a dangling pointer in `dst` (impossible in Go) is hit by the next
    allocation, and the machine's result differs from the model's -/
theorem C02_refines_needs_valid :
    validDst #[] [0] = false ∧ skeletonOk exCount = true ∧
      (splitQueriesI [] [] #[] [0] exCount).map (fun r => abs r.1 r.2) ≠
        splitQueries [] [] (abs #[] [0]) exCount ∧
      -- the machine's two pointers are aliases of the one new object
      ((splitQueriesI [] [] #[] [0] exCount).map fun r => (abs r.1 r.2).map (·.op.isSome)) = .ok [true, true] ∧
      ((splitQueries [] [] (abs #[] [0]) exCount).map fun out => out.map (·.op.isSome)) = .ok [false, true] := by
  decide +kernel

/-- without a source table (`Source.Table == nil`): Go (and the machine) panic in
    `dataSourceSQL`, the functional model returns a subquery reading the table `""` -/
theorem C02_refines_needs_source :
    skeletonOk (.mk none .nil) = false ∧ runI [] [] (.mk none .nil) = .error .panic ∧
      splitQueries [] [] [] (.mk none .nil) = .ok [{ name := subqueryName 0, source := [.qid []] }] := by
  decide +kernel

/-- `T | as <nil>` -/
def exAsNil : Tabular := .mk (some ⟨[84], .zero, false⟩) (.cons (.as_ .zero .zero none) .nil)

/-- without a name in `as` (`op.Name == nil`): Go (and the machine) panic on `op.Name.Name`, the
    functional model names the subquery `""` -/
theorem C02_refines_needs_as_name :
    skeletonOk exAsNil = false ∧ runI [] [] exAsNil = .error .panic ∧
      splitQueries [] [] [] exAsNil =
        .ok [{ name := [], source := [.qid [84]], op := some (.as_ .zero .zero none) }] := by
  decide +kernel

/-- `Good` trees have no nil where `splitQueries` dereferences; for an operator: it keeps `opsOk` of the
    list it is put in front of -/
theorem skeletonAlg : TreeAlg (fun t => t.Good → skeletonOk t = true)
    (fun o => o.Good → ∀ os, opsOk os = true → opsOk (.cons o os) = true)
    (fun ops => ops.Good → opsOk ops = true) where
  tnil := fun _ => rfl
  tmk := fun s ops ih h => by
    cases s with
    | none => exact absurd rfl h.1
    | some i => exact ih h.2
  onil := fun _ => rfl
  cons := fun o os iho ihl h => iho h.1 os (ihl h.2)
  count := fun _ _ _ _ h => h
  where_ := fun _ _ _ _ _ h => h
  sort := fun _ _ _ _ _ h => h
  take := fun _ _ _ _ _ h => h
  top := fun _ _ _ _ _ _ _ h => h
  project := fun _ _ _ _ _ h => h
  extend := fun _ _ _ _ _ h => h
  summarize := fun _ _ _ _ _ _ _ h => h
  join := fun _ _ _ _ _ _ _ _ _ _ ih h _ hos => and_true' (ih h.1) hos
  as_ := fun _ _ n h _ hos => by
    cases n with
    | none => exact absurd rfl h
    | some i => exact hos
  render := fun _ _ _ _ _ _ _ _ _ h => h

/-- trees without nil in a required position (`Tabular.Good`, Lemmas/WalkLemmas.lean) satisfy
    `skeletonOk`; by `parseTokens_good` (Lemmas/ParseGood.lean) these include every statement of a
    program the parser accepts without error — the only trees `Compile` passes to `splitQueries` -/
theorem skeletonOk_of_good : ∀ t : Tabular, t.Good → skeletonOk t = true :=
  skeletonAlg.tabular

theorem opsOk_of_good : ∀ ops : OpList, ops.Good → opsOk ops = true :=
  skeletonAlg.ops

theorem skeletonOk_of_parsed {srcLen : Nat} {ts : List Token} {stmts : List Stmt}
    (h : parseTokens srcLen ts = (stmts, [])) (t : Tabular) (ht : Stmt.tabular t ∈ stmts) :
    skeletonOk t = true :=
  skeletonOk_of_good t (by have := parseTokens_good h _ ht; simpa only [Stmt.Good] using this)

/-- `C02_limit_never_crosses_nested` for the imperative machine: reading every subquery the
    machine built as `op; sort; take` and concatenating gives exactly the operators of the
    pipeline in order (right-hand pipelines where their join stands) -/
theorem C02_limit_never_crosses_nested_imp (src : Bytes) (scope : List (Bytes × List Chunk)) (t : Tabular)
    (hg : skeletonOk t = true) (dst : List Subquery) (h : runI src scope t = .ok dst) :
    dst.flatMap subClauses = tabClauses t :=
  C02.C02_limit_never_crosses_nested src scope t dst (by rw [← C02_splitQueries_refines_top src scope t hg]; exact h)

theorem C05_names_by_index_imp (src : Bytes) (scope : List (Bytes × List Chunk)) (t : Tabular)
    (hg : skeletonOk t = true) (dst : List Subquery) (h : runI src scope t = .ok dst) :
    ∀ (i : Nat) (hi : i < dst.length),
      dst[i].name = subqueryName i ∨ ∃ p k n, dst[i].op = some (.as_ p k n) ∧ dst[i].name = identName n :=
  C05.C05_names_by_index src scope t dst (by rw [← C02_splitQueries_refines_top src scope t hg]; exact h)

/-- `C05_reads_earlier` (in its form for the model's subqueries, `C05_reads_earlier_model`) for
    the imperative machine: every subquery reads only earlier subqueries or source tables -/
theorem C05_reads_earlier_imp (src : Bytes) (scope : List (Bytes × List Chunk)) (t : Tabular)
    (hg : skeletonOk t = true) (out : List Subquery) (h : runI src scope t = .ok out) :
    ∀ (i : Nat) (hi : i < out.length),
      let earlier (n : Bytes) : Prop :=
        (∃ (j : Nat) (hj : j < i), (out[j]'(Nat.lt_trans hj hi)).name = n) ∨ n ∈ C05.tablesOf t
      (∃ n, out[i].source = [.qid n] ∧ earlier n) ∨
      (∃ u kw l r c, out[i].source = joinSourceOf u kw [.qid l] r c ∧ earlier l ∧ earlier r) :=
  C05.C05_reads_earlier_model src scope t out (by rw [← C02_splitQueries_refines_top src scope t hg]; exact h)

private def idb (s : String) : Ident := ⟨Bytes.ofString s, .zero, false⟩
private def col (s : String) : Expr := .qident [idb s]
private def term (s : String) : SortTerm := ⟨col s, true, .zero, false, .zero⟩

/-- `T | where x | sort by a | take 5 | as X
       | join kind=leftouter (U | sort by b | join (V | take 1) on k | top 2 by c) on k
       | take 3 | sort by d | project a` -/
def exPipeline : Tabular :=
  .mk (some (idb "T"))
    (.cons (.where_ .zero .zero (col "x"))
    (.cons (.sort .zero .zero [term "a"])
    (.cons (.take .zero .zero (.lit .zero .number [53]))
    (.cons (.as_ .zero .zero (some (idb "X")))
    (.cons (.join .zero .zero .zero .zero (some (idb "leftouter")) .zero
        (.mk (some (idb "U"))
          (.cons (.sort .zero .zero [term "b"])
          (.cons (.join .zero .zero .zero .zero none .zero
              (.mk (some (idb "V")) (.cons (.take .zero .zero (.lit .zero .number [49])) .nil))
              .zero .zero (.cons (col "k") .nil))
          (.cons (.top .zero .zero (.lit .zero .number [50]) .zero (some (term "c"))) .nil))))
        .zero .zero (.cons (col "k") .nil))
    (.cons (.take .zero .zero (.lit .zero .number [51]))
    (.cons (.sort .zero .zero [term "d"])
    (.cons (.project .zero .zero [⟨some (idb "a"), .zero, .nil⟩]) .nil))))))))

example : skeletonOk exPipeline = true := by decide

/-- the machine, run on the example, and the functional model agree (checked by evaluation, not
    through the theorem) -/
theorem exPipeline_agrees : runI [] [] exPipeline = splitQueries [] [] [] exPipeline := by
  decide +kernel

/-- … and the run is a real one: eight subqueries; `where`+`sort`+`take` share the first, `as`
    renames the second, the right-hand side of the outer join contributes four (its `top` is
    attached to the inner join's subquery), the outer join's subquery carries `take 3`, `sort by d`
    gets its own subquery and `project` the last -/
theorem exPipeline_runs :
    (match runI [] [] exPipeline with
      | .ok out => out.map fun s => (s.name, s.op.map opTypeName, s.sort.isSome, s.take.isSome)
      | .error _ => []) =
      [(subqueryName 0, some "WhereOperator", true, true),
       (Bytes.ofString "X", some "AsOperator", false, false),
       (subqueryName 2, none, true, false),
       (subqueryName 3, none, false, true),
       (subqueryName 4, none, true, true),
       (subqueryName 5, none, false, true),
       (subqueryName 6, none, true, false),
       (subqueryName 7, some "ProjectOperator", false, false)] := by
  decide +kernel

/-- the heap at the end: eight objects, `dst` points to them in allocation order (no object is
    unreachable, none is shared) -/
theorem exPipeline_heap :
    (match splitQueriesI [] [] #[] [] exPipeline with
      | .ok (h, dst) => (h.size, dst)
      | .error _ => (0, [])) = (8, [0, 1, 2, 3, 4, 5, 6, 7]) := by
  decide +kernel

/-- `C02_limit_never_crosses_nested_imp` applies to it -/
example : ∃ out, runI [] [] exPipeline = .ok out ∧ out.flatMap subClauses = tabClauses exPipeline := by
  have hok : (runI [] [] exPipeline).isOk = true := by decide +kernel
  cases h : runI [] [] exPipeline with
  | error e => rw [h] at hok; cases hok
  | ok out => exact ⟨out, rfl, C02_limit_never_crosses_nested_imp [] [] exPipeline (by decide) out h⟩

/-- a non-empty initial slice — even one in which a pointer occurs twice — satisfies the
    hypotheses: `lastSubquery` never points into the part of `dst` the activation was handed -/
theorem exInitial_agrees :
    let s0 : Subquery := { name := Bytes.ofString "a", source := [] }
    let s1 : Subquery := { name := Bytes.ofString "b", source := [], take := some .nil }
    validDst #[s0, s1] [1, 1, 0] = true ∧
    (splitQueriesI [] [] #[s0, s1] [1, 1, 0] exPipeline).map (fun r => abs r.1 r.2) =
      splitQueries [] [] [s1, s1, s0] exPipeline ∧
    ((splitQueriesI [] [] #[s0, s1] [1, 1, 0] exPipeline).map fun r => (r.1.size, r.2)) =
      .ok (10, [1, 1, 0, 2, 3, 4, 5, 6, 7, 8, 9]) := by
  refine ⟨by decide, ?_, by decide +kernel⟩
  exact C02_splitQueries_refines [] [] exPipeline _ _ (by decide) (by decide)

/-- `compileChunks` (Model/Compile.lean) with the imperative machine in place of the functional
    `splitQueries` -/
def compileChunksI (src : Bytes) (params : List (Bytes × Bytes)) (stmts : List Stmt) : W := do
  let scope0 := params.map fun kv => (kv.1, [Chunk.raw kv.2])
  let (scope, q) ← compileStmts src stmts scope0 none
  match q with
  | none => .error .err
  | some t =>
    let subs ← runI src scope t
    let ctx : Ctx := ⟨src, scope, .default⟩
    match subs.reverse with
    | [] => .error .panic
    | query :: ctesRev =>
      let ctes := ctesRev.reverse
      let withPart ← if ctes.isEmpty then pure [] else do
        let c ← writeCtes ctx ctes
        pure (.txt "WITH " :: c)
      let body ← query.write ctx
      pure (withPart ++ body ++ [.txt ";"])

def compileI (params : List (Bytes × Bytes)) (src : Bytes) : CompileResult :=
  let r := parse src
  if !r.2.isEmpty then .error
  else
    match compileChunksI src params r.1 with
    | .ok cs => .ok (renderChunks cs)
    | .error .err => .error
    | .error .panic => .panic

theorem compileChunksI_eq (src : Bytes) (params : List (Bytes × Bytes)) (stmts : List Stmt)
    (hgood : ∀ s ∈ stmts, s.Good) : compileChunksI src params stmts = compileChunks src params stmts := by
  unfold compileChunksI compileChunks
  simp only [bind, Except.bind]
  cases hc : compileStmts src stmts (params.map fun kv => (kv.1, [Chunk.raw kv.2])) none with
  | error e => rfl
  | ok r =>
    obtain ⟨scope, q⟩ := r
    cases q with
    | none => rfl
    | some t =>
      simp only
      have hm : Stmt.tabular t ∈ stmts := WriteInv.compileStmts_query_mem src hc
      have hg : skeletonOk t = true :=
        skeletonOk_of_good t (by have := hgood _ hm; simpa only [Stmt.Good] using this)
      rw [C02_splitQueries_refines_top src scope t hg]
      rfl

/-- **`Compile` end to end, for every source text and every parameter map**: replacing the
    functional `splitQueries` of the model's `compile` by the imperative machine changes nothing
    (no hypothesis: a text with a parse error is rejected before `splitQueries` is reached, and
    what the parser accepts has no nil in a position `splitQueries` dereferences). -/
theorem C02_compile_imperative (params : List (Bytes × Bytes)) (src : Bytes) :
    compileI params src = compile params src := by
  unfold compileI compile
  simp only
  by_cases he : (parse src).2.isEmpty = true
  · have hnil : (parse src).2 = [] := List.isEmpty_iff.mp he
    have hp : parseTokens src.length (scan src) = ((parse src).1, []) := by
      rw [← hnil]; rfl
    rw [compileChunksI_eq src params _ (parseTokens_good hp)]
    rfl
  · simp only [he, Bool.not_false, if_true]

end Pql.SplitImp
