/-
Property C10, tie by translation: `Span()` of every node type.

`spanMethod` (Model/AstIR.lean) is the reading of a `Span()` method from the regenerated tables: the
nil-receiver guard and the argument list of `Facts.spanUnion`, the form of the return of
`Facts.astSpanReturns` ("union": `return unionSpans(…)`, "direct": the only argument as it is); the
arguments call the regenerated `nodeSpan` / `nodeSliceSpan` / `unionSpans` / `nullSpan` bodies, and
`x.F.Span()` dispatches dynamically to `interpSpan` again.  `C10_spanOf_ir`: the result is `g.span`, the
model's `spanOf` of that node type.  At the end, `C10_fields_match_structs`: the fields `GNode.fields` gives a node are
those of the regenerated struct declaration of its type.
-/
import PqlModel.Props.C10SpanIR
import PqlModel.Props.C10
namespace Pql.AstIR
open Pql
set_option linter.unusedSimpArgs false

theorem method_span (rec : GNode → M Span) (c : GNode) :
    (semAt rec callDepth).method "Span" (.node c) >>= asSpan = rec c := by
  simp [semAt, callDepth, bind_assoc', pure_bind, asSpan, bind_pure']

theorem nilIface_iff (g : GNode) : g.isNilIface = true ↔ g = .node (.expr .nil) := by
  rcases g with (i | e | t | r | o | s | ⟨k, c⟩ | l) | p
  case expr => cases e <;> simp [GNode.isNilIface, GNode.goType]
  case op => cases o <;> simp [GNode.isNilIface, GNode.goType]
  case column => cases k <;> simp [GNode.isNilIface, GNode.goType]
  all_goals simp [GNode.isNilIface, GNode.goType]

theorem span_of_nilIface {c : GNode} (h : c.isNilIface = true) : c.span = .null := (nilIface_iff c).1 h ▸ rfl

theorem run_nodeSpan (rec : GNode → M Span) (d : Nat) (c : GNode) (hc : c.isNilIface = false → rec c = pure c.span) :
    runUnit (semAt rec (d + 2)) "nodeSpan" [.node c] = pure (.span c.span) := by
  rw [C10_nodeSpan_ir (semAt_spanSem rec (d + 1))]
  cases hn : c.isNilIface
  · show (do let s ← rec c; pure (Val.span s)) = _
    rw [hc hn]
    rfl
  · rw [span_of_nilIface hn]
    rfl

theorem nodeSpan_arg (rec : GNode → M Span) (c : GNode) (hc : c.isNilIface = false → rec c = pure c.span) :
    runUnit (semAt rec callDepth) "nodeSpan" [.node c] >>= asSpan = pure c.span := by
  -- `callDepth` (Model/AstIR.lean) is 4, written here and below as the sum the callee's lemma is stated with:
  -- `run_nodeSpan` at `d + 2`, the lemmas under `semAt_spanSem _ 3` at `3 + 1`
  rw [show callDepth = 2 + 2 from rfl, run_nodeSpan rec 2 c hc]
  rfl

theorem call_nodeSpan (rec : GNode → M Span) (d : Nat) (c : GNode) (hc : c.isNilIface = false → rec c = pure c.span) :
    (semAt rec (d + 3)).call "nodeSpan" [.node c] = pure (.span c.span) :=
  run_nodeSpan rec d c hc

theorem slice_arg (rec : GNode → M Span) (cs : List GNode)
    (hc : ∀ c ∈ cs, c.isNilIface = false → rec c = pure c.span) :
    runUnit (semAt rec callDepth) "nodeSliceSpan" [.nodes cs] >>= asSpan = pure (sliceSpan (cs.map GNode.span)) := by
  rw [show callDepth = 3 + 1 from rfl,
    C10_nodeSliceSpan_ir (semAt_spanSem rec 3) GNode.span cs (fun g hg => call_nodeSpan rec 1 g (hc g hg))
      (fun l => C10_unionSpans_ir (semAt_spanSem rec 2) l)]
  rfl

theorem union_top (rec : GNode → M Span) (l : List Span) :
    runUnit (semAt rec callDepth) "unionSpans" [.spans l] >>= asSpan = pure (Span.unions l) := by
  rw [show callDepth = 3 + 1 from rfl, C10_unionSpans_ir (semAt_spanSem rec 3)]; rfl

theorem null_top (rec : GNode → M Span) : runUnit (semAt rec callDepth) "nullSpan" [] >>= asSpan = pure Span.null := by
  rw [nullSpan_ir]; rfl

theorem exprSize_pos (e : Expr) : 0 < e.size := by cases e <;> simp [Expr.size]
theorem tabularSize_pos (t : Tabular) : 0 < t.size := by cases t <;> simp [Tabular.size]

theorem mem_sum_le {α : Type} (f : α → Nat) : ∀ {l : List α} {a : α}, a ∈ l → f a ≤ (l.map f).sum
  | [], _, h => by cases h
  | b :: l, a, h => by
    simp only [List.map_cons, List.sum_cons]
    rcases List.mem_cons.1 h with rfl | h
    · omega
    · have := mem_sum_le f h; omega

theorem mem_exprs_size {es : ExprList} {e : Expr} (h : e ∈ es.toList) : e.size ≤ es.size :=
  totalSize_exprs es ▸ mem_sum_le Node.size (List.mem_map_of_mem (f := Node.expr) h)

theorem mem_ops_size {os : OpList} {o : Op} (h : o ∈ os.toList) : o.size ≤ os.size :=
  totalSize_ops os ▸ mem_sum_le Node.size (List.mem_map_of_mem (f := Node.op) h)

def Kids (rec : GNode → M Span) (n : Nat) : Prop :=
  ∀ c : GNode, c.size < n → c.isNilIface = false → rec c = pure c.span

section kids
variable {rec : GNode → M Span} {n : Nat} (hk : Kids rec n)
include hk

theorem kidE (e : Expr) (h : e.size < n) :
    runUnit (semAt rec callDepth) "nodeSpan" [.node (.node (.expr e))] >>= asSpan = pure e.spanOf :=
  nodeSpan_arg rec _ (hk _ h)

theorem kidI (i : Option Ident) (h : 1 < n) :
    (semAt rec callDepth).method "Span" (.node (.node (.ident i))) >>= asSpan = pure (Ident.spanOf i) := by
  rw [method_span]; exact hk _ h rfl

theorem kidTab (t : Tabular) (h : t.size < n) :
    (semAt rec callDepth).method "Span" (.node (.node (.tabular t))) >>= asSpan = pure t.spanOf := by
  rw [method_span]; exact hk _ h rfl

theorem kidRef (src : Option Ident) (h : 2 < n) :
    (semAt rec callDepth).method "Span" (.node (.node (.tableRef src))) >>= asSpan = pure (Ident.spanOf src) := by
  rw [method_span]; exact hk _ h rfl

theorem kidTerm (t : SortTerm) (h : t.x.size + 1 < n) :
    runUnit (semAt rec callDepth) "nodeSpan" [.node (.node (.sortTerm (some t)))] >>= asSpan = pure t.spanOf :=
  nodeSpan_arg rec (.node (.sortTerm (some t))) (hk _ h)

theorem kidNoTerm (h : 1 < n) :
    runUnit (semAt rec callDepth) "nodeSpan" [.node (.node (.sortTerm none))] >>= asSpan = pure .null :=
  nodeSpan_arg rec (.node (.sortTerm none)) (hk _ h)

/-- a slice of children: `f` embeds the elements, all of size at most `m` -/
theorem kidSlice {α : Type} (f : α → GNode) (l : List α) (m : Nat) (hm : ∀ a ∈ l, (f a).size ≤ m) (h : m < n) :
    runUnit (semAt rec callDepth) "nodeSliceSpan" [.nodes (l.map f)] >>= asSpan =
      pure (sliceSpan (l.map fun a => (f a).span)) := by
  rw [slice_arg rec _ (fun c hc => ?_), List.map_map]; rfl
  obtain ⟨a, ha, rfl⟩ := List.mem_map.1 hc
  exact hk _ (Nat.lt_of_le_of_lt (hm a ha) h)

theorem kidEs (es : ExprList) (h : es.size < n) :
    runUnit (semAt rec callDepth) "nodeSliceSpan" [.nodes (es.toList.map fun e => .node (.expr e))] >>= asSpan =
      pure (sliceSpan es.spansOf) :=
  spansOf_eq_map es ▸ kidSlice hk _ _ _ (fun _ => mem_exprs_size) h

theorem kidOps (os : OpList) (h : os.size < n) :
    runUnit (semAt rec callDepth) "nodeSliceSpan" [.nodes (os.toList.map fun o => .node (.op o))] >>= asSpan =
      pure (sliceSpan os.spansOf) :=
  opSpansOf_eq_map os ▸ kidSlice hk _ _ _ (fun _ => mem_ops_size) h

theorem kidCols (k : ColKind) (cs : List Column) (h : (cs.map Column.size).sum < n) :
    runUnit (semAt rec callDepth) "nodeSliceSpan" [.nodes (cs.map fun c => .node (.column k c))] >>= asSpan =
      pure (sliceSpan (cs.map Column.spanOf)) :=
  kidSlice hk _ _ _ (fun _ => mem_sum_le Column.size) h

theorem kidTerms (ts : List SortTerm) (h : (ts.map SortTerm.size).sum < n) :
    runUnit (semAt rec callDepth) "nodeSliceSpan" [.nodes (ts.map fun t => .node (.sortTerm (some t)))] >>= asSpan =
      pure (sliceSpan (ts.map SortTerm.spanOf)) :=
  kidSlice hk _ _ _ (fun _ => mem_sum_le SortTerm.size) h

theorem kidProps (ps : List RenderProp) (h : (ps.map fun p => p.value.size + 1).sum < n) :
    runUnit (semAt rec callDepth) "nodeSliceSpan" [.nodes (ps.map .prop)] >>= asSpan =
      pure (sliceSpan (ps.map RenderProp.spanOf)) :=
  kidSlice hk _ _ _ (fun _ => mem_sum_le fun p : RenderProp => p.value.size + 1) h

theorem kidParts (parts : List Ident) (h : parts.length < n) :
    runUnit (semAt rec callDepth) "nodeSliceSpan" [.nodes (parts.map fun i => .node (.ident (some i)))] >>= asSpan =
      pure (sliceSpan (parts.map fun i => i.span)) :=
  kidSlice hk _ _ _ (fun _ ha => List.length_pos_of_mem ha) h

end kids

/-- unfolds `spanMethod` on one node form: its row of `Facts.spanUnion`, the arguments (closed by the lemmas above, side
    conditions by `omega`) and the model's `spanOf` -/
syntax "span_case" (" [" Lean.Parser.Tactic.simpLemma,* "]")? : tactic
macro_rules
  | `(tactic| span_case) => `(tactic| span_case [])
  | `(tactic| span_case [$ls,*]) =>
    `(tactic| simp (disch := omega) only [spanMethod, GNode.goType, GNode.fields, Facts.spanUnion, Facts.astSpanReturns,
        List.find?, String.reduceBEq, BEq.rfl, Bool.false_eq_true, not_false_eq_true, ↓reduceIte, mapArgs, argSpan,
        lookupField, Option.map_some, vExpr, vIdent, vExprs, vCols, union_top, null_top, GNode.span, Expr.spanOf,
        Op.spanOf, Tabular.spanOf, Stmt.spanOf, SortTerm.spanOf, Column.spanOf, RenderProp.spanOf, Ident.spanOf, pure_bind,
        $ls,*])

/-- a case of `spanMethod_eq`: the table reading of the method, each argument by the lemma for its form, the size of
    the child against the size of the node by `omega` -/
macro "kid_case " hk:ident : tactic =>
  `(tactic| (simp only [GNode.size, Node.size, Expr.size, Op.size, Tabular.size, SortTerm.size, Column.size] at $hk:ident
             span_case [kidE $hk, kidI $hk, kidTab $hk, kidRef $hk, kidTerm $hk, kidNoTerm $hk, kidEs $hk, kidOps $hk,
               kidCols $hk, kidTerms $hk, kidProps $hk, kidParts $hk]))

theorem spanMethod_eq (rec : GNode → M Span) (g : GNode) (hn : g.isNilIface = false) (hk : Kids rec g.size) :
    spanMethod rec g = pure g.span := by
  rcases g with (i | e | t | r | o | s | ⟨k, c⟩ | l) | p
  · cases i <;> kid_case hk
  · cases e
    · simp [GNode.isNilIface, GNode.goType] at hn
    all_goals kid_case hk
  · cases t <;> kid_case hk
  · kid_case hk
  · cases o
    case join p k kind ka fl lp right rp on conds => have := tabularSize_pos right; kid_case hk
    case top p k e b c => cases c <;> kid_case hk
    all_goals kid_case hk
  · cases s <;> kid_case hk
  · cases k <;> kid_case hk
  · kid_case hk
  · have := exprSize_pos p.value; kid_case hk

theorem gsize_pos : ∀ g : GNode, 0 < g.size
  | .prop _ => by simp [GNode.size]
  | .node (.ident _) | .node (.tableRef _) | .node (.sortTerm none) | .node (.sortTerm (some _))
  | .node (.column ..) | .node (.letStmt ..) => by simp [GNode.size, Node.size, SortTerm.size, Column.size]
  | .node (.expr e) => exprSize_pos e
  | .node (.tabular t) => tabularSize_pos t
  | .node (.op o) => by cases o <;> simp [GNode.size, Node.size, Op.size]

/-- **`Span()` of every node type is the table reading.**  For every node `g` that is not the nil
    interface — of every type, with every tree below it — and every fuel that is at least the size of
    the tree, dynamic dispatch through the regenerated tables (nil-receiver guard, then `unionSpans` of
    the listed arguments or the only argument as it is, with `nodeSpan` / `nodeSliceSpan` /
    `unionSpans` / `nullSpan` interpreted from their regenerated bodies) returns the model's `spanOf`. -/
theorem C10_spanOf_ir : ∀ (fuel : Nat) (g : GNode), g.isNilIface = false → g.size ≤ fuel →
    interpSpan fuel g = pure g.span
  | 0, g, _, h => by
    have := gsize_pos g
    omega
  | fuel + 1, g, hn, h =>
    spanMethod_eq (interpSpan fuel) g hn fun c hc hcn => C10_spanOf_ir fuel c hcn (by omega)

/-- without "not the nil interface": a method call on the nil interface panics in Go, while the model's
    `Expr.nil.spanOf` is the null span (which is what `nodeSpan` returns WITHOUT calling `Span()`:
    `C10_nodeSpan_ir`) -/
theorem C10_spanOf_ir_nil_iface (fuel : Nat) : interpSpan (fuel + 1) (.node (.expr .nil)) = goPanic := rfl

theorem nodeSpan_arg_stuck (c : GNode) (hc : c.isNilIface = false) :
    runUnit (semAt (fun _ => stuck) callDepth) "nodeSpan" [.node c] >>= asSpan = stuck := by
  rw [show callDepth = 3 + 1 from rfl, C10_nodeSpan_ir (semAt_spanSem _ 3), hc]
  rfl

/-- without "fuel ≥ size": the dispatch runs out of depth (`Span()` of the operand has no fuel left) -/
theorem C10_spanOf_ir_no_fuel :
    interpSpan 1 (.node (.expr (.unary ⟨0, 1⟩ .minus (.lit ⟨1, 2⟩ .number [49])))) = stuck := by
  show spanMethod (fun _ => stuck) _ = stuck
  span_case [nodeSpan_arg_stuck (.node (.expr (.lit ⟨1, 2⟩ .number [49]))) rfl, stuck_bind]

/-- a non-trivial instance, computed by the interpreter itself: `-1` at [0,2) -/
example : interpSpan 2 (.node (.expr (.unary ⟨0, 1⟩ .minus (.lit ⟨1, 2⟩ .number [49])))) = pure ⟨0, 2⟩ := rfl

/-- … and the same through the theorem -/
example : interpSpan 2 (.node (.expr (.unary ⟨0, 1⟩ .minus (.lit ⟨1, 2⟩ .number [49])))) = pure ⟨0, 2⟩ :=
  C10_spanOf_ir 2 _ rfl (by decide)

def Val.kind : Val → String
  | .span _ => "span"
  | .scalar => "scalar"
  | .node _ => "node"
  | .nodes _ => "nodes"
  | _ => "?"

/-- the slice types of parser/ast.go -/
def sliceTypes : List String :=
  ["[]*Ident", "[]TabularOperator", "[]*SortTerm", "[]*ProjectColumn", "[]*ExtendColumn", "[]*SummarizeColumn", "[]Expr",
   "[]*RenderProperty"]

def typeKind (ty : String) : String :=
  if ty == "Span" then "span"
  else if ty == "string" || ty == "bool" || ty == "TokenKind" then "scalar"
  else if sliceTypes.contains ty then "nodes"
  else "node"

def shapeOK (ty : String) (fs : List (String × Val)) : Bool :=
  (Facts.structFields.find? (·.1 == ty)).map (fun x => x.2.map fun f => (f.1, typeKind f.2)) ==
    some (fs.map fun f => (f.1, f.2.kind))

/-- one node of every constructor that has fields; `shapeOK` looks at the names of the fields and the constructors
    of their values only -/
def shapeSamples : List GNode :=
  [.prop default, .node (.ident (some default)), .node (.expr (.qident [])), .node (.expr (.lit default .number [])),
   .node (.expr (.unary default .minus .nil)), .node (.expr (.binary .nil default .plus .nil)),
   .node (.expr (.inE .nil default default .nil default)), .node (.expr (.paren default .nil default)),
   .node (.expr (.call default default .nil default)), .node (.expr (.index .nil default .nil default)),
   .node (.tabular (.mk none .nil)), .node (.tableRef none), .node (.op (.count default default)),
   .node (.op (.where_ default default .nil)), .node (.op (.sort default default [])),
   .node (.op (.take default default .nil)), .node (.op (.top default default .nil default none)),
   .node (.op (.project default default [])), .node (.op (.extend default default [])),
   .node (.op (.summarize default default [] default [])),
   .node (.op (.join default default default default none default .nil default default .nil)),
   .node (.op (.as_ default default none)), .node (.op (.render default default none default default [] default)),
   .node (.sortTerm (some default)), .node (.column .project default), .node (.column .extend default),
   .node (.column .summarize default), .node (.letStmt default none default .nil)]

def GNode.shapeOK (g : GNode) : Bool :=
  match g.goType, g.fields with
  | some ty, some fs => AstIR.shapeOK ty fs
  | _, _ => true

/-- ONE evaluation for all node types: the kernel then reads each string of the tables once -/
theorem samples_shape : shapeSamples.all GNode.shapeOK = true := by decide +kernel

/-- the kinds of the values are read off the constructors; what is left is the comparison of a sample -/
macro "shape_case" loc:(Lean.Parser.Tactic.location)? : tactic =>
  `(tactic| simp only [GNode.shapeOK, GNode.goType, GNode.fields, shapeOK, List.map, Val.kind, vExpr, vIdent, vExprs, vCols,
      *] $[$loc]?)

/-- `GNode.fields` lists, for every node type, exactly the fields of the regenerated struct declaration
    (`Facts.structFields`), in declaration order, each with a value of the right kind -/
theorem C10_fields_match_structs (g : GNode) (ty : String) (fs : List (String × Val)) (h1 : g.goType = some ty)
    (h2 : g.fields = some fs) : shapeOK ty fs = true := by
  have all := samples_shape
  simp only [shapeSamples, List.all_cons, List.all_nil, Bool.and_true, Bool.and_eq_true] at all
  shape_case at all
  have key : g.shapeOK = true := by
    clear h1 h2
    rcases g with (i | e | t | r | o | s | ⟨k, c⟩ | l) | p
    · cases i <;> shape_case
    · cases e <;> shape_case
    · cases t <;> shape_case
    · shape_case
    · cases o <;> shape_case
    · cases s <;> shape_case
    · cases k <;> shape_case
    · shape_case
    · shape_case
  rw [GNode.shapeOK, h1, h2] at key
  exact key

end Pql.AstIR
