/-
Property C06 / C01 — "the substituted value always acts as one operand, whatever operators surround
the reference": the lexical and the syntactic round trip of the expression writer, for every scope
the statement loop builds from let statements (the theorems `C01_lexRender`,
`C01_parse_roundtrip_partial`, `C01_operand_is_unit` are the case `ctx.scope = []`).

`ScopeLetsEnv src scope env` (Lemmas/ScopeRTLets.lean) describes these scopes together with the environment `env`
of the oracle's `resolveLets` for the same lets.  The scope `compileStmts` returns, started from `[]`, is such a
scope (`C06_compileStmts_scope`); every stored chunk list is read by the SQL reader as ONE ATOM (hence as one
operand of any sign, subscript or infix operator) whose tree is the translation of the resolved let value, and
lexically it is self-contained and does not start with `-` (`C06_let_value_is_operand`); the C01 theorems hold
with `ScopeLetsEnv ctx.src ctx.scope env` in place of `ctx.scope = []`, the intended translation being
`tr (substExpr env e)`.

Side condition (join conditions only): `envJoinSafe env` — no let is called `$left` / `$right` and no
resolved value mentions an identifier so called.  It is needed: `C06_join_name_counterexample`
(`let $left = 1; … | join (…) on $left == $right.b`).
Names: `…_scoped_partial` is the general form (any mode, `envJoinSafe` asked in join mode; `_partial` as in
`C01_parse_roundtrip_partial`: the tokens may be followed by a `rest`), `…_scoped` its case outside join conditions,
`…_scoped_names` the one whose condition looks at the names of the scope only.
The hypothesis `ScopeLets` itself is needed: a *parameter* is entered into the scope as raw text and is
not one operand (`C06_param_regrouped`, `C06_param_comment`).
-/
import PqlModel.Lemmas.ScopeRTAlias
import PqlModel.Props.C01Syntactic
namespace Pql.C06
open Pql Sql CompileOracle Pql.RT

/-- **C06 (the scope of the statement loop).** -/
theorem C06_compileStmts_scope (src : Bytes) (stmts : List Stmt) (scope : Scope) (q : Option Tabular)
    (hv : LetValuesOK stmts)
    (h : compileStmts src stmts [] none = .ok (scope, q)) :
    ScopeLetsEnv src scope (letsEnv stmts []) :=
  compileStmts_scopeLets src stmts [] [] .nil hv scope q h

theorem C06_compileStmts_scopeLets (src : Bytes) (stmts : List Stmt) (scope : Scope) (q : Option Tabular)
    (hv : LetValuesOK stmts) (h : compileStmts src stmts [] none = .ok (scope, q)) : ScopeLets src scope :=
  ⟨_, C06_compileStmts_scope src stmts scope q hv h⟩

/-- started from any scope of this kind (several batches of lets) -/
theorem C06_compileStmts_scope_from (src : Bytes) (stmts : List Stmt) (scope0 scope : Scope)
    (env0 : List (Bytes × Expr)) (q : Option Tabular) (h0 : ScopeLetsEnv src scope0 env0) (hv : LetValuesOK stmts)
    (h : compileStmts src stmts scope0 none = .ok (scope, q)) :
    ScopeLetsEnv src scope (letsEnv stmts env0) :=
  compileStmts_scopeLets src stmts scope0 env0 h0 hv scope q h

/-- **C06 (a let value is one operand).** For every entry `(n, v)` of a scope built from lets there is
    the entry `(n, x')` of the environment (`x'` the let's value with the earlier lets resolved), and
    whenever `x'` has a translation `want`:
    the tokens of `v` are read by `pAtomS` as one atom `want` whatever follows that cannot continue an
    atom (`AtomP`: not `.`, `(`, `FILTER`), hence by `pUnaryS` as one operand whatever follows that is
    not additionally `[` (`UnitP`).  Signed values too: the statement loop stores them in parentheses.
    Lexically: `v` is adjacent before every separator (`AdjC`), and its text does not start with `-`. -/
theorem C06_let_value_is_operand {src : Bytes} {scope : Scope} {env : List (Bytes × Expr)}
    (h : ScopeLetsEnv src scope env) (n : Bytes) (v : List Chunk) (hm : (n, v) ∈ scope) :
    ∃ x', (n, x') ∈ env ∧
      (∀ want, tr false x' = some want → AtomP (toksOf v) want ∧ UnitP (toksOf v) want) ∧
      (∀ rest : Bytes, LexRender.sepHead rest.head? = true → LexRender.AdjC rest v = true) ∧
      (∀ rest : Bytes, rest.head? ≠ some 45 → (renderChunks v ++ rest).head? ≠ some 45) := by
  induction h with
  | nil => cases hm
  | @cons scope env n' x cs hsc hok hshape hw ih =>
    rcases List.mem_cons.mp hm with heq | hm'
    · cases heq
      have g : GoodS ⟨src, scope, .let_⟩ env x :=
        goodS_all ⟨src, scope, .let_⟩ env (scopeRT_of_lets hsc) (joinOK_let src scope env) x hshape hok
      have inv := LexRender.writeExpr_goodS ⟨src, scope, .let_⟩ (scopeAdj_of_lets hsc) x hok cs hw
      refine ⟨substExpr env x, List.mem_cons_self, ?_, LexRender.good_wrapTight x inv.1, LexRender.head_wrapTight x inv.2⟩
      intro want hwant
      have ha : AtomP (toksOf (wrapTight x cs)) want := g.tight hw hwant
      exact ⟨ha, ha.toUnit⟩
    · obtain ⟨x', hx', rest⟩ := ih hm'
      exact ⟨x', List.mem_cons_of_mem _ hx', rest⟩

/-- the same spelled out for the reader's unary level, as in `C01_operand_is_unit` -/
theorem C06_let_value_is_operand_pUnary {src : Bytes} {scope : Scope} {env : List (Bytes × Expr)}
    (h : ScopeLetsEnv src scope env) (n : Bytes) (v : List Chunk) (hm : (n, v) ∈ scope) :
    ∃ x', (n, x') ∈ env ∧ ∀ want, tr false x' = some want → ∀ rest, Ends unaryEndTok rest →
      ∃ s, normS s = normS want ∧
        ∃ fuel, ∀ fuel', fuel ≤ fuel' → Sql.pUnaryS fuel' (toksOf v ++ rest) = some (s, rest) := by
  obtain ⟨x', hx', hp, _⟩ := C06_let_value_is_operand h n v hm
  exact ⟨x', hx', fun want hw rest hr => (hp want hw).2 rest hr⟩

/-- what a *reference* writes is the stored chunk list of the newest binding of that name -/
theorem C06_reference_writes_stored (ctx : Ctx) (p : Ident) (hq : p.quoted = false) (sql : List Chunk)
    (hl : lookupScope ctx.scope p.name = some sql) : writeExpr ctx (.qident [p]) = .ok sql := by
  simp only [writeExpr, hq, hl, Bool.not_false, if_true]

theorem C06_writeExpr_adj_before (ctx : Ctx) (e : Expr) (cs : List Chunk) (hsc : ScopeLets ctx.src ctx.scope)
    (hok : e.lexOK = true) (h : writeExpr ctx e = .ok cs) (rest : Bytes)
    (hrest : LexRender.sepHead rest.head? = true) : LexRender.AdjC rest cs = true := by
  obtain ⟨env, hsc⟩ := hsc
  exact (LexRender.writeExpr_goodS ctx (scopeAdj_of_lets hsc) e hok cs h).1 rest hrest

theorem C06_writeExpr_adj (ctx : Ctx) (e : Expr) (cs : List Chunk) (hsc : ScopeLets ctx.src ctx.scope)
    (hok : e.lexOK = true) (h : writeExpr ctx e = .ok cs) : LexRender.Adj cs = true :=
  C06_writeExpr_adj_before ctx e cs hsc hok h [] rfl

/-- **C06 / C01 (LexRender under a scope).** Lexing the bytes the expression writer emits, with
    let-bound names replaced by their stored text, yields exactly the chunk tokens. -/
theorem C06_lexRender_scoped (ctx : Ctx) (e : Expr) (cs : List Chunk)
    (hsc : ScopeLets ctx.src ctx.scope)
    (hok : e.lexOK = true)
    (h : writeExpr ctx e = .ok cs) :
    Sql.lex .standard (renderChunks cs) = some (toksOf cs) :=
  LexRender.lexRender_of_adj_top cs (C06_writeExpr_adj ctx e cs hsc hok h)

/-- in context, as `C01_lexRender_before` -/
theorem C06_lexRender_scoped_before (ctx : Ctx) (e : Expr) (cs : List Chunk)
    (hsc : ScopeLets ctx.src ctx.scope) (hok : e.lexOK = true) (h : writeExpr ctx e = .ok cs)
    (rest : Bytes) (hrest : LexRender.sepHead rest.head? = true) (fuel : Nat) :
    (lexAux .standard (fuel + LexRender.steps cs) (renderChunks cs ++ rest)).map (·.filter (· != .comment)) =
      (lexAux .standard fuel rest).map (fun ts => toksOf cs ++ ts.filter (· != .comment)) :=
  LexRender.lexRender_of_adj cs rest fuel (C06_writeExpr_adj_before ctx e cs hsc hok h rest hrest)

theorem goodS_of_lets (ctx : Ctx) (env : List (Bytes × Expr)) (hsc : ScopeLetsEnv ctx.src ctx.scope env)
    (hjoin : ctx.mode = .join → envJoinSafe env = true) (e : Expr) (hok : e.lexOK = true)
    (hshape : shapeOK e = true) : GoodS ctx env e :=
  goodS_of_scopeRT ctx env (scopeRT_of_lets hsc) hjoin e hok hshape

/-- **C06 / C01 (ParseRoundtrip under a scope).** `ctx.scope` has been built by the statement loop from
    lets with resolved values `env`.  If the writer succeeds on `e` with chunks `cs`, and `want` is the
    intended translation of `e` *with the let-bound names replaced by their values*, then the SQL
    reader run at minimum precedence 0 on the tokens of `cs`, followed by any `rest` that cannot
    continue an expression, returns a tree equal to `want` up to `normS` and leaves exactly `rest`. -/
theorem C06_parse_roundtrip_scoped_partial (ctx : Ctx) (env : List (Bytes × Expr)) (e : Expr) (cs : List Chunk)
    (want : SExpr) (rest : List STok)
    (hsc : ScopeLetsEnv ctx.src ctx.scope env)
    (hjoin : ctx.mode = .join → envJoinSafe env = true)
    (hok : e.lexOK = true)
    (hshape : shapeOK e = true)
    (hw : writeExpr ctx e = .ok cs)
    (ht : CompileOracle.tr (ctx.mode == .join) (substExpr env e) = some want)
    (hrest : C01.Stops rest) :
    ∃ s, normS s = normS want ∧
      ∃ fuel, ∀ fuel', fuel ≤ fuel' → Sql.pExprS fuel' 0 (toksOf cs ++ rest) = some (s, rest) :=
  (goodS_of_lets ctx env hsc hjoin e hok hshape).expr hw ht rest hrest

theorem C06_parse_roundtrip_scoped_whole_partial (ctx : Ctx) (env : List (Bytes × Expr)) (e : Expr) (cs : List Chunk)
    (want : SExpr) (hsc : ScopeLetsEnv ctx.src ctx.scope env)
    (hjoin : ctx.mode = .join → envJoinSafe env = true) (hok : e.lexOK = true) (hshape : shapeOK e = true)
    (hw : writeExpr ctx e = .ok cs) (ht : CompileOracle.tr (ctx.mode == .join) (substExpr env e) = some want) :
    ∃ s, normS s = normS want ∧ ∃ fuel, ∀ fuel', fuel ≤ fuel' → Sql.pExprS fuel' 0 (toksOf cs) = some (s, []) := by
  simpa using C06_parse_roundtrip_scoped_partial ctx env e cs want [] hsc hjoin hok hshape hw ht C01.Stops.nil

/-- at every fuel at which the reader returns at all -/
theorem C06_parse_roundtrip_scoped_anyfuel_partial (ctx : Ctx) (env : List (Bytes × Expr)) (e : Expr) (cs : List Chunk)
    (want : SExpr) (rest : List STok) (hsc : ScopeLetsEnv ctx.src ctx.scope env)
    (hjoin : ctx.mode = .join → envJoinSafe env = true) (hok : e.lexOK = true) (hshape : shapeOK e = true)
    (hw : writeExpr ctx e = .ok cs) (ht : CompileOracle.tr (ctx.mode == .join) (substExpr env e) = some want)
    (hrest : C01.Stops rest) (fuel : Nat) (s : SExpr) (r : List STok)
    (hp : Sql.pExprS fuel 0 (toksOf cs ++ rest) = some (s, r)) : normS s = normS want ∧ r = rest := by
  obtain ⟨s', hs', hpe⟩ := C06_parse_roundtrip_scoped_partial ctx env e cs want rest hsc hjoin hok hshape hw ht hrest
  obtain ⟨rfl, rfl⟩ := PE.at_fuel hpe hp
  exact ⟨hs', rfl⟩

/-- **C06 / C01 (operands are units, under a scope).** An operand written by
    `writeExpressionMaybeParen` — in particular a bare reference to a let — is read by the reader's
    unary level as one operand, whatever operator follows. -/
theorem C06_operand_is_unit_scoped_partial (ctx : Ctx) (env : List (Bytes × Expr)) (x : Expr) (body : List Chunk)
    (want : SExpr) (rest : List STok)
    (hsc : ScopeLetsEnv ctx.src ctx.scope env) (hjoin : ctx.mode = .join → envJoinSafe env = true)
    (hok : x.lexOK = true) (hshape : shapeOK x = true)
    (hw : writeExpr ctx x = .ok body) (ht : CompileOracle.tr (ctx.mode == .join) (substExpr env x) = some want)
    (hrest : Ends unaryEndTok rest) :
    ∃ s, normS s = normS want ∧
      ∃ fuel, ∀ fuel', fuel ≤ fuel' → Sql.pUnaryS fuel' (toksOf (wrapMaybe x body) ++ rest) = some (s, rest) :=
  (goodS_of_lets ctx env hsc hjoin x hok hshape).unit hw ht rest hrest

/-- the operand of a sign and the base of a subscript (`writeExpressionTight`) are atoms -/
theorem C06_tight_operand_is_atom_scoped_partial (ctx : Ctx) (env : List (Bytes × Expr)) (x : Expr) (body : List Chunk)
    (want : SExpr) (rest : List STok)
    (hsc : ScopeLetsEnv ctx.src ctx.scope env) (hjoin : ctx.mode = .join → envJoinSafe env = true)
    (hok : x.lexOK = true) (hshape : shapeOK x = true)
    (hw : writeExpr ctx x = .ok body) (ht : CompileOracle.tr (ctx.mode == .join) (substExpr env x) = some want)
    (hrest : Ends atomEndTok rest) :
    ∃ s, normS s = normS want ∧
      ∃ fuel, ∀ fuel', fuel ≤ fuel' → Sql.pAtomS fuel' (toksOf (wrapTight x body) ++ rest) = some (s, rest) :=
  (goodS_of_lets ctx env hsc hjoin x hok hshape).tight hw ht rest hrest

/-- **C06 / C01 (ParseRoundtrip under a scope, `where` / `extend` / `project` / … expressions).** -/
theorem C06_parse_roundtrip_scoped (ctx : Ctx) (env : List (Bytes × Expr)) (e : Expr) (cs : List Chunk)
    (want : SExpr) (rest : List STok)
    (hsc : ScopeLetsEnv ctx.src ctx.scope env)
    (hmode : ctx.mode ≠ .join)
    (hok : e.lexOK = true)
    (hshape : shapeOK e = true)
    (hw : writeExpr ctx e = .ok cs)
    (ht : CompileOracle.tr false (substExpr env e) = some want)
    (hrest : C01.Stops rest) :
    ∃ s, normS s = normS want ∧
      ∃ fuel, ∀ fuel', fuel ≤ fuel' → Sql.pExprS fuel' 0 (toksOf cs ++ rest) = some (s, rest) := by
  have hm : (ctx.mode == Mode.join) = false := by simpa using hmode
  exact C06_parse_roundtrip_scoped_partial ctx env e cs want rest hsc (fun h => absurd h hmode) hok hshape hw
    (by rw [hm]; exact ht) hrest

theorem C06_operand_is_unit_scoped (ctx : Ctx) (env : List (Bytes × Expr)) (x : Expr) (body : List Chunk)
    (want : SExpr) (rest : List STok)
    (hsc : ScopeLetsEnv ctx.src ctx.scope env) (hmode : ctx.mode ≠ .join)
    (hok : x.lexOK = true) (hshape : shapeOK x = true)
    (hw : writeExpr ctx x = .ok body) (ht : CompileOracle.tr false (substExpr env x) = some want)
    (hrest : Ends unaryEndTok rest) :
    ∃ s, normS s = normS want ∧
      ∃ fuel, ∀ fuel', fuel ≤ fuel' → Sql.pUnaryS fuel' (toksOf (wrapMaybe x body) ++ rest) = some (s, rest) := by
  have hm : (ctx.mode == Mode.join) = false := by simpa using hmode
  exact C06_operand_is_unit_scoped_partial ctx env x body want rest hsc (fun h => absurd h hmode) hok hshape hw
    (by rw [hm]; exact ht) hrest

/-- **C06 / C01 (ParseRoundtrip under a scope, any mode, condition on the names only).**  If no let is
    called `$left` / `$right` (`scopeNamesSafe`, decidable) and every let value has a translation, the
    round trip holds in join conditions as well (`envJoinSafe_of_names`: the resolved values cannot
    mention the aliases, because let mode rejects every identifier that is not a bound name or a
    constant). -/
theorem C06_parse_roundtrip_scoped_names (ctx : Ctx) (env : List (Bytes × Expr)) (e : Expr) (cs : List Chunk)
    (want : SExpr) (rest : List STok)
    (hsc : ScopeLetsEnv ctx.src ctx.scope env)
    (hnames : ctx.mode = .join → scopeNamesSafe ctx.scope = true)
    (hvals : ∀ kv ∈ env, (CompileOracle.tr false kv.2).isSome = true)
    (hok : e.lexOK = true) (hshape : shapeOK e = true)
    (hw : writeExpr ctx e = .ok cs)
    (ht : CompileOracle.tr (ctx.mode == .join) (substExpr env e) = some want)
    (hrest : C01.Stops rest) :
    ∃ s, normS s = normS want ∧
      ∃ fuel, ∀ fuel', fuel ≤ fuel' → Sql.pExprS fuel' 0 (toksOf cs ++ rest) = some (s, rest) :=
  C06_parse_roundtrip_scoped_partial ctx env e cs want rest hsc
    (fun hm => envJoinSafe_of_names hsc (hnames hm) hvals) hok hshape hw ht hrest

namespace Ex
def n : Ident := ⟨[110], .zero, false⟩
def minus5 : Expr := .unary .zero .minus (.lit .zero .number [53])
def lets : List Stmt := [.let_ .zero (some n) .zero minus5]
/-- `n ↦ (-5)` -/
def scope : Scope := [([110], [.txt "(", .txt "-", .num [53], .txt ")"])]
def env : List (Bytes × Expr) := [([110], minus5)]
/-- `-n * n[1] > 0` -/
def e : Expr :=
  .binary (.binary (.unary .zero .minus (.qident [n])) .zero .star
    (.index (.qident [n]) .zero (.lit .zero .number [49]) .zero)) .zero .gt (.lit .zero .number [48])
/-- `(-(-5) * ((-5)[1])) > 0` -/
def out : List Chunk :=
  [.txt "(", .txt "-", .txt "(", .txt "-", .num [53], .txt ")", .txt " ", .txt "*", .txt " ", .txt "(", .txt "(",
   .txt "-", .num [53], .txt ")", .txt "[", .num [49], .txt "]", .txt ")", .txt ")", .txt " ", .txt ">", .txt " ",
   .num [48]]
def want : SExpr :=
  .bin ">" (.bin "*" (.neg (.neg (.num [53]))) (.index (.neg (.num [53])) (.num [49]))) (.num [48])

theorem lets_ok : LetValuesOK lets := by
  intro st hst kw nm a x hx
  simp only [lets, List.mem_singleton] at hst
  rw [hst] at hx
  cases hx
  exact ⟨by decide, by decide⟩

theorem run : compileStmts [] lets [] none = .ok (scope, none) := by rfl

theorem isScope : ScopeLetsEnv [] scope env := C06_compileStmts_scope [] lets scope none lets_ok run

theorem e_ok : e.lexOK = true ∧ shapeOK e = true := by decide +kernel
theorem write : writeExpr ⟨[], scope, .default⟩ e = .ok out := by rfl
theorem tr_subst : tr false (substExpr env e) = some want := by rfl
end Ex

example : ScopeLets [] Ex.scope := C06_compileStmts_scopeLets [] Ex.lets Ex.scope none Ex.lets_ok Ex.run

example : ∃ x', ([110], x') ∈ Ex.env ∧ ∀ want, tr false x' = some want → ∀ rest, Ends unaryEndTok rest →
    ∃ s, normS s = normS want ∧
      ∃ fuel, ∀ fuel', fuel ≤ fuel' →
        Sql.pUnaryS fuel' (toksOf [.txt "(", .txt "-", .num [53], .txt ")"] ++ rest) = some (s, rest) :=
  C06_let_value_is_operand_pUnary Ex.isScope [110] _ List.mem_cons_self

example : Sql.lex .standard (renderChunks Ex.out) = some (toksOf Ex.out) :=
  C06_lexRender_scoped ⟨[], Ex.scope, .default⟩ Ex.e Ex.out ⟨_, Ex.isScope⟩ Ex.e_ok.1 Ex.write

example : ∃ s, normS s = normS Ex.want ∧
    ∃ fuel, ∀ fuel', fuel ≤ fuel' → Sql.pExprS fuel' 0 (toksOf Ex.out) = some (s, []) :=
  C06_parse_roundtrip_scoped_whole_partial ⟨[], Ex.scope, .default⟩ Ex.env Ex.e Ex.out Ex.want Ex.isScope
    (fun h => by cases h) Ex.e_ok.1 Ex.e_ok.2 Ex.write Ex.tr_subst

example : ∃ s, normS s = normS Ex.want ∧
    ∃ fuel, ∀ fuel', fuel ≤ fuel' → Sql.pExprS fuel' 0 (toksOf Ex.out ++ [S ")"]) = some (s, [S ")"]) :=
  C06_parse_roundtrip_scoped ⟨[], Ex.scope, .default⟩ Ex.env Ex.e Ex.out Ex.want [S ")"] Ex.isScope
    (by decide) Ex.e_ok.1 Ex.e_ok.2 Ex.write Ex.tr_subst (C01.Stops.sym (by simp) [])

/-- non-vacuity of the join-mode hypothesis: the join condition `$left.a == $right.b + n` under
    `let n = -5;` is written `"$left"."a" = ("$right"."b" + (-5))`, a plain join equality -/
example :
    let e : Expr := .binary (.qident [⟨leftAlias, .zero, false⟩, ⟨[97], .zero, false⟩]) .zero .eq
      (.binary (.qident [⟨rightAlias, .zero, false⟩, ⟨[98], .zero, false⟩]) .zero .plus (.qident [Ex.n]))
    let out : List Chunk := [.qid leftAlias, .txt ".", .qid [97], .txt " = ", .txt "(", .qid rightAlias, .txt ".",
      .qid [98], .txt " ", .txt "+", .txt " ", .txt "(", .txt "-", .num [53], .txt ")", .txt ")"]
    let want : SExpr := .bin "=" (.col [leftAlias, [97]]) (.bin "+" (.col [rightAlias, [98]]) (.neg (.num [53])))
    ∃ s, normS s = normS want ∧ ∃ fuel, ∀ fuel', fuel ≤ fuel' → Sql.pExprS fuel' 0 (toksOf out) = some (s, []) := by
  intro e out want
  exact C06_parse_roundtrip_scoped_whole_partial ⟨[], Ex.scope, .join⟩ Ex.env e out want Ex.isScope
    (fun _ => by decide +kernel) (by decide +kernel) (by decide +kernel) (by rfl) (by rfl)

example :
    let e : Expr := .binary (.qident [⟨leftAlias, .zero, false⟩, ⟨[97], .zero, false⟩]) .zero .eq (.qident [Ex.n])
    ∃ cs want, writeExpr ⟨[], Ex.scope, .join⟩ e = .ok cs ∧ tr true (substExpr Ex.env e) = some want ∧
      ∃ s, normS s = normS want ∧ ∃ fuel, ∀ fuel', fuel ≤ fuel' → Sql.pExprS fuel' 0 (toksOf cs ++ []) = some (s, []) := by
  intro e
  refine ⟨_, _, rfl, rfl, ?_⟩
  refine C06_parse_roundtrip_scoped_names ⟨[], Ex.scope, .join⟩ Ex.env e _ _ [] Ex.isScope (fun _ => by decide) ?_
    (by decide) (by decide) rfl rfl C01.Stops.nil
  intro kv hkv
  simp only [Ex.env, List.mem_singleton] at hkv
  subst hkv
  rfl

namespace Cex
def l : Ident := ⟨leftAlias, .zero, false⟩
def one : Expr := .lit .zero .number [49]
/-- after `let $left = 1;` -/
def scope : Scope := [(leftAlias, [.num [49]])]
def env : List (Bytes × Expr) := [(leftAlias, one)]
def ctx : Ctx := ⟨[], scope, .join⟩
/-- the join condition `$left == $right.b` -/
def e : Expr := .binary (.qident [l]) .zero .eq (.qident [⟨rightAlias, .zero, false⟩, ⟨[98], .zero, false⟩])
/-- written `1 = "$right"."b"`: the writer sees the *name* `$left` and takes the equality for a join
    equality -/
def out : List Chunk := [.num [49], .txt " = ", .qid rightAlias, .txt ".", .qid [98]]
/-- the substituted program `(1) == $right.b` means `coalesce(1 = "$right"."b", FALSE)` -/
def want : SExpr := coalesceFalse (.bin "=" (.num [49]) (.col [rightAlias, [98]]))

theorem isScope : ScopeLetsEnv [] scope env :=
  ScopeLetsEnv.cons leftAlias one [.num [49]] .nil (by decide) (by decide) (by rfl)
theorem not_safe : envJoinSafe env = false := by decide
theorem names_not_safe : scopeNamesSafe scope = false := by decide
theorem write : writeExpr ctx e = .ok out := by rfl
theorem tr_subst : tr (ctx.mode == .join) (substExpr env e) = some want := by rfl
theorem toks : toksOf out = [.num [49], S "=", .qid rightAlias, S ".", .qid [98]] := by simp [out]
theorem read : Sql.pExprS 10 0 (toksOf out) = some (.bin "=" (.num [49]) (.col [rightAlias, [98]]), []) := by
  rw [toks]; rfl
end Cex

/-- **Without `envJoinSafe` the scoped round trip is false in join mode**: after `let $left = 1;` the join
    condition `$left == $right.b` satisfies every other hypothesis of `C06_parse_roundtrip_scoped_partial`, and
    no fuel makes the SQL reader return the translation of the substituted condition (the emitted
    text lacks the `coalesce(…, FALSE)`).  Same cause as `C06_join_counterexample` of C06Subst, here
    with a *let* (not a parameter) named after a join alias. -/
theorem C06_join_name_counterexample :
    ScopeLetsEnv Cex.ctx.src Cex.ctx.scope Cex.env ∧ Cex.e.lexOK = true ∧ shapeOK Cex.e = true ∧
    writeExpr Cex.ctx Cex.e = .ok Cex.out ∧
    CompileOracle.tr (Cex.ctx.mode == .join) (substExpr Cex.env Cex.e) = some Cex.want ∧ C01.Stops [] ∧
    ¬ ∃ s, normS s = normS Cex.want ∧
      ∃ fuel, ∀ fuel', fuel ≤ fuel' → Sql.pExprS fuel' 0 (toksOf Cex.out ++ []) = some (s, []) := by
  refine ⟨Cex.isScope, by decide, by decide, Cex.write, Cex.tr_subst, C01.Stops.nil, ?_⟩
  rintro ⟨s, hs, hpe⟩
  rw [List.append_nil] at hpe
  obtain ⟨rfl, _⟩ := PE.at_fuel hpe Cex.read
  simp [normS, Cex.want, coalesceFalse, fnCall] at hs

namespace ParamCex
def p : Ident := ⟨[112], .zero, false⟩
/-- the scope of `Compile` with the parameter `p ↦ "1 + 2"` -/
def scope : Scope := [([112], [.raw [49, 32, 43, 32, 50]])]
/-- `p * 3` -/
def e : Expr := .binary (.qident [p]) .zero .star (.lit .zero .number [51])
/-- written `1 + 2 * 3` -/
def out : List Chunk := [.raw [49, 32, 43, 32, 50], .txt " ", .txt "*", .txt " ", .num [51]]
/-- the parameter `p ↦ "-5"` and `-p`, written `--5` -/
def scope2 : Scope := [([112], [.raw [45, 53]])]
def e2 : Expr := .unary .zero .minus (.qident [p])
def out2 : List Chunk := [.txt "-", .raw [45, 53]]
end ParamCex

/-- A parameter (entered into the scope as its raw text, `compileChunks`) is NOT one operand: with
    `p ↦ "1 + 2"`, `p * 3` is written `1 + 2 * 3`, which SQL reads as `1 + (2 * 3)`. -/
theorem C06_param_regrouped :
    writeExpr ⟨[], ParamCex.scope, .default⟩ ParamCex.e = .ok ParamCex.out ∧
    toksOf ParamCex.out = [.num [49], S "+", .num [50], S "*", .num [51]] ∧
    Sql.pExprS 10 0 [.num [49], S "+", .num [50], S "*", .num [51]] =
      some (.bin "+" (.num [49]) (.bin "*" (.num [50]) (.num [51])), []) :=
  ⟨by rfl, by decide +kernel, by rfl⟩

/-- … and not lexically self-contained either: with `p ↦ "-5"`, `-p` is written `--5`, an SQL comment:
    the text lexes to no token at all. -/
theorem C06_param_comment :
    writeExpr ⟨[], ParamCex.scope2, .default⟩ ParamCex.e2 = .ok ParamCex.out2 ∧
    Sql.lex .standard (renderChunks ParamCex.out2) = some [] ∧
    Sql.lex .standard (renderChunks ParamCex.out2) ≠ some (toksOf ParamCex.out2) :=
  ⟨by rfl, by decide +kernel, by decide +kernel⟩

end Pql.C06
