/-
Property C07/C08/C10/C13, tie by translation: the EXPECTED statement trees of the statement and operator
level of parser/parser.go (joinOperator, letStatement, tabularExpr, firstParse, Parse).

`harness/extract_parse.go` regenerates `Facts.parseIR` from the Go source on every run;
`Model/ParseIRSyntax.lean` decodes it.  Each `…_ir` theorem says that what is regenerated for one Go
function decodes to the tree written here, which is the one the semantic theorems of
Props/C07OperatorIR*.lean are about: an edit of the Go function changes the regenerated IR and that
function's `_ir` theorem stops building.  (The trees are literal text; nothing in this file is
regenerated.)
-/
import PqlModel.Model.ParseIR
namespace Pql.OpIR
open Pql


def joinOperatorBody : List IStmt :=
  [.assign
     (.def_ "op")
     (.withFld
       (.withFld
         (.withFld
           (.withFld
             (.withFld
               (.withFld
                 (.withFld (.new "JoinOperator") "Pipe" (.fld "Span" (.var "pipe")))
                 "Keyword"
                 (.fld "Span" (.var "keyword")))
               "Kind"
               (.nullSpan))
             "KindAssign"
             (.nullSpan))
           "Lparen"
           (.nullSpan))
         "Rparen"
         (.nullSpan))
       "On"
       (.nullSpan)),
   .call "p" "next" [.def_ "tok", .def_ "ok"] [],
   .ite
     (.not (.truth (.var "ok")))
     [.ret [.var "op", .perr "p" false (.eofSpan "p")]]
     [],
   .varDecl "finalError" "error",
   .ite
     (.and
       (.eq (.fld "Kind" (.var "tok")) (.kind "TokenIdentifier"))
       (.eq (.fld "Value" (.var "tok")) (.str "kind")))
     [.assign (.fset "op" "Kind") (.fld "Span" (.var "tok")),
      .call "p" "next" [.set "tok", .blank] [],
      .ite
        (.ne (.fld "Kind" (.var "tok")) (.kind "TokenAssign"))
        [.ret
           [.var "op",
            .join
              (.var "finalError")
              (.perr "p" false (.fld "Span" (.var "tok")))]]
        [],
      .assign (.fset "op" "KindAssign") (.fld "Span" (.var "tok")),
      .call "p" "next" [.set "tok", .blank] [],
      .ite
        (.ne (.fld "Kind" (.var "tok")) (.kind "TokenIdentifier"))
        [.ret
           [.var "op",
            .join
              (.var "finalError")
              (.perr "p" false (.fld "Span" (.var "tok")))]]
        [],
      .assign
        (.fset "op" "Flavor")
        (.withFld
          (.withFld (.new "Ident") "Name" (.fld "Value" (.var "tok")))
          "NameSpan"
          (.fld "Span" (.var "tok"))),
      .scope
        [.mapOk "ok" "joinTypes" (.fld "Value" (.var "tok")),
         .ite
           (.not (.truth (.var "ok")))
           [.msgOnly "def" "joinTypeList",
            .msgOnly "sort" "joinTypeList",
            .assign
              (.set "finalError")
              (.join
                (.var "finalError")
                (.perr "p" false (.fld "Span" (.var "tok"))))]
           []]]
     [.prev "p"],
   .call "p" "next" [.set "tok", .blank] [],
   .ite
     (.ne (.fld "Kind" (.var "tok")) (.kind "TokenLParen"))
     [.ret
        [.var "op",
         .join (.var "finalError") (.perr "p" false (.fld "Span" (.var "tok")))]]
     [],
   .assign (.fset "op" "Lparen") (.fld "Span" (.var "tok")),
   .call "p" "split" [.def_ "rightParser"] [.kind "TokenRParen"],
   .varDecl "err" "error",
   .call "rightParser" "tabularExpr" [.fset "op" "Right", .set "err"] [],
   .assign
     (.set "finalError")
     (.join
       (.join (.var "finalError") (.opaque (.var "err")))
       (.endSplit "rightParser")),
   .call "p" "next" [.set "tok", .blank] [],
   .ite
     (.ne (.fld "Kind" (.var "tok")) (.kind "TokenRParen"))
     [.ret
        [.var "op",
         .join (.var "finalError") (.perr "p" false (.fld "Span" (.var "tok")))]]
     [],
   .assign (.fset "op" "Rparen") (.fld "Span" (.var "tok")),
   .call "p" "next" [.set "tok", .blank] [],
   .ite
     (.or
       (.ne (.fld "Kind" (.var "tok")) (.kind "TokenIdentifier"))
       (.ne (.fld "Value" (.var "tok")) (.str "on")))
     [.ret
        [.var "op",
         .join (.var "finalError") (.perr "p" false (.fld "Span" (.var "tok")))]]
     [],
   .assign (.fset "op" "On") (.fld "Span" (.var "tok")),
   .call "p" "exprList" [.fset "op" "Conditions", .set "err"] [],
   .assign
     (.set "finalError")
     (.join (.var "finalError") (.opaque (.var "err"))),
   .ret [.var "op", .var "finalError"]]

theorem joinOperator_ir : unitOf "joinOperator" = some ⟨[("p", "*parser"), ("pipe", "Token"), ("keyword", "Token")], ["*JoinOperator", "error"], joinOperatorBody⟩ := by rfl


def letStatementBody : List IStmt :=
  [.call "p" "next" [.def_ "keyword", .blank] [],
   .ite
     (.or
       (.ne (.fld "Kind" (.var "keyword")) (.kind "TokenIdentifier"))
       (.ne (.fld "Value" (.var "keyword")) (.str "let")))
     [.prev "p",
      .ret [.nil, .perr "p" true (.fld "Span" (.var "keyword"))]]
     [],
   .assign
     (.def_ "stmt")
     (.withFld
       (.withFld (.new "LetStatement") "Keyword" (.fld "Span" (.var "keyword")))
       "Assign"
       (.nullSpan)),
   .varDecl "err" "error",
   .call "p" "ident" [.fset "stmt" "Name", .set "err"] [],
   .ite
     (.ne (.var "err") (.nil))
     [.ret [.var "stmt", .opaque (.var "err")]]
     [],
   .call "p" "next" [.def_ "assign", .blank] [],
   .ite
     (.ne (.fld "Kind" (.var "assign")) (.kind "TokenAssign"))
     [.ret [.var "stmt", .perr "p" false (.fld "Span" (.var "assign"))]]
     [],
   .assign (.fset "stmt" "Assign") (.fld "Span" (.var "assign")),
   .call "p" "expr" [.fset "stmt" "X", .set "err"] [],
   .ite
     (.ne (.var "err") (.nil))
     [.ret [.var "stmt", .opaque (.var "err")]]
     [],
   .ret [.var "stmt", .nil]]

theorem letStatement_ir : unitOf "letStatement" = some ⟨[("p", "*parser")], ["*LetStatement", "error"], letStatementBody⟩ := by rfl


def tabularExprBody : List IStmt :=
  [.call "p" "ident" [.def_ "tableName", .def_ "err"] [],
   .ite
     (.ne (.var "err") (.nil))
     [.ret [.nil, .var "err"]]
     [],
   .assign
     (.def_ "expr")
     (.withFld
       (.new "TabularExpr")
       "Source"
       (.withFld (.new "TableRef") "Table" (.var "tableName"))),
   .varDecl "finalError" "error",
   .loop
     [.call "p" "next" [.def_ "pipeToken", .blank] [],
      .ite
        (.ne (.fld "Kind" (.var "pipeToken")) (.kind "TokenPipe"))
        [.prev "p", .ret [.var "expr", .var "finalError"]]
        [],
      .call "p" "split" [.def_ "opParser"] [.kind "TokenPipe"],
      .call "opParser" "next" [.def_ "operatorName", .def_ "ok"] [],
      .ite
        (.not (.truth (.var "ok")))
        [.assign
           (.set "finalError")
           (.join
             (.var "finalError")
             (.perr "opParser" false (.fld "Span" (.var "pipeToken")))),
         .cont]
        [],
      .ite
        (.ne (.fld "Kind" (.var "operatorName")) (.kind "TokenIdentifier"))
        [.assign
           (.set "finalError")
           (.join
             (.var "finalError")
             (.perr "opParser" false (.fld "Span" (.var "operatorName")))),
         .cont]
        [],
      .ite
        (.eq (.fld "Value" (.var "operatorName")) (.str "count"))
        [.call
           "opParser"
           "countOperator"
           [.def_ "op", .def_ "err"]
           [.var "pipeToken", .var "operatorName"],
         .ite
           (.ne (.var "op") (.nil))
           [.assign
              (.fset "expr" "Operators")
              (.append (.fld "Operators" (.var "expr")) (.var "op"))]
           [],
         .assign (.set "finalError") (.join (.var "finalError") (.var "err"))]
        [.ite
           (.or
             (.eq (.fld "Value" (.var "operatorName")) (.str "where"))
             (.eq (.fld "Value" (.var "operatorName")) (.str "filter")))
           [.call
              "opParser"
              "whereOperator"
              [.def_ "op", .def_ "err"]
              [.var "pipeToken", .var "operatorName"],
            .ite
              (.ne (.var "op") (.nil))
              [.assign
                 (.fset "expr" "Operators")
                 (.append (.fld "Operators" (.var "expr")) (.var "op"))]
              [],
            .assign (.set "finalError") (.join (.var "finalError") (.var "err"))]
           [.ite
              (.or
                (.eq (.fld "Value" (.var "operatorName")) (.str "sort"))
                (.eq (.fld "Value" (.var "operatorName")) (.str "order")))
              [.call
                 "opParser"
                 "sortOperator"
                 [.def_ "op", .def_ "err"]
                 [.var "pipeToken", .var "operatorName"],
               .ite
                 (.ne (.var "op") (.nil))
                 [.assign
                    (.fset "expr" "Operators")
                    (.append (.fld "Operators" (.var "expr")) (.var "op"))]
                 [],
               .assign
                 (.set "finalError")
                 (.join (.var "finalError") (.var "err"))]
              [.ite
                 (.or
                   (.eq (.fld "Value" (.var "operatorName")) (.str "take"))
                   (.eq (.fld "Value" (.var "operatorName")) (.str "limit")))
                 [.call
                    "opParser"
                    "takeOperator"
                    [.def_ "op", .def_ "err"]
                    [.var "pipeToken", .var "operatorName"],
                  .ite
                    (.ne (.var "op") (.nil))
                    [.assign
                       (.fset "expr" "Operators")
                       (.append (.fld "Operators" (.var "expr")) (.var "op"))]
                    [],
                  .assign
                    (.set "finalError")
                    (.join (.var "finalError") (.var "err"))]
                 [.ite
                    (.eq (.fld "Value" (.var "operatorName")) (.str "top"))
                    [.call
                       "opParser"
                       "topOperator"
                       [.def_ "op", .def_ "err"]
                       [.var "pipeToken", .var "operatorName"],
                     .ite
                       (.ne (.var "op") (.nil))
                       [.assign
                          (.fset "expr" "Operators")
                          (.append (.fld "Operators" (.var "expr")) (.var "op"))]
                       [],
                     .assign
                       (.set "finalError")
                       (.join (.var "finalError") (.var "err"))]
                    [.ite
                       (.eq (.fld "Value" (.var "operatorName")) (.str "project"))
                       [.call
                          "opParser"
                          "projectOperator"
                          [.def_ "op", .def_ "err"]
                          [.var "pipeToken", .var "operatorName"],
                        .ite
                          (.ne (.var "op") (.nil))
                          [.assign
                             (.fset "expr" "Operators")
                             (.append (.fld "Operators" (.var "expr")) (.var "op"))]
                          [],
                        .assign
                          (.set "finalError")
                          (.join (.var "finalError") (.var "err"))]
                       [.ite
                          (.eq (.fld "Value" (.var "operatorName")) (.str "extend"))
                          [.call
                             "opParser"
                             "extendOperator"
                             [.def_ "op", .def_ "err"]
                             [.var "pipeToken", .var "operatorName"],
                           .ite
                             (.ne (.var "op") (.nil))
                             [.assign
                                (.fset "expr" "Operators")
                                (.append (.fld "Operators" (.var "expr")) (.var "op"))]
                             [],
                           .assign
                             (.set "finalError")
                             (.join (.var "finalError") (.var "err"))]
                          [.ite
                             (.eq (.fld "Value" (.var "operatorName")) (.str "summarize"))
                             [.call
                                "opParser"
                                "summarizeOperator"
                                [.def_ "op", .def_ "err"]
                                [.var "pipeToken", .var "operatorName"],
                              .ite
                                (.ne (.var "op") (.nil))
                                [.assign
                                   (.fset "expr" "Operators")
                                   (.append (.fld "Operators" (.var "expr")) (.var "op"))]
                                [],
                              .assign
                                (.set "finalError")
                                (.join (.var "finalError") (.var "err"))]
                             [.ite
                                (.eq (.fld "Value" (.var "operatorName")) (.str "join"))
                                [.call
                                   "opParser"
                                   "joinOperator"
                                   [.def_ "op", .def_ "err"]
                                   [.var "pipeToken", .var "operatorName"],
                                 .ite
                                   (.ne (.var "op") (.nil))
                                   [.assign
                                      (.fset "expr" "Operators")
                                      (.append (.fld "Operators" (.var "expr")) (.var "op"))]
                                   [],
                                 .assign
                                   (.set "finalError")
                                   (.join (.var "finalError") (.var "err"))]
                                [.ite
                                   (.eq (.fld "Value" (.var "operatorName")) (.str "as"))
                                   [.call
                                      "opParser"
                                      "asOperator"
                                      [.def_ "op", .def_ "err"]
                                      [.var "pipeToken", .var "operatorName"],
                                    .ite
                                      (.ne (.var "op") (.nil))
                                      [.assign
                                         (.fset "expr" "Operators")
                                         (.append (.fld "Operators" (.var "expr")) (.var "op"))]
                                      [],
                                    .assign
                                      (.set "finalError")
                                      (.join (.var "finalError") (.var "err"))]
                                   [.ite
                                      (.eq (.fld "Value" (.var "operatorName")) (.str "render"))
                                      [.call
                                         "opParser"
                                         "renderOperator"
                                         [.def_ "op", .def_ "err"]
                                         [.var "pipeToken", .var "operatorName"],
                                       .ite
                                         (.ne (.var "op") (.nil))
                                         [.assign
                                            (.fset "expr" "Operators")
                                            (.append
                                              (.fld "Operators" (.var "expr"))
                                              (.var "op"))]
                                         [],
                                       .assign
                                         (.set "finalError")
                                         (.join (.var "finalError") (.var "err"))]
                                      [.assign
                                         (.set "finalError")
                                         (.join
                                           (.var "finalError")
                                           (.perr "opParser" false (.fld "Span" (.var "operatorName")))),
                                       .cont]]]]]]]]]]],
      .assign
        (.set "finalError")
        (.join (.var "finalError") (.endSplit "opParser"))]]

theorem tabularExpr_ir : unitOf "tabularExpr" = some ⟨[("p", "*parser")], ["*TabularExpr", "error"], tabularExprBody⟩ := by rfl


def firstParseBody : List IStmt :=
  [.rangeInit
     "p"
     "productions"
     [.callFn "p" [.def_ "x", .def_ "err"],
      .ite
        (.not (.isNF (.var "err")))
        [.ret [.var "x", .var "err"]]
        []],
   .retLast "productions"]

theorem firstParse_ir : unitOf "firstParse" = some ⟨[("productions", "...func")], ["T", "error"], firstParseBody⟩ := by rfl


def ParseBody : List IStmt :=
  [.newParser "p" "query",
   .varDecl "result" "[]Statement",
   .varDecl "resultError" "error",
   .loop
     [.call "p" "splitSemi" [.def_ "stmtParser"] [],
      .firstParse
        [.def_ "stmt", .def_ "err"]
        [.call "stmtParser" "letStatement" [.def_ "stmt", .def_ "err"] [],
         .ite
           (.eq (.var "stmt") (.nil))
           [.ret [.nil, .var "err"]]
           [],
         .ret [.toIface (.var "stmt"), .var "err"]]
        [.call "stmtParser" "tabularExpr" [.def_ "expr", .def_ "err"] [],
         .ite
           (.eq (.var "expr") (.nil))
           [.ret [.nil, .var "err"]]
           [],
         .ret [.toIface (.var "expr"), .var "err"]],
      .ite
        (.isNF (.var "err"))
        [.ite
           (.more "stmtParser")
           [.assign (.def_ "trailingToken") (.tokAt "stmtParser"),
            .ite
              (.eq (.fld "Kind" (.var "trailingToken")) (.kind "TokenError"))
              [.assign
                 (.set "resultError")
                 (.join
                   (.var "err")
                   (.perr "p" false (.fld "Span" (.var "trailingToken"))))]
              [.assign
                 (.set "resultError")
                 (.join
                   (.var "err")
                   (.perr "p" false (.fld "Span" (.var "trailingToken"))))]]
           []]
        [.ite
           (.ne (.var "stmt") (.nil))
           [.assign (.set "result") (.append (.var "result") (.var "stmt"))]
           [],
         .assign
           (.set "resultError")
           (.join (.var "resultError") (.opaque (.var "err"))),
         .assign
           (.set "resultError")
           (.join (.var "resultError") (.endSplit "stmtParser"))],
      .scope
        [.call "p" "next" [.blank, .def_ "ok"] [],
         .ite (.not (.truth (.var "ok"))) [.brk] []]],
   .ite
     (.ne (.var "resultError") (.nil))
     [.ret [.var "result", .wrapW (.var "resultError")]]
     [],
   .ret [.var "result", .nil]]

theorem Parse_ir : unitOf "Parse" = some ⟨[("query", "string")], ["[]Statement", "error"], ParseBody⟩ := by rfl


end Pql.OpIR
