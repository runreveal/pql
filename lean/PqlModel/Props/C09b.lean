/-
Property C09 — numbers keep their value, the number accessors, the model scanner refines
Spec/LexSpec.lean.

The *value semantics* of number spellings below is written independently of the scanner
(`takeWhile`/`dropWhile` on digit bytes, exact rationals); the theorems relate it to what
`scanNumberOrDot` emits.
-/
import PqlModel.Lemmas.LexReach
set_option linter.unusedSimpArgs false
namespace Pql.C09
open Pql

def isDec (c : UInt8) : Bool := decide (48 ≤ c.toNat) && decide (c.toNat ≤ 57)

def decDigit (c : UInt8) : Nat := c.toNat - 48

/-- value of a string of decimal digits (most significant first) -/
def natOfDigits (ds : Bytes) : Nat := ds.foldl (fun a c => a * 10 + decDigit c) 0

def allDigits (ds : Bytes) : Bool := !ds.isEmpty && ds.all isDec

/-- value of an exponent part: empty ↦ 0, `(e|E) [+|-] digits+` ↦ the signed integer -/
def expValue : Bytes → Option Int
  | [] => some 0
  | e :: t =>
    if e == 101 || e == 69 then
      match t with
      | [] => none
      | sg :: ds =>
        if sg == 43 then (if allDigits ds then some (natOfDigits ds : Int) else none)
        else if sg == 45 then (if allDigits ds then some (-(natOfDigits ds : Int)) else none)
        else if allDigits t then some (natOfDigits t : Int) else none
    else none

/-- split an optional fraction `'.' digits*` off the head: (fraction digits, rest) -/
def splitFrac : Bytes → Bytes × Bytes
  | [] => ([], [])
  | c :: t => if c == 46 then (t.takeWhile isDec, t.dropWhile isDec) else ([], c :: t)

/-- value of `['.' digits*] [exponent]` after an integer part of value `ipVal` -/
def decTail (ipVal : Nat) (ipEmpty : Bool) (r1 : Bytes) : Option Rat :=
  let fr := splitFrac r1
  if ipEmpty && fr.1.isEmpty then none
  else (expValue fr.2).map fun ex =>
    ((ipVal : Rat) + (natOfDigits fr.1 : Rat) / (10 : Rat) ^ fr.1.length) * (10 : Rat) ^ ex

/-- Exact value of a decimal spelling `digits* ['.' digits*] [(e|E) [+|-] digits+]` with at
    least one mantissa digit; `none` for any other byte string. -/
def decValue (s : Bytes) : Option Rat :=
  decTail (natOfDigits (s.takeWhile isDec)) (s.takeWhile isDec).isEmpty (s.dropWhile isDec)

def hexDigitValue (c : UInt8) : Option Nat :=
  let n := c.toNat
  if 48 ≤ n ∧ n ≤ 57 then some (n - 48)
  else if 97 ≤ n ∧ n ≤ 102 then some (n - 87)
  else if 65 ≤ n ∧ n ≤ 70 then some (n - 55)
  else none

def hexDigitsValue : Bytes → Nat → Option Nat
  | [], acc => some acc
  | c :: t, acc =>
    match hexDigitValue c with
    | some d => hexDigitsValue t (acc * 16 + d)
    | none => none

/-- value of a hexadecimal spelling `0(x|X) hexdigits+`; `none` for any other byte string -/
def hexValue : Bytes → Option Nat
  | z :: x :: ds =>
    if z == 48 && (x == 120 || x == 88) && !ds.isEmpty then hexDigitsValue ds 0 else none
  | _ => none

def isHexSpelling : Bytes → Bool
  | z :: x :: _ => z == 48 && (x == 120 || x == 88)
  | _ => false

/-- value of a number spelling of the source language -/
def spellingValue (s : Bytes) : Option Rat :=
  if isHexSpelling s then (hexValue s).map (fun n => (n : Rat)) else decValue s

/-- what Go's `IsFloat` computes on the token value: contains '.', 'e' or 'E' -/
def isFloatValue (v : Bytes) : Bool := v.any (fun c => c == 46 || c == 101 || c == 69)

/-- Go's `strconv.ParseUint(v, 10, 64)` on a token value -/
def parseUint64 (v : Bytes) : Option Nat :=
  if allDigits v && decide (natOfDigits v < 2 ^ 64) then some (natOfDigits v) else none

#guard decValue (Bytes.ofString "1.5e2") = some 150
#guard decValue (Bytes.ofString "007") = some 7
#guard decValue (Bytes.ofString ".5") = some (1 / 2)
#guard decValue (Bytes.ofString "1e-2") = some (1 / 100)
#guard decValue (Bytes.ofString "12.") = some 12
#guard decValue (Bytes.ofString "0.e1") = some 0
#guard decValue (Bytes.ofString "1E+3") = some 1000
#guard decValue (Bytes.ofString ".") = none
#guard decValue (Bytes.ofString "") = none
#guard decValue (Bytes.ofString "1e") = none
#guard decValue (Bytes.ofString "1.2.3") = none
#guard decValue (Bytes.ofString "0x10") = none
#guard spellingValue (Bytes.ofString "0x10") = some 16
#guard spellingValue (Bytes.ofString "0XfF") = some 255
#guard spellingValue (Bytes.ofString "0x") = none
#guard spellingValue (Bytes.ofString "10") = some 10

theorem isDec_eq_isDigit (c : UInt8) : isDec c = isDigit c := by
  rw [isDigit_iff]; rfl

theorem takeWhile_digits_append (ds tl : Bytes) (hd : ∀ c ∈ ds, isDigit c = true)
    (ht : ∀ c, tl.head? = some c → isDigit c = false) :
    (ds ++ tl).takeWhile isDec = ds ∧ (ds ++ tl).dropWhile isDec = tl := by
  induction ds with
  | nil =>
    cases tl with
    | nil => simp
    | cons c t =>
      have := ht c rfl
      simp [List.takeWhile_cons, List.dropWhile_cons, isDec_eq_isDigit, this]
  | cons d ds ih =>
    have h1 : isDigit d = true := hd d (by simp)
    have := ih (fun c hc => hd c (by simp [hc]))
    simp [List.takeWhile_cons, List.dropWhile_cons, isDec_eq_isDigit, h1, this]

theorem allDigits_of (ds : Bytes) (h0 : ds ≠ []) (hd : ∀ c ∈ ds, isDigit c = true) :
    allDigits ds = true := by
  cases ds with
  | nil => exact absurd rfl h0
  | cons d ds =>
    simp only [allDigits, List.isEmpty_cons, Bool.not_false, Bool.true_and, List.all_eq_true]
    intro c hc
    rw [isDec_eq_isDigit]; exact hd c hc

theorem expValue_isSome_of_isExp (E : Bytes) (h : IsExp E) : ∃ ex, expValue E = some ex := by
  rcases h with rfl | ⟨e, ds, he, h0, hd, hE⟩
  · exact ⟨0, rfl⟩
  · have had := allDigits_of ds h0 hd
    have he' : (e == 101 || e == 69) = true := by rcases he with rfl | rfl <;> simp
    cases ds with
    | nil => exact absurd rfl h0
    | cons d ds' =>
      have hd1 : isDigit d = true := hd d (by simp)
      have hd43 : (d == 43) = false := beq_eq_false_iff_ne.mpr fun h => by subst h; cases hd1
      have hd45 : (d == 45) = false := beq_eq_false_iff_ne.mpr fun h => by subst h; cases hd1
      rcases hE with rfl | rfl | rfl
      · exact ⟨(natOfDigits (d :: ds') : Int), by simp [expValue, he', hd43, hd45, had]⟩
      · exact ⟨(natOfDigits (d :: ds') : Int), by simp [expValue, he', had]⟩
      · exact ⟨-(natOfDigits (d :: ds') : Int), by simp [expValue, he', had]⟩

theorem isExp_head_not_digit (E : Bytes) (h : IsExp E) :
    ∀ c, E.head? = some c → isDigit c = false := by
  intro c hc
  rcases isExp_head E h c hc with rfl | rfl <;> simp [isDigit_iff]

theorem splitFrac_of_isExp (E : Bytes) (h : IsExp E) : splitFrac E = ([], E) := by
  cases E with
  | nil => rfl
  | cons c t =>
    have : (c == 46) = false := by
      rcases isExp_head _ h c rfl with rfl | rfl <;> simp
    simp [splitFrac, this]

theorem decValue_append (ds X : Bytes) (hd : ∀ c ∈ ds, isDec c = true)
    (hX : ∀ c, X.head? = some c → isDigit c = false) :
    decValue (ds ++ X) = decTail (natOfDigits ds) ds.isEmpty X := by
  obtain ⟨h1, h2⟩ := takeWhile_digits_append ds X (fun c hc => isDec_eq_isDigit c ▸ hd c hc) hX
  simp only [decValue, h1, h2]

theorem decValue_of_isDecimal (t : Bytes) (h : IsDecimal t) : ∃ q, decValue t = some q := by
  obtain ⟨ds, fs, E, hds, hfs, hE, h⟩ := h
  obtain ⟨ex, hex⟩ := expValue_isSome_of_isExp E hE
  have hds' : ∀ c ∈ ds, isDec c = true := fun c hc => (isDec_eq_isDigit c).trans (hds c hc)
  rcases h with ⟨h0, rfl⟩ | ⟨h0, rfl⟩
  · have : ds.isEmpty = false := by cases ds <;> simp_all
    rw [decValue_append ds E hds' (isExp_head_not_digit E hE)]
    simp [decTail, splitFrac_of_isExp E hE, this, hex]
  · obtain ⟨h3, h4⟩ := takeWhile_digits_append fs E hfs (isExp_head_not_digit E hE)
    have hne : (ds.isEmpty && fs.isEmpty) = false := by
      rcases h0 with h0 | h0
      · cases ds <;> simp_all
      · cases fs <;> simp_all
    rw [List.append_assoc, decValue_append ds (46 :: fs ++ E) hds' (fun c hc => by cases hc; decide)]
    simp [decTail, splitFrac, h3, h4, hne, hex]

theorem natOfDigits_zero_cons (l : Bytes) : natOfDigits (48 :: l) = natOfDigits l := by
  simp [natOfDigits, decDigit]

theorem decTail_mono (n : Nat) (b : Bool) (r : Bytes) (q : Rat) (h : decTail n b r = some q) :
    decTail n false r = some q := by
  cases b with
  | false => exact h
  | true =>
    simp only [decTail] at h ⊢
    split at h
    · cases h
    · simpa using h

theorem trim_digits (ds X : Bytes) (hds : ∀ c ∈ ds, isDec c = true) :
    (∃ d ds', trimLeftZeros (ds ++ X) = d :: (ds' ++ X) ∧ isDec d = true ∧ (d == 48) = false ∧
        (∀ c ∈ ds', isDec c = true) ∧ natOfDigits (d :: ds') = natOfDigits ds) ∨
      trimLeftZeros (ds ++ X) = trimLeftZeros X ∧ natOfDigits ds = 0 := by
  induction ds with
  | nil => exact .inr ⟨rfl, rfl⟩
  | cons c ds ih =>
    by_cases hc : (c == 48) = true
    · obtain rfl : c = 48 := by simpa using hc
      have : trimLeftZeros (48 :: ds ++ X) = trimLeftZeros (ds ++ X) := by simp [trimLeftZeros]
      rw [this, natOfDigits_zero_cons]
      exact ih fun x hx => hds x (by simp [hx])
    · exact .inl ⟨c, ds, by simp only [List.cons_append, trimLeftZeros, if_neg hc], hds c (by simp),
        by simpa using hc, fun x hx => hds x (by simp [hx]), rfl⟩

/-- **What `normalizeNumber` does to a decimal literal**: of digits followed by a tail that is empty or
    starts with `.`/`e`/`E` it leaves a digit, digits of the same value, and the tail. -/
theorem normalize_shape (ds X : Bytes) (hds : ∀ c ∈ ds, isDec c = true)
    (hX : ∀ c, X.head? = some c → c = 46 ∨ c = 101 ∨ c = 69) :
    ∃ d ds', normalizeNumber (ds ++ X) = d :: (ds' ++ X) ∧ isDec d = true ∧
      (∀ c ∈ ds', isDec c = true) ∧ natOfDigits (d :: ds') = natOfDigits ds := by
  rcases trim_digits ds X hds with ⟨d, ds', h, hd, _, hds', hn⟩ | ⟨h, hn⟩
  · refine ⟨d, ds', ?_, hd, hds', hn⟩
    have : (d == 46 || d == 101 || d == 69) = false := by
      simp only [isDec, Bool.and_eq_true, decide_eq_true_eq] at hd
      simp only [beq_iff_toNat]; simp; omega
    simp only [normalizeNumber, h, this, Bool.false_eq_true, if_false]
  · refine ⟨48, [], ?_, by decide, by simp, hn.symm ▸ rfl⟩
    rcases X with _ | ⟨c, r⟩
    · rw [normalizeNumber, h]; rfl
    · have hc := hX c rfl
      have h48 : (c == 48) = false := by rcases hc with rfl | rfl | rfl <;> rfl
      have hc' : (c == 46 || c == 101 || c == 69) = true := by
        rcases hc with rfl | rfl | rfl <;> rfl
      simp only [normalizeNumber, h, trimLeftZeros, h48, Bool.false_eq_true, if_false, if_pos hc',
        List.nil_append]

theorem decValue_normalize (t : Bytes) (h : IsDecimal t) (q : Rat) (hq : decValue t = some q) :
    decValue (normalizeNumber t) = some q := by
  obtain ⟨ds, fs, E, hds, hfs, hE, h⟩ := h
  have hds : ∀ c ∈ ds, isDec c = true := fun c hc => (isDec_eq_isDigit c).trans (hds c hc)
  -- `t` is `ds ++ X` with a tail `X` that starts with `.`, `e` or `E`, if it is not empty
  obtain ⟨X, rfl, hX⟩ : ∃ X, t = ds ++ X ∧ ∀ c, X.head? = some c → c = 46 ∨ c = 101 ∨ c = 69 := by
    rcases h with ⟨-, rfl⟩ | ⟨-, rfl⟩
    · exact ⟨E, rfl, fun c hc => .inr (isExp_head E hE c hc)⟩
    · exact ⟨46 :: fs ++ E, by simp, fun c hc => .inl (by simpa using hc.symm)⟩
  have hX' : ∀ c, X.head? = some c → isDigit c = false := fun c hc => by
    rcases hX c hc with rfl | rfl | rfl <;> decide
  obtain ⟨d, ds', hn, hd, hds', hv⟩ := normalize_shape ds X hds hX
  have hall : ∀ c ∈ d :: ds', isDec c = true := by simpa [hd] using hds'
  rw [decValue_append ds X hds hX'] at hq
  rw [hn, ← List.cons_append, decValue_append (d :: ds') X hall hX', hv]
  exact decTail_mono _ _ _ _ hq

theorem byteOfDigitChar (c : Char) (h : c.isDigit = true) :
    (UInt8.ofNat c.toNat).toNat = c.toNat ∧ isDec (UInt8.ofNat c.toNat) = true := by
  have h1 : 48 ≤ c.toNat ∧ c.toNat ≤ 57 := by
    have := Char.isDigit_iff_toNat.mp h
    simpa using this
  have : (UInt8.ofNat c.toNat).toNat = c.toNat := by
    simp [UInt8.toNat_ofNat']; omega
  refine ⟨this, ?_⟩
  simp [isDec, this, h1]

theorem foldl_digits_map (l : List Char) (hl : ∀ c ∈ l, c.isDigit = true) (init : Nat) :
    (l.map fun c => UInt8.ofNat c.toNat).foldl (fun a c => a * 10 + decDigit c) init =
      Nat.ofDigitChars 10 l init := by
  induction l generalizing init with
  | nil => simp
  | cons c l ih =>
    have hc := (byteOfDigitChar c (hl c (by simp))).1
    simp only [List.map_cons, List.foldl_cons, Nat.ofDigitChars_cons]
    rw [ih (fun d hd => hl d (by simp [hd]))]
    simp [decDigit, hc, Nat.mul_comm]

theorem natOfDigits_natToDec (n : Nat) : natOfDigits (natToDec n) = n := by
  have hl : ∀ c ∈ Nat.toDigits 10 n, c.isDigit = true :=
    fun c hc => Nat.isDigit_of_mem_toDigits (by decide) (by decide) hc
  simp only [natOfDigits, natToDec]
  rw [foldl_digits_map _ hl]
  exact Nat.ofDigitChars_ten_toDigits

theorem natToDec_digits (n : Nat) : ∀ c ∈ natToDec n, isDec c = true := by
  intro c hc
  simp only [natToDec, List.mem_map] at hc
  obtain ⟨d, hd, rfl⟩ := hc
  exact (byteOfDigitChar d (Nat.isDigit_of_mem_toDigits (by decide) (by decide) hd)).2

theorem natToDec_ne_nil (n : Nat) : natToDec n ≠ [] := by
  simp [natToDec]

theorem allDigits_natToDec (n : Nat) : allDigits (natToDec n) = true := by
  have h1 := natToDec_ne_nil n
  have h2 := natToDec_digits n
  simp only [allDigits, Bool.and_eq_true, Bool.not_eq_true', List.all_eq_true]
  exact ⟨by cases h : natToDec n <;> simp_all, h2⟩

/-- a non-empty string of digits denotes the natural number it spells -/
theorem decValue_digits (l : Bytes) (h0 : l ≠ []) (h : ∀ c ∈ l, isDec c = true) :
    decValue l = some (natOfDigits l : Rat) := by
  have : l.isEmpty = false := by cases l <;> simp_all
  have e := decValue_append l [] h (by simp)
  rw [List.append_nil] at e
  simp [e, decTail, splitFrac, this, expValue, Rat.div_def, natOfDigits, Rat.add_zero]

theorem decValue_natToDec (n : Nat) : decValue (natToDec n) = some (n : Rat) := by
  rw [decValue_digits _ (natToDec_ne_nil n) (natToDec_digits n), natOfDigits_natToDec]

theorem isFloatValue_digits (l : Bytes) (h : ∀ c ∈ l, isDec c = true) : isFloatValue l = false := by
  simp only [isFloatValue, List.any_eq_false]
  intro c hc
  have := h c hc
  simp only [isDec, Bool.and_eq_true, decide_eq_true_eq] at this
  simp
  refine ⟨⟨?_, ?_⟩, ?_⟩ <;> (intro h; subst h; simp at this)

theorem hexDigitValue_of_isHexDigit (c : UInt8) (h : isHexDigit c = true) :
    hexDigitValue c = some (hexVal c) := by
  rw [isHexDigit_iff] at h
  simp only [hexDigitValue, hexVal]
  simp only [Bool.or_eq_true, Bool.and_eq_true, decide_eq_true_eq] at h ⊢
  split
  · rfl
  · split
    · rfl
    · split
      · rfl
      · omega

theorem hexDigitsValue_eq (hs : Bytes) (h : ∀ c ∈ hs, isHexDigit c = true) (acc : Nat) :
    hexDigitsValue hs acc = some (hs.foldl (fun acc c => acc * 16 + hexVal c) acc) := by
  induction hs generalizing acc with
  | nil => rfl
  | cons c hs ih =>
    simp only [hexDigitsValue, hexDigitValue_of_isHexDigit c (h c (by simp)), List.foldl_cons]
    exact ih (fun d hd => h d (by simp [hd])) _

theorem hexValue_eq (x : UInt8) (hs : Bytes) (hx : x = 120 ∨ x = 88) (h0 : hs ≠ [])
    (h : ∀ c ∈ hs, isHexDigit c = true) : hexValue (48 :: x :: hs) = some (hexToNat hs) := by
  have : hs.isEmpty = false := by cases hs <;> simp_all
  have hx' : (x == 120 || x == 88) = true := by rcases hx with rfl | rfl <;> simp
  simp only [hexValue, hx', this, beq_self_eq_true, Bool.and_self, Bool.not_false, if_true,
    hexToNat]
  exact hexDigitsValue_eq hs h 0

theorem decValue_hexSpelling (t : Bytes) (h : isHexSpelling t = true) : decValue t = none := by
  match t, h with
  | z :: x :: r, h =>
    simp only [isHexSpelling, Bool.and_eq_true, beq_iff_eq, Bool.or_eq_true] at h
    obtain ⟨rfl, hx⟩ := h
    have h0 : isDec 48 = true := by decide
    rcases hx with rfl | rfl
    · have hx : isDec 120 = false := by decide
      simp [decValue, List.takeWhile_cons, List.dropWhile_cons, h0, hx, decTail, splitFrac, expValue]
    · have hx : isDec 88 = false := by decide
      simp [decValue, List.takeWhile_cons, List.dropWhile_cons, h0, hx, decTail, splitFrac, expValue]

theorem spellingValue_of_decValue (t : Bytes) (q : Rat) (h : decValue t = some q) :
    spellingValue t = some q := by
  cases hh : isHexSpelling t with
  | true => rw [decValue_hexSpelling t hh] at h; cases h
  | false => simp [spellingValue, hh, h]

theorem isFloatValue_zero_cons (t : Bytes) : isFloatValue (48 :: t) = isFloatValue t := by
  simp [isFloatValue]

theorem isFloatValue_trim (t : Bytes) : isFloatValue (trimLeftZeros t) = isFloatValue t := by
  induction t with
  | nil => rfl
  | cons c t ih =>
    simp only [trimLeftZeros]
    split
    · rename_i h
      have : c = 48 := by simpa using h
      subst this
      rw [ih, isFloatValue_zero_cons]
    · rfl

theorem isFloatValue_normalize (t : Bytes) : isFloatValue (normalizeNumber t) = isFloatValue t := by
  simp only [normalizeNumber]
  split
  · rename_i h
    rw [← isFloatValue_trim t, h]; rfl
  · rename_i c rest h
    rw [← isFloatValue_trim t, h]
    split
    · exact isFloatValue_zero_cons _
    · rfl

/-- a decimal spelling without '.', 'e', 'E' is a non-empty digit string, and its value is the
    natural number it spells -/
theorem decValue_integer (v : Bytes) (q : Rat) (h : decValue v = some q)
    (hf : isFloatValue v = false) : allDigits v = true ∧ q = (natOfDigits v : Rat) := by
  have hsplit := List.takeWhile_append_dropWhile (p := isDec) (l := v)
  cases hr : v.dropWhile isDec with
  | nil =>
    rw [hr, List.append_nil] at hsplit
    have hall : ∀ c ∈ v, isDec c = true := by
      intro c hc
      rw [← hsplit] at hc
      exact List.all_eq_true.mp (List.all_takeWhile (p := isDec) (l := v)) c hc
    have hne : v ≠ [] := by
      intro h0; subst h0
      simp [decValue, decTail, splitFrac] at h
    rw [decValue_digits v hne hall] at h
    refine ⟨?_, by cases h; rfl⟩
    simp only [allDigits, Bool.and_eq_true, Bool.not_eq_true', List.all_eq_true]
    exact ⟨by cases v <;> simp_all, hall⟩
  | cons c r =>
    exfalso
    have hc : c ∈ v := by
      rw [← hsplit, hr]; simp
    simp only [isFloatValue, List.any_eq_false] at hf
    have := hf c hc
    simp only [Bool.or_eq_true, not_or] at this
    have h46 : (c == 46) = false := by simpa using this.1.1
    have he : (c == 101 || c == 69) = false := by simp [this.1.2, this.2]
    simp [decValue, hr, decTail, splitFrac, h46, expValue, he] at h


theorem isHexSpelling_of_decValue (t : Bytes) (q : Rat) (h : decValue t = some q) :
    isHexSpelling t = false := by
  cases hh : isHexSpelling t with
  | true => rw [decValue_hexSpelling t hh] at h; cases h
  | false => rfl

/-- a number token's value denotes the number its text spells -/
theorem _root_.Pql.IsNumber.value {t v : Bytes} (h : IsNumber t v) :
    ∃ q : Rat, spellingValue t = some q ∧ decValue v = some q := by
  rcases h with ⟨hdec, hv⟩ | ⟨x, hs, hx, h0, hh, rfl, hv, hlt⟩
  · obtain ⟨q, hq⟩ := decValue_of_isDecimal _ hdec
    exact ⟨q, spellingValue_of_decValue _ q hq, by rw [hv]; exact decValue_normalize _ hdec q hq⟩
  · refine ⟨(hexToNat hs : Rat), ?_, by rw [hv]; exact decValue_natToDec _⟩
    have hx' : (x == 120 || x == 88) = true := by rcases hx with rfl | rfl <;> simp
    simp [spellingValue, isHexSpelling, hx', hexValue_eq x hs hx h0 hh]

/-- **C09 (numbers keep their value).**  If the number sub-scanner, started on a source that
    begins with a digit or '.', emits a number token with value `v` and width `w`, then the source
    spelling `s.take w` is a well-formed literal of the language (decimal
    `digits* ['.' digits*] [(e|E)[+|-]digits+]` with at least one mantissa digit, or `0(x|X)hex+`)
    and the emitted decimal spelling `v` denotes exactly the same rational number. -/
theorem C09_number_value (c : UInt8) (rest v : Bytes) (w : Nat)
    (hc : (isDigit c || c == 46) = true)
    (h : scanNumberOrDot (c :: rest) = ⟨.number, v, w⟩) :
    ∃ q : Rat, spellingValue ((c :: rest).take w) = some q ∧ decValue v = some q :=
  (scanNumberOrDot_shape c rest v w hc h).value

/-- the accessors on a number token with text `t` and value `v` -/
theorem _root_.Pql.IsNumber.accessors {t v : Bytes} (h : IsNumber t v) :
    (isHexSpelling t = true → isFloatValue v = false) ∧
    (isHexSpelling t = false → isFloatValue v = isFloatValue t) ∧
    (isFloatValue v = false →
      allDigits v = true ∧ spellingValue t = some (natOfDigits v : Rat) ∧
      (natOfDigits v < 2 ^ 64 → parseUint64 v = some (natOfDigits v))) := by
  obtain ⟨q, hsrc, hval⟩ := h.value
  refine ⟨?_, ?_, ?_⟩
  · intro hhex
    rcases h with ⟨hdec, _⟩ | ⟨x, hs, hx, h0, hh, htake, hv, hlt⟩
    · obtain ⟨q', hq'⟩ := decValue_of_isDecimal _ hdec
      rw [isHexSpelling_of_decValue _ q' hq'] at hhex
      cases hhex
    · rw [hv]
      exact isFloatValue_digits _ (natToDec_digits _)
  · intro hhex
    rcases h with ⟨_, hv⟩ | ⟨x, hs, hx, h0, hh, htake, hv, hlt⟩
    · rw [hv]
      exact isFloatValue_normalize _
    · have hx' : (x == 120 || x == 88) = true := by rcases hx with rfl | rfl <;> simp
      rw [htake] at hhex
      simp [isHexSpelling, hx'] at hhex
  · intro hf
    obtain ⟨hall, hq⟩ := decValue_integer v q hval hf
    refine ⟨hall, by rw [hsrc, hq], ?_⟩
    intro hlt
    simp [parseUint64, hall, hlt]

/-- **C09 (number accessors).**  For a number token `v` scanned from a source that starts with
    a digit or '.', with source spelling `src = s.take w`:
    * a hexadecimal literal yields an integer token (Go's `IsFloat` is false on it);
    * for a decimal literal `IsFloat` on the token value is `IsFloat` on the source spelling;
    * an integer token is a non-empty string of decimal digits and reading it back as a decimal
      natural number gives the number the source spelled; in particular, when that number is
      below 2^64, `strconv.ParseUint(v, 10, 64)` succeeds with the source's value. -/
theorem C09_accessors (c : UInt8) (rest v : Bytes) (w : Nat)
    (hc : (isDigit c || c == 46) = true)
    (h : scanNumberOrDot (c :: rest) = ⟨.number, v, w⟩) :
    (isHexSpelling ((c :: rest).take w) = true → isFloatValue v = false) ∧
    (isHexSpelling ((c :: rest).take w) = false →
      isFloatValue v = isFloatValue ((c :: rest).take w)) ∧
    (isFloatValue v = false →
      allDigits v = true ∧
      spellingValue ((c :: rest).take w) = some (natOfDigits v : Rat) ∧
      (natOfDigits v < 2 ^ 64 → parseUint64 v = some (natOfDigits v))) :=
  (scanNumberOrDot_shape c rest v w hc h).accessors

/-- One step: at every non-empty suffix the model's `scanOne` and the grammar's `pieceAt`
    (regular expressions + maximal munch) agree on the width, on trivia vs. token, and on the
    token's kind and value. -/
theorem C09_refines_step (c : UInt8) (rest : Bytes) :
    stepOfPiece (LexSpec.pieceAt (c :: rest)) = scanOne (c :: rest) :=
  pieceAt_eq_scanOne c rest

/-- the reference tokenizer with more fuel than bytes is the loop of `Scan`, piece by piece -/
theorem _root_.Pql.tokensFrom_eq_scanFrom (fuel : Nat) (s : Bytes) (off : Nat) (h : s.length < fuel) :
    LexSpec.tokensFrom fuel s off = scanFrom s off := by
  refine scanFrom_induct (P := fun s off ts => ∀ fuel, s.length < fuel → LexSpec.tokensFrom fuel s off = ts)
    ?_ ?_ s off fuel h
  · intro off fuel h
    cases fuel with
    | zero => cases h
    | succ fuel => rfl
  intro s off tl hs hpos hle _ ih fuel hf
  obtain ⟨c, rest, rfl⟩ := List.exists_cons_of_ne_nil hs
  obtain ⟨fuel, rfl⟩ : ∃ f, fuel = f + 1 := ⟨fuel - 1, by omega⟩
  have hp := pieceAt_eq_scanOne c rest
  have hmax : max (LexSpec.pieceAt (c :: rest)).width 1 = (scanOne (c :: rest)).width := by
    rw [← hp, stepOfPiece_width] at hpos ⊢; omega
  simp only [LexSpec.tokensFrom, hmax]
  rw [ih fuel (by simp only [List.length_drop] at hf ⊢; omega), ← hp]
  cases LexSpec.pieceAt (c :: rest) <;> rfl

/-- **C09 (refinement).** For every byte string, valid UTF-8 or not, the model scanner returns
    exactly the token list of the reference tokenizer of Spec/LexSpec.lean (same kinds, spans
    and values). -/
theorem C09_refines (s : Bytes) : scan s = LexSpec.tokens s :=
  (tokensFrom_eq_scanFrom _ s 0 (Nat.lt_succ_self _)).symm

#guard scan (Bytes.ofString "a == 0x1F // c\n`q``r` 'x\\n' .5e3") =
  LexSpec.tokens (Bytes.ofString "a == 0x1F // c\n`q``r` 'x\\n' .5e3")

end Pql.C09
