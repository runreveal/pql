/-
Property C09 — the lexer partitions the source into the documented tokens.
-/
import PqlModel.Lemmas.LexReach
namespace Pql.C09
open Pql

/-- Tokens lie between `lo` and `hi`, are non-empty, in source order and do not overlap. -/
def Ordered (lo hi : Nat) : List Token → Prop
  | [] => lo ≤ hi
  | t :: ts => lo ≤ t.start ∧ t.start < t.stop ∧ Ordered t.stop hi ts

theorem Ordered.weaken {lo lo' hi : Nat} {ts : List Token} (h : Ordered lo hi ts) (hl : lo' ≤ lo) :
    Ordered lo' hi ts := by
  cases ts with
  | nil => simp only [Ordered] at *; omega
  | cons t ts => simp only [Ordered] at *; exact ⟨by omega, h.2.1, h.2.2⟩

theorem Ordered.le {lo hi : Nat} : ∀ {ts : List Token}, Ordered lo hi ts → lo ≤ hi
  | [], h => h
  | _ :: _, h => Nat.le_trans (Nat.le_trans h.1 (Nat.le_of_lt h.2.1)) h.2.2.le

theorem ordered_mem {lo hi : Nat} {ts : List Token} (h : Ordered lo hi ts) :
    ∀ t ∈ ts, lo ≤ t.start ∧ t.start < t.stop ∧ t.stop ≤ hi := by
  induction ts generalizing lo with
  | nil => intro t ht; cases ht
  | cons t' ts ih =>
    obtain ⟨h1, h2, h3⟩ := h
    intro t ht
    rcases List.mem_cons.mp ht with rfl | ht
    · exact ⟨h1, h2, h3.le⟩
    · have := ih h3 t ht
      omega

theorem ordered_pairwise {lo hi : Nat} {ts : List Token} (h : Ordered lo hi ts) :
    ts.Pairwise (fun a b => a.stop ≤ b.start) := by
  induction ts generalizing lo with
  | nil => exact List.Pairwise.nil
  | cons t ts ih =>
    obtain ⟨_, _, h3⟩ := h
    exact List.Pairwise.cons (fun b hb => (ordered_mem h3 b hb).1) (ih h3)

theorem scanFrom_ordered (s : Bytes) (off : Nat) : Ordered off (off + s.length) (scanFrom s off) := by
  refine scanFrom_induct (P := fun s off ts => Ordered off (off + s.length) ts) (fun off => Nat.le_refl _) ?_ s off
  intro s off tl _ hpos hle _ ih
  rw [List.length_drop, show off + (scanOne s).width + (s.length - (scanOne s).width) = off + s.length by omega] at ih
  unfold Step.toks
  split
  · exact ⟨Nat.le_refl _, Nat.lt_add_of_pos_right hpos, ih⟩
  · exact ih.weaken (Nat.le_add_right _ _)

/-- **C09 (partition).** For every byte string, valid UTF-8 or not, the tokens `Scan` returns
    are non-empty, lie inside the source, come in source order and do not overlap. -/
theorem C09_partition (src : Bytes) : Ordered 0 src.length (scan src) := by
  have := scanFrom_ordered src 0
  simpa [scan] using this

/-- **C09 (rescan, all kinds).** The text of any token of `Scan`, scanned on its own, is one
    token with the same kind and value that covers the whole text.  This also holds for error
    tokens. -/
theorem C09_rescan_any (src : Bytes) :
    ∀ t ∈ scan src,
      scan ((src.drop t.start).take (t.stop - t.start)) =
        [⟨t.kind, 0, t.stop - t.start, t.value⟩] := by
  intro t ht
  have := scanFrom_rescan src 0 t ht
  simpa using this

/-- **C09 (rescan).** The text of a non-error token, scanned on its own, gives the same token. -/
theorem C09_rescan (src : Bytes) :
    ∀ t ∈ scan src, t.kind ≠ .error →
      scan ((src.drop t.start).take (t.stop - t.start)) =
        [⟨t.kind, 0, t.stop - t.start, t.value⟩] :=
  fun t ht _ => C09_rescan_any src t ht

-- `a == 1` has three tokens
#guard (scan [97, 32, 61, 61, 32, 49]).length = 3

end Pql.C09
