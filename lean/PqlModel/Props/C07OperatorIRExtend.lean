/-
Property C07, tie by translation: `(*parser).extendColumn`, `(*parser).summarizeColumn` (the model's
`pNamedColumn`) and `(*parser).extendOperator` (with the column loop `pExtendCols`) are the interpretation
of their regenerated bodies.
-/
import PqlModel.Props.C07OperatorIRSort
namespace Pql.OpIR
open Pql
set_option linter.unusedSimpArgs false

theorem mkOpaque_notNF (es : Errs) : isNF (mkOpaque es) = false := isNF_mkOpaque es

theorem namedColumn_run (ty : String) (c : PCtx) (fuel : Nat) (ts : List Token)
    (hrec : newRec ty = some ⟨ty, [("Name", .ident none), ("Assign", .span .zero), ("X", .expr .nil)]⟩)
    (hty : (ty == "ProjectColumn" || ty == "ExtendColumn" || ty == "SummarizeColumn") = true) :
    runP toColumn "col" c (namedColumnBody ty) fuel ts =
      .ok ⟨(pNamedColumn c fuel ts).val, (pNamedColumn c fuel ts).errs, (pNamedColumn c fuel ts).rest⟩ := by
  unfold pNamedColumn runP
  ir_simp [namedColumnBody, hrec, hty, toColumn]
  rcases ts with _ | ⟨t, rest⟩
  · simp [pIdent_nil, nfAt, isNF]
  by_cases hk : t.kind = .ident ∨ t.kind = .qident
  · rw [pIdent_cons hk]
    rcases rest with _ | ⟨a, rest2⟩ <;> simp [eofTok]
    by_cases ha : a.kind = .assign <;> simp [ha, Token.span]
  · simp [pIdent_other hk, nfAt, isNF]

theorem C07_extendColumn_ir (c : PCtx) (fuel : Nat) (ts : List Token) :
    runP toColumn "col" c (bodyOf "extendColumn") fuel ts = .ok (pNamedColumn c fuel ts) := by
  simp only [bodyOf, extendColumn_ir, Option.map_some, Option.getD_some, namedColumn_run _ c fuel ts newRec_extendColumn rfl]

theorem C07_summarizeColumn_ir (c : PCtx) (fuel : Nat) (ts : List Token) :
    runP toColumn "col" c (bodyOf "summarizeColumn") fuel ts = .ok (pNamedColumn c fuel ts) := by
  simp only [bodyOf, summarizeColumn_ir, Option.map_some, Option.getD_some, namedColumn_run _ c fuel ts newRec_summarizeColumn rfl]

def colVals (acc : List Column) : List Val := acc.map fun x => .col x

theorem toColumns_vals (h : List Rec) : ∀ acc : List Column, toColumns h (colVals acc) = some acc
  | [] => rfl
  | x :: r => by
    have := toColumns_vals h r
    simp only [colVals] at this
    simp [colVals, toColumns, toColumn, this]

theorem colVals_snoc (acc : List Column) (x : Column) : colVals acc ++ [.col x] = colVals (acc ++ [x]) := by
  simp [colVals]

def extendSt (pipe kws : Span) (kw pt : Token) (acc : List Column) (ts : List Token) (u : Option (List Token)) : St :=
  ⟨[("op", .ref 0), ("keyword", .tok kw), ("pipe", .tok pt), ("p", .parser ts u)],
   [⟨"ExtendOperator", [("Pipe", .span pipe), ("Keyword", .span kws), ("Cols", .list (colVals acc))]⟩]⟩

theorem extend_loop (c : PCtx) (fuel : Nat) (pipe kws : Span) (kw pt : Token) :
    ∀ (n : Nat) (acc : List Column) (ts : List Token) (u : Option (List Token)),
      result toOp "op" none
          (runLoop false (execBlock (envAt c) (loopAt extendOperatorBody 1)) n fuel (extendSt pipe kws kw pt acc ts u)) =
        .ok ⟨.extend pipe kws (pExtendCols c fuel n acc ts).val, (pExtendCols c fuel n acc ts).errs,
          (pExtendCols c fuel n acc ts).rest⟩
  | 0, acc, ts, u => by
    simp [runLoop, result_fuel, extendSt, pExtendCols, St.parser, St.get, toOp, recToOp, listOf, toColumns_vals, optM,
      bind, Except.bind, pure, Except.pure]
  | n + 1, acc, ts, u => by
    have ih := extend_loop c fuel pipe kws kw pt n
    generalize hb : execBlock (envAt c) (loopAt extendOperatorBody 1) = body at ih ⊢
    rw [runLoop_succ (result toOp "op" none) fun _ => rfl, congrFun (congrFun hb.symm fuel)]
    simp only [loopAt, extendOperatorBody, List.getElem?_cons_succ, List.getElem?_cons_zero, extendSt] at ih ⊢
    unfold pExtendCols
    ir_simp [colVals_snoc, toColumns_vals]
    generalize pNamedColumn c fuel ts = r
    obtain ⟨val, errs, rest⟩ := r
    rcases rest with _ | ⟨t, rest⟩ <;> cases errs <;> simp [ih, colVals_snoc, toColumns_vals]
    by_cases hc : t.kind = .comma <;> simp [hc, ih, colVals_snoc, toColumns_vals]

theorem extendOperator_run (c : PCtx) (fuel : Nat) (pipe kw : Token) (ts : List Token) :
    runOp c extendOperatorBody fuel pipe kw ts =
      .ok ⟨.extend pipe.span kw.span (pExtendCols c fuel (ts.length + 1) [] ts).val,
        (pExtendCols c fuel (ts.length + 1) [] ts).errs, (pExtendCols c fuel (ts.length + 1) [] ts).rest⟩ := by
  ir_simp [extendOperatorBody]
  exact extend_loop c fuel pipe.span kw.span kw pipe (ts.length + 1) [] ts none

theorem C07_extendOperator_ir (c : PCtx) (fuel : Nat) (pipe kw : Token) (ts : List Token) :
    (runOp c (bodyOf "extendOperator") fuel pipe kw ts).map some =
      .ok (pOperator c (fuel + 1) pipe.span (kwTok "extend" kw) ts) := by
  simp only [bodyOf, extendOperator_ir, Option.map_some, Option.getD_some, extendOperator_run,
    pOperator_extend c fuel _ (kwTok "extend" kw) ts rfl]
  rfl

end Pql.OpIR
