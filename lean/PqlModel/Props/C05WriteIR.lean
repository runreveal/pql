/-
Property C05 (and C02), tie by translation: `(*subquery).write`.

The cases of the type switch of `(*subquery).write` and the ORDER BY / LIMIT suffix after it are
regenerated from pql.go on every run as an IR (`Facts.writeIR`, `Facts.writeSwitches`; translator
`harness/extract_write.go`, interpreter `Model/WriteIR.lean`).  The hand-written model `Subquery.write` IS the interpretation of
the regenerated IR, for every subquery: every operator, every column / property / sort-term list (by
induction over the lists), every sort and row-count attachment.  The cases are spread over this file,
Props/C05WriteIROps.lean and Props/C05WriteIRAll.lean (all cases together: `C05_write_ir`);
Props/C05WriteIRStmt.lean has the statement assembly of `Compile` and the quoting functions.  A changed
literal, a moved separator, a swapped branch, a different loop order … changes the regenerated IR and
breaks `…_ir` (the decoded unit is not the expected one) or the case theorem.

Where the model maps nil pointers differently from the Go code (it never meets them on trees an
error-free parse returns), the case theorem has a hypothesis, a counterexample theorem shows the
statement false without it, and a non-vacuity example is given:
  project   every column has a name            (Go: nil dereference; model: the empty name)
  extend    every column has an expression     (Go writes the name twice; model once)
  render    the chart type and every property name are present, no value is an empty
            qualified identifier               (Go: nil dereference / index out of range; model: "")
The default case of the switch (`SELECT NULL /* unsupported operator %T */`) is never reached
from `splitQueries`; the model drops the `%T` rendering, see `C05_write_default`.
-/
import PqlModel.Model.WriteIR
import PqlModel.Lemmas.WriteIRSimp
import PqlModel.Lemmas.ExactWrite
namespace Pql.WriteIR
open Pql
set_option linter.unusedSimpArgs false

/-- the model's `writeExpression` and `(*subquery).write` as the callees of the IR -/
def modelSem : Sem := ⟨writeExpr, fun ctx s => s.write ctx⟩

theorem bind_ok {ε α β : Type} (a : α) (f : α → Except ε β) : (Except.ok a : Except ε α) >>= f = f a := rfl
theorem bind_error {α β : Type} (e : IErr) (f : α → M β) : (Except.error e : M α) >>= f = .error e := rfl

theorem liftW_bind {α β : Type} (x : Except WErr α) (f : α → Except WErr β) :
    liftW (x >>= f) = liftW x >>= fun a => liftW (f a) := by
  cases x <;> rfl

theorem liftW_pure {α : Type} (a : α) : liftW (pure a : Except WErr α) = .ok a := rfl

theorem leave_push (c c' : Option Ctx) (extra vars : List (String × Val)) :
    (State.mk c (extra ++ vars)).leave ⟨c', vars⟩ = ⟨c, vars⟩ := by
  simp [State.leave]

/-- what a loop writes when iteration `i` on `x` writes `f i x` -/
def collect {α : Type} (f : Nat → α → M (List Chunk)) : Nat → List α → M (List Chunk)
  | _, [] => .ok []
  | i, x :: xs => f i x >>= fun o => collect f (i + 1) xs >>= fun r => .ok (o ++ r)

/-- a loop whose body, from the state with the loop variables bound, writes `f i x` and leaves
    (after its own declarations go out of scope) the state it found -/
theorem forEach_collect {α : Type} (inj : α → Val) (idx elem : String) (body : State → M (List Chunk × State))
    (c : Option Ctx) (vars : List (String × Val)) (f : Nat → α → M (List Chunk)) :
    ∀ (xs : List α) (i : Nat),
      (∀ j, ∀ x ∈ xs, (body ⟨c, (elem, inj x) :: (idx, .nat j) :: vars⟩ >>= fun r => .ok (r.1, r.2.leave ⟨c, vars⟩)) =
        (f j x >>= fun o => .ok (o, ⟨c, vars⟩))) →
      forEach idx elem body i (xs.map inj) ⟨c, vars⟩ = (collect f i xs >>= fun o => .ok (o, ⟨c, vars⟩))
  | [], i, _ => rfl
  | x :: xs, i, hbody => by
    have ih := forEach_collect inj idx elem body c vars f xs (i + 1)
      (fun j y hy => hbody j y (List.mem_cons_of_mem _ hy))
    have hb := hbody i x List.mem_cons_self
    simp only [List.map_cons, forEach, collect]
    cases hr : body ⟨c, (elem, inj x) :: (idx, .nat i) :: vars⟩ with
    | error e =>
      rw [hr] at hb
      cases hf : f i x with
      | error e' => rw [hf] at hb; simp only [bind_error] at hb ⊢; exact hb
      | ok o => rw [hf] at hb; simp [bind_error, bind_ok] at hb
    | ok r =>
      rw [hr] at hb
      cases hf : f i x with
      | error e' => rw [hf] at hb; simp [bind_error, bind_ok] at hb
      | ok o =>
        rw [hf] at hb
        simp only [bind_ok, Except.ok.injEq, Prod.mk.injEq] at hb
        obtain ⟨h1, h2⟩ := hb
        simp only [bind_ok]
        rw [h2, ih, ← h1]
        cases collect f (i + 1) xs <;> rfl

theorem collect_pure {α : Type} (h : α → List Chunk) :
    ∀ (xs : List α) (i : Nat), collect (fun _ x => .ok (h x)) i xs = .ok (xs.flatMap h)
  | [], _ => rfl
  | x :: xs, i => by simp [collect, collect_pure h xs (i + 1), bind_ok]

/-- a separator before every element -/
theorem collect_flat {α : Type} (g : α → W) (sep : String) (b : Nat → Bool) :
    ∀ (xs : List α) (i : Nat), (∀ j, i ≤ j → b j = true) →
      collect (fun j x => liftW (g x) >>= fun o => .ok ((if b j then [.txt sep] else []) ++ o)) i xs =
        (liftW (xs.mapM g) >>= fun os => .ok (os.flatMap fun c => .txt sep :: c))
  | [], i, _ => rfl
  | x :: xs, i, h => by
    have ih := collect_flat g sep b xs (i + 1) (fun j hj => h j (by omega))
    simp only [collect, List.mapM_cons, ih, h i (Nat.le_refl i)]
    cases g x with
    | error e => rfl
    | ok o =>
      cases xs.mapM g with
      | error e => rfl
      | ok os => simp [liftW, bind, Except.bind, pure, Except.pure]

/-- a separator before every element but the first -/
theorem collect_sep {α : Type} (g : α → W) (sep : String) (b : Nat → Bool) (xs : List α) (i : Nat)
    (h0 : b i = false) (h : ∀ j, i < j → b j = true) :
    collect (fun j x => liftW (g x) >>= fun o => .ok ((if b j then [.txt sep] else []) ++ o)) i xs =
      (liftW (xs.mapM g) >>= fun os => .ok (sepChunks sep os)) := by
  cases xs with
  | nil => rfl
  | cons x xs =>
    have ih := collect_flat g sep b xs (i + 1) (fun j hj => h j (by omega))
    simp only [collect, List.mapM_cons, ih, h0]
    cases g x with
    | error e => rfl
    | ok o =>
      cases xs.mapM g with
      | error e => rfl
      | ok os => simp [liftW, bind, Except.bind, pure, Except.pure, sepChunks_cons]

/-- a separator after every element but the last (`n` is the length of the whole slice) -/
theorem collect_notLast {α : Type} (g : α → W) (sep : String) :
    ∀ (xs : List α) (i n : Nat), n = i + xs.length →
      collect (fun j x => liftW (g x) >>= fun o => .ok (o ++ if j + 1 < n then [.txt sep] else [])) i xs =
        (liftW (xs.mapM g) >>= fun os => .ok (sepChunks sep os))
  | [], i, n, _ => rfl
  | [x], i, n, h => by
    have : ¬ (i + 1 < n) := by simp at h; omega
    simp only [collect, List.mapM_cons, List.mapM_nil, this]
    cases g x <;> simp [liftW, bind, Except.bind, pure, Except.pure, sepChunks]
  | x :: y :: xs, i, n, h => by
    have ih := collect_notLast g sep (y :: xs) (i + 1) n (by simp at h ⊢; omega)
    have : i + 1 < n := by simp at h; omega
    rw [collect, ih]
    simp only [List.mapM_cons, this]
    cases g x with
    | error e => rfl
    | ok o =>
      cases g y with
      | error e => rfl
      | ok o' =>
        cases xs.mapM g with
        | error e => rfl
        | ok os => simp [liftW, bind, Except.bind, pure, Except.pure, sepChunks]

theorem modelSem_we : modelSem.writeExpression = writeExpr := rfl
theorem modelSem_sw : modelSem.subWrite = fun ctx s => s.write ctx := rfl

/- `State.leave` drops as many variables as the inner state has more than the outer: the subtraction, for blocks that
declared one to four -/
theorem len_sub1 (n : Nat) : n + 1 - n = 1 := by omega
theorem len_sub2 (n : Nat) : n + 1 + 1 - n = 2 := by omega
theorem len_sub3 (n : Nat) : n + 1 + 1 + 1 - n = 3 := by omega
theorem len_sub4 (n : Nat) : n + 1 + 1 + 1 + 1 - n = 4 := by omega

/-! A body is run ONCE by `wr_simp`, on symbolic data, into the `if`-tree of what it can write (as for `ExprIR.exec`,
Props/C01WriteExprIR.lean): the rest of a block is an argument of `thenW`, what has been written so far of `outW`; a variable
is looked up before the continuation of the lookup is entered; a condition `simp` cannot decide sends the continuation
into both branches; what `writeExpression` returns stays folded under its bind. -/

def outW (o : List Chunk) (r : M (List Chunk × State)) : M (List Chunk × State) := r >>= fun y => pure (o ++ y.1, y.2)

def thenW (r : M (List Chunk × State)) (g : State → M (List Chunk × State)) : M (List Chunk × State) :=
  r >>= fun x => outW x.1 (g x.2)

def leaveW (r : M (List Chunk × State)) (outer : State) : M (List Chunk × State) := r >>= fun x => pure (x.1, x.2.leave outer)

/-- the branch a condition selects, entered with what the condition binds -/
def iteW (b : M (Bool × List (String × Val))) (st : State) (t e : State → M (List Chunk × State)) : M (List Chunk × State) :=
  b >>= fun x => if x.1 then t { st with vars := x.2 ++ st.vars } else e st

theorem outW_ok (o o' : List Chunk) (st : State) : outW o (.ok (o', st)) = .ok (o ++ o', st) := rfl
theorem outW_error (o : List Chunk) (e : IErr) : outW o (.error e) = .error e := rfl
theorem thenW_ok (o : List Chunk) (st : State) (g : State → M (List Chunk × State)) : thenW (.ok (o, st)) g = outW o (g st) := rfl
theorem thenW_error (e : IErr) (g : State → M (List Chunk × State)) : thenW (.error e) g = .error e := rfl
theorem leaveW_ok (o : List Chunk) (st outer : State) : leaveW (.ok (o, st)) outer = .ok (o, st.leave outer) := rfl
theorem leaveW_error (e : IErr) (outer : State) : leaveW (.error e) outer = .error e := rfl
theorem iteW_ok (b : Bool) (bs : List (String × Val)) (st : State) (t e : State → M (List Chunk × State)) :
    iteW (.ok (b, bs)) st t e = if b then t ⟨st.ctx, bs ++ st.vars⟩ else e st := rfl
theorem iteW_error (x : IErr) (st : State) (t e : State → M (List Chunk × State)) : iteW (.error x) st t e = .error x := rfl

theorem outW_ite (c : Prop) [Decidable c] (o : List Chunk) (a b : M (List Chunk × State)) :
    outW o (if c then a else b) = if c then outW o a else outW o b := by split <;> rfl
theorem thenW_ite (c : Prop) [Decidable c] (a b : M (List Chunk × State)) (g : State → M (List Chunk × State)) :
    thenW (if c then a else b) g = if c then thenW a g else thenW b g := by split <;> rfl
theorem leaveW_ite (c : Prop) [Decidable c] (a b : M (List Chunk × State)) (st : State) :
    leaveW (if c then a else b) st = if c then leaveW a st else leaveW b st := by split <;> rfl

theorem outW_bind {α : Type} (o : List Chunk) (m : M α) (f : α → M (List Chunk × State)) :
    outW o (m >>= f) = m >>= fun x => outW o (f x) := by cases m <;> rfl
theorem thenW_bind {α : Type} (m : M α) (f : α → M (List Chunk × State)) (g : State → M (List Chunk × State)) :
    thenW (m >>= f) g = m >>= fun x => thenW (f x) g := by cases m <;> rfl
theorem leaveW_bind {α : Type} (m : M α) (f : α → M (List Chunk × State)) (st : State) :
    leaveW (m >>= f) st = m >>= fun x => leaveW (f x) st := by cases m <;> rfl

theorem execBlock_nil (sem : Sem) (st : State) : execBlock sem [] st = .ok ([], st) := by rw [execBlock]

theorem execBlock_cons (sem : Sem) (s : Stmt) (r : List Stmt) (st : State) :
    execBlock sem (s :: r) st = thenW (exec sem s st) (execBlock sem r) := by
  rw [execBlock]
  rfl

theorem exec_ite (sem : Sem) (c : Cond) (t e : List Stmt) (st : State) :
    exec sem (.ite c t e) st = leaveW (iteW (evalCond st c) st (execBlock sem t) (execBlock sem e)) st := by
  rw [exec]
  cases evalCond st c with
  | error x => rfl
  | ok x => obtain ⟨b, bs⟩ := x; cases b <;> rfl

/-- for the model's side as well (`Except WErr`) -/
theorem xbind_err {ε α β : Type} (e : ε) (f : α → Except ε β) : (Except.error e : Except ε α) >>= f = .error e := rfl
theorem pure_ok {ε α : Type} (a : α) : (pure a : Except ε α) = .ok a := rfl
theorem map_ok {ε α β : Type} (f : α → β) (a : α) : Except.map f (.ok a : Except ε α) = .ok (f a) := rfl
theorem map_err {ε α β : Type} (f : α → β) (e : ε) : Except.map f (.error e : Except ε α) = .error e := rfl
theorem map_bind {ε α β γ : Type} (f : β → γ) (m : Except ε α) (g : α → Except ε β) :
    Except.map f (m >>= g) = m >>= fun x => Except.map f (g x) := by cases m <;> rfl

/-- the outcome of `v, ok := e.(*parser.ty)` -/
def typeK (v ty : String) (e : Expr) : M (Bool × List (String × Val)) :=
  .ok (exprTypeName e == ty, if exprTypeName e == ty then [(v, .expr e)] else [])

/-- the type test of an expression that has not been looked up yet is not unfolded -/
theorem typeIs_eval (st : State) (v ty : String) (p : Path) :
    evalCond st (.typeIs v ty p) = st.get p.root >>= (exprAt · p.fields) >>= typeK v ty := by
  rw [evalCond]
  cases st.get p.root >>= (exprAt · p.fields) with
  | error e => rfl
  | ok e => simp only [typeK, bind_ok]; split <;> simp [*, pure_ok]

/-- a type test whose answer is not known: both branches are run -/
theorem iteW_typeK (v ty : String) (e : Expr) (st : State) (t e' : State → M (List Chunk × State)) :
    iteW (typeK v ty e) st t e' = if exprTypeName e == ty then t ⟨st.ctx, (v, .expr e) :: st.vars⟩ else e' st := by
  unfold typeK iteW
  cases exprTypeName e == ty <;> rfl

/-- the form in which the loop lemmas state what a body leaves -/
theorem bind_leave (r : M (List Chunk × State)) (outer : State) :
    (r >>= fun x => .ok (x.1, x.2.leave outer)) = leaveW r outer := rfl

theorem get_head (c : Option Ctx) (v : String) (x : Val) (vs : List (String × Val)) : State.get ⟨c, (v, x) :: vs⟩ v = .ok x := by
  simp [State.get]

theorem get_tail (c : Option Ctx) (v w : String) (x : Val) (vs : List (String × Val)) (h : w ≠ v) :
    State.get ⟨c, (w, x) :: vs⟩ v = State.get ⟨c, vs⟩ v := by
  have h' : (w == v) = false := by simpa using h
  simp [State.get, List.find?, h']

theorem get_head_bind {α : Type} (c : Option Ctx) (v : String) (x : Val) (vs : List (String × Val)) (f : Val → M α) :
    State.get ⟨c, (v, x) :: vs⟩ v >>= f = f x := by
  rw [get_head]; rfl

theorem get_tail_bind {α : Type} (c : Option Ctx) (v w : String) (x : Val) (vs : List (String × Val)) (f : Val → M α)
    (h : w ≠ v) : State.get ⟨c, (w, x) :: vs⟩ v >>= f = State.get ⟨c, vs⟩ v >>= f := by
  rw [get_tail _ _ _ _ _ h]

theorem liftW_ok {α : Type} (a : α) : liftW (Except.ok a : Except WErr α) = .ok a := rfl
theorem liftW_err {α : Type} (e : WErr) : (liftW (Except.error e : Except WErr α)) = .error (.go e) := rfl
attribute [writeIR] execBlock_nil execBlock_cons outW_ok outW_error thenW_ok thenW_error leaveW_ok leaveW_error iteW_ok
  iteW_error outW_ite thenW_ite leaveW_ite outW_bind thenW_bind leaveW_bind get_head get_tail xbind_err pure_ok
  map_ok map_err map_bind liftW_ok liftW_err liftW_bind exec evalCond State.declare State.leave exprAt strAt chunksAt listAt nilAt flagAt natOf
  nameOf someOrPanic assignIn iteW_typeK len_sub1 len_sub2 len_sub3 len_sub4 modelSem_we modelSem_sw goPanic stuck

attribute [writeIR ↓] exec_ite typeIs_eval bind_leave get_head_bind get_tail_bind bind_ok bind_assoc

/-- run a body.  Out of the default set: `bind_pure_comp` would turn the binds of the interpreter into maps; `BEq.rfl` asks
    for an instance `ReflBEq String` at every comparison of two names; the lemmas about the bind of `Option` are tried at
    every bind of a run (the index does not look at the monad) and `ite_self` at every `if` of the tree; two names are
    compared as a propositional equality, refuted at the first character that differs (`sbeq`), where
    `String.reduceBEq` leaves the kernel to encode both.  With explicit proofs of the `rfl` steps the kernel does not run
    the interpreter again -/
syntax "wr_simp" (" [" Lean.Parser.Tactic.simpLemma,* "]")? : tactic
macro_rules
  | `(tactic| wr_simp) => `(tactic| wr_simp [])
  | `(tactic| wr_simp [$ls,*]) =>
    `(tactic| simp (config := { implicitDefEqProofs := false }) [writeIR, sbeq, -bind_pure_comp, -BEq.rfl,
      -Option.bind_eq_bind, -Option.pure_def, -ite_self, -String.reduceBEq, $ls,*])

def termBody : List Stmt :=
  [.expr ⟨"term", "X"⟩,
   .ite (.flag ⟨"term", "Asc"⟩) [.lit " ASC"] [.lit " DESC"],
   .ite (.flag ⟨"term", "NullsFirst"⟩) [.lit " NULLS FIRST"] [.lit " NULLS LAST"],
   .ite (.notLast "i" ⟨"sub", "sort.Terms"⟩) [.lit ", "] []]

def suffixIR : List Stmt :=
  [.ite (.notNil ⟨"sub", "sort"⟩) [.lit " ORDER BY ", .for_ "i" "term" ⟨"sub", "sort.Terms"⟩ termBody] [],
   .ite (.notNil ⟨"sub", "take"⟩) [.lit " LIMIT ", .expr ⟨"sub", "take.RowCount"⟩] [],
   .ret]

theorem suffix_ir : decode (irOf "write:suffix") = some suffixIR := by rfl

/-- one sort term, as the model writes it -/
def termW (ctx : Ctx) (t : SortTerm) : W :=
  writeExpr ctx t.x >>= fun x =>
    pure (x ++ [.txt (if t.asc then " ASC" else " DESC"), .txt (if t.nullsFirst then " NULLS FIRST" else " NULLS LAST")])

theorem writeSortTerms_eq (ctx : Ctx) : ∀ ts, writeSortTerms ctx ts = ts.mapM (termW ctx)
  | [] => rfl
  | t :: ts => by
    rw [writeSortTerms, List.mapM_cons, writeSortTerms_eq ctx ts, termW]
    cases writeExpr ctx t.x <;> rfl

theorem term_body (ctx : Ctx) (sub : Subquery) (ts : List SortTerm) (h : sub.sort = some ts) (i : Nat) (t : SortTerm) :
    (execBlock modelSem termBody ⟨some ctx, [("term", .term t), ("i", .nat i), ("sub", .sub sub)]⟩ >>= fun r =>
        .ok (r.1, r.2.leave ⟨some ctx, [("sub", .sub sub)]⟩)) =
      ((liftW (termW ctx t) >>= fun o => .ok (o ++ if i + 1 < ts.length then [.txt ", "] else [])) >>= fun o =>
        .ok (o, ⟨some ctx, [("sub", .sub sub)]⟩)) := by
  wr_simp [termBody, termW, h]
  cases writeExpr ctx t.x with
  | error e => rfl
  | ok x => cases t.asc <;> cases t.nullsFirst <;> by_cases hl : i + 1 < ts.length <;> simp [hl, liftW_ok, bind_ok]

theorem sort_loop (ctx : Ctx) (sub : Subquery) (ts : List SortTerm) (h : sub.sort = some ts) :
    forEach "i" "term" (execBlock modelSem termBody) 0 (ts.map .term) ⟨some ctx, [("sub", .sub sub)]⟩ =
      (liftW (writeSortTerms ctx ts) >>= fun xs => .ok (sepChunks ", " xs, ⟨some ctx, [("sub", .sub sub)]⟩)) := by
  rw [forEach_collect Val.term "i" "term" _ (some ctx) [("sub", .sub sub)] _ ts 0 (fun j t _ => term_body ctx sub ts h j t),
    collect_notLast (termW ctx) ", " ts 0 ts.length (by simp), writeSortTerms_eq]
  cases ts.mapM (termW ctx) <;> rfl

theorem suffix_exec (ctx : Ctx) (sub : Subquery) :
    execBlock modelSem suffixIR ⟨some ctx, [("sub", .sub sub)]⟩ =
      (liftW (sortPartOf ctx sub.sort >>= fun s => takePartOf ctx sub.take >>= fun t => pure (s ++ t)) >>= fun o =>
        .ok (o, ⟨some ctx, [("sub", .sub sub)]⟩)) := by
  cases hs : sub.sort with
  | none => cases ht : sub.take <;> wr_simp [suffixIR, hs, ht, sortPartOf, takePartOf]
  | some ts =>
    have hl := sort_loop ctx sub ts hs
    cases ht : sub.take <;> wr_simp [suffixIR, hs, ht, hl, sortPartOf, takePartOf]

/-- a case that does not return writes what the operator-dependent part of the model's `write` yields.  `hret` looks at
    the end of the unit only (`returns`), and `exec` passes over a `.ret`: that no `return` stands elsewhere in a unit
    is the translator's refusal (harness/extract_write.go), not something the interpreter checks -/
theorem interpWrite_of (ctx : Ctx) (sub : Subquery) (key : String) (body : List Stmt)
    (hkey : caseKey "write" (opTypeKey sub.op) = some key)
    (hir : decode (irOf key) = some body)
    (hret : returns body = false)
    (hbody : (execBlock modelSem body ⟨some ctx, opVars sub⟩ >>= fun r => .ok (some r.1, r.2)) =
      (liftW (bodyOf ctx sub.op sub.source) >>= fun b => .ok (b, ⟨some ctx, opVars sub⟩))) :
    interpWrite modelSem ctx sub = liftW (sub.write ctx) := by
  unfold interpWrite
  simp only [hkey, hir, suffix_ir]
  rw [write_eq, hret]
  cases hb : bodyOf ctx sub.op sub.source <;> rcases hr : execBlock modelSem body ⟨some ctx, opVars sub⟩ with e | ⟨o, st⟩ <;>
    rw [hb, hr] at hbody <;> cases hbody
  · rfl
  · simp only [liftW, bind_ok, opVars, leave_push, suffix_exec]
    simp only [tailOf_some, bind, Except.bind, pure, Except.pure]
    cases sortPartOf ctx sub.sort with
    | error e => rfl
    | ok s =>
      cases takePartOf ctx sub.take with
      | error e => rfl
      | ok t => simp

def plainIR : List Stmt := [.lit "SELECT * FROM ", .str ⟨"sub", "sourceSQL"⟩]
theorem plain_ir : decode (irOf "write:nil,AsOperator") = some plainIR := by rfl

def countIR : List Stmt := [.lit "SELECT COUNT(*) AS \"count()\" FROM ", .str ⟨"sub", "sourceSQL"⟩]
theorem count_ir : decode (irOf "write:CountOperator") = some countIR := by rfl

def whereIR : List Stmt :=
  [.lit "SELECT * FROM ", .str ⟨"sub", "sourceSQL"⟩, .lit " WHERE ", .expr ⟨"op", "Predicate"⟩]
theorem where_ir : decode (irOf "write:WhereOperator") = some whereIR := by rfl

/-- no operator: a bare source, or the subquery a sort / take opens -/
theorem C05_write_none (ctx : Ctx) (sub : Subquery) (h : sub.op = none) :
    interpWrite modelSem ctx sub = liftW (sub.write ctx) := by
  refine interpWrite_of ctx sub _ plainIR (by rw [h]; rfl) plain_ir rfl ?_
  wr_simp [plainIR, opVars, bodyOf, h]

theorem C05_write_as (ctx : Ctx) (sub : Subquery) (p k : Span) (n : Option Ident) (h : sub.op = some (.as_ p k n)) :
    interpWrite modelSem ctx sub = liftW (sub.write ctx) := by
  refine interpWrite_of ctx sub _ plainIR (by rw [h]; rfl) plain_ir rfl ?_
  wr_simp [plainIR, opVars, bodyOf, h]

theorem C05_write_count (ctx : Ctx) (sub : Subquery) (p k : Span) (h : sub.op = some (.count p k)) :
    interpWrite modelSem ctx sub = liftW (sub.write ctx) := by
  refine interpWrite_of ctx sub _ countIR (by rw [h]; rfl) count_ir rfl ?_
  wr_simp [countIR, opVars, bodyOf, h]

theorem C05_write_where (ctx : Ctx) (sub : Subquery) (p k : Span) (pred : Expr) (h : sub.op = some (.where_ p k pred)) :
    interpWrite modelSem ctx sub = liftW (sub.write ctx) := by
  refine interpWrite_of ctx sub _ whereIR (by rw [h]; rfl) where_ir rfl ?_
  wr_simp [whereIR, opVars, bodyOf, h]

end Pql.WriteIR
