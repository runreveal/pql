/-
THE HEADLINE PROPERTIES ON THE INTERPRETATIONS OF THE TRANSLATED GO CODE: the compiler (C04 – C06).
See Props/IRHeadlinesA.lean for the conventions.  One more interpreter: `WriteIR.interpQuote` (`quoteSQLString`,
`quoteIdentifier`).
-/
import PqlModel.Props.IRHeadlinesA
import PqlModel.Props.C04
import PqlModel.Props.C04Shape
import PqlModel.Props.C05NoPlaceholder
import PqlModel.Props.C05Parsed
import PqlModel.Props.C06
import PqlModel.Props.C06Params
import PqlModel.Props.C06Placeholders
import PqlModel.Props.C13
import PqlModel.Props.C04Numbers
import PqlModel.Props.C05LexStatement
import PqlModel.Lemmas.TreeInduct
namespace Pql.IRHead
open Pql Sql CompileOracle Intended Pql.ParsedOK Pql.E2E Pql.RT JoinFull
set_option linter.unusedSimpArgs false

/-- **C04 (strings and names decode) on the translated `quoteSQLString` / `quoteIdentifier`.**  For every
    byte string `v`: the interpretation of the regenerated body returns normally, and the SQL lexer reads
    the bytes it wrote back as exactly `v` and continues right after them (standard quoting rules). -/
theorem C04_decode_ir (v : Bytes) :
    (∃ cs, WriteIR.interpQuote "quoteSQLString" "s" v = .ok cs ∧
      ∀ rest : Bytes, rest.head? ≠ some 39 →
        lexQuoted .standard 39 ((renderChunks cs).tail ++ rest) = some (v, rest)) ∧
    (∃ cs, WriteIR.interpQuote "quoteIdentifier" "name" v = .ok cs ∧
      ∀ rest : Bytes, rest.head? ≠ some 34 →
        lexQuoted .standard 34 ((renderChunks cs).tail ++ rest) = some (v, rest)) := by
  obtain ⟨cs1, h1, e1⟩ := NoPanic.ok_of_map_ok (WriteIR.C05_quoteSQLString_ir v)
  obtain ⟨cs2, h2, e2⟩ := NoPanic.ok_of_map_ok (WriteIR.C05_quoteIdentifier_ir v)
  exact ⟨⟨cs1, h1, fun rest hr => by rw [e1]; exact C04.C04_decode_string v rest hr⟩,
    ⟨cs2, h2, fun rest hr => by rw [e2]; exact C04.C04_decode_identifier v rest hr⟩⟩

theorem good_map_alg (φ : CMap) : ExprTreeAlg (fun e => e.Good → (mapE φ e).Good)
    (fun es => es.Good → (mapL φ es).Good) where
  nil := id
  qident := fun _ _ => trivial
  lit := fun _ _ _ _ => trivial
  unary := fun _ _ _ ih => ih
  binary := fun _ _ _ _ ihx ihy h => ⟨ihx h.1, ihy h.2⟩
  inE := fun _ _ _ _ _ ihx ihl h => ⟨ihx h.1, ihl h.2⟩
  paren := fun _ _ _ ih => ih
  call := fun _ _ _ _ ihl => ihl
  index := fun _ _ _ _ ihx ihy h => ⟨ihx h.1, ihy h.2⟩
  lnil := id
  cons := fun _ _ ihe ihl h => ⟨ihe h.1, ihl h.2⟩

theorem good_mapE (φ : CMap) : (e : Expr) → e.Good → (mapE φ e).Good := (good_map_alg φ).expr

theorem good_mapL (φ : CMap) : (es : ExprList) → es.Good → (mapL φ es).Good := (good_map_alg φ).list

/-- **C04 (contents are data) on the translated `writeExpression`.**  For any content map `φ` (string
    contents, number texts, inert names, positions) — any scope mapped alike, any two sources: the
    interpretation of the regenerated `writeExpression` on the mapped expression returns the chunks it
    returns on the original with the contents mapped in place, and fails the same way when it fails.
    `hg` is the side condition of `C01_writeExpression_ir` (join mode: no nil sub-expression — true of every
    parsed tree; needed for THAT equality, `ExprIR.C01_writeExpression_ir_needs_good`). -/
theorem C04_content_parametric_ir (φ : CMap) (src src' : Bytes) (s : Scope) (m : Mode) (e : Expr)
    (hi : inertE s m φ e = true) (hg : m = .join → e.Good) :
    ExprIR.interpWriteExpression ⟨src', C04.mapScope φ s, m⟩ (mapE φ e) =
      (ExprIR.interpWriteExpression ⟨src, s, m⟩ e).map (List.map (Chunk.mapC φ)) := by
  rw [ExprIR.C01_writeExpression_ir ⟨src', C04.mapScope φ s, m⟩ (mapE φ e) (fun h => good_mapE φ e (hg h)),
    ExprIR.C01_writeExpression_ir ⟨src, s, m⟩ e hg, C04.C04_content_parametric φ src src' s m e hi,
    ExprIR.liftW_map]

/-- string contents in particular (no side condition outside join mode) -/
theorem C04_string_shape_ir (ctx : Ctx) (f : Bytes → Bytes) (e : Expr) (hg : ctx.mode = .join → e.Good) :
    (ExprIR.interpWriteExpression ctx (C04.mapStr f e)).map (List.map Chunk.shape) =
      (ExprIR.interpWriteExpression ctx e).map (List.map Chunk.shape) := by
  rw [ExprIR.C01_writeExpression_ir ctx e hg,
    ExprIR.C01_writeExpression_ir ctx (C04.mapStr f e) (fun h => by rw [C04.mapStr_eq]; exact good_mapE _ e (hg h)),
    ExprIR.liftW_map, ExprIR.liftW_map, C04.C04_string_shape]

/-- **C04 (numbers end to end) on the loop around the translated switch of `Scan`.**  Every number token
    the loop (`scanIR`: the interpretation of the regenerated switch, iterated) returns is read by the SQL
    lexer as exactly one number token with that text, whose value is the value of the source lexeme. -/
theorem C04_number_token_roundtrip_ir (src : Bytes) (ts : List Token) (h : scanIR src = some ts)
    (t : Token) (ht : t ∈ ts) (hk : t.kind = .number) :
    Sql.lex .standard t.value = some [.num t.value] ∧
    ∃ q : Rat, Glue.sqlNumValue t.value = some q ∧ C09.spellingValue (src.extract t.start t.stop) = some q := by
  rw [scanIR_eq] at h
  injection h with h
  subst h
  exact Glue.C04_number_token_roundtrip src t ht hk

/-- **C04 (numbers end to end, tree level) on the translated `Parse`.**  If the interpretation of `Parse`
    returns `stmts` without error, every number literal node of the program — at any depth below any
    operator argument, column, sort term, join condition or `let` value — is `NumLitOK`: the text the compiler
    writes for it is ONE SQL number token whose value is the value of the source text at the node's span. -/
theorem C04_number_literal_roundtrip_ir (src : Bytes) (stmts : List Stmt) (hp : ParseIR(src) = .ok (stmts, [])) :
    ∀ s ∈ stmts, StmtAll (Glue.NumLitsOK src) (fun l => ∀ e ∈ l.toList, Glue.NumLitsOK src e) s :=
  Glue.C04_number_literal_roundtrip src stmts ((parse_ir_iff src _).1 hp)

/-- non-vacuity of `C04_content_parametric_ir` in join mode: `f($left.x, -(y)) == $right.x`, string contents
    mapped by any `f` -/
theorem C04_content_parametric_ir_nonvacuous (f : Bytes → Bytes) :
    inertE [] .join (.ofStr f) Glue.sample = true ∧ ((Mode.join = .join) → Glue.sample.Good) :=
  ⟨inertE_of_fn_id (fun _ => rfl) _ _ _, fun _ => Glue.sample_good⟩

/-- **C04 / C06 / C14 (parameter texts are pasted verbatim) on the translated `Compile`.**  Passing every
    parameter text through any `f`: the interpretation errs iff it erred before, and when it returns SQL both
    results are renderings of ONE chunk list, the raw parameter texts being the only difference. -/
theorem C04_params_verbatim_ir (params : List (Bytes × Bytes)) (f : Bytes → Bytes) (src : Bytes) :
    (CompileIR(some params, src) = .error (.go .err) ↔
      CompileIR(some (params.map fun kv => (kv.1, f kv.2)), src) = .error (.go .err)) ∧
    ∀ sql, CompileIR(some params, src) = .ok sql →
      ∃ cs, sql = Params.renderWith id cs ∧
        CompileIR(some (params.map fun kv => (kv.1, f kv.2)), src) = .ok (Params.renderWith f cs) := by
  obtain ⟨h1, _, h3⟩ := Params.C06_compile_params_verbatim params f src
  refine ⟨?_, fun sql hs => ?_⟩
  · rw [compile_ir_err_iff, compile_ir_err_iff]; exact h1
  · obtain ⟨cs, _, h5, h6⟩ := h3 sql ((compile_ir_ok_iff _ src sql).1 hs)
    exact ⟨cs, h5, (compile_ir_ok_iff _ src _).2 h6⟩

/-- **C04 (contents are data) in one statement**, the first three conjuncts about what the regenerated code
    computes, the last about the loop `scanIR` around the regenerated switch: the two quoting functions decode,
    contents never change the structure of what `writeExpression` emits, a number token is read back by SQL
    with the value of its source spelling. -/
theorem C04_on_translated_code :
    -- quoting decodes
    (∀ v : Bytes, ∃ cs, WriteIR.interpQuote "quoteSQLString" "s" v = .ok cs ∧
      ∀ rest : Bytes, rest.head? ≠ some 39 →
        lexQuoted .standard 39 ((renderChunks cs).tail ++ rest) = some (v, rest)) ∧
    (∀ v : Bytes, ∃ cs, WriteIR.interpQuote "quoteIdentifier" "name" v = .ok cs ∧
      ∀ rest : Bytes, rest.head? ≠ some 34 →
        lexQuoted .standard 34 ((renderChunks cs).tail ++ rest) = some (v, rest)) ∧
    -- contents never change the structure of what the expression writer emits
    (∀ (φ : CMap) (src src' : Bytes) (s : Scope) (m : Mode) (e : Expr), inertE s m φ e = true → (m = .join → e.Good) →
      ExprIR.interpWriteExpression ⟨src', C04.mapScope φ s, m⟩ (mapE φ e) =
        (ExprIR.interpWriteExpression ⟨src, s, m⟩ e).map (List.map (Chunk.mapC φ))) ∧
    -- numbers
    (∀ (src : Bytes) (ts : List Token), scanIR src = some ts → ∀ t ∈ ts, t.kind = .number →
      Sql.lex .standard t.value = some [.num t.value] ∧
      ∃ q : Rat, Glue.sqlNumValue t.value = some q ∧ C09.spellingValue (src.extract t.start t.stop) = some q) :=
  ⟨fun v => (C04_decode_ir v).1, fun v => (C04_decode_ir v).2, C04_content_parametric_ir,
   fun src ts h t ht hk => C04_number_token_roundtrip_ir src ts h t ht hk⟩

/-- **C05 (the output is one statement; no comment, nothing unterminated) on the translated `Parse` and
    `Compile`.**  For every source that the interpretation of `Parse` reads without error as a K4-free
    program (any number of lets, a query) and the interpretation of `Compile` turns into `sql`: the SQL lexer
    that KEEPS comments reads `sql` completely, no token is a comment, the last token is the symbol `;` and
    no other token is.  (`k4Free` is needed: `ParsedOK.k4Free_needed`.) -/
theorem C05_single_statement_ir (src sql : Bytes) (stmts : List Stmt)
    (hp : ParseIR(src) = .ok (stmts, [])) (hc : CompileIR(none, src) = .ok sql) (hk : k4Free stmts = true) :
    ∃ pre, lexRaw .standard sql = some (pre ++ [STok.sym ";"]) ∧
      Sql.lex .standard sql = some (pre ++ [STok.sym ";"]) ∧
      STok.sym ";" ∉ pre ∧ STok.comment ∉ pre := by
  have hp' := (parse_ir_iff src _).1 hp
  have hc' := (compile_ir_ok_iff none src sql).1 hc
  have hlex := parsed_lexOK_k4 src stmts hp' hk
  obtain ⟨cs, hcs, rfl⟩ := compile_ok_chunks (params := []) src sql stmts hp' hc'
  obtain ⟨pre, h1, h2⟩ := C05.C05_single_semicolon_program src stmts cs hlex hcs
  have hk' : k4Free (parse src).1 = true := by rw [hp']; exact hk
  obtain ⟨cs', hcs', _, h3, h4⟩ := WriteInv.C05_no_comment_source_k4 src _ hk' hc'
  rw [hp', hcs] at hcs'
  cases hcs'
  refine ⟨pre, by rw [h3, h1], by rw [C05.C05_lexRender_program src stmts cs hlex hcs, h1], h2, fun hm => h4 ?_⟩
  rw [h1]
  exact List.mem_append_left _ hm

/-- **C05 (no internal placeholder) on the translated `Compile`.**  For EVERY source and EVERY options
    value: if the interpretation returns SQL, that SQL is the rendering of the chunk list of the program,
    none of whose fixed texts contains `/*` (no `NULL /* unhandled … */`, no
    `SELECT NULL /* unsupported operator */`). -/
theorem C05_no_placeholder_ir (opts : Option (List (Bytes × Bytes))) (src sql : Bytes)
    (h : CompileIR(opts, src) = .ok sql) :
    ∃ cs, compileChunks src (opts.getD []) (parse src).1 = .ok cs ∧ sql = renderChunks cs ∧
      WriteInv.hasPlaceholder cs = false :=
  WriteInv.C05_no_placeholder_source (opts.getD []) src sql ((compile_ir_ok_iff opts src sql).1 h)

/-- **C05 / C13 (a result ends in one `;`) on the translated `Compile`**: every options value -/
theorem C05_ends_with_semicolon_ir (opts : Option (List (Bytes × Bytes))) (src sql : Bytes)
    (h : CompileIR(opts, src) = .ok sql) : sql ≠ [] ∧ sql.getLast? = some 59 :=
  C13.C13_either (opts.getD []) src sql ((compile_ir_ok_iff opts src sql).1 h)

/-- **C05 on translated code.**  For a K4-free single query that the interpretations of `Parse` and
    `Compile` accept: the text lexes (comments kept) without comment and with exactly one `;`, the last token;
    the reference SQL parser reads it as the INTENDED statement `[WITH name AS (select), …] select` (up to
    `normS`); no placeholder; non-empty and ending in `;`. -/
theorem C05_on_translated_code (src sql : Bytes) (t : Tabular)
    (hp : ParseIR(src) = .ok ([.tabular t], [])) (hc : CompileIR(none, src) = .ok sql)
    (hk : k4Free [.tabular t] = true) :
    (∃ pre, lexRaw .standard sql = some (pre ++ [STok.sym ";"]) ∧ STok.sym ";" ∉ pre ∧ STok.comment ∉ pre) ∧
    (∃ cs st want, sql = renderChunks cs ∧ Sql.lex .standard sql = some (toksOf cs) ∧
      parseStatement (toksOf cs) = some st ∧ intended src [.tabular t] = some want ∧ statementEq st want = true ∧
      WriteInv.hasPlaceholder cs = false) ∧
    sql ≠ [] ∧ sql.getLast? = some 59 := by
  have hp' := (parse_ir_iff src _).1 hp
  have hc' := (compile_ir_ok_iff none src sql).1 hc
  obtain ⟨pre, h1, _, h3, h4⟩ := C05_single_statement_ir src sql _ hp hc hk
  refine ⟨⟨pre, h1, h3, h4⟩, ?_, C05_ends_with_semicolon_ir none src sql hc⟩
  obtain ⟨cs, hcs, hsql⟩ := compile_ok_chunks (params := []) src sql _ hp' hc'
  have hok := parsed_tabularOK src sql _ hp' hc' hk t (by simp)
  obtain ⟨st, want, h5, h6, h7⟩ := C05.C05_parse_statement src t cs hok hcs
  obtain ⟨cs', hcs', _, h8⟩ := WriteInv.C05_no_placeholder_source [] src sql hc'
  rw [hp', hcs] at hcs'
  cases hcs'
  refine ⟨cs, st, want, hsql, ?_, h5, h6, h7, h8⟩
  rw [hsql]
  exact C05.C05_lexRender_program src _ cs (parsed_lexOK_k4 src _ hp' hk) hcs

/-- non-vacuity: `T | where a > 10 | sort by a desc | take 2` parses, compiles and is K4-free -/
theorem C05_on_translated_code_nonvacuous : E2EFinal.bytesHyps E2EFinal.Ex.exWhere = true :=
  E2EFinal.Ex.ex_hyps.1

/-- **C06 (a bound name is its value; quoted names are never substituted) on the translated
    `writeExpression`**, every context -/
theorem C06_lookup_ir (ctx : Ctx) (name : Bytes) (sp : Span) :
    (∀ v, lookupScope ctx.scope name = some v →
      ExprIR.interpWriteExpression ctx (.qident [⟨name, sp, false⟩]) = .ok v) ∧
    (ctx.mode ≠ .let_ → ExprIR.interpWriteExpression ctx (.qident [⟨name, sp, true⟩]) = .ok [.qid name]) := by
  constructor
  · intro v h
    rw [ExprIR.C01_writeExpression_ir ctx _ (fun _ => by simp [Expr.Good]), C06.C06_bound_substituted ctx name sp v h]
    rfl
  · intro h
    rw [ExprIR.C01_writeExpression_ir ctx _ (fun _ => by simp [Expr.Good]), C06.C06_quoted_not_substituted ctx name sp h]
    rfl

/-- compile with the TRANSLATED `Compile` and the parameters, read the text back, give the placeholders
    their values, evaluate -/
def runParamsIR (src : Bytes) (params : List (Bytes × Bytes)) (ρ : Bytes → E2EMore.PVal) (db : DB) : Option Table :=
  match CompileIR(some params, src) with
  | .ok sql => (readSql sql).map fun st => evalStatement db (E2EMore.instStatement ρ st)
  | .error _ => none

theorem runParamsIR_eq : runParamsIR = E2EMore.runParams := by
  funext src params ρ db
  unfold runParamsIR E2EMore.runParams
  rw [ExprIR.C06_compile_ir]
  show (match ExprIR.resultM (compile params src) with | .ok sql => _ | .error _ => _) = _
  cases compile params src <;> rfl

/-- **C06 (parameters are let-bound constants, end to end) on the translated `Parse` and `Compile`.**
    `params` binds names to placeholder texts (`$1`, `{kk:Int32}`, `?`), `ρ` gives every placeholder its
    value.  Under the decidable hypotheses `E2EMore.phHyps` (one Boolean; the side conditions of the
    end-to-end theorem for the program with `let p = value` in front): compiling with the interpretation,
    reading the text back, instantiating the placeholders and evaluating is the meaning
    (`Rel.interpProgram`) of `let p = ρ text; …` followed by the statements the interpretation of `Parse`
    returns. -/
theorem C06_placeholder_params_ir (src : Bytes) (params : List (Bytes × Bytes)) (ρ : Bytes → E2EMore.PVal)
    (h : E2EMore.phHyps src params ρ = true) :
    ∃ stmts, ParseIR(src) = .ok (stmts, []) ∧
      ∀ db, RectDB db → (runParamsIR src params ρ db).isSome = true ∧
        runParamsIR src params ρ db = Rel.interpProgram src db (E2EMore.pletsOf ρ params ++ stmts) := by
  have hp : (parse src).2 = [] := by
    simp only [E2EMore.phHyps, Bool.and_eq_true] at h
    have hb := h.2
    unfold E2EMore.phBase at hb
    split at hb
    · rename_i stmts sql hp _; rw [hp]
    · cases hb
  refine ⟨(parse src).1, ?_, ?_⟩
  · rw [OpIR.C07_Parse_ir, ← hp]
  · rw [runParamsIR_eq]
    exact E2EMore.C06_placeholder_params_run src params ρ h

/-- non-vacuity: `let m = lim; T | where a >= m and k != kk | project k, a, nm | take 2` with
    `lim ↦ $1`, `kk ↦ {kk:Int32}`, `nm ↦ ?` satisfies the hypotheses -/
theorem C06_placeholder_params_ir_nonvacuous :
    E2EMore.phHyps E2EMore.PhEx.exSrc E2EMore.PhEx.exParams E2EMore.PhEx.exRho = true :=
  E2EMore.PhEx.ex_hyps

/-- **C06 on translated code.**  (a) lets: the end-to-end theorem for programs with `let` statements — the
    SQL the interpretation of `Compile` returns means the query with the lets RESOLVED
    (`substTabular (letsEnv lets [])`: later lets shadow earlier ones, a let value sees the lets before it),
    which is `Rel.interpProgram` of the program; (b) names: a bound name is its value, a quoted name is never
    substituted; (c) parameters are pasted verbatim. -/
theorem C06_on_translated_code :
    (∀ (src sql : Bytes) (lets : List Stmt) (t : Tabular),
      ParseIR(src) = .ok (lets ++ [.tabular t], []) → CompileIR(none, src) = .ok sql →
      k4Free (lets ++ [.tabular t]) = true → IsLets lets → envJoinSafe (letsEnv lets []) = true → tabNamed t →
      namesOk (substTabular (letsEnv lets []) t) = true → tabOpsOk (substTabular (letsEnv lets []) t) = true →
      ∃ st, readSql sql = some st ∧ ∀ db, RectDB db →
        evalStatement db st = Rel.interp src db (substTabular (letsEnv lets []) t) ∧
        Rel.interpProgram src db (lets ++ [.tabular t]) =
          some (Rel.interp src db (substTabular (letsEnv lets []) t))) ∧
    (∀ (ctx : Ctx) (name : Bytes) (sp : Span) (v : List Chunk), lookupScope ctx.scope name = some v →
      ExprIR.interpWriteExpression ctx (.qident [⟨name, sp, false⟩]) = .ok v) ∧
    (∀ (ctx : Ctx) (name : Bytes) (sp : Span), ctx.mode ≠ .let_ →
      ExprIR.interpWriteExpression ctx (.qident [⟨name, sp, true⟩]) = .ok [.qid name]) ∧
    (∀ (params : List (Bytes × Bytes)) (f : Bytes → Bytes) (src sql : Bytes),
      CompileIR(some params, src) = .ok sql →
      ∃ cs, sql = Params.renderWith id cs ∧
        CompileIR(some (params.map fun kv => (kv.1, f kv.2)), src) = .ok (Params.renderWith f cs)) := by
  refine ⟨?_, fun ctx name sp v h => (C06_lookup_ir ctx name sp).1 v h, fun ctx name sp h => (C06_lookup_ir ctx name sp).2 h,
    fun params f src sql h => (C04_params_verbatim_ir params f src).2 sql h⟩
  intro src sql lets t hp hc hk hl hjs hN hnames hops
  obtain ⟨st, _, h1, _, _, _, h2⟩ := C02_end_to_end_program_bytes_ir src sql lets t hp hc hk hl hjs hN hnames hops
  exact ⟨st, h1, fun db hdb => ⟨(h2 db hdb).1, (h2 db hdb).2.2⟩⟩

end Pql.IRHead
