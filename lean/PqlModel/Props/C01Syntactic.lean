/-
Property C01, syntactic half ("ParseRoundtrip"): the SQL expression the writer emits, read with
the SQL dialect's own operator precedence, applies the same operators to the same operands in
the same order.

`C01_parse_roundtrip_partial`: for every expression tree `e` with `shapeOK e` (`Lemmas/SqlRoundtripCases`;
what it excludes is listed below), if the
writer succeeds with chunks `cs` and the intended translation is `want`, then the independent SQL
reader `Sql.pExprS`, run at minimum precedence 0 on the tokens of `cs` followed by any `rest` that
cannot continue an expression, returns a tree `s` with `normS s = normS want` and leaves exactly
`rest` — for all sufficiently large fuel.

Shape chosen: the parsed tree is returned existentially and compared up to `normS`, because the
writer emits `LOWER(`/`UPPER(` where the translation says `lower`/`upper`, and passes unknown
function names through verbatim where the translation lower-cases them; `normS` is exactly the
comparison the oracle uses (`c01-where-expression-differs`).

The unrestricted statement is FALSE.  `shapeOK` excludes exactly:
* a pass-through function whose name, upper-cased, is an operator word of the SQL expression
  grammar (`NOT AND OR IN IS CASE WHEN THEN ELSE END AS`): PQL function names are case-sensitive,
  so `Not(x)`, `Case(x)`, `is(x)` … are not built-ins, are emitted verbatim and bare, and SQL
  reads `Not(a) + 1` as `NOT ((a) + 1)` (`C01_counterexample_Not` below: producible from source
  text) — a precedence/keyword-capture defect of the writer;
* degenerate trees the PQL parser never produces without an error: an identifier with no parts
  (nothing is emitted) and `x in ()` (emitted as `x IN ()`, which SQL rejects).
-/
import PqlModel.Lemmas.ScopeRTAll
import PqlModel.Lemmas.ParseStmtFuel
namespace Pql.C01
open Pql Sql CompileOracle Pql.RT

theorem good_all (ctx : Ctx) (hscope : ctx.scope = []) :
    ∀ e : Expr, shapeOK e = true → e.lexOK = true → Good ctx e :=
  fun e hs hl => goodS_nil.mp (goodS_all ctx [] (hscope ▸ scopeRT_nil _) (joinOK_nil ctx) e hs hl)

theorem good_list (ctx : Ctx) (hscope : ctx.scope = []) :
    ∀ es : ExprList, shapeOKList es = true → es.lexOK = true → ∀ e ∈ es.toList, Good ctx e :=
  fun es hs hl e he => goodS_nil.mp (goodS_list ctx [] (hscope ▸ scopeRT_nil _) (joinOK_nil ctx) es hs hl e he)

/-- `rest` is empty or starts with a token that cannot continue an expression: not an infix
    operator, `IS`, `IN`, `[`, `.`, `(` or `FILTER` -/
def Stops (rest : List STok) : Prop := Ends stopTok rest

theorem Stops.nil : Stops [] := trivial

theorem Stops.sym {s : String} (h : s ∈ [")", "]", ",", ";"]) (tl : List STok) : Stops (.sym s :: tl) := by
  simp only [List.mem_cons, List.not_mem_nil, or_false] at h
  rcases h with rfl | rfl | rfl | rfl
  · exact (by decide : stopTok (S ")") = true)
  · exact (by decide : stopTok (S "]") = true)
  · exact (by decide : stopTok (S ",") = true)
  · exact (by decide : stopTok (S ";") = true)

/-- any word that is not `AND OR IS IN FILTER`, in any letter case — in particular the clause
    words `AS FROM WHERE GROUP ORDER LIMIT ASC DESC THEN ELSE END ON NULLS JOIN LEFT` -/
theorem Stops.word {w : Bytes} (h : upper w ∉ ["AND", "OR", "IS", "IN", "FILTER"]) (tl : List STok) :
    Stops (.word w :: tl) := by
  simp only [List.mem_cons, List.not_mem_nil, or_false, not_or] at h
  obtain ⟨h1, h2, h3, h4, h5⟩ := h
  simp [Stops, Ends, stopTok, unaryEndTok, atomEndTok, infixPrec, h1, h2, h3, h4, h5]

def clauseWords : List String :=
  ["AS", "FROM", "WHERE", "GROUP", "ORDER", "LIMIT", "ASC", "DESC", "THEN", "ELSE", "END", "ON", "NULLS", "JOIN",
   "LEFT", "BY", "WHEN", "SELECT", "WITH"]

theorem Stops.clauseWord {w : Bytes} (h : upper w ∈ clauseWords) (tl : List STok) : Stops (.word w :: tl) := by
  apply Stops.word
  intro hc
  have : ∀ u ∈ clauseWords, u ∉ ["AND", "OR", "IS", "IN", "FILTER"] := by decide
  exact this _ h hc

/-- by fuel monotonicity, a judgement decides the result at every fuel at which the reader returns -/
theorem _root_.Pql.RT.PE.at_fuel {m : Nat} {ts r' : List STok} {s' : SExpr} (h : PE m ts s' r') {fuel : Nat}
    {s : SExpr} {r : List STok} (hp : Sql.pExprS fuel m ts = some (s, r)) : s = s' ∧ r = r' := by
  obtain ⟨N, hN⟩ := h
  have h2 := hN (max fuel N) (Nat.le_max_right fuel N)
  rw [pExprS_mono (Nat.le_max_left fuel N) hp] at h2
  simpa using h2

/-- **C01 (ParseRoundtrip).** -/
theorem C01_parse_roundtrip_partial (ctx : Ctx) (e : Expr) (cs : List Chunk) (want : SExpr) (rest : List STok)
    (hscope : ctx.scope = [])
    (hok : e.lexOK = true)
    (hshape : shapeOK e = true)
    (hw : writeExpr ctx e = .ok cs)
    (ht : CompileOracle.tr (ctx.mode == .join) e = some want)
    (hrest : Stops rest) :
    ∃ s, normS s = normS want ∧
      ∃ fuel, ∀ fuel', fuel ≤ fuel' → Sql.pExprS fuel' 0 (toksOf cs ++ rest) = some (s, rest) :=
  (good_all ctx hscope e hshape hok).expr hw ht rest hrest

theorem C01_parse_roundtrip_whole (ctx : Ctx) (e : Expr) (cs : List Chunk) (want : SExpr)
    (hscope : ctx.scope = []) (hok : e.lexOK = true) (hshape : shapeOK e = true)
    (hw : writeExpr ctx e = .ok cs) (ht : CompileOracle.tr (ctx.mode == .join) e = some want) :
    ∃ s, normS s = normS want ∧ ∃ fuel, ∀ fuel', fuel ≤ fuel' → Sql.pExprS fuel' 0 (toksOf cs) = some (s, []) := by
  simpa using C01_parse_roundtrip_partial ctx e cs want [] hscope hok hshape hw ht Stops.nil

/-- With fuel monotonicity: at *every* fuel at which the SQL reader returns at all on the emitted
    tokens (in particular the fuel `fuelOf` the statement parser uses), it returns the intended
    translation and stops exactly at `rest`. -/
theorem C01_parse_roundtrip_anyfuel (ctx : Ctx) (e : Expr) (cs : List Chunk) (want : SExpr) (rest : List STok)
    (hscope : ctx.scope = []) (hok : e.lexOK = true) (hshape : shapeOK e = true)
    (hw : writeExpr ctx e = .ok cs) (ht : CompileOracle.tr (ctx.mode == .join) e = some want)
    (hrest : Stops rest) (fuel : Nat) (s : SExpr) (r : List STok)
    (hp : Sql.pExprS fuel 0 (toksOf cs ++ rest) = some (s, r)) : normS s = normS want ∧ r = rest := by
  obtain ⟨s', hs', hpe⟩ := C01_parse_roundtrip_partial ctx e cs want rest hscope hok hshape hw ht hrest
  obtain ⟨rfl, rfl⟩ := PE.at_fuel hpe hp
  exact ⟨hs', rfl⟩

/-- **C01 (operands are units).** An operand written by `writeExpressionMaybeParen` is read by the
    SQL reader's *unary* level as one operand, whatever operator follows: nothing of the
    precedence table is involved. -/
theorem C01_operand_is_unit (ctx : Ctx) (x : Expr) (body : List Chunk) (want : SExpr) (rest : List STok)
    (hscope : ctx.scope = []) (hok : x.lexOK = true) (hshape : shapeOK x = true)
    (hw : writeExpr ctx x = .ok body) (ht : CompileOracle.tr (ctx.mode == .join) x = some want)
    (hrest : Ends unaryEndTok rest) :
    ∃ s, normS s = normS want ∧
      ∃ fuel, ∀ fuel', fuel ≤ fuel' → Sql.pUnaryS fuel' (toksOf (wrapMaybe x body) ++ rest) = some (s, rest) :=
  (good_all ctx hscope x hshape hok).unit hw ht rest hrest

/-- `Not(a) + 1` as the PQL parser builds it (`Not` is not the built-in `not`: names are
    case-sensitive) -/
def cexExpr : Expr :=
  .binary (.call ⟨Bytes.ofString "Not", .zero, false⟩ .zero (.cons (.qident [⟨Bytes.ofString "a", .zero, false⟩]) .nil) .zero)
    .zero .plus (.lit .zero .number (Bytes.ofString "1"))

def cexCtx : Ctx := ⟨[], [], .default⟩

/-- what the writer emits: `Not("a") + 1` -/
def cexChunks : List Chunk :=
  [.fname (Bytes.ofString "Not"), .txt "(", .qid (Bytes.ofString "a"), .txt ")", .txt " ", .txt "+", .txt " ",
   .num (Bytes.ofString "1")]

/-- what it should mean: `not("a") + 1`, a call of the pass-through function -/
def cexWant : SExpr :=
  .bin "+" (.call (Bytes.ofString "not") false (.cons (.col [Bytes.ofString "a"]) .nil) .none_) (.num (Bytes.ofString "1"))

theorem cex_lexOK : cexExpr.lexOK = true := by decide
theorem cex_write : writeExpr cexCtx cexExpr = .ok cexChunks := by rfl
theorem cex_tr : CompileOracle.tr (cexCtx.mode == .join) cexExpr = some cexWant := by rfl

/-- how SQL reads it: `NOT (("a") + 1)` -/
theorem cex_read : PE 0 (toksOf cexChunks) (.not_ (.bin "+" (.col [Bytes.ofString "a"]) (.num (Bytes.ofString "1")))) [] := by
  have h1 : PE 7 [STok.num (Bytes.ofString "1")] (.num (Bytes.ofString "1")) [] :=
    E_unary (U_atom A_num (P_stop trivial)) (T_stop trivial)
  have e1 : atomEndTok (S ")") = true := by decide
  have e2 : unaryEndTok (S ")") = true := by decide
  have e3 : stopTok (S ")") = true := by decide
  have e4 : unaryEndTok (S "+") = true := by decide
  have ha : PA [STok.qid (Bytes.ofString "a"), S ")", S "+", .num (Bytes.ofString "1")] (.col [Bytes.ofString "a"])
      [S ")", S "+", .num (Bytes.ofString "1")] := A_col (C_stop e1)
  have h2 : PE 0 [STok.qid (Bytes.ofString "a"), S ")", S "+", .num (Bytes.ofString "1")] (.col [Bytes.ofString "a"])
      [S ")", S "+", .num (Bytes.ofString "1")] :=
    E_unary (U_atom ha (P_stop e2)) (T_stop e3)
  have h3 : PE 3 [S "(", STok.qid (Bytes.ofString "a"), S ")", S "+", .num (Bytes.ofString "1")]
      (.bin "+" (.col [Bytes.ofString "a"]) (.num (Bytes.ofString "1"))) [] :=
    E_unary (U_atom (A_paren h2) (P_stop e4))
      (T_bin infix_plus.prec infix_plus.notIs infix_plus.notIn (by omega) h1 (T_stop trivial))
  have hN : upper (Bytes.ofString "Not") = "NOT" := by rw [upper_eq]; decide
  have := E_not_word hN (Nat.zero_le 3) h3 (T_stop trivial)
  simpa [cexChunks] using this

/-- **The unrestricted ParseRoundtrip statement is false**: for `Not(a) + 1` every hypothesis of
    `C01_parse_roundtrip_partial` except `shapeOK` holds, and no fuel makes the SQL reader return
    the intended translation. -/
theorem C01_counterexample_Not :
    cexCtx.scope = [] ∧ cexExpr.lexOK = true ∧ writeExpr cexCtx cexExpr = .ok cexChunks ∧
    CompileOracle.tr (cexCtx.mode == .join) cexExpr = some cexWant ∧ Stops [] ∧
    ¬ ∃ s, normS s = normS cexWant ∧
      ∃ fuel, ∀ fuel', fuel ≤ fuel' → Sql.pExprS fuel' 0 (toksOf cexChunks ++ []) = some (s, []) := by
  refine ⟨rfl, cex_lexOK, cex_write, cex_tr, Stops.nil, ?_⟩
  rintro ⟨s, hs, hp⟩
  rw [List.append_nil] at hp
  obtain ⟨rfl, _⟩ := PE.unique cex_read hp
  simp [normS, cexWant] at hs

end Pql.C01
