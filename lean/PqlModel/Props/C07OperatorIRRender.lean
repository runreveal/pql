/-
Property C07, tie by translation: `(*parser).renderProperty` (the model's `pRenderProp`) and
`(*parser).renderOperator` (`pRender`, with the property loop `pRenderProps`) are the interpretation of
their regenerated bodies (`C07_renderProperty_ir`, `C07_renderOperator_ir`), for every fuel and loop counter.
-/
import PqlModel.Props.C07OperatorIRSummarize
import PqlModel.Props.C07OperatorIRLet
namespace Pql.OpIR
open Pql
set_option linter.unusedSimpArgs false

theorem renderProperty_run (c : PCtx) (fuel : Nat) (ts : List Token) :
    runP toProp "prop" c renderPropertyBody fuel ts =
      .ok ⟨(pRenderProp c fuel ts).val, (pRenderProp c fuel ts).errs, (pRenderProp c fuel ts).rest⟩ := by
  unfold pRenderProp runP
  ir_simp [renderPropertyBody, toProp]
  have hi := pIdent_spec c ts
  generalize pIdent c ts = ri at hi ⊢
  obtain ⟨val, errs, rest⟩ := ri
  rcases hi with ⟨hv, he⟩ | ⟨i, hv, he⟩ <;> simp only at hv he <;> subst hv
  · simp [he]
  subst he
  rcases rest with _ | ⟨a, rest2⟩ <;> simp [eofTok, PCtx.eof, Span.index, Token.span]
  by_cases ha : a.kind = .assign <;> simp [ha]
  by_cases he : (pExpr c fuel rest2).errs = [] <;> simp [he]

theorem C07_renderProperty_ir (c : PCtx) (fuel : Nat) (ts : List Token) :
    runP toProp "prop" c (bodyOf "renderProperty") fuel ts = .ok (pRenderProp c fuel ts) := by
  simp only [bodyOf, renderProperty_ir, Option.map_some, Option.getD_some, renderProperty_run]

def propVals (acc : List RenderProp) : List Val := acc.map fun x => .prop (some x)

theorem toProps_vals : ∀ acc : List RenderProp, toProps (propVals acc) = some acc
  | [] => rfl
  | x :: r => by
    have := toProps_vals r
    simp only [propVals] at this
    simp [propVals, toProps, this]

theorem propVals_snoc (acc : List RenderProp) (x : RenderProp) : propVals acc ++ [.prop (some x)] = propVals (acc ++ [x]) := by
  simp [propVals]

def renderSt (pipe kws : Span) (kw pt : Token) (chart : Ident) (w lp : Span) (tk : Token) (acc : List RenderProp)
    (ts : List Token) (u : Option (List Token)) : St :=
  ⟨[("ok", .bool true), ("tok", .tok tk), ("err", .errs []), ("chartType", .ident (some chart)), ("op", .ref 0),
    ("keyword", .tok kw), ("pipe", .tok pt), ("p", .parser ts u)],
   [⟨"RenderOperator", [("Pipe", .span pipe), ("Keyword", .span kws), ("ChartType", .ident (some chart)), ("With", .span w),
      ("Lparen", .span lp), ("Props", .list (propVals acc)), ("Rparen", .span .null)]⟩]⟩

/-- what follows the property loop (statement 11 of `renderOperatorBody`): the final `return op, nil` -/
def renderK (c : PCtx) (fuel : Nat) (r : Flow × St) : M (Flow × St) :=
  match r.1 with
  | .next => execBlock (envAt c) (renderOperatorBody.drop 12) fuel r.2
  | _ => pure r

theorem renderK_next (c : PCtx) (fuel : Nat) (st : St) :
    renderK c fuel (.next, st) = execBlock (envAt c) [.ret [.var "op", .nil]] fuel st := rfl
theorem renderK_ret (c : PCtx) (fuel : Nat) (vs : List Val) (st : St) : renderK c fuel (.ret vs, st) = .ok (.ret vs, st) := rfl
theorem renderK_fuel (c : PCtx) (fuel : Nat) (st : St) : renderK c fuel (.fuel, st) = .ok (.fuel, st) := rfl

theorem render_loop (c : PCtx) (fuel : Nat) (pipe kws : Span) (kw pt : Token) (chart : Ident) (w lp : Span) :
    ∀ (n : Nat) (tk : Token) (acc : List RenderProp) (ts : List Token) (u : Option (List Token)),
      result toOp "op" none
          (runLoop false (execBlock (envAt c) (loopAt renderOperatorBody 11)) n fuel
              (renderSt pipe kws kw pt chart w lp tk acc ts u) >>= renderK c fuel) =
        .ok ⟨.render pipe kws (some chart) w lp (pRenderProps c fuel n acc ts).val.1 (pRenderProps c fuel n acc ts).val.2,
          (pRenderProps c fuel n acc ts).errs, (pRenderProps c fuel n acc ts).rest⟩
  | 0, tk, acc, ts, u => by
    simp [runLoop, result_fuel, renderK_fuel, renderSt, pRenderProps, St.parser, St.get, toOp, recToOp, listOf, toProps_vals, optM, toIdent,
      bind, Except.bind, pure, Except.pure]
  | n + 1, tk, acc, ts, u => by
    have ih := render_loop c fuel pipe kws kw pt chart w lp n
    generalize hb : execBlock (envAt c) (loopAt renderOperatorBody 11) = body at ih ⊢
    rw [runLoop_succ (fun r => result toOp "op" none (r >>= renderK c fuel)) fun _ => rfl, congrFun (congrFun hb.symm fuel)]
    simp only [loopAt, renderOperatorBody, List.getElem?_cons_succ, List.getElem?_cons_zero, renderSt] at ih ⊢
    unfold pRenderProps
    ir_simp [propVals_snoc, toProps_vals, renderK_ret, renderK_next, renderK_fuel]
    simp only [bind, Except.bind] at ih
    generalize pRenderProp c fuel ts = r
    obtain ⟨val, errs, rest⟩ := r
    rcases rest with _ | ⟨t, rest⟩ <;> cases errs <;> cases val <;>
      simp [ih, propVals_snoc, toProps_vals, eofTok, PCtx.eof, Span.index, Token.span]
    all_goals by_cases hk : t.kind = .rparen <;> by_cases hc : t.kind = .comma <;> simp [hk, hc, ih, propVals_snoc, toProps_vals]

theorem renderOperator_run (c : PCtx) (fuel : Nat) (pipe kw : Token) (ts : List Token) :
    runOp c renderOperatorBody fuel pipe kw ts = .ok (pRender c fuel pipe.span kw.span ts) := by
  unfold pRender
  ir_simp [renderOperatorBody, toProps]
  have hi := pIdent_spec c ts
  generalize pIdent c ts = ri at hi ⊢
  obtain ⟨val, errs, rest⟩ := ri
  rcases hi with ⟨hv, he⟩ | ⟨i, hv, he⟩ <;> simp only at hv he <;> subst hv
  · simp [he]
  subst he
  rcases rest with _ | ⟨t, _ | ⟨lp, rest2⟩⟩
  · simp
  · by_cases hk : t.kind = .ident <;> by_cases hw : t.value = Bytes.ofString "with" <;>
      simp [hk, hw, isIdentNamed, eofTok, PCtx.eof, Span.index, Token.span]
  · by_cases hk : t.kind = .ident <;> by_cases hw : t.value = Bytes.ofString "with" <;> simp [hk, hw, isIdentNamed]
    by_cases hl : lp.kind = .lparen <;> simp [hl]
    exact render_loop c fuel pipe.span kw.span kw pipe i t.span lp.span (rest2.length + 1) lp [] rest2 (some (lp :: rest2))

theorem C07_renderOperator_ir (c : PCtx) (fuel : Nat) (pipe kw : Token) (ts : List Token) :
    (runOp c (bodyOf "renderOperator") fuel pipe kw ts).map some =
      .ok (pOperator c (fuel + 1) pipe.span (kwTok "render" kw) ts) := by
  simp only [bodyOf, renderOperator_ir, Option.map_some, Option.getD_some, renderOperator_run,
    pOperator_render c fuel _ (kwTok "render" kw) ts rfl]
  rfl

end Pql.OpIR
