/-
Property C16, tie by translation: `(*multiReadCloser).Read` and `(*multiReadCloser).Close` of cmd/pql/main.go.

`harness/extract_cliio.go` regenerates the bodies as an IR (`Facts.cliIOIR`), `Model/CliIOIR.lean` interprets it on a
heap of reader OBJECTS (a reader is the script of the results of its `Read` calls, as in the hand-written model
Lemmas/CliIOModel.lean), Props/C16IOIRTrees.lean holds the expected decoded trees.  Two steps:

  A  `read_run`, `close_run`: the interpretation of the regenerated body equals a function on lists of reader
     VALUES (`mrRead`, `mrClose`: handles into the heap) — for every heap, every list (nil entries and dangling
     handles included: Go panics / the interpreter is stuck exactly where the function says), every loop fuel above
     the number of readers;
  B  `mrRead_of_inv`, `mrClose_spec`: under a reading of heap + reader values as scripts `rs` that the primitive steps of
     `Read` respect (`ReadInv`; `inv_denote`: plain heap lookup, no nil entry, no dangling handle, no object twice), that
     function returns what the hand-written `CliIO.multiRead rs` returns and leaves values that read as what `multiRead`
     leaves — so the statement applies again to the next `Read`.
-/
import PqlModel.Props.C16IOIRTrees
import PqlModel.Lemmas.CliIOMulti
namespace Pql.CliIOIR
open Pql Pql.CliIO
set_option linter.unusedSimpArgs false

def isPanic {α : Type} : M α → Bool
  | .error .panic => true
  | _ => false

def State.world (st : State) : List Reader × List (Option RC) × List Nat × List String × Bytes :=
  (st.objs, st.readers, st.closed, st.created, st.data)

/-- `(*multiReadCloser).Read` as a function on the list of reader VALUES `mrc.readers` and the heap of reader
    objects: the loop of the Go function, one reader per step -/
def mrRead : List (Option RC) → State → M ((Int × GoErr) × State)
  | [], st => .ok ((0, .eof), { st with readers := [] })
  | none :: _, _ => goPanic
  | some rc :: rest, st =>
    match st.objs[rc.h]? with
    | none => stuck
    | some r =>
      let res := (Reader.read r).1
      let objs := st.objs.set rc.h (Reader.read r).2
      if res.2 = .eof then
        let closed := if rc.nop then st.closed else st.closed ++ [rc.h]
        if res.1.length > 0 then
          .ok ((res.1.length, if rest.length > 0 then .nil else .eof),
            { st with objs := objs, data := res.1, closed := closed, readers := rest })
        else mrRead rest { st with objs := objs, data := res.1, closed := closed, readers := rest }
      else .ok ((res.1.length, GoErr.ofStatus res.2), { st with objs := objs, data := res.1, readers := some rc :: rest })

def readSt (n : Int) (e : GoErr) (w : State) : State :=
  ⟨[("err", .err e), ("n", .int n), ("p", .buf), ("mrc", .mrcRef)], w.objs, w.readers, w.closed, w.created, w.data⟩

def finishRead (r : M (Flow × State)) : M (List Val × (List Reader × List (Option RC) × List Nat × List String × Bytes)) := do
  let (f, st) ← r
  match f with
  | .ret vs => pure (vs, st.world)
  | .next => pure ([.int 0, .err .eof], st.world)
  | .cont => stuck

def readLoopBody : List Stmt :=
  match readBody with
  | [.while_ _ b, _] => b
  | _ => []

def readLoopCond : Cond :=
  match readBody with
  | [.while_ c _, _] => c
  | _ => .eq .nil .nil

macro "io_simp" : tactic =>
  `(tactic| simp (config := { decide := true }) [*, execBlock, exec, eval, evalCond, evalAll, getAll, assignTo, State.get, State.declare, State.assign,
      State.leave, assignIn, asRC, asRCs, valEq, readObj, closeObj, openPath, createPath, elemsOf, typeMatches, stuck, goPanic, nilLike,
      nilAs,
      bind, Except.bind, pure, Except.pure, Except.map, GoErr.ofStatus, State.world])

section
attribute [local simp] exec execBlock eval evalCond assignTo State.get State.assign State.leave assignIn asRC asRCs valEq nilLike
  readObj closeObj getAll goPanic stuck bind Except.bind pure Except.pure Except.map

theorem read_cond (n : Int) (e : GoErr) (w : State) :
    evalCond (readSt n e w) readLoopCond = .ok (decide (0 < w.readers.length)) := by
  simp (config := { decide := true }) [readLoopCond, readBody, readSt]

theorem read_stmt (env : Env) (fuel : Nat) (n : Int) (e : GoErr) (w : State) (rest : List (Option RC)) :
    ∀ x : Option RC, w.readers = x :: rest →
    exec env ["n", "err"] fuel (.read (.set "n") (.set "err") "p" (.idx 0 (.fld "readers" (.var "mrc")))) (readSt n e w) =
      (readObj w x).map fun r => (.next, readSt r.1.1.length (GoErr.ofStatus r.1.2) r.2)
  | none, hl => by simp (config := { decide := true }) [*, readSt]
  | some ⟨h, nop⟩, hl => by cases ho : w.objs[h]? <;> simp (config := { decide := true }) [*, readSt]

theorem read_drop (env : Env) (fuel : Nat) (n : Int) (w : State) (rest : List (Option RC)) :
    ∀ x : Option RC, w.readers = x :: rest →
    exec env ["n", "err"] fuel (.ite (.eq (.var "err") .eof)
        [.close .blank (.idx 0 (.fld "readers" (.var "mrc"))), .setElem "mrc" "readers" 0 .nil,
         .assign (.fset "mrc" "readers") (.from 1 (.fld "readers" (.var "mrc")))] []) (readSt n .eof w) =
      (closeObj env w x).map fun r => (.next, readSt n .eof { r.2 with readers := rest })
  | none, hl | some ⟨h, true⟩, hl | some ⟨h, false⟩, hl => by simp (config := { decide := true }) [*, readSt]

theorem read_keep (env : Env) (fuel : Nat) (n : Int) (e : GoErr) (w : State) (t : List Stmt) (he : e ≠ .eof) :
    exec env ["n", "err"] fuel (.ite (.eq (.var "err") .eof) t []) (readSt n e w) = .ok (.next, readSt n e w) := by
  simp (config := { decide := true }) [*, readSt]

theorem read_return (env : Env) (fuel : Nat) (n : Int) (e : GoErr) (w : State) :
    exec env ["n", "err"] fuel (.ite (.or (.gt (.var "n") (.int 0)) (.ne (.var "err") .eof))
        [.ite (.and (.eq (.var "err") .eof) (.gt (.len (.fld "readers" (.var "mrc"))) (.int 0))) [.assign (.set "err") .nil] [],
         .ret []] []) (readSt n e w) =
      .ok (if 0 < n ∨ e ≠ .eof then
          (.ret [.int n, .err (if e = .eof ∧ 0 < w.readers.length then .nil else e)],
            readSt n (if e = .eof ∧ 0 < w.readers.length then .nil else e) w)
        else (.next, readSt n e w)) := by
  by_cases he : e = .eof
  · by_cases hn : 0 < n
    · by_cases hr : 0 < w.readers.length
      · simp (config := { decide := true }) [*, readSt]
      · simp (config := { decide := true }) [*, readSt]
    · simp (config := { decide := true }) [*, readSt]
  · simp (config := { decide := true }) [*, readSt]

end

theorem closeObj_some (env : Env) (st : State) (h : Nat) (nop : Bool) :
    closeObj env st (some ⟨h, nop⟩) =
      .ok (if nop then .nil else if env.closeFails h then .other else .nil,
        { st with closed := if nop then st.closed else st.closed ++ [h] }) := by
  cases nop <;> rfl

theorem ofStatus_eof (s : Status) : GoErr.ofStatus s = .eof ↔ s = .eof := by
  cases s <;> simp [GoErr.ofStatus]

theorem read_loop (env : Env) (fuel : Nat) : ∀ (k : Nat) (w : State) (n : Int) (e : GoErr), w.readers.length < k →
      finishRead (loopN (fun s => evalCond s readLoopCond) (execBlock env ["n", "err"] fuel readLoopBody) k (readSt n e w)) =
        (mrRead w.readers w).map fun r => ([.int r.1.1, .err r.1.2], r.2.world)
  | 0, w, n, e, hk => absurd hk (Nat.not_lt_zero _)
  | k + 1, w, n, e, hk => by
    have ih := read_loop env fuel k
    rw [loopN, read_cond]
    generalize loopN (fun s => evalCond s readLoopCond) (execBlock env ["n", "err"] fuel readLoopBody) k = L at ih ⊢
    cases hl : w.readers with
    | nil => simp [finishRead, mrRead, State.world, readSt, hl, Except.map, bind, Except.bind, pure, Except.pure]
    | cons x rest =>
      rw [show readLoopBody = [_, _, _] from rfl]
      simp only [List.length_cons, Nat.zero_lt_succ, decide_true, bind, Except.bind, ↓reduceIte]
      rw [execBlock, read_stmt env fuel n e w rest x hl]
      rcases x with _ | ⟨h, nop⟩
      · rfl
      · rw [readObj, mrRead]
        cases ho : w.objs[h]? with
        | none => rfl
        | some r =>
          rcases hr : Reader.read r with ⟨⟨chunk, s⟩, r'⟩
          simp only [Except.map, bind, Except.bind, hr]
          by_cases hs : s = .eof
          · subst hs
            rw [execBlock, show GoErr.ofStatus .eof = .eof from rfl,
              read_drop env fuel _ { w with objs := w.objs.set h r', data := chunk } rest (some ⟨h, nop⟩) hl, closeObj_some]
            simp only [Except.map, bind, Except.bind]
            rw [execBlock, read_return]
            by_cases hc : 0 < chunk.length
            · simp [hc, finishRead, State.world, readSt, State.leave, bind, Except.bind, pure, Except.pure]
            · have := ih ⟨w.vars, w.objs.set h r', rest, if nop then w.closed else w.closed ++ [h], w.created, chunk⟩
                chunk.length .eof (by simpa [hl] using hk)
              simpa [hc, readSt, State.leave, execBlock, bind, Except.bind, pure, Except.pure, Except.map] using this
          · have hs' := mt (ofStatus_eof _).mp hs
            rw [execBlock, read_keep _ _ _ _ _ _ hs']
            simp only [Except.map, bind, Except.bind]
            rw [execBlock, read_return]
            simp [hs, hs', finishRead, State.world, readSt, State.leave, hl, bind, Except.bind, pure, Except.pure]

theorem read_run (env : Env) (fuel : Nat) (w : State) (hf : w.readers.length < fuel) :
    (runFn env fuel readFn [.mrcRef, .buf] w).map (fun r => (r.1, r.2.world)) =
      (mrRead w.readers w).map fun r => ([.int r.1.1, .err r.1.2], r.2.world) := by
  have h := read_loop env fuel fuel w 0 .nil hf
  obtain ⟨vars, objs, readers, closed, created, data⟩ := w
  simp only [runFn, readFn, bindParams, resultVars, zeroOf, Option.map_some]
  simp (config := { decide := true }) only [List.map, List.filter, List.reverse_cons, List.reverse_nil, List.nil_append, List.cons_append,
    List.append_nil, bne_iff_ne, ne_eq, not_false_eq_true, String.reduceEq, decide_true, ↓reduceIte, String.reduceBNe]
  rw [show readBody = [.while_ readLoopCond readLoopBody, .ret [.int 0, .eof]] from rfl]
  simp only [execBlock, exec, bind, Except.bind]
  simp only [readSt, finishRead, bind, Except.bind] at h
  revert h
  generalize mrRead readers _ = R
  generalize loopN _ _ fuel _ = X
  intro h
  rcases X with e | ⟨f, st⟩
  · cases R <;> simp_all [Except.map]
  · cases f <;> cases R <;>
      simp_all (config := { decide := true }) [Except.map, pure, Except.pure, stuck, eval, evalAll, bind, Except.bind, State.world, nilAs]

/-- the scripts a list of reader values stands for on the heap `objs`, by plain lookup; `none` if an entry is nil or its
    handle dangles -/
def denote (objs : List Reader) : List (Option RC) → Option (List Reader)
  | [] => some []
  | none :: _ => none
  | some rc :: l =>
    match objs[rc.h]?, denote objs l with
    | some r, some rs => some (r :: rs)
    | _, _ => none

/-- the heap objects the non-nil entries point to, in order, an object as often as it occurs -/
def handles : List (Option RC) → List Nat
  | [] => []
  | none :: l => handles l
  | some rc :: l => rc.h :: handles l

/-- … those of the entries that are files, not `nopReadCloser`s: the objects a `Close` of the entries reaches -/
def fileHandles : List (Option RC) → List Nat
  | [] => []
  | some ⟨h, false⟩ :: l => h :: fileHandles l
  | _ :: l => fileHandles l

theorem denote_set (objs : List Reader) (h : Nat) (r : Reader) :
    ∀ l : List (Option RC), h ∉ handles l → denote (objs.set h r) l = denote objs l
  | [], _ => rfl
  | none :: l, _ => rfl
  | some rc :: l, hn => by
    simp only [handles, List.mem_cons, not_or] at hn
    simp only [denote, denote_set objs h r l hn.2]
    rw [List.getElem?_set_ne (by omega)]

theorem denote_cons {objs : List Reader} {rc : RC} {l : List (Option RC)} {rs : List Reader}
    (h : denote objs (some rc :: l) = some rs) : ∃ r rs', objs[rc.h]? = some r ∧ denote objs l = some rs' ∧ rs = r :: rs' := by
  simp only [denote] at h
  cases ho : objs[rc.h]? with
  | none => simp [ho] at h
  | some r =>
    cases hl : denote objs l with
    | none => simp [ho, hl] at h
    | some rs' => exact ⟨r, rs', rfl, rfl, by simpa [ho, hl] using h.symm⟩

theorem denote_length (objs : List Reader) : ∀ (l : List (Option RC)) (rs : List Reader),
    denote objs l = some rs → rs.length = l.length
  | [], rs, h => by simp [denote] at h; simp [← h]
  | none :: l, rs, h => by simp [denote] at h
  | some rc :: l, rs, h => by
    obtain ⟨r, rs', -, hl, rfl⟩ := denote_cons h
    simp [denote_length objs l rs' hl]

theorem denote_nonnil (objs : List Reader) : ∀ (l : List (Option RC)) (rs : List Reader), denote objs l = some rs → none ∉ l
  | [], _, _ => by simp
  | none :: l, rs, h => by simp [denote] at h
  | some rc :: l, rs, h => by
    obtain ⟨-, rs', -, hl, -⟩ := denote_cons h
    simpa using denote_nonnil objs l rs' hl

/-- A reading `R objs readers rs` of a heap and a list of reader values as the scripts `rs`, given by what the PRIMITIVE steps
    of `Read` do to it: the head value denotes the head script; reading the head without `io.EOF` advances the head script;
    reading it to `io.EOF` (the head is dropped) leaves the tail reading as the tail. -/
structure ReadInv (R : List Reader → List (Option RC) → List Reader → Prop) : Prop where
  len : ∀ objs l rs, R objs l rs → rs.length = l.length
  nonnil : ∀ objs l rs, R objs l rs → none ∉ l
  head : ∀ objs x l rs, R objs (x :: l) rs → ∃ rc r rs', x = some rc ∧ rs = r :: rs' ∧ objs[rc.h]? = some r
  keep : ∀ objs rc l r rs', R objs (some rc :: l) (r :: rs') → (Reader.read r).1.2 ≠ .eof →
    R (objs.set rc.h (Reader.read r).2) (some rc :: l) ((Reader.read r).2 :: rs')
  drop : ∀ objs rc l r rs', R objs (some rc :: l) (r :: rs') → (Reader.read r).1.2 = .eof →
    R (objs.set rc.h (Reader.read r).2) l rs'

theorem mrRead_of_inv {R : List Reader → List (Option RC) → List Reader → Prop} (hR : ReadInv R) :
    ∀ (l : List (Option RC)) (st : State) (rs : List Reader), R st.objs l rs →
    ∃ st' d, mrRead l st = .ok ((((multiRead rs).1.1.length : Nat), GoErr.ofStatus (multiRead rs).1.2), st') ∧
      st'.data.take (multiRead rs).1.1.length = (multiRead rs).1.1 ∧
      R st'.objs st'.readers (multiRead rs).2 ∧
      l = d ++ st'.readers ∧ st'.closed = st.closed ++ fileHandles d ∧ st'.created = st.created ∧
      st'.objs.length = st.objs.length
  | [], st, rs, h => by
    have : rs = [] := List.length_eq_zero_iff.mp (hR.len _ _ _ h)
    subst this
    exact ⟨{ st with readers := [] }, [], by simp [mrRead, multiRead, GoErr.ofStatus, fileHandles, h]⟩
  | x :: l, st, rs, h => by
    obtain ⟨⟨hh, nop⟩, r, rs', rfl, rfl, ho⟩ := hR.head _ _ _ _ h
    simp only at ho
    rcases hr : Reader.read r with ⟨⟨chunk, s⟩, r'⟩
    have hrr : r.read = ((chunk, s), r') := hr
    have hk := hR.keep _ _ _ _ _ h
    have hd := hR.drop _ _ _ _ _ h
    rw [hr] at hk hd
    simp only at hk hd
    cases s with
    | ok | err =>
      refine ⟨{ st with objs := st.objs.set hh r', data := chunk, readers := some ⟨hh, nop⟩ :: l }, [], ?_⟩
      simp [mrRead, ho, hr, multiRead, GoErr.ofStatus, fileHandles, hk]
    | eof =>
      have hd := hd rfl
      by_cases hc : chunk = []
      · subst hc
        obtain ⟨st', d, h1, h2, h3, h5, h6, h7, h8⟩ := mrRead_of_inv hR l
          { st with objs := st.objs.set hh r', data := [], closed := if nop then st.closed else st.closed ++ [hh], readers := l }
          rs' hd
        rw [show multiRead (r :: rs') = multiRead rs' by simp [multiRead, hrr]]
        refine ⟨st', some ⟨hh, nop⟩ :: d, ?_, h2, h3, by rw [h5]; rfl, ?_, h7, by simpa using h8⟩
        · simpa [mrRead, ho, hr] using h1
        · rw [h6]; cases nop <;> simp [fileHandles, List.append_assoc]
      · refine ⟨{ st with objs := st.objs.set hh r', data := chunk, closed := if nop then st.closed else st.closed ++ [hh], readers := l },
          [some ⟨hh, nop⟩], ?_⟩
        have hpos : 0 < chunk.length := List.length_pos_iff.mpr hc
        -- `len(mrc.readers) > 0` after the drop is `rest ≠ []` of the model
        have e : rs' = [] ↔ l = [] := by
          rw [← List.length_eq_zero_iff, ← List.length_eq_zero_iff, hR.len _ _ _ hd]
        cases l <;> cases nop <;>
          simp [mrRead, ho, hr, hrr, multiRead, hc, hpos, GoErr.ofStatus, fileHandles, hd, e]

def RDenote (objs : List Reader) (l : List (Option RC)) (rs : List Reader) : Prop :=
  denote objs l = some rs ∧ (handles l).Nodup

theorem inv_denote : ReadInv RDenote where
  len := fun objs l rs h => denote_length objs l rs h.1
  nonnil := fun objs l rs h => denote_nonnil objs l rs h.1
  head := fun objs x l rs h => by
    rcases x with _ | rc
    · exact absurd h.1 (by simp [denote])
    · obtain ⟨r, rs', ho, -, rfl⟩ := denote_cons h.1
      exact ⟨rc, r, rs', rfl, rfl, ho⟩
  keep := fun objs rc l r rs' h _ => by
    obtain ⟨r0, rs0, ho, hl, he⟩ := denote_cons h.1
    obtain ⟨rfl, rfl⟩ := List.cons.inj he
    have hn := h.2
    simp only [handles, List.nodup_cons] at hn
    refine ⟨?_, h.2⟩
    simp [denote, List.getElem?_set_self (List.getElem?_eq_some_iff.mp ho).1, denote_set _ _ _ _ hn.1, hl]
  drop := fun objs rc l r rs' h _ => by
    obtain ⟨r0, rs0, -, hl, he⟩ := denote_cons h.1
    obtain ⟨rfl, rfl⟩ := List.cons.inj he
    have hn := h.2
    simp only [handles, List.nodup_cons] at hn
    exact ⟨by rw [denote_set _ _ _ _ hn.1, hl], hn.2⟩

/-- a result known up to the variables IS the known state with some variables: its other fields are then equal by `rfl` -/
theorem of_world {α : Type} {x : M (α × State)} {a : α} {st' : State}
    (h : x.map (fun r => (r.1, r.2.world)) = .ok (a, st'.world)) : ∃ vars, x = .ok (a, { st' with vars := vars }) := by
  rcases x with e | ⟨a', ⟨v, o, r, c, cr, d⟩⟩
  · cases h
  · obtain ⟨v', o', r', c', cr', d'⟩ := st'
    simp only [Except.map, State.world, Except.ok.injEq, Prod.mk.injEq] at h
    obtain ⟨rfl, rfl, rfl, rfl, rfl, rfl⟩ := h
    exact ⟨v, rfl⟩

/-- steps A and B together, for any reading `R`: one call of the regenerated `Read` returns what `multiRead rs` returns and
    leaves a world that reads as what `multiRead` leaves -/
theorem runRead_of_inv {R : List Reader → List (Option RC) → List Reader → Prop} (hR : ReadInv R)
    (env : Env) (fuel : Nat) (w : State) (rs : List Reader) (h : R w.objs w.readers rs) (hf : w.readers.length < fuel) :
    ∃ st' d, runUnit env fuel "multiReadCloser.Read" [.mrcRef, .buf] w =
        .ok ([.int (multiRead rs).1.1.length, .err (GoErr.ofStatus (multiRead rs).1.2)], st') ∧
      st'.data.take (multiRead rs).1.1.length = (multiRead rs).1.1 ∧
      R st'.objs st'.readers (multiRead rs).2 ∧
      w.readers = d ++ st'.readers ∧ st'.closed = w.closed ++ fileHandles d ∧ st'.created = w.created ∧
      st'.objs.length = w.objs.length := by
  obtain ⟨st1, d, h1, h2, h3, h5, h6, h7, h8⟩ := mrRead_of_inv hR w.readers w rs h
  have hA := read_run env fuel w hf
  rw [h1] at hA
  obtain ⟨vars, hr⟩ := of_world (st' := st1) hA
  exact ⟨{ st1 with vars := vars }, d, by simp only [runUnit, read_ir]; exact hr, h2, h3, h5, h6, h7, h8⟩

/-- **C16 (`Read` is `multiRead`), on any heap.**  One call of the regenerated body of `(*multiReadCloser).Read`, in a
    world where `mrc.readers` denotes the scripts `rs` (no nil entry, no dangling handle, no object twice), with
    loop fuel above the number of readers: it returns `n` = the length of the chunk and `err` = the status that
    `CliIO.multiRead rs` yields (`io.EOF` turned into nil exactly when data came with it and readers are left), the
    chunk is in `p[:n]`, `mrc.readers` afterwards denotes what `multiRead` leaves (so the statement applies to the
    next call), the dropped readers are a prefix and exactly the files among them were closed, in order. -/
theorem C16_Read_ir_heap (env : Env) (fuel : Nat) (w : State) (rs : List Reader)
    (hd : denote w.objs w.readers = some rs) (hn : (handles w.readers).Nodup) (hf : w.readers.length < fuel) :
    ∃ st' d, runUnit env fuel "multiReadCloser.Read" [.mrcRef, .buf] w =
        .ok ([.int (multiRead rs).1.1.length, .err (GoErr.ofStatus (multiRead rs).1.2)], st') ∧
      st'.data.take (multiRead rs).1.1.length = (multiRead rs).1.1 ∧
      denote st'.objs st'.readers = some (multiRead rs).2 ∧ (handles st'.readers).Nodup ∧
      w.readers = d ++ st'.readers ∧ st'.closed = w.closed ++ fileHandles d ∧ st'.created = w.created := by
  obtain ⟨st', d, h1, h2, ⟨h3, h4⟩, h5, h6, h7, _⟩ := runRead_of_inv inv_denote env fuel w rs ⟨hd, hn⟩ hf
  exact ⟨st', d, h1, h2, h3, h4, h5, h6, h7⟩

/-- the world in which the scripts `rs` are the objects 0 … n-1 and `mrc.readers` holds them in order (as files) -/
def worldOf (rs : List Reader) : State :=
  ⟨[], rs, (List.range' 0 rs.length).map fun i => some ⟨i, false⟩, [], [], []⟩

theorem denote_range' : ∀ (rs pre : List Reader),
    denote (pre ++ rs) ((List.range' pre.length rs.length).map fun i => some ⟨i, false⟩) = some rs
  | [], pre => by simp [denote]
  | r :: rs, pre => by
    have ih := denote_range' rs (pre ++ [r])
    simp only [List.length_append, List.length_cons, List.length_nil, List.append_assoc, List.cons_append, List.nil_append,
      Nat.zero_add] at ih
    simp [List.range'_succ, denote, ih]

theorem handles_range' (n k : Nat) : handles ((List.range' k n).map fun i => some ⟨i, false⟩) = List.range' k n := by
  induction n generalizing k with
  | zero => rfl
  | succ n ih => simp [List.range'_succ, handles, ih]

/-- **C16 (`Read` is `multiRead`).**  For every list of reader scripts `rs` — any chunking, data-with-EOF, `0, EOF`,
    `0, nil`, non-EOF errors, used-up readers — one `Read` call of the regenerated body on the multiReadCloser over
    them equals `CliIO.multiRead rs`: same `n`, same error class, the chunk in `p[:n]`, and the readers that remain
    denote `(multiRead rs).2`. -/
theorem C16_Read_ir (env : Env) (rs : List Reader) (fuel : Nat) (hf : rs.length < fuel) :
    ∃ st', runUnit env fuel "multiReadCloser.Read" [.mrcRef, .buf] (worldOf rs) =
        .ok ([.int (multiRead rs).1.1.length, .err (GoErr.ofStatus (multiRead rs).1.2)], st') ∧
      st'.data.take (multiRead rs).1.1.length = (multiRead rs).1.1 ∧
      denote st'.objs st'.readers = some (multiRead rs).2 := by
  obtain ⟨st', d, h1, h2, h3, _⟩ := C16_Read_ir_heap env fuel (worldOf rs) rs
    (by simpa [worldOf] using denote_range' rs [])
    (by simp [worldOf, handles_range', List.nodup_range'])
    (by simpa [worldOf] using hf)
  exact ⟨st', h1, h2, h3⟩

/-- `fuel = number of readers` can be too little (the last iteration only learns that the list is empty) -/
theorem C16_Read_ir_fuel_tight :
    (runUnit { openFile := fun _ => none } 1 "multiReadCloser.Read" [.mrcRef, .buf] (worldOf [[]])).toOption.map (·.1) = none := by
  decide +kernel

/-- a nil entry in `mrc.readers` is a Go panic (nil interface method call) -/
theorem C16_Read_ir_nil_panics :
    isPanic (runUnit { openFile := fun _ => none } 5 "multiReadCloser.Read" [.mrcRef, .buf] ⟨[], [], [none], [], [], []⟩) = true := by
  decide +kernel

/-- `(*multiReadCloser).Close` on the list of reader values: every reader is closed, the first error wins -/
def mrClose (env : Env) : List (Option RC) → GoErr → State → M (GoErr × State)
  | [], fe, st => .ok (fe, st)
  | none :: _, _, _ => goPanic
  | some ⟨_, true⟩ :: l, fe, st => mrClose env l fe st
  | some ⟨h, false⟩ :: l, fe, st =>
    mrClose env l (if fe = .nil then (if env.closeFails h then .other else .nil) else fe) { st with closed := st.closed ++ [h] }

def closeSt (fe : GoErr) (w : State) : State :=
  ⟨[("firstError", .err fe), ("mrc", .mrcRef)], w.objs, w.readers, w.closed, w.created, w.data⟩

def closeLoopBody : List Stmt :=
  match closeBody with
  | [_, .range _ _ b, _, _] => b
  | _ => []

theorem mrClose_cons (env : Env) (l : List (Option RC)) (fe : GoErr) (st : State) : ∀ x : Option RC,
    mrClose env (x :: l) fe st = closeObj env st x >>= fun r => mrClose env l (if fe = .nil then r.1 else fe) r.2
  | none => rfl
  | some ⟨_, true⟩ => by cases fe <;> rfl
  | some ⟨_, false⟩ => rfl

def closeErrSt (e : GoErr) (x : Option RC) (fe : GoErr) (w : State) : State :=
  ⟨[("err", .err e), ("rc", .rc x), ("firstError", .err fe), ("mrc", .mrcRef)], w.objs, w.readers, w.closed, w.created, w.data⟩

section
attribute [local simp] exec execBlock eval evalCond assignTo State.get State.assign State.declare State.leave assignIn asRC valEq
  nilLike closeObj goPanic stuck bind Except.bind pure Except.pure Except.map

theorem close_stmt (env : Env) (fuel : Nat) (fe : GoErr) (w : State) : ∀ x : Option RC,
    exec env [] fuel (.close (.def_ "err") (.var "rc")) ((closeSt fe w).declare "rc" (.rc x)) =
      (closeObj env w x).map fun r => (.next, closeErrSt r.1 x fe r.2)
  | none | some ⟨h, true⟩ | some ⟨h, false⟩ => by simp (config := { decide := true }) [*, closeSt, closeErrSt]

theorem close_ite (env : Env) (fuel : Nat) (e fe : GoErr) (x : Option RC) (w : State) :
    exec env [] fuel (.ite (.eq (.var "firstError") .nil) [.assign (.set "firstError") (.var "err")] []) (closeErrSt e x fe w) =
      .ok (.next, closeErrSt e x (if fe = .nil then e else fe) w) := by
  by_cases hfe : fe = .nil <;> simp (config := { decide := true }) [*, closeErrSt]

end

theorem close_body (env : Env) (fuel : Nat) (fe : GoErr) (w : State) (x : Option RC) :
    execBlock env [] fuel closeLoopBody ((closeSt fe w).declare "rc" (.rc x)) =
      (closeObj env w x).map fun r => (.next, (closeSt (if fe = .nil then r.1 else fe) r.2).declare "rc" (.rc x)) := by
  rw [show closeLoopBody = [.scope [_, _]] from rfl, execBlock, exec, execBlock, close_stmt]
  cases closeObj env w x with
  | error e => rfl
  | ok r =>
    simp only [Except.map, bind, Except.bind]
    rw [execBlock, close_ite]
    rfl

theorem close_loop (env : Env) (fuel : Nat) : ∀ (l : List (Option RC)) (fe : GoErr) (w : State),
    rangeLoop "rc" (execBlock env [] fuel closeLoopBody) (l.map .rc) (closeSt fe w) =
      (mrClose env l fe w).map fun r => (.next, closeSt r.1 r.2)
  | [], fe, w => rfl
  | x :: l, fe, w => by
    rw [List.map, rangeLoop, close_body, mrClose_cons]
    cases closeObj env w x with
    | error e => rfl
    | ok r => exact close_loop env fuel l _ r.2

theorem close_run (env : Env) (fuel : Nat) (w : State) :
    (runFn env fuel closeFn [.mrcRef] w).map (fun r => (r.1, r.2.world)) =
      (mrClose env w.readers .nil w).map fun r => ([.err r.1], ({ r.2 with readers := [] } : State).world) := by
  have h := close_loop env fuel w.readers .nil w
  obtain ⟨vars, objs, readers, closed, created, data⟩ := w
  simp only [closeSt] at h
  simp only [runFn, closeFn, bindParams, resultVars, zeroOf, Option.map_some]
  rw [show closeBody = [.varDecl "firstError" "error", .range "rc" (.fld "readers" (.var "mrc")) closeLoopBody,
    .assign (.fset "mrc" "readers") .nil, .ret [.var "firstError"]] from rfl]
  simp (config := { decide := true }) [execBlock, exec, eval, State.get, State.declare, elemsOf, bind, Except.bind, pure, Except.pure, h]
  cases mrClose env readers .nil ⟨vars, objs, readers, closed, created, data⟩ with
  | error e => simp [Except.map]
  | ok r => simp [Except.map, closeSt]; io_simp

def firstFail (env : Env) (l : List (Option RC)) : GoErr := if (fileHandles l).any env.closeFails then .other else .nil

theorem mrClose_spec (env : Env) : ∀ (l : List (Option RC)) (fe : GoErr) (st : State), none ∉ l →
    mrClose env l fe st = .ok (if fe = .nil then firstFail env l else fe, { st with closed := st.closed ++ fileHandles l })
  | [], fe, st, _ => by cases fe <;> simp [mrClose, firstFail, fileHandles]
  | none :: l, fe, st, h => by simp at h
  | some ⟨h, true⟩ :: l, fe, st, hn => by
    rw [mrClose, mrClose_spec env l fe st (by simpa using hn)]
    simp [firstFail, fileHandles]
  | some ⟨h, false⟩ :: l, fe, st, hn => by
    rw [mrClose, mrClose_spec env l _ _ (by simpa using hn)]
    cases fe <;> cases hc : env.closeFails h <;> simp [firstFail, fileHandles, hc, List.append_assoc]

/-- **C16 (`Close`).**  The regenerated body of `(*multiReadCloser).Close`, on any list of non-nil readers: every file
    among them is closed, in order (a `nopReadCloser` — standard input — is not), the result is the error of the first
    file whose `Close` fails (nil if none does), `mrc.readers` is nil afterwards; nothing else changes.  No loop fuel
    is needed (`for … range`). -/
theorem C16_Close_ir (env : Env) (fuel : Nat) (w : State) (hn : none ∉ w.readers) :
    ∃ st', runUnit env fuel "multiReadCloser.Close" [.mrcRef] w = .ok ([.err (firstFail env w.readers)], st') ∧
      st'.world = (w.objs, [], w.closed ++ fileHandles w.readers, w.created, w.data) := by
  have hA := close_run env fuel w
  rw [mrClose_spec env w.readers .nil w hn] at hA
  obtain ⟨vars, hr⟩ := of_world (st' := ({ w with closed := w.closed ++ fileHandles w.readers, readers := [] } : State)) hA
  exact ⟨_, by simp only [runUnit, close_ir]; exact hr, rfl⟩

/-- a nil reader in the list: `rc.Close()` panics -/
theorem C16_Close_ir_nil_panics :
    isPanic (runUnit { openFile := fun _ => none } 0 "multiReadCloser.Close" [.mrcRef] ⟨[], [], [none], [], [], []⟩) = true := by
  decide +kernel

end Pql.CliIOIR
