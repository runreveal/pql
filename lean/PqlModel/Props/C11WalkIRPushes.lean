/-
Property C11, tie by translation: what a case of `Walk` pushes.

`tablePushes` (Model/AstIR.lean) is the reading of the push statements of a case from the regenerated
tables `Facts.walkCases` / `Facts.walkLoops` (one:F, opt:F — nil test at the static type of the field,
from `Facts.structFields` —, rev:F — the loop `for i := len(x.F)-1; i >= 0; i--` —, revloop:F).  This
file proves that for every node the pushes are the model's `Node.children` in reverse (the stack pops
them in visiting order), and that the case panics exactly where `children` is `none`.
-/
import PqlModel.Props.C10SpanIR
namespace Pql.AstIR
open Pql
set_option linter.unusedSimpArgs false

theorem pushSeq_pure {α : Type} (f : α → M (List GNode)) (g : α → List GNode) :
    ∀ l : List α, (∀ a ∈ l, f a = pure (g a)) → pushSeq f l = pure (l.flatMap g)
  | [], _ => rfl
  | a :: l, h => by
    simp only [pushSeq, h a (List.mem_cons_self ..), pushSeq_pure f g l (fun b hb => h b (List.mem_cons_of_mem _ hb)),
      pure_bind, List.flatMap_cons]

theorem downLoop_eq (cs : List GNode) (body : GNode → M (List GNode)) :
    ∀ k, k ≤ cs.length → downLoop cs body k = pushSeq body (cs.take k).reverse
  | 0, _ => by simp [downLoop, pushSeq]
  | k + 1, h => by
    have hk : k < cs.length := by omega
    have hg : cs[k]? = some cs[k] := List.getElem?_eq_getElem hk
    rw [downLoop, hg, List.take_add_one, hg]
    simp only [Option.toList_some, List.reverse_append, List.reverse_cons, List.reverse_nil, List.nil_append,
      List.singleton_append, pushSeq, downLoop_eq cs body k (by omega)]

/-- `for i := len(cs)-1; i >= 0; i-- { stack = append(stack, cs[i]) }` -/
theorem downLoop_all (cs : List GNode) (body : GNode → M (List GNode)) (k : Nat) (h : k = cs.length) :
    downLoop cs body k = pushSeq body cs.reverse := by
  subst h
  rw [downLoop_eq cs _ cs.length (Nat.le_refl _), List.take_length]

theorem rev_push (cs : List GNode) (k : Nat) (h : k = cs.length) :
    downLoop cs (fun c => pure [c]) k = pure cs.reverse := by
  rw [downLoop_all cs _ k h, pushSeq_pure (fun c => pure [c]) (fun c => [c]) _ (fun _ _ => rfl)]
  simp

def pushesOf (x : Node) : M (List GNode) :=
  match (GNode.node x).goType with
  | some ty =>
    match Facts.walkCases.find? (·.1 == ty) with
    | some (_, pushes) => tablePushes ty pushes (.node x)
    | none => stuck
  | none => stuck

theorem nilIface_expr (e : Expr) : (GNode.node (.expr e)).isNilIface = true ↔ e = .nil := by
  cases e <;> simp [GNode.isNilIface, GNode.goType]

theorem nilPtr_ident (i : Option Ident) : (GNode.node (.ident i)).isNilPtr = true ↔ i = none := by
  cases i <;> simp [GNode.isNilPtr, GNode.fields]

theorem optExpr_eq (e : Expr) :
    (if (GNode.node (.expr e)).isNilIface = true then [] else [GNode.node (.expr e)]) = (optExpr e).map .node := by
  cases e <;> simp [GNode.isNilIface, GNode.goType, optExpr]

theorem optIdent_eq (i : Option Ident) :
    (if (GNode.node (.ident i)).isNilPtr = true then [] else [GNode.node (.ident i)]) = (optIdent i).map .node := by
  cases i <;> simp [GNode.isNilPtr, GNode.fields, optIdent]

theorem optExpr_reverse (e : Expr) : (optExpr e).reverse = optExpr e := by cases e <;> rfl

theorem optExprG_reverse (e : Expr) : ((optExpr e).map GNode.node).reverse = (optExpr e).map .node := by
  cases e <;> rfl

theorem optIdentG_reverse (i : Option Ident) : ((optIdent i).map GNode.node).reverse = (optIdent i).map .node := by
  cases i <;> rfl

theorem elemPushes_prop (p : RenderProp) :
    elemPushes [("opt", "Value"), ("one", "Name")] (.prop p) =
      pure ((optExpr p.value).map .node ++ [.node (.ident p.name)]) := by
  simp [elemPushes, GNode.goType, GNode.fields, pushSeq, pushOne, lookupField, List.find?, fieldType, Facts.structFields,
    isNilAt, ifaceTypes, vExpr, vIdent, pure_bind, optExpr_eq]

/-- unfolds the regenerated push table of one node form down to the model's children -/
syntax "push_case" (" [" Lean.Parser.Tactic.simpLemma,* "]")? : tactic
macro_rules
  | `(tactic| push_case) => `(tactic| push_case [])
  | `(tactic| push_case [$ls,*]) =>
    `(tactic| simp [pushesOf, GNode.goType, GNode.fields, Facts.walkCases, Facts.walkLoops, List.find?, tablePushes, pushSeq,
        pushStep, pushOne, lookupField, fieldType, Facts.structFields, isNilAt, ifaceTypes, Node.children, rev_push,
        vExpr, vIdent, vExprs, vCols, pure_bind, panic_bind, optExpr_eq, optIdent_eq, List.map_reverse, Function.comp_def, optExprG_reverse, optIdentG_reverse, $ls,*])

/-- **the pushes of every case are the model's children, reversed**; the case panics exactly where the
    model's `children` is `none` (a nil `*TabularExpr` or `*SortTerm`) -/
theorem pushesOf_eq (x : Node) (hn : x ≠ .expr .nil) :
    pushesOf x = match x.children with
      | some kids => pure (kids.reverse.map .node)
      | none => goPanic := by
  rcases x with i | e | t | r | o | s | ⟨k, c⟩ | l
  · push_case
  · cases e
    · exact absurd rfl hn
    all_goals push_case
  · cases t <;> push_case
  · push_case
  · cases o
    case render p k ch w lp props rp =>
      push_case
      rw [downLoop_all _ _ _ (by simp),
        pushSeq_pure _ (fun g => match g with
          | .prop p => (optExpr p.value).map .node ++ [.node (.ident p.name)]
          | g => [g]) _ ?_]
      · simp [pure_bind, List.reverse_flatMap, ← List.map_reverse, List.flatMap_map, Function.comp_def, optExprG_reverse,
          optExpr_reverse, List.map_flatMap]
      · intro g hg
        simp only [List.mem_reverse, List.mem_map] at hg
        obtain ⟨q, _, rfl⟩ := hg
        exact elemPushes_prop q
    all_goals push_case
  · cases s <;> push_case
  · cases k <;> push_case
  · push_case

end Pql.AstIR
