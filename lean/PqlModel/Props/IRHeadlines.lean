/-
THE HEADLINE PROPERTIES ON THE INTERPRETATIONS OF THE TRANSLATED GO CODE: C12, C14, C16 and the summary theorems
`Cnn_on_translated_code` of these three (the other thirteen are in Props/IRHeadlinesA.lean – IRHeadlinesD.lean, which
this file does not import).

Every theorem is a statement about what an IR REGENERATED from the Go source on every run computes when
interpreted; each is obtained from the model-level headline theorem by rewriting with the `…_ir` equality.
The exception is `Scan`: in `irLib` it is `scanFn`, the hand-written loop `scanLoopIR` around the interpreted
switch (Lemmas/IRHeadlinesAux.lean).
-/
import PqlModel.Lemmas.IRHeadlinesAux
import PqlModel.Props.IRHeadlinesIO
import PqlModel.Props.C16
import PqlModel.Props.C16IO
import PqlModel.Props.C16Semantics
import PqlModel.Props.C05NoPlaceholderCli
namespace Pql.IRHead
open Pql Pql.CliSpec Pql.CliIO Pql.CliSem
set_option linter.unusedSimpArgs false

/-- the loop around the interpreted switch of `Scan` terminates within its budget for every byte string -/
theorem C12_scan_loop_total (s : Bytes) : ∃ ts, scanIR s = some ts := ⟨_, scanIR_eq s⟩

/-- … and `run` with the library `irLib` (`SplitStatements` and `Compile` interpreted, `Scan` that loop) returns normally -/
theorem C12_run_irLib_total (lines : List Bytes) (readErr : Bool) :
    ∃ o, CliIR.interpRun irLib lines readErr = .ok o := by
  rw [irLib_eq]
  exact ⟨_, CliIR.interpRun_eq _ lines readErr⟩

/-- **C12 on translated code**: `NoPanic.C12_translated_code_never_panics` (Props/C12NoPanicIR.lean) with
    `ParseIR` in the hypothesis of the `Walk` clause and `run` on `irLib`: the interpretations of the regenerated
    `Parse`, `SplitStatements`, the switch of `Scan`, `Walk` over a successful parse, `Compile` (every map order,
    every options value) and cmd/pql `run` return normally for every input — never Go's panic, never stuck, never
    out of loop budget. -/
theorem C12_on_translated_code :
    (∀ src : Bytes, ParseIR(src) = .ok (parse src) ∧ ∀ e ∈ (parse src).2, e.fuel = false) ∧
    (∀ (src : Bytes) (lib : LexIR.Lib) (h : LexIR.Heap), lib.scan = scan →
      LexIR.interpSplit lib [.str src] h = .ok ([.strs (splitStatements src)], h)) ∧
    (∀ s : Bytes, Dispatch.interp s = some (scanOne s)) ∧
    (∀ (src : Bytes) (stmts : List Stmt), ParseIR(src) = .ok (stmts, []) → ∀ s ∈ stmts, ∀ v : Nat → Node → Bool,
      ∃ r w, AstIR.interpWalk v (Node.ofStmt s) = .ok r w ∧ WalkEvent.panic ∉ w.events) ∧
    (∀ (ord : List (Bytes × Bytes) → List (Bytes × Bytes)) (opts : Option (List (Bytes × Bytes))) (src : Bytes),
      (∃ sql, ExprIR.interpCompile ord opts src = .ok sql) ∨ ExprIR.interpCompile ord opts src = .error (.go .err)) ∧
    (∀ (lines : List Bytes) (readErr : Bool), ∃ o, CliIR.interpRun irLib lines readErr = .ok o) := by
  obtain ⟨h1, h2, h3, h4, h5, _⟩ := NoPanic.C12_translated_code_never_panics
  exact ⟨h1, h2, h3, fun src stmts hp => h4 src stmts ((parse_ir_iff src _).1 hp), h5, C12_run_irLib_total⟩

/-- **C14 (Go's unspecified map order is irrelevant) on the translated `Compile`.**  For every function
    `ord` giving the order in which `range opts.Parameters` visits the entries — any permutation of the
    entries of a map (keys distinct) — the interpretation returns exactly what it returns with the list
    order: the same SQL bytes, or the same error. -/
theorem C14_map_order_ir (ord : List (Bytes × Bytes) → List (Bytes × Bytes)) (ps : List (Bytes × Bytes))
    (src : Bytes) (hord : (ord ps).Perm ps) (hd : (ps.map (·.1)).Nodup) :
    ExprIR.interpCompile ord (some ps) src = CompileIR(some ps, src) :=
  compile_ir_any_order ord ps src hord hd

/-- the hypothesis "keys distinct" is needed (a list with a repeated key is not a Go map): the later entry
    wins, so the order matters -/
theorem C14_map_order_ir_needs_nodup :
    ∃ (ps : List (Bytes × Bytes)) (src : Bytes),
      ExprIR.interpCompile id (some ps) src ≠ CompileIR(some ps, src) := by
  refine ⟨[([120], [49]), ([120], [50])], Bytes.ofString "T | where a == x", ?_⟩
  rw [ExprIR.interpCompile_eq, ExprIR.C06_compile_ir]
  decide +kernel

/-- the hypothesis "`ord` enumerates the map" is needed: an order that drops the entry loses the binding -/
theorem C14_map_order_ir_needs_perm :
    ∃ (ord : List (Bytes × Bytes) → List (Bytes × Bytes)) (ps : List (Bytes × Bytes)) (src : Bytes),
      (ps.map (·.1)).Nodup ∧ ExprIR.interpCompile ord (some ps) src ≠ CompileIR(some ps, src) := by
  refine ⟨fun _ => [], [([120], [49])], Bytes.ofString "T | where a == x", by decide, ?_⟩
  rw [ExprIR.interpCompile_eq, ExprIR.C06_compile_ir]
  decide +kernel

/-- **C14 (two parameter lists with the same entries) on the translated `Compile`** -/
theorem C14_param_perm_ir (params params' : List (Bytes × Bytes)) (src : Bytes)
    (hperm : params.Perm params') (hnodup : (params.map (·.1)).Nodup) :
    CompileIR(some params, src) = CompileIR(some params', src) := by
  rw [ExprIR.C06_compile_ir, ExprIR.C06_compile_ir]
  show ExprIR.resultM (compile params src) = ExprIR.resultM (compile params' src)
  rw [C14.C14_compile_param_order_irrelevant src params params' hperm hnodup]

/-- **C14 (nil options = zero value = empty map) on the translated `Compile`**, every map order -/
theorem C14_nil_options_ir (ord : List (Bytes × Bytes) → List (Bytes × Bytes)) (hord : (ord []).Perm [])
    (src : Bytes) :
    ExprIR.interpCompile ord none src = ExprIR.interpCompile ord (some []) src := by
  have h0 : ord [] = [] := List.Perm.eq_nil hord
  rw [ExprIR.interpCompile_eq ord none, ExprIR.interpCompile_eq ord (some [])]
  simp [h0]

/-- **C14 (an unused parameter is irrelevant) on the translated `Parse` and `Compile`**: if no expression
    of the program the interpretation of `Parse` returns mentions `k`, adding `k ↦ val` changes nothing -/
theorem C14_unused_param_ir (params : List (Bytes × Bytes)) (k val : Bytes) (src : Bytes) (stmts : List Stmt)
    (errs : Errs) (hp : ParseIR(src) = .ok (stmts, errs))
    (hunused : ∀ e ∈ stmtsExprs stmts false, exprMentions k e = false) :
    CompileIR(some ((k, val) :: params), src) = CompileIR(some params, src) := by
  have hp' := (parse_ir_iff src _).1 hp
  rw [ExprIR.C06_compile_ir, ExprIR.C06_compile_ir]
  show ExprIR.resultM (compile ((k, val) :: params) src) = ExprIR.resultM (compile params src)
  have hs : (parse src).1 = stmts := by rw [hp']
  unfold compile
  simp only [hs, C14.C14_unused_param_irrelevant src params k val stmts hunused]

/-- **C14 on translated code.**  Determinism is by construction (the interpretation is a Lean function of
    the options value and the source; `interpSplit` returns the heap unchanged, `C15_split_headlines_ir`);
    the one source of non-determinism the Go code has, the map iteration order, is irrelevant; nil options,
    and an empty map are equivalent; equal maps given as different lists give equal results.  (The
    `sync.Once` protocol `C14.C14_once_safe` and the regenerated write-site facts
    `C14.C14_parameter_map_read_only` / `C14_package_vars` are not statements about a translated function.) -/
theorem C14_on_translated_code :
    (∀ (ord : List (Bytes × Bytes) → List (Bytes × Bytes)) (ps : List (Bytes × Bytes)) (src : Bytes),
      (ord ps).Perm ps → (ps.map (·.1)).Nodup →
      ExprIR.interpCompile ord (some ps) src = CompileIR(some ps, src)) ∧
    (∀ (params params' : List (Bytes × Bytes)) (src : Bytes), params.Perm params' → (params.map (·.1)).Nodup →
      CompileIR(some params, src) = CompileIR(some params', src)) ∧
    (∀ (ord : List (Bytes × Bytes) → List (Bytes × Bytes)) (src : Bytes), (ord []).Perm [] →
      ExprIR.interpCompile ord none src = ExprIR.interpCompile ord (some []) src) ∧
    (∀ (ord : List (Bytes × Bytes) → List (Bytes × Bytes)) (opts : Option (List (Bytes × Bytes))) (src : Bytes),
      (∃ sql, ExprIR.interpCompile ord opts src = .ok sql) ∨ ExprIR.interpCompile ord opts src = .error (.go .err)) :=
  ⟨C14_map_order_ir, C14_param_perm_ir, fun ord src h => C14_nil_options_ir ord h src,
   fun ord opts src => (NoPanic.C12_compile_ir_no_panic ord opts src).1⟩

/-- **C16 (`run` = the whole-input specification) on the translated `run`, for ANY `pql.Compile`.**  With
    `SplitStatements` the interpretation of its regenerated body and `Scan` the loop around the interpreted
    switch: for every compile function, every list of lines and both values of the read-error flag the
    interpretation of the regenerated body of `run` returns normally, and its observables (standard output,
    number of logged errors, exit status) are exactly `CliSpec.run`. -/
theorem C16_run_spec_any_compile_ir (compile : Bytes → Option Bytes) (lines : List Bytes) (readErr : Bool) :
    ∃ o, CliIR.interpRun ⟨splitIR, scanFn, compile⟩ lines readErr = .ok o ∧
      o.result = CliSpec.run compile lines readErr := by
  rw [splitIR_eq, scanFn_eq]
  refine ⟨_, CliIR.interpRun_eq compile lines readErr, ?_⟩
  rw [CliIR.runOutcome_result, C16.C16_refines_all]

/-- **C16 with the translated `Compile`** (`irLib`) -/
theorem C16_run_spec_ir (lines : List Bytes) (readErr : Bool) :
    ∃ o, CliIR.interpRun irLib lines readErr = .ok o ∧
      o.result = CliSpec.run NoPanic.compileIR lines readErr :=
  C16_run_spec_any_compile_ir NoPanic.compileIR lines readErr

/-- **C16 (semantics of the tool) on the translated `run`, `SplitStatements`, `Scan`-switch and `Compile`.**
    On the input bytes (`bufio.Scanner` as modelled by `bufioLines`): with `pieces` the statements of the
    normalised input, the observables of the interpreted `run` are given by `semAll pieces` — a piece
    starting with `let` joins the scope iff the library accepts it in the current scope (a failed let is not
    added), any other piece yields the library's SQL for it under the current scope or a failure; standard
    output = the SQL texts in order, each followed by a blank line; the number of logged errors = failures
    (+1 for a read error); exit status ≠ 0 iff there was one. -/
theorem C16_main_semantics_ir (input : Bytes) :
    ∃ o, CliIR.interpRun irLib (bufioLines input).1 (bufioLines input).2 = .ok o ∧
      o.result =
        (let pieces := splitStatements (normalise (bufioLines input).1)
         let n := nFailed (semAll pieces) + (if (bufioLines input).2 then 1 else 0)
         ⟨sqlText (semAll pieces), n, decide (n > 0)⟩) := by
  rw [irLib_eq]
  refine ⟨_, CliIR.interpRun_eq _ _ _, ?_⟩
  rw [CliIR.runOutcome_result]
  exact C16_cli_semantics input

/-- **C16 (a query at the end of input, with or without `;`) on the translated `run`**: hypotheses of
    `C16.C16_last_terminated_or_not` -/
theorem C16_last_terminated_or_not_ir (compile : Bytes → Option Bytes) (lines : List Bytes) (q : Bytes)
    (readErr : Bool) (hnl : ∀ x, compile (x ++ [10]) = compile x) (htok : scan q ≠ [])
    (hsemi : ∀ t ∈ scan q, t.kind ≠ .semi)
    (hb : (⟨.semi, q.length, q.length + 1, []⟩ : Token) ∈ scan (q ++ [59, 10]))
    (hlet : isLetStatement (C16.openStatement lines ++ q) = false) :
    ∃ o o', CliIR.interpRun ⟨splitIR, scanFn, compile⟩ (lines ++ [q ++ [59]]) readErr = .ok o ∧
      CliIR.interpRun ⟨splitIR, scanFn, compile⟩ (lines ++ [q]) readErr = .ok o' ∧ o.result = o'.result := by
  obtain ⟨o, h1, r1⟩ := C16_run_spec_any_compile_ir compile (lines ++ [q ++ [59]]) readErr
  obtain ⟨o', h2, r2⟩ := C16_run_spec_any_compile_ir compile (lines ++ [q]) readErr
  exact ⟨o, o', h1, h2, by rw [r1, r2, C16.C16_last_terminated_or_not compile lines q readErr hnl htok hsemi hb hlet]⟩

/-- **C16 (no internal placeholder on standard output) on the translated `run` and `Compile`** -/
theorem C16_no_placeholder_ir (input : Bytes) :
    ∃ o, CliIR.interpRun irLib (bufioLines input).1 (bufioLines input).2 = .ok o ∧
      ∃ sqls : List Bytes, o.out = sqls.flatMap (· ++ [10, 10]) ∧
        ∀ sql ∈ sqls, ∃ src cs, CompileIR(none, src) = .ok sql ∧ sql = renderChunks cs ∧
          WriteInv.hasPlaceholder cs = false := by
  rw [irLib_eq]
  refine ⟨_, CliIR.interpRun_eq _ _ _, ?_⟩
  obtain ⟨sqls, h1, h2⟩ := WriteInv.C05_cli_no_placeholder input
  refine ⟨sqls, ?_, fun sql hs => ?_⟩
  · have := CliIR.runOutcome_result compileCli (bufioLines input).1 (bufioLines input).2
    have ho : (CliIR.runOutcome compileCli (bufioLines input).1 (bufioLines input).2).out =
        (cliMain compileCli input).out := by
      have := congrArg CliResult.out this
      exact this
    rw [ho, h1]
  · obtain ⟨src, cs, a, b, c, _⟩ := h2 sql hs
    exact ⟨src, cs, (compile_ir_ok_iff none src sql).2 a, b, c⟩

/-- **C16 in one statement**: the interpreted `run` returns what `CliSpec.run` says, for any `compile`; with the
    interpreted `Compile` as well (`irLib`) its result is the SQL of the pieces under their lets (`semAll`)
    and the count of failures; draining the interpreted `Read` yields the concatenated contents of the readers. -/
theorem C16_on_translated_code :
    (∀ (compile : Bytes → Option Bytes) (lines : List Bytes) (readErr : Bool),
      ∃ o, CliIR.interpRun ⟨splitIR, scanFn, compile⟩ lines readErr = .ok o ∧
        o.result = CliSpec.run compile lines readErr) ∧
    (∀ input : Bytes,
      ∃ o, CliIR.interpRun irLib (bufioLines input).1 (bufioLines input).2 = .ok o ∧
        o.result =
          (let pieces := splitStatements (normalise (bufioLines input).1)
           let n := nFailed (semAll pieces) + (if (bufioLines input).2 then 1 else 0)
           ⟨sqlText (semAll pieces), n, decide (n > 0)⟩)) ∧
    (∀ (env : CliIOIR.Env) (rs : List Reader) (fuel : Nat), totalResults rs + 1 ≤ fuel →
      drainIR env fuel (CliIOIR.worldOf rs) = some (toEnding (concatContents rs))) :=
  ⟨C16_run_spec_any_compile_ir, C16_main_semantics_ir, C16_multi_concat_ir⟩

end Pql.IRHead
