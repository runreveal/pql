/-
Property C06 / C14 — what parameters DO (positive statements; the counterexamples are
`C06_param_regrouped`, `C06_param_comment` of Props/C06Operand.lean).

1. `C06_params_verbatim`  parametricity in the parameter texts: the compiler never looks inside a
   parameter's text — the same chunks at the same places, only the raw texts differ; success and the kind
   of failure are independent of the texts.  General form `C06_params_substitute` (any chunk list in
   place of a parameter), corollaries `C06_params_are_holes` and `C06_compile_params_verbatim` (bytes).
2. `C06_param_occurrences`  every `.raw v` chunk of the output is the text of a parameter (none without
   parameters); `C06_param_reference`: an unquoted single-part name bound to a parameter and not
   shadowed by a let is written as exactly `[.raw v]`.
3. Props/C06ParamsAtomic.lean.
-/
import PqlModel.Lemmas.ParamsBindTop
import PqlModel.Lemmas.StmtLoop
import PqlModel.Props.C06
namespace Pql.Params
open Pql

/-- **C06 (parameters are inserted verbatim: parametricity).**  Applying any function `f` to the
    parameter texts changes the result of the compilation by applying `f` to the texts of the `.raw`
    chunks and nothing else: same success / same kind of failure, same chunks at the same places. -/
theorem C06_params_verbatim (src : Bytes) (params : List (Bytes × Bytes)) (f : Bytes → Bytes) (stmts : List Stmt) :
    compileChunks src (params.map fun kv => (kv.1, f kv.2)) stmts =
      (compileChunks src params stmts).map (List.map (Chunk.mapRaw f)) := by
  rw [compileChunks_eq_from, compileChunks_eq_from, paramScope_map, compileFrom_bindScope]
  cases compileFrom src (paramScope params) stmts with
  | error e => rfl
  | ok cs => simp only [exmap_ok, bindRaw_mapRaw]

/-- the same with a pattern-matching lambda -/
theorem C06_params_verbatim' (src : Bytes) (params : List (Bytes × Bytes)) (f : Bytes → Bytes) (stmts : List Stmt) :
    compileChunks src (params.map fun (k, v) => (k, f v)) stmts =
      (compileChunks src params stmts).map (List.map (Chunk.mapRaw f)) :=
  C06_params_verbatim src params f stmts

/-- **C06 (general form).** Compiling from the initial scope in which every parameter `k ↦ v` is bound
    to an arbitrary chunk list `σ v` is compiling with the parameters and then replacing every `.raw v`
    chunk by `σ v`. -/
theorem C06_params_substitute (src : Bytes) (params : List (Bytes × Bytes)) (σ : Bytes → List Chunk)
    (stmts : List Stmt) :
    compileFrom src (params.map fun kv => (kv.1, σ kv.2)) stmts =
      (compileChunks src params stmts).map (bindRaw σ) := by
  rw [compileChunks_eq_from, ← paramScope_bind, compileFrom_bindScope]

/-- success and the kind of failure do not depend on the parameter texts -/
theorem C06_params_failure_independent (src : Bytes) (params : List (Bytes × Bytes)) (f : Bytes → Bytes)
    (stmts : List Stmt) (e : WErr) :
    compileChunks src (params.map fun kv => (kv.1, f kv.2)) stmts = .error e ↔
      compileChunks src params stmts = .error e := by
  rw [C06_params_verbatim]
  cases compileChunks src params stmts with
  | error e' => simp [exmap_error]
  | ok cs => simp [exmap_ok]

/-- the value a (distinct-keys) parameter list gives to a key -/
def paramValue (params : List (Bytes × Bytes)) (k : Bytes) : Bytes :=
  ((params.find? (·.1 == k)).map (·.2)).getD k

theorem paramValue_mem {params : List (Bytes × Bytes)} (hnd : (params.map (·.1)).Nodup) {kv : Bytes × Bytes}
    (h : kv ∈ params) : paramValue params kv.1 = kv.2 := by
  induction params with
  | nil => cases h
  | cons a rest ih =>
    simp only [List.map_cons, List.nodup_cons] at hnd
    rcases List.mem_cons.1 h with rfl | h'
    · simp [paramValue]
    · have hne : (a.1 == kv.1) = false := by
        simp only [beq_eq_false_iff_ne, ne_eq]
        intro he
        exact hnd.1 (he ▸ List.mem_map_of_mem h')
      have := ih hnd.2 h'
      simp only [paramValue, List.find?_cons, hne] at this ⊢
      exact this

/-- **C06 (parameters are holes).**  Compiling with parameters (distinct keys: it is a Go map) is
    compiling with every parameter bound to a distinct placeholder — its own key — and then filling
    the placeholders: `.raw k ↦ .raw (value of k)`. -/
theorem C06_params_are_holes (src : Bytes) (params : List (Bytes × Bytes)) (hnd : (params.map (·.1)).Nodup)
    (stmts : List Stmt) :
    compileChunks src params stmts =
      (compileChunks src (params.map fun kv => (kv.1, kv.1)) stmts).map
        (List.map (Chunk.mapRaw (paramValue params))) := by
  rw [← C06_params_verbatim, List.map_map]
  congr 1
  have : ∀ kv ∈ params, ((fun kv : Bytes × Bytes => (kv.1, paramValue params kv.2)) ∘
      fun kv : Bytes × Bytes => (kv.1, kv.1)) kv = kv := by
    intro kv hkv
    simp only [Function.comp, paramValue_mem hnd hkv]
  rw [List.map_congr_left this, List.map_id']

/-- the bytes of a chunk list whose parameter texts are passed through `f` -/
def renderWith (f : Bytes → Bytes) (cs : List Chunk) : Bytes :=
  cs.flatMap fun c => match c with | .raw v => f v | c => c.bytes

theorem renderChunks_mapRaw (f : Bytes → Bytes) (cs : List Chunk) :
    renderChunks (cs.map (Chunk.mapRaw f)) = renderWith f cs := by
  induction cs with
  | nil => rfl
  | cons c cs ih =>
    simp only [renderChunks, renderWith, List.map_cons, List.flatMap_cons] at ih ⊢
    rw [ih]
    cases c <;> rfl

theorem renderWith_id (cs : List Chunk) : renderWith id cs = renderChunks cs := by
  induction cs with
  | nil => rfl
  | cons c cs ih =>
    simp only [renderChunks, renderWith, List.flatMap_cons] at ih ⊢
    rw [ih]
    cases c <;> rfl

/-- **C06 / C14 (bytes).** `Compile` on source text: the result with the texts passed through `f` is
    an error / a panic exactly when the result with the original texts is; and when it is SQL text,
    both are renderings of ONE chunk list, the parameter texts being the only difference. -/
theorem C06_compile_params_verbatim (params : List (Bytes × Bytes)) (f : Bytes → Bytes) (src : Bytes) :
    (compile params src = .error ↔ compile (params.map fun kv => (kv.1, f kv.2)) src = .error) ∧
    (compile params src = .panic ↔ compile (params.map fun kv => (kv.1, f kv.2)) src = .panic) ∧
    ∀ sql, compile params src = .ok sql →
      ∃ cs, compileChunks src params (parse src).1 = .ok cs ∧ sql = renderWith id cs ∧
        compile (params.map fun kv => (kv.1, f kv.2)) src = .ok (renderWith f cs) := by
  unfold compile
  simp only [C06_params_verbatim]
  cases (parse src).2.isEmpty
  · simp
  · cases compileChunks src params (parse src).1 with
    | error e => cases e <;> simp [exmap_error]
    | ok cs => simp [exmap_ok, renderChunks_mapRaw, renderWith_id]

/-- the raw texts stored in a scope -/
def scopeRaws (sc : Scope) : List Bytes := sc.flatMap fun kv => kv.2.filterMap fun c => match c with | .raw v => some v | _ => none

/-- all raw texts of the (first) list are in `l` -/
def RawsIn (l : List Bytes) (a _b : List Chunk) : Prop := ∀ v, Chunk.raw v ∈ a → v ∈ l

theorem RawsIn.one (l : List Bytes) (c : Chunk) (hc : ∀ v, c ≠ .raw v) : RawsIn l [c] [c] :=
  fun v hv => absurd (List.mem_singleton.1 hv).symm (hc v)

theorem RawsIn.cong (l : List Bytes) : WCong CMap.idMap (RawsIn l) where
  nil := fun _ hv => nomatch hv
  txt := fun _ => .one l _ nofun
  fname := fun _ => .one l _ nofun
  append := fun h₁ h₂ v hv => (List.mem_append.1 hv).elim (h₁ v) (h₂ v)
  qid := fun _ => .one l _ nofun
  qstr := fun _ => .one l _ nofun
  num := fun _ => .one l _ nofun

/-- every raw chunk the compilation from a scope emits is a raw chunk stored in that scope: the compiler emits none
    itself, so `RawsIn` is a relation `compileFrom_srel` applies to -/
theorem raw_from_scope (src : Bytes) (sc : Scope) (stmts : List Stmt) (cs : List Chunk)
    (h : compileFrom src sc stmts = .ok cs) (v : Bytes) (hv : Chunk.raw v ∈ cs) : v ∈ scopeRaws sc := by
  have hs : ScopeRel (RawsIn (scopeRaws sc)) sc sc := fun n => by
    unfold lookupScope
    cases hf : sc.find? (·.1 == n) with
    | none => exact .none
    | some kv =>
      refine .some fun v hv => ?_
      simp only [scopeRaws, List.mem_flatMap, List.mem_filterMap]
      exact ⟨kv, List.mem_of_find?_eq_some hf, .raw v, hv, rfl⟩
  have := compileFrom_srel (src := src) (RawsIn.cong _) hs stmts
  unfold compileFrom at h
  rw [h] at this
  exact this v hv

theorem scopeRaws_paramScope (params : List (Bytes × Bytes)) : scopeRaws (paramScope params) = params.map (·.2) := by
  induction params with
  | nil => rfl
  | cons kv rest ih =>
    simp only [scopeRaws, paramScope, List.map_cons, List.flatMap_cons] at ih ⊢
    rw [ih]
    rfl

/-- **C06 (parameter texts occur only as parameters).**  Every `.raw v` chunk of the compiled output is
    the text of some parameter. -/
theorem C06_param_occurrences (src : Bytes) (params : List (Bytes × Bytes)) (stmts : List Stmt) (cs : List Chunk)
    (h : compileChunks src params stmts = .ok cs) :
    ∀ c ∈ cs, ∀ v, c = .raw v → ∃ k, (k, v) ∈ params := by
  intro c hc v hcv
  subst hcv
  rw [compileChunks_eq_from] at h
  have := raw_from_scope src _ stmts cs h v hc
  rw [scopeRaws_paramScope, List.mem_map] at this
  obtain ⟨kv, hkv, rfl⟩ := this
  exact ⟨kv.1, hkv⟩

/-- without parameters there is no raw chunk -/
theorem C06_no_params_no_raw (src : Bytes) (stmts : List Stmt) (cs : List Chunk)
    (h : compileChunks src [] stmts = .ok cs) (v : Bytes) : Chunk.raw v ∉ cs := by
  intro hv
  obtain ⟨k, hk⟩ := C06_param_occurrences src [] stmts cs h _ hv v rfl
  cases hk

/-! the converse: a reference to a parameter is written as its text -/

/-- no let statement of the program binds `p` -/
def NoLetBinds (p : Bytes) (stmts : List Stmt) : Prop :=
  ∀ st ∈ stmts, ∀ kw n a x, st = Stmt.let_ kw (some n) a x → n.name ≠ p

theorem compileStmts_lookup_other (src : Bytes) (p : Bytes) {stmts : List Stmt} {sc : Scope}
    {r : Scope × Option Tabular} (hn : NoLetBinds p stmts) (h : compileStmts src stmts sc none = .ok r) :
    lookupScope r.1 p = lookupScope sc p :=
  compileStmts_induct src (motive := fun stmts sc r => NoLetBinds p stmts → lookupScope r.1 p = lookupScope sc p)
    (fun _ _ => rfl) (fun _ _ _ => rfl)
    (fun kw n a x _ _ ih hn => by
      rw [ih fun st hst => hn st (List.mem_cons_of_mem _ hst), lookupScope_cons]
      have : (n.name == p) = false := by simpa using hn _ List.mem_cons_self kw n a x rfl
      simp only [this, Bool.false_eq_true, if_false])
    h hn

/-- **C06 (a reference to a parameter is its text).**  After the statement loop — started from the
    parameters, no let of the program binding `p` — an unquoted single-part identifier `p` naming the
    parameter `p ↦ v` is written as exactly `[.raw v]`, in every mode. -/
theorem C06_param_reference (src : Bytes) (params : List (Bytes × Bytes)) (stmts : List Stmt)
    (scope : Scope) (q : Option Tabular) (p v : Bytes) (sp : Span) (m : Mode)
    (hrun : compileStmts src stmts (paramScope params) none = .ok (scope, q))
    (hfind : params.find? (·.1 == p) = some (p, v))
    (hlets : NoLetBinds p stmts) :
    writeExpr ⟨src, scope, m⟩ (.qident [⟨p, sp, false⟩]) = .ok [.raw v] := by
  have hl : lookupScope scope p = some [.raw v] := by
    rw [compileStmts_lookup_other src p hlets hrun, lookupScope_paramScope, hfind]
    rfl
  exact C06.C06_bound_substituted ⟨src, scope, m⟩ p sp _ hl

/-- expression level: a name bound to a parameter text is written as that text, verbatim -/
theorem C06_param_reference_expr (ctx : Ctx) (p v : Bytes) (sp : Span)
    (h : lookupScope ctx.scope p = some [.raw v]) :
    writeExpr ctx (.qident [⟨p, sp, false⟩]) = .ok [.raw v] :=
  C06.C06_bound_substituted ctx p sp _ h

end Pql.Params
