/-
Property C03, the whole statement when the join is directly followed by `take n`:
      T | before | join kind=… (U | rops) on conds | take n | rest
The LIMIT is attached to the join's own SELECT (`C03_join_link_take`); whatever follows starts a link
of its own, so no condition on how `rest` starts is needed.
-/
import PqlModel.Props.C03Chain
namespace Pql.C03
open Pql Sql CompileOracle Intended JoinSem

/-- **C03 (the join link with a LIMIT).** -/
theorem C03_join_link_take (src : Bytes) (db : DB) (ctes : List (Bytes × Table)) (a : SubA)
    (unique left : Bool) (l r : Bytes) (cond n : Expr) (sel : Select)
    (hsrc : a.source = .join unique left l r cond) (hop : a.op = none) (hsort : a.sort = none)
    (htake : a.take = some n) (hsel : selOf src a = some sel) :
    evalSelect db ctes sel =
      Rel.takeTable (joinTables unique left (lookupTable db ctes l) (lookupTable db ctes r) cond) n := by
  rw [JoinFull.evalSelect_join_sort src db ctes a unique left l r cond sel hsrc hop hsel
    (fun ts hts => by rw [hsort] at hts; cases hts) (fun h => by rw [hsort] at h; cases h)]
  simp only [SelSem.sortTakeA, hsort, htake, List.nil_append, List.foldl_cons, List.foldl_nil, SplitQ.interpClause]

/-- **C03 (the chain, `take` directly after the join).**  As in `C03_chain`, the proof does not use `hjr`. -/
theorem C03_chain_take (src : Bytes) (db : DB) (T U : Ident) (before rest rops : OpList) (p k a b : Span)
    (flavor : Option Ident) (d e f : Span) (conds : ExprList) (pp kk : Span) (n : Expr)
    (subs : List SubA) (st : Statement)
    (hjb : SplitQ.joinFree before = true) (hjr : SplitQ.joinFree rops = true)
    (hja : SplitQ.joinFree rest = true)
    (hs : splitA [] (.mk (some T) (appendOps before
      (.cons (.join p k a b flavor d (.mk (some U) rops) e f conds) (.cons (.take pp kk n) rest)))) = some subs)
    (hst : stmtOf src subs = some st)
    (hnames : (subs.map (·.name)).Nodup)
    (hT : T.name ∉ subs.map (·.name)) (hU : U.name ∉ subs.map (·.name))
    (hR3b : BlockSem src db [] [] T before)
    (hR3r : ∀ ctes0 dst, BlockSem src db ctes0 dst U rops)
    (hR3a : ∀ ctes0 dst (J : Ident), BlockSem src db ctes0 dst J rest) :
    evalStatement db st =
      Rel.interpOps src db
        (Rel.takeTable
          (joinTables (kindOf flavor == Bytes.ofString "innerunique") (kindOf flavor == Bytes.ofString "leftouter")
            (Rel.interpOps src db (lookupTable db [] T.name) before)
            (Rel.interp src db (.mk (some U) rops)) (buildJoinCondition conds)) n) rest := by
  obtain ⟨B, R, left, hB, hBR, hl, hd⟩ := chain_shape0 T U before _ rops p k a b flavor d e f conds subs hjb hs
  have hcase := after_shape_take T (B ++ R) (joinLink T B R flavor left conds) rfl rfl pp kk n rest subs hja hd
  exact chain_eval src db T U before rops rest flavor left conds B R _ subs st hja hB hBR hl rfl rfl rfl
    hcase hst hnames hT hU hR3b hR3r hR3a

/-- the right-hand side of `C03_chain_take` is the documented meaning of the whole pipeline -/
theorem C03_chain_take_meaning (src : Bytes) (db : DB) (T U : Ident) (before rest rops : OpList) (p k a b : Span)
    (flavor : Option Ident) (d e f : Span) (conds : ExprList) (pp kk : Span) (n : Expr) :
    Rel.interp src db (.mk (some T) (appendOps before
      (.cons (.join p k a b flavor d (.mk (some U) rops) e f conds) (.cons (.take pp kk n) rest)))) =
      Rel.interpOps src db
        (Rel.takeTable
          (joinTables (kindOf flavor == Bytes.ofString "innerunique") (kindOf flavor == Bytes.ofString "leftouter")
            (Rel.interpOps src db (lookupTable db [] T.name) before)
            (Rel.interp src db (.mk (some U) rops)) (buildJoinCondition conds)) n) rest := by
  rw [C03_chain_meaning]
  simp only [Rel.interpOps, Rel.interpOp]

namespace Ex
def three : Expr := .lit .zero .number (bs "3")
/-- `T | join kind=leftouter (U) on k | take 3` -/
def prog2 : Tabular := .mk (some (idt "T"))
  (.cons (joinOp (some (idt "leftouter")) tabU) (.cons (.take .zero .zero three) .nil))
def subs2 : List SubA := (splitA [] prog2).getD []
def stmt2 : Statement := (stmtOf [] subs2).getD default

/-- `C03_chain_take` instantiated; the LIMIT sits on the join link (two links in total) and the
    result has the three first rows of the left outer join -/
example : splitA [] prog2 = some subs2 ∧ stmtOf [] subs2 = some stmt2 ∧ subs2.length = 2 ∧
    evalStatement exDB stmt2 = Rel.interp [] exDB prog2 ∧ (evalStatement exDB stmt2).rows.length = 3 := by
  have hs : splitA [] prog2 = some subs2 := rfl
  have hst : stmtOf [] subs2 = some stmt2 := rfl
  have := C03_chain_take [] exDB (idt "T") (idt "U") .nil .nil .nil .zero .zero .zero .zero (some (idt "leftouter"))
    .zero .zero .zero keyK .zero .zero three subs2 stmt2 rfl rfl rfl hs hst (by decide) (by decide) (by decide)
    (nilSem _ _ _) (fun _ _ => nilSem _ _ _) (fun _ _ _ => nilSem _ _ _)
  refine ⟨hs, hst, by decide, ?_, by decide⟩
  rw [this]
  exact (C03_chain_take_meaning [] exDB (idt "T") (idt "U") .nil .nil .nil .zero .zero .zero .zero
    (some (idt "leftouter")) .zero .zero .zero keyK .zero .zero three).symm
end Ex

end Pql.C03
