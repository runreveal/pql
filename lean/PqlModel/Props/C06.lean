/-
Property C06 — let bindings and parameters are substituted by the documented scoping rules.

Proved here about the model's statement loop and identifier resolution: the newest binding wins
(over earlier ones and parameters), lets after the query have no effect, a quoted name is never looked
up, an unquoted bound name is written as its value.  Substitution (`compile (lets ++ [q])` reads like
`compile [resolveLets …]`): `C06_subst_program`, Props/C06Subst.lean.
-/
import PqlModel.Lemmas.StmtLoop
namespace Pql.C06
open Pql

/-- **C06 (shadowing).** The most recent binding of a name wins. -/
theorem C06_shadow (scope : List (Bytes × List Chunk)) (n : Bytes) (v : List Chunk) :
    lookupScope ((n, v) :: scope) n = some v := by
  simp [lookupScope]

theorem C06_other_binding_irrelevant (scope : List (Bytes × List Chunk)) (n m : Bytes) (v : List Chunk)
    (h : m ≠ n) : lookupScope ((m, v) :: scope) n = lookupScope scope n := by
  have : (m == n) = false := by simp [h]
  simp [lookupScope, List.find?, this]

/-- **C06 (lets after the query are ignored).** Once the query has been seen, any number of
    let statements leaves scope and query unchanged, whatever their values are. -/
theorem C06_after_ignored (src : Bytes) (lets : List Stmt) (scope : List (Bytes × List Chunk)) (t : Tabular)
    (h : ∀ s ∈ lets, ∃ kw n a x, s = .let_ kw n a x) :
    compileStmts src lets scope (some t) = .ok (scope, some t) :=
  compileStmts_some_of_isLets src t scope lets h

/-- **C06 (quoted names are never substituted).** -/
theorem C06_quoted_not_substituted (ctx : Ctx) (name : Bytes) (sp : Span) (h : ctx.mode ≠ .let_) :
    writeExpr ctx (.qident [⟨name, sp, true⟩]) = .ok [.qid name] := by
  simp [writeExpr, h, sepChunks]

/-- **C06 (a bound name is replaced by its value).** -/
theorem C06_bound_substituted (ctx : Ctx) (name : Bytes) (sp : Span) (v : List Chunk)
    (h : lookupScope ctx.scope name = some v) :
    writeExpr ctx (.qident [⟨name, sp, false⟩]) = .ok v := by
  simp [writeExpr, h]

end Pql.C06
