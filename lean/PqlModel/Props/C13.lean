/-
Property C13 — Compile returns SQL or an error, and rejects every documented misuse.

`C13_either`: by the shape of the model's result type, a call returns exactly one of
non-empty SQL / an error (the `panic` outcome is C12's concern).  The exactness statement
(`compile` fails iff the source does not parse or `Misuse.misuse` holds) is `C13_exact_source`
(Props/C13Exact.lean).
The arity table the compiler enforces is the regenerated one (`C13_arity_table`; that it rejects
what the specification rejects is `C13_arity_agrees`, Props/C13Exact.lean).
-/
import PqlModel.Lemmas.StmtLoop
import PqlModel.Spec.Misuse
import PqlModel.Lemmas.LexRenderChunks
namespace Pql.C13
open Pql

theorem compileChunks_ends_semi (src : Bytes) (params : List (Bytes × Bytes)) (stmts : List Stmt)
    (cs : List Chunk) (h : compileChunks src params stmts = .ok cs) :
    ∃ pre, cs = pre ++ [.txt ";"] := by
  unfold compileChunks at h
  simp only [bind, Except.bind] at h
  repeat' split at h
  all_goals first
    | (cases h; done)
    | (cases h; exact ⟨_, rfl⟩)
    | (simp only [pure, Except.pure, Except.ok.injEq] at h; exact ⟨_, h.symm⟩)

/-- **C13 (either/or).** A successful result is never the empty string: it ends in `;`. -/
theorem C13_either (params : List (Bytes × Bytes)) (src sql : Bytes)
    (h : compile params src = .ok sql) : sql ≠ [] ∧ sql.getLast? = some 59 := by
  obtain ⟨_, cs, hc, rfl⟩ := compile_ok params src sql h
  obtain ⟨pre, rfl⟩ := compileChunks_ends_semi _ _ _ _ hc
  rw [LexRender.renderChunks_append]
  have : renderChunks [Chunk.txt ";"] = [59] := by decide
  rw [this]
  constructor
  · simp
  · simp

/-- **C13 (arities).** The arity guards regenerated from the source (`Facts.writerArityGuard`) are the
    literal below, written down from the documentation: the theorem breaks when a guard changes. -/
theorem C13_arity_table :
    Facts.writerArityGuard =
      [("writeCountFunction", "!=", 0), ("writeCountIfFunction", "!=", 1), ("writeIfFunction", "!=", 3),
       ("writeIsNotNullFunction", "!=", 1), ("writeIsNullFunction", "!=", 1), ("writeNotFunction", "!=", 1),
       ("writeNowFunction", "!=", 0), ("writeStrcatFunction", "==", 0), ("writeToLowerFunction", "!=", 1),
       ("writeToUpperFunction", "!=", 1)] := by decide

end Pql.C13
