/-
Property C03 — joins combine the pipeline so far with the right-hand pipeline.

Specification: the `join` case of `Rel.interpOp` (nested loop of the pipeline so far with the
right-hand pipeline evaluated on its own; innerunique removes duplicate left rows; leftouter
pads unmatched left rows).  The oracle compares it with the reference evaluation of the
emitted SQL on small databases for all three kinds, bare / explicit / mixed conditions,
prefixes, multi-operator right sides, nested and sequential joins.
Proved here about the model: the condition a join is compiled with.  The semantics of the emitted join:
Props/C03Semantics.lean, C03Chain.lean, C03Full.lean.
-/
import PqlModel.Model.Compile
import PqlModel.Spec.Rel
namespace Pql.C03
open Pql

/-- **C03 (bare key).** A bare unquoted column name `k` after `on` stands for
    `$left.k == $right.k` — for every name that is not one of the constants true/false/null. -/
theorem C03_bare_key_rewrite (name : Bytes) (sp : Span) (h : builtinIdent name = none) :
    rewriteSimpleJoinCondition (.qident [⟨name, sp, false⟩]) =
      .binary (.qident [⟨leftAlias, .zero, false⟩, ⟨name, sp, false⟩]) .zero .eq
        (.qident [⟨rightAlias, .zero, false⟩, ⟨name, sp, false⟩]) := by
  simp [rewriteSimpleJoinCondition, h]

/-- a quoted name is left alone -/
theorem C03_quoted_key_not_rewritten (name : Bytes) (sp : Span) :
    rewriteSimpleJoinCondition (.qident [⟨name, sp, true⟩]) = .qident [⟨name, sp, true⟩] := by
  simp [rewriteSimpleJoinCondition]

/-- **C03 (conditions are AND-ed).** Two conditions compile to their conjunction, in order. -/
theorem C03_two_conditions_anded (c1 c2 : Expr) :
    buildJoinCondition (.cons c1 (.cons c2 .nil)) =
      .binary (rewriteSimpleJoinCondition c1) .zero .and_ (rewriteSimpleJoinCondition c2) := by
  simp [buildJoinCondition, buildJoinCondition.go]

/-- the aliases are the documented `$left` / `$right` -/
theorem C03_aliases : Facts.leftJoinTableAlias = "$left" ∧ Facts.rightJoinTableAlias = "$right" := by decide

/-- the join kinds the parser admits (parser.go `joinTypes`, regenerated); that they are the three the `switch`
    of pql.go:218 has a case for is read off the model's join case (`C05.flavorNameOf`), not stated here -/
theorem C03_kinds : Facts.joinTypes = ["inner", "innerunique", "leftouter"] := by decide

end Pql.C03
