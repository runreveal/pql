/-
THE HEADLINE PROPERTIES ON THE INTERPRETATIONS OF THE TRANSLATED GO CODE: the parser and what `Compile` rejects
(C07, C08, C13).  See Props/IRHeadlinesA.lean for the conventions.

Interpreters: `OpIR.runParse n ts (bodyOf "Parse")` (`Parse` on the tokens `ts` of a source of length `n`),
`ExprParseIR.runUnit c F "expr"` (the expression parser), `ExprIR.interpCompile` (`Compile`).
-/
import PqlModel.Lemmas.IRHeadlinesAux
import PqlModel.Props.C07Layout
import PqlModel.Props.C07Full
import PqlModel.Props.C07ExprIR
import PqlModel.Props.C08Full
import PqlModel.Props.C08Reject
import PqlModel.Props.C08RejectCx
import PqlModel.Props.C13Exact
import PqlModel.Props.C13Arity
namespace Pql.IRHead
open Pql Pql.Grammar
set_option linter.unusedSimpArgs false

/-- **C07 (grammar ⇒ tree) on the translated `Parse`.**  If the non-empty `;`-separated token groups of
    `ts` realise, one to one and in order, the well-formed canonical statements `stmts`, the interpretation
    of the regenerated `Parse` returns exactly `stmts` and no error.  Hypotheses (`C07.StmtHyp`): those of
    `C07.C07_parse_partial`, each with its counterexample there. -/
theorem C07_grammar_ir (srcLen : Nat) (ts : List Token) (stmts : List Stmt)
    (h : Forall₂ C07.StmtHyp stmts (splitStatementsToks ts)) :
    OpIR.runParse srcLen ts (OpIR.bodyOf "Parse") = .ok (stmts, []) := by
  rw [OpIR.C07_Parse_tokens_ir, C07.C07_parse_partial srcLen ts stmts h]

theorem C07_grammar_source_ir (src : Bytes) (stmts : List Stmt)
    (h : Forall₂ C07.StmtHyp stmts (splitStatementsToks (scan src))) : ParseIR(src) = .ok (stmts, []) :=
  C07_grammar_ir src.length (scan src) stmts h

/-- **C07 (precedence and grouping) on the translated expression parser.**  On the tokens of a
    well-grouped (`okSpine`) expression tree, followed by anything that does not continue an expression, the
    interpretation of the regenerated `expr` — `unaryExpr`, `primaryExpr`, `exprBinaryTrail`, the cursor,
    `split` … all interpreted — returns exactly that tree (spans included), no error, and what follows. -/
theorem C07_expr_ir (c : ExprParseIR.ICtx) (e : Expr) (us : List UTok) (ts rest : List Token) (F : Nat)
    (sk : Option TokKind)
    (hwf : (okSpine 0 e).isSome = true) (hu : unparseExpr e = some us) (hacc : accounts true us ts = true)
    (hno : NoLparenComma ts = true) (hrest : C07.Stops rest = true) (hfuel : 4 * (ts ++ rest).length + 4 ≤ F) :
    ExprParseIR.runUnit c F "expr" [] ⟨ts ++ rest, none, sk⟩ = .ok ([.expr e, .err []], ⟨rest, none, sk⟩) := by
  rw [ExprParseIR.C07_expr_ir_exact c F (ts ++ rest) sk hfuel,
    C07.C07_expr ⟨c.srcLen⟩ e us ts rest F hwf hu hacc hno hrest hfuel]

/-- **C07 (layout independence) on the translated `Parse`, token level.**  Token lists with pairwise the
    same kinds and values: the interpretation returns the same statements modulo positions and the same
    errors modulo positions, whatever the source lengths. -/
theorem C07_layout_tokens_ir (n m : Nat) (ts us : List Token) (h : Layout.sameTokens ts us) :
    ∃ ra rb, OpIR.runParse n ts (OpIR.bodyOf "Parse") = .ok ra ∧ OpIR.runParse m us (OpIR.bodyOf "Parse") = .ok rb ∧
      ra.1.map Layout.eraseSpansStmt = rb.1.map Layout.eraseSpansStmt ∧
      Layout.eraseSpansErrs ra.2 = Layout.eraseSpansErrs rb.2 ∧ (ra.2 = [] ↔ rb.2 = []) :=
  ⟨_, _, OpIR.C07_Parse_tokens_ir n ts, OpIR.C07_Parse_tokens_ir m us, (Layout.C07_layout_tokens n m ts us h).1,
    (Layout.C07_layout_tokens n m ts us h).2, (Layout.C07_layout_errors n m ts us h).2.2⟩

/-- **C07 (layout independence) on the translated `Parse`, sources** — also modulo the operator-keyword
    synonyms (`filter`/`where`, `order`/`sort`, `limit`/`take`): `canonProg` rewrites them. -/
theorem C07_layout_source_ir (a b : Bytes) (k k' : Nat)
    (h : Layout.sameTokens (Layout.canonProg k (scan a)) (Layout.canonProg k' (scan b))) :
    ∃ ra rb, ParseIR(a) = .ok ra ∧ ParseIR(b) = .ok rb ∧
      ra.1.map Layout.eraseSpansStmt = rb.1.map Layout.eraseSpansStmt ∧
      Layout.eraseSpansErrs ra.2 = Layout.eraseSpansErrs rb.2 ∧ (ra.2 = [] ↔ rb.2 = []) := by
  have h1 := Layout.C07_synonyms_source a b k k' h
  exact ⟨_, _, OpIR.C07_Parse_ir a, OpIR.C07_Parse_ir b, h1.1, h1.2, (Layout.eraseSpansErrs_eq h1.2).2.2.2.2⟩

/-- **C07 (white space and comments never matter) on the translated `Parse`.**  Inserting trivia `w` (white
    space, complete `//` comments) at a step boundary of the scanner changes neither the trees (modulo
    positions) nor success.  Hypotheses: those of `Layout.C07_trivia_insertion`
    (`C07_trivia_needs_boundary`, `…_needs_newline`). -/
theorem C07_trivia_insertion_ir (x w y : Bytes) (h1 : Reaches (x ++ y) x.length)
    (h2 : Reaches (x ++ (w ++ y)) x.length) (hw : Layout.TriviaBefore w y) :
    ∃ ra rb, ParseIR(x ++ (w ++ y)) = .ok ra ∧ ParseIR(x ++ y) = .ok rb ∧
      ra.1.map Layout.eraseSpansStmt = rb.1.map Layout.eraseSpansStmt ∧ (ra.2 = [] ↔ rb.2 = []) :=
  ⟨_, _, OpIR.C07_Parse_ir _, OpIR.C07_Parse_ir _, Layout.C07_trivia_insertion_parse x w y h1 h2 hw⟩

/-- **C07 in one statement** about the interpretation of the regenerated `Parse`: a source whose token groups
    realise well-formed trees (`C07.StmtHyp`) is parsed to those trees; sources with the same tokens up to layout and operator
    synonyms give the same trees and errors up to spans; inserted trivia changes nothing. -/
theorem C07_on_translated_code :
    (∀ (src : Bytes) (stmts : List Stmt), Forall₂ C07.StmtHyp stmts (splitStatementsToks (scan src)) →
      ParseIR(src) = .ok (stmts, [])) ∧
    (∀ (a b : Bytes) (k k' : Nat), Layout.sameTokens (Layout.canonProg k (scan a)) (Layout.canonProg k' (scan b)) →
      ∃ ra rb, ParseIR(a) = .ok ra ∧ ParseIR(b) = .ok rb ∧
        ra.1.map Layout.eraseSpansStmt = rb.1.map Layout.eraseSpansStmt ∧
        Layout.eraseSpansErrs ra.2 = Layout.eraseSpansErrs rb.2 ∧ (ra.2 = [] ↔ rb.2 = [])) ∧
    (∀ (x w y : Bytes), Reaches (x ++ y) x.length → Reaches (x ++ (w ++ y)) x.length → Layout.TriviaBefore w y →
      ∃ ra rb, ParseIR(x ++ (w ++ y)) = .ok ra ∧ ParseIR(x ++ y) = .ok rb ∧
        ra.1.map Layout.eraseSpansStmt = rb.1.map Layout.eraseSpansStmt ∧ (ra.2 = [] ↔ rb.2 = [])) :=
  ⟨C07_grammar_source_ir, C07_layout_source_ir, C07_trivia_insertion_ir⟩

/-- the interpretation of `Parse` returns normally on the demo pair
    `T\n| filter x > 1 // c\n| order by x desc\n\t| limit 5` and `T | where x > 1 | sort by x desc | take 5`; that the
    pair satisfies the hypothesis of the second conjunct of `C07_on_translated_code` is `Layout.demo_syn_sameTokens`,
    not part of this statement -/
theorem C07_on_translated_code_nonvacuous :
    ∃ ra rb, ParseIR(Layout.demoC) = .ok ra ∧ ParseIR(Layout.demoD) = .ok rb :=
  ⟨_, _, OpIR.C07_Parse_ir _, OpIR.C07_Parse_ir _⟩

/-- **C08 (every token accounted for) on the translated `Parse`.**  If the interpretation returns `stmts`
    without error, the statements' `unparse` accounts, in order and with exact positions, for every token of
    the scan (only the documented commas and empty statements may be absent). -/
theorem C08_accounted_ir (src : Bytes) (stmts : List Stmt) (h : ParseIR(src) = .ok (stmts, [])) :
    Forall₂ (fun st g => ∃ us, unparseStmt st = some us ∧ accounts true us g = true)
      stmts (splitStatementsToks (scan src)) :=
  C08.C08_accounted_parse src stmts ((parse_ir_iff src _).1 h)

/-- the source is rejected by the translated code: `Parse` reports an error, and `Compile` returns the Go
    error for every map order and every options value -/
def RejectedIR (src : Bytes) : Prop :=
  (∃ stmts errs, ParseIR(src) = .ok (stmts, errs) ∧ errs ≠ []) ∧
  ∀ (ord : List (Bytes × Bytes) → List (Bytes × Bytes)) (opts : Option (List (Bytes × Bytes))),
    ExprIR.interpCompile ord opts src = .error (.go .err)

theorem rejected_ir (src : Bytes) (h : (parse src).2 ≠ []) : RejectedIR src :=
  ⟨⟨(parse src).1, (parse src).2, OpIR.C07_Parse_ir src, h⟩, fun ord opts => compile_ir_parse_error ord opts src h⟩

/-- **C08 (rejection) on the translated `Parse` and `Compile`**: an error token (unrecognised character,
    unterminated string or identifier, malformed number), an unbalanced piece, a dangling operator, two
    adjacent operands, a double pipe, an operand after `count`, a dangling operator before a stopper, a
    surplus direction keyword, an operator keyword without argument — each makes the source `RejectedIR`. -/
theorem C08_rejection_ir (src : Bytes) :
    ((∃ t ∈ scan src, t.kind = .error) → RejectedIR src) ∧
    ((∃ g ∈ Reject.pieces src, Reject.balanced g = false) → RejectedIR src) ∧
    ((∃ g ∈ Reject.pieces src, ∃ t, g.getLast? = some t ∧ Reject.danglingKind t.kind = true) → RejectedIR src) ∧
    ((∃ g ∈ Reject.pieces src, Reject.adjAny (fun a c => Reject.operandEndTok a && Reject.operandStartTok c) g = true) →
      RejectedIR src) ∧
    ((∃ g ∈ Reject.pieces src, Reject.adjAny (fun a c => a.kind == .pipe && c.kind == .pipe) g = true) → RejectedIR src) ∧
    ((∃ g ∈ Reject.pieces src, Reject.adjAny (fun a c => a.kind == .ident && a.value == Reject.b "count" &&
        Reject.operandStartTok c) g = true) → RejectedIR src) ∧
    ((∃ g ∈ Reject.pieces src, Reject.adjAny (fun a c => Reject.danglingKind a.kind && Reject.stopperKind c.kind &&
        a.kind != .comma && c.kind != .comma && !(a.kind == .lparen && c.kind == .rparen)) g = true) → RejectedIR src) ∧
    ((∃ g ∈ Reject.pieces src, Reject.adjAny3 (fun a c d => Reject.operandEndTok a && Reject.isDir c && Reject.isDir d) g = true) →
      RejectedIR src) ∧
    ((∃ g ∈ Reject.pieces src, Reject.adjAny3 (fun a c d => a.kind == .pipe && c.kind == .ident &&
        c.value != Reject.b "count" && (d.kind == .pipe || d.kind == .rparen)) g = true) → RejectedIR src) :=
  ⟨fun h => rejected_ir src (Reject.C08_error_token_rejected src h),
   fun h => rejected_ir src (Reject.C08_unbalanced_rejected src h),
   fun h => rejected_ir src (Reject.C08_dangling_operator_rejected src h),
   fun h => rejected_ir src (Reject.C08_two_operands_rejected' src h),
   fun h => rejected_ir src (Reject.C08_double_pipe_rejected' src h),
   fun h => rejected_ir src (Reject.C08_count_argument_rejected' src h),
   fun h => rejected_ir src (Reject.C08_dangling_inside_rejected' src h),
   fun h => rejected_ir src (Reject.C08_asc_desc_rejected' src h),
   fun h => rejected_ir src (Reject.C08_missing_argument_inside_rejected' src h)⟩

/-- `T | join (U)`, `T | where f(,)`, `T | where a in ()` -/
theorem C08_shapes_rejected_ir (src : Bytes) :
    (∀ T pp jn lp U rp : Token, scan src = [T, pp, jn, lp, U, rp] → T.kind = .ident → pp.kind = .pipe →
      jn.kind = .ident → jn.value = Reject.b "join" → lp.kind = .lparen → U.kind = .ident → rp.kind = .rparen →
      RejectedIR src) ∧
    (∀ T pp wh f lp cm rp : Token, scan src = [T, pp, wh, f, lp, cm, rp] → T.kind = .ident → pp.kind = .pipe →
      wh.kind = .ident → wh.value = Reject.b "where" → f.kind = .ident → lp.kind = .lparen → cm.kind = .comma →
      rp.kind = .rparen → RejectedIR src) ∧
    (∀ T pp wh a i lp rp : Token, scan src = [T, pp, wh, a, i, lp, rp] → T.kind = .ident → pp.kind = .pipe →
      wh.kind = .ident → wh.value = Reject.b "where" → a.kind = .ident → i.kind = .in_ → lp.kind = .lparen →
      rp.kind = .rparen → RejectedIR src) :=
  ⟨fun T pp jn lp U rp hs h1 h2 h3 h4 h5 h6 h7 =>
     rejected_ir src (Reject.C08_join_without_on_rejected src T pp jn lp U rp hs h1 h2 h3 h4 h5 h6 h7),
   fun T pp wh f lp cm rp hs h1 h2 h3 h4 h5 h6 h7 h8 =>
     rejected_ir src (Reject.C08_call_only_comma_rejected src T pp wh f lp cm rp hs h1 h2 h3 h4 h5 h6 h7 h8),
   fun T pp wh a i lp rp hs h1 h2 h3 h4 h5 h6 h7 h8 =>
     rejected_ir src (Reject.C08_in_empty_list_rejected src T pp wh a i lp rp hs h1 h2 h3 h4 h5 h6 h7 h8)⟩

/-- **C08 in one statement** about the interpretations of the regenerated `Parse` and `Compile`: an error-free
    parse accounts for every token; a source with an error token, an unbalanced piece, a piece ending in a
    dangling token or two operands in a row is rejected by both. -/
theorem C08_on_translated_code (src : Bytes) :
    (∀ stmts, ParseIR(src) = .ok (stmts, []) →
      Forall₂ (fun st g => ∃ us, unparseStmt st = some us ∧ accounts true us g = true)
        stmts (splitStatementsToks (scan src))) ∧
    ((∃ t ∈ scan src, t.kind = .error) → RejectedIR src) ∧
    ((∃ g ∈ Reject.pieces src, Reject.balanced g = false) → RejectedIR src) ∧
    ((∃ g ∈ Reject.pieces src, ∃ t, g.getLast? = some t ∧ Reject.danglingKind t.kind = true) → RejectedIR src) ∧
    ((∃ g ∈ Reject.pieces src, Reject.adjAny (fun a c => Reject.operandEndTok a && Reject.operandStartTok c) g = true) →
      RejectedIR src) :=
  ⟨C08_accounted_ir src, (C08_rejection_ir src).1, (C08_rejection_ir src).2.1, (C08_rejection_ir src).2.2.1,
    (C08_rejection_ir src).2.2.2.1⟩

/-- non-vacuity: `T | where a # 1` (an unrecognised character) is rejected by the translated code; so are
    seven other concrete sources of Props/C08RejectCx.lean -/
theorem C08_on_translated_code_nonvacuous :
    RejectedIR Reject.exErr ∧ RejectedIR Reject.exOpen ∧ RejectedIR Reject.exDangling ∧ RejectedIR Reject.exTwo ∧
    RejectedIR Reject.exPipes ∧ RejectedIR Reject.exJoin ∧ RejectedIR Reject.exCallComma ∧ RejectedIR Reject.exInEmpty :=
  ⟨rejected_ir _ Reject.exErr_rejected, rejected_ir _ Reject.exOpen_rejected, rejected_ir _ Reject.exDangling_rejected,
   rejected_ir _ Reject.exTwo_rejected, rejected_ir _ Reject.exPipes_rejected, rejected_ir _ Reject.exJoin_rejected,
   rejected_ir _ Reject.exCallComma_rejected, rejected_ir _ Reject.exInEmpty_rejected⟩

/-- **C13 on translated code (exactness, on the translated `Compile` and `Parse`)**, for every options value and
    every source: the interpretation of `Compile` returns the Go error exactly when the interpretation of `Parse` reports
    an error or the parsed program breaks a documented rule (`Misuse.misuse`, written from the property);
    it returns SQL exactly when neither; it never panics and is never stuck; SQL is non-empty and ends in
    `;`.  Hypothesis-free. -/
theorem C13_on_translated_code (opts : Option (List (Bytes × Bytes))) (src : Bytes) :
    (CompileIR(opts, src) = .error (.go .err) ↔
      ∃ stmts errs, ParseIR(src) = .ok (stmts, errs) ∧
        (errs ≠ [] ∨ Misuse.misuse ((opts.getD []).map (·.1)) stmts = true)) ∧
    ((∃ sql, CompileIR(opts, src) = .ok sql) ↔
      ∃ stmts, ParseIR(src) = .ok (stmts, []) ∧ Misuse.misuse ((opts.getD []).map (·.1)) stmts = false) ∧
    CompileIR(opts, src) ≠ .error (.go .panic) ∧ CompileIR(opts, src) ≠ .error .stuck ∧
    ∀ sql, CompileIR(opts, src) = .ok sql → sql ≠ [] ∧ sql.getLast? = some 59 := by
  obtain ⟨h1, h2, _⟩ := C13.C13_exact_source (opts.getD []) src
  have hs := NoPanic.C12_compile_ir_no_panic List.reverse opts src
  refine ⟨?_, ?_, hs.2.1, hs.2.2.1, fun sql h => C13.C13_either (opts.getD []) src sql ((compile_ir_ok_iff opts src sql).1 h)⟩
  · rw [compile_ir_err_iff, h1]
    constructor
    · intro h
      exact ⟨(parse src).1, (parse src).2, OpIR.C07_Parse_ir src, h⟩
    · rintro ⟨stmts, errs, hp, h⟩
      have := (parse_ir_iff src _).1 hp
      rw [this]
      exact h
  · constructor
    · rintro ⟨sql, h⟩
      obtain ⟨he, hm⟩ := h2.1 ⟨sql, (compile_ir_ok_iff opts src sql).1 h⟩
      refine ⟨(parse src).1, ?_, hm⟩
      rw [OpIR.C07_Parse_ir, ← he]
    · rintro ⟨stmts, hp, hm⟩
      have hp' := (parse_ir_iff src _).1 hp
      obtain ⟨sql, h⟩ := h2.2 ⟨by rw [hp'], by rw [hp']; exact hm⟩
      exact ⟨sql, (compile_ir_ok_iff opts src sql).2 h⟩

theorem C13_exact_ir (opts : Option (List (Bytes × Bytes))) (src : Bytes) :
    (CompileIR(opts, src) = .error (.go .err) ↔
      ∃ stmts errs, ParseIR(src) = .ok (stmts, errs) ∧
        (errs ≠ [] ∨ Misuse.misuse ((opts.getD []).map (·.1)) stmts = true)) ∧
    ((∃ sql, CompileIR(opts, src) = .ok sql) ↔
      ∃ stmts, ParseIR(src) = .ok (stmts, []) ∧ Misuse.misuse ((opts.getD []).map (·.1)) stmts = false) ∧
    CompileIR(opts, src) ≠ .error (.go .panic) ∧ CompileIR(opts, src) ≠ .error .stuck ∧
    ∀ sql, CompileIR(opts, src) = .ok sql → sql ≠ [] ∧ sql.getLast? = some 59 :=
  C13_on_translated_code opts src

/-- **C13 (built-in arities) on the translated `Compile`**: on `T | where name(a, …, a)` with `n` arguments
    the interpretation returns SQL exactly when `n` is the documented arity of `name` -/
theorem C13_builtin_arity_ir (opts : Option (List (Bytes × Bytes))) (name : Bytes) (n : Nat)
    (hn : Glue.identName name = true) :
    ((∃ sql, CompileIR(opts, Glue.srcCall name n) = .ok sql) ↔ Glue.arityOK name n) ∧
    (CompileIR(opts, Glue.srcCall name n) = .error (.go .err) ↔ ¬ Glue.arityOK name n) := by
  obtain ⟨h1, h2, _⟩ := Glue.C13_builtin_arity_source (opts.getD []) name n hn
  refine ⟨?_, by rw [compile_ir_err_iff]; exact h2⟩
  rw [← h1]
  constructor
  · rintro ⟨sql, h⟩; exact ⟨sql, (compile_ir_ok_iff _ _ _).1 h⟩
  · rintro ⟨sql, h⟩; exact ⟨sql, (compile_ir_ok_iff _ _ _).2 h⟩

end Pql.IRHead
