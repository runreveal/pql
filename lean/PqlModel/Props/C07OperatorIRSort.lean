/-
Property C07, tie by translation: `(*parser).sortOperator` — the model's production for `sort` / `order`
(with the term loop `pSortTerms`) is the interpretation of the regenerated body, for every fuel and every
loop counter (`C07_sortOperator_ir`).
-/
import PqlModel.Props.C07OperatorIR
namespace Pql.OpIR
open Pql
set_option linter.unusedSimpArgs false

def stermVals (acc : List SortTerm) : List Val := acc.map fun t => .sterm (some t)

theorem toSterms_vals : ∀ acc : List SortTerm, toSterms (stermVals acc) = some acc
  | [] => rfl
  | t :: r => by simpa [stermVals, toSterms] using toSterms_vals r

theorem stermVals_snoc (acc : List SortTerm) (t : SortTerm) : stermVals acc ++ [.sterm (some t)] = stermVals (acc ++ [t]) := by
  simp [stermVals]

def sortSt (pipe kws : Span) (b kw pt : Token) (acc : List SortTerm) (ts : List Token) (u : Option (List Token)) : St :=
  ⟨[("op", .ref 0), ("by", .tok b), ("keyword", .tok kw), ("pipe", .tok pt), ("p", .parser ts u)],
   [⟨"SortOperator", [("Pipe", .span pipe), ("Keyword", .span kws), ("Terms", .list (stermVals acc))]⟩]⟩

theorem sort_loop (c : PCtx) (fuel : Nat) (pipe kws : Span) (b kw pt : Token) :
    ∀ (n : Nat) (acc : List SortTerm) (ts : List Token) (u : Option (List Token)),
      result toOp "op" none
          (runLoop false (execBlock (envAt c) (loopAt sortOperatorBody 3)) n fuel (sortSt pipe kws b kw pt acc ts u)) =
        .ok ⟨.sort pipe kws (pSortTerms c fuel n acc ts).val, (pSortTerms c fuel n acc ts).errs,
          (pSortTerms c fuel n acc ts).rest⟩
  | 0, acc, ts, u => by
    simp [runLoop, result_fuel, sortSt, pSortTerms, St.parser, St.get, toOp, recToOp, listOf, toSterms_vals, optM,
      bind, Except.bind, pure, Except.pure]
  | n + 1, acc, ts, u => by
    have ih := sort_loop c fuel pipe kws b kw pt n
    generalize hb : execBlock (envAt c) (loopAt sortOperatorBody 3) = body at ih ⊢
    rw [runLoop_succ (result toOp "op" none) fun _ => rfl, congrFun (congrFun hb.symm fuel)]
    simp only [loopAt, sortOperatorBody, List.getElem?_cons_succ, List.getElem?_cons_zero, sortSt] at ih ⊢
    unfold pSortTerms
    ir_simp [stermVals_snoc, toSterms_vals]
    generalize pSortTerm c fuel ts = r
    obtain ⟨val, errs, rest⟩ := r
    rcases rest with _ | ⟨t, rest⟩ <;> cases errs <;> cases val <;> simp [ih, stermVals_snoc, toSterms_vals, eofTok]
    all_goals by_cases hc : t.kind = .comma <;> simp [hc, ih, stermVals_snoc, toSterms_vals]

theorem sortOperator_run (c : PCtx) (fuel : Nat) (pipe kw : Token) (ts : List Token) :
    runOp c sortOperatorBody fuel pipe kw ts = .ok (sortBody c fuel pipe.span kw.span ts) := by
  unfold sortBody
  ir_simp [sortOperatorBody, toSterms]
  rcases ts with _ | ⟨b, rest⟩
  · simp [eofTok, PCtx.eof, Span.index, Token.span]
  · by_cases hk : b.kind = .by_ <;> simp [hk, Token.span]
    exact sort_loop c fuel pipe.span ⟨kw.start, b.stop⟩ b kw pipe (rest.length + 1) [] rest (some (b :: rest))

theorem C07_sortOperator_ir (c : PCtx) (fuel : Nat) (pipe kw : Token) (ts : List Token) :
    (runOp c (bodyOf "sortOperator") fuel pipe kw ts).map some =
      .ok (pOperator c (fuel + 1) pipe.span (kwTok "sort" kw) ts) := by
  simp only [bodyOf, sortOperator_ir, Option.map_some, Option.getD_some, sortOperator_run,
    pOperator_sort c fuel _ (kwTok "sort" kw) ts (.inl rfl)]
  rfl

end Pql.OpIR
