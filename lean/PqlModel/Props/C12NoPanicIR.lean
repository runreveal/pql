/-
Property C12 — "for every byte string (valid UTF-8 or not) and every parameter map, Scan, SplitStatements,
Parse, Walk over a successful parse, and Compile return normally: they never panic and never loop
forever" — stated about the INTERPRETATION OF THE TRANSLATED GO CODE.

The interpreters of the regenerated IRs (`Model/*IR.lean`, `Lemmas/Dispatch*.lean`) make Go's failure
modes explicit outcomes: a Go `panic` (nil dereference, index / slice out of range, the `panic` statement,
a method call on the nil interface), `stuck` (IR the interpreter does not understand) and an exhausted loop
budget (`fuel` / `stuck`, depending on the interpreter).  The `…_ir` theorems say "model function =
interpretation"; the totality theorems say the model does not panic.  Here the two are composed, one
theorem per entry point, each for ALL inputs.  `C12_translated_code_never_panics` puts side by side: `Parse` (the
whole statement); of the lexer statement, `SplitStatements` and the switch of `Scan`; of `Walk`, `Compile` and `run`,
the clause "returns normally".  The statements about the callees of `Parse`, `numberOrDot`, `hasJoinTerms`, `Span()`,
`linecol` and the layers and leaves of `Compile` stand beside it, and the loop of `Scan` is
`ScanIR.C12_Scan_ir_no_panic` (Props/C09ScanIR.lean).

WHAT IS A MODEL PRIMITIVE WHERE (not interpreted from a regenerated body):
* in `Parse` (`OpIR.calleeAt`): the expression productions `expr`, `exprList`, `ident`, `rowCount`,
  `sortTerm` are the model's `pExpr`, `pExprList`, `pIdent`, `pRowCount`, `pSortTerm`; `Scan` is `scan`;
  `split` / `splitSemi` / `endSplit` / `next` / `prev` are the model's token-list operations.
  The 16 other productions are called through `calleeAt` with the model's meaning AND have their own
  interpretation theorem (`C12_parse_callees_ir_no_panic`).  So have these five, outside this file: `expr`,
  `exprList`, `ident` in Props/C07ExprIR.lean (tied to `calleeAt` by Props/C07ParserIR.lean under its fuel
  hypothesis), `rowCount`, `sortTerm` in Props/C07OperatorIRTerm.lean (`C07_calleeIR_eq`).
* in `SplitStatements` / `numberOrDot` (`LexIR.prims`): `Scan` (hypothesis `lib.scan = scan`), `strconv`,
  `utf8.DecodeRuneInString` (`decodeRune`).  Of `Scan` the statements here have the switch only, the regenerated
  table interpreted by `Dispatch.interp` (and table interpretations of `ident`, `string`, `quotedIdent`,
  `C09_ident_interp`, …); the loop and these three as statement IRs are Props/C09ScanIR.lean (`C09_Scan_ir`).
* in `Walk` (`AstIR.walkSem`): the visitor is the parameter `v`.
* in `Compile`: see Lemmas/NoPanicIR.lean.  `hasJoinTerms` calls the MODEL `walk` (tied to the regenerated
  loop by `C11_walk_ir`, hence statement 3 for it).  `strings.Builder`, `fmt`, map operations are primitives.
* in `run` (`CliIR.Lib`): `SplitStatements`, `Scan`, `Compile` are parameters; `bufio.Scanner` is the list
  of lines.
-/
import PqlModel.Lemmas.NoPanicIR
import PqlModel.Props.C11WalkIR
import PqlModel.Props.C07OperatorIRParse
import PqlModel.Props.C07OperatorIRTabular
import PqlModel.Props.C12Fuel
import PqlModel.Props.C12
import PqlModel.Props.C15SplitIR
import PqlModel.Props.C09NumberIR
import PqlModel.Props.C09Dispatch
import PqlModel.Props.C16RunIR
import PqlModel.Lemmas.CliSemRun
import PqlModel.Props.C06Placeholders
import PqlModel.Props.C10LinecolIR
import PqlModel.Props.C10Compile
import PqlModel.Props.C10SpanIRNodes
namespace Pql.NoPanic
open Pql
set_option linter.unusedSimpArgs false

/-- **C12 (Parse, translated code).**  For every byte string, the interpretation of the regenerated body
    of `Parse` — `Scan` yielding the model's tokens, the statement loop with `firstParse` as `OpIR.firstOf`
    (which `C07_firstParse_stmt` ties to the regenerated generic body), every
    production called on a statement's sub-parser with the budget `fuelFor` — returns normally with the
    model's statements and errors: no Go panic, not stuck; and no loop budget is exhausted (no error leaf
    is the out-of-fuel leaf). -/
theorem C12_parse_ir_no_panic (src : Bytes) :
    OpIR.runParse src.length (scan src) (OpIR.bodyOf "Parse") = .ok (parse src) ∧
    ∀ e ∈ (parse src).2, e.fuel = false :=
  ⟨OpIR.C07_Parse_ir src, C12.parse_fuel_sufficient_src src⟩

theorem ok_of_map_some {α : Type} {r : OpIR.M α} {x : Option α} (h : r.map some = .ok x) : ∃ a, r = .ok a := by
  cases r with
  | ok a => exact ⟨a, rfl⟩
  | error e => cases h

/-- **C12 (the productions below `Parse`, translated code).**  `Parse` calls `letStatement` and
    `tabularExpr` with `fuelFor n` for a statement of `n` tokens.  With that budget — for every context and
    every token list — each of them, interpreted from its own regenerated body, returns normally, the
    operator loop of `tabularExpr` not running out; and for every budget, pipe and keyword token each of
    the 11 operator methods and 3 element productions returns normally. -/
theorem C12_parse_callees_ir_no_panic (c : PCtx) (ts : List Token) :
    OpIR.runP OpIR.toLet "stmt" c (OpIR.bodyOf "letStatement") (fuelFor ts.length) ts =
        .ok (pLet c (fuelFor ts.length) ts) ∧
    OpIR.runTab c (OpIR.bodyOf "tabularExpr") (fuelFor ts.length - 1) ts = .ok (pTabular c (fuelFor ts.length) ts) ∧
    NoFuel (pLet c (fuelFor ts.length) ts).errs ∧ NoFuel (pTabular c (fuelFor ts.length) ts).errs ∧
    (∀ (fuel : Nat) (pipe kw : Token) (m : String),
      m ∈ ["countOperator", "whereOperator", "takeOperator", "asOperator", "topOperator", "sortOperator",
           "projectOperator", "extendOperator", "summarizeOperator", "renderOperator", "joinOperator"] →
      ∃ r, OpIR.runOp c (OpIR.bodyOf m) fuel pipe kw ts = .ok r) ∧
    (∀ fuel : Nat,
      OpIR.runP OpIR.toColumn "col" c (OpIR.bodyOf "extendColumn") fuel ts = .ok (pNamedColumn c fuel ts) ∧
      OpIR.runP OpIR.toColumn "col" c (OpIR.bodyOf "summarizeColumn") fuel ts = .ok (pNamedColumn c fuel ts) ∧
      OpIR.runP OpIR.toProp "prop" c (OpIR.bodyOf "renderProperty") fuel ts = .ok (pRenderProp c fuel ts)) := by
  have hf : fuelFor ts.length = (fuelFor ts.length - 1) + 1 := by unfold fuelFor; omega
  have h4 : 4 * ts.length ≤ fuelFor ts.length - 1 := by unfold fuelFor; omega
  have hb := C12.C12_statement_fuel_bound c (fuelFor ts.length) ts (C12.C12_fuelFor_ge _)
  refine ⟨OpIR.C07_letStatement_ir c _ ts, ?_, hb.1, hb.2, ?_, fun fuel =>
    ⟨OpIR.C07_extendColumn_ir c fuel ts, OpIR.C07_summarizeColumn_ir c fuel ts, OpIR.C07_renderProperty_ir c fuel ts⟩⟩
  · have := OpIR.C07_tabularExpr_ir_fueled c (fuelFor ts.length - 1) ts h4
    rw [← hf] at this
    exact this
  · intro fuel pipe kw m hm
    simp only [List.mem_cons, List.not_mem_nil, or_false] at hm
    rcases hm with rfl | rfl | rfl | rfl | rfl | rfl | rfl | rfl | rfl | rfl | rfl
    · exact ok_of_map_some (OpIR.C07_countOperator_ir c fuel pipe kw ts)
    · exact ok_of_map_some (OpIR.C07_whereOperator_ir c fuel pipe kw ts)
    · exact ok_of_map_some (OpIR.C07_takeOperator_ir c fuel pipe kw ts)
    · exact ok_of_map_some (OpIR.C07_asOperator_ir c fuel pipe kw ts)
    · exact ok_of_map_some (OpIR.C07_topOperator_ir c fuel pipe kw ts)
    · exact ok_of_map_some (OpIR.C07_sortOperator_ir c fuel pipe kw ts)
    · exact ok_of_map_some (OpIR.C07_projectOperator_ir c fuel pipe kw ts)
    · exact ok_of_map_some (OpIR.C07_extendOperator_ir c fuel pipe kw ts)
    · exact ok_of_map_some (OpIR.C07_summarizeOperator_ir c fuel pipe kw ts)
    · exact ok_of_map_some (OpIR.C07_renderOperator_ir c fuel pipe kw ts)
    · exact ok_of_map_some (OpIR.C07_joinOperator_ir c fuel pipe kw ts)

/-- non-vacuity: `A | join (B) on $left.x == $right.y` parses to one statement without error -/
theorem C12_parse_ir_nonvacuous :
    OpIR.runParse Glue.joinSrc.length (scan Glue.joinSrc) (OpIR.bodyOf "Parse") = .ok ([Glue.joinStmt], []) := by
  rw [(C12_parse_ir_no_panic Glue.joinSrc).1, Glue.joinSrc_parse]

/-- **C12 (lexer, translated code).**  For every byte string `src` (valid UTF-8 or not):
    (a) the regenerated `SplitStatements`, with the model's `scan` for `Scan`, returns normally (every
        `source[start:tok.Span.Start]` in bounds) the model's pieces;
    (b) at every position where the remaining bytes start with a digit or '.' (the positions at which the
        switch of `Scan` selects `numberOrDot`: `Dispatch.C09_dispatch_classes`), the regenerated
        `numberOrDot` — with `numberExponent`, `normalizeNumberValue`, the cursor and span helpers interpreted
        from their own bodies, loop budget `len + 1` — returns normally the model's token and leaves the
        cursor after it;
    (c) at every position the regenerated switch of `Scan` has a meaning (`some`, never an unknown class or
        kind name) and it is the model's step;
    (d) on a non-empty rest that step consumes at least one byte and at most what is left: the loop of `Scan`
        ends after at most `len(src)` iterations. -/
theorem C12_split_ir_no_panic (src : Bytes) :
    (∀ (lib : LexIR.Lib) (h : LexIR.Heap), lib.scan = scan →
      LexIR.interpSplit lib [.str src] h = .ok ([.strs (splitStatements src)], h)) ∧
    (∀ (lib : LexIR.Lib) (pre s : Bytes) (l : Nat), src = pre ++ s →
      (∀ c rest, s = c :: rest → (isDigit c || c == 46) = true) →
      ∃ l' msg, LexIR.numFn lib (s.length + 1) "scanner.numberOrDot" [.scanner] ⟨src, pre.length, l⟩ =
        .ok ([LexIR.lexTok pre.length (scanNumberOrDot s) msg], ⟨src, pre.length + (scanNumberOrDot s).width, l'⟩)) ∧
    (∀ pre s : Bytes, src = pre ++ s → Dispatch.interp s = some (scanOne s)) ∧
    (∀ (pre : Bytes) (c : UInt8) (rest : Bytes), src = pre ++ c :: rest →
      1 ≤ (scanOne (c :: rest)).width ∧ (scanOne (c :: rest)).width ≤ (c :: rest).length) := by
  refine ⟨fun lib h hs => LexIR.C15_split_ir lib hs src h, ?_, fun _ s _ => Dispatch.C09_dispatch_interp s,
    fun _ c rest _ => C12.C12_scan_progress c rest⟩
  intro lib pre s l hsrc hs
  subst hsrc
  exact LexIR.C09_numberOrDot_ir lib (s.length + 1) pre s l (Nat.lt_succ_self _) hs

/-- the positions at which `Scan` calls `numberOrDot`: the regenerated switch selects that case exactly on a
    first byte that is a digit or '.' (bytes ≥ 0x80 decode to runes ≥ 0x80, which reach white space or the
    default) -/
theorem select_numberOrDot (c : UInt8) (rest : Bytes) :
    Dispatch.select Facts.scanCases Facts.scanDefault (decodeRune (c :: rest)).1 = some (.sub "numberOrDot") ↔
      (isDigit c || c == 46) = true := by
  by_cases h : c.toNat < 128
  · rw [decodeRune_ascii c rest h]
    have := (Dispatch.C09_dispatch_classes c.toNat h).2.2.1
    simp only [UInt8.ofNat_toNat] at this
    exact this
  · have hge : 128 ≤ c.toNat := by omega
    rw [Dispatch.select_nonascii _ (Dispatch.decodeRune_rune_ge c rest hge)]
    constructor
    · intro hs
      split at hs <;> cases hs
    · intro hd
      exfalso
      simp only [Bool.or_eq_true, beq_iff_eq] at hd
      rcases hd with hd | hd
      · simp only [isDigit, inRanges, Facts.isDigitRanges, List.any_cons, List.any_nil, Bool.or_false,
          Bool.and_eq_true, decide_eq_true_eq] at hd
        omega
      · subst hd
        exact absurd hge (by decide)

/-- clause (b) of `C12_split_ir_no_panic` in terms of the switch: wherever `Scan` hands over to `numberOrDot`, the regenerated
    `numberOrDot` returns normally -/
theorem C12_numberOrDot_ir_no_panic (lib : LexIR.Lib) (pre : Bytes) (c : UInt8) (rest : Bytes) (l : Nat)
    (hsel : Dispatch.select Facts.scanCases Facts.scanDefault (decodeRune (c :: rest)).1 = some (.sub "numberOrDot")) :
    ∃ l' msg, LexIR.numFn lib ((c :: rest).length + 1) "scanner.numberOrDot" [.scanner] ⟨pre ++ c :: rest, pre.length, l⟩ =
      .ok ([LexIR.lexTok pre.length (scanNumberOrDot (c :: rest)) msg],
        ⟨pre ++ c :: rest, pre.length + (scanNumberOrDot (c :: rest)).width, l'⟩) := by
  refine LexIR.C09_numberOrDot_ir lib _ pre (c :: rest) l (Nat.lt_succ_self _) ?_
  intro c' rest' h
  injection h with h1 _
  subst h1
  exact (select_numberOrDot c rest).1 hsel

/-- the hypothesis `lib.scan = scan` of clause (a) of `C12_split_ir_no_panic` is needed for "no panic": with a `Scan`
    whose spans are out of order `SplitStatements` panics.  (The hypothesis "starts with a digit or '.'" of clause (b)
    is needed for the stated result only, `LexIR.C09_numberOrDot_ir_needs_start`: on "a" the Go function returns an
    error token and un-reads it, a normal return, and `Scan` never makes the call, `C09_dispatch_classes`.) -/
theorem C12_split_ir_needs_scan :
    ∃ (lib : LexIR.Lib) (src : Bytes) (h : LexIR.Heap), LexIR.interpSplit lib [.str src] h = .error .panic := by
  obtain ⟨lib, src, h, hp, _⟩ := LexIR.C15_split_ir_needs_order
  exact ⟨lib, src, h, hp⟩

/-- non-vacuity of clause (b) of `C12_split_ir_no_panic`: the suffix "0x1F+" of "ab 0x1F+"… and, computed by the interpreter, a hex literal -/
theorem C12_split_ir_nonvacuous :
    (∀ c rest, Bytes.ofString "0x1F+" = c :: rest → (isDigit c || c == 46) = true) ∧
    ∃ l' msg, LexIR.numFn ⟨scan, fun _ _ => 0⟩ 6 "scanner.numberOrDot" [.scanner] ⟨Bytes.ofString "ab 0x1F+", 3, 0⟩ =
      .ok ([LexIR.lexTok 3 (scanNumberOrDot (Bytes.ofString "0x1F+")) msg], ⟨Bytes.ofString "ab 0x1F+", 3 + 4, l'⟩) := by
  have hs : ∀ c rest, Bytes.ofString "0x1F+" = c :: rest → (isDigit c || c == 46) = true := by
    intro c rest h
    have hb : Bytes.ofString "0x1F+" = [48, 120, 49, 70, 43] := by decide
    rw [hb] at h
    have : c = 48 := by injection h with h1 _; exact h1.symm
    subst this
    decide
  refine ⟨hs, ?_⟩
  have := (C12_split_ir_no_panic (Bytes.ofString "ab 0x1F+")).2.1 ⟨scan, fun _ _ => 0⟩ (Bytes.ofString "ab ")
    (Bytes.ofString "0x1F+") 0 (by decide) hs
  exact this

theorem walk_ir_ok (v : Nat → Node → Bool) (n : Node) (h : NoPanic n) :
    ∃ r w, AstIR.interpWalk v n = .ok r w ∧ w.events = AstIR.walkV v n ∧ WalkEvent.panic ∉ w.events := by
  have ht := AstIR.C11_walk_ir v n
  have hnp := AstIR.walkV_noPanic v n h
  cases hi : AstIR.interpWalk v n with
  | ok r w =>
    rw [hi] at ht
    simp only [AstIR.Out.trace, Option.some.injEq] at ht
    exact ⟨r, w, rfl, ht, by rw [ht]; exact hnp⟩
  | panic w =>
    rw [hi] at ht
    simp only [AstIR.Out.trace, Option.some.injEq] at ht
    exact absurd (by rw [← ht]; simp) hnp
  | stuck =>
    rw [hi] at ht
    cases ht

/-- **C12 (Walk, translated code).**  For every source that parses without error, every statement of the
    program and every visitor (its answers may depend on the node and on the number of the call): the
    interpretation of the regenerated loop of `Walk` — pop, type switch, visitor call, pushes, the default
    `panic` — returns normally (not the `panic` statement, no nil dereference, not stuck, the loop budget
    `size + 1` not exhausted), and the trace of events contains no panic event. -/
theorem C12_walk_ir_no_panic (src : Bytes) (stmts : List Stmt) (h : parse src = (stmts, []))
    (s : Stmt) (hs : s ∈ stmts) (v : Nat → Node → Bool) :
    ∃ r w, AstIR.interpWalk v (Node.ofStmt s) = .ok r w ∧
      (AstIR.interpWalk v (Node.ofStmt s)).trace = some w.events ∧ WalkEvent.panic ∉ w.events := by
  have hc : Complete (Node.ofStmt s) := C11.C11_parsed_complete _ _ stmts h s hs
  obtain ⟨r, w, h1, _, h3⟩ := walk_ir_ok v _ hc.noPanic
  exact ⟨r, w, h1, by rw [h1]; rfl, h3⟩

/-- **C12 (`hasJoinTerms`, the use of `Walk` inside `Compile`).**  For every source that parses without
    error, every join operator anywhere in it and every sub-expression `x` of the join condition the
    compiler writes in join mode (these are all the arguments of `hasJoinTerms`): the regenerated
    `hasJoinTerms` returns normally the model's answer, and the interpreted `Walk` on `x` returns normally
    for every visitor. -/
theorem C12_hasJoinTerms_ir_no_panic (src : Bytes) (stmts : List Stmt) (h : parse src = (stmts, []))
    (s : Stmt) (hs : s ∈ stmts) (p k kind ka : Span) (fl : Option Ident) (lp : Span) (right : Tabular)
    (rp on : Span) (conds : ExprList)
    (hj : Node.op (.join p k kind ka fl lp right rp on conds) ∈ allNodes (Node.ofStmt s))
    (x : Expr) (hx : Node.expr x ∈ allNodes (.expr (buildJoinCondition conds))) :
    ExprIR.interpHasJoinTerms x = .ok (hasJoinTerms x) ∧
    ∀ v : Nat → Node → Bool, ∃ r w, AstIR.interpWalk v (.expr x) = .ok r w ∧ WalkEvent.panic ∉ w.events := by
  have hn := (Glue.C11_parsed_join_conditions src stmts h s hs p k kind ka fl lp right rp on conds hj x hx).1
  refine ⟨ExprIR.C01_hasJoinTerms_ir x ((noPanic_expr_iff x).1 hn), fun v => ?_⟩
  obtain ⟨r, w, h1, _, h3⟩ := walk_ir_ok v _ hn
  exact ⟨r, w, h1, h3⟩

/-- the hypothesis "produced by an error-free parse" is needed: on `<nil> == $left.x` (a tree with a nil
    operand, which the parser never builds) the interpreted `Walk` ends in a panic, and so does the
    regenerated `hasJoinTerms` (`C01_hasJoinTerms_ir_needs_good`) -/
theorem C12_walk_ir_needs_parse :
    (AstIR.interpWalk (fun _ _ => true) (.expr Glue.nilEq)).trace = some [.visit "BinaryExpr" ⟨0, 7⟩, .panic] ∧
    ExprIR.interpHasJoinTerms Glue.nilEq = .error (.go .panic) := by
  refine ⟨?_, ExprIR.C01_hasJoinTerms_ir_needs_good.1⟩
  rw [AstIR.C11_walk_ir]
  decide

/-- non-vacuity: the statement of `A | join (B) on $left.x == $right.y`, and the operand `$left.x` -/
theorem C12_walk_ir_nonvacuous :
    parse Glue.joinSrc = ([Glue.joinStmt], []) ∧
    (∃ r w, AstIR.interpWalk (fun _ _ => true) (Node.ofStmt Glue.joinStmt) = .ok r w ∧ w.events.length = 14) ∧
    ExprIR.interpHasJoinTerms Glue.joinL = .ok (true, false) := by
  refine ⟨Glue.joinSrc_parse, ?_, ?_⟩
  · have hc : Complete (Node.ofStmt Glue.joinStmt) :=
      C11.C11_parsed_complete _ _ _ Glue.joinSrc_parse Glue.joinStmt (by simp)
    obtain ⟨r, w, h1, h2, _⟩ := walk_ir_ok (fun _ _ => true) _ hc.noPanic
    refine ⟨r, w, h1, ?_⟩
    rw [h2]
    decide
  · obtain ⟨_, hjn, _, hl, _, hv, _⟩ := Glue.C11_parsed_join_conditions_nonvacuous
    have := (C12_hasJoinTerms_ir_no_panic Glue.joinSrc _ Glue.joinSrc_parse Glue.joinStmt (by simp) _ _ _ _ _ _ _ _ _ _
      hjn Glue.joinL hl).1
    rw [this, hv]

theorem not_nilIface_of_ne {m : Node} (h : m ≠ .expr .nil) : (AstIR.GNode.node m).isNilIface = false :=
  Bool.eq_false_iff.2 fun hn => h (AstIR.GNode.node.inj ((AstIR.nilIface_iff _).1 hn))

/-- **C12 (`Span()` on what `Walk` hands to the visitor, translated code).**  For every source that parses
    without error and every node of every statement (every node a visitor can be called with): the
    interpretation of `n.Span()` — dynamic dispatch through the regenerated tables, `nodeSpan`,
    `nodeSliceSpan`, `unionSpans` interpreted — returns normally the model's span, with a recursion budget
    equal to the size of the node. -/
theorem C12_span_ir_no_panic (src : Bytes) (stmts : List Stmt) (h : parse src = (stmts, []))
    (s : Stmt) (hs : s ∈ stmts) (m : Node) (hm : m ∈ allNodes (Node.ofStmt s)) :
    AstIR.interpSpan m.size (.node m) = pure (AstIR.GNode.node m).span := by
  have hc : Complete (Node.ofStmt s) := C11.C11_parsed_complete _ _ stmts h s hs
  have hn : NoPanic m := noPanic_allNodes hc.noPanic m hm
  exact AstIR.C10_spanOf_ir m.size (.node m) (not_nilIface_of_ne hn.ne_nil) (Nat.le_refl _)

/-- needed: a method call on the nil interface panics (`AstIR.C10_spanOf_ir_nil_iface`) -/
theorem C12_span_ir_needs_parse (fuel : Nat) :
    AstIR.interpSpan (fuel + 1) (.node (.expr .nil)) = AstIR.goPanic := rfl

/-- **C12 (`linecol`, translated code, on every position an error message formats).**  For every source:
    (a) every error leaf of `Parse` that carries a span: the regenerated `linecol` of parser/parser.go on its
        start returns normally (`source[:pos]` in bounds);
    (b) if the source parses without error: for every statement, the regenerated `linecol` of pql.go on the
        start of the statement's span ("batch queries not supported") and of every join flavour identifier
        ("unhandled join type") returns normally.  (The spans of identifiers and calls below expressions:
        `Glue.C10_compile_error_linecol`, same bound.) -/
theorem C12_linecol_ir_no_panic (lib : LexIR.Lib) (src : Bytes) (h : LexIR.Heap) :
    (∀ e ∈ (parse src).2, ∀ sp, e.span = some sp →
      LexIR.interpLinecolParser lib [.str src, .int sp.start.toNat] h =
        .ok ([.int (linecol src sp.start.toNat).1, .int (linecol src sp.start.toNat).2], h)) ∧
    (∀ stmts, parse src = (stmts, []) → ∀ s ∈ stmts,
      LexIR.interpLinecolPql lib [.str src, .int s.spanOf.start.toNat] h =
        .ok ([.int (linecol src s.spanOf.start.toNat).1, .int (linecol src s.spanOf.start.toNat).2], h) ∧
      ∀ f ∈ Glue.stmtFlavors s,
        LexIR.interpLinecolPql lib [.str src, .int f.span.start.toNat] h =
          .ok ([.int (linecol src f.span.start.toNat).1, .int (linecol src f.span.start.toNat).2], h)) := by
  constructor
  · intro e he sp hsp
    have := C10.C10_error_spans_inside src e he sp hsp
    exact LexIR.C10_linecol_ir lib src _ h (by omega)
  · intro stmts hp s hs
    obtain ⟨h1, h2⟩ := Glue.parsed_stmt_spans src stmts hp s hs
    refine ⟨LexIR.C10_linecol_pql_ir lib src _ h (Glue.errSpanOK_linecol src _ h1).2.1, fun f hf => ?_⟩
    exact LexIR.C10_linecol_pql_ir lib src _ h (Glue.errSpanOK_linecol src _ (h2 f hf)).2.1

/-- needed: a position after the end of the source makes the regenerated `linecol` panic -/
theorem C12_linecol_ir_needs_inside (lib : LexIR.Lib) (h : LexIR.Heap) :
    LexIR.interpLinecolParser lib [.str [], .int 1] h = .error .panic :=
  LexIR.C10_linecol_ir_panics lib [] 1 h (by decide)

/-- **C12 (Compile, translated code).**  For every order `ord` in which Go may visit the parameter map,
    every options value (nil, or with any parameter list) and every byte string: the interpretation of the
    regenerated `Compile` — front part with the let-mode expression writers interpreted down to
    `writeExpression`, `hasJoinTerms` and the `write*Function`s, then the regenerated statement assembly —
    returns SQL or a Go ERROR; it never reaches a Go panic and is never stuck.  With the list order it is
    exactly the model's result. -/
theorem C12_compile_ir_no_panic (ord : List (Bytes × Bytes) → List (Bytes × Bytes))
    (opts : Option (List (Bytes × Bytes))) (src : Bytes) :
    ((∃ sql, ExprIR.interpCompile ord opts src = .ok sql) ∨ ExprIR.interpCompile ord opts src = .error (.go .err)) ∧
    ExprIR.interpCompile ord opts src ≠ .error (.go .panic) ∧
    ExprIR.interpCompile ord opts src ≠ .error .stuck ∧
    ExprIR.interpCompile List.reverse opts src = ExprIR.resultM (compile (opts.getD []) src) ∧
    compile (opts.getD []) src ≠ .panic :=
  have h := interpCompile_safe ord opts src
  ⟨h, h.ne_panic, h.ne_stuck, ExprIR.C06_compile_ir opts src, (C13.C13_exact_source _ src).2.2⟩

/-- **C12 (the callees of `Compile` that enter `interpCompile` as model functions, from their own IRs).**
    For every source that parses without error, every initial scope, and the query `t` and scope the
    statement loop leaves:
    (a) `splitQueries` / `chainSubquery`: the regenerated IR on the empty heap returns normally, and its
        result read through the heap is the model's, which is what `interpCompile` was given;
    (b) for the subqueries it returns: the regenerated `(*subquery).write` returns normally on each and is
        the model function the assembly was given; the regenerated assembly returns normally;
    (c) `writeExpression`, given to `(*subquery).write` as the model's `writeExpr`, is outside join mode
        the interpretation of its own regenerated body on EVERY expression;
    (d) for every join operator anywhere in the program: `buildJoinCondition` interpreted returns the
        model's condition, and `writeExpression` interpreted in join mode on it is the `writeExpr`
        primitive of the split interpreter. -/
theorem C12_compile_layers_ir_no_panic (src : Bytes) (stmts : List Stmt) (hp : parse src = (stmts, []))
    (scope0 scope : List (Bytes × List Chunk)) (t : Tabular)
    (hc : compileStmts src stmts scope0 none = .ok (scope, some t)) :
    (SafeS (SplitIR.interpSplit src scope #[] [] t) ∧
      (SplitIR.interpSplit src scope #[] [] t).map (fun r => SplitImp.abs r.1 r.2) =
        SplitIR.liftW (splitQueries src scope [] t) ∧
      ExprIR.splitModel src scope t = WriteIR.liftW (splitQueries src scope [] t)) ∧
    (∀ subs, splitQueries src scope [] t = .ok subs →
      (∀ sub ∈ subs,
        WriteIR.interpWrite WriteIR.modelSem ⟨src, scope, .default⟩ sub =
          WriteIR.liftW (WriteIR.modelSem.subWrite ⟨src, scope, .default⟩ sub) ∧
        SafeW (WriteIR.interpWrite WriteIR.modelSem ⟨src, scope, .default⟩ sub)) ∧
      SafeW (WriteIR.interpAssembly WriteIR.modelSem src scope subs)) ∧
    (∀ (c : Ctx) (e : Expr), c.mode ≠ .join →
      ExprIR.interpWriteExpression c e = WriteIR.liftW (WriteIR.modelSem.writeExpression c e)) ∧
    (∀ (s : Stmt), s ∈ stmts → ∀ (p k kind ka : Span) (fl : Option Ident) (lp : Span) (right : Tabular)
      (rp on : Span) (conds : ExprList),
      Node.op (.join p k kind ka fl lp right rp on conds) ∈ allNodes (Node.ofStmt s) →
      ∀ sc : List (Bytes × List Chunk),
        JoinCondIR.interpBuild conds = .ok (buildJoinCondition conds) ∧
        ExprIR.interpWriteExpression ⟨src, sc, .join⟩ (buildJoinCondition conds) =
          WriteIR.liftW (writeExpr ⟨src, sc, .join⟩ (buildJoinCondition conds))) := by
  have hm := WriteInv.compileStmts_query_mem src hc
  refine ⟨split_ir_safe src stmts hp t hm scope, fun subs hsq => ⟨write_ir_safe src stmts hp scope0 scope t hc subs hsq,
    (assembly_ir_safe src stmts hp scope0 scope t hc subs hsq).2⟩,
    fun c e hm => ExprIR.C01_writeExpression_ir_nonjoin c e hm,
    fun s hs p k kind ka fl lp right rp on conds hj sc =>
      join_condition_ir src stmts hp s hs p k kind ka fl lp right rp on conds hj sc⟩

theorem ok_of_map_ok {α β : Type} {r : WriteIR.M α} {f : α → β} {y : β} (h : r.map f = .ok y) :
    ∃ a, r = .ok a ∧ f a = y := by
  cases r with
  | ok a => exact ⟨a, rfl, by injection h⟩
  | error e => cases h

theorem parsed_source_some (src : Bytes) (stmts : List Stmt) (hp : parse src = (stmts, []))
    (s : Stmt) (hs : s ∈ stmts) (source : Option Ident) (ops : OpList)
    (hm : Node.tabular (.mk source ops) ∈ allNodes (Node.ofStmt s)) : source.isSome = true := by
  have hc : Complete (Node.ofStmt s) := C11.C11_parsed_complete _ _ stmts hp s hs
  have hne : source ≠ none := ((complete_tabular_iff _).1 (complete_allNodes hc _ hm)).1
  cases source with
  | none => exact absurd rfl hne
  | some i => rfl

/-- **C12 (the leaf functions of the writer layer, translated code)** — primitives of the split and write
    interpreters, each from its own regenerated body: `quoteIdentifier` and `quoteSQLString` on every
    string, `subqueryName` on every index return normally the model's bytes; `dataSourceSQL` returns
    normally on the source of every pipeline of a parsed program (`C05_dataSource_needs_table`: on a
    `*TableRef` without table, which the parser never builds, it panics). -/
theorem C12_compile_leaves_ir_no_panic :
    (∀ name : Bytes, ∃ cs, WriteIR.interpQuote "quoteIdentifier" "name" name = .ok cs ∧
      renderChunks cs = quoteIdentifier name) ∧
    (∀ str : Bytes, ∃ cs, WriteIR.interpQuote "quoteSQLString" "s" str = .ok cs ∧
      renderChunks cs = quoteSQLString str) ∧
    (∀ i : Nat, ∃ cs, WriteIR.interpSubqueryName i = .ok cs ∧ renderChunks cs = subqueryName i) ∧
    (∀ (src : Bytes) (stmts : List Stmt), parse src = (stmts, []) → ∀ s ∈ stmts, ∀ (source : Option Ident) (ops : OpList),
      Node.tabular (.mk source ops) ∈ allNodes (Node.ofStmt s) →
      WriteIR.interpDataSource source = .ok [.qid (identName source)]) ∧
    WriteIR.interpDataSource none = .error (.go .panic) :=
  ⟨fun name => ok_of_map_ok (WriteIR.C05_quoteIdentifier_ir name),
   fun str => ok_of_map_ok (WriteIR.C05_quoteSQLString_ir str),
   fun i => ok_of_map_ok (WriteIR.C05_subqueryName_ir i),
   fun src stmts hp s hs source ops hm =>
     WriteIR.C05_dataSource_ir source (parsed_source_some src stmts hp s hs source ops hm),
   WriteIR.C05_dataSource_needs_table.1⟩

/-- the hypothesis "the tree was produced by an error-free parse" of the layer statements is needed: a
    project column without a name (the parser never builds one) makes the regenerated
    `(*subquery).write` panic (`WriteIR.C05_write_project_needs_names`), a nil `*TabularExpr` makes the
    regenerated `splitQueries` panic, `<nil> == $left.x` the regenerated `writeExpression` in join mode
    (`ExprIR.C01_writeExpression_ir_needs_good`) -/
theorem C12_compile_layers_need_parse :
    (∃ sub : Subquery, WriteIR.interpWrite WriteIR.modelSem ⟨[], [], .default⟩ sub = .error (.go .panic)) ∧
    SplitIR.interpSplit [] [] #[] [] .nil = .error (.go .panic) ∧
    ExprIR.interpWriteExpression ExprIR.joinCtx Glue.nilEq = .error (.go .panic) :=
  ⟨⟨_, WriteIR.C05_write_project_needs_names.1⟩, by rw [SplitIR.C02_split_ir]; rfl,
   ExprIR.C01_writeExpression_ir_needs_good.1⟩

/-- non-vacuity: `let m = lim; T | where a >= m and k != kk | project k, a, nm | take 2` with three
    parameters compiles: the interpretation returns SQL -/
theorem C12_compile_ir_nonvacuous :
    ∃ sql, compile E2EMore.PhEx.exParams E2EMore.PhEx.exSrc = .ok sql ∧
      ExprIR.interpCompile List.reverse (some E2EMore.PhEx.exParams) E2EMore.PhEx.exSrc = .ok sql := by
  refine ⟨_, E2EMore.PhEx.ex_text, ?_⟩
  rw [ExprIR.C06_compile_ir]
  show ExprIR.resultM (compile E2EMore.PhEx.exParams E2EMore.PhEx.exSrc) = _
  rw [E2EMore.PhEx.ex_text]
  rfl

/-- non-vacuity of the layer statement: the join program; two subqueries -/
theorem C12_compile_layers_nonvacuous :
    parse Glue.joinSrc = ([Glue.joinStmt], []) ∧
    ∃ t subs, compileStmts Glue.joinSrc [Glue.joinStmt] [] none = .ok ([], some t) ∧
      splitQueries Glue.joinSrc [] [] t = .ok subs ∧ subs.length = 2 :=
  ⟨Glue.joinSrc_parse, _, _, rfl, rfl, rfl⟩

/-- `pql.Compile(src)` (nil options) as the interpretation of the translated `Compile` -/
def compileIR (src : Bytes) : Option Bytes := (ExprIR.interpCompile List.reverse none src).toOption

/-- … which is the real compile model the C16 theorems use -/
theorem compileIR_eq : compileIR = CliSem.compileCli := by
  funext src
  unfold compileIR CliSem.compileCli
  rw [ExprIR.C06_compile_ir]
  show (ExprIR.resultM (compile [] src)).toOption = _
  cases compile [] src <;> rfl

/-- **C12 (cmd/pql `run`, translated code).**  For every list of input lines and both values of the
    read-error flag, the interpretation of the regenerated body of `run` — `SplitStatements` and `Scan` the
    model's functions (tied to their translations by statement 2), `pql.Compile` the interpretation of the
    translated `Compile` — returns normally: no panic (`w[len(w)-1]`, `tokens[0]` in bounds), not stuck; its
    observables are the model's with the real compile model.  The same holds for ANY `compile` function. -/
theorem C12_cli_ir_no_panic (lines : List Bytes) (readErr : Bool) :
    (∃ o, CliIR.interpRun (CliIR.modelLib compileIR) lines readErr = .ok o ∧
      o.result = cliRun CliSem.compileCli lines readErr) ∧
    ∀ compile : Bytes → Option Bytes, ∃ o, CliIR.interpRun (CliIR.modelLib compile) lines readErr = .ok o ∧
      o.result = cliRun compile lines readErr := by
  have hall : ∀ compile : Bytes → Option Bytes, ∃ o, CliIR.interpRun (CliIR.modelLib compile) lines readErr = .ok o ∧
      o.result = cliRun compile lines readErr := by
    intro compile
    refine ⟨_, CliIR.interpRun_eq compile lines readErr, CliIR.runOutcome_result compile lines readErr⟩
  refine ⟨?_, hall⟩
  obtain ⟨o, h1, h2⟩ := hall compileIR
  exact ⟨o, h1, by rw [h2, compileIR_eq]⟩

/-- non-vacuity: an edited body does reach the failure modes (`CliIR.empty_slice_panics`,
    `CliIR.no_return_stuck`); one line `T;` runs -/
theorem C12_cli_ir_nonvacuous :
    ∃ o, CliIR.interpRun (CliIR.modelLib compileIR) [Bytes.ofString "T;"] false = .ok o :=
  let ⟨o, h, _⟩ := (C12_cli_ir_no_panic [Bytes.ofString "T;"] false).1
  ⟨o, h⟩

/-- **C12: the translated code never panics.**  The five statements together, each for all inputs. -/
theorem C12_translated_code_never_panics :
    -- 1 Parse
    (∀ src : Bytes, OpIR.runParse src.length (scan src) (OpIR.bodyOf "Parse") = .ok (parse src) ∧
      ∀ e ∈ (parse src).2, e.fuel = false) ∧
    -- 2 SplitStatements; the switch of Scan
    (∀ (src : Bytes) (lib : LexIR.Lib) (h : LexIR.Heap), lib.scan = scan →
      LexIR.interpSplit lib [.str src] h = .ok ([.strs (splitStatements src)], h)) ∧
    (∀ s : Bytes, Dispatch.interp s = some (scanOne s)) ∧
    -- 3 Walk over a successful parse
    (∀ (src : Bytes) (stmts : List Stmt), parse src = (stmts, []) → ∀ s ∈ stmts, ∀ v : Nat → Node → Bool,
      ∃ r w, AstIR.interpWalk v (Node.ofStmt s) = .ok r w ∧ WalkEvent.panic ∉ w.events) ∧
    -- 4 Compile
    (∀ (ord : List (Bytes × Bytes) → List (Bytes × Bytes)) (opts : Option (List (Bytes × Bytes))) (src : Bytes),
      (∃ sql, ExprIR.interpCompile ord opts src = .ok sql) ∨ ExprIR.interpCompile ord opts src = .error (.go .err)) ∧
    -- 5 cmd/pql
    (∀ (lines : List Bytes) (readErr : Bool),
      ∃ o, CliIR.interpRun (CliIR.modelLib compileIR) lines readErr = .ok o) :=
  ⟨C12_parse_ir_no_panic,
   fun src => (C12_split_ir_no_panic src).1,
   Dispatch.C09_dispatch_interp,
   fun src stmts h s hs v =>
     let ⟨r, w, h1, _, h3⟩ := C12_walk_ir_no_panic src stmts h s hs v
     ⟨r, w, h1, h3⟩,
   fun ord opts src => (C12_compile_ir_no_panic ord opts src).1,
   fun lines readErr =>
     let ⟨o, h, _⟩ := (C12_cli_ir_no_panic lines readErr).1
     ⟨o, h⟩⟩

end Pql.NoPanic
