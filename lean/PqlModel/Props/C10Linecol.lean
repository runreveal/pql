/-
Property C10 — "line:column prefixes of error messages point into the source".

`linecol src pos` (both Go copies) walks the *runes* of `src[:pos]`.  The theorems below state the
result in terms of the bytes of that prefix, for every byte string (valid UTF-8 or not) and every offset
(for `pos > len(src)` Go's `source[:pos]` panics and the model's `take` is the whole source: there the
theorems speak of the model; the positions `Compile` passes are in range, `errSpanOK_linecol`):

* the line is one more than the number of newline bytes before `pos`: a newline byte is never
  swallowed by a multi-byte rune step (`count_newline_step` of Lemmas/LinecolLemmas.lean, which the
  proof uses; `C10_rune_no_ascii_inside` below states the same decoder fact on its own), and a rune
  cut by `take pos` decodes as RuneError of width 1, which is covered too;
* the column is at least 1;
* the result depends only on `src[:pos]`, and the line is monotone in `pos`.
-/
import PqlModel.Lemmas.LinecolLemmas
namespace Pql.C10
open Pql

/-- **C10 (decoder fact).** When `decodeRune` consumes more than one byte, none of the consumed
    bytes is ASCII; in particular a newline byte is always a rune of its own. -/
theorem C10_rune_no_ascii_inside (s : Bytes) (hw : 1 < (decodeRune s).2) :
    ∀ x ∈ s.take (decodeRune s).2, 0x80 ≤ x.toNat := by
  cases s with
  | nil => simp [decodeRune] at hw
  | cons c rest =>
    obtain ⟨y, hy, hlen, hge⟩ := decodeRune_block c rest
    intro x hx
    rw [← hlen, hy, List.take_succ_cons, List.take_left' rfl] at hx
    rcases List.mem_cons.mp hx with rfl | hx
    · -- the lead byte: if it were ASCII the width would be 1
      exact Nat.le_of_not_lt fun h => by rw [decodeRune_ascii_width x rest h] at hw; omega
    · exact hge x hx

/-- **C10 (line).** The line `linecol` reports is 1 + the number of newline bytes (10) in
    `src[:pos]`. -/
theorem C10_linecol_line (src : Bytes) (pos : Nat) :
    (linecol src pos).1 = 1 + (src.take pos).count 10 := by
  unfold linecol
  exact linecolRunes_line _ _ 1 1 (Nat.lt_succ_self _)

/-- **C10 (column).** The column `linecol` reports is at least 1. -/
theorem C10_linecol_col_pos (src : Bytes) (pos : Nat) : 1 ≤ (linecol src pos).2 := by
  unfold linecol
  exact linecolRunes_col_pos _ _ 1 1 (Nat.le_refl 1)

/-- **C10 (line within the source).** The reported line is between 1 and the number of lines of
    the source (1 + its newline bytes). -/
theorem C10_linecol_line_bounds (src : Bytes) (pos : Nat) :
    1 ≤ (linecol src pos).1 ∧ (linecol src pos).1 ≤ 1 + src.count 10 := by
  rw [C10_linecol_line]
  have : (src.take pos).count 10 ≤ src.count 10 := (List.take_sublist pos src).count_le 10
  omega

/-- **C10 (prefix).** `linecol` depends only on `src[:pos]`, and the line is monotone in `pos`. -/
theorem C10_linecol_prefix (src : Bytes) (pos : Nat) :
    (∀ src' : Bytes, src'.take pos = src.take pos → linecol src' pos = linecol src pos) ∧
    (∀ pos', pos ≤ pos' → (linecol src pos).1 ≤ (linecol src pos').1) := by
  constructor
  · intro src' h
    unfold linecol
    rw [h]
  · intro pos' hle
    rw [C10_linecol_line, C10_linecol_line]
    have hpre : src.take pos = (src.take pos').take pos := by
      rw [List.take_take, Nat.min_eq_left hle]
    have : (src.take pos).count 10 ≤ (src.take pos').count 10 := by
      rw [hpre]
      exact (List.take_sublist pos (src.take pos')).count_le 10
    omega

-- "a\n\tb" at offset 3 is line 2, column 9; a cut 3-byte rune
#guard linecol [97, 10, 9, 98] 3 = (2, 9)
#guard linecol [0xE2, 0x80, 10, 97] 4 = (2, 2)
#guard linecol [0xE2, 0x80, 0xA8, 10, 97] 2 = (1, 3)

end Pql.C10
