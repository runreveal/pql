/-
Properties C02 ("tabular operators take effect strictly in pipeline order", structural clauses)
and C05 (naming / reading clauses) as invariants of the model's `splitOps` / `splitQueries`,
for EVERY operator list of any length and nesting (joins recurse into `splitQueries`).

How it is proved: `SplitQ.splitOps_run` / `SplitQ.splitQueries_run` (mutual structural induction
over `Tabular` / `OpList`) turn any successful run into the relation `SplitQ.Run`
(Lemmas/SplitQueriesRun.lean); every invariant below is an induction over `Run`
(Lemmas/SplitQueriesInv.lean, SplitQueriesClauses.lean, SplitQueriesBlock.lean).

Within one subquery `Subquery.write` always prints  body-of-`op`  ORDER BY `sort`  LIMIT `take`,
so the order of evaluation inside one SELECT is source → op → sort → take; that is the reading
`SplitQ.subClauses`.
-/
import PqlModel.Lemmas.SplitQueriesInv
import PqlModel.Lemmas.SplitQueriesClauses
import PqlModel.Lemmas.SplitQueriesBlock
import PqlModel.Props.C05

namespace Pql.SplitQ
open Pql

/-- the operators that rename or fix the columns: those `canAttachSort` refuses (`canAttachSort_some`;
    the regenerated table is `Facts.canAttachSortFalse`) -/
def renames : Op → Bool
  | .as_ .. | .project .. | .render .. | .summarize .. => true
  | _ => false

theorem canAttachSort_some (o : Op) : canAttachSort (some o) = !renames o := by
  cases o <;> rfl

/-- **The well-formedness of the subquery list** while the operator loop of the pipeline
    `source | …` runs with start index `dstStart`. -/
structure DstInv (source : Option Ident) (dstStart : Nat) (dst : List Subquery) : Prop where
  /-- the list only grows (C05): it never shrinks below where the pipeline started -/
  start_le : dstStart ≤ dst.length
  /-- sort placement (C02): ORDER BY / LIMIT only on a SELECT whose operator `canAttachSort` accepts -/
  sort_ok : ∀ s ∈ dst, SortOk s
  /-- names by index (C05): the subquery at index `i` is named `__subquery{i}` unless renamed by `as` -/
  names : NamesOk dst
  /-- who reads whom (C05): the subqueries of this pipeline (from `dstStart` on) form a block: each
      reads the previous one (the first the base table); a join is preceded by the complete block of
      its right-hand side and reads the subquery in front of that block and its last one.
      (`Block true`: join subqueries allowed; `Block false` describes join-free pipelines.) -/
  block : Block true source (dst.drop dstStart)

theorem DstInv.empty (source : Option Ident) : DstInv source 0 [] :=
  ⟨Nat.le_refl _, by simp, fun i hi => by simp at hi, Block.nil⟩

theorem DstInv.start {source : Option Ident} {dst : List Subquery} (h1 : ∀ s ∈ dst, SortOk s)
    (h3 : NamesOk dst) : DstInv source dst.length dst :=
  ⟨Nat.le_refl _, h1, h3, by simpa using Block.nil⟩

/-- **`splitOps` preserves the invariant** (any operator list, any nesting); the subqueries in
    front of `dstStart` are untouched and the list does not shrink. -/
theorem splitOps_preserves (src : Bytes) (scope : List (Bytes × List Chunk)) (source : Option Ident)
    (dstStart : Nat) (dst out : List Subquery) (ops : OpList)
    (h : splitOps src scope source dstStart dst ops = .ok out) (inv : DstInv source dstStart dst) :
    DstInv source dstStart out ∧ out.take dstStart = dst.take dstStart ∧ dst.length ≤ out.length := by
  have hrun := splitOps_run src scope ops source dstStart dst out h
  have hlen : (dst.take dstStart).length = dstStart := by simp [inv.start_le]
  obtain ⟨blk', hout, hblk⟩ := run_block (joins := true) hrun (.inr rfl) (dst.take dstStart) (dst.drop dstStart)
    (List.take_append_drop _ _).symm hlen inv.block
  have hgrow := run_grows hrun
  have hdrop : out.drop dstStart = blk' := by
    rw [hout]; exact List.drop_left' hlen
  have htake : out.take dstStart = dst.take dstStart := by
    rw [hout]; exact List.take_left' hlen
  exact ⟨⟨Nat.le_trans inv.start_le hgrow.2, run_sortOk hrun inv.sort_ok, run_namesOk hrun inv.names,
    hdrop ▸ hblk⟩, htake, hgrow.2⟩

/-- **`splitQueries` preserves the invariant**: called on a list satisfying the clauses `sort_ok` and `names` it
    appends a non-empty well-formed block for its pipeline. -/
theorem splitQueries_preserves (src : Bytes) (scope : List (Bytes × List Chunk)) (t : Tabular)
    (dst out : List Subquery) (h : splitQueries src scope dst t = .ok out)
    (h1 : ∀ s ∈ dst, SortOk s) (h3 : NamesOk dst) :
    ∃ source ops, t = .mk source ops ∧ DstInv source dst.length out ∧ dst <+: out ∧ dst.length < out.length := by
  obtain ⟨source, ops, mid, ht, hrun, hout⟩ := splitQueries_run src scope t dst out h
  refine ⟨source, ops, ht, ?_⟩
  have hgrow := run_grows hrun
  obtain ⟨blk', hmid, hblk⟩ := run_block (joins := true) hrun (.inr rfl) dst [] (by simp) rfl Block.nil
  obtain ⟨rblk, r, hcb, hrb, hlast⟩ := block_closeBlock (dst := dst) hblk
  rw [← hmid, ← hout] at hcb
  have hne : rblk ≠ [] := by intro h; simp [h] at hlast
  have hlt : dst.length < out.length := by
    rw [hcb, List.length_append]
    have := List.length_pos_iff.mpr hne
    omega
  refine ⟨⟨Nat.le_of_lt hlt, ?_, ?_, ?_⟩, ⟨rblk, hcb.symm⟩, hlt⟩
  · rw [hout]; exact forall_closeBlock (run_sortOk hrun h1) (by simp [SortOk, chainSubquery])
  · rw [hout]; exact namesOk_closeBlock (run_namesOk hrun h3)
  · rw [hcb, List.drop_left]; exact hrb

theorem splitQueries_inv (src : Bytes) (scope : List (Bytes × List Chunk)) (t : Tabular)
    (dst : List Subquery) (h : splitQueries src scope [] t = .ok dst) :
    ∃ source ops, t = .mk source ops ∧ DstInv source 0 dst ∧ 0 < dst.length := by
  obtain ⟨source, ops, ht, inv, _, hlt⟩ :=
    splitQueries_preserves src scope t [] dst h (by simp) (fun i hi => by simp at hi)
  exact ⟨source, ops, ht, inv, hlt⟩

end Pql.SplitQ

namespace Pql.C02
open Pql SplitQ

/-- **C02, clause 1 (ORDER BY / LIMIT never on a SELECT that renames or fixes columns).**
    In the result of `splitQueries`, a subquery that carries a sort or a take has an operator
    `canAttachSort` accepts: no operator (`SELECT *`, also the join subquery), or one that is not
    `project`, `summarize`, `as`, `render`. -/
theorem C02_sort_not_after_rename (src : Bytes) (scope : List (Bytes × List Chunk)) (t : Tabular)
    (dst : List Subquery) (h : splitQueries src scope [] t = .ok dst) :
    ∀ s ∈ dst, (s.sort.isSome ∨ s.take.isSome) →
      canAttachSort s.op = true ∧ ∀ o, s.op = some o → renames o = false := by
  obtain ⟨source, ops, _, inv, _⟩ := splitQueries_inv src scope t dst h
  intro s hs hst
  have hc := inv.sort_ok s hs hst
  refine ⟨hc, fun o ho => ?_⟩
  rw [ho, canAttachSort_some] at hc
  simpa using hc

/-- **C02, clause 2 with joins (any nesting).** The right-hand pipeline of a join is split where
    the join stands (`tabClauses`), the join subquery itself carries no clause of its own. -/
theorem C02_limit_never_crosses_nested (src : Bytes) (scope : List (Bytes × List Chunk)) (t : Tabular)
    (dst : List Subquery) (h : splitQueries src scope [] t = .ok dst) :
    dst.flatMap subClauses = tabClauses t := by
  obtain ⟨source, ops, mid, ht, hrun, hout⟩ := splitQueries_run src scope t [] dst h
  subst ht
  rw [hout, flatMap_closeBlock, run_clauses hrun]
  simp [tabClauses]

/-- **C02, clause 2 (the clauses of the subqueries are the operators, in pipeline order).**
    Join-free pipelines: reading every subquery as `op; sort; take` (the order `Subquery.write`
    evaluates one SELECT) and concatenating over the list gives exactly the operator list, with
    `top n by k` read as `sort by k; take n` (compared modulo the `pipe` / keyword spans of
    sort / take / top, which `Clause` drops; the other operators are compared exactly).
    Hence every subquery is the image of a contiguous segment of the operator list, and inside
    one subquery nothing is evaluated out of pipeline order — in particular "take, then sort"
    never share a subquery, because a subquery reads as sort-before-take. -/
theorem C02_limit_never_crosses (src : Bytes) (scope : List (Bytes × List Chunk))
    (source : Option Ident) (ops : OpList) (dst : List Subquery) (hjf : joinFree ops = true)
    (h : splitQueries src scope [] (.mk source ops) = .ok dst) :
    dst.flatMap subClauses = ops.toList.flatMap opClauses := by
  rw [C02_limit_never_crosses_nested src scope _ dst h]
  exact opsClauses_joinFree ops hjf

/-- **C02, clause 2 (the segment forms).** The segment of the operator list one subquery stands
    for is `[op]`, `[op?, sort]`, `[op?, take]` or `[op?, sort, take]` (the last also for
    `[op?, top]`), where `op?` is nothing or an operator with `canAttachSort`. -/
theorem C02_segment_forms (src : Bytes) (scope : List (Bytes × List Chunk)) (t : Tabular)
    (dst : List Subquery) (h : splitQueries src scope [] t = .ok dst) :
    ∀ s ∈ dst,
      (subClauses s = opPart s) ∨
      (canAttachSort s.op = true ∧
        ((∃ ts, subClauses s = opPart s ++ [.sort ts]) ∨ (∃ n, subClauses s = opPart s ++ [.take n]) ∨
         (∃ ts n, subClauses s = opPart s ++ [.sort ts, .take n]))) := by
  intro s hs
  have hc := (C02_sort_not_after_rename src scope t dst h s hs)
  unfold subClauses
  cases hso : s.sort with
  | none =>
    cases hta : s.take with
    | none => left; simp
    | some n => right; exact ⟨(hc (.inr (by simp [hta]))).1, .inr (.inl ⟨n, by simp⟩)⟩
  | some ts =>
    cases hta : s.take with
    | none => right; exact ⟨(hc (.inl (by simp [hso]))).1, .inl ⟨ts, by simp⟩⟩
    | some n => right; exact ⟨(hc (.inl (by simp [hso]))).1, .inr (.inr ⟨ts, n, by simp⟩)⟩

/-- **C02, clauses 1 and 2, step form (sort).** A `sort` that meets a last subquery whose operator
    renames / fixes columns, or which already has a sort or a take, is NOT attached to it: a new
    subquery reading from it is chained and gets the ORDER BY. -/
theorem C02_sort_chains (src : Bytes) (scope : List (Bytes × List Chunk))
    (source : Option Ident) (dstStart : Nat) (dst : List Subquery) (l : Subquery) (p k : Span)
    (terms : List SortTerm) (rest : OpList) (hl : lastOf dst dstStart = some l)
    (hst : canAttachSort l.op = false ∨ l.sort.isSome ∨ l.take.isSome) :
    splitOps src scope source dstStart dst (.cons (.sort p k terms) rest) =
      splitOps src scope source dstStart
        (dst ++ [{ chainSubquery dst dstStart source with sort := some terms }]) rest := by
  rw [splitOps_step _ _ _ _ _ rfl, place_chain hl (by rcases hst with h | h | h <;> simp [attaches, h, ← Option.not_isSome])]
  rfl

/-- **C02, clauses 1 and 2, step form (take).** A `take` that meets a last subquery whose operator
    renames / fixes columns, or which already has a take, is not attached to it: a new subquery
    is chained and gets the LIMIT. -/
theorem C02_take_chains (src : Bytes) (scope : List (Bytes × List Chunk))
    (source : Option Ident) (dstStart : Nat) (dst : List Subquery) (l : Subquery) (p k : Span)
    (n : Expr) (rest : OpList) (hl : lastOf dst dstStart = some l)
    (hst : canAttachSort l.op = false ∨ l.take.isSome) :
    splitOps src scope source dstStart dst (.cons (.take p k n) rest) =
      splitOps src scope source dstStart
        (dst ++ [{ chainSubquery dst dstStart source with take := some n }]) rest := by
  rw [splitOps_step _ _ _ _ _ rfl, place_chain hl (by rcases hst with h | h <;> simp [attaches, h, ← Option.not_isSome])]
  rfl

/-- **C02, clause 2, step form (attaching).** When a `sort` IS attached to the last subquery
    `l` (the list is `init ++ [l]`), `l` allowed it and had neither sort nor take; when a `take`
    is attached, `l` allowed it and had no take.  Stated on the model: under these conditions
    the step is exactly "set the field of the last subquery". -/
theorem C02_sort_attaches (src : Bytes) (scope : List (Bytes × List Chunk))
    (source : Option Ident) (dstStart : Nat) (init : List Subquery) (l : Subquery) (p k : Span)
    (terms : List SortTerm) (rest : OpList) (hk : dstStart ≤ init.length)
    (hc : canAttachSort l.op = true) (hs : l.sort = none) (ht : l.take = none) :
    splitOps src scope source dstStart (init ++ [l]) (.cons (.sort p k terms) rest) =
      splitOps src scope source dstStart (init ++ [{ l with sort := some terms }]) rest := by
  rw [splitOps_step _ _ _ _ _ rfl, place_attach hk (by simp [attaches, hc, hs, ht])]
  rfl

theorem C02_take_attaches (src : Bytes) (scope : List (Bytes × List Chunk))
    (source : Option Ident) (dstStart : Nat) (init : List Subquery) (l : Subquery) (p k : Span)
    (n : Expr) (rest : OpList) (hk : dstStart ≤ init.length)
    (hc : canAttachSort l.op = true) (ht : l.take = none) :
    splitOps src scope source dstStart (init ++ [l]) (.cons (.take p k n) rest) =
      splitOps src scope source dstStart (init ++ [{ l with take := some n }]) rest := by
  rw [splitOps_step _ _ _ _ _ rfl, place_attach hk (by simp [attaches, hc, ht])]
  rfl

/-- **C02, semantic form for join-free pipelines (over the specification interpreter).**
    Evaluate the subqueries one after another, each on the table of the previous one (by
    `C05_chain_reads_previous` that is what each one reads; the first reads the base table), and
    inside one subquery in the order `Subquery.write` prints it — body of `op`, ORDER BY, LIMIT,
    each with the specification's meaning of that operator (`SplitQ.subEval`).  The result is the
    specification's `Rel.interpOps` of the operator list, applied strictly left to right. -/
theorem C02_pipeline_order_semantics (src : Bytes) (scope : List (Bytes × List Chunk))
    (source : Option Ident) (ops : OpList) (dst : List Subquery) (hjf : joinFree ops = true)
    (h : splitQueries src scope [] (.mk source ops) = .ok dst) (db : Sql.DB) (base : Sql.Table) :
    dst.foldl (subEval src db) base = Rel.interpOps src db base ops := by
  rw [foldl_subEval, C02_limit_never_crosses src scope source ops dst hjf h,
    interpOps_eq_clauses src db ops base hjf]

end Pql.C02

namespace Pql.C05
open Pql SplitQ

/-- **C05, clause 3 (names by index).** Every subquery of the result is named `__subquery{i}`
    with `i` its index in the final list, except the `as` subqueries, which carry the user's
    name. -/
theorem C05_names_by_index (src : Bytes) (scope : List (Bytes × List Chunk)) (t : Tabular)
    (dst : List Subquery) (h : splitQueries src scope [] t = .ok dst) :
    ∀ (i : Nat) (hi : i < dst.length),
      dst[i].name = subqueryName i ∨ ∃ p k n, dst[i].op = some (.as_ p k n) ∧ dst[i].name = identName n := by
  obtain ⟨source, ops, _, inv, _⟩ := splitQueries_inv src scope t dst h
  exact inv.names

/-- **C05, clause 3 (generated names are pairwise distinct).** -/
theorem C05_generated_names_distinct (src : Bytes) (scope : List (Bytes × List Chunk)) (t : Tabular)
    (dst : List Subquery) (h : splitQueries src scope [] t = .ok dst)
    (i j : Nat) (hi : i < dst.length) (hj : j < dst.length)
    (hni : ∀ p k n, dst[i].op ≠ some (.as_ p k n)) (hnj : ∀ p k n, dst[j].op ≠ some (.as_ p k n))
    (hname : dst[i].name = dst[j].name) : i = j := by
  have hn := C05_names_by_index src scope t dst h
  rcases hn i hi with h1 | ⟨p, k, n, ho, _⟩
  · rcases hn j hj with h2 | ⟨p, k, n, ho, _⟩
    · exact C05_subqueryName_injective i j (h1.symm.trans (hname.trans h2))
    · exact absurd ho (hnj p k n)
  · exact absurd ho (hni p k n)

/-- **C05, clause 4 (who reads whom; any nesting).** The result of `splitQueries` on
    `source | ops` is a block: every non-join subquery reads the previous subquery of its block
    (the first one the base table of its pipeline); a join subquery is preceded by the complete
    block of its right-hand pipeline, its left side is the subquery in front of that block (or
    the base table) and its right side is the last subquery of that block.  (The flag `true` of `Block`
    admits join subqueries.) -/
theorem C05_block_structure (src : Bytes) (scope : List (Bytes × List Chunk)) (t : Tabular)
    (dst : List Subquery) (h : splitQueries src scope [] t = .ok dst) :
    ∃ source ops, t = .mk source ops ∧ Block true source dst := by
  obtain ⟨source, ops, ht, inv, _⟩ := splitQueries_inv src scope t dst h
  exact ⟨source, ops, ht, by simpa using inv.block⟩

/-- **C05, clause 4, join-free pipelines index by index.** The first subquery reads the base
    table, the subquery at index `i + 1` reads exactly the subquery at index `i`. -/
theorem C05_chain_reads_previous (src : Bytes) (scope : List (Bytes × List Chunk))
    (source : Option Ident) (ops : OpList) (dst : List Subquery) (hjf : joinFree ops = true)
    (h : splitQueries src scope [] (.mk source ops) = .ok dst) :
    (∀ h0 : 0 < dst.length, dst[0].source = [.qid (identName source)]) ∧
    (∀ (i : Nat) (hi : i + 1 < dst.length), dst[i + 1].source = [.qid dst[i].name]) := by
  obtain ⟨source', ops', mid, ht, hrun, hout⟩ := splitQueries_run src scope _ [] dst h
  cases ht
  obtain ⟨blk', hmid, hblk⟩ := run_block (joins := false) hrun (.inl hjf) [] [] rfl rfl Block.nil
  obtain ⟨rblk, r, hcb, hrb, _⟩ := block_closeBlock (dst := []) hblk
  simp only [List.nil_append] at hmid hcb
  rw [← hmid] at hcb
  have hd : dst = rblk := hout.trans hcb
  subst hd
  have key := hrb.reads_prev
  constructor
  · intro h0
    rw [key 0 h0, prevName_take_zero]
  · intro i hi
    rw [key (i + 1) hi, prevName_take_succ source dst i (Nat.lt_of_succ_lt hi)]

/-- **C05, clause 5 (the list only grows).** For the operator loop: the subqueries in front of
    `dstStart` are kept and the list does not get shorter, so `dstStart ≤ dst.length` persists. -/
theorem C05_length_grows_ops (src : Bytes) (scope : List (Bytes × List Chunk)) (source : Option Ident)
    (dstStart : Nat) (dst out : List Subquery) (ops : OpList)
    (h : splitOps src scope source dstStart dst ops = .ok out) :
    dst.take dstStart <+: out ∧ dst.length ≤ out.length ∧ (dstStart ≤ dst.length → dstStart ≤ out.length) := by
  have := run_grows (splitOps_run src scope ops source dstStart dst out h)
  exact ⟨this.1, this.2, fun h => Nat.le_trans h this.2⟩

/-- **C05, clause 5 for `splitQueries`.** The input list is a prefix of the output and at least
    one subquery is added (for every input list). -/
theorem C05_length_grows (src : Bytes) (scope : List (Bytes × List Chunk)) (t : Tabular)
    (dst out : List Subquery) (h : splitQueries src scope dst t = .ok out) :
    dst <+: out ∧ dst.length < out.length := by
  obtain ⟨source, ops, mid, ht, hrun, hout⟩ := splitQueries_run src scope t dst out h
  have hg := run_grows hrun
  rw [List.take_length] at hg
  subst hout
  refine ⟨hg.1.trans (closeBlock_prefix _ _ _), ?_⟩
  unfold closeBlock
  split
  · simp; omega
  · have := hg.2; omega

end Pql.C05
