/-
Property C05, syntactic half (with the structural parts of C01 / C02 / C03): the tokens
`Compile` emits are read by the reference SQL statement parser as the INTENDED statement.

  Stage 1  `C05_split_refines`     when `splitQueries` succeeds, so does `Intended.splitA`, and writing the sources
                                   of its links gives the subqueries (converse: `C05_split_refines_conv`, needs `tabWritable`)
  Stage 2  `C05_select` (+ one theorem per operator)
                                   what `Subquery.write` emits for one link is read by `pSelect` as
                                   `Intended.selOf` of that link (items, FROM / JOIN, WHERE, GROUP BY,
                                   ORDER BY, LIMIT), up to `normS`
  Stage 3  `C05_parse_statement`   `parseStatement (toksOf (compileChunks …)) ≈ intended …`
           corollaries: number of CTEs, their names in order, the body is the last link

Side condition `tabularOK` (Bool): every expression is `lexOK ∧ shapeOK` (as in C01) AND translatable
(`(tr · e).isSome`), `project` / `sort` / `summarize` lists that SQL needs non-empty are non-empty, a
`project` column without expression has a name.  The extra conjuncts are necessary: counterexamples
`C05_counterexample_*` below (untranslatable expression, empty `project`, empty `sort`, anonymous column;
none is stated for the `summarize` conjunct `gb ++ cols ≠ []`).
-/
import PqlModel.Lemmas.ParseStmtTop
namespace Pql.C05
set_option linter.unusedSimpArgs false
open Pql Sql CompileOracle Intended Pql.RT

/-- **C05 / C02 (splitting).** The chain of subqueries `splitQueries` builds is the documented chain
    `splitA` with every structured source written out. -/
theorem C05_split_refines (src : Bytes) (scope : List (Bytes × List Chunk)) (t : Tabular) (dst : List Subquery)
    (dstA : List SubA) (hd : dstA.mapM (erase src scope) = .ok dst) (out : List Subquery)
    (h : splitQueries src scope dst t = .ok out) :
    ∃ outA, splitA dstA t = some outA ∧ outA.mapM (erase src scope) = .ok out :=
  split_refines src scope t dst dstA hd out h

/-- the side condition of Stage 2: source condition, operator
    expressions, sort terms and take count are all `exprOK` (`lexOK ∧ shapeOK ∧ translatable`) -/
abbrev _root_.Pql.Intended.SubA.exprsOK (a : SubA) : Bool := subOK a

/-- **C05 (one SELECT).** For a link `a` whose expressions are OK, the tokens of
    `(erase a).write`, followed by `)` or `;`, are read by `pSelect` as the intended SELECT. -/
theorem C05_select (src : Bytes) (a : SubA) (sub : Subquery) (cs : List Chunk) (rest : List STok)
    (he : erase src [] a = .ok sub) (hok : subOK a = true)
    (hw : sub.write ⟨src, [], .default⟩ = .ok cs) (hrest : Closer rest) :
    ∃ sel want, pSelect (toksOf cs ++ rest) = some (sel, rest) ∧ selOf src a = some want ∧
      selectEq (normSel sel) (normSel want) = true := by
  obtain ⟨sel, want, h1, h2, h3⟩ := select_parse src a sub cs rest (erase_iff.1 he) hok hw hrest
  exact ⟨sel, want, h1, h2, selectEq_of_rel h3⟩

/-- the shape shared by the per-operator theorems -/
def SelectReads (src : Bytes) (a : SubA) : Prop :=
  ∀ sub cs rest, erase src [] a = .ok sub → sub.write ⟨src, [], .default⟩ = .ok cs → Closer rest →
    ∃ sel want, pSelect (toksOf cs ++ rest) = some (sel, rest) ∧ selOf src a = some want ∧
      selectEq (normSel sel) (normSel want) = true

theorem selectReads (src : Bytes) (a : SubA) (hok : subOK a = true) : SelectReads src a :=
  fun sub cs rest he hw hr => C05_select src a sub cs rest he hok hw hr

/-- `SELECT * FROM source [ORDER BY …] [LIMIT …]` — no operator, or `as` -/
theorem C05_select_plain (src : Bytes) (a : SubA) (hop : a.op = none ∨ ∃ p k n, a.op = some (.as_ p k n))
    (hs : srcOK a.source = true) (hso : sortOK a.sort = true) (ht : takeOK a.take = true) : SelectReads src a := by
  apply selectReads
  rcases hop with h | ⟨p, k, n, h⟩ <;> simp [subOK, h, opOK, hs, hso, ht]

/-- `… WHERE pred` -/
theorem C05_select_where (src : Bytes) (a : SubA) (p k : Span) (pred : Expr) (hop : a.op = some (.where_ p k pred))
    (hp : exprOK pred = true) (hs : srcOK a.source = true) (hso : sortOK a.sort = true) (ht : takeOK a.take = true) :
    SelectReads src a ∧ ∃ w, tr false pred = some w ∧ ∀ want, selOf src a = some want → want.where_ = some w := by
  refine ⟨selectReads src a (by simp [subOK, hop, opOK, hp, hs, hso, ht]), ?_⟩
  simp only [exprOKin, Bool.and_eq_true, Option.isSome_iff_exists] at hp
  obtain ⟨_, w, hw⟩ := hp
  refine ⟨w, hw, fun want h => ?_⟩
  obtain ⟨_, _, _, _, _, _, _, hp, _, _, rfl⟩ := SelSem.selOf_inv src a want h
  simp only [hop, SelSem.partsOf, hw, Option.bind_eq_bind, Option.bind_some, Option.pure_def, Option.some.injEq,
    Prod.mk.injEq] at hp
  exact hp.2.1.symm

/-- `SELECT e₁ AS "n₁", …` -/
theorem C05_select_project (src : Bytes) (a : SubA) (p k : Span) (cols : List Column)
    (hop : a.op = some (.project p k cols)) (hne : cols ≠ []) (hc : cols.all projColOK = true)
    (hs : srcOK a.source = true) (hso : sortOK a.sort = true) (ht : takeOK a.take = true) : SelectReads src a :=
  selectReads src a (by simp [subOK, hop, opOK, hc, hne, hs, hso, ht])

/-- `SELECT *, e₁ AS "n₁", …` — an unnamed column is called by its source text -/
theorem C05_select_extend (src : Bytes) (a : SubA) (p k : Span) (cols : List Column)
    (hop : a.op = some (.extend p k cols)) (hc : cols.all colOK = true)
    (hs : srcOK a.source = true) (hso : sortOK a.sort = true) (ht : takeOK a.take = true) : SelectReads src a :=
  selectReads src a (by simp [subOK, hop, opOK, hc, hs, hso, ht])

/-- `SELECT g… , c… FROM … [GROUP BY g…]` -/
theorem C05_select_summarize (src : Bytes) (a : SubA) (p k b : Span) (cols gb : List Column)
    (hop : a.op = some (.summarize p k cols b gb)) (hne : gb ++ cols ≠ []) (hc : cols.all colOK = true)
    (hg : gb.all colOK = true)
    (hs : srcOK a.source = true) (hso : sortOK a.sort = true) (ht : takeOK a.take = true) : SelectReads src a :=
  selectReads src a (by
    have : (gb ++ cols).isEmpty = false := by simpa using hne
    simp [subOK, hop, opOK, hc, hg, this, hs, hso, ht])

/-- `SELECT COUNT(*) AS "count()"` -/
theorem C05_select_count (src : Bytes) (a : SubA) (p k : Span) (hop : a.op = some (.count p k))
    (hs : srcOK a.source = true) (hso : sortOK a.sort = true) (ht : takeOK a.take = true) : SelectReads src a :=
  selectReads src a (by simp [subOK, hop, opOK, hs, hso, ht])

/-- `SELECT *, 'chart' as "render_type", 'v' as "render_prop_k", …` -/
theorem C05_select_render (src : Bytes) (a : SubA) (p k : Span) (chart : Option Ident) (w lp rp : Span)
    (props : List RenderProp) (hop : a.op = some (.render p k chart w lp props rp))
    (hs : srcOK a.source = true) (hso : sortOK a.sort = true) (ht : takeOK a.take = true) : SelectReads src a :=
  selectReads src a (by simp [subOK, hop, opOK, hs, hso, ht])

/-- the join source: `[(SELECT DISTINCT * FROM] "l" [)] AS "$left" [LEFT] JOIN "r" AS "$right" ON cond` -/
theorem C05_select_join (src : Bytes) (a : SubA) (unique left : Bool) (l r : Bytes) (cond : Expr)
    (hsrc : a.source = .join unique left l r cond) (hc : exprOKin true cond = true)
    (hop : opOK a.op = true) (hso : sortOK a.sort = true) (ht : takeOK a.take = true) :
    SelectReads src a ∧ ∃ c, tr true cond = some c ∧ ∀ want, selOf src a = some want →
      want.join = some ⟨left, .named r (some rightA), c⟩ ∧
      want.source = (if unique then .distinctOf l (some leftA) else .named l (some leftA)) := by
  refine ⟨selectReads src a (by simp [subOK, hsrc, srcOK, hc, hop, hso, ht]), ?_⟩
  simp only [exprOKin, Bool.and_eq_true, Option.isSome_iff_exists] at hc
  obtain ⟨_, c, hc⟩ := hc
  refine ⟨c, hc, fun want h => ?_⟩
  obtain ⟨f, _, _, _, _, _, hf, _, _, _, rfl⟩ := SelSem.selOf_inv src a want h
  simp only [hsrc, SelSem.fromOf, hc, Option.bind_eq_bind, Option.bind_some, Option.pure_def, Option.some.injEq] at hf
  subst hf
  exact ⟨rfl, rfl⟩

/-- **C05 (ParseStatement).** The emitted tokens parse as one statement, and that statement is the
    intended one: same CTE names in the same order, every SELECT equal up to `normS`. -/
theorem C05_parse_statement (src : Bytes) (t : Tabular) (cs : List Chunk)
    (hok : tabularOK t = true)
    (hc : compileChunks src [] [.tabular t] = .ok cs) :
    ∃ st want, parseStatement (toksOf cs) = some st ∧ intended src [.tabular t] = some want ∧
      statementEq st want = true := by
  obtain ⟨subs, ctesA, qA, parsed, wants, sel, wbody, _, _, _, hp, hi, _, _, hrl, hsr⟩ := statement_parse src t cs hok hc
  exact ⟨_, _, hp, hi, statementEq_of_rel hrl hsr⟩

theorem cteRel_names {parsed wants : List (Bytes × Select)} (h : ListRel CteRel parsed wants) :
    parsed.map (·.1) = wants.map (·.1) := (h.map fun _ _ hab => hab.1).eq

theorem eraseRel_names {src : Bytes} {as : List SubA} {ss : List Subquery} (h : ListRel (EraseRel src []) as ss) :
    ss.map (·.name) = as.map (·.name) := (h.map fun _ _ hab => hab.name.symm).eq.symm

/-- **C05 (structure of the statement).** With `subs` the subqueries `splitQueries` produced:
    there are `subs.length - 1` CTEs, their names are the names of all subqueries but the last, in
    order, and the body is read as the intended SELECT of the last link. -/
theorem C05_statement_structure (src : Bytes) (t : Tabular) (cs : List Chunk)
    (hok : tabularOK t = true) (hc : compileChunks src [] [.tabular t] = .ok cs) :
    ∃ subs st subsA, splitQueries src [] [] t = .ok subs ∧ parseStatement (toksOf cs) = some st ∧
      splitA [] t = some subsA ∧
      st.ctes.length = subs.length - 1 ∧
      st.ctes.map (·.1) = subs.dropLast.map (·.name) ∧
      ∃ qA wbody, subsA.getLast? = some qA ∧ selOf src qA = some wbody ∧
        selectEq (normSel st.body) (normSel wbody) = true := by
  obtain ⟨subs, ctesA, qA, parsed, wants, sel, wbody, hs, hA, hrel, hp, hi, hwm, hw, hrl, hsr⟩ :=
    statement_parse src t cs hok hc
  have hn := eraseRel_names hrel
  have hnames : parsed.map (·.1) = ctesA.map (·.name) := (cteRel_names hrl).trans (JoinSem.mapM_linkSel_names src ctesA wants hwm)
  have hlen : subs.length = ctesA.length + 1 := by
    have := hrel.length_eq; simp at this; omega
  refine ⟨subs, ⟨parsed, sel⟩, ctesA ++ [qA], hs, hp, hA, ?_, ?_, qA, wbody, by simp, hw, selectEq_of_rel hsr⟩
  · have := congrArg List.length hnames
    simp at this
    simp [this, hlen]
  · show parsed.map (·.1) = subs.dropLast.map (·.name)
    rw [hnames, List.map_dropLast, hn]
    simp

def idn (s : String) : Ident := ⟨Bytes.ofString s, .zero, false⟩
def col (s : String) : Expr := .qident [idn s]
def numL (s : String) : Expr := .lit .zero .number (Bytes.ofString s)

/-- `T | where x > 1 | extend y = x + 1 | join kind=leftouter (U | project k) on k
      | summarize n = count() by k | sort by n desc | take 5` -/
def demoQ : Tabular :=
  .mk (some (idn "T"))
    (.cons (.where_ .zero .zero (.binary (col "x") .zero .gt (numL "1")))
    (.cons (.extend .zero .zero [⟨some (idn "y"), .zero, .binary (col "x") .zero .plus (numL "1")⟩])
    (.cons (.join .zero .zero .zero .zero (some (idn "leftouter")) .zero
        (.mk (some (idn "U")) (.cons (.project .zero .zero [⟨some (idn "k"), .zero, .nil⟩]) .nil)) .zero .zero
        (.cons (col "k") .nil))
    (.cons (.summarize .zero .zero [⟨some (idn "n"), .zero, .call (idn "count") .zero .nil .zero⟩] .zero
        [⟨some (idn "k"), .zero, col "k"⟩])
    (.cons (.sort .zero .zero [⟨col "n", false, .zero, false, .zero⟩])
    (.cons (.take .zero .zero (numL "5")) .nil))))))

theorem demoQ_ok : tabularOK demoQ = true := by decide
theorem demoQ_compiles : ∃ cs, compileChunks [] [] [.tabular demoQ] = .ok cs := ⟨_, rfl⟩

/-- non-vacuity of `C05_parse_statement` / `C05_statement_structure`: six operators, a nested join, 5 CTEs -/
example : ∃ cs st want, compileChunks [] [] [.tabular demoQ] = .ok cs ∧ parseStatement (toksOf cs) = some st ∧
    intended [] [.tabular demoQ] = some want ∧ statementEq st want = true := by
  obtain ⟨cs, hc⟩ := demoQ_compiles
  obtain ⟨st, want, h1, h2, h3⟩ := C05_parse_statement [] demoQ cs demoQ_ok hc
  exact ⟨cs, st, want, hc, h1, h2, h3⟩

example : ∃ cs st, compileChunks [] [] [.tabular demoQ] = .ok cs ∧ parseStatement (toksOf cs) = some st ∧
    st.ctes.length = 5 := by
  obtain ⟨cs, hc⟩ := demoQ_compiles
  obtain ⟨subs, st, subsA, h1, h2, h3, h4, _⟩ := C05_statement_structure [] demoQ cs demoQ_ok hc
  have : splitQueries [] [] [] demoQ = .ok subs → subs.length = 6 := by
    intro h
    have h' : ∃ out, splitQueries [] [] [] demoQ = .ok out ∧ out.length = 6 := ⟨_, rfl, rfl⟩
    obtain ⟨out, ho, hl⟩ := h'
    rw [ho] at h; cases h; exact hl
  exact ⟨cs, st, hc, h2, by rw [h4, this h1]⟩

/-- `T | where a , b` with a binary node whose operator the writer does not know (never built by the
    PQL parser): `lexOK` and `shapeOK` hold, `Compile` succeeds (it writes a NULL placeholder), but
    there is no intended translation -/
def cexUntr : Tabular :=
  .mk (some (idn "T")) (.cons (.where_ .zero .zero (.binary (col "a") .zero .comma (col "b"))) .nil)

theorem C05_counterexample_untranslatable :
    (Expr.binary (col "a") .zero .comma (col "b")).lexOK = true ∧
    shapeOK (Expr.binary (col "a") .zero .comma (col "b")) = true ∧
    (∃ cs, compileChunks [] [] [.tabular cexUntr] = .ok cs) ∧
    intended [] [.tabular cexUntr] = none := ⟨by decide, by decide, ⟨_, rfl⟩, by rfl⟩

/-- `T | project` with no columns: `Compile` succeeds with `SELECT  FROM "T";`, which is not SQL -/
def cexProj : Tabular := .mk (some (idn "T")) (.cons (.project .zero .zero []) .nil)

theorem C05_counterexample_empty_project :
    ∃ cs, compileChunks [] [] [.tabular cexProj] = .ok cs ∧ parseStatement (toksOf cs) = none := by
  refine ⟨[.txt "SELECT ", .txt " FROM ", .qid (Bytes.ofString "T"), .txt ";"], rfl, ?_⟩
  decide +kernel

/-- `T | sort by` with no terms: `SELECT * FROM "T" ORDER BY ;` -/
def cexSort : Tabular := .mk (some (idn "T")) (.cons (.sort .zero .zero []) .nil)

theorem C05_counterexample_empty_sort :
    ∃ cs, compileChunks [] [] [.tabular cexSort] = .ok cs ∧ parseStatement (toksOf cs) = none := by
  refine ⟨[.txt "SELECT * FROM ", .qid (Bytes.ofString "T"), .txt " ORDER BY ", .txt ";"], rfl, ?_⟩
  decide +kernel

/-- a `project` column with neither name nor expression: `SELECT  AS "" FROM "T";` -/
def cexCol : Tabular := .mk (some (idn "T")) (.cons (.project .zero .zero [⟨none, .zero, .nil⟩]) .nil)

theorem C05_counterexample_anonymous_column :
    ∃ cs, compileChunks [] [] [.tabular cexCol] = .ok cs ∧ parseStatement (toksOf cs) = none := by
  refine ⟨[.txt "SELECT ", .txt " AS ", .qid [], .txt " FROM ", .qid (Bytes.ofString "T"), .txt ";"], rfl, ?_⟩
  decide +kernel


/-- non-vacuity of `C05_select` / `C05_select_join`: an innerunique join link with a LIMIT -/
def demoLink : SubA :=
  { name := Bytes.ofString "q"
    source := .join true false (Bytes.ofString "L") (Bytes.ofString "R")
      (.binary (.qident [idn "$left", idn "k"]) .zero .eq (.qident [idn "$right", idn "k"]))
    take := some (numL "5") }

example : ∃ sub cs sel want, erase [] [] demoLink = .ok sub ∧ sub.write ⟨[], [], .default⟩ = .ok cs ∧
    pSelect (toksOf cs ++ [S ";"]) = some (sel, [S ";"]) ∧ selOf [] demoLink = some want ∧
    selectEq (normSel sel) (normSel want) = true := by
  have h : ∃ sub cs, erase [] [] demoLink = .ok sub ∧ sub.write ⟨[], [], .default⟩ = .ok cs := ⟨_, _, rfl, rfl⟩
  obtain ⟨sub, cs, he, hw⟩ := h
  obtain ⟨sel, want, h1, h2, h3⟩ := C05_select [] demoLink sub cs [S ";"] he (by decide) hw ⟨[], Or.inr rfl⟩
  exact ⟨sub, cs, sel, want, he, hw, h1, h2, h3⟩

end Pql.C05
