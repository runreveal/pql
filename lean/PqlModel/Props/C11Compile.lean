/-
C11 / C03 glue — the compiler's use of `Walk`.

Go's `hasJoinTerms` (pql.go) is

    parser.Walk(x, func(n parser.Node) bool {
        if n, ok := n.(*parser.Ident); ok { switch n.Name { case "$left": left = true; case "$right": right = true } }
        return true })

The compile model (`Model/Compile.lean`) does not call the walk model; it uses the direct
structural recursion `exprIdents`.  This file proves that the two agree: the identifier nodes of the
pre-order `allNodes (.expr e)` are exactly `exprIdents e`, in order, for EVERY expression; the
statements about the walk itself need `NoPanic (.expr e)` (counterexample: `.nil` below the root),
which `Complete (.expr e)` and `e.Good` (Lemmas/WalkLemmas.lean) imply and parsed programs satisfy.
-/
import PqlModel.Lemmas.GlueWalk
import PqlModel.Props.C11b
namespace Pql.Glue
open Pql Pql.C11

mutual
theorem allNodes_idents_expr : (e : Expr) →
    (allNodes (.expr e)).filterMap identOf = exprIdents e
  | .nil => by
    rw [allNodes_of_none (n := .expr .nil) rfl]; rfl
  | .qident parts => by
    rw [allNodes_eq (n := .expr (.qident parts)) rfl, allNodesList_idents]
    simp only [List.filterMap_cons, identOf, filterMap_identOf_idents, exprIdents]
  | .lit sp k v => by
    rw [allNodes_eq (n := .expr (.lit sp k v)) (kids := []) rfl]
    simp [identOf, exprIdents]
  | .unary sp op x => by
    rw [allNodes_eq (n := .expr (.unary sp op x)) rfl]
    simp only [allNodesList_cons, allNodesList_nil, List.append_nil, List.filterMap_cons, identOf,
      exprIdents]
    exact allNodes_idents_expr x
  | .binary x sp op y => by
    rw [allNodes_eq (n := .expr (.binary x sp op y)) rfl]
    simp only [allNodesList_cons, allNodesList_nil, List.append_nil, List.filterMap_cons, identOf,
      List.filterMap_append, exprIdents]
    rw [allNodes_idents_expr x, allNodes_idents_expr y]
  | .inE x sp lp vals rp => by
    rw [allNodes_eq (n := .expr (.inE x sp lp vals rp)) rfl]
    simp only [allNodesList_cons, List.filterMap_cons, identOf, List.filterMap_append, exprIdents]
    rw [allNodes_idents_expr x, allNodes_idents_list vals]
  | .paren lp x rp => by
    rw [allNodes_eq (n := .expr (.paren lp x rp)) rfl]
    simp only [allNodesList_cons, allNodesList_nil, List.append_nil, List.filterMap_cons, identOf,
      exprIdents]
    exact allNodes_idents_expr x
  | .call fn lp args rp => by
    rw [allNodes_eq (n := .expr (.call fn lp args rp)) rfl]
    simp only [List.filterMap_cons, identOf, exprIdents]
    exact allNodes_idents_list args
  | .index x lb idx rb => by
    rw [allNodes_eq (n := .expr (.index x lb idx rb)) rfl]
    simp only [allNodesList_cons, allNodesList_nil, List.append_nil, List.filterMap_cons, identOf,
      List.filterMap_append, exprIdents]
    rw [allNodes_idents_expr x, allNodes_idents_expr idx]
theorem allNodes_idents_list : (es : ExprList) →
    (allNodesList (es.toList.map .expr)).filterMap identOf = exprListIdents es
  | .nil => by simp [ExprList.toList, exprListIdents]
  | .cons e es => by
    simp only [ExprList.toList, List.map_cons, allNodesList_cons, List.filterMap_append,
      exprListIdents]
    rw [allNodes_idents_expr e, allNodes_idents_list es]
end

/-- **Identifier nodes of the pre-order = `exprIdents`**, for every expression, of any depth,
    with or without nil sub-expressions: the `*Ident` nodes among all nodes below `e`
    (parents first, children in order; `CallExpr.Func` is not a child) are exactly
    `exprIdents e`, in the same order.  No hypothesis is needed for this part. -/
theorem C11_allNodes_idents (e : Expr) :
    (allNodes (.expr e)).filterMap
        (fun n => match n with | .ident (some i) => some i | _ => none) = exprIdents e := by
  have h : (fun n : Node => match n with | .ident (some i) => some i | _ => none) = identOf := by
    funext n; unfold identOf; rfl
  rw [h]; exact allNodes_idents_expr e

theorem hasJoinTerms_eq_allNodes (e : Expr) :
    hasJoinTerms e =
      (((allNodes (.expr e)).filterMap identOf).any (·.name == leftAlias),
       ((allNodes (.expr e)).filterMap identOf).any (·.name == rightAlias)) := by
  rw [allNodes_idents_expr]; rfl

def anyIdentNamed (a : Bytes) (ns : List Node) : Bool :=
  ns.any fun n => match n with | .ident (some i) => i.name == a | _ => false

theorem anyIdentNamed_eq (a : Bytes) (ns : List Node) :
    anyIdentNamed a ns = (ns.filterMap identOf).any (·.name == a) := by
  rw [List.any_filterMap]
  unfold anyIdentNamed
  congr 1
  funext n
  cases n with
  | ident j => cases j <;> rfl
  | _ => rfl

/-- **C11_hasJoinTerms_via_walk.**  For every expression `e` on which `Walk` does not panic
    (no nil interface below it):
    1. `Walk` with the visitor of `hasJoinTerms` (always answers true) calls the visitor exactly
       once for every node of `allNodes (.expr e)`, in that order;
    2. the `*Ident` nodes among the visited nodes are exactly `exprIdents e`, in order;
    3. `hasJoinTerms e` = (some visited identifier node is named `$left`,
                           some visited identifier node is named `$right`). -/
theorem C11_hasJoinTerms_via_walk (e : Expr) (h : NoPanic (.expr e)) :
    walk (fun _ => true) (.expr e) = (allNodes (.expr e)).map eventOf ∧
    (allNodes (.expr e)).filterMap
        (fun n => match n with | .ident (some i) => some i | _ => none) = exprIdents e ∧
    hasJoinTerms e =
      (anyIdentNamed leftAlias (allNodes (.expr e)), anyIdentNamed rightAlias (allNodes (.expr e))) := by
  refine ⟨C11_visits_all _ h, C11_allNodes_idents e, ?_⟩
  rw [anyIdentNamed_eq, anyIdentNamed_eq]
  exact hasJoinTerms_eq_allNodes e

/-- the same under the completeness predicate of Lemmas/WalkLemmas.lean (`Complete`: no panic and no nil node
    handed to the visitor) -/
theorem C11_hasJoinTerms_via_walk_complete (e : Expr) (h : Complete (.expr e)) :
    walk (fun _ => true) (.expr e) = (allNodes (.expr e)).map eventOf ∧
    (allNodes (.expr e)).filterMap
        (fun n => match n with | .ident (some i) => some i | _ => none) = exprIdents e ∧
    hasJoinTerms e =
      (anyIdentNamed leftAlias (allNodes (.expr e)), anyIdentNamed rightAlias (allNodes (.expr e))) :=
  C11_hasJoinTerms_via_walk e h.noPanic

/-- … and under the structural predicate `Expr.Good` (no `.nil` sub-expression), which is what
    the parser guarantees (`pExpr_good`, `parseTokens_good`) -/
theorem C11_hasJoinTerms_via_walk_good (e : Expr) (h : e.Good) :
    walk (fun _ => true) (.expr e) = (allNodes (.expr e)).map eventOf ∧
    (allNodes (.expr e)).filterMap
        (fun n => match n with | .ident (some i) => some i | _ => none) = exprIdents e ∧
    hasJoinTerms e =
      (anyIdentNamed leftAlias (allNodes (.expr e)), anyIdentNamed rightAlias (allNodes (.expr e))) :=
  C11_hasJoinTerms_via_walk e (Expr.Good.complete e h).noPanic

/-- **Event level.**  The events with Go type name `"Ident"` that the walk records are exactly
    the identifiers of `exprIdents e`, in order, each with its own span (no other node type
    has the label `"Ident"`: `isIdentEvent_eventOf`). -/
theorem C11_walk_ident_events (e : Expr) (h : NoPanic (.expr e)) :
    (walk (fun _ => true) (.expr e)).filter
        (fun ev => match ev with | .visit ty _ => ty == "Ident" | _ => false)
      = (exprIdents e).map (fun i => WalkEvent.visit "Ident" i.span) := by
  have hf : (fun ev : WalkEvent => match ev with | .visit ty _ => ty == "Ident" | _ => false)
      = isIdentEvent := by funext ev; unfold isIdentEvent; rfl
  rw [hf, C11_visits_all _ h, filter_identEvents, allNodes_idents_expr]
  rfl

/-- the event-level statement for any node (statement, tabular expression, operator, …):
    the `"Ident"` events of the full walk are the events of the identifier nodes of the tree -/
theorem C11_walk_ident_events_node (n : Node) (h : NoPanic n) :
    (walk (fun _ => true) n).filter isIdentEvent = ((allNodes n).filterMap identOf).map identEvent := by
  rw [C11_visits_all _ h, filter_identEvents]

/-- `hasJoinTerms` read off the recorded events is NOT possible (events carry no names), but
    the number of identifiers the Go visitor inspects is the number of `"Ident"` events: -/
theorem C11_walk_ident_count (e : Expr) (h : NoPanic (.expr e)) :
    ((walk (fun _ => true) (.expr e)).filter isIdentEvent).length = (exprIdents e).length := by
  rw [C11_walk_ident_events_node _ h, allNodes_idents_expr]; simp

def idL : Ident := ⟨leftAlias, ⟨0, 5⟩, false⟩
def idR : Ident := ⟨rightAlias, ⟨6, 12⟩, false⟩
def idX : Ident := ⟨Bytes.ofString "x", ⟨6, 7⟩, false⟩
def idF : Ident := ⟨Bytes.ofString "f", ⟨0, 1⟩, false⟩

/-- `$left(x)`: the function name is `$left`, but `Walk` does not push `CallExpr.Func` -/
def callLeftFn : Expr := .call idL ⟨5, 6⟩ (.cons (.qident [idX]) .nil) ⟨7, 8⟩
/-- `f($left)` -/
def callLeftArg : Expr := .call idF ⟨1, 2⟩ (.cons (.qident [⟨leftAlias, ⟨2, 7⟩, false⟩]) .nil) ⟨7, 8⟩
/-- `$left.x`: a qualified identifier one of whose parts is `$left` -/
def qualLeft : Expr := .qident [idL, idX]

theorem callLeftFn_good : callLeftFn.Good := by simp [callLeftFn, Expr.Good, ExprList.Good]
theorem callLeftArg_good : callLeftArg.Good := by simp [callLeftArg, Expr.Good, ExprList.Good]
theorem qualLeft_good : qualLeft.Good := by simp [qualLeft, Expr.Good]

/-- `f(x)` with `f = $left`: neither the model nor the walk sees the function name -/
theorem C11_call_func_not_visited :
    hasJoinTerms callLeftFn = (false, false) ∧
    exprIdents callLeftFn = [idX] ∧
    (allNodes (.expr callLeftFn)).filterMap identOf = [idX] ∧
    walk (fun _ => true) (.expr callLeftFn) =
      [.visit "CallExpr" ⟨0, 8⟩, .visit "QualifiedIdent" ⟨6, 7⟩, .visit "Ident" ⟨6, 7⟩] := by
  refine ⟨by decide, rfl, allNodes_idents_expr _, by decide⟩

/-- `$left` as an argument is seen -/
theorem C11_call_arg_visited :
    hasJoinTerms callLeftArg = (true, false) ∧
    walk (fun _ => true) (.expr callLeftArg) =
      [.visit "CallExpr" ⟨0, 8⟩, .visit "QualifiedIdent" ⟨2, 7⟩, .visit "Ident" ⟨2, 7⟩] := by
  refine ⟨by decide, by decide⟩

/-- `$left` as a part of a qualified identifier is seen -/
theorem C11_qualified_part_visited :
    hasJoinTerms qualLeft = (true, false) ∧
    walk (fun _ => true) (.expr qualLeft) =
      [.visit "QualifiedIdent" ⟨0, 7⟩, .visit "Ident" ⟨0, 5⟩, .visit "Ident" ⟨6, 7⟩] := by
  refine ⟨by decide, by decide⟩

/-- `<nil> == $left.x`: a binary expression whose left operand is the nil interface -/
def nilEq : Expr := .binary .nil ⟨0, 2⟩ .eq (.qident [idL, idX])

/-- Without the hypothesis statement 1 fails already at the root: on the nil interface `Walk`
    panics before calling the visitor, while the node list has one node. -/
theorem C11_cex_nil_root :
    ¬ NoPanic (.expr .nil) ∧
    exprIdents .nil = [] ∧
    walk (fun _ => true) (.expr .nil) = [.panic] ∧
    (allNodes (.expr .nil)).map eventOf = [.visit "nil" Span.null] ∧
    walk (fun _ => true) (.expr .nil) ≠ (allNodes (.expr .nil)).map eventOf := by
  have h1 : walk (fun _ => true) (.expr .nil) = [.panic] := by decide
  have h2 : (allNodes (.expr .nil)).map eventOf = [.visit "nil" Span.null] := by
    rw [allNodes_of_none (n := .expr .nil) rfl]; decide
  refine ⟨fun h => h.ne_nil rfl, rfl, h1, h2, ?_⟩
  rw [h1, h2]; decide

/-- Without the hypothesis the walk statements are false below the root as well, and the
    consequence for `hasJoinTerms` is real: on `nil == $left.x` the model's `hasJoinTerms`
    answers `(true, false)` from `exprIdents`, while `Walk` panics on the nil operand before it
    reaches the identifiers — the walk's events end in `.panic`, contain no `"Ident"` event,
    and are not `allNodes.map eventOf`.  (The unconditional node-list statement
    `C11_allNodes_idents` still holds here.) -/
theorem C11_cex_nil_operand :
    ¬ NoPanic (.expr nilEq) ∧
    hasJoinTerms nilEq = (true, false) ∧
    exprIdents nilEq = [idL, idX] ∧
    walk (fun _ => true) (.expr nilEq) = [.visit "BinaryExpr" ⟨0, 7⟩, .panic] ∧
    (walk (fun _ => true) (.expr nilEq)).filter isIdentEvent = [] ∧
    (walk (fun _ => true) (.expr nilEq)).filter isIdentEvent
      ≠ (exprIdents nilEq).map (fun i => WalkEvent.visit "Ident" i.span) ∧
    walk (fun _ => true) (.expr nilEq) ≠ (allNodes (.expr nilEq)).map eventOf ∧
    (allNodes (.expr nilEq)).filterMap identOf = exprIdents nilEq := by
  have hw : walk (fun _ => true) (.expr nilEq) = [.visit "BinaryExpr" ⟨0, 7⟩, .panic] := by decide
  refine ⟨?_, by decide, rfl, hw, by rw [hw]; decide, by rw [hw]; decide, ?_, allNodes_idents_expr _⟩
  · intro h
    exact ((noPanic_iff_kids rfl).1 h (.expr .nil) (by simp)).ne_nil rfl
  · intro h
    have : WalkEvent.panic ∈ (allNodes (.expr nilEq)).map eventOf := by rw [← h, hw]; simp
    obtain ⟨m, _, hm⟩ := List.mem_map.1 this
    exact eventOf_ne_panic m hm

/-- non-vacuity: a nested expression `f($left.x, -(y)) == $right.x` satisfies the
    hypothesis and has both kinds of terms -/
def sample : Expr :=
  .binary
    (.call idF ⟨1, 2⟩ (.cons (.qident [idL, idX]) (.cons (.unary ⟨9, 10⟩ .minus
      (.paren ⟨10, 11⟩ (.qident [⟨Bytes.ofString "y", ⟨11, 12⟩, false⟩]) ⟨12, 13⟩)) .nil)) ⟨13, 14⟩)
    ⟨15, 17⟩ .eq (.qident [idR, idX])

theorem sample_good : sample.Good := by simp [sample, Expr.Good, ExprList.Good]

theorem C11_hasJoinTerms_nonvacuous :
    NoPanic (.expr sample) ∧ Complete (.expr sample) ∧ sample.Good ∧
    hasJoinTerms sample = (true, true) ∧
    (exprIdents sample).map (·.span) = [⟨0, 5⟩, ⟨6, 7⟩, ⟨11, 12⟩, ⟨6, 12⟩, ⟨6, 7⟩] ∧
    (walk (fun _ => true) (.expr sample)).length = 12 :=
  ⟨(Expr.Good.complete _ sample_good).noPanic, Expr.Good.complete _ sample_good, sample_good,
   by decide, by decide, by decide⟩

/-! ### parsed programs: the expressions the compiler calls `hasJoinTerms` on

The only call sites of `hasJoinTerms` are in `writeExpr` (`Model/Compile.lean`, the
`.binary x _ .eq y` case; in Go only when `ctx.mode == joinExprMode`), on the operands `x`, `y`
of an `==`.  Join mode is used for exactly one expression per join operator:
`writeExpr ⟨src, scope, .join⟩ (buildJoinCondition conds)` in `splitOps`.  `writeExpr`
recurses through sub-expressions only, so every argument of `hasJoinTerms` in join mode is a
sub-expression node of `buildJoinCondition conds` — an element of
`allNodes (.expr (buildJoinCondition conds))`. -/

theorem parsed_join_conds_good (srcLen : Nat) (ts : List Token) (stmts : List Stmt)
    (h : parseTokens srcLen ts = (stmts, [])) (s : Stmt) (hs : s ∈ stmts)
    (p k kind ka : Span) (fl : Option Ident) (lp : Span) (right : Tabular) (rp on : Span)
    (conds : ExprList)
    (hj : Node.op (.join p k kind ka fl lp right rp on conds) ∈ allNodes (Node.ofStmt s)) :
    conds.Good := by
  have hc : Complete (Node.ofStmt s) := C11_parsed_complete _ _ stmts h s hs
  exact ((complete_op_iff _).1 (complete_allNodes hc _ hj)).2

/-- **Parsed programs.**  For every program that parses without error, for every join
    operator anywhere in it (top level or nested in the right-hand side of another join), and
    for every sub-expression `x` of the join condition the compiler writes in join mode
    (`buildJoinCondition conds`) — these are all the expressions `hasJoinTerms` is applied to in
    join mode — the hypothesis holds, so: the walk visits `allNodes`, its identifier nodes are
    `exprIdents x`, `hasJoinTerms x` is what the Go visitor computes, and the `"Ident"` events
    are the identifiers of `exprIdents x` in order. -/
theorem C11_parsed_join_conditions_tokens (srcLen : Nat) (ts : List Token) (stmts : List Stmt)
    (h : parseTokens srcLen ts = (stmts, [])) (s : Stmt) (hs : s ∈ stmts)
    (p k kind ka : Span) (fl : Option Ident) (lp : Span) (right : Tabular) (rp on : Span)
    (conds : ExprList)
    (hj : Node.op (.join p k kind ka fl lp right rp on conds) ∈ allNodes (Node.ofStmt s))
    (x : Expr) (hx : Node.expr x ∈ allNodes (.expr (buildJoinCondition conds))) :
    NoPanic (.expr x) ∧
    walk (fun _ => true) (.expr x) = (allNodes (.expr x)).map eventOf ∧
    (allNodes (.expr x)).filterMap identOf = exprIdents x ∧
    hasJoinTerms x =
      (anyIdentNamed leftAlias (allNodes (.expr x)), anyIdentNamed rightAlias (allNodes (.expr x))) ∧
    (walk (fun _ => true) (.expr x)).filter isIdentEvent = (exprIdents x).map identEvent := by
  have hb : NoPanic (.expr (buildJoinCondition conds)) :=
    (noPanic_expr_iff _).2 (NoPanic.good_buildJoinCondition conds
      (parsed_join_conds_good srcLen ts stmts h s hs p k kind ka fl lp right rp on conds hj))
  have hxn : NoPanic (.expr x) := noPanic_allNodes hb _ hx
  obtain ⟨h1, _, h3⟩ := C11_hasJoinTerms_via_walk x hxn
  refine ⟨hxn, h1, allNodes_idents_expr x, h3, ?_⟩
  rw [C11_walk_ident_events_node _ hxn, allNodes_idents_expr]

theorem C11_parsed_join_conditions (src : Bytes) (stmts : List Stmt) (h : parse src = (stmts, []))
    (s : Stmt) (hs : s ∈ stmts)
    (p k kind ka : Span) (fl : Option Ident) (lp : Span) (right : Tabular) (rp on : Span)
    (conds : ExprList)
    (hj : Node.op (.join p k kind ka fl lp right rp on conds) ∈ allNodes (Node.ofStmt s))
    (x : Expr) (hx : Node.expr x ∈ allNodes (.expr (buildJoinCondition conds))) :
    NoPanic (.expr x) ∧
    walk (fun _ => true) (.expr x) = (allNodes (.expr x)).map eventOf ∧
    (allNodes (.expr x)).filterMap identOf = exprIdents x ∧
    hasJoinTerms x =
      (anyIdentNamed leftAlias (allNodes (.expr x)), anyIdentNamed rightAlias (allNodes (.expr x))) ∧
    (walk (fun _ => true) (.expr x)).filter isIdentEvent = (exprIdents x).map identEvent :=
  C11_parsed_join_conditions_tokens src.length (scan src) stmts h s hs p k kind ka fl lp right rp on
    conds hj x hx

theorem C11_join_condition_self (conds : ExprList) :
    Node.expr (buildJoinCondition conds) ∈ allNodes (.expr (buildJoinCondition conds)) :=
  allNodes_self_mem _

theorem allNodes_child_mem {n m k : Node} {kids : List Node} (hm : m ∈ allNodes n)
    (hc : m.children = some kids) (hk : k ∈ kids) : k ∈ allNodes n :=
  allNodes_forall (P := fun x => ∀ y ∈ allNodes x, y ∈ allNodes n)
    (fun hx hcx _ hk y hy => hx y (mem_allNodes_kid hcx hk y hy)) n (fun _ h => h) m hm k
    (mem_allNodes_kid hc hk k (allNodes_self_mem k))

/-- in particular: whenever `writeExpr` in join mode is at an `x == y` node below the join
    condition, both arguments of `hasJoinTerms` are covered by `C11_parsed_join_conditions` -/
theorem C11_eq_operands_mem (e x y : Expr) (sp : Span) (op : TokKind)
    (h : Node.expr (.binary x sp op y) ∈ allNodes (.expr e)) :
    Node.expr x ∈ allNodes (.expr e) ∧ Node.expr y ∈ allNodes (.expr e) :=
  ⟨allNodes_child_mem h (kids := [.expr x, .expr y]) rfl (by simp),
   allNodes_child_mem h (kids := [.expr x, .expr y]) rfl (by simp)⟩

/-! ### non-vacuity of the parsed corollary

`A | join (B) on $left.x == $right.y`: the tokens below are what `scan` returns for this text
(`joinSrc_scan`, kernel-checked after unsealing the well-founded `scanFrom`), and the parser
model maps them, by kernel reduction, to `joinStmt`; `joinSrc_parse` is the source-level fact. -/

def joinSrc : Bytes := Bytes.ofString "A | join (B) on $left.x == $right.y"

def joinToks : List Token :=
  [⟨.ident, 0, 1, [65]⟩, ⟨.pipe, 2, 3, []⟩, ⟨.ident, 4, 8, [106, 111, 105, 110]⟩, ⟨.lparen, 9, 10, []⟩,
   ⟨.ident, 10, 11, [66]⟩, ⟨.rparen, 11, 12, []⟩, ⟨.ident, 13, 15, [111, 110]⟩,
   ⟨.ident, 16, 21, [36, 108, 101, 102, 116]⟩, ⟨.dot, 21, 22, []⟩, ⟨.ident, 22, 23, [120]⟩,
   ⟨.eq, 24, 26, []⟩, ⟨.ident, 27, 33, [36, 114, 105, 103, 104, 116]⟩, ⟨.dot, 33, 34, []⟩,
   ⟨.ident, 34, 35, [121]⟩]

theorem joinSrc_scan : scan joinSrc = joinToks := by decide +kernel

def joinL : Expr := .qident [⟨[36, 108, 101, 102, 116], ⟨16, 21⟩, false⟩, ⟨[120], ⟨22, 23⟩, false⟩]
def joinR : Expr := .qident [⟨[36, 114, 105, 103, 104, 116], ⟨27, 33⟩, false⟩, ⟨[121], ⟨34, 35⟩, false⟩]
def joinCond : Expr := .binary joinL ⟨24, 26⟩ .eq joinR

def joinStmt : Stmt :=
  .tabular (.mk (some ⟨[65], ⟨0, 1⟩, false⟩)
    (.cons (.join ⟨2, 3⟩ ⟨4, 8⟩ .null .null none ⟨9, 10⟩ (.mk (some ⟨[66], ⟨10, 11⟩, false⟩) .nil)
      ⟨11, 12⟩ ⟨13, 15⟩ (.cons joinCond .nil)) .nil))

theorem joinToks_parse : parseTokens 35 joinToks = ([joinStmt], []) := by rfl

theorem joinSrc_parse : parse joinSrc = ([joinStmt], []) := by
  have hl : joinSrc.length = 35 := by decide
  show parseTokens joinSrc.length (scan joinSrc) = _
  rw [joinSrc_scan, hl]
  exact joinToks_parse

/-- All hypotheses of `C11_parsed_join_conditions_tokens` hold for the join operator of
    `A | join (B) on $left.x == $right.y` and the operands `$left.x`, `$right.y` of its `==`
    (the two actual arguments of `hasJoinTerms`); the results are `(true, false)` and
    `(false, true)`, which is why the compiler drops the `coalesce` here. -/
theorem C11_parsed_join_conditions_nonvacuous :
    parseTokens 35 joinToks = ([joinStmt], []) ∧
    Node.op (.join ⟨2, 3⟩ ⟨4, 8⟩ .null .null none ⟨9, 10⟩ (.mk (some ⟨[66], ⟨10, 11⟩, false⟩) .nil)
      ⟨11, 12⟩ ⟨13, 15⟩ (.cons joinCond .nil)) ∈ allNodes (Node.ofStmt joinStmt) ∧
    buildJoinCondition (.cons joinCond .nil) = joinCond ∧
    Node.expr joinL ∈ allNodes (.expr (buildJoinCondition (.cons joinCond .nil))) ∧
    Node.expr joinR ∈ allNodes (.expr (buildJoinCondition (.cons joinCond .nil))) ∧
    hasJoinTerms joinL = (true, false) ∧ hasJoinTerms joinR = (false, true) := by
  have hb : buildJoinCondition (.cons joinCond .nil) = joinCond := by rfl
  have hm := C11_eq_operands_mem joinCond joinL joinR ⟨24, 26⟩ .eq (allNodes_self_mem _)
  refine ⟨joinToks_parse, ?_, hb, by rw [hb]; exact hm.1, by rw [hb]; exact hm.2, by decide, by decide⟩
  refine allNodes_child_mem (m := Node.ofStmt joinStmt) (allNodes_self_mem _) rfl ?_
  simp [OpList.toList]

end Pql.Glue
