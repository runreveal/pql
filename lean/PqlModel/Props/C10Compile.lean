/-
Property C10, positions used by the compiler: C08's token accounting (Lemmas/GlueAcc.lean), the span
extents of Props/C10Extent.lean and `linecol` (Props/C10Linecol.lean) composed on `parse src`.

(i)  "implicit column names sliced from the source": `(*subquery).write` names an unnamed
     `extend` / `summarize` column `ctx.source[span.Start:span.End]` with `span = col.X.Span()`
     (model: `columnAlias` / `sliceSource`, Model/Compile.lean).  For every error-free
     `parse src` that slice is exactly the source text from the start of the first token of the
     column expression to the end of its last token; it is a non-empty range inside the source,
     so the slice never panics.
(ii) "line:column prefixes of error messages point into the source", for `Compile` errors.
     The model's `WErr` / `CompileResult.error` do NOT carry the error's span (the Go hook
     `VerifCompileErrorSpan` exposes it).  So the statement is proved for every span a
     `compileError` of pql.go can carry — the span of a statement ("batch queries"), of a join
     flavour identifier, of an identifier part or of a whole qualified identifier (the `let` /
     `$left`-outside-join errors of `writeExpression`), and `Span{x.Lparen.End, x.Rparen.Start}`
     of a call (the ten arity errors): each satisfies `0 ≤ start ≤ end ≤ len(src)`, hence is
     valid, `source[:start]` does not panic, and `linecol` gives a line of the source and a
     column ≥ 1.
-/
import PqlModel.Lemmas.GlueAcc
import PqlModel.Props.C05Parsed
import PqlModel.Props.C10Failed
import PqlModel.Props.C10Linecol
import PqlModel.Lemmas.LexSplit
namespace Pql.Glue
open Pql Grammar ParsedOK

/-- the text of the expression `e` in the source `src`: `e` stands for a non-empty sublist `seg` of
    the tokens of `scan src` (in order; that they are adjacent is not stated; its `unparse` accounts
    for them, kinds, values and positions), its `Span()` is the extent of `seg`, a non-empty range
    inside the source, and slicing the source at that span — what the compiler does for an implicit
    column name — succeeds with exactly the bytes from the first token's start to the last token's
    end -/
def IsSourceText (src : Bytes) (e : Expr) : Prop :=
  ∃ (us : List UTok) (seg : List Token) (hne : seg ≠ []),
    unparseExpr e = some us ∧ accounts true us seg = true ∧ seg.Sublist (scan src) ∧
    e.spanOf = ⟨(seg.head hne).start, (seg.getLast hne).stop⟩ ∧
    (seg.head hne).start < (seg.getLast hne).stop ∧ (seg.getLast hne).stop ≤ src.length ∧
    sliceSource src e.spanOf = .ok (src.extract (seg.head hne).start (seg.getLast hne).stop)

theorem sliceSource_nat (src : Bytes) (a b : Nat) (hab : a ≤ b) (hb : b ≤ src.length) :
    sliceSource src ⟨a, b⟩ = .ok (src.extract a b) := by
  have h : (0 : Int) ≤ (a : Int) ∧ (a : Int) ≤ (b : Int) ∧ (b : Int) ≤ (src.length : Int) := by omega
  have e : ((b : Int) - (a : Int)).toNat = b - a := by omega
  simp only [sliceSource, h, and_self, if_true, Int.toNat_natCast, e, List.extract]

theorem isSourceText_of_seg (src : Bytes) (e : Expr) (h : ESeg (scan src) e) : IsSourceText src e := by
  obtain ⟨us, hu, seg, hsub, ha⟩ := h
  obtain ⟨hne, hsp⟩ := C10.C10_span_extent_expr e us seg hu ((scan_tokOK src).sublist hsub) ha
  obtain ⟨h1, h2⟩ := seg_extent_bounds hsub hne
  refine ⟨us, seg, hne, hu, ha, hsub, hsp, h1, h2, ?_⟩
  rw [hsp]
  exact sliceSource_nat src _ _ (Nat.le_of_lt h1) h2

/-- **C10 (every expression's span is its source text).**  If `parse src` reports no error,
    every expression position of the program (operator arguments, column expressions, sort
    terms, join conditions at any join depth, `let` values) satisfies `IsSourceText`. -/
theorem C10_expr_span_is_source_text (src : Bytes) (stmts : List Stmt) (h : parse src = (stmts, [])) :
    ∀ s ∈ stmts, StmtAll (IsSourceText src) (fun l => ∀ e ∈ l.toList, IsSourceText src e) s := by
  intro s hs
  refine ParsedOK.StmtAll.imp ?_ ?_ s (parsed_segs src stmts h s hs)
  · exact isSourceText_of_seg src
  · intro l hl e he
    exact isSourceText_of_seg src e (hl.mem e he)

mutual
/-- the columns `(*subquery).write` may have to name: those of `extend` and `summarize`
    operators (aggregates and group-by keys), at any join depth -/
def tabColumns : Tabular → List Column
  | .nil => []
  | .mk _ ops => opsColumns ops
def opColumns : Op → List Column
  | .extend _ _ cs => cs
  | .summarize _ _ cs _ gs => cs ++ gs
  | .join _ _ _ _ _ _ right _ _ _ => tabColumns right
  | _ => []
def opsColumns : OpList → List Column
  | .nil => []
  | .cons o os => opColumns o ++ opsColumns os
end

def stmtColumns : Stmt → List Column
  | .tabular t => tabColumns t
  | .let_ .. => []

section
variable {E : Expr → Prop} {EL : ExprList → Prop}
theorem all_columns_alg : TreeAlg (fun t => TabAll E EL t → ∀ c ∈ tabColumns t, E c.x)
    (fun o => OpAll E EL o → ∀ c ∈ opColumns o, E c.x)
    (fun ops => OpsAll E EL ops → ∀ c ∈ opsColumns ops, E c.x) where
  tnil := fun _ => all_nil
  tmk := fun _ _ ih => ih
  onil := fun _ => all_nil
  cons := fun _ _ iho ihl h c hc => (List.mem_append.1 hc).elim (iho h.1 c) (ihl h.2 c)
  count := fun _ _ _ => all_nil
  where_ := fun _ _ _ _ => all_nil
  sort := fun _ _ _ _ => all_nil
  take := fun _ _ _ _ => all_nil
  top := fun _ _ _ _ _ _ => all_nil
  project := fun _ _ _ _ => all_nil
  extend := fun _ _ _ h => h
  summarize := fun _ _ _ _ _ h c hc => (List.mem_append.1 hc).elim (h.1 c) (h.2 c)
  join := fun _ _ _ _ _ _ _ _ _ _ ih h => ih h.1
  as_ := fun _ _ _ _ => all_nil
  render := fun _ _ _ _ _ _ _ _ => all_nil

theorem tabAll_columns : ∀ t : Tabular, TabAll E EL t → ∀ c ∈ tabColumns t, E c.x :=
  all_columns_alg.tabular

theorem opsAll_columns : ∀ ops : OpList, OpsAll E EL ops → ∀ c ∈ opsColumns ops, E c.x :=
  all_columns_alg.ops
end

/-- **C10 (implicit column names are source text).**  If `parse src` reports no error, then for
    every column `c` of an `extend` or `summarize` operator (aggregate or group-by key, at any
    join depth) of the program, the expression `c.x` satisfies `IsSourceText`; and when the
    column is unnamed, the alias the compile model writes for it (in every scope and mode) is
    `AS` the quoted identifier whose name is exactly the source text
    `src[start of first token of c.x, end of last token of c.x)` — a non-empty range inside
    the source; in particular the slice does not panic. -/
theorem C10_implicit_name_is_source_text (src : Bytes) (stmts : List Stmt)
    (h : parse src = (stmts, [])) :
    ∀ s ∈ stmts, ∀ c ∈ stmtColumns s, c.name = none →
      ∃ (us : List UTok) (seg : List Token) (hne : seg ≠ []),
        unparseExpr c.x = some us ∧ accounts true us seg = true ∧ seg.Sublist (scan src) ∧
        c.x.spanOf = ⟨(seg.head hne).start, (seg.getLast hne).stop⟩ ∧
        (seg.head hne).start < (seg.getLast hne).stop ∧ (seg.getLast hne).stop ≤ src.length ∧
        ∀ (scope : List (Bytes × List Chunk)) (mode : Mode),
          columnAlias ⟨src, scope, mode⟩ c =
            .ok [.txt " AS ", .qid (src.extract (seg.head hne).start (seg.getLast hne).stop)] := by
  intro s hs c hc hn
  have hall := C10_expr_span_is_source_text src stmts h s hs
  have hx : IsSourceText src c.x := by
    cases s with
    | let_ => simp [stmtColumns] at hc
    | tabular t =>
      simp only [StmtAll] at hall
      simp only [stmtColumns] at hc
      exact tabAll_columns t hall c hc
  obtain ⟨us, seg, hne, h1, h2, h3, h4, h5, h6, h7⟩ := hx
  refine ⟨us, seg, hne, h1, h2, h3, h4, h5, h6, ?_⟩
  intro scope mode
  simp only [columnAlias, hn, h7]
  rfl

/-- `0 ≤ start ≤ stop ≤ len(src)` (`C10.Inside`): the span is valid (`IsValid()`), so the message
    gets its `line:col: ` prefix, and `source[:start]` in `linecol` is in range -/
abbrev ErrSpanOK (src : Bytes) (sp : Span) : Prop := C10.Inside src.length sp

theorem errSpanOK_token {src : Bytes} {t : Token} (ht : t ∈ scan src) : ErrSpanOK src t.span :=
  C10.scan_tokens_inside src t ht

theorem _root_.Pql.DQual.spans : ∀ {is : List Ident} {ts : List Token}, DQual is ts →
    ∀ p ∈ is, ∃ t ∈ ts, p.span = t.span
  | _, _, .nil => nofun
  | _, _, .cons (t := t) _ ht hq => fun p hp => by
    rcases List.mem_cons.1 hp with rfl | hp
    · exact ⟨t, by simp, tokOk_span ht⟩
    · obtain ⟨t', ht', h'⟩ := hq.spans p hp
      exact ⟨t', by simp [ht'], h'⟩

/-- the spans `writeExpression` and the built-in writers attach to their errors below `e`:
    for every qualified identifier at any depth its own span and the span of each part, for
    every call `Span{Lparen.End, Rparen.Start}` -/
def ExprErrSpansOK (src : Bytes) (e : Expr) : Prop :=
  ∀ d, Expr.Sub d e →
    (∀ parts, d = .qident parts → ErrSpanOK src d.spanOf ∧ ∀ p ∈ parts, ErrSpanOK src p.span) ∧
    (∀ fn lp args rp, d = .call fn lp args rp → ErrSpanOK src ⟨lp.stop, rp.start⟩)

theorem exprErrSpansOK_of_seg (src : Bytes) (e : Expr) (h : ESeg (scan src) e) :
    ExprErrSpansOK src e := by
  intro d hd
  have hseg := h.sub hd
  refine ⟨?_, ?_⟩
  · rintro parts rfl
    obtain ⟨_, seg, hne, _, _, _, hsp, h1, h2, _⟩ := isSourceText_of_seg src _ hseg
    refine ⟨?_, ?_⟩
    · rw [hsp]; simp only [C10.Inside]; omega
    · obtain ⟨us, hu, seg', hsub, ha⟩ := hseg
      intro p hp
      cases dexpr_of_acc _ hu ha with
      | @qident i _ t _ ht hq =>
        rcases List.mem_cons.1 hp with rfl | hp
        · rw [tokOk_span ht (sp := p.span)]
          exact errSpanOK_token (hsub.subset (by simp))
        · obtain ⟨t', ht', h'⟩ := hq.spans p hp
          rw [h']
          exact errSpanOK_token (hsub.subset (by simp [ht']))
  · rintro fn lp args rp rfl
    obtain ⟨us, hu, seg, hsub, ha⟩ := hseg
    -- the parentheses of a call are two tokens, the opening one before the closing one
    cases dexpr_of_acc _ hu ha with
    | @call _ _ _ _ tf tl tr ta tc _ hl _ _ hr =>
      have hok := (scan_tokOK src).sublist hsub
      have hle : tl.stop ≤ tr.start :=
        (List.pairwise_cons.mp (List.pairwise_cons.mp hok.2).2).1 tr (by simp)
      have b1 := mem_scan_bounds src tl (hsub.subset (by simp))
      have b2 := mem_scan_bounds src tr (hsub.subset (by simp))
      rw [tokOk_span hl (sp := lp), tokOk_span hr (sp := rp)]
      simp only [C10.Inside, Token.span]
      omega

mutual
/-- the flavour identifiers (`kind = …`) of the join operators, at any join depth -/
def tabFlavors : Tabular → List Ident
  | .nil => []
  | .mk _ ops => opsFlavors ops
def opFlavors : Op → List Ident
  | .join _ _ _ _ fl _ right _ _ _ => fl.toList ++ tabFlavors right
  | _ => []
def opsFlavors : OpList → List Ident
  | .nil => []
  | .cons o os => opFlavors o ++ opsFlavors os
end

def stmtFlavors : Stmt → List Ident
  | .tabular t => tabFlavors t
  | .let_ .. => []

theorem flavAlg (ts : List Token) :
    UnparseAlg (fun t us => Inf us ts → ∀ f ∈ tabFlavors t, ∃ tk ∈ ts, f.span = tk.span)
      (fun o us => Inf us ts → ∀ f ∈ opFlavors o, ∃ tk ∈ ts, f.span = tk.span)
      (fun l us => Inf us ts → ∀ f ∈ opsFlavors l, ∃ tk ∈ ts, f.span = tk.span) where
  tmk := fun _ _ _ _ ih hu => ih hu.tail
  onil := fun _ => List.forall_mem_nil _
  cons := fun _ _ _ _ _ _ iho ihl hu f hf =>
    (List.mem_append.1 hf).elim (iho hu.left f) (ihl hu.right f)
  -- a join unparses to `| join [kind = f] ( r ) on cs`: `.left` is what stands before `)`, the tails
  -- drop `| join (`, resp. `| join kind =` in front of `f` and then `f (` in front of `r`
  join := fun _ _ _ _ _ _ _ _ _ _ _ _ ih _ _ _ _ hu => ih hu.left.tail.tail.tail
  joinKind := fun _ _ _ _ fl _ _ _ _ _ _ _ _ ih _ _ hu f hf => by
    rcases List.mem_cons.1 hf with rfl | hf
    · obtain ⟨seg, hsub, ha⟩ := hu.left.tail.tail.tail.tail.head
      obtain ⟨t, rfl, hsp⟩ := accounts_span_single (u := identTok f) f.span rfl rfl rfl ha
      exact ⟨t, hsub.subset (by simp), hsp⟩
    · exact ih hu.left.tail.tail.tail.tail.tail.tail f hf
  count := fun _ _ _ => List.forall_mem_nil _
  where_ := fun _ _ _ _ _ _ => List.forall_mem_nil _
  sort := fun _ _ _ _ _ _ _ => List.forall_mem_nil _
  take := fun _ _ _ _ _ _ => List.forall_mem_nil _
  top := fun _ _ _ _ _ _ _ _ _ _ => List.forall_mem_nil _
  project := fun _ _ _ _ _ _ _ => List.forall_mem_nil _
  extend := fun _ _ _ _ _ _ _ => List.forall_mem_nil _
  summarize := fun _ _ _ _ _ _ _ _ _ => List.forall_mem_nil _
  summarizeBy := fun _ _ _ _ _ _ _ _ _ _ _ _ => List.forall_mem_nil _
  as_ := fun _ _ _ _ => List.forall_mem_nil _
  render := fun _ _ _ _ _ _ _ _ => List.forall_mem_nil _
  renderWith := fun _ _ _ _ _ _ _ _ _ _ _ _ => List.forall_mem_nil _

theorem tab_flavors (ts : List Token) (t : Tabular) (us : List UTok) (h : unparseTabular t = some us)
    (hu : Inf us ts) : ∀ f ∈ tabFlavors t, ∃ tk ∈ ts, f.span = tk.span :=
  (flavAlg ts).tabular t us h hu

theorem ops_flavors (ts : List Token) : ∀ (ops : OpList) (us : List UTok), unparseOps ops = some us →
    Inf us ts → ∀ f ∈ opsFlavors ops, ∃ tk ∈ ts, f.span = tk.span :=
  (flavAlg ts).ops

theorem op_flavors (ts : List Token) : ∀ (o : Op) (us : List UTok), unparseOp o = some us →
    Inf us ts → ∀ f ∈ opFlavors o, ∃ tk ∈ ts, f.span = tk.span :=
  (flavAlg ts).op

theorem parsed_stmt_spans (src : Bytes) (stmts : List Stmt) (h : parse src = (stmts, [])) :
    ∀ s ∈ stmts, ErrSpanOK src s.spanOf ∧ ∀ f ∈ stmtFlavors s, ErrSpanOK src f.span := by
  intro s hs
  obtain ⟨g, us, hg, hus, ha, htidy⟩ := C10.parsed_group src stmts h s hs
  obtain ⟨hne, hsp⟩ := C10.C10_span_extent_stmt s us g htidy hus ((scan_tokOK src).sublist hg) ha
  obtain ⟨h1, h2⟩ := seg_extent_bounds hg hne
  refine ⟨?_, ?_⟩
  · rw [hsp]; simp only [C10.Inside]; omega
  · intro f hf
    cases s with
    | let_ => simp [stmtFlavors] at hf
    | tabular t =>
      obtain ⟨tk, htk, hsp'⟩ := tab_flavors (scan src) t us hus ⟨g, hg, ha⟩ f hf
      rw [hsp']
      exact errSpanOK_token htk

/-- what `compileError.Error()` does with an `ErrSpanOK` span: it is valid, `source[:start]` is
    in range, and `linecol` reports a line of the source (1 + number of newline bytes before the
    position, at most the number of lines) and a column ≥ 1 -/
theorem errSpanOK_linecol (src : Bytes) (sp : Span) (h : ErrSpanOK src sp) :
    sp.isValid = true ∧ sp.start.toNat ≤ src.length ∧
    (linecol src sp.start.toNat).1 = 1 + (src.take sp.start.toNat).count 10 ∧
    1 ≤ (linecol src sp.start.toNat).1 ∧ (linecol src sp.start.toNat).1 ≤ 1 + src.count 10 ∧
    1 ≤ (linecol src sp.start.toNat).2 := by
  obtain ⟨h1, h2, h3⟩ := h
  refine ⟨by simp [Span.isValid]; omega, by omega, C10.C10_linecol_line src _,
    (C10.C10_linecol_line_bounds src _).1, (C10.C10_linecol_line_bounds src _).2,
    C10.C10_linecol_col_pos src _⟩

/-- **C10 (`Compile` errors point into the source).**  The compile model does not carry the span
    of a compile error (`WErr.err`, `CompileResult.error`), so this is stated for every span a
    `compileError` of pql.go can carry.  If `parse src` reports no error then, for every
    statement of the program,
    * the statement's span ("batch queries not supported"),
    * the span of every join flavour identifier, at any join depth ("unhandled join type"),
    * below every expression position (operator arguments, columns, sort terms, join conditions,
      `let` values), at any depth: the span of every qualified identifier and of each of its
      parts ("unknown identifier … in let expression", "quoted / qualified identifier not
      permitted in let expression", "$left used in non-join context"), and
      `Span{x.Lparen.End, x.Rparen.Start}` of every call (the arity errors of the built-ins)
    all satisfy `0 ≤ start ≤ end ≤ len(src)`; and (`errSpanOK_linecol`) for such a span the
    message gets a `line:col: ` prefix with `1 ≤ line ≤ number of lines of src`, `col ≥ 1`,
    computed from `src[:start]` without a slice panic. -/
theorem C10_compile_error_linecol (src : Bytes) (stmts : List Stmt) (h : parse src = (stmts, [])) :
    ∀ s ∈ stmts,
      ErrSpanOK src s.spanOf ∧
      (∀ f ∈ stmtFlavors s, ErrSpanOK src f.span) ∧
      StmtAll (ExprErrSpansOK src) (fun l => ∀ e ∈ l.toList, ExprErrSpansOK src e) s := by
  intro s hs
  obtain ⟨h1, h2⟩ := parsed_stmt_spans src stmts h s hs
  refine ⟨h1, h2, ?_⟩
  refine ParsedOK.StmtAll.imp ?_ ?_ s (parsed_segs src stmts h s hs)
  · exact exprErrSpansOK_of_seg src
  · intro l hl e he
    exact exprErrSpansOK_of_seg src e (hl.mem e he)

private abbrev B := Bytes.ofString

def exSrc2 : Bytes := B "T | extend x + 1, y = 2 | summarize count() by  a*2"

-- `ex2_eval` decides an equation between `Except` values (`columnAlias …`), for which core has no
-- `DecidableEq`; the instance is visible to every importer of this file
deriving instance DecidableEq for Except

/-- the kernel runs `parse` on the example here, once; `ex2_applies` reads the result off -/
theorem ex2_eval : (parse exSrc2).2 = [] ∧
    ((parse exSrc2).1.flatMap stmtColumns).map
        (fun c => (c.name.isNone, columnAlias ⟨exSrc2, [], .default⟩ c)) =
      [(true, .ok [.txt " AS ", .qid (B "x + 1")]), (false, .ok [.txt " AS ", .qid (B "y")]),
       (true, .ok [.txt " AS ", .qid (B "count()")]), (true, .ok [.txt " AS ", .qid (B "a*2")])] := by
  decide +kernel

/-- the four `extend` / `summarize` columns of the example (summarize: aggregates, then keys) and
    the alias the model writes: the three unnamed ones are named by their source text -/
theorem ex2_names :
    ((parse exSrc2).1.flatMap stmtColumns).map
        (fun c => (c.name.isNone, columnAlias ⟨exSrc2, [], .default⟩ c)) =
      [(true, .ok [.txt " AS ", .qid (B "x + 1")]), (false, .ok [.txt " AS ", .qid (B "y")]),
       (true, .ok [.txt " AS ", .qid (B "count()")]), (true, .ok [.txt " AS ", .qid (B "a*2")])] :=
  ex2_eval.2

/-- the theorem applies to the example (non-vacuity of the hypothesis) -/
theorem ex2_applies : ∀ s ∈ (parse exSrc2).1, ∀ c ∈ stmtColumns s, c.name = none →
    IsSourceText exSrc2 c.x := by
  intro s hs c hc hn
  have hp : parse exSrc2 = ((parse exSrc2).1, []) := eq_pair_nil ex2_eval.1
  obtain ⟨us, seg, hne, h1, h2, h3, h4, h5, h6, h7⟩ :=
    C10_implicit_name_is_source_text exSrc2 _ hp s hs c hc hn
  refine ⟨us, seg, hne, h1, h2, h3, h4, h5, h6, ?_⟩
  rw [h4]
  exact sliceSource_nat _ _ _ (Nat.le_of_lt h5) h6

/-- **the hypothesis "`stmts` is the error-free parse of `src`" is needed** in (i): for a tree
    that was not parsed from the source handed to the compiler the slice can be out of range
    (the Go code panics) -/
theorem C10_implicit_name_needs_parse :
    let c : Column := ⟨none, .null, .lit ⟨5, 20⟩ .number (B "1")⟩
    let stmts : List Stmt := [.tabular (.mk (some ⟨B "T", ⟨0, 1⟩, false⟩) (.cons (.extend .null .null [c]) .nil))]
    c ∈ stmts.flatMap stmtColumns ∧ c.name = none ∧
      columnAlias ⟨B "T | extend 1", [], .default⟩ c = .error .panic := by
  refine ⟨by simp [stmtColumns, tabColumns, opsColumns, opColumns], rfl, ?_⟩
  with_unfolding_all rfl

def firstWhere : List Stmt → Option Expr
  | [.tabular (.mk _ (.cons (.where_ _ _ e) _))] => some e
  | _ => none

unseal Pql.scanFrom in
/-- **"error-free" is needed** in (ii): `T | where f(a` is parsed (with one error) to a call whose
    `Rparen` is the null span, so `Span{Lparen.End, Rparen.Start}` is `12:-1` — invalid (Go
    would print the message without `line:col`; `Compile` never gets there, it returns the parse
    error) -/
theorem C10_compile_error_needs_error_free :
    firstWhere (parse (B "T | where f(a")).1 =
      some (.call ⟨B "f", ⟨10, 11⟩, false⟩ ⟨11, 12⟩ (.cons (.qident [⟨B "a", ⟨12, 13⟩, false⟩]) .nil) .null) ∧
    (parse (B "T | where f(a")).2 ≠ [] ∧
    ¬ ErrSpanOK (B "T | where f(a") ⟨(⟨11, 12⟩ : Span).stop, Span.null.start⟩ := by
  refine ⟨by with_unfolding_all rfl, by decide +kernel, ?_⟩
  simp [C10.Inside, Span.null]

def exSrc3 : Bytes := B "A | join kind=inner (B) on $left.x == $right.y | where f(a, b) > 1"

theorem ex3_eval : (parse exSrc3).2 = [] ∧
    ((parse exSrc3).1.flatMap stmtFlavors).map (·.span) = [⟨14, 19⟩] ∧
    (parse exSrc3).1.map (·.spanOf) = [⟨0, 66⟩] := by
  decide +kernel

/-- non-vacuity of (ii): the example has a join flavour (`inner` at 14:19) and, in its `where`,
    a call `f(a, b)` whose arity-error span would be 57:61 = `a, b` -/
theorem ex3_spans :
    ((parse exSrc3).1.flatMap stmtFlavors).map (·.span) = [⟨14, 19⟩] ∧
    (parse exSrc3).1.map (·.spanOf) = [⟨0, 66⟩] :=
  ex3_eval.2

theorem ex3_applies : ∀ s ∈ (parse exSrc3).1,
    ErrSpanOK exSrc3 s.spanOf ∧ (∀ f ∈ stmtFlavors s, ErrSpanOK exSrc3 f.span) ∧
    StmtAll (ExprErrSpansOK exSrc3) (fun l => ∀ e ∈ l.toList, ExprErrSpansOK exSrc3 e) s :=
  C10_compile_error_linecol exSrc3 _ (eq_pair_nil ex3_eval.1)

end Pql.Glue
