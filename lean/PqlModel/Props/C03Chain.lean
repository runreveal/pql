/-
Property C03, the whole statement: for
      T | before | join kind=… (U | rops) on conds | after
with join-free `before`, `rops`, `after` (and `after` not starting with sort / take / top, which would be
attached to the join's own SELECT), the intended statement evaluates to the documented meaning

      after ( joinTables kind  (before T)  (rops U)  conds )         =  Rel.interp … the pipeline

The semantics of the join-free blocks is taken as hypotheses `hR3b`, `hR3r`, `hR3a` (`JoinSem.BlockSem` of
`before`, `rops`, `after`): what property C02 (`C02_statement_semantics`) says of each of the three blocks, in
the form "binding the block's links as CTEs behind already evaluated links, its last name is bound to the
pipeline's meaning".  `C03_chain_unconditional` (Props/C03Full.lean) is the theorem without them, and
`C03_statement_semantics` there covers this pipeline among all others (on rectangular databases).
-/
import PqlModel.Lemmas.JoinSemChain
import PqlModel.Props.C03Semantics
namespace Pql.C03
open Pql Sql CompileOracle Intended JoinSem

/-- **C03 (the chain).**  The proof does not use `hjr`: of `rops` it needs only `hR3r`. -/
theorem C03_chain (src : Bytes) (db : DB) (T U : Ident) (before after rops : OpList) (p k a b : Span)
    (flavor : Option Ident) (d e f : Span) (conds : ExprList) (subs : List SubA) (st : Statement)
    (hjb : SplitQ.joinFree before = true) (hjr : SplitQ.joinFree rops = true)
    (hja : SplitQ.joinFree after = true) (hpl : startsPlain after = true)
    (hs : splitA [] (.mk (some T) (appendOps before
      (.cons (.join p k a b flavor d (.mk (some U) rops) e f conds) after))) = some subs)
    (hst : stmtOf src subs = some st)
    (hnames : (subs.map (·.name)).Nodup)
    (hT : T.name ∉ subs.map (·.name)) (hU : U.name ∉ subs.map (·.name))
    (hR3b : BlockSem src db [] [] T before)
    (hR3r : ∀ ctes0 dst, BlockSem src db ctes0 dst U rops)
    (hR3a : ∀ ctes0 dst (J : Ident), BlockSem src db ctes0 dst J after) :
    evalStatement db st =
      Rel.interpOps src db
        (joinTables (kindOf flavor == Bytes.ofString "innerunique") (kindOf flavor == Bytes.ofString "leftouter")
          (Rel.interpOps src db (lookupTable db [] T.name) before)
          (Rel.interp src db (.mk (some U) rops)) (buildJoinCondition conds)) after := by
  obtain ⟨B, R, left, hB, hBR, hl, hcase⟩ := chain_shape T U before after rops p k a b flavor d e f conds subs
    hjb hja hpl hs
  exact chain_eval src db T U before rops after flavor left conds B R _ subs st hja hB hBR hl rfl rfl rfl
    hcase hst hnames hT hU hR3b hR3r hR3a

/-- the right-hand side of `C03_chain` is the documented meaning of the whole pipeline -/
theorem C03_chain_meaning (src : Bytes) (db : DB) (T U : Ident) (before after rops : OpList) (p k a b : Span)
    (flavor : Option Ident) (d e f : Span) (conds : ExprList) :
    Rel.interp src db (.mk (some T) (appendOps before
      (.cons (.join p k a b flavor d (.mk (some U) rops) e f conds) after))) =
      Rel.interpOps src db
        (joinTables (kindOf flavor == Bytes.ofString "innerunique") (kindOf flavor == Bytes.ofString "leftouter")
          (Rel.interpOps src db (lookupTable db [] T.name) before)
          (Rel.interp src db (.mk (some U) rops)) (buildJoinCondition conds)) after := by
  rw [interp_mk, interpOps_append]
  simp only [Rel.interpOps]
  rw [C03_interp_join]

/-! ### non-vacuity, and the name hypotheses are necessary (name capture, known finding K3) -/
namespace Ex
def joinOp (flavor : Option Ident) (right : Tabular) : Op :=
  .join .zero .zero .zero .zero flavor .zero right .zero .zero keyK
def tabU : Tabular := .mk (some (idt "U")) .nil
/-- `T | join kind=leftouter (U) on k` -/
def prog1 : Tabular := .mk (some (idt "T")) (.cons (joinOp (some (idt "leftouter")) tabU) .nil)
def subs1 : List SubA := (splitA [] prog1).getD []
def stmt1 : Statement := (stmtOf [] subs1).getD default

theorem nilSem (ctes0 : List (Bytes × Table)) (dst : List SubA) (T : Ident) : BlockSem [] exDB ctes0 dst T .nil :=
  JoinFull.BlockSem_joinFree [] exDB ctes0 dst T .nil rfl rfl

/-- `C03_chain` instantiated (all three blocks empty): the intended statement of
    `T | join kind=leftouter (U) on k` evaluates to the documented meaning of the pipeline -/
example : splitA [] prog1 = some subs1 ∧ stmtOf [] subs1 = some stmt1 ∧
    evalStatement exDB stmt1 = Rel.interp [] exDB prog1 := by
  have hs : splitA [] prog1 = some subs1 := SelSem.eq_some_getD [] (by decide +kernel)
  have hst : stmtOf [] subs1 = some stmt1 := SelSem.eq_some_getD default (by decide +kernel)
  refine ⟨hs, hst, ?_⟩
  have := C03_chain [] exDB (idt "T") (idt "U") .nil .nil .nil .zero .zero .zero .zero (some (idt "leftouter"))
    .zero .zero .zero keyK subs1 stmt1 rfl rfl rfl rfl hs hst (by decide +kernel) (by decide +kernel) (by decide +kernel)
    (nilSem _ _ _) (fun _ _ => nilSem _ _ _) (fun _ _ _ => nilSem _ _ _)
  rw [this]
  exact (C03_chain_meaning [] exDB (idt "T") (idt "U") .nil .nil .nil .zero .zero .zero .zero
    (some (idt "leftouter")) .zero .zero .zero keyK).symm

def stmtOfT (t : Tabular) : Option Statement := (splitA [] t).bind (stmtOf [])
def namesOfT (t : Tabular) : List Bytes := ((splitA [] t).getD []).map (·.name)

/-- `hU` is necessary: in `T | as U | join (U) on k` the CTE named `U` captures the right-hand table -/
theorem C03_chain_needs_hU :
    let prog := Tabular.mk (some (idt "T")) (.cons (.as_ .zero .zero (some (idt "U"))) (.cons (joinOp none tabU) .nil))
    (namesOfT prog).Nodup ∧ bs "T" ∉ namesOfT prog ∧ bs "U" ∈ namesOfT prog ∧
    (stmtOfT prog).map (evalStatement exDB) ≠ some (Rel.interp [] exDB prog) := by decide +kernel

/-- `hT` is necessary: in `T | join (U | as T) on k` the right-hand side's name `T` captures the left table -/
theorem C03_chain_needs_hT :
    let prog := Tabular.mk (some (idt "T"))
      (.cons (joinOp none (.mk (some (idt "U")) (.cons (.as_ .zero .zero (some (idt "T"))) .nil))) .nil)
    (namesOfT prog).Nodup ∧ bs "T" ∈ namesOfT prog ∧ bs "U" ∉ namesOfT prog ∧
    (stmtOfT prog).map (evalStatement exDB) ≠ some (Rel.interp [] exDB prog) := by decide +kernel

/-- `hnames` is necessary: in `T | as X | join (U | as X) on k` the second `X` is shadowed by the first -/
theorem C03_chain_needs_hnames :
    let prog := Tabular.mk (some (idt "T")) (.cons (.as_ .zero .zero (some (idt "X")))
      (.cons (joinOp none (.mk (some (idt "U")) (.cons (.as_ .zero .zero (some (idt "X"))) .nil))) .nil))
    ¬ (namesOfT prog).Nodup ∧ bs "T" ∉ namesOfT prog ∧ bs "U" ∉ namesOfT prog ∧
    (stmtOfT prog).map (evalStatement exDB) ≠ some (Rel.interp [] exDB prog) := by decide +kernel

/-- beyond `startsPlain`: a `sort` directly after the join is attached to the join's own SELECT, whose
    ORDER BY also sees the aliases `$left` / `$right`; the documented meaning sorts the join *result*,
    where these aliases do not exist.  (`Compile` rejects `$left` outside a join condition, so this
    program has no SQL at all; it shows that `startsPlain` cannot simply be dropped from `C03_chain`.) -/
theorem C03_sort_on_join_link_sees_aliases :
    let term : SortTerm := ⟨.qident [idt "$left", idt "a"], false, .zero, false, .zero⟩
    let prog := Tabular.mk (some (idt "T"))
      (.cons (joinOp (some (idt "leftouter")) tabU) (.cons (.sort .zero .zero [term]) .nil))
    (namesOfT prog).Nodup ∧ bs "T" ∉ namesOfT prog ∧ bs "U" ∉ namesOfT prog ∧
    (stmtOfT prog).map (evalStatement exDB) ≠ some (Rel.interp [] exDB prog) := by decide +kernel

/-- … while an ordinary sort after the join agrees on this database -/
example :
    let term : SortTerm := ⟨.qident [idt "a"], false, .zero, false, .zero⟩
    let prog := Tabular.mk (some (idt "T"))
      (.cons (joinOp (some (idt "leftouter")) tabU) (.cons (.sort .zero .zero [term]) .nil))
    (stmtOfT prog).map (evalStatement exDB) = some (Rel.interp [] exDB prog) := by decide +kernel
end Ex

end Pql.C03
