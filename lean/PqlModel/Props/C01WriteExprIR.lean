/-
Property C01 (and C13), tie by translation: the expression layer of pql.go.

`harness/extract_expr.go` regenerates an IR of `writeExpression`, `writeExpressionMaybeParen`,
`writeExpressionTight`, `hasJoinTerms` and of every `write*Function` from the go/ast of pql.go on every
run (`Facts.exprIR`); `Model/ExprIR.lean` interprets it.  This file: the regenerated units, decoded
(`…_ir : decode (irOf key) = some <tree> := by rfl` — a change of the Go code changes the regenerated IR
and one of these stops building), and the theorems for the two wrappers (the model's `wrapMaybe` /
`wrapTight` after `writeExpression`, for every callee) and for `hasJoinTerms` (the model's, on every
expression `Walk` does not panic on).  Props/C01WriteExprIRCases.lean and …All.lean treat
`writeExpression` itself.
-/
import PqlModel.Model.ExprIR
import PqlModel.Lemmas.ExprIRSimp
import PqlModel.Props.C11Compile
import PqlModel.Props.C01
namespace Pql.ExprIR
open Pql
open Pql.WriteIR (M IErr liftW goPanic stuck Path)
set_option linter.unusedSimpArgs false

def X : Path := ⟨"x", ""⟩

def maybeIR : List Stmt :=
  [.unparen "x" "p" "ok" "ParenExpr" "X",
   .ite (.or (.typeIs "_" "QualifiedIdent" X) (.or (.typeIs "_" "UnaryExpr" X) (.typeIs "_" "BasicLit" X)))
     [.retWrite "plain" X]
     [.ite (.typeIs "x" "CallExpr" X)
        [.scope [.defKnown "f" ⟨"x", "Func.Name"⟩,
                 .ite (.or (.isNil ⟨"f", ""⟩) (.not (.flag ⟨"f", "needsParens"⟩))) [.retWrite "plain" X] []]]
        []],
   .lit "(", .write "plain" X, .lit ")", .ret]

theorem maybe_ir : decode (irOf "writeExpressionMaybeParen") = some maybeIR := by rfl

def tightIR : List Stmt :=
  [.def_ "inner" X,
   .unparen "inner" "p" "ok" "ParenExpr" "X",
   .ite (.typeIs "_" "UnaryExpr" ⟨"inner", ""⟩) [.lit "(", .write "plain" ⟨"inner", ""⟩, .lit ")", .ret] [],
   .retWrite "maybe" X]

theorem tight_ir : decode (irOf "writeExpressionTight") = some tightIR := by rfl

def visitorIR : List Stmt :=
  [.ite (.typeIs "n" "Ident" ⟨"n", ""⟩)
     [.ite (.strEqC ⟨"n", "Name"⟩ "leftJoinTableAlias") [.setBool "left" "true"]
        [.ite (.strEqC ⟨"n", "Name"⟩ "rightJoinTableAlias") [.setBool "right" "true"] []]]
     [],
   .visitRet "true"]

def hasJoinIR : List Stmt := [.walk "n" X visitorIR, .ret]

theorem hasJoin_ir : decode (irOf "hasJoinTerms") = some hasJoinIR := by rfl

theorem bind_ok {ε α β : Type} (a : α) (f : α → Except ε β) : (Except.ok a : Except ε α) >>= f = f a := rfl
theorem bind_err {ε α β : Type} (e : ε) (f : α → Except ε β) : (Except.error e : Except ε α) >>= f = .error e := rfl
theorem pure_ok {ε α : Type} (a : α) : (pure a : Except ε α) = .ok a := rfl

/-! `execBlock` and the block statements are binds whose continuation holds the rest of the program, and `simp` works under a
binder before it looks at the bind: it would run the rest of a block on a state it does not know, and try the fallback
equation of every `match` on a value that has not been looked up yet.  Stated with the combinators below the rest is an
argument, and the lookup of a variable is resolved before its continuation is entered (`get_head_bind`, `get_tail_bind`,
tried before the subterms).  A condition `simp` cannot decide does not stop the run: the continuation goes into both
branches (`thenK_ite`, …); what a callee returns stays folded under its bind (`thenK_bind`, …).  So one `xe_simp` on a
body, run on symbolic data, yields the `if`-tree of everything the body can do; the comparison with the model comes
afterwards and runs nothing. -/

def thenK (r : M (Flow × State)) (g : State → M (Flow × State)) : M (Flow × State) :=
  r >>= fun x => match x.1 with | .next => g x.2 | _ => pure x

def leaveK (r : M (Flow × State)) (outer : State) : M (Flow × State) := r >>= fun x => pure (x.1, x.2.leave outer)

/-- the branch a condition selects, entered with what the condition binds -/
def iteK (b : M (Bool × List (String × Val))) (st : State) (t e : State → M (Flow × State)) : M (Flow × State) :=
  b >>= fun x => if x.1 then t { st with vars := x.2 ++ st.vars } else e st

def bindK {β : Type} (r : M (Flow × State)) (g : Flow × State → M β) : M β := r >>= g

theorem thenK_next (st : State) (g : State → M (Flow × State)) : thenK (.ok (.next, st)) g = g st := rfl
theorem thenK_ret (st : State) (g : State → M (Flow × State)) : thenK (.ok (.ret, st)) g = .ok (.ret, st) := rfl
theorem thenK_cont (st : State) (g : State → M (Flow × State)) : thenK (.ok (.cont, st)) g = .ok (.cont, st) := rfl
theorem thenK_vret (b : Bool) (st : State) (g : State → M (Flow × State)) : thenK (.ok (.vret b, st)) g = .ok (.vret b, st) := rfl
theorem thenK_error (e : IErr) (g : State → M (Flow × State)) : thenK (.error e) g = .error e := rfl
theorem leaveK_ok (f : Flow) (st outer : State) : leaveK (.ok (f, st)) outer = .ok (f, st.leave outer) := rfl
theorem leaveK_error (e : IErr) (outer : State) : leaveK (.error e) outer = .error e := rfl
theorem iteK_ok (b : Bool) (bs : List (String × Val)) (st : State) (t e : State → M (Flow × State)) :
    iteK (.ok (b, bs)) st t e = if b then t ⟨bs ++ st.vars, st.out⟩ else e st := rfl
theorem iteK_error (x : IErr) (st : State) (t e : State → M (Flow × State)) : iteK (.error x) st t e = .error x := rfl
theorem bindK_ok {β : Type} (x : Flow × State) (g : Flow × State → M β) : bindK (.ok x) g = g x := rfl
theorem bindK_error {β : Type} (e : IErr) (g : Flow × State → M β) : bindK (.error e) g = .error e := rfl

theorem thenK_ite (c : Prop) [Decidable c] (a b : M (Flow × State)) (g : State → M (Flow × State)) :
    thenK (if c then a else b) g = if c then thenK a g else thenK b g := by split <;> rfl
theorem leaveK_ite (c : Prop) [Decidable c] (a b : M (Flow × State)) (st : State) :
    leaveK (if c then a else b) st = if c then leaveK a st else leaveK b st := by split <;> rfl
theorem iteK_ite (c : Prop) [Decidable c] (a b : M (Bool × List (String × Val))) (st : State) (t e : State → M (Flow × State)) :
    iteK (if c then a else b) st t e = if c then iteK a st t e else iteK b st t e := by split <;> rfl
theorem bindK_ite {β : Type} (c : Prop) [Decidable c] (a b : M (Flow × State)) (g : Flow × State → M β) :
    bindK (if c then a else b) g = if c then bindK a g else bindK b g := by split <;> rfl

theorem thenK_bind {α : Type} (m : M α) (f : α → M (Flow × State)) (g : State → M (Flow × State)) :
    thenK (m >>= f) g = m >>= fun x => thenK (f x) g := by cases m <;> rfl
theorem leaveK_bind {α : Type} (m : M α) (f : α → M (Flow × State)) (st : State) :
    leaveK (m >>= f) st = m >>= fun x => leaveK (f x) st := by cases m <;> rfl
theorem iteK_bind {α : Type} (m : M α) (f : α → M (Bool × List (String × Val))) (st : State) (t e : State → M (Flow × State)) :
    iteK (m >>= f) st t e = m >>= fun x => iteK (f x) st t e := by cases m <;> rfl
theorem bindK_bind {α β : Type} (m : M α) (f : α → M (Flow × State)) (g : Flow × State → M β) :
    bindK (m >>= f) g = m >>= fun x => bindK (f x) g := by cases m <;> rfl

theorem execBlock_nil (sem : Sem) (st : State) : execBlock sem [] st = .ok (.next, st) := by rw [execBlock]

theorem execBlock_cons (sem : Sem) (s : Stmt) (r : List Stmt) (st : State) :
    execBlock sem (s :: r) st = thenK (exec sem s st) (execBlock sem r) := by
  rw [execBlock, thenK]
  cases exec sem s st with
  | error e => rfl
  | ok x => obtain ⟨f, st1⟩ := x; cases f <;> rfl

theorem exec_ite (sem : Sem) (c : Cond) (t e : List Stmt) (st : State) :
    exec sem (.ite c t e) st = leaveK (iteK (evalCond st c) st (execBlock sem t) (execBlock sem e)) st := by
  rw [exec]
  cases evalCond st c with
  | error x => rfl
  | ok x => obtain ⟨b, bs⟩ := x; cases b <;> rfl

theorem exec_scope (sem : Sem) (body : List Stmt) (st : State) :
    exec sem (.scope body) st = leaveK (execBlock sem body st) st := by
  rw [exec]
  rfl

theorem get_head (v : String) (x : Val) (vs : List (String × Val)) (o : List Chunk) :
    State.get ⟨(v, x) :: vs, o⟩ v = .ok x := by
  simp [State.get]

theorem get_tail (v w : String) (x : Val) (vs : List (String × Val)) (o : List Chunk) (h : w ≠ v) :
    State.get ⟨(w, x) :: vs, o⟩ v = State.get ⟨vs, o⟩ v := by
  have h' : (w == v) = false := by simpa using h
  simp [State.get, List.find?, h']

theorem get_head_bind {α : Type} (v : String) (x : Val) (vs : List (String × Val)) (o : List Chunk) (f : Val → M α) :
    State.get ⟨(v, x) :: vs, o⟩ v >>= f = f x := by
  rw [get_head]; rfl

theorem get_tail_bind {α : Type} (v w : String) (x : Val) (vs : List (String × Val)) (o : List Chunk) (f : Val → M α)
    (h : w ≠ v) : State.get ⟨(w, x) :: vs, o⟩ v >>= f = State.get ⟨vs, o⟩ v >>= f := by
  rw [get_tail _ _ _ _ _ h]

theorem typeIs_head (r : String) (u : Expr) (vs : List (String × Val)) (o : List Chunk) (v ty : String) :
    evalCond ⟨(r, .expr u) :: vs, o⟩ (.typeIs v ty ⟨r, ""⟩) =
      .ok (exprTypeName u == ty, if exprTypeName u == ty then (if v == "_" then [] else [(v, .expr u)]) else []) := by
  rw [evalCond]
  simp only [get_head, valAt, assertType, bind_ok, beq_self_eq_true, ↓reduceIte]
  cases exprTypeName u == ty <;> rfl

/-- Go's `||` and `&&` on conditions that do not fail are those of `Bool` -/
theorem or_ok (c d : Bool) (bs : List (String × Val)) :
    (if c = true then (.ok (true, bs) : M (Bool × List (String × Val))) else .ok (d, bs)) = .ok (c || d, bs) := by
  cases c <;> rfl

theorem and_ok (c d : Bool) (bs : List (String × Val)) :
    (if c = true then (.ok (d, bs) : M (Bool × List (String × Val))) else .ok (false, bs)) = .ok (c && d, bs) := by
  cases c <;> rfl

/-- the outcome of `v, ok := m[key]` -/
def foundK (v : String) (o : Option Val) : M (Bool × List (String × Val)) := .ok (o.isSome, o.elim [] fun b => [(v, b)])

theorem mapHas_eval (st : State) (v m : String) (p : Path) :
    evalCond st (.mapHas v m p) = mapLookup st m p >>= foundK v := by
  rw [evalCond]
  cases mapLookup st m p with
  | error e => rfl
  | ok o => cases o <;> rfl

/-- a lookup whose answer is not known: both branches are run, what was found as a variable -/
theorem iteK_found (o : Option Val) (v : String) (st : State) (t e : State → M (Flow × State)) :
    iteK (foundK v o) st t e = o.elim (e st) fun b => t ⟨(v, b) :: st.vars, st.out⟩ := by
  cases o <;> rfl

theorem elim_map {α β γ : Type} (f : α → β) (o : Option α) (d : γ) (g : β → γ) :
    (o.map f).elim d g = o.elim d fun a => g (f a) := by
  cases o <;> rfl

theorem thenK_elim {α : Type} (o : Option α) (a : M (Flow × State)) (f : α → M (Flow × State)) (g : State → M (Flow × State)) :
    thenK (o.elim a f) g = o.elim (thenK a g) fun b => thenK (f b) g := by cases o <;> rfl
theorem leaveK_elim {α : Type} (o : Option α) (a : M (Flow × State)) (f : α → M (Flow × State)) (st : State) :
    leaveK (o.elim a f) st = o.elim (leaveK a st) fun b => leaveK (f b) st := by cases o <;> rfl
theorem bindK_elim {α β : Type} (o : Option α) (a : M (Flow × State)) (f : α → M (Flow × State)) (g : Flow × State → M β) :
    bindK (o.elim a f) g = o.elim (bindK a g) fun b => bindK (f b) g := by cases o <;> rfl

/-- the identifier a node of `Walk` is, if it is one -/
def identOf : Node → Option (Option Ident)
  | .ident i => some i
  | _ => none

/-- the type test of the visitor, on a node that is not known -/
theorem typeIs_node (r : String) (nd : Node) (vs : List (String × Val)) (o : List Chunk) (v : String) (h : v ≠ "_") :
    evalCond ⟨(r, .node nd) :: vs, o⟩ (.typeIs v "Ident" ⟨r, ""⟩) = foundK v ((identOf nd).map .ident) := by
  have h' : (v == "_") = false := by simpa using h
  rw [evalCond]
  simp only [get_head, valAt, bind_ok, beq_self_eq_true, ↓reduceIte]
  cases nd <;> simp only [assertType, bind_ok, h', String.reduceBEq, ↓reduceIte, Bool.false_eq_true] <;> rfl

theorem liftW_ok {α : Type} (a : α) : liftW (Except.ok a : Except WErr α) = .ok a := rfl
theorem liftW_err {α : Type} (e : WErr) : (liftW (Except.error e : Except WErr α)) = .error (.go e) := rfl
theorem map_ok {α β : Type} (f : α → β) (a : α) : Except.map f (.ok a : M α) = .ok (f a) := rfl
theorem map_err {α β : Type} (f : α → β) (e : IErr) : Except.map f (.error e : M α) = .error e := rfl

attribute [exprIR] execBlock_nil execBlock_cons thenK_next thenK_ret thenK_cont thenK_vret thenK_error leaveK_ok leaveK_error
  iteK_ok iteK_error bindK_ok bindK_error thenK_ite leaveK_ite iteK_ite bindK_ite thenK_bind leaveK_bind iteK_bind bindK_bind
  get_head get_tail or_ok and_ok iteK_found elim_map thenK_elim leaveK_elim bindK_elim bind_err pure_ok map_ok map_err
  liftW_ok liftW_err exec evalCond State.declare State.assign assignIn State.leave State.emit State.ctxOf valAt exprAt
  strAt tokAt flagAt lenAt nilAt callKind modeAt modeOf constOf boolOf scopeOf nameOf isNilExpr goPanic stuck

/- These are given by their equations on constructor forms, without the last one (`| _ => stuck`, under the hypotheses that
no earlier pattern fits): `simp` meets them under the binder of a bind, applied to the bound variable, before the value is
there, and would try to discharge those hypotheses each time. -/
attribute [exprIR] assertType.eq_1 assertType.eq_4 assertType.eq_5 listAt.eq_1 listAt.eq_2 listAt.eq_3 strChunks.eq_1
  strChunks.eq_2 strChunks.eq_3 strChunks.eq_4 sqlOfVal.eq_1 sqlOfVal.eq_2

attribute [exprIR ↓] exec_ite exec_scope get_head_bind get_tail_bind typeIs_head typeIs_node mapHas_eval bind_ok bind_assoc

-- what a run needs of the library: variable lists and their lengths, conditions, options
attribute [exprIR]
  Bool.and_eq_true Bool.and_self Bool.and_true Bool.false_eq_true Bool.false_or Bool.not_eq_eq_eq_not Bool.not_false
  Bool.not_true Bool.or_eq_true Bool.or_false Function.comp_apply List.any_cons List.any_eq_true List.any_nil
  List.append_assoc List.cons_append List.contains_eq_mem List.drop_succ_cons List.drop_zero List.find?_cons_of_neg
  List.find?_cons_of_pos List.find?_nil List.length_cons List.length_nil List.map_cons List.map_nil List.map_reverse
  List.nil_append List.tail_cons Nat.sub_self Nat.zero_add Option.elim_map Option.isNone_none Option.isNone_some
  Option.map_some beq_iff_eq decide_eq_false_iff_not decide_eq_true_eq decide_not gt_iff_lt ne_eq not_false_eq_true

/-- run a body.  The set is closed: in the default one are lemmas about the bind of other monads (`Option.bind_eq_bind`),
    tried at every bind of a run since the index does not look at the monad, `ite_self`, tried at every `if` of the
    tree, and `bind_pure_comp`, which would turn the binds of the interpreter into maps -/
syntax "xe_simp" (" [" Lean.Parser.Tactic.simpLemma,* "]")? : tactic
macro_rules
  | `(tactic| xe_simp) => `(tactic| xe_simp [])
  | `(tactic| xe_simp [$ls,*]) =>
    `(tactic| simp (config := { implicitDefEqProofs := false }) only [exprIR, bind_assoc, ↓reduceIte, String.reduceBEq,
        String.reduceEq, String.reduceAppend, Nat.reduceAdd, Nat.reduceSub, Nat.reduceBEq, $ls,*])

theorem unparenLoop_eq (e : Expr) : unparenLoop e = unparen e := by
  cases e with
  | paren _ x _ => rw [unparenLoop, unparen]; exact unparenLoop_eq x
  | _ => rfl

def finish : Flow × State → M (List Chunk)
  | (.ret, st) => .ok st.out
  | _ => stuck

theorem runWriter_eq (sem : Sem) (key : String) (body : List Stmt) (c : Ctx) (e : Expr)
    (h : decode (irOf key) = some body) :
    runWriter sem key c e = bindK (execBlock sem body ⟨[("x", .expr e), ("ctx", .ctx c none)], []⟩) finish := by
  unfold runWriter
  rw [h]
  simp only []
  cases execBlock sem body ⟨[("x", .expr e), ("ctx", .ctx c none)], []⟩ with
  | error err => rfl
  | ok r => obtain ⟨f, st⟩ := r; cases f <;> rfl

theorem leave_one (kv : String × Val) (vs : List (String × Val)) (o : List Chunk) (outer : State)
    (h : vs.length = outer.vars.length) : (State.mk (kv :: vs) o).leave outer = ⟨vs, o⟩ := by
  simp [State.leave, h]

theorem leave_two (kv kv' : String × Val) (vs : List (String × Val)) (o : List Chunk) (outer : State)
    (h : vs.length = outer.vars.length) : (State.mk (kv :: kv' :: vs) o).leave outer = ⟨vs, o⟩ := by
  have : outer.vars.length + 1 + 1 - outer.vars.length = 2 := by omega
  simp [State.leave, h, this]

theorem needsWrap_lit (a : Span) (k : TokKind) (v : Bytes) : needsWrap (.lit a k v) = false := by rfl
theorem needsWrap_nil : needsWrap .nil = true := by rfl

theorem needsWrap_other (u : Expr) (hp : notParen u = true) (hc : (exprTypeName u == "CallExpr") = false) :
    needsWrap u = !Facts.maybeParenBare.contains (exprTypeName u) := by
  cases u with
  | paren => cases hp
  | call => simp [exprTypeName] at hc
  | _ => rfl

/-- after the unwrapping loop: the body looks at the type of the expression only, unless it is a call -/
theorem maybe_core (we : Ctx → Expr → M (List Chunk)) (c : Ctx) (u : Expr) (hu : notParen u = true) :
    bindK (execBlock { noSem with plain := we } maybeIR.tail ⟨[("x", .expr u), ("ctx", .ctx c none)], []⟩) finish =
      (we c u).map (wrapMaybe u) := by
  cases hc : exprTypeName u == "CallExpr"
  · xe_simp [maybeIR, X, finish, noSem, hc, ite_self]
    cases we c u <;> simp [wrapMaybe, needsWrap_other u hu hc, Facts.maybeParenBare, parenthesise, bind_ok, bind_err, Except.map]
    split <;> split <;> simp_all
  · cases u <;> try cases hc
    next fn lp args rp =>
    cases hk : knownFunction fn.name with
    | none =>
      xe_simp [maybeIR, X, finish, noSem, exprTypeName, hk]
      cases we c _ <;> simp [wrapMaybe, needsWrap, hk, bind_ok, bind_err, Except.map]
    | some w =>
      xe_simp [maybeIR, X, finish, noSem, exprTypeName, hk]
      obtain ⟨wn, np⟩ := w
      cases np <;> cases we c _ <;> simp [wrapMaybe, needsWrap, hk, parenthesise, bind_ok, bind_err, Except.map]

theorem exec_unparen_x (sem : Sem) (c : Ctx) (e : Expr) (rest : List Stmt) :
    execBlock sem (.unparen "x" "p" "ok" "ParenExpr" "X" :: rest) ⟨[("x", .expr e), ("ctx", .ctx c none)], []⟩ =
      execBlock sem rest ⟨[("x", .expr (unparen e)), ("ctx", .ctx c none)], []⟩ := by
  rw [execBlock]
  xe_simp [unparenLoop_eq]

/-- **`writeExpressionMaybeParen` is translated code**: for every callee `we` standing for `writeExpression`,
    every context and every expression (the nil interface included), the interpretation of the regenerated
    body calls `we` once, on the expression without its source parentheses, and applies the model's
    `wrapMaybe` to what it wrote (errors and panics of the callee pass through) -/
theorem C01_maybeParen_ir (we : Ctx → Expr → M (List Chunk)) (c : Ctx) (e : Expr) :
    interpMaybe we c e = (we c (unparen e)).map (wrapMaybe e) := by
  unfold interpMaybe
  rw [runWriter_eq _ _ maybeIR _ _ maybe_ir]
  have h : maybeIR = .unparen "x" "p" "ok" "ParenExpr" "X" :: maybeIR.tail := rfl
  rw [h, exec_unparen_x, maybe_core we c (unparen e) (unparen_notParen e), wrapMaybe_unparen]

theorem isSigned_eq (e : Expr) : isSigned e = (exprTypeName (unparen e) == "UnaryExpr") := by
  rw [← isSigned_unparen]
  have h := unparen_notParen e
  generalize unparen e = u at h
  cases u <;> first | rfl | cases h

theorem tight_core (we : Ctx → Expr → M (List Chunk)) (c : Ctx) (e : Expr) :
    bindK (execBlock { noSem with plain := we, maybe := interpMaybe we } tightIR ⟨[("x", .expr e), ("ctx", .ctx c none)], []⟩)
      finish = (we c (unparen e)).map (wrapTight e) := by
  xe_simp [tightIR, X, finish, noSem, unparenLoop_eq, C01_maybeParen_ir, ite_self]
  cases we c (unparen e) <;> simp [wrapTight, isSigned_eq, parenthesise, bind_ok, bind_err, Except.map]
  split <;> rfl

/-- **`writeExpressionTight` is translated code**: the interpretation of the regenerated body (with the
    interpretation of `writeExpressionMaybeParen` as its callee) is the model's `wrapTight` applied to what
    `writeExpression` wrote for the expression without its source parentheses -/
theorem C01_tight_ir (we : Ctx → Expr → M (List Chunk)) (c : Ctx) (e : Expr) :
    interpTight we c e = (we c (unparen e)).map (wrapTight e) := by
  unfold interpTight
  rw [runWriter_eq _ _ tightIR _ _ tight_ir]
  exact tight_core we c e

/-- the state of `hasJoinTerms` between two calls of the visitor -/
def hjState (vx : Val) (l r : Bool) : State := ⟨[("x", vx), ("left", .bool l), ("right", .bool r)], []⟩

def named (a : Bytes) : Node → Bool
  | .ident (some i) => i.name == a
  | _ => false

theorem ofString_left : Bytes.ofString Facts.leftJoinTableAlias = leftAlias := rfl
theorem ofString_right : Bytes.ofString Facts.rightJoinTableAlias = rightAlias := rfl
theorem left_ne_right : leftAlias ≠ rightAlias := by decide

theorem visit_step (vx : Val) (l r : Bool) (nd : Node) (h : nd ≠ .ident none) :
    execBlock noSem visitorIR ((hjState vx l r).declare "n" (.node nd)) =
      .ok (.vret true, ⟨[("n", .node nd), ("x", vx), ("left", .bool (l || named leftAlias nd)),
        ("right", .bool (r || named rightAlias nd))], []⟩) := by
  xe_simp [visitorIR, hjState, ofString_left, ofString_right]
  cases nd with
  | ident i =>
    cases i with
    | none => exact absurd rfl h
    | some i =>
      simp only [identOf, Option.elim_some, bind_ok, named]
      by_cases h1 : i.name = leftAlias
      · simp [h1, left_ne_right]
      · by_cases h2 : i.name = rightAlias <;> simp [h1, h2, left_ne_right.symm]
  | _ => simp only [identOf, Option.elim_none, named, Bool.or_false]

theorem visit_all (vx : Val) : ∀ (ns : List Node) (l r : Bool), (∀ m ∈ ns, m ≠ .ident none) →
    visitAll "n" (execBlock noSem visitorIR) ns (hjState vx l r) =
      .ok (.next, hjState vx (l || ns.any (named leftAlias)) (r || ns.any (named rightAlias)))
  | [], l, r, _ => by simp [visitAll]
  | nd :: ns, l, r, h => by
    have ih := visit_all vx ns (l || named leftAlias nd) (r || named rightAlias nd)
      (fun m hm => h m (List.mem_cons_of_mem _ hm))
    rw [visitAll, visit_step vx l r nd (h nd (List.mem_cons_self ..))]
    simp only [bind_ok]
    rw [leave_one, ← hjState, ih]
    · simp [List.any_cons, Bool.or_assoc]
    · rfl

theorem named_eq_anyIdentNamed (a : Bytes) (ns : List Node) : ns.any (named a) = Glue.anyIdentNamed a ns := by
  have hf : named a = fun n => match n with | .ident (some i) => i.name == a | _ => false := by
    funext n
    cases n with
    | ident i => cases i <;> rfl
    | _ => rfl
  unfold Glue.anyIdentNamed
  rw [hf]
  rfl

/-- **`hasJoinTerms` is translated code** (with `parser.Walk` as a primitive: the Walk model).  For every
    expression without a nil sub-expression, the interpretation of the regenerated body — the visitor
    closure run on every node `Walk` hands to it — returns the model's `hasJoinTerms`. -/
theorem C01_hasJoinTerms_ir (e : Expr) (h : e.Good) : interpHasJoinTerms e = .ok (hasJoinTerms e) := by
  have hc := Expr.Good.complete e h
  have hnp : WalkEvent.panic ∉ Pql.walk (fun _ => true) (.expr e) :=
    C11.C11_no_panic (fun _ => true) (.expr e) hc.noPanic
  have hnodes : ∀ m ∈ allNodes (.expr e), m ≠ .ident none := by
    intro m hm hmn
    exact hc.allNodes_label m hm (by rw [hmn]; rfl)
  have hv := visit_all (.expr e) (allNodes (.expr e)) false false hnodes
  obtain ⟨_, _, h3⟩ := Glue.C11_hasJoinTerms_via_walk e hc.noPanic
  unfold interpHasJoinTerms
  rw [hasJoin_ir]
  simp only [hjState, Bool.false_or] at hv
  xe_simp [hasJoinIR, X, hnp, hv, h3, named_eq_anyIdentNamed]

deriving instance DecidableEq for Except

/-- the hypothesis is needed: on `<nil> == $left.x` Go's `Walk` panics when it reaches the nil operand,
    the model's `hasJoinTerms` answers from the identifiers it finds -/
theorem C01_hasJoinTerms_ir_needs_good :
    interpHasJoinTerms Glue.nilEq = .error (.go .panic) ∧ hasJoinTerms Glue.nilEq = (true, false) := by
  decide +kernel

/-- non-vacuity: `f($left.x, -(y)) == $right.x` -/
theorem C01_hasJoinTerms_ir_nonvacuous : interpHasJoinTerms Glue.sample = .ok (true, true) := by
  rw [C01_hasJoinTerms_ir _ Glue.sample_good]
  congr 1

end Pql.ExprIR
