/-
Property C16, input/output side of the command-line tool (cmd/pql/main.go):

1. `multiReadCloser.Read` (several files read as one stream) is a logical concatenation
   (`C16_multi_concat`, terminating, no invented `0, nil`);
2. the text the statement loop splits is the input with `\r\n` → `\n` and a final newline
   supplied — nothing else is lost (`C16_lines_lossless`); on an over-long line exactly the
   lines before it are delivered and the failure is reported (`C16_lines_prefix`);
3. `cliMain` in closed form over the statement pieces (`C16_main_spec`), output order, failure
   isolation, prelude = accepted lets, exit status, nothing dropped silently.

Model definitions for `multiReadCloser` / `makeInput`: Lemmas/CliIOModel.lean (with the
assumptions A1-A3 spelled out there).  Counterexamples for every hypothesis, non-vacuity
instances and whole scripts evaluated by the kernel: Lemmas/CliIOExamples.lean.
-/
import PqlModel.Lemmas.CliIOMulti
import PqlModel.Lemmas.CliIOLines
import PqlModel.Lemmas.CliIOSpec
import PqlModel.Lemmas.CliIOExamples
import PqlModel.Props.C16
namespace Pql.CliIO
open Pql Pql.CliSpec

/-- **C16 (several inputs are one stream).**  For every list of readers and every chunking of
    their data into `Read` results (including `n > 0, io.EOF`, `0, io.EOF`, `0, nil`, and
    errors), reading the `multiReadCloser` until it reports `io.EOF` or an error yields exactly
    the contents of the readers, in order, up to and including the first reader that fails; it
    ends with `io.EOF` iff no reader failed.  `totalResults + 1` calls of `Read` suffice. -/
theorem C16_multi_concat (rs : List Reader) :
    inputStream rs = toEnding (concatContents rs) :=
  multiRead_delivers.drain _ rs (Nat.le_refl _)

theorem C16_multi_concat_fuel (rs : List Reader) (fuel : Nat) (h : totalResults rs + 1 ≤ fuel) :
    drain multiRead fuel rs = inputStream rs := by
  rw [multiRead_delivers.drain fuel rs h, C16_multi_concat]

/-- `totalResults rs` calls can be too few (the last call only learns `io.EOF`) -/
theorem C16_multi_fuel_tight :
    drain multiRead (totalResults [[([1], Status.ok)]]) [[([1], .ok)]] = ([1], .outOfFuel) := by
  decide

theorem C16_multi_concat_noErr (rs : List Reader) (h : noErr rs = true) :
    inputStream rs = ((rs.map fun r => r.content.1).flatten, .eof) := by
  rw [C16_multi_concat, concatContents_noErr rs h]; rfl

theorem C16_multi_terminates (rs : List Reader) : (inputStream rs).2 ≠ .outOfFuel := by
  rw [C16_multi_concat]
  generalize concatContents rs = p
  obtain ⟨b, f⟩ := p
  cases f <;> simp [toEnding]

/-- `Reader.content` is what reading that reader alone (no `multiReadCloser`) yields -/
theorem C16_reader_alone (r : Reader) (fuel : Nat) (h : r.length + 1 ≤ fuel) :
    drain Reader.read fuel r = toEnding r.content :=
  reader_delivers.drain fuel r h

/-- one file through a `multiReadCloser` = that file read directly (`makeInput` with one path) -/
theorem C16_multi_single (r : Reader) :
    inputStream [r] = drain Reader.read (r.length + 1) r := by
  rw [C16_multi_concat, concatContents_single, reader_delivers.drain _ r (Nat.le_refl _)]

theorem C16_multi_chunking (rs rs' : List Reader)
    (h : rs.map Reader.content = rs'.map Reader.content) : inputStream rs = inputStream rs' := by
  rw [C16_multi_concat, C16_multi_concat, concatContents_map, h, ← concatContents_map]

theorem C16_multi_zero_nil (rs rs' : List Reader) (h : multiRead rs = (([], .ok), rs')) :
    ∃ dropped r' rest, rs = dropped ++ (([], .ok) :: r') :: rest ∧ rs' = r' :: rest ∧
      ∀ d ∈ dropped, (Reader.read d).1 = (([], Status.eof) : ReadResult) :=
  multiRead_zero_nil rs rs' h

theorem C16_multi_progress (rs : List Reader) :
    totalResults (multiRead rs).2 < totalResults rs ∨
      (totalResults rs = 0 ∧ multiRead rs = (([], .eof), [])) :=
  multiRead_progress rs

/-- QUIRK (harmless for files): a reader that ends with `0, io.EOF` is skipped within the same
    call, so runs of `0, nil` of neighbouring readers are glued together: here each reader
    alone shows one empty read in a row, the multi-reader two (`bufio.Scanner` gives up after
    100 consecutive empty reads; `io.MultiReader` behaves the same way). -/
theorem C16_multi_empty_runs_merge :
    let a : Reader := [([], .ok), ([], .eof)]
    let b : Reader := [([], .ok), ([7], .eof)]
    (multiRead [a, b]).1 = ([], .ok) ∧
    (multiRead (multiRead [a, b]).2).1 = ([], .ok) ∧
    inputStream [a, b] = ([7], .eof) := by decide

/-- `n > 0` together with `io.EOF` from a reader that is not the last: the data are passed on,
    the `io.EOF` is swallowed -/
theorem C16_multi_data_with_eof :
    multiRead [[([1, 2], .eof)], [([3], .eof)]] = (([1, 2], .ok), [[([3], .eof)]]) ∧
    multiRead [[([3], .eof)]] = (([3], .eof), []) := by decide

theorem C16_multi_example :
    inputStream [[([1], .ok), ([], .ok), ([2, 3], .eof), ([9], .ok)], [], [([], .eof)],
      [([4], .ok)], [([5], .err), ([6], .ok)], [([7], .eof)]] = ([1, 2, 3, 4, 5], .err) := by
  decide

/-- `makeInput`: nothing / "-" = standard input; several paths in order; a path that cannot be
    opened fails the whole command -/
theorem C16_makeInput_examples (stdin f g : Reader) :
    let fs : String → Option Reader := fun p => if p = "f" then some f else if p = "g" then some g else none
    makeInput [] stdin fs = some [stdin] ∧
    makeInput ["-"] stdin fs = some [stdin] ∧
    makeInput ["f"] stdin fs = some [f] ∧
    makeInput ["f", "-", "g"] stdin fs = some [f, stdin, g] ∧
    makeInput ["f", "nope", "g"] stdin fs = none := by
  simp [makeInput, makeInput.go]

/-- **C16 (several files = their concatenation).**  Without read errors, the tool run on a list
    of inputs is the tool run on the concatenation of their contents — no separator is
    inserted, so a line or a statement may continue from one file into the next. -/
theorem C16_files (compile : Bytes → Option Bytes) (rs : List Reader) (h : noErr rs = true) :
    cliFiles compile rs = cliMain compile (rs.map fun r => r.content.1).flatten := by
  unfold cliFiles cliStream cliMain
  rw [C16_multi_concat_noErr rs h]
  simp

/-- In general: the bytes up to and including the first failing reader are processed, and a
    failing reader makes the run fail like an over-long line does. -/
theorem C16_files_general (compile : Bytes → Option Bytes) (rs : List Reader) :
    cliFiles compile rs =
      cliRun compile (bufioLines (concatContents rs).1).1
        ((bufioLines (concatContents rs).1).2 || (concatContents rs).2) := by
  unfold cliFiles cliStream
  rw [C16_multi_concat]
  generalize concatContents rs = p
  obtain ⟨b, f⟩ := p
  have e1 : (Ending.err != Ending.eof) = true := by decide
  cases f with
  | true => simp [toEnding, e1]
  | false => simp [toEnding]

/-- `C16_files` needs `noErr`: a failing reader is reported -/
theorem C16_files_needs_noErr :
    cliFiles stub [[([], .err)]] ≠ cliMain stub ([[([], Status.err)]].map fun r => (Reader.content r).1).flatten := by
  decide +kernel

/-- two files, the cut in the middle of a statement and of a line -/
theorem C16_files_example :
    cliFiles stub [[(Bytes.ofString "let a;\nX", .ok), ([], .eof)], [], [(Bytes.ofString "Y;Z", .eof)]] =
      ⟨Bytes.ofString "let a;XY\n\nlet a;Z\n\n", 0, false⟩ := by
  decide +kernel

/-- **C16 (nothing is lost on the way to the statement splitter).**  If no line is over-long,
    the text the loop splits (each delivered line followed by '\n') is the input, with a final
    '\n' supplied if the non-empty input lacks one, and every `\r\n` replaced by `\n`.
    (A final `\r` at the very end of an unterminated last line is dropped as well — that is
    `dropCR` in Go's `bufio.ScanLines` at EOF — and is covered: `ensureNL` first turns it into
    `\r\n`.) -/
theorem C16_lines_lossless (input : Bytes) (h : (bufioLines input).2 = false) :
    normalise (bufioLines input).1 = crlfToLf (ensureNL input) := by
  rw [bufioLines_eq] at h ⊢
  simp only at h ⊢
  have hall : ∀ l ∈ rawLines input, decide (l.length < maxLine) = true := by
    intro l hl
    have := (List.any_eq_false.mp h) l hl
    simp only [decide_eq_true_eq, Nat.not_le] at this
    simpa using this
  rw [takeWhile_all _ _ hall]
  have := crlfToLf_lines (rawLines input) (rawLines_no_nl input) []
  simp only [List.append_nil, crlfToLf] at this
  rw [← rawLines_join, this]

/-- Only `\r` bytes are dropped, the order is kept: every other byte of the input reaches the
    splitter. -/
theorem C16_lines_only_cr_dropped (input : Bytes) (h : (bufioLines input).2 = false) :
    (normalise (bufioLines input).1).Sublist (ensureNL input) ∧
    (normalise (bufioLines input).1).filter (· != 13) = (ensureNL input).filter (· != 13) := by
  rw [C16_lines_lossless input h]
  exact ⟨crlfToLf_sublist _, crlfToLf_filter _⟩

/-- input without `\r\n` (and not ending in `\r`) is passed on unchanged but for the final '\n' -/
theorem C16_lines_identity (input : Bytes) (h : (bufioLines input).2 = false)
    (hcr : ∀ u v, ensureNL input ≠ u ++ 13 :: 10 :: v) :
    normalise (bufioLines input).1 = ensureNL input := by
  rw [C16_lines_lossless input h, crlfToLf_id _ hcr]

theorem C16_ensureNL (x : Bytes) :
    ensureNL x = if x = [] ∨ x.getLast? = some 10 then x else x ++ [10] := ensureNL_eq x

/-- **C16 (over-long line).**  If reading stops with an error, the input (final newline
    supplied) consists of '\n'-terminated lines `pre`, then a first line `long` of at least
    65536 bytes, then `rest`; exactly the lines of `pre` are delivered (each without its
    trailing `\r`), so the text that is split is the `\r\n`-normalised part of the input before
    the over-long line; the failure itself is reported (`C16_exit_iff`). -/
theorem C16_lines_prefix (input : Bytes) (h : (bufioLines input).2 = true) :
    ∃ pre long rest, (∀ l ∈ pre ++ long :: rest, (10 : UInt8) ∉ l) ∧
      ensureNL input = normalise (pre ++ long :: rest) ∧
      (∀ l ∈ pre, l.length < maxLine) ∧ maxLine ≤ long.length ∧
      (bufioLines input).1 = pre.map dropCR ∧
      normalise (bufioLines input).1 = crlfToLf (normalise pre) := by
  rw [bufioLines_eq] at h ⊢
  simp only at h ⊢
  obtain ⟨long, hmem, hlong⟩ := List.any_eq_true.mp h
  simp only [decide_eq_true_eq] at hlong
  rcases takeWhile_split (fun l : Bytes => decide (l.length < maxLine)) (rawLines input) with
    hall | ⟨pre, l0, rest, hsplit, htw, hpre, hl0⟩
  · have := hall long hmem
    simp only [decide_eq_true_eq] at this
    omega
  · have hnl : ∀ l ∈ pre ++ l0 :: rest, (10 : UInt8) ∉ l := by
      rw [← hsplit]; exact rawLines_no_nl input
    rw [htw]
    refine ⟨pre, l0, rest, hnl, ?_, ?_, ?_, rfl, ?_⟩
    · rw [← hsplit, rawLines_join]
    · intro l hl; simpa using hpre l hl
    · simp only [decide_eq_false_iff_not] at hl0; omega
    · have := crlfToLf_lines pre (fun l hl => hnl l (List.mem_append_left _ hl)) []
      simp only [List.append_nil, crlfToLf] at this
      exact this.symm

/-- reading fails iff some line (cut at '\n', before `dropCR`) has 65536 bytes or more: `bufio.Scanner` gives up
    (`ErrTooLong`) when its buffer, which grows to `MaxScanTokenSize` = 65536 bytes, is full and holds no '\n', so a
    line is delivered only if it fits together with its '\n', a `\r` in front of it included (bufio/scan.go, `Scan`) -/
theorem C16_readErr_iff (input : Bytes) :
    (bufioLines input).2 = true ↔ ∃ l ∈ rawLines input, maxLine ≤ l.length := by
  rw [bufioLines_eq]
  simp

/-- `rawLines` is THE cut of the input at '\n' -/
theorem C16_rawLines_spec (input : Bytes) :
    (∀ l ∈ rawLines input, (10 : UInt8) ∉ l) ∧ normalise (rawLines input) = ensureNL input :=
  ⟨rawLines_no_nl input, rawLines_join input⟩

/-- **C16 (main, closed form).**  `cliMain` as a function of the input bytes: with
    `text` = the delivered lines each followed by '\n' (`C16_lines_lossless`: the input itself up
    to `\r\n` → `\n`), the result is `runPieces` on `splitStatements text`:
    the records of the terminated pieces (`steps`: each compiled with the prelude of the lets
    accepted before it), then the unterminated last piece if it has a token; standard output =
    the SQL of the successful queries in statement order, each followed by a blank line;
    `nErrors` = number of failed statements (+1 if the input could not be read completely);
    exit status non-zero iff `nErrors > 0`. -/
theorem C16_main_spec (compile : Bytes → Option Bytes) (input : Bytes) :
    cliMain compile input =
      runPieces compile (splitStatements (normalise (bufioLines input).1)) (bufioLines input).2 := by
  unfold cliMain
  simp only []
  rw [C16.C16_refines_all, specRun_eq_specFrom, specFrom_eq_runPieces]

theorem C16_main_spec_bytes (compile : Bytes → Option Bytes) (input : Bytes)
    (h : (bufioLines input).2 = false) :
    cliMain compile input =
      runPieces compile (splitStatements (crlfToLf (ensureNL input))) false := by
  rw [C16_main_spec, C16_lines_lossless input h, h]

theorem C16_spec_closed (compile : Bytes → Option Bytes) (lines : List Bytes) (readErr : Bool) :
    CliSpec.run compile lines readErr =
      runPieces compile (splitStatements (normalise lines)) readErr := by
  rw [specRun_eq_specFrom, specFrom_eq_runPieces]

theorem C16_steps_stmts (compile : Bytes → Option Bytes) (ss : List Bytes) :
    (steps compile [] ss).map (·.stmt) = ss := steps_stmts compile [] ss

theorem C16_steps_res (compile : Bytes → Option Bytes) (ss : List Bytes) :
    ∀ st ∈ steps compile [] ss, st.res = outcome compile st.prelude st.stmt :=
  steps_res compile [] ss

/-- the prelude of each record is exactly the lets accepted before it, each followed
    by ";\n": a failed let (or any query) is not in it. -/
theorem C16_steps_prelude (compile : Bytes → Option Bytes) (ss : List Bytes)
    (pre post : List Step) (st : Step) (h : steps compile [] ss = pre ++ st :: post) :
    st.prelude = (pre.filter (·.res.accepted)).flatMap fun p => p.stmt ++ Bytes.ofString ";\n" := by
  have := steps_prelude compile [] ss pre post st h
  simpa [preludeAfter] using this

/-- output order = statement order, each SQL followed by a blank line -/
theorem C16_output_order (compile : Bytes → Option Bytes) (input : Bytes) :
    (cliMain compile input).out =
      ((allOutcomes compile (splitStatements (normalise (bufioLines input).1))).filterMap
        Outcome.sql?).flatMap (· ++ [10, 10]) := by
  rw [C16_main_spec]; rfl

/-- a failed statement leaves the prelude of the next statement unchanged -/
theorem C16_failed_let_not_in_prelude (compile : Bytes → Option Bytes) (ss : List Bytes)
    (pre post : List Step) (st nxt : Step) (h : steps compile [] ss = pre ++ st :: nxt :: post)
    (hf : st.res.failed = true) : nxt.prelude = st.prelude := by
  have h1 := steps_prelude compile [] ss pre (nxt :: post) st h
  have h2 := steps_prelude compile [] ss (pre ++ [st]) post nxt (by simpa using h)
  rw [h2, preludeAfter_append, ← h1]
  simp [preludeAfter, failed_not_accepted hf]

def oneMoreError (r : CliResult) : CliResult := ⟨r.out, r.nErrors + 1, true⟩

/-- **C16 (a failed statement is isolated).**  Take any sequence of statement pieces and
    insert, anywhere before the last piece, a statement `s` that fails behind the prelude it
    meets (a query or a `let`): the output and every other statement's treatment are unchanged;
    only one more error is logged and the exit status is non-zero. -/
theorem C16_failure_isolated (compile : Bytes → Option Bytes) (pre post : List Bytes)
    (s : Bytes) (readErr : Bool) (hpost : post ≠ [])
    (hf : (outcome compile (preludeAfter [] (steps compile [] pre)) s).failed = true) :
    runPieces compile (pre ++ s :: post) readErr =
      oneMoreError (runPieces compile (pre ++ post) readErr) := by
  obtain ⟨A, B, h1, h2⟩ := allOutcomes_insert compile pre post s hpost (failed_not_accepted hf)
  unfold runPieces oneMoreError
  simp only [h1, h2]
  have e1 : sqlText (A ++ outcome compile (preludeAfter [] (steps compile [] pre)) s :: B) =
      sqlText (A ++ B) := by
    simp [sqlText, List.filterMap_append, failed_no_sql hf]
  have e2 : nFailed (A ++ outcome compile (preludeAfter [] (steps compile [] pre)) s :: B) =
      nFailed (A ++ B) + 1 := by
    simp [nFailed, List.countP_append, hf]; omega
  rw [e1, e2]
  simp only [CliResult.mk.injEq, true_and]
  constructor
  · omega
  · simp; omega

theorem C16_failure_replace (compile : Bytes → Option Bytes) (pre post : List Bytes)
    (s s' : Bytes) (readErr : Bool) (hpost : post ≠ [])
    (hf : (outcome compile (preludeAfter [] (steps compile [] pre)) s).failed = true)
    (hf' : (outcome compile (preludeAfter [] (steps compile [] pre)) s').failed = true) :
    runPieces compile (pre ++ s :: post) readErr = runPieces compile (pre ++ s' :: post) readErr := by
  rw [C16_failure_isolated compile pre post s readErr hpost hf,
    C16_failure_isolated compile pre post s' readErr hpost hf']

/-- **C16 (exit status).**  The exit status is non-zero iff the input could not be read
    completely or some statement failed. -/
theorem C16_exit_iff (compile : Bytes → Option Bytes) (input : Bytes) :
    (cliMain compile input).exitNonZero = true ↔
      (bufioLines input).2 = true ∨
      ∃ o ∈ allOutcomes compile (splitStatements (normalise (bufioLines input).1)),
        o.failed = true := by
  rw [C16_main_spec]
  unfold runPieces
  simp only [decide_eq_true_eq]
  generalize allOutcomes compile _ = all
  have hpos : 0 < nFailed all ↔ ∃ o ∈ all, o.failed = true := by
    simp [nFailed, List.countP_pos_iff]
  cases (bufioLines input).2 with
  | true => simp
  | false => simpa using hpos

theorem C16_nErrors (compile : Bytes → Option Bytes) (input : Bytes) :
    (cliMain compile input).nErrors =
      nFailed (allOutcomes compile (splitStatements (normalise (bufioLines input).1))) +
        (if (bufioLines input).2 then 1 else 0) := by
  rw [C16_main_spec]; rfl

/-- the hypothesis of `C16_main_spec_bytes` is needed: after an over-long line (65536 bytes
    without '\n') the tool reports a failure even if `compile` accepts everything -/
theorem C16_main_spec_bytes_needs_short :
    ∃ (compile : Bytes → Option Bytes) (input : Bytes),
      cliMain compile input ≠ runPieces compile (splitStatements (crlfToLf (ensureNL input))) false := by
  refine ⟨fun _ => some [], List.replicate maxLine 97, fun heq => ?_⟩
  have hexit := congrArg CliResult.exitNonZero heq
  rw [(C16_exit_iff _ _).mpr (Or.inl lines_lossless_needs_short.1)] at hexit
  have hr : ∀ pieces, (runPieces (fun _ => some []) pieces false).exitNonZero =
      decide (nFailed (allOutcomes (fun _ => some []) pieces) + 0 > 0) := fun _ => rfl
  rw [hr, nFailed_of_total _ (fun _ => rfl)] at hexit
  simp at hexit

/-- the pieces that are processed: every terminated piece (even an empty one), and the last
    piece iff it has a token -/
def processed (pieces : List Bytes) : List Bytes :=
  pieces.dropLast ++ (if (scan (pieces.getLast?.getD [])).isEmpty then [] else [pieces.getLast?.getD []])

/-- **C16 (nothing is dropped silently).**  Every piece with at least one token is
    processed; every processed piece has exactly one outcome — its SQL is written, or it is an
    accepted `let`, or it is counted as an error:
    #processed = #SQL outputs + #accepted lets + #failures. -/
theorem C16_nothing_dropped (compile : Bytes → Option Bytes) (pieces : List Bytes) :
    (∀ p ∈ pieces, scan p ≠ [] → p ∈ processed pieces) ∧
    (allOutcomes compile pieces).length = (processed pieces).length ∧
    (processed pieces).length =
      ((allOutcomes compile pieces).filterMap Outcome.sql?).length +
      (allOutcomes compile pieces).countP Outcome.accepted +
      nFailed (allOutcomes compile pieces) := by
  have hlen : (allOutcomes compile pieces).length = (processed pieces).length := by
    unfold allOutcomes processed finalOutcome
    simp only [List.length_append, List.length_map, steps_length]
    split <;> rfl
  refine ⟨?_, hlen, ?_⟩
  · intro p hp htok
    unfold processed
    rcases List.eq_nil_or_concat pieces with rfl | ⟨init, last, rfl⟩
    · simp at hp
    · rw [List.concat_eq_append] at hp ⊢
      simp only [List.dropLast_concat, List.getLast?_concat, Option.getD_some, List.mem_append]
      rcases List.mem_append.mp hp with hp | hp
      · exact Or.inl hp
      · right
        simp only [List.mem_singleton] at hp
        subst hp
        have : (scan p).isEmpty = false := by
          cases hs : scan p with
          | nil => exact absurd hs htok
          | cons _ _ => rfl
        simp [this]
  · rw [← hlen]; exact outcome_trichotomy _

/-- `C16_nothing_dropped` for the tool: with the whole input read, the number of logged errors is the number of
    processed pieces that produced neither SQL nor an accepted `let`. -/
theorem C16_nothing_dropped_main (compile : Bytes → Option Bytes) (input : Bytes)
    (h : (bufioLines input).2 = false) :
    let pieces := splitStatements (crlfToLf (ensureNL input))
    (processed pieces).length =
      ((allOutcomes compile pieces).filterMap Outcome.sql?).length +
      (allOutcomes compile pieces).countP Outcome.accepted +
      (cliMain compile input).nErrors := by
  intro pieces
  have h1 := (C16_nothing_dropped compile pieces).2.2
  have h2 := C16_nErrors compile input
  rw [C16_lines_lossless input h, h] at h2
  simp only [Bool.false_eq_true, if_false, Nat.add_zero] at h2
  rw [h2]; exact h1

/-- `C16_nothing_dropped_main` needs "no read error": the read error is one more logged error
    that belongs to no piece -/
theorem C16_nothing_dropped_main_needs_read :
    ∃ (compile : Bytes → Option Bytes) (input : Bytes),
      let pieces := splitStatements (normalise (bufioLines input).1)
      (processed pieces).length ≠
        ((allOutcomes compile pieces).filterMap Outcome.sql?).length +
        (allOutcomes compile pieces).countP Outcome.accepted +
        (cliMain compile input).nErrors := by
  refine ⟨fun _ => some [], List.replicate maxLine 97, ?_⟩
  intro pieces heq
  have h1 := (C16_nothing_dropped (fun _ => some []) pieces).2.2
  have h2 := C16_nErrors (fun _ => some []) (List.replicate maxLine 97)
  rw [lines_lossless_needs_short.1, nFailed_of_total _ (fun _ => rfl)] at h2
  rw [nFailed_of_total _ (fun _ => rfl)] at h1
  rw [h2] at heq
  simp only [if_true] at heq
  omega

/-- `C16_failure_replace` needs the replacement to fail as well -/
theorem C16_failure_replace_needs_failure :
    runPieces stub ([Bytes.ofString "X"] ++ Bytes.ofString "!" :: [[]]) false ≠
      runPieces stub ([Bytes.ofString "X"] ++ Bytes.ofString "Y" :: [[]]) false := by
  decide +kernel

end Pql.CliIO
