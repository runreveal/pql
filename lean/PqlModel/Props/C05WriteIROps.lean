/-
Property C05 (and C02), tie by translation: the cases of `(*subquery).write` with loops —
project, extend, summarize (see Props/C05WriteIR.lean for the set-up and the hypotheses).
-/
import PqlModel.Props.C05WriteIR
namespace Pql.WriteIR
open Pql
set_option linter.unusedSimpArgs false

def projBody : List Stmt :=
  [.ite (.gt0 "i") [.lit ", "] [],
   .ite (.isNil ⟨"col", "X"⟩) [.expr ⟨"col", "Name.AsQualified()"⟩] [.expr ⟨"col", "X"⟩],
   .lit " AS ", .qid ⟨"col", "Name.Name"⟩]

def projectIR : List Stmt :=
  [.lit "SELECT ", .for_ "i" "col" ⟨"op", "Cols"⟩ projBody, .lit " FROM ", .str ⟨"sub", "sourceSQL"⟩]

theorem project_ir : decode (irOf "write:ProjectOperator") = some projectIR := by rfl

/-- the expression a project column writes (`Pql.projCol_eq`), with the nil test the Go code makes -/
theorem projExpr_eq (c : Column) :
    projExpr c = if isNilExpr c.x then .qident (match c.name with | some n => [n] | none => []) else c.x := by
  unfold projExpr
  cases c.x <;> rfl

theorem proj_body (ctx : Ctx) (vars : List (String × Val)) (i : Nat) (c : Column) (hn : c.name.isSome = true) :
    (execBlock modelSem projBody ⟨some ctx, ("col", .col c) :: ("i", .nat i) :: vars⟩ >>= fun r =>
        .ok (r.1, r.2.leave ⟨some ctx, vars⟩)) =
      ((liftW (Pql.projCol ctx c) >>= fun o => .ok ((if decide (i > 0) then [.txt ", "] else []) ++ o)) >>= fun o =>
        .ok (o, ⟨some ctx, vars⟩)) := by
  rw [Pql.projCol_eq, projExpr_eq]
  cases hname : c.name with
  | none => simp [hname] at hn
  | some n =>
    wr_simp [projBody, hname, identName]
    cases isNilExpr c.x <;> by_cases hi : 0 < i <;> simp [hi]

theorem proj_loop (ctx : Ctx) (vars : List (String × Val)) (cols : List Column)
    (hn : ∀ c ∈ cols, c.name.isSome = true) :
    forEach "i" "col" (execBlock modelSem projBody) 0 (cols.map .col) ⟨some ctx, vars⟩ =
      (liftW (cols.mapM (Pql.projCol ctx)) >>= fun cs => .ok (sepChunks ", " cs, ⟨some ctx, vars⟩)) := by
  rw [forEach_collect Val.col "i" "col" _ (some ctx) vars _ cols 0 (fun j c hc => proj_body ctx vars j c (hn c hc)),
    collect_sep (Pql.projCol ctx) ", " (fun j => decide (j > 0)) cols 0 (by simp) (by intro j hj; simpa using hj)]
  cases cols.mapM (Pql.projCol ctx) <;> rfl

theorem C05_write_project (ctx : Ctx) (sub : Subquery) (p k : Span) (cols : List Column)
    (h : sub.op = some (.project p k cols)) (hn : ∀ c ∈ cols, c.name.isSome = true) :
    interpWrite modelSem ctx sub = liftW (sub.write ctx) := by
  refine interpWrite_of ctx sub _ projectIR (by rw [h]; rfl) project_ir rfl ?_
  have hl := proj_loop ctx (opVars sub) cols hn
  simp only [opVars, h, List.cons_append, List.nil_append] at hl ⊢
  wr_simp [projectIR, bodyOf, h, hl]

/-- `" AS "` has been written: the column's name, or the source text of its expression -/
def aliasIR : Stmt :=
  .ite (.notNil ⟨"col", "Name"⟩) [.qid ⟨"col", "Name.Name"⟩] [.span "span" ⟨"col", "X"⟩, .qidSrc "span"]

def extBody : List Stmt :=
  [.lit ", ", .expr ⟨"col", "X"⟩, .ite (.isNil ⟨"col", "X"⟩) [.expr ⟨"col", "Name.AsQualified()"⟩] [],
   .lit " AS ", aliasIR]

def extendIR : List Stmt :=
  [.lit "SELECT *", .for_ "_" "col" ⟨"op", "Cols"⟩ extBody, .lit " FROM ", .str ⟨"sub", "sourceSQL"⟩]

theorem extend_ir : decode (irOf "write:ExtendOperator") = some extendIR := by rfl

theorem isNilExpr_eq {e : Expr} (h : isNilExpr e = true) : e = .nil := by
  cases e <;> simp [isNilExpr] at h ⊢

theorem sliceSource_null (src : Bytes) : sliceSource src Span.null = .error .panic := by
  simp [sliceSource, Span.null]

theorem ext_body (ctx : Ctx) (vars : List (String × Val)) (i : Nat) (c : Column) (hx : isNilExpr c.x = false) :
    (execBlock modelSem extBody ⟨some ctx, ("col", .col c) :: ("_", .nat i) :: vars⟩ >>= fun r =>
        .ok (r.1, r.2.leave ⟨some ctx, vars⟩)) =
      ((liftW (colW ctx c) >>= fun o => .ok ((if true then [.txt ", "] else []) ++ o)) >>= fun o =>
        .ok (o, ⟨some ctx, vars⟩)) := by
  cases hname : c.name <;> wr_simp [extBody, aliasIR, colW, columnAlias, hx, hname]

theorem ext_loop (ctx : Ctx) (vars : List (String × Val)) (cols : List Column)
    (hx : ∀ c ∈ cols, isNilExpr c.x = false) :
    forEach "_" "col" (execBlock modelSem extBody) 0 (cols.map .col) ⟨some ctx, vars⟩ =
      (liftW (writeColumns ctx cols) >>= fun cs => .ok (cs.flatMap (fun c => .txt ", " :: c), ⟨some ctx, vars⟩)) := by
  rw [forEach_collect Val.col "_" "col" _ (some ctx) vars _ cols 0 (fun j c hc => ext_body ctx vars j c (hx c hc)),
    collect_flat (colW ctx) ", " (fun _ => true) cols 0 (by simp), writeColumns_eq]
  cases cols.mapM (colW ctx) <;> rfl

theorem C05_write_extend (ctx : Ctx) (sub : Subquery) (p k : Span) (cols : List Column)
    (h : sub.op = some (.extend p k cols)) (hx : ∀ c ∈ cols, isNilExpr c.x = false) :
    interpWrite modelSem ctx sub = liftW (sub.write ctx) := by
  refine interpWrite_of ctx sub _ extendIR (by rw [h]; rfl) extend_ir rfl ?_
  have hl := ext_loop ctx (opVars sub) cols hx
  simp only [opVars, h, List.cons_append, List.nil_append] at hl ⊢
  wr_simp [extendIR, bodyOf, h, hl]

def sumBody (c : Cond) : List Stmt := [.ite c [.lit ", "] [], .expr ⟨"col", "X"⟩, .lit " AS ", aliasIR]
def gbBody : List Stmt := [.ite (.gt0 "i") [.lit ", "] [], .expr ⟨"col", "X"⟩]

def summarizeIR : List Stmt :=
  [.lit "SELECT ",
   .for_ "i" "col" ⟨"op", "GroupBy"⟩ (sumBody (.gt0 "i")),
   .for_ "i" "col" ⟨"op", "Cols"⟩ (sumBody (.or (.gt0 "i") (.nonempty ⟨"op", "GroupBy"⟩))),
   .lit " FROM ", .str ⟨"sub", "sourceSQL"⟩,
   .ite (.nonempty ⟨"op", "GroupBy"⟩) [.lit " GROUP BY ", .for_ "i" "col" ⟨"op", "GroupBy"⟩ gbBody] []]

theorem summarize_ir : decode (irOf "write:SummarizeOperator") = some summarizeIR := by rfl

/-- a summarize column after its separator.  No side condition on the column: with a nil expression both sides
    write the placeholder and then the name, or both panic for want of a span -/
theorem sum_body (ctx : Ctx) (vars : List (String × Val)) (cond : Cond) (sep : Bool) (i : Nat) (c : Column)
    (hc : evalCond ⟨some ctx, ("col", .col c) :: ("i", .nat i) :: vars⟩ cond = .ok (sep, [])) :
    (execBlock modelSem (sumBody cond) ⟨some ctx, ("col", .col c) :: ("i", .nat i) :: vars⟩ >>= fun r =>
        .ok (r.1, r.2.leave ⟨some ctx, vars⟩)) =
      ((liftW (colW ctx c) >>= fun o => .ok ((if sep then [.txt ", "] else []) ++ o)) >>= fun o =>
        .ok (o, ⟨some ctx, vars⟩)) := by
  wr_simp [sumBody, aliasIR, colW, columnAlias, hc]
  cases hname : c.name <;> cases sep <;> wr_simp
  all_goals
    cases hnil : isNilExpr c.x
    · simp
    · cases writeExpr ctx c.x <;>
        simp [isNilExpr_eq hnil, Expr.spanOf, sliceSource_null, liftW_ok, liftW_err, bind_ok, xbind_err]

theorem gb_body (ctx : Ctx) (vars : List (String × Val)) (i : Nat) (c : Column) :
    (execBlock modelSem gbBody ⟨some ctx, ("col", .col c) :: ("i", .nat i) :: vars⟩ >>= fun r =>
        .ok (r.1, r.2.leave ⟨some ctx, vars⟩)) =
      ((liftW ((fun c : Column => writeExpr ctx c.x) c) >>= fun o =>
          .ok ((if decide (i > 0) then [.txt ", "] else []) ++ o)) >>= fun o =>
        .ok (o, ⟨some ctx, vars⟩)) := by
  wr_simp [gbBody]
  by_cases hi : 0 < i <;> simp [hi]

theorem sum_loop1 (ctx : Ctx) (vars : List (String × Val)) (gs : List Column) :
    forEach "i" "col" (execBlock modelSem (sumBody (.gt0 "i"))) 0 (gs.map .col) ⟨some ctx, vars⟩ =
      (liftW (writeColumns ctx gs) >>= fun os => .ok (sepChunks ", " os, ⟨some ctx, vars⟩)) := by
  rw [forEach_collect Val.col "i" "col" _ (some ctx) vars _ gs 0
      (fun j c _ => sum_body ctx vars (.gt0 "i") (decide (j > 0)) j c (by wr_simp)),
    collect_sep (colW ctx) ", " (fun j => decide (j > 0)) gs 0 (by simp) (by intro j hj; simpa using hj),
    writeColumns_eq]
  cases gs.mapM (colW ctx) <;> rfl

theorem gb_loop (ctx : Ctx) (vars : List (String × Val)) (gs : List Column) :
    forEach "i" "col" (execBlock modelSem gbBody) 0 (gs.map .col) ⟨some ctx, vars⟩ =
      (liftW (gs.mapM fun c : Column => writeExpr ctx c.x) >>= fun os => .ok (sepChunks ", " os, ⟨some ctx, vars⟩)) := by
  rw [forEach_collect Val.col "i" "col" _ (some ctx) vars _ gs 0 (fun j c _ => gb_body ctx vars j c),
    collect_sep (fun c : Column => writeExpr ctx c.x) ", " (fun j => decide (j > 0)) gs 0 (by simp)
      (by intro j hj; simpa using hj)]
  cases (gs.mapM fun c : Column => writeExpr ctx c.x) <;> rfl

theorem sum_loop2 (ctx : Ctx) (sub : Subquery) (p k b : Span) (cols gs : List Column) :
    forEach "i" "col" (execBlock modelSem (sumBody (.or (.gt0 "i") (.nonempty ⟨"op", "GroupBy"⟩)))) 0 (cols.map .col)
        ⟨some ctx, [("op", .op (.summarize p k cols b gs)), ("sub", .sub sub)]⟩ =
      (liftW (writeColumns ctx cols) >>= fun os =>
        .ok (if gs.length > 0 then os.flatMap (fun c => .txt ", " :: c) else sepChunks ", " os,
          ⟨some ctx, [("op", .op (.summarize p k cols b gs)), ("sub", .sub sub)]⟩)) := by
  rw [forEach_collect Val.col "i" "col" _ (some ctx) _ _ cols 0
      (fun j c _ => sum_body ctx _ _ (decide (j > 0) || decide (gs.length > 0)) j c (by
        by_cases hj : j > 0 <;> by_cases hg : gs.length > 0 <;> wr_simp [hj, hg]))]
  by_cases hg : gs.length > 0
  · rw [collect_flat (colW ctx) ", " _ cols 0 (by simp [hg]), writeColumns_eq]
    cases cols.mapM (colW ctx) <;> simp [hg, liftW, bind_ok, bind_error]
  · rw [collect_sep (colW ctx) ", " _ cols 0 (by simp [hg]) (by intro j hj; simp [hj]), writeColumns_eq]
    cases cols.mapM (colW ctx) <;> simp [hg, liftW, bind_ok, bind_error]

theorem mapM_ok_length {α β : Type} (g : α → Except WErr β) :
    ∀ (xs : List α) (out : List β), xs.mapM g = .ok out → out.length = xs.length
  | [], out, h => by cases h; rfl
  | x :: xs, out, h => by
    rw [List.mapM_cons] at h
    cases hx : g x <;> cases hr : xs.mapM g <;> rw [hx, hr] at h <;> cases h
    simp [mapM_ok_length g xs _ hr]

theorem sep_append (sep : String) (gs cs : List (List Chunk)) :
    sepChunks sep (gs ++ cs) =
      if gs.length > 0 then sepChunks sep gs ++ cs.flatMap (fun c => .txt sep :: c) else sepChunks sep cs := by
  cases gs with
  | nil => simp
  | cons g gs => simp [sepChunks_cons]

theorem C05_write_summarize (ctx : Ctx) (sub : Subquery) (p k b : Span) (cols gs : List Column)
    (h : sub.op = some (.summarize p k cols b gs)) :
    interpWrite modelSem ctx sub = liftW (sub.write ctx) := by
  refine interpWrite_of ctx sub _ summarizeIR (by rw [h]; rfl) summarize_ir rfl ?_
  have h1 := sum_loop1 ctx [("op", .op (.summarize p k cols b gs)), ("sub", .sub sub)] gs
  have h2 := sum_loop2 ctx sub p k b cols gs
  have h3 := gb_loop ctx [("op", .op (.summarize p k cols b gs)), ("sub", .sub sub)] gs
  simp only [opVars, h, List.cons_append, List.nil_append, bodyOf]
  wr_simp [summarizeIR, h1, h2, h3]
  cases hg : writeColumns ctx gs with
  | error e => wr_simp
  | ok g =>
    have hlen := mapM_ok_length (colW ctx) gs g (by rw [← writeColumns_eq]; exact hg)
    cases hc : writeColumns ctx cols with
    | error e => wr_simp
    | ok c =>
      by_cases hne : gs.length > 0
      · have hemp : gs ≠ [] := by cases gs <;> simp at hne ⊢
        cases hb : (gs.mapM fun c : Column => writeExpr ctx c.x) <;> wr_simp [hne, hemp, sep_append, hlen]
      · have hemp : gs = [] := by cases gs <;> simp at hne ⊢
        subst hemp
        simp at hlen
        subst hlen
        wr_simp [sep_append]
        rfl

end Pql.WriteIR
