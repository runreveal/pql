/-
Property C08 (and C07, C10): the parser's error algebra — the value-level functions `goJoin`,
`goOpaque`, `errorsAsI m "notFoundError"` (which `Props/C08ErrIRUnits.lean` proves to be the interpretation of the
regenerated Go bodies), seen through the abstraction function `leaves` (what the harness hook reports), ARE the
model's `++`, `mkOpaque`, `isNF` — the last two if `opaqueError` does not unwrap (`opaque_unwrap_cx`: false
otherwise), the last only for values without a BARE not-found error, a `notFoundError` that `errors.As` reaches without
passing a `*parseError` (`bareNF_cx`) —

and the shape of the values the parser can build (`Built`, from the constructor sites of `Facts.errSites`):
no bare not-found error, every join non-empty and without a join among its elements, the `err` of every
`parseError` a fresh message (possibly marked not-found, possibly hidden), no `%w` wrapper inside.
The invariant is read off a normal form that the constructor sites establish and `goJoin` / `goOpaque` keep
(`normal`: nil, one error, or a join of one or more).  What the invariant buys: Props/C08ErrIRShape.lean.
-/
import PqlModel.Props.C08ErrIRUnits
import PqlModel.Lemmas.ErrsAlgebra
namespace Pql.ErrIR
open Pql
set_option linter.unusedSimpArgs false

theorem mkOpaque_nil : mkOpaque [] = [] := rfl
theorem mkOpaque_idem (a : Errs) : mkOpaque (mkOpaque a) = mkOpaque a := by simp [mkOpaque]

theorem errorsJoin_empty (l : List (Option GoErr)) (h : l.filterMap id = []) : errorsJoin l = none := by
  simp [errorsJoin, h]

theorem errorsJoin_nonempty (l : List (Option GoErr)) (h : l.filterMap id ≠ []) :
    errorsJoin l = some (.join (l.filterMap id)) := by
  cases hl : l.filterMap id with
  | nil => exact absurd hl h
  | cons a r => simp [errorsJoin, hl]

theorem filterMap_map_some (es : List GoErr) : (es.map some).filterMap id = es := by
  induction es with
  | nil => rfl
  | cons e es ih => simp [ih]

theorem map_some_opaque (es : List GoErr) :
    (es.map fun e => some (GoErr.opaque e)) = (es.map GoErr.opaque).map some := by simp

theorem errorsJoin_map_some (es : List GoErr) :
    errorsJoin (es.map some) = if es = [] then none else some (.join es) := by
  cases es with
  | nil => rfl
  | cons e es =>
    rw [errorsJoin_nonempty _ (by rw [filterMap_map_some]; simp), filterMap_map_some]
    simp

mutual
theorem flat_true (m : Methods) : ∀ (e : GoErr) (o : Bool), flat m true e = mkOpaque (flat m o e)
  | .plain, o => by simp [flat, mkOpaque]
  | .perr s i, o => by simp [flat, mkOpaque]
  | .nf i, o => by
    cases h : m.nfUnwrap with
    | true => simp only [flat, h, if_true]; exact flat_true m i o
    | false => simp [flat, h, mkOpaque]
  | .opaque i, o => by simp only [flat]; exact flat_true m i true
  | .join es, o => by simp only [flat]; exact flatList_true m es o
  | .wrapW i, o => by simp only [flat]; exact flat_true m i o
theorem flatList_true (m : Methods) : ∀ (es : List GoErr) (o : Bool), flatList m true es = mkOpaque (flatList m o es)
  | [], _ => rfl
  | e :: es, o => by simp only [flatList, mkOpaque_append, ← flat_true m e o, ← flatList_true m es o]
end

def flatO (m : Methods) (o : Bool) : Option GoErr → Errs
  | none => []
  | some e => flat m o e

theorem leaves_eq_flatO (m : Methods) (e : Option GoErr) : leaves m e = flatO m false e := by cases e <;> rfl

theorem flatList_eq_flatMap (m : Methods) (o : Bool) : ∀ es : List GoErr, flatList m o es = es.flatMap (flat m o)
  | [] => rfl
  | e :: es => by simp [flatList, flatList_eq_flatMap m o es]

theorem flatList_filterMap (m : Methods) (o : Bool) :
    ∀ l : List (Option GoErr), flatList m o (l.filterMap id) = l.flatMap (flatO m o)
  | [] => rfl
  | none :: l => by simp [flatO, flatList_filterMap m o l]
  | some e :: l => by simp [flatO, flatList, flatList_filterMap m o l]

theorem flatO_errorsJoin (m : Methods) (o : Bool) (l : List (Option GoErr)) :
    flatO m o (errorsJoin l) = l.flatMap (flatO m o) := by
  rw [← flatList_filterMap]
  cases h : l.filterMap id with
  | nil => rw [errorsJoin_empty l h]; rfl
  | cons a r => rw [errorsJoin_nonempty l (by simp [h]), h]; rfl

theorem flatO_piece (m : Methods) (o : Bool) (a : Option GoErr) : (piece a).flatMap (flatO m o) = flatO m o a := by
  cases a with
  | none => rfl
  | some e =>
    cases e with
    | join es =>
      simp only [piece, flatO, flat, flatList_eq_flatMap, List.flatMap_map]
    | _ => simp [piece, flatO]

/-- **`joinErrors` is `++`**: the leaves of the result are the leaves of the arguments, in order — for every
    argument list (nil entries, joins of joins, anything) and every method table -/
theorem leaves_goJoin (m : Methods) (args : List (Option GoErr)) :
    leaves m (goJoin args) = args.flatMap (leaves m) := by
  rw [leaves_eq_flatO, goJoin, flatO_errorsJoin, List.flatMap_assoc]
  congr 1
  funext a
  rw [flatO_piece, leaves_eq_flatO]

theorem flatList_map_opaque (m : Methods) (o : Bool) : ∀ es : List GoErr, flatList m o (es.map .opaque) = flatList m true es
  | [] => rfl
  | e :: es => by simp [flatList, flat, flatList_map_opaque m o es]

theorem nfType_ne_opaque : (dynType (.opaque .plain) == nfType) = false := by decide

/-- **`makeErrorOpaque` is `mkOpaque`**: the same leaves with every not-found flag cleared — spans kept, also
    inside a join, whose elements are wrapped one by one — provided `opaqueError` does not unwrap -/
theorem leaves_goOpaque (m : Methods) (h : m.opaqueUnwrap = false) (e : Option GoErr) :
    leaves m (goOpaque e) = mkOpaque (leaves m e) := by
  cases e with
  | none => rfl
  | some e =>
    cases e with
    | perr s i => simp [goOpaque, leaves, flat, errorsAs, dynType, nfType, h, mkOpaque]
    | join es =>
      rw [goOpaque, leaves_eq_flatO, flatO_errorsJoin, map_some_opaque, ← flatList_filterMap, filterMap_map_some,
        flatList_map_opaque, flatList_true m es false]
      rfl
    | _ => exact flat_true m _ false

mutual
/-- a BARE not-found error: `errors.As` reaches a `notFoundError` without passing a `*parseError` (whose leaf
    would carry the flag) or an `opaqueError` -/
def bareNF : GoErr → Bool
  | .plain => false
  | .perr _ _ => false
  | .nf _ => true
  | .opaque _ => false
  | .join es => bareNFList es
  | .wrapW i => bareNF i
def bareNFList : List GoErr → Bool
  | [] => false
  | e :: es => bareNF e || bareNFList es
end

def bareNFO : Option GoErr → Bool
  | none => false
  | some e => bareNF e

theorem isNF_flat_true (m : Methods) (e : GoErr) : isNF (flat m true e) = false := by
  rw [flat_true m e true, isNF_mkOpaque]

mutual
theorem errorsAs_flat (m : Methods) (h : m.opaqueUnwrap = false) :
    ∀ e : GoErr, bareNF e = false → errorsAs m nfType e = isNF (flat m false e)
  | .plain, _ => by simp [flat, isNF]
  | .perr s i, _ => by simp [flat, isNF]
  | .nf i, hb => by simp [bareNF] at hb
  | .opaque i, _ => by
    rw [flat, isNF_flat_true]
    simp [errorsAs, h, dynType, nfType]
  | .join es, hb => by
    have ih := errorsAsList_flat m h es (by simpa [bareNF] using hb)
    simpa [errorsAs, flat, dynType, nfType] using ih
  | .wrapW i, hb => by
    have ih := errorsAs_flat m h i (by simpa [bareNF] using hb)
    simpa [errorsAs, flat, dynType, nfType] using ih
theorem errorsAsList_flat (m : Methods) (h : m.opaqueUnwrap = false) :
    ∀ es : List GoErr, bareNFList es = false → errorsAsList m nfType es = isNF (flatList m false es)
  | [], _ => rfl
  | e :: es, hb => by
    simp only [bareNFList, Bool.or_eq_false_iff] at hb
    simp only [errorsAsList, flatList, isNF_append, errorsAs_flat m h e hb.1, errorsAsList_flat m h es hb.2]
end

/-- **`isNotFound` is `isNF`**: `errors.As(err, new(notFoundError))` holds iff some leaf the hook reports carries
    the not-found flag — for every value without a bare not-found error, provided `opaqueError` does not unwrap -/
theorem errorsAs_leaves (m : Methods) (h : m.opaqueUnwrap = false) (e : Option GoErr) (hb : bareNFO e = false) :
    errorsAsI m nfType e = isNF (leaves m e) := by
  cases e with
  | none => rfl
  | some e => exact errorsAs_flat m h e hb

/-- the value a constructor site of `Facts.errSites` builds at a span -/
def siteVal (shape : String) : Option (Span → GoErr) :=
  if shape == "perr plain" then some fun s => .perr s .plain
  else if shape == "perr nf plain" then some fun s => .perr s (.nf .plain)
  else if shape == "plain" then some fun _ => .plain
  else none

/-- every error value the productions of parser.go can hold: nil, a constructor site, `joinErrors` and
    `makeErrorOpaque` of such values -/
inductive Built : Option GoErr → Prop
  | nil : Built none
  | site (shape : String) (f : Span → GoErr) (s : Span) (h : siteVal shape = some f) : Built (some (f s))
  | join (args : List (Option GoErr)) (h : ∀ a ∈ args, Built a) : Built (goJoin args)
  | opaque (e : Option GoErr) (h : Built e) : Built (goOpaque e)

/-- what `Parse` returns: nil, or its accumulated error under `fmt.Errorf("…%w", …)` -/
inductive Returned : Option GoErr → Prop
  | nil : Returned none
  | wrapped (e : GoErr) (h : Built (some e)) : Returned (some (.wrapW e))

mutual
def allNodes (p : GoErr → Bool) : GoErr → Bool
  | .plain => p .plain
  | .perr s i => p (.perr s i) && allNodes p i
  | .nf i => p (.nf i) && allNodes p i
  | .opaque i => p (.opaque i) && allNodes p i
  | .join es => p (.join es) && allNodesList p es
  | .wrapW i => p (.wrapW i) && allNodes p i
def allNodesList (p : GoErr → Bool) : List GoErr → Bool
  | [] => true
  | e :: es => allNodes p e && allNodesList p es
end

theorem allNodesList_eq (p : GoErr → Bool) : ∀ es : List GoErr, allNodesList p es = es.all (allNodes p)
  | [] => rfl
  | e :: es => by simp [allNodesList, allNodesList_eq p es]

/-- the `err` of a `parseError`: a fresh message, possibly marked not-found, possibly hidden -/
def isMsg : GoErr → Bool
  | .plain => true
  | .nf .plain => true
  | .opaque i => isMsg i
  | _ => false

/-- clause J: a join is non-empty and none of its elements is a join -/
def joinNode : GoErr → Bool
  | .join es => !es.isEmpty && es.all (!isMulti ·)
  | _ => true
/-- clause P: the `err` of a `parseError` is a message -/
def perrNode : GoErr → Bool
  | .perr _ i => isMsg i
  | _ => true
/-- clause W: no `%w` wrapper -/
def wrapNode : GoErr → Bool
  | .wrapW _ => false
  | _ => true

def allNodesO (p : GoErr → Bool) : Option GoErr → Bool
  | none => true
  | some e => allNodes p e

theorem isMsg_allNodes (p : GoErr → Bool) (hp : ∀ i, p (.opaque i) = true) (hn : p (.nf .plain) = true)
    (hpl : p .plain = true) : ∀ i : GoErr, isMsg i = true → allNodes p i = true := by
  intro i h
  fun_induction isMsg i with
  | case1 => simp [allNodes, hpl]
  | case2 => simp [allNodes, hn, hpl]
  | case3 i ih => simp [allNodes, hp, ih h]
  | case4 => cases h

/-- one error: a fresh message or a `parseError` around one, possibly hidden -/
def elemOK : GoErr → Bool
  | .plain => true
  | .perr _ i => isMsg i
  | .opaque i => elemOK i
  | _ => false

def normal : Option GoErr → Bool
  | none => true
  | some (.join es) => !es.isEmpty && es.all elemOK
  | some e => elemOK e

theorem elemOK_allNodes (p : GoErr → Bool) (hp : ∀ i, p (.opaque i) = true) (hn : p (.nf .plain) = true)
    (hpl : p .plain = true) (hpe : ∀ s i, isMsg i = true → p (.perr s i) = true) (e : GoErr) (h : elemOK e = true) :
    allNodes p e = true := by
  fun_induction elemOK e with
  | case1 => simp [allNodes, hpl]
  | case2 s i => simp [allNodes, hpe s i h, isMsg_allNodes p hp hn hpl i h]
  | case3 i ih => simp [allNodes, hp, ih h]
  | case4 => cases h

theorem elemOK_inv {e : GoErr} (h : elemOK e = true) :
    isMulti e = false ∧ bareNF e = false ∧ allNodes joinNode e = true ∧ allNodes perrNode e = true ∧
      allNodes wrapNode e = true :=
  ⟨by cases e <;> first | rfl | simp [elemOK] at h, by cases e <;> first | rfl | simp [elemOK] at h,
   elemOK_allNodes _ (fun _ => rfl) rfl rfl (fun _ _ _ => rfl) e h,
   elemOK_allNodes _ (fun _ => rfl) rfl rfl (fun _ _ hi => hi) e h,
   elemOK_allNodes _ (fun _ => rfl) rfl rfl (fun _ _ _ => rfl) e h⟩

theorem bareNFList_eq : ∀ es : List GoErr, bareNFList es = es.any bareNF
  | [] => rfl
  | e :: es => by simp [bareNFList, bareNFList_eq es]

theorem normal_inv (e : Option GoErr) (h : normal e = true) :
    bareNFO e = false ∧ allNodesO joinNode e = true ∧ allNodesO perrNode e = true ∧ allNodesO wrapNode e = true := by
  match e, h with
  | none, _ => exact ⟨rfl, rfl, rfl, rfl⟩
  | some (.join es), h =>
    simp only [normal, Bool.and_eq_true, List.all_eq_true] at h
    have he := fun e he => elemOK_inv (h.2 e he)
    simp only [bareNFO, bareNF, bareNFList_eq, List.any_eq_false, allNodesO, allNodes, allNodesList_eq, joinNode, perrNode,
      wrapNode, Bool.and_eq_true, List.all_eq_true, Bool.not_eq_true', Bool.true_and]
    exact ⟨fun e h' => by simp [(he e h').2.1], ⟨⟨by simpa using h.1, fun e h' => (he e h').1⟩, fun e h' => (he e h').2.2.1⟩,
      fun e h' => (he e h').2.2.2.1, fun e h' => (he e h').2.2.2.2⟩
  | some .plain, h | some (.perr ..), h | some (.nf _), h | some (.opaque _), h | some (.wrapW _), h =>
    exact (elemOK_inv h).2

theorem normal_site (shape : String) (f : Span → GoErr) (s : Span) (h : siteVal shape = some f) :
    normal (some (f s)) = true := by
  unfold siteVal at h
  split at h
  · cases h; rfl
  · split at h
    · cases h; rfl
    · split at h
      · cases h; rfl
      · cases h

theorem piece_elems (a : Option GoErr) (h : normal a = true) : ∀ x ∈ piece a, ∃ e, x = some e ∧ elemOK e = true := by
  match a, h with
  | none, _ => intro x hx; simp [piece] at hx
  | some (.join es), h =>
    intro x hx
    simp only [piece, List.mem_map] at hx
    obtain ⟨e, he, rfl⟩ := hx
    simp only [normal, Bool.and_eq_true, List.all_eq_true] at h
    exact ⟨e, rfl, h.2 e he⟩
  | some .plain, h | some (.perr ..), h | some (.nf _), h | some (.opaque _), h | some (.wrapW _), h =>
    intro x hx
    simp only [piece, List.mem_singleton] at hx
    exact ⟨_, hx, h⟩

theorem normal_goJoin (args : List (Option GoErr)) (h : ∀ a ∈ args, normal a = true) : normal (goJoin args) = true := by
  unfold goJoin
  cases hl : (args.flatMap piece).filterMap id with
  | nil => rw [errorsJoin_empty _ hl]; rfl
  | cons a0 r0 =>
    rw [errorsJoin_nonempty _ (by simp [hl])]
    simp only [normal, hl, List.isEmpty_cons, Bool.not_false, Bool.true_and, List.all_eq_true]
    intro e he
    obtain ⟨x, hx, hxe⟩ := List.mem_filterMap.mp (hl ▸ he)
    obtain ⟨a, ha, hxa⟩ := List.mem_flatMap.mp hx
    obtain ⟨e', rfl, h'⟩ := piece_elems a (h a ha) x hxa
    cases hxe
    exact h'

theorem normal_goOpaque (e : Option GoErr) (h : normal e = true) : normal (goOpaque e) = true := by
  match e, h with
  | none, _ => rfl
  | some (.join es), h =>
    simp only [normal, Bool.and_eq_true, Bool.not_eq_true', List.isEmpty_eq_false_iff] at h
    rw [goOpaque, map_some_opaque, errorsJoin_map_some, if_neg (by simpa using h.1)]
    simpa [normal, h.1, elemOK] using h.2
  | some .plain, h | some (.perr ..), h | some (.opaque _), h => exact h
  | some (.nf _), h | some (.wrapW _), h => simp [normal, elemOK] at h

/-- **every value the productions hold satisfies the invariant**: each constructor site builds a single error,
    `joinErrors` and `makeErrorOpaque` keep the normal form -/
theorem built_normal : ∀ {e : Option GoErr}, Built e → normal e = true
  | _, .nil => rfl
  | _, .site shape f s h => normal_site shape f s h
  | _, .join args h => normal_goJoin args fun a ha => built_normal (h a ha)
  | _, .opaque e h => normal_goOpaque e (built_normal h)

end Pql.ErrIR
