/-
Property C05 (and C02), tie by translation: the render and default cases of
`(*subquery).write`, the theorem for all cases (`C05_write_ir`), the counterexamples showing that
its side condition is needed and a non-vacuity example (see Props/C05WriteIR.lean for the set-up).
-/
import PqlModel.Props.C05WriteIROps
import PqlModel.Base.BytesLemmas
namespace Pql.WriteIR
open Pql
set_option linter.unusedSimpArgs false

def propBody : List Stmt :=
  [.lit ",\n    ", .declStr "value" "",
   .ite (.typeIs "lit" "BasicLit" ⟨"prop", "Value"⟩) [.set "value" ⟨"lit", "Value"⟩]
     [.ite (.typeIs "id" "QualifiedIdent" ⟨"prop", "Value"⟩) [.set "value" ⟨"id", "Parts[0].Name"⟩] []],
   .qstr ⟨"value", ""⟩, .lit " as ", .qidCat "render_prop_" ⟨"prop", "Name.Name"⟩]

def renderIR : List Stmt :=
  [.lit "SELECT *,\n", .lit "    ", .qstr ⟨"op", "ChartType.Name"⟩, .lit " as \"render_type\"",
   .for_ "_" "prop" ⟨"op", "Props"⟩ propBody, .lit "\nFROM ", .str ⟨"sub", "sourceSQL"⟩]

theorem render_ir : decode (irOf "write:RenderOperator") = some renderIR := by rfl

def emptyQident : Expr → Bool
  | .qident [] => true
  | _ => false

/-- a render property the Go code can write without a run-time panic -/
def propOK (p : RenderProp) : Bool := p.name.isSome && !emptyQident p.value

/-- one render property, as the model writes it -/
def propW (p : RenderProp) : List Chunk :=
  [.txt ",\n    ", .qstr (renderPropValue p.value), .txt " as ", .qid (Bytes.ofString "render_prop_" ++ identName p.name)]

theorem prop_body (ctx : Ctx) (vars : List (String × Val)) (i : Nat) (p : RenderProp) (hp : propOK p = true) :
    (execBlock modelSem propBody ⟨some ctx, ("prop", .prop p) :: ("_", .nat i) :: vars⟩ >>= fun r =>
        .ok (r.1, r.2.leave ⟨some ctx, vars⟩)) =
      ((fun (_ : Nat) (p : RenderProp) => (Except.ok (propW p) : M (List Chunk))) i p >>= fun o =>
        .ok (o, ⟨some ctx, vars⟩)) := by
  simp only [propOK, Bool.and_eq_true, Bool.not_eq_true'] at hp
  obtain ⟨hn, hv⟩ := hp
  cases hname : p.name with
  | none => simp [hname] at hn
  | some n =>
    wr_simp [propBody, propW, hname, identName, ofString_empty]
    cases hval : p.value with
    | qident parts =>
      cases parts with
      | nil => simp [hval, emptyQident] at hv
      | cons q qs => simp [exprTypeName, renderPropValue, bind_ok]
    | _ => simp [exprTypeName, renderPropValue, bind_ok]

theorem prop_loop (ctx : Ctx) (vars : List (String × Val)) (props : List RenderProp)
    (hp : ∀ p ∈ props, propOK p = true) :
    forEach "_" "prop" (execBlock modelSem propBody) 0 (props.map .prop) ⟨some ctx, vars⟩ =
      .ok (props.flatMap propW, ⟨some ctx, vars⟩) := by
  rw [forEach_collect Val.prop "_" "prop" _ (some ctx) vars _ props 0 (fun j p h => prop_body ctx vars j p (hp p h)),
    collect_pure]
  rfl

/-- **render**, when the chart type and every property name are present and no property value is
    a qualified identifier without parts -/
theorem C05_write_render (ctx : Ctx) (sub : Subquery) (p k w lp rp : Span) (chart : Option Ident)
    (props : List RenderProp) (h : sub.op = some (.render p k chart w lp props rp))
    (hc : chart.isSome = true) (hp : ∀ q ∈ props, propOK q = true) :
    interpWrite modelSem ctx sub = liftW (sub.write ctx) := by
  refine interpWrite_of ctx sub _ renderIR (by rw [h]; rfl) render_ir rfl ?_
  have hl := prop_loop ctx (opVars sub) props hp
  simp only [opVars, h, List.cons_append, List.nil_append, bodyOf] at hl ⊢
  cases chart with
  | none => simp at hc
  | some c =>
    wr_simp [renderIR, hl, identName]
    rfl

def defaultIR : List Stmt := [.fprintfT "SELECT NULL /* unsupported operator " " */" "op", .ret]
theorem default_ir : decode (irOf "write:default") = some defaultIR := by rfl

/-- **default** (`sort`, `take`, `top`, `join` stored as a subquery's operator, which `splitQueries`
    never does): both sides write one placeholder and return before the ORDER BY / LIMIT suffix, but
    the Go code renders the operator's type with `%T` and the model leaves it out.  (So on these
    unreachable inputs the model's bytes differ from the implementation's.) -/
theorem C05_write_default (ctx : Ctx) (sub : Subquery) (o : Op) (h : sub.op = some o)
    (hd : Exact.storedOp o = false) :
    interpWrite modelSem ctx sub =
        .ok [.txt ("SELECT NULL /* unsupported operator " ++ "*parser." ++ opTypeName o ++ " */")] ∧
      sub.write ctx = .ok [.txt "SELECT NULL /* unsupported operator */"] := by
  have hk : caseKey "write" (opTypeKey sub.op) = some "write:default" := by
    rw [h]
    cases o <;> simp [Exact.storedOp] at hd <;> (simp only [opTypeKey, opTypeName]; decide)
  constructor
  · unfold interpWrite
    simp only [hk, default_ir, suffix_ir]
    simp only [opVars, h, List.cons_append, List.nil_append]
    wr_simp [defaultIR, returns]
  · rw [write_eq]
    cases o <;> simp [Exact.storedOp] at hd <;> simp [bodyOf, tailOf, h, bind, Except.bind, pure, Except.pure]

/-- the side condition under which the model and the Go code agree on a subquery: what the stored
    operator must satisfy (nothing for no operator, `as`, `where`, `count`, `summarize`) -/
def irOK (sub : Subquery) : Bool :=
  match sub.op with
  | none => true
  | some (.project _ _ cols) => cols.all fun c => c.name.isSome
  | some (.extend _ _ cols) => cols.all fun c => !isNilExpr c.x
  | some (.render _ _ chart _ _ props _) => chart.isSome && props.all propOK
  | some o => Exact.storedOp o

/-- **C05 / C02 (`(*subquery).write` is the translated Go code).**  For every subquery satisfying
    `irOK` — every operator `splitQueries` stores, every list of columns, properties and sort
    terms, with or without sort and row count — the model's `Subquery.write` is the interpretation
    of the IR regenerated from the type switch of `(*subquery).write` and the statements after it. -/
theorem C05_write_ir (ctx : Ctx) (sub : Subquery) (hok : irOK sub = true) :
    interpWrite modelSem ctx sub = liftW (sub.write ctx) := by
  cases h : sub.op with
  | none => exact C05_write_none ctx sub h
  | some o =>
    cases o with
    | as_ p k n => exact C05_write_as ctx sub p k n h
    | count p k => exact C05_write_count ctx sub p k h
    | where_ p k e => exact C05_write_where ctx sub p k e h
    | summarize p k cols b gs => exact C05_write_summarize ctx sub p k b cols gs h
    | project p k cols =>
      refine C05_write_project ctx sub p k cols h fun c hc => ?_
      simp only [irOK, h, List.all_eq_true] at hok
      exact hok c hc
    | extend p k cols =>
      refine C05_write_extend ctx sub p k cols h fun c hc => ?_
      simp only [irOK, h, List.all_eq_true] at hok
      simpa using hok c hc
    | render p k chart w lp props rp =>
      simp only [irOK, h, Bool.and_eq_true, List.all_eq_true] at hok
      exact C05_write_render ctx sub p k w lp rp chart props h hok.1 hok.2
    | sort _ _ _ => simp [irOK, h, Exact.storedOp] at hok
    | take _ _ _ => simp [irOK, h, Exact.storedOp] at hok
    | top _ _ _ _ _ => simp [irOK, h, Exact.storedOp] at hok
    | join _ _ _ _ _ _ _ _ _ _ => simp [irOK, h, Exact.storedOp] at hok

deriving instance DecidableEq for Except

/-- project without a column name: Go dereferences the nil `Name`, the model writes the empty name -/
theorem C05_write_project_needs_names :
    let sub : Subquery := { name := [], source := [], op := some (.project .zero .zero [⟨none, .zero, .lit .zero .number [49]⟩]) }
    let ctx : Ctx := ⟨[], [], .default⟩
    interpWrite modelSem ctx sub = .error (.go .panic) ∧
    sub.write ctx = .ok [.txt "SELECT ", .num [49], .txt " AS ", .qid [], .txt " FROM "] := by
  decide +kernel

/-- extend with a nil expression (only a failed parse leaves one): Go writes the placeholder and
    then the name as an expression, the model only the placeholder -/
theorem C05_write_extend_needs_expr :
    let sub : Subquery := { name := [], source := [], op := some (.extend .zero .zero [⟨some ⟨[120], .zero, false⟩, .zero, .nil⟩]) }
    let ctx : Ctx := ⟨[], [], .default⟩
    interpWrite modelSem ctx sub =
      .ok [.txt "SELECT *", .txt ", ", .txt "NULL /* unhandled <nil> expression */", .qid [120], .txt " AS ", .qid [120],
           .txt " FROM "] ∧
    sub.write ctx =
      .ok [.txt "SELECT *", .txt ", ", .txt "NULL /* unhandled <nil> expression */", .txt " AS ", .qid [120],
           .txt " FROM "] := by
  decide +kernel

def cexCtx : Ctx := ⟨[], [], .default⟩
def cexNoChart : Subquery :=
  { name := [], source := [], op := some (.render .zero .zero none .zero .zero [] .zero) }
def cexNoName : Subquery :=
  { name := [], source := [],
    op := some (.render .zero .zero (some ⟨[99], .zero, false⟩) .zero .zero [⟨none, .zero, .lit .zero .number [49]⟩] .zero) }
def cexNoParts : Subquery :=
  { name := [], source := [],
    op := some (.render .zero .zero (some ⟨[99], .zero, false⟩) .zero .zero
      [⟨some ⟨[116], .zero, false⟩, .zero, .qident []⟩] .zero) }

/-- render without a chart type / with a nameless property / with a qualified identifier without
    parts as a value: Go panics, the model writes empty strings -/
theorem C05_write_render_needs_ok :
    (interpWrite modelSem cexCtx cexNoChart = .error (.go .panic) ∧ (cexNoChart.write cexCtx).toBool = true) ∧
    (interpWrite modelSem cexCtx cexNoName = .error (.go .panic) ∧ (cexNoName.write cexCtx).toBool = true) ∧
    (interpWrite modelSem cexCtx cexNoParts = .error (.go .panic) ∧ (cexNoParts.write cexCtx).toBool = true) := by
  decide +kernel

/-- non-vacuity: a project with a computed and a bare column, an extend with an unnamed column, a
    render with both kinds of property values, each with sort and row count attached -/
example :
    irOK { name := [], source := [.qid [84]], sort := some [⟨.qident [⟨[97], .zero, false⟩], true, .zero, false, .zero⟩],
           take := some (.lit .zero .number [53]),
           op := some (.project .zero .zero
             [⟨some ⟨[97], .zero, false⟩, .zero, .nil⟩, ⟨some ⟨[98], .zero, false⟩, .zero, .lit .zero .number [49]⟩]) } = true ∧
    irOK { name := [], source := [.qid [84]], op := some (.extend .zero .zero [⟨none, .zero, .lit ⟨0, 1⟩ .number [49]⟩]) } = true ∧
    irOK { name := [], source := [.qid [84]],
           op := some (.render .zero .zero (some ⟨[99], .zero, false⟩) .zero .zero
             [⟨some ⟨[116], .zero, false⟩, .zero, .lit .zero .string [120]⟩,
              ⟨some ⟨[117], .zero, false⟩, .zero, .qident [⟨[121], .zero, false⟩]⟩] .zero) } = true := by
  decide

end Pql.WriteIR
