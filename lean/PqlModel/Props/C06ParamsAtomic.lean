/-
Property C06 — parameters whose text is ONE operand.

`C06_params_as_lets_bytes`: if every parameter text is, byte for byte, what the statement loop
   stores for a let value (`'x'`, `42`, `(1 + 2)`, `lower('A')` …: `ParamsAreLets`), then compiling with
   the parameters emits EXACTLY THE BYTES of compiling the program with those lets put in front — and
   fails alike.  Hence (`C06_atomic_params_end_to_end`) everything proved about programs with lets holds
   for the SQL text of a program with such parameters: it lexes, is read back by the reference reader as
   the intended statement of `plets ++ program`, and evaluates to `Rel.interp` of the resolved query.
   (`C06_atomic_params_tokens`: the same at token level when the texts agree as token lists only.)
Expression level, `ScopeParamsEnv`: scopes made of atomic raw entries (a text the SQL reader's atom
   level reads as the translation of a PQL expression `x` — also a column `"a"`, which no let can be) and
   lets: the C01 / C06 parse round trip with the parameter read as the opaque operand `x`
   (`C06_parse_roundtrip_params`, `C06_operand_is_unit_params`, `C06_param_value_is_operand`).
Non-atomic texts: `C06.C06_param_regrouped` (`p ↦ 1 + 2` in `p * 3`), `C06.C06_param_comment` (`p ↦ -5` in `-p`).
Placeholders `$1`, `?`, `{p:Int32}` are not atomic in this sense (the intended translation `CompileOracle.tr`
has no PQL expression whose image is `SExpr.param`): `C06_params_lets_same_skeleton` here and
Props/C06Placeholders.lean.
-/
import PqlModel.Lemmas.ParamsHoles
import PqlModel.Props.C06Params
import PqlModel.Props.C06Operand
import PqlModel.Lemmas.E2EFinalProgram
namespace Pql.Params
open Pql Sql CompileOracle Intended Pql.RT

/-- every parameter text is the text the statement loop stores for the let of the same name in `plets`
    (in the scope's order: newest first) -/
def ParamsAreLets (src : Bytes) (params : List (Bytes × Bytes)) (plets : List Stmt) : Prop :=
  IsLets plets ∧ ∃ scL, compileStmts src plets [] none = .ok (scL, none) ∧
    scL.map (fun kv => (kv.1, renderChunks kv.2)) = params

theorem compileFrom_append {src : Bytes} {front : List Stmt} {sc sc' : Scope}
    (hrun : compileStmts src front sc none = .ok (sc', none)) (stmts : List Stmt) :
    compileFrom src sc (front ++ stmts) = compileFrom src sc' stmts := by
  unfold compileFrom
  rw [compileStmts_append, hrun]
  rfl

theorem compileStmts_lets_none (src : Bytes) : (l : List Stmt) → IsLets l → (sc sc' : Scope) → (q : Option Tabular) →
    compileStmts src l sc none = .ok (sc', q) → q = none :=
  fun _ hl _ _ _ h => compileStmts_isLets_none src hl h

/-- **C06 (a parameter that is a let value acts as that let): bytes.** -/
theorem C06_params_as_lets_bytes (src : Bytes) (params : List (Bytes × Bytes)) (plets stmts : List Stmt)
    (hP : ParamsAreLets src params plets) :
    (compileChunks src params stmts).map renderChunks =
      (compileChunks src [] (plets ++ stmts)).map renderChunks := by
  obtain ⟨hl, scL, hrun, hpar⟩ := hP
  rw [compileChunks_eq_from src [], show paramScope [] = ([] : Scope) from rfl, compileFrom_append hrun,
    compileChunks_eq_from]
  subst hpar
  apply compileFrom_render_congr
  · simp [paramScope]
  · simp [paramScope, renderChunks, Chunk.bytes]

/-- tokens: it suffices that every parameter text LEXES to the tokens of the stored let value -/
theorem C06_atomic_params_tokens (src : Bytes) (params : List (Bytes × Bytes)) (plets stmts : List Stmt)
    (scL : Scope) (hl : IsLets plets) (hrun : compileStmts src plets [] none = .ok (scL, none))
    (hk : scL.map (·.1) = params.map (·.1))
    (ht : scL.map (fun kv => toksOf kv.2) = params.map (fun kv => (Sql.lex .standard kv.2).getD [])) :
    (compileChunks src params stmts).map toksOf = (compileChunks src [] (plets ++ stmts)).map toksOf := by
  rw [compileChunks_eq_from src [], show paramScope [] = ([] : Scope) from rfl, compileFrom_append hrun,
    compileChunks_eq_from]
  apply compileFrom_toks_congr
  · rw [hk]; simp [paramScope]
  · rw [ht]; simp [paramScope, toksOf, chunkToks]

/-- **C06 (atomic parameters, end to end).**  `params` are the texts of the let values `plets`
    (`ParamsAreLets`); the program is `lets ++ [query t]`.  If it compiles WITH THE PARAMETERS to chunks
    `cs`, then — under the side conditions of `E2EFinal.end_to_end_program` for the program
    `plets ++ lets ++ [query t]` (each with its counterexample in Props/C02EndToEndSource.lean) — the emitted
    SQL text is read back by the reference lexer and parser as a statement `st` equal (up to `normS`) to
    the intended statement of `plets ++ lets ++ [query t]`, and `st`, evaluated as read, is the meaning of
    that program: every parameter reference is the operand `x` its let denotes. -/
theorem C06_atomic_params_end_to_end (src : Bytes) (params : List (Bytes × Bytes)) (plets lets : List Stmt)
    (t : Tabular) (cs : List Chunk)
    (hP : ParamsAreLets src params plets)
    (hc : compileChunks src params (lets ++ [.tabular t]) = .ok cs)
    (hl : IsLets lets) (hv : LetValuesOK (plets ++ lets))
    (hjs : envJoinSafe (letsEnv (plets ++ lets) []) = true)
    (hJ : TrueFree (letsEnv (plets ++ lets) []) ∨ ParsedOK.TabNE t = true) (hN : tabNamed t)
    (hlexP : Pql.stmtsLexOK (plets ++ lets ++ [.tabular t]) = true)
    (hok : C05.tabularOK (substTabular (letsEnv (plets ++ lets) []) t) = true)
    (hnames : JoinFull.namesOk (substTabular (letsEnv (plets ++ lets) []) t) = true)
    (hops : JoinFull.tabOpsOk (substTabular (letsEnv (plets ++ lets) []) t) = true) :
    ∃ cs', compileChunks src [] (plets ++ lets ++ [.tabular t]) = .ok cs' ∧ renderChunks cs = renderChunks cs' ∧
    ∃ st want, readSql (renderChunks cs) = some st ∧ E2E.noBangStatement st = true ∧
      intended src (plets ++ lets ++ [.tabular t]) = some want ∧ statementEq st want = true ∧
      ∀ db, JoinFull.RectDB db →
        evalStatement db st = Rel.interp src db (substTabular (letsEnv (plets ++ lets) []) t) ∧
        evalStatement db want = Rel.interp src db (substTabular (letsEnv (plets ++ lets) []) t) ∧
        Rel.interpProgram src db (plets ++ lets ++ [.tabular t]) =
          some (Rel.interp src db (substTabular (letsEnv (plets ++ lets) []) t)) := by
  have hb := C06_params_as_lets_bytes src params plets (lets ++ [.tabular t]) hP
  rw [hc, exmap_ok, ← List.append_assoc] at hb
  cases hc' : compileChunks src [] (plets ++ lets ++ [.tabular t]) with
  | error e => rw [hc'] at hb; cases hb
  | ok cs' =>
    rw [hc', exmap_ok] at hb
    have hr : renderChunks cs = renderChunks cs' := by injection hb
    have hlets : IsLets (plets ++ lets) := by
      intro st hst
      rcases List.mem_append.1 hst with h | h
      · exact hP.1 st h
      · exact hl st h
    refine ⟨cs', rfl, hr, ?_⟩
    rw [hr]
    exact E2EFinal.end_to_end_program src (plets ++ lets) t cs' hc' hlets hv hjs hJ hN hlexP hok hnames hops

/-- **C06 (placeholders `$1`, `?`, `{p:T}`: same skeleton).**  For ANY parameter texts (no atomicity) and any
    lets `plets` binding the same names in the same order: the chunks compiled with the parameters and the
    chunks compiled with the lets in front are ONE chunk list with holes `r0`, the holes filled with the
    parameter texts (`.raw text`) resp. with the stored let values — so a placeholder stands exactly where
    the value of `let p = 'marker'` would stand, as one chunk, and every other chunk is the same. -/
theorem C06_params_lets_same_skeleton (src : Bytes) (params : List (Bytes × Bytes)) (plets stmts : List Stmt)
    (scL : Scope) (hl : IsLets plets) (hrun : compileStmts src plets [] none = .ok (scL, none))
    (hk : scL.map (·.1) = params.map (·.1)) :
    ∃ r0 : W, compileChunks src params stmts = r0.map (bindRaw (fill (paramScope params))) ∧
      compileChunks src [] (plets ++ stmts) = r0.map (bindRaw (fill scL)) := by
  rw [compileChunks_eq_from src [], show paramScope [] = ([] : Scope) from rfl, compileFrom_append hrun,
    compileChunks_eq_from]
  exact compileFrom_common_skeleton src _ _ stmts (by rw [hk]; simp [paramScope])

/-- the parameter text is read by the SQL reader's atom level — hence by its unary level, as one operand
    of any sign, subscript or infix operator — as the translation of the PQL expression `x`, whatever
    follows that cannot continue an atom -/
def AtomicAs (text : Bytes) (x : Expr) : Prop :=
  ∀ want, tr false x = some want → AtomP (toksOf [.raw text]) want

inductive ScopeParamsEnv (src : Bytes) : Scope → List (Bytes × Expr) → Prop
  | nil : ScopeParamsEnv src [] []
  | param {scope : Scope} {env : List (Bytes × Expr)} (k text : Bytes) (x : Expr) :
      ScopeParamsEnv src scope env → AtomicAs text x →
      ScopeParamsEnv src ((k, [.raw text]) :: scope) ((k, x) :: env)
  | let_ {scope : Scope} {env : List (Bytes × Expr)} (n : Bytes) (x : Expr) (cs : List Chunk) :
      ScopeParamsEnv src scope env → x.lexOK = true → shapeOK x = true →
      writeExpr ⟨src, scope, .let_⟩ x = .ok cs →
      ScopeParamsEnv src ((n, wrapTight x cs) :: scope) ((n, substExpr env x) :: env)

theorem scopeRT_of_params {src : Bytes} {scope : Scope} {env : List (Bytes × Expr)}
    (h : ScopeParamsEnv src scope env) : ScopeRT false scope env := by
  induction h with
  | nil => exact scopeRT_nil false
  | param k text x _ ha ih => exact scopeRT_cons ih k _ x ha
  | let_ n x cs _ hok hshape hw ih => exact scopeRT_let ih n hok hshape hw

theorem compileStmts_scopeParams (src : Bytes) : (stmts : List Stmt) → (scope : Scope) → (env : List (Bytes × Expr)) →
    ScopeParamsEnv src scope env → LetValuesOK stmts → (scope' : Scope) → (q' : Option Tabular) →
    compileStmts src stmts scope none = .ok (scope', q') → ScopeParamsEnv src scope' (letsEnv stmts env) :=
  compileStmts_keeps src fun _ _ n x cs hs => .let_ n x cs hs

theorem scopeParams_of_params (src : Bytes) : (ps : List (Bytes × Bytes × Expr)) → (∀ p ∈ ps, AtomicAs p.2.1 p.2.2) →
    ScopeParamsEnv src (paramScope (ps.map fun p => (p.1, p.2.1))) (ps.map fun p => (p.1, p.2.2))
  | [], _ => .nil
  | p :: ps, h =>
    .param p.1 p.2.1 p.2.2 (scopeParams_of_params src ps (fun q hq => h q (List.mem_cons_of_mem _ hq)))
      (h p List.mem_cons_self)

theorem goodS_of_params (ctx : Ctx) (env : List (Bytes × Expr)) (hsc : ScopeParamsEnv ctx.src ctx.scope env)
    (hjoin : ctx.mode = .join → envJoinSafe env = true) (e : Expr) (hok : e.lexOK = true)
    (hshape : shapeOK e = true) : GoodS ctx env e :=
  goodS_of_scopeRT ctx env (scopeRT_of_params hsc) hjoin e hok hshape

/-- **C06 / C01 (ParseRoundtrip with atomic parameters).**  `ctx.scope` consists of atomic parameters and
    lets, `env` holds the expression each name stands for.  If the writer succeeds on `e` with chunks
    `cs`, and `want` is the intended translation of `e` with every bound name replaced by the expression
    it stands for, then the SQL reader at minimum precedence 0 on the tokens of `cs`, followed by any
    `rest` that cannot continue an expression, returns a tree equal to `want` up to `normS` and leaves
    exactly `rest`.  (In a join condition: no bound name is `$left` / `$right` and no value mentions
    them, `envJoinSafe`; needed: `C06.C06_join_name_counterexample`, `C06.C06_join_counterexample`.) -/
theorem C06_parse_roundtrip_params (ctx : Ctx) (env : List (Bytes × Expr)) (e : Expr) (cs : List Chunk)
    (want : Sql.SExpr) (rest : List STok)
    (hsc : ScopeParamsEnv ctx.src ctx.scope env)
    (hjoin : ctx.mode = .join → envJoinSafe env = true)
    (hok : e.lexOK = true) (hshape : shapeOK e = true)
    (hw : writeExpr ctx e = .ok cs)
    (ht : tr (ctx.mode == .join) (substExpr env e) = some want)
    (hrest : C01.Stops rest) :
    ∃ s, normS s = normS want ∧
      ∃ fuel, ∀ fuel', fuel ≤ fuel' → Sql.pExprS fuel' 0 (toksOf cs ++ rest) = some (s, rest) :=
  (goodS_of_params ctx env hsc hjoin e hok hshape).expr hw ht rest hrest

/-- an operand written by `writeExpressionMaybeParen` — in particular a bare reference to an atomic
    parameter — is read by the reader's unary level as one operand, whatever operator follows -/
theorem C06_operand_is_unit_params (ctx : Ctx) (env : List (Bytes × Expr)) (x : Expr) (body : List Chunk)
    (want : Sql.SExpr) (rest : List STok)
    (hsc : ScopeParamsEnv ctx.src ctx.scope env) (hjoin : ctx.mode = .join → envJoinSafe env = true)
    (hok : x.lexOK = true) (hshape : shapeOK x = true)
    (hw : writeExpr ctx x = .ok body) (ht : tr (ctx.mode == .join) (substExpr env x) = some want)
    (hrest : Ends unaryEndTok rest) :
    ∃ s, normS s = normS want ∧
      ∃ fuel, ∀ fuel', fuel ≤ fuel' → Sql.pUnaryS fuel' (toksOf (wrapMaybe x body) ++ rest) = some (s, rest) :=
  (goodS_of_params ctx env hsc hjoin x hok hshape).unit hw ht rest hrest

/-- the operand of a sign and the base of a subscript (`writeExpressionTight`) are atoms -/
theorem C06_tight_operand_is_atom_params (ctx : Ctx) (env : List (Bytes × Expr)) (x : Expr) (body : List Chunk)
    (want : Sql.SExpr) (rest : List STok)
    (hsc : ScopeParamsEnv ctx.src ctx.scope env) (hjoin : ctx.mode = .join → envJoinSafe env = true)
    (hok : x.lexOK = true) (hshape : shapeOK x = true)
    (hw : writeExpr ctx x = .ok body) (ht : tr (ctx.mode == .join) (substExpr env x) = some want)
    (hrest : Ends atomEndTok rest) :
    ∃ s, normS s = normS want ∧
      ∃ fuel, ∀ fuel', fuel ≤ fuel' → Sql.pAtomS fuel' (toksOf (wrapTight x body) ++ rest) = some (s, rest) :=
  (goodS_of_params ctx env hsc hjoin x hok hshape).tight hw ht rest hrest

/-- every stored value of such a scope — parameter or let — is read as one operand -/
theorem C06_param_value_is_operand {src : Bytes} {scope : Scope} {env : List (Bytes × Expr)}
    (h : ScopeParamsEnv src scope env) (n : Bytes) (v : List Chunk) (hm : lookupScope scope n = some v) :
    ∃ k x', env.find? (·.1 == n) = some (k, x') ∧
      ∀ want, tr false x' = some want → AtomP (toksOf v) want ∧ UnitP (toksOf v) want := by
  obtain ⟨k, x', hf, hv⟩ := (scopeRT_of_params h).bound n v hm
  exact ⟨k, x', hf, fun want hw => ⟨hv want hw, (hv want hw).toUnit⟩⟩

theorem atomicAs_of_let (src : Bytes) (text : Bytes) (x : Expr) (cs : List Chunk)
    (hok : x.lexOK = true) (hshape : shapeOK x = true) (hw : writeExpr ⟨src, [], .let_⟩ x = .ok cs)
    (ht : toksOf [.raw text] = toksOf (wrapTight x cs)) : AtomicAs text x := by
  intro want hwant
  have g : GoodS ⟨src, [], .let_⟩ [] x :=
    goodS_all ⟨src, [], .let_⟩ [] (scopeRT_nil _) (joinOK_let src [] []) x hshape hok
  rw [ht]
  exact g.tight hw (by rw [substExpr_nil]; exact hwant)

end Pql.Params
