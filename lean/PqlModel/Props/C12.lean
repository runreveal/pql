/-
Property C12 — scanning, parsing and compiling are total: no panic, no hang.

In the model, termination is by construction (structural / well-founded recursion accepted
by Lean's kernel); what has content is (a) progress of the scanner — at least one byte per
step, hence at most `n` steps — and (b) that the fuel supplied at the parser's entry points
is never exhausted (`parse_fuel_sufficient`, Props/C12Fuel.lean).
Wall-clock bounds and stack depth belong to the Go runtime: the correspondence run executes
every case under `recover` and a watchdog.
-/
import PqlModel.Lemmas.LexReach
import PqlModel.Lemmas.ParseFuelBasic
namespace Pql.C12
open Pql

/-- **C12 (scanner progress).** Every step of `Scan` on a non-empty suffix consumes at least one
    byte and never more than there are. -/
theorem C12_scan_progress (c : UInt8) (rest : Bytes) :
    1 ≤ (scanOne (c :: rest)).width ∧ (scanOne (c :: rest)).width ≤ (c :: rest).length :=
  ⟨scanOne_width_pos c rest, scanOne_width_le (c :: rest)⟩

/-- **C12 (scanner cost).** `Scan` returns at most one token per source byte. -/
theorem C12_scan_length_le (s : Bytes) (off : Nat) : (scanFrom s off).length ≤ s.length := by
  refine scanFrom_induct (P := fun s _ ts => ts.length ≤ s.length) (fun _ => Nat.le_refl _) ?_ s off
  intro s off tl _ hpos hle _ ih
  have : ((scanOne s).toks off).length ≤ 1 := by unfold Step.toks; split <;> simp
  simp only [List.length_append, List.length_drop] at ih ⊢
  omega

/-- **C12 (split terminates with a shorter range).** the sub-range a sub-parser receives is no
    longer than what its caller had -/
theorem C12_split_shorter (k : TokKind) (ts : List Token) : (split k ts).1.length ≤ ts.length :=
  split_fst_le k ts

end Pql.C12
