/-
Property C04, parametricity half — operators, pipelines, programs.

`mapOp` / `mapT` / `mapStmt` apply a content map to operators, pipelines and statements (string
literal values, names, number texts; positions by `φ.fsp`).  The SQL chunks of
`(*subquery).write`, the split into subqueries and the chunks of the whole compiled statement
keep their *shape* (`Chunk.shape`: constructor only for `.qstr` / `.qid` / `.num`, full text for
the fixed pieces): contents never open a clause, change the split, or move a parenthesis.
Exact statements (`… = (…).map (List.map (Chunk.mapC φ))`) hold where every content chunk comes
from one content of the tree: all extend / summarize columns named, no `render` (`_partial`).
-/
import PqlModel.Props.C04Shape
import PqlModel.Lemmas.ShapeAll
namespace Pql.C04
open Pql

def mapSub (φ : CMap) (sub : Subquery) : Subquery :=
  { name := sub.name, source := sub.source.map (Chunk.mapC φ), op := sub.op.map (mapOp φ),
    sort := sub.sort.map (List.map (mapSortTerm φ)), take := sub.take.map (mapE φ) }

theorem mapSub_shapeRel (φ : CMap) (sub : Subquery) : MSubRel φ SameShape sub (mapSub φ sub) :=
  ⟨rfl, (SameShape.cong φ).map _, rfl, rfl, rfl⟩

/-- **C04 (operators, shape).** Writing the image of a subquery — in any scope, from any other
    source text — gives chunks of the same shape, or the same error; provided the renaming is
    inert (vacuous for string / number maps) and, for every *unnamed* extend / summarize
    column, its text can be cut from the new source iff it can from the old (`sliceOp`). -/
theorem C04_write_shape (φ : CMap) (src src' : Bytes) (s : Scope) (m : Mode) (sub : Subquery)
    (hi : inertSub s m φ sub = true)
    (hsl : (match sub.op with | some o => sliceOp φ src src' o | none => true) = true) :
    (Subquery.write ⟨src', s, m⟩ (mapSub φ sub)).map (List.map Chunk.shape) =
      (Subquery.write ⟨src, s, m⟩ sub).map (List.map Chunk.shape) :=
  (Subquery.write_mrel (SameShape.cong φ).toWCong (sameShape_refl_scope s) (mapSub_shapeRel φ sub) hi
    (SubOK_of_all (fun o => opOK_shape o) hsl)).sameShape_eq.symm

/-- **C04 (operators, exact, partial).** With all extend / summarize columns named and no
    `render`, a content map that renames nothing (string / number maps) maps the chunks exactly. -/
theorem C04_write_parametric_partial (φ : CMap) (hn : ∀ n, φ.fn n = n) (src src' : Bytes) (s : Scope) (m : Mode)
    (sub : Subquery) (hex : (match sub.op with | some o => exactOp o | none => true) = true) :
    Subquery.write ⟨src', mapScope φ s, m⟩ (mapSub φ sub) =
      (Subquery.write ⟨src, s, m⟩ sub).map (List.map (Chunk.mapC φ)) := by
  have hsub : MSubRel φ (MapsTo φ) sub (mapSub φ sub) :=
    ⟨by show [Chunk.qid sub.name] = [Chunk.qid (φ.fn sub.name)]; rw [hn], rfl, rfl, rfl, rfl⟩
  exact (Subquery.write_mrel (MapsTo.cong φ).toWCong (ScopeRel.map (MapsTo.cong φ) s) hsub (inertSub_of_fn_id hn s m sub)
    (SubOK_of_all (opOK_exact (hn [])) hex)).mapsTo_eq

/-- what the splitter decides: per subquery, the shape of its FROM clause, the type of its
    operator, whether a sort / a limit is attached -/
def subShape (sub : Subquery) : List ChunkShape × Option String × Bool × Bool :=
  (sub.source.map Chunk.shape, sub.op.map opTypeName, sub.sort.isSome, sub.take.isSome)

theorem subShape_of_rel {φ : CMap} {src src' : Bytes} {s : Scope} {a b : Subquery}
    (h : WSubRel φ SameShape src src' s a b) : subShape a = subShape b := by
  have hs : a.source.map Chunk.shape = b.source.map Chunk.shape := h.source
  simp only [subShape, hs, h.op, h.sort, h.take, Option.map_map, Option.isSome_map]
  congr 2
  cases a.op with
  | none => rfl
  | some o => simp only [Option.map_some, Function.comp, opTypeName_mapOp]

theorem map_subShape_of_rel {φ : CMap} {src src' : Bytes} {s : Scope} {as bs : List Subquery}
    (h : ListRel (WSubRel φ SameShape src src' s) as bs) : as.map subShape = bs.map subShape :=
  (h.map fun _ _ hab => subShape_of_rel hab).eq

/-- **C04 (split).** Contents never influence how the pipeline is split into subqueries. -/
theorem C04_split_shape (φ : CMap) (src src' : Bytes) (s : Scope) (t : Tabular)
    (hi : inertT s φ t = true) (hsl : TabAll (sliceOp φ src src') t = true) :
    (splitQueries src' s [] (mapT φ t)).map (List.map subShape) =
      (splitQueries src s [] t).map (List.map subShape) := by
  have h := msplitQueries_rel (SameShape.splitCong φ).toW (sameShape_refl_scope s) t hi
    (TabOK_of_all (fun o ho => opOK_shape o ho) t hsl) [] [] .nil
  exact (h.mono fun _ _ hab => map_subShape_of_rel hab).map_eq.symm

/-- **C04 (programs, shape).** The chunks of the compiled statement keep their shape under any
    inert content map, whatever happens to the source text and the positions, as long as the text
    of every unnamed column can still be cut (from the new source at the new positions). -/
theorem C04_compile_shape (φ : CMap) (src src' : Bytes) (params : List (Bytes × Bytes)) (stmts : List Stmt)
    (hi : inertProg src φ stmts (params.map fun kv => (kv.1, [Chunk.raw kv.2])) none = true)
    (hsl : ∀ t, Stmt.tabular t ∈ stmts → TabAll (sliceOp φ src src') t = true) :
    (compileChunks src' params (stmts.map (mapStmt φ))).map (List.map Chunk.shape) =
      (compileChunks src params stmts).map (List.map Chunk.shape) :=
  (compileChunks_mrel (SameShape.splitCong φ) params stmts hi
    fun t ht => TabOK_of_all (fun o ho => opOK_shape o ho) t (hsl t ht)).sameShape_eq.symm

/-- **C04 (programs, exact, partial).** For a content map that renames nothing, with all
    extend / summarize columns named and no `render`: the chunks are mapped exactly. -/
theorem C04_compile_parametric_partial (φ : CMap) (hn : ∀ n, φ.fn n = n) (src src' : Bytes)
    (params : List (Bytes × Bytes)) (stmts : List Stmt)
    (hex : ∀ t, Stmt.tabular t ∈ stmts → TabAll exactOp t = true) :
    compileChunks src' params (stmts.map (mapStmt φ)) =
      (compileChunks src params stmts).map (List.map (Chunk.mapC φ)) :=
  (compileChunks_mrel (MapsTo.splitCong φ (fun _ => hn _) (hn _)) params stmts (inertProg_of_fn_id hn src stmts _ _)
    fun t ht => TabOK_of_all (fun o ho => opOK_exact (hn []) o ho) t (hex t ht)).mapsTo_eq

/-- the same for renamings: inert on the program, fixing the generated subquery names and the
    empty name -/
theorem C04_compile_name_parametric_partial (φ : CMap) (hgen : ∀ i, φ.fn (subqueryName i) = subqueryName i)
    (hnil : φ.fn [] = []) (src src' : Bytes) (params : List (Bytes × Bytes)) (stmts : List Stmt)
    (hi : inertProg src φ stmts (params.map fun kv => (kv.1, [Chunk.raw kv.2])) none = true)
    (hex : ∀ t, Stmt.tabular t ∈ stmts → TabAll exactOp t = true) :
    compileChunks src' params (stmts.map (mapStmt φ)) =
      (compileChunks src params stmts).map (List.map (Chunk.mapC φ)) :=
  (compileChunks_mrel (MapsTo.splitCong φ hgen hnil) params stmts hi
    fun t ht => TabOK_of_all (fun o ho => opOK_exact hnil o ho) t (hex t ht)).mapsTo_eq

/-! ### string literals: the instances without side conditions

Against the *same* source text and with positions kept (the map acts on the tree), the alias of
an unnamed column is unchanged, and no hypothesis is left. -/

def mapStrOp (f : Bytes → Bytes) : Op → Op := mapOp (.ofStr f)
def mapStrT (f : Bytes → Bytes) : Tabular → Tabular := mapT (.ofStr f)
def mapStrStmt (f : Bytes → Bytes) : Stmt → Stmt := mapStmt (.ofStr f)

theorem C04_write_string_shape (f : Bytes → Bytes) (ctx : Ctx) (sub : Subquery) :
    (Subquery.write ctx (mapSub (.ofStr f) sub)).map (List.map Chunk.shape) =
      (Subquery.write ctx sub).map (List.map Chunk.shape) := by
  refine C04_write_shape (.ofStr f) ctx.src ctx.src ctx.scope ctx.mode sub (inertSub_of_fn_id (fun _ => rfl) _ _ sub) ?_
  cases sub.op with
  | none => rfl
  | some o => exact sliceOp_self (fun _ => rfl) _ o

/-- **C04 (split, strings).** String contents never influence how the pipeline is split. -/
theorem C04_split_string_shape (f : Bytes → Bytes) (src : Bytes) (s : Scope) (t : Tabular) :
    (splitQueries src s [] (mapStrT f t)).map (List.map subShape) =
      (splitQueries src s [] t).map (List.map subShape) :=
  C04_split_shape (.ofStr f) src src s t (inertT_of_fn_id (fun _ => rfl) s t)
    (TabAll_of_forall (sliceOp_self (fun _ => rfl) src) t)

/-- **C04 (programs, strings).** -/
theorem C04_compile_string_shape (f : Bytes → Bytes) (src : Bytes) (params : List (Bytes × Bytes))
    (stmts : List Stmt) :
    (compileChunks src params (stmts.map (mapStrStmt f))).map (List.map Chunk.shape) =
      (compileChunks src params stmts).map (List.map Chunk.shape) :=
  C04_compile_shape (.ofStr f) src src params stmts (inertProg_of_fn_id (fun _ => rfl) src stmts _ _)
    fun t _ => TabAll_of_forall (sliceOp_self (fun _ => rfl) src) t

theorem C04_compile_string_parametric_partial (f : Bytes → Bytes) (src src' : Bytes)
    (params : List (Bytes × Bytes)) (stmts : List Stmt)
    (hex : ∀ t, Stmt.tabular t ∈ stmts → TabAll exactOp t = true) :
    compileChunks src' params (stmts.map (mapStrStmt f)) =
      (compileChunks src params stmts).map (List.map (Chunk.mapStr f)) := by
  rw [Chunk.mapStr_eq]
  exact C04_compile_parametric_partial (.ofStr f) (fun _ => rfl) src src' params stmts hex

end Pql.C04
