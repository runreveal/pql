/-
Property C16, tie by translation: `makeInput`, `makeOutput`, `isTerminal` of cmd/pql/main.go
(`harness/extract_cliio.go`, `Facts.cliIOIR`, `Model/CliIOIR.lean`; expected trees: Props/C16IOIRTrees.lean).

`makeInput` in the two steps of Props/C16IOIR.lean.  A: the interpretation of the regenerated body = `miSpec`, a function
on reader values (`os.Open` allocates objects 1, 2, … in the heap whose object 0 is `os.Stdin`; on the first failure the
files opened so far are closed), for every argument list.  B: that function is the hand-written `CliIO.makeInput` under
the reading `den` of reader values as scripts (convention A3 for a repeated `-`), and the list it builds has the `Shape`
the iterated `Read` needs (Lemmas/CliStreamIRDen.lean).
-/
import PqlModel.Props.C16IOIR
namespace Pql.CliIOIR
open Pql Pql.CliIO
set_option linter.unusedSimpArgs false

theorem fileHandles_append : ∀ (a b : List (Option RC)), fileHandles (a ++ b) = fileHandles a ++ fileHandles b
  | [], _ => rfl
  | none :: a, b | some ⟨_, true⟩ :: a, b | some ⟨_, false⟩ :: a, b => by simp [fileHandles, fileHandles_append a b]

/-- the loop of `makeInput` over the remaining arguments: (did every `os.Open` succeed, `readers`, the world);
    on the first failure the files opened so far are closed, in order -/
def miLoop (env : Env) : List String → List (Option RC) → State → Bool × List (Option RC) × State
  | [], acc, st => (true, acc, st)
  | p :: ps, acc, st =>
    if p = "-" then miLoop env ps (acc ++ [some ⟨0, true⟩]) st
    else
      match env.openFile p with
      | none => (false, acc, { st with closed := st.closed ++ fileHandles acc })
      | some f => miLoop env ps (acc ++ [some ⟨st.objs.length, false⟩]) { st with objs := st.objs ++ [f] }

theorem close_each_loop (env : Env) (fuel : Nat) : ∀ (l : List (Option RC)) (st : State), none ∉ l →
    rangeLoop "c" (execBlock env [] fuel [.close .blank (.var "c")]) (l.map .rc) st =
      .ok (.next, { st with closed := st.closed ++ fileHandles l })
  | [], st, _ => by simp [rangeLoop, fileHandles]
  | none :: l, st, hn => by simp at hn
  | some ⟨h, nop⟩ :: l, st, hn => by
    obtain ⟨vars, objs, readers, closed, created, data⟩ := st
    have ih := fun cl => close_each_loop env fuel l ⟨vars, objs, readers, cl, created, data⟩ (by simpa using hn)
    simp only [List.map, rangeLoop]
    generalize rangeLoop "c" (execBlock env [] fuel [.close .blank (.var "c")]) (List.map Val.rc l) = L at ih ⊢
    cases nop <;> (simp [fileHandles]; io_simp)

def miSt (args : List String) (acc : List (Option RC)) (w : State) : State :=
  ⟨[("readers", .rcs acc), ("args", .strs args)], w.objs, w.readers, w.closed, w.created, w.data⟩

def closeRange : Stmt := .range "c" (.var "readers") [.close .blank (.var "c")]

def miLoopBody : List Stmt :=
  match makeInputBody with
  | [_, _, _, .range _ _ b, _] => b
  | _ => []

theorem miLoopBody_eq : miLoopBody =
    [.ite (.eq (.var "path") (.str "-")) [.assign (.set "readers") (.append (.var "readers") .nopR), .continue_] [],
     .open_ (.def_ "f") (.def_ "err") (.var "path"),
     .ite (.ne (.var "err") .nil) [closeRange, .ret [.nil, .var "err"]] [],
     .assign (.set "readers") (.append (.var "readers") (.var "f"))] := rfl

theorem exec_closeRange (env : Env) (fuel : Nat) (e f p a : Val) (acc : List (Option RC)) (hn : none ∉ acc)
    (objs : List Reader) (readers : List (Option RC)) (closed : List Nat) (created : List String) (data : Bytes) :
    exec env [] fuel closeRange
        ⟨[("err", e), ("f", f), ("path", p), ("readers", .rcs acc), ("args", a)], objs, readers, closed, created, data⟩ =
      .ok (.next, ⟨[("err", e), ("f", f), ("path", p), ("readers", .rcs acc), ("args", a)], objs, readers,
        closed ++ fileHandles acc, created, data⟩) := by
  simp (config := { decide := true }) [closeRange, exec, eval, State.get, elemsOf, bind, Except.bind, pure, Except.pure,
    close_each_loop _ _ _ _ hn]

section
attribute [local simp] execBlock exec eval evalCond evalAll getAll assignTo State.get State.declare State.assign State.leave assignIn
  asRC asRCs valEq openPath elemsOf nilLike stuck goPanic bind Except.bind pure Except.pure Except.map

theorem mi_loop (env : Env) (fuel : Nat) (args : List String) : ∀ (ps : List String) (acc : List (Option RC)) (w : State),
    none ∉ acc →
    rangeLoop "path" (execBlock env [] fuel miLoopBody) (ps.map .str) (miSt args acc w) =
      .ok (if (miLoop env ps acc w).1 then Flow.next else .ret [.nil, .err .other],
        miSt args (miLoop env ps acc w).2.1 (miLoop env ps acc w).2.2)
  | [], acc, w, _ => by simp [rangeLoop, miLoop]
  | p :: ps, acc, w, hn => by
    obtain ⟨vars, objs, readers, closed, created, data⟩ := w
    have ih := fun a o (ha : none ∉ a) => mi_loop env fuel args ps a ⟨vars, o, readers, closed, created, data⟩ ha
    simp only [miSt] at ih
    simp only [List.map, rangeLoop]
    generalize rangeLoop "path" (execBlock env [] fuel miLoopBody) (List.map Val.str ps) = L at ih ⊢
    by_cases hp : p = "-"
    · subst hp
      have ih := ih (acc ++ [some ⟨0, true⟩]) objs (by simpa using hn)
      simp (config := { decide := true }) [*, miLoop, miLoopBody_eq, miSt]
    · cases ho : env.openFile p with
      | some f =>
        have ih := ih (acc ++ [some ⟨objs.length, false⟩]) (objs ++ [f]) (by simpa using hn)
        simp (config := { decide := true }) [*, miLoop, miLoopBody_eq, miSt]
      | none =>
        simp (config := { decide := true }) [*, miLoop, miLoopBody_eq, miSt]
        simp (config := { decide := true }) [exec_closeRange _ _ _ _ _ _ _ hn]

end

def miSpec (env : Env) (args : List String) (w : State) : List Val × State :=
  match args with
  | [] => ([.rc (some ⟨0, true⟩), .err .nil], w)
  | [p] =>
    if p = "-" then ([.rc (some ⟨0, true⟩), .err .nil], w)
    else ([(openPath env w p).1, (openPath env w p).2.1], (openPath env w p).2.2)
  | _ =>
    let r := miLoop env args [] w
    if r.1 then ([.mrcNew r.2.1, .err .nil], r.2.2) else ([.rc none, .err .other], r.2.2)

theorem makeInput_run (env : Env) (fuel : Nat) (args : List String) (w : State) :
    (runFn env fuel makeInputFn [.strs args] w).map (fun r => (r.1, r.2.world)) =
      .ok ((miSpec env args w).1, (miSpec env args w).2.world) := by
  obtain ⟨vars, objs, readers, closed, created, data⟩ := w
  simp only [runFn, makeInputFn, bindParams, resultVars, Option.map_some]
  simp (config := { decide := true }) only [List.map, List.filter, List.reverse_cons, List.reverse_nil, List.nil_append, List.cons_append,
    List.append_nil, bne_iff_ne, ne_eq, not_false_eq_true, String.reduceEq, decide_true, ↓reduceIte, String.reduceBNe,
    not_true_eq_false, decide_false]
  rcases args with _ | ⟨p, _ | ⟨q, rest⟩⟩
  · simp [makeInputBody, miSpec, Except.map]; io_simp
  · by_cases hp : p = "-"
    · subst hp
      simp [makeInputBody, miSpec, Except.map]; io_simp
    · cases ho : env.openFile p <;>
        (simp [makeInputBody, miSpec, Except.map, hp]; io_simp)
  · have h := mi_loop env fuel (p :: q :: rest) (p :: q :: rest) [] ⟨vars, objs, readers, closed, created, data⟩ (by simp)
    simp only [miSt] at h
    have h0 : ¬ ((rest.length : Int) + 1 + 1 = 0) := by omega
    have h1 : ¬ ((rest.length : Int) + 1 + 1 = 1) := by omega
    rw [show makeInputBody = [
      .ite (.or (.eq (.len (.var "args")) (.int 0)) (.and (.eq (.len (.var "args")) (.int 1)) (.eq (.idx 0 (.var "args")) (.str "-"))))
        [.ret [.nopR, .nil]] [],
      .ite (.eq (.len (.var "args")) (.int 1)) [.retCall "open" (.idx 0 (.var "args"))] [],
      .assign (.def_ "readers") (.emptySlice "io.ReadCloser"),
      .range "path" (.var "args") miLoopBody,
      .ret [.newMulti (.var "readers"), .nil]] from rfl]
    generalize hm : miLoop env (p :: q :: rest) [] ⟨vars, objs, readers, closed, created, data⟩ = m at h
    obtain ⟨ok, acc, st'⟩ := m
    cases ok <;>
      (simp [miSpec, Except.map, hm] at h ⊢; io_simp)

/-- the scripts a list of reader values denotes, standard input under the convention A3 of the hand-written model
    (Lemmas/CliIOModel.lean): every `nopReadCloser{os.Stdin}` is the ONE object `os.Stdin`; by the time a second
    occurrence is read the first has been read to its end, and what a second drain of standard input yields is left
    to the operating system — the model says: nothing.  `used`: has standard input occurred before. -/
def den (objs : List Reader) : Bool → List (Option RC) → List Reader
  | _, [] => []
  | used, some ⟨h, true⟩ :: l => (if used then [] else objs[h]?.getD []) :: den objs true l
  | used, some ⟨h, false⟩ :: l => objs[h]?.getD [] :: den objs used l
  | used, none :: l => [] :: den objs used l

theorem den_eq_denote (objs : List Reader) (used : Bool) : ∀ (l : List (Option RC)) (rs : List Reader),
    denote objs l = some rs → (∀ x ∈ l, ∀ rc, x = some rc → rc.nop = false) → den objs used l = rs
  | [], rs, h, _ => by simp [denote] at h; simp [den, ← h]
  | none :: l, rs, h, _ => by simp [denote] at h
  | some ⟨hd, nop⟩ :: l, rs, h, hf => by
    have hnop : nop = false := by simpa using hf (some ⟨hd, nop⟩) (by simp) ⟨hd, nop⟩ rfl
    subst hnop
    obtain ⟨r, rs', ho, hl, rfl⟩ := denote_cons h
    simp only at ho
    simp [den, ho, den_eq_denote objs used l rs' hl (fun x hx => hf x (by simp [hx]))]

end Pql.CliIOIR

/-! Four definitions of `Pql.StreamIR` (Lemmas/CliStreamIR*.lean, Props/C16StreamIR.lean), made here because `miLoop_spec` and
`miSpec_spec` below are stated with them. -/

namespace Pql.StreamIR
open Pql Pql.CliIO Pql.CliIOIR

/-- the number of `nopReadCloser` entries: the occurrences of standard input -/
def nops : List (Option RC) → Nat
  | [] => 0
  | some ⟨_, true⟩ :: l => nops l + 1
  | _ :: l => nops l

/-- the reader lists `makeInput` builds on a heap of `n` objects: no nil entry, every `nopReadCloser` wraps object 0, the
    files are objects 1 … n-1, none twice -/
structure Shape (n : Nat) (l : List (Option RC)) : Prop where
  nonnil : none ∉ l
  nop0 : ∀ h, some ⟨h, true⟩ ∈ l → h = 0
  files : ∀ h ∈ fileHandles l, 0 < h ∧ h < n
  nodup : (fileHandles l).Nodup
  pos : 0 < n

/-- SPECIFICATION: how many files `makeInput` opens — the paths before the first one that cannot be opened -/
def nOpenedGo (openFile : String → Option Reader) : List String → Nat
  | [] => 0
  | p :: ps =>
    if p = "-" then nOpenedGo openFile ps
    else match openFile p with
      | none => 0
      | some _ => nOpenedGo openFile ps + 1

def nOpened (args : List String) (openFile : String → Option Reader) : Nat :=
  if args.isEmpty ∨ args = ["-"] then 0 else nOpenedGo openFile args

end Pql.StreamIR

namespace Pql.CliIOIR
open Pql Pql.CliIO
open Pql.StreamIR (nops Shape nOpenedGo nOpened)
set_option linter.unusedSimpArgs false

/-- The loop of `makeInput` continued from `acc`, on a heap whose object 0 is `stdin` (`used`: has `-` occurred before).  It
    opens `nOpenedGo` files `fs`, as new objects, and creates nothing.  If every `os.Open` succeeds it has appended `t`, one
    value per path, which reads (`den`) as what `makeInput.go` returns and is shaped as `Shape` asks (no nil, every
    `nopReadCloser` is object 0, the files are the new objects in order), and nothing is closed; otherwise `makeInput.go`
    fails too, and the files of `acc` and the new ones have been closed. -/
theorem miLoop_spec (env : Env) (stdin : Reader) : ∀ (ps : List String) (acc : List (Option RC)) (st : State) (used : Bool),
    st.objs[0]? = some stdin →
    ∃ t fs, (miLoop env ps acc st).2.2.objs = st.objs ++ fs ∧ fs.length = nOpenedGo env.openFile ps ∧
      (miLoop env ps acc st).2.2.created = st.created ∧
      ((miLoop env ps acc st).1 = true →
        (miLoop env ps acc st).2.1 = acc ++ t ∧ (miLoop env ps acc st).2.2.closed = st.closed ∧
        makeInput.go stdin env.openFile ps used = some (den (miLoop env ps acc st).2.2.objs used t) ∧
        none ∉ t ∧ (∀ h, some ⟨h, true⟩ ∈ t → h = 0) ∧ fileHandles t = List.range' st.objs.length fs.length ∧
        nops t = ps.count "-" ∧ t.length = ps.length) ∧
      ((miLoop env ps acc st).1 = false →
        makeInput.go stdin env.openFile ps used = none ∧
        (miLoop env ps acc st).2.2.closed = st.closed ++ fileHandles acc ++ List.range' st.objs.length fs.length)
  | [], acc, st, used, _ => ⟨[], [], by simp [miLoop, makeInput.go, den, nOpenedGo, fileHandles, nops]⟩
  | p :: ps, acc, st, used, h0 => by
    have hpos : 0 < st.objs.length := by
      rcases hl : st.objs with _ | ⟨x, xs⟩
      · simp [hl] at h0
      · simp
    by_cases hp : p = "-"
    · subst hp
      obtain ⟨t, fs, h1, hn, h1c, h2, h3⟩ := miLoop_spec env stdin ps (acc ++ [some ⟨0, true⟩]) st true h0
      refine ⟨some ⟨0, true⟩ :: t, fs, by simpa [miLoop] using h1, by simpa [nOpenedGo] using hn,
        by simpa [miLoop] using h1c, fun hs => ?_, fun hs => ?_⟩
      · obtain ⟨a, c, b, g1, g2, g3, g4, g5⟩ := h2 (by simpa [miLoop] using hs)
        have hz : (miLoop env ps (acc ++ [some ⟨0, true⟩]) st).2.2.objs[0]? = some stdin := by
          rw [h1, List.getElem?_append_left hpos]; exact h0
        refine ⟨by simp [miLoop, a], by simpa [miLoop] using c, by simp [miLoop, makeInput.go, b, den, hz], by simpa using g1,
          ?_, by simpa [fileHandles] using g3, by simp [nops, g4], by simp [g5]⟩
        intro h hm
        rcases List.mem_cons.mp hm with he | hm
        · simp at he; exact he
        · exact g2 h hm
      · obtain ⟨a, b⟩ := h3 (by simpa [miLoop] using hs)
        simp [miLoop, makeInput.go, a, b, fileHandles_append, fileHandles]
    · cases ho : env.openFile p with
      | none => exact ⟨[], [], by simp [miLoop, hp, ho, makeInput.go, nOpenedGo]⟩
      | some f =>
        obtain ⟨t, fs, h1, hn, h1c, h2, h3⟩ := miLoop_spec env stdin ps (acc ++ [some ⟨st.objs.length, false⟩])
          { st with objs := st.objs ++ [f] } used (by rw [List.getElem?_append_left hpos]; exact h0)
        refine ⟨some ⟨st.objs.length, false⟩ :: t, f :: fs, by simpa [miLoop, hp, ho] using h1,
          by simp [nOpenedGo, hp, ho, hn], by simpa [miLoop, hp, ho] using h1c, fun hs => ?_, fun hs => ?_⟩
        · obtain ⟨a, c, b, g1, g2, g3, g4, g5⟩ := h2 (by simpa [miLoop, hp, ho] using hs)
          have hz : (miLoop env ps (acc ++ [some ⟨st.objs.length, false⟩]) { st with objs := st.objs ++ [f] }).2.2.objs[st.objs.length]?
              = some f := by
            rw [h1]; simp
          have hne : ¬ (p == "-") = true := by simpa using hp
          refine ⟨by simp [miLoop, hp, ho, a], by simpa [miLoop, hp, ho] using c,
            by simp [miLoop, hp, ho, makeInput.go, b, den, hz], by simpa using g1, ?_,
            by simpa [fileHandles, List.range'_succ] using g3, by simp [nops, g4, List.count_cons, hne], by simp [g5]⟩
          intro h hm
          rcases List.mem_cons.mp hm with he | hm
          · simp at he
          · exact g2 h hm
        · obtain ⟨a, b⟩ := h3 (by simpa [miLoop, hp, ho] using hs)
          simp [miLoop, hp, ho, makeInput.go, a, b, fileHandles_append, fileHandles, List.range'_succ, List.append_assoc]

/-- the world at the start of the program: the one reader object is `os.Stdin`, nothing is open -/
def world0 (stdin : Reader) : State := ⟨[], [stdin], [], [], [], []⟩

/-- what `RunE` gets from `makeInput`, as the hand-written model represents it: `none` = an error was returned; a
    single reader `r` is `[r]`; a `*multiReadCloser` is the list of its readers -/
def inputOf : List Val → State → Option (List Reader)
  | [.rc (some rc), .err .nil], st => some (den st.objs false [some rc])
  | [.mrcNew l, .err .nil], st => some (den st.objs false l)
  | _, _ => none

/-- `miSpec` run from the initial world, `r` its result: `stdin` is still object 0, the `nOpened` files are the objects
    1, 2, … and nothing is created; and one of three.  A `*multiReadCloser` over a list that has the `Shape` the iterated
    `Read` needs and reads (`den`) as what `CliIO.makeInput` returns, nothing closed; a single reader, likewise; or an
    error, where `CliIO.makeInput` is `none` and every file that was opened has been closed again. -/
theorem miSpec_spec (env : Env) (args : List String) (stdin : Reader) (r : List Val × State)
    (hr : miSpec env args (world0 stdin) = r) :
    r.2.objs[0]? = some stdin ∧
    r.2.objs.length = 1 + nOpened args env.openFile ∧
    r.2.created = [] ∧
    ((∃ l, r.1 = [.mrcNew l, .err .nil] ∧
        Shape r.2.objs.length l ∧ nops l = args.count "-" ∧
        fileHandles l = List.range' 1 (nOpened args env.openFile) ∧ l.length = args.length ∧
        CliIO.makeInput args stdin env.openFile = some (den r.2.objs false l) ∧
        r.2.closed = []) ∨
     (∃ rc, r.1 = [.rc (some rc), .err .nil] ∧
        Shape r.2.objs.length [some rc] ∧
        fileHandles [some rc] = List.range' 1 (nOpened args env.openFile) ∧
        CliIO.makeInput args stdin env.openFile = some (den r.2.objs false [some rc]) ∧
        r.2.closed = []) ∨
     (r.1 = [.rc none, .err .other] ∧ CliIO.makeInput args stdin env.openFile = none ∧
        r.2.closed = List.range' 1 (nOpened args env.openFile))) := by
  subst hr
  have hnop : Shape 1 [some ⟨0, true⟩] :=
    ⟨by simp, by simp, by simp [fileHandles], by simp [fileHandles], by omega⟩
  rcases args with _ | ⟨p, _ | ⟨q, rest⟩⟩
  · refine ⟨by simp [miSpec, world0], by simp [miSpec, world0, nOpened], by simp [miSpec, world0],
      Or.inr (Or.inl ⟨⟨0, true⟩, ?_⟩)⟩
    simp [miSpec, world0, fileHandles, hnop, nOpened, CliIO.makeInput, den]
  · by_cases hp : p = "-"
    · subst hp
      refine ⟨by simp [miSpec, world0], by simp [miSpec, world0, nOpened], by simp [miSpec, world0],
        Or.inr (Or.inl ⟨⟨0, true⟩, ?_⟩)⟩
      simp [miSpec, world0, fileHandles, hnop, nOpened, CliIO.makeInput, den]
    · cases hof : env.openFile p with
      | none =>
        refine ⟨by simp [miSpec, world0, hp, openPath, hof], by simp [miSpec, world0, hp, openPath, hof, nOpened, nOpenedGo],
          by simp [miSpec, world0, hp, openPath, hof], Or.inr (Or.inr ?_)⟩
        simp [miSpec, world0, hp, openPath, hof, nOpened, nOpenedGo, CliIO.makeInput, makeInput.go]
      | some f =>
        have : Shape 2 [some ⟨1, false⟩] := ⟨by simp, by simp, by simp [fileHandles], by simp [fileHandles], by omega⟩
        refine ⟨by simp [miSpec, world0, hp, openPath, hof], by simp [miSpec, world0, hp, openPath, hof, nOpened, nOpenedGo],
          by simp [miSpec, world0, hp, openPath, hof], Or.inr (Or.inl ⟨⟨1, false⟩, ?_⟩)⟩
        simp [miSpec, world0, hp, openPath, hof, fileHandles, this, nOpened, nOpenedGo, CliIO.makeInput, makeInput.go, den]
  · obtain ⟨l, fs, h1, hn, h1c, h2, h3⟩ := miLoop_spec env stdin (p :: q :: rest) [] (world0 stdin) false (by simp [world0])
    have hN : nOpened (p :: q :: rest) env.openFile = fs.length := by simp [nOpened, hn]
    have hz : (miLoop env (p :: q :: rest) [] (world0 stdin)).2.2.objs[0]? = some stdin := by rw [h1]; simp [world0]
    have hl : (miLoop env (p :: q :: rest) [] (world0 stdin)).2.2.objs.length = 1 + fs.length := by
      rw [h1]; simp [world0]; omega
    have hw0 : (world0 stdin).objs.length = 1 := rfl
    have hS : (miSpec env (p :: q :: rest) (world0 stdin)).2 = (miLoop env (p :: q :: rest) [] (world0 stdin)).2.2 := by
      simp only [miSpec]; split <;> rfl
    have hcr : (miLoop env (p :: q :: rest) [] (world0 stdin)).2.2.created = [] := h1c
    rw [hS, hN]
    refine ⟨hz, hl, hcr, ?_⟩
    cases hok : (miLoop env (p :: q :: rest) [] (world0 stdin)).1 with
    | false =>
      obtain ⟨a, b⟩ := h3 hok
      exact Or.inr (Or.inr ⟨by simp [miSpec, hok], by simpa [CliIO.makeInput] using a, by simpa [world0, fileHandles] using b⟩)
    | true =>
      obtain ⟨g1, gc, gm, g2, g3, g4, g6, g7⟩ := h2 hok
      simp only [List.nil_append] at g1
      rw [hw0] at g4
      refine Or.inl ⟨l, by simp [miSpec, hok, g1], ?_, g6, g4, g7, by simpa [CliIO.makeInput] using gm, gc⟩
      rw [hl]
      refine ⟨g2, g3, ?_, ?_, by omega⟩
      · intro h hm
        rw [g4] at hm
        have := List.mem_range'_1.mp hm
        omega
      · rw [g4]; exact List.nodup_range' (step := 1)

/-- **C16 (`makeInput` is the model's `makeInput`).**  For every argument list (none, `-`, one path, several paths with
    `-` anywhere and any number of times, any `os.Open` failing), every standard input and every file system: the
    regenerated body of `makeInput` returns what `CliIO.makeInput` says — an error exactly when the model has `none`,
    else readers denoting the model's scripts in the model's order.  Moreover, when it fails every file it had opened
    (objects 1, 2, …) has been closed, in the order of opening, and when it succeeds nothing has been closed; nothing is
    created.  (`for … range` only: no loop fuel is needed.) -/
theorem C16_makeInput_ir (env : Env) (fuel : Nat) (args : List String) (stdin : Reader) :
    ∃ vs st', runUnit env fuel "makeInput" [.strs args] (world0 stdin) = .ok (vs, st') ∧
      inputOf vs st' = CliIO.makeInput args stdin env.openFile ∧
      st'.closed = (if (CliIO.makeInput args stdin env.openFile).isSome then [] else List.range' 1 (st'.objs.length - 1)) ∧
      st'.created = [] := by
  obtain ⟨vars, hr⟩ := of_world (makeInput_run env fuel args (world0 stdin))
  obtain ⟨-, hlen, hcr, hcases⟩ := miSpec_spec env args stdin _ rfl
  refine ⟨_, _, by simp only [runUnit, makeInput_ir]; exact hr, ?_⟩
  rcases hcases with ⟨l, hv, -, -, -, -, hm, hcl⟩ | ⟨rc, hv, -, -, hm, hcl⟩ | ⟨hv, hm, hcl⟩ <;>
    simp [hv, hm, hcl, hcr, hlen, inputOf]

/-- three files, the second cannot be opened: the first is closed again, the third is never opened -/
example :
    (runUnit { openFile := fun p => if p = "b" then none else some [(Bytes.ofString p, .eof)] } 0 "makeInput" [.strs ["a", "b", "c"]]
        (world0 [])).toOption.map (fun r => (r.1, r.2.closed, r.2.objs.length)) =
      some ([.rc none, .err .other], [1], 2) := by decide +kernel

/-- **C16 (`makeOutput`).**  No argument value or `-`: standard output behind a `nopWriteCloser` (closing it does
    nothing), nothing is created; anything else: `os.Create` of exactly that path, its file or its error returned. -/
theorem C16_makeOutput_ir (env : Env) (fuel : Nat) (arg : String) (w : State) :
    (runUnit env fuel "makeOutput" [.str arg] w).map (fun r => (r.1, r.2.world)) =
      .ok (if arg = "" ∨ arg = "-" then ([.wc (some .stdoutNop), .err .nil], w.world)
        else if env.createFails arg then ([.wc none, .err .other], w.world)
        else ([.wc (some (.file arg)), .err .nil], ({ w with created := w.created ++ [arg] } : State).world)) := by
  obtain ⟨vars, objs, readers, closed, created, data⟩ := w
  simp only [runUnit, makeOutput_ir, runFn, makeOutputFn, bindParams, resultVars, Option.map_some]
  by_cases h1 : arg = ""
  · subst h1
    simp (config := { decide := true }) [makeOutputBody, Except.map]; io_simp
  · by_cases h2 : arg = "-"
    · subst h2
      simp (config := { decide := true }) [makeOutputBody, Except.map]; io_simp
    · cases hc : env.createFails arg <;>
        (simp (config := { decide := true }) [makeOutputBody, Except.map, h1, h2]; io_simp)

def itBody : List Stmt :=
  match isTerminalBody with
  | [.forever b] => b
  | _ => []

def itSt (x : Val) (w : State) : State := ⟨[("r", x)], w.objs, w.readers, w.closed, w.created, w.data⟩

theorem it_body_file (env : Env) (fuel h : Nat) (w : State) :
    execBlock env [] fuel itBody (itSt (.rc (some ⟨h, false⟩)) w) =
      .ok (.ret [.bool (env.isTTY h)], itSt (.rc (some ⟨h, false⟩)) w) := rfl

theorem it_body_nop (env : Env) (fuel h : Nat) (w : State) :
    execBlock env [] fuel itBody (itSt (.rc (some ⟨h, true⟩)) w) = .ok (.next, itSt (.rc (some ⟨h, false⟩)) w) := by
  simp (config := { decide := true }) [itBody, isTerminalBody, itSt]; io_simp

theorem typeMatches_other (ty : String) (x : Val) (hx : ∀ rc, x ≠ .rc (some rc)) : typeMatches ty x = (ty == "") := by
  cases x with
  | rc r =>
    cases r with
    | some rc => exact absurd rfl (hx rc)
    | none => rfl
  | _ => rfl

theorem it_body_other (env : Env) (fuel : Nat) (x : Val) (w : State) (hx : ∀ rc, x ≠ .rc (some rc)) :
    execBlock env [] fuel itBody (itSt x w) = .ok (.ret [.bool false], itSt x w) := by
  simp (config := { decide := true }) [itBody, isTerminalBody, itSt, execBlock, exec, State.get, typeMatches_other _ x hx, evalAll, eval,
    State.declare, State.leave, bind, Except.bind, pure, Except.pure]

/-- **C16 (`isTerminal`).**  A file: what `term.IsTerminal` says of its descriptor; a `nopReadCloser` (standard input):
    what it says of the wrapped file, found in the second iteration; anything else (nil, a `*multiReadCloser`): false.
    Two iterations of the `for` loop suffice. -/
theorem C16_isTerminal_ir (env : Env) (fuel : Nat) (hf : 2 ≤ fuel) (x : Val) (w : State) :
    (runUnit env fuel "isTerminal" [x] w).map (·.1) =
      .ok [.bool (match x with | .rc (some rc) => env.isTTY rc.h | _ => false)] := by
  obtain ⟨k, rfl⟩ : ∃ k, fuel = (k + 1) + 1 := ⟨fuel - 2, by omega⟩
  have hb : isTerminalBody = [.forever itBody] := rfl
  have hst : ({ w with vars := [("r", x)] } : State) = itSt x w := rfl
  simp only [runUnit, isTerminal_ir, runFn, isTerminalFn, bindParams, resultVars, Option.map_some, hb]
  simp (config := { decide := true }) only [List.append_nil, List.map, List.filter, List.reverse_cons, List.reverse_nil,
    List.nil_append, hst, execBlock, exec, loopN, bind, Except.bind, ↓reduceIte, beq_self_eq_true, bne_self_eq_false]
  by_cases hx : ∀ rc, x ≠ .rc (some rc)
  · rw [it_body_other env _ x w hx]
    have hm : (match x with | .rc (some rc) => env.isTTY rc.h | _ => false) = false := by
      split
      · rename_i hx'; exact absurd rfl (hx' _)
      · rfl
    simp [hm, Except.map, pure, Except.pure, nilAs]
  · obtain ⟨⟨h, nop⟩, rfl⟩ : ∃ rc, x = .rc (some rc) :=
      Classical.byContradiction fun hc => hx fun rc he => hc ⟨rc, he⟩
    cases nop
    · rw [it_body_file]
      simp [Except.map, pure, Except.pure, nilAs]
    · rw [it_body_nop]
      have hl : (itSt (.rc (some ⟨h, false⟩)) w).leave (itSt (.rc (some ⟨h, true⟩)) w) = itSt (.rc (some ⟨h, false⟩)) w := by
        simp [State.leave, itSt]
      simp only [hl, it_body_file]
      simp [Except.map, pure, Except.pure, nilAs]

end Pql.CliIOIR
