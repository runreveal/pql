/-
THE HEADLINE PROPERTIES ON THE INTERPRETATIONS OF THE TRANSLATED GO CODE — C16, input side: the
`multiReadCloser` as a stream, on the interpretation of the regenerated `(*multiReadCloser).Read`.

Specification-level definition:
`drainIR` : what a consumer (`bufio.Scanner`) does with the multiReadCloser — call `Read` until it reports
            `io.EOF` or an error, keeping the bytes delivered together with the final status — where each
            `Read` is the INTERPRETATION of the regenerated body on the current heap of reader objects
            (loop budget of one call: number of readers left + 1).  `none` = a call did not return normally.
-/
import PqlModel.Lemmas.IRHeadlinesAux
import PqlModel.Props.C16IOIR
import PqlModel.Props.C16IO
namespace Pql.IRHead
open Pql Pql.CliIO Pql.CliIOIR
set_option linter.unusedSimpArgs false

def drainIR (env : Env) : Nat → State → Option (Bytes × Ending)
  | 0, _ => some ([], .outOfFuel)
  | fuel + 1, w =>
    match runUnit env (w.readers.length + 1) "multiReadCloser.Read" [.mrcRef, .buf] w with
    | .ok ([.int n, .err e], st') =>
      match e with
      | .nil => (drainIR env fuel st').map fun r => (st'.data.take n.toNat ++ r.1, r.2)
      | .eof => some (st'.data.take n.toNat, .eof)
      | .other => some (st'.data.take n.toNat, .err)
    | _ => none

/-- draining the interpreted `Read` from a heap whose `mrc.readers` denotes the scripts `rs` is draining the
    model's `multiRead` from `rs`: every call returns normally -/
theorem drainIR_eq (env : Env) (fuel : Nat) : ∀ (w : State) (rs : List Reader),
    denote w.objs w.readers = some rs → (handles w.readers).Nodup →
    drainIR env fuel w = some (drain multiRead fuel rs) := by
  induction fuel with
  | zero => intro w rs _ _; rfl
  | succ fuel ih =>
    intro w rs hd hn
    obtain ⟨st', d, h1, h2, h3, h4, _⟩ := C16_Read_ir_heap env (w.readers.length + 1) w rs hd hn (Nat.lt_succ_self _)
    rw [drainIR, h1]
    simp only [Int.toNat_natCast, h2]
    rw [drain]
    cases hr : multiRead rs with
    | mk res rest =>
      obtain ⟨chunk, status⟩ := res
      rw [hr] at h3
      cases status with
      | ok =>
        simp only [GoErr.ofStatus]
        rw [ih st' rest h3 h4]
        rfl
      | eof => rfl
      | err => rfl

/-- **C16 (several inputs are one stream) on the translated `(*multiReadCloser).Read`.**  For every list of
    reader scripts `rs` — any chunking of their data into `Read` results, `n > 0, io.EOF`, `0, io.EOF`,
    `0, nil`, errors — and every operating system `env`: reading the multiReadCloser over them through the
    INTERPRETATION of the regenerated `Read` until it reports `io.EOF` or an error (`totalResults + 1` calls
    suffice) never panics or gets stuck and yields exactly the contents of the readers, in order, up to and
    including the first reader that fails, ending with `io.EOF` iff no reader failed. -/
theorem C16_multi_concat_ir (env : Env) (rs : List Reader) (fuel : Nat) (hf : totalResults rs + 1 ≤ fuel) :
    drainIR env fuel (worldOf rs) = some (toEnding (concatContents rs)) := by
  rw [drainIR_eq env fuel (worldOf rs) rs (by simpa [worldOf] using denote_range' rs [])
    (by simp [worldOf, handles_range', List.nodup_range']), C16_multi_concat_fuel rs fuel hf, C16_multi_concat]

/-- the budget is needed: with `totalResults` calls the last call (which only learns `io.EOF`) is missing -/
theorem C16_multi_concat_ir_needs_fuel :
    drainIR { openFile := fun _ => none } 1 (worldOf [[([1], .ok)]]) = some ([1], .outOfFuel) := by
  rw [drainIR_eq _ 1 (worldOf [[([1], .ok)]]) [[([1], .ok)]] (by decide) (by decide)]
  decide

end Pql.IRHead
