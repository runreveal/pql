/-
Property C02 (and C03, C05), tie by translation: `splitQueries` and `chainSubquery`.

`harness/extract_split.go` regenerates on every run, from the go/ast of pql.go, an IR of the two
functions (`Facts.splitIR`: local variables, pointers into a heap of `subquery` objects,
`&subquery{…}`, field reads and writes through a pointer, `append`, slice indexing, the operator loop
with its type switch, early `return nil, err`, the recursive call, calls of `chainSubquery`,
`canAttachSort`, `subqueryName`, `quoteIdentifier`, `dataSourceSQL`, `writeExpression`;
`Facts.splitLoop`, `Facts.splitCases`, `Facts.splitParams`).  `Model/SplitIR.lean` interprets the IR
over the same heap the hand-written imperative machine of Lemmas/SplitImpMachine.lean uses.

This file proves that the hand-written machine IS the interpretation of the regenerated IR (`C02_chain_ir`,
`C02_split_ir`; the interpreter recurses on fuel, and every fuel above the join nesting depth will do:
`C02_split_ir_fuel`), and composes that with `SplitImp.C02_splitQueries_refines`: the FUNCTIONAL model
`splitQueries` of Model/Compile.lean (the one every C02/C03/C05 theorem is about) is what the translated Go
code computes, read through the final heap (`C02_split_ir_refines_model`).

A changed Go statement changes a regenerated unit, and one of the `…_ir` facts of
Lemmas/SplitIRBasic.lean (decoded unit = expected unit) stops being true; a new statement shape makes
the translator refuse.
-/
import PqlModel.Lemmas.SplitIRJoin
import PqlModel.Props.C02SplitImperative
namespace Pql.SplitIR
open Pql

/-- the loop variable and the slice the loop runs over -/
theorem loop_header : Facts.splitLoop = ["op", "expr", "Operators"] := rfl

/-- the type switch sends an operator whose dynamic type has the case `key` to the unit `body` -/
theorem unit_of_key {o : Op} {key : String} {body : List Stmt} (hk : caseKey (opTypeName o) = some key)
    (hb : decode (irOf key) = some body) : ((caseKey (opTypeName o)).bind fun k => decode (irOf k)) = some body := by
  rw [hk]
  exact hb

section
variable (self : SplitImp.Heap → List Val → IM (SplitImp.Heap × Val)) (src : Bytes)
  (scope : List (Bytes × List Chunk)) (source : Option Ident) (ops : OpList) (k : Nat)

/-- "the loop of the interpreter, started on the frame of `st`, is the machine's loop" -/
def LoopOk (os : OpList) : Prop :=
  ∀ st : SplitImp.St,
    loop (callWith self) "op" os (frameState src scope source ops k st) =
      liftW (SplitImp.loopI src scope source k st os) >>= fun st' => .ok (frameState src scope source ops k st')

end

section
variable (self : SplitImp.Heap → List Val → IM (SplitImp.Heap × Val)) (A : Activation)

/-- **every case but the join**: the type switch sends the operator to a unit that is the machine's
    step for it -/
theorem switch_stepOk (o : Op) (hj : SplitQ.isJoin o = false) :
    ∃ key body, caseKey (opTypeName o) = some key ∧ decode (irOf key) = some body ∧ StepOk self A body o := by
  cases o with
  | join => cases hj
  | as_ p kw name => exact ⟨_, _, rfl, as_ir, exec_as self A p kw name⟩
  | sort p kw terms => exact ⟨_, _, rfl, sort_ir, exec_sort self A p kw terms⟩
  | take p kw n => exact ⟨_, _, rfl, take_ir, exec_take self A p kw n⟩
  | top p kw n by_ col => exact ⟨_, _, rfl, top_ir, exec_top self A p kw n by_ col⟩
  | _ => exact ⟨_, _, rfl, default_ir, exec_default self A _ rfl⟩

theorem loop_step (o : Op) (os : OpList) (hj : SplitQ.isJoin o = false)
    (ih : LoopOk self A.src A.scope A.source A.ops A.k os) :
    LoopOk self A.src A.scope A.source A.ops A.k (.cons o os) := by
  obtain ⟨key, body, hk, hb, hs⟩ := switch_stepOk self A o hj
  intro st
  rw [loop, unit_of_key hk hb, SplitImp.loopI_cons A.src A.scope A.source A.k st o os hj]
  show (execBlock (callWith self) body (inScope A [("op", .op o)] st) >>= fun st1 =>
    loop (callWith self) "op" os (st1.leave (frameState A.src A.scope A.source A.ops A.k st))) = _
  rw [hs st]
  cases SplitImp.stepI A.source A.k o st with
  | error e => rfl
  | ok st1 =>
    simp only [liftW_ok, bind_ok, leave_frame]
    exact ih st1

/-- an iteration on a join, given that the callee behaves like the machine on the right-hand side -/
theorem loop_join (p kw kind ka : Span) (flavor : Option Ident) (lp : Span) (right : Tabular) (rp on : Span)
    (conds : ExprList) (os : OpList)
    (hself : ∀ h d, self h [.slice d, .str A.src, .scope A.scope, .tab right] =
      liftW (SplitImp.splitQueriesI A.src A.scope h d right) >>= fun r => .ok (r.1, Val.slice r.2))
    (ih : LoopOk self A.src A.scope A.source A.ops A.k os) :
    LoopOk self A.src A.scope A.source A.ops A.k (.cons (.join p kw kind ka flavor lp right rp on conds) os) := by
  intro st
  rw [loop, unit_of_key (key := "splitQueries:case:JoinOperator") rfl join_ir, SplitImp.loopI_join]
  show (execBlock (callWith self) (joinHeadIR ++ joinTailIR)
      (inScope A [("op", .op (.join p kw kind ka flavor lp right rp on conds))] st) >>= fun st1 =>
    loop (callWith self) "op" os (st1.leave (frameState A.src A.scope A.source A.ops A.k st))) = _
  rw [execBlock_append, bind_assoc, exec_joinHead self A _ p kw kind ka flavor lp right rp on conds hself st]
  cases SplitImp.splitQueriesI A.src A.scope st.heap st.dst right with
  | error e => rfl
  | ok r =>
    simp only [liftW_ok, bind_ok]
    rw [exec_joinTail self A (loop (callWith self) "op" os)]
    cases SplitImp.joinTailI A.src A.scope A.source A.k ((st.dst.length : Int) - 1) flavor conds ⟨r.1, r.2, st.last⟩ with
    | error e => rfl
    | ok st2 => exact ih st2

theorem exec_pre (h : SplitImp.Heap) (dst : List SplitImp.Addr) :
    execBlock (callWith self) preIR ⟨h, [("dst", .slice dst), ("source", .str A.src), ("scope", .scope A.scope),
        ("expr", .tab (.mk A.source A.ops))]⟩ =
      .ok (frameState A.src A.scope A.source A.ops dst.length ⟨h, dst, none⟩) := by
  rfl

theorem exec_post (st : SplitImp.St) :
    (execBlock (callWith self) postIR (frameState A.src A.scope A.source A.ops A.k st) >>= fun s =>
      s.get "return" >>= fun r => .ok (s.heap, r)) =
      liftW (SplitImp.finishI A.source A.k st) >>= fun r => .ok (r.1, Val.slice r.2) := by
  have hc : ∀ st : SplitImp.St, evalCond (inScope A [] st) (.intCmp "eq" (.len "dst") (.var "dstStart")) =
      liftW (.ok (decide (st.dst.length = A.k))) := by
    intro st
    have he : evalCond (inScope A [] st) (.intCmp "eq" (.len "dst") (.var "dstStart")) =
        .ok (decide ((st.dst.length : Int) = (A.k : Int))) := rfl
    simp only [he, liftW_ok, Int.natCast_inj]
  show (execBlock _ postIR (inScope A [] st) >>= _) = _
  rw [postIR, execBlock, (sim_ite hc (sim_chainBlock rfl) .nil : StmtSim self A [] _ _) st]
  unfold SplitImp.finishI
  by_cases hk : st.dst.length = A.k
  · simp only [hk, decide_true, bind_ok, ↓reduceIte]
    cases SplitImp.stChain A.source A.k st with
    | error e => rfl
    | ok st1 =>
      simp only [bind_ok]
      cases SplitImp.stAppend st1 <;> rfl
  · simp only [hk, decide_false, bind_ok, Bool.false_eq_true, ↓reduceIte]
    rfl

end

mutual
theorem run_tab (src : Bytes) (scope : List (Bytes × List Chunk)) :
    ∀ (t : Tabular) (n : Nat), tabDepth t < n → ∀ (h : SplitImp.Heap) (dst : List SplitImp.Addr),
      runSplit n h [.slice dst, .str src, .scope scope, .tab t] =
        liftW (SplitImp.splitQueriesI src scope h dst t) >>= fun r => .ok (r.1, Val.slice r.2)
  | .nil, n, hn, h, dst => by
    cases n with
    | zero => omega
    | succ m =>
      have hb : bindParams "splitQueries" [.slice dst, .str src, .scope scope, .tab .nil] =
          .ok [("dst", .slice dst), ("source", .str src), ("scope", .scope scope), ("expr", .tab .nil)] := rfl
      unfold runSplit interpSplitBody SplitImp.splitQueriesI
      rw [hb, pre_ir, post_ir, loop_header]
      rfl
  | .mk source ops, n, hn, h, dst => by
    cases n with
    | zero => omega
    | succ m =>
      have hb : bindParams "splitQueries" [.slice dst, .str src, .scope scope, .tab (.mk source ops)] =
          .ok [("dst", .slice dst), ("source", .str src), ("scope", .scope scope), ("expr", .tab (.mk source ops))] :=
        rfl
      have hl := run_ops src scope ops m (by simp only [tabDepth] at hn; omega) source ops dst.length
      unfold runSplit interpSplitBody SplitImp.splitQueriesI
      rw [hb, pre_ir, post_ir, loop_header]
      simp only [bind_ok, exec_pre _ ⟨src, scope, source, ops, dst.length⟩]
      have hget : (frameState src scope source ops dst.length ⟨h, dst, none⟩).get "expr" >>= (opsAt · "Operators") =
          .ok ops := rfl
      rw [hget, bind_ok, hl ⟨h, dst, none⟩, liftW_bind]
      cases SplitImp.loopI src scope source dst.length ⟨h, dst, none⟩ ops with
      | error e => rfl
      | ok st1 =>
        simp only [liftW_ok, bind_ok]
        exact exec_post (runSplit m) ⟨src, scope, source, ops, dst.length⟩ st1

theorem run_ops (src : Bytes) (scope : List (Bytes × List Chunk)) :
    ∀ (os : OpList) (n : Nat), opsDepth os ≤ n → ∀ (source : Option Ident) (ops : OpList) (k : Nat),
      LoopOk (runSplit n) src scope source ops k os
  | .nil, n, _, source, ops, k => by
    intro st
    rw [loop, SplitImp.loopI]
    rfl
  | .cons o os, n, hn, source, ops, k => by
    cases o with
    | join p kw kind ka flavor lp right rp on conds =>
      simp only [opsDepth] at hn
      exact loop_join (runSplit n) ⟨src, scope, source, ops, k⟩ p kw kind ka flavor lp right rp on conds os
        (run_tab src scope right n (by omega)) (run_ops src scope os n (by omega) source ops k)
    | _ =>
      exact loop_step _ ⟨src, scope, source, ops, k⟩ _ os rfl
        (run_ops src scope os n (by simpa only [opsDepth] using hn) source ops k)
end

/-- **`chainSubquery` is translated code.**  For every heap, slice, `dstStart` and data source:
    interpreting the regenerated body of `chainSubquery` on a fresh frame gives the heap and the
    pointer the machine's `chainSubqueryI` gives, or the same panic. -/
theorem C02_chain_ir (h : SplitImp.Heap) (dst : List SplitImp.Addr) (dstStart : Nat) (s : Option Ident) :
    interpChain h [.slice dst, .int dstStart, .src s] =
      liftW (SplitImp.chainSubqueryI h dst dstStart s) >>= fun r => .ok (r.1, Val.ptr (some r.2)) :=
  interpChain_eq h dst dstStart s

theorem sliceResult_lift (x : Except WErr (SplitImp.Heap × List SplitImp.Addr)) :
    (liftW x >>= fun r => (.ok (r.1, Val.slice r.2) : IM (SplitImp.Heap × Val))) >>= sliceResult = liftW x := by
  cases x with
  | error e => rfl
  | ok r => cases r; rfl

/-- every fuel above the join nesting depth of the expression gives the machine's result: the
    interpreter's recursion fuel never runs out -/
theorem C02_split_ir_fuel (src : Bytes) (scope : List (Bytes × List Chunk)) (h : SplitImp.Heap)
    (dst : List SplitImp.Addr) (t : Tabular) (fuel : Nat) (hf : tabDepth t < fuel) :
    interpSplitFuel fuel src scope h dst t = liftW (SplitImp.splitQueriesI src scope h dst t) := by
  unfold interpSplitFuel
  rw [run_tab src scope t fuel hf h dst, sliceResult_lift]

/-- **The hand-written imperative machine is the interpretation of the regenerated IR.**  For every
    source text, scope, heap, slice `dst` and tabular expression (any number of operators, joins
    nested to any depth): interpreting the IR that `harness/extract_split.go` regenerates from the
    go/ast of `splitQueries` and `chainSubquery` yields exactly the heap and the slice of addresses
    `SplitImp.splitQueriesI` yields, and when one fails the other fails in the same way (error return
    or panic); the interpreter is never `stuck`. -/
theorem C02_split_ir (src : Bytes) (scope : List (Bytes × List Chunk)) (h : SplitImp.Heap)
    (dst : List SplitImp.Addr) (t : Tabular) :
    interpSplit src scope h dst t = liftW (SplitImp.splitQueriesI src scope h dst t) :=
  C02_split_ir_fuel src scope h dst t (tabDepth t + 1) (Nat.lt_succ_self _)

theorem liftW_ne_stuck {α : Type} (x : Except WErr α) : liftW x ≠ (stuck : IM α) := by
  cases x <;> simp [liftW, stuck]

theorem C02_split_ir_not_stuck (src : Bytes) (scope : List (Bytes × List Chunk)) (h : SplitImp.Heap)
    (dst : List SplitImp.Addr) (t : Tabular) : interpSplit src scope h dst t ≠ stuck := by
  rw [C02_split_ir]
  exact liftW_ne_stuck _

theorem map_liftW {α β : Type} (f : α → β) (x : Except WErr α) : (liftW x).map f = liftW (x.map f) := by
  cases x <;> rfl

/-- **The functional model is a theorem about translated Go code.**  `C02_split_ir` composed with
    the refinement `SplitImp.C02_splitQueries_refines`: for every heap and slice without dangling
    pointers and every expression whose dereferenced positions are not nil (`skeletonOk`; both
    hypotheses are necessary, `SplitImp.C02_refines_needs_valid/_source/_as_name`, and hold for every
    tree an error-free parse returns, `SplitImp.skeletonOk_of_parsed`), interpreting the regenerated
    IR and reading the returned slice through the final heap gives exactly what the functional
    `splitQueries` of Model/Compile.lean computes on the list the initial slice denotes. -/
theorem C02_split_ir_refines_model (src : Bytes) (scope : List (Bytes × List Chunk)) (t : Tabular)
    (h : SplitImp.Heap) (dst : List SplitImp.Addr) (hv : SplitImp.validDst h dst = true)
    (hg : SplitImp.skeletonOk t = true) :
    (interpSplit src scope h dst t).map (fun r => SplitImp.abs r.1 r.2) =
      liftW (splitQueries src scope (SplitImp.abs h dst) t) := by
  rw [C02_split_ir, map_liftW, SplitImp.C02_splitQueries_refines src scope t h dst hv hg]

/-- `splitQueries(nil, source, scope, expr)`, the call in `Compile` -/
theorem C02_split_ir_refines_model_top (src : Bytes) (scope : List (Bytes × List Chunk)) (t : Tabular)
    (hg : SplitImp.skeletonOk t = true) :
    (interpSplit src scope #[] [] t).map (fun r => SplitImp.abs r.1 r.2) = liftW (splitQueries src scope [] t) :=
  C02_split_ir_refines_model src scope t #[] [] rfl hg

def isStuck {α : Type} : IM α → Bool
  | .error .stuck => true
  | _ => false

/-- `T | join (U) on a` -/
def exJoin : Tabular :=
  .mk (some ⟨Bytes.ofString "T", .zero, false⟩)
    (.cons (.join .zero .zero .zero .zero none .zero (.mk (some ⟨Bytes.ofString "U", .zero, false⟩) .nil) .zero .zero
      (.cons (.qident [⟨Bytes.ofString "a", .zero, false⟩]) .nil)) .nil)

/-- with fuel equal to the nesting depth the interpreter runs out of fuel at the recursive call and
    says so (`stuck`), while the machine succeeds: the hypothesis of `C02_split_ir_fuel` is needed -/
theorem C02_split_ir_fuel_needed :
    tabDepth exJoin = 1 ∧ isStuck (interpSplitFuel 1 [] [] #[] [] exJoin) = true ∧
      (SplitImp.splitQueriesI [] [] #[] [] exJoin).toBool = true := by
  decide +kernel

/-- a worked instance of the corollary: the pipeline of Props/C02SplitImperative.lean -/
example : (interpSplit [] [] #[] [] SplitImp.exPipeline).map (fun r => SplitImp.abs r.1 r.2) =
    liftW (splitQueries [] [] [] SplitImp.exPipeline) :=
  C02_split_ir_refines_model_top [] [] SplitImp.exPipeline (by decide)

end Pql.SplitIR
