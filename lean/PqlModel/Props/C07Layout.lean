/-
Property C07, last sentence — "The tree does not depend on layout: spaces, tabs, newlines and //
comments between tokens, and the keyword synonyms (where/filter, sort/order, take/limit), never
change it."

Layout, in two halves: `parseTokens` looks at the kinds and values of the tokens only (two token lists
that agree in them give the same statements modulo `eraseSpansStmt` and the same errors modulo
positions), and inserting trivia at a step boundary of the scanner keeps kinds and values
(counterexamples for every hypothesis).  Synonyms: `pOperator` returns the same result for a keyword
and for its canonical spelling, and `parseTokens` for a program and the program with the operator
keywords of its pipelines canonicalised (`canonProg`).  Definitions (`eraseSpansStmt`, `sameTokens`, …)
are in `Lemmas/LayoutDefs.lean`, `TriviaBefore` in `Lemmas/LayoutLex.lean`.
-/
import PqlModel.Lemmas.LayoutTop
import PqlModel.Lemmas.LayoutLex
import PqlModel.Lemmas.LayoutSyn
set_option linter.unusedSimpArgs false
namespace Pql.Layout
open Pql Pql.C09

/-- **C07 (layout, tokens) — strong form.**  With the same kinds and values, the statements agree up to
    `keepNull` (every present span ↦ `Span.zero`, every absent span stays `Span.null`), and so do the
    errors; `n`, `m` (the EOF positions) are arbitrary. -/
theorem C07_layout_tokens_strong (n m : Nat) (ts us : List Token) (h : sameTokens ts us) :
    (parseTokens n ts).1.map (mapStmt keepNull) = (parseTokens m us).1.map (mapStmt keepNull) ∧
    mapErrs keepNull (parseTokens n ts).2 = mapErrs keepNull (parseTokens m us).2 := by
  have h1 := parseTokens_np n ts
  have h2 := parseTokens_np m us
  rw [(sameTokens_iff_map_np ts us).1 h, h2] at h1
  exact ⟨(congrArg Prod.fst h1).symm, (congrArg Prod.snd h1).symm⟩

theorem map_eraseSpansStmt_keepNull (l : List Stmt) :
    (l.map (mapStmt keepNull)).map eraseSpansStmt = l.map eraseSpansStmt := by
  rw [List.map_map]
  exact List.map_congr_left fun s _ => eraseSpansStmt_keepNull s

/-- **C07 (layout, tokens).**  If two token lists have the same length and pairwise the same kind and
    value, `parseTokens` yields the same statement list modulo `eraseSpansStmt` and the same error list
    modulo positions (`eraseSpansErrs` keeps, per error, whether it has a position, the `notFound` flag and
    the `fuel` flag) — whatever the source lengths `n`, `m`. -/
theorem C07_layout_tokens (n m : Nat) (ts us : List Token) (h : sameTokens ts us) :
    (parseTokens n ts).1.map eraseSpansStmt = (parseTokens m us).1.map eraseSpansStmt ∧
    eraseSpansErrs (parseTokens n ts).2 = eraseSpansErrs (parseTokens m us).2 := by
  obtain ⟨h1, h2⟩ := C07_layout_tokens_strong n m ts us h
  constructor
  · rw [← map_eraseSpansStmt_keepNull, h1, map_eraseSpansStmt_keepNull]
  · rw [← eraseSpansErrs_keepNull, h2, eraseSpansErrs_keepNull]

theorem eraseSpansErrs_eq {a b : Errs} (h : eraseSpansErrs a = eraseSpansErrs b) :
    a.length = b.length ∧ a.map (·.notFound) = b.map (·.notFound) ∧ a.map (·.fuel) = b.map (·.fuel) ∧
    a.map (·.span.isSome) = b.map (·.span.isSome) ∧ (a = [] ↔ b = []) := by
  have hl : a.length = b.length := by
    have := congrArg List.length h
    simpa only [eraseSpansErrs, mapErrs_length] using this
  have key : ∀ (g : PErr → Bool), (∀ e, g (mapErr toZero e) = g e) → a.map g = b.map g := by
    intro g hg
    have := congrArg (List.map g) h
    simp only [eraseSpansErrs, mapErrs, List.map_map] at this
    have e : g ∘ mapErr toZero = g := funext hg
    rwa [e] at this
  refine ⟨hl, key _ (fun _ => rfl), key _ (fun _ => rfl), key _ (fun e => ?_), ?_⟩
  · cases e with | mk sp nf fu => cases sp <;> rfl
  · rw [← List.length_eq_zero_iff, ← List.length_eq_zero_iff, hl]

/-- **C07 (layout, errors).** same number of errors, same `notFound` flags, same success/failure -/
theorem C07_layout_errors (n m : Nat) (ts us : List Token) (h : sameTokens ts us) :
    (parseTokens n ts).2.length = (parseTokens m us).2.length ∧
    (parseTokens n ts).2.map (·.notFound) = (parseTokens m us).2.map (·.notFound) ∧
    ((parseTokens n ts).2 = [] ↔ (parseTokens m us).2 = []) :=
  have h := eraseSpansErrs_eq (C07_layout_tokens n m ts us h).2
  ⟨h.1, h.2.1, h.2.2.2.2⟩

/-- **C07 (layout, sources).**  Two sources whose scans have the same kinds and values parse to the same
    tree modulo positions, and one parses without error iff the other does. -/
theorem C07_layout_source (a b : Bytes) (h : sameTokens (scan a) (scan b)) :
    (parse a).1.map eraseSpansStmt = (parse b).1.map eraseSpansStmt ∧
    ((parse a).2 = [] ↔ (parse b).2 = []) :=
  ⟨(C07_layout_tokens a.length b.length _ _ h).1, (C07_layout_errors a.length b.length _ _ h).2.2⟩

/-- … and the full error information modulo positions -/
theorem C07_layout_source_errors (a b : Bytes) (h : sameTokens (scan a) (scan b)) :
    eraseSpansErrs (parse a).2 = eraseSpansErrs (parse b).2 :=
  (C07_layout_tokens a.length b.length _ _ h).2

/-- **C07 (trivia insertion).**  Let `x.length` be a step boundary of the scanner in `x ++ y` (no token or
    comment straddles it: `Reaches`, Lemmas/LexReach) *and* in `x ++ w ++ y`, and let `w` be trivia before
    `y` (white-space runes and `//` comments, each comment with its newline — or, if `y = []` and it is the
    last piece, running to the end of the input).  Then the tokens of `x ++ w ++ y` and of `x ++ y` have the
    same kinds and values. -/
theorem C07_trivia_insertion (x w y : Bytes) (h1 : Reaches (x ++ y) x.length)
    (h2 : Reaches (x ++ (w ++ y)) x.length) (hw : TriviaBefore w y) :
    sameTokens (scan (x ++ (w ++ y))) (scan (x ++ y)) :=
  sameTokens_insert x w y h1 h2 hw

theorem C07_trivia_insertion_parse (x w y : Bytes) (h1 : Reaches (x ++ y) x.length)
    (h2 : Reaches (x ++ (w ++ y)) x.length) (hw : TriviaBefore w y) :
    (parse (x ++ (w ++ y))).1.map eraseSpansStmt = (parse (x ++ y)).1.map eraseSpansStmt ∧
    ((parse (x ++ (w ++ y))).2 = [] ↔ (parse (x ++ y)).2 = []) :=
  C07_layout_source _ _ (C07_trivia_insertion x w y h1 h2 hw)

/-- trivia at the very beginning or the very end of a source never matters (no side condition) -/
theorem C07_trivia_leading (w y : Bytes) (hw : TriviaBefore w y) : sameTokens (scan (w ++ y)) (scan y) := by
  have := C07_trivia_insertion [] w y (Reaches.here _) (Reaches.here _) hw
  simpa using this

theorem TriviaBefore.space (c : UInt8) (hc : isAsciiSpace c = true) {w y : Bytes} (h : TriviaBefore w y) :
    TriviaBefore (c :: w) y := by
  have hlt : c.toNat < 0x80 := by
    simp only [isAsciiSpace, Bool.or_eq_true, beq_iff_eq] at hc
    rcases hc with ((((h | h) | h) | h) | h) | h <;> subst h <;> decide
  refine TriviaBefore.step [c] w y (Or.inl ⟨by simp, ?_, ?_⟩) h
  · simp [decodeRune_cons, hlt]
  · simp only [decodeRune_cons, hlt, if_true]
    exact isSpaceRune_of_isAsciiSpace c hc

theorem TriviaBefore.comment (body : Bytes) (hb : ∀ b ∈ body, b ≠ 10) {w y : Bytes} (h : TriviaBefore w y) :
    TriviaBefore (47 :: 47 :: (body ++ 10 :: w)) y := by
  have := TriviaBefore.step (47 :: 47 :: (body ++ [10])) w y (Or.inr ⟨body, hb, Or.inl rfl⟩) h
  simpa using this

/-- a final comment without newline is trivia only at the end of the input -/
theorem TriviaBefore.commentEof (body : Bytes) (hb : ∀ b ∈ body, b ≠ 10) :
    TriviaBefore (47 :: 47 :: body) [] := by
  have := TriviaBefore.step (47 :: 47 :: body) [] [] (Or.inr ⟨body, hb, Or.inr ⟨rfl, rfl⟩⟩) (TriviaBefore.nil [])
  simpa using this

def B (s : String) : Bytes := Bytes.ofString s

/-- without the boundary in `x ++ y` (hypothesis `h1`) the statement is false, although the two other
    hypotheses hold: `a b`/`ab`, `/ /` vs `//`, `1 .5` vs `1.5`, `< =` vs `<=` -/
theorem C07_trivia_needs_boundary :
    (TriviaBefore (B " ") (B "b") ∧ Reaches (B "a" ++ (B " " ++ B "b")) (B "a").length ∧
      ¬ sameTokens (scan (B "a" ++ (B " " ++ B "b"))) (scan (B "a" ++ B "b"))) ∧
    (TriviaBefore (B " ") (B "/") ∧ Reaches (B "/" ++ (B " " ++ B "/")) (B "/").length ∧
      ¬ sameTokens (scan (B "/" ++ (B " " ++ B "/"))) (scan (B "/" ++ B "/"))) ∧
    (TriviaBefore (B " ") (B ".5") ∧ Reaches (B "1" ++ (B " " ++ B ".5")) (B "1").length ∧
      ¬ sameTokens (scan (B "1" ++ (B " " ++ B ".5"))) (scan (B "1" ++ B ".5"))) ∧
    (TriviaBefore (B " ") (B "=") ∧ Reaches (B "<" ++ (B " " ++ B "=")) (B "<").length ∧
      ¬ sameTokens (scan (B "<" ++ (B " " ++ B "="))) (scan (B "<" ++ B "="))) := by
  have sp : ∀ y, TriviaBefore (B " ") y := fun y => TriviaBefore.space 32 (by decide) (TriviaBefore.nil y)
  refine ⟨⟨sp _, reaches_of_fuel 8 _ _ (by decide), ?_⟩, ⟨sp _, reaches_of_fuel 8 _ _ (by decide), ?_⟩,
    ⟨sp _, reaches_of_fuel 8 _ _ (by decide), ?_⟩, ⟨sp _, reaches_of_fuel 8 _ _ (by decide), ?_⟩⟩ <;>
  · decide +kernel

/-- without the boundary in `x ++ w ++ y` (hypothesis `h2`) the statement is false: a `/` token followed by
    an inserted comment becomes part of the comment (`a /` + `//c⏎` + `b`), and an unterminated string is
    closed by a quote inside an inserted comment (`'abc` + `//'⏎` + `⏎`) -/
theorem C07_trivia_needs_boundary_after :
    (Reaches (B "a /" ++ B "b") (B "a /").length ∧ TriviaBefore (B "//c\n") (B "b") ∧
      ¬ sameTokens (scan (B "a /" ++ (B "//c\n" ++ B "b"))) (scan (B "a /" ++ B "b"))) ∧
    (Reaches (B "'abc" ++ B "\n") (B "'abc").length ∧ TriviaBefore (B "//'\n") (B "\n") ∧
      ¬ sameTokens (scan (B "'abc" ++ (B "//'\n" ++ B "\n"))) (scan (B "'abc" ++ B "\n"))) := by
  refine ⟨⟨reaches_of_fuel 8 _ _ (by decide),
      TriviaBefore.comment (B "c") (by decide) (TriviaBefore.nil _), ?_⟩,
    ⟨reaches_of_fuel 8 _ _ (by decide),
      TriviaBefore.comment (B "'") (by decide) (TriviaBefore.nil _), ?_⟩⟩ <;>
  · decide +kernel

/-- a comment must bring its newline unless nothing follows: `a ` + `//c` + `b` loses the token `b`,
    although both boundaries are there and `//c` on its own is trivia in the sense of C09 (`AllTrivia`) -/
theorem C07_trivia_needs_newline :
    Reaches (B "a " ++ B "b") (B "a ").length ∧ Reaches (B "a " ++ (B "//c" ++ B "b")) (B "a ").length ∧
    AllTrivia (B "//c") ∧
    ¬ sameTokens (scan (B "a " ++ (B "//c" ++ B "b"))) (scan (B "a " ++ B "b")) := by
  refine ⟨reaches_of_fuel 8 _ _ (by decide), reaches_of_fuel 8 _ _ (by decide), ?_, ?_⟩
  · have := AllTrivia.step (B "//c") [] (Or.inr ⟨B "c", by decide, Or.inr ⟨rfl, rfl⟩⟩) AllTrivia.nil
    simpa using this
  · decide +kernel

-- decidable equality of trees, for checking concrete instances by evaluation
deriving instance DecidableEq for Expr, ExprList
deriving instance DecidableEq for SortTerm
deriving instance DecidableEq for Column
deriving instance DecidableEq for RenderProp
deriving instance DecidableEq for Tabular, Op, OpList
deriving instance DecidableEq for Stmt

def demoA : Bytes := B "T | where x > 1 | take 5"
def demoB : Bytes := B "T\n\t| where x > 1 // big ones\n  | take 5\n"

theorem demo_sameTokens : sameTokens (scan demoA) (scan demoB) := by
  decide +kernel

/-- the theorem applies … -/
theorem C07_layout_demo :
    (parse demoA).1.map eraseSpansStmt = (parse demoB).1.map eraseSpansStmt ∧
    ((parse demoA).2 = [] ↔ (parse demoB).2 = []) :=
  C07_layout_source demoA demoB demo_sameTokens

/-- … to sources that parse without error, to one statement with two operators, at different positions -/
theorem C07_layout_demo_nontrivial :
    (parse demoA).2 = [] ∧ (parse demoA).1.length = 1 ∧ scan demoA ≠ scan demoB := by
  decide +kernel

/-- the trivia-insertion theorem on the same kind of input: `T ` + `// c⏎⇥` + `| count` -/
theorem C07_trivia_demo :
    sameTokens (scan (B "T " ++ (B "// c\n\t" ++ B "| count"))) (scan (B "T " ++ B "| count")) :=
  C07_trivia_insertion _ _ _ (reaches_of_fuel 8 _ _ (by decide)) (reaches_of_fuel 8 _ _ (by decide))
    (TriviaBefore.comment (B " c") (by decide) (TriviaBefore.space 9 (by decide) (TriviaBefore.nil _)))

/-- **C07 (synonyms, operator).**  For every context, fuel, pipe span, keyword token and argument tokens:
    `pOperator` returns the *same* result (operator with all its fields and spans, errors, remaining
    tokens) for the keyword and for its canonical spelling (`filter ↦ where`, `order ↦ sort`,
    `limit ↦ take`).  In particular a pipeline operator introduced by `filter` is the `Op.where_` that
    `where` yields, etc. -/
theorem C07_synonyms_operator (c : PCtx) (fuel : Nat) (pipe : Span) (name : Token) (ts : List Token) :
    pOperator c fuel pipe (canonTok name) ts = pOperator c fuel pipe name ts :=
  pOperator_canon c fuel pipe name ts

theorem C07_synonyms_pairs (c : PCtx) (fuel : Nat) (pipe : Span) (a b : Nat) (ts : List Token) :
    pOperator c fuel pipe ⟨.ident, a, b, B "filter"⟩ ts = pOperator c fuel pipe ⟨.ident, a, b, B "where"⟩ ts ∧
    pOperator c fuel pipe ⟨.ident, a, b, B "order"⟩ ts = pOperator c fuel pipe ⟨.ident, a, b, B "sort"⟩ ts ∧
    pOperator c fuel pipe ⟨.ident, a, b, B "limit"⟩ ts = pOperator c fuel pipe ⟨.ident, a, b, B "take"⟩ ts :=
  ⟨(pOperator_canon c fuel pipe ⟨.ident, a, b, B "filter"⟩ ts).symm,
   (pOperator_canon c fuel pipe ⟨.ident, a, b, B "order"⟩ ts).symm,
   (pOperator_canon c fuel pipe ⟨.ident, a, b, B "limit"⟩ ts).symm⟩

/-- **C07 (synonyms, program).**  `canonProg` rewrites, in every `;`-separated statement that is not a
    `let` statement, the identifier directly after each `|` of the statement's pipeline (bracket depth 0,
    cut with the parser's `split`) to its canonical spelling; `k` is fuel for the loop over the statements
    (`ts.length + 1` reaches all of them; the equation holds for every `k`).  `Parse` returns exactly the same statements and errors. -/
theorem C07_synonyms (n k : Nat) (ts : List Token) : parseTokens n (canonProg k ts) = parseTokens n ts :=
  parseTokens_canon n k ts

/-- **C07 (layout and synonyms, sources).**  Two sources whose scans agree in kinds and values after
    canonicalising the operator keywords parse to the same tree modulo positions. -/
theorem C07_synonyms_source (a b : Bytes) (k k' : Nat)
    (h : sameTokens (canonProg k (scan a)) (canonProg k' (scan b))) :
    (parse a).1.map eraseSpansStmt = (parse b).1.map eraseSpansStmt ∧
    eraseSpansErrs (parse a).2 = eraseSpansErrs (parse b).2 := by
  have := C07_layout_tokens a.length b.length _ _ h
  rwa [C07_synonyms, C07_synonyms] at this

/-- the pipeline-level statement, for any token list (also the one a `join ( … )` sub-parser receives) -/
theorem C07_synonyms_pipeline (c : PCtx) (fuel n : Nat) (ops : OpList) (acc : Errs) (ts : List Token) :
    (pOps c fuel ops acc (canonPipes n ts)).val = (pOps c fuel ops acc ts).val ∧
    (pOps c fuel ops acc (canonPipes n ts)).errs = (pOps c fuel ops acc ts).errs := by
  obtain ⟨k, h⟩ := pOps_canon c fuel n ops acc ts
  rw [h]
  exact ⟨rfl, rfl⟩

def demoC : Bytes := B "T\n| filter x > 1 // c\n| order by x desc\n\t| limit 5"
def demoD : Bytes := B "T | where x > 1 | sort by x desc | take 5"

theorem demo_syn_sameTokens : sameTokens (canonProg 20 (scan demoC)) (canonProg 20 (scan demoD)) := by
  decide +kernel

/-- non-vacuity: different layout *and* different synonyms; the canonicalisation really rewrites three
    tokens, the sources parse without error, and the theorem gives the same tree -/
theorem C07_synonyms_demo :
    (parse demoC).1.map eraseSpansStmt = (parse demoD).1.map eraseSpansStmt ∧
    (parse demoC).2 = [] ∧ (parse demoD).2 = [] ∧
    ¬ sameTokens (scan demoC) (scan demoD) ∧ canonProg 20 (scan demoC) ≠ scan demoC := by
  refine ⟨(C07_synonyms_source demoC demoD 20 20 demo_syn_sameTokens).1, ?_⟩
  decide +kernel

/-- independent check by evaluation (no theorem of this file involved): the two erased trees are equal -/
theorem C07_synonyms_demo_check :
    (parse demoC).1.map eraseSpansStmt = (parse demoD).1.map eraseSpansStmt := by
  decide +kernel

theorem C07_layout_demo_check :
    (parse demoA).1.map eraseSpansStmt = (parse demoB).1.map eraseSpansStmt := by
  decide +kernel

/-- why the synonyms are *not* a property of token values: replacing the identifier `filter` by `where`
    where it is a column name changes the tree (`T | project filter` vs `T | project where`) -/
theorem C07_synonyms_not_tokenwise :
    (parse (B "T | project filter")).1.map eraseSpansStmt ≠
      (parse (B "T | project where")).1.map eraseSpansStmt := by
  decide +kernel

end Pql.Layout
