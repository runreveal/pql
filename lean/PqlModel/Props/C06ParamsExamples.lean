/-
Property C06, parameters — non-vacuity examples and counterexamples for Props/C06Params.lean and
Props/C06ParamsAtomic.lean.
-/
import PqlModel.Props.C06ParamsAtomic
import PqlModel.Lemmas.E2EFinalChecks
import PqlModel.Base.BytesLemmas
namespace Pql.Params.Ex
open Pql Sql CompileOracle Intended Pql.RT Pql.Params

-- concrete writer results are compared by evaluation
deriving instance DecidableEq for Except

def s (x : String) : Bytes := Bytes.ofString x
def id' (x : String) : Ident := ⟨s x, .zero, false⟩
def num (x : String) : Expr := .lit .zero .number (s x)

/-- `T | where a > p | extend b = p + 1` (hand-built tree) -/
def q1 : Tabular :=
  .mk (some (id' "T"))
    (.cons (.where_ .zero .zero (.binary (.qident [id' "a"]) .zero .gt (.qident [id' "p"])))
      (.cons (.extend .zero .zero [⟨some (id' "b"), .zero, .binary (.qident [id' "p"]) .zero .plus (num "1")⟩]) .nil))

/-- the chunks of `q1` with `p ↦ $1`: the text occurs at the two references, verbatim -/
def out1 (v : Bytes) : List Chunk :=
  [.txt "WITH ", .qid (s "__subquery0"), .txt " AS (", .txt "SELECT * FROM ", .qid (s "T"), .txt " WHERE ",
   .qid (s "a"), .txt " ", .txt ">", .txt " ", .raw v, .txt ")", .txt "\n",
   .txt "SELECT *", .txt ", ", .raw v, .txt " ", .txt "+", .txt " ", .num (s "1"), .txt " AS ", .qid (s "b"),
   .txt " FROM ", .qid (s "__subquery0"), .txt ";"]

theorem run1 : compileChunks [] [(s "p", s "$1")] [.tabular q1] = .ok (out1 (s "$1")) := by decide +kernel

/-- `C06_params_verbatim` instantiated: any other text for `p` gives the same chunks around it -/
example (v : Bytes) : compileChunks [] [(s "p", v)] [.tabular q1] = .ok (out1 v) := by
  have h := C06_params_verbatim [] [(s "p", s "$1")] (fun _ => v) [.tabular q1]
  rw [run1] at h
  exact h

/-- the bytes -/
example : compile [(s "p", s "$1")] (s "T | where a > p | extend b = p + 1") =
    .ok (s "WITH \"__subquery0\" AS (SELECT * FROM \"T\" WHERE \"a\" > $1)\nSELECT *, $1 + 1 AS \"b\" FROM \"__subquery0\";") := by
  simp only [s]
  rw [Bytes.ofString_ofList, Bytes.ofString_ofList, Bytes.ofString_ofList, Bytes.ofString_ofList]
  decide +kernel

/-- `C06_param_occurrences` instantiated: the raw chunks of `out1` are the parameter's text -/
example : ∀ c ∈ out1 (s "$1"), ∀ v, c = .raw v → ∃ k, (k, v) ∈ [(s "p", s "$1")] :=
  C06_param_occurrences [] _ _ _ run1

/-- `C06_param_reference` instantiated, and its hypothesis `NoLetBinds` is needed: after `let p = 7;` the
    reference writes the let's value, not the parameter's text -/
example : writeExpr ⟨[], paramScope [(s "p", s "$1")], .default⟩ (.qident [id' "p"]) = .ok [.raw (s "$1")] :=
  C06_param_reference [] [(s "p", s "$1")] [] _ none (s "p") (s "$1") .zero .default rfl rfl
    (fun _ h => by cases h)

theorem shadowed_by_let :
    ∃ scope, compileStmts [] [.let_ .zero (some (id' "p")) .zero (num "7")] (paramScope [(s "p", s "$1")]) none =
        .ok (scope, none) ∧
      writeExpr ⟨[], scope, .default⟩ (.qident [id' "p"]) = .ok [.num (s "7")] ∧
      ¬ NoLetBinds (s "p") [.let_ .zero (some (id' "p")) .zero (num "7")] := by
  refine ⟨_, rfl, by rfl, ?_⟩
  intro h
  exact h _ List.mem_cons_self .zero (id' "p") .zero (num "7") rfl rfl

/-- a quoted name is a column, whatever the parameters are (`C06.C06_quoted_not_substituted`) -/
example : writeExpr ⟨[], paramScope [(s "p", s "$1")], .default⟩ (.qident [⟨s "p", .zero, true⟩]) = .ok [.qid (s "p")] := by
  rfl

/-- `let p = 1 + 2; let q = 'x';` -/
def plets : List Stmt :=
  [.let_ .zero (some (id' "p")) .zero (.binary (num "1") .zero .plus (num "2")),
   .let_ .zero (some (id' "q")) .zero (.lit .zero .string (s "x"))]

/-- `q ↦ 'x'`, `p ↦ (1 + 2)` — the texts the statement loop stores for `plets` -/
def params : List (Bytes × Bytes) := [(s "q", s "'x'"), (s "p", s "(1 + 2)")]

theorem plets_isLets : IsLets plets := by
  intro st hst
  simp only [plets, List.mem_cons, List.not_mem_nil, or_false] at hst
  rcases hst with rfl | rfl <;> exact ⟨_, _, _, _, rfl⟩

theorem params_are_lets : ParamsAreLets [] params plets :=
  ⟨plets_isLets, _, rfl, by decide +kernel⟩

/-- `T | where a * p > 3 and c == q` -/
def q2 : Tabular :=
  .mk (some (id' "T"))
    (.cons (.where_ .zero .zero
      (.binary (.binary (.binary (.qident [id' "a"]) .zero .star (.qident [id' "p"])) .zero .gt (num "3")) .zero .and_
        (.binary (.qident [id' "c"]) .zero .eq (.qident [id' "q"])))) .nil)

/-- `C06_params_as_lets_bytes` instantiated, both sides computed: `p` keeps its parentheses -/
theorem run2 :
    (compileChunks [] params [.tabular q2]).map renderChunks =
      .ok (s "SELECT * FROM \"T\" WHERE ((\"a\" * (1 + 2)) > 3) AND (coalesce(\"c\" = 'x', FALSE));") ∧
    (compileChunks [] [] (plets ++ [.tabular q2])).map renderChunks =
      .ok (s "SELECT * FROM \"T\" WHERE ((\"a\" * (1 + 2)) > 3) AND (coalesce(\"c\" = 'x', FALSE));") := by
  exact ⟨by decide +kernel, by decide +kernel⟩

example : (compileChunks [] params [.tabular q2]).map renderChunks =
    (compileChunks [] [] (plets ++ [.tabular q2])).map renderChunks :=
  C06_params_as_lets_bytes [] params plets [.tabular q2] params_are_lets

theorem plets_ok : LetValuesOK (plets ++ []) := by
  intro st hst kw nm a x hx
  simp only [plets, List.append_nil, List.mem_cons, List.not_mem_nil, or_false] at hst
  rcases hst with rfl | rfl <;> cases hx <;> exact ⟨by decide +kernel, by decide +kernel⟩

/-- **all hypotheses of `C06_atomic_params_end_to_end` hold** of `params`, `plets`, the empty list of
    further lets and the query `q2` — so its conclusion holds: the text compiled WITH THE PARAMETERS, read
    back and evaluated, is `T | where a * (1 + 2) > 3 and c == ('x')` -/
theorem end_to_end_instance :
    ∃ cs, compileChunks [] params ([] ++ [.tabular q2]) = .ok cs ∧
    ∃ st, readSql (renderChunks cs) = some st ∧
      ∀ db, JoinFull.RectDB db →
        evalStatement db st = Rel.interp [] db (substTabular (letsEnv (plets ++ []) []) q2) := by
  have hc : ∃ cs, compileChunks [] params ([] ++ [.tabular q2]) = .ok cs := by
    cases h : compileChunks [] params ([] ++ [.tabular q2]) with
    | ok cs => exact ⟨cs, rfl⟩
    | error e =>
      have := run2.1
      simp only [List.nil_append] at h
      rw [h] at this
      cases this
  obtain ⟨cs, hc⟩ := hc
  obtain ⟨_, _, _, st, _, hr, _, _, _, hev⟩ :=
    C06_atomic_params_end_to_end [] params plets [] q2 cs params_are_lets hc (fun _ h => by cases h) plets_ok
      (by decide +kernel) (Or.inr (by decide +kernel)) (E2EFinal.tabNamed_of_B q2 (by decide +kernel))
      (by decide +kernel) (by decide +kernel) (by decide +kernel) (by decide +kernel)
  exact ⟨cs, hc, st, hr, fun db hdb => (hev db hdb).1⟩

/-- `ParamsAreLets` is needed (non-atomic text): with `p ↦ 1 + 2` (no parentheses) the bytes differ from
    those of the let program — this is `C06.C06_param_regrouped` at statement level -/
theorem not_lets_counterexample :
    (compileChunks [] [(s "q", s "'x'"), (s "p", s "1 + 2")] [.tabular q2]).map renderChunks =
      .ok (s "SELECT * FROM \"T\" WHERE ((\"a\" * 1 + 2) > 3) AND (coalesce(\"c\" = 'x', FALSE));") ∧
    (compileChunks [] [(s "q", s "'x'"), (s "p", s "1 + 2")] [.tabular q2]).map renderChunks ≠
      (compileChunks [] [] (plets ++ [.tabular q2])).map renderChunks := by
  have h1 : (compileChunks [] [(s "q", s "'x'"), (s "p", s "1 + 2")] [.tabular q2]).map renderChunks =
      .ok (s "SELECT * FROM \"T\" WHERE ((\"a\" * 1 + 2) > 3) AND (coalesce(\"c\" = 'x', FALSE));") := by decide +kernel
  refine ⟨h1, ?_⟩
  rw [h1, run2.2]
  intro h
  injection h with h
  revert h
  decide +kernel

/-- the texts `(1 + 2)`, `'x'`, `42`, `"col"` are atomic -/
theorem atomic_paren : AtomicAs (s "(1 + 2)") (.binary (num "1") .zero .plus (num "2")) :=
  atomicAs_of_let [] _ _ _ (by decide +kernel) (by decide +kernel) rfl (by decide +kernel)

theorem atomic_str : AtomicAs (s "'x'") (.lit .zero .string (s "x")) :=
  atomicAs_of_let [] _ _ _ (by decide +kernel) (by decide +kernel) rfl (by decide +kernel)

theorem atomic_num : AtomicAs (s "42") (num "42") :=
  atomicAs_of_let [] _ _ _ (by decide +kernel) (by decide +kernel) rfl (by decide +kernel)

/-- a column reference — which no let value can be (let mode rejects it) -/
theorem atomic_col : AtomicAs (s "\"col\"") (.qident [⟨s "col", .zero, true⟩]) := by
  intro want hw
  have g : GoodS ⟨[], [], .default⟩ [] (.qident [⟨s "col", .zero, true⟩]) :=
    goodS_all ⟨[], [], .default⟩ [] (scopeRT_nil _) (fun h => by cases h) _ (by decide +kernel) (by decide +kernel)
  have ht : toksOf [.raw (s "\"col\"")] = toksOf (wrapTight (.qident [⟨s "col", .zero, true⟩]) [.qid (s "col")]) := by
    decide +kernel
  rw [ht]
  exact g.tight (by rfl) (by rw [substExpr_nil]; exact hw)

/-- the scope of `Compile` with `p ↦ (1 + 2)`, `c ↦ "col"` -/
theorem scope_ex : ScopeParamsEnv [] (paramScope [(s "p", s "(1 + 2)"), (s "c", s "\"col\"")])
    [(s "p", .binary (num "1") .zero .plus (num "2")), (s "c", .qident [⟨s "col", .zero, true⟩])] :=
  scopeParams_of_params [] [(s "p", s "(1 + 2)", _), (s "c", s "\"col\"", _)] (by
    intro p hp
    simp only [List.mem_cons, List.not_mem_nil, or_false] at hp
    rcases hp with rfl | rfl
    · exact atomic_paren
    · exact atomic_col)

/-- `C06_parse_roundtrip_params` instantiated: `-p * c[1]` is written `-(1 + 2) * ("col"[1])` and read as
    `(-(1 + 2)) * ("col"[1])` -/
example : ∃ s', normS s' = normS (.bin "*" (.neg (.bin "+" (.num (s "1")) (.num (s "2")))) (.index (.col [s "col"]) (.num (s "1")))) ∧
    ∃ fuel, ∀ fuel', fuel ≤ fuel' →
      Sql.pExprS fuel' 0 (toksOf [.txt "-", .raw (s "(1 + 2)"), .txt " ", .txt "*", .txt " ", .txt "(",
        .raw (s "\"col\""), .txt "[", .num (s "1"), .txt "]", .txt ")"] ++ []) = some (s', []) :=
  C06_parse_roundtrip_params ⟨[], _, .default⟩ _
    (.binary (.unary .zero .minus (.qident [id' "p"])) .zero .star
      (.index (.qident [id' "c"]) .zero (num "1") .zero)) _ _ [] scope_ex (fun h => by cases h)
    (by decide +kernel) (by decide +kernel) (by rfl) (by rfl) C01.Stops.nil

/-- `AtomicAs` is needed: `p ↦ 1 + 2` is not atomic as `1 + 2` — `C06.C06_param_regrouped`: the writer's output
    for `p * 3` is read as `1 + (2 * 3)` -/
theorem not_atomic : ¬ AtomicAs (s "1 + 2") (.binary (num "1") .zero .plus (num "2")) := by
  intro h
  obtain ⟨s', _, N, hN⟩ := h _ rfl [] trivial
  have h1 := hN (max N 10) (Nat.le_max_left _ _)
  have h2 : Sql.pAtomS (max N 10) (toksOf [.raw (s "1 + 2")] ++ []) = some (.num (s "1"), [.sym "+", .num (s "2")]) := by
    have : toksOf [.raw (s "1 + 2")] ++ [] = [.num (s "1"), .sym "+", .num (s "2")] := by decide +kernel
    rw [this]
    have : max N 10 = (max N 10 - 1) + 1 := by omega
    rw [this]
    rfl
  rw [h2] at h1
  cases h1

end Pql.Params.Ex
