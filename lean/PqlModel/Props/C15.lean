/-
Property C15 — statement splitting agrees with the lexer and loses nothing.
-/
import PqlModel.Lemmas.LexSplit
namespace Pql.C15
open Pql

theorem splitAtSemis_length (src : Bytes) (ts : List Token) (start : Nat) :
    (splitAtSemis src ts start).length = (ts.filter (·.kind = .semi)).length + 1 := by
  induction ts generalizing start with
  | nil => simp [splitAtSemis]
  | cons t ts ih =>
    simp only [splitAtSemis]
    split
    · rename_i h; simp [h, ih]
    · rename_i h; simp [h, ih]

/-- **C15 (count).** There is exactly one more piece than semicolon tokens. -/
theorem C15_count (src : Bytes) :
    (splitStatements src).length = ((scan src).filter (·.kind = .semi)).length + 1 :=
  splitAtSemis_length src (scan src) 0

def intercalateSemi : List Bytes → Bytes
  | [] => []
  | [p] => p
  | p :: q :: ps => p ++ 59 :: intercalateSemi (q :: ps)

theorem intercalateSemi_cons (p : Bytes) {ps : List Bytes} (h : ps ≠ []) :
    intercalateSemi (p :: ps) = p ++ 59 :: intercalateSemi ps := by
  cases ps with
  | nil => exact absurd rfl h
  | cons q ps => rfl

/-- **C15 (join).** For every byte string, joining the pieces of `SplitStatements` with ';'
    restores the source byte for byte. -/
theorem C15_join (src : Bytes) : intercalateSemi (splitStatements src) = src :=
  splitStatements_induct (P := fun s ps => intercalateSemi ps = s) (fun _ _ => rfl)
    (fun u v _ _ ih => by rw [intercalateSemi_cons _ (splitStatements_ne_nil v), ih]) src

/-- **C15 (locality at a semicolon token).** If scanning `u ++ ";" ++ v` produces the semicolon
    token at the ';' after `u` (equivalently, `Reaches (u ++ 59 :: v) u.length`: the ';' is
    not swallowed by a string, quoted name or comment that starts in `u`), then the scan is the
    scan of `u`, that token, and the scan of `v`; nothing to the left of the ';' depends on
    what follows it and nothing to the right on what precedes it. -/
theorem C15_scan_local (u v : Bytes) (off : Nat)
    (h : (⟨.semi, off + u.length, off + u.length + 1, []⟩ : Token) ∈ scanFrom (u ++ 59 :: v) off) :
    scanFrom (u ++ 59 :: v) off =
      scanFrom u off ++ ⟨.semi, off + u.length, off + u.length + 1, []⟩ ::
        scanFrom v (off + u.length + 1) :=
  scanFrom_semi_split u v off ((reaches_iff_semi_mem u v off).mpr h)

/-- **C15 (pieces hold no separator).** Scanned on its own, no piece of `SplitStatements`
    contains a semicolon token: the pieces are exactly the maximal stretches between the
    semicolon tokens of the whole source. -/
theorem C15_no_semi_in_piece (src : Bytes) :
    ∀ p ∈ splitStatements src, ∀ t ∈ scan p, t.kind ≠ .semi :=
  splitStatements_induct (P := fun _ ps => ∀ p ∈ ps, ∀ t ∈ scan p, t.kind ≠ .semi)
    (fun s h p hp => by rw [List.mem_singleton.mp hp]; exact h)
    (fun u v _ hu ih p hp => by
      rcases List.mem_cons.mp hp with rfl | hp
      · exact hu
      · exact ih p hp) src

/-- Scan the pieces one after the other, the first at absolute offset `off`, each next one
    just behind the ';' that follows its predecessor, and put a semicolon token between them. -/
def rejoinTokens : Nat → List Bytes → List Token
  | _, [] => []
  | off, [p] => scanFrom p off
  | off, p :: q :: ps =>
    scanFrom p off ++ ⟨.semi, off + p.length, off + p.length + 1, []⟩ ::
      rejoinTokens (off + p.length + 1) (q :: ps)

theorem rejoinTokens_cons (off : Nat) (p : Bytes) {ps : List Bytes} (h : ps ≠ []) :
    rejoinTokens off (p :: ps) =
      scanFrom p off ++ ⟨.semi, off + p.length, off + p.length + 1, []⟩ ::
        rejoinTokens (off + p.length + 1) ps := by
  cases ps with
  | nil => exact absurd rfl h
  | cons q ps => rfl

theorem scanFrom_eq_rejoinTokens (src : Bytes) :
    ∀ off, scanFrom src off = rejoinTokens off (splitStatements src) :=
  splitStatements_induct (P := fun s ps => ∀ off, scanFrom s off = rejoinTokens off ps)
    (fun _ _ _ => rfl)
    (fun u v hr _ ih off => by
      rw [rejoinTokens_cons _ _ (splitStatements_ne_nil v), ← ih, scanFrom_semi_split u v off hr]) src

/-- **C15 (piece tokens).** The token stream of the whole source is obtained by scanning each
    piece of `SplitStatements` on its own, at the absolute offset where the piece starts
    (0 for the first piece, one past the preceding ';' for every other piece), and putting one
    semicolon token between consecutive pieces.  By `scanFrom_eq_map_scan` the scan of a piece
    at offset `o` is `scan piece` with all spans moved by `o`; by `C15_no_semi_in_piece` the
    piece scans hold no semicolon token.  Hence the tokens of the whole source between two
    consecutive semicolon tokens are exactly the tokens of the piece between them, scanned
    alone and shifted by the piece's start offset. -/
theorem C15_piece_tokens (src : Bytes) : scan src = rejoinTokens 0 (splitStatements src) :=
  scanFrom_eq_rejoinTokens src 0

theorem pieceStarts_length (src : Bytes) :
    (pieceStarts src).length = (splitStatements src).length := by
  simp [pieceStarts, C15_count]

/-- **C15 (piece tokens, by position).**  Pair every piece `p` of `SplitStatements src` with its
    start offset `o` (`pieceStarts`: 0 for the first piece, the `stop` of the preceding semicolon
    token for the others; by `pieceStarts_length` no piece is left out).  Then `p` is the
    text of `src` from `o` on, `p.length` bytes long, and the tokens of the whole scan whose
    spans lie inside `[o, o + p.length]` (`tokensWithin`) are exactly the tokens of `p` scanned
    on its own, with both span ends moved by `o` (`Token.shift`). -/
theorem C15_piece_tokens_at (src : Bytes) :
    ∀ po ∈ (splitStatements src).zip (pieceStarts src),
      (src.drop po.2).take po.1.length = po.1 ∧
      tokensWithin (scan src) po.2 po.1.length = (scan po.1).map (Token.shift po.2) := by
  refine splitStatements_induct (P := fun s ps => ∀ po ∈ ps.zip (pieceStarts s),
    (s.drop po.2).take po.1.length = po.1 ∧
      tokensWithin (scan s) po.2 po.1.length = (scan po.1).map (Token.shift po.2)) ?_ ?_ src
  · intro s h1 po hpo
    rw [pieceStarts_nosemi s h1] at hpo
    simp at hpo
    subst hpo
    simp [tokensWithin_self, map_shift_zero]
  · intro u v h2 h3 ih po hpo
    rw [pieceStarts_semi u v h2 h3, List.zip_cons_cons, List.zip_map_right] at hpo
    rcases List.mem_cons.mp hpo with hpo | hpo
    · subst hpo
      refine ⟨by simp, ?_⟩
      simp only [map_shift_zero]
      rw [scan_semi_split u v h2, tokensWithin_append, tokensWithin_self, tokensWithin_eq_nil,
        List.append_nil]
      intro t ht
      rcases List.mem_cons.mp ht with ht | ht
      · subst ht; simp
      · obtain ⟨t', _, rfl⟩ := List.mem_map.mp ht
        simp only [Token.shift_stop]; omega
    · obtain ⟨⟨p, o⟩, hmem, rfl⟩ := List.mem_map.mp hpo
      obtain ⟨ih1, ih2⟩ := ih (p, o) hmem
      simp only [Prod.map, id] at ih1 ih2 ⊢
      refine ⟨by rw [drop_semi_append, ih1], ?_⟩
      rw [scan_semi_split u v h2, tokensWithin_append, tokensWithin_eq_nil, List.nil_append]
      · have hc : tokensWithin (⟨.semi, u.length, u.length + 1, []⟩ ::
            (scan v).map (Token.shift (u.length + 1))) (o + (u.length + 1)) p.length =
            tokensWithin ((scan v).map (Token.shift (u.length + 1))) (o + (u.length + 1)) p.length := by
          simp only [tokensWithin, List.filter_cons]
          rw [if_neg (by simp; omega)]
        rw [hc, tokensWithin_map_shift, ih2, List.map_map]
        apply List.map_congr_left
        intro t _
        simp [Token.shift_shift]
      · intro t ht
        have := mem_scan_bounds u t ht
        omega

-- `[97, 59, 39, 59, 39, 59, 98]` is `a;';';b`
#guard splitStatements [97, 59, 39, 59, 39, 59, 98] = [[97], [39, 59, 39], [98]]
#guard splitStatements [59, 59] = [[], [], []]
#guard rejoinTokens 0 (splitStatements [97, 59, 39, 59, 39, 59, 98]) = scan [97, 59, 39, 59, 39, 59, 98]
#guard pieceStarts [97, 59, 39, 59, 39, 59, 98] = [0, 2, 6]
#guard intercalateSemi (splitStatements [47, 47, 59, 10, 59, 96, 59]) = [47, 47, 59, 10, 59, 96, 59]

end Pql.C15
