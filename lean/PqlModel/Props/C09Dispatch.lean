/-
Property C09, tie by translation: the control flow of `Scan`'s main loop — the tag-less `switch` on the
first rune with all its case bodies — and the shapes of `(*scanner).ident`, `(*scanner).string`,
`(*scanner).quotedIdent` are regenerated from parser/lex.go on every run (`Facts.scanCases`,
`Facts.identCont`, `Facts.stringCases`, `Facts.stringEscapes`, `Facts.quotedIdentShape`; translator
`harness/extract_lex.go`, which fails on any case body it does not recognise).
`Pql.Dispatch.interp` (Lemmas/Dispatch.lean) says what the extracted switch does rune by rune; here the
model's `scanOne` is proved equal to it on every input, and the consequences are stated table row
by table row, each for all suffixes.  An edited case, a forgotten `s.prev()`, a new comment opener
or a re-ordered pair of overlapping cases changes the tables and breaks these theorems.
-/
import PqlModel.Lemmas.DispatchScan
import PqlModel.Lemmas.DispatchSub
namespace Pql.Dispatch
open Pql
open Pql.Facts (ScanAction StrAction)
set_option linter.unusedSimpArgs false

/-- **C09 (main dispatch = the translated Go switch).**  For every byte string, one step of the
    model's scanner is exactly what the regenerated case list of `Scan` prescribes for the first
    rune: the first case (in source order) whose condition holds, executed on the suffix. -/
theorem C09_dispatch_interp (s : Bytes) : interp s = some (scanOne s) := by
  cases s with
  | nil => rfl
  | cons c rest =>
    show (select Facts.scanCases Facts.scanDefault (decodeRune (c :: rest)).1).bind (exec · (c :: rest)) = _
    by_cases h : c.toNat < 128
    · rw [decodeRune_ascii c rest h, select_ascii_byte c h]
      exact scanOne_exec_ascii c rest h
    · have hr := decodeRune_rune_ge c rest (by omega)
      rw [select_nonascii _ hr, Option.bind_some]
      simp only [scanOne, Nat.not_lt.mp h, ↓reduceIte, scanNonAscii]
      cases isSpaceRune (decodeRune (c :: rest)).1 <;> rfl

/-- the model's step is the selected case executed on the suffix -/
theorem exec_selected (c : UInt8) (rest : Bytes) (a : ScanAction)
    (h : select Facts.scanCases Facts.scanDefault (decodeRune (c :: rest)).1 = some a) :
    exec a (c :: rest) = some (scanOne (c :: rest)) := by
  have : (select Facts.scanCases Facts.scanDefault (decodeRune (c :: rest)).1).bind (exec · (c :: rest)) = _ :=
    C09_dispatch_interp (c :: rest)
  rwa [h] at this

theorem toNat_ofNat_ascii {r : Nat} (hr : r < 128) : (UInt8.ofNat r).toNat = r := by
  rw [UInt8.toNat_ofNat']; omega

/-- … with the first rune given as the ASCII code `r` of a table row -/
theorem exec_selected_ascii (r : Nat) (hr : r < 128) (rest : Bytes) (a : ScanAction)
    (h : select Facts.scanCases Facts.scanDefault r = some a) :
    (UInt8.ofNat r).toNat < 128 ∧ exec a (UInt8.ofNat r :: rest) = some (scanOne (UInt8.ofNat r :: rest)) := by
  have hb : (UInt8.ofNat r).toNat < 128 := by rw [toNat_ofNat_ascii hr]; exact hr
  refine ⟨hb, exec_selected _ rest a ?_⟩
  rw [decodeRune_ascii _ rest hb, toNat_ofNat_ascii hr]
  exact h

/-- a case that builds a token from a kind name yielded the model's step, so the name is a kind: the rows below need no
    evaluation of `TokKind.ofGoName` -/
theorem sym_of_map {k : String} {w : Nat} {st : Step} (h : (TokKind.ofGoName k).map (Step.sym · w) = some st) :
    ∃ kind, TokKind.ofGoName k = some kind ∧ st = ⟨some (kind, []), w⟩ := by
  cases hk : TokKind.ofGoName k with
  | none => rw [hk] at h; cases h
  | some kind => rw [hk] at h; exact ⟨kind, rfl, (Option.some.inj h).symm⟩

/-- rune → kind of the cases that build a token without look-ahead -/
def singleTable : List (Nat × String) :=
  Facts.scanCases.flatMap fun p => match p.2.2 with
    | .single k => p.2.1.map (·, k)
    | _ => []

/-- (first rune, [(second rune, kind)], fallback kind, second rune given back?) -/
def twoTable : List (Nat × List (Nat × String) × String × Bool) :=
  Facts.scanCases.flatMap fun p => match p.2.2 with
    | .two secs fb u => p.2.1.map (·, secs, fb, u)
    | _ => []

/-- (first rune, opener, terminator, kind at EOF, kind otherwise, second rune given back?) -/
def commentTable : List (Nat × Nat × Nat × String × String × Bool) :=
  Facts.scanCases.flatMap fun p => match p.2.2 with
    | .comment op t ke ko u => p.2.1.map (·, op, t, ke, ko, u)
    | _ => []

/-- (classes, runes, sub-scanner) -/
def subTable : List (List String × List Nat × String) :=
  Facts.scanCases.filterMap fun p => match p.2.2 with
    | .sub m => some (p.1, p.2.1, m)
    | _ => none

/-- the tables written out, as property C09 states the language (the one- and two-character operators, `//`, the four
    sub-scanners; order of the rows = order of the cases) -/
theorem C09_dispatch_tables :
    singleTable = [(44, "TokenComma"), (124, "TokenPipe"), (40, "TokenLParen"), (41, "TokenRParen"),
      (91, "TokenLBracket"), (93, "TokenRBracket"), (43, "TokenPlus"), (45, "TokenMinus"), (42, "TokenStar"),
      (37, "TokenMod"), (59, "TokenSemi")] ∧
    twoTable = [(61, [(61, "TokenEq"), (126, "TokenCaseInsensitiveEq")], "TokenAssign", true),
      (33, [(61, "TokenNE"), (126, "TokenCaseInsensitiveNE")], "TokenError", true),
      (60, [(61, "TokenLE")], "TokenLT", true), (62, [(61, "TokenGE")], "TokenGT", true)] ∧
    commentTable.map (fun p => (p.1, p.2.1, p.2.2.1)) = [(47, 47, 10)] ∧
    commentTable.map (fun p => p.2.2.2) = [("TokenSlash", "TokenSlash", true)] ∧
    subTable = [(["isAlpha"], [95, 36], "ident"), (["isDigit"], [46], "numberOrDot"),
      ([], [34, 39], "string"), ([], [96], "quotedIdent")] :=
  ⟨rfl, rfl, rfl, rfl, rfl⟩

/-- the order of the cases (conditions only), white space first -/
theorem C09_dispatch_case_order :
    Facts.scanCases.map (fun p => (p.1, p.2.1)) =
      [(["unicode.IsSpace"], []), (["isAlpha"], [95, 36]), (["isDigit"], [46]), ([], [44]), ([], [34, 39]),
       ([], [96]), ([], [124]), ([], [40]), ([], [41]), ([], [91]), ([], [93]), ([], [61]), ([], [33]),
       ([], [43]), ([], [45]), ([], [42]), ([], [47]), ([], [37]), ([], [60]), ([], [62]), ([], [59])] ∧
    Facts.scanDefault = .error :=
  ⟨rfl, rfl⟩

/-- the conditions of the cases are pairwise disjoint on ASCII runes: at most one holds … -/
theorem C09_dispatch_disjoint_ascii : ∀ n, n < 128 →
    (Facts.scanCases.filter fun p => condHolds p.1 p.2.1 n == some true).length ≤ 1 := by decide +kernel

/-- … and a rune ≥ 0x80 satisfies no condition except possibly `unicode.IsSpace`.  So in the current
    source the order of the cases does not influence the result (moving a case is behaviour-preserving;
    only `C09_dispatch_case_order` notices it). -/
theorem C09_dispatch_disjoint_nonascii (r : Nat) (hr : 128 ≤ r) :
    ∀ p ∈ Facts.scanCases.tail, condHolds p.1 p.2.1 r = some false := by
  intro p hp
  exact condHolds_nonascii p ((List.all_eq_true.mp scanCases_tail_ascii) p hp) r hr

theorem singleTable_select :
    ∀ p ∈ singleTable, p.1 < 128 ∧ select Facts.scanCases Facts.scanDefault p.1 = some (.single p.2) := by
  decide +kernel

/-- **single-rune tokens.**  For every row (rune, kind) of the regenerated table and every suffix,
    the model yields exactly that kind, empty value, width = the rune's width 1. -/
theorem C09_dispatch_single (r : Nat) (k : String) (h : (r, k) ∈ singleTable) (rest : Bytes) :
    ∃ kind, TokKind.ofGoName k = some kind ∧ scanOne (UInt8.ofNat r :: rest) = ⟨some (kind, []), 1⟩ := by
  obtain ⟨hr, hsel⟩ := singleTable_select (r, k) h
  obtain ⟨hb, this⟩ := exec_selected_ascii r hr rest _ hsel
  rw [exec_single_ascii _ _ rest hb] at this
  exact sym_of_map this

theorem twoTable_facts :
    ∀ p ∈ twoTable, p.1 < 128 ∧
      select Facts.scanCases Facts.scanDefault p.1 = some (.two p.2.1 p.2.2.1 p.2.2.2) ∧
      p.2.2.2 = true ∧ (∀ q ∈ p.2.1, q.1 < 128) ∧ (p.2.1.map (·.1)).Nodup := by decide +kernel

/-- the step of the model on `first :: rest` for a two-rune row, as `exec` computes it -/
theorem two_step (first : Nat) (secs : List (Nat × String)) (fb : String) (u : Bool)
    (h : (first, secs, fb, u) ∈ twoTable) (rest : Bytes) :
    (UInt8.ofNat first).toNat < 128 ∧
    exec (.two secs fb u) (UInt8.ofNat first :: rest) = some (scanOne (UInt8.ofNat first :: rest)) := by
  obtain ⟨hr, hsel, -⟩ := twoTable_facts _ h
  exact exec_selected_ascii first hr rest _ hsel

/-- **two-rune operators, nothing follows**: the fallback kind ("TokenError" for `!`) over one rune -/
theorem C09_dispatch_two_eof (first : Nat) (secs : List (Nat × String)) (fb : String) (u : Bool)
    (h : (first, secs, fb, u) ∈ twoTable) :
    ∃ kind, TokKind.ofGoName fb = some kind ∧ scanOne [UInt8.ofNat first] = ⟨some (kind, []), 1⟩ := by
  obtain ⟨hb, this⟩ := two_step first secs fb u h []
  rw [exec_two_eof _ _ _ _ hb] at this
  exact sym_of_map this

/-- **two-rune operators, a listed second rune follows**: that row's kind over both runes -/
theorem C09_dispatch_two_match (first : Nat) (secs : List (Nat × String)) (fb : String) (u : Bool)
    (h : (first, secs, fb, u) ∈ twoTable) (sec : Nat) (k : String) (hs : (sec, k) ∈ secs) (rest : Bytes) :
    ∃ kind, TokKind.ofGoName k = some kind ∧
      scanOne (UInt8.ofNat first :: UInt8.ofNat sec :: rest) = ⟨some (kind, []), 2⟩ := by
  obtain ⟨-, -, hu, hall, hnd⟩ := twoTable_facts _ h
  simp only at hu hall hnd
  -- the first row with this key is this row (keys are distinct)
  have hfind : secs.find? (fun p => p.1 == (UInt8.ofNat sec).toNat) = some (sec, k) := by
    rw [toNat_ofNat_ascii (hall _ hs)]
    clear hall h
    induction secs with
    | nil => cases hs
    | cons q qs ih =>
      simp only [List.map_cons, List.nodup_cons] at hnd
      rcases List.mem_cons.mp hs with rfl | hm
      · simp
      · have hne : q.1 ≠ sec := fun e => hnd.1 (e ▸ List.mem_map_of_mem (f := (·.1)) hm)
        simp only [List.find?_cons, beq_eq_false_iff_ne.mpr hne]
        exact ih hm hnd.2
  subst hu
  obtain ⟨hb, this⟩ := two_step first secs fb true h (UInt8.ofNat sec :: rest)
  rw [exec_two_next secs hall fb _ _ rest hb, hfind] at this
  exact sym_of_map this

/-- **two-rune operators, another byte follows**: the fallback kind over ONE rune — the second rune
    is given back (`if ok { s.prev() }`), whatever it is (including a byte ≥ 0x80) -/
theorem C09_dispatch_two_other (first : Nat) (secs : List (Nat × String)) (fb : String) (u : Bool)
    (h : (first, secs, fb, u) ∈ twoTable) (d : UInt8) (hd' : d.toNat ∉ secs.map (·.1)) (rest : Bytes) :
    ∃ kind, TokKind.ofGoName fb = some kind ∧
      scanOne (UInt8.ofNat first :: d :: rest) = ⟨some (kind, []), 1⟩ := by
  obtain ⟨-, -, hu, hall, -⟩ := twoTable_facts _ h
  simp only at hu hall
  have hfind : secs.find? (fun p => p.1 == d.toNat) = none := by
    rw [List.find?_eq_none]
    intro q hq' e
    exact hd' (beq_iff_eq.mp e ▸ List.mem_map_of_mem (f := (·.1)) hq')
  subst hu
  obtain ⟨hb, this⟩ := two_step first secs fb true h (d :: rest)
  rw [exec_two_next secs hall fb _ d rest hb, hfind] at this
  exact sym_of_map this

theorem commentTable_facts :
    ∀ p ∈ commentTable, p.1 < 128 ∧ p.2.1 < 128 ∧ p.2.2.1 = 10 ∧
      select Facts.scanCases Facts.scanDefault p.1 = some (.comment p.2.1 p.2.2.1 p.2.2.2.1 p.2.2.2.2.1 p.2.2.2.2.2) ∧
      p.2.2.2.2.2 = true := by decide +kernel

theorem comment_step (first op t : Nat) (ke ko : String) (u : Bool)
    (h : (first, op, t, ke, ko, u) ∈ commentTable) (rest : Bytes) :
    (UInt8.ofNat first).toNat < 128 ∧
    exec (.comment op t ke ko u) (UInt8.ofNat first :: rest) = some (scanOne (UInt8.ofNat first :: rest)) := by
  obtain ⟨hr, -, -, hsel, -⟩ := commentTable_facts _ h
  exact exec_selected_ascii first hr rest _ hsel

/-- **comment opener followed by the opener**: no token; everything up to and including the next
    newline byte, or to the end of the input, is consumed (`commentLen`, proved equal to the rune loop
    of the Go code in `runesUntil_newline`) -/
theorem C09_dispatch_comment (first op t : Nat) (ke ko : String) (u : Bool)
    (h : (first, op, t, ke, ko, u) ∈ commentTable) (rest : Bytes) :
    scanOne (UInt8.ofNat first :: UInt8.ofNat op :: rest) = ⟨none, commentLen rest + 2⟩ := by
  obtain ⟨-, hop, ht, -⟩ := commentTable_facts _ h
  simp only at hop ht
  subst ht
  obtain ⟨hb, this⟩ := comment_step first op 10 ke ko u h (UInt8.ofNat op :: rest)
  rw [exec_comment_open op ke ko u _ _ rest hb hop (toNat_ofNat_ascii hop)] at this
  exact (Option.some.inj this).symm

/-- **comment opener at the end of the input, or followed by another byte**: the listed kind
    (Slash) over one rune; the byte read ahead is given back -/
theorem C09_dispatch_comment_other (first op t : Nat) (ke ko : String) (u : Bool)
    (h : (first, op, t, ke, ko, u) ∈ commentTable) :
    (∃ kind, TokKind.ofGoName ke = some kind ∧ scanOne [UInt8.ofNat first] = ⟨some (kind, []), 1⟩) ∧
    ∀ (d : UInt8) (rest : Bytes), d.toNat ≠ op →
      ∃ kind, TokKind.ofGoName ko = some kind ∧
        scanOne (UInt8.ofNat first :: d :: rest) = ⟨some (kind, []), 1⟩ := by
  obtain ⟨-, hop, -, -, hu⟩ := commentTable_facts _ h
  simp only at hop hu
  subst hu
  constructor
  · obtain ⟨hb, this⟩ := comment_step first op t ke ko true h []
    rw [exec_comment_eof _ _ _ _ _ _ hb] at this
    exact sym_of_map this
  · intro d rest hne
    obtain ⟨hb, this⟩ := comment_step first op t ke ko true h (d :: rest)
    rw [exec_comment_other op t ke ko _ d rest hb hop hne] at this
    exact sym_of_map this

/-- which ASCII bytes start which sub-scanner, and which are skipped: the regenerated conditions
    coincide with the model's predicates -/
theorem C09_dispatch_classes : ∀ n, n < 128 →
    let c := UInt8.ofNat n
    let sel := select Facts.scanCases Facts.scanDefault n
    (sel = some .skip ↔ isAsciiSpace c = true) ∧
    (sel = some (.sub "ident") ↔ isIdentStart c = true) ∧
    (sel = some (.sub "numberOrDot") ↔ (isDigit c || c == 46) = true) ∧
    (sel = some (.sub "string") ↔ (c == 34 || c == 39) = true) ∧
    (sel = some (.sub "quotedIdent") ↔ (c == 96) = true) := by decide +kernel

/-- **sub-scanners**: whenever the regenerated switch selects `s.prev(); … s.m()` for the first rune,
    the model's step is the lexeme of the model's sub-scanner `m` on the whole suffix -/
theorem C09_dispatch_sub (c : UInt8) (rest : Bytes) (m : String)
    (h : select Facts.scanCases Facts.scanDefault (decodeRune (c :: rest)).1 = some (.sub m)) :
    ∃ l, subScanner m (c :: rest) = some l ∧ scanOne (c :: rest) = .ofLexeme l := by
  have := exec_selected c rest _ h
  cases hs : subScanner m (c :: rest) with
  | none => rw [exec, hs] at this; cases this
  | some l => rw [exec, hs] at this; exact ⟨l, rfl, (Option.some.inj this).symm⟩

/-- **white space is tested first**: a first rune in `unicode.IsSpace` is skipped (its full width),
    whatever the other cases say -/
theorem C09_dispatch_space (c : UInt8) (rest : Bytes) (h : isSpaceRune (decodeRune (c :: rest)).1 = true) :
    scanOne (c :: rest) = ⟨none, (decodeRune (c :: rest)).2⟩ := by
  have hsel : select Facts.scanCases Facts.scanDefault (decodeRune (c :: rest)).1 = some .skip := by
    rw [select_scanCases, h]; rfl
  exact (Option.some.inj (exec_selected c rest _ hsel)).symm

/-- **default**: a first rune for which no condition holds gives an error token of the rune's width -/
theorem C09_dispatch_default (c : UInt8) (rest : Bytes)
    (h : select Facts.scanCases Facts.scanDefault (decodeRune (c :: rest)).1 = some .error) :
    scanOne (c :: rest) = ⟨some (.error, []), (decodeRune (c :: rest)).2⟩ := by
  exact (Option.some.inj (exec_selected c rest _ h)).symm

/-- the runes that reach the default: every rune ≥ 0x80 that is not white space, and these ASCII runes -/
theorem C09_dispatch_default_runes :
    (∀ r, 128 ≤ r → isSpaceRune r = false → select Facts.scanCases Facts.scanDefault r = some .error) ∧
    ((List.range 128).filter fun n => select Facts.scanCases Facts.scanDefault n == some .error) =
      [0, 1, 2, 3, 4, 5, 6, 7, 8, 14, 15, 16, 17, 18, 19, 20, 21, 22, 23, 24, 25, 26, 27, 28, 29, 30, 31,
       35, 38, 58, 63, 64, 92, 94, 123, 125, 126, 127] := by
  constructor
  · intro r hr hs
    rw [select_nonascii r hr, hs]; rfl
  · decide +kernel

/-- **identifiers**: `scanIdent` = first byte unchecked, the regenerated continuation class, the
    regenerated default kind, the keyword table with the value cleared -/
theorem C09_ident_interp (s : Bytes) : identInterp s = some (scanIdent s) := by
  unfold identInterp scanIdent keywordKind
  simp only [identLoopI_eq, identKind_eq]
  cases hf : Facts.keywords.find? (fun kv => Bytes.ofString kv.1 == List.take (identLoop s.tail + 1) s) with
  | none => simp
  | some kv =>
    have hm := List.mem_of_find?_eq_some hf
    have := (List.all_eq_true.mp keyword_kinds_known) kv hm
    cases hk : TokKind.ofGoName kv.2 with
    | none => simp [hk] at this
    | some k => simp [hk, Facts.identKeywordClearsValue]

/-- the continuation class as the documentation states it: letters, digits, `_` — and not `$`,
    which is accepted only as the FIRST rune (`Scan`'s case) -/
theorem C09_ident_classes :
    Facts.identCont = (["isAlpha", "isDigit"], [95]) ∧
    (∀ c : UInt8, identContByte c = some (isIdentCont c)) ∧
    isIdentStart 36 = true ∧ isIdentCont 36 = false := by
  refine ⟨rfl, identContByte_eq, by decide, by decide⟩

/-- `$` continues no identifier: `a$b` is three tokens' worth of steps, the first of width 1 -/
theorem C09_ident_dollar_only_first (rest : Bytes) :
    (scanIdent (97 :: 36 :: rest)).width = 1 ∧ (scanIdent (36 :: 97 :: 36 :: rest)).width = 2 := by
  constructor <;> simp (config := { decide := true }) [scanIdent, identLoop, keywordKind] <;> split <;> rfl

/-- **string literals**: the loop of the model = the two regenerated switches (outer: closing quote,
    newline, backslash, default copy; escape: newline, `n`, `t`, default copy), for every opening
    byte and every suffix -/
theorem C09_string_interp (q : UInt8) (s : Bytes) : strInterp q s = some (stringLoop q s) := by
  induction hn : s.length using Nat.strongRecOn generalizing s with
  | _ n ih =>
    cases s with
    | nil => rfl
    | cons c rest =>
      rw [strInterp.eq_def, stringLoop.eq_def]
      simp only [strSelect_outer]
      by_cases h1 : c = q
      · simp [h1]
      simp only [beq_iff_eq, h1, ↓reduceIte]
      by_cases h2 : c = 10
      · simp [h2]
      simp only [h2, ↓reduceIte]
      by_cases h3 : c = 92
      · simp only [h3, ↓reduceIte]
        cases rest with
        | nil => rfl
        | cons e rest' =>
          simp only [strSelect_escape]
          have ihr := ih rest'.length (by simp at hn; omega) rest' rfl
          by_cases g1 : e = 10
          · simp [g1]
          by_cases g2 : e = 110
          · subst g2; simp [ihr]
          by_cases g3 : e = 116
          · subst g3; simp [ihr]
          simp [g1, g2, g3, ihr]
      · simp only [h3, ↓reduceIte]
        rw [ih rest.length (by simp at hn; omega) rest rfl]
        rfl

/-- the escape table as the documentation states it; every label is ASCII; the quotes `string()`
    accepts are exactly the runes of `Scan`'s string case -/
theorem C09_string_tables :
    Facts.stringCases = [(none, .close), (some 10, .bad true), (some 92, .escape)] ∧
    Facts.stringDefault = .copy ∧
    Facts.stringEscapes = [(some 10, .bad true), (some 110, .rune 10), (some 116, .rune 9)] ∧
    Facts.stringEscapeDefault = .copy ∧
    (∀ m ∈ subTable, m.2.2 = "string" → m.1 = [] ∧
      (m.2.1.all (· ∈ Facts.stringQuotes) && Facts.stringQuotes.all (· ∈ m.2.1)) = true) :=
  ⟨rfl, rfl, rfl, rfl, by decide +kernel⟩

/-- **quoted identifiers**: the loop of the model = the regenerated shape (closer doubled = one
    closer in the name; closer = end; newline = error with the newline given back) -/
theorem C09_qident_interp (s : Bytes) : qidentInterp s = qidentLoop s := by
  induction hn : s.length using Nat.strongRecOn generalizing s with
  | _ n ih =>
    cases s with
    | nil => rfl
    | cons c rest =>
      have e96 (x : UInt8) : (x.toNat == 96) = (x == 96) := by rw [beq_iff_toNat]; rfl
      have e10 (x : UInt8) : (x.toNat == 10) = (x == 10) := by rw [beq_iff_toNat]; rfl
      rw [qidentInterp.eq_def, qidentLoop.eq_def]
      simp only [Facts.quotedIdentShape, e96, e10]
      by_cases h1 : c = 96
      · subst h1
        cases rest with
        | nil => rfl
        | cons d rest' =>
          by_cases h2 : d = 96
          · subst h2
            simp [ih rest'.length (by simp at hn; omega) rest' rfl]
          · simp [h2]
      · simp only [beq_iff_eq, h1, ↓reduceIte]
        by_cases h2 : c = 10
        · simp [h2]
        · simp [h2, ih rest.length (by simp at hn; omega) rest rfl]

theorem C09_qident_table : Facts.quotedIdentShape = (96, 96, (10, true)) ∧
    (∀ m ∈ subTable, m.2.2 = "quotedIdent" → m.1 = [] ∧ m.2.1 = [Facts.quotedIdentShape.1]) :=
  ⟨rfl, by decide +kernel⟩

/-- `C09_dispatch_two_other` without `d ∉ seconds`: false — after `=` a second `=` is consumed -/
theorem C09_dispatch_two_other_needs_hyp :
    (61, [(61, "TokenEq"), (126, "TokenCaseInsensitiveEq")], "TokenAssign", true) ∈ twoTable ∧
    scanOne (61 :: 61 :: []) = ⟨some (.eq, []), 2⟩ := by decide +kernel

/-- `C09_dispatch_comment_other` without `d ≠ opener`: false — `//` is a comment, no token -/
theorem C09_dispatch_comment_other_needs_hyp :
    (47, 47, 10, "TokenSlash", "TokenSlash", true) ∈ commentTable ∧ scanOne (47 :: 47 :: []) = ⟨none, 2⟩ := by
  decide +kernel

/-- `C09_dispatch_sub` / `C09_dispatch_default` without their hypothesis on the selected case: a digit
    is neither an identifier start nor an error -/
theorem C09_dispatch_sub_needs_hyp :
    select Facts.scanCases Facts.scanDefault (decodeRune [49]).1 = some (.sub "numberOrDot") ∧
    scanOne [49] ≠ .ofLexeme (scanIdent [49]) ∧ scanOne [49] ≠ ⟨some (.error, []), 1⟩ := by decide +kernel

/-- `C09_dispatch_space` without the white-space hypothesis: `a` is not skipped -/
theorem C09_dispatch_space_needs_hyp : isSpaceRune (decodeRune [97]).1 = false ∧ scanOne [97] ≠ ⟨none, 1⟩ := by
  decide +kernel

/-- instances (every hypothesis is satisfiable): `<=x`, `!~`, `!` alone, `<é`, `;`, `// c⏎x`, U+00A0, `#` -/
theorem C09_dispatch_demo (rest : Bytes) :
    scanOne (60 :: 61 :: rest) = ⟨some (.le, []), 2⟩ ∧
    scanOne (33 :: 126 :: rest) = ⟨some (.cine, []), 2⟩ ∧
    scanOne [33] = ⟨some (.error, []), 1⟩ ∧
    scanOne (60 :: 0xC3 :: 0xA9 :: rest) = ⟨some (.lt, []), 1⟩ ∧
    scanOne (59 :: rest) = ⟨some (.semi, []), 1⟩ ∧
    scanOne (47 :: 47 :: 32 :: 99 :: 10 :: rest) = ⟨none, 5⟩ ∧
    scanOne (0xC2 :: 0xA0 :: rest) = ⟨none, 2⟩ ∧
    scanOne (35 :: rest) = ⟨some (.error, []), 1⟩ := by
  have t := C09_dispatch_tables
  refine ⟨?_, ?_, ?_, ?_, ?_, ?_, ?_, ?_⟩
  · obtain ⟨k, hk, h⟩ := C09_dispatch_two_match 60 [(61, "TokenLE")] "TokenLT" true (by rw [t.2.1]; decide) 61 "TokenLE"
      (by decide) rest
    have : k = .le := (Option.some.inj ((ofGoName_goName .le).symm.trans hk)).symm
    subst this; exact h
  · obtain ⟨k, hk, h⟩ := C09_dispatch_two_match 33 _ "TokenError" true
      (by rw [t.2.1]; exact List.mem_cons_of_mem _ List.mem_cons_self) 126 "TokenCaseInsensitiveNE" (by decide) rest
    have : k = .cine := (Option.some.inj ((ofGoName_goName .cine).symm.trans hk)).symm
    subst this; exact h
  · decide
  · obtain ⟨k, hk, h⟩ := C09_dispatch_two_other 60 [(61, "TokenLE")] "TokenLT" true (by rw [t.2.1]; decide) 0xC3
      (by decide) (0xA9 :: rest)
    have : k = .lt := (Option.some.inj ((ofGoName_goName .lt).symm.trans hk)).symm
    subst this; exact h
  · obtain ⟨k, hk, h⟩ := C09_dispatch_single 59 "TokenSemi" (by rw [t.1]; decide) rest
    have : k = .semi := (Option.some.inj ((ofGoName_goName .semi).symm.trans hk)).symm
    subst this; exact h
  · have := C09_dispatch_comment 47 47 10 "TokenSlash" "TokenSlash" true (by decide) (32 :: 99 :: 10 :: rest)
    simpa [commentLen] using this
  · have hd : decodeRune (0xC2 :: 0xA0 :: rest) = (0xA0, 2) := by
      simp [decodeRune_cons, decodeMulti, isCont]
    have := C09_dispatch_space 0xC2 (0xA0 :: rest) (by rw [hd]; decide)
    rw [hd] at this; exact this
  · have hd : decodeRune (35 :: rest) = (35, 1) := decodeRune_ascii 35 rest (by decide)
    have := C09_dispatch_default 35 rest (by rw [hd]; decide)
    rw [hd] at this; exact this

end Pql.Dispatch
