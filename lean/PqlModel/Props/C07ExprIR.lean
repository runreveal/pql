/-
Property C07, tie by translation: the EXPRESSION parser of parser/parser.go.

`harness/extract_exprparse.go` regenerates on every run, from the go/ast of parser/parser.go, an IR of twelve
functions (`Facts.exprParseIR`, `Facts.exprParseParams`, `Facts.exprParseResults`): the productions `expr`,
`exprBinaryTrail`, `unaryExpr`, `primaryExpr`, `innerPrimaryExpr`, `exprList`, `qualifiedIdent`, `ident`
and the cursor `next`, `prev`, `split`, `endSplit` — local variables with Go's block scoping, `:=` / `=` /
`x++`, multi-valued calls of the cursor-moving methods, `sub := p.split(k)` and calls on the sub-parser,
AST nodes built field by field (`&T{…}`, `idx.Index, err = …`, `qid.Parts = append(…)`), `if` / `else` /
`switch` (as if-chains), `for`, labelled `break`, `continue`, early `return`, `panic`, the error algebra
as pure calls.  `Model/ExprParseIR.lean` interprets the IR (see its header for the two readings of a
`*parser` and for the budget); this file proves that the hand-written productions of Model/Parse.lean
ARE the interpretation of the regenerated IR.  The cursor, interpreted on the Go fields (token slice and
integer position), is "tokens from `pos` on, one-token push-back, sticky EOF", the abstraction every
production is interpreted on; for EVERY fuel, source length, EOF value, token list and sub-parser kind the
interpretation of a production either runs out of its budget or returns exactly the model's value, errors
and rest; never a panic, never `stuck`.

A changed Go statement changes a regenerated unit, and the `…IR_ir` fact of that unit
(Lemmas/ExprParseIRUnits.lean: decoded unit = expected tree) stops being true; a new statement shape makes
the translator refuse.

Budget.  The agreement carries the bound under which the model's own fuel suffices
(`4 * tokens + rank`, Lemmas/ParseFuelExpr.lean): the interpretation can answer `Out.fuel` only BELOW it
(`C07_expr_ir_fuel_only_below`), so with at least that much fuel — in particular with the fuel the entry
points supply, `fuelFor n = 8 * n + 32` for a statement of `n` tokens (`C07_expr_ir_entry`) — the
interpretation EQUALS the model, no `∨ Out.fuel` (`C07_…_ir_exact`).  `tools/exprparseir_check.lean`
compares the two at the driver level, including below the bound.

Everything about the six productions is `level_all` (the induction over the fuel, steps in Lemmas/ExprParseIR*.lean)
read through `Agree.weak` / `Agree.exact`; the statements spell the model's context `⟨c.srcLen⟩`, which is the
`c.pctx` of the lemmas by `rfl`.  A `C07_x := x` below puts a theorem of Lemmas/ExprParseIR*.lean under the property's name.
-/
import PqlModel.Lemmas.ExprParseIRInner
import PqlModel.Lemmas.ExprParseIRProd
import PqlModel.Lemmas.ExprParseIRTrail
namespace Pql.ExprParseIR
open Pql

theorem Agree.weak {α : Type} {b : Prop} {o : Out α} {v : α} (h : Agree b o v) : o = .fuel ∨ o = .ok v :=
  h.imp And.right id

theorem Agree.exact {α : Type} {b : Prop} {o : Out α} {v : α} (hb : b) (h : Agree b o v) : o = .ok v :=
  h.resolve_left fun hn => hn.1 hb

theorem level_succ (c : ICtx) (F : Nat) (ih : Below c F) : Level c (F + 1) where
  inner := inner_step c F (ih F (Nat.le_refl F))
  primary := primary_step c F (ih F (Nat.le_refl F))
  unary := unary_step c F (ih F (Nat.le_refl F))
  trail := trail_step c F ih
  expr := expr_step c F (ih F (Nat.le_refl F))
  exprList := exprList_step c F ih

theorem level_all (c : ICtx) (F : Nat) : Level c F := by
  induction F using Nat.strongRecOn with
  | _ F ih =>
    cases F with
    | zero => exact level_zero c
    | succ F => exact level_succ c F fun F' h => ih F' (by omega)

theorem C07_next_ir (c : ICtx) (toks : List Token) (pos : Nat) :
    runCursor c "next" toks pos =
      .ok ([.tok (nextTokV ⟨c.srcLen, Bytes.ofString "EOF"⟩ (toks.drop pos)).1,
            .bool (nextTokV ⟨c.srcLen, Bytes.ofString "EOF"⟩ (toks.drop pos)).2.1],
           .cparser toks (nextPos toks pos)) := next_ir c toks pos

theorem C07_prev_ir (c : ICtx) (toks : List Token) (pos : Nat) :
    runCursor c "prev" toks pos = .ok ([], .cparser toks (prevPos toks pos)) := prev_ir c toks pos

/-- **C07 (one-token push-back).**  In terms of "the tokens from `pos` on": `next` leaves the tail (nothing
    at the end), and `prev` directly after `next` restores what was there. -/
theorem C07_pushback (c : ICtx) (toks : List Token) (pos : Nat) :
    toks.drop (nextPos toks pos) = (nextTokV c (toks.drop pos)).2.2 ∧
    toks.drop (prevPos toks (nextPos toks pos)) = toks.drop pos :=
  ⟨next_rest c toks pos, prev_after_next toks pos⟩

theorem C07_eof_sticky (toks : List Token) (pos : Nat) (h : toks.length ≤ pos) :
    prevPos toks (nextPos toks pos) = toks.length + 1 ∧ nextPos toks (nextPos toks pos) = toks.length + 1 :=
  eof_sticky toks pos h

theorem C07_endSplit_ir (c : ICtx) (p : PState) :
    runEndSplit c p = .ok ([.err (endSplitP p)], { p with back := none }) := endSplit_ir c p

/-- on a parser made by `split` the translated `endSplit` is the model's `endSplit` -/
theorem C07_endSplit_model (c : ICtx) (rest : List Token) (k : TokKind) :
    runEndSplit c ⟨rest, none, some k⟩ = .ok ([.err (endSplit rest)], ⟨rest, none, some k⟩) := endSplit_ir c _

/-- … and on a parser that was not made by `split` it is the positionless "internal error", which the
    model's `endSplit` does not have -/
theorem C07_endSplit_not_split (c : ICtx) (rest : List Token) :
    runEndSplit c ⟨rest, none, none⟩ = .ok ([.err errNoPos], ⟨rest, none, none⟩) := endSplit_ir c _

theorem C07_ident_ir (c : ICtx) (p : PState) :
    runIdent c p =
      .ok ([.ident (pIdent c.pctx p.rest).val, .err (pIdent c.pctx p.rest).errs],
           { p with rest := (pIdent c.pctx p.rest).rest, back := none }) := ident_ir c p

theorem C07_qualifiedIdent_ir (c : ICtx) (p : PState) :
    runQualifiedIdent c p =
      .ok ([.qid (pQualifiedIdent c.pctx p.rest).val, .err (pQualifiedIdent c.pctx p.rest).errs],
           { p with rest := (pQualifiedIdent c.pctx p.rest).rest, back := none }) := qualifiedIdent_ir c p

theorem C07_split_ir (c : ICtx) (p : PState) (k : TokKind) (hs : k ≠ .lparen ∧ k ≠ .lbracket) :
    runSplit c p k =
      .ok ([.parser ⟨(split k p.rest).1, none, some k⟩], { p with rest := (split k p.rest).2, back := none }) :=
  split_ir c p k hs

/-- the hypothesis cannot be dropped (and is not vacuous: the parser asks for `)`, `]`, `|`, …) -/
theorem C07_split_ir_needs_search (c : ICtx) :
    let lp : Token := ⟨.lparen, 0, 1, []⟩
    runSplit c ⟨[lp], none, none⟩ .lparen = .ok ([.parser ⟨[], none, some .lparen⟩], ⟨[lp], none, none⟩) ∧
    split .lparen [lp] = ([lp], []) := split_ir_needs_search c

theorem C07_split_ir_nonvacuous : (TokKind.rparen ≠ .lparen ∧ TokKind.rparen ≠ .lbracket) ∧
    (TokKind.rbracket ≠ .lparen ∧ TokKind.rbracket ≠ .lbracket) ∧ (TokKind.pipe ≠ .lparen ∧ TokKind.pipe ≠ .lbracket) := by
  decide

theorem C07_innerPrimaryExpr_ir (c : ICtx) (F : Nat) (ts : List Token) (sk : Option TokKind) :
    runUnit c F "innerPrimaryExpr" [] ⟨ts, none, sk⟩ = .fuel ∨
    runUnit c F "innerPrimaryExpr" [] ⟨ts, none, sk⟩ =
      .ok ([.expr (pInner ⟨c.srcLen⟩ F ts).val, .err (pInner ⟨c.srcLen⟩ F ts).errs],
           ⟨(pInner ⟨c.srcLen⟩ F ts).rest, none, sk⟩) := Agree.weak ((level_all c F).inner ts sk)

theorem C07_primaryExpr_ir (c : ICtx) (F : Nat) (ts : List Token) (sk : Option TokKind) :
    runUnit c F "primaryExpr" [] ⟨ts, none, sk⟩ = .fuel ∨
    runUnit c F "primaryExpr" [] ⟨ts, none, sk⟩ =
      .ok ([.expr (pPrimary ⟨c.srcLen⟩ F ts).val, .err (pPrimary ⟨c.srcLen⟩ F ts).errs],
           ⟨(pPrimary ⟨c.srcLen⟩ F ts).rest, none, sk⟩) := Agree.weak ((level_all c F).primary ts sk)

theorem C07_unaryExpr_ir (c : ICtx) (F : Nat) (ts : List Token) (sk : Option TokKind) :
    runUnit c F "unaryExpr" [] ⟨ts, none, sk⟩ = .fuel ∨
    runUnit c F "unaryExpr" [] ⟨ts, none, sk⟩ =
      .ok ([.expr (pUnary ⟨c.srcLen⟩ F ts).val, .err (pUnary ⟨c.srcLen⟩ F ts).errs],
           ⟨(pUnary ⟨c.srcLen⟩ F ts).rest, none, sk⟩) := Agree.weak ((level_all c F).unary ts sk)

theorem C07_exprBinaryTrail_ir (c : ICtx) (F : Nat) (x : Expr) (m : Int) (ts : List Token) (sk : Option TokKind) :
    runUnit c F "exprBinaryTrail" [.expr x, .int m] ⟨ts, none, sk⟩ = .fuel ∨
    runUnit c F "exprBinaryTrail" [.expr x, .int m] ⟨ts, none, sk⟩ =
      .ok ([.expr (pTrail ⟨c.srcLen⟩ F x m [] ts).val, .err (pTrail ⟨c.srcLen⟩ F x m [] ts).errs],
           ⟨(pTrail ⟨c.srcLen⟩ F x m [] ts).rest, none, sk⟩) := Agree.weak ((level_all c F).trail x m ts sk)

theorem C07_expr_ir (c : ICtx) (F : Nat) (ts : List Token) (sk : Option TokKind) :
    runUnit c F "expr" [] ⟨ts, none, sk⟩ = .fuel ∨
    runUnit c F "expr" [] ⟨ts, none, sk⟩ =
      .ok ([.expr (pExpr ⟨c.srcLen⟩ F ts).val, .err (pExpr ⟨c.srcLen⟩ F ts).errs],
           ⟨(pExpr ⟨c.srcLen⟩ F ts).rest, none, sk⟩) := Agree.weak ((level_all c F).expr ts sk)

theorem C07_exprList_ir (c : ICtx) (F : Nat) (ts : List Token) (sk : Option TokKind) :
    runUnit c F "exprList" [] ⟨ts, none, sk⟩ = .fuel ∨
    runUnit c F "exprList" [] ⟨ts, none, sk⟩ =
      .ok ([.exprs (pExprList ⟨c.srcLen⟩ F ts).val, .err (pExprList ⟨c.srcLen⟩ F ts).errs],
           ⟨(pExprList ⟨c.srcLen⟩ F ts).rest, none, sk⟩) := Agree.weak ((level_all c F).exprList ts sk)


theorem C07_innerPrimaryExpr_ir_exact (c : ICtx) (F : Nat) (ts : List Token) (sk : Option TokKind)
    (h : 4 * ts.length + 1 ≤ F) :
    runUnit c F "innerPrimaryExpr" [] ⟨ts, none, sk⟩ =
      .ok ([.expr (pInner ⟨c.srcLen⟩ F ts).val, .err (pInner ⟨c.srcLen⟩ F ts).errs],
           ⟨(pInner ⟨c.srcLen⟩ F ts).rest, none, sk⟩) := Agree.exact h ((level_all c F).inner ts sk)

theorem C07_primaryExpr_ir_exact (c : ICtx) (F : Nat) (ts : List Token) (sk : Option TokKind)
    (h : 4 * ts.length + 2 ≤ F) :
    runUnit c F "primaryExpr" [] ⟨ts, none, sk⟩ =
      .ok ([.expr (pPrimary ⟨c.srcLen⟩ F ts).val, .err (pPrimary ⟨c.srcLen⟩ F ts).errs],
           ⟨(pPrimary ⟨c.srcLen⟩ F ts).rest, none, sk⟩) := Agree.exact h ((level_all c F).primary ts sk)

theorem C07_unaryExpr_ir_exact (c : ICtx) (F : Nat) (ts : List Token) (sk : Option TokKind)
    (h : 4 * ts.length + 3 ≤ F) :
    runUnit c F "unaryExpr" [] ⟨ts, none, sk⟩ =
      .ok ([.expr (pUnary ⟨c.srcLen⟩ F ts).val, .err (pUnary ⟨c.srcLen⟩ F ts).errs],
           ⟨(pUnary ⟨c.srcLen⟩ F ts).rest, none, sk⟩) := Agree.exact h ((level_all c F).unary ts sk)

theorem C07_exprBinaryTrail_ir_exact (c : ICtx) (F : Nat) (x : Expr) (m : Int) (ts : List Token)
    (sk : Option TokKind) (h : 4 * ts.length + 1 ≤ F) :
    runUnit c F "exprBinaryTrail" [.expr x, .int m] ⟨ts, none, sk⟩ =
      .ok ([.expr (pTrail ⟨c.srcLen⟩ F x m [] ts).val, .err (pTrail ⟨c.srcLen⟩ F x m [] ts).errs],
           ⟨(pTrail ⟨c.srcLen⟩ F x m [] ts).rest, none, sk⟩) := Agree.exact h ((level_all c F).trail x m ts sk)

/-- **C07 (`expr`, translated, exact).**  With `4 * tokens + 4` units of fuel the interpretation of the
    regenerated `expr` (and of everything it calls) IS the model's `pExpr`. -/
theorem C07_expr_ir_exact (c : ICtx) (F : Nat) (ts : List Token) (sk : Option TokKind)
    (h : 4 * ts.length + 4 ≤ F) :
    runUnit c F "expr" [] ⟨ts, none, sk⟩ =
      .ok ([.expr (pExpr ⟨c.srcLen⟩ F ts).val, .err (pExpr ⟨c.srcLen⟩ F ts).errs],
           ⟨(pExpr ⟨c.srcLen⟩ F ts).rest, none, sk⟩) := Agree.exact h ((level_all c F).expr ts sk)

theorem C07_exprList_ir_exact (c : ICtx) (F : Nat) (ts : List Token) (sk : Option TokKind)
    (h : 4 * ts.length + 5 ≤ F) :
    runUnit c F "exprList" [] ⟨ts, none, sk⟩ =
      .ok ([.exprs (pExprList ⟨c.srcLen⟩ F ts).val, .err (pExprList ⟨c.srcLen⟩ F ts).errs],
           ⟨(pExprList ⟨c.srcLen⟩ F ts).rest, none, sk⟩) := Agree.exact h ((level_all c F).exprList ts sk)

theorem C07_expr_ir_fuel_only_below (c : ICtx) (F : Nat) (ts : List Token) (sk : Option TokKind)
    (h : runUnit c F "expr" [] ⟨ts, none, sk⟩ = .fuel) : F < 4 * ts.length + 4 := by
  rcases (level_all c F).expr ts sk with ⟨hb, _⟩ | h'
  · omega
  · rw [h] at h'; cases h'

/-- **C07 (fuel suffices for the translated expression parser).**  With the fuel the entry points
    supply — `fuelFor n` for a statement of `n` tokens, and every expression of it has at most `n` tokens —
    the interpretations of `expr` and `exprList` are the model's productions. -/
theorem C07_expr_ir_entry (c : ICtx) (n : Nat) (ts : List Token) (sk : Option TokKind) (hn : ts.length ≤ n) :
    runUnit c (fuelFor n) "expr" [] ⟨ts, none, sk⟩ =
      .ok ([.expr (pExpr ⟨c.srcLen⟩ (fuelFor n) ts).val, .err (pExpr ⟨c.srcLen⟩ (fuelFor n) ts).errs],
           ⟨(pExpr ⟨c.srcLen⟩ (fuelFor n) ts).rest, none, sk⟩) :=
  C07_expr_ir_exact c (fuelFor n) ts sk (by unfold fuelFor; omega)

theorem C07_exprList_ir_entry (c : ICtx) (n : Nat) (ts : List Token) (sk : Option TokKind) (hn : ts.length ≤ n) :
    runUnit c (fuelFor n) "exprList" [] ⟨ts, none, sk⟩ =
      .ok ([.exprs (pExprList ⟨c.srcLen⟩ (fuelFor n) ts).val, .err (pExprList ⟨c.srcLen⟩ (fuelFor n) ts).errs],
           ⟨(pExprList ⟨c.srcLen⟩ (fuelFor n) ts).rest, none, sk⟩) :=
  C07_exprList_ir_exact c (fuelFor n) ts sk (by unfold fuelFor; omega)

/-- the fuel hypothesis of the exact theorems cannot be dropped: without fuel the interpreter answers
    `Out.fuel` (and the model its fuel leaf) -/
theorem C07_expr_ir_exact_needs_fuel (c : ICtx) (ts : List Token) (sk : Option TokKind) :
    runUnit c 0 "expr" [] ⟨ts, none, sk⟩ = .fuel ∧ (pExpr ⟨c.srcLen⟩ 0 ts).errs = errFuel :=
  ⟨runUnit_zero _ _ _ _, rfl⟩

theorem C07_expr_ir_exact_nonvacuous : 4 * ([] : List Token).length + 4 ≤ fuelFor 0 := by decide

theorem C07_expr_ir_total (c : ICtx) (F : Nat) (ts : List Token) (sk : Option TokKind) :
    runUnit c F "expr" [] ⟨ts, none, sk⟩ ≠ .panic ∧ runUnit c F "expr" [] ⟨ts, none, sk⟩ ≠ .stuck := by
  rcases C07_expr_ir c F ts sk with h | h <;> rw [h] <;> constructor <;> intro h' <;> cases h'

/-- the `Value` of the synthetic EOF token ("EOF" in the Go code, empty in the model) is read by no
    production: the interpretation is the same for every value -/
theorem C07_expr_ir_eof_value (srcLen : Nat) (v w : Bytes) (F : Nat) (ts : List Token) (sk : Option TokKind)
    (hv : runUnit ⟨srcLen, v⟩ F "expr" [] ⟨ts, none, sk⟩ ≠ .fuel)
    (hw : runUnit ⟨srcLen, w⟩ F "expr" [] ⟨ts, none, sk⟩ ≠ .fuel) :
    runUnit ⟨srcLen, v⟩ F "expr" [] ⟨ts, none, sk⟩ = runUnit ⟨srcLen, w⟩ F "expr" [] ⟨ts, none, sk⟩ := by
  rcases C07_expr_ir ⟨srcLen, v⟩ F ts sk with h1 | h1
  · exact absurd h1 hv
  · rcases C07_expr_ir ⟨srcLen, w⟩ F ts sk with h2 | h2
    · exact absurd h2 hw
    · rw [h1, h2]

/-- the `for` of `primaryExpr` cannot iterate (every path of its body
    returns), so `a[1][2]` is not a nested index expression -/
theorem C07_primaryExpr_loop_never_iterates : leaves primaryLoopBody = true := primaryLoop_leaves

end Pql.ExprParseIR
