/-
Property C07 (operator defaults) / C02 (what `sort`, `top`, `take` mean), tie by translation: the flag
assignments of `(*parser).sortTerm`, the literal test of `(*parser).rowCount` and the optional
`kind = flavor` clause of `(*parser).joinOperator` are regenerated from parser/parser.go on every run
(`Facts.sortTermInit/First/NullsKeyword/Nulls`, `Facts.rowCountCheck`, `Facts.joinInit/KindKeyword/
KindSets`; translator `harness/extract_lex.go`).  `sortFlags` interprets the sortTerm tables on the
tokens that follow the sort expression; the parser model's `pSortTerm` is proved to produce exactly
those flags for every token list.  A changed default (e.g. `asc` no longer implying nulls first)
changes the tables and breaks these theorems.
-/
import PqlModel.Lemmas.TabDispatch
namespace Pql.Dispatch
open Pql
set_option linter.unusedSimpArgs false

def applyFlags (f : Bool × Bool) (a n : Option Bool) : Bool × Bool := (a.getD f.1, n.getD f.2)

/-- (Asc, NullsFirst) as the regenerated tables of `sortTerm` assign them, given the tokens that
    follow the sort expression.  An unknown `then` tag gives `none`. -/
def sortFlags (ts : List Token) : Option (Bool × Bool) :=
  let init := Facts.sortTermInit
  match ts with
  | [] => some init
  | t :: rest =>
    match Facts.sortTermFirst.find? (fun row => isIdentNamed t row.1) with
    | none => some init                       -- not a listed keyword: token given back, term ends
    | some row =>
      let f1 := applyFlags init row.2.1 row.2.2.1
      let ts2 : Option (List Token) :=
        if row.2.2.2 = "next" then some rest else if row.2.2.2 = "unread" then some ts else none
      match ts2 with
      | none => none
      | some [] => some f1
      | some (u :: rest2) =>
        if isIdentNamed u Facts.sortTermNullsKeyword then
          match rest2 with
          | [] => some f1                     -- error: flags as they are
          | v :: _ =>
            match Facts.sortTermNulls.find? (fun row => isIdentNamed v row.1) with
            | some r2 => some (applyFlags f1 r2.2.1 r2.2.2)
            | none => some f1                 -- error: flags as they are
        else some f1

/-- the tables as the documentation states them -/
theorem C07_sortTerm_tables :
    Facts.sortTermInit = (false, false) ∧
    Facts.sortTermFirst = [("asc", some true, some true, "next"), ("desc", some false, some false, "next"),
      ("nulls", none, none, "unread")] ∧
    Facts.sortTermNullsKeyword = "nulls" ∧
    Facts.sortTermNulls = [("first", none, some true), ("last", none, some false)] := by decide

/-- in the table, a direction keyword sets NullsFirst to the value it gives Asc
    (asc ⇒ nulls first, desc ⇒ nulls last); the nulls clause never touches Asc -/
theorem C07_sortTerm_nulls_follow_direction :
    (∀ row ∈ Facts.sortTermFirst, row.2.2.2 = "next" → row.2.1.isSome = true ∧ row.2.2.1 = row.2.1) ∧
    (∀ row ∈ Facts.sortTermNulls, row.2.1 = none ∧ row.2.2.isSome = true) := by decide

/-- **C07/C02 (sort-term defaults are the translated Go assignments).**  Whenever the sort expression
    parses without error, `pSortTerm` returns a term whose flags are exactly those the regenerated
    tables assign for the tokens that follow the expression — for every token list, every fuel. -/
theorem C07_sortTerm_flags (c : PCtx) (fuel : Nat) (ts : List Token)
    (h : (pExpr c fuel ts).errs = []) :
    ∃ term, (pSortTerm c fuel ts).val = some term ∧
      sortFlags (pExpr c fuel ts).rest = some (term.asc, term.nullsFirst) := by
  unfold pSortTerm
  simp only [h, ne_eq, not_true_eq_false, ↓reduceIte]
  generalize (pExpr c fuel ts).rest = rs
  generalize (pExpr c fuel ts).val = x
  have hnk : Facts.sortTermNullsKeyword = "nulls" := rfl
  cases rs with
  | nil => exact ⟨_, rfl, rfl⟩
  | cons t rest =>
    simp only [sortFlags, Facts.sortTermFirst, Facts.sortTermInit, Facts.sortTermNulls, List.find?_cons,
      List.find?_nil, hnk]
    by_cases h1 : isIdentNamed t "asc" = true
    · simp only [h1, ↓reduceIte, applyFlags, Option.getD_some]
      cases rest with
      | nil => exact ⟨_, rfl, rfl⟩
      | cons u rest2 =>
        by_cases h2 : isIdentNamed u "nulls" = true
        · simp only [h2, ↓reduceIte, Bool.not_true, Bool.false_eq_true]
          cases rest2 with
          | nil => exact ⟨_, rfl, rfl⟩
          | cons v rest3 =>
            by_cases h3 : isIdentNamed v "first" = true
            · simp only [h3, ↓reduceIte]; exact ⟨_, rfl, rfl⟩
            · by_cases h4 : isIdentNamed v "last" = true
              · simp only [h3, h4, ↓reduceIte, Bool.false_eq_true]; exact ⟨_, rfl, rfl⟩
              · simp only [h3, h4, ↓reduceIte, Bool.false_eq_true]; exact ⟨_, rfl, rfl⟩
        · simp only [h2, ↓reduceIte, Bool.not_true, Bool.false_eq_true]; exact ⟨_, rfl, rfl⟩
    · simp only [h1, ↓reduceIte, Bool.false_eq_true]
      by_cases h1' : isIdentNamed t "desc" = true
      · simp only [h1', ↓reduceIte, applyFlags, Option.getD_some]
        cases rest with
        | nil => exact ⟨_, rfl, rfl⟩
        | cons u rest2 =>
          by_cases h2 : isIdentNamed u "nulls" = true
          · simp only [h2, ↓reduceIte, Bool.not_true, Bool.false_eq_true]
            cases rest2 with
            | nil => exact ⟨_, rfl, rfl⟩
            | cons v rest3 =>
              by_cases h3 : isIdentNamed v "first" = true
              · simp only [h3, ↓reduceIte]; exact ⟨_, rfl, rfl⟩
              · by_cases h4 : isIdentNamed v "last" = true
                · simp only [h3, h4, ↓reduceIte, Bool.false_eq_true]; exact ⟨_, rfl, rfl⟩
                · simp only [h3, h4, ↓reduceIte, Bool.false_eq_true]; exact ⟨_, rfl, rfl⟩
          · simp only [h2, ↓reduceIte, Bool.not_true, Bool.false_eq_true]; exact ⟨_, rfl, rfl⟩
      · simp only [h1', ↓reduceIte, Bool.false_eq_true]
        by_cases h2 : isIdentNamed t "nulls" = true
        · simp (config := { decide := true }) only [h2, ↓reduceIte, applyFlags, Option.getD_none, Bool.not_true, Bool.false_eq_true]
          cases rest with
          | nil => exact ⟨_, rfl, rfl⟩
          | cons v rest3 =>
            by_cases h3 : isIdentNamed v "first" = true
            · simp only [h3, ↓reduceIte]; exact ⟨_, rfl, rfl⟩
            · by_cases h4 : isIdentNamed v "last" = true
              · simp only [h3, h4, ↓reduceIte, Bool.false_eq_true]; exact ⟨_, rfl, rfl⟩
              · simp only [h3, h4, ↓reduceIte, Bool.false_eq_true]; exact ⟨_, rfl, rfl⟩
        · simp only [h2, ↓reduceIte, Bool.false_eq_true, Bool.not_false]; exact ⟨_, rfl, rfl⟩

/-- without the hypothesis the statement is false: a failed expression gives no term at all -/
theorem C07_sortTerm_flags_needs_expr :
    ∃ c fuel ts, (pExpr c fuel ts).errs ≠ [] ∧ (pSortTerm c fuel ts).val = none :=
  ⟨⟨0⟩, 0, [], by decide, by decide⟩

def kwTok (s : String) : Token := ⟨.ident, 0, 0, Bytes.ofString s⟩

/-- the nine keyword sequences and their flags (Asc, NullsFirst): nothing = descending, nulls last -/
theorem C07_sortTerm_flag_table :
    [[], ["asc"], ["desc"], ["nulls", "first"], ["nulls", "last"], ["asc", "nulls", "first"],
     ["asc", "nulls", "last"], ["desc", "nulls", "first"], ["desc", "nulls", "last"]].map
       (fun kws => sortFlags (kws.map kwTok)) =
    [some (false, false), some (true, true), some (false, false), some (false, true), some (false, false),
     some (true, true), some (true, false), some (false, true), some (false, false)] := by decide

theorem C07_rowCount_table : Facts.rowCountCheck = ("BasicLit", "IsInteger") := by decide

/-- the node-type test and the method of the regenerated check, read on the model's trees -/
def rowCountPasses (e : Expr) : Option Bool :=
  if Facts.rowCountCheck = ("BasicLit", "IsInteger") then
    some (match e with | .lit _ k v => litIsInteger k v | _ => true)
  else none

/-- **rowCount's literal check is the translated Go test**: after an error-free `p.expr()`, the row
    count is rejected (with a position-less error, node and rest kept) iff it is a literal that is not
    an integer; every non-literal passes -/
theorem C07_rowCount_check (c : PCtx) (fuel : Nat) (ts : List Token) (h : (pExpr c fuel ts).errs = []) :
    (pRowCount c fuel ts).val = (pExpr c fuel ts).val ∧ (pRowCount c fuel ts).rest = (pExpr c fuel ts).rest ∧
    rowCountPasses (pExpr c fuel ts).val = some ((pRowCount c fuel ts).errs == []) ∧
    ((pRowCount c fuel ts).errs = [] ∨ (pRowCount c fuel ts).errs = errNoPos) := by
  unfold pRowCount rowCountPasses
  simp only [h, ne_eq, not_true_eq_false, ↓reduceIte, C07_rowCount_table]
  split
  · rename_i k v hv
    by_cases hi : litIsInteger k v = true
    · simp [hi, h, hv]
    · simp [hi, hv, errNoPos]
  · rename_i hv
    refine ⟨rfl, rfl, ?_, Or.inl h⟩
    simp only [h, beq_self_eq_true, Option.some.injEq]

theorem C07_join_tables :
    Facts.joinInit = [("Pipe", "pipe.Span"), ("Keyword", "keyword.Span"), ("Kind", "nullSpan()"),
      ("KindAssign", "nullSpan()"), ("Lparen", "nullSpan()"), ("Rparen", "nullSpan()"), ("On", "nullSpan()")] ∧
    Facts.joinKindKeyword = "kind" ∧ Facts.joinKindSets = ["Kind", "KindAssign", "Flavor"] ∧
    Facts.joinUnknownFlavorContinues = true := by decide

theorem joinTail_val (c : PCtx) (f : Nat) (pipe kw kind ka : Span) (fl : Option Ident) (e0 : Errs)
    (ts : List Token) : ∃ lp right rp on cs,
      (joinTail c f pipe kw kind ka fl e0 ts).val = .join pipe kw kind ka fl lp right rp on cs := by
  unfold joinTail
  simp only
  repeat' split
  all_goals exact ⟨_, _, _, _, _, rfl⟩

/-- **join without a `kind` clause**: whatever follows, the fields the optional clause would set
    (`Facts.joinKindSets`) keep their initial values: Kind and KindAssign the null span
    (`Facts.joinInit`), Flavor nil (not in the literal) -/
theorem C07_join_no_kind (c : PCtx) (fuel : Nat) (pipe kw : Span) (t0 : Token) (rest0 : List Token)
    (h : isIdentNamed t0 Facts.joinKindKeyword = false) :
    ∃ lp right rp on cs,
      (pJoin c (fuel + 1) pipe kw (t0 :: rest0)).val = .join pipe kw .null .null none lp right rp on cs := by
  have hk : Facts.joinKindKeyword = "kind" := rfl
  rw [hk] at h
  rw [pJoin_eq]
  simp only [h, Bool.false_eq_true, if_false]
  exact joinTail_val ..

/-- … and with the clause they are set: Kind and KindAssign to the two tokens' spans, Flavor to the
    identifier, known join type or not (an unknown flavor is recorded and the parse goes on) -/
theorem C07_join_kind (c : PCtx) (fuel : Nat) (pipe kw : Span) (t0 asg fl : Token) (rest : List Token)
    (h : isIdentNamed t0 Facts.joinKindKeyword = true) (ha : asg.kind = .assign) (hf : fl.kind = .ident) :
    ∃ lp right rp on cs,
      (pJoin c (fuel + 1) pipe kw (t0 :: asg :: fl :: rest)).val =
        .join pipe kw t0.span asg.span (some ⟨fl.value, fl.span, false⟩) lp right rp on cs := by
  have hk : Facts.joinKindKeyword = "kind" := rfl
  rw [hk] at h
  rw [pJoin_eq]
  simp only [h, ha, hf, ne_eq, not_true_eq_false, if_true, if_false]
  exact joinTail_val ..

/-- the hypothesis of `C07_sortTerm_flags` / `C07_rowCount_check` is satisfiable, and the flags come
    out as the table says: `x asc nulls last`, `x`, `x nulls first`, `x asc ,` -/
theorem C07_sortTerm_demo :
    (pExpr ⟨0⟩ 10 [kwTok "x", kwTok "asc", kwTok "nulls", kwTok "last"]).errs = [] ∧
    [[kwTok "x", kwTok "asc", kwTok "nulls", kwTok "last"], [kwTok "x"], [kwTok "x", kwTok "nulls", kwTok "first"],
     [kwTok "x", kwTok "asc", ⟨.comma, 0, 0, []⟩]].map
      (fun ts => (pSortTerm ⟨0⟩ 10 ts).val.map (fun t => (t.asc, t.nullsFirst))) =
    [some (true, false), some (false, false), some (false, true), some (true, true)] := by decide

/-- `C07_join_no_kind` without its hypothesis: with a `kind` clause Kind is the keyword's span -/
theorem C07_join_no_kind_needs_hyp :
    ∃ t0 : Token, isIdentNamed t0 Facts.joinKindKeyword = true ∧
      ∀ lp right rp on cs, (pJoin ⟨9⟩ 1 .null .null [{ t0 with start := 5, stop := 9 }]).val ≠
        .join .null .null .null .null none lp right rp on cs := by
  refine ⟨kwTok "kind", by decide, ?_⟩
  intro lp right rp on cs h
  simp (config := { decide := true }) [pJoin, kwTok, isIdentNamed, Token.span] at h

end Pql.Dispatch
