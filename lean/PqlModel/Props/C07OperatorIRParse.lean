/-
Property C07 (also C08, C10, C13, C15), tie by translation: `firstParse` and `Parse`.

`firstParse` is generic; its regenerated body is interpreted with the productions as functions on an
arbitrary caller state (`Model/ParseIR.lean`, `execFP`): `C07_firstParse_ir` says that for two productions
it computes `firstOfG` — the first production unless it reports not-found, else the second, run in the
state the first one left.  `firstOf`, which `exec` uses for the statement `firstParse(func…, func…)`, is
that function on the interpreter's own state (`firstOf_eq`).

`Parse`: the statement loop over `splitSemi`, the let-or-tabular choice through `firstParse` (the second
function literal runs on the cursor the first one left), the "replace resultError" quirk on a trailing
token, `endSplit`, the final wrapping — the model's `pStatements` / `parseTokens` / `parse` are the
interpretation of the regenerated body (`C07_Parse_ir`, `C07_Parse_tokens_ir`), for every source,
every token list and every loop counter.
-/
import PqlModel.Props.C07OperatorIRJoin
import PqlModel.Lemmas.AccountedStmt
namespace Pql.OpIR
open Pql
set_option linter.unusedSimpArgs false

theorem firstOf_eq (a b : St → M (List Val × St)) (st : St) : firstOf a b st = firstOfG a b st := rfl

/-- closes a path of `firstParse_run` once the outcome of the productions on it is in the context -/
macro "fp_simp" : tactic =>
  `(tactic| simp [*, assignAll, assignTo, St.declare, evalCond, eval, evalAll, St.get, bind, Except.bind, execFPBlock, execFP,
      St.leave, pure, Except.pure, rangeFP, stuck, goPanic])

theorem firstParse_run {σ : Type} (env : Env) (a b : σ → M (List Val × σ)) (x : σ) :
    runFirstParse env firstParseBody [a, b] x = firstOfG a b x := by
  unfold runFirstParse firstOfG firstParseBody
  simp only [List.length_cons, List.length_nil, List.range, List.range.loop, List.map, execFPBlock, execFP, entry, St.get,
    List.reverse_cons, List.reverse_nil, List.nil_append, List.find?, beq_self_eq_true, bind, Except.bind, pure, Except.pure,
    List.isEmpty_cons, Bool.false_eq_true, if_false, List.dropLast, rangeFP, St.declare]
  simp
  cases ha : a x with
  | error e => simp [ha]
  | ok r =>
    obtain ⟨vs, x1⟩ := r
    rcases vs with _ | ⟨v, _ | ⟨e, _ | ⟨z, zs⟩⟩⟩
    · fp_simp
    · fp_simp
    · cases he : asErrs e with
      | error er => fp_simp
      | ok es =>
        cases hn : isNF es
        · fp_simp
        · cases hb : b x1 with
          | error e2 => fp_simp
          | ok r2 => fp_simp
    · fp_simp

theorem C07_firstParse_ir {σ : Type} (env : Env) (a b : σ → M (List Val × σ)) (x : σ) :
    runFirstParse env (bodyOf "firstParse") [a, b] x = firstOfG a b x := by
  simp only [bodyOf, firstParse_ir, Option.map_some, Option.getD_some, firstParse_run]

theorem C07_firstParse_stmt (env : Env) (a b : St → M (List Val × St)) (st : St) :
    firstOf a b st = runFirstParse env (bodyOf "firstParse") [a, b] st := by
  rw [C07_firstParse_ir, firstOf_eq]

/-- the interpretation of `Parse`: `Scan(query)` yields `toks`; every production called on a statement's
    sub-parser runs with the fuel the model computes from that sub-parser's tokens (`fuelFor`) -/
def parseEnv (srcLen : Nat) (toks : List Token) : Env :=
  { c := ⟨srcLen⟩, callee := fun _ m args ts => calleeAt ⟨srcLen⟩ (fuelFor ts.length) m args ts, scan := fun _ => toks }

theorem parseEnv_callee (srcLen : Nat) (toks : List Token) (k : Nat) (m : String) (args : List Val) (ts : List Token) :
    (parseEnv srcLen toks).callee k m args ts = calleeAt ⟨srcLen⟩ (fuelFor ts.length) m args ts := rfl
theorem parseEnv_c (srcLen : Nat) (toks : List Token) : (parseEnv srcLen toks).c = ⟨srcLen⟩ := rfl
theorem parseEnv_fuelLoop (srcLen : Nat) (toks : List Token) : (parseEnv srcLen toks).fuelLoop = false := rfl
theorem parseEnv_scan (srcLen : Nat) (toks : List Token) (b : Bytes) : (parseEnv srcLen toks).scan b = toks := rfl

def stmtVals (acc : List Stmt) : List Val := acc.map fun x => .istmt x

theorem toStmts_vals : ∀ acc : List Stmt, toStmts (stmtVals acc) = some acc
  | [] => rfl
  | x :: r => by
    have := toStmts_vals r
    simp only [stmtVals] at this
    simp [stmtVals, toStmts, this]

theorem stmtVals_snoc (acc : List Stmt) (x : Stmt) : stmtVals acc ++ [.istmt x] = stmtVals (acc ++ [x]) := by
  simp [stmtVals]

/-- what `Parse` returned: the statements and the error; a loop out of fuel: the statements so far, the fuel
    leaf after the errors so far -/
def resultParse (r : M (Flow × St)) : M (List Stmt × Errs) := do
  let (f, st) ← r
  match f with
  | .ret [v, e] => pure (← optM ((listOf v).bind toStmts), ← asErrs e)
  | .fuel => pure (← optM ((listOf (← st.get "result")).bind toStmts), (← asErrs (← st.get "resultError")) ++ errFuel)
  | _ => stuck

def parseSt (acc : List Stmt) (errs : Errs) (ts : List Token) (u : Option (List Token)) : St :=
  ⟨[("resultError", .errs errs), ("result", .list (stmtVals acc)), ("p", .parser ts u), ("query", .query)], []⟩

/-- what follows the statement loop.  `ParseBody` is three declarations, the loop (`loopAt ParseBody 3`: `splitSemi`,
    `firstParse` and the error bookkeeping, `.take 3`, then `parseNext`) and the two final `return`s (`ParseBody.drop 4`). -/
def parseK (env : Env) (k : Nat) (r : Flow × St) : M (Flow × St) :=
  match r.1 with
  | .next => execBlock env (ParseBody.drop 4) k r.2
  | _ => pure r

theorem parseK_fuel (env : Env) (k : Nat) (st : St) : parseK env k (.fuel, st) = .ok (.fuel, st) := rfl

theorem parseK_next (env : Env) (k : Nat) (acc : List Stmt) (errs : Errs) (ts : List Token) (u : Option (List Token)) :
    resultParse (parseK env k (.next, parseSt acc errs ts u)) = .ok (acc, errs) := by
  unfold parseK parseSt resultParse
  cases errs <;>
    simp [ParseBody, execBlock, exec, evalCond, eval, evalAll, valEq, isNilVal, St.get, St.leave, asErrs, listOf, toStmts_vals,
      optM, bind, Except.bind, pure, Except.pure]

/-- one run of the first three statements of the loop body, with the case hypotheses of `parseStmt_run` in the context -/
macro "parse_simp" : tactic =>
  `(tactic| ir_simp [*, firstOf, closure, OpIR.toIface, Tabular.isNilB, eofTok, stmtVals_snoc, parseK_fuel, parseEnv_callee, parseEnv_c,
      parseEnv_fuelLoop, parseEnv_scan,
      List.append_assoc, mkOpaque_nil])

/-- the end of an iteration: `if _, ok := p.next(); !ok { break }` -/
def parseNext : IStmt := .scope [.call "p" "next" [.blank, .def_ "ok"] [], .ite (.not (.truth (.var "ok"))) [.brk] []]

theorem parseNext_run (env : Env) (k : Nat) (e s sp re rs : Val) (ts : List Token) (vs : List (String × Val)) :
    exec env parseNext k
        ⟨("err", e) :: ("stmt", s) :: ("stmtParser", sp) :: ("resultError", re) :: ("result", rs) :: ("p", .parser ts none) :: vs, []⟩ =
      .ok (if ts.isEmpty then .brk else .next,
        ⟨("err", e) :: ("stmt", s) :: ("stmtParser", sp) :: ("resultError", re) :: ("result", rs) ::
          ("p", .parser ts.tail (some ts)) :: vs, []⟩) := by
  cases ts <;> ir_simp [parseNext]

/-- an iteration up to there: the model's statement of the first split, appended as `pStatements` does -/
theorem parseStmt_run (srcLen : Nat) (toks : List Token) (k : Nat) (acc : List Stmt) (errs : Errs) (ts : List Token)
    (u : Option (List Token)) :
    let r := pStatement ⟨srcLen⟩ (splitSemi ts).1
    ∃ e s sp, execBlock (parseEnv srcLen toks) ((loopAt ParseBody 3).take 3) k (parseSt acc errs ts u) =
      .ok (.next, ⟨("err", e) :: ("stmt", s) :: ("stmtParser", sp) ::
        (parseSt (match r.1 with | some x => acc ++ [x] | none => acc) (if r.2.2 then r.2.1 else errs ++ r.2.1)
          (splitSemi ts).2 none).vars, []⟩) := by
  simp only [loopAt, ParseBody, List.getElem?_cons_succ, List.getElem?_cons_zero, List.take_succ_cons, List.take_zero, parseSt]
  unfold pStatement
  rcases hsp : splitSemi ts with ⟨sp1, sp2⟩
  simp only []
  -- the case distinctions the two productions and `firstParse` need, then one run of the three statements in each
  cases hn : isNF (pLet ⟨srcLen⟩ (fuelFor sp1.length) sp1).errs
  · -- a let statement (or an error that is not "not found")
    cases hv : (pLet ⟨srcLen⟩ (fuelFor sp1.length) sp1).val <;> parse_simp
  · have hrest := pLet_nf ⟨srcLen⟩ (fuelFor sp1.length) sp1 hn
    cases hn2 : isNF (pTabular ⟨srcLen⟩ (fuelFor sp1.length) sp1).errs
    · cases hv : (pLet ⟨srcLen⟩ (fuelFor sp1.length) sp1).val <;>
        cases hv2 : (pTabular ⟨srcLen⟩ (fuelFor sp1.length) sp1).val <;> parse_simp
    · cases hv : (pLet ⟨srcLen⟩ (fuelFor sp1.length) sp1).val <;>
        cases hv2 : (pTabular ⟨srcLen⟩ (fuelFor sp1.length) sp1).val <;>
        rcases hr2 : (pTabular ⟨srcLen⟩ (fuelFor sp1.length) sp1).rest with _ | ⟨tt, rr⟩ <;> parse_simp

theorem parseLoop_split (env : Env) (k : Nat) (st : St) :
    execBlock env (loopAt ParseBody 3) k st = thenK (execBlock env ((loopAt ParseBody 3).take 3) k st) (exec env parseNext k) := by
  have hsplit : loopAt ParseBody 3 = (loopAt ParseBody 3).take 3 ++ [parseNext] := rfl
  refine (congrArg (fun b => execBlock env b k st) hsplit).trans ?_
  rw [execBlock_append]
  congr 1
  funext st1
  rw [execBlock_cons, thenK_nil]

theorem parse_loop (srcLen : Nat) (toks : List Token) (k : Nat) :
    ∀ (n : Nat) (acc : List Stmt) (errs : Errs) (ts : List Token) (u : Option (List Token)),
      resultParse (runLoop false (execBlock (parseEnv srcLen toks) (loopAt ParseBody 3)) n k (parseSt acc errs ts u) >>=
          parseK (parseEnv srcLen toks) k) =
        .ok (pStatements ⟨srcLen⟩ n acc errs ts)
  | 0, acc, errs, ts, u => by
    simp [runLoop, resultParse, parseK_fuel, parseSt, pStatements, St.get, listOf, toStmts_vals, optM, asErrs,
      bind, Except.bind, pure, Except.pure]
  | n + 1, acc, errs, ts, u => by
    have ih := parse_loop srcLen toks k n
    have hK := parseK_next (parseEnv srcLen toks) k
    obtain ⟨e, s, sp, hpre⟩ := parseStmt_run srcLen toks k acc errs ts u
    unfold runLoop pStatements
    rw [if_neg Bool.false_ne_true, parseLoop_split, hpre]
    simp only [parseSt, bind, Except.bind, thenK_next, parseNext_run] at ih hK ⊢
    rcases (splitSemi ts).2 with _ | ⟨semi, rest⟩
    · simp [St.leave, pure, Except.pure, hK]
      rfl
    · simp [St.leave, pure, Except.pure, ih]
      rfl

/-- the interpretation of `Parse(query)` when `Scan(query)` yields `toks` and `len(query) = srcLen` -/
def runParse (srcLen : Nat) (toks : List Token) (body : List IStmt) : M (List Stmt × Errs) :=
  resultParse (run (parseEnv srcLen toks) body 0 [("query", .query)])

theorem Parse_run (srcLen : Nat) (toks : List Token) : runParse srcLen toks ParseBody = .ok (parseTokens srcLen toks) := by
  have hsplit : ParseBody = ParseBody.take 4 ++ ParseBody.drop 4 := rfl
  unfold runParse run parseTokens
  rw [hsplit, execBlock_append]
  ir_simp [ParseBody, parseEnv_scan, parseEnv_fuelLoop]
  exact parse_loop srcLen toks 0 (toks.length + 1) [] [] toks none

/-- **Parse, on tokens**: for every source length and token list, interpreting the regenerated body of
    `Parse` — `Scan` yielding those tokens — returns exactly the model's statements and error leaves -/
theorem C07_Parse_tokens_ir (srcLen : Nat) (toks : List Token) :
    runParse srcLen toks (bodyOf "Parse") = .ok (parseTokens srcLen toks) := by
  simp only [bodyOf, Parse_ir, Option.map_some, Option.getD_some, Parse_run]

/-- **Parse**: for every source, the model's `parse` is the interpretation of the regenerated body of `Parse`
    (with the model's `scan` for `Scan`) -/
theorem C07_Parse_ir (src : Bytes) : runParse src.length (scan src) (bodyOf "Parse") = .ok (parse src) :=
  C07_Parse_tokens_ir src.length (scan src)

end Pql.OpIR
