/-
Property C03 (and C01), tie by translation: `buildJoinCondition` and `rewriteSimpleJoinCondition`.

`harness/extract_joincond.go` regenerates an IR of the two expression-building functions from the
go/ast of pql.go on every run (`Facts.joinCondIR`); `Model/JoinCondIR.lean` interprets it.  This file
proves that the hand-written model functions ARE the interpretation of the regenerated IR
(`C03_rewriteSimpleJoinCondition_ir`, `C03_buildJoinCondition_ir`).  Together with
`SplitIR.C02_split_ir` (whose `tryexprjoin` primitive is `writeExpr` on the model's
`buildJoinCondition`) the whole join case of `splitQueries` down to `writeExpression` is translated
code.  The Go map lookup `builtinIdentifiers[name] != ""` is `(builtinIdent name).isSome` in the
model; they agree because no entry of the regenerated table has an empty value (`builtin_all`).
-/
import PqlModel.Model.JoinCondIR
namespace Pql.JoinCondIR
open Pql
set_option linter.unusedSimpArgs false

def rewriteGuard : Cond :=
  .or (.or (.or (.notOk "ok") (.lenNe1 "id" "Parts")) (.flag "id" "Parts[0].Quoted"))
    (.mapNonEmpty "builtinIdentifiers" "id" "Parts[0].Name")

def rewriteResult : List String :=
  ["node", "BinaryExpr",
     "X", "node", "QualifiedIdent", "Parts", "list", "node", "Ident", "Name", "const", "leftJoinTableAlias", "end",
       "path", "id", "Parts[0]", "end", "end",
     "Op", "tok", "TokenEq",
     "Y", "node", "QualifiedIdent", "Parts", "list", "node", "Ident", "Name", "const", "rightJoinTableAlias", "end",
       "path", "id", "Parts[0]", "end", "end",
   "end"]

def rewriteIR : List Stmt :=
  [.assert "id" "ok" "c" "QualifiedIdent",
   .ite rewriteGuard [.ret ["var", "c"]],
   .ret rewriteResult]

def andTerm : List String :=
  ["node", "BinaryExpr", "X", "var", "x", "Op", "tok", "TokenAnd", "Y", "call", "rewriteSimpleJoinCondition", "var", "y",
   "end"]

def buildIR : List Stmt :=
  [.ite (.lenEq0 "conds") [.ret ["asq", "node", "Ident", "Name", "str", "true", "end"]],
   .def_ "x" ["call", "rewriteSimpleJoinCondition", "index", "conds", "0"],
   .forRange "y" "conds" "1" [.set "x" andTerm],
   .ret ["var", "x"]]

theorem rewrite_ir :
    (irOf "rewriteSimpleJoinCondition").map (fun x => (x.1, decode x.2)) = some (["c"], some rewriteIR) := by rfl

theorem build_ir : (irOf "buildJoinCondition").map (fun x => (x.1, decode x.2)) = some (["conds"], some buildIR) := by
  rfl

def finish : Option Val × Env → IM Val
  | (some x, _) => .ok x
  | (none, _) => stuck

/-- running a function of one parameter whose regenerated body decodes to `body` -/
theorem interpFn_of_ir {fn p : String} {body : List Stmt}
    (h : (irOf fn).map (fun x => (x.1, decode x.2)) = some ([p], some body)) (sem : Sem) (arg : Val) :
    interpFn sem fn arg = execBlock sem body [(p, arg)] >>= finish := by
  unfold interpFn
  cases hi : irOf fn with
  | none => rw [hi] at h; cases h
  | some x =>
    obtain ⟨ps, items⟩ := x
    rw [hi] at h
    obtain ⟨rfl, hd⟩ := Prod.mk.inj (Option.some.inj h)
    simp only [hd]
    rfl

theorem bind_ok {ε α β : Type} (a : α) (f : α → Except ε β) : (Except.ok a : Except ε α) >>= f = f a := rfl
theorem pure_ok {ε α : Type} (a : α) : (pure a : Except ε α) = .ok a := rfl

/-- no built-in identifier is rewritten to the empty string: `m[k] != ""` is `k ∈ m` -/
theorem builtin_all : Facts.builtinIdentifiers.all (fun kv => kv.2 != "") = true := by decide

theorem builtin_nonempty (name : Bytes) (s : String) (h : builtinIdent name = some s) : (s != "") = true := by
  unfold builtinIdent at h
  cases hf : Facts.builtinIdentifiers.find? (fun kv => Bytes.ofString kv.1 == name) with
  | none => rw [hf] at h; simp at h
  | some kv =>
    rw [hf] at h
    simp only [Option.map_some, Option.some.injEq] at h
    subst h
    exact (List.all_eq_true.mp builtin_all) kv (List.mem_of_find?_eq_some hf)

/-- the value the function builds for a single unquoted part -/
theorem result_eval (sem : Sem) (p : Ident) (c : Expr) :
    evalWhole sem [("ok", .bool true), ("id", .expr (.qident [p])), ("c", .expr c)] rewriteResult =
      .ok (.expr (.binary (.qident [⟨leftAlias, .zero, false⟩, p]) .zero .eq (.qident [⟨rightAlias, .zero, false⟩, p]))) := by
  rfl

theorem var_c_eval (sem : Sem) (a b : String × Val) (v : Val) (h1 : (a.1 == "c") = false) (h2 : (b.1 == "c") = false) :
    evalWhole sem [a, b, ("c", v)] ["var", "c"] = .ok v := by
  simp [evalWhole, evalTerm, get, List.find?, h1, h2, Except.map, bind, Except.bind, pure, Except.pure]

syntax "jc_simp" (" [" Lean.Parser.Tactic.simpLemma,* "]")? : tactic
macro_rules
  | `(tactic| jc_simp) => `(tactic| jc_simp [])
  | `(tactic| jc_simp [$ls,*]) =>
    `(tactic| simp [execBlock, exec, evalCond, get, partsOf, headOrPanic, assignIn, finish, bind_ok, pure_ok, exprTypeName,
        goPanic, stuck, Except.map, bind, Except.bind, pure, Except.pure, $ls,*])

theorem rewrite_eq (sem : Sem) (c : Expr) :
    interpFn sem "rewriteSimpleJoinCondition" (.expr c) = .ok (.expr (rewriteSimpleJoinCondition c)) := by
  rw [interpFn_of_ir rewrite_ir]
  cases c with
  | qident parts =>
    match parts with
    | [] => rfl
    | [p] =>
      cases hq : p.quoted with
      | true => jc_simp [rewriteIR, rewriteGuard, rewriteSimpleJoinCondition, var_c_eval, hq]
      | false =>
        cases hb : builtinIdent p.name with
        | some s =>
          have hs := builtin_nonempty p.name s hb
          jc_simp [rewriteIR, rewriteGuard, rewriteSimpleJoinCondition, var_c_eval, hq, hb, hs]
        | none => jc_simp [rewriteIR, rewriteGuard, rewriteSimpleJoinCondition, result_eval, hq, hb]
    | p :: q :: r => jc_simp [rewriteIR, rewriteGuard, rewriteSimpleJoinCondition, var_c_eval]
  | _ => rfl

/-- **`rewriteSimpleJoinCondition` is translated code**: for every expression (the nil interface
    included) the interpretation of the regenerated body returns what the model function returns -/
theorem C03_rewriteSimpleJoinCondition_ir (c : Expr) : interpRewrite c = .ok (rewriteSimpleJoinCondition c) := by
  unfold interpRewrite
  rw [rewrite_eq]
  rfl

theorem buildSem_call (c : Expr) :
    buildSem.call "rewriteSimpleJoinCondition" (.expr c) = .ok (.expr (rewriteSimpleJoinCondition c)) := by
  simp [buildSem, C03_rewriteSimpleJoinCondition_ir, Except.map]

/-- `x = &parser.BinaryExpr{X: x, Op: parser.TokenAnd, Y: rewriteSimpleJoinCondition(y)}` -/
theorem and_eval (x y : Expr) (v : Val) :
    evalWhole buildSem [("y", .expr y), ("x", .expr x), ("conds", v)] andTerm =
      .ok (.expr (.binary x .zero .and_ (rewriteSimpleJoinCondition y))) := by
  simp [evalWhole, andTerm, evalTerm, evalFields, get, List.find?, mkNode, field, tokOf, TokKind.goName, buildSem_call,
    Except.map, bind, Except.bind, pure, Except.pure]

theorem first_eval (c : Expr) (l : List Expr) :
    evalWhole buildSem [("conds", .exprs (c :: l))] ["call", "rewriteSimpleJoinCondition", "index", "conds", "0"] =
      .ok (.expr (rewriteSimpleJoinCondition c)) := by
  simp [evalWhole, evalTerm, get, List.find?, headOrPanic, buildSem_call, Except.map, bind, Except.bind, pure,
    Except.pure]

/-- the loop `for _, y := range conds[1:] { x = … }` is the model's `go` -/
theorem loop_eq (v : Val) : ∀ (rest : ExprList) (x : Expr),
    forEach "y" (execBlock buildSem [.set "x" andTerm]) rest.toList [("x", .expr x), ("conds", v)] =
      .ok (none, [("x", .expr (buildJoinCondition.go x rest)), ("conds", v)])
  | .nil, x => rfl
  | .cons y ys, x => by
    have ih := loop_eq v ys (.binary x .zero .and_ (rewriteSimpleJoinCondition y))
    simp only [ExprList.toList, forEach, buildJoinCondition.go]
    jc_simp [and_eval]
    exact ih

theorem var_x_eval (sem : Sem) (x v : Val) : evalWhole sem [("x", x), ("conds", v)] ["var", "x"] = .ok x := by
  rfl

theorem st1_eval (c : Expr) (l : List Expr) :
    exec buildSem (.ite (.lenEq0 "conds") [.ret ["asq", "node", "Ident", "Name", "str", "true", "end"]])
        [("conds", .exprs (c :: l))] = .ok (none, [("conds", .exprs (c :: l))]) := by
  jc_simp

theorem st2_eval (c : Expr) (l : List Expr) :
    exec buildSem (.def_ "x" ["call", "rewriteSimpleJoinCondition", "index", "conds", "0"]) [("conds", .exprs (c :: l))] =
      .ok (none, [("x", .expr (rewriteSimpleJoinCondition c)), ("conds", .exprs (c :: l))]) := by
  jc_simp [first_eval]

theorem st3_eval (c x : Expr) (rest : ExprList) :
    exec buildSem (.forRange "y" "conds" "1" [.set "x" andTerm])
        [("x", .expr x), ("conds", .exprs (c :: rest.toList))] =
      .ok (none, [("x", .expr (buildJoinCondition.go x rest)), ("conds", .exprs (c :: rest.toList))]) := by
  simp only [exec, get, List.find?]
  simp only [bind, Except.bind]
  exact loop_eq _ rest x

theorem st4_eval (x v : Val) :
    exec buildSem (.ret ["var", "x"]) [("x", x), ("conds", v)] = .ok (some x, [("x", x), ("conds", v)]) := by
  jc_simp [var_x_eval]

/-- **`buildJoinCondition` is translated code**: for every list of conditions (any length) the
    interpretation of the regenerated body — with `rewriteSimpleJoinCondition` interpreted from its own
    regenerated body — returns what the model function returns -/
theorem C03_buildJoinCondition_ir (conds : ExprList) : interpBuild conds = .ok (buildJoinCondition conds) := by
  unfold interpBuild
  rw [interpFn_of_ir build_ir]
  cases conds with
  | nil => rfl
  | cons c rest =>
    simp only [buildIR, ExprList.toList, execBlock, st1_eval, st2_eval, st3_eval, st4_eval, bind_ok, pure_ok, finish, exprOf,
      buildJoinCondition]

end Pql.JoinCondIR
