/-
Property C16 — the command-line tool compiles exactly the statements it is given: the per-statement
simulation between `cliStatement` and `CliSpec.statement` (the refinement theorem `C16_refines` of
Props/C16.lean rests on it), and that the output only grows.
Partial by nature: `bufio` (modelled as described in Model/Cli.lean), file opening and terminal detection
(primitives of the world of Model/CliIOIR.lean) and partial writes (not modelled: a write always succeeds)
are OS plumbing, exercised through the real binary.
-/
import PqlModel.Spec.CliSpec
namespace Pql.C16
open Pql

/-- loop state and specification accumulator describe the same history -/
def Rel (st : CliState) (a : CliSpec.Acc) : Prop :=
  st.lets = a.lets ∧ st.out = a.out ∧ st.nErrors = a.nErrors ∧ st.failed = decide (a.nErrors > 0)

/-- **C16 (one statement).** Processing one terminated statement keeps the tool's state and the
    specification in step, whatever `compile` does.  What the specification (`CliSpec.statement`) then says
    of the tool: a failed statement is counted and skipped without touching prelude or output; a failed
    `let` is not added to the scope. -/
theorem C16_statement_sim (compile : Bytes → Option Bytes) (st : CliState) (a : CliSpec.Acc) (stmt : Bytes)
    (h : Rel st a) : Rel (cliStatement compile st stmt) (CliSpec.statement compile a stmt) := by
  obtain ⟨h1, h2, h3, h4⟩ := h
  unfold cliStatement CliSpec.statement Rel
  rw [h1]
  by_cases hl : isLetStatement stmt = true
  · simp only [hl, ↓reduceIte]
    cases compile (a.lets ++ stmt ++ Bytes.ofString ";X") with
    | some _ => simp [h2, h3, h4]
    | none => simp [h2, h3]
  · simp only [hl]
    cases compile (a.lets ++ stmt) with
    | some _ => simp [h2, h3, h4]
    | none => simp [h2, h3]

theorem C16_statements_sim (compile : Bytes → Option Bytes) (stmts : List Bytes) (st : CliState) (a : CliSpec.Acc)
    (h : Rel st a) : Rel (stmts.foldl (cliStatement compile) st) (stmts.foldl (CliSpec.statement compile) a) := by
  induction stmts generalizing st a with
  | nil => exact h
  | cons s ss ih => exact ih _ _ (C16_statement_sim compile st a s h)

/-- what was written is never changed: a statement only appends -/
theorem C16_output_monotone (compile : Bytes → Option Bytes) (st : CliState) (stmt : Bytes) :
    ∃ more, (cliStatement compile st stmt).out = st.out ++ more := by
  unfold cliStatement
  by_cases hl : isLetStatement stmt = true
  · simp only [hl, ↓reduceIte]
    cases compile (st.lets ++ stmt ++ Bytes.ofString ";X") <;> exact ⟨[], by simp⟩
  · simp only [hl]
    cases compile (st.lets ++ stmt) with
    | none => exact ⟨[], by simp⟩
    | some sql => exact ⟨sql ++ [10, 10], by simp [List.append_assoc]⟩

end Pql.C16
