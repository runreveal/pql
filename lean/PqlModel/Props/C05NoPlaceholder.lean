/-
Property C05, last clause: "… no internal placeholder (NULL with an 'unhandled' / 'unsupported'
comment) ever reaches the output."

The model writes a placeholder at five sites: `writeExpr` on `Expr.nil`
(`NULL /* unhandled <nil> expression */`), on a literal that is neither a number nor a string, on
a unary operator that is not a sign, on a binary operator it does not translate, and the default
case of the type switch of `Subquery.write` (`SELECT NULL /* unsupported operator */`).  Each is
a fixed text (`Chunk.txt`) containing `/*`; no other fixed text of the writers does.

`splitQueries` never stores sort / take / top / join as a subquery's operator (every tree, `C05_stored_ops`),
so the default case is unreachable; the four sites of `writeExpr` are excluded by the decidable `stmtPhFree`,
which holds of every parsed tree; each site is reached by a tree the parser cannot produce.  On bytes, without
parameters: the raw SQL token list of the output has no comment token (`C05_no_comment_source`).  Alongside:
every subquery of every parsed program satisfies `WriteIR.irOK`, so `WriteIR.C05_write_ir` applies without
side condition (`C05_parsed_write_ir`).

Specification-level definitions: `phFree` (Lemmas/WriteAllExpr.lean); `WriteInv.hasOpen`, `cf`, `CF`,
`hasPlaceholder`, `stmtPhFree`, `subPhFree` (Lemmas/WriteAllStmt.lean); `storedSub`, `irQ`, `tabOpsAll` (Lemmas/WriteInvSplit.lean).
-/
import PqlModel.Lemmas.WriteAllStmt
import PqlModel.Lemmas.WriteInvSplit
import PqlModel.Props.C05Parsed
namespace Pql.WriteInv
open Pql Sql LexRender Pql.C05 Pql.ParsedOK

/-- **C05 (stored operators).**  For every tree, scope and list to append to: the list
    `splitQueries` returns extends `dst`, and every subquery it added has no operator or one with
    a case of its own in `(*subquery).write` — never sort, take, top or join. -/
theorem C05_stored_ops (src : Bytes) (scope : List (Bytes × List Chunk)) (dst subs : List Subquery)
    (t : Tabular) (h : splitQueries src scope dst t = .ok subs) :
    dst <+: subs ∧
    ∀ s ∈ subs.drop dst.length, s.op = none ∨ ∃ o, s.op = some o ∧ Exact.storedOp o = true :=
  stored_ops src scope dst subs t h

/-- hence the default case of the type switch of `Subquery.write` (`Pql.write_eq`:
    `sub.write ctx = bodyOf ctx sub.op sub.source >>= tailOf ctx sub.sort sub.take`, and `tailOf`
    writes `SELECT NULL /* unsupported operator */` exactly when the body is `none`) is never taken
    on a subquery of `splitQueries`, for any tree -/
theorem C05_write_default_unreachable (src : Bytes) (scope : List (Bytes × List Chunk)) (subs : List Subquery)
    (t : Tabular) (h : splitQueries src scope [] t = .ok subs) (ctx : Ctx) :
    ∀ s ∈ subs, bodyOf ctx s.op s.source ≠ .ok none := by
  intro s hs hb
  have hst : s.op.all Exact.storedOp = true := by
    have := stored_ops_all src scope subs t h s hs
    unfold storedSub at this
    cases ho : s.op <;> rw [ho] at this <;> exact this
  rw [← Exact.bodyOf_isSome hb] at hst
  cases hst

/-- **C05 (parsed programs satisfy `irOK`).**  For every source that parses without error, every
    parameter list, the query `t` of the program and the scope its `let` statements build: every
    subquery `splitQueries` produces satisfies `WriteIR.irOK` (project columns are named, extend
    columns have an expression, render has a chart type and its properties a name and a value
    that is not an empty qualified identifier) — and stores no operator of the default case. -/
theorem C05_parsed_irOK (src : Bytes) (stmts : List Stmt) (hp : parse src = (stmts, []))
    (scope0 scope : List (Bytes × List Chunk)) (t : Tabular)
    (hc : compileStmts src stmts scope0 none = .ok (scope, some t))
    (subs : List Subquery) (hs : splitQueries src scope [] t = .ok subs) :
    ∀ sub ∈ subs, WriteIR.irOK sub = true := by
  intro sub hsub
  exact splitQueries_irOK src scope [] subs t (parsed_irQ src stmts hp t (compileStmts_query_mem src hc)) hs sub
    (by simpa using hsub)

/-- **C05 / C02 (`(*subquery).write` is the translated Go code, on every parsed program).**
    `WriteIR.C05_write_ir` without side condition: for every subquery of every program that parses,
    the model's `Subquery.write` is the interpretation of the IR regenerated from the Go source. -/
theorem C05_parsed_write_ir (src : Bytes) (stmts : List Stmt) (hp : parse src = (stmts, []))
    (scope0 scope : List (Bytes × List Chunk)) (t : Tabular)
    (hc : compileStmts src stmts scope0 none = .ok (scope, some t))
    (subs : List Subquery) (hs : splitQueries src scope [] t = .ok subs) (ctx : Ctx) :
    ∀ sub ∈ subs, WriteIR.interpWrite WriteIR.modelSem ctx sub = WriteIR.liftW (sub.write ctx) :=
  fun sub hsub => WriteIR.C05_write_ir ctx sub (C05_parsed_irOK src stmts hp scope0 scope t hc subs hs sub hsub)

/-- **C05 (no placeholder, trees).**  For every program whose written expressions are free of
    placeholder sites (`stmtPhFree`: no nil expression, literals are numbers or strings, unary
    operators are signs, binary operators are translated), every source text and every parameter
    list: no fixed text of the chunk list of a successful compilation contains `/*`. -/
theorem C05_no_placeholder_tree (src : Bytes) (params : List (Bytes × Bytes)) (stmts : List Stmt)
    (hst : ∀ s ∈ stmts, stmtPhFree s = true) (cs : List Chunk)
    (hc : compileChunks src params stmts = .ok cs) : hasPlaceholder cs = false := by
  rw [hasPlaceholder_eq, program_cf src params stmts hst cs hc]; rfl

theorem binKnown_eq (op : TokKind) : binKnown op = Exact.knownBinOp op := rfl

theorem phFree_alg : ExprTreeAlg (fun e => sOK e = true → phFree e = true)
    (fun l => sOKList l = true → phFreeList l = true) where
  nil := fun h => nomatch h
  qident := fun _ _ => rfl
  lit := fun _ _ _ h => h
  unary := fun _ _ _ ih h => and_true' (and_true_of h).1 (ih (and_true_of h).2)
  binary := fun _ _ _ _ ihx ihy h =>
    and_true' (and_true_of h).1
      (and_true' (ihx (and_true_of (and_true_of h).2).1) (ihy (and_true_of (and_true_of h).2).2))
  inE := fun _ _ _ _ _ ihx ihl h =>
    and_true' (ihx (and_true_of h).1) (ihl (and_true_of (and_true_of h).2).1)
  paren := fun _ _ _ ih => ih
  call := fun _ _ _ _ ihl h => ihl (and_true_of h).2
  index := fun _ _ _ _ ihx ihy h => and_true' (ihx (and_true_of h).1) (ihy (and_true_of h).2)
  lnil := fun _ => rfl
  cons := fun _ _ ihe ihl h => and_true' (ihe (and_true_of h).1) (ihl (and_true_of h).2)

theorem phFree_of_sOK : ∀ e : Expr, sOK e = true → phFree e = true := phFree_alg.expr

theorem phFreeList_of_sOK : ∀ l : ExprList, sOKList l = true → phFreeList l = true := phFree_alg.list

theorem tabPhFree_alg : TreeAlg
    (fun t => TabAll (fun e => phFree e = true) (fun l => phFreeList l = true) t → tabPhFree t = true)
    (fun o => OpAll (fun e => phFree e = true) (fun l => phFreeList l = true) o → opPhFree o = true)
    (fun ops => OpsAll (fun e => phFree e = true) (fun l => phFreeList l = true) ops →
      opsPhFree ops = true) where
  tnil := fun _ => rfl
  tmk := fun _ _ ih => ih
  onil := fun _ => rfl
  cons := fun _ _ iho ihl h => and_true' (iho h.1) (ihl h.2)
  count := fun _ _ _ => rfl
  where_ := fun _ _ _ h => h
  sort := fun _ _ _ h => List.all_eq_true.2 h
  take := fun _ _ _ h => h
  top := fun _ _ _ _ c h => and_true' h.1 (by
    cases c with
    | none => rfl
    | some t => exact h.2 t rfl)
  project := fun _ _ _ h => List.all_eq_true.2 fun c hc =>
    (h c hc).elim (fun h1 => by rw [h1]; rfl) fun h1 => by rw [h1, Bool.or_true]
  extend := fun _ _ _ h => List.all_eq_true.2 h
  summarize := fun _ _ _ _ _ h => and_true' (List.all_eq_true.2 h.1) (List.all_eq_true.2 h.2)
  join := fun _ _ _ _ _ _ _ _ _ _ ih h => and_true' (ih h.1) h.2
  as_ := fun _ _ _ _ => rfl
  render := fun _ _ _ _ _ _ _ _ => rfl

theorem tabPhFree_of_all : ∀ t : Tabular,
    TabAll (fun e => phFree e = true) (fun l => phFreeList l = true) t → tabPhFree t = true :=
  tabPhFree_alg.tabular

theorem opPhFree_of_all : ∀ o : Op,
    OpAll (fun e => phFree e = true) (fun l => phFreeList l = true) o → opPhFree o = true :=
  tabPhFree_alg.op

theorem opsPhFree_of_all : ∀ ops : OpList,
    OpsAll (fun e => phFree e = true) (fun l => phFreeList l = true) ops → opsPhFree ops = true :=
  tabPhFree_alg.ops

theorem stmtPhFree_of_sOK (s : Stmt)
    (h : StmtAll (fun e => sOK e = true) (fun l => sOKList l = true) s) : stmtPhFree s = true := by
  have h3 : StmtAll (fun e => phFree e = true) (fun l => phFreeList l = true) s :=
    StmtAll.imp phFree_of_sOK phFreeList_of_sOK s h
  cases s with
  | let_ kw n a x => exact h3
  | tabular t => exact tabPhFree_of_all t h3

theorem parsed_phFree (src : Bytes) (stmts : List Stmt) (h : parse src = (stmts, [])) :
    ∀ s ∈ stmts, stmtPhFree s = true := by
  intro s hs
  obtain ⟨_, h2, _⟩ := parsed_facts src stmts h s hs
  exact stmtPhFree_of_sOK s (StmtAll.imp (fun e he => he.1) (fun l hl => hl.1.1) s h2)

/-- **C05 (no placeholder, source text).**  For EVERY source and EVERY parameter list: if
    `Compile` returns SQL, that SQL is the rendering of a chunk list none of whose fixed texts
    contains `/*` — no `NULL /* unhandled … */`, no `/* unhandled … unary op */`, no
    `SELECT NULL /* unsupported operator */`.  (A parameter's SQL text is a `raw` chunk, not a fixed
    text of the writer: what the caller binds is the caller's.) -/
theorem C05_no_placeholder_source (params : List (Bytes × Bytes)) (src sql : Bytes)
    (h : compile params src = .ok sql) :
    ∃ cs, compileChunks src params (parse src).1 = .ok cs ∧ sql = renderChunks cs ∧ hasPlaceholder cs = false := by
  obtain ⟨hp, cs, hcs, rfl⟩ := compile_ok params src sql h
  exact ⟨cs, hcs, rfl, C05_no_placeholder_tree src params _ (parsed_phFree src _ hp) cs hcs⟩

theorem hasOpen_append_left : ∀ (a b : Bytes), hasOpen a = true → hasOpen (a ++ b) = true
  | [], _, h => by cases h
  | x :: r, b, h => by
    simp only [hasOpen, Bool.or_eq_true, Bool.and_eq_true] at h
    simp only [List.cons_append, hasOpen, Bool.or_eq_true, Bool.and_eq_true]
    rcases h with ⟨h1, h2⟩ | h
    · left
      refine ⟨h1, ?_⟩
      cases r with
      | nil => simp at h2
      | cons y r' => simpa using h2
    · right; exact hasOpen_append_left r b h

theorem hasOpen_append_right : ∀ (a b : Bytes), hasOpen b = true → hasOpen (a ++ b) = true
  | [], _, h => h
  | x :: r, b, h => by
    simp only [List.cons_append, hasOpen, Bool.or_eq_true]
    right; exact hasOpen_append_right r b h

theorem atom_comment {a : Atom} (h : STok.comment ∈ a.toks) : hasOpen a.bytes = true := by
  cases a with
  | cmt b => simp [Atom.bytes, hasOpen]
  | _ => simp [Atom.toks] at h

theorem rawToks_comment : ∀ {as : List Atom}, STok.comment ∈ rawToks as → hasOpen (renderAtoms as) = true
  | [], h => by simp [rawToks] at h
  | a :: as, h => by
    rw [rawToks_cons, List.mem_append] at h
    rw [renderAtoms_cons]
    rcases h with h | h
    · exact hasOpen_append_left _ _ (atom_comment h)
    · exact hasOpen_append_right _ _ (rawToks_comment h)

theorem chunk_no_comment {c : Chunk} (hok : chunkOK c = true) (hcf : cf c = true) :
    STok.comment ∉ rawToks (chunkAtoms c) := by
  intro h
  have ho := rawToks_comment h
  rw [chunk_render hok] at ho
  cases c with
  | txt s =>
    simp only [Chunk.bytes] at ho
    simp only [cf, ho, Bool.not_true] at hcf
    cases hcf
  | raw v => simp [chunkOK] at hok
  | _ => simp [chunkAtoms, rawToks, Atom.toks] at h

theorem rawToksOf_no_comment : ∀ {cs : List Chunk}, cs.all chunkOK = true → CF cs = true →
    STok.comment ∉ rawToksOf cs
  | [], _, _ => by simp [rawToksOf, atomsOf, rawToks]
  | c :: cs, hok, hcf => by
    simp only [List.all_cons, Bool.and_eq_true] at hok
    rw [CF_cons, Bool.and_eq_true] at hcf
    rw [rawToksOf, atomsOf_cons, rawToks_append, List.mem_append]
    rintro (h | h)
    · exact chunk_no_comment hok.1 hcf.1 h
    · exact rawToksOf_no_comment hok.2 hcf.2 h

theorem lexRaw_of_adj (cs : List Chunk) (h : Adj cs = true) :
    lexRaw .standard (renderChunks cs) = some (rawToksOf cs) := by
  obtain ⟨h1, h2⟩ := AdjC_elim h
  rw [← render_atomsOf h1, lexRaw_atoms _ h2]
  rfl

/-- the byte-level statement from `stmtsLexOK` (the side condition of `C05_lexRender_program`) -/
theorem no_comment_of_lexOK (src sql : Bytes) (hok : stmtsLexOK (parse src).1 = true)
    (h : compile [] src = .ok sql) :
    ∃ cs, compileChunks src [] (parse src).1 = .ok cs ∧ sql = renderChunks cs ∧
      lexRaw .standard sql = some (toksOf cs) ∧ STok.comment ∉ toksOf cs := by
  obtain ⟨cs, hcs, rfl, hph⟩ := C05_no_placeholder_source [] src sql h
  have hadj := program_adj src _ cs hok hcs
  have hcf : CF cs = true := by rw [hasPlaceholder_eq] at hph; simpa using hph
  have hnc := rawToksOf_no_comment (AdjC_elim hadj).1 hcf
  have heq : rawToksOf cs = toksOf cs := by
    rw [← toksOf_eq hadj]
    exact (List.filter_eq_self.mpr (fun t ht => by
      simp only [bne_iff_ne, ne_eq]
      rintro rfl
      exact hnc ht)).symm
  exact ⟨cs, hcs, rfl, by rw [lexRaw_of_adj cs hadj, heq], by rw [← heq]; exact hnc⟩

/-- **C05 (no comment in the output, bytes).**  For every source none of whose pass-through
    function names begins with `$` (`ParsedOK.noDollarFn`, decidable on the parsed tree), compiled
    without parameters: the SQL lexer that *keeps* comments (`Sql.lexRaw`; `Sql.lex` drops them)
    reads the output as exactly the tokens of its chunks, and no comment token is among them — no
    placeholder comment, and no `/*` or `--` smuggled in through a name, string or number. -/
theorem C05_no_comment_source (src sql : Bytes) (hd : noDollarFn (parse src).1 = true)
    (h : compile [] src = .ok sql) :
    ∃ cs, compileChunks src [] (parse src).1 = .ok cs ∧ sql = renderChunks cs ∧
      lexRaw .standard sql = some (toksOf cs) ∧ STok.comment ∉ toksOf cs :=
  no_comment_of_lexOK src sql
    (parsed_lexOK_dollar src _ (compile_ok [] src sql h).1 hd) h

/-- the same under K4-freedom (`ParsedOK.k4Free`, the side condition of the C05 source theorems) -/
theorem C05_no_comment_source_k4 (src sql : Bytes) (hk : k4Free (parse src).1 = true)
    (h : compile [] src = .ok sql) :
    ∃ cs, compileChunks src [] (parse src).1 = .ok cs ∧ sql = renderChunks cs ∧
      lexRaw .standard sql = some (toksOf cs) ∧ STok.comment ∉ toksOf cs :=
  no_comment_of_lexOK src sql
    (parsed_lexOK_k4 src _ (compile_ok [] src sql h).1 hk) h

/-! ### each placeholder IS written for a tree the parser cannot produce

One tree per site of the expression writer (`T | where e` with a bad `e`), and a subquery for the
default case of `Subquery.write` (which no tree reaches: `C05_stored_ops`).  So
`C05_no_placeholder_tree` is not vacuous about the model, its hypothesis `stmtPhFree` cannot be
dropped, and none of these trees is the result of an error-free parse (`cx_not_parsed`). -/

def cxId (s : String) : Ident := ⟨Bytes.ofString s, .zero, false⟩
def cxCol (s : String) : Expr := .qident [cxId s]
/-- `T | where e` -/
def cxWhere (e : Expr) : List Stmt := [.tabular (.mk (some (cxId "T")) (.cons (.where_ .zero .zero e) .nil))]

/-- the chunks of `T | where e` when `e` is written as the single text `s` -/
def cxOut (s : String) : List Chunk :=
  [.txt "SELECT * FROM ", .qid (Bytes.ofString "T"), .txt " WHERE ", .txt s, .txt ";"]

/-- site 1: a nil expression -/
theorem C05_placeholder_nil :
    compileChunks [] [] (cxWhere .nil) = .ok (cxOut "NULL /* unhandled <nil> expression */") ∧
    hasPlaceholder (cxOut "NULL /* unhandled <nil> expression */") = true ∧
    stmtPhFree (.tabular (.mk (some (cxId "T")) (.cons (.where_ .zero .zero .nil) .nil))) = false := by
  refine ⟨rfl, ?_⟩
  decide +kernel

/-- site 2: a literal that is neither a number nor a string -/
theorem C05_placeholder_literal :
    compileChunks [] [] (cxWhere (.lit .zero .ident [120])) =
      .ok (cxOut "NULL /* unhandled TokenIdentifier literal */") ∧
    hasPlaceholder (cxOut "NULL /* unhandled TokenIdentifier literal */") = true ∧
    (cxWhere (.lit .zero .ident [120])).all stmtPhFree = false := by
  refine ⟨rfl, by decide, by decide⟩

/-- site 3: a unary operator that is not a sign -/
theorem C05_placeholder_unary :
    compileChunks [] [] (cxWhere (.unary .zero .star (cxCol "a"))) =
      .ok [.txt "SELECT * FROM ", .qid (Bytes.ofString "T"), .txt " WHERE ",
           .txt "/* unhandled TokenStar unary op */ ", .qid (Bytes.ofString "a"), .txt ";"] ∧
    hasPlaceholder [Chunk.txt "/* unhandled TokenStar unary op */ "] = true ∧
    (cxWhere (.unary .zero .star (cxCol "a"))).all stmtPhFree = false := by
  refine ⟨rfl, by decide, by decide⟩

/-- site 4: a binary operator the compiler does not translate -/
theorem C05_placeholder_binary :
    compileChunks [] [] (cxWhere (.binary (cxCol "a") .zero .comma (cxCol "b"))) =
      .ok (cxOut "NULL /* unhandled TokenComma binary op */ ") ∧
    hasPlaceholder (cxOut "NULL /* unhandled TokenComma binary op */ ") = true ∧
    (cxWhere (.binary (cxCol "a") .zero .comma (cxCol "b"))).all stmtPhFree = false := by
  refine ⟨rfl, by decide, by decide⟩

/-- site 5: the default case of `Subquery.write`, on a subquery (not one `splitQueries` builds,
    `C05_stored_ops`) whose operator is a `take` -/
theorem C05_placeholder_default :
    let sub : Subquery := { name := [], source := [.qid [84]], op := some (.take .zero .zero (.lit .zero .number [53])) }
    sub.write ⟨[], [], .default⟩ = .ok [.txt "SELECT NULL /* unsupported operator */"] ∧
    hasPlaceholder [Chunk.txt "SELECT NULL /* unsupported operator */"] = true ∧
    CF sub.source = true ∧ subPhFree sub = false ∧ storedSub sub = false := by
  refine ⟨rfl, ?_⟩
  decide +kernel

theorem cx_not_parsed (stmts : List Stmt) (h : stmts.all stmtPhFree = false) (src : Bytes) :
    parse src ≠ (stmts, []) := by
  intro hp
  have := parsed_phFree src stmts hp
  rw [← List.all_eq_true] at this
  rw [this] at h
  cases h

/-- **C05 (the placeholders are reachable only by trees the parser cannot produce).**  Each of
    the four placeholder texts of the expression writer is written for some tree, and none of
    these trees is the error-free parse of any source text. -/
theorem C05_placeholder_reachable_only_by_bad_trees :
    (∀ e ∈ [Expr.nil, .lit .zero .ident [120], .unary .zero .star (cxCol "a"),
            .binary (cxCol "a") .zero .comma (cxCol "b")],
      (∃ cs, compileChunks [] [] (cxWhere e) = .ok cs ∧ hasPlaceholder cs = true) ∧
      ∀ src, parse src ≠ (cxWhere e, [])) := by
  intro e he
  simp only [List.mem_cons, List.not_mem_nil, or_false] at he
  rcases he with rfl | rfl | rfl | rfl
  · exact ⟨⟨_, C05_placeholder_nil.1, C05_placeholder_nil.2.1⟩, cx_not_parsed _ (by decide +kernel)⟩
  · exact ⟨⟨_, C05_placeholder_literal.1, C05_placeholder_literal.2.1⟩, cx_not_parsed _ C05_placeholder_literal.2.2⟩
  · exact ⟨⟨_, C05_placeholder_unary.1, by decide +kernel⟩, cx_not_parsed _ C05_placeholder_unary.2.2⟩
  · exact ⟨⟨_, C05_placeholder_binary.1, C05_placeholder_binary.2.1⟩, cx_not_parsed _ C05_placeholder_binary.2.2⟩

/-- `C05_parsed_irOK` needs the parse: a `project` column without a name (a tree, not a parse) -/
theorem C05_irOK_needs_parse :
    let t : Tabular := .mk (some (cxId "T")) (.cons (.project .zero .zero [⟨none, .zero, .lit .zero .number [49]⟩]) .nil)
    compileStmts [] [.tabular t] [] none = .ok ([], some t) ∧
    ∃ subs, splitQueries [] [] [] t = .ok subs ∧ subs.all WriteIR.irOK = false := by
  refine ⟨rfl, _, rfl, by decide +kernel⟩

/-- `T | where a == p` -/
def cmtSrc : Bytes := [84, 32, 124, 32, 119, 104, 101, 114, 101, 32, 97, 32, 61, 61, 32, 112]
/-- `p := /* c */ 1` -/
def cmtParams : List (Bytes × Bytes) := [([112], [47, 42, 32, 99, 32, 42, 47, 32, 49])]

/-- parameters are the caller's SQL: the byte-level theorem is false with a parameter that
    carries a comment (`T | where a == p` with `p := /* c */ 1`): the output has a comment token
    (while `C05_no_placeholder_source` still holds: the comment is in a `raw` chunk) -/
theorem C05_no_comment_needs_no_params :
    noDollarFn (parse cmtSrc).1 = true ∧
    (match compile cmtParams cmtSrc with
     | .ok sql => (lexRaw .standard sql).map (·.contains .comment)
     | _ => none) = some true := by
  decide +kernel

/-- `noDollarFn` is needed for the token equation: `t | where $f(a)` compiles to `… WHERE $f("a")`,
    whose `$f` the SQL lexer reads as a parameter, not as the word of the chunk -/
theorem C05_no_comment_needs_noDollar :
    noDollarFn (parse dollarSrc).1 = false ∧
    ∃ cs, compileChunks dollarSrc [] (parse dollarSrc).1 = .ok cs ∧
      lexRaw .standard (renderChunks cs) ≠ some (toksOf cs) := by
  have h : noDollarFn (parse dollarSrc).1 = false ∧
      (match compileChunks dollarSrc [] (parse dollarSrc).1 with
        | .ok cs => lexRaw .standard (renderChunks cs) != some (toksOf cs)
        | .error _ => false) = true := by decide +kernel
  refine ⟨h.1, ?_⟩
  have h2 := h.2
  cases hc : compileChunks dollarSrc [] (parse dollarSrc).1 with
  | error e => rw [hc] at h2; cases h2
  | ok cs =>
    rw [hc] at h2
    exact ⟨cs, rfl, by simpa using h2⟩

/-- `let n = -3; T | where a == 'x' and b > n | extend e = a + 1
     | join kind=leftouter (U | take 5) on k | summarize c = count() by a | sort by c desc
     | top 3 by c | project c, d = a | as X | count | render barchart with (title='t')` -/
def nvSrc : Bytes :=
  [108, 101, 116, 32, 110, 32, 61, 32, 45, 51, 59, 32, 84, 32, 124, 32, 119, 104, 101, 114, 101,
   32, 97, 32, 61, 61, 32, 39, 120, 39, 32, 97, 110, 100, 32, 98, 32, 62, 32, 110, 32, 124, 32,
   101, 120, 116, 101, 110, 100, 32, 101, 32, 61, 32, 97, 32, 43, 32, 49, 32, 124, 32, 106, 111,
   105, 110, 32, 107, 105, 110, 100, 61, 108, 101, 102, 116, 111, 117, 116, 101, 114, 32, 40, 85,
   32, 124, 32, 116, 97, 107, 101, 32, 53, 41, 32, 111, 110, 32, 107, 32, 124, 32, 115, 117, 109,
   109, 97, 114, 105, 122, 101, 32, 99, 32, 61, 32, 99, 111, 117, 110, 116, 40, 41, 32, 98, 121,
   32, 97, 32, 124, 32, 115, 111, 114, 116, 32, 98, 121, 32, 99, 32, 100, 101, 115, 99, 32, 124,
   32, 116, 111, 112, 32, 51, 32, 98, 121, 32, 99, 32, 124, 32, 112, 114, 111, 106, 101, 99, 116,
   32, 99, 44, 32, 100, 32, 61, 32, 97, 32, 124, 32, 97, 115, 32, 88, 32, 124, 32, 99, 111, 117,
   110, 116, 32, 124, 32, 114, 101, 110, 100, 101, 114, 32, 98, 97, 114, 99, 104, 97, 114, 116, 32,
   119, 105, 116, 104, 32, 40, 116, 105, 116, 108, 101, 61, 39, 116, 39, 41]

/-- `nvSrc` parses without error, compiles, is K4-free, has two statements, and what `splitQueries`
    stores for its query; the facts below are its parts -/
theorem nv_eval :
    ((parse nvSrc).2 = [] ∧ isOk (compile [] nvSrc) = true ∧
      (noDollarFn (parse nvSrc).1 = true ∧ k4Free (parse nvSrc).1 = true)) ∧
    ((parse nvSrc).1.length = 2 ∧
      ((queryOf (parse nvSrc).1).map fun t =>
        match splitQueries nvSrc [] [] t with
        | .ok subs => (subs.length, subs.all storedSub, subs.all WriteIR.irOK,
            (subs.filter fun s => s.op.isSome).length, (subs.filter fun s => s.sort.isSome).length,
            (subs.filter fun s => s.take.isSome).length)
        | .error _ => (0, false, false, 0, 0, 0)) = some (11, true, true, 7, 2, 2)) ∧
    ((parse nvSrc).1.all stmtPhFree = true ∧
      (match compileChunks nvSrc [] (parse nvSrc).1 with
       | .ok cs => hasPlaceholder cs
       | .error _ => true) = false) := by
  decide +kernel

theorem nv_parses : (parse nvSrc).2 = [] := nv_eval.1.1
theorem nv_compiles : isOk (compile [] nvSrc) = true := nv_eval.1.2.1
theorem nv_noDollar : noDollarFn (parse nvSrc).1 = true ∧ k4Free (parse nvSrc).1 = true := nv_eval.1.2.2

/-- the example has two statements, eleven subqueries — one per stored operator kind (where,
    extend, summarize, project, as, count, render), the join's source, and the three that sort /
    take / top open — and every operator kind occurs in its tree -/
theorem nv_nontrivial :
    (parse nvSrc).1.length = 2 ∧
    ((queryOf (parse nvSrc).1).map fun t =>
      match splitQueries nvSrc [] [] t with
      | .ok subs => (subs.length, subs.all storedSub, subs.all WriteIR.irOK,
          (subs.filter fun s => s.op.isSome).length, (subs.filter fun s => s.sort.isSome).length,
          (subs.filter fun s => s.take.isSome).length)
      | .error _ => (0, false, false, 0, 0, 0)) = some (11, true, true, 7, 2, 2) :=
  nv_eval.2.1

/-- **non-vacuity**: the hypotheses of `C05_no_placeholder_source` and `C05_no_comment_source` hold
    of the example, hence their conclusions -/
theorem nv_no_placeholder :
    ∃ sql cs, compile [] nvSrc = .ok sql ∧ compileChunks nvSrc [] (parse nvSrc).1 = .ok cs ∧
      sql = renderChunks cs ∧ hasPlaceholder cs = false ∧
      lexRaw .standard sql = some (toksOf cs) ∧ STok.comment ∉ toksOf cs := by
  obtain ⟨sql, hc⟩ := (isOk_iff _).1 nv_compiles
  obtain ⟨cs, h1, h2, h3⟩ := C05_no_placeholder_source [] nvSrc sql hc
  obtain ⟨cs', h1', _, h4, h5⟩ := C05_no_comment_source nvSrc sql nv_noDollar.1 hc
  rw [h1] at h1'
  cases h1'
  exact ⟨sql, cs, hc, h1, h2, h3, h4, h5⟩

/-- the placeholder clause of `nv_no_placeholder`, evaluated instead of derived -/
theorem nv_direct :
    (parse nvSrc).1.all stmtPhFree = true ∧
    (match compileChunks nvSrc [] (parse nvSrc).1 with
     | .ok cs => hasPlaceholder cs
     | .error _ => true) = false :=
  nv_eval.2.2

end Pql.WriteInv
