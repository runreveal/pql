/-
Property C08, second sentence — "Consequently a source containing any unrecognised character,
unterminated string or identifier, malformed number, unbalanced bracket, dangling operator, missing
or surplus argument or trailing garbage is rejected with an error rather than compiled with the
offending part ignored."

The first sentence is `C08_accounted_parse` (Props/C08Full.lean): an error-free parse accounts for
every token.  Here the "consequently" is made explicit, for ALL sources, on the parser model:

* `accepted_piece` (Lemmas/RejectTok.lean) : every `;`-piece of an accepted source is the `unparse`
  of ONE statement of the result (C08), and — by induction over `unparse` (`expr_good` in
  Lemmas/RejectExpr.lean; `good_alg`, an `UnparseAlg`, and `stmt_good` in Lemmas/RejectOps.lean) —
  the token classes of that `unparse` are
  bracket-balanced (`unparse_balanced`), end in an operand end or one of the keywords
  `count asc desc first last` (`unparse_last_token`) and have only allowed neighbours (`okPair`).
* "rejected" is `(parse src).2 ≠ []`; `rejected_not_compiled`: then `compile params src = .error`
  for every `params` (`C13_exact_source`).

Specification-level definitions used in the statements (token kinds and keyword spellings only):
`pieces`, `balanced` (`run`, `brK`), `danglingKind`, `isNameTok`, `operandEndTok`,
`operandStartTok`, `stopperKind`, `Cl`/`compat`/`okPair` (Lemmas/RejectCl.lean, RejectTok.lean).
-/
import PqlModel.Lemmas.RejectTok
import PqlModel.Props.C08
import PqlModel.Props.C13Exact
namespace Pql.Reject
open Pql Pql.Grammar

theorem rejected_not_compiled (src : Bytes) (h : (parse src).2 ≠ []) (params : List (Bytes × Bytes)) :
    compile params src = .error :=
  ((C13.C13_exact_source params src).1).2 (Or.inl h)

theorem unparse_balanced (s : Stmt) (us : List UTok) (ha : StmtAll EOK LOK s)
    (h : unparseStmt s = some us) : ∀ stk, run stk ((us.map cl).map Cl.br) = some stk :=
  (stmt_good s us ha h).bal

/-- **the last token of the `unparse` of a complete statement** is a name, a literal, `)`, `]`, or
    one of the keywords `count`, `asc`, `desc`, `first`, `last` — never an operator, a sign, `|`,
    `,`, `=`, `.`, `(`, `[`, `by`, `in`, nor any other keyword (`where`, `on`, `kind`, `with`, …). -/
theorem unparse_last_token (s : Stmt) (us : List UTok) (ha : StmtAll EOK LOK s)
    (h : unparseStmt s = some us) : ∃ u, us.getLast? = some u ∧ cl u ∈ LO := by
  obtain ⟨a, hl, haL⟩ := (stmt_good s us ha h).lin.last
  rw [List.getLast?_map] at hl
  cases hu : us.getLast? with
  | none => rw [hu] at hl; cases hl
  | some u =>
    rw [hu] at hl
    simp only [Option.map_some, Option.some.injEq] at hl
    exact ⟨u, rfl, hl ▸ haL⟩

/-- **C08 (error tokens).**  A source whose scan contains an error token (unrecognised character,
    unterminated string or quoted identifier, malformed number, lone `!`) is rejected. -/
theorem C08_error_token_rejected (src : Bytes) (h : ∃ t ∈ scan src, t.kind = .error) :
    (parse src).2 ≠ [] := by
  intro hok
  obtain ⟨t, ht, hk⟩ := h
  obtain ⟨g, hg, htg⟩ := mem_pieces ht (by rw [hk]; decide)
  obtain ⟨st, _, us, _, ha, _, hgood⟩ := accepted_piece src hok g hg
  have hus : ∀ u ∈ us, u.kind ≠ .error := by
    intro u hu hke
    have hn := good_not_never hgood u hu
    have hc : cl u = .s .error := by simp [cl, hke, plainCl]
    rw [hc] at hn; cases hn
  exact C08.C08_accounts_no_error_token true us g hus ha t htg hk

theorem C08_error_token_not_compiled (src : Bytes) (h : ∃ t ∈ scan src, t.kind = .error)
    (params : List (Bytes × Bytes)) : compile params src = .error :=
  rejected_not_compiled src (C08_error_token_rejected src h) params

/-- **C08 (brackets).**  If some statement piece is not bracket-balanced — an unclosed `(` or `[`,
    a surplus `)` or `]`, or `(`…`]` — the source is rejected. -/
theorem C08_unbalanced_rejected (src : Bytes) (h : ∃ g ∈ pieces src, balanced g = false) :
    (parse src).2 ≠ [] := by
  intro hok
  obtain ⟨g, hg, hb⟩ := h
  obtain ⟨st, _, us, _, _, hacc, hgood⟩ := accepted_piece src hok g hg
  have : balanced g = true := by
    unfold balanced
    rw [hacc.run_eq [], hgood.bal []]; rfl
  rw [this] at hb; cases hb

/-- kinds that cannot end a statement: every symbol and word operator
    (`and or | . , + - * / % = == != < <= > >= =~ !~ ( [ in by`), and with them `;` (never in a
    piece) and the error kind -/
def danglingKind (k : TokKind) : Bool :=
  !(k == .ident || k == .qident || k == .number || k == .string || k == .rparen || k == .rbracket)

theorem compat_LO {c : Cl} {t : Token} (hc : c ∈ LO) (h : compat c t = true) : danglingKind t.kind = false := by
  simp only [LO, List.mem_cons, List.not_mem_nil, or_false] at hc
  rcases hc with rfl | rfl | rfl | rfl | rfl | rfl | rfl <;>
    simp only [compat, Bool.or_eq_true, Bool.and_eq_true, beq_iff_eq] at h
  · rcases h with h | h <;> simp [danglingKind, h]
  · rcases h with h | h <;> simp [danglingKind, h]
  all_goals first
    | (simp [danglingKind, h])
    | (simp [danglingKind, h.1])

theorem accepted_last (src : Bytes) (hok : (parse src).2 = []) : ∀ g ∈ pieces src, ∀ t, g.getLast? = some t →
    ∃ st ∈ (parse src).1, ∃ us u, unparseStmt st = some us ∧ us.getLast? = some u ∧
      tokMatches u t = true ∧ cl u ∈ LO := by
  intro g hg t ht
  obtain ⟨st, hst, us, hus, _, hacc, _⟩ := accepted_piece src hok g hg
  obtain ⟨u, hu, hm⟩ := hacc.last t ht
  obtain ⟨u', hu', hL⟩ := unparse_last_token st us (parsed_stmtAll src hok st hst) hus
  rw [hu] at hu'
  cases hu'
  exact ⟨st, hst, us, u, hus, hu, hm, hL⟩

/-- **C08 (dangling operator).**  A piece whose last token is a binary operator, a sign, `|`, `,`,
    `.`, `=`, `(`, `[`, `by` or `in` is rejected. -/
theorem C08_dangling_operator_rejected (src : Bytes)
    (h : ∃ g ∈ pieces src, ∃ t, g.getLast? = some t ∧ danglingKind t.kind = true) : (parse src).2 ≠ [] := by
  intro hok
  obtain ⟨g, hg, t, ht, hd⟩ := h
  obtain ⟨_, _, _, u, _, _, hm, hL⟩ := accepted_last src hok g hg t ht
  rw [compat_LO hL (tokMatches_compat hm)] at hd
  cases hd

/-- **C08 (dangling keyword).**  If an accepted piece ends in an identifier token that is not spelled
    `count`, `asc`, `desc`, `first`, `last`, that token is a *name* in the tree (class `nm`), never a
    keyword: `on`, `kind`, `with`, `nulls`, `where`, … at the end of a piece are read as names or rejected.
    (As stated the conclusion names a statement of the parse whose `unparse` ends in a name; that it is
    the statement of the piece `g` and that this name matches `t` is `accepted_last`, used in the proof.) -/
theorem C08_last_keyword_is_name (src : Bytes) (hok : (parse src).2 = []) (g : List Token) (hg : g ∈ pieces src)
    (t : Token) (ht : g.getLast? = some t) (hk : t.kind = .ident)
    (hv : t.value ∉ [b "count", b "asc", b "desc", b "first", b "last"]) :
    ∃ st ∈ (parse src).1, ∃ us u, unparseStmt st = some us ∧ us.getLast? = some u ∧ cl u = .nm := by
  obtain ⟨st, hst, us, u, hus, hu, hm, hL⟩ := accepted_last src hok g hg t ht
  refine ⟨st, hst, us, u, hus, hu, ?_⟩
  have hc := tokMatches_compat hm
  simp only [List.mem_cons, List.not_mem_nil, or_false, not_or] at hv
  simp only [LO, List.mem_cons, List.not_mem_nil, or_false] at hL
  rcases hL with h | h | h | h | h | h | h <;> rw [h] at hc <;>
    simp only [compat, Bool.or_eq_true, Bool.and_eq_true, beq_iff_eq, hk] at hc
  · exact h
  · rcases hc with hc | hc <;> cases hc
  · cases hc
  · cases hc
  · exact absurd hc.2 hv.1
  · rcases hc.2 with hc | hc
    · exact absurd hc hv.2.1
    · exact absurd hc hv.2.2.1
  · rcases hc.2 with hc | hc
    · exact absurd hc hv.2.2.2.1
    · exact absurd hc hv.2.2.2.2

/-- **C08 (one statement per piece).**  If the source is accepted, every non-empty piece — the whole
    of it, whatever was appended to a valid statement — is accounted for, token by token, by the
    `unparse` of ONE statement of the result. -/
theorem C08_whole_piece_is_one_statement (src : Bytes) (hok : (parse src).2 = []) : ∀ g ∈ pieces src,
    ∃ st ∈ (parse src).1, ∃ us, unparseStmt st = some us ∧ accounts true us g = true := by
  intro g hg
  obtain ⟨st, hst, us, hus, ha, _⟩ := accepted_piece src hok g hg
  exact ⟨st, hst, us, hus, ha⟩

theorem forall₂_two {α β : Type} {R : α → β → Prop} {v : List α} {t1 t2 : β} (h : Forall₂ R v [t1, t2]) :
    ∃ u1 u2, v = [u1, u2] ∧ R u1 t1 ∧ R u2 t2 := by
  cases h with
  | cons h1 h' =>
    cases h' with
    | cons h2 h'' => cases h''; exact ⟨_, _, rfl, h1, h2⟩

theorem forall₂_three {α β : Type} {R : α → β → Prop} {v : List α} {t0 t1 t2 : β}
    (h : Forall₂ R v [t0, t1, t2]) : ∃ u0 u1 u2, v = [u0, u1, u2] ∧ R u0 t0 ∧ R u1 t1 ∧ R u2 t2 := by
  cases h with
  | cons h0 h' =>
    obtain ⟨u1, u2, rfl, h1, h2⟩ := forall₂_two h'
    exact ⟨_, u1, u2, rfl, h0, h1, h2⟩

/-- **C08 (forbidden neighbours).**  If a piece contains two adjacent tokens (neither a comma) such
    that no pair of classes they can stand for is allowed (`okPair`), the source is rejected. -/
theorem C08_adjacent_rejected (src : Bytes) (g : List Token) (hg : g ∈ pieces src)
    (pre post : List Token) (t1 t2 : Token) (hsh : g = pre ++ t1 :: t2 :: post)
    (h1 : t1.kind ≠ .comma) (h2 : t2.kind ≠ .comma)
    (hbad : ∀ c1 c2, compat c1 t1 = true → never c1 = false → compat c2 t2 = true → never c2 = false →
      okPair c1 c2 = false) : (parse src).2 ≠ [] := by
  intro hok
  obtain ⟨st, _, us, _, _, hacc, hgood⟩ := accepted_piece src hok g hg
  obtain ⟨_, v, _, _, _, hf, hadj⟩ := window_classes hacc hgood pre [t1, t2] post (by simp [hsh])
    (by simp [h1, h2])
  obtain ⟨u1, u2, rfl, ⟨hc1, hn1⟩, ⟨hc2, hn2⟩⟩ := forall₂_two hf
  simp only [List.map_cons, List.map_nil, adjOK, Bool.and_true] at hadj
  rw [hbad _ _ hc1 hn1 hc2 hn2] at hadj
  cases hadj

theorem operandEnd_not_comma {t : Token} (h : operandEndTok t = true) : t.kind ≠ .comma := by
  intro hk; simp [operandEndTok, isNameTok, hk] at h
theorem operandStart_not_comma {t : Token} (h : operandStartTok t = true) : t.kind ≠ .comma := by
  intro hk; simp [operandStartTok, isNameTok, hk] at h

/-- **C08 (two operands in a row).**  A literal, `)`, `]` or name directly followed by a literal or
    a name: `where a == 1 2`, `take 5 6`, `where f(x) y`, `project a b`, `as x y`. -/
theorem C08_two_operands_rejected (src : Bytes) (g : List Token) (hg : g ∈ pieces src)
    (pre post : List Token) (t1 t2 : Token) (hsh : g = pre ++ t1 :: t2 :: post)
    (h1 : operandEndTok t1 = true) (h2 : operandStartTok t2 = true) : (parse src).2 ≠ [] :=
  C08_adjacent_rejected src g hg pre post t1 t2 hsh (operandEnd_not_comma h1) (operandStart_not_comma h2)
    (fun _ _ hc1 hn1 hc2 hn2 => okPair_juxt (compat_end hc1 hn1 h1) (compat_start hc2 hn2 h2))

/-- **C08 (a pipe needs an operator).**  A `|` directly followed by anything but an identifier spelled
    like an operator (or other) keyword: `||`, `| )`, `| 5`, `| foo`. -/
theorem C08_pipe_needs_operator (src : Bytes) (g : List Token) (hg : g ∈ pieces src)
    (pre post : List Token) (t1 t2 : Token) (hsh : g = pre ++ t1 :: t2 :: post)
    (h1 : t1.kind = .pipe) (h2 : t2.kind ≠ .comma)
    (hno : ¬ (t2.kind = .ident ∧ (otherSpellings.contains t2.value = true ∨ t2.value = b "count"))) :
    (parse src).2 ≠ [] := by
  refine C08_adjacent_rejected src g hg pre post t1 t2 hsh (by rw [h1]; decide) h2 ?_
  intro c1 c2 hc1 hn1 hc2 _
  have : c1 = .s .pipe := by
    have := compat_sym hc1 hn1 (by rw [h1]; decide)
    rwa [h1] at this
  subst this
  cases c2 <;> first
    | rfl
    | (exfalso; apply hno; simp only [compat, Bool.and_eq_true, beq_iff_eq] at hc2
       first | exact ⟨hc2.1, Or.inl hc2.2⟩ | exact ⟨hc2.1, Or.inr hc2.2⟩)
    | (rename_i k; cases k <;> rfl)

theorem C08_double_pipe_rejected (src : Bytes) (g : List Token) (hg : g ∈ pieces src)
    (pre post : List Token) (t1 t2 : Token) (hsh : g = pre ++ t1 :: t2 :: post)
    (h1 : t1.kind = .pipe) (h2 : t2.kind = .pipe) : (parse src).2 ≠ [] :=
  C08_pipe_needs_operator src g hg pre post t1 t2 hsh h1 (by rw [h2]; decide) (by rw [h2]; simp)

/-- **C08 (surplus argument after `count`).**  The identifier `count` directly followed by a literal or
    a name (`T | count x`, `T | count 5`): neither the operator `count` nor a column named `count`
    can be followed by an operand. -/
theorem C08_count_argument_rejected (src : Bytes) (g : List Token) (hg : g ∈ pieces src)
    (pre post : List Token) (t1 t2 : Token) (hsh : g = pre ++ t1 :: t2 :: post)
    (h1 : t1.kind = .ident ∧ t1.value = b "count") (h2 : operandStartTok t2 = true) : (parse src).2 ≠ [] := by
  refine C08_adjacent_rejected src g hg pre post t1 t2 hsh (by rw [h1.1]; decide) (operandStart_not_comma h2) ?_
  intro c1 c2 hc1 hn1 hc2 hn2
  have hs := compat_start hc2 hn2 h2
  cases c1 with
  | nm | lit => exact okPair_juxt rfl hs
  | kCount => cases c2 <;> first | rfl | cases hs
  | bad => cases hn1
  | kDir | kNF | kw => simp only [compat, h1.1, h1.2] at hc1; exact absurd hc1 (by decide)
  | s k =>
    simp only [compat, beq_iff_eq] at hc1
    rw [← hc1, h1.1] at hn1; cases hn1

/-- **C08 (surplus direction keyword).**  After an operand end, `asc`/`desc` followed by `asc`/`desc`:
    `sort by a asc desc`, `top 3 by f(x) desc desc`. -/
theorem C08_asc_desc_rejected (src : Bytes) (g : List Token) (hg : g ∈ pieces src)
    (pre post : List Token) (t0 t1 t2 : Token) (hsh : g = pre ++ t0 :: t1 :: t2 :: post)
    (h0 : operandEndTok t0 = true)
    (h1 : t1.kind = .ident ∧ (t1.value = b "asc" ∨ t1.value = b "desc"))
    (h2 : t2.kind = .ident ∧ (t2.value = b "asc" ∨ t2.value = b "desc")) : (parse src).2 ≠ [] := by
  intro hok
  obtain ⟨st, _, us, _, _, hacc, hgood⟩ := accepted_piece src hok g hg
  obtain ⟨_, v, _, _, _, hf, hadj⟩ := window_classes hacc hgood pre [t0, t1, t2] post (by simp [hsh])
    (by simp [operandEnd_not_comma h0, h1.1, h2.1])
  obtain ⟨u0, u1, u2, rfl, ⟨hc0, hn0⟩, ⟨hc1, hn1⟩, ⟨hc2, hn2⟩⟩ := forall₂_three hf
  simp only [List.map_cons, List.map_nil, adjOK, Bool.and_true, Bool.and_eq_true] at hadj
  have he := compat_end hc0 hn0 h0
  have hv1 : otherSpellings.contains t1.value = false := by rcases h1.2 with h | h <;> (rw [h]; decide)
  have hv2 : otherSpellings.contains t2.value = false := by rcases h2.2 with h | h <;> (rw [h]; decide)
  have hx1 : t1.value ≠ b "count" ∧ t1.value ≠ b "first" ∧ t1.value ≠ b "last" := by
    rcases h1.2 with h | h <;> (rw [h]; decide)
  have hx2 : t2.value ≠ b "count" ∧ t2.value ≠ b "first" ∧ t2.value ≠ b "last" := by
    rcases h2.2 with h | h <;> (rw [h]; decide)
  -- the class of `t1` is a name or the direction keyword; likewise `t2`
  have cls : ∀ (c : Cl) (t : Token), compat c t = true → never c = false → t.kind = .ident →
      otherSpellings.contains t.value = false →
      (t.value ≠ b "count" ∧ t.value ≠ b "first" ∧ t.value ≠ b "last") → c = .nm ∨ c = .kDir := by
    intro c t hc hn hk ho hx
    cases c with
    | nm => exact Or.inl rfl
    | kDir => exact Or.inr rfl
    | lit => simp [compat, hk] at hc
    | kCount => simp only [compat, Bool.and_eq_true, beq_iff_eq] at hc; exact absurd hc.2 hx.1
    | kNF =>
      simp only [compat, Bool.and_eq_true, Bool.or_eq_true, beq_iff_eq] at hc
      rcases hc.2 with h | h
      · exact absurd h hx.2.1
      · exact absurd h hx.2.2
    | kw => simp only [compat, Bool.and_eq_true, ho] at hc; exact absurd hc.2 (by decide)
    | bad => cases hn
    | s k => simp only [compat, beq_iff_eq] at hc; rw [← hc, hk] at hn; cases hn
  rcases cls _ _ hc1 hn1 h1.1 hv1 hx1 with e1 | e1
  · rw [e1, okPair_juxt he rfl] at hadj; exact absurd hadj.1 (by decide)
  · rcases cls _ _ hc2 hn2 h2.1 hv2 hx2 with e2 | e2 <;> rw [e1, e2] at hadj <;>
      exact absurd hadj.2 (by decide)

/-- symbol kinds that cannot follow an operator-like token: every symbol (closers included) except
    `(`, `+`, `-` -/
def stopperKind (k : TokKind) : Bool :=
  !(k == .ident || k == .qident || k == .number || k == .string || k == .lparen || k == .plus || k == .minus)

theorem dangling_opLike {k : TokKind} (h : danglingKind k = true) :
    opLike (.s k) = true ∨ never (.s k) = true := by
  revert h; cases k <;> decide

theorem stopper_not_start {k : TokKind} (h : stopperKind k = true) : isStart (.s k) = false := by
  revert h; cases k <;> decide

/-- rule 5 of `okPair` (rule 7 for `;` and error tokens) -/
theorem okPair_stopper (k1 k2 : TokKind) (h1 : danglingKind k1 = true) (h2 : stopperKind k2 = true)
    (hex : ¬ (k1 = .lparen ∧ k2 = .rparen)) : okPair (.s k1) (.s k2) = false := by
  rcases dangling_opLike h1 with ho | hn
  · have hx : (Cl.s k1 == Cl.s .lparen && Cl.s k2 == Cl.s .rparen) = false := by
      simpa using hex
    simp [okPair, ho, stopper_not_start h2, hx]
  · exact okPair_never_left hn

theorem dangling_sym {k : TokKind} (h : danglingKind k = true) :
    k ≠ .ident ∧ k ≠ .qident ∧ k ≠ .number ∧ k ≠ .string := by
  refine ⟨?_, ?_, ?_, ?_⟩ <;> (rintro rfl; exact Bool.noConfusion h)

theorem stopper_sym {k : TokKind} (h : stopperKind k = true) :
    k ≠ .ident ∧ k ≠ .qident ∧ k ≠ .number ∧ k ≠ .string := by
  refine ⟨?_, ?_, ?_, ?_⟩ <;> (rintro rfl; exact Bool.noConfusion h)

/-- **C08 (dangling operator inside a piece).**  An operator, sign, `|`, `.`, `=`, `(`, `[`, `by`, `in`
    directly followed by a closer, another operator, `|`, `=`, `by`, … : `a + )`, `(a and )`,
    `a[ ]`, `where a == | count`, `x = = 1`.  (Exceptions: `(` `)` — a call without arguments; and a
    comma on either side, see `comma_before_closer_accepted`.) -/
theorem C08_dangling_inside_rejected (src : Bytes) (g : List Token) (hg : g ∈ pieces src)
    (pre post : List Token) (t1 t2 : Token) (hsh : g = pre ++ t1 :: t2 :: post)
    (h1 : danglingKind t1.kind = true) (h2 : stopperKind t2.kind = true)
    (hc1 : t1.kind ≠ .comma) (hc2 : t2.kind ≠ .comma)
    (hex : ¬ (t1.kind = .lparen ∧ t2.kind = .rparen)) : (parse src).2 ≠ [] := by
  refine C08_adjacent_rejected src g hg pre post t1 t2 hsh hc1 hc2 ?_
  intro c1 c2 hm1 hn1 hm2 hn2
  rw [compat_sym hm1 hn1 (dangling_sym h1), compat_sym hm2 hn2 (stopper_sym h2)]
  exact okPair_stopper _ _ h1 h2 hex

/-- **C08 (missing argument).**  A piece that ends in `| x` where `x` is not the identifier `count` —
    every operator keyword with nothing after it (`T | where`, `T | project`, `T | join`, …), and
    every unknown operator — is rejected. -/
theorem C08_missing_argument_rejected (src : Bytes) (g : List Token) (hg : g ∈ pieces src)
    (pre : List Token) (t1 t2 : Token) (hsh : g = pre ++ [t1, t2])
    (h1 : t1.kind = .pipe) (h2 : ¬ (t2.kind = .ident ∧ t2.value = b "count")) : (parse src).2 ≠ [] := by
  intro hok
  by_cases hcm : t2.kind = .comma
  · exact C08_dangling_operator_rejected src ⟨g, hg, t2, by simp [hsh], by rw [hcm]; decide⟩ hok
  obtain ⟨st, _, us, _, _, hacc, hgood⟩ := accepted_piece src hok g hg
  obtain ⟨pre', v, post', hv, hp, hf, hadj⟩ := window_classes hacc hgood pre [t1, t2] [] (by simp [hsh])
    (by simp [h1, hcm])
  obtain ⟨u1, u2, rfl, ⟨hc1, hn1⟩, ⟨hc2, hn2⟩⟩ := forall₂_two hf
  have hpn := hp.nil_right
  subst hpn
  simp only [List.map_cons, List.map_nil, adjOK, Bool.and_true] at hadj
  have e1 : cl u1 = .s .pipe := by
    have := compat_sym hc1 hn1 (by rw [h1]; decide)
    rwa [h1] at this
  rw [e1] at hadj
  obtain ⟨a, hl, haL⟩ := hgood.lin.last
  rw [hv] at hl
  simp only [List.append_nil, List.map_append, List.map_cons, List.map_nil] at hl
  rw [List.getLast?_append] at hl
  simp only [List.getLast?_cons_cons, List.getLast?_singleton, Option.some_or, Option.some.injEq] at hl
  subst hl
  generalize cl u2 = c2 at hadj haL hc2
  simp only [LO, List.mem_cons, List.not_mem_nil, or_false] at haL
  rcases haL with rfl | rfl | rfl | rfl | rfl | rfl | rfl <;> first
    | (exact absurd hadj (by decide))
    | (simp only [compat, Bool.and_eq_true, beq_iff_eq] at hc2; exact h2 hc2)

/-- the instance for the operator keywords of the Go source (`Facts.operatorKeywords`) -/
theorem C08_operator_keyword_alone_rejected (src : Bytes) (g : List Token) (hg : g ∈ pieces src)
    (pre : List Token) (t1 t2 : Token) (hsh : g = pre ++ [t1, t2]) (h1 : t1.kind = .pipe)
    (kw : String) (hkw : kw ∈ Facts.operatorKeywords.map (·.1)) (hnc : kw ≠ "count")
    (h2 : t2.value = b kw) : (parse src).2 ≠ [] := by
  refine C08_missing_argument_rejected src g hg pre t1 t2 hsh h1 ?_
  rintro ⟨_, hv⟩
  rw [h2] at hv
  have key : ∀ k ∈ Facts.operatorKeywords.map (·.1), k ≠ "count" → b k ≠ b "count" := by decide
  exact key kw hkw hnc hv

/-- **C08 (missing argument inside a pipeline).**  `| x |` and `| x )` where `x` is an identifier other than
    `count`: `T | where | count`, `T | join (U | take) on a`. -/
theorem C08_missing_argument_inside_rejected (src : Bytes) (g : List Token) (hg : g ∈ pieces src)
    (pre post : List Token) (t1 t2 t3 : Token) (hsh : g = pre ++ t1 :: t2 :: t3 :: post)
    (h1 : t1.kind = .pipe) (h2 : t2.kind = .ident ∧ t2.value ≠ b "count")
    (h3 : t3.kind = .pipe ∨ t3.kind = .rparen) : (parse src).2 ≠ [] := by
  intro hok
  have h3c : t3.kind ≠ .comma := by rcases h3 with h | h <;> (rw [h]; decide)
  have hcm : t2.kind ≠ .comma := by rw [h2.1]; decide
  obtain ⟨st, _, us, _, _, hacc, hgood⟩ := accepted_piece src hok g hg
  obtain ⟨_, v, _, _, _, hf, hadj⟩ := window_classes hacc hgood pre [t1, t2, t3] post (by simp [hsh])
    (by simp [h1, hcm, h3c])
  obtain ⟨u1, u2, u3, rfl, ⟨hc1, hn1⟩, ⟨hc2, hn2⟩, ⟨hc3, hn3⟩⟩ := forall₂_three hf
  simp only [List.map_cons, List.map_nil, adjOK, Bool.and_true, Bool.and_eq_true] at hadj
  have e1 : cl u1 = .s .pipe := by
    have := compat_sym hc1 hn1 (by rw [h1]; decide)
    rwa [h1] at this
  have e3 : cl u3 = .s t3.kind := compat_sym hc3 hn3 (by rcases h3 with h | h <;> (rw [h]; decide))
  rw [e1, e3] at hadj
  generalize cl u2 = c2 at hadj hc2
  cases c2 with
  | kCount => simp only [compat, Bool.and_eq_true, beq_iff_eq] at hc2; exact h2.2 hc2.2
  | kw => rcases h3 with h | h <;> (rw [h] at hadj; exact absurd hadj.2 (by decide))
  | nm | lit | kDir | kNF | bad => exact absurd hadj.1 (by decide)
  | s k => exact absurd hadj.1 (by cases k <;> decide)

end Pql.Reject
