/-
Property C07 — the parser builds the tree the documented grammar dictates.

This file holds the table-level part: the precedence table the model parser uses is the regenerated
one, and it has the documented shape (or < and < comparisons < + - < * / %; `in` at comparison level);
join kinds and keywords are the documented ones.  The forward theorem (every tree of the grammar is
what the parser builds from its tokens): Props/C07Full.lean.
-/
import PqlModel.Model.Parse
import PqlModel.Spec.Grammar
namespace Pql.C07
open Pql

/-- **C07 (precedence table).** The regenerated `operatorPrecedence` gives the documented
    levels to all fifteen binary operators and `in`, and -1 to every other token kind. -/
theorem C07_precedence_table :
    (TokKind.all.map fun k => (k, precOf k)) =
      [(.ident, -1), (.qident, -1), (.number, -1), (.string, -1), (.and_, 1), (.or_, 0), (.pipe, -1),
       (.dot, -1), (.comma, -1), (.plus, 3), (.minus, 3), (.star, 4), (.slash, 4), (.mod, 4),
       (.assign, -1), (.eq, 2), (.ne, 2), (.lt, 2), (.le, 2), (.gt, 2), (.ge, 2), (.cieq, 2), (.cine, 2),
       (.lparen, -1), (.rparen, -1), (.lbracket, -1), (.rbracket, -1), (.in_, 2), (.by_, -1),
       (.semi, -1), (.error, -1)] := by decide +kernel

/-- the table as a function of the kind; facts about the levels of particular kinds are read
    off this instead of searching the regenerated list again -/
theorem precOf_eq (k : TokKind) : precOf k =
    match k with
    | .or_ => 0
    | .and_ => 1
    | .eq | .ne | .lt | .le | .gt | .ge | .cieq | .cine | .in_ => 2
    | .plus | .minus => 3
    | .star | .slash | .mod => 4
    | _ => -1 := by
  have h := C07_precedence_table
  simp only [TokKind.all, List.map, List.cons.injEq, Prod.mk.injEq, true_and, and_true] at h
  cases k <;> simp only [h]

/-- the spec's precedence function is the same table -/
theorem C07_spec_prec_eq_model (k : TokKind) : Grammar.precOf k = precOf k := rfl

/-- **C07 (join kinds).** the join kinds the parser accepts are exactly the documented three -/
theorem C07_join_kinds : Facts.joinTypes = ["inner", "innerunique", "leftouter"] := by decide

/-- **C07 (keywords).** the words the lexer reserves are exactly these four -/
theorem C07_keywords :
    Facts.keywords = [("and", "TokenAnd"), ("by", "TokenBy"), ("in", "TokenIn"), ("or", "TokenOr")] := by decide

end Pql.C07
