/-
Property C03 / C02, semantic form, in full: the intended SQL statement of ANY tabular expression —
any number of joins, sequential or nested to any depth, ORDER BY / LIMIT attached wherever
`splitA` attaches them — evaluates, in the reference SQL evaluator, to the meaning the specification
interpreter `Rel.interp` gives the expression.

  1. `BlockSem_joinFree`: the C02 statement theorem for a join-free block placed anywhere in a chain; with it
     `C03_chain_unconditional` / `C03_chain_take_unconditional` (the chain theorems `C03_chain` / `C03_chain_take` without the
     `hR3…` hypotheses).
  2. `C03_join_link_sort`: ORDER BY (and LIMIT) on the join's own SELECT, for a rectangular left table
     (`Rect`, Lemmas/JoinFullBase.lean);
     `C03_chain_any_after`: the chain theorem for every join-free `after`.
  3. `C03_intended_semantics`: the general theorem, by induction over the run of the intended splitting
     (`C05.RunA.res`, Lemmas/JoinFullGen.lean), under the decidable conditions `namesOk` (no name capture, finding K3),
     `tabOpsOk` (the aggregate side conditions of C02 everywhere; a sort directly after a join does not mention
     `$left` / `$right`) and `RectDB db`.
  Each hypothesis is needed: `Cex.*` below.

Where the notions of these statements (and of Props/C02*.lean, C03*.lean) are defined, all under Lemmas/: `namesOk`
JoinFullNames; `tabOpsOk`, `opsOkJ`, `opOkJ` JoinFullSem; `Rect`, `RectDB` JoinFullBase; `opsOk`, `asNamesOk` SelSemChain (the
join-free spelling: `opsOkJ false` and `namesOk` on join-free lists, `opsOkJ_joinFree`, `C02.asNamesO_joinFree`); `opOk`,
`sortOkA` SelSemBody (namespace `C02`); `BlockSem`, `lastName` JoinSemEval; `startsPlain`, `plainOp` JoinSemSplit;
`joinTables`, `condHolds` JoinSemKinds; `holds`, `colVal` JoinSemKey; `kindOf` JoinCondition (`flavorName` of pql.go:196–199); `noBang` JoinSemNorm.
-/
import PqlModel.Lemmas.JoinFullTop
import PqlModel.Props.C03ChainTake
namespace Pql.C03
open Pql Sql CompileOracle Intended JoinSem JoinFull

/-- **the C02 statement theorem for a join-free block placed anywhere** (`JoinSem.BlockSem`): for join-free `ops`
    satisfying the aggregate side conditions `opsOk`, every list `dst` of earlier links and every list
    `ctes0` of earlier bindings. -/
theorem BlockSem_joinFree (src : Bytes) (db : DB) (ctes0 : List (Bytes × Table)) (dst : List SubA) (T : Ident)
    (ops : OpList) (hjf : SplitQ.joinFree ops = true) (hok : SelSem.opsOk ops = true) :
    BlockSem src db ctes0 dst T ops :=
  JoinFull.BlockSem_joinFree src db ctes0 dst T ops hjf hok

/-- **C03 (the chain), without hypotheses on the blocks.** -/
theorem C03_chain_unconditional (src : Bytes) (db : DB) (T U : Ident) (before after rops : OpList) (p k a b : Span)
    (flavor : Option Ident) (d e f : Span) (conds : ExprList) (subs : List SubA) (st : Statement)
    (hjb : SplitQ.joinFree before = true) (hjr : SplitQ.joinFree rops = true)
    (hja : SplitQ.joinFree after = true) (hpl : startsPlain after = true)
    (hs : splitA [] (.mk (some T) (appendOps before
      (.cons (.join p k a b flavor d (.mk (some U) rops) e f conds) after))) = some subs)
    (hst : stmtOf src subs = some st)
    (hnames : (subs.map (·.name)).Nodup)
    (hT : T.name ∉ subs.map (·.name)) (hU : U.name ∉ subs.map (·.name))
    (hob : SelSem.opsOk before = true) (hor : SelSem.opsOk rops = true) (hoa : SelSem.opsOk after = true) :
    evalStatement db st =
      Rel.interpOps src db
        (joinTables (kindOf flavor == Bytes.ofString "innerunique") (kindOf flavor == Bytes.ofString "leftouter")
          (Rel.interpOps src db (lookupTable db [] T.name) before)
          (Rel.interp src db (.mk (some U) rops)) (buildJoinCondition conds)) after :=
  C03_chain src db T U before after rops p k a b flavor d e f conds subs st hjb hjr hja hpl hs hst hnames hT hU
    (BlockSem_joinFree src db [] [] T before hjb hob)
    (fun c dst => BlockSem_joinFree src db c dst U rops hjr hor)
    (fun c dst J => BlockSem_joinFree src db c dst J after hja hoa)

/-- **C03 (the chain, `take` directly after the join), without hypotheses on the blocks.** -/
theorem C03_chain_take_unconditional (src : Bytes) (db : DB) (T U : Ident) (before rest rops : OpList)
    (p k a b : Span) (flavor : Option Ident) (d e f : Span) (conds : ExprList) (pp kk : Span) (n : Expr)
    (subs : List SubA) (st : Statement)
    (hjb : SplitQ.joinFree before = true) (hjr : SplitQ.joinFree rops = true)
    (hja : SplitQ.joinFree rest = true)
    (hs : splitA [] (.mk (some T) (appendOps before
      (.cons (.join p k a b flavor d (.mk (some U) rops) e f conds) (.cons (.take pp kk n) rest)))) = some subs)
    (hst : stmtOf src subs = some st)
    (hnames : (subs.map (·.name)).Nodup)
    (hT : T.name ∉ subs.map (·.name)) (hU : U.name ∉ subs.map (·.name))
    (hob : SelSem.opsOk before = true) (hor : SelSem.opsOk rops = true) (hoa : SelSem.opsOk rest = true) :
    evalStatement db st =
      Rel.interpOps src db
        (Rel.takeTable
          (joinTables (kindOf flavor == Bytes.ofString "innerunique") (kindOf flavor == Bytes.ofString "leftouter")
            (Rel.interpOps src db (lookupTable db [] T.name) before)
            (Rel.interp src db (.mk (some U) rops)) (buildJoinCondition conds)) n) rest :=
  C03_chain_take src db T U before rest rops p k a b flavor d e f conds pp kk n subs st hjb hjr hja hs hst hnames
    hT hU
    (BlockSem_joinFree src db [] [] T before hjb hob)
    (fun c dst => BlockSem_joinFree src db c dst U rops hjr hor)
    (fun c dst J => BlockSem_joinFree src db c dst J rest hja hoa)

/-- **C03 (the join link with ORDER BY and / or LIMIT).**  The SELECT of a join link that carries the
    sort terms `ts` (and possibly a `take`) evaluates to `Rel.sortTable` (then `Rel.takeTable`) of the
    documented join of the two tables it names — provided the left table is rectangular (`Rect`; needed:
    `Cex.C03_join_sort_needs_rect`) and the sort terms do not mention `$left.…` / `$right.…`
    (`aliasFreeTerms`; needed: `Ex.C03_sort_on_join_link_sees_aliases`, `Cex.C03_join_sort_needs_aliasFree`). -/
theorem C03_join_link_sort (src : Bytes) (db : DB) (ctes : List (Bytes × Table)) (a : SubA)
    (unique left : Bool) (l r : Bytes) (cond : Expr) (ts : List SortTerm) (sel : Select)
    (hsrc : a.source = .join unique left l r cond) (hop : a.op = none) (hsort : a.sort = some ts)
    (hsel : selOf src a = some sel)
    (hal : aliasFreeTerms ts = true) (hrect : Rect (lookupTable db ctes l)) :
    evalSelect db ctes sel =
      (match a.take with
       | some n => Rel.takeTable (Rel.sortTable (joinTables unique left (lookupTable db ctes l) (lookupTable db ctes r) cond) ts) n
       | none => Rel.sortTable (joinTables unique left (lookupTable db ctes l) (lookupTable db ctes r) cond) ts) := by
  rw [evalSelect_join_sort src db ctes a unique left l r cond sel hsrc hop hsel
    (fun ts' h => by rw [hsort] at h; cases h; exact hal) (fun _ => hrect)]
  cases ht : a.take <;> simp [SelSem.sortTakeA, hsort, ht, SplitQ.interpClause]

/-- **C02 / C03 (statement semantics, any tabular expression), sharpest form**: only the names of the CTEs (all
    links but the last, which is the statement's body) have to be pairwise distinct, and no source table of the
    expression (right-hand pipelines included) may be among them. -/
theorem C03_statement_semantics_ctes (src : Bytes) (db : DB) (t : Tabular) (subs : List SubA) (st : Statement)
    (hs : splitA [] t = some subs) (hst : stmtOf src subs = some st)
    (hnames : (subs.dropLast.map (·.name)).Nodup)
    (hsrcs : C05.hasSources t = true) (htabs : ∀ n ∈ C05.tablesOf t, n ∉ subs.dropLast.map (·.name))
    (hops : tabOpsOk t = true) (hdb : RectDB db) :
    evalStatement db st = Rel.interp src db t := by
  obtain ⟨source, ops, R, rfl, hR, _, r⟩ := gen_tab src db t [] subs hs
  simp only [List.nil_append] at hR
  subst hR
  have hs' := hsrcs
  unfold C05.hasSources at hs'
  simp only [Bool.and_eq_true] at hs'
  unfold C05.tablesOf at htabs
  unfold tabOpsOk at hops
  rw [evalStatement_val src db source subs st hst (r.ok (by simp) hops) (.inr hdb),
    r.sem [] ⟨hnames, by simp⟩ hs'.2 (fun n hn hm => htabs n (List.mem_cons_of_mem _ hn) (by simpa using hm))
      (fun _ => .inr (htabs _ (List.mem_cons_self ..))),
    interp_mk_val src db [] source ops hsrcs (by simp)]

/-- **C02 / C03 (statement semantics, any tabular expression), with conditions on the chain.**  If the names
    of the links are pairwise distinct and no source table of the expression (right-hand pipelines
    included) is also the name of a link, then the intended statement evaluates to the meaning of the
    expression. -/
theorem C03_statement_semantics (src : Bytes) (db : DB) (t : Tabular) (subs : List SubA) (st : Statement)
    (hs : splitA [] t = some subs) (hst : stmtOf src subs = some st)
    (hnames : (subs.map (·.name)).Nodup)
    (hsrcs : C05.hasSources t = true) (htabs : ∀ n ∈ C05.tablesOf t, n ∉ subs.map (·.name))
    (hops : tabOpsOk t = true) (hdb : RectDB db) :
    evalStatement db st = Rel.interp src db t :=
  have hsub := ((List.dropLast_sublist subs).map (·.name))
  C03_statement_semantics_ctes src db t subs st hs hst (hnames.sublist hsub) hsrcs
    (fun n hn hm => htabs n hn (hsub.subset hm)) hops hdb

/-- **C02 / C03 (program level, no lets): the general theorem.**  For every tabular expression `t` — any
    number of joins, sequential or nested to any depth —: if the intended statement of the program
    consisting of the query `t` exists, the names are capture-free (`namesOk`), every operator satisfies
    its side condition (`tabOpsOk`) and the tables of the database are rectangular, then evaluating the
    intended statement gives the documented meaning of `t`. -/
theorem C03_intended_semantics (src : Bytes) (db : DB) (t : Tabular) (st : Statement)
    (hi : intended src [.tabular t] = some st)
    (hnames : namesOk t = true) (hops : tabOpsOk t = true) (hdb : RectDB db) :
    evalStatement db st = Rel.interp src db t := by
  simp only [intended, resolveLets, C05.substTabular_nil, bind, Option.bind] at hi
  cases hs : splitA [] t with
  | none => simp [hs] at hi
  | some subs =>
    simp only [hs] at hi
    obtain ⟨h1, h2, h3⟩ := names_of_namesOk t subs hs hnames
    exact C03_statement_semantics src db t subs st hs hi h1 h2 h3 hops hdb

/-- **C03 (the chain, any join-free `after`)**: `C03_chain` without `startsPlain`: a `sort` / `top`
    directly after the join becomes the ORDER BY of the join's own SELECT; its terms must not mention the
    join aliases (`opsOkJ true after`), and the database must be rectangular. -/
theorem C03_chain_any_after (src : Bytes) (db : DB) (T U : Ident) (before after rops : OpList) (p k a b : Span)
    (flavor : Option Ident) (d e f : Span) (conds : ExprList) (subs : List SubA) (st : Statement)
    (hjb : SplitQ.joinFree before = true) (hjr : SplitQ.joinFree rops = true)
    (hs : splitA [] (.mk (some T) (appendOps before
      (.cons (.join p k a b flavor d (.mk (some U) rops) e f conds) after))) = some subs)
    (hst : stmtOf src subs = some st)
    (hnames : (subs.map (·.name)).Nodup)
    (hT : T.name ∉ subs.map (·.name)) (hU : U.name ∉ subs.map (·.name))
    (hob : SelSem.opsOk before = true) (hor : SelSem.opsOk rops = true)
    (hja : SplitQ.joinFree after = true) (hoa : opsOkJ true after = true) (hdb : RectDB db) :
    evalStatement db st =
      Rel.interpOps src db
        (joinTables (kindOf flavor == Bytes.ofString "innerunique") (kindOf flavor == Bytes.ofString "leftouter")
          (Rel.interpOps src db (lookupTable db [] T.name) before)
          (Rel.interp src db (.mk (some U) rops)) (buildJoinCondition conds)) after := by
  rw [← C03_chain_meaning]
  apply C03_statement_semantics src db _ subs st hs hst hnames
  · simp only [C05.hasSources, Option.isSome_some, Bool.true_and]
    rw [opsHaveSources_append _ _ hjb]
    simp only [C05.opsHaveSources, C05.hasSources, Option.isSome_some,
      opsHaveSources_joinFree rops hjr, opsHaveSources_joinFree after hja, Bool.and_self]
  · intro n hn
    simp only [C05.tablesOf, identName] at hn
    rw [opsTablesOf_append _ _ hjb] at hn
    simp only [C05.opsTablesOf, C05.tablesOf, identName, opsTablesOf_joinFree rops hjr,
      opsTablesOf_joinFree after hja, List.append_nil, List.mem_cons, List.not_mem_nil, or_false] at hn
    rcases hn with rfl | rfl
    · exact hT
    · exact hU
  · simp only [tabOpsOk]
    apply opsOkJ_append _ _ hjb hob
    simp only [opsOkJ, opOkJ, tabOpsOk, SplitQ.isJoin, Bool.and_eq_true]
    exact ⟨by rw [opsOkJ_joinFree rops hjr]; exact hor, hoa⟩
  · exact hdb

/-! ### every hypothesis of the general theorem is needed -/
namespace Cex
open Ex

def sortBy (col : String) (asc : Bool) : SortTerm := ⟨.qident [idt col], asc, .zero, false, .zero⟩

/-- T(k, a) with a short row (no value for `a`) -/
def badT : Table := ⟨[bs "k", bs "a"], [[.int 1]]⟩
def u2 : Table := ⟨[bs "k", bs "c"], [[.int 1, .int 5], [.int 1, .int 3]]⟩
def badDB : DB := [(bs "T", badT), (bs "U", u2)]
/-- `T | join (U) on k | sort by c asc` -/
def progSort : Tabular :=
  .mk (some (idt "T")) (.cons (joinOp none tabU) (.cons (.sort .zero .zero [sortBy "c" true]) .nil))

/-- `RectDB` is needed: with a short left row the ORDER BY of the join's SELECT finds the column `c` under
    `$right` while the flat join row, misaligned, has no `c` — the SQL sorts, the specification does not. -/
theorem C03_join_sort_needs_rect :
    namesOk progSort = true ∧ tabOpsOk progSort = true ∧ ¬ RectDB badDB ∧
    (stmtOfT progSort).map (evalStatement badDB) ≠ some (Rel.interp [] badDB progSort) := by decide +kernel

/-- … on a rectangular database the same program is fine (instance of the general theorem) -/
example : (stmtOfT progSort).map (evalStatement exDB) = some (Rel.interp [] exDB progSort) := by
  cases h : intended [] [.tabular progSort] with
  | none => exact absurd h (by decide)
  | some st =>
    have h' : stmtOfT progSort = some st := h
    rw [h', Option.map_some, C03_intended_semantics [] exDB progSort st h (by decide) (by decide) (by decide)]

/-- `tabOpsOk` (its alias part) is needed: `T | join kind=leftouter (U) on k | sort by $left.a` -/
theorem C03_join_sort_needs_aliasFree :
    let term : SortTerm := ⟨.qident [idt "$left", idt "a"], false, .zero, false, .zero⟩
    let prog := Tabular.mk (some (idt "T"))
      (.cons (joinOp (some (idt "leftouter")) tabU) (.cons (.sort .zero .zero [term]) .nil))
    namesOk prog = true ∧ tabOpsOk prog = false ∧ RectDB exDB ∧
    (stmtOfT prog).map (evalStatement exDB) ≠ some (Rel.interp [] exDB prog) := by decide +kernel

/-- … only DIRECTLY after the join: behind a `take` the same sort starts a link of its own, where `$left.a`
    is an unknown column on both sides; `tabOpsOk` accepts the program and the theorem applies -/
example :
    let term : SortTerm := ⟨.qident [idt "$left", idt "a"], false, .zero, false, .zero⟩
    let prog := Tabular.mk (some (idt "T"))
      (.cons (joinOp (some (idt "leftouter")) tabU)
        (.cons (.take .zero .zero three) (.cons (.sort .zero .zero [term]) .nil)))
    tabOpsOk prog = true ∧ (stmtOfT prog).map (evalStatement exDB) = some (Rel.interp [] exDB prog) := by
  intro term prog
  refine ⟨by decide, ?_⟩
  cases h : intended [] [.tabular prog] with
  | none => exact absurd h (by decide)
  | some st =>
    have h' : stmtOfT prog = some st := h
    rw [h', Option.map_some, C03_intended_semantics [] exDB prog st h (by decide) (by decide) (by decide)]

/-- `namesOk` is needed (name capture, finding K3), each of its five parts:
    an `as` name that is also a source table — `T | as U | join (U) on k`; -/
theorem C03_needs_namesOk_as_is_table :
    let prog := Tabular.mk (some (idt "T")) (.cons (.as_ .zero .zero (some (idt "U"))) (.cons (joinOp none tabU) .nil))
    namesOk prog = false ∧ tabOpsOk prog = true ∧ RectDB exDB ∧
    (stmtOfT prog).map (evalStatement exDB) ≠ some (Rel.interp [] exDB prog) := by decide +kernel

/-- the same `as` name twice — `T | as X | join (U | as X) on k`; -/
theorem C03_needs_namesOk_as_twice :
    let prog := Tabular.mk (some (idt "T")) (.cons (.as_ .zero .zero (some (idt "X")))
      (.cons (joinOp none (.mk (some (idt "U")) (.cons (.as_ .zero .zero (some (idt "X"))) .nil))) .nil))
    namesOk prog = false ∧ tabOpsOk prog = true ∧ RectDB exDB ∧
    (stmtOfT prog).map (evalStatement exDB) ≠ some (Rel.interp [] exDB prog) := by decide +kernel

/-- a source table that looks like a generated name — `T | count | join (__subquery0) on k`; -/
theorem C03_needs_namesOk_generated_table :
    let prog := Tabular.mk (some (idt "T"))
      (.cons (.count .zero .zero) (.cons (joinOp none (.mk (some (idt "__subquery0")) .nil)) .nil))
    namesOk prog = false ∧ tabOpsOk prog = true ∧ RectDB exDB ∧
    (stmtOfT prog).map (evalStatement exDB) ≠ some (Rel.interp [] exDB prog) := by decide +kernel

/-- an `as` name that looks like a generated name — `T | as __subquery1 | join (U) on k`
    (the right-hand block `SELECT * FROM U` is the second link, named `__subquery1` too); -/
theorem C03_needs_namesOk_generated_as :
    let prog := Tabular.mk (some (idt "T"))
      (.cons (.as_ .zero .zero (some (idt "__subquery1"))) (.cons (joinOp none tabU) .nil))
    namesOk prog = false ∧ tabOpsOk prog = true ∧ RectDB exDB ∧
    (stmtOfT prog).map (evalStatement exDB) ≠ some (Rel.interp [] exDB prog) := by decide +kernel

/-- a pipeline without source table (the parser never builds one) reads the table named `""` -/
theorem C03_needs_namesOk_source :
    let prog := Tabular.mk none .nil
    namesOk prog = false ∧ tabOpsOk prog = true ∧ RectDB [([], exT)] ∧
    (stmtOfT prog).map (evalStatement [([], exT)]) ≠ some (Rel.interp [] [([], exT)] prog) := by decide +kernel
end Cex

/-! ### non-vacuity of the general theorem: sequential and nested joins, ORDER BY / LIMIT on join links -/
namespace Ex
/-- `T | join kind=inner (U | join kind=leftouter (T | as X) on k | sort by b desc) on k
       | sort by a | take 3 | join (U) on k` -/
def prog3 : Tabular := .mk (some (idt "T"))
  (.cons (joinOp (some (idt "inner"))
      (.mk (some (idt "U"))
        (.cons (joinOp (some (idt "leftouter")) (.mk (some (idt "T")) (.cons (.as_ .zero .zero (some (idt "X"))) .nil)))
          (.cons (.sort .zero .zero [Cex.sortBy "b" false]) .nil))))
    (.cons (.sort .zero .zero [Cex.sortBy "a" true]) (.cons (.take .zero .zero three) (.cons (joinOp none tabU) .nil))))
def stmt3 : Statement := (intended [] [.tabular prog3]).getD default

/-- `C03_intended_semantics` instantiated: five links (`X`, the inner join with its ORDER BY, the outer join
    with ORDER BY and LIMIT, `SELECT * FROM U`, the last join), four result rows -/
example : intended [] [.tabular prog3] = some stmt3 ∧ stmt3.ctes.length = 4 ∧
    namesOk prog3 = true ∧ tabOpsOk prog3 = true ∧ RectDB exDB ∧
    evalStatement exDB stmt3 = Rel.interp [] exDB prog3 ∧ (evalStatement exDB stmt3).rows.length = 4 := by
  have hi : intended [] [.tabular prog3] = some stmt3 := SelSem.eq_some_getD default (by decide +kernel)
  exact ⟨hi, by decide +kernel, by decide +kernel, by decide +kernel, by decide +kernel,
    C03_intended_semantics [] exDB prog3 stmt3 hi (by decide +kernel) (by decide +kernel) (by decide +kernel), by decide +kernel⟩

/-- `U ⋈ T` (leftouter, on k) with `ORDER BY b DESC` on the join's own SELECT -/
def exSortLink : SubA :=
  { name := subqueryName 1, source := .join false true (bs "U") (bs "T") (buildJoinCondition keyK),
    sort := some [Cex.sortBy "b" false] }

/-- `C03_join_link_sort` instantiated: the unmatched U row (b = 300) comes first -/
example : ∃ sel, selOf [] exSortLink = some sel ∧
    evalSelect exDB [] sel =
      Rel.sortTable (joinTables false true exU exT (buildJoinCondition keyK)) [Cex.sortBy "b" false] ∧
    (evalSelect exDB [] sel).rows.head? = some [.int 3, .int 300, .null, .null] := by
  cases h : selOf [] exSortLink with
  | none => exact absurd h (by decide +kernel)
  | some sel =>
    have := C03_join_link_sort [] exDB [] exSortLink false true (bs "U") (bs "T") _ [Cex.sortBy "b" false] sel
      rfl rfl rfl h (by decide +kernel) (by decide +kernel)
    refine ⟨sel, rfl, this, ?_⟩
    rw [this]
    decide +kernel

/-! non-vacuity of the chain theorems with non-trivial join-free blocks -/
def kIsOne : Expr := .binary (.qident [idt "k"]) .zero .eq (.lit .zero .number (bs "1"))
def beforeOps : OpList := .cons (.where_ .zero .zero kIsOne) .nil
def ropsOps : OpList := .cons (.extend .zero .zero [⟨some (idt "c"), .zero, .qident [idt "b"]⟩]) (.cons (.take .zero .zero three) .nil)
/-- `T | where k == 1 | join kind=leftouter (U | extend c = b | take 3) on k | <after>` -/
def prog4 (after : OpList) : Tabular := .mk (some (idt "T"))
  (appendOps beforeOps (.cons (.join .zero .zero .zero .zero (some (idt "leftouter")) .zero
    (.mk (some (idt "U")) ropsOps) .zero .zero keyK) after))

/-- chain and statement of a concrete program, with a decidable fact about the chain, from one evaluation -/
theorem exists_stmt (t : Tabular) (P : List SubA → Prop) [DecidablePred P]
    (h : ((splitA [] t).bind fun subs => (stmtOf [] subs).map fun _ => decide (P subs)) = some true) :
    ∃ subs st, splitA [] t = some subs ∧ stmtOf [] subs = some st ∧ P subs := by
  cases hs : splitA [] t with
  | none => simp [hs] at h
  | some subs =>
    cases hst : stmtOf [] subs with
    | none => simp [hs, hst] at h
    | some st => exact ⟨subs, st, rfl, hst, by simpa [hs, hst] using h⟩

/-- `C03_chain_unconditional` instantiated: `… | count` -/
example : ∃ subs st, splitA [] (prog4 (.cons (.count .zero .zero) .nil)) = some subs ∧ stmtOf [] subs = some st ∧
    evalStatement exDB st = Rel.interp [] exDB (prog4 (.cons (.count .zero .zero) .nil)) ∧
    (evalStatement exDB st).rows = [[.int 4]] := by
  obtain ⟨subs, st, hs, hst, hn⟩ := exists_stmt (prog4 (.cons (.count .zero .zero) .nil))
    (fun subs => (subs.map (·.name)).Nodup ∧ bs "T" ∉ subs.map (·.name) ∧ bs "U" ∉ subs.map (·.name)) (by decide +kernel)
  have := C03_chain_unconditional [] exDB (idt "T") (idt "U") beforeOps (.cons (.count .zero .zero) .nil) ropsOps
    .zero .zero .zero .zero (some (idt "leftouter")) .zero .zero .zero keyK subs st rfl rfl rfl rfl hs hst
    hn.1 hn.2.1 hn.2.2 (by decide +kernel) (by decide +kernel) (by decide +kernel)
  refine ⟨subs, st, hs, hst, ?_, ?_⟩
  · rw [this]
    exact (C03_chain_meaning [] exDB (idt "T") (idt "U") beforeOps _ ropsOps .zero .zero .zero .zero
      (some (idt "leftouter")) .zero .zero .zero keyK).symm
  · rw [this]; decide +kernel

/-- `BlockSem_joinFree` instantiated: the block `U | extend c = b | take 3` placed behind two earlier links
    and one earlier binding -/
example : BlockSem [] exDB [(bs "X", exT)] [default, default] (idt "U") ropsOps :=
  BlockSem_joinFree [] exDB _ _ _ ropsOps (by decide +kernel) (by decide +kernel)

/-- `C03_chain_any_after` instantiated: `… | sort by a desc | count` (the ORDER BY sits on the join link) -/
example : ∃ subs st, splitA [] (prog4 (.cons (.sort .zero .zero [Cex.sortBy "a" false]) (.cons (.count .zero .zero) .nil))) = some subs ∧
    stmtOf [] subs = some st ∧ subs.length = 4 ∧
    evalStatement exDB st =
      Rel.interp [] exDB (prog4 (.cons (.sort .zero .zero [Cex.sortBy "a" false]) (.cons (.count .zero .zero) .nil))) := by
  obtain ⟨subs, st, hs, hst, hn⟩ := exists_stmt (prog4 (.cons (.sort .zero .zero [Cex.sortBy "a" false]) (.cons (.count .zero .zero) .nil)))
    (fun subs => ((subs.map (·.name)).Nodup ∧ bs "T" ∉ subs.map (·.name) ∧ bs "U" ∉ subs.map (·.name)) ∧ subs.length = 4) (by decide +kernel)
  have := C03_chain_any_after [] exDB (idt "T") (idt "U") beforeOps
    (.cons (.sort .zero .zero [Cex.sortBy "a" false]) (.cons (.count .zero .zero) .nil)) ropsOps
    .zero .zero .zero .zero (some (idt "leftouter")) .zero .zero .zero keyK subs st rfl rfl hs hst
    hn.1.1 hn.1.2.1 hn.1.2.2 (by decide +kernel) (by decide +kernel) rfl (by decide +kernel) (by decide +kernel)
  refine ⟨subs, st, hs, hst, hn.2, ?_⟩
  rw [this]
  exact (C03_chain_meaning [] exDB (idt "T") (idt "U") beforeOps _ ropsOps .zero .zero .zero .zero
    (some (idt "leftouter")) .zero .zero .zero keyK).symm

/-- `C03_chain_take_unconditional` instantiated: `… | take 3 | count` (the LIMIT sits on the join link) -/
example : ∃ subs st, splitA [] (prog4 (.cons (.take .zero .zero three) (.cons (.count .zero .zero) .nil))) = some subs ∧
    stmtOf [] subs = some st ∧
    evalStatement exDB st =
      Rel.interp [] exDB (prog4 (.cons (.take .zero .zero three) (.cons (.count .zero .zero) .nil))) ∧
    (evalStatement exDB st).rows = [[.int 3]] := by
  obtain ⟨subs, st, hs, hst, hn⟩ := exists_stmt (prog4 (.cons (.take .zero .zero three) (.cons (.count .zero .zero) .nil)))
    (fun subs => (subs.map (·.name)).Nodup ∧ bs "T" ∉ subs.map (·.name) ∧ bs "U" ∉ subs.map (·.name)) (by decide +kernel)
  have := C03_chain_take_unconditional [] exDB (idt "T") (idt "U") beforeOps (.cons (.count .zero .zero) .nil) ropsOps
    .zero .zero .zero .zero (some (idt "leftouter")) .zero .zero .zero keyK .zero .zero three subs st rfl rfl rfl hs hst
    hn.1 hn.2.1 hn.2.2 (by decide +kernel) (by decide +kernel) (by decide +kernel)
  refine ⟨subs, st, hs, hst, ?_, ?_⟩
  · rw [this]
    exact (C03_chain_take_meaning [] exDB (idt "T") (idt "U") beforeOps _ ropsOps .zero .zero .zero .zero
      (some (idt "leftouter")) .zero .zero .zero keyK .zero .zero three).symm
  · rw [this]; decide +kernel
end Ex

end Pql.C03
