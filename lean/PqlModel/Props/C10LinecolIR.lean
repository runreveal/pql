/-
Property C10, tie by translation: `linecol` of parser/parser.go and its copy in pql.go.

Both copies of `func linecol(source string, pos int) (line, col int)` are regenerated from the Go
source on every run as IRs (`Facts.linecolIR`, keys `parser.linecol` and `pql.linecol`; translator
`harness/extract_lexir.go`, interpreter `Model/LexIR.lean`; the expected tree `linecolDecl`, its loop body
`linecolLoopBody` and the decode fact `linecol_parser_ir` are in Lemmas/LexIRDecls.lean).  This file proves

  `C10_linecol_copies_same_ir` — the two copies translate to the SAME IR (so every statement about
  one is a statement about the other: `C10_linecol_copies_agree`);
  `C10_linecol_ir` — for every byte string `src` (valid UTF-8 or not) and every offset
  `pos ≤ len(src)`, interpreting the regenerated body — `for _, c := range source[:pos]` walks RUNES,
  invalid bytes as U+FFFD of width 1; a tab advances to the next multiple of 8 — ends without a panic
  and without getting stuck (in particular `col - 1` and `tabWidth - tabLoc` never go below zero)
  and returns exactly the model's `linecol src pos`;
  `C10_linecol_ir_panics` — for `pos > len(src)` the Go code panics (`source[:pos]`), the model does
  not: the hypothesis of `C10_linecol_ir` is needed, and callers must pass offsets inside the source
  (what `Props/C10*.lean` prove about error spans).

The model tests the lead BYTE of each rune against '\n' and '\t', the Go code the RUNE; they agree
because a byte ≥ 0x80 never starts an ASCII rune (`Dispatch.decodeRune_eq_ascii`).
-/
import PqlModel.Lemmas.LexIRCore
import PqlModel.Lemmas.LinecolLemmas
namespace Pql.LexIR
open Pql
set_option linter.unusedSimpArgs false

def interpLinecolParser (lib : Lib) : Fn := fnOf Facts.linecolIR (prims lib) 0 "parser.linecol"
def interpLinecolPql (lib : Lib) : Fn := fnOf Facts.linecolIR (prims lib) 0 "pql.linecol"

/-- **C10 (the two copies of `linecol` are the same code).** -/
theorem C10_linecol_copies_same_ir :
    irOf Facts.linecolIR "parser.linecol" = irOf Facts.linecolIR "pql.linecol" := by rfl

theorem linecol_pql_ir : decodeFn (irOf Facts.linecolIR "pql.linecol") = some linecolDecl :=
  C10_linecol_copies_same_ir ▸ linecol_parser_ir

theorem C10_linecol_copies_agree (lib : Lib) : interpLinecolParser lib = interpLinecolPql lib := by
  unfold interpLinecolParser interpLinecolPql
  rw [fnOf_eq linecol_parser_ir, fnOf_eq linecol_pql_ir]

/-- the state inside the loop of `linecol` -/
def lcSt (src : Bytes) (pos line col : Nat) (h : Heap) : State :=
  ⟨[("col", .int col), ("line", .int line), ("pos", .int pos), ("source", .str src)], h, []⟩

/-- what one rune does to (line, col) -/
def lcStep (r line col : Nat) : Nat × Nat :=
  if r = 10 then (line + 1, 1) else if r = 9 then (line, col + (8 - (col - 1) % 8)) else (line, col + 1)

theorem linecol_step (env : Env) (src : Bytes) (pos line col : Nat) (h : Heap) (r : Nat) (hc : 1 ≤ col) :
    execBlock env 0 linecolLoopBody ((lcSt src pos line col h).declare "c" (.int r)) =
      .ok (.next, ⟨[("c", .int r), ("col", .int (lcStep r line col).2), ("line", .int (lcStep r line col).1),
        ("pos", .int pos), ("source", .str src)], h, []⟩) := by
  unfold linecolLoopBody lcSt lcStep
  have hm : (col - 1) % 8 ≤ 8 := Nat.le_of_lt (Nat.mod_lt _ (by omega))
  lx_simp [hc, hm]
  by_cases h10 : r = 10
  · simp only [if_pos h10]
  · by_cases h9 : r = 9
    · simp only [if_neg h10, if_pos h9]
    · simp only [if_neg h10, if_neg h9]

theorem lcStep_col_pos (r line col : Nat) (hc : 1 ≤ col) : 1 ≤ (lcStep r line col).2 := by
  unfold lcStep
  split
  · simp
  · split <;> simp <;> omega

theorem lcStep_rune (c : UInt8) (rest : Bytes) (line col : Nat) :
    lcStep (decodeRune (c :: rest)).1 line col =
      if c == 10 then (line + 1, 1) else if c == 9 then (line, col + (8 - (col - 1) % 8)) else (line, col + 1) := by
  have e10 : (decodeRune (c :: rest)).1 = 10 ↔ c.toNat = 10 := Dispatch.decodeRune_eq_ascii c rest 10 (by omega)
  have e9 : (decodeRune (c :: rest)).1 = 9 ↔ c.toNat = 9 := Dispatch.decodeRune_eq_ascii c rest 9 (by omega)
  have b10 : (c == 10) = decide (c.toNat = 10) := by rw [beq_iff_toNat]; rfl
  have b9 : (c == 9) = decide (c.toNat = 9) := by rw [beq_iff_toNat]; rfl
  simp only [lcStep, e10, e9, b10, b9, decide_eq_true_eq]

theorem linecol_loop (env : Env) (src : Bytes) (pos : Nat) (h : Heap) (fuel : Nat) (s : Bytes) (line col : Nat)
    (hf : s.length < fuel) (hc : 1 ≤ col) :
    rangeLoop "c" (execBlock env 0 linecolLoopBody) ((runes s).map .int) (lcSt src pos line col h) =
      .ok (.next, lcSt src pos (linecolRunes fuel s line col).1 (linecolRunes fuel s line col).2 h) := by
  fun_induction linecolRunes fuel s line col with
  | case1 => omega
  | case2 => rw [runes]; rfl
  | case3 fuel c rest line col w rest' h10 ih | case4 fuel c rest line col w rest' h10 h9 ih
  | case5 fuel c rest line col w rest' h10 h9 ih =>
    have hpos := decodeRune_width_pos c rest
    have e2 : State.leave ⟨[("c", .int (decodeRune (c :: rest)).1),
        ("col", .int (lcStep (decodeRune (c :: rest)).1 line col).2),
        ("line", .int (lcStep (decodeRune (c :: rest)).1 line col).1),
        ("pos", .int pos), ("source", .str src)], h, []⟩ (lcSt src pos line col h) =
        lcSt src pos (lcStep (decodeRune (c :: rest)).1 line col).1 (lcStep (decodeRune (c :: rest)).1 line col).2 h := by
      simp [State.leave, lcSt]
    have hs := lcStep_col_pos (decodeRune (c :: rest)).1 line col hc
    rw [runes]
    simp only [List.map_cons, rangeLoop, linecol_step env src pos line col h _ hc, e2, bind, Except.bind]
    simp only [lcStep_rune, *, Bool.false_eq_true, ↓reduceIte] at hs ⊢
    exact ih (by simp only [rest', w, List.length_drop, List.length_cons] at hf ⊢; omega) hs

theorem linecol_body (env : Env) (src : Bytes) (pos : Nat) (h : Heap) (hp : pos ≤ src.length) :
    interpFn env 0 linecolDecl [.str src, .int pos] h =
      .ok ([.int (linecol src pos).1, .int (linecol src pos).2], h) := by
  have hloop := linecol_loop env src pos h ((src.take pos).length + 1) (src.take pos) 1 1 (Nat.lt_succ_self _) (Nat.le_refl 1)
  have hitems : rangeItems (.str (src.take pos)) = .ok ((runes (src.take pos)).map .int) := rfl
  unfold lcSt at hloop
  unfold linecolDecl linecol
  lx_simp [hp, hitems, hloop]

/-- **C10 (`linecol` is the interpretation of its translation).**  For every byte string and every
    offset inside it the regenerated body of `linecol` (parser/parser.go) returns, without a panic,
    exactly the model's `linecol`. -/
theorem C10_linecol_ir (lib : Lib) (src : Bytes) (pos : Nat) (h : Heap) (hp : pos ≤ src.length) :
    interpLinecolParser lib [.str src, .int pos] h =
      .ok ([.int (linecol src pos).1, .int (linecol src pos).2], h) := by
  unfold interpLinecolParser
  rw [fnOf_eq linecol_parser_ir]
  exact linecol_body _ src pos h hp

theorem C10_linecol_pql_ir (lib : Lib) (src : Bytes) (pos : Nat) (h : Heap) (hp : pos ≤ src.length) :
    interpLinecolPql lib [.str src, .int pos] h =
      .ok ([.int (linecol src pos).1, .int (linecol src pos).2], h) := by
  rw [← C10_linecol_copies_agree]
  exact C10_linecol_ir lib src pos h hp

/-- an offset after the end of the source makes `linecol` panic (`source[:pos]`); the model returns a
    position all the same — `C10_linecol_ir` is false without its hypothesis -/
theorem C10_linecol_ir_panics (lib : Lib) (src : Bytes) (pos : Nat) (h : Heap) (hp : src.length < pos) :
    interpLinecolParser lib [.str src, .int pos] h = .error .panic := by
  unfold interpLinecolParser
  rw [fnOf_eq linecol_parser_ir]
  have : ¬ pos ≤ src.length := by omega
  unfold linecolDecl
  lx_simp [this]

-- sanity tests (evaluated): the interpretation of the regenerated IR on concrete sources
#guard (interpLinecolParser ⟨scan, fun _ _ => 0⟩ [.str [97, 10, 9, 98], .int 3] ⟨[], 0, 0⟩).toOption.map (·.1) =
  some [.int 2, .int 9]
#guard (interpLinecolPql ⟨scan, fun _ _ => 0⟩ [.str [0xE2, 0x80, 0xA8, 10, 97], .int 2] ⟨[], 0, 0⟩).toOption.map (·.1) =
  some [.int 1, .int 3]

end Pql.LexIR
