/-
Property C16, tie by translation: `func main` of cmd/pql (the closure `RunE`, the `logError` literal, the body of `main`).

`Lemmas/CliStreamIRMain.lean` chains the interpreted `makeInput`, `makeOutput`, `Read`, `Close` and `run` through a
HAND-WRITTEN transcription `runE` of the closure `RunE` (main.go lines 33-52); `C16_main_pipeline_ir`
(Props/C16StreamIR.lean) is about that transcription.  Here the closure itself, the `logError` literal and the body of `main` are regenerated from the Go source
(`harness/extract_climain.go`, `Facts.cliMainIR` / `cliMainCommand` / `cliMainFlags`) and interpreted
(`Model/CliMainIR.lean`); the callees are the interpretations of their own regenerated bodies.

The regenerated closure is the hand-written `runE` plus bookkeeping (`C16_RunE_ir`, `C16_RunE_ir_general`), so
`C16_main_pipeline_ir` carries over to the regenerated `main` (`C16_main_ir`, `C16_exit_status_ir`); a counterexample for every
hypothesis.
-/
import PqlModel.Lemmas.CliMainIRRun
import PqlModel.Props.C16StreamIR
namespace Pql.MainIR
open Pql Pql.CliIO Pql.CliMainIR
open Pql.CliIOIR (Val GoErr RC WC State Env M IErr runUnit world0)
open Pql.StreamIR (expected streamBound clean nOpened createdBy outputFails)
set_option linter.unusedSimpArgs false

/-- an interpreted `RunE`, observed as the hand-written `runE` reports: `none` if `run` was not called, else what `run` wrote
    to its output, the number of `pql:` lines, and whether the closure returned an error; and the world of readers -/
def viewRunE (r : Option (List MVal) × MState) : Option CliResult × State :=
  (r.2.outDest.map fun _ => ⟨r.2.out, r.2.stderr, decide (r.1 ≠ some [.io (.err .nil)])⟩, r.2.io)

/-- **C16 (`RunE` as translated code), general form.**  For every system — `compile`, file system, `Close` failures of inputs
    and of the output, loop fuel, scanner bound —, every argument list, `-o` value and standard-input script: the
    interpretation of the regenerated closure `RunE` is the hand-written `runE` followed by `afterRunE`; when `runE` panics,
    is stuck or runs out of fuel, so does the interpretation, in the same way. -/
theorem C16_RunE_ir_general (sys : Sys) (outArg : String) (stdin : Reader) :
    interpRunE sys outArg (initial stdin) =
      (StreamIR.runE sys.compile sys.env sys.fuel sys.k sys.args outArg stdin).map (afterRunE sys outArg (initial stdin)) :=
  interpRunE_eq sys outArg stdin (initial stdin) rfl

/-- **C16 (`RunE` as translated code).**  When `output.Close()` succeeds, the interpretation of the regenerated closure
    `RunE`, observed as `runE` reports, IS the hand-written `runE` of Lemmas/CliStreamIRMain.lean: the same result, the same
    world (heap of readers, files closed, files created), the same failure if any — for every system, argument list, `-o`
    value and standard-input script (the hypotheses `hf`, `hk`, `hs` of `C16_main_pipeline_ir` are not needed for this). -/
theorem C16_RunE_ir (sys : Sys) (outArg : String) (stdin : Reader) (hc : sys.outCloseFails outArg = false) :
    (interpRunE sys outArg (initial stdin)).map viewRunE =
      StreamIR.runE sys.compile sys.env sys.fuel sys.k sys.args outArg stdin := by
  rw [C16_RunE_ir_general]
  rcases StreamIR.runE sys.compile sys.env sys.fuel sys.k sys.args outArg stdin with e | ⟨res, w⟩
  · rfl
  · have hce : closeErrOf sys (destOf outArg) = .nil := by
      unfold destOf; split <;> simp [closeErrOf, hc]
    rcases res with _ | ⟨out, n, x⟩
    · simp [Except.map, afterRunE, viewRunE, initial]
    · cases x <;> simp [Except.map, afterRunE, viewRunE, initial, hce]

/-- … and its result part alone, whether or not `output.Close()` succeeds: the closure returns an error iff `run` did or the
    `Close` of the output does -/
theorem viewRunE_result (sys : Sys) (outArg : String) (stdin : Reader) :
    ((interpRunE sys outArg (initial stdin)).map viewRunE).toOption.map (·.1) =
      ((StreamIR.runE sys.compile sys.env sys.fuel sys.k sys.args outArg stdin).toOption.map (·.1)).map
        (Option.map fun r => ⟨r.out, r.nErrors, r.exitNonZero || closeErrOf sys (destOf outArg) != .nil⟩) := by
  rw [C16_RunE_ir_general]
  rcases StreamIR.runE sys.compile sys.env sys.fuel sys.k sys.args outArg stdin with e | ⟨res, w⟩
  · rfl
  · rcases res with _ | ⟨out, n, x⟩
    · simp [Except.map, Except.toOption, afterRunE, viewRunE, initial]
    · cases x <;> cases hc : closeErrOf sys (destOf outArg) <;>
        simp [Except.map, Except.toOption, afterRunE, viewRunE, initial, hc]

/-- does `output.Close()` fail: the output is a created file whose `Close` reports an error (`Sys.outCloseFails`; the field
    `Env.closeFails` is about the INPUT files) -/
def closeFails (sys : Sys) (outArg : String) : Bool := closeErrOf sys (destOf outArg) != .nil

def logged (r : Option CliResult) : Nat := (r.map (·.nErrors)).getD 0

/-- the output file that was created is the one `RunE` closes: the `-o` path when `run` is reached, else nothing -/
theorem closedOf_expected (compile : Bytes → Option Bytes) (env : Env) (args : List String) (outArg : String) (stdin : Reader) :
    (match expected compile env args outArg stdin with | none => [] | some _ => closedOf (destOf outArg)) =
      if (CliIO.makeInput args stdin env.openFile).isSome then createdBy env outArg else [] := by
  unfold expected destOf createdBy outputFails
  cases CliIO.makeInput args stdin env.openFile with
  | none => rfl
  | some rs =>
    by_cases h1 : outArg = "" ∨ outArg = "-"
    · simp [h1, closedOf]
    · cases hc : env.createFails outArg <;> simp [h1, hc, closedOf]

/-- what is observed of a run of `main`: exit status, `pql:` lines, the output and its destination, input files closed,
    files created, output files closed, number of reader objects -/
structure Obs where
  status : Nat
  stderr : Nat
  out : Bytes
  dest : Option WC
  closed : List Nat
  created : List String
  outClosed : List String
  objs : Nat
  deriving DecidableEq, Repr

def obsMain (r : M MState) : Option Obs :=
  r.toOption.map fun W => ⟨W.status, W.stderr, W.out, W.outDest, W.io.closed, W.io.created, W.outClosed, W.io.objs.length⟩

theorem of_obsMain {r : M MState} {o : Obs} (h : obsMain r = some o) :
    ∃ W, r = .ok W ∧ W.status = o.status ∧ W.stderr = o.stderr ∧ W.out = o.out ∧ W.outDest = o.dest ∧ W.io.closed = o.closed ∧
      W.io.created = o.created ∧ W.outClosed = o.outClosed ∧ W.io.objs.length = o.objs := by
  rcases r with e | W
  · cases h
  · cases Option.some.inj h
    exact ⟨W, rfl, rfl, rfl, rfl, rfl, rfl, rfl, rfl, rfl⟩

/-- what is observed of `main` is a function of what is observed of `runE`, whatever the system: a run of the interpreted
    `main` need not be evaluated where the run of `runE` is known -/
theorem obsMain_of_runE (sys : Sys) (stdin : Reader) (outArg : String) (hfl : outArgOf sys.setFlags = some outArg) :
    obsMain (interpMain sys stdin) =
      (StreamIR.obs (StreamIR.runE sys.compile sys.env sys.fuel sys.k sys.args outArg stdin)).map fun o =>
        ⟨if failed sys outArg o.1 then 1 else 0, logged o.1 + (if failed sys outArg o.1 then 1 else 0),
         (o.1.map (·.out)).getD [], o.1.map (fun _ => destOf outArg), o.2.1, o.2.2.2,
         (match o.1 with | none => [] | some _ => closedOf (destOf outArg)), o.2.2.1⟩ := by
  rw [interpMain_eq sys stdin outArg hfl]
  rcases StreamIR.runE sys.compile sys.env sys.fuel sys.k sys.args outArg stdin with e | ⟨res, w⟩
  · rfl
  · obtain ⟨g1, g2, g3, g4, g5, g6⟩ := mainEnd_fields sys outArg (mainBase stdin) res w
    simp only [obsMain, StreamIR.obs, Except.map, Except.toOption, Option.map_some, MState.status, g1, g2, g3, g4, g5, g6]
    cases res <;> cases hf : failed sys outArg _ <;> simp [mainBase, initial, logged]

/-- … and under the hypotheses of `C16_main_pipeline_ir`, which says what is observed of `runE`, a function of `expected` -/
theorem obsMain_eq (sys : Sys) (stdin : Reader) (outArg : String) (hfl : outArgOf sys.setFlags = some outArg)
    (hf : sys.args.length < sys.fuel) (hk : streamBound sys.args stdin sys.env.openFile ≤ sys.k)
    (hs : sys.args.count "-" ≤ 1 ∨ clean stdin = true) :
    obsMain (interpMain sys stdin) =
      some ⟨if failed sys outArg (expected sys.compile sys.env sys.args outArg stdin) then 1 else 0,
        logged (expected sys.compile sys.env sys.args outArg stdin) +
          (if failed sys outArg (expected sys.compile sys.env sys.args outArg stdin) then 1 else 0),
        ((expected sys.compile sys.env sys.args outArg stdin).map (·.out)).getD [],
        (expected sys.compile sys.env sys.args outArg stdin).map (fun _ => destOf outArg),
        List.range' 1 (nOpened sys.args sys.env.openFile),
        if (CliIO.makeInput sys.args stdin sys.env.openFile).isSome then createdBy sys.env outArg else [],
        if (CliIO.makeInput sys.args stdin sys.env.openFile).isSome then createdBy sys.env outArg else [],
        1 + nOpened sys.args sys.env.openFile⟩ := by
  rw [obsMain_of_runE sys stdin outArg hfl, StreamIR.obs_eq _ _ _ _ _ _ _ hf hk hs, Option.map_some, closedOf_expected]

/-- **C16 (`main` as translated code, end to end).**  Under the hypotheses of `C16_main_pipeline_ir` (loop fuel for
    `Read` above the number of arguments; at least `streamBound` calls of `Read` for the scanner; `-` at most once among the
    arguments or a `clean` standard input) and one more, `hfl`: the flags are ones that cobra accepts
    (`outArgOf … = some outArg`; `C16_main_ir_needs_flags`).  For every `compile`, file system, `Close` behaviour and
    argument list: the interpretation of the regenerated `main` — the regenerated
    `RunE` called by cobra, the regenerated `makeInput`, `makeOutput`, `Read`, `Close`, `run` and `logError` inside it —
    neither panics nor gets stuck, and

      * `run` is reached (an output destination exists) iff `expected` is `some`: every input opens and the output can be
        created; the destination is standard output for no `-o` / `-o ""` / `-o -`, else the created file;
      * what is written to it is what `expected` says: `CliSpec.run` on the lines of the concatenated inputs;
      * every input file that was opened (objects 1, 2, … in order of opening; `nOpened`) has been closed exactly once, in that
        order; standard input (object 0) never; the only file created is the `-o` file, only if every input opened, and it
        has been closed exactly once (`outClosed = created`). -/
theorem C16_main_ir (sys : Sys) (stdin : Reader) (outArg : String) (hfl : outArgOf sys.setFlags = some outArg)
    (hf : sys.args.length < sys.fuel) (hk : streamBound sys.args stdin sys.env.openFile ≤ sys.k)
    (hs : sys.args.count "-" ≤ 1 ∨ clean stdin = true) :
    ∃ W, interpMain sys stdin = .ok W ∧
      W.outDest = (expected sys.compile sys.env sys.args outArg stdin).map (fun _ => destOf outArg) ∧
      W.out = ((expected sys.compile sys.env sys.args outArg stdin).map (·.out)).getD [] ∧
      W.io.objs.length = 1 + nOpened sys.args sys.env.openFile ∧
      W.io.closed = List.range' 1 (nOpened sys.args sys.env.openFile) ∧
      W.io.created = (if (CliIO.makeInput sys.args stdin sys.env.openFile).isSome then createdBy sys.env outArg else []) ∧
      W.outClosed = W.io.created := by
  obtain ⟨W, h0, -, -, h3, h4, h5, h6, h7, h8⟩ := of_obsMain (obsMain_eq sys stdin outArg hfl hf hk hs)
  exact ⟨W, h0, h4, h3, h8, h5, h6, h7.trans h6.symm⟩

theorem failed_iff (sys : Sys) (outArg : String) (stdin : Reader) :
    failed sys outArg (expected sys.compile sys.env sys.args outArg stdin) = true ↔
      CliIO.makeInput sys.args stdin sys.env.openFile = none ∨
      ((CliIO.makeInput sys.args stdin sys.env.openFile).isSome ∧ outputFails sys.env outArg = true) ∨
      (∃ r, expected sys.compile sys.env sys.args outArg stdin = some r ∧ r.exitNonZero = true) ∨
      ((expected sys.compile sys.env sys.args outArg stdin).isSome ∧ closeFails sys outArg = true) := by
  unfold expected closeFails
  cases hm : CliIO.makeInput sys.args stdin sys.env.openFile with
  | none => simp [failed]
  | some rs =>
    cases ho : outputFails sys.env outArg with
    | true => simp [failed]
    | false => simp [failed]

/-- **C16 (exit status and standard error of `main` as translated code).**  Under the hypotheses of `C16_main_ir`, with NO
    assumption on `output.Close()`: the process ends with status 0 or 1; the status is non-zero iff `makeInput` failed (an
    input does not open) or `makeOutput` failed (`os.Create` of the `-o` path) or `run` returned an error (a statement did not
    compile, or the input could not be read completely) or `output.Close()` failed; the number of `pql:` lines on standard
    error is the number of errors `run` logged, plus one iff the status is non-zero. -/
theorem C16_exit_status_ir (sys : Sys) (stdin : Reader) (outArg : String) (hfl : outArgOf sys.setFlags = some outArg)
    (hf : sys.args.length < sys.fuel) (hk : streamBound sys.args stdin sys.env.openFile ≤ sys.k)
    (hs : sys.args.count "-" ≤ 1 ∨ clean stdin = true) :
    ∃ W, interpMain sys stdin = .ok W ∧
      (W.status = 0 ∨ W.status = 1) ∧
      (W.status ≠ 0 ↔
        CliIO.makeInput sys.args stdin sys.env.openFile = none ∨
        ((CliIO.makeInput sys.args stdin sys.env.openFile).isSome ∧ outputFails sys.env outArg = true) ∨
        (∃ r, expected sys.compile sys.env sys.args outArg stdin = some r ∧ r.exitNonZero = true) ∨
        ((expected sys.compile sys.env sys.args outArg stdin).isSome ∧ closeFails sys outArg = true)) ∧
      W.stderr = logged (expected sys.compile sys.env sys.args outArg stdin) + (if W.status ≠ 0 then 1 else 0) ∧
      (W.stderr = logged (expected sys.compile sys.env sys.args outArg stdin) + 1 ↔ W.status ≠ 0) := by
  obtain ⟨W, h0, hst, h3, -⟩ := of_obsMain (obsMain_eq sys stdin outArg hfl hf hk hs)
  simp only at hst h3
  refine ⟨W, h0, ?_, ?_, ?_, ?_⟩
  · rw [hst]; split <;> simp
  · rw [← failed_iff, hst]; split <;> simp [*]
  · rw [h3, hst]; split <;> simp
  · rw [h3, hst]; split <;> simp

/-- … when `output.Close()` succeeds (the case the hand-written `runE` covers): three causes -/
theorem C16_exit_status_ir_close_ok (sys : Sys) (stdin : Reader) (outArg : String) (hfl : outArgOf sys.setFlags = some outArg)
    (hf : sys.args.length < sys.fuel) (hk : streamBound sys.args stdin sys.env.openFile ≤ sys.k)
    (hs : sys.args.count "-" ≤ 1 ∨ clean stdin = true) (hc : sys.outCloseFails outArg = false) :
    ∃ W, interpMain sys stdin = .ok W ∧
      (W.status ≠ 0 ↔
        CliIO.makeInput sys.args stdin sys.env.openFile = none ∨
        ((CliIO.makeInput sys.args stdin sys.env.openFile).isSome ∧ outputFails sys.env outArg = true) ∨
        (∃ r, expected sys.compile sys.env sys.args outArg stdin = some r ∧ r.exitNonZero = true)) := by
  obtain ⟨W, h0, -, h2, -⟩ := C16_exit_status_ir sys stdin outArg hfl hf hk hs
  have hcf : closeFails sys outArg = false := by
    unfold closeFails destOf; split <;> simp [closeErrOf, hc]
  refine ⟨W, h0, ?_⟩
  rw [h2]; simp [hcf]

/-- no `-o` on the command line is `-o ""` (the flag's default, `flags_ir`): standard output -/
theorem outArgOf_default : outArgOf [] = some "" ∧ destOf "" = .stdoutNop ∧
    ∀ v, outArgOf [("output", v)] = some v := ⟨rfl, rfl, fun _ => rfl⟩

/-! The examples are instances of `obsMain_eq`, which is `C16_main_ir` and `C16_exit_status_ir` in one equation (the kernel evaluates
`expected`).  The counterexamples are about
the INTERPRETED `main` / `RunE`: by `interpMain_eq` / `C16_RunE_ir_general`, which need no hypothesis, what they show is a function of
what the hand-written `runE` shows (`obsMain_of_runE`, `isFuelErr_main`, `viewRunE_result`), and that is the kernel evaluation of
the interpreted units in the counterexamples of Props/C16StreamIR.lean.  File system `fsEx` / `envEx` of Props/C16StreamIR.lean
(`a` = "let x = 1;\nX" with an empty read, `b` = "Z;", `bad` fails in its second `Read`, `e` is empty, nothing else opens;
standard input "Y;\n"); `stub` stands in for `pql.Compile` (fails on a text with '!', else the text without newlines). -/

open Pql.StreamIR (envEx fsEx stdinEx isFuelErr)
local notation "E" => Bytes.ofString

theorem isFuelErr_main (sys : Sys) (stdin : Reader) (outArg : String) (hfl : outArgOf sys.setFlags = some outArg) :
    isFuelErr (interpMain sys stdin) = isFuelErr (StreamIR.runE sys.compile sys.env sys.fuel sys.k sys.args outArg stdin) := by
  rw [interpMain_eq sys stdin outArg hfl]
  rcases StreamIR.runE sys.compile sys.env sys.fuel sys.k sys.args outArg stdin with e | r
  · cases e <;> rfl
  · rfl

theorem ex_hyps :
    outArgOf [] = some "" ∧ outArgOf [("output", "out.sql")] = some "out.sql" ∧
    ["a", "-", "b"].length < 4 ∧ streamBound ["a", "-", "b"] stdinEx fsEx ≤ 20 ∧ ["a", "-", "b"].count "-" ≤ 1 ∧
    streamBound ["a", "nope", "b"] stdinEx fsEx ≤ 20 ∧ streamBound ["a", "b"] stdinEx fsEx ≤ 20 ∧
    streamBound ["a", "bad", "b"] stdinEx fsEx ≤ 20 := by decide

/-- **two files and `-`**, no `-o`: the statement `X…Y` runs from file `a` into standard input, the `let` of `a` is in scope in
    `b`; status 0, nothing on standard error, standard output; both files closed once, in order, standard input not -/
theorem ex_two_files_and_stdin :
    obsMain (interpMain { compile := stub, env := envEx, fuel := 4, k := 20, args := ["a", "-", "b"] } stdinEx) =
      some ⟨0, 0, E "let x = 1;XY\n\nlet x = 1;Z\n\n", some .stdoutNop, [1, 2], [], [], 3⟩ := by
  rw [obsMain_eq _ _ "" rfl (by decide) ex_hyps.2.2.2.1 (.inl (by decide)), StreamIR.ex_two_files_and_stdin.2]
  decide +kernel

/-- **`os.Open` fails** in the middle: `RunE` returns before `run`; one `pql:` line, status 1; the file opened before is closed
    again, the one after is never opened, the `-o` file is not created -/
theorem ex_open_fails :
    obsMain (interpMain { compile := stub, env := envEx, fuel := 4, k := 20, args := ["a", "nope", "b"],
                          setFlags := [("output", "out.sql")] } stdinEx) =
      some ⟨1, 1, [], none, [1], [], [], 2⟩ := by
  rw [obsMain_eq _ _ "out.sql" rfl (by decide) ex_hyps.2.2.2.2.2.1 (.inl (by decide))]
  decide +kernel

/-- **`-o` with a failing `os.Create`**: `input.Close()` on the failure path closes both inputs; one `pql:` line, status 1 -/
theorem ex_create_fails :
    obsMain (interpMain { compile := stub, env := { envEx with createFails := fun p => p == "out.sql" }, fuel := 4, k := 20,
                          args := ["a", "b"], setFlags := [("output", "out.sql")] } stdinEx) =
      some ⟨1, 1, [], none, [1, 2], [], [], 3⟩ := by
  rw [obsMain_eq _ _ "out.sql" rfl (by decide) ex_hyps.2.2.2.2.2.2.1 (.inl (by decide))]
  decide +kernel

/-- a read error midway: `run` logs it (one line) and returns an error (one more line, status 1); everything delivered up to
    the failing `Read` is translated into the created file, which is closed; all three inputs are closed -/
theorem ex_read_error :
    obsMain (interpMain { compile := stub, env := envEx, fuel := 4, k := 20, args := ["a", "bad", "b"],
                          setFlags := [("output", "out.sql")] } stdinEx) =
      some ⟨1, 2, E "let x = 1;XQ\n\nlet x = 1;R\n\nlet x = 1;S\n\n", some (.file "out.sql"), [1, 2, 3], ["out.sql"],
        ["out.sql"], 4⟩ := by
  rw [obsMain_eq _ _ "out.sql" rfl (by decide) ex_hyps.2.2.2.2.2.2.2 (.inl (by decide)), StreamIR.ex_read_error.2]
  decide +kernel

/-- **`output.Close()` fails** (not in the hand-written `runE`): everything is translated and written, `run` returns nil — and
    the status is 1 with one `pql:` line, because `err == nil` lets `err2` through -/
theorem ex_close_fails :
    obsMain (interpMain { compile := stub, env := envEx, outCloseFails := fun _ => true, fuel := 4, k := 20, args := ["a", "b"],
                          setFlags := [("output", "out.sql")] } stdinEx) =
      some ⟨1, 1, E "let x = 1;XZ\n\n", some (.file "out.sql"), [1, 2], ["out.sql"], ["out.sql"], 3⟩ ∧
    expected stub envEx ["a", "b"] "out.sql" stdinEx = some ⟨E "let x = 1;XZ\n\n", 0, false⟩ := by
  rw [obsMain_eq _ _ "out.sql" rfl (by decide) ex_hyps.2.2.2.2.2.2.1 (.inl (by decide))]
  decide +kernel

/-- a compile error in the middle: logged by `run` (one line), the statements around it are translated, status 1 (one more line) -/
theorem ex_compile_error :
    obsMain (interpMain { compile := stub, env := envEx, fuel := 1, k := 20 } [(E "A;B!;C;\n", .eof)]) =
      some ⟨1, 2, E "A\n\nC\n\n", some .stdoutNop, [], [], [], 1⟩ := by
  rw [obsMain_eq _ _ "" rfl (by decide) (by decide +kernel) (.inl (by decide))]
  decide +kernel

/-- `hc` of `C16_RunE_ir` (`output.Close()` succeeds): when it fails the closure returns an error although `run` did not —
    the hand-written `runE` reports exit status zero, the interpretation of the regenerated closure non-zero -/
theorem C16_RunE_ir_needs_close :
    let sys : Sys := { compile := stub, env := envEx, outCloseFails := fun _ => true, fuel := 4, k := 20, args := ["a", "b"] }
    ((interpRunE sys "out.sql" (initial stdinEx)).map viewRunE).toOption.map (·.1) =
      some (some ⟨E "let x = 1;XZ\n\n", 0, true⟩) ∧
    (StreamIR.runE stub envEx 4 20 ["a", "b"] "out.sql" stdinEx).toOption.map (·.1) =
      some (some ⟨E "let x = 1;XZ\n\n", 0, false⟩) := by
  intro sys
  have h := StreamIR.result_of_obs (StreamIR.obs_eq stub envEx 4 20 ["a", "b"] "out.sql" stdinEx (by decide)
    ex_hyps.2.2.2.2.2.2.1 (.inl (by decide)))
  rw [ex_close_fails.2] at h
  exact ⟨(viewRunE_result sys "out.sql" stdinEx).trans (by rw [h]; rfl), h⟩

/-- `hfl` (cobra accepts the flags): with a flag `main` did not define `RunE` is not called at all — one `pql:` line, status 1,
    nothing opened, whatever `expected` says for any `-o` value -/
theorem C16_main_ir_needs_flags :
    outArgOf [("verbose", "1")] = none ∧
    obsMain (interpMain { compile := stub, env := envEx, fuel := 4, k := 20, args := ["a", "b"], setFlags := [("verbose", "1")] }
      stdinEx) = some ⟨1, 1, [], none, [], [], [], 1⟩ ∧
    nOpened ["a", "b"] fsEx = 2 := by
  refine ⟨by decide, ?_, by decide⟩
  rw [interpMain_unknown_flag _ _ (by decide)]
  rfl

/-- `hf` (loop fuel above the number of arguments): with two empty files one `Read` needs three iterations; with fuel 2 the
    interpreter runs out, with 3 it does not -/
theorem C16_main_ir_needs_fuel :
    isFuelErr (interpMain { compile := stub, env := envEx, fuel := 2, k := 20, args := ["e", "e"] } stdinEx) = true ∧
    obsMain (interpMain { compile := stub, env := envEx, fuel := 3, k := 20, args := ["e", "e"] } stdinEx) =
      some ⟨0, 0, [], some .stdoutNop, [1, 2], [], [], 3⟩ := by
  obtain ⟨h1, h2⟩ := StreamIR.C16_main_pipeline_ir_needs_fuel
  exact ⟨(isFuelErr_main _ _ "" rfl).trans h1, by rw [obsMain_of_runE _ _ "" rfl, h2]; rfl⟩

/-- `hk` (`streamBound` calls for the scanner): with one call less the final `0, io.EOF` is not seen, which counts as a read
    error — status 1 and two `pql:` lines where `expected` has no error -/
theorem C16_main_ir_needs_calls :
    streamBound [] [(E "X", .ok)] fsEx = 2 ∧
    obsMain (interpMain { compile := stub, env := envEx, fuel := 1, k := 1 } [(E "X", .ok)]) =
      some ⟨1, 2, E "X\n\n", some .stdoutNop, [], [], [], 1⟩ ∧
    expected stub envEx [] "" [(E "X", .ok)] = some ⟨E "X\n\n", 0, false⟩ := by
  obtain ⟨h1, h2, h3⟩ := StreamIR.C16_main_pipeline_ir_needs_calls
  exact ⟨h1, by rw [obsMain_of_runE _ _ "" rfl, h2]; rfl, h3⟩

/-- `hs` (`-` at most once, or a `clean` standard input): a standard input that delivers more after its first `io.EOF` is read
    again by the second `-`, while `expected` (convention A3 of the model) takes the second `-` to be used up -/
theorem C16_main_ir_needs_clean :
    obsMain (interpMain { compile := stub, env := envEx, fuel := 3, k := 20, args := ["-", "-"] } [(E "X;", .eof), (E "Y;", .eof)]) =
      some ⟨0, 0, E "X\n\nY\n\n", some .stdoutNop, [], [], [], 1⟩ ∧
    expected stub envEx ["-", "-"] "" [(E "X;", .eof), (E "Y;", .eof)] = some ⟨E "X\n\n", 0, false⟩ ∧
    clean [(E "X;", .eof), (E "Y;", .eof)] = false := by
  obtain ⟨h1, h2, h3, -⟩ := StreamIR.C16_main_pipeline_ir_needs_clean
  exact ⟨by rw [obsMain_of_runE _ _ "" rfl, h1]; rfl, h2, h3⟩

def isPanicM {α : Type} : M α → Bool
  | .error .panic => true
  | _ => false

def isStuckM {α : Type} : M α → Bool
  | .error .stuck => true
  | _ => false

/-- `Close` on a nil `io.WriteCloser` / `io.ReadCloser` panics (what dropping the `err != nil` check after `makeOutput` would
    run into); a format other than "pql: %v\n", or standard output as its destination, is not understood -/
theorem failure_modes (sys : Sys) (st : MState) :
    isPanicM (closeVal sys st (.io (.wc none))) = true ∧ isPanicM (closeVal sys st (.io (.rc none))) = true ∧
    isStuckM (exec sys (callAt sys 0) [] (.fprintf "stdout" "pql: %v\n" .nil) st) = true := by
  refine ⟨rfl, rfl, ?_⟩
  simp [exec, eval, bind, Except.bind, isStuckM, CliIOIR.stuck]

end Pql.MainIR
