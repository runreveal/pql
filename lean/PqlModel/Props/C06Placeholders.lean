/-
Property C06 — PLACEHOLDER parameters (`$1`, `?`, `{name:Type}`) end to end.

Real callers bind parameters to placeholders.  The reference SQL lexer reads a placeholder as ONE
`.param` token, the reference parser reads it at atom level only (`SExpr.param`).

The reference SQL reader COMMUTES with the instantiation of placeholders, for every assignment `ρ` of values
(strings / number spellings) to placeholder texts (`C06_parse_commutes_with_instantiation`: an EQUATION; the
token-map theorem of Lemmas/SqlTokMapStmt.lean at the map that renames no operator).  The SQL text compiled
with placeholder parameters LEXES to the chunk tokens: the adjacency argument of C05 transferred from the
program in which every parameter is `let p = 0` — what may stand before a digit may stand before `$ ? {`, what
may follow a number (and no chunk starts with `$`) may follow a placeholder.  Hence, for every `ρ`: the emitted
text is read back as ONE statement `st` with `SExpr.param` leaves, which does not depend on `ρ`; `instStatement ρ st`
is (up to `normS`) the intended statement of the program `let p = ρ(placeholder of p); …` and evaluates to
`Rel.interp` of that program — the placeholders' values are exactly let-bound constants.

Side conditions: those of `E2EFinal.end_to_end_program` for the program with the lets in front (each with
its counterexample in Props/C02EndToEndSource.lean — with `params = []` they are the hypotheses of
`end_to_end_program`), `isPlaceholder` (needed: `PhCex.placeholder_needed`), `PVal.ok` (a number value is
a number spelling; needed: `PhCex.valOk_needed`).
Specification-level definitions: `PVal`, `instTok`, `instS`, `instL`, `instSel`, `instStatement`
(Lemmas/E2EMoreInst.lean), `isPlaceholder` (Lemmas/E2EMoreHolesLex.lean), `pletsOf`.
-/
import PqlModel.Lemmas.E2EMorePlets
import PqlModel.Props.C05LexStatement
import PqlModel.Lemmas.E2EFinalChecks
import PqlModel.Props.C02ProgramNames
import PqlModel.Base.BytesLemmas
namespace Pql.E2EMore
open Pql Sql LexRender Pql.Params CompileOracle Intended Pql.RT JoinFull Pql.ParsedOK Pql.E2E

theorem C06_parse_commutes_with_instantiation (ρ : Bytes → PVal) (ts : List STok) :
    parseStatement (ts.map (instTok ρ)) = (parseStatement ts).map (instStatement ρ) :=
  parseStatement_inst ρ ts

theorem C06_placeholder_one_token (text : Bytes) (h : isPlaceholder text = true) :
    Sql.lex .standard text = some [.param text] := lex_placeholder text h

/-- the chunks compiled with the parameters, and those compiled with the lets `pletsOf ρ params` in front
    for any `ρ`, are two fillings of one skeleton `r0`; the filling with the number `0` is adjacent -/
theorem placeholder_skeleton (src : Bytes) (params : List (Bytes × Bytes)) (stmts : List Stmt) (cs : List Chunk)
    (hok : stmtsLexOK stmts = true) (hc : compileChunks src params stmts = .ok cs) :
    ∃ r0, cs = bindRaw (fill (paramScope params)) r0 ∧
      (∀ ρ, compileChunks src [] (pletsOf ρ params ++ stmts) = .ok (bindRaw (fill (valScope ρ params)) r0)) ∧
      Adj (bindRaw (fill (valScope (fun _ => .num [48]) params)) r0) = true := by
  rw [compileChunks_eq_from, compileFrom_skeleton src params stmts _ (paramScope_keys params)] at hc
  cases h0 : compileFrom src (holeScope (params.map (·.1))) stmts with
  | error e => rw [h0] at hc; cases hc
  | ok r0 =>
    rw [h0, exmap_ok] at hc
    have hall : ∀ ρ, compileChunks src [] (pletsOf ρ params ++ stmts) = .ok (bindRaw (fill (valScope ρ params)) r0) := by
      intro ρ
      rw [compileChunks_plets, compileFrom_skeleton src params stmts _ (valScope_keys ρ params), h0, exmap_ok]
    exact ⟨r0, by injection hc with h; exact h.symm, hall, C05.program_adj src _ _
      (pletsOf_lexOK (fun _ => .num [48]) params stmts hok (fun _ _ => by decide)) (hall _)⟩

/-- **C06 (placeholders: LexRender).**  The text compiled with placeholder parameters lexes to the tokens of
    its chunks (each `.raw` chunk being the one token `.param text`). -/
theorem C06_placeholders_lex (src : Bytes) (params : List (Bytes × Bytes)) (stmts : List Stmt) (cs : List Chunk)
    (hph : ∀ kv ∈ params, isPlaceholder kv.2 = true)
    (hok : stmtsLexOK stmts = true)
    (hc : compileChunks src params stmts = .ok cs) :
    Sql.lex .standard (renderChunks cs) = some (toksOf cs) := by
  obtain ⟨r0, rfl, _, hadj⟩ := placeholder_skeleton src params stmts cs hok hc
  exact holes_lex_top _ _ (holeVal_fill _ params hph) r0 hadj

/-- **C06 (placeholders: the tokens, instantiated, are the tokens of the program with the lets).** -/
theorem C06_placeholders_toks (src : Bytes) (params : List (Bytes × Bytes)) (stmts : List Stmt) (cs : List Chunk)
    (ρ : Bytes → PVal)
    (hph : ∀ kv ∈ params, isPlaceholder kv.2 = true)
    (hok : stmtsLexOK stmts = true)
    (hc : compileChunks src params stmts = .ok cs) :
    ∃ cs', compileChunks src [] (pletsOf ρ params ++ stmts) = .ok cs' ∧
      (toksOf cs).map (instTok ρ) = toksOf cs' := by
  obtain ⟨r0, rfl, hall, hadj⟩ := placeholder_skeleton src params stmts cs hok hc
  exact ⟨_, hall ρ, holes_inst ρ _ _ _ (holeVal_fill ρ params hph) r0 [] hadj⟩

/-- **C06 (placeholders, purely syntactic).**  NO side condition beyond `stmtsLexOK` (true of every parsed
    K4-free program): reading the text of the program with `let p = ρ text` in front is instantiating, by
    `ρ`, the reading of the text compiled with the placeholders — for every `ρ`, with one and the same
    `readSql (renderChunks cs)`. -/
theorem C06_placeholder_read_commutes (src : Bytes) (params : List (Bytes × Bytes)) (stmts : List Stmt)
    (cs : List Chunk) (hph : ∀ kv ∈ params, isPlaceholder kv.2 = true) (hok : stmtsLexOK stmts = true)
    (hc : compileChunks src params stmts = .ok cs) (ρ : Bytes → PVal)
    (hρ : ∀ kv ∈ params, (ρ kv.2).ok = true) :
    ∃ cs', compileChunks src [] (pletsOf ρ params ++ stmts) = .ok cs' ∧
      readSql (renderChunks cs') = (readSql (renderChunks cs)).map (instStatement ρ) := by
  obtain ⟨cs', hc', htoks⟩ := C06_placeholders_toks src params _ cs ρ hph hok hc
  refine ⟨cs', hc', ?_⟩
  rw [readSql_of_lex (C05.C05_lexRender_program src _ cs' (pletsOf_lexOK ρ params _ hok hρ) hc'),
    readSql_of_lex (C06_placeholders_lex src params _ cs hph hok hc), ← htoks, parseStatement_inst]

/-- **C06 (placeholder parameters, end to end).**  `params` binds names to placeholder texts
    (`isPlaceholder`), `ρ` assigns a value (a string, or a number spelling) to every placeholder text.  If
    `lets ++ [query t]` compiles WITH THE PARAMETERS to chunks `cs`, then — under the side conditions of
    `E2EFinal.end_to_end_program` for the program `pletsOf ρ params ++ lets ++ [query t]`, in which every
    parameter `p ↦ text` is `let p = ρ text` —
    * the emitted SQL text is read by the reference lexer and parser as a statement `st` (in which a parameter
      reference is the leaf `SExpr.param text`);
    * `st` with every placeholder replaced by its value, `instStatement ρ st`, is what the reader reads from
      the text of the program with the lets, is the intended statement of that program up to `normS`, and
    * evaluates on every rectangular database to the meaning of that program: the values of the
      placeholders are exactly let-bound constants. -/
theorem C06_placeholder_params_end_to_end (src : Bytes) (params : List (Bytes × Bytes)) (ρ : Bytes → PVal)
    (lets : List Stmt) (t : Tabular) (cs : List Chunk)
    (hph : ∀ kv ∈ params, isPlaceholder kv.2 = true)
    (hρ : ∀ kv ∈ params, (ρ kv.2).ok = true)
    (hc : compileChunks src params (lets ++ [.tabular t]) = .ok cs)
    (hl : IsLets lets) (hv : LetValuesOK lets)
    (hjs : envJoinSafe (letsEnv (pletsOf ρ params ++ lets) []) = true)
    (hJ : TrueFree (letsEnv (pletsOf ρ params ++ lets) []) ∨ TabNE t = true) (hN : tabNamed t)
    (hlexP : stmtsLexOK (lets ++ [.tabular t]) = true)
    (hok : C05.tabularOK (substTabular (letsEnv (pletsOf ρ params ++ lets) []) t) = true)
    (hnames : namesOk (substTabular (letsEnv (pletsOf ρ params ++ lets) []) t) = true)
    (hops : tabOpsOk (substTabular (letsEnv (pletsOf ρ params ++ lets) []) t) = true) :
    ∃ st cs' want, readSql (renderChunks cs) = some st ∧
      compileChunks src [] (pletsOf ρ params ++ lets ++ [.tabular t]) = .ok cs' ∧
      readSql (renderChunks cs') = some (instStatement ρ st) ∧
      intended src (pletsOf ρ params ++ lets ++ [.tabular t]) = some want ∧
      statementEq (instStatement ρ st) want = true ∧
      ∀ db, RectDB db →
        evalStatement db (instStatement ρ st) =
          Rel.interp src db (substTabular (letsEnv (pletsOf ρ params ++ lets) []) t) ∧
        Rel.interpProgram src db (pletsOf ρ params ++ lets ++ [.tabular t]) =
          some (Rel.interp src db (substTabular (letsEnv (pletsOf ρ params ++ lets) []) t)) := by
  obtain ⟨cs', hc', hread⟩ := C06_placeholder_read_commutes src params _ cs hph hlexP hc ρ hρ
  rw [← List.append_assoc] at hc'
  obtain ⟨hlets, hvals, hlexP'⟩ := plets_side ρ params lets t hρ hl hv hlexP
  obtain ⟨stV, want, h1, _, h3, h4, h5⟩ :=
    E2EFinal.end_to_end_program src (pletsOf ρ params ++ lets) t cs' hc' hlets hvals hjs hJ hN hlexP' hok hnames hops
  rw [h1] at hread
  obtain ⟨st, hp, rfl⟩ := Option.map_eq_some_iff.1 hread.symm
  exact ⟨st, cs', want, hp, hc', h1, h3, h4, fun db hdb => ⟨(h5 db hdb).1, (h5 db hdb).2.2⟩⟩

/-- **C06 (placeholder parameters, end to end) against `Rel.interpProgram`, without `tabNamed`** (implicit
    column names may mention parameters: `extend a + p` is the column `a + p`): through
    `C02_end_to_end_program_names` and `C06_placeholder_read_commutes`. -/
theorem C06_placeholder_params_end_to_end_names (src : Bytes) (params : List (Bytes × Bytes)) (ρ : Bytes → PVal)
    (lets : List Stmt) (t : Tabular) (cs : List Chunk)
    (hph : ∀ kv ∈ params, isPlaceholder kv.2 = true)
    (hρ : ∀ kv ∈ params, (ρ kv.2).ok = true)
    (hc : compileChunks src params (lets ++ [.tabular t]) = .ok cs)
    (hl : IsLets lets) (hv : LetValuesOK lets)
    (hjs : envJoinSafe (letsEnv (pletsOf ρ params ++ lets) []) = true)
    (hJ : TrueFree (letsEnv (pletsOf ρ params ++ lets) []) ∨ TabNE t = true)
    (hlexP : stmtsLexOK (lets ++ [.tabular t]) = true)
    (hok : C05.tabularOK (substTabular (letsEnv (pletsOf ρ params ++ lets) []) t) = true)
    (hnames : namesOk (substTabular (letsEnv (pletsOf ρ params ++ lets) []) (Rel.nameTabular src t)) = true)
    (hops : tabOpsOk (substTabular (letsEnv (pletsOf ρ params ++ lets) []) (Rel.nameTabular src t)) = true) :
    ∃ st, readSql (renderChunks cs) = some st ∧
      ∀ db, RectDB db →
        Rel.interpProgram src db (pletsOf ρ params ++ lets ++ [.tabular t]) =
          some (evalStatement db (instStatement ρ st)) := by
  obtain ⟨cs', hc', hread⟩ := C06_placeholder_read_commutes src params _ cs hph hlexP hc ρ hρ
  rw [← List.append_assoc] at hc'
  obtain ⟨hlets, hvals, hlexP'⟩ := plets_side ρ params lets t hρ hl hv hlexP
  obtain ⟨stV, h1, _, h2⟩ :=
    C02_end_to_end_program_names src (pletsOf ρ params ++ lets) t cs' hc' hlets hvals hjs hJ hlexP' hok hnames hops
  rw [h1] at hread
  obtain ⟨st, hp, rfl⟩ := Option.map_eq_some_iff.1 hread.symm
  exact ⟨st, hp, h2⟩

/-- compile with the parameters, read the text back, give the placeholders their values, evaluate -/
def runParams (src : Bytes) (params : List (Bytes × Bytes)) (ρ : Bytes → PVal) (db : DB) : Option Table :=
  match compile params src with
  | .ok sql => (readSql sql).map fun st => evalStatement db (instStatement ρ st)
  | _ => none

def letValuesB (lets : List Stmt) : Bool :=
  lets.all fun st => match st with | .let_ _ _ _ x => x.lexOK && shapeOK x | _ => true

theorem letValuesOK_of_B {lets : List Stmt} (h : letValuesB lets = true) : LetValuesOK lets := by
  intro st hst kw n a x hx
  subst hx
  have := List.all_eq_true.mp h _ hst
  simpa using this

/-- the side conditions inherited from `E2EFinal.end_to_end_program`, for source bytes, as one Boolean -/
def phBase (src : Bytes) (params : List (Bytes × Bytes)) (ρ : Bytes → PVal) : Bool :=
  match parse src, compile params src with
  | (stmts, []), .ok _ =>
    match E2EFinal.splitLets stmts with
    | some (lets, t) =>
      letValuesB lets &&
        envJoinSafe (letsEnv (pletsOf ρ params ++ lets) []) && TabNE t && E2EFinal.tabNamedB t &&
        stmtsLexOK (lets ++ [Stmt.tabular t]) &&
        C05.tabularOK (substTabular (letsEnv (pletsOf ρ params ++ lets) []) t) &&
        namesOk (substTabular (letsEnv (pletsOf ρ params ++ lets) []) t) &&
        tabOpsOk (substTabular (letsEnv (pletsOf ρ params ++ lets) []) t)
    | none => false
  | _, _ => false

/-- the decidable hypotheses of `C06_placeholder_params_end_to_end` for source bytes, as one Boolean -/
def phHyps (src : Bytes) (params : List (Bytes × Bytes)) (ρ : Bytes → PVal) : Bool :=
  params.all (fun kv => isPlaceholder kv.2) && params.all (fun kv => (ρ kv.2).ok) && phBase src params ρ

/-- **C06 (placeholder parameters, end to end, source bytes, functional form)**: compile the source with
    the placeholder parameters, read the text back, give the placeholders their values, evaluate = the
    meaning (`Rel.interpProgram`) of the program with `let p = value` in front -/
theorem C06_placeholder_params_run (src : Bytes) (params : List (Bytes × Bytes)) (ρ : Bytes → PVal)
    (h : phHyps src params ρ = true) :
    ∀ db, RectDB db → (runParams src params ρ db).isSome = true ∧
      runParams src params ρ db = Rel.interpProgram src db (pletsOf ρ params ++ (parse src).1) := by
  simp only [phHyps, Bool.and_eq_true, List.all_eq_true] at h
  obtain ⟨⟨h1, h2⟩, h⟩ := h
  unfold phBase at h
  split at h
  · rename_i stmts sql hp hc
    split at h
    · rename_i lets t hs
      obtain ⟨rfl, hl⟩ := E2EFinal.splitLets_spec stmts lets t hs
      simp only [Bool.and_eq_true] at h
      obtain ⟨⟨⟨⟨⟨⟨⟨h3, h4⟩, h5⟩, h6⟩, h7⟩, h8⟩, h9⟩, h10⟩ := h
      obtain ⟨cs, hcs, rfl⟩ := compile_ok_chunks src sql _ hp hc
      obtain ⟨st, _, _, hr, _, _, _, _, hev⟩ := C06_placeholder_params_end_to_end src params ρ lets t cs h1 h2 hcs hl
        (letValuesOK_of_B h3) h4 (Or.inr h5) (E2EFinal.tabNamed_of_B t h6) h7 h8 h9 h10
      intro db hdb
      obtain ⟨ha, hb⟩ := hev db hdb
      simp only [runParams, hc, hr, Option.map_some, ha, hp, ← List.append_assoc, hb, Option.isSome_some, and_self]
    · cases h
  · cases h

namespace PhEx
open C03.Ex

def s (x : String) : Bytes := Bytes.ofString x

/-- parameters `lim ↦ $1`, `kk ↦ {kk:Int32}`, `nm ↦ ?` -/
def exParams : List (Bytes × Bytes) := [(s "lim", s "$1"), (s "kk", s "{kk:Int32}"), (s "nm", s "?")]
/-- a parameter in a comparison, one in a `!=` test (written `<>`), one projected as a column, and one let
    defined from a parameter -/
def exSrc : Bytes := s "let m = lim; T | where a >= m and k != kk | project k, a, nm | take 2"
/-- `$1 = 20`, `{kk:Int32} = 2`, `? = 'x'` -/
def exRho : Bytes → PVal := fun p =>
  if p = s "$1" then .num (s "20") else if p = s "{kk:Int32}" then .num (s "2") else .str (s "x")

/-- all hypotheses of `C06_placeholder_params_run` hold -/
theorem ex_hyps : phHyps exSrc exParams exRho = true := by decide +kernel

theorem ex_end_to_end : ∀ db, RectDB db → (runParams exSrc exParams exRho db).isSome = true ∧
    runParams exSrc exParams exRho db =
      Rel.interpProgram exSrc db (pletsOf exRho exParams ++ (parse exSrc).1) :=
  C06_placeholder_params_run exSrc exParams exRho ex_hyps

/-- the emitted text contains the placeholders verbatim -/
theorem ex_text : compile exParams exSrc = .ok (s
    "WITH \"__subquery0\" AS (SELECT * FROM \"T\" WHERE (\"a\" >= $1) AND (coalesce(\"k\" <> {kk:Int32}, FALSE))),\n     \"__subquery1\" AS (SELECT \"k\" AS \"k\", \"a\" AS \"a\", ? AS \"nm\" FROM \"__subquery0\")\nSELECT * FROM \"__subquery1\" LIMIT 2;") := by
  rw [s, Bytes.ofString_ofList]
  decide +kernel

set_option maxRecDepth 100000 in
/-- cross-check by evaluation on `C03.Ex.exDB`: both sides computed -/
theorem ex_computed :
    runParams exSrc exParams exRho C03.Ex.exDB =
      Rel.interpProgram exSrc C03.Ex.exDB (pletsOf exRho exParams ++ (parse exSrc).1) ∧
    (runParams exSrc exParams exRho C03.Ex.exDB).isSome = true := by
  decide +kernel

end PhEx

namespace PhCex
open C03.Ex PhEx

/-- `p ↦ $1 + 1` is not ONE placeholder: in `a * p` the emitted `"a" * $1 + 1` regroups -/
def npParams : List (Bytes × Bytes) := [(s "p", s "$1 + 1")]
def npSrc : Bytes := s "T | extend y = a * p | take 2"
def npRho : Bytes → PVal := fun p => if p = s "$1" then .num (s "4") else .num (s "5")

set_option maxRecDepth 100000 in
/-- **`isPlaceholder` is needed**: every other hypothesis holds, the text is read back, and the result
    (`a * 4 + 1`) is not the meaning of the program with `let p = 5` (`a * 5`) -/
theorem placeholder_needed :
    npParams.all (fun kv => isPlaceholder kv.2) = false ∧ npParams.all (fun kv => (npRho kv.2).ok) = true ∧
    phBase npSrc npParams npRho = true ∧ RectDB C03.Ex.exDB ∧
    (runParams npSrc npParams npRho C03.Ex.exDB).isSome = true ∧
    runParams npSrc npParams npRho C03.Ex.exDB ≠
      Rel.interpProgram npSrc C03.Ex.exDB (pletsOf npRho npParams ++ (parse npSrc).1) := by
  decide +kernel

/-- an empty text: the emitted text is not read at all -/
def emParams : List (Bytes × Bytes) := [(s "p", [])]

theorem placeholder_needed_empty :
    phBase npSrc emParams npRho = true ∧ runParams npSrc emParams npRho C03.Ex.exDB = none := by
  decide +kernel

/-- the value `1 + 1` is not a number spelling -/
def okParams : List (Bytes × Bytes) := [(s "p", s "$1")]
def okRho : Bytes → PVal := fun _ => .num (s "1 + 1")

/-- does reading the text with the lets give the instantiated reading of the text with placeholders
    (up to `normS`)? -/
def readCommutes (src : Bytes) (params : List (Bytes × Bytes)) (ρ : Bytes → PVal) : Option Bool :=
  match compileChunks src params (parse src).1, compileChunks src [] (pletsOf ρ params ++ (parse src).1) with
  | .ok cs, .ok cs' =>
    match readSql (renderChunks cs), readSql (renderChunks cs') with
    | some st, some st' => some (statementEq st' (instStatement ρ st))
    | _, _ => none
  | _, _ => none

/-- **`PVal.ok` is needed** (for `C06_placeholder_read_commutes` and the `readSql (renderChunks cs')` part of
    the end-to-end theorem): with the "number" `1 + 1` the text with the let reads `"a" * 1 + 1`, which is
    not the instantiated `"a" * $1`; with a number spelling it is -/
theorem valOk_needed :
    okParams.all (fun kv => isPlaceholder kv.2) = true ∧ okParams.all (fun kv => (okRho kv.2).ok) = false ∧
    readCommutes npSrc okParams okRho = some false ∧ readCommutes npSrc okParams npRho = some true := by
  decide +kernel

end PhCex

end Pql.E2EMore
