/-
Property C02 — programs with lets, end to end, WITHOUT `tabNamed`.

`E2EFinal.C02_end_to_end_program_bytes` needs every extend / summarize column to be `name = expr`, because it
is stated through `resolveLets`: substituting let values INTO the tree changes the source text an implicit
column name is sliced from.  `Rel.interpProgram` — the interpreter of programs — fixes the implicit names
first (`Rel.nameTabular`) and substitutes then.  Against it the hypothesis goes away: the compiler emits the same
chunks for a query and for the query with its implicit column names made explicit (the alias `aliasOf` /
`columnAlias` slices is `Rel.colName`), whenever it succeeds on the former (`C02_compile_named`), so the emitted
text, read back and evaluated as read, is `Rel.interpProgram src db (lets ++ [query t])`.

The remaining side conditions are those of `E2EFinal.C02_end_to_end_program` with the resolved NAMED query
`substTabular (letsEnv lets []) (nameTabular src t)` in place of the resolved query.  (`tabExprsB` — every
extend / summarize column has an expression — is what the route through `nameTabular` needs in place of
`tabNamed`; it follows from `lexOK`.  `C05.tabularOK` does not look at column names: `tabularOK_name`.)
Byte level: `k4Free`, `envJoinSafe`, `namesOk`, `tabOpsOk` — each needed (`E2EFinal.Cex.*`; for
`envJoinSafe` see `Cex.envJoinSafe_needed_eval` below).
-/
import PqlModel.Lemmas.E2EMoreNamesOK
import PqlModel.Base.BytesLemmas
import PqlModel.Props.C02EndToEndSource
namespace Pql.E2EMore
open Pql Sql CompileOracle Intended JoinFull Pql.ParsedOK Pql.E2E Pql.RT Pql.Rel

theorem C02_compile_named (src : Bytes) (lets : List Stmt) (t : Tabular) (cs : List Chunk) (hl : IsLets lets)
    (hc : compileChunks src [] (lets ++ [.tabular t]) = .ok cs) :
    compileChunks src [] (lets ++ [.tabular (nameTabular src t)]) = .ok cs := by
  obtain ⟨sc, q, hrun⟩ := lets_run_of_compile src lets t cs hl hc
  rw [C06.C06_lets_then_query src [] lets t hl sc q hrun] at hc
  rw [C06.C06_lets_then_query src [] lets _ hl sc q hrun]
  exact finishChunks_name src sc t cs hc

theorem stmtsLexOK_name (src : Bytes) (t : Tabular) : (lets : List Stmt) → IsLets lets →
    stmtsLexOK (lets ++ [.tabular (nameTabular src t)]) = stmtsLexOK (lets ++ [.tabular t])
  | [], _ => by simp only [List.nil_append, stmtsLexOK, lexOK_name]
  | s :: rest, hl => by
    obtain ⟨kw, n, a, x, rfl⟩ := hl s List.mem_cons_self
    simp only [List.cons_append, stmtsLexOK,
      stmtsLexOK_name src t rest (fun s hs => hl s (List.mem_cons_of_mem _ hs))]

/-- **C02 (end to end, programs with lets, tree level) against `Rel.interpProgram`, without `tabNamed`.** -/
theorem C02_end_to_end_program_names (src : Bytes) (lets : List Stmt) (t : Tabular) (cs : List Chunk)
    (hc : compileChunks src [] (lets ++ [.tabular t]) = .ok cs)
    (hl : IsLets lets) (hv : LetValuesOK lets) (hjs : envJoinSafe (letsEnv lets []) = true)
    (hJ : TrueFree (letsEnv lets []) ∨ TabNE t = true)
    (hlexP : stmtsLexOK (lets ++ [.tabular t]) = true)
    (hok : C05.tabularOK (substTabular (letsEnv lets []) t) = true)
    (hnames : namesOk (substTabular (letsEnv lets []) (nameTabular src t)) = true)
    (hops : tabOpsOk (substTabular (letsEnv lets []) (nameTabular src t)) = true) :
    ∃ st, readSql (renderChunks cs) = some st ∧ noBangStatement st = true ∧
      ∀ db, RectDB db → Rel.interpProgram src db (lets ++ [.tabular t]) = some (evalStatement db st) := by
  have hX : tabExprsB t = true := tabExprs_of_lexOK t (stmtsLexOK_query t lets hl hlexP)
  rw [← tabularOK_name src _ t hX] at hok
  have hc1 := C02_compile_named src lets t cs hl hc
  obtain ⟨st, _, h1, h2, _, _, h5⟩ := E2EFinal.end_to_end_program src lets (nameTabular src t) cs hc1 hl hv hjs
    (hJ.imp id (fun h => by rw [tabNE_name]; exact h)) (tabNamed_name src t hX)
    (by rw [stmtsLexOK_name src t lets hl]; exact hlexP) hok hnames hops
  refine ⟨st, h1, h2, fun db hdb => ?_⟩
  obtain ⟨ha, _, hb⟩ := h5 db hdb
  rw [interpProgram_name src db lets t hl hX, hb, ha]

/-- **C02 (end to end, source bytes, programs with lets) against `Rel.interpProgram`, without `tabNamed`.**
    For a source that `parse` reads without error as `lets ++ [query t]` and `compile` turns into `sql`:
    `sql` read back and evaluated as read is the meaning of the program on every rectangular database.
    No `lexOK` / `shapeOK` / `tabularOK` / `tabNamed` hypothesis. -/
theorem C02_end_to_end_program_names_bytes (src sql : Bytes) (lets : List Stmt) (t : Tabular)
    (hp : parse src = (lets ++ [.tabular t], [])) (hc : compile [] src = .ok sql)
    (hk : k4Free (lets ++ [.tabular t]) = true)
    (hl : IsLets lets) (hjs : envJoinSafe (letsEnv lets []) = true)
    (hnames : namesOk (substTabular (letsEnv lets []) (nameTabular src t)) = true)
    (hops : tabOpsOk (substTabular (letsEnv lets []) (nameTabular src t)) = true) :
    ∃ st, readSql sql = some st ∧
      ∀ db, RectDB db → Rel.interpProgram src db (lets ++ [.tabular t]) = some (evalStatement db st) := by
  obtain ⟨cs, hcs, rfl, hv, hne, hlex, hok⟩ := E2EFinal.parsed_program src sql lets t hp hc hk hl
  obtain ⟨st, h1, _, h2⟩ := C02_end_to_end_program_names src lets t cs hcs hl hv hjs (Or.inr hne) hlex hok hnames hops
  exact ⟨st, h1, h2⟩

def namesHyps (src : Bytes) : Bool :=
  match parse src, compile [] src with
  | (stmts, []), .ok _ =>
    match E2EFinal.splitLets stmts with
    | some (lets, t) =>
      k4Free stmts && envJoinSafe (letsEnv lets []) &&
        namesOk (substTabular (letsEnv lets []) (nameTabular src t)) &&
        tabOpsOk (substTabular (letsEnv lets []) (nameTabular src t))
    | none => false
  | _, _ => false

/-- **functional form**: compile, read back, evaluate = the meaning of the program -/
theorem C02_end_to_end_program_names_run (src : Bytes) (h : namesHyps src = true) :
    ∀ db, RectDB db → (E2EFinal.runBytes src db).isSome = true ∧
      E2EFinal.runBytes src db = Rel.interpProgram src db (parse src).1 := by
  unfold namesHyps at h
  split at h
  · rename_i stmts sql hp hc
    split at h
    · rename_i lets t hs
      obtain ⟨rfl, hl⟩ := E2EFinal.splitLets_spec stmts lets t hs
      simp only [Bool.and_eq_true] at h
      obtain ⟨⟨⟨h1, h2⟩, h5⟩, h6⟩ := h
      obtain ⟨st, hr, hev⟩ := C02_end_to_end_program_names_bytes src sql lets t hp hc h1 hl h2 h5 h6
      intro db hdb
      simp only [E2EFinal.runBytes, hc, hr, Option.map_some, hp, hev db hdb, Option.isSome_some, and_self]
    · cases h
  · cases h

namespace Ex
open C03.Ex

def s (x : String) : Bytes := Bytes.ofString x

/-- the counterexample `E2EFinal.Cex.unnamedSrc` to the formulation through `resolveLets` -/
def ex1 : Bytes := s "let n = 1; T | extend a + n"
/-- unnamed aggregate and unnamed group key mentioning a let; a join whose right-hand side has an unnamed column -/
def ex2 : Bytes := s "let d = 10; T | summarize count(), max(a) by a / d"
def ex3 : Bytes := s "let d = 10; T | join kind=inner (U | extend b + d) on k | take 3"

set_option maxRecDepth 100000 in
/-- the three programs satisfy `namesHyps` and not `progHyps`, and what the emitted SQL evaluates to;
    the statements below are its parts -/
theorem ex_eval :
    (namesHyps ex1 = true ∧ namesHyps ex2 = true ∧ namesHyps ex3 = true) ∧
    (E2EFinal.progHyps ex1 = false ∧ E2EFinal.progHyps ex2 = false ∧ E2EFinal.progHyps ex3 = false) ∧
    (E2EFinal.runBytes ex1 C03.Ex.exDB = Rel.interpProgram ex1 C03.Ex.exDB (parse ex1).1 ∧
     E2EFinal.runBytes ex2 C03.Ex.exDB = Rel.interpProgram ex2 C03.Ex.exDB (parse ex2).1 ∧
     E2EFinal.runBytes ex3 C03.Ex.exDB = Rel.interpProgram ex3 C03.Ex.exDB (parse ex3).1 ∧
     (E2EFinal.runBytes ex2 C03.Ex.exDB).isSome = true) := by
  unfold ex1 ex2 ex3 s
  iterate 3 rw [Bytes.ofString_ofList]
  decide +kernel

theorem ex_hyps : namesHyps ex1 = true ∧ namesHyps ex2 = true ∧ namesHyps ex3 = true :=
  ex_eval.1

/-- none of the three meets `progHyps`, the hypotheses of `C02_end_to_end_program_run` (the conjunct that fails
    is `tabNamedB`: their extend / summarize columns carry no names) -/
theorem ex_unnamed : E2EFinal.progHyps ex1 = false ∧ E2EFinal.progHyps ex2 = false ∧ E2EFinal.progHyps ex3 = false :=
  ex_eval.2.1

theorem ex_end_to_end : ∀ src ∈ [ex1, ex2, ex3], ∀ db, RectDB db →
    (E2EFinal.runBytes src db).isSome = true ∧ E2EFinal.runBytes src db = Rel.interpProgram src db (parse src).1 := by
  intro src hs
  apply C02_end_to_end_program_names_run
  simp only [List.mem_cons, List.not_mem_nil, or_false] at hs
  rcases hs with rfl | rfl | rfl
  · exact ex_hyps.1
  · exact ex_hyps.2.1
  · exact ex_hyps.2.2

theorem ex_computed :
    E2EFinal.runBytes ex1 C03.Ex.exDB = Rel.interpProgram ex1 C03.Ex.exDB (parse ex1).1 ∧
    E2EFinal.runBytes ex2 C03.Ex.exDB = Rel.interpProgram ex2 C03.Ex.exDB (parse ex2).1 ∧
    E2EFinal.runBytes ex3 C03.Ex.exDB = Rel.interpProgram ex3 C03.Ex.exDB (parse ex3).1 ∧
    (E2EFinal.runBytes ex2 C03.Ex.exDB).isSome = true :=
  ex_eval.2.2

end Ex

namespace Cex
open C03.Ex Ex

/-- the hypotheses (K4-free, `envJoinSafe`, `namesOk`, `tabOpsOk`) of `C02_end_to_end_program_names_bytes` -/
def namesOthers (src : Bytes) : Option (Bool × Bool × Bool × Bool) :=
  match parse src, compile [] src with
  | (stmts, []), .ok _ =>
    (E2EFinal.splitLets stmts).map fun (lets, t) =>
      (k4Free stmts, envJoinSafe (letsEnv lets []),
        namesOk (substTabular (letsEnv lets []) (nameTabular src t)),
        tabOpsOk (substTabular (letsEnv lets []) (nameTabular src t)))
  | _, _ => none

/-- a let named `$left`, used in a join condition under `not`: the writer decides "join equality" on the
    UNRESOLVED condition (`$left == $right.k` mentions both aliases) and writes the plain `1 = "$right"."k"`;
    the resolved condition `1 == $right.k` is an ordinary equality, `coalesce(1 = "$right"."k", FALSE)`.
    Under `NOT` the two differ on a NULL key: NULL (pair dropped) against TRUE (pair kept). -/
def joinNotSrc : Bytes := s "let $left = 1; T | join kind=inner (U) on not($left == $right.k) | count"

theorem joinNot_text : compile [] joinNotSrc = .ok (s
    "WITH \"__subquery0\" AS (SELECT * FROM \"U\"),\n     \"__subquery1\" AS (SELECT * FROM \"T\" AS \"$left\" JOIN \"__subquery0\" AS \"$right\" ON NOT (1 = \"$right\".\"k\"))\nSELECT COUNT(*) AS \"count()\" FROM \"__subquery1\";") := by
  rw [s, Bytes.ofString_ofList]
  decide +kernel

set_option maxRecDepth 100000 in
/-- **`envJoinSafe` is needed for the evaluation**: every other hypothesis of
    `C02_end_to_end_program_names_bytes` (and of `E2EFinal.C02_end_to_end_program_bytes`) holds; the emitted
    text is read back; evaluated on `C03.Ex.exDB` (U has a row with a NULL key) it counts 4 pairs, the
    meaning of the program counts 8. -/
theorem envJoinSafe_needed_eval :
    namesOthers joinNotSrc = some (true, false, true, true) ∧
    E2EFinal.Cex.progOthers joinNotSrc = some (true, false, true, true, true) ∧
    RectDB C03.Ex.exDB ∧
    E2EFinal.runBytes joinNotSrc C03.Ex.exDB = some ⟨[s "count()"], [[.int 4]]⟩ ∧
    Rel.interpProgram joinNotSrc C03.Ex.exDB (parse joinNotSrc).1 = some ⟨[s "count()"], [[.int 8]]⟩ ∧
    Rel.interp joinNotSrc C03.Ex.exDB (E2EFinal.Cex.resolvedOf joinNotSrc) = ⟨[s "count()"], [[.int 8]]⟩ := by
  unfold joinNotSrc s
  rw [Bytes.ofString_ofList]
  decide +kernel

end Cex

end Pql.E2EMore
