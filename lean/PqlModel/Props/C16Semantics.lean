/-
Property C16, semantic half: the prelude TEXT cmd/pql keeps IS the scope.

cmd/pql implements "compiled with all previously accepted let statements in scope" textually: it
keeps a prelude string, appends every accepted let text followed by ";\n", and calls
`pql.Compile(prelude + stmt)` (for a let: `prelude + stmt + ";X"`).  Here this is tied to the real
compile model `Pql.compile []`.
-/
import PqlModel.Lemmas.CliSemRun
namespace Pql.CliSem
open Pql Pql.Piecewise Pql.CliIO Pql.CliSpec CompileOracle

/-- **C16 (parse of prelude ++ statement).**  `ls` are let texts such that the ';' written behind
    each is a token of its own (`SemiEnds`, decidable: `C16_semiEnds_iff`; true of every
    ';'-terminated piece of `SplitStatements`: `C16_pieces_semiEnds`); `s` is ANY text.  Then the
    statements of `l1 ++ ";\n" ++ … ++ lk ++ ";\n" ++ s` are the statements of `l1`, …, `lk` — each
    parsed on its own and moved to its offset — followed by the statements of `s` moved by the length
    of the prelude; and the whole parses without error iff every part does. -/
theorem C16_prelude_parse (ls : List Bytes) (hls : ∀ l ∈ ls, SemiEnds l) (s : Bytes) :
    (parse (preludeOf ls ++ s)).1 =
        letsAt 0 ls ++ (parse s).1.map (shStmt (preludeOf ls).length) ∧
      ((parse (preludeOf ls ++ s)).2 = [] ↔ (∀ l ∈ ls, (parse l).2 = []) ∧ (parse s).2 = []) :=
  prelude_parse ls (fun l hl => (semiClosed_iff l).mpr (hls l hl)) s

/-- `SemiEnds` is decidable: the scan of `l ++ ";"` ends with the semicolon token -/
theorem C16_semiEnds_iff (l : Bytes) :
    SemiEnds l ↔ (⟨.semi, l.length, l.length + 1, []⟩ : Token) ∈ scan (l ++ [59]) := by
  have := reaches_iff_semi_mem l [] 0
  simpa [SemiEnds, scan] using this

/-- … and does not depend on what follows the ';' (the scanner never looks past a ';' unless
    it is inside a string, a quoted name or a comment) -/
theorem C16_semiEnds_indep (l v : Bytes) : SemiEnds l ↔ Reaches (l ++ 59 :: v) l.length :=
  ⟨fun h => (semiClosed_iff l).mpr h v, fun h => (semiClosed_iff l).mp (semiClosed_of_reaches h)⟩

theorem C16_pieces_semiEnds (text : Bytes) :
    ∀ p ∈ (splitStatements text).dropLast, SemiEnds p ∧ ∀ t ∈ scan p, t.kind ≠ .semi :=
  fun p hp => ⟨(semiClosed_iff p).mp (termPiece_of_split text p hp).1, (termPiece_of_split text p hp).2⟩

/-- a piece without ';' token that starts with `let` parses into exactly one statement, a `let`
    (possibly a partial one, next to errors) -/
theorem C16_let_piece (l : Bytes) (hns : ∀ t ∈ scan l, t.kind ≠ .semi) (hl : isLetStatement l = true) :
    ∃ kw n a x, (parse l).1 = [.let_ kw n a x] :=
  parse_let_piece l hns hl

/-- **C16 (the prelude is the scope).**  `ls` are accepted let texts (each: the ';' behind it is a
    token, it parses without error, into `let` statements only — what the tool guarantees,
    `C16_accepted_invariant`); `s` is ANY text.  Then `Compile(l1;\n…lk;\n ++ s)` is the library's
    result for `s` with the `let` statements of `l1, …, lk` in scope, in that order: the
    statement list `[let_1, …, let_k] ++ statements of s`, with the ORIGINAL trees (positions
    relative to the own text of each) and the implicit column names sliced from `s` itself.
    Later bindings shadow earlier ones (`lookupScope` finds the most recent: `C16_shadow`). -/
theorem C16_prelude_is_scope (ls : List Bytes) (hls : ∀ l ∈ ls, AcceptedLet l) (s : Bytes) :
    compile [] (preludeOf ls ++ s) = compileWithLets (letsOf ls) s :=
  prelude_compile ls hls s

theorem C16_prelude_is_scope' (ls : List Bytes) (hls : ∀ l ∈ ls, AcceptedLet l) (s : Bytes) :
    compile [] (preludeOf ls ++ s) =
      if (parse s).2 = [] then
        match compileChunks s [] (letsOf ls ++ (parse s).1) with
        | .ok cs => .ok (renderChunks cs)
        | .error .err => .error
        | .error .panic => .panic
      else .error := by
  rw [C16_prelude_is_scope ls hls s, compileWithLets]
  split
  · cases compileChunks s [] (letsOf ls ++ (parse s).1) with
    | ok cs => rfl
    | error e => cases e <;> rfl
  · rfl

/-- the statement loop conses each binding on top of the scope, and a name is looked up from the
    top: a later `let` of the same name shadows an earlier one -/
theorem C16_shadow (n : Bytes) (v v' : List Chunk) (sc : Scope) :
    lookupScope ((n, v') :: (n, v) :: sc) n = some v' := by
  simp [lookupScope]

theorem C16_compile_ignores_shift (P s : Bytes) (stmts : List Stmt)
    (hg : ∀ st ∈ stmts, colsGoodStmt st = true) :
    compileChunks (P ++ s) [] (stmts.map (shStmt P.length)) = compileChunks s [] stmts :=
  compileChunks_shift P s stmts hg

/-- the hypothesis of `C16_compile_ignores_shift` holds of every error-free parse -/
theorem C16_colsGood_of_parse (src : Bytes) (h : (parse src).2 = []) :
    ∀ st ∈ (parse src).1, colsGoodStmt st = true :=
  colsGood_of_parse src (parse src).1 (Prod.ext rfl h)

/-- the text an implicit column name is cut from is the same behind any prefix `P` -/
theorem C16_slice_shift (P s : Bytes) (x : Expr) (h : goodE x = true) :
    sliceSource (P ++ s) (shExpr P.length x).spanOf = sliceSource s x.spanOf := by
  have := sliceSource_shExpr P s x h
  rwa [mapE_shMap] at this

/-- **C16 + C06 (the prelude is a substitution).**  If `s` is one query `t` and the side conditions
    of `C06_subst_program` hold for the accepted lets, `Compile(prelude ++ s)` renders
    `compileChunks s [] (lets ++ [t])`, which is — up to parentheses — what compiling `s` alone
    gives when every let-bound name in `t` is replaced by its (resolved) value. -/
theorem C16_prelude_is_substitution (ls : List Bytes) (hls : ∀ l ∈ ls, AcceptedLet l) (s : Bytes)
    (t : Tabular) (hs : parse s = ([.tabular t], []))
    (hjoin : LetsJoinSafe .join (letsOf ls)) (hT : TrueFree (letsEnv (letsOf ls) [])) (hN : tabNamed t)
    (sc : Scope) (q : Option Tabular) (hrun : compileStmts [] (letsOf ls) [] none = .ok (sc, q)) :
    compile [] (preludeOf ls ++ s) = renderResult (compileChunks s [] (letsOf ls ++ [.tabular t])) ∧
      ∃ t', resolveLets (letsOf ls ++ [.tabular t]) [] = some t' ∧
        ExRel EqUpToParens (compileChunks s [] (letsOf ls ++ [.tabular t]))
          (compileChunks s [] [.tabular t']) := by
  have hL : AllLets (letsOf ls) := allLets_letsOf (fun l hl => (hls l hl).2.2)
  constructor
  · rw [C16_prelude_is_scope ls hls s, compileWithLets, hs]
    rfl
  · refine C06.C06_subst_program s [] (letsOf ls) t (isLets_of_allLets hL) hjoin hT hN sc q ?_
    rw [compileStmts_lets_src s [] _ hL]
    exact hrun

/-- **C16 (the let test is sound).**  With accepted lets `ls` and a ';'-terminated piece `l` that
    starts with `let`: `Compile(prelude ++ l ++ ";X")` succeeds iff the library accepts `l` with the
    statements of `ls` in scope — `l` parses without error and the statement loop gets through
    `lets ++ [let_l]`.  The dummy query `X` adds exactly one trivially compiling query
    (`compileWithLets_probe`) and no binding can capture it (a table name is not an expression). -/
theorem C16_let_test_sound (ls : List Bytes) (hls : ∀ l ∈ ls, AcceptedLet l) (l : Bytes)
    (hl : TermPiece l) (hlet : isLetStatement l = true) :
    (compileCli (preludeOf ls ++ l ++ Bytes.ofString ";X")).isSome = letAccepts (letsOf ls) l :=
  probe_iff ls hls l hl hlet

/-- **what acceptance means**: the earlier lets having built the scope `sc`, the let text `l`
    (one statement `let n = x`) is accepted iff it parses without error, has a name, and its value
    can be written in let mode under `sc` (in that mode `writeExpr` rejects every name that is neither
    bound in `sc` nor a built-in constant; the statement does not spell this out) -/
theorem C16_letAccepts_iff (L : List Stmt) (hL : AllLets L) (sc : Scope) (q : Option Tabular)
    (hrun : compileStmts [] L [] none = .ok (sc, q)) (l : Bytes) (kw asg : Span) (n : Option Ident)
    (x : Expr) (hp : (parse l).1 = [.let_ kw n asg x]) :
    letAccepts L l = true ↔
      (parse l).2 = [] ∧ n.isSome = true ∧ okB (writeExpr ⟨[], sc, .let_⟩ x) = true := by
  unfold letAccepts
  cases (compileStmts_isLets_none [] (isLets_of_allLets hL) hrun : q = none)
  rw [hp, compileStmts_append, hrun]
  simp only [bind, Except.bind, compileStmts, Bool.and_eq_true, List.isEmpty_iff]
  cases writeExpr ⟨[], sc, .let_⟩ x with
  | error e => simp [okB, Except.map]
  | ok body =>
    cases n with
    | none => simp [okB, Except.map]
    | some m => simp [okB, Except.map]

/-- the tool's invariant: the lets in scope always get through the statement loop, so a later
    statement never fails because of the prelude -/
theorem C16_accepts_extends (L : List Stmt) (l : Bytes) (h : letAccepts L l = true) :
    okB (compileStmts [] (L ++ (parse l).1) [] none) = true := by
  simp only [letAccepts, Bool.and_eq_true] at h
  exact h.2

/-- **C16 (semantics of the command-line tool).**  With `text` = the delivered lines each followed
    by '\n' (`C16_lines_lossless`: the input up to `\r\n` → `\n`) and `pieces = SplitStatements text`:
    the result of `cliMain` with the real `Compile` is given by `semAll pieces` — for every
    ';'-terminated piece in order: a piece starting with `let` is accepted (its statement joins the
    scope) iff the library accepts it in the current scope, else it is a failure and the scope is
    unchanged; any other piece yields the library's SQL for it under the current scope
    (`compileWithLets`), or a failure; then the unterminated last piece, if it has a token, is
    compiled as a query under the final scope.  Standard output = the SQL texts in order, each
    followed by a blank line; `nErrors` = failures (+1 for a read error); exit status ≠ 0 iff
    `nErrors > 0`.  No text concatenation occurs on the right-hand side. -/
theorem C16_cli_semantics (input : Bytes) :
    cliMain compileCli input =
      (let pieces := splitStatements (normalise (bufioLines input).1)
       let n := nFailed (semAll pieces) + (if (bufioLines input).2 then 1 else 0)
       ⟨sqlText (semAll pieces), n, decide (n > 0)⟩) := by
  rw [C16_main_spec]
  unfold runPieces
  rw [allOutcomes_eq]

theorem C16_cli_output (input : Bytes) :
    (cliMain compileCli input).out =
      ((semAll (splitStatements (normalise (bufioLines input).1))).filterMap Outcome.sql?).flatMap
        (· ++ [10, 10]) := by
  rw [C16_cli_semantics]; rfl

/-- the records of the tool are the semantic outcomes, and the prelude stays a text of accepted
    lets whose statements are the semantic scope (the invariant behind `C16_cli_semantics`) -/
theorem C16_accepted_invariant (ss : List Bytes) (hss : ∀ s ∈ ss, TermPiece s) :
    (steps compileCli [] ss).map (·.res) = (semSteps [] ss).1 ∧
      ∃ ls', (∀ l ∈ ls', AcceptedLet l) ∧
        preludeAfter [] (steps compileCli [] ss) = preludeOf ls' ∧ (semSteps [] ss).2 = letsOf ls' :=
  steps_eq ss [] (by simp) hss

/-- two lets, a let that shadows the first, a failing let (unbound name), a query using both
    bindings, an unterminated query with an implicit column name -/
def script : Bytes := Bytes.ofString
  "let a = 1;\nlet b = a + 1;\nlet a = 2;\nlet c = zzz;\nT | where x == a and y == b;\nT | extend a + b"

set_option maxRecDepth 1000000 in
/-- the semantic outcomes of its pieces (non-vacuity of `C16_cli_semantics`) -/
theorem script_outcomes :
    semAll (splitStatements (normalise (bufioLines script).1)) =
      [.letOk, .letOk, .letOk, .letFail,
       .sql (Bytes.ofString "SELECT * FROM \"T\" WHERE (coalesce(\"x\" = 2, FALSE)) AND (coalesce(\"y\" = (1 + 1), FALSE));"),
       .sql (Bytes.ofString "SELECT *, 2 + (1 + 1) AS \"a + b\" FROM \"T\";")] := by
  unfold script
  -- the literals as character lists: the kernel turns a literal into bytes in time quadratic in its length
  rw [Bytes.ofString_ofList, Bytes.ofString_ofList, Bytes.ofString_ofList]
  decide +kernel

/-- the tool on the script: `b` was bound when `a` was 1, the later `a = 2` shadows; the failing
    let is counted and not bound; the implicit column name `a + b` is cut from the statement's own
    text although it was compiled behind a prelude of 39 bytes -/
theorem script_run : cliMain compileCli script = ⟨Bytes.ofString
    ("SELECT * FROM \"T\" WHERE (coalesce(\"x\" = 2, FALSE)) AND (coalesce(\"y\" = (1 + 1), FALSE));\n\n" ++
     "SELECT *, 2 + (1 + 1) AS \"a + b\" FROM \"T\";\n\n"), 1, true⟩ := by
  rw [C16_cli_semantics]
  simp only [script_outcomes]
  unfold script
  rw [Bytes.ofString_append]
  iterate 5 rw [Bytes.ofString_ofList]
  decide +kernel

/-- `let a = 1`, `\nlet b = a + 1` — two accepted let texts as the tool stores them -/
def exLets : List Bytes := [Bytes.ofString "let a = 1", Bytes.ofString "\nlet b = a + 1"]

set_option maxRecDepth 1000000 in
theorem exLets_semiEnds : ∀ l ∈ exLets, SemiEnds l := by
  intro l hl
  rw [C16_semiEnds_iff]
  simp only [exLets, List.mem_cons, List.not_mem_nil, or_false] at hl
  rcases hl with rfl | rfl <;> rw [scan_eq_scanFuel] <;> decide

set_option maxRecDepth 1000000 in
/-- non-vacuity of `AcceptedLet` -/
theorem exLets_accepted : ∀ l ∈ exLets, AcceptedLet l := by
  intro l hl
  refine ⟨(semiClosed_iff l).mpr (exLets_semiEnds l hl), ?_, ?_⟩
  · simp only [exLets, List.mem_cons, List.not_mem_nil, or_false] at hl
    rcases hl with rfl | rfl <;> rw [parse, scan_eq_scanFuel] <;> decide
  · apply allLets_of_isLetStatement
    · simp only [exLets, List.mem_cons, List.not_mem_nil, or_false] at hl
      rcases hl with rfl | rfl <;> rw [scan_eq_scanFuel] <;> decide
    · simp only [exLets, List.mem_cons, List.not_mem_nil, or_false] at hl
      rcases hl with rfl | rfl <;> (unfold isLetStatement; rw [scan_eq_scanFuel]; decide)

/-- `C16_prelude_is_scope` on the example, for every `s` -/
theorem exLets_scope (s : Bytes) :
    compile [] (Bytes.ofString "let a = 1;\n\nlet b = a + 1;\n" ++ s) = compileWithLets (letsOf exLets) s := by
  have := C16_prelude_is_scope exLets exLets_accepted s
  have e : preludeOf exLets = Bytes.ofString "let a = 1;\n\nlet b = a + 1;\n" := by decide
  rwa [e] at this

def subLets : List Bytes := [Bytes.ofString "let a = -1"]
def subQ : Bytes := Bytes.ofString "T | where a > 0"
def subLetTree : Stmt := .let_ ⟨0,3⟩ (some ⟨[97],⟨4,5⟩,false⟩) ⟨6,7⟩ (.unary ⟨8,9⟩ .minus (.lit ⟨9,10⟩ .number [49]))
def subQTree : Tabular :=
  .mk (some ⟨[84], ⟨0,1⟩, false⟩) (.cons (.where_ ⟨2,3⟩ ⟨4,9⟩ (.binary (.qident [⟨[97],⟨10,11⟩,false⟩]) ⟨12,13⟩ .gt (.lit ⟨14,15⟩ .number [48]))) .nil)

set_option maxRecDepth 1000000 in
theorem subLets_parse : parse (Bytes.ofString "let a = -1") = ([subLetTree], []) := by
  rw [parse, scan_eq_scanFuel]; rfl
set_option maxRecDepth 1000000 in
theorem subQ_parse : parse subQ = ([.tabular subQTree], []) := by
  rw [parse, scan_eq_scanFuel]; rfl

theorem subLets_of : letsOf subLets = [subLetTree] := by
  simp [letsOf, subLets, subLets_parse]

set_option maxRecDepth 1000000 in
theorem subLets_accepted : ∀ l ∈ subLets, AcceptedLet l := by
  intro l hl
  simp only [subLets, List.mem_singleton] at hl
  subst hl
  refine ⟨?_, ?_, ?_⟩
  · rw [semiClosed_iff, C16_semiEnds_iff, scan_eq_scanFuel]; decide
  · rw [subLets_parse]
  · rw [subLets_parse]; intro st hst; simp only [List.mem_singleton] at hst; subst hst; rfl

/-- non-vacuity of `C16_prelude_is_substitution`: `let a = -1;\n` ++ `T | where a > 0` -/
theorem subst_example :
    ∃ t', resolveLets (letsOf subLets ++ [.tabular subQTree]) [] = some t' ∧
      compile [] (preludeOf subLets ++ subQ) = renderResult (compileChunks subQ [] (letsOf subLets ++ [.tabular subQTree])) ∧
      ExRel EqUpToParens (compileChunks subQ [] (letsOf subLets ++ [.tabular subQTree]))
        (compileChunks subQ [] [.tabular t']) := by
  have h := C16_prelude_is_substitution subLets subLets_accepted subQ subQTree subQ_parse ?_ ?_ ?_
    [([97], [.txt "(", .txt "-", .num [49], .txt ")"])] none ?_
  · obtain ⟨h1, t', h2, h3⟩ := h
    exact ⟨t', h2, h1, h3⟩
  · rw [subLets_of]
    intro st hst kw n a' x hx _
    simp only [List.mem_singleton] at hst
    rw [hst] at hx
    cases hx
    refine ⟨by decide, by decide, ?_, ?_⟩ <;> rfl
  · rw [subLets_of]; rfl
  · exact ⟨trivial, trivial⟩
  · rw [subLets_of]; rfl

/-- `let x = 1 // c` — parses alone into one `let` without error, but the ";\n" the tool would
    append lands in the comment -/
def cexComment : Bytes := Bytes.ofString "let x = 1 // c"

set_option maxRecDepth 1000000 in
/-- **`SemiEnds` is needed** (in `C16_prelude_parse` and `C16_prelude_is_scope`): the let text parses alone, error-free, into one `let`,
    but behind it the query `T` is glued to the let (`let x = 1 T`): the whole fails, while `T`
    with the let in scope compiles.  (Such a text is never a ';'-terminated piece.) -/
theorem C16_needs_semiEnds :
    (parse cexComment).2 = [] ∧ (parse cexComment).1.length = 1 ∧ ¬ SemiEnds cexComment ∧
    (parse (preludeOf [cexComment] ++ [84])).2 ≠ [] ∧
    compile [] (preludeOf [cexComment] ++ [84]) = .error ∧
    compileWithLets (letsOf [cexComment]) [84] = .ok (Bytes.ofString "SELECT * FROM \"T\";") := by
  refine ⟨?_, ?_, ?_, ?_, ?_, ?_⟩
  · rw [parse, scan_eq_scanFuel]; decide
  · rw [parse, scan_eq_scanFuel]; decide
  · rw [C16_semiEnds_iff, scan_eq_scanFuel]; decide
  · rw [parse, scan_eq_scanFuel]; decide
  · decide +kernel
  · decide +kernel

set_option maxRecDepth 1000000 in
/-- … and in `C16_let_test_sound`: the probe `let x = 1 // c;X` has no query at all and is REJECTED, although the
    library accepts the let -/
theorem C16_probe_needs_semiEnds :
    (compileCli (preludeOf [] ++ cexComment ++ Bytes.ofString ";X")).isSome = false ∧
    letAccepts (letsOf []) cexComment = true := by
  decide +kernel

set_option maxRecDepth 1000000 in
/-- **"parses without error" is needed** in `AcceptedLet`: `let x = 1 )` yields a (complete) `let`
    statement and an error; behind it everything fails, with the statement in scope `T` compiles -/
theorem C16_needs_errorFree :
    compile [] (preludeOf [Bytes.ofString "let x = 1 )"] ++ [84]) = .error ∧
    compileWithLets (letsOf [Bytes.ofString "let x = 1 )"]) [84] =
      .ok (Bytes.ofString "SELECT * FROM \"T\";") := by
  decide +kernel

set_option maxRecDepth 1000000 in
/-- **"`let` statements only" is needed** in `AcceptedLet`: with the query `T | extend a+b` as
    "prelude" and nothing behind it, the text compiles (the column name is cut from the text), but
    the unshifted tree compiled against the empty text `s` cannot be sliced (Go would panic) -/
theorem C16_needs_allLets :
    compile [] (preludeOf [Bytes.ofString "T | extend a+b"] ++ []) =
      .ok (Bytes.ofString "SELECT *, \"a\" + \"b\" AS \"a+b\" FROM \"T\";") ∧
    compileWithLets (letsOf [Bytes.ofString "T | extend a+b"]) [] = .panic := by
  decide +kernel

set_option maxRecDepth 1000000 in
/-- **`isLetStatement` is needed** in `C16_let_test_sound`: for the query `T` the probe `T;X` is a
    batch of two queries (rejected) while the statement loop gets through `[T]` -/
theorem C16_probe_needs_let :
    (compileCli (preludeOf [] ++ [84] ++ Bytes.ofString ";X")).isSome = false ∧
    letAccepts (letsOf []) [84] = true := by
  decide +kernel

/-- **`goodE` is needed** in `C16_slice_shift`: a tree (not one the parser builds without error)
    with the never-assigned `Rbrack` 0:0 of a broken index expression: its span starts at 0
    whatever the shift, and the slices differ -/
theorem C16_slice_needs_good :
    let x : Expr := .index (.qident [⟨[97], ⟨0, 1⟩, false⟩]) ⟨1, 2⟩ (.lit ⟨2, 3⟩ .number [49]) .zero
    sliceSource ([32, 32] ++ [97, 91, 49]) (shExpr 2 x).spanOf = .ok [32, 32, 97, 91, 49] ∧
      sliceSource [97, 91, 49] x.spanOf = .ok [97, 91, 49] := by
  exact ⟨rfl, rfl⟩

end Pql.CliSem
