/-
C05 support: the model's `splitQueries` (sources = already written SQL chunks) refines the
intended structured splitting `Intended.splitA` (sources = `SrcA`): success of the model gives success of
`splitA` with pointwise related links; the converse needs every join condition to be writable; failure is
characterised.  Who reads whom and the names by index are proved of `splitA` directly, without a writability
hypothesis.
-/
import PqlModel.Lemmas.SplitASim
import PqlModel.Lemmas.SplitAReads
import PqlModel.Lemmas.SplitABlock
namespace Pql.C05
open Pql SplitQ Intended

abbrev ListRel (src : Bytes) (scope : List (Bytes × List Chunk)) : List SubA → List Subquery → Prop :=
  Forall₂ (SubRel src scope)

/-- the model's result `r`, the structured result `rA`, and whether all join conditions are
    writable: success of the model = success of both; results related -/
def Sim (src : Bytes) (scope : List (Bytes × List Chunk)) (r : Except WErr (List Subquery))
    (rA : Option (List SubA)) (w : Bool) : Prop :=
  match r with
  | .ok out => w = true ∧ ∃ outA, rA = some outA ∧ ListRel src scope outA out
  | .error _ => rA = none ∨ w = false

theorem sim_tab (src : Bytes) (scope : List (Bytes × List Chunk)) :
    ∀ (t : Tabular) (dstA : List SubA) (dst : List Subquery), ListRel src scope dstA dst →
      Sim src scope (splitQueries src scope dst t) (splitA dstA t) (tabWritable src scope t) :=
  splitQueries_sim src scope
theorem sim_ops (src : Bytes) (scope : List (Bytes × List Chunk)) :
    ∀ (ops : OpList) (source : Option Ident) (k : Nat) (dstA : List SubA) (dst : List Subquery),
      ListRel src scope dstA dst →
      Sim src scope (splitOps src scope source k dst ops) (splitOpsA source k dstA ops)
        (opsWritable src scope ops) :=
  splitOps_sim src scope

/-- **The model refines the structured splitting.**  Started on related lists, a successful
    `splitQueries` is matched by a successful `splitA` with related results. -/
theorem C05_split_refines_rel (src : Bytes) (scope : List (Bytes × List Chunk)) (t : Tabular)
    (dstA : List SubA) (dst out : List Subquery)
    (hrel : Forall₂ (SubRel src scope) dstA dst)
    (h : splitQueries src scope dst t = .ok out) :
    ∃ outA, splitA dstA t = some outA ∧ Forall₂ (SubRel src scope) outA out := by
  have := sim_tab src scope t dstA dst hrel
  rw [h] at this
  exact this.2

/-- a successful `splitQueries` has written every join condition of the pipeline -/
theorem C05_split_ok_writable (src : Bytes) (scope : List (Bytes × List Chunk)) (t : Tabular)
    (dst out : List Subquery) (dstA : List SubA) (hrel : Forall₂ (SubRel src scope) dstA dst)
    (h : splitQueries src scope dst t = .ok out) : tabWritable src scope t = true := by
  have := sim_tab src scope t dstA dst hrel
  rw [h] at this
  exact this.1

/-- **Converse, for success.**  If `splitA` succeeds and every join condition in `t` (right-hand
    pipelines included) is writable in join mode, `splitQueries` succeeds, with related results. -/
theorem C05_split_refines_conv (src : Bytes) (scope : List (Bytes × List Chunk)) (t : Tabular)
    (dstA outA : List SubA) (dst : List Subquery)
    (hrel : Forall₂ (SubRel src scope) dstA dst)
    (h : splitA dstA t = some outA) (hw : tabWritable src scope t = true) :
    ∃ out, splitQueries src scope dst t = .ok out ∧ Forall₂ (SubRel src scope) outA out := by
  have := sim_tab src scope t dstA dst hrel
  cases hq : splitQueries src scope dst t with
  | error e =>
    rw [hq] at this
    rcases this with h' | h'
    · rw [h] at h'; cases h'
    · rw [hw] at h'; cases h'
  | ok out =>
    rw [hq] at this
    obtain ⟨_, outA', hA, hr⟩ := this
    rw [h] at hA; cases hA
    exact ⟨out, rfl, hr⟩

/-- **Failure characterisation.**  `splitQueries` fails iff `splitA` gives `none` (a `top`
    without column, an unknown join kind, a missing pipeline) or some join condition is not
    writable. -/
theorem C05_split_fails_iff (src : Bytes) (scope : List (Bytes × List Chunk)) (t : Tabular)
    (dstA : List SubA) (dst : List Subquery) (hrel : Forall₂ (SubRel src scope) dstA dst) :
    (∃ e, splitQueries src scope dst t = .error e) ↔
      (splitA dstA t = none ∨ tabWritable src scope t = false) := by
  have := sim_tab src scope t dstA dst hrel
  constructor
  · rintro ⟨e, he⟩
    rw [he] at this
    exact this
  · intro hf
    cases hq : splitQueries src scope dst t with
    | error e => exact ⟨e, rfl⟩
    | ok out =>
      rw [hq] at this
      obtain ⟨hw, outA, hA, _⟩ := this
      rcases hf with hf | hf
      · rw [hf] at hA; cases hA
      · rw [hf] at hw; cases hw

/-- the same, from the empty list (the whole statement) -/
theorem C05_split_fails_iff_top (src : Bytes) (scope : List (Bytes × List Chunk)) (t : Tabular) :
    (∃ e, splitQueries src scope [] t = .error e) ↔
      (splitA [] t = none ∨ tabWritable src scope t = false) :=
  C05_split_fails_iff src scope t [] [] .nil

/-! non-vacuity: `T | join kind=leftouter (U | count) on k | take 1` -/

def exJoin : Tabular :=
  .mk (some ⟨[84], .zero, false⟩)
    (.cons (.join .zero .zero .zero .zero (some ⟨Bytes.ofString "leftouter", .zero, false⟩) .zero
        (.mk (some ⟨[85], .zero, false⟩) (.cons (.count .zero .zero) .nil)) .zero .zero
        (.cons (.qident [⟨[107], .zero, false⟩]) .nil))
      (.cons (.take .zero .zero (.lit .zero .number [49])) .nil))

/-- the same with an unwritable join condition: `on not()` (wrong arity) -/
def exJoinBad : Tabular :=
  .mk (some ⟨[84], .zero, false⟩)
    (.cons (.join .zero .zero .zero .zero none .zero
        (.mk (some ⟨[85], .zero, false⟩) .nil) .zero .zero
        (.cons (.call ⟨Bytes.ofString "not", .zero, false⟩ .zero .nil .zero) .nil)) .nil)

theorem exists_of_isOk {ε α : Type} {x : Except ε α} (h : isOk x = true) : ∃ a, x = .ok a := by
  cases x with
  | error e => cases h
  | ok a => exact ⟨a, rfl⟩

theorem exists_of_isSome {α : Type} {x : Option α} (h : x.isSome = true) : ∃ a, x = some a :=
  Option.isSome_iff_exists.mp h

example : isOk (splitQueries [] [] [] exJoin) = true := by decide +kernel
example : (match splitQueries [] [] [] exJoin with | .ok out => out.length == 2 | .error _ => false) = true := by
  decide +kernel
example : (splitA [] exJoin).isSome = true ∧ tabWritable [] [] exJoin = true := by decide +kernel
example : ∃ out outA, splitQueries [] [] [] exJoin = .ok out ∧ splitA [] exJoin = some outA ∧
    Forall₂ (SubRel [] []) outA out := by
  obtain ⟨out, h⟩ := exists_of_isOk (x := splitQueries [] [] [] exJoin) (by decide +kernel)
  obtain ⟨outA, hA, hr⟩ := C05_split_refines_rel [] [] exJoin [] [] out .nil h
  exact ⟨out, outA, h, hA, hr⟩
/-- non-vacuity of the converse and of the failure characterisation -/
example : ∃ out outA, splitA [] exJoin = some outA ∧ splitQueries [] [] [] exJoin = .ok out ∧
    Forall₂ (SubRel [] []) outA out := by
  obtain ⟨outA, hA⟩ := exists_of_isSome (x := splitA [] exJoin) (by decide +kernel)
  obtain ⟨out, h, hr⟩ := C05_split_refines_conv [] [] exJoin [] outA [] .nil hA (by decide +kernel)
  exact ⟨out, outA, hA, h, hr⟩
example : ∃ e, splitQueries [] [] [] exJoinBad = .error e :=
  (C05_split_fails_iff_top [] [] exJoinBad).mpr (.inr (by decide +kernel))
/-- the writability hypothesis of the converse is needed: `splitA` succeeds, the model fails -/
theorem C05_conv_needs_writable :
    (splitA [] exJoinBad).isSome = true ∧ tabWritable [] [] exJoinBad = false ∧
      isOk (splitQueries [] [] [] exJoinBad) = false := by decide +kernel

theorem ListRel.names {src : Bytes} {scope : List (Bytes × List Chunk)} {outA : List SubA}
    {out : List Subquery} (h : Forall₂ (SubRel src scope) outA out) :
    outA.map (·.name) = out.map (·.name) := h.map_eq fun _ _ hab => hab.name

theorem C05_split_names (src : Bytes) (scope : List (Bytes × List Chunk)) (t : Tabular)
    (dstA : List SubA) (dst out : List Subquery) (hrel : Forall₂ (SubRel src scope) dstA dst)
    (h : splitQueries src scope dst t = .ok out) :
    ∃ outA, splitA dstA t = some outA ∧ outA.map (·.name) = out.map (·.name) := by
  obtain ⟨outA, hA, hr⟩ := C05_split_refines_rel src scope t dstA dst out hrel h
  exact ⟨outA, hA, ListRel.names hr⟩

theorem C05_split_length (src : Bytes) (scope : List (Bytes × List Chunk)) (t : Tabular)
    (dstA : List SubA) (dst out : List Subquery) (hrel : Forall₂ (SubRel src scope) dstA dst)
    (h : splitQueries src scope dst t = .ok out) :
    ∃ outA, splitA dstA t = some outA ∧ outA.length = out.length ∧
      ∀ (i : Nat) (h₁ : i < outA.length) (h₂ : i < out.length),
        outA[i].name = out[i].name ∧ outA[i].op = out[i].op ∧ outA[i].sort = out[i].sort ∧
          outA[i].take = out[i].take ∧ SrcRel src scope outA[i].source out[i].source := by
  obtain ⟨outA, hA, hr⟩ := C05_split_refines_rel src scope t dstA dst out hrel h
  refine ⟨outA, hA, hr.length_eq, fun i h₁ h₂ => ?_⟩
  have := hr.getElem i h₁ h₂
  exact ⟨this.name, this.op, this.sort, this.take, this.source⟩

example : ∃ out outA, splitQueries [] [] [] exJoin = .ok out ∧ splitA [] exJoin = some outA ∧
    outA.map (·.name) = out.map (·.name) ∧ outA.length = out.length := by
  obtain ⟨out, h⟩ := exists_of_isOk (x := splitQueries [] [] [] exJoin) (by decide +kernel)
  obtain ⟨outA, hA, hlen, _⟩ := C05_split_length [] [] exJoin [] [] out .nil h
  obtain ⟨outA', hA', hn⟩ := C05_split_names [] [] exJoin [] [] out .nil h
  rw [hA] at hA'; cases hA'
  exact ⟨out, outA, h, hA, hn, hlen⟩

/-- **A link reads only earlier links or source tables** (any nesting of joins): every name in the
    source of the link at index `i` of `splitA [] t` — the table of a plain link, the left and
    the right side of a join link — is the name of a link at a smaller index, or the name of a
    source table of `t` (`tablesOf`: the sources of `t` and of all right-hand pipelines). -/
theorem C05_reads_earlier (t : Tabular) (outA : List SubA) (h : splitA [] t = some outA) :
    ∀ (i : Nat) (hi : i < outA.length), ∀ n ∈ srcNames outA[i].source,
      (∃ (j : Nat) (hj : j < i), (outA[j]'(Nat.lt_trans hj hi)).name = n) ∨ n ∈ tablesOf t := by
  intro i hi n hn
  have inv := (inv_tab t (tablesOf t) [] outA h (InvA.nil _) (fun _ hm => hm)).1
  rcases inv.reads i hi n hn with hm | hm
  · left
    obtain ⟨s, hs, rfl⟩ := List.mem_map.mp hm
    obtain ⟨j, hj, hjs⟩ := List.getElem_of_mem hs
    have hji : j < i := by simp at hj; omega
    refine ⟨j, hji, ?_⟩
    rw [List.getElem_take] at hjs
    rw [hjs]
  · right; exact hm

/-- with `CompileOracle.tabularTables`, for pipelines all of whose (sub)pipelines have a source
    table — what the PQL parser produces for every pipeline it accepts -/
theorem C05_reads_earlier_partial (t : Tabular) (outA : List SubA) (h : splitA [] t = some outA)
    (hs : hasSources t = true) :
    ∀ (i : Nat) (hi : i < outA.length), ∀ n ∈ srcNames outA[i].source,
      (∃ (j : Nat) (hj : j < i), (outA[j]'(Nat.lt_trans hj hi)).name = n) ∨
        n ∈ CompileOracle.tabularTables t := by
  rw [← tablesOf_eq_tabularTables t hs]
  exact C05_reads_earlier t outA h

/-- the side condition is needed: the pipeline without source table (`Tabular.mk none .nil`)
    reads the table named `""`, which `tabularTables` does not list -/
theorem C05_reads_earlier_counterexample :
    ∃ outA, splitA [] (.mk none .nil) = some outA ∧ ∃ (hi : 0 < outA.length),
      ∃ n ∈ srcNames outA[0].source,
        ¬ ((∃ (j : Nat) (hj : j < 0), (outA[j]'(Nat.lt_trans hj hi)).name = n) ∨
            n ∈ CompileOracle.tabularTables (.mk none .nil)) := by
  refine ⟨[{ name := subqueryName 0, source := .table [] }], by rfl, by decide, [], by decide, ?_⟩
  rintro (⟨j, hj, _⟩ | hm)
  · omega
  · revert hm; decide

example : hasSources exJoin = true ∧ (splitA [] exJoin).isSome = true := by decide +kernel
example : ∃ outA, splitA [] exJoin = some outA ∧
    ∀ (i : Nat) (hi : i < outA.length), ∀ n ∈ srcNames outA[i].source,
      (∃ (j : Nat) (hj : j < i), (outA[j]'(Nat.lt_trans hj hi)).name = n) ∨
        n ∈ CompileOracle.tabularTables exJoin := by
  obtain ⟨outA, hA⟩ := exists_of_isSome (x := splitA [] exJoin) (by decide +kernel)
  exact ⟨outA, hA, C05_reads_earlier_partial exJoin outA hA (by decide +kernel)⟩
example : ((splitA [] exJoin).map fun outA => outA.map fun s => srcNames s.source) =
    some [[[85]], [[84], subqueryName 0]] := by decide +kernel

/-- the same for the model's subqueries, through the refinement: a plain subquery's source is one
    quoted name, a join subquery's source is the `joinSourceOf` text of two names; all of them
    names of earlier subqueries or source tables -/
theorem C05_reads_earlier_model (src : Bytes) (scope : List (Bytes × List Chunk)) (t : Tabular)
    (out : List Subquery) (h : splitQueries src scope [] t = .ok out) :
    ∀ (i : Nat) (hi : i < out.length),
      let earlier (n : Bytes) : Prop :=
        (∃ (j : Nat) (hj : j < i), (out[j]'(Nat.lt_trans hj hi)).name = n) ∨ n ∈ tablesOf t
      (∃ n, out[i].source = [.qid n] ∧ earlier n) ∨
      (∃ u kw l r c, out[i].source = joinSourceOf u kw [.qid l] r c ∧ earlier l ∧ earlier r) := by
  intro i hi earlier
  obtain ⟨outA, hA, hr⟩ := C05_split_refines_rel src scope t [] [] out .nil h
  have hiA : i < outA.length := by rw [hr.length_eq]; exact hi
  have key := C05_reads_earlier t outA hA i hiA
  have hearlier : ∀ n, ((∃ (j : Nat) (hj : j < i), (outA[j]'(Nat.lt_trans hj hiA)).name = n) ∨ n ∈ tablesOf t) →
      earlier n := by
    rintro n (⟨j, hj, hn⟩ | hn)
    · left; refine ⟨j, hj, ?_⟩
      rw [← (hr.getElem j (Nat.lt_trans hj hiA) (Nat.lt_trans hj hi)).name]; exact hn
    · right; exact hn
  have hs := (hr.getElem i hiA hi).source
  cases hsrc : outA[i].source with
  | table n =>
    rw [hsrc] at hs key
    left; exact ⟨n, hs, hearlier n (key n (by simp [srcNames]))⟩
  | join u l ln rn cond =>
    rw [hsrc] at hs key
    obtain ⟨c, _, hc⟩ := hs
    right
    exact ⟨u, joinKwOf l, ln, rn, c, hc, hearlier ln (key ln (by simp [srcNames])),
      hearlier rn (key rn (by simp [srcNames]))⟩

/-- **Who reads whom, exactly** (counterpart of `C05_block_structure` for `splitA`, any nesting,
    no writability hypothesis).  The result of `splitA` on `source | ops` is a block (`BlockA`):
    every non-join link reads the previous link of ITS pipeline's block (the first one the source
    table of its pipeline); a join link is preceded by the complete block of its right-hand
    pipeline, its left side is the link in front of that block (or the source table when there is
    none) and its right side is the last link of that block. -/
theorem C05_splitA_block_structure (t : Tabular) (outA : List SubA) (h : splitA [] t = some outA) :
    ∃ source ops, t = .mk source ops ∧ BlockA source outA ∧ outA ≠ [] := by
  obtain ⟨source, ops, rblk, r, ht, hout, hb, hlast⟩ := blk_tab t [] outA h
  simp only [List.nil_append] at hout
  subst hout
  refine ⟨source, ops, ht, hb, ?_⟩
  intro hnil; rw [hnil] at hlast; cases hlast

example : ∃ outA source ops, splitA [] exJoin = some outA ∧ exJoin = .mk source ops ∧ BlockA source outA := by
  obtain ⟨outA, hA⟩ := exists_of_isSome (x := splitA [] exJoin) (by decide +kernel)
  obtain ⟨source, ops, ht, hb, _⟩ := C05_splitA_block_structure exJoin outA hA
  exact ⟨outA, source, ops, hA, ht, hb⟩

/-- **Names by index** (the counterpart of `C05_names_by_index`, for `splitA`, without any
    writability hypothesis): the link at index `i` is named `__subquery{i}` unless it is an
    `as` link, which carries the user's name. -/
theorem C05_splitA_names_by_index (t : Tabular) (outA : List SubA) (h : splitA [] t = some outA) :
    ∀ (i : Nat) (hi : i < outA.length),
      outA[i].name = subqueryName i ∨
        ∃ p k n, outA[i].op = some (.as_ p k n) ∧ outA[i].name = identName n :=
  (inv_tab t (tablesOf t) [] outA h (InvA.nil _) (fun _ hm => hm)).1.names

/-- **Generated names are pairwise distinct** (counterpart of `C05_generated_names_distinct`). -/
theorem C05_splitA_generated_names_distinct (t : Tabular) (outA : List SubA) (h : splitA [] t = some outA)
    (i j : Nat) (hi : i < outA.length) (hj : j < outA.length)
    (hni : ∀ p k n, outA[i].op ≠ some (.as_ p k n)) (hnj : ∀ p k n, outA[j].op ≠ some (.as_ p k n))
    (hname : outA[i].name = outA[j].name) : i = j := by
  have hn := C05_splitA_names_by_index t outA h
  rcases hn i hi with h1 | ⟨p, k, n, ho, _⟩
  · rcases hn j hj with h2 | ⟨p, k, n, ho, _⟩
    · exact C05_subqueryName_injective i j (h1.symm.trans (hname.trans h2))
    · exact absurd ho (hnj p k n)
  · exact absurd ho (hni p k n)

theorem opsWritable_of_joinFree (src : Bytes) (scope : List (Bytes × List Chunk)) :
    ∀ (ops : OpList), joinFree ops = true → opsWritable src scope ops = true
  | .nil, _ => by unfold opsWritable; rfl
  | .cons o os, h => by
    cases o with
    | join p kw kind ka flavor lp right rp on conds => unfold joinFree at h; cases h
    | _ =>
      unfold joinFree at h
      unfold opsWritable
      exact opsWritable_of_joinFree src scope os h

/-- **Join-free pipelines, index by index** (`C05_chain_reads_previous` transported to `splitA`
    through the converse refinement — a join-free pipeline has nothing unwritable): the first
    link reads the base table, the link at index `i + 1` reads exactly the link at index `i`. -/
theorem C05_splitA_chain_reads_previous (source : Option Ident) (ops : OpList) (outA : List SubA)
    (hjf : joinFree ops = true) (h : splitA [] (.mk source ops) = some outA) :
    (∀ h0 : 0 < outA.length, outA[0].source = .table (identName source)) ∧
    (∀ (i : Nat) (hi : i + 1 < outA.length), outA[i + 1].source = .table outA[i].name) := by
  have hw : tabWritable [] [] (.mk source ops) = true := by
    unfold tabWritable; exact opsWritable_of_joinFree [] [] ops hjf
  obtain ⟨out, hq, hr⟩ := C05_split_refines_conv [] [] (.mk source ops) [] outA [] .nil h hw
  obtain ⟨h0, hstep⟩ := C05_chain_reads_previous [] [] source ops out hjf hq
  have hlen := hr.length_eq
  constructor
  · intro hA0
    have hs := (hr.getElem 0 hA0 (hlen ▸ hA0)).source
    rw [h0 (hlen ▸ hA0)] at hs
    exact hs.of_qid
  · intro i hi
    have hs := (hr.getElem (i + 1) hi (hlen ▸ hi)).source
    rw [hstep i (hlen ▸ hi)] at hs
    rw [hs.of_qid, (hr.getElem i (Nat.lt_of_succ_lt hi) (hlen ▸ Nat.lt_of_succ_lt hi)).name]

/-- non-vacuity: `T | count | take 1 | where x` -/
def exChain : Tabular :=
  .mk (some ⟨[84], .zero, false⟩)
    (.cons (.count .zero .zero) (.cons (.take .zero .zero (.lit .zero .number [49]))
      (.cons (.where_ .zero .zero (.qident [⟨[120], .zero, false⟩])) .nil)))

example : (splitA [] exChain).map (·.length) = some 2 := by decide +kernel
example : ∃ outA, splitA [] exChain = some outA ∧
    (∀ h0 : 0 < outA.length, outA[0].source = .table [84]) ∧
    (∀ (i : Nat) (hi : i + 1 < outA.length), outA[i + 1].source = .table outA[i].name) := by
  obtain ⟨outA, h⟩ := exists_of_isSome (x := splitA [] exChain) (by decide +kernel)
  exact ⟨outA, h, C05_splitA_chain_reads_previous _ _ outA (by decide +kernel) h⟩

end Pql.C05
