/-
Property C07, tie by translation: `(*parser).projectOperator` (with the column loop `pProjectCols`) is the
interpretation of its regenerated body (`C07_projectOperator_ir`).  This is the one function of the level
that writes through a pointer after having stored it (`op.Cols = append(op.Cols, col)` … `col.Assign = …`,
`col.X, err = p.expr()`): the columns live in the interpreter's heap and the operator holds references.
-/
import PqlModel.Props.C07OperatorIRExtend
namespace Pql.OpIR
open Pql
set_option linter.unusedSimpArgs false

def colRec (x : Column) : Rec := ⟨"ProjectColumn", [("Name", .ident x.name), ("Assign", .span x.assign), ("X", .expr x.x)]⟩
def colRecs (acc : List Column) : List Rec := acc.map colRec

def refsUpTo : Nat → List Val
  | 0 => []
  | n + 1 => refsUpTo n ++ [.ref (n + 1)]

theorem colRecs_length (acc : List Column) : (colRecs acc).length = acc.length := by simp [colRecs]

theorem colRecs_snoc (acc : List Column) (n : Option Ident) (s : Span) (e : Expr) :
    colRecs acc ++ [⟨"ProjectColumn", [("Name", .ident n), ("Assign", .span s), ("X", .expr e)]⟩] = colRecs (acc ++ [⟨n, s, e⟩]) := by
  simp [colRecs, colRec]

theorem colRecs_get (acc : List Column) (x : Column) (n : Nat) (h : n = acc.length) :
    (colRecs (acc ++ [x]))[n]? = some ⟨"ProjectColumn", [("Name", .ident x.name), ("Assign", .span x.assign), ("X", .expr x.x)]⟩ := by
  subst h; simp [colRecs, colRec]

theorem colRecs_getElem (acc : List Column) (x : Column) (h : acc.length < (colRecs (acc ++ [x])).length) :
    (colRecs (acc ++ [x]))[acc.length]'h =
      ⟨"ProjectColumn", [("Name", .ident x.name), ("Assign", .span x.assign), ("X", .expr x.x)]⟩ := by
  simp [colRecs, colRec]

theorem colRecs_set (acc : List Column) (x : Column) (k : Nat) (h : k = acc.length) (n : Option Ident) (s : Span) (e : Expr) :
    (colRecs (acc ++ [x])).set k ⟨"ProjectColumn", [("Name", .ident n), ("Assign", .span s), ("X", .expr e)]⟩ =
      colRecs (acc ++ [⟨n, s, e⟩]) := by
  subst h; simp [colRecs, colRec]

theorem snoc_get (l : List Rec) (r : Rec) (n : Nat) (h : n = l.length) : (l ++ [r])[n]? = some r := by
  subst h; simp

theorem snoc_set (l : List Rec) (r r' : Rec) (n : Nat) (h : n = l.length) : (l ++ [r]).set n r' = l ++ [r'] := by
  subst h; simp

theorem toColumns_append (h : List Rec) : ∀ (a b : List Val) (x y : List Column),
    toColumns h a = some x → toColumns h b = some y → toColumns h (a ++ b) = some (x ++ y)
  | [], b, x, y, ha, hb => by
    simp [toColumns] at ha
    subst ha
    simpa using hb
  | v :: a, b, x, y, ha, hb => by
    simp only [toColumns] at ha
    cases hv : toColumn h v with
    | none => simp [hv] at ha
    | some cv =>
      cases hr : toColumns h a with
      | none => simp [hv, hr] at ha
      | some cr =>
        simp [hv, hr] at ha
        subst ha
        simp [toColumns, hv, toColumns_append h a b cr y hr hb]

theorem toColumn_ref (o : Rec) (acc : List Column) (i : Nat) (x : Column) (hx : acc[i]? = some x) :
    toColumn (o :: colRecs acc) (.ref (i + 1)) = some x := by
  have : (colRecs acc)[i]? = some (colRec x) := by simp [colRecs, hx]
  simp [toColumn, this, colRec, toIdent, toExpr]

theorem toColumns_refs (o : Rec) (acc : List Column) : ∀ k, k ≤ acc.length →
    toColumns (o :: colRecs acc) (refsUpTo k) = some (acc.take k)
  | 0, _ => by simp [refsUpTo, toColumns]
  | k + 1, hk => by
    have ih := toColumns_refs o acc k (by omega)
    have hx : acc[k]? = some acc[k] := List.getElem?_eq_getElem (by omega)
    have h1 : toColumns (o :: colRecs acc) [.ref (k + 1)] = some [acc[k]] := by
      simp only [toColumns, toColumn_ref o acc k acc[k] hx]
    rw [refsUpTo, toColumns_append _ _ _ _ _ ih h1, List.take_add_one, hx]
    rfl

theorem toColumns_all (o : Rec) (acc : List Column) : toColumns (o :: colRecs acc) (refsUpTo acc.length) = some acc := by
  simpa using toColumns_refs o acc acc.length (Nat.le_refl _)

theorem toColumns_all' (o : Rec) (acc : List Column) (x : Column) :
    toColumns (o :: colRecs (acc ++ [x])) (refsUpTo (acc.length + 1)) = some (acc ++ [x]) := by
  simpa using toColumns_all o (acc ++ [x])

/-- the state in the column loop: the operator at address 0, the columns at 1 … m -/
def projectSt (pipe kws : Span) (kw pt : Token) (acc : List Column) (m : Nat) (ts : List Token) (u : Option (List Token)) : St :=
  ⟨[("op", .ref 0), ("keyword", .tok kw), ("pipe", .tok pt), ("p", .parser ts u)],
   ⟨"ProjectOperator", [("Pipe", .span pipe), ("Keyword", .span kws), ("Cols", .list (refsUpTo m))]⟩ :: colRecs acc⟩

theorem refsUpTo_snoc (n : Nat) : refsUpTo n ++ [.ref (n + 1)] = refsUpTo (n + 1) := rfl

theorem project_loop (c : PCtx) (fuel : Nat) (pipe kws : Span) (kw pt : Token) :
    ∀ (n : Nat) (acc : List Column) (m : Nat) (ts : List Token) (u : Option (List Token)), m = acc.length →
      result toOp "op" none
          (runLoop false (execBlock (envAt c) (loopAt projectOperatorBody 1)) n fuel (projectSt pipe kws kw pt acc m ts u)) =
        .ok ⟨.project pipe kws (pProjectCols c fuel n acc ts).val, (pProjectCols c fuel n acc ts).errs,
          (pProjectCols c fuel n acc ts).rest⟩
  | 0, acc, m, ts, u, hm => by
    subst hm
    simp [runLoop, result_fuel, projectSt, pProjectCols, St.parser, St.get, toOp, recToOp, listOf, toColumns_all, optM,
      bind, Except.bind, pure, Except.pure]
  | n + 1, acc, m, ts, u, hm => by
    subst hm
    have ih := project_loop c fuel pipe kws kw pt n
    generalize hb : execBlock (envAt c) (loopAt projectOperatorBody 1) = body at ih ⊢
    rw [runLoop_succ (result toOp "op" none) fun _ => rfl, congrFun (congrFun hb.symm fuel)]
    simp only [loopAt, projectOperatorBody, List.getElem?_cons_succ, List.getElem?_cons_zero, projectSt] at ih ⊢
    unfold pProjectCols
    ir_simp [colRecs_length, colRecs_get, colRecs_getElem, colRecs_set, colRecs_snoc, refsUpTo_snoc, toColumns_all,
      toColumns_all']
    have hi := pIdent_spec c ts
    generalize pIdent c ts = ri at hi ⊢
    obtain ⟨val, errs, rest⟩ := ri
    rcases hi with ⟨hv, he⟩ | ⟨i, hv, he⟩ <;> simp only at hv he <;> subst hv
    · simp [he]
    subst he
    rcases rest with _ | ⟨sep, rest⟩
    · simp [toColumns_all, toColumns_all', colRecs_snoc]
    by_cases hc : sep.kind = .comma
    · simp [hc, ih, colRecs_snoc, refsUpTo_snoc]
    by_cases ha : sep.kind = .assign <;> simp [hc, ha, toColumns_all, toColumns_all', colRecs_snoc, Token.span]
    by_cases he : (pExpr c fuel rest).errs = [] <;> simp [he]
    obtain ⟨r2, hr⟩ : ∃ r2, (pExpr c fuel rest).rest = r2 := ⟨_, rfl⟩
    rcases r2 with _ | ⟨sep2, rest2⟩ <;> simp [hr]
    by_cases hc2 : sep2.kind = .comma <;> simp [hc2, ih, errNoPos]

theorem projectOperator_run (c : PCtx) (fuel : Nat) (pipe kw : Token) (ts : List Token) :
    runOp c projectOperatorBody fuel pipe kw ts =
      .ok ⟨.project pipe.span kw.span (pProjectCols c fuel (ts.length + 1) [] ts).val,
        (pProjectCols c fuel (ts.length + 1) [] ts).errs, (pProjectCols c fuel (ts.length + 1) [] ts).rest⟩ := by
  ir_simp [projectOperatorBody]
  exact project_loop c fuel pipe.span kw.span kw pipe (ts.length + 1) [] 0 ts none rfl

theorem C07_projectOperator_ir (c : PCtx) (fuel : Nat) (pipe kw : Token) (ts : List Token) :
    (runOp c (bodyOf "projectOperator") fuel pipe kw ts).map some =
      .ok (pOperator c (fuel + 1) pipe.span (kwTok "project" kw) ts) := by
  simp only [bodyOf, projectOperator_ir, Option.map_some, Option.getD_some, projectOperator_run,
    pOperator_project c fuel _ (kwTok "project" kw) ts rfl]
  rfl

end Pql.OpIR
