/-
Property C08 — the parser accepts only what its tree represents (and, with `pos = true`,
the token-position half of C10): if parsing succeeds without any error, every token is
accounted for by the returned trees, in order, with exact positions.

The statements carry the hypothesis `TokOK ts` (PqlModel/Lemmas/AccountedBasic.lean): every token
has `start ≤ stop`, tokens are in source order, and tokens of a kind without text (everything
but identifiers, quoted identifiers, numbers and strings) have the empty value.  `scan`
guarantees it (`scan_tokOK`), so `C08_accounted_parse` has no hypothesis beyond success.  Over
*arbitrary* token lists the statement is false (`C08_accounted_unrestricted_false`): the grammar's
`unparse` gives symbol tokens the empty value and decides by `Span.isValid` whether an optional
keyword is present, which only agrees with the parser on token lists a scanner can produce.

`Forall₂` is the usual pointwise relation on two lists (core Lean has no `List.Forall₂`; it is
defined in PqlModel/Lemmas/AccountedStmt.lean); `C08_accounted_parse_zip` restates the result as
"equal lengths and pointwise on `zip`".
-/
import PqlModel.Lemmas.AccountedStmt
import PqlModel.Lemmas.AccountedScan
namespace Pql.C08
open Pql

/-- **C08 (expressions).** If `pExpr` succeeds without any error, the tokens it consumed
    are accounted for — kinds, values, order and exact positions — by the `unparse` of its tree. -/
theorem C08_accounted_expr (c : PCtx) (fuel : Nat) (ts : List Token) (e : Expr) (rest : List Token)
    (hok : TokOK ts) (h : pExpr c fuel ts = ⟨e, [], rest⟩) :
    ∃ us consumed, Grammar.unparseExpr e = some us ∧ ts = consumed ++ rest ∧
      Grammar.accounts true us consumed = true :=
  pExpr_acc hok h

theorem C08_accounted_exprList (c : PCtx) (fuel : Nat) (ts : List Token) (l : ExprList) (rest : List Token)
    (hok : TokOK ts) (h : pExprList c fuel ts = ⟨l, [], rest⟩) :
    ∃ us consumed, Grammar.unparseExprList l = some us ∧ ts = consumed ++ rest ∧
      Grammar.accounts true us consumed = true :=
  (pExprList_acc hok h).2

theorem C08_accounted_sortTerm (c : PCtx) (fuel : Nat) (ts : List Token) (v : Option SortTerm)
    (rest : List Token) (hok : TokOK ts) (h : pSortTerm c fuel ts = ⟨v, [], rest⟩) :
    ∃ term us consumed, v = some term ∧ Grammar.unparseSortTerm term = some us ∧ ts = consumed ++ rest ∧
      Grammar.accounts true us consumed = true :=
  pSortTerm_acc hok h

/-- extend / summarize columns (`[name =] x`) -/
theorem C08_accounted_column (c : PCtx) (fuel : Nat) (ts : List Token) (col : Column) (rest : List Token)
    (hok : TokOK ts) (h : pNamedColumn c fuel ts = ⟨col, [], rest⟩) :
    ∃ us consumed, Grammar.unparseColumn false col = some us ∧ ts = consumed ++ rest ∧
      Grammar.accounts true us consumed = true :=
  pNamedColumn_acc hok h

/-- **C08 (operators).** An operator `| name …` parsed without any error: the pipe, the
    operator name and what the operator consumed of its range are accounted for by the operator
    node (all eleven operators, including the comma allowed before `by` in summarize). -/
theorem C08_accounted_operator (c : PCtx) (fuel : Nat) (pipeTok name : Token) (ts : List Token) (op : Op)
    (rest : List Token) (hok : TokOK (pipeTok :: name :: ts)) (hp : pipeTok.kind = .pipe)
    (hk : name.kind = .ident) (h : pOperator c fuel pipeTok.span name ts = some ⟨op, [], rest⟩) :
    ∃ us consumed, Grammar.unparseOp op = some us ∧ ts = consumed ++ rest ∧
      Grammar.accounts true us (pipeTok :: name :: consumed) = true :=
  pOperator_acc hok hp hk h

theorem C08_accounted_tabular (c : PCtx) (fuel : Nat) (ts : List Token) (t : Tabular) (rest : List Token)
    (hok : TokOK ts) (h : pTabular c fuel ts = ⟨t, [], rest⟩) :
    ∃ us consumed, Grammar.unparseTabular t = some us ∧ ts = consumed ++ rest ∧
      Grammar.accounts true us consumed = true :=
  pTabular_acc hok h

theorem C08_accounted_let (c : PCtx) (fuel : Nat) (ts : List Token) (v : Option Stmt) (rest : List Token)
    (hok : TokOK ts) (h : pLet c fuel ts = ⟨v, [], rest⟩) :
    ∃ s us consumed, v = some s ∧ Grammar.unparseStmt s = some us ∧ ts = consumed ++ rest ∧
      Grammar.accounts true us consumed = true :=
  pLet_acc hok h

/-- **C08 (`_partial`: restricted to well-formed token lists).** If `parseTokens` succeeds without
    any error on a token list as a scanner produces it (`TokOK`), the statements it returns
    correspond one to one, in order, to the non-empty semicolon-separated token groups, and each
    statement's `unparse` accounts for all tokens of its group with exact positions. -/
theorem C08_accounted_partial (srcLen : Nat) (ts : List Token) (stmts : List Stmt) (hok : TokOK ts)
    (h : parseTokens srcLen ts = (stmts, [])) :
    Forall₂ (fun st g => ∃ us, Grammar.unparseStmt st = some us ∧ Grammar.accounts true us g = true)
      stmts (Grammar.splitStatementsToks ts) :=
  parseTokens_acc srcLen ts stmts hok h

/-- **C08 for `Parse`.** If `parse src` succeeds without any error, every token of `scan src` is
    accounted for by the returned trees, in order, with exact positions (every token of a group: the
    `;` tokens themselves, which `splitStatementsToks` drops, belong to no statement). -/
theorem C08_accounted_parse (src : Bytes) (stmts : List Stmt) (h : parse src = (stmts, [])) :
    Forall₂ (fun st g => ∃ us, Grammar.unparseStmt st = some us ∧ Grammar.accounts true us g = true)
      stmts (Grammar.splitStatementsToks (scan src)) :=
  C08_accounted_partial src.length (scan src) stmts (scan_tokOK src) h

theorem C08_accounted_parse_zip (src : Bytes) (stmts : List Stmt) (h : parse src = (stmts, [])) :
    stmts.length = (Grammar.splitStatementsToks (scan src)).length ∧
    ∀ p ∈ stmts.zip (Grammar.splitStatementsToks (scan src)),
      ∃ us, Grammar.unparseStmt p.1 = some us ∧ Grammar.accounts true us p.2 = true :=
  ⟨(C08_accounted_parse src stmts h).length_eq, (C08_accounted_parse src stmts h).zip⟩

/-! ### why `TokOK` is needed

`let x = a.b` where the dot token carries a (non-empty) value, which `scan` never produces:
the parser does not look at the value of a symbol token, the grammar's `unparse` claims it is
empty. -/

def badTokens : List Token :=
  [⟨.ident, 0, 3, Bytes.ofString "let"⟩, ⟨.ident, 4, 5, [120]⟩, ⟨.assign, 6, 7, []⟩,
   ⟨.ident, 8, 9, [97]⟩, ⟨.dot, 9, 10, [1]⟩, ⟨.ident, 10, 11, [98]⟩]

def badStmt : Stmt :=
  .let_ ⟨0, 3⟩ (some ⟨[120], ⟨4, 5⟩, false⟩) ⟨6, 7⟩ (.qident [⟨[97], ⟨8, 9⟩, false⟩, ⟨[98], ⟨10, 11⟩, false⟩])

theorem bad_parses : parseTokens 11 badTokens = ([badStmt], []) := by rfl

def badUs : List Grammar.UTok := (Grammar.unparseStmt badStmt).getD []

theorem bad_unparse : Grammar.unparseStmt badStmt = some badUs := by rfl

theorem bad_not_accounted : Grammar.accounts true badUs badTokens = false := by decide

/-- Without `TokOK` the property is false: the parser accepts `let x = a.b` whose dot
    token has value `[1]` with no error, and the tree's `unparse` does not account for that token. -/
theorem C08_accounted_unrestricted_false :
    ¬ ∀ (srcLen : Nat) (ts : List Token) (stmts : List Stmt), parseTokens srcLen ts = (stmts, []) →
      Forall₂ (fun st g => ∃ us, Grammar.unparseStmt st = some us ∧ Grammar.accounts true us g = true)
        stmts (Grammar.splitStatementsToks ts) := by
  intro hall
  have h := hall 11 badTokens [badStmt] bad_parses
  have hs : Grammar.splitStatementsToks badTokens = [badTokens] := by decide
  rw [hs] at h
  cases h with
  | cons hab _ =>
    obtain ⟨us, hus, ha⟩ := hab
    rw [bad_unparse] at hus
    simp only [Option.some.injEq] at hus
    subst hus
    rw [bad_not_accounted] at ha
    exact absurd ha (by decide)

/-! `T | sort by a asc` where the `asc` token has `start > stop`: the parser stores the span, the
grammar's `unparse` takes an invalid span to mean "no direction given". -/

def badTokens2 : List Token :=
  [⟨.ident, 0, 1, [84]⟩, ⟨.pipe, 2, 3, []⟩, ⟨.ident, 4, 8, Bytes.ofString "sort"⟩, ⟨.by_, 9, 11, []⟩,
   ⟨.ident, 12, 13, [97]⟩, ⟨.ident, 17, 14, Bytes.ofString "asc"⟩]

def badStmt2 : Stmt :=
  .tabular (.mk (some ⟨[84], ⟨0, 1⟩, false⟩)
    (.cons (.sort ⟨2, 3⟩ ⟨4, 11⟩ [⟨.qident [⟨[97], ⟨12, 13⟩, false⟩], true, ⟨17, 14⟩, true, .null⟩]) .nil))

theorem bad2_parses : parseTokens 17 badTokens2 = ([badStmt2], []) := by rfl

def badUs2 : List Grammar.UTok := (Grammar.unparseStmt badStmt2).getD []

theorem bad2_unparse : Grammar.unparseStmt badStmt2 = some badUs2 := by rfl

theorem bad2_not_accounted : Grammar.accounts true badUs2 badTokens2 = false := by decide

#print axioms C08_accounted_expr
#print axioms C08_accounted_exprList
#print axioms C08_accounted_sortTerm
#print axioms C08_accounted_column
#print axioms C08_accounted_operator
#print axioms C08_accounted_tabular
#print axioms C08_accounted_let
#print axioms C08_accounted_partial
#print axioms C08_accounted_parse
#print axioms C08_accounted_parse_zip
#print axioms C08_accounted_unrestricted_false
#print axioms bad2_parses
#print axioms bad2_not_accounted

end Pql.C08
