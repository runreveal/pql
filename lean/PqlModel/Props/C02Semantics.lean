/-
Property C02, semantic form: the intended SQL of a join-free pipeline computes what the pipeline
means.

Stage 1 (`C02_sel_*`; `C02_sel` here, the operators with a body of their own in Lemmas/SelSemOps.lean):
one SELECT of the chain (`Intended.selOf`) evaluated by the reference SQL evaluator computes the
link's clauses in order — operator body, then ORDER BY, then LIMIT — with the specification
interpreter's meaning of each (`Rel.interpOp`, `Rel.sortTable`, `Rel.takeTable`).  Stage 2 is
Props/C02Statement.lean, the counterexamples for the side conditions and concrete instances are in
Props/C02SemanticsCex.lean.
-/
import PqlModel.Lemmas.SelSemOps
namespace Pql.C02
open Pql Sql CompileOracle Intended SplitQ SelSem

/-- **C02 (a link without operator: `SELECT * FROM n [ORDER BY …] [LIMIT …]`).** -/
theorem C02_sel_none (src : Bytes) (db : DB) (ctes : List (Bytes × Table)) (a : SubA) (n : Bytes) (sel : Select)
    (hsrc : a.source = .table n) (hop : a.op = none) (hsel : selOf src a = some sel) :
    evalSelect db ctes sel = subEvalA src db (lookupTable db ctes n) a := by
  obtain ⟨items, w, gb, obs, lim, hp, ho, hl, rfl⟩ := selOf_parts src a n sel hsrc hsel
  rw [hop] at hp
  simp only [partsOf, pure, Option.some.injEq, Prod.mk.injEq] at hp
  obtain ⟨rfl, rfl, rfl⟩ := hp
  exact sel_flat src db ctes a n true [] none obs lim (by simp) (by simp) ho hl (.inl rfl)
    (by simp [opPartA, hop, flatTable])

/-- **C02 (`as`): the data unchanged** (ORDER BY / LIMIT would be harmless, `splitA` never attaches them). -/
theorem C02_sel_as (src : Bytes) (db : DB) (ctes : List (Bytes × Table)) (a : SubA) (n : Bytes) (sel : Select)
    (p k : Span) (name : Option Ident)
    (hsrc : a.source = .table n) (hop : a.op = some (.as_ p k name)) (hsel : selOf src a = some sel) :
    evalSelect db ctes sel = subEvalA src db (lookupTable db ctes n) a := by
  obtain ⟨items, w, gb, obs, lim, hp, ho, hl, rfl⟩ := selOf_parts src a n sel hsrc hsel
  rw [hop] at hp
  simp only [partsOf, pure, Option.some.injEq, Prod.mk.injEq] at hp
  obtain ⟨rfl, rfl, rfl⟩ := hp
  exact sel_flat src db ctes a n true [] none obs lim (by simp) (by simp) ho hl (.inl rfl)
    (by simp [opPartA, hop, interpClause, Rel.interpOp, flatTable])

/-- **C02, Stage 1 (any operator).** The SELECT of a link reading the table `n` computes the
    link's clauses in order from the table `n` denotes. -/
theorem C02_sel (src : Bytes) (db : DB) (ctes : List (Bytes × Table)) (a : SubA) (n : Bytes) (sel : Select)
    (hsrc : a.source = .table n) (hsel : selOf src a = some sel)
    (hsort : sortOkA a = true) (hok : ∀ o, a.op = some o → opOk o = true) :
    evalSelect db ctes sel = subEvalA src db (lookupTable db ctes n) a := by
  cases hop : a.op with
  | none => exact C02_sel_none src db ctes a n sel hsrc hop hsel
  | some o =>
    cases o with
    | count p k => exact C02_sel_count src db ctes a n sel p k hsrc hop hsel
    | where_ p k e => exact C02_sel_where src db ctes a n sel p k e hsrc hop hsel
    | project p k cs => exact C02_sel_project src db ctes a n sel p k cs hsrc hop hsel hsort (hok _ hop)
    | extend p k cs => exact C02_sel_extend src db ctes a n sel p k cs hsrc hop hsel (hok _ hop)
    | summarize p k cs b gs => exact C02_sel_summarize src db ctes a n sel p k cs b gs hsrc hop hsel hsort (hok _ hop)
    | as_ p k name => exact C02_sel_as src db ctes a n sel p k name hsrc hop hsel
    | render p k ch w lp props rp => exact C02_sel_render src db ctes a n sel p k ch w lp props rp hsrc hop hsel
    | sort | take | top | join =>
      obtain ⟨_, _, _, _, _, hp, _⟩ := selOf_parts src a n sel hsrc hsel
      rw [hop] at hp
      cases hp

end Pql.C02
