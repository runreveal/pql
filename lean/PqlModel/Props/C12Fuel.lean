/-
Property C12, termination half — the fuel supplied at the parser's entry points is never
exhausted: no error leaf returned by `Parse` is the distinguished out-of-fuel leaf `errFuel`.

The model supplies `fuelFor n = 8 * n + 32` to each statement of `n` tokens and `length + 1`
iterations to each list loop.  What the proof uses:

* expression block (`Lemmas/ParseFuelExpr.lean`): `4 * tokens + rank` with ranks
  pInner 1, pExprListTail 1, pTrail 1, pPrimary 2, pHigher 2, pUnary 3, pExpr 4, pExprList 5;
* tabular block (`Lemmas/ParseFuelTab.lean`): pTabular / pOps / pJoin `4 * tokens + 1`,
  pOperator `4 * tokens + 6`;
* loops (`pQualTail` in `Lemmas/ParseFuelBasic.lean`, the column and sort-term loops in
  `Lemmas/ParseFuelOps.lean`): `tokens + 1` iterations; that the statement loop's `tokens + 1` is
  enough is `pStatements_eq_fold` (`Lemmas/ParseFold.lean`), used by `parseTokens_noFuel`.

Hence an entry-point fuel of `4 * n + 4` would already be sufficient (`C12_statement_fuel_bound`);
`8 * n + 32` is comfortably above it.
-/
import PqlModel.Lemmas.ParseFuelTab
namespace Pql.C12
open Pql

/-- **C12 (statement fuel bound).** With `4 * tokens + 4` units of fuel neither alternative tried by
    `pStatement` can run out of fuel; `fuelFor` supplies at least that much. -/
theorem C12_statement_fuel_bound (c : PCtx) (fuel : Nat) (ts : List Token)
    (hf : 4 * ts.length + 4 ≤ fuel) :
    (∀ e ∈ (pLet c fuel ts).errs, e.fuel = false) ∧ (∀ e ∈ (pTabular c fuel ts).errs, e.fuel = false) :=
  statement_fuel_bound c fuel ts hf

theorem C12_fuelFor_ge (n : Nat) : 4 * n + 4 ≤ fuelFor n := fuelFor_ge n

/-- **C12 (expression fuel bound).** With `4 * tokens + 4` units of fuel `expr` never reports the out-of-fuel leaf. -/
theorem C12_expr_fuel_bound (c : PCtx) (fuel : Nat) (ts : List Token) (hf : 4 * ts.length + 4 ≤ fuel) :
    ∀ e ∈ (pExpr c fuel ts).errs, e.fuel = false :=
  pExpr_noFuel c fuel ts hf

/-- One point on the line: on `(((` (3 tokens) `expr` runs out of fuel with `4 * 3 + 1` units and does
    not with `4 * 3 + 2`.  (Evaluated for `(`ⁿ, n ≤ 7, the least sufficient fuel is `4 * n + 2`, so the
    slope 4 of the bound is what this family needs; the theorem states the point n = 3 only.) -/
theorem C12_expr_fuel_slope_tight :
    let lp : Token := ⟨.lparen, 0, 1, []⟩
    (pExpr ⟨0⟩ (4 * 3 + 1) [lp, lp, lp]).errs.any (·.fuel) = true ∧
    (pExpr ⟨0⟩ (4 * 3 + 2) [lp, lp, lp]).errs.any (·.fuel) = false := by decide

/-- **C12 (fuel suffices).** `Parse` on a token list never reports the out-of-fuel leaf. -/
theorem parse_fuel_sufficient (srcLen : Nat) (ts : List Token) :
    ∀ e ∈ (parseTokens srcLen ts).2, e.fuel = false :=
  parseTokens_noFuel srcLen ts

theorem parse_fuel_sufficient_src (src : Bytes) : ∀ e ∈ (parse src).2, e.fuel = false := by
  unfold parse
  exact parse_fuel_sufficient src.length (scan src)

theorem parse_ne_errFuel (src : Bytes) : ∀ e ∈ errFuel, e ∉ (parse src).2 := by
  intro e he hmem
  have h := parse_fuel_sufficient_src src e hmem
  simp only [errFuel, List.mem_singleton] at he
  subst he
  cases h

end Pql.C12
