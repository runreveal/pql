/-
Property C08 (and C07, C10), tie by translation: the parser's ERROR ALGEBRA is translated code.

The model (`Model/Parse.lean`) and both parser interpreters (`Model/ParseIR.lean`, `Model/ExprParseIR*.lean`) read a Go
error as the list of its leaves (`Errs`) and `joinErrors` / `makeErrorOpaque` / `isNotFound` as `++` / `mkOpaque` /
`isNF` — primitives there.  Their justification:

* `harness/extract_err.go` regenerates from parser/parser.go, on every run, the bodies of the three functions
  (`Facts.errIR`), the error types with their method sets (`Facts.errTypes`) and every place that constructs an error
  value (`Facts.errSites`);
* `Model/ErrIR.lean` interprets the bodies on Go error TREES (`GoErr`), with `errors.Join`, `errors.As`, `fmt.Errorf`
  as primitives of their documented meaning, and defines `leaves` — what the harness hook `parser.VerifErrors` reports;
* `Props/C08ErrIRUnits.lean`: interpretation = `goJoin` / `goOpaque` / `errorsAsI` for every value;
  `Props/C08ErrIRAlgebra.lean`: these are `++` / `mkOpaque` / `isNF` through `leaves`; the invariant of the built values;
  `Props/C08ErrIRShape.lean`: what the invariant buys, counterexamples per clause.

This file states the headline theorems at the method table of the Go code (`goMethods`, decoded from the regenerated
table); the example trees at the end are as printed by a `%T`-walk of the Go values of three real inputs.
-/
import PqlModel.Props.C08ErrIRShape
import PqlModel.Model.ExprParseIRValues
import PqlModel.Lemmas.LayoutLex
namespace Pql.ErrIR
open Pql
set_option linter.unusedSimpArgs false

theorem go_opaque_hides : goMethods.opaqueUnwrap = false := by rw [goMethods_eq]
theorem go_nf_unwraps : goMethods.nfUnwrap = true := by rw [goMethods_eq]

/-- **`joinErrors` is `++`**: for EVERY argument list the interpretation of the regenerated body terminates
    without panic and the leaves of its result are the leaves of the arguments, in order -/
theorem C08_joinErrors_ir (args : List (Option GoErr)) :
    ∃ r, interpJoinErrors goMethods args = .ok r ∧ leaves goMethods r = args.flatMap (leaves goMethods) :=
  ⟨goJoin args, joinErrors_interp goMethods args, leaves_goJoin goMethods args⟩

/-- **`makeErrorOpaque` is `mkOpaque`**: for EVERY value (nil, a `*parseError` — the span is kept, the inner
    not-found error hidden —, a join — every element wrapped, every span kept —, anything else) -/
theorem C08_makeErrorOpaque_ir (e : Option GoErr) :
    ∃ r, interpMakeErrorOpaque goMethods e = .ok r ∧ leaves goMethods r = mkOpaque (leaves goMethods e) :=
  ⟨goOpaque e, makeErrorOpaque_interp goMethods e, leaves_goOpaque goMethods go_opaque_hides e⟩

/-- **`isNotFound` is `isNF`**: for every value without a bare `notFoundError` (`bareNF_cx`: needed) -/
theorem C08_isNotFound_ir (e : Option GoErr) (h : bareNFO e = false) :
    interpIsNotFound goMethods e = .ok (isNF (leaves goMethods e)) := by
  rw [isNotFound_interp, errorsAs_leaves goMethods go_opaque_hides e h]

/-- … in particular for every value the productions of the parser hold -/
theorem C08_isNotFound_built (e : Option GoErr) (h : Built e) :
    interpIsNotFound goMethods e = .ok (isNF (leaves goMethods e)) :=
  C08_isNotFound_ir e (normal_inv e (built_normal h)).1

/-- the results of the interpreted functions on built values are built values: the invariant holds at every
    point of every production (`C08_built_invariant`) -/
theorem C08_built_closed :
    (∀ args : List (Option GoErr), (∀ a ∈ args, Built a) → ∃ r, interpJoinErrors goMethods args = .ok r ∧ Built r) ∧
      (∀ e, Built e → ∃ r, interpMakeErrorOpaque goMethods e = .ok r ∧ Built r) :=
  ⟨fun args h => ⟨_, joinErrors_interp goMethods args, .join args h⟩,
   fun e h => ⟨_, makeErrorOpaque_interp goMethods e, .opaque e h⟩⟩

/-- **the invariant of the values the parser builds**: no bare not-found error; every join non-empty and without
    a join among its elements; the `err` of every `parseError` a fresh message (possibly marked not-found, possibly
    hidden); no `%w` wrapper -/
theorem C08_built_invariant (e : Option GoErr) (h : Built e) :
    bareNFO e = false ∧ allNodesO joinNode e = true ∧ allNodesO perrNode e = true ∧ allNodesO wrapNode e = true :=
  normal_inv e (built_normal h)

/-- `err != nil` is `errs ≠ []` on built values -/
theorem C08_nil_ir (e : Option GoErr) (h : Built e) : leaves goMethods e = [] ↔ e = none :=
  leaves_eq_nil_iff goMethods e (normal_inv e (built_normal h)).2.1

def units : List String := ["joinErrors", "makeErrorOpaque", "isNotFound"]

/-- **every place of package parser that constructs an error value** is `&parseError{…, err: <fresh message>}`,
    `&parseError{…, err: notFoundError{<fresh message>}}` or a fresh message — except inside the three translated
    functions (whose meaning is their IR) and the one `fmt.Errorf("…%w", …)` at the end of `Parse` -/
theorem C08_errSites_ir :
    Facts.errSites.all (fun x => (siteVal x.2).isSome || (x.2 == "unit" && units.contains x.1)
      || (x.2 == "wrapw" && x.1 == "Parse")) = true ∧
    (Facts.errSites.filter (·.2 == "wrapw")).length = 1 := by decide +kernel

/-- the readings of the constructor sites in both interpreters (`perr nf` ↦ `nfAt`, `perr plain` ↦ `errAt`,
    `errnopos` ↦ `errNoPos`, `wrapw e` ↦ the leaves of `e`) are the leaves of the values built there -/
theorem C08_site_leaves (s : Span) (e : GoErr) :
    leaves goMethods (some (.perr s (.nf .plain))) = nfAt s ∧
      leaves goMethods (some (.perr s .plain)) = errAt s ∧
      leaves goMethods (some .plain) = errNoPos ∧
      leaves goMethods (some (.wrapW e)) = leaves goMethods (some e) := by
  rw [goMethods_eq]
  refine ⟨?_, ?_, ?_, rfl⟩ <;>
    simp [leaves, flat, errorsAs, dynType, nfType, nfAt, errAt, errNoPos]

/-- what `Parse` returns has the leaves of its accumulated error -/
theorem C08_returned_leaves (e : Option GoErr) (h : Returned e) :
    ∃ b, Built b ∧ leaves goMethods e = leaves goMethods b := by
  cases h with
  | nil => exact ⟨none, .nil, rfl⟩
  | wrapped e h => exact ⟨some e, h, rfl⟩

/-- `Model/ParseIR.lean` (`join a b`, `opaque e`, `isNF e`) and the model: the binary forms -/
theorem C08_opIR_primitives (a b : Option GoErr) (ha : Built a) :
    leaves goMethods (goJoin [a, b]) = leaves goMethods a ++ leaves goMethods b ∧
      leaves goMethods (goOpaque a) = mkOpaque (leaves goMethods a) ∧
      errorsAsI goMethods nfType a = isNF (leaves goMethods a) := by
  refine ⟨by simp [leaves_goJoin], leaves_goOpaque goMethods go_opaque_hides a,
    errorsAs_leaves goMethods go_opaque_hides a (normal_inv a (built_normal ha)).1⟩

theorem allErrs_leaves : ∀ es : List (Option GoErr),
    ExprParseIR.allErrs (es.map fun e => ExprParseIR.Val.err (leaves goMethods e)) = some (es.flatMap (leaves goMethods))
  | [] => rfl
  | e :: es => by simp [ExprParseIR.allErrs, ExprParseIR.asErr, allErrs_leaves es]

/-- `Model/ExprParseIR*.lean`: what `evalCall` assumes of `joinErrors`, `makeErrorOpaque`, `isNotFound` on abstract
    error values IS the abstraction of the interpreted Go functions on the values they abstract -/
theorem C08_exprIR_primitives (es : List (Option GoErr)) (e : Option GoErr) (he : Built e) :
    ExprParseIR.evalCall "joinErrors" (es.map fun e => .err (leaves goMethods e)) =
        some (.err (leaves goMethods (goJoin es))) ∧
      ExprParseIR.evalCall "makeErrorOpaque" [.err (leaves goMethods e)] = some (.err (leaves goMethods (goOpaque e))) ∧
      ExprParseIR.evalCall "isNotFound" [.err (leaves goMethods e)] = some (.bool (errorsAsI goMethods nfType e)) := by
  refine ⟨?_, ?_, ?_⟩
  · simp [ExprParseIR.evalCall, allErrs_leaves, leaves_goJoin]
  · simp [ExprParseIR.evalCall, ExprParseIR.callOpaque, ExprParseIR.asErr, leaves_goOpaque goMethods go_opaque_hides]
  · simp [ExprParseIR.evalCall, ExprParseIR.callIsNF, ExprParseIR.asErr,
      errorsAs_leaves goMethods go_opaque_hides e (normal_inv e (built_normal he)).1]

def nfSite (s : Span) : Option GoErr := some (.perr s (.nf .plain))
def errSite (s : Span) : Option GoErr := some (.perr s .plain)

theorem built_nfSite (s : Span) : Built (nfSite s) := .site "perr nf plain" _ s rfl
theorem built_errSite (s : Span) : Built (errSite s) := .site "perr plain" _ s rfl

/-- `T | where f(b[=])`: inside the brackets `=` is not an expression (a not-found `parseError` at 14–15, made opaque
    because the bracket was consumed) and is left over (`endSplit`: a second `parseError` at 14–15); the join is made
    opaque element by element on the way out (argument list, `where`) -/
def exIndex : Option GoErr :=
  goJoin [none, goOpaque (goOpaque (goJoin [goOpaque (nfSite ⟨14, 15⟩), errSite ⟨14, 15⟩]))]

/-- `let x;T`: `=` expected at the end of the first statement (7–7); `Parse` makes the statement's error opaque -/
def exLet : Option GoErr := goJoin [goJoin [none, goOpaque (errSite ⟨7, 7⟩)], none]

/-- `T | join (U | ) on a`: the operator name is missing after the inner pipe (12–13) -/
def exJoin : Option GoErr := goJoin [none, goOpaque (goOpaque (goJoin [none, errSite ⟨12, 13⟩]))]

/-- the trees are the ones the Go implementation builds (under the final `*fmt.wrapError`):
    `joinError[opaque(opaque(perr[14,15](opaque(nf(errorString))))), opaque(opaque(perr[14,15](errorString)))]`,
    `joinError[perr[7,7](opaque(errorString))]`, `joinError[opaque(opaque(perr[12,13](errorString)))]` -/
theorem C08_examples_trees :
    exIndex = some (.join [.opaque (.opaque (.perr ⟨14, 15⟩ (.opaque (.nf .plain)))),
                           .opaque (.opaque (.perr ⟨14, 15⟩ .plain))]) ∧
      exLet = some (.join [.perr ⟨7, 7⟩ (.opaque .plain)]) ∧
      exJoin = some (.join [.opaque (.opaque (.perr ⟨12, 13⟩ .plain))]) := ⟨rfl, rfl, rfl⟩

theorem Built.pair {a b : Option GoErr} (ha : Built a) (hb : Built b) : Built (goJoin [a, b]) :=
  .join _ fun x hx => by
    simp only [List.mem_cons, List.mem_nil_iff, or_false] at hx
    rcases hx with rfl | rfl <;> assumption

theorem C08_examples_built : Built exIndex ∧ Built exLet ∧ Built exJoin :=
  ⟨.pair .nil (.opaque _ (.opaque _ (.pair (.opaque _ (built_nfSite _)) (built_errSite _)))),
   .pair (.pair .nil (.opaque _ (built_errSite _))) .nil,
   .pair .nil (.opaque _ (.opaque _ (.pair .nil (built_errSite _))))⟩

/-- **non-vacuity**: the leaves of these values are exactly the errors of the model's `parse` on the three sources
    (and what the Go hook reports: two leaves at 14–15, one at 7–7, one at 12–13, no not-found flag left) -/
theorem C08_examples_leaves :
    leaves goMethods exIndex = (parse (Bytes.ofString "T | where f(b[=])")).2 ∧
      leaves goMethods exLet = (parse (Bytes.ofString "let x;T")).2 ∧
      leaves goMethods exJoin = (parse (Bytes.ofString "T | join (U | ) on a")).2 := by
  refine ⟨?_, ?_, ?_⟩ <;> decide +kernel

/-- the headline theorems apply to them with all hypotheses met, and say something: the not-found error of the first
    example is still visible to `isNotFound` before the last `makeErrorOpaque`, not after -/
theorem C08_examples_nontrivial :
    interpIsNotFound goMethods (goJoin [nfSite ⟨14, 15⟩, errSite ⟨14, 15⟩]) = .ok true ∧
      interpIsNotFound goMethods (goOpaque (goJoin [nfSite ⟨14, 15⟩, errSite ⟨14, 15⟩])) = .ok false ∧
      interpIsNotFound goMethods exIndex = .ok false ∧
      (leaves goMethods exIndex).length = 2 := by
  refine ⟨?_, ?_, ?_, ?_⟩
  · rw [isNotFound_interp, goMethods_eq]; exact congrArg Except.ok (by decide)
  · rw [isNotFound_interp, goMethods_eq]; exact congrArg Except.ok (by decide)
  · rw [isNotFound_interp, goMethods_eq]; exact congrArg Except.ok (by decide)
  · rw [goMethods_eq]; decide

end Pql.ErrIR
