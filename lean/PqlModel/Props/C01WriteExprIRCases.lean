/-
Property C01 (and C13), tie by translation: the regenerated body of `writeExpression`, decoded
(`we_ir`), the form of the bodies of the `write*Function` rewrites (`writers_checked`: arity guard, then the template)
and the lemmas about their pieces: the loop over the parts of a qualified identifier, the operands of a template
range.  Props/C01WriteExprIRAll.lean runs the cases of the type switch.
-/
import PqlModel.Props.C01WriteExprIR
import PqlModel.Props.C01Templates
import PqlModel.Lemmas.WriterCases
namespace Pql.ExprIR
open Pql
open Pql.WriteIR (M IErr liftW goPanic stuck Path)
set_option linter.unusedSimpArgs false

def CtxMode : Path := ⟨"ctx", "mode"⟩
def Part (f : String) : Path := ⟨"part", f⟩

/-- the body of `for i, part := range x.Parts` -/
def partBody : List Stmt :=
  [.ite (.gt0 "i") [.lit "."] [],
   .ite (.and (.and (.not (.flag (Part "Quoted")))
            (.or (.strEqC (Part "Name") "leftJoinTableAlias") (.strEqC (Part "Name") "rightJoinTableAlias")))
          (.modeNe CtxMode "joinExprMode"))
     [.retErr "ctx.source" "part.NameSpan" "%s used in non-join context"] [],
   .qid (Part "Name")]

/-- the statements of the QualifiedIdent case before the loop -/
def qidentPre : Stmt :=
  .ite (.lenEq ⟨"x", "Parts"⟩ 1)
     [.def_ "part" ⟨"x", "Parts[0]"⟩,
      .ite (.not (.flag (Part "Quoted")))
        [.ite (.mapHas "sql" "ctx.scope" (Part "Name")) [.str ⟨"sql", ""⟩, .ret] [],
         .ite (.mapHas "sql" "builtinIdentifiers" (Part "Name")) [.str ⟨"sql", ""⟩, .ret] [],
         .ite (.modeEq CtxMode "letExprMode")
           [.retErr "ctx.source" "part.NameSpan" "unknown identifier %s in let expression"] []]
        [.ite (.modeEq CtxMode "letExprMode")
           [.retErr "ctx.source" "part.NameSpan" "quoted identifier not permitted in let expression"] []]]
     [.ite (.modeEq CtxMode "letExprMode")
        [.retErr "ctx.source" "x.Span()" "qualified identifier not permitted in let expression"] []]

def qidentCase : List Stmt := [qidentPre, .for_ "i" "part" ⟨"x", "Parts"⟩ partBody]

def litCase : List Stmt :=
  [.ite (.tokIs ⟨"x", "Kind"⟩ "TokenNumber") [.str ⟨"x", "Value"⟩]
     [.ite (.tokIs ⟨"x", "Kind"⟩ "TokenString") [.qstr ⟨"x", "Value"⟩]
        [.fprintfS "NULL /* unhandled " " literal */" ⟨"x", "Kind"⟩]]]

def unaryCase : List Stmt :=
  [.ite (.tokIs ⟨"x", "Op"⟩ "TokenPlus") [.lit "+"]
     [.ite (.tokIs ⟨"x", "Op"⟩ "TokenMinus") [.lit "-"]
        [.fprintfS "/* unhandled " " unary op */ " ⟨"x", "Op"⟩]],
   .write "tight" ⟨"x", "X"⟩]

/-- the `==` case: in join mode the plain equality if both sides of the join are mentioned -/
def eqCase : List Stmt :=
  [.ite (.modeEq CtxMode "joinExprMode")
     [.hasJoin "xl" "xr" ⟨"x", "X"⟩,
      .hasJoin "yl" "yr" ⟨"x", "Y"⟩,
      .ite (.and (.or (.var "xl") (.var "yl")) (.or (.var "xr") (.var "yr")))
        [.template "BinaryExpr:TokenEq:join", .ret] []]
     [],
   .template "BinaryExpr:TokenEq"]

def binaryCase : List Stmt :=
  [.ite (.tokIs ⟨"x", "Op"⟩ "TokenEq") eqCase
     [.ite (.tokIs ⟨"x", "Op"⟩ "TokenNE") [.template "BinaryExpr:TokenNE"]
        [.ite (.tokIs ⟨"x", "Op"⟩ "TokenCaseInsensitiveEq") [.template "BinaryExpr:TokenCaseInsensitiveEq"]
           [.ite (.tokIs ⟨"x", "Op"⟩ "TokenCaseInsensitiveNE") [.template "BinaryExpr:TokenCaseInsensitiveNE"]
              [.ite (.mapHas "sqlOp" "binaryOps" ⟨"x", "Op"⟩) [.template "BinaryExpr:default"]
                 [.fprintfS "NULL /* unhandled " " binary op */ " ⟨"x", "Op"⟩]]]]]]

def callCase : List Stmt :=
  [.scope [.defKnown "f" ⟨"x", "Func.Name"⟩,
           .ite (.notNil ⟨"f", ""⟩) [.callKnown "f" "x"] [.template "CallExpr:default"]]]

def defaultCase : List Stmt := [.fprintfT "NULL /* unhandled " " expression */" X]

def weIR : List Stmt :=
  [.unparen "x" "p" "ok" "ParenExpr" "X",
   .ite (.typeIs "x" "QualifiedIdent" X) qidentCase
     [.ite (.typeIs "x" "BasicLit" X) litCase
        [.ite (.typeIs "x" "UnaryExpr" X) unaryCase
           [.ite (.typeIs "x" "BinaryExpr" X) binaryCase
              [.ite (.typeIs "x" "InExpr" X) [.template "InExpr"]
                 [.ite (.typeIs "x" "IndexExpr" X) [.template "IndexExpr"]
                    [.ite (.typeIs "x" "CallExpr" X) callCase defaultCase]]]]]],
   .ret]

theorem we_ir : decode (irOf "writeExpression") = some weIR := by rfl

/-- the state after the unwrapping loop -/
def st0 (c : Ctx) (u : Expr) : State := ⟨[("x", .expr u), ("ctx", .ctx c none)], []⟩

def Args : Path := ⟨"x", "Args"⟩

/-- the unit of a writer is its arity guard — the comparison `Facts.writerArityGuard` lists for it — then the
    statements that are its template, then `return` -/
def writerCheck (w : String) : Bool :=
  match decode (irOf ("writer:" ++ w)), Facts.writerArityGuard.find? (·.1 == w) with
  | some [.ite g [.retErr _ _ _] [], .template k, .ret], some (_, op, n) =>
    k == w && !(w == "CallExpr:default") &&
      ((op == "!=" && g == .lenNe Args n) || (op == "==" && g == .lenEq Args n))
  | _, _ => false

theorem writers_checked : Facts.knownFunctions.all (fun r => writerCheck r.2.1) = true := by decide +kernel

theorem writerCheck_sound {w : String} (h : writerCheck w = true) :
    ∃ guard a b msg, decode (irOf ("writer:" ++ w)) = some [.ite guard [.retErr a b msg] [], .template w, .ret] ∧
      (w == "CallExpr:default") = false ∧
      ∀ c fn lp args rp, evalCond (st0 c (.call fn lp args rp)) guard = .ok (arityRejects w args.length, []) := by
  unfold writerCheck at h
  split at h
  next g a b msg k _ op n hd hf =>
    simp only [Bool.and_eq_true, Bool.or_eq_true, beq_iff_eq, Bool.not_eq_true'] at h
    obtain ⟨⟨rfl, hne⟩, hg⟩ := h
    refine ⟨g, a, b, msg, hd, hne, fun c fn lp args rp => ?_⟩
    rcases hg with ⟨rfl, rfl⟩ | ⟨rfl, rfl⟩ <;> simp only [arityRejects, hf] <;> rfl
  next => cases h

/-- every unit the translator is expected to deliver is there, and nothing else -/
theorem C01_exprIR_keys :
    Facts.exprIR.map (·.1) =
      ["Compile:pre", "hasJoinTerms", "writeExpression", "writeExpressionMaybeParen", "writeExpressionTight",
       "writer:writeCountFunction", "writer:writeCountIfFunction", "writer:writeIfFunction",
       "writer:writeIsNotNullFunction", "writer:writeIsNullFunction", "writer:writeNotFunction",
       "writer:writeNowFunction", "writer:writeStrcatFunction", "writer:writeToLowerFunction",
       "writer:writeToUpperFunction"] := by rfl

/-- every writer named in `initKnownFunctions` has a unit -/
theorem C01_writers_have_units :
    Facts.knownFunctions.all (fun r => Facts.exprIR.any (·.1 == "writer:" ++ r.2.1)) = true := by decide +kernel

theorem liftW_bind {α β : Type} (a : Except WErr α) (f : α → Except WErr β) :
    liftW (a >>= f) = liftW a >>= fun x => liftW (f x) := by
  cases a <;> rfl

/- In the cases of the type switch `x` is bound twice, `switch x := x.(type)` declaring the second on top of the
parameter: hence `("x", a) :: ("x", b)` in the states below. -/
theorem part_step (sem : Sem) (c : Ctx) (a b : Val) (i : Nat) (p : Ident) (out : List Chunk) :
    execBlock sem partBody ⟨[("part", .ident (some p)), ("i", .nat i), ("x", a), ("x", b), ("ctx", .ctx c none)], out⟩ =
      if aliasErr c.mode p then .error (.go .err)
      else .ok (.next, ⟨[("part", .ident (some p)), ("i", .nat i), ("x", a), ("x", b), ("ctx", .ctx c none)],
        out ++ (if i > 0 then [.txt "."] else []) ++ [.qid p.name]⟩) := by
  -- the guard, evaluated with short-circuit `&&` / `||`, and `aliasErr c.mode p` unfold to the same proposition
  xe_simp [partBody, Part, CtxMode, ofString_left, ofString_right, aliasErr]
  by_cases hi : 0 < i <;> simp [hi]

/-- the chunks the loop writes from index `i` on -/
def partsFrom (i : Nat) : List Ident → List Chunk
  | [] => []
  | p :: ps => (if i > 0 then [.txt "."] else []) ++ [.qid p.name] ++ partsFrom (i + 1) ps

theorem parts_loop (sem : Sem) (c : Ctx) (a b : Val) : ∀ (ps : List Ident) (i : Nat) (out : List Chunk),
    forEach "i" "part" (execBlock sem partBody) i (ps.map fun p => .ident (some p))
        ⟨[("x", a), ("x", b), ("ctx", .ctx c none)], out⟩ =
      if ps.any (aliasErr c.mode) then .error (.go .err)
      else .ok (.next, ⟨[("x", a), ("x", b), ("ctx", .ctx c none)], out ++ partsFrom i ps⟩)
  | [], i, out => by simp [forEach, partsFrom]
  | p :: ps, i, out => by
    have ih := parts_loop sem c a b ps (i + 1) (out ++ (if i > 0 then [.txt "."] else []) ++ [.qid p.name])
    simp only [List.map_cons, forEach, State.declare]
    have hd : (("i" == "_") = false) ∧ (("part" == "_") = false) := by decide
    simp only [hd.1, hd.2, Bool.false_eq_true, ↓reduceIte]
    rw [part_step]
    by_cases hb : aliasErr c.mode p = true
    · simp [hb, bind, Except.bind]
    · simp only [hb, Bool.false_eq_true, ↓reduceIte, bind_ok, List.any_cons, Bool.false_or]
      rw [leave_two, ih]
      · simp [partsFrom, List.append_assoc]
      · rfl

theorem partsFrom_succ (i : Nat) : ∀ ps : List Ident, partsFrom (i + 1) ps = ps.flatMap fun p => [.txt ".", .qid p.name]
  | [] => rfl
  | p :: ps => by simp [partsFrom, partsFrom_succ (i + 1) ps]

theorem partsFrom_zero (ps : List Ident) : partsFrom 0 ps = sepChunks "." (ps.map fun p => [.qid p.name]) := by
  cases ps with
  | nil => rfl
  | cons p ps => rw [List.map_cons, sepChunks_cons, List.flatMap_map]; simp [partsFrom, partsFrom_succ]

theorem plainAll_eq (sem : Sem) (c : Ctx) : (es : ExprList) →
    (∀ x, x.size ≤ es.size → (c.mode = .join → x.Good) → sem.plain c x = liftW (writeExpr c x)) →
    (c.mode = .join → es.Good) → plainAll sem c es = liftW (writeList c es)
  | .nil, _, _ => rfl
  | .cons e es, H, hg => by
    have h1 := H e (by simp [ExprList.size]) (fun h => (hg h).1)
    have h2 := plainAll_eq sem c es (fun x hx hgx => H x (by simp [ExprList.size]; omega) hgx) (fun h => (hg h).2)
    rw [plainAll, writeList, h1, h2]
    cases writeExpr c e <;> cases writeList c es <;> rfl

end Pql.ExprIR
