/-
Property C02 — tabular operators take effect strictly in pipeline order.

Specification: `Rel.interp` (Spec/Rel.lean) applies the operators one after another on
list-tables; the oracle evaluates the emitted SQL with the reference evaluator
(Spec/Sql/Eval.lean) on small databases and compares — on every generated pipeline, including
all operator sequences up to length 3 (quick) / 4 (thorough).
Proved here about the model's `splitQueries`: which operators may share a SELECT.  The semantic statement
(emitted SQL evaluates to `Rel.interp`): Props/C02Semantics.lean, C02Statement.lean, C02EndToEnd.lean.
-/
import PqlModel.Lemmas.SplitQueriesRun
namespace Pql.C02
open Pql

/-- **C02 (which operators forbid attaching ORDER BY / LIMIT).** From the regenerated
    `canAttachSort`: exactly the operators that change or fix the column names. -/
theorem C02_canAttachSort_table :
    Facts.canAttachSortFalse = ["AsOperator", "ProjectOperator", "RenderOperator", "SummarizeOperator"] := by decide

open SplitQ in
/-- `sort` then `take` leave what `top` leaves: `top` attaches where `sort` does, and `take` goes into the
    subquery the `sort` went into — a fresh one, or one that carried no LIMIT when it let the `sort` in -/
theorem place_top (source : Option Ident) (k : Nat) (dst : List Subquery) (p kw p2 k2 p3 k3 b : Span) (n : Expr)
    (c : SortTerm) (h : k ≤ dst.length) :
    place source k (.take p3 k3 n) (place source k (.sort p2 k2 [c]) dst) =
      place source k (.top p kw n b (some c)) dst := by
  have hat : ∀ l, attaches (.top p kw n b (some c)) l = attaches (.sort p2 k2 [c]) l := fun _ => rfl
  rcases place_cases source k (.sort p2 k2 [c]) dst with hs | ⟨init, l, rfl, hk, ha, hs⟩
  · rw [hs, place_attach h rfl]
    rcases place_cases source k (.top p kw n b (some c)) dst with ht | ⟨init, l, rfl, hk, ha, ht⟩
    · rw [ht]; rfl
    · rw [place_attach hk ((hat l).symm.trans ha)] at hs
      exact absurd (congrArg List.length hs) (by simp)
  · have hl : l.take.isNone = true ∧ canAttachSort l.op = true := by
      simp only [attaches, Bool.and_eq_true] at ha; exact ⟨ha.2, ha.1.1⟩
    rw [hs, place_attach hk (by simp only [attaches, store, hl.1, hl.2, Bool.and_self]),
      place_attach hk ((hat l).trans ha)]
    rfl

/-- **C02 (top N by k = sort by k, then take N).** In `splitQueries`, a `top` operator is
    treated exactly like a `sort` by its term directly followed by a `take` of its row count —
    for every state of the subquery list (`dstStart ≤ dst.length` always holds: the list only
    grows from where the pipeline started) and whatever follows. -/
theorem C02_top_eq_sort_take (src : Bytes) (scope : List (Bytes × List Chunk)) (source : Option Ident)
    (dstStart : Nat) (dst : List Subquery) (p k p2 k2 p3 k3 b : Span) (n : Expr) (c : SortTerm) (rest : OpList)
    (hinv : dstStart ≤ dst.length) :
    splitOps src scope source dstStart dst (.cons (.top p k n b (some c)) rest) =
      splitOps src scope source dstStart dst (.cons (.sort p2 k2 [c]) (.cons (.take p3 k3 n) rest)) := by
  rw [SplitQ.splitOps_step _ _ _ _ _ rfl, SplitQ.splitOps_step _ _ _ _ _ rfl, SplitQ.splitOps_step _ _ _ _ _ rfl,
    place_top source dstStart dst p k p2 k2 p3 k3 b n c hinv]

/-- the specification says the same: `top n by k` is `sort by k` then `take n` -/
theorem C02_spec_top (src : Bytes) (db : Sql.DB) (t : Sql.Table) (p k b : Span) (n : Expr) (c : SortTerm) :
    Rel.interpOp src db t (.top p k n b (some c)) =
      Rel.interpOp src db (Rel.interpOp src db t (.sort p k [c])) (.take p k n) := by
  simp [Rel.interpOp]

end Pql.C02
