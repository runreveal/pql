/-
Property C01 / C05, lexical half ("LexRender") — the bytes the expression writer emits are read
by the SQL lexer as exactly the tokens the chunks stand for.

No content of a name, string, number or function name and no juxtaposition of two chunks can
open a comment (`--`, `/*`), merge two tokens (two words, a number and a word, `<` and `>`, the
two quotes of adjacent quoted tokens) or swallow the following text.

The proof: a decidable adjacency predicate on chunk lists (`AdjC rest cs`, Lemmas/LexRenderChunks.lean) under
which lexing is compositional (`lexRender_of_adj`), and every chunk list `writeExpr` returns for an `Expr.lexOK`
tree (empty scope) satisfies it — before the end of the text and before every separator.
-/
import PqlModel.Lemmas.ScopeRTLex
namespace Pql.C01
open Pql Sql LexRender

/-- **the writer's outputs are adjacent**, before every text that is empty or starts with a space,
    a newline, `)`, `]`, `[`, `,` or `;` (`sepBytes`; a tab is white space to the lexer and not in it) -/
theorem writeExpr_adj_before (ctx : Ctx) (e : Expr) (cs : List Chunk) (hscope : ctx.scope = [])
    (hok : e.lexOK = true) (h : writeExpr ctx e = .ok cs) (rest : Bytes)
    (hrest : sepHead rest.head? = true) : AdjC rest cs = true :=
  (writeExpr_good ctx hscope e hok cs h).1 rest hrest

theorem writeExpr_adj (ctx : Ctx) (e : Expr) (cs : List Chunk) (hscope : ctx.scope = [])
    (hok : e.lexOK = true) (h : writeExpr ctx e = .ok cs) : Adj cs = true :=
  writeExpr_adj_before ctx e cs hscope hok h [] rfl

/-- an unsigned expression that is written without parentheses never starts with `-`: the
    sign's `"-"` followed by `wrapTight` cannot produce `--` -/
theorem writeExpr_no_leading_minus (ctx : Ctx) (e : Expr) (cs : List Chunk) (hscope : ctx.scope = [])
    (hok : e.lexOK = true) (h : writeExpr ctx e = .ok cs) (hs : isSigned e = false)
    (hw : needsWrap e = false) (rest : Bytes) (hrest : rest.head? ≠ some 45) :
    (renderChunks cs ++ rest).head? ≠ some 45 :=
  (writeExpr_good ctx hscope e hok cs h).2 hs hw rest hrest

/-- **C01 (LexRender).** Lexing the bytes the expression writer emits yields exactly the chunk
    tokens. -/
theorem C01_lexRender (ctx : Ctx) (e : Expr) (cs : List Chunk)
    (hscope : ctx.scope = [])
    (hok : e.lexOK = true)
    (h : writeExpr ctx e = .ok cs) :
    Sql.lex .standard (renderChunks cs) = some (toksOf cs) :=
  lexRender_of_adj_top cs (writeExpr_adj ctx e cs hscope hok h)

/-- **C01 (LexRender, in context).** The same inside a larger text: followed by any text that is
    empty or starts with a separator, the expression's bytes are read as its chunk tokens and
    lexing continues with exactly the following text (comments dropped on both sides). -/
theorem C01_lexRender_before (ctx : Ctx) (e : Expr) (cs : List Chunk)
    (hscope : ctx.scope = []) (hok : e.lexOK = true) (h : writeExpr ctx e = .ok cs)
    (rest : Bytes) (hrest : sepHead rest.head? = true) (fuel : Nat) :
    (lexAux .standard (fuel + steps cs) (renderChunks cs ++ rest)).map (·.filter (· != .comment)) =
      (lexAux .standard fuel rest).map (fun ts => toksOf cs ++ ts.filter (· != .comment)) :=
  lexRender_of_adj cs rest fuel (writeExpr_adj_before ctx e cs hscope hok h rest hrest)

/-- the adjacency predicate is not vacuous: it rejects `--` … -/
example : Adj [.txt "-", .txt "-", .qid [97]] = false := by decide
/-- … where the conclusion indeed fails (the rest of the line is a comment) … -/
example : Sql.lex .standard (renderChunks [.txt "-", .txt "-", .qid [97]]) ≠
    some (toksOf [.txt "-", .txt "-", .qid [97]]) := by decide
/-- … and accepts what the writer emits for `-(-a)` -/
example : Adj [.txt "-", .txt "(", .txt "-", .qid [97], .txt ")"] = true := by decide

end Pql.C01
