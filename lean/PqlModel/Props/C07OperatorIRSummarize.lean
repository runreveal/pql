/-
Property C07, tie by translation: `(*parser).summarizeOperator` — the aggregate loop (`pSummarizeCols`, with
the dangling comma), the optional `by` clause and the group-by loop (`pGroupByCols`) of the model's
`pSummarize` are the interpretation of the regenerated body (`C07_summarizeOperator_ir`), for every fuel and
every loop counter.  `sum1…` below is about the aggregate loop, `sum2…` about the group-by loop.
-/
import PqlModel.Props.C07OperatorIRProject
import PqlModel.Lemmas.ParseNotFound
namespace Pql.OpIR
open Pql
set_option linter.unusedSimpArgs false

theorem isNF_nil : isNF [] = false := rfl

def sum2St (pipe kws : Span) (kw pt : Token) (cols : List Column) (dc : Val) (s : Token) (gacc : List Column)
    (ts : List Token) (u : Option (List Token)) : St :=
  ⟨[("ok", .bool true), ("sep", .tok s), ("danglingComma", dc), ("op", .ref 0), ("keyword", .tok kw), ("pipe", .tok pt),
    ("p", .parser ts u)],
   [⟨"SummarizeOperator", [("Pipe", .span pipe), ("Keyword", .span kws), ("Cols", .list (colVals cols)), ("By", .span s.span),
      ("GroupBy", .list (colVals gacc))]⟩]⟩

theorem sum2_loop (c : PCtx) (fuel : Nat) (pipe kws : Span) (kw pt : Token) (cols : List Column) (dc : Val) (s : Token) :
    ∀ (n : Nat) (gacc : List Column) (ts : List Token) (u : Option (List Token)),
      result toOp "op" none
          (runLoop false (execBlock (envAt c) (loopAt summarizeOperatorBody 7)) n fuel
            (sum2St pipe kws kw pt cols dc s gacc ts u)) =
        .ok ⟨.summarize pipe kws cols s.span (pGroupByCols c fuel n gacc ts).val, (pGroupByCols c fuel n gacc ts).errs,
          (pGroupByCols c fuel n gacc ts).rest⟩
  | 0, gacc, ts, u => by
    simp [runLoop, result_fuel, sum2St, pGroupByCols, St.parser, St.get, toOp, recToOp, listOf, toColumns_vals, optM,
      bind, Except.bind, pure, Except.pure]
  | n + 1, gacc, ts, u => by
    have ih := sum2_loop c fuel pipe kws kw pt cols dc s n
    generalize hb : execBlock (envAt c) (loopAt summarizeOperatorBody 7) = body at ih ⊢
    rw [runLoop_succ (result toOp "op" none) fun _ => rfl, congrFun (congrFun hb.symm fuel)]
    simp only [loopAt, summarizeOperatorBody, List.getElem?_cons_succ, List.getElem?_cons_zero, sum2St] at ih ⊢
    unfold pGroupByCols
    ir_simp [colVals_snoc, toColumns_vals]
    generalize pNamedColumn c fuel ts = r
    obtain ⟨val, errs, rest⟩ := r
    by_cases hnf : isNF errs = true <;> simp [hnf]
    rcases rest with _ | ⟨t, rest⟩ <;> cases errs <;> simp [ih, colVals_snoc, toColumns_vals]
    by_cases hc : t.kind = .comma <;> simp [hc, ih, colVals_snoc, toColumns_vals]

/-- the values `danglingComma` takes: the zero value, an assigned `nil`, the address of a comma -/
def okDc (dc : Val) : Prop := dc = .tokPtr none ∨ dc = .nil ∨ ∃ t, dc = .tokPtr (some t)

/-- the model's view of `danglingComma` -/
def cmOf : Val → Option Span
  | .tokPtr (some t) => some t.span
  | _ => none

def sum1St (pipe kws : Span) (kw pt : Token) (acc : List Column) (dc : Val) (ts : List Token) (u : Option (List Token)) : St :=
  ⟨[("danglingComma", dc), ("op", .ref 0), ("keyword", .tok kw), ("pipe", .tok pt), ("p", .parser ts u)],
   [⟨"SummarizeOperator", [("Pipe", .span pipe), ("Keyword", .span kws), ("Cols", .list (colVals acc)), ("By", .span .null),
      ("GroupBy", .list [])]⟩]⟩

/-- what the aggregate loop leaves: the function has returned (or run out of fuel) with the model's
    result, or the loop was left by `break` in the state the model's `SumCols` describes -/
def Sum1Post (pipe kws : Span) (kw pt : Token) (r1 : PRes SumCols) (out : M (Flow × St)) : Prop :=
  ∃ f st', out = .ok (f, st') ∧
    ((r1.val.done = true ∧ (f = .fuel ∨ ∃ v e, f = .ret [v, e]) ∧
        result toOp "op" none (.ok (f, st')) = .ok ⟨.summarize pipe kws r1.val.cols .null [], r1.errs, r1.rest⟩) ∨
     (r1.val.done = false ∧ f = .next ∧
        ∃ dc', okDc dc' ∧ cmOf dc' = r1.val.comma ∧ st' = sum1St pipe kws kw pt r1.val.cols dc' r1.rest none))

theorem Sum1Post_ok (pipe kws : Span) (kw pt : Token) (r1 : PRes SumCols) (f : Flow) (st : St) :
    Sum1Post pipe kws kw pt r1 (.ok (f, st)) ↔
      ((r1.val.done = true ∧ (f = .fuel ∨ ∃ v e, f = .ret [v, e]) ∧
          result toOp "op" none (.ok (f, st)) = .ok ⟨.summarize pipe kws r1.val.cols .null [], r1.errs, r1.rest⟩) ∨
       (r1.val.done = false ∧ f = .next ∧
          ∃ dc', okDc dc' ∧ cmOf dc' = r1.val.comma ∧ st = sum1St pipe kws kw pt r1.val.cols dc' r1.rest none)) := by
  constructor
  · rintro ⟨f', st', h, hp⟩
    cases h
    exact hp
  · intro h
    exact ⟨f, st, rfl, h⟩

theorem sum1_loop (c : PCtx) (fuel : Nat) (pipe kws : Span) (kw pt : Token) :
    ∀ (n : Nat) (acc : List Column) (dc : Val) (ts : List Token) (u : Option (List Token)), okDc dc →
      Sum1Post pipe kws kw pt (pSummarizeCols c fuel n acc (cmOf dc) ts)
        (runLoop false (execBlock (envAt c) (loopAt summarizeOperatorBody 2)) n fuel (sum1St pipe kws kw pt acc dc ts u))
  | 0, acc, dc, ts, u, hdc => by
    simp [runLoop, Sum1Post_ok, result_fuel, sum1St, pSummarizeCols, St.parser, St.get, toOp, recToOp, listOf, toColumns_vals,
      optM, bind, Except.bind, pure, Except.pure, toColumns]
  | n + 1, acc, dc, ts, u, hdc => by
    have ih := sum1_loop c fuel pipe kws kw pt n
    generalize hb : execBlock (envAt c) (loopAt summarizeOperatorBody 2) = body at ih ⊢
    rw [runLoop_succ (fun x => x) fun _ => rfl, congrFun (congrFun hb.symm fuel)]
    simp only [loopAt, summarizeOperatorBody, List.getElem?_cons_succ, List.getElem?_cons_zero, sum1St] at ih ⊢
    unfold pSummarizeCols
    ir_simp [colVals_snoc]
    have hrest := pNamedColumn_nf c fuel ts
    generalize pNamedColumn c fuel ts = r at hrest ⊢
    obtain ⟨val, errs, rest⟩ := r
    by_cases hnf : isNF errs = true
    · simp only at hrest
      simp [hnf, hrest hnf, Sum1Post_ok]
      exact ⟨dc, hdc, rfl, rfl⟩
    simp [hnf]
    rcases rest with _ | ⟨t, rest⟩ <;> cases errs <;> ir_simp [Sum1Post_ok, colVals_snoc, toColumns_vals, toColumns]
    by_cases hk : t.kind = .comma <;> ir_simp [hk, Sum1Post_ok, colVals_snoc, toColumns_vals, toColumns]
    · simpa [cmOf] using ih (acc ++ [val]) (.tokPtr (some t)) rest (some (t :: rest)) (Or.inr (Or.inr ⟨t, rfl⟩))
    · exact ⟨.nil, Or.inr (Or.inl rfl), rfl, rfl⟩

theorem colVals_cons (x : Column) (xs : List Column) : colVals (x :: xs) = .col x :: colVals xs := rfl

/-- the statements between the two loops, and the group-by loop -/
def sumTail : List IStmt := summarizeOperatorBody.drop 3

theorem sumTail_run (c : PCtx) (fuel : Nat) (pipe kws : Span) (kw pt : Token) (cols : List Column) (dc : Val) (hdc : okDc dc)
    (ts : List Token) :
    result toOp "op" none (execBlock (envAt c) sumTail fuel (sum1St pipe kws kw pt cols dc ts none)) =
      .ok (match ts with
        | [] =>
          if cols.isEmpty then ⟨.summarize pipe kws cols .null [], errAt c.eof, []⟩
          else
            match cmOf dc with
            | some cm => ⟨.summarize pipe kws cols .null [], errAt cm, []⟩
            | none => ⟨.summarize pipe kws cols .null [], [], []⟩
        | sep :: rest =>
          if sep.kind ≠ .by_ then
            if cols.isEmpty then ⟨.summarize pipe kws cols .null [], errAt sep.span, ts⟩
            else
              match cmOf dc with
              | some cm => ⟨.summarize pipe kws cols .null [], errAt cm, ts⟩
              | none => ⟨.summarize pipe kws cols .null [], [], ts⟩
          else
            let r2 := pGroupByCols c fuel (rest.length + 1) [] rest
            ⟨.summarize pipe kws cols sep.span r2.val, r2.errs, r2.rest⟩) := by
  have hl : (colVals cols).length = cols.length := List.length_map _
  rcases hdc with rfl | rfl | ⟨t, rfl⟩ <;> ir_simp [sumTail, summarizeOperatorBody, sum1St, cmOf, hl, toColumns_vals, toColumns]
  all_goals
    rcases ts with _ | ⟨sep, rest⟩
    · by_cases hc : cols = [] <;> simp [hc, eofTok, PCtx.eof, Span.index, Token.span]
    by_cases hk : sep.kind = .by_ <;> simp [hk]
    · exact sum2_loop c fuel pipe kws kw pt cols _ sep (rest.length + 1) [] rest (some (sep :: rest))
    · by_cases hc : cols = [] <;> simp [hc, Token.span]

theorem summarizeOperator_run (c : PCtx) (fuel : Nat) (pipe kw : Token) (ts : List Token) :
    runOp c summarizeOperatorBody fuel pipe kw ts = .ok (pSummarize c fuel pipe.span kw.span ts) := by
  have hsplit : summarizeOperatorBody = summarizeOperatorBody.take 3 ++ sumTail := rfl
  unfold runOp run
  rw [hsplit, execBlock_append]
  ir_simp [summarizeOperatorBody]
  obtain ⟨f, st', hrun, hpost⟩ :=
    sum1_loop c fuel pipe.span kw.span kw pipe (ts.length + 1) [] (.tokPtr none) ts none (Or.inl rfl)
  change result toOp "op" none (thenK (runLoop false (execBlock (envAt c) (loopAt summarizeOperatorBody 2)) (ts.length + 1)
    fuel (sum1St pipe.span kw.span kw pipe [] (.tokPtr none) ts none)) _) = _
  rw [hrun, show cmOf (Val.tokPtr none) = none from rfl] at *
  unfold pSummarize
  rcases hpost with ⟨hdone, hf, hres⟩ | ⟨hdone, rfl, dc', hdc', hcm, rfl⟩
  · rw [if_pos hdone]
    rcases hf with rfl | ⟨v, e, rfl⟩ <;> exact hres
  · refine (sumTail_run c fuel pipe.span kw.span kw pipe _ dc' hdc' _).trans ?_
    rw [hcm]
    simp only [hdone, Bool.false_eq_true, if_false]
    rcases (pSummarizeCols c fuel (ts.length + 1) [] none ts).rest with _ | ⟨sep, rest⟩ <;> rfl

theorem C07_summarizeOperator_ir (c : PCtx) (fuel : Nat) (pipe kw : Token) (ts : List Token) :
    (runOp c (bodyOf "summarizeOperator") fuel pipe kw ts).map some =
      .ok (pOperator c (fuel + 1) pipe.span (kwTok "summarize" kw) ts) := by
  simp only [bodyOf, summarizeOperator_ir, Option.map_some, Option.getD_some, summarizeOperator_run,
    pOperator_summarize c fuel _ (kwTok "summarize" kw) ts rfl]
  rfl

end Pql.OpIR
