/-
Property C08 (and C07, C10): the parser's error algebra — what the invariant of the built values
(`Props/C08ErrIRAlgebra.lean`: `normal_inv`) buys, and why each clause is there.

Clause J (joins are non-empty) makes `err != nil`, which both parser interpreters read as "the list of leaves is not
empty", agree with the value; clause P (the `err` of a `parseError` is a message) makes flattening lose no position;
clause N (no bare `notFoundError`) and the method table (`opaqueError` has no `Unwrap`) are what `isNotFound` and
`makeErrorOpaque` need.  The remaining part of J and clause W are facts about the construction: `joinErrors` flattens
ONE level and does not look under `%w`.
-/
import PqlModel.Props.C08ErrIRAlgebra
namespace Pql.ErrIR
open Pql
set_option linter.unusedSimpArgs false

mutual
theorem flat_ne_nil (m : Methods) : ∀ (e : GoErr) (o : Bool), allNodes joinNode e = true → flat m o e ≠ []
  | .plain, _, _ => by simp [flat]
  | .perr _ _, _, _ => by simp [flat]
  | .nf i, o, h => by
    cases hm : m.nfUnwrap with
    | true =>
      simp only [flat, hm, if_true]
      exact flat_ne_nil m i o (by simp only [allNodes, Bool.and_eq_true] at h; exact h.2)
    | false => simp [flat, hm]
  | .opaque i, _, h => by
    simp only [flat]
    exact flat_ne_nil m i true (by simp only [allNodes, Bool.and_eq_true] at h; exact h.2)
  | .wrapW i, o, h => by
    simp only [flat]
    exact flat_ne_nil m i o (by simp only [allNodes, Bool.and_eq_true] at h; exact h.2)
  | .join es, o, h => by
    simp only [allNodes, joinNode, Bool.and_eq_true, Bool.not_eq_true'] at h
    simp only [flat]
    exact flatList_ne_nil m es o (by simpa using h.1.1) h.2
theorem flatList_ne_nil (m : Methods) :
    ∀ (es : List GoErr) (o : Bool), es ≠ [] → allNodesList joinNode es = true → flatList m o es ≠ []
  | [], _, h, _ => absurd rfl h
  | e :: es, o, _, h => by
    simp only [allNodesList, Bool.and_eq_true] at h
    simp only [flatList, ne_eq, List.append_eq_nil_iff, not_and]
    intro h0
    exact absurd h0 (flat_ne_nil m e o h.1)
end

/-- **`err != nil` is "some leaf"**: a value whose joins are non-empty is nil iff it has no leaves -/
theorem leaves_eq_nil_iff (m : Methods) (e : Option GoErr) (h : allNodesO joinNode e = true) :
    leaves m e = [] ↔ e = none := by
  cases e with
  | none => simp [leaves]
  | some e => simp [leaves, flat_ne_nil m e false h]

/-- without clause J: `errors.Join` never returns it, but an empty join would be a non-nil error without leaves -/
theorem join_empty_cx (m : Methods) : leaves m (some (.join [])) = [] ∧ allNodes joinNode (.join []) = false := by
  constructor <;> rfl

mutual
def allSpans : GoErr → List Span
  | .plain => []
  | .perr s i => s :: allSpans i
  | .nf i => allSpans i
  | .opaque i => allSpans i
  | .join es => allSpansList es
  | .wrapW i => allSpans i
def allSpansList : List GoErr → List Span
  | [] => []
  | e :: es => allSpans e ++ allSpansList es
end

theorem isMsg_allSpans (i : GoErr) (h : isMsg i = true) : allSpans i = [] := by
  fun_induction isMsg i with
  | case1 | case2 => rfl
  | case3 i ih => simp only [allSpans]; exact ih h
  | case4 => cases h

def spansOf (es : Errs) : List Span := es.filterMap (·.span)

theorem spansOf_append (a b : Errs) : spansOf (a ++ b) = spansOf a ++ spansOf b := by simp [spansOf]

mutual
theorem flat_spans (m : Methods) (hm : m.nfUnwrap = true) :
    ∀ (e : GoErr) (o : Bool), allNodes perrNode e = true → spansOf (flat m o e) = allSpans e
  | .plain, _, _ => by simp [flat, spansOf, allSpans]
  | .perr s i, _, h => by
    simp only [allNodes, perrNode, Bool.and_eq_true] at h
    simp [flat, spansOf, allSpans, isMsg_allSpans i h.1]
  | .nf i, o, h => by
    simp only [flat, hm, if_true, allSpans]
    exact flat_spans m hm i o (by simp only [allNodes, Bool.and_eq_true] at h; exact h.2)
  | .opaque i, _, h => by
    simp only [flat, allSpans]
    exact flat_spans m hm i true (by simp only [allNodes, Bool.and_eq_true] at h; exact h.2)
  | .wrapW i, o, h => by
    simp only [flat, allSpans]
    exact flat_spans m hm i o (by simp only [allNodes, Bool.and_eq_true] at h; exact h.2)
  | .join es, o, h => by
    simp only [flat, allSpans]
    exact flatList_spans m hm es o (by simp only [allNodes, Bool.and_eq_true] at h; exact h.2)
theorem flatList_spans (m : Methods) (hm : m.nfUnwrap = true) :
    ∀ (es : List GoErr) (o : Bool), allNodesList perrNode es = true → spansOf (flatList m o es) = allSpansList es
  | [], _, _ => rfl
  | e :: es, o, h => by
    simp only [allNodesList, Bool.and_eq_true] at h
    simp only [flatList, allSpansList, spansOf_append, flat_spans m hm e o h.1, flatList_spans m hm es o h.2]
end

/-- **flattening loses no position**: the spans of the leaves are the spans of all `parseError`s of the value -/
theorem leaves_spans (m : Methods) (hm : m.nfUnwrap = true) (e : GoErr) (h : allNodes perrNode e = true) :
    spansOf (leaves m (some e)) = allSpans e := flat_spans m hm e false h

/-- without clause P: a `parseError` inside a `parseError` is not reported — the hook (and `Error()`) see
    the outer position only -/
theorem perr_nested_cx (m : Methods) (s t : Span) :
    spansOf (leaves m (some (.perr s (.perr t .plain)))) = [s] ∧ allSpans (.perr s (.perr t .plain)) = [s, t] ∧
      allNodes perrNode (.perr s (.perr t .plain)) = false := by
  refine ⟨?_, rfl, rfl⟩
  simp [leaves, flat, spansOf]

/-- without clause N: a bare `notFoundError` IS not-found for `isNotFound`, but the hook reports a leaf
    without the flag (it looks through the `Unwrap`) — no parser production builds one -/
theorem bareNF_cx :
    errorsAsI ⟨true, true, false⟩ nfType (some (.nf .plain)) = true ∧
      isNF (leaves ⟨true, true, false⟩ (some (.nf .plain))) = false ∧ bareNF (.nf .plain) = true := by
  refine ⟨by decide, by decide, rfl⟩

/-- if `opaqueError` had an `Unwrap() error`, `makeErrorOpaque` would not hide a not-found error: the
    hypothesis `m.opaqueUnwrap = false` of `leaves_goOpaque` / `errorsAs_leaves` is needed -/
theorem opaque_unwrap_cx (s : Span) :
    errorsAsI ⟨true, true, true⟩ nfType (goOpaque (some (.perr s (.nf .plain)))) = true ∧
      leaves ⟨true, true, true⟩ (goOpaque (some (.perr s (.nf .plain)))) ≠
        mkOpaque (leaves ⟨true, true, true⟩ (some (.perr s (.nf .plain)))) := by
  refine ⟨by simp [goOpaque, errorsAsI, errorsAs, dynType, nfType], ?_⟩
  simp [goOpaque, leaves, flat, errorsAs, dynType, nfType, mkOpaque]

/-- `notFoundError.Unwrap` is irrelevant to `isNotFound`: `errors.As` matches the `notFoundError` itself before
    unwrapping it -/
theorem nf_unwrap_irrelevant_as (a b c : Bool) :
    ∀ e : GoErr, errorsAs ⟨a, b, c⟩ nfType e = errorsAs ⟨a, !b, c⟩ nfType e := by
  intro e
  induction e using GoErr.rec (motive_2 := fun es => errorsAsList ⟨a, b, c⟩ nfType es = errorsAsList ⟨a, !b, c⟩ nfType es) with
  | plain => rfl
  | perr s i ih => simp [errorsAs, ih]
  | nf i _ => simp [errorsAs, dynType, nfType]
  | «opaque» i ih => simp [errorsAs, ih]
  | join es ih => simp [errorsAs, ih]
  | wrapW i ih => simp [errorsAs, ih]
  | nil => rfl
  | cons e es ih1 ih2 => simp [errorsAsList, ih1, ih2]

/-- a join inside a join is KEPT by `joinErrors` (only the arguments themselves are flattened): that the built
    values have none is an invariant of the construction, not a normalisation — and the leaves do not care -/
theorem nested_join_kept (m : Methods) :
    goJoin [some (.join [.join [.plain]])] = some (.join [.join [.plain]]) ∧
      allNodes joinNode (.join [.join [.plain]]) = false ∧
      leaves m (goJoin [some (.join [.join [.plain]])]) = leaves m (some (.join [.join [.plain]])) := by
  refine ⟨rfl, rfl, rfl⟩

/-- `joinErrors` does not look under `%w`: the result has a join under an element (clause W excludes it for
    the productions; `Parse` wraps once, at the very end) -/
theorem wrap_inside_cx :
    goJoin [some (.wrapW (.join [.plain, .plain])), some .plain] = some (.join [.wrapW (.join [.plain, .plain]), .plain]) ∧
      allNodes wrapNode (.join [.wrapW (.join [.plain, .plain]), .plain]) = false := ⟨rfl, rfl⟩

end Pql.ErrIR
