/-
Property C02 / C03 / C05 composed — END TO END ON SOURCE BYTES, with the tree side conditions discharged.

For every source text that `parse` reads without error as one query `t` and `compile` (no parameters) turns
into the SQL text `sql`: `sql`, read back by the reference reader and evaluated by the reference evaluator, is
`Rel.interp src db t` on every rectangular database — under the three decidable conditions `k4Free` (known
finding K4), `namesOk` (known finding K3, name capture), `tabOpsOk` (aggregates outside `summarize`: the domain
of the relational reading).  NO other condition on the tree: `C05.tabularOK` (lexOK / shapeOK / translatable /
non-empty lists) is proved of every parsed tree (Props/C05Parsed.lean).

Without `normStatement`: (T) the token list of every compiled program contains no `!=` symbol (the writers emit
`<>`; an instance of the fixed-text development of Lemmas/WriteAllExpr.lean, WriteAllStmt.lean, like the `;`
argument; `C02_compiled_no_bang`, Lemmas/E2EFinalNoBang.lean); (P) a statement read by `parseStatement` from
a token list without `!=` symbol has no `!=` operator (the reader commutes with reading `!=` as `<>`;
`C02_parse_noBang`, Lemmas/E2EFinalNoBang.lean).  Hence the statement read back itself evaluates to
`Rel.interp src db t`.

Programs with `let` statements (`t' = substTabular (letsEnv lets []) t`, the query with the lets resolved): the
tokens of the chunks compiled for `lets ++ [query t]` are read by the reference SQL parser as the intended
statement of the program, up to `normS` (`C05_parse_statement_program`, Lemmas/E2EFinalProgram.lean), so the
emitted text read back and evaluated AS READ is `Rel.interp src db t'`, which is `Rel.interpProgram` of the
program.  Side conditions on source bytes: `k4Free`, `envJoinSafe` (no let named `$left` / `$right`, decidable),
`tabNamed` (every extend / summarize column is `name = expr`), and `namesOk` / `tabOpsOk` of the resolved query.
(`TrueFree` — no let named `true` — is needed at tree level only: in a parsed program every `on` list is
non-empty.)

Empty statements: `parse` drops them, so `;T | take 1;;` satisfies `parse src = ([.tabular t], [])` and is
covered by the same theorems (`Ex.exEmpty`).
-/
import PqlModel.Lemmas.E2EFinalChecks
import PqlModel.Base.BytesLemmas
namespace Pql.E2EFinal
open Pql Sql CompileOracle Intended JoinFull Pql.ParsedOK Pql.E2E Pql.RT

/-- **C02 (end to end, source bytes).**  No syntactic side condition on the tree except the three
    decidable ones: `k4Free` (finding K4; needed: `Cex.k4Free_needed`, `ParsedOK.k4Free_needed`),
    `namesOk` (finding K3; needed: `Cex.namesOk_needed`, `E2E.Cex.namesOk_needed`,
    `C03.Cex.C03_needs_namesOk_*`), `tabOpsOk` (needed: `Cex.tabOpsOk_needed`, `E2E.Cex.tabOpsOk_needed`). -/
theorem C02_end_to_end_bytes (src sql : Bytes) (t : Tabular)
    (hp : parse src = ([.tabular t], [])) (hc : compile [] src = .ok sql)
    (hk : k4Free [.tabular t] = true) (hnames : namesOk t = true) (hops : tabOpsOk t = true) :
    ∃ st, readSql sql = some st ∧
      ∀ db, RectDB db → evalStatement db (normStatement st) = Rel.interp src db t := by
  obtain ⟨cs, hcs, rfl⟩ := compile_ok_chunks src sql _ hp hc
  exact E2E.C02_end_to_end_tree src t cs hcs (parsed_tabularOK src _ _ hp hc hk t (by simp)) hnames hops

/-- `C02_end_to_end_bytes` with the intended statement: what is read back is the intended statement up to
    `normS`, and the intended statement evaluates to the same table. -/
theorem C02_end_to_end_bytes_detail (src sql : Bytes) (t : Tabular)
    (hp : parse src = ([.tabular t], [])) (hc : compile [] src = .ok sql)
    (hk : k4Free [.tabular t] = true) (hnames : namesOk t = true) (hops : tabOpsOk t = true) :
    ∃ st want, readSql sql = some st ∧ intended src [.tabular t] = some want ∧ statementEq st want = true ∧
      ∀ db, RectDB db →
        evalStatement db (normStatement st) = Rel.interp src db t ∧
        evalStatement db want = Rel.interp src db t := by
  obtain ⟨cs, hcs, rfl⟩ := compile_ok_chunks src sql _ hp hc
  exact E2E.C02_end_to_end_tree_detail src t cs hcs (parsed_tabularOK src _ _ hp hc hk t (by simp)) hnames hops

/-- **C02 (end to end, tree level), without normalisation.** -/
theorem C02_end_to_end_tree_raw_full (src : Bytes) (t : Tabular) (cs : List Chunk)
    (hc : compileChunks src [] [.tabular t] = .ok cs)
    (hok : C05.tabularOK t = true) (hnames : namesOk t = true) (hops : tabOpsOk t = true) :
    ∃ st, readSql (renderChunks cs) = some st ∧ noBangStatement st = true ∧
      ∀ db, RectDB db → evalStatement db st = Rel.interp src db t := by
  obtain ⟨st, h1, h2⟩ := E2E.C02_end_to_end_tree_raw src t cs hc hok hnames hops
  have hlex : stmtsLexOK [.tabular t] = true := by
    simp only [stmtsLexOK]; exact tabularOK_lexOK t hok
  have hnb := C02_readSql_noBang src _ cs st hlex hc h1
  exact ⟨st, h1, hnb, h2 hnb⟩

/-- **C02 (end to end, source bytes), without normalisation.**  The SQL text `Compile` returns, read back
    by the reference reader and evaluated AS READ by the reference evaluator, is the table the
    specification interpreter assigns to the pipeline, on every rectangular database. -/
theorem C02_end_to_end_bytes_raw (src sql : Bytes) (t : Tabular)
    (hp : parse src = ([.tabular t], [])) (hc : compile [] src = .ok sql)
    (hk : k4Free [.tabular t] = true) (hnames : namesOk t = true) (hops : tabOpsOk t = true) :
    ∃ st, readSql sql = some st ∧ ∀ db, RectDB db → evalStatement db st = Rel.interp src db t := by
  obtain ⟨cs, hcs, rfl⟩ := compile_ok_chunks src sql _ hp hc
  have hok := parsed_tabularOK src _ _ hp hc hk t (by simp)
  obtain ⟨st, h1, _, h2⟩ := C02_end_to_end_tree_raw_full src t cs hcs hok hnames hops
  exact ⟨st, h1, h2⟩

def runBytes (src : Bytes) (db : DB) : Option Table :=
  match compile [] src with
  | .ok sql => (readSql sql).map (evalStatement db)
  | _ => none

def bytesHyps (src : Bytes) : Bool :=
  match parse src, compile [] src with
  | ([.tabular t], []), .ok _ => k4Free [.tabular t] && namesOk t && tabOpsOk t
  | _, _ => false

theorem bytesHyps_iff (src : Bytes) : bytesHyps src = true ↔
    ∃ sql t, parse src = ([.tabular t], []) ∧ compile [] src = .ok sql ∧
      k4Free [.tabular t] = true ∧ namesOk t = true ∧ tabOpsOk t = true := by
  unfold bytesHyps
  constructor
  · intro h
    split at h
    · rename_i t sql hp hc
      simp only [Bool.and_eq_true] at h
      exact ⟨sql, t, hp, hc, h.1.1, h.1.2, h.2⟩
    · cases h
  · rintro ⟨sql, t, hp, hc, h1, h2, h3⟩
    simp only [hp, hc, h1, h2, h3, Bool.and_self]

/-- **C02 (end to end, source bytes), functional form** -/
theorem C02_end_to_end_run (src : Bytes) (h : bytesHyps src = true) :
    ∃ t, parse src = ([.tabular t], []) ∧ ∀ db, RectDB db → runBytes src db = some (Rel.interp src db t) := by
  obtain ⟨sql, t, hp, hc, h1, h2, h3⟩ := (bytesHyps_iff src).1 h
  obtain ⟨st, hr, hev⟩ := C02_end_to_end_bytes_raw src sql t hp hc h1 h2 h3
  refine ⟨t, hp, fun db hdb => ?_⟩
  simp only [runBytes, hc, hr, Option.map_some, hev db hdb]

/-- **C02 (end to end, programs with lets), tree level**: the text emitted for `lets ++ [query t]`, read
    back and evaluated as read (no `normStatement`), is `Rel.interp` of the resolved query, which is
    `Rel.interpProgram` of the program.  (`E2E.C02_end_to_end_program_partial`, Props/C02EndToEnd.lean, reads
    back the text compiled for the resolved query instead.) -/
theorem C02_end_to_end_program (src : Bytes) (lets : List Stmt) (t : Tabular) (cs : List Chunk)
    (hc : compileChunks src [] (lets ++ [.tabular t]) = .ok cs)
    (hl : IsLets lets) (hv : LetValuesOK lets) (hjs : envJoinSafe (letsEnv lets []) = true)
    (hJ : TrueFree (letsEnv lets []) ∨ TabNE t = true) (hN : tabNamed t)
    (hlexP : stmtsLexOK (lets ++ [.tabular t]) = true)
    (hok : C05.tabularOK (substTabular (letsEnv lets []) t) = true)
    (hnames : namesOk (substTabular (letsEnv lets []) t) = true)
    (hops : tabOpsOk (substTabular (letsEnv lets []) t) = true) :
    ∃ st, readSql (renderChunks cs) = some st ∧
      ∀ db, RectDB db →
        evalStatement db st = Rel.interp src db (substTabular (letsEnv lets []) t) ∧
        Rel.interpProgram src db (lets ++ [.tabular t]) =
          some (Rel.interp src db (substTabular (letsEnv lets []) t)) := by
  obtain ⟨st, _, h1, _, _, _, h2⟩ := end_to_end_program src lets t cs hc hl hv hjs hJ hN hlexP hok hnames hops
  exact ⟨st, h1, fun db hdb => ⟨(h2 db hdb).1, (h2 db hdb).2.2⟩⟩

/-- **C02 (end to end, source bytes, programs with lets), with the intended statement.** -/
theorem C02_end_to_end_program_bytes_detail (src sql : Bytes) (lets : List Stmt) (t : Tabular)
    (hp : parse src = (lets ++ [.tabular t], [])) (hc : compile [] src = .ok sql)
    (hk : k4Free (lets ++ [.tabular t]) = true)
    (hl : IsLets lets) (hjs : envJoinSafe (letsEnv lets []) = true) (hN : tabNamed t)
    (hnames : namesOk (substTabular (letsEnv lets []) t) = true)
    (hops : tabOpsOk (substTabular (letsEnv lets []) t) = true) :
    ∃ st want, readSql sql = some st ∧ noBangStatement st = true ∧
      intended src (lets ++ [.tabular t]) = some want ∧ statementEq st want = true ∧
      ∀ db, RectDB db →
        evalStatement db st = Rel.interp src db (substTabular (letsEnv lets []) t) ∧
        evalStatement db want = Rel.interp src db (substTabular (letsEnv lets []) t) ∧
        Rel.interpProgram src db (lets ++ [.tabular t]) =
          some (Rel.interp src db (substTabular (letsEnv lets []) t)) := by
  obtain ⟨cs, hcs, rfl, hv, hne, hlex, hok⟩ := parsed_program src sql lets t hp hc hk hl
  exact end_to_end_program src lets t cs hcs hl hv hjs (Or.inr hne) hN hlex hok hnames hops

/-- **C02 (end to end, source bytes, programs with lets).**  For a source that `parse` reads without
    error as `lets ++ [query t]` and `compile` turns into `sql`: `sql` read back and evaluated as read is
    the meaning of the program on every rectangular database.  No `lexOK` / `shapeOK` / `tabularOK`
    hypothesis. -/
theorem C02_end_to_end_program_bytes (src sql : Bytes) (lets : List Stmt) (t : Tabular)
    (hp : parse src = (lets ++ [.tabular t], [])) (hc : compile [] src = .ok sql)
    (hk : k4Free (lets ++ [.tabular t]) = true)
    (hl : IsLets lets) (hjs : envJoinSafe (letsEnv lets []) = true) (hN : tabNamed t)
    (hnames : namesOk (substTabular (letsEnv lets []) t) = true)
    (hops : tabOpsOk (substTabular (letsEnv lets []) t) = true) :
    ∃ st, readSql sql = some st ∧
      ∀ db, RectDB db →
        evalStatement db st = Rel.interp src db (substTabular (letsEnv lets []) t) ∧
        Rel.interpProgram src db (lets ++ [.tabular t]) =
          some (Rel.interp src db (substTabular (letsEnv lets []) t)) := by
  obtain ⟨st, _, h1, _, _, _, h2⟩ := C02_end_to_end_program_bytes_detail src sql lets t hp hc hk hl hjs hN hnames hops
  exact ⟨st, h1, fun db hdb => ⟨(h2 db hdb).1, (h2 db hdb).2.2⟩⟩

def progHyps (src : Bytes) : Bool :=
  match parse src, compile [] src with
  | (stmts, []), .ok _ =>
    match splitLets stmts with
    | some (lets, t) =>
      k4Free stmts && envJoinSafe (letsEnv lets []) && tabNamedB t &&
        namesOk (substTabular (letsEnv lets []) t) && tabOpsOk (substTabular (letsEnv lets []) t)
    | none => false
  | _, _ => false

/-- **C02 (end to end, source bytes, programs with lets), functional form**: compile, read back,
    evaluate = the meaning of the program -/
theorem C02_end_to_end_program_run (src : Bytes) (h : progHyps src = true) :
    ∀ db, RectDB db → (runBytes src db).isSome = true ∧ runBytes src db = Rel.interpProgram src db (parse src).1 := by
  unfold progHyps at h
  split at h
  · rename_i stmts sql hp hc
    split at h
    · rename_i lets t hs
      obtain ⟨rfl, hl⟩ := splitLets_spec stmts lets t hs
      simp only [Bool.and_eq_true] at h
      obtain ⟨⟨⟨⟨h1, h2⟩, h4⟩, h5⟩, h6⟩ := h
      obtain ⟨st, hr, hev⟩ := C02_end_to_end_program_bytes src sql lets t hp hc h1 hl h2
        (tabNamed_of_B t h4) h5 h6
      intro db hdb
      obtain ⟨ha, hb⟩ := hev db hdb
      simp only [runBytes, hc, hr, Option.map_some, ha, hp, hb, Option.isSome_some, and_self]
    · cases h
  · cases h

namespace Ex
open C03.Ex

def s (x : String) : Bytes := Bytes.ofString x

def exWhere : Bytes := s "T | where a > 10 | sort by a desc | take 2"
def exJoin : Bytes := s
  "T | where a > 1 | extend y = a + 1 | join kind=leftouter (U | project k) on k | summarize n = count() by k | sort by n desc | take 2"
/-- the PQL operator `!=` (written `<>` by the compiler) -/
def exNe : Bytes := s "T | where a != 20 and k != 2 | summarize n = count() by k"
/-- empty statements before and after the query -/
def exEmpty : Bytes := s ";;T | where a > 10 | take 1;;"

set_option maxRecDepth 100000 in
/-- the hypotheses hold of the four texts, and what the emitted SQL evaluates to on `exDB`
    (`ex_hyps`, `ex_computed` below are its parts) -/
theorem ex_eval :
    (bytesHyps exWhere = true ∧ bytesHyps exJoin = true ∧ bytesHyps exNe = true ∧ bytesHyps exEmpty = true) ∧
    (runBytes exWhere C03.Ex.exDB = some ⟨[bs "k", bs "a"], [[.null, .int 30], [.int 2, .int 20]]⟩ ∧
     runBytes exNe C03.Ex.exDB = some ⟨[bs "k", bs "n"], [[.int 1, .int 2]]⟩ ∧
     (runBytes exJoin C03.Ex.exDB).isSome = true) := by
  unfold exWhere exJoin exNe exEmpty s
  iterate 4 rw [Bytes.ofString_ofList]
  decide +kernel

/-- all hypotheses of `C02_end_to_end_bytes` / `C02_end_to_end_bytes_raw` hold of the four texts -/
theorem ex_hyps : bytesHyps exWhere = true ∧ bytesHyps exJoin = true ∧ bytesHyps exNe = true ∧
    bytesHyps exEmpty = true :=
  ex_eval.1

theorem ex_end_to_end : ∀ src ∈ [exWhere, exJoin, exNe, exEmpty],
    ∃ t, parse src = ([.tabular t], []) ∧ ∀ db, RectDB db → runBytes src db = some (Rel.interp src db t) := by
  intro src hs
  apply C02_end_to_end_run
  simp only [List.mem_cons, List.not_mem_nil, or_false] at hs
  rcases hs with rfl | rfl | rfl | rfl
  · exact ex_hyps.1
  · exact ex_hyps.2.1
  · exact ex_hyps.2.2.1
  · exact ex_hyps.2.2.2

/-- one let; two chained lets, one of them used as a projected column and in a `!=` test; a let used inside
    the right-hand side of a join -/
def exLet1 : Bytes := s "let n = 10; T | where a > n | sort by a desc | take 2"
def exLet2 : Bytes := s "let lim = 20; let m = lim; T | where a >= m and k != 2 | project k, a, m | take 1"
def exLet3 : Bytes := s "let k2 = 1; T | join kind=inner (U | where b > k2) on k | summarize c = count() by k = k"

set_option maxRecDepth 100000 in
/-- the same for the three programs -/
theorem exLet_eval :
    (progHyps exLet1 = true ∧ progHyps exLet2 = true ∧ progHyps exLet3 = true) ∧
    (runBytes exLet1 C03.Ex.exDB = some ⟨[bs "k", bs "a"], [[.null, .int 30], [.int 2, .int 20]]⟩ ∧
     Rel.interpProgram exLet1 C03.Ex.exDB (parse exLet1).1 =
       some ⟨[bs "k", bs "a"], [[.null, .int 30], [.int 2, .int 20]]⟩ ∧
     runBytes exLet2 C03.Ex.exDB = Rel.interpProgram exLet2 C03.Ex.exDB (parse exLet2).1 ∧
     runBytes exLet3 C03.Ex.exDB = Rel.interpProgram exLet3 C03.Ex.exDB (parse exLet3).1) := by
  unfold exLet1 exLet2 exLet3 s
  iterate 3 rw [Bytes.ofString_ofList]
  decide +kernel

/-- all hypotheses of `C02_end_to_end_program_bytes` hold of the three programs -/
theorem exLet_hyps : progHyps exLet1 = true ∧ progHyps exLet2 = true ∧ progHyps exLet3 = true :=
  exLet_eval.1

theorem exLet_end_to_end : ∀ src ∈ [exLet1, exLet2, exLet3], ∀ db, RectDB db →
    (runBytes src db).isSome = true ∧ runBytes src db = Rel.interpProgram src db (parse src).1 := by
  intro src hs
  apply C02_end_to_end_program_run
  simp only [List.mem_cons, List.not_mem_nil, or_false] at hs
  rcases hs with rfl | rfl | rfl
  · exact exLet_hyps.1
  · exact exLet_hyps.2.1
  · exact exLet_hyps.2.2

theorem exLet_computed :
    runBytes exLet1 C03.Ex.exDB = some ⟨[bs "k", bs "a"], [[.null, .int 30], [.int 2, .int 20]]⟩ ∧
    Rel.interpProgram exLet1 C03.Ex.exDB (parse exLet1).1 =
      some ⟨[bs "k", bs "a"], [[.null, .int 30], [.int 2, .int 20]]⟩ ∧
    runBytes exLet2 C03.Ex.exDB = Rel.interpProgram exLet2 C03.Ex.exDB (parse exLet2).1 ∧
    runBytes exLet3 C03.Ex.exDB = Rel.interpProgram exLet3 C03.Ex.exDB (parse exLet3).1 :=
  exLet_eval.2

/-- cross-check by evaluation on the database `C03.Ex.exDB` (T(k, a), U(k, b)): both sides computed -/
theorem ex_computed :
    runBytes exWhere C03.Ex.exDB = some ⟨[bs "k", bs "a"], [[.null, .int 30], [.int 2, .int 20]]⟩ ∧
    runBytes exNe C03.Ex.exDB = some ⟨[bs "k", bs "n"], [[.int 1, .int 2]]⟩ ∧
    (runBytes exJoin C03.Ex.exDB).isSome = true :=
  ex_eval.2

end Ex

namespace Cex
open C03.Ex Ex

/-- `(k4Free, namesOk, tabOpsOk)` of a source that parses as one query and compiles; `none` otherwise -/
def others (src : Bytes) : Option (Bool × Bool × Bool) :=
  match parse src, compile [] src with
  | ([.tabular t], []), .ok _ => some (k4Free [.tabular t], namesOk t, tabOpsOk t)
  | _, _ => none

def treeOf (src : Bytes) : Tabular :=
  match parse src with
  | ([.tabular t], _) => t
  | _ => .nil

def runNorm (src : Bytes) (db : DB) : Option Table :=
  match compile [] src with
  | .ok sql => (readSql sql).map fun st => evalStatement db (normStatement st)
  | _ => none

/-- `T | extend z = In(a)` (finding K4): the emitted `SELECT *, In("a") AS "z" FROM "T";` is not read -/
def k4Src : Bytes := s "T | extend z = In(a)"

theorem k4Free_needed : others k4Src = some (false, true, true) ∧ runBytes k4Src C03.Ex.exDB = none ∧
    runNorm k4Src C03.Ex.exDB = none := by
  decide +kernel

/-- `T | as U | join (U) on k` (finding K3): the CTE named `U` captures the table `U` -/
def namesSrc : Bytes := s "T | as U | join (U) on k"

set_option maxRecDepth 100000 in
theorem namesOk_needed : others namesSrc = some (true, false, true) ∧ RectDB C03.Ex.exDB ∧
    (runBytes namesSrc C03.Ex.exDB).isSome = true ∧
    runBytes namesSrc C03.Ex.exDB ≠ some (Rel.interp namesSrc C03.Ex.exDB (treeOf namesSrc)) ∧
    runNorm namesSrc C03.Ex.exDB ≠ some (Rel.interp namesSrc C03.Ex.exDB (treeOf namesSrc)) := by
  decide +kernel

/-- `T | project c = count()`: SQL aggregates (one row), the pipeline reading does not -/
def opsSrc : Bytes := s "T | project c = count()"

set_option maxRecDepth 100000 in
theorem tabOpsOk_needed : others opsSrc = some (true, true, false) ∧
    runBytes opsSrc C03.Ex.exDB = some ⟨[bs "c"], [[.int 4]]⟩ ∧
    Rel.interp opsSrc C03.Ex.exDB (treeOf opsSrc) = ⟨[bs "c"], [[.int 0], [.int 0], [.int 0], [.int 0]]⟩ := by
  decide +kernel

/-- the hypotheses (K4-free, `envJoinSafe`, `tabNamedB`, `namesOk`, `tabOpsOk`) of a program -/
def progOthers (src : Bytes) : Option (Bool × Bool × Bool × Bool × Bool) :=
  match parse src, compile [] src with
  | (stmts, []), .ok _ =>
    (splitLets stmts).map fun (lets, t) =>
      (k4Free stmts, envJoinSafe (letsEnv lets []), tabNamedB t,
        namesOk (substTabular (letsEnv lets []) t), tabOpsOk (substTabular (letsEnv lets []) t))
  | _, _ => none

def readsIntended (src : Bytes) : Option Bool :=
  match compile [] src with
  | .ok sql =>
    match readSql sql, intended src (parse src).1 with
    | some st, some want => some (statementEq st want)
    | _, _ => none
  | _ => none

def resolvedOf (src : Bytes) : Tabular := (resolveLets (parse src).1 []).getD .nil

/-- `let $left = 1; T | join (U) on $left == $right.b`: the let captures the join alias -/
def joinSrc : Bytes := s "let $left = 1; T | join (U) on $left == $right.b"

/-- **`envJoinSafe` is needed** for "read as the intended statement" (`C02_end_to_end_program_bytes_detail`):
    the emitted `… ON 1 = "$right"."b"` is not the intended `… ON coalesce(1 = "$right"."b", FALSE)`.
    (On this example the two evaluate alike — an `ON` condition that is NULL or FALSE drops the pair; under a
    `not` they do not: `E2EMore.Cex.envJoinSafe_needed_eval`, Props/C02ProgramNames.lean.  Expression level:
    `C06.C06_join_name_counterexample`.) -/
theorem envJoinSafe_needed :
    progOthers joinSrc = some (true, false, true, true, true) ∧ readsIntended joinSrc = some false := by
  decide +kernel

/-- `let n = 1; T | extend a + n`: the column is called `a + n` (source text of the program), the
    resolved program has no such text -/
def unnamedSrc : Bytes := s "let n = 1; T | extend a + n"

set_option maxRecDepth 100000 in
/-- **`tabNamed` is needed** for the formulation with `Rel.interp` of the RESOLVED query: the SQL names the
    column `a + n`, `Rel.interp` of the resolved query does not.  (Against `Rel.interpProgram`, which names the
    columns before resolving, the emitted SQL is right on this example: the hypothesis is a limitation of
    the formulation through `resolveLets`, shared with the oracle, which skips these programs.) -/
theorem tabNamed_needed :
    progOthers unnamedSrc = some (true, true, false, true, true) ∧
    (runBytes unnamedSrc C03.Ex.exDB).isSome = true ∧
    runBytes unnamedSrc C03.Ex.exDB ≠ some (Rel.interp unnamedSrc C03.Ex.exDB (resolvedOf unnamedSrc)) ∧
    runBytes unnamedSrc C03.Ex.exDB = Rel.interpProgram unnamedSrc C03.Ex.exDB (parse unnamedSrc).1 := by
  decide +kernel

/-- `let true = 0;` and the TREE `T | join (U)` with an EMPTY condition list (the parser never builds one:
    `on` needs at least one condition) -/
def tfLets : List Stmt := [.let_ .zero (some ⟨Bytes.ofString "true", .zero, false⟩) .zero (.lit .zero .number [48])]
def tfQ : Tabular :=
  .mk (some ⟨Bytes.ofString "T", .zero, false⟩)
    (.cons (.join .zero .zero .zero .zero none .zero (.mk (some ⟨Bytes.ofString "U", .zero, false⟩) .nil) .zero .zero .nil) .nil)

set_option maxRecDepth 100000 in
/-- **`TrueFree` is needed** (tree level): the condition the compiler makes up for a join without conditions
    is the NAME `true`, which the let captures — the emitted text ends in `ON 0`, the resolved query joins
    `ON TRUE`.  The other hypotheses of `C02_end_to_end_program` are among the conjuncts, except `IsLets` and
    `LetValuesOK`, which hold too (one let, binding the literal `0`).  (For parsed programs every `on` list is
    non-empty — `TabNE` —, which is why `C02_end_to_end_program_bytes` does not need the hypothesis.) -/
theorem trueFree_needed :
    trueFreeB (letsEnv tfLets []) = false ∧ TabNE tfQ = false ∧ envJoinSafe (letsEnv tfLets []) = true ∧ tabNamedB tfQ = true ∧
    stmtsLexOK (tfLets ++ [Stmt.tabular tfQ]) = true ∧
    C05.tabularOK (substTabular (letsEnv tfLets []) tfQ) = true ∧
    namesOk (substTabular (letsEnv tfLets []) tfQ) = true ∧ tabOpsOk (substTabular (letsEnv tfLets []) tfQ) = true ∧
    (match compileChunks [] [] (tfLets ++ [Stmt.tabular tfQ]) with
     | .ok cs => (readSql (renderChunks cs)).map fun st =>
         decide (evalStatement C03.Ex.exDB st = Rel.interp [] C03.Ex.exDB (substTabular (letsEnv tfLets []) tfQ))
     | _ => none) = some false := by
  decide +kernel

end Cex

end Pql.E2EFinal
