/-
Property C07, the two translated levels of parser/parser.go put together.

The operator/statement level (`Pql.OpIR`, Props/C07OperatorIR*.lean) interprets the regenerated bodies of
`Parse`, `tabularExpr`, the operator methods … with the expression productions `expr`, `exprList`, `ident`
as PRIMITIVES whose meaning `OpIR.calleeAt` takes from the model (`pExpr`, `pExprList`, `pIdent`).
The expression level (`Pql.ExprParseIR`, Props/C07ExprIR.lean) interprets the regenerated bodies of exactly
those productions.  This file states the composition: the meaning `calleeAt` gives to a call of `expr` /
`exprList` / `ident` IS the interpretation of the regenerated unit (down to `next`/`prev`), whenever the
call has the fuel under which the model's own fuel suffices (`4 * tokens + rank`); under that hypothesis the
primitive callees of the operator level can be read as "run the translated Go body of the callee".  The
hypothesis is discharged for the fuel `Parse` supplies for a statement, `fuelFor n` itself (`…_entry`; every
expression of the statement has at most `n` tokens), which is what `letStatement` hands on to `expr`.  An
operator method calls `expr` with less (one unit per level and per operator in front of it); no theorem
follows the fuel from `Parse` down to those calls.
-/
import PqlModel.Props.C07ExprIR
import PqlModel.Props.C07OperatorIR
namespace Pql.ParserIR
open Pql

def toOpVal : ExprParseIR.Val → Option OpIR.Val
  | .expr e => some (.expr e)
  | .exprs l => some (.exprs l)
  | .ident i => some (.ident i)
  | .err e => some (.errs e)
  | _ => none

def toOpVals : List ExprParseIR.Val → Option (List OpIR.Val)
  | [] => some []
  | v :: vs => (toOpVal v).bind fun x => (toOpVals vs).map (x :: ·)

def ofRun : ExprParseIR.Out (List ExprParseIR.Val × ExprParseIR.PState) → Option (List OpIR.Val × List Token)
  | .ok (vs, p) => (toOpVals vs).map fun ws => (ws, p.rest)
  | _ => none

theorem C07_callee_expr_is_unit (c : ExprParseIR.ICtx) (fuel : Nat) (ts : List Token) (sk : Option TokKind)
    (h : 4 * ts.length + 4 ≤ fuel) :
    OpIR.calleeAt c.pctx fuel "expr" [] ts = ofRun (ExprParseIR.runUnit c fuel "expr" [] ⟨ts, none, sk⟩) := by
  rw [ExprParseIR.C07_expr_ir_exact c fuel ts sk h]
  rfl

theorem C07_callee_exprList_is_unit (c : ExprParseIR.ICtx) (fuel : Nat) (ts : List Token) (sk : Option TokKind)
    (h : 4 * ts.length + 5 ≤ fuel) :
    OpIR.calleeAt c.pctx fuel "exprList" [] ts = ofRun (ExprParseIR.runUnit c fuel "exprList" [] ⟨ts, none, sk⟩) := by
  rw [ExprParseIR.C07_exprList_ir_exact c fuel ts sk h]
  rfl

theorem C07_callee_ident_is_unit (c : ExprParseIR.ICtx) (fuel : Nat) (ts : List Token) (sk : Option TokKind) :
    OpIR.calleeAt c.pctx fuel "ident" [] ts = ofRun (ExprParseIR.runIdent c ⟨ts, none, sk⟩) := by
  rw [ExprParseIR.C07_ident_ir c ⟨ts, none, sk⟩]
  rfl

theorem C07_callee_expr_is_unit_entry (c : ExprParseIR.ICtx) (n : Nat) (ts : List Token) (sk : Option TokKind)
    (hn : ts.length ≤ n) :
    OpIR.calleeAt c.pctx (fuelFor n) "expr" [] ts =
      ofRun (ExprParseIR.runUnit c (fuelFor n) "expr" [] ⟨ts, none, sk⟩) :=
  C07_callee_expr_is_unit c (fuelFor n) ts sk (by unfold fuelFor; omega)

/-- the fuel hypothesis is needed: without fuel the unit answers `Out.fuel`, which means nothing to the
    operator level, while the primitive still answers (with the model's fuel leaf) -/
theorem C07_callee_expr_is_unit_needs_fuel (c : ExprParseIR.ICtx) (ts : List Token) (sk : Option TokKind) :
    ofRun (ExprParseIR.runUnit c 0 "expr" [] ⟨ts, none, sk⟩) = none ∧
    (OpIR.calleeAt c.pctx 0 "expr" [] ts).isSome = true := by
  constructor
  · rw [ExprParseIR.runUnit_zero]; rfl
  · rfl

end Pql.ParserIR
