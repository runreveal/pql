/-
Property C13 (and C01) — the user-facing arity table of the built-in functions.

`Glue.arityOK name n` (`Lemmas/GlueArity.lean`) is the documented table, written independently of the compiler:
  not, isnull, isnotnull, tolower, toupper, countif : exactly 1 argument
  now, count                                         : no argument
  iff, iif                                           : exactly 3 arguments
  strcat                                             : at least 1 argument
  any other name                                     : any number (passed through to SQL).

For ALL n, all names, parameters and source texts, `T | where name(a, …, a)` (and the same under `summarize`) compiles
iff `arityOK name n`; otherwise it is a compile error, never a panic.  At tree level there is no hypothesis; at SOURCE
level (`Compile` on the bytes `srcCall name n`) the name must be scanned as one plain identifier (`identName name`;
counterexample `C13_source_needs_ident`: `in`).  There is no "aggregates only under summarize" rule in the compiler
(`C13_aggregate_in_where`).
-/
import PqlModel.Lemmas.GlueArityParse
namespace Pql.Glue
open Pql Pql.Exact

/-- **C13/C01 (built-in arities), tree level.**  For every name, every number `n` of column
    arguments, every parameter list and every source text (only used for slicing, irrelevant here):
    `T | where name(a, …, a)` compiles exactly when `n` is a documented arity of `name`, is rejected
    with a compile error exactly when it is not, and never panics. -/
theorem C13_builtin_arity (src : Bytes) (params : List (Bytes × Bytes)) (name : Bytes) (n : Nat) :
    ((∃ cs, compileChunks src params (whereCall name n) = .ok cs) ↔ arityOK name n) ∧
    (compileChunks src params (whereCall name n) = .error .err ↔ ¬ arityOK name n) ∧
    compileChunks src params (whereCall name n) ≠ .error .panic := by
  have h := C13.C13_exact src params (whereCall name n) (whereCall_wf name n) (whereCall_spans src name n)
  rw [whereCall_misuse] at h
  refine ⟨h.1.trans (wrongArity_iff name n), h.2.1.trans ?_, h.2.2⟩
  rw [← wrongArity_iff]
  cases Misuse.wrongArity name n <;> simp

/-- the same under `summarize` (where the aggregates `count`, `countif` belong) -/
theorem C13_builtin_arity_summarize (src : Bytes) (params : List (Bytes × Bytes)) (name : Bytes) (n : Nat) :
    ((∃ cs, compileChunks src params (summarizeCall name n) = .ok cs) ↔ arityOK name n) ∧
    (compileChunks src params (summarizeCall name n) = .error .err ↔ ¬ arityOK name n) ∧
    compileChunks src params (summarizeCall name n) ≠ .error .panic := by
  have h := C13.C13_exact src params (summarizeCall name n) (summarizeCall_wf name n)
    (summarizeCall_spans src name n)
  rw [summarizeCall_misuse] at h
  refine ⟨h.1.trans (wrongArity_iff name n), h.2.1.trans ?_, h.2.2⟩
  rw [← wrongArity_iff]
  cases Misuse.wrongArity name n <;> simp

theorem arityOK_unary {name : Bytes} (h : name ∈ unaryBuiltins) (n : Nat) : arityOK name n ↔ n = 1 := by
  have : unaryBuiltins.contains name = true := by simpa using h
  simp only [arityOK, this, if_true]

theorem arityOK_table (n : Nat) :
    (arityOK (B "not") n ↔ n = 1) ∧ (arityOK (B "isnull") n ↔ n = 1) ∧ (arityOK (B "isnotnull") n ↔ n = 1) ∧
    (arityOK (B "tolower") n ↔ n = 1) ∧ (arityOK (B "toupper") n ↔ n = 1) ∧ (arityOK (B "countif") n ↔ n = 1) ∧
    (arityOK (B "now") n ↔ n = 0) ∧ (arityOK (B "count") n ↔ n = 0) ∧
    (arityOK (B "iff") n ↔ n = 3) ∧ (arityOK (B "iif") n ↔ n = 3) ∧
    (arityOK (B "strcat") n ↔ 1 ≤ n) := by
  refine ⟨?_, ?_, ?_, ?_, ?_, ?_, ?_, ?_, ?_, ?_, ?_⟩ <;>
    simp +decide [arityOK]

theorem arityOK_other {name : Bytes} (h : name ∉ builtins) (n : Nat) : arityOK name n := by
  simp only [builtins, List.mem_append, not_or] at h
  simp [arityOK, h]

/-- **C13/C01 (built-in arities), the eleven rows.** -/
theorem C13_builtin_arity_table (src : Bytes) (params : List (Bytes × Bytes)) (n : Nat) :
    let ok := fun (f : String) => ∃ cs, compileChunks src params (whereCall (B f) n) = .ok cs
    (ok "not" ↔ n = 1) ∧ (ok "isnull" ↔ n = 1) ∧ (ok "isnotnull" ↔ n = 1) ∧ (ok "tolower" ↔ n = 1) ∧
    (ok "toupper" ↔ n = 1) ∧ (ok "countif" ↔ n = 1) ∧ (ok "now" ↔ n = 0) ∧ (ok "count" ↔ n = 0) ∧
    (ok "iff" ↔ n = 3) ∧ (ok "iif" ↔ n = 3) ∧ (ok "strcat" ↔ 1 ≤ n) := by
  intro ok
  have t := arityOK_table n
  have c := fun f => (C13_builtin_arity src params (B f) n).1
  exact ⟨(c _).trans t.1, (c _).trans t.2.1, (c _).trans t.2.2.1, (c _).trans t.2.2.2.1,
    (c _).trans t.2.2.2.2.1, (c _).trans t.2.2.2.2.2.1, (c _).trans t.2.2.2.2.2.2.1,
    (c _).trans t.2.2.2.2.2.2.2.1, (c _).trans t.2.2.2.2.2.2.2.2.1, (c _).trans t.2.2.2.2.2.2.2.2.2.1,
    (c _).trans t.2.2.2.2.2.2.2.2.2.2⟩

/-- **C13/C01 (pass-through functions).**  A function the compiler does not know is written
    through to SQL with any number of arguments. -/
theorem C13_passthrough_arity (src : Bytes) (params : List (Bytes × Bytes)) (name : Bytes)
    (h : name ∉ builtins) (n : Nat) :
    ∃ cs, compileChunks src params (whereCall name n) = .ok cs :=
  (C13_builtin_arity src params name n).1.2 (arityOK_other h n)

/-- the hypothesis of `C13_passthrough_arity` is needed: `strcat()` is rejected -/
theorem C13_passthrough_needs_unknown :
    B "strcat" ∈ builtins ∧ ¬ ∃ cs, compileChunks [] [] (whereCall (B "strcat") 0) = .ok cs := by
  refine ⟨by decide, fun h => ?_⟩
  have := (C13_builtin_arity [] [] (B "strcat") 0).1.1 h
  exact absurd this (by decide)

/-- non-vacuity: `foo` is not a built-in -/
example : B "foo" ∉ builtins := by decide
example : ∃ cs, compileChunks [] [] (whereCall (B "foo") 7) = .ok cs :=
  C13_passthrough_arity [] [] (B "foo") (by decide) 7

/-- Aggregates are not confined to `summarize`: `T | where count()` and
    `T | where countif(a)` compile (to `… WHERE count()` / `… WHERE count() FILTER (WHERE "a")`). -/
theorem C13_aggregate_in_where (src : Bytes) (params : List (Bytes × Bytes)) :
    (∃ cs, compileChunks src params (whereCall (B "count") 0) = .ok cs) ∧
    (∃ cs, compileChunks src params (whereCall (B "countif") 1) = .ok cs) :=
  ⟨(C13_builtin_arity src params _ 0).1.2 (by decide), (C13_builtin_arity src params _ 1).1.2 (by decide)⟩

/-- what the compiler writes for them -/
theorem C13_aggregate_in_where_sql :
    (compileChunks [] [] (whereCall (B "count") 0)).toOption.map renderChunks =
      some (B "SELECT * FROM \"T\" WHERE count();") ∧
    (compileChunks [] [] (whereCall (B "countif") 1)).toOption.map renderChunks =
      some (B "SELECT * FROM \"T\" WHERE count() FILTER (WHERE \"a\");") := by
  decide

/-! ### the regenerated tables of the compiler against `arityOK` (all n)

`C13.C13_arity_agrees` compares the regenerated guards with `Misuse.wrongArity`; here the
comparison is with the independent `arityOK`, for every n. -/

/-- **C13 (arity guards, every count).**  For every row of the regenerated `knownFunctions` table
    and EVERY argument count, the regenerated arity guard of its writer lets the call through
    exactly when the count is the documented one. -/
theorem C13_arity_guards_agree : ∀ row ∈ Facts.knownFunctions, ∀ n : Nat,
    (arityRejects row.2.1 n = false ↔ arityOK (Bytes.ofString row.1) n) := by
  intro row hrow n
  rw [arity_agrees_all row hrow n]
  exact wrongArity_iff _ n

/-- the names the compiler knows are exactly the names of `arityOK`'s table (`builtins`) -/
theorem C13_known_functions_are_builtins (name : Bytes) : knownFunction name = none ↔ name ∉ builtins := by
  simp only [knownFunction, Option.map_eq_none_iff, List.find?_eq_none, Facts.knownFunctions, builtins,
    unaryBuiltins, nullaryBuiltins, ternaryBuiltins, variadicBuiltins, B]
  simp only [List.mem_cons, List.not_mem_nil, or_false, forall_eq_or_imp, forall_eq, List.mem_append,
    beq_iff_eq, not_or, eq_comm (a := name)]
  constructor
  · rintro ⟨h1, h2, h3, h4, h5, h6, h7, h8, h9, h10, h11⟩
    exact ⟨⟨⟨⟨h7, h6, h5, h10, h11, h2⟩, h8, h1⟩, h3, h4⟩, h9⟩
  · rintro ⟨⟨⟨⟨h7, h6, h5, h10, h11, h2⟩, h8, h1⟩, h3, h4⟩, h9⟩
    exact ⟨h1, h2, h3, h4, h5, h6, h7, h8, h9, h10, h11⟩

/-- the bytes really are `T | where name(a, a, …, a)` -/
example : srcCall (B "now") 0 = B "T | where now()" := by decide
example : srcCall (B "not") 1 = B "T | where not(a)" := by decide
example : srcCall (B "iff") 3 = B "T | where iff(a, a, a)" := by decide
example : srcCall (B "strcat") 5 = B "T | where strcat(a, a, a, a, a)" := by decide

/-- **C13/C01 (built-in arities), source level.**  For every identifier `name`, every number `n`
    of arguments and every parameter map: `Compile` on the source text
    `T | where name(a, a, …, a)` returns SQL exactly when `n` is a documented arity of `name`,
    returns an error exactly when it is not, and never panics. -/
theorem C13_builtin_arity_source (params : List (Bytes × Bytes)) (name : Bytes) (n : Nat)
    (hn : identName name = true) :
    ((∃ sql, compile params (srcCall name n) = .ok sql) ↔ arityOK name n) ∧
    (compile params (srcCall name n) = .error ↔ ¬ arityOK name n) ∧
    compile params (srcCall name n) ≠ .panic := by
  have h := C13.C13_exact_source params (srcCall name n)
  rw [parse_srcCall name n hn] at h
  simp only [stmtAt_misuse, ne_eq, not_true_eq_false, false_or, true_and] at h
  refine ⟨h.2.1.trans (wrongArity_iff name n), h.1.trans ?_, h.2.2⟩
  rw [← wrongArity_iff]
  cases Misuse.wrongArity name n <;> simp

/-- what `Parse` returns on the family: one statement, no error (all n) -/
theorem C13_builtin_arity_parse (name : Bytes) (n : Nat) (hn : identName name = true) :
    parse (srcCall name n) = ([stmtAt name n], []) := parse_srcCall name n hn

/-- every built-in name is an identifier (non-vacuity of `identName` on the whole table), and so
    is `foo` -/
theorem builtins_identName : ∀ name ∈ builtins, identName name = true := by decide
example : identName (B "foo") = true := by decide

/-- **C13/C01 (built-in arities), source level, the eleven rows.** -/
theorem C13_builtin_arity_source_table (params : List (Bytes × Bytes)) (n : Nat) :
    let ok := fun (f : String) => ∃ sql, compile params (srcCall (B f) n) = .ok sql
    (ok "not" ↔ n = 1) ∧ (ok "isnull" ↔ n = 1) ∧ (ok "isnotnull" ↔ n = 1) ∧ (ok "tolower" ↔ n = 1) ∧
    (ok "toupper" ↔ n = 1) ∧ (ok "countif" ↔ n = 1) ∧ (ok "now" ↔ n = 0) ∧ (ok "count" ↔ n = 0) ∧
    (ok "iff" ↔ n = 3) ∧ (ok "iif" ↔ n = 3) ∧ (ok "strcat" ↔ 1 ≤ n) := by
  intro ok
  have t := arityOK_table n
  have c := fun (f : String) (hf : identName (B f) = true) => (C13_builtin_arity_source params (B f) n hf).1
  exact ⟨(c _ (by decide)).trans t.1, (c _ (by decide)).trans t.2.1, (c _ (by decide)).trans t.2.2.1,
    (c _ (by decide)).trans t.2.2.2.1, (c _ (by decide)).trans t.2.2.2.2.1,
    (c _ (by decide)).trans t.2.2.2.2.2.1, (c _ (by decide)).trans t.2.2.2.2.2.2.1,
    (c _ (by decide)).trans t.2.2.2.2.2.2.2.1, (c _ (by decide)).trans t.2.2.2.2.2.2.2.2.1,
    (c _ (by decide)).trans t.2.2.2.2.2.2.2.2.2.1, (c _ (by decide)).trans t.2.2.2.2.2.2.2.2.2.2⟩

/-- **C13/C01 (pass-through functions), source level.** -/
theorem C13_passthrough_arity_source (params : List (Bytes × Bytes)) (name : Bytes)
    (hn : identName name = true) (h : name ∉ builtins) (n : Nat) :
    ∃ sql, compile params (srcCall name n) = .ok sql :=
  (C13_builtin_arity_source params name n hn).1.2 (arityOK_other h n)

/-- the hypothesis `identName` is needed: `in` is a keyword, `T | where in(a)` does not parse,
    although `in` is not a built-in (so every arity would be "documented") -/
theorem C13_source_needs_ident :
    identName (B "in") = false ∧ arityOK (B "in") 1 ∧ compile [] (srcCall (B "in") 1) = .error := by
  refine ⟨by decide, by decide, ?_⟩
  have h := (C13.C13_exact_source [] (srcCall (B "in") 1)).1
  exact h.2 (Or.inl (by decide +kernel))

end Pql.Glue
