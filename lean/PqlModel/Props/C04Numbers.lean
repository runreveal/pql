/-
Property C04, numbers end to end.

"Each such SQL token decodes … to exactly the value written in PQL (… numbers to the same numeric
value whether written in decimal, hexadecimal, with leading zeros, leading dot or exponent)".

Composed from: `scan_number_shape` (a number token and its source text are related by `IsNumber`),
`IsNumber.value` (what stands behind `C09_number_value`: the token's decimal spelling has the value of the
source lexeme), `IsNumber.numOK` (the spelling is one SQL number token), the writer emits a number literal
verbatim (`writeExpr`, `.lit` case: chunk `.num v`).
The composition is for every number token of `scan src`, with an SQL-side value
`Glue.sqlNumValue` (Lemmas/GlueNum.lean) defined independently of `C09.decValue`.
-/
import PqlModel.Lemmas.GlueNum
import PqlModel.Lemmas.LexReach
import PqlModel.Lemmas.GlueAcc
import PqlModel.Props.C05Parsed
namespace Pql.Glue
open Pql Sql ParsedOK

/-- **C04, numbers end to end (token level).**  For every source `src` (any bytes) and every
    number token `t` of `scan src`:
    * the SQL lexer reads the token's value — the text the compiler emits for the literal — as
      exactly one number token with that very text;
    * the value of that SQL token (`sqlNumValue`: mantissa digits / 10^(fraction digits) ·
      10^exponent, exact rational) equals the value of the source lexeme
      `src[t.start, t.stop)` under `C09.spellingValue` (decimal, hexadecimal `0x…`, leading zeros,
      leading dot, trailing dot, exponent). -/
theorem C04_number_token_roundtrip (src : Bytes) (t : Token) (ht : t ∈ scan src)
    (hk : t.kind = .number) :
    Sql.lex .standard t.value = some [.num t.value] ∧
    ∃ q : Rat, sqlNumValue t.value = some q ∧
      C09.spellingValue (src.extract t.start t.stop) = some q := by
  have hn := scan_number_shape src t ht hk
  obtain ⟨q, hq1, hq2⟩ := hn.value
  exact ⟨by simpa [numOK] using hn.numOK, q, by rw [sqlNumValue_eq_of_numOK _ hn.numOK]; exact hq2, hq1⟩

/-! ### tree level: every number literal of an error-free parse -/

/-- the writer emits a number literal's value verbatim, as one `.num` chunk (whose bytes are the
    value), in every context -/
theorem writeExpr_number_lit (ctx : Ctx) (sp : Span) (v : Bytes) :
    writeExpr ctx (.lit sp .number v) = .ok [.num v] ∧ renderChunks [.num v] = v := by
  simp [writeExpr, renderChunks, Chunk.bytes]

/-- what C04 asks of a number literal node `BasicLit{Span: sp, Kind: number, Value: v}` of a tree
    parsed from `src`: its span is a non-empty range of the source; the SQL lexer reads the text
    the compiler emits for it (`v`, verbatim) as exactly one number token; and the value of that
    token is the value of the source text `src[sp.start, sp.stop)` as a PQL number spelling. -/
def NumLitOK (src : Bytes) (sp : Span) (v : Bytes) : Prop :=
  (0 ≤ sp.start ∧ sp.start < sp.stop ∧ sp.stop ≤ (src.length : Int)) ∧
  Sql.lex .standard v = some [.num v] ∧
  ∃ q : Rat, sqlNumValue v = some q ∧
    C09.spellingValue (src.extract sp.start.toNat sp.stop.toNat) = some q

/-- every number literal below `e`, at any depth, is `NumLitOK` -/
def NumLitsOK (src : Bytes) (e : Expr) : Prop :=
  ∀ d, Expr.Sub d e → ∀ sp v, d = .lit sp .number v → NumLitOK src sp v

theorem numLitsOK_of_seg (src : Bytes) (e : Expr) (h : ESeg (scan src) e) : NumLitsOK src e := by
  intro d hd sp v hlit
  subst hlit
  obtain ⟨t, ht, hsp, hk, hv⟩ := (h.sub hd).lit
  have hv' := hv (by decide)
  obtain ⟨h1, q, h2, h3⟩ := C04_number_token_roundtrip src t ht hk
  have hb := mem_scan_bounds src t ht
  subst hsp
  simp only [Token.span]
  rw [← hv']
  refine ⟨⟨?_, ?_, ?_⟩, h1, q, h2, ?_⟩
  · dsimp only; omega
  · dsimp only; omega
  · dsimp only; omega
  · simpa using h3

/-- **C04, numbers end to end (tree level).**  If `parse src` reports no error, then every
    number literal node of the program — at any depth below any operator argument, column
    expression, sort term, join condition (at any join depth) or `let` value — satisfies
    `NumLitOK`: the text the compiler writes for it is one SQL number token whose value is the
    value of the source text at the node's span. -/
theorem C04_number_literal_roundtrip (src : Bytes) (stmts : List Stmt)
    (h : parse src = (stmts, [])) :
    ∀ s ∈ stmts, StmtAll (NumLitsOK src) (fun l => ∀ e ∈ l.toList, NumLitsOK src e) s := by
  intro s hs
  refine ParsedOK.StmtAll.imp ?_ ?_ s (parsed_segs src stmts h s hs)
  · exact numLitsOK_of_seg src
  · intro l hl e he
    exact numLitsOK_of_seg src e (hl.mem e he)

/-! ### non-vacuity: the six spellings of the property text -/

private abbrev B := Bytes.ofString

/-- what the scanner makes of `0x1F`, `007`, `.5`, `1e3`, `2.5E-3`, `0e0` (and of a number inside
    a longer source): one number token each, spanning the whole lexeme, with a normalised value -/
theorem ex_number_tokens :
    scan (B "0x1F") = [⟨.number, 0, 4, B "31"⟩] ∧
    scan (B "007") = [⟨.number, 0, 3, B "7"⟩] ∧
    scan (B ".5") = [⟨.number, 0, 2, B "0.5"⟩] ∧
    scan (B "1e3") = [⟨.number, 0, 3, B "1e3"⟩] ∧
    scan (B "2.5E-3") = [⟨.number, 0, 6, B "2.5E-3"⟩] ∧
    scan (B "0e0") = [⟨.number, 0, 3, B "0e0"⟩] ∧
    scan (B "x > 0x1F") = [⟨.ident, 0, 1, B "x"⟩, ⟨.gt, 2, 3, []⟩, ⟨.number, 4, 8, B "31"⟩] := by
  decide +kernel

/-- both sides of the round trip, evaluated: SQL-side value of the emitted text = value of the
    source spelling -/
theorem ex_number_values :
    (sqlNumValue (B "31") = some 31 ∧ C09.spellingValue (B "0x1F") = some 31) ∧
    (sqlNumValue (B "7") = some 7 ∧ C09.spellingValue (B "007") = some 7) ∧
    (sqlNumValue (B "0.5") = some (1 / 2) ∧ C09.spellingValue (B ".5") = some (1 / 2)) ∧
    (sqlNumValue (B "1e3") = some 1000 ∧ C09.spellingValue (B "1e3") = some 1000) ∧
    (sqlNumValue (B "2.5E-3") = some (1 / 400) ∧ C09.spellingValue (B "2.5E-3") = some (1 / 400)) ∧
    (sqlNumValue (B "0e0") = some 0 ∧ C09.spellingValue (B "0e0") = some 0) := by
  decide +kernel

/-- the headline theorem instantiated: the hex literal in `x > 0x1F` -/
theorem ex_roundtrip_hex :
    Sql.lex .standard (B "31") = some [.num (B "31")] ∧
    ∃ q : Rat, sqlNumValue (B "31") = some q ∧
      C09.spellingValue ((B "x > 0x1F").extract 4 8) = some q :=
  C04_number_token_roundtrip (B "x > 0x1F") ⟨.number, 4, 8, B "31"⟩
    (by rw [ex_number_tokens.2.2.2.2.2.2]; simp) rfl

/-- `T | where x > 0x1F` -/
def exSrc : Bytes := B "T | where x > 0x1F"

unseal Pql.scanFrom in
theorem ex_parse : parse exSrc =
    ([.tabular (.mk (some ⟨B "T", ⟨0, 1⟩, false⟩) (.cons (.where_ ⟨2, 3⟩ ⟨4, 9⟩
      (.binary (.qident [⟨B "x", ⟨10, 11⟩, false⟩]) ⟨12, 13⟩ .gt (.lit ⟨14, 18⟩ .number (B "31")))) .nil))],
     []) := by
  with_unfolding_all rfl

/-- the tree-level theorem instantiated: the literal node `0x1F` at [14,18) of
    `T | where x > 0x1F` carries the value `31`, which SQL reads as the number 31 = 0x1F -/
theorem ex_literal_roundtrip : NumLitOK exSrc ⟨14, 18⟩ (B "31") := by
  have h := C04_number_literal_roundtrip exSrc _ ex_parse _ (List.mem_singleton.2 rfl)
  simp only [StmtAll, TabAll, OpsAll, OpAll] at h
  exact h.1 _ (.step (.refl _) (by simp [Expr.children])) _ _ rfl

/-- the SQL-side reading is not `decValue` under another name: it rejects the leading-dot
    spelling that `decValue` accepts (the scanner never emits one: it normalises `.5` to `0.5`) -/
theorem sqlNumValue_ne_decValue :
    sqlNumValue (B ".5") = none ∧ C09.decValue (B ".5") = some (1 / 2) := by decide +kernel

end Pql.Glue
