/-
Property C07 (also C08, C10, C13), tie by translation: the operator methods of parser/parser.go.

`harness/extract_parse.go` regenerates the bodies of the statement and operator level of the parser as an
IR (`Facts.parseIR`); `Model/ParseIR.lean` interprets it on the model's token-list state;
`Props/C07OperatorIRTrees*.lean` hold the expected decoded trees (`xBody`, with the decode fact `x_ir`; those of
`sortTerm` and `rowCount` are in Props/C07OperatorIRTerm.lean).  This file fixes the meaning of the callees
(`calleeAt`: the expression productions are primitives and mean the model's `pExpr`, `pExprList`,
`pIdent`; a call of another translated function means the model's production for it), holds what every
file of the family evaluates a regenerated body with (`ir_simp`), and proves, for the simple operators,
that the model's production IS the interpretation of the regenerated body, for every context, fuel,
pair of tokens handed over by `tabularExpr`, and token list.
-/
import PqlModel.Props.C07OperatorIRTreesA
import PqlModel.Lemmas.TabDispatch
import PqlModel.Lemmas.ErrsAlgebra
import PqlModel.Lemmas.OpIRRun
namespace Pql.OpIR
open Pql
set_option linter.unusedSimpArgs false

/-- the token `tabularExpr` hands over as `keyword`, with the spelling `name` -/
def kwTok (name : String) (kw : Token) : Token := { kw with value := Bytes.ofString name }

/-- the first keyword that the regenerated table of `tabularExpr`'s switch routes to the method `m` -/
def methodKeyword (m : String) : Option String := (Facts.operatorKeywords.find? (·.2.1 == m)).map (·.1)

def ofOp (r : Option (PRes Op)) : Option (List Val × List Token) :=
  r.map fun r => ([.op r.val, .errs r.errs], r.rest)

/-- `recv.m(args)` at call depth `fuel`, the receiver having `ts` left: the model's production -/
def calleeAt (c : PCtx) (fuel : Nat) (m : String) (args : List Val) (ts : List Token) : Option (List Val × List Token) :=
  match args with
  | [] =>
    if m == "expr" then some ([.expr (pExpr c fuel ts).val, .errs (pExpr c fuel ts).errs], (pExpr c fuel ts).rest)
    else if m == "exprList" then
      some ([.exprs (pExprList c fuel ts).val, .errs (pExprList c fuel ts).errs], (pExprList c fuel ts).rest)
    else if m == "ident" then some ([.ident (pIdent c ts).val, .errs (pIdent c ts).errs], (pIdent c ts).rest)
    else if m == "rowCount" then
      some ([.expr (pRowCount c fuel ts).val, .errs (pRowCount c fuel ts).errs], (pRowCount c fuel ts).rest)
    else if m == "sortTerm" then
      some ([.sterm (pSortTerm c fuel ts).val, .errs (pSortTerm c fuel ts).errs], (pSortTerm c fuel ts).rest)
    else if m == "extendColumn" || m == "summarizeColumn" then
      some ([.col (pNamedColumn c fuel ts).val, .errs (pNamedColumn c fuel ts).errs], (pNamedColumn c fuel ts).rest)
    else if m == "renderProperty" then
      some ([.prop (pRenderProp c fuel ts).val, .errs (pRenderProp c fuel ts).errs], (pRenderProp c fuel ts).rest)
    else if m == "tabularExpr" then
      some ([.tab (pTabular c fuel ts).val, .errs (pTabular c fuel ts).errs], (pTabular c fuel ts).rest)
    else if m == "letStatement" then
      some ([.stmt (pLet c fuel ts).val, .errs (pLet c fuel ts).errs], (pLet c fuel ts).rest)
    else none
  | [.tok pipe, .tok kw] =>
    match methodKeyword m with
    | some name => ofOp (pOperator c fuel pipe.span (kwTok name kw) ts)
    | none => none
  | _ => none

def envAt (c : PCtx) : Env := { c := c, callee := calleeAt c }

def opParams (ts : List Token) (pipe kw : Token) : List (String × Val) :=
  [("p", .parser ts none), ("pipe", .tok pipe), ("keyword", .tok kw)]

def runOp (c : PCtx) (body : List IStmt) (fuel : Nat) (pipe kw : Token) (ts : List Token) : M (PRes Op) :=
  result toOp "op" none (run (envAt c) body fuel (opParams ts pipe kw))

/-- the interpretation of a function `func (p *parser) f() (*Node, error)` -/
def runP {α : Type} (conv : List Rec → Val → Option α) (nodeVar : String) (c : PCtx) (body : List IStmt) (fuel : Nat)
    (ts : List Token) : M (PRes α) :=
  result conv nodeVar none (run (envAt c) body fuel [("p", .parser ts none)])

attribute [opIR] runOp opParams envAt

/-- run the interpreter: the simp set `opIR` (Lemmas/OpIRRun.lean), the callees' results left folded.  `BEq.rfl` would ask
    for an instance `ReflBEq String` and try to unify the two names at every comparison. -/
syntax "ir_simp_core" (" [" (Lean.Parser.Tactic.simpStar <|> Lean.Parser.Tactic.simpErase <|> Lean.Parser.Tactic.simpLemma),* "]")? : tactic
macro_rules
  | `(tactic| ir_simp_core) => `(tactic| ir_simp_core [])
  | `(tactic| ir_simp_core [$ls,*]) => `(tactic| simp [opIR, -BEq.rfl, $ls,*])

/-- the same with the callees' meaning (`calleeAt`) put in.  (The `ir_simp` of Lemmas/ExprParseIRCursor.lean, Props/C10SpanIR.lean
    and Props/C05WriteIR.lean are other tactics, each over its own interpreter.) -/
syntax "ir_simp" (" [" (Lean.Parser.Tactic.simpStar <|> Lean.Parser.Tactic.simpErase <|> Lean.Parser.Tactic.simpLemma),* "]")? : tactic
macro_rules
  | `(tactic| ir_simp) => `(tactic| ir_simp_core [calleeAt])
  | `(tactic| ir_simp [$ls,*]) => `(tactic| ir_simp_core [calleeAt, $ls,*])

theorem countOperator_run (c : PCtx) (fuel : Nat) (pipe kw : Token) (ts : List Token) :
    runOp c countOperatorBody fuel pipe kw ts = .ok ⟨.count pipe.span kw.span, [], ts⟩ := by
  ir_simp [countOperatorBody]

def bodyOf (name : String) : List IStmt := ((unitOf name).map (·.body)).getD []

theorem C07_countOperator_ir (c : PCtx) (fuel : Nat) (pipe kw : Token) (ts : List Token) :
    (runOp c (bodyOf "countOperator") fuel pipe kw ts).map some =
      .ok (pOperator c (fuel + 1) pipe.span (kwTok "count" kw) ts) := by
  simp only [bodyOf, countOperator_ir, Option.map_some, Option.getD_some, countOperator_run,
    pOperator_count c fuel _ (kwTok "count" kw) ts rfl]
  rfl

theorem whereOperator_run (c : PCtx) (fuel : Nat) (pipe kw : Token) (ts : List Token) :
    runOp c whereOperatorBody fuel pipe kw ts =
      .ok ⟨.where_ pipe.span kw.span (pExpr c fuel ts).val, mkOpaque (pExpr c fuel ts).errs, (pExpr c fuel ts).rest⟩ := by
  ir_simp [whereOperatorBody]

theorem C07_whereOperator_ir (c : PCtx) (fuel : Nat) (pipe kw : Token) (ts : List Token) :
    (runOp c (bodyOf "whereOperator") fuel pipe kw ts).map some =
      .ok (pOperator c (fuel + 1) pipe.span (kwTok "where" kw) ts) := by
  simp only [bodyOf, whereOperator_ir, Option.map_some, Option.getD_some, whereOperator_run,
    pOperator_where c fuel _ (kwTok "where" kw) ts (.inl rfl)]
  rfl

theorem mkOpaque_nil : mkOpaque [] = [] := rfl

theorem takeOperator_run (c : PCtx) (fuel : Nat) (pipe kw : Token) (ts : List Token) :
    runOp c takeOperatorBody fuel pipe kw ts =
      .ok ⟨.take pipe.span kw.span (pRowCount c fuel ts).val, mkOpaque (pRowCount c fuel ts).errs, (pRowCount c fuel ts).rest⟩ := by
  ir_simp [takeOperatorBody]

theorem C07_takeOperator_ir (c : PCtx) (fuel : Nat) (pipe kw : Token) (ts : List Token) :
    (runOp c (bodyOf "takeOperator") fuel pipe kw ts).map some =
      .ok (pOperator c (fuel + 1) pipe.span (kwTok "take" kw) ts) := by
  simp only [bodyOf, takeOperator_ir, Option.map_some, Option.getD_some, takeOperator_run,
    pOperator_take c fuel _ (kwTok "take" kw) ts (.inl rfl)]
  rfl

theorem asOperator_run (c : PCtx) (fuel : Nat) (pipe kw : Token) (ts : List Token) :
    runOp c asOperatorBody fuel pipe kw ts =
      .ok ⟨.as_ pipe.span kw.span (pIdent c ts).val, mkOpaque (pIdent c ts).errs, (pIdent c ts).rest⟩ := by
  ir_simp [asOperatorBody]

theorem C07_asOperator_ir (c : PCtx) (fuel : Nat) (pipe kw : Token) (ts : List Token) :
    (runOp c (bodyOf "asOperator") fuel pipe kw ts).map some =
      .ok (pOperator c (fuel + 1) pipe.span (kwTok "as" kw) ts) := by
  simp only [bodyOf, asOperator_ir, Option.map_some, Option.getD_some, asOperator_run,
    pOperator_as c fuel _ (kwTok "as" kw) ts rfl]
  rfl

theorem topOperator_run (c : PCtx) (fuel : Nat) (pipe kw : Token) (ts : List Token) :
    runOp c topOperatorBody fuel pipe kw ts = .ok (topBody c fuel pipe.span kw.span ts) := by
  unfold topBody
  ir_simp [topOperatorBody]
  generalize pRowCount c fuel ts = r
  obtain ⟨n, errs, rest⟩ := r
  cases errs <;> simp
  rcases rest with _ | ⟨b, rest⟩ <;> simp [eofTok, PCtx.eof, Span.index, Token.span, errAt]
  by_cases hk : b.kind = .by_ <;> simp [hk]

theorem C07_topOperator_ir (c : PCtx) (fuel : Nat) (pipe kw : Token) (ts : List Token) :
    (runOp c (bodyOf "topOperator") fuel pipe kw ts).map some =
      .ok (pOperator c (fuel + 1) pipe.span (kwTok "top" kw) ts) := by
  simp only [bodyOf, topOperator_ir, Option.map_some, Option.getD_some, topOperator_run,
    pOperator_top c fuel _ (kwTok "top" kw) ts rfl]
  rfl

end Pql.OpIR
