/-
Property C09 (and C12, C15), tie by translation: parser/lex.go except the number scanner and the cursor
(Props/C09NumberIR.lean).

`Scan` (the `for` loop, the whole switch with its nested switches, the `//` comment loop and its
`continue`s), `(*scanner).ident`, `(*scanner).quotedIdent`, `(*scanner).string`, `isAlpha`, `isDigit`,
`isHexDigit`, `errorToken` are regenerated from the Go source on every run as an IR (`Facts.lexScanIR`,
translator `harness/extract_lexscan.go`; interpreter `Model/LexScanIR.lean`: Go's block scoping, the
`pos` / `last` cursor by RUNES, `break` / `continue` / `return`, `for { }` loops with fuel, the
`strings.Builder` objects behind `*strings.Builder` pointers, panics explicit).  They call the span
helpers and the cursor `next` / `prev`, which are the units of `Facts.lexNumberIR` (interpreted here by
the same interpreter), and `numberOrDot`, which is the model's function (tied to ITS translation by
`LexIR.C09_numberOrDot_ir`, restated here as `C09_numberOrDot_prim_tied`).

The byte-wise model against the rune-wise Go code: `next` decodes a rune; every test of the lexer except
`unicode.IsSpace` and the default of the main switch is on an ASCII value; a byte ≥ 0x80 starts a rune
≥ 0x80, which fails every such test, and the bytes after it in the same rune are ≥ 0x80 too
(`decodeRune_block`, `RuneAt`), so the loops of strings, quoted identifiers and comments pass over whole runes
where the model passes over bytes (`stringLoop_skip`, `qidentLoop_skip`, `commentLen_skip`).
-/
import PqlModel.Lemmas.LexScanIRScan
import PqlModel.Props.C09NumberIR
import PqlModel.Props.C15SplitIR
namespace Pql.ScanIR
open Pql
open Pql.LexIR (IErr M BinOp goPanic stuck irOf)
set_option linter.unusedSimpArgs false
set_option linter.unusedVariables false

/-! Every environment here is `upEnv` of the first `n` keys of `keysScan` over `baseEnv`; `up_key`, `base_key` say what
a key means in it, whatever `n`, so a callee's specification is stated once, about that meaning. -/

def upEnv (fuel : Nat) (keys : List String) : Env := layer Facts.lexScanIR fuel keys (baseEnv fuel)

def keysClass : List String := ["isAlpha", "isDigit", "isHexDigit", "errorToken"]

theorem scanEnv_eq (fuel : Nat) : scanEnv fuel = upEnv fuel keysScan := rfl

theorem base_prim (fuel : Nat) (p : String) (h : p ∉ keysBase) : baseEnv fuel p = prims p := layer_other _ _ _ _ _ h

theorem base_key (fuel : Nat) {k : String} (i : Nat) (hk : keysBase[i]? = some k) :
    baseEnv fuel k = some (fnOf Facts.lexNumberIR (layer Facts.lexNumberIR fuel (keysBase.take i) prims) fuel k) :=
  layer_take _ fuel keysBase _ i 6 (by simp [keysBase]) hk (List.getElem?_eq_some_iff.mp hk).1

theorem up_key (fuel : Nat) {k : String} (i n : Nat) (hk : keysScan[i]? = some k) (hi : i < n) :
    upEnv fuel (keysScan.take n) k = some (fnOf Facts.lexScanIR (upEnv fuel (keysScan.take i)) fuel k) :=
  layer_take _ fuel keysScan _ i n (by simp [keysScan]) hk hi

theorem up_base (fuel n : Nat) (p : String) (h : p ∉ keysScan) : upEnv fuel (keysScan.take n) p = baseEnv fuel p :=
  layer_other _ _ _ _ _ fun hm => h (List.mem_of_mem_take hm)

theorem up_prim (fuel n : Nat) (p : String) (h1 : p ∉ keysScan) (h2 : p ∉ keysBase) :
    HasPrim (upEnv fuel (keysScan.take n)) p :=
  (up_base fuel n p h1).trans (base_prim fuel p h2)

theorem spanString_ok (fuel : Nat) :
    SpecSpanString (fnOf Facts.lexNumberIR (layer Facts.lexNumberIR fuel (keysBase.take 3) prims) fuel "spanString") := by
  rw [fnOf_eq spanString_ir]
  refine spanString_spec _ fuel _ (layer_take _ fuel keysBase _ 2 3 (by simp [keysBase]) rfl (by omega)) ?_
  rw [fnOf_eq spanIsValid_ir]
  exact spanIsValid_spec _ _

theorem up_isHexDigit (fuel : Nat) (post : List String) (h : "isHexDigit" ∉ post) :
    ∃ f, upEnv fuel ("isAlpha" :: "isDigit" :: "isHexDigit" :: post) "isHexDigit" = some f ∧ SpecIsHexDigit f := by
  refine ⟨_, layer_at _ fuel ["isAlpha", "isDigit"] "isHexDigit" post _ h, ?_⟩
  rw [fnOf_eq isHexDigit_ir]
  exact isHexDigit_spec _ fuel _ (up_key fuel 1 2 rfl (by omega)) (by rw [fnOf_eq isDigit_ir]; exact isDigit_spec _ _)

theorem up_cursor (fuel n : Nat) (hn : 4 ≤ n) : CursorEnv (upEnv fuel (keysScan.take n)) where
  next := ⟨_, (up_base fuel n _ (by simp [keysScan])).trans (base_key fuel 4 rfl), by
    rw [fnOf_eq next_ir]; exact next_spec _ fuel (layer_other _ _ _ _ _ (by simp [keysBase]))⟩
  prev := ⟨_, (up_base fuel n _ (by simp [keysScan])).trans (base_key fuel 5 rfl), by rw [fnOf_eq prev_ir]; exact prev_spec _ _⟩
  newSpan := ⟨_, (up_base fuel n _ (by simp [keysScan])).trans (base_key fuel 0 rfl), by
    rw [fnOf_eq newSpan_ir]; exact newSpan_spec _ _⟩
  indexSpan := ⟨_, (up_base fuel n _ (by simp [keysScan])).trans (base_key fuel 1 rfl), by
    rw [fnOf_eq indexSpan_ir]; exact indexSpan_spec _ _⟩
  spanString := ⟨_, (up_base fuel n _ (by simp [keysScan])).trans (base_key fuel 3 rfl), spanString_ok fuel⟩
  isAlpha := ⟨_, up_key fuel 0 n rfl (by omega), by rw [fnOf_eq isAlpha_ir]; exact isAlpha_spec _ _⟩
  isDigit := ⟨_, up_key fuel 1 n rfl (by omega), by rw [fnOf_eq isDigit_ir]; exact isDigit_spec _ _⟩
  errorToken := ⟨_, up_key fuel 3 n rfl (by omega), by
    rw [fnOf_eq errorToken_ir]; exact errorToken_spec _ fuel (up_prim fuel 3 _ (by simp [keysScan]) (by simp [keysBase]))⟩

theorem up_strEnv (fuel n : Nat) (hn : 4 ≤ n) : StrEnv (upEnv fuel (keysScan.take n)) where
  cur := up_cursor fuel n hn
  write := up_prim fuel n _ (by simp [keysScan]) (by simp [keysBase])
  rune := up_prim fuel n _ (by simp [keysScan]) (by simp [keysBase])
  str := up_prim fuel n _ (by simp [keysScan]) (by simp [keysBase])

theorem ident_ok (fuel : Nat) : SpecIdent fuel (fnOf Facts.lexScanIR (upEnv fuel (keysScan.take 4)) fuel "scanner.ident") := by
  rw [fnOf_eq ident_ir]
  exact ident_spec _ fuel (up_cursor fuel 4 (Nat.le_refl 4))

theorem quotedIdent_ok (fuel : Nat) :
    SpecQuotedIdent fuel (fnOf Facts.lexScanIR (upEnv fuel (keysScan.take 5)) fuel "scanner.quotedIdent") := by
  rw [fnOf_eq quotedIdent_ir]
  exact quotedIdent_spec _ fuel (up_cursor fuel 5 (by omega)) (up_prim fuel 5 _ (by simp [keysScan]) (by simp [keysBase]))

theorem string_ok (fuel : Nat) : SpecString fuel (fnOf Facts.lexScanIR (upEnv fuel (keysScan.take 6)) fuel "scanner.string") := by
  rw [fnOf_eq string_ir]
  exact string_spec _ fuel (up_strEnv fuel 6 (by omega))

theorem scanEnv_before_Scan (fuel : Nat) : ScanEnv fuel (upEnv fuel (keysScan.take 7)) where
  cur := up_cursor fuel 7 (by omega)
  isSpace := up_prim fuel 7 _ (by simp [keysScan]) (by simp [keysBase])
  append := up_prim fuel 7 _ (by simp [keysScan]) (by simp [keysBase])
  number := up_prim fuel 7 _ (by simp [keysScan]) (by simp [keysBase])
  ident := ⟨_, up_key fuel 4 7 rfl (by omega), ident_ok fuel⟩
  qident := ⟨_, up_key fuel 5 7 rfl (by omega), quotedIdent_ok fuel⟩
  string := ⟨_, up_key fuel 6 7 rfl (by omega), string_ok fuel⟩

theorem scanFn_key (fuel : Nat) {k : String} (i : Nat) (hk : keysScan[i]? = some k) :
    scanFn fuel k = fnOf Facts.lexScanIR (upEnv fuel (keysScan.take i)) fuel k := by
  funext args s
  have : scanEnv fuel k = _ := up_key fuel i 8 hk (List.getElem?_eq_some_iff.mp hk).1
  unfold scanFn
  rw [this]

/-- **C09 (`ident` is the interpretation of its translation).**  On every source `pre ++ s` whose suffix
    `s` begins with an identifier-start byte (where `Scan` calls it), cursor at `s`: the regenerated `ident`
    returns without panic the token of the model's `scanIdent s` (kind — a keyword kind from the regenerated
    `keywords` — span, value) and leaves the cursor after it. -/
theorem C09_ident_ir (fuel : Nat) (pre s : Bytes) (l : Nat) (bs : List (Nat × Bytes)) (c : UInt8) (rest : Bytes)
    (hs : s = c :: rest) (hc : isIdentStart c = true) (hf : s.length < fuel) :
    ∃ l', scanFn fuel "scanner.ident" [.scanner] ⟨pre ++ s, pre.length, l, bs⟩ =
      .ok ([.tok (scanIdent s).kind pre.length (pre.length + (scanIdent s).width) (scanIdent s).value],
        ⟨pre ++ s, pre.length + (scanIdent s).width, l', bs⟩) := by
  rw [scanFn_key fuel 4 rfl]
  obtain ⟨l', e⟩ := ident_ok fuel pre s l bs c rest hs hc hf
  exact ⟨l', by simpa [hp, tokAt] using e⟩

/-- **C09 (`quotedIdent`).**  On every suffix that begins with a back-quote: the token of the model's
    `scanQuotedIdent` (an error token at the end of the input or of the line; else the value is
    `strings.ReplaceAll` of the content) and the cursor after it. -/
theorem C09_quotedIdent_ir (fuel : Nat) (pre s : Bytes) (l : Nat) (bs : List (Nat × Bytes)) (rest : Bytes)
    (hs : s = 96 :: rest) (hf : s.length < fuel) :
    ∃ l', scanFn fuel "scanner.quotedIdent" [.scanner] ⟨pre ++ s, pre.length, l, bs⟩ =
      .ok ([.tok (scanQuotedIdent s).kind pre.length (pre.length + (scanQuotedIdent s).width) (scanQuotedIdent s).value],
        ⟨pre ++ s, pre.length + (scanQuotedIdent s).width, l', bs⟩) := by
  rw [scanFn_key fuel 5 rfl]
  obtain ⟨l', e⟩ := quotedIdent_ok fuel pre s l bs rest hs hf
  exact ⟨l', by simpa [hp, tokAt] using e⟩

/-- **C09 (`string`).**  On every suffix that begins with a quote character: the token of the model's
    `scanString` (escapes evaluated; an error token for an unterminated string) and the cursor after it;
    the store may have one more `strings.Builder`. -/
theorem C09_string_ir (fuel : Nat) (pre s : Bytes) (l : Nat) (bs : List (Nat × Bytes)) (q : UInt8) (rest : Bytes)
    (hs : s = q :: rest) (hq : q = 34 ∨ q = 39) (hf : s.length < fuel) :
    ∃ l' bs', scanFn fuel "scanner.string" [.scanner] ⟨pre ++ s, pre.length, l, bs⟩ =
      .ok ([.tok (scanString s).kind pre.length (pre.length + (scanString s).width) (scanString s).value],
        ⟨pre ++ s, pre.length + (scanString s).width, l', bs'⟩) := by
  rw [scanFn_key fuel 6 rfl]
  obtain ⟨l', bs', e⟩ := string_ok fuel pre s l bs q rest hs hq hf
  exact ⟨l', bs', by simpa [hp, tokAt] using e⟩

/-- **C09 (one pass through the loop of `Scan` = one step of the model).**  At every cursor position `k`
    inside the source, with any tokens `acc` collected so far: the body of the loop — `start := s.pos`,
    `s.next()`, the whole switch — appends the token (if any) of `scanOne` at the suffix, advances the cursor
    by its width and ends normally or with `continue`. -/
theorem C09_scan_step_ir (fuel : Nat) (src : Bytes) (acc : List Token) (k l : Nat) (bs : List (Nat × Bytes))
    (hk : k < src.length) (hf : src.length < fuel) :
    ∃ f c' ok' l' bs', (f = .next ∨ f = .cont) ∧
      execBlock (upEnv fuel (keysClass ++ ["scanner.ident", "scanner.quotedIdent", "scanner.string"])) fuel scanLoopBody
          ⟨[("tokens", .toks acc), ("s", .scanner), ("query", .str src)], ⟨src, k, l, bs⟩⟩ =
        .ok (f, ⟨[("ok", .bool ok'), ("c", .int c'), ("start", .int k),
            ("tokens", .toks (acc ++ (scanOne (src.drop k)).toks k)), ("s", .scanner), ("query", .str src)],
          ⟨src, k + (scanOne (src.drop k)).width, l', bs'⟩⟩) := by
  cases hd : src.drop k with
  | nil => have := List.drop_eq_nil_iff.mp hd; omega
  | cons c rest =>
    obtain ⟨f, c', ok', l', bs', h1, h2⟩ := scan_body _ fuel (scanEnv_before_Scan fuel) src acc k l bs c rest hd hf
    exact ⟨f, c', ok', l', bs', h1, h2⟩

/-- **C09 (`Scan` is the interpretation of its translation), any sufficient fuel.** -/
theorem C09_Scan_ir_fuel (fuel : Nat) (src : Bytes) (hf : src.length < fuel) : interpScan fuel src = .ok (scan src) := by
  obtain ⟨h1, e⟩ := scan_spec _ fuel (scanEnv_before_Scan fuel) src hf ⟨[], 0, 0, []⟩
  -- unfolded as a function: the kernel compares an APPLIED `interpScan fuel src` with its `match` by reducing the `match`,
  -- i.e. by running `Scan` as far as it goes
  refine (congrFun (congrFun (g := ?g) ?unf fuel) src).trans ?_
  case unf => delta interpScan; rfl
  rw [scanFn_key fuel 7 rfl, fnOf_eq Scan_ir, e]

/-- **C09 HEADLINE (`Scan` is the interpretation of its translation).**  For every byte string — valid
    UTF-8 or not — interpreting the regenerated body of `Scan` (with the regenerated `ident`, `quotedIdent`,
    `string`, `isAlpha`, `isDigit`, `errorToken`, `next`, `prev`, `newSpan`, `spanString` …) with
    `src.length + 1` as the budget of every `for { }` loop ends without a panic, without getting stuck and
    without running out of fuel, and returns exactly the tokens of the model's `scan`. -/
theorem C09_Scan_ir (src : Bytes) : interpScan (src.length + 1) src = .ok (scan src) :=
  C09_Scan_ir_fuel _ src (Nat.lt_succ_self _)

def declsBase : List (String × FnDecl) :=
  [("newSpan", newSpanDecl), ("indexSpan", indexSpanDecl), ("Span.IsValid", spanIsValidDecl), ("spanString", spanStringDecl),
   ("scanner.next", nextDecl), ("scanner.prev", prevDecl)]

def declsScan : List (String × FnDecl) :=
  [("isAlpha", isAlphaDecl), ("isDigit", isDigitDecl), ("isHexDigit", isHexDigitDecl), ("errorToken", errorTokenDecl),
   ("scanner.ident", identDecl), ("scanner.quotedIdent", quotedIdentDecl), ("scanner.string", stringDecl), ("Scan", scanDecl)]

/-- `scanFn` in the environment of the decoded trees; stated of the function for the reason given in `C09_Scan_ir_fuel` -/
theorem scanFn_decoded : scanFn = fun fuel key args s =>
    (layerD fuel declsScan (layerD fuel declsBase prims) key).elim stuck (· args s) := by
  delta scanFn
  funext fuel key args s
  have e : scanEnv fuel = layerD fuel declsScan (layerD fuel declsBase prims) := by
    rw [← layer_eq_layerD Facts.lexScanIR fuel declsScan _ (by simp [declsScan, isAlpha_ir, isDigit_ir, isHexDigit_ir,
        errorToken_ir, ident_ir, quotedIdent_ir, string_ir, Scan_ir]),
      ← layer_eq_layerD Facts.lexNumberIR fuel declsBase _ (by simp [declsBase, newSpan_ir, indexSpan_ir, spanIsValid_ir,
        spanString_ir, next_ir, prev_ir])]
    rfl
  rw [e]
  cases layerD fuel declsScan (layerD fuel declsBase prims) key <;> rfl

def errOf {α : Type} : M α → Option IErr
  | .ok _ => none
  | .error e => some e

set_option maxRecDepth 1000000 in
/-- the budget matters: with `src.length` passes the loop of `Scan` does not reach its `break`: the outcome is
    `fuel` (and with `src.length + 1` it is not) -/
theorem C09_Scan_ir_needs_fuel :
    errOf (interpScan 3 [97, 32, 98]) = some .fuel ∧ errOf (interpScan 4 [97, 32, 98]) = none := by
  have unf : interpScan = ?g := by delta interpScan; rfl
  rw [unf, scanFn_decoded]
  decide +kernel

/-- **C12 (the translated `Scan` never panics).**  For every byte string the interpretation of the regenerated
    `Scan` (and of everything it calls) with the budget `src.length + 1` is none of `panic` (a slice out of
    range, a nil `*strings.Builder`), `stuck`, `fuel`. -/
theorem C12_Scan_ir_no_panic (src : Bytes) :
    ∃ toks, interpScan (src.length + 1) src = .ok toks ∧ errOf (interpScan (src.length + 1) src) = none :=
  ⟨scan src, C09_Scan_ir src, by rw [C09_Scan_ir]; rfl⟩

set_option maxRecDepth 1000000 in
/-- `ident` on a suffix that does not begin with an identifier-start byte: on "é" (2 bytes) the Go function
    takes the whole first rune (2 bytes), the model's byte loop 1 byte -/
theorem C09_ident_ir_needs_start :
    (scanFn 3 "scanner.ident" [.scanner] ⟨[0xC3, 0xA9], 0, 0, []⟩).toOption.map (·.1) = some [.tok .ident 0 2 [0xC3, 0xA9]] ∧
    (scanIdent [0xC3, 0xA9]).width = 1 := scanFn_decoded ▸ by decide +kernel

set_option maxRecDepth 1000000 in
/-- `quotedIdent` on a suffix that does not begin with a back-quote: on "ab" the Go function returns an
    error token on the first byte, the model's function goes on to the end of the input -/
theorem C09_quotedIdent_ir_needs_backquote :
    (scanFn 3 "scanner.quotedIdent" [.scanner] ⟨[97, 98], 0, 0, []⟩).toOption.map (·.1) = some [.tok .error 0 1 []] ∧
    (scanQuotedIdent [97, 98]).width = 2 := scanFn_decoded ▸ by decide +kernel

set_option maxRecDepth 1000000 in
/-- `string` on a suffix that does not begin with a quote: on "ab" the Go function returns an error token of
    width 0 (and gives the byte back), the model's function takes 'a' for the quote -/
theorem C09_string_ir_needs_quote :
    (scanFn 3 "scanner.string" [.scanner] ⟨[97, 98], 0, 0, []⟩).toOption = some ([.tok .error 0 0 []], ⟨[97, 98], 0, 0, []⟩) ∧
    (scanString [97, 98]).width = 2 := scanFn_decoded ▸ by decide +kernel

set_option maxRecDepth 1000000 in
/-- the loop budget is needed too: `ident` on "abc" with 2 passes -/
theorem C09_ident_ir_needs_fuel :
    errOf (scanFn 2 "scanner.ident" [.scanner] ⟨[97, 98, 99], 0, 0, []⟩) = some .fuel ∧
    errOf (scanFn 3 "scanner.ident" [.scanner] ⟨[97, 98, 99], 0, 0, []⟩) = none := scanFn_decoded ▸ by decide +kernel

/-- the primitive `scanner.numberOrDot` of this interpreter is what the translated `numberOrDot`
    (`Facts.lexNumberIR`, `LexIR.C09_numberOrDot_ir`) returns — token kind, span, value (the message of an error
    token apart), cursor — at every cursor position where `Scan` calls it -/
theorem C09_numberOrDot_prim_tied (lib : LexIR.Lib) (fuel : Nat) (src : Bytes) (k l : Nat) (bs : List (Nat × Bytes))
    (c : UInt8) (rest : Bytes) (hd : src.drop k = c :: rest) (hc : (isDigit c || c == 46) = true) (hf : src.length < fuel) :
    ∃ l' msg, LexIR.numFn lib fuel "scanner.numberOrDot" [.scanner] ⟨src, k, l⟩ =
        .ok ([LexIR.lexTok k (scanNumberOrDot (src.drop k)) msg], ⟨src, k + (scanNumberOrDot (src.drop k)).width, l'⟩) ∧
      numberOrDotPrim ⟨src, k, l, bs⟩ =
        ([.tok (scanNumberOrDot (src.drop k)).kind k (k + (scanNumberOrDot (src.drop k)).width)
            (scanNumberOrDot (src.drop k)).value], ⟨src, k + (scanNumberOrDot (src.drop k)).width, k, bs⟩) := by
  have hk : k ≤ src.length := Nat.le_of_lt (LexIR.lt_of_drop_cons hd)
  obtain ⟨l', msg, e⟩ := LexIR.C09_numberOrDot_ir lib fuel (src.take k) (src.drop k) l (by simp; omega)
    (fun c' rest' h => by rw [hd] at h; cases h; exact hc)
  rw [List.take_append_drop, take_len src k hk] at e
  exact ⟨l', msg, e, rfl⟩

def scanOfIR (src : Bytes) : List Token :=
  match interpScan (src.length + 1) src with
  | .ok l => l
  | .error _ => []

theorem scanOfIR_eq : scanOfIR = scan := by
  -- before `funext`, for the reason given in `C09_Scan_ir_fuel`
  delta scanOfIR
  funext s
  rw [C09_Scan_ir]

/-- **C15 (`SplitStatements` over the translated `Scan`).**  The regenerated body of `SplitStatements`, run
    with `Scan` = the interpretation of the regenerated `Scan`, returns the model's `splitStatements`. -/
theorem C15_split_scan_ir (f64 : TokKind → Bytes → Nat) (src : Bytes) (h : LexIR.Heap) :
    LexIR.interpSplit ⟨scanOfIR, f64⟩ [LexIR.Val.str src] h = .ok ([LexIR.Val.strs (splitStatements src)], h) := by
  have hs : (LexIR.Lib.mk scanOfIR f64).scan = scan := by dsimp only; exact scanOfIR_eq
  exact LexIR.C15_split_ir _ hs src h

-- sanity tests (evaluated): the interpretation of the regenerated IR on concrete sources
#guard (interpScan 40 (Bytes.ofString "ab `x``y` 'a\\nb' 0x1F <= // c\n ;")).toOption = some (scan (Bytes.ofString "ab `x``y` 'a\\nb' 0x1F <= // c\n ;"))
#guard (interpScan 20 (Bytes.ofString "'é\\éx' é !~")).toOption = some (scan (Bytes.ofString "'é\\éx' é !~"))
#guard (interpScan 3 (Bytes.ofString "abcdef")).toOption.isNone

end Pql.ScanIR
