/-
Property C15, tie by translation: `SplitStatements` of parser/lex.go.

The body of `func SplitStatements(source string) []string` is regenerated from the Go source on every
run as an IR (`Facts.lexSplitIR`; translator `harness/extract_lexir.go`, interpreter
`Model/LexIR.lean`).  This file proves that the hand-written model `splitStatements` IS the
interpretation of the regenerated IR:

  `C15_split_ir` — for every byte string `src`, interpreting the regenerated body with `Scan`
  instantiated by the model's `scan` ends without a panic (every `source[start:tok.Span.Start]` is
  within bounds), without getting stuck, and returns exactly `splitStatements src`.

The loop is proved for every token list whose spans are in order and inside the source
(`split_loop`, `C09.Ordered`); the tokens of `scan` are (`C09_partition`).  For a token list that is not
in order the Go code panics where the model does not (`C15_split_ir_needs_order`), so the theorem
about the loop is false without that hypothesis.

Cutting at `tok.Span.End` instead of `.Start`, forgetting `start = tok.Span.End`, testing another
token kind, dropping the final `append` … change the regenerated IR and break `splitStatements_ir`.
-/
import PqlModel.Lemmas.LexIRCore
import PqlModel.Lemmas.LexSplit
import PqlModel.Props.C09
namespace Pql.LexIR
open Pql
set_option linter.unusedSimpArgs false

/-- `SplitStatements` as regenerated, with the library `lib` -/
def interpSplit (lib : Lib) : Fn := fnOf Facts.lexSplitIR (prims lib) 0 "SplitStatements"

def tokVal (t : Token) : Val := .tok t.kind t.start t.stop t.value

/-- the state inside `SplitStatements` after `start := 0` -/
def splitSt (src : Bytes) (all : List Token) (start : Nat) (parts : List Bytes) (h : Heap) : State :=
  ⟨[("start", .int start), ("parts", .strs parts), ("tokens", .toks all), ("source", .str src)], h, []⟩

/-- one pass through the body of the loop -/
theorem split_step (lib : Lib) (src : Bytes) (all : List Token) (start : Nat) (parts : List Bytes) (h : Heap)
    (t : Token) (h1 : start ≤ t.start) (h2 : t.start ≤ src.length) :
    execBlock (prims lib) 0 splitLoopBody ((splitSt src all start parts h).declare "tok" (tokVal t)) =
      .ok (.next,
        if t.kind = .semi then
          ⟨[("tok", tokVal t), ("start", .int t.stop), ("parts", .strs (parts ++ [(src.drop start).take (t.start - start)])),
            ("tokens", .toks all), ("source", .str src)], h, []⟩
        else (splitSt src all start parts h).declare "tok" (tokVal t)) := by
  unfold splitLoopBody splitSt tokVal
  lx_simp [kind_semi, prims, h1, h2]
  split <;> rfl

/-- **the loop**: on tokens in order and inside the source the loop ends normally; what it has
    collected, followed by the rest of the source, is what the model's `splitAtSemis` returns -/
theorem split_loop (lib : Lib) (src : Bytes) (all : List Token) (h : Heap) :
    ∀ (ts : List Token) (start : Nat) (parts : List Bytes), C09.Ordered start src.length ts →
      ∃ start' parts',
        rangeLoop "tok" (execBlock (prims lib) 0 splitLoopBody) (ts.map tokVal) (splitSt src all start parts h) =
          .ok (.next, splitSt src all start' parts' h) ∧
        start' ≤ src.length ∧
        parts' ++ [src.drop start'] = parts ++ splitAtSemis src ts start
  | [], start, parts, ho => ⟨start, parts, rfl, ho, rfl⟩
  | t :: ts, start, parts, ho => by
    obtain ⟨h1, h2, h3⟩ := ho
    have hb : t.stop ≤ src.length := h3.le
    have hstep := split_step lib src all start parts h t h1 (Nat.le_trans (Nat.le_of_lt h2) hb)
    simp only [List.map_cons, rangeLoop, hstep, bind, Except.bind]
    by_cases hk : t.kind = .semi
    · obtain ⟨s', p', e1, e2, e3⟩ :=
        split_loop lib src all h ts t.stop (parts ++ [(src.drop start).take (t.start - start)]) h3
      refine ⟨s', p', ?_, e2, ?_⟩
      · simp only [hk, if_true]
        have : (State.leave ⟨[("tok", tokVal t), ("start", .int t.stop),
            ("parts", .strs (parts ++ [(src.drop start).take (t.start - start)])), ("tokens", .toks all),
            ("source", .str src)], h, []⟩ (splitSt src all start parts h)) =
            splitSt src all t.stop (parts ++ [(src.drop start).take (t.start - start)]) h := by
          simp [State.leave, splitSt]
        rw [this, e1]
      · rw [e3]
        simp [splitAtSemis, hk]
    · obtain ⟨s', p', e1, e2, e3⟩ :=
        split_loop lib src all h ts start parts (h3.weaken (Nat.le_trans h1 (Nat.le_of_lt h2)))
      refine ⟨s', p', ?_, e2, ?_⟩
      · simp only [hk, if_false]
        have : (State.leave ((splitSt src all start parts h).declare "tok" (tokVal t)) (splitSt src all start parts h)) =
            splitSt src all start parts h := by
          simp [State.leave, splitSt, State.declare]
        rw [this, e1]
      · rw [e3]
        simp [splitAtSemis, hk]

/-- the whole decoded body, for any `Scan` whose spans are in order: returns `splitAtSemis` -/
theorem split_body (lib : Lib) (src : Bytes) (h : Heap) (hord : C09.Ordered 0 src.length (lib.scan src)) :
    interpFn (prims lib) 0 splitStatementsDecl [.str src] h =
      .ok ([.strs (splitAtSemis src (lib.scan src) 0)], h) := by
  obtain ⟨s', p', e1, e2, e3⟩ := split_loop lib src (lib.scan src) h (lib.scan src) 0 [] hord
  have hitems : rangeItems (.toks (lib.scan src)) = .ok ((lib.scan src).map tokVal) := rfl
  unfold splitStatementsDecl
  simp only [List.nil_append] at e3
  unfold splitSt at e1
  have h3 : List.take (src.length - s') (List.drop s' src) = List.drop s' src :=
    List.take_of_length_le (by simp)
  lx_simp [prims, hitems, e1, e2, h3, ← e3]

/-- **C15 (`SplitStatements` is the interpretation of its translation).**  For every byte string the
    regenerated body of `SplitStatements`, run with the model's `scan` for `Scan`, returns without a
    panic exactly the pieces of the model's `splitStatements`. -/
theorem C15_split_ir (lib : Lib) (hs : lib.scan = scan) (src : Bytes) (h : Heap) :
    interpSplit lib [.str src] h = .ok ([.strs (splitStatements src)], h) := by
  unfold interpSplit splitStatements
  rw [fnOf_eq splitStatements_ir]
  have := split_body lib src h (by rw [hs]; exact C09.C09_partition src)
  rw [hs] at this
  exact this

/-- without the order of the spans the statement is false: for a semicolon token that starts after
    the end of the source the Go code panics (slice bounds out of range) where the model's
    `splitAtSemis` returns pieces -/
theorem C15_split_ir_needs_order :
    ∃ (lib : Lib) (src : Bytes) (h : Heap),
      interpSplit lib [.str src] h = .error .panic ∧
      splitAtSemis src (lib.scan src) 0 = [[59], []] := by
  refine ⟨⟨fun _ => [⟨.semi, 2, 3, []⟩], fun _ _ => 0⟩, [59], ⟨[], 0, 0⟩, ?_, ?_⟩
  · unfold interpSplit
    rw [fnOf_eq splitStatements_ir]
    unfold splitStatementsDecl splitLoopBody
    have hitems : rangeItems (.toks [⟨.semi, 2, 3, []⟩]) = .ok [.tok .semi 2 3 []] := rfl
    lx_simp [prims, hitems, rangeLoop, kind_semi]
  · decide

-- sanity tests (evaluated): the interpretation of the regenerated IR on concrete sources
#guard (interpSplit ⟨scan, fun _ _ => 0⟩ [.str (Bytes.ofString "a;b ';' ;c")] ⟨[], 0, 0⟩).toOption.map (·.1) =
  some [.strs (splitStatements (Bytes.ofString "a;b ';' ;c"))]
#guard (interpSplit ⟨scan, fun _ _ => 0⟩ [.str (Bytes.ofString ";;")] ⟨[], 0, 0⟩).toOption.map (·.1) =
  some [.strs [[], [], []]]

end Pql.LexIR
