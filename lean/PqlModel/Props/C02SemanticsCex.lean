/-
Property C02, semantic form: counterexamples showing that each side condition of
`C02_sel_*` / `C02_statement_semantics` is needed, and concrete instances of the theorems
(non-vacuity).  Everything here is evaluated by `decide` on a table `T(a)` with the rows 1, 2.
-/
import PqlModel.Props.C02Statement
namespace Pql.C02.Cex
open Pql Sql CompileOracle Intended SplitQ SelSem C02

def tT : Table := ⟨[[97]], [[.int 1], [.int 2]]⟩          -- T(a) = {1, 2}
def db : DB := [([84], tT)]
def idT : Ident := ⟨[84], .zero, false⟩
def mkId (name : Bytes) : Ident := ⟨name, .zero, false⟩
def eCount : Expr := .call (mkId (Bytes.ofString "count")) .zero .nil .zero      -- count()
def eA : Expr := .qident [mkId [97]]                                              -- a
def eNum (n : Bytes) : Expr := .lit .zero .number n
def col (name : Bytes) (e : Expr) : Column := ⟨some (mkId name), .zero, e⟩        -- name = e
def link (op : Op) : SubA := { name := [113], source := .table [84], op := some op }
def aDesc : SortTerm := ⟨eA, false, .zero, false, .zero⟩                          -- a desc
def dummySel : Select := mkSel [] [] none [] [] none
def eGt (x y : Expr) : Expr := .binary x .zero .gt y

/-! ### Stage 1: the side conditions are needed -/

/-- `T | project c = count()`: the SQL `SELECT count() AS c FROM T` aggregates (one row: 2), the
    pipeline reading evaluates `count()` row by row over an empty group (two rows: 0, 0). -/
theorem C02_project_agg_differs :
    let a := link (.project .zero .zero [col [99] eCount])
    sortOkA a = true ∧ opOk (.project .zero .zero [col [99] eCount]) = false ∧
    (selOf [] a).map (evalSelect db []) = some ⟨[[99]], [[.int 2]]⟩ ∧
    subEvalA [] db (lookupTable db [] [84]) a = ⟨[[99]], [[.int 0], [.int 0]]⟩ := by decide +kernel

/-- `T | extend c = count()`: `SELECT *, count() AS c FROM T` is one row (first row, 2), the
    pipeline reading keeps both rows with `c = 0`. -/
theorem C02_extend_agg_differs :
    let a := link (.extend .zero .zero [col [99] eCount])
    sortOkA a = true ∧ opOk (.extend .zero .zero [col [99] eCount]) = false ∧
    (selOf [] a).map (evalSelect db []) = some ⟨[[97], [99]], [[.int 1, .int 2]]⟩ ∧
    subEvalA [] db (lookupTable db [] [84]) a = ⟨[[97], [99]], [[.int 1, .int 0], [.int 2, .int 0]]⟩ := by decide +kernel

/-- `T | summarize x = a` (no key, no aggregate): `SELECT a AS x FROM T` is not an aggregating
    query (two rows), `summarize` without keys is one row. -/
theorem C02_summarize_plain_differs :
    let a := link (.summarize .zero .zero [col [120] eA] .zero [])
    sortOkA a = true ∧ opOk (.summarize .zero .zero [col [120] eA] .zero []) = false ∧
    (selOf [] a).map (evalSelect db []) = some ⟨[[120]], [[.int 1], [.int 2]]⟩ ∧
    subEvalA [] db (lookupTable db [] [84]) a = ⟨[[120]], [[.int 1]]⟩ := by decide +kernel

/-- ORDER BY attached to a `project` SELECT (which `splitA` never does): `SELECT a AS b FROM T ORDER BY a DESC`
    sorts by the *source* column `a`; after `project b = a` there is no column `a` to sort by. -/
theorem C02_project_sort_differs :
    let a := { link (.project .zero .zero [col [98] eA]) with sort := some [aDesc] }
    sortOkA a = false ∧ opOk (.project .zero .zero [col [98] eA]) = true ∧
    (selOf [] a).map (evalSelect db []) = some ⟨[[98]], [[.int 2], [.int 1]]⟩ ∧
    subEvalA [] db (lookupTable db [] [84]) a = ⟨[[98]], [[.int 1], [.int 2]]⟩ := by decide +kernel

/-- the same for `summarize n = count() by k = a` with `ORDER BY a DESC` attached -/
theorem C02_summarize_sort_differs :
    let o := Op.summarize .zero .zero [col [110] eCount] .zero [col [107] eA]
    let a := { link o with sort := some [aDesc] }
    sortOkA a = false ∧ opOk o = true ∧
    (selOf [] a).map (evalSelect db []) = some ⟨[[107], [110]], [[.int 2, .int 1], [.int 1, .int 1]]⟩ ∧
    subEvalA [] db (lookupTable db [] [84]) a = ⟨[[107], [110]], [[.int 1, .int 1], [.int 2, .int 1]]⟩ := by decide +kernel

/-! ### Stage 2: distinct CTE names are needed (known finding: duplicate CTE names through `as`) -/

/-- `T | as X | count | as X | count` -/
def dupOps : OpList := .cons (.as_ .zero .zero (some (mkId [88]))) (.cons (.count .zero .zero)
  (.cons (.as_ .zero .zero (some (mkId [88]))) (.cons (.count .zero .zero) .nil)))

/-- The chain is `X, __subquery1, X, __subquery3`; the last SELECT reads `X` and finds the FIRST
    CTE of that name (the table `T`, 2 rows) instead of the third link (the one-row count):
    the statement returns 2, the pipeline means 1.  All other hypotheses of
    `C02_statement_semantics` hold. -/
theorem C02_duplicate_names_differ :
    joinFree dupOps = true ∧ opsOk dupOps = true ∧
    ((splitA [] (.mk (some idT) dupOps)).map fun subs => subs.map (·.name)) =
      some [[88], subqueryName 1, [88], subqueryName 3] ∧
    ((splitA [] (.mk (some idT) dupOps)).bind (stmtOf [])).map (evalStatement db) =
      some ⟨[Bytes.ofString "count()"], [[.int 2]]⟩ ∧
    Rel.interpOps [] db (lookupTable db [] idT.name) dupOps = ⟨[Bytes.ofString "count()"], [[.int 1]]⟩ := by
  decide +kernel

/-! ### instances (non-vacuity) -/

/-- `where a > 1` with ORDER BY and LIMIT attached -/
def lWhere : SubA := { link (.where_ .zero .zero (eGt eA (eNum [48]))) with sort := some [aDesc], take := some (eNum [49]) }
def selWhere : Select := (selOf [] lWhere).getD dummySel

example : evalSelect db [] selWhere = subEvalA [] db (lookupTable db [] [84]) lWhere :=
  C02_sel_where [] db [] lWhere [84] selWhere .zero .zero _ rfl rfl (eq_some_getD _ (by decide +kernel))
example : subEvalA [] db (lookupTable db [] [84]) lWhere = ⟨[[97]], [[.int 2]]⟩ := by decide +kernel

def lNone : SubA := { name := [113], source := .table [84], sort := some [aDesc] }
example : evalSelect db [] ((selOf [] lNone).getD dummySel) = subEvalA [] db (lookupTable db [] [84]) lNone :=
  C02_sel_none [] db [] lNone [84] _ rfl rfl (eq_some_getD _ (by decide +kernel))

def lAs : SubA := link (.as_ .zero .zero (some (mkId [88])))
example : evalSelect db [] ((selOf [] lAs).getD dummySel) = subEvalA [] db (lookupTable db [] [84]) lAs :=
  C02_sel_as [] db [] lAs [84] _ .zero .zero _ rfl rfl (eq_some_getD _ (by decide +kernel))

def lCount : SubA := { link (.count .zero .zero) with take := some (eNum [49]) }
example : evalSelect db [] ((selOf [] lCount).getD dummySel) = subEvalA [] db (lookupTable db [] [84]) lCount :=
  C02_sel_count [] db [] lCount [84] _ .zero .zero rfl rfl (eq_some_getD _ (by decide +kernel))

def lRender : SubA := link (.render .zero .zero (some (mkId [112])) .zero .zero [⟨some (mkId [116]), .zero, eA⟩] .zero)
example : evalSelect db [] ((selOf [] lRender).getD dummySel) = subEvalA [] db (lookupTable db [] [84]) lRender :=
  C02_sel_render [] db [] lRender [84] _ .zero .zero _ .zero .zero _ .zero rfl rfl (eq_some_getD _ (by decide +kernel))

/-- `extend b = a + a` with `ORDER BY a DESC` (the source column) attached -/
def lExtend : SubA :=
  { link (.extend .zero .zero [col [98] (.binary eA .zero .plus eA)]) with sort := some [aDesc] }
example : evalSelect db [] ((selOf [] lExtend).getD dummySel) = subEvalA [] db (lookupTable db [] [84]) lExtend :=
  C02_sel_extend [] db [] lExtend [84] _ .zero .zero _ rfl rfl (eq_some_getD _ (by decide +kernel)) (by decide +kernel)
example : subEvalA [] db (lookupTable db [] [84]) lExtend = ⟨[[97], [98]], [[.int 2, .int 4], [.int 1, .int 2]]⟩ := by
  decide +kernel

def lProject : SubA := link (.project .zero .zero [col [98] eA, ⟨some (mkId [97]), .zero, .nil⟩])
example : evalSelect db [] ((selOf [] lProject).getD dummySel) = subEvalA [] db (lookupTable db [] [84]) lProject :=
  C02_sel_project [] db [] lProject [84] _ .zero .zero _ rfl rfl (eq_some_getD _ (by decide +kernel)) (by decide +kernel) (by decide +kernel)

def lSummarize : SubA := link (.summarize .zero .zero [col [110] eCount] .zero [col [107] eA])
example : evalSelect db [] ((selOf [] lSummarize).getD dummySel) = subEvalA [] db (lookupTable db [] [84]) lSummarize :=
  C02_sel_summarize [] db [] lSummarize [84] _ .zero .zero _ .zero _ rfl rfl (eq_some_getD _ (by decide +kernel)) (by decide +kernel) (by decide +kernel)

/-- `T | where a > 0 | sort by a desc | take 1 | project b = a | as R | summarize n = count() by b | top 1 by b desc` -/
def okOps : OpList :=
  .cons (.where_ .zero .zero (eGt eA (eNum [48]))) (.cons (.sort .zero .zero [aDesc]) (.cons (.take .zero .zero (eNum [49]))
  (.cons (.project .zero .zero [col [98] eA]) (.cons (.as_ .zero .zero (some (mkId [82])))
  (.cons (.summarize .zero .zero [col [110] eCount] .zero [⟨none, .zero, .qident [mkId [98]]⟩])
  (.cons (.top .zero .zero (eNum [49]) .zero (some ⟨.qident [mkId [98]], false, .zero, false, .zero⟩)) .nil))))))
def okSubs : List SubA := (splitA [] (.mk (some idT) okOps)).getD []
def okSt : Statement := (stmtOf [] okSubs).getD ⟨[], dummySel⟩

example : okSubs.length = 5 ∧ okSt.ctes.length = 4 := by decide +kernel

theorem okOps_joinFree : joinFree okOps = true := by decide +kernel
theorem okOps_opsOk : opsOk okOps = true := by decide +kernel
theorem okSubs_eq : splitA [] (.mk (some idT) okOps) = some okSubs := eq_some_getD [] (by decide +kernel)
theorem okSt_eq : stmtOf [] okSubs = some okSt := eq_some_getD _ (by decide +kernel)

example : evalStatement db okSt = Rel.interp [] db (.mk (some idT) okOps) :=
  C02_statement_interp [] db idT okOps okSubs okSt okOps_joinFree okSubs_eq okSt_eq (by decide +kernel) okOps_opsOk

example : evalStatement db okSt = Rel.interpOps [] db (lookupTable db [] idT.name) okOps :=
  C02_statement_semantics_ctes [] db idT okOps okSubs okSt okOps_joinFree okSubs_eq okSt_eq (by decide +kernel) okOps_opsOk

example : Rel.interp [] db (.mk (some idT) okOps) = ⟨[[], [110]], [[.int 2, .int 1]]⟩ := by decide +kernel

/-- the program-level theorem on the same pipeline (it has one `as`, named `R`) -/
example : evalStatement db ((intended [] [.tabular (.mk (some idT) okOps)]).getD ⟨[], dummySel⟩) =
    Rel.interp [] db (.mk (some idT) okOps) :=
  C02_intended_semantics [] db idT okOps _ okOps_joinFree (eq_some_getD _ (by decide +kernel)) (by decide +kernel) okOps_opsOk

/-- the duplicate-`as` pipeline violates `asNamesOk` -/
example : asNamesOk dupOps = false := by decide +kernel

end Pql.C02.Cex
