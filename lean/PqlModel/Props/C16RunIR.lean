/-
Property C16, tie by translation: the main loop of the command-line tool.

The body of `func run(ctx, output, input, logError) error` (cmd/pql/main.go) is regenerated from
the Go source on every run as an IR (`Facts.cliIR`, `Facts.cliRunParams`; translator
`harness/extract_cli.go`, interpreter `Model/CliIR.lean`).  This file proves that the hand-written
model `cliRun` (with `cliLine`, `cliStatement`) IS the interpretation of the regenerated IR (`C16_run_ir`).

The proof is by induction over the lines (`scanLoop_fold`) and, inside one line, over the pieces
`SplitStatements` returns (`rangeLoop_fold`); one piece is `stmt_step`.  The sticky `finalError`
variable is, inside the loop, a function of the model's `failed` flag (`errOf`).

A dropped `+ ";X"`, a prelude extended without `";\n"`, a missing `continue`, a builder reset to
something else than the last piece, a final statement compiled without the prelude, the read-error
check moved after the final statement … change the regenerated IR and break `run_ir` (the decoded
body is not the expected one).
-/
import PqlModel.Model.CliIR
import PqlModel.Lemmas.CliLemmasRun
namespace Pql.CliIR
open Pql
set_option linter.unusedSimpArgs false

/-- the library as the model sees it: the model's `SplitStatements` and `Scan`, `Compile` a parameter -/
def modelLib (compile : Bytes → Option Bytes) : Lib := ⟨splitStatements, scan, compile⟩

def msgCompile : String := "one or more statements could not be compiled"
def msgRead : String := "input could not be read completely"

/-- `len(tokens) > 0 && tokens[0].Kind == parser.TokenIdentifier && tokens[0].Value == "let"` -/
def letCond : Cond :=
  .and (.and (.lenGt 0 (.var "tokens")) (.kindIs "tokens" 0 "TokenIdentifier")) (.valueIs "tokens" 0 "let")

/-- the `let` arm: `{ _, err := pql.Compile(letStatements.String() + stmt + ";X"); … }; continue` -/
def letArm : List Stmt :=
  [.scope
     [.compile "_" "err" (.cat (.cat (.sbStr "letStatements") (.var "stmt")) (.lit ";X")),
      .ite (.notNil "err")
        [.call "logError" (.var "err"), .set "finalError" (.errNew msgCompile)]
        [.write "letStatements" (.var "stmt"), .write "letStatements" (.lit ";\n")]],
   .continue_]

/-- what follows the `let` test: compile with the prelude, print -/
def queryArm : List Stmt :=
  [.compile "sql" "err" (.cat (.sbStr "letStatements") (.var "stmt")),
   .ite (.notNil "err")
     [.call "logError" (.var "err"), .set "finalError" (.errNew msgCompile), .continue_]
     [],
   .fprintfS "output" "" "\n\n" (.var "sql")]

/-- the body of `for _, stmt := range statements[:len(statements)-1]` -/
def stmtBody : List Stmt :=
  .def_ "tokens" (.scan (.var "stmt")) :: .ite letCond letArm [] :: queryArm

def linePre : List Stmt :=
  [.write "sb" (.scanBytes "scanner"), .writeByte "sb" "\n", .def_ "statements" (.split (.sbStr "sb"))]
def lineOne : Stmt := .ite (.lenEq 1 (.var "statements")) [.continue_] []
def lineRange : Stmt := .range "stmt" (.init "statements") stmtBody
def linePost : List Stmt := [.reset "sb", .write "sb" (.last "statements")]

/-- the body of `for scanner.Scan()` -/
def lineBody : List Stmt := linePre ++ (lineOne :: lineRange :: linePost)

/-- `if err := scanner.Err(); err != nil { … }` -/
def readCheck : Stmt :=
  .scope
    [.def_ "err" (.scanErr "scanner"),
     .ite (.notNil "err")
       [.call "logError" (.errorfW "read input: %w" (.var "err")), .set "finalError" (.errNew msgRead)]
       []]

/-- the unterminated last statement, the result -/
def lastBody : List Stmt :=
  [.scope
     [.def_ "stmt" (.sbStr "sb"),
      .ite (.lenGt 0 (.scan (.var "stmt")))
        [.compile "sql" "err" (.cat (.sbStr "letStatements") (.var "stmt")),
         .ite (.notNil "err") [.call "logError" (.var "err"), .ret (.errNew msgCompile)] [],
         .fprintfS "output" "" "\n\n" (.var "sql")]
        []],
   .ret (.var "finalError")]

/-- the statements after the loop -/
def tailBody : List Stmt := readCheck :: lastBody

def runPre : List Stmt :=
  [.newScanner "scanner" "input", .newSb "sb",
   .stderrNote "input" "Reading from terminal (use semicolons to end statements)...",
   .varErr "finalError", .newSb "letStatements"]

def runIR : List Stmt := runPre ++ (.forScan "scanner" lineBody :: tailBody)

theorem run_ir : decode Facts.cliIR = some runIR := by rfl

theorem run_params :
    paramVars Facts.cliRunParams =
      some [("ctx", .ctx), ("output", .writer), ("input", .reader), ("logError", .logger)] := by rfl

/-- the variables in scope in the body of the scanner loop, innermost first -/
def loopVars (lets : Bytes) (e : Option GoErr) (sb : Bytes) : List (String × Val) :=
  [("letStatements", .builder lets), ("finalError", .err e), ("sb", .builder sb), ("scanner", .scanner),
   ("logError", .logger), ("input", .reader), ("output", .writer), ("ctx", .ctx)]

def errOf (s : CliState) : Option GoErr := if s.failed then some (.new msgCompile) else none

/-- the interpreter state that stands for the model state `s` when the builder `sb` holds `sb`,
    with `extra` variables declared on top -/
def mkSt (extra : List (String × Val)) (s : CliState) (sb : Bytes) (inp : List Bytes) (cur : Bytes) (dn re : Bool) : State :=
  ⟨extra ++ loopVars s.lets (errOf s) sb, s.out, s.nErrors, inp, cur, dn, re⟩

def StepsTo (r : M (Flow × State)) (outer target : State) : Prop :=
  ∃ f st1, r = .ok (f, st1) ∧ (f = .next ∨ f = .cont) ∧ st1.leave outer = target

theorem rangeLoop_fold {α : Type} (elem : String) (body : State → M (Flow × State)) (mk : α → State)
    (step : α → Bytes → α) :
    ∀ (xs : List Bytes) (a : α),
      (∀ a, ∀ x ∈ xs, StepsTo (body ((mk a).declare elem (.str x))) (mk a) (mk (step a x))) →
      rangeLoop elem body (xs.map .str) (mk a) = .ok (.next, mk (xs.foldl step a))
  | [], _, _ => rfl
  | x :: xs, a, h => by
    obtain ⟨f, st1, h1, h2, h3⟩ := h a x List.mem_cons_self
    have ih := rangeLoop_fold elem body mk step xs (step a x) (fun a y hy => h a y (List.mem_cons_of_mem _ hy))
    simp only [List.map_cons, rangeLoop, h1, List.foldl_cons, bind, Except.bind]
    rcases h2 with rfl | rfl <;> simp only [h3, ih]

theorem scanLoop_fold (body : State → M (Flow × State)) (mk : CliState → List Bytes → Bytes → State)
    (step : CliState → Bytes → CliState)
    (hmk : ∀ s inp cur, { mk s inp cur with input := [], scanDone := true } = { mk s [] cur with scanDone := true })
    (hmk2 : ∀ s inp cur l ls, { mk s inp cur with input := ls, cur := l } = mk s ls l) :
    ∀ (ls : List Bytes) (s : CliState) (inp : List Bytes) (cur : Bytes),
      (∀ s inp cur l ls', StepsTo (body (mk s ls' l)) (mk s inp cur) (mk (step s l) ls' l)) →
      ∃ c, scanLoop body ls (mk s inp cur) = .ok (.next, { mk (ls.foldl step s) [] c with scanDone := true })
  | [], s, inp, cur, _ => ⟨cur, by simp only [scanLoop, hmk, List.foldl_nil]⟩
  | l :: ls, s, inp, cur, h => by
    obtain ⟨f, st1, h1, h2, h3⟩ := h s inp cur l ls
    obtain ⟨c, ih⟩ := scanLoop_fold body mk step hmk hmk2 ls (step s l) ls l h
    refine ⟨c, ?_⟩
    simp only [scanLoop, hmk2, h1, List.foldl_cons, bind, Except.bind]
    rcases h2 with rfl | rfl <;> simp only [h3, ih]

/-! Looking a variable up compares its name with every name declared after it, and each comparison of
two string literals is dear.  So `loopVars` stays folded, what the body reads and assigns in it is
looked up once (`loopVars_find`, `loopVars_assign`), and a statement that several cases of a proof
run is run once, as a step of its own (`execBlock_next`, `exec_ite`). -/

theorem ofString_semiX : Bytes.ofString ";X" = [59, 88] := by decide
theorem ofString_semiNl : Bytes.ofString ";\n" = [59, 10] := by decide
theorem ofString_nl : Bytes.ofString "\n" = [10] := by decide
theorem ofString_nlnl : Bytes.ofString "\n\n" = [10, 10] := by decide

theorem loopVars_find (lets : Bytes) (e : Option GoErr) (sb : Bytes) :
    (loopVars lets e sb).find? (·.1 == "letStatements") = some ("letStatements", .builder lets) ∧
    (loopVars lets e sb).find? (·.1 == "finalError") = some ("finalError", .err e) ∧
    (loopVars lets e sb).find? (·.1 == "sb") = some ("sb", .builder sb) ∧
    (loopVars lets e sb).find? (·.1 == "scanner") = some ("scanner", .scanner) ∧
    (loopVars lets e sb).find? (·.1 == "logError") = some ("logError", .logger) ∧
    (loopVars lets e sb).find? (·.1 == "output") = some ("output", .writer) := by
  simp [loopVars]

theorem loopVars_assign (lets : Bytes) (e : Option GoErr) (sb : Bytes) :
    (∀ x, assignIn "letStatements" (.builder x) (loopVars lets e sb) = some (loopVars x e sb)) ∧
    (∀ e', assignIn "finalError" (.err e') (loopVars lets e sb) = some (loopVars lets e' sb)) ∧
    (∀ x, assignIn "sb" (.builder x) (loopVars lets e sb) = some (loopVars lets e x)) := by
  simp [loopVars, assignIn]

theorem loopVars_length (lets : Bytes) (e : Option GoErr) (sb : Bytes) : (loopVars lets e sb).length = 8 := rfl

syntax "cli_simp" (" [" Lean.Parser.Tactic.simpLemma,* "]")? : tactic
macro_rules
  | `(tactic| cli_simp) => `(tactic| cli_simp [])
  | `(tactic| cli_simp [$ls,*]) =>
    `(tactic| simp [execBlock, exec, eval, evalCond, State.get, State.declare, State.assign, State.leave, assignIn,
        withBuilder, strOf, lenOf, tokAt, stuck, goPanic, bind, Except.bind, pure, Except.pure, Except.map,
        loopVars_find, loopVars_assign, loopVars_length, mkSt, modelLib, ofString_semiX, ofString_semiNl, ofString_nl,
        ofString_nlnl, ofString_empty, kind_ident, $ls,*])

theorem execBlock_next {lib : Lib} {s : Stmt} {st st1 : State} (r : List Stmt)
    (h : exec lib s st = .ok (.next, st1)) : execBlock lib (s :: r) st = execBlock lib r st1 := by
  rw [execBlock, h]
  rfl

theorem exec_ite {lib : Lib} {c : Cond} {st : State} {b : Bool} (t e : List Stmt) (h : evalCond lib st c = .ok b) :
    exec lib (.ite c t e) st = (execBlock lib (if b then t else e) st).map fun r => (r.1, r.2.leave st) := by
  rw [exec, h]
  cases b
  · rw [if_neg Bool.false_ne_true]
    cases execBlock lib e st <;> rfl
  · rw [if_pos rfl]
    cases execBlock lib t st <;> rfl

theorem letCond_eval (lib : Lib) (st : State) (stmt : Bytes) (h : st.get "tokens" = .ok (.toks (scan stmt))) :
    evalCond lib st letCond = .ok (isLetStatement stmt) := by
  unfold letCond isLetStatement
  cases hs : scan stmt with
  | nil => simp [evalCond, eval, tokAt, lenOf, h, hs, bind, Except.bind, pure, Except.pure]
  | cons t ts =>
    by_cases hk : t.kind = .ident <;>
      simp [evalCond, eval, tokAt, lenOf, h, hs, hk, kind_ident, bind, Except.bind, pure, Except.pure]

theorem stmt_step (compile : Bytes → Option Bytes) (pieces : List Bytes) (text : Bytes) (inp : List Bytes) (cur : Bytes)
    (dn re : Bool) (s : CliState) (stmt : Bytes) :
    StepsTo (execBlock (modelLib compile) stmtBody
        ((mkSt [("statements", .strs pieces)] s text inp cur dn re).declare "stmt" (.str stmt)))
      (mkSt [("statements", .strs pieces)] s text inp cur dn re)
      (mkSt [("statements", .strs pieces)] (cliStatement compile s stmt) text inp cur dn re) := by
  have htok : exec (modelLib compile) (.def_ "tokens" (.scan (.var "stmt")))
      ((mkSt [("statements", .strs pieces)] s text inp cur dn re).declare "stmt" (.str stmt)) =
      .ok (.next, mkSt [("tokens", .toks (scan stmt)), ("stmt", .str stmt), ("statements", .strs pieces)] s text inp cur dn re) := by
    cli_simp
  have hlet := letCond_eval (modelLib compile)
    (mkSt [("tokens", .toks (scan stmt)), ("stmt", .str stmt), ("statements", .strs pieces)] s text inp cur dn re) stmt
    (by cli_simp)
  unfold StepsTo cliStatement
  rw [stmtBody, execBlock_next _ htok, execBlock, exec_ite _ _ hlet]
  cases isLetStatement stmt
  · unfold queryArm
    cases hc : compile (s.lets ++ stmt) <;> cli_simp [hc, errOf] <;>
      exact ⟨_, _, ⟨rfl, rfl⟩, by simp, by simp [loopVars_length]⟩
  · have hX : s.lets ++ stmt ++ Bytes.ofString ";X" = s.lets ++ (stmt ++ [59, 88]) := by simp [ofString_semiX]
    rw [hX]
    unfold letArm
    cases hc : compile (s.lets ++ (stmt ++ [59, 88])) <;> cli_simp [hc, errOf] <;>
      exact ⟨_, _, ⟨rfl, rfl⟩, by simp, by simp [loopVars_length]⟩

theorem pieces_loop (compile : Bytes → Option Bytes) (pieces : List Bytes) (text : Bytes) (inp : List Bytes) (cur : Bytes)
    (dn re : Bool) (xs : List Bytes) (s : CliState) :
    rangeLoop "stmt" (execBlock (modelLib compile) stmtBody) (xs.map .str)
        (mkSt [("statements", .strs pieces)] s text inp cur dn re) =
      .ok (.next, mkSt [("statements", .strs pieces)] (xs.foldl (cliStatement compile) s) text inp cur dn re) :=
  rangeLoop_fold "stmt" _ (fun s => mkSt [("statements", .strs pieces)] s text inp cur dn re) (cliStatement compile) xs s
    (fun a x _ => stmt_step compile pieces text inp cur dn re a x)

theorem execBlock_append (lib : Lib) : ∀ (xs ys : List Stmt) (st : State),
    execBlock lib (xs ++ ys) st =
      (execBlock lib xs st >>= fun r => match r.1 with | .next => execBlock lib ys r.2 | _ => pure r)
  | [], ys, st => by simp [execBlock, bind, Except.bind]
  | x :: xs, ys, st => by
    simp only [List.cons_append, execBlock, bind, Except.bind]
    cases exec lib x st with
    | error e => rfl
    | ok r =>
      obtain ⟨f, st1⟩ := r
      cases f <;> simp [execBlock_append lib xs ys st1, bind, Except.bind, pure, Except.pure]

theorem foldl_pending (compile : Bytes → Option Bytes) : ∀ (xs : List Bytes) (s : CliState),
    (xs.foldl (cliStatement compile) s).pending = s.pending :=
  foldl_cliStatement_pending compile

theorem line_pre (compile : Bytes → Option Bytes) (s : CliState) (re : Bool) (l : Bytes) (ls : List Bytes) :
    execBlock (modelLib compile) linePre (mkSt [] s s.pending ls l false re) =
      .ok (.next, mkSt [("statements", .strs (splitStatements (s.pending ++ l ++ [10])))] s (s.pending ++ l ++ [10]) ls l false re) := by
  unfold linePre
  cli_simp

theorem line_range (compile : Bytes → Option Bytes) (s : CliState) (re : Bool) (l : Bytes) (ls : List Bytes)
    (text : Bytes) (xs : List Bytes) (last : Bytes) :
    exec (modelLib compile) lineRange (mkSt [("statements", .strs (xs ++ [last]))] s text ls l false re) =
      .ok (.next, mkSt [("statements", .strs (xs ++ [last]))] (xs.foldl (cliStatement compile) s) text ls l false re) := by
  have hev : eval (modelLib compile) (mkSt [("statements", .strs (xs ++ [last]))] s text ls l false re) (.init "statements") =
      .ok (.strs xs) := by cli_simp
  unfold lineRange
  simp only [exec, hev, bind, Except.bind]
  exact pieces_loop compile _ text ls l false re xs s

theorem line_step (compile : Bytes → Option Bytes) (s : CliState) (inp : List Bytes) (cur : Bytes) (re : Bool)
    (l : Bytes) (ls : List Bytes) :
    StepsTo (execBlock (modelLib compile) lineBody (mkSt [] s s.pending ls l false re))
      (mkSt [] s s.pending inp cur false re)
      (mkSt [] (cliLine compile s l) (cliLine compile s l).pending ls l false re) := by
  have hne := splitStatements_ne_nil (s.pending ++ l ++ [10])
  unfold cliLine
  simp only []
  rw [lineBody, execBlock_append, line_pre]
  generalize s.pending ++ l ++ [10] = text at *
  cases hr : (splitStatements text).reverse with
  | nil => simp at hr; exact absurd hr hne
  | cons last initRev =>
    have hp : splitStatements text = initRev.reverse ++ [last] := by
      have := congrArg List.reverse hr
      simpa using this
    rw [hp]
    cases initRev with
    | nil =>
      unfold StepsTo lineOne
      cli_simp
      exact ⟨_, _, ⟨rfl, rfl⟩, by simp, by simp [errOf, loopVars_length]⟩
    | cons x xs =>
      have hone : exec (modelLib compile) lineOne (mkSt [("statements", .strs ((x :: xs).reverse ++ [last]))] s text ls l false re) =
          .ok (.next, mkSt [("statements", .strs ((x :: xs).reverse ++ [last]))] s text ls l false re) := by
        unfold lineOne
        cli_simp
      unfold StepsTo
      simp only [bind, Except.bind, execBlock, hone, line_range]
      cli_simp [linePost, foldl_pending]
      exact ⟨_, _, ⟨rfl, rfl⟩, by simp, by simp [errOf, loopVars_length]⟩

theorem lines_loop (compile : Bytes → Option Bytes) (re : Bool) (lines : List Bytes) (s : CliState) (inp : List Bytes) (cur : Bytes) :
    ∃ c, scanLoop (execBlock (modelLib compile) lineBody) lines (mkSt [] s s.pending inp cur false re) =
      .ok (.next, mkSt [] (lines.foldl (cliLine compile) s) (lines.foldl (cliLine compile) s).pending [] c true re) :=
  scanLoop_fold _ (fun s inp cur => mkSt [] s s.pending inp cur false re) (cliLine compile)
    (fun _ _ _ => rfl) (fun _ _ _ _ _ => rfl) lines s inp cur
    (fun s inp cur l ls => line_step compile s inp cur re l ls)

/-- what `run` does once the lines are consumed and the read error is checked: `n` errors reported so
    far, `e` in `finalError` -/
def lastOutcome (compile : Bytes → Option Bytes) (s : CliState) (n : Nat) (e : Option GoErr) : Outcome :=
  if (scan s.pending).isEmpty then ⟨s.out, n, e⟩
  else
    match compile (s.lets ++ s.pending) with
    | some sql => ⟨s.out ++ sql ++ [10, 10], n, e⟩
    | none => ⟨s.out, n + 1, some (.new msgCompile)⟩

def tailOutcome (compile : Bytes → Option Bytes) (s : CliState) (re : Bool) : Outcome :=
  lastOutcome compile s (if re then s.nErrors + 1 else s.nErrors) (if re then some (.new msgRead) else errOf s)

theorem readCheck_run (compile : Bytes → Option Bytes) (s : CliState) (c : Bytes) (re : Bool) :
    exec (modelLib compile) readCheck (mkSt [] s s.pending [] c true re) =
      .ok (.next, ⟨loopVars s.lets (if re then some (.new msgRead) else errOf s) s.pending, s.out,
        if re then s.nErrors + 1 else s.nErrors, [], c, true, re⟩) := by
  unfold readCheck
  cases re <;> cli_simp

theorem lastBody_run (compile : Bytes → Option Bytes) (s : CliState) (n : Nat) (e : Option GoErr) (c : Bytes) (re : Bool) :
    ∃ st, execBlock (modelLib compile) lastBody ⟨loopVars s.lets e s.pending, s.out, n, [], c, true, re⟩ =
        .ok (.ret (lastOutcome compile s n e).err, st) ∧
      st.out = (lastOutcome compile s n e).out ∧ st.nErrors = (lastOutcome compile s n e).nErrors := by
  unfold lastBody lastOutcome
  cases hs : scan s.pending with
  | nil => cli_simp [hs]
  | cons t ts => cases hc : compile (s.lets ++ s.pending) <;> cli_simp [hs, hc]

theorem tail_run (compile : Bytes → Option Bytes) (s : CliState) (c : Bytes) (re : Bool) :
    ∃ st, execBlock (modelLib compile) tailBody (mkSt [] s s.pending [] c true re) =
        .ok (.ret (tailOutcome compile s re).err, st) ∧
      st.out = (tailOutcome compile s re).out ∧ st.nErrors = (tailOutcome compile s re).nErrors := by
  rw [tailBody, execBlock_next _ (readCheck_run compile s c re)]
  exact lastBody_run compile s _ _ c re

theorem run_pre (compile : Bytes → Option Bytes) (lines : List Bytes) (re : Bool) :
    execBlock (modelLib compile) runPre
        { vars := [("logError", .logger), ("input", .reader), ("output", .writer), ("ctx", .ctx)],
          input := lines, readErr := re } =
      .ok (.next, mkSt [] {} [] lines [] false re) := rfl

def runOutcome (compile : Bytes → Option Bytes) (lines : List Bytes) (readErr : Bool) : Outcome :=
  tailOutcome compile (lines.foldl (cliLine compile) {}) readErr

theorem runOutcome_result (compile : Bytes → Option Bytes) (lines : List Bytes) (readErr : Bool) :
    (runOutcome compile lines readErr).result = cliRun compile lines readErr := by
  unfold runOutcome tailOutcome lastOutcome cliRun Outcome.result
  generalize lines.foldl (cliLine compile) {} = s
  cases readErr <;> cases hs : (scan s.pending).isEmpty <;> cases hc : compile (s.lets ++ s.pending) <;>
    simp [hs, hc, errOf] <;> cases s.failed <;> simp

theorem interpRun_eq (compile : Bytes → Option Bytes) (lines : List Bytes) (readErr : Bool) :
    interpRun (modelLib compile) lines readErr = .ok (runOutcome compile lines readErr) := by
  obtain ⟨c, hloop⟩ := lines_loop compile readErr lines {} lines []
  obtain ⟨st, htail, hout, hn⟩ := tail_run compile (lines.foldl (cliLine compile) {}) c readErr
  have hscan : exec (modelLib compile) (.forScan "scanner" lineBody) (mkSt [] {} [] lines [] false readErr) =
      .ok (.next, mkSt [] (lines.foldl (cliLine compile) {}) (lines.foldl (cliLine compile) {}).pending [] c true readErr) := by
    have hget : (mkSt [] {} [] lines [] false readErr).get "scanner" = .ok .scanner := rfl
    simp only [exec, hget, bind, Except.bind]
    exact hloop
  unfold interpRun runBody
  rw [run_ir, run_params, runIR]
  simp only [execBlock_append, List.reverse_cons, List.reverse_nil, List.nil_append, List.cons_append, run_pre, bind, Except.bind,
    execBlock, hscan, htail, pure, Except.pure]
  unfold runOutcome
  rw [hout, hn]

/-- **C16, tie by translation**: for every `compile`, every list of lines and both values of the
    read-error flag, interpreting the body of `run` as regenerated from cmd/pql/main.go — with
    `parser.SplitStatements`, `parser.Scan` instantiated by the model's functions and `pql.Compile`
    by `compile` — neither panics nor gets stuck and produces exactly `cliRun compile lines readErr`:
    the bytes written to `output`, the number of `logError` calls, and whether the returned error is
    non-nil. -/
theorem C16_run_ir (compile : Bytes → Option Bytes) (lines : List Bytes) (readErr : Bool) :
    (interpRun (modelLib compile) lines readErr).map Outcome.result = .ok (cliRun compile lines readErr) := by
  rw [interpRun_eq, ← runOutcome_result]
  rfl

/-- the same for the tool on input bytes, `bufio.Scanner` as modelled by `bufioLines` (still `run` alone: `func main` as
    translated code is `MainIR.C16_main_ir`, Props/C16MainIR.lean) -/
theorem C16_main_ir (compile : Bytes → Option Bytes) (input : Bytes) :
    (interpRun (modelLib compile) (bufioLines input).1 (bufioLines input).2).map Outcome.result =
      .ok (cliMain compile input) :=
  C16_run_ir compile _ _

/-- the error `run` returns is nil or one of its two literal messages -/
theorem C16_run_ir_error (compile : Bytes → Option Bytes) (lines : List Bytes) (readErr : Bool) :
    ∃ o, interpRun (modelLib compile) lines readErr = .ok o ∧
      (o.err = none ∨ o.err = some (.new msgCompile) ∨ o.err = some (.new msgRead)) := by
  refine ⟨_, interpRun_eq compile lines readErr, ?_⟩
  unfold runOutcome tailOutcome lastOutcome errOf
  generalize lines.foldl (cliLine compile) {} = s
  cases readErr <;> simp <;> split <;> (try split) <;> simp <;> cases s.failed <;> simp

/-! ### the interpreter's failure modes are real

`C16_run_ir` says the regenerated body never reaches them; an edited body can. -/

/-- `w[:len(w)-1]` and `w[len(w)-1]` of an empty slice panic -/
theorem empty_slice_panics (lib : Lib) (st : State) (h : st.get "w" = .ok (.strs [])) :
    eval lib st (.init "w") = .error .panic ∧ eval lib st (.last "w") = .error .panic := by
  simp [eval, h, bind, Except.bind, goPanic]

/-- `tokens[0].Kind == …` without the `len(tokens) > 0 &&` guard panics on a piece without tokens;
    with the guard it is false -/
theorem unguarded_index_panics (lib : Lib) (st : State) (h : st.get "tokens" = .ok (.toks [])) :
    evalCond lib st (.kindIs "tokens" 0 "TokenIdentifier") = .error .panic ∧
      evalCond lib st letCond = .ok false := by
  simp [evalCond, eval, tokAt, lenOf, letCond, h, bind, Except.bind, goPanic, pure, Except.pure]

/-- a body that falls off its end, or `continue`s outside a loop, is not a function body -/
theorem no_return_stuck (lib : Lib) (lines : List Bytes) (re : Bool) :
    runBody lib Facts.cliRunParams [] lines re = .error .stuck ∧
      runBody lib Facts.cliRunParams [.continue_] lines re = .error .stuck := by
  constructor <;> rfl

end Pql.CliIR
