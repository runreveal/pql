/-
Property C16 — the command-line tool's line loop refines the whole-input specification.
-/
import PqlModel.Lemmas.CliLemmasLast
namespace Pql.C16
open Pql

/-- **C16 (refinement), general form.** For every `compile`, every list of lines (a line may
    even contain newline bytes) and both values of `readErr`, the line loop with its pending
    buffer computes exactly what the specification computes from the whole normalised input. -/
theorem C16_refines_all (compile : Bytes → Option Bytes) (lines : List Bytes) (readErr : Bool) :
    cliRun compile lines readErr = CliSpec.run compile lines readErr := by
  rw [cliRun_eq_cliFrom, specRun_eq_specFrom]
  have := cliFrom_eq_specFrom compile lines readErr {} {} ⟨rfl, rfl, rfl, rfl⟩ closed_nil
    (by
      show splitStatements [] = [[]]
      exact splitStatements_nosemi [] (by simp [scan, scanFrom_nil]))
  simpa using this

/-- **C16 (refinement).** The line loop refines the whole-input specification, for every
    `compile`, every list of lines in which no line contains a newline byte (what
    `bufio.Scanner` delivers), and both values of `readErr`.  (`C16_refines_all` is the statement
    without the hypothesis `hl`.) -/
theorem C16_refines (compile : Bytes → Option Bytes) (lines : List Bytes) (readErr : Bool)
    (_hl : ∀ l ∈ lines, (10 : UInt8) ∉ l) :
    cliRun compile lines readErr = CliSpec.run compile lines readErr :=
  C16_refines_all compile lines readErr

/-- The statement that is still open after `lines`: the text behind the last semicolon token
    of the normalised input. -/
def openStatement (lines : List Bytes) : Bytes := lastPiece (CliSpec.normalise lines)

/-- **C16 (a query at the end of the input, terminated or not).**  Let the last input line be
    `q`, where `q` scans to at least one token and to no semicolon token, and a ';' put
    behind `q` is scanned as a semicolon token (`q` does not end inside a comment, string or
    quoted name); let the statement that `q` completes (the text behind the last semicolon
    token of the earlier lines, then `q`) not be a `let` statement.  If `compile` ignores one
    trailing newline, the specification gives the same result (standard output, number of
    logged errors, exit status) whether the last line is `q;` or `q`.  That `compile` ignores a
    trailing newline (`hnl`) is assumed: no theorem proves it of a model of `pql.Compile`. -/
theorem C16_last_terminated_or_not (compile : Bytes → Option Bytes) (lines : List Bytes)
    (q : Bytes) (readErr : Bool)
    (hnl : ∀ x, compile (x ++ [10]) = compile x)
    (htok : scan q ≠ [])
    (hsemi : ∀ t ∈ scan q, t.kind ≠ .semi)
    (hb : (⟨.semi, q.length, q.length + 1, []⟩ : Token) ∈ scan (q ++ [59, 10]))
    (hlet : isLetStatement (openStatement lines ++ q) = false) :
    CliSpec.run compile (lines ++ [q ++ [59]]) readErr =
      CliSpec.run compile (lines ++ [q]) readErr := by
  have hN := closed_normalise lines
  have hP : Closed (openStatement lines) := closed_lastPiece hN
  have hPs : ∀ t ∈ scan (openStatement lines), t.kind ≠ .semi :=
    C15.C15_no_semi_in_piece _ _ (lastPiece_mem _)
  have hscan : scan (openStatement lines ++ q) =
      scan (openStatement lines) ++ (scan q).map (Token.shift (openStatement lines).length) := by
    unfold scan
    rw [scanFrom_append _ q 0 (hP q), scanFrom_eq_map_scan q]
    simp [scan]
  have hq : Reaches (q ++ 59 :: [10]) q.length := by
    have := (reaches_iff_semi_mem q [10] 0).mpr (by simpa [scan] using hb)
    exact this
  have h1 : CliSpec.normalise (lines ++ [q ++ [59]]) =
      CliSpec.normalise lines ++ (q ++ 59 :: [10]) := by
    rw [normalise_concat]; simp
  have h2 : CliSpec.normalise (lines ++ [q]) = CliSpec.normalise lines ++ (q ++ [10]) :=
    normalise_concat lines q
  rw [specRun_eq_specFrom, specRun_eq_specFrom, h1, h2,
    specFrom_append compile {} _ _ readErr (hN _), specFrom_append compile {} _ _ readErr (hN _)]
  have := specFrom_last_terminated_or_not compile
    ((splitStatements (CliSpec.normalise lines)).dropLast.foldl (CliSpec.statement compile) {})
    (openStatement lines ++ q) readErr hnl
    (by
      intro t ht
      rw [hscan] at ht
      rcases List.mem_append.mp ht with ht | ht
      · exact hPs t ht
      · obtain ⟨t', ht', rfl⟩ := List.mem_map.mp ht
        exact hsemi t' ht')
    (by
      have := Reaches.trans (hP (q ++ 59 :: [10])) (by rw [List.drop_left]; exact hq)
      simpa using this)
    (by
      rw [hscan]
      intro h0
      have := (List.append_eq_nil_iff.mp h0).2
      exact htok (List.map_eq_nil_iff.mp this))
    hlet
  simpa [openStatement] using this

/-- The same for the line loop itself (by `C16_refines_all`). -/
theorem C16_last_terminated_or_not_cli (compile : Bytes → Option Bytes) (lines : List Bytes)
    (q : Bytes) (readErr : Bool)
    (hnl : ∀ x, compile (x ++ [10]) = compile x)
    (htok : scan q ≠ [])
    (hsemi : ∀ t ∈ scan q, t.kind ≠ .semi)
    (hb : (⟨.semi, q.length, q.length + 1, []⟩ : Token) ∈ scan (q ++ [59, 10]))
    (hlet : isLetStatement (openStatement lines ++ q) = false) :
    cliRun compile (lines ++ [q ++ [59]]) readErr = cliRun compile (lines ++ [q]) readErr := by
  rw [C16_refines_all, C16_refines_all]
  exact C16_last_terminated_or_not compile lines q readErr hnl htok hsemi hb hlet

/-- a `compile` that ignores newlines: succeeds on an even number of other bytes -/
private def demoCompile (s : Bytes) : Option Bytes :=
  let t := s.filter (· != 10)
  if t.length % 2 = 0 then some t else none

-- a;'b   /   ;c'd;   /   //x;   /   ef      (a string broken by the end of a line, a comment)
#guard cliRun demoCompile [[97, 59, 39, 98], [59, 99, 39, 100, 59], [47, 47, 120, 59], [101, 102]] false
  = CliSpec.run demoCompile [[97, 59, 39, 98], [59, 99, 39, 100, 59], [47, 47, 120, 59], [101, 102]] false
-- `ab;` and `ab` as the only line
#guard CliSpec.run demoCompile [[97, 98, 59]] false = CliSpec.run demoCompile [[97, 98]] false
-- `htok` is needed: a lone `;` is an (empty, failing) statement, an empty line is nothing
#guard CliSpec.run (fun _ => none) [[59]] false ≠ CliSpec.run (fun _ => none) [[]] false
-- `hb` is needed: in `'x;` the ';' is inside the broken string and reaches `compile`
#guard CliSpec.run demoCompile [[39, 120, 59]] false ≠ CliSpec.run demoCompile [[39, 120]] false
#guard (CliSpec.run (fun _ => none) [[97, 59]] false).nErrors = 1

end Pql.C16
