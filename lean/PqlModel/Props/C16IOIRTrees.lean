/-
Property C16, tie by translation: the EXPECTED statement trees of the input/output plumbing of cmd/pql/main.go
(`(*multiReadCloser).Read`, `(*multiReadCloser).Close`, `makeInput`, `makeOutput`, `isTerminal`).

`harness/extract_cliio.go` regenerates `Facts.cliIOIR` from the Go source on every run; `Model/CliIOIR.lean`
decodes it.  Each `…_ir` theorem says that what is regenerated for one Go function decodes to the tree written
here, which is the one the semantic theorems of Props/C16IOIR*.lean are about: an edit of the Go function
changes the regenerated IR and that function's `_ir` theorem stops building.  (The trees are literal text;
nothing in this file is regenerated.)
-/
import PqlModel.Model.CliIOIR
namespace Pql.CliIOIR
open Pql

def readBody : List Stmt :=
  [.while_
      (.gt
        (.len (.fld "readers" (.var "mrc")))
        (.int 0))
      [.read
         (.set "n")
         (.set "err")
         "p"
         (.idx 0 (.fld "readers" (.var "mrc"))),
       .ite
         (.eq (.var "err") (.eof))
         [.close
            (.blank)
            (.idx 0 (.fld "readers" (.var "mrc"))),
          .setElem "mrc" "readers" 0 (.nil),
          .assign
            (.fset "mrc" "readers")
            (.from 1 (.fld "readers" (.var "mrc")))]
         [],
       .ite
         (.or
           (.gt (.var "n") (.int 0))
           (.ne (.var "err") (.eof)))
         [.ite
            (.and
              (.eq (.var "err") (.eof))
              (.gt
                (.len (.fld "readers" (.var "mrc")))
                (.int 0)))
            [.assign (.set "err") (.nil)]
            [],
          .ret []]
         []],
    .ret [.int 0, .eof]]

def readFn : FuncIR := ⟨[("mrc", "*multiReadCloser"), ("p", "[]byte")], [("n", "int"), ("err", "error")], readBody⟩

theorem read_ir : unitOf "multiReadCloser.Read" = some readFn := by rfl


def closeBody : List Stmt :=
  [.varDecl "firstError" "error",
    .range
      "rc"
      (.fld "readers" (.var "mrc"))
      [.scope
         [.close (.def_ "err") (.var "rc"),
          .ite
            (.eq (.var "firstError") (.nil))
            [.assign (.set "firstError") (.var "err")]
            []]],
    .assign (.fset "mrc" "readers") (.nil),
    .ret [.var "firstError"]]

def closeFn : FuncIR := ⟨[("mrc", "*multiReadCloser")], [("", "error")], closeBody⟩

theorem close_ir : unitOf "multiReadCloser.Close" = some closeFn := by rfl


def makeInputBody : List Stmt :=
  [.ite
      (.or
        (.eq (.len (.var "args")) (.int 0))
        (.and
          (.eq (.len (.var "args")) (.int 1))
          (.eq
            (.idx 0 (.var "args"))
            (.str "-"))))
      [.ret [.nopR, .nil]]
      [],
    .ite
      (.eq (.len (.var "args")) (.int 1))
      [.retCall "open" (.idx 0 (.var "args"))]
      [],
    .assign (.def_ "readers") (.emptySlice "io.ReadCloser"),
    .range
      "path"
      (.var "args")
      [.ite
         (.eq (.var "path") (.str "-"))
         [.assign
            (.set "readers")
            (.append (.var "readers") (.nopR)),
          .continue_]
         [],
       .open_
         (.def_ "f")
         (.def_ "err")
         (.var "path"),
       .ite
         (.ne (.var "err") (.nil))
         [.range
            "c"
            (.var "readers")
            [.close (.blank) (.var "c")],
          .ret [.nil, .var "err"]]
         [],
       .assign
         (.set "readers")
         (.append (.var "readers") (.var "f"))],
    .ret [.newMulti (.var "readers"), .nil]]

def makeInputFn : FuncIR := ⟨[("args", "[]string")], [("", "io.ReadCloser"), ("", "error")], makeInputBody⟩

theorem makeInput_ir : unitOf "makeInput" = some makeInputFn := by rfl


def makeOutputBody : List Stmt :=
  [.ite
      (.or
        (.eq (.var "arg") (.str ""))
        (.eq (.var "arg") (.str "-")))
      [.ret [.nopW, .nil]]
      [],
    .retCall "create" (.var "arg")]

def makeOutputFn : FuncIR := ⟨[("arg", "string")], [("", "io.WriteCloser"), ("", "error")], makeOutputBody⟩

theorem makeOutput_ir : unitOf "makeOutput" = some makeOutputFn := by rfl


def isTerminalBody : List Stmt :=
  [.forever
      [.typeCase
         "rt"
         "r"
         "*os.File"
         [.retIsTerm "rt"]
         [.typeCase
            "rt"
            "r"
            "nopReadCloser"
            [.assign
               (.set "r")
               (.fld "Reader" (.var "rt"))]
            [.typeCase "rt" "r" "" [.ret [.bool false]] []]]]]

def isTerminalFn : FuncIR := ⟨[("r", "io.Reader")], [("", "bool")], isTerminalBody⟩

theorem isTerminal_ir : unitOf "isTerminal" = some isTerminalFn := by rfl


end Pql.CliIOIR
