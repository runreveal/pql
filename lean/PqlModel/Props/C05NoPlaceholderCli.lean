/-
Property C05, last clause, for the command-line tool (`cmd/pql`, model `cliMain`).

Standard output of the tool is the concatenation of the SQL texts of the successful `Compile`
calls, each followed by a blank line (`C16_output_order`).  `cli_out_sqls`: for ANY compile
function, every one of these texts is the result of one successful call.  With the real
`Compile` (`compileCli`), `C05_no_placeholder_source` then applies to every text
(`C05_cli_no_placeholder`): each is the rendering of a chunk list without placeholder, and — for
a source text `src` of that call, when no pass-through function name of `src` begins with `$` — is read
by the comment-keeping SQL lexer as the tokens of its chunks, without any comment token.  The theorem
only says that there is such a `src` (`allOutcomes_sql` forgets that it is the accepted `let` prelude
followed by the statement).

The literal byte-level reading "no output line contains `/*`" is false (`C05_cli_bytes_cex`): a
PQL string literal may contain `/*`, and is written as an SQL string literal containing it.
-/
import PqlModel.Props.C05NoPlaceholder
import PqlModel.Props.C16IO
import PqlModel.Props.C16Semantics
namespace Pql.WriteInv
open Pql Sql Pql.CliIO Pql.CliSem Pql.ParsedOK

theorem queryOutcome_sql {compile : Bytes → Option Bytes} {lets stmt s : Bytes}
    (h : queryOutcome compile lets stmt = .sql s) : compile (lets ++ stmt) = some s := by
  unfold queryOutcome at h
  split at h
  · next s' hs => cases h; exact hs
  · cases h

theorem outcome_sql {compile : Bytes → Option Bytes} {lets stmt s : Bytes}
    (h : outcome compile lets stmt = .sql s) : compile (lets ++ stmt) = some s := by
  unfold outcome at h
  split at h
  · split at h <;> cases h
  · exact queryOutcome_sql h

theorem allOutcomes_sql (compile : Bytes → Option Bytes) (pieces : List Bytes) (s : Bytes)
    (h : Outcome.sql s ∈ allOutcomes compile pieces) : ∃ src, compile src = some s := by
  unfold allOutcomes at h
  rcases List.mem_append.mp h with h | h
  · obtain ⟨st, hst, hres⟩ := List.mem_map.mp h
    have := steps_res compile [] _ st hst
    rw [hres] at this
    exact ⟨_, outcome_sql this.symm⟩
  · unfold finalOutcome at h
    split at h
    · cases h
    · rw [List.mem_singleton] at h
      exact ⟨_, queryOutcome_sql h.symm⟩

theorem cli_out_sqls (compile : Bytes → Option Bytes) (input : Bytes) :
    ∃ sqls : List Bytes, (cliMain compile input).out = sqls.flatMap (· ++ [10, 10]) ∧
      ∀ sql ∈ sqls, ∃ src, compile src = some sql := by
  refine ⟨_, C16_output_order compile input, ?_⟩
  intro sql hsql
  obtain ⟨o, ho, hs⟩ := List.mem_filterMap.mp hsql
  cases o <;> simp [Outcome.sql?] at hs
  subst hs
  exact allOutcomes_sql compile _ _ ho

theorem compileCli_ok {src sql : Bytes} (h : compileCli src = some sql) : compile [] src = .ok sql := by
  unfold compileCli at h
  split at h
  · next s hs => cases h; exact hs
  · cases h

/-- **C05 (no placeholder, command-line tool).**  For every input: standard output is a sequence of
    SQL texts, each followed by a blank line; each is what `Compile` returned for some source text
    `src`, is the rendering of a chunk list no fixed text of which contains `/*` (no
    `NULL /* unhandled … */`, no `SELECT NULL /* unsupported operator */`), and — if no pass-through
    function name of `src` begins with `$` — lexes, comments kept, to the tokens of its chunks,
    none of them a comment. -/
theorem C05_cli_no_placeholder (input : Bytes) :
    ∃ sqls : List Bytes, (cliMain compileCli input).out = sqls.flatMap (· ++ [10, 10]) ∧
      ∀ sql ∈ sqls, ∃ src cs, compile [] src = .ok sql ∧ sql = renderChunks cs ∧
        hasPlaceholder cs = false ∧
        (noDollarFn (parse src).1 = true →
          lexRaw .standard sql = some (toksOf cs) ∧ STok.comment ∉ toksOf cs) := by
  obtain ⟨sqls, hout, hall⟩ := cli_out_sqls compileCli input
  refine ⟨sqls, hout, fun sql hsql => ?_⟩
  obtain ⟨src, hsrc⟩ := hall sql hsql
  have hc := compileCli_ok hsrc
  obtain ⟨cs, hcs, hr, hph⟩ := C05_no_placeholder_source [] src sql hc
  refine ⟨src, cs, hc, hr, hph, fun hd => ?_⟩
  obtain ⟨cs', hcs', _, h1, h2⟩ := C05_no_comment_source src sql hd hc
  rw [hcs] at hcs'
  cases hcs'
  exact ⟨h1, h2⟩

/-- `T | where a == '/*';` -/
def cliCex : Bytes :=
  [84, 32, 124, 32, 119, 104, 101, 114, 101, 32, 97, 32, 61, 61, 32, 39, 47, 42, 39, 59, 10]

/-- the bytes `/*` can occur in the output — inside a string literal the user wrote; it is no
    placeholder and no comment -/
theorem C05_cli_bytes_cex :
    hasOpen (cliMain compileCli cliCex).out = true ∧ (cliMain compileCli cliCex).nErrors = 0 ∧
    (lexRaw .standard (cliMain compileCli cliCex).out).map (·.contains .comment) = some false := by
  decide +kernel

/-- `let n = 1;` newline `T | where a > n | take 5;` newline `T | count` (unterminated) -/
def cliNv : Bytes :=
  [108, 101, 116, 32, 110, 32, 61, 32, 49, 59, 10, 84, 32, 124, 32, 119, 104, 101, 114, 101, 32, 97,
   32, 62, 32, 110, 32, 124, 32, 116, 97, 107, 101, 32, 53, 59, 10, 84, 32, 124, 32, 99, 111, 117,
   110, 116]

/-- non-vacuity: a script with a prelude, a terminated and an unterminated query writes two SQL
    texts, without `/*` -/
theorem cliNv_run :
    (cliMain compileCli cliNv).nErrors = 0 ∧ hasOpen (cliMain compileCli cliNv).out = false ∧
    ((cliMain compileCli cliNv).out.filter (· == 59)).length = 2 := by
  decide +kernel

end Pql.WriteInv
