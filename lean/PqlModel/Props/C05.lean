/-
Property C05 — successful output is exactly one well-formed SQL statement.

Proved here about the model compiler: the output ends in the one statement terminator, and
the generated subquery names are pairwise distinct (`__subquery{i}` is injective in `i`) and
each is the index at which the subquery is appended.  The reading of the whole output by the
SQL reader (`parseStatement (lex out)` succeeds, every table is a source table or an earlier
CTE, no placeholder) is proved in Props/C05LexStatement.lean (`C05_lexRender_program`),
C05ParseStatement.lean (`C05_parse_statement`), C05SplitRefines.lean (`C05_reads_earlier`) and
C05NoPlaceholder.lean (`C05_no_placeholder_source`).  "No CTE is left unused" is stated by no theorem:
only the oracle checks it (`c05-unused-cte`, Spec/CompileOracle.lean).
-/
import PqlModel.Props.C13
import PqlModel.Props.C09b
namespace Pql.C05
open Pql

/-- **C05 (terminator).** A successful output ends with `;` (shared with C13). -/
theorem C05_ends_with_semicolon (params : List (Bytes × Bytes)) (src sql : Bytes)
    (h : compile params src = .ok sql) : sql.getLast? = some 59 := (C13.C13_either params src sql h).2

/-- **C05 (generated names are unique).** `__subquery{i}` is injective in `i`; together with
    `chainSubquery` naming a new subquery by the current length of the list, two generated
    names in one statement never coincide. -/
theorem C05_subqueryName_injective (i j : Nat) (h : subqueryName i = subqueryName j) : i = j := by
  unfold subqueryName at h
  have h' := List.append_cancel_left h
  have := congrArg C09.natOfDigits h'
  simpa [C09.natOfDigits_natToDec] using this

theorem C05_chain_names_by_index (dst : List Subquery) (k : Nat) (src : Option Ident) :
    (chainSubquery dst k src).name = subqueryName dst.length := rfl

end Pql.C05
