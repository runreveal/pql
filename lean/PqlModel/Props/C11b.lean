/-
Property C11 — tree traversal reaches every node exactly once and never fails
(theorems about the `walkLoop` model, for all trees of any depth).

`Walk` is specified as a recursive pre-order with pruning (`preNode` / `preList`, in
`PqlModel/Lemmas/WalkLemmas.lean`); the explicit-stack loop is shown to compute it, and the
clauses of the property are read off the recursive description.
-/
import PqlModel.Lemmas.WalkLemmas
import PqlModel.Lemmas.ParseGood
namespace Pql.C11
open Pql

/-- termination measure: the children a case pushes are strictly smaller than the node -/
theorem C11_children_size (n : Node) (kids : List Node) (h : n.children = some kids) :
    (kids.map Node.size).sum < n.size :=
  children_size n kids h

/-- The loop computes the recursive pre-order: every stack of well-formed nodes, any visitor,
    any starting call index, any fuel above the total size of the stack. -/
theorem walk_eq_preorder (decide : Nat → Bool) (fuel i : Nat) (stack : List Node)
    (hs : ∀ n ∈ stack, NoPanic n) (hf : (stack.map Node.size).sum < fuel) :
    walkLoop decide fuel i stack = (preList decide i stack).1 :=
  walkLoop_eq_preList decide fuel i stack hs hf

/-- `Walk(n, visit)` is the recursive pre-order of `n` (the fuel `n.size + 1` of the model
    is enough). -/
theorem walk_eq_preNode (decide : Nat → Bool) (n : Node) (h : NoPanic n) :
    walk decide n = (preNode decide 0 n).1 := by
  unfold walk
  rw [walkLoop_eq_preList decide (n.size + 1) 0 [n] (by simpa using h) (by simp),
    preList_singleton]

/-- The recursive description, one level unfolded: the root's event first; if the visitor
    answers true, the pre-orders of the children, in order; if it answers false, nothing else. -/
theorem C11_walk_unfold (decide : Nat → Bool) (n : Node) (kids : List Node) (h : NoPanic n)
    (hc : n.children = some kids) :
    walk decide n = eventOf n :: (if decide 0 then (preList decide 1 kids).1 else []) := by
  rw [walk_eq_preNode decide n h, preNode_eq hc]
  cases decide 0 <;> simp

theorem C11_no_panic (decide : Nat → Bool) (n : Node) (h : NoPanic n) :
    WalkEvent.panic ∉ walk decide n := by
  rw [walk_eq_preNode decide n h]
  intro hp
  have := (preNode_sublist decide h 0).subset hp
  obtain ⟨m, _, hm⟩ := List.mem_map.1 this
  exact eventOf_ne_panic m hm

/-- A visitor that always answers true is called exactly once for every node of the tree, in
    pre-order (parents before their children, children in order). -/
theorem C11_visits_all (n : Node) (h : NoPanic n) :
    walk (fun _ => true) n = (allNodes n).map eventOf := by
  rw [walk_eq_preNode _ n h, preNode_all h]

/-- Whatever the visitor answers, what it sees is a sub-sequence of the full pre-order: no node
    twice, none out of order, nothing that is not a node of the tree. -/
theorem C11_visits_sublist (decide : Nat → Bool) (n : Node) (h : NoPanic n) :
    (walk decide n).Sublist ((allNodes n).map eventOf) := by
  rw [walk_eq_preNode decide n h]
  exact preNode_sublist decide h 0

/-- The visitor's calls are numbered like the events: after the walk it has been called
    exactly once per event (`decide j` is the answer given for the `j`-th event). -/
theorem C11_call_index (decide : Nat → Bool) (n : Node) (h : NoPanic n) :
    (preNode decide 0 n).2 = (walk decide n).length := by
  rw [walk_eq_preNode decide n h, preNode_index decide h 0]
  omega

/-- returning false at the root skips all its descendants -/
theorem C11_prune (decide : Nat → Bool) (n : Node) (h : NoPanic n) (hd : decide 0 = false) :
    walk decide n = [eventOf n] := by
  rw [walk_eq_preNode decide n h, preNode_false n hd]

/-- Returning false at any node skips exactly that node's descendants: the node contributes
    its own event only, and the traversal goes on with what was below it on the stack, the
    visitor's next call being call `i + 1`. -/
theorem C11_prune_inner (decide : Nat → Bool) (fuel i : Nat) (n : Node) (rest : List Node)
    (hs : ∀ m ∈ n :: rest, NoPanic m) (hf : ((n :: rest).map Node.size).sum < fuel)
    (hd : decide i = false) :
    walkLoop decide fuel i (n :: rest) = eventOf n :: (preList decide (i + 1) rest).1 := by
  rw [walkLoop_eq_preList decide fuel i (n :: rest) hs hf, preList_cons, preNode_false n hd]
  rfl

/-- … while returning true descends: the node's event, then its children's pre-orders, then
    the rest of the stack. -/
theorem C11_descend_inner (decide : Nat → Bool) (fuel i : Nat) (n : Node) (kids rest : List Node)
    (hs : ∀ m ∈ n :: rest, NoPanic m) (hf : ((n :: rest).map Node.size).sum < fuel)
    (hc : n.children = some kids) (hd : decide i = true) :
    walkLoop decide fuel i (n :: rest) =
      eventOf n :: ((preList decide (i + 1) kids).1 ++
        (preList decide (preList decide (i + 1) kids).2 rest).1) := by
  rw [walkLoop_eq_preList decide fuel i (n :: rest) hs hf, preList_cons, preNode_true hd hc]
  rfl

/-- never calls the visitor with a nil node -/
theorem C11_no_nil (decide : Nat → Bool) (n : Node) (h : Complete n) :
    WalkEvent.visitNil ∉ walk decide n := by
  rw [walk_eq_preNode decide n h.noPanic]
  intro hp
  have := (preNode_sublist decide h.noPanic 0).subset hp
  obtain ⟨m, hm, he⟩ := List.mem_map.1 this
  exact h.allNodes_label m hm (eventOf_eq_visitNil.1 he)

/-! ### successfully parsed trees are `Complete`

`Good` (WalkLemmas) is the structural reading of `Complete` on the AST types: no nil in a
required position.  The parser model returns `Good` trees whenever it reports no error
(ParseGood), so all of the above applies to every successfully parsed program. -/

/-- an expression parsed without error has no nil sub-expression: `Walk` is total on it -/
theorem C11_parsed_expr_complete (c : PCtx) (fuel : Nat) (ts rest : List Token) (e : Expr)
    (h : pExpr c fuel ts = ⟨e, [], rest⟩) : Complete (.expr e) := by
  have := pExpr_good (c := c) (fuel := fuel) (ts := ts) (by rw [h])
  rw [h] at this
  exact Expr.Good.complete e this

theorem C11_parsed_complete (srcLen : Nat) (ts : List Token) (stmts : List Stmt)
    (h : parseTokens srcLen ts = (stmts, [])) : ∀ s ∈ stmts, Complete (Node.ofStmt s) :=
  fun s hs => Stmt.Good.complete s (parseTokens_good h s hs)

/-- C11 for parsed programs: on every statement of a successfully parsed program, `Walk` never
    panics, never calls the visitor with a nil node, and (with a visitor that always answers
    true) calls it exactly once per node, in pre-order. -/
theorem C11_parsed_walk (src : Bytes) (stmts : List Stmt) (h : parse src = (stmts, []))
    (s : Stmt) (hs : s ∈ stmts) :
    (∀ decide, WalkEvent.panic ∉ walk decide (Node.ofStmt s)) ∧
    (∀ decide, WalkEvent.visitNil ∉ walk decide (Node.ofStmt s)) ∧
    walk (fun _ => true) (Node.ofStmt s) = (allNodes (Node.ofStmt s)).map eventOf := by
  have hc : Complete (Node.ofStmt s) := C11_parsed_complete _ _ stmts h s hs
  exact ⟨fun d => C11_no_panic d _ hc.noPanic, fun d => C11_no_nil d _ hc,
    C11_visits_all _ hc.noPanic⟩

end Pql.C11
