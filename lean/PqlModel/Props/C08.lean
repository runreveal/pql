/-
Property C08 — the parser accepts only what its tree represents.

The full statement (a successful parse accounts for every token) is `C08_accounted_parse`
(Props/C08Full.lean).  This file holds what the sub-parser mechanism contributes: a split never
drops or reorders tokens (`C08_split_partition`, `C08_splitSemi_partition`), a sub-parser that
leaves a token of its range unread is an error (`C08_endSplit_iff`), and a tree whose `unparse` has
no token of kind `error` accounts for no token of kind `error` (`C08_accounts_no_error_token`).
-/
import PqlModel.Lemmas.AccountedBasic
namespace Pql.C08
open Pql

/-- **C08 (split loses nothing).** `split` hands a contiguous prefix of the remaining tokens to
    the sub-parser and leaves exactly the rest to the caller, for every token list and every
    search kind. -/
theorem C08_split_partition (search : TokKind) (ts : List Token) :
    (split search ts).1 ++ (split search ts).2 = ts := split_append search ts

theorem C08_splitSemi_partition (ts : List Token) : (splitSemi ts).1 ++ (splitSemi ts).2 = ts :=
  splitSemi_append ts

/-- **C08 (end of range).** `endSplit` reports an error exactly when the sub-parser left a token
    of its range unread. -/
theorem C08_endSplit_iff (ts : List Token) : endSplit ts = [] ↔ ts = [] := endSplit_eq_nil ts

/-- **C08 (error tokens).** If no token of `us` has kind `error`, no token that `us` accounts for
    has: a tree whose `unparse` is free of `error` kinds — every tree an error-free parse returns,
    `Reject.C08_error_token_rejected` — cannot account for a source containing a scan error.  (A tree
    with a literal or operator of kind `error` does account for an error token: `tokMatches`
    lets kind `error` match any value.) -/
theorem C08_accounts_no_error_token (pos : Bool) (us : List Grammar.UTok) (ts : List Token)
    (hus : ∀ u ∈ us, u.kind ≠ .error) (h : Grammar.accounts pos us ts = true) :
    ∀ t ∈ ts, t.kind ≠ .error := by
  have kind : ∀ {u : Grammar.UTok} {t : Token}, Grammar.tokMatches u t = true → u.kind = t.kind :=
    fun hm => by simp only [Grammar.tokMatches, Bool.and_eq_true, beq_iff_eq] at hm; exact hm.1
  revert hus
  refine accounts_elim (P := fun us ts => (∀ u ∈ us, u.kind ≠ .error) → ∀ t ∈ ts, t.kind ≠ .error)
    (by simp) ?_ ?_ h
  · intro u us t ts hm _ _ ih hus x hx
    rcases List.mem_cons.1 hx with rfl | hx
    · exact kind hm ▸ hus u (by simp)
    · exact ih (fun u' hu' => hus u' (by simp [hu'])) x hx
  · intro u us c t ts _ _ hc hm _ _ ih hus x hx
    rcases List.mem_cons.1 hx with rfl | hx
    · rw [hc]; decide
    · rcases List.mem_cons.1 hx with rfl | hx
      · exact kind hm ▸ hus u (by simp)
      · exact ih (fun u' hu' => hus u' (by simp [hu'])) x hx

end Pql.C08
