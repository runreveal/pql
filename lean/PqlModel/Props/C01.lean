/-
Property C01 — scalar expressions keep their meaning when translated to SQL.

Proved here about the model's expression writer:
* source parentheses never matter (`C01_parens_*`): the writer strips them before it decides
  anything, so they change neither the output, nor termination, nor success;
* the writer re-inserts parentheses around every operand that is not an atom of the SQL
  grammar (`needsWrap` characterised over the regenerated tables);
* what `assembleKnown` emits for each of the ten built-in rewrites (`assembleKnown_*`), and that a
  signed operand of a sign or of an index is parenthesised (`C01_tight_signed`);
* the operator table is the documented one.
The reading of the emitted text by the SQL reader (`Sql.parse (write e) = tr e`) is
`C01_parse_roundtrip_partial` (Props/C01Syntactic.lean).
-/
import PqlModel.Model.Compile
import PqlModel.Spec.CompileOracle
namespace Pql.C01
open Pql

/-- **C01 (parentheses only group).** Writing a parenthesised expression is writing its content. -/
theorem C01_parens_write (ctx : Ctx) (lp rp : Span) (x : Expr) :
    writeExpr ctx (.paren lp x rp) = writeExpr ctx x := by
  simp [writeExpr]

theorem C01_parens_wrap (lp rp : Span) (x : Expr) (body : List Chunk) :
    wrapMaybe (.paren lp x rp) body = wrapMaybe x body ∧ wrapTight (.paren lp x rp) body = wrapTight x body := by
  constructor <;> simp only [wrapMaybe, wrapTight, needsWrap, isSigned] <;> rfl

theorem C01_unparen_write (ctx : Ctx) (e : Expr) : writeExpr ctx (unparen e) = writeExpr ctx e := by
  induction e using unparen.induct with
  | case1 lp x rp ih => rw [unparen, C01_parens_write, ih]
  | case2 e h => rw [unparen]; intro lp x rp hh; exact h lp x rp hh

/-- **C01 (which operands stay bare).** This table (the node types `writeExpressionMaybeParen`
    writes bare) and `C01_known_functions` below (the built-ins, each with its `needsParens`)
    are regenerated from the Go source.  Together they say: exactly identifiers,
    literals, signed expressions, pass-through calls and the built-ins `count`, `countif`, `now`
    are written without parentheses by `writeExpressionMaybeParen`; every other form —
    in particular every binary, `in`, index expression and every rewritten built-in that emits
    an operator — is parenthesised. -/
theorem C01_bare_types : Facts.maybeParenBare = ["BasicLit", "QualifiedIdent", "UnaryExpr"] := by decide +kernel

theorem C01_known_functions :
    Facts.knownFunctions =
      [("count", "writeCountFunction", false), ("countif", "writeCountIfFunction", false),
       ("iff", "writeIfFunction", true), ("iif", "writeIfFunction", true),
       ("isnotnull", "writeIsNotNullFunction", true), ("isnull", "writeIsNullFunction", true),
       ("not", "writeNotFunction", true), ("now", "writeNowFunction", false),
       ("strcat", "writeStrcatFunction", true), ("tolower", "writeToLowerFunction", true),
       ("toupper", "writeToUpperFunction", true)] := by decide +kernel

theorem C01_needsWrap_binary (x y : Expr) (a : Span) (op : TokKind) : needsWrap (.binary x a op y) = true := by
  have : ¬ "BinaryExpr" ∈ Facts.maybeParenBare := by decide
  simp [needsWrap, exprTypeName, this]

theorem C01_needsWrap_in (x : Expr) (a b c : Span) (vs : ExprList) : needsWrap (.inE x a b vs c) = true := by
  have : ¬ "InExpr" ∈ Facts.maybeParenBare := by decide
  simp [needsWrap, exprTypeName, this]

theorem C01_needsWrap_index (x i : Expr) (a b : Span) : needsWrap (.index x a i b) = true := by
  have : ¬ "IndexExpr" ∈ Facts.maybeParenBare := by decide
  simp [needsWrap, exprTypeName, this]

/-! **C01 (the built-in rewrites).**  What `assembleKnown` emits for each writer of the regenerated
table, with the arguments' plain outputs as given. -/

section
variable (args : List (Expr × List Chunk))

theorem assembleKnown_not : assembleKnown "writeNotFunction" args =
    match args with | a :: _ => .ok (.txt "NOT " :: wrapMaybe a.1 a.2) | [] => .error .panic := rfl
theorem assembleKnown_now : assembleKnown "writeNowFunction" args = .ok [.txt "CURRENT_TIMESTAMP"] := rfl
theorem assembleKnown_isnull : assembleKnown "writeIsNullFunction" args =
    match args with | a :: _ => .ok (wrapMaybe a.1 a.2 ++ [.txt " IS NULL"]) | [] => .error .panic := rfl
theorem assembleKnown_isnotnull : assembleKnown "writeIsNotNullFunction" args =
    match args with | a :: _ => .ok (wrapMaybe a.1 a.2 ++ [.txt " IS NOT NULL"]) | [] => .error .panic := rfl
theorem assembleKnown_strcat : assembleKnown "writeStrcatFunction" args =
    match args with
    | _ :: _ => .ok (sepChunks " || " (args.map fun a => wrapMaybe a.1 a.2))
    | [] => .error .panic := rfl
theorem assembleKnown_count : assembleKnown "writeCountFunction" args = .ok [.txt "count()"] := rfl
theorem assembleKnown_countif : assembleKnown "writeCountIfFunction" args =
    match args with
    | a :: _ => .ok (.txt "count() FILTER (WHERE " :: a.2 ++ [.txt ")"])
    | [] => .error .panic := rfl
theorem assembleKnown_if : assembleKnown "writeIfFunction" args =
    match args with
    | a :: b :: c :: _ =>
      .ok (.txt "CASE WHEN coalesce(" :: a.2 ++ .txt ", FALSE) THEN " :: b.2 ++ .txt " ELSE " :: c.2 ++ [.txt " END"])
    | _ => .error .panic := rfl
theorem assembleKnown_tolower : assembleKnown "writeToLowerFunction" args =
    match args with | a :: _ => .ok (.txt "LOWER(" :: a.2 ++ [.txt ")"]) | [] => .error .panic := rfl
theorem assembleKnown_toupper : assembleKnown "writeToUpperFunction" args =
    match args with | a :: _ => .ok (.txt "UPPER(" :: a.2 ++ [.txt ")"]) | [] => .error .panic := rfl

end

/-- a sign's operand and an index base are parenthesised when they are signed themselves
    (no `--`, no `-a[1]` for `(-a)[1]`) -/
theorem C01_tight_signed (os : Span) (op : TokKind) (x : Expr) (body : List Chunk) :
    wrapTight (.unary os op x) body = parenthesise body := by
  simp [wrapTight, isSigned]

/-- **C01 (operator table).** -/
theorem C01_binary_ops :
    Facts.binaryOps =
      [("TokenAnd", "AND"), ("TokenGE", ">="), ("TokenGT", ">"), ("TokenLE", "<="), ("TokenLT", "<"),
       ("TokenMinus", "-"), ("TokenMod", "%"), ("TokenOr", "OR"), ("TokenPlus", "+"), ("TokenSlash", "/"),
       ("TokenStar", "*")] := by decide +kernel

end Pql.C01

/-! `unparen` strips every parenthesis, and nothing the writer looks at before it decides sees them. -/
namespace Pql.ExprIR
open Pql

def notParen : Expr → Bool
  | .paren .. => false
  | _ => true

theorem unparen_notParen (e : Expr) : notParen (unparen e) = true := by
  cases e with
  | paren _ x _ => rw [unparen]; exact unparen_notParen x
  | _ => rfl

theorem unparen_of_notParen (e : Expr) (h : notParen e = true) : unparen e = e := by
  cases e <;> simp [notParen] at h <;> rfl

theorem unparen_idem (e : Expr) : unparen (unparen e) = unparen e :=
  unparen_of_notParen _ (unparen_notParen e)

theorem unparen_congr {α : Type} (f : Expr → α) (h : ∀ a x b, f (.paren a x b) = f x) (e : Expr) :
    f (unparen e) = f e := by
  cases e with
  | paren a x b => rw [unparen, h]; exact unparen_congr f h x
  | _ => rfl

theorem needsWrap_unparen (e : Expr) : needsWrap (unparen e) = needsWrap e :=
  unparen_congr needsWrap (fun _ _ _ => rfl) e

theorem isSigned_unparen (e : Expr) : isSigned (unparen e) = isSigned e :=
  unparen_congr isSigned (fun _ _ _ => rfl) e

theorem wrapMaybe_unparen (e : Expr) : wrapMaybe (unparen e) = wrapMaybe e := by
  funext b; simp [wrapMaybe, needsWrap_unparen]

theorem wrapTight_unparen (e : Expr) : wrapTight (unparen e) = wrapTight e := by
  funext b; simp [wrapTight, isSigned_unparen, wrapMaybe_unparen]

theorem size_unparen (e : Expr) : (unparen e).size ≤ e.size := by
  cases e with
  | paren _ x _ => rw [unparen]; have := size_unparen x; simp [Expr.size]; omega
  | _ => exact Nat.le_refl _

end Pql.ExprIR
