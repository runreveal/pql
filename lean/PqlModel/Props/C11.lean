/-
Property C11 — tree traversal reaches every node exactly once and never fails.

Table part: theorems decided over the *regenerated* facts about `Walk` and the node structs
(so they are re-checked against /repo's source on every run), and the model's `Node.children`
equals the regenerated table.  The `walkLoop` model (`walk_eq_preorder`): Props/C11b.lean.
-/
import PqlModel.Model.Walk
import PqlModel.Generated.Facts
namespace Pql.C11
open Pql

/-- Go types that are not nodes -/
def isScalarType (t : String) : Bool := t == "Span" || t == "string" || t == "bool" || t == "TokenKind"

/-- node-valued fields of a struct, minus the two documented exceptions -/
def nodeFields (ty : String) (fields : List (String × String)) : List String :=
  (fields.filter fun f => !isScalarType f.2 &&
    !((ty == "CallExpr" && f.1 == "Func") || (ty == "JoinOperator" && f.1 == "Flavor"))).map (·.1)

def sameSet (a b : List String) : Bool := a.all b.contains && b.all a.contains && a.length == b.length

/-- Every node struct except RenderProperty (whose parts the RenderOperator case pushes itself)
    has a case in `Walk`, and that case pushes exactly its node-valued fields. -/
def childrenComplete : Bool :=
  Facts.structFields.all fun (ty, fields) =>
    ty == "RenderProperty" ||
    match Facts.walkCases.find? (·.1 == ty) with
    | some (_, pushes) => sameSet (pushes.map (·.2)) (nodeFields ty fields)
    | none => false

theorem C11_children_complete : childrenComplete = true := by decide +kernel

/-- the element-wise loop over render properties pushes both node-valued fields of a
    RenderProperty -/
def loopsComplete : Bool :=
  Facts.walkLoops.all fun (_, _, inner) =>
    match Facts.structFields.find? (·.1 == "RenderProperty") with
    | some (_, fields) => sameSet (inner.map (·.2)) (nodeFields "RenderProperty" fields)
    | none => false

theorem C11_render_props_complete : loopsComplete = true ∧ Facts.walkLoops.length = 1 := by decide +kernel

/-- Fields that are nil in successfully parsed trees (optional parts of the grammar): the
    unnamed column forms, a project column without expression. -/
def nullableFields : List (String × String) :=
  [("ExtendColumn", "Name"), ("SummarizeColumn", "Name"), ("ProjectColumn", "X")]

/-- Every field that may be nil after a successful parse is pushed under a nil guard. -/
def nilGuarded : Bool :=
  nullableFields.all fun (ty, f) =>
    match Facts.walkCases.find? (·.1 == ty) with
    | some (_, pushes) => pushes.contains ("opt", f)
    | none => false

theorem C11_nil_guarded : nilGuarded = true := by decide +kernel

/-- The default case panics, so completeness of the case list is what rules panics out. -/
theorem C11_default_panics : Facts.walkDefaultPanics = true := by decide

/-! ### the model's children agree with the regenerated table

`Node.children` is hand-written and follows this table case by case; if /repo's `Walk` changes,
the regenerated table no longer equals the expectation and this theorem stops checking. -/
def expectedWalkCases : List (String × List (String × String)) :=
  [("AsOperator", [("one", "Name")]), ("BasicLit", []), ("BinaryExpr", [("one", "Y"), ("one", "X")]),
   ("CallExpr", [("rev", "Args")]), ("CountOperator", []), ("ExtendColumn", [("opt", "X"), ("opt", "Name")]),
   ("ExtendOperator", [("rev", "Cols")]), ("Ident", []), ("InExpr", [("rev", "Vals"), ("one", "X")]),
   ("IndexExpr", [("one", "Index"), ("one", "X")]), ("JoinOperator", [("rev", "Conditions"), ("one", "Right")]),
   ("LetStatement", [("one", "X"), ("one", "Name")]), ("ParenExpr", [("one", "X")]),
   ("ProjectColumn", [("opt", "X"), ("one", "Name")]), ("ProjectOperator", [("rev", "Cols")]),
   ("QualifiedIdent", [("rev", "Parts")]),
   ("RenderOperator", [("one", "ChartType"), ("revloop", "Props")]),
   ("SortOperator", [("rev", "Terms")]), ("SortTerm", [("one", "X")]),
   ("SummarizeColumn", [("one", "X"), ("opt", "Name")]),
   ("SummarizeOperator", [("rev", "GroupBy"), ("rev", "Cols")]), ("TableRef", [("one", "Table")]),
   ("TabularExpr", [("rev", "Operators"), ("one", "Source")]), ("TakeOperator", [("one", "RowCount")]),
   ("TopOperator", [("one", "Col"), ("one", "RowCount")]), ("UnaryExpr", [("one", "X")]),
   ("WhereOperator", [("one", "Predicate")])]

theorem C11_model_matches_walk_table :
    Facts.walkCases = expectedWalkCases ∧
    Facts.walkLoops = [("RenderOperator", "Props", [("opt", "Value"), ("one", "Name")])] := by decide +kernel

end Pql.C11
