/-
Property C07/C08/C10/C13, tie by translation: the EXPECTED statement trees of the statement and operator
level of parser/parser.go (the operator methods countOperator … renderOperator and their column helpers).

`harness/extract_parse.go` regenerates `Facts.parseIR` from the Go source on every run;
`Model/ParseIRSyntax.lean` decodes it.  Each `…_ir` theorem says that what is regenerated for one Go
function decodes to the tree written here, which is the one the semantic theorems of
Props/C07OperatorIR*.lean are about: an edit of the Go function changes the regenerated IR and that
function's `_ir` theorem stops building.  (The trees are literal text; nothing in this file is
regenerated.)
-/
import PqlModel.Model.ParseIR
namespace Pql.OpIR
open Pql

def countOperatorBody : List IStmt :=
  [.ret
     [.withFld
        (.withFld (.new "CountOperator") "Pipe" (.fld "Span" (.var "pipe")))
        "Keyword"
        (.fld "Span" (.var "keyword")),
      .nil]]

theorem countOperator_ir : unitOf "countOperator" = some ⟨[("p", "*parser"), ("pipe", "Token"), ("keyword", "Token")], ["*CountOperator", "error"], countOperatorBody⟩ := by rfl


def whereOperatorBody : List IStmt :=
  [.call "p" "expr" [.def_ "x", .def_ "err"] [],
   .assign (.set "err") (.opaque (.var "err")),
   .ret
     [.withFld
        (.withFld
          (.withFld (.new "WhereOperator") "Pipe" (.fld "Span" (.var "pipe")))
          "Keyword"
          (.fld "Span" (.var "keyword")))
        "Predicate"
        (.var "x"),
      .var "err"]]

theorem whereOperator_ir : unitOf "whereOperator" = some ⟨[("p", "*parser"), ("pipe", "Token"), ("keyword", "Token")], ["*WhereOperator", "error"], whereOperatorBody⟩ := by rfl


def takeOperatorBody : List IStmt :=
  [.assign
     (.def_ "op")
     (.withFld
       (.withFld (.new "TakeOperator") "Pipe" (.fld "Span" (.var "pipe")))
       "Keyword"
       (.fld "Span" (.var "keyword"))),
   .varDecl "err" "error",
   .call "p" "rowCount" [.fset "op" "RowCount", .set "err"] [],
   .ite
     (.ne (.var "err") (.nil))
     [.ret [.var "op", .opaque (.var "err")]]
     [],
   .ret [.var "op", .nil]]

theorem takeOperator_ir : unitOf "takeOperator" = some ⟨[("p", "*parser"), ("pipe", "Token"), ("keyword", "Token")], ["*TakeOperator", "error"], takeOperatorBody⟩ := by rfl


def asOperatorBody : List IStmt :=
  [.assign
     (.def_ "op")
     (.withFld
       (.withFld (.new "AsOperator") "Pipe" (.fld "Span" (.var "pipe")))
       "Keyword"
       (.fld "Span" (.var "keyword"))),
   .varDecl "err" "error",
   .call "p" "ident" [.fset "op" "Name", .set "err"] [],
   .ret [.var "op", .opaque (.var "err")]]

theorem asOperator_ir : unitOf "asOperator" = some ⟨[("p", "*parser"), ("pipe", "Token"), ("keyword", "Token")], ["*AsOperator", "error"], asOperatorBody⟩ := by rfl


def sortOperatorBody : List IStmt :=
  [.call "p" "next" [.def_ "by", .blank] [],
   .ite
     (.ne (.fld "Kind" (.var "by")) (.kind "TokenBy"))
     [.assign
        (.def_ "op")
        (.withFld
          (.withFld (.new "SortOperator") "Pipe" (.fld "Span" (.var "pipe")))
          "Keyword"
          (.fld "Span" (.var "keyword"))),
      .assign (.def_ "err") (.perr "p" false (.fld "Span" (.var "by"))),
      .ret [.var "op", .var "err"]]
     [],
   .assign
     (.def_ "op")
     (.withFld
       (.withFld (.new "SortOperator") "Pipe" (.fld "Span" (.var "pipe")))
       "Keyword"
       (.newSpan
         (.fld "Start" (.fld "Span" (.var "keyword")))
         (.fld "End" (.fld "Span" (.var "by"))))),
   .loop
     [.call "p" "sortTerm" [.def_ "term", .def_ "err"] [],
      .ite
        (.ne (.var "term") (.nil))
        [.assign
           (.fset "op" "Terms")
           (.append (.fld "Terms" (.var "op")) (.var "term"))]
        [],
      .ite
        (.ne (.var "err") (.nil))
        [.ret [.var "op", .opaque (.var "err")]]
        [],
      .scope
        [.call "p" "next" [.def_ "tok", .blank] [],
         .ite
           (.ne (.fld "Kind" (.var "tok")) (.kind "TokenComma"))
           [.prev "p", .ret [.var "op", .nil]]
           []]]]

theorem sortOperator_ir : unitOf "sortOperator" = some ⟨[("p", "*parser"), ("pipe", "Token"), ("keyword", "Token")], ["*SortOperator", "error"], sortOperatorBody⟩ := by rfl


def topOperatorBody : List IStmt :=
  [.assign
     (.def_ "op")
     (.withFld
       (.withFld
         (.withFld (.new "TopOperator") "Pipe" (.fld "Span" (.var "pipe")))
         "Keyword"
         (.fld "Span" (.var "keyword")))
       "By"
       (.nullSpan)),
   .varDecl "err" "error",
   .call "p" "rowCount" [.fset "op" "RowCount", .set "err"] [],
   .ite
     (.ne (.var "err") (.nil))
     [.ret [.var "op", .opaque (.var "err")]]
     [],
   .call "p" "next" [.def_ "tok", .blank] [],
   .ite
     (.ne (.fld "Kind" (.var "tok")) (.kind "TokenBy"))
     [.prev "p",
      .ret [.var "op", .perr "p" false (.fld "Span" (.var "tok"))]]
     [],
   .assign (.fset "op" "By") (.fld "Span" (.var "tok")),
   .call "p" "sortTerm" [.fset "op" "Col", .set "err"] [],
   .ret [.var "op", .opaque (.var "err")]]

theorem topOperator_ir : unitOf "topOperator" = some ⟨[("p", "*parser"), ("pipe", "Token"), ("keyword", "Token")], ["*TopOperator", "error"], topOperatorBody⟩ := by rfl


def projectOperatorBody : List IStmt :=
  [.assign
     (.def_ "op")
     (.withFld
       (.withFld (.new "ProjectOperator") "Pipe" (.fld "Span" (.var "pipe")))
       "Keyword"
       (.fld "Span" (.var "keyword"))),
   .loop
     [.call "p" "ident" [.def_ "colName", .def_ "err"] [],
      .ite
        (.ne (.var "err") (.nil))
        [.ret [.var "op", .opaque (.var "err")]]
        [],
      .assign
        (.def_ "col")
        (.withFld
          (.withFld (.new "ProjectColumn") "Name" (.var "colName"))
          "Assign"
          (.nullSpan)),
      .assign
        (.fset "op" "Cols")
        (.append (.fld "Cols" (.var "op")) (.var "col")),
      .call "p" "next" [.def_ "sep", .def_ "ok"] [],
      .ite
        (.not (.truth (.var "ok")))
        [.ret [.var "op", .nil]]
        [],
      .ite
        (.eq (.fld "Kind" (.var "sep")) (.kind "TokenComma"))
        [.cont]
        [.ite
           (.eq (.fld "Kind" (.var "sep")) (.kind "TokenAssign"))
           [.assign (.fset "col" "Assign") (.fld "Span" (.var "sep")),
            .call "p" "expr" [.fset "col" "X", .set "err"] [],
            .ite
              (.ne (.var "err") (.nil))
              [.ret [.var "op", .opaque (.var "err")]]
              [],
            .call "p" "next" [.set "sep", .set "ok"] [],
            .ite
              (.not (.truth (.var "ok")))
              [.ret [.var "op", .nil]]
              [],
            .ite
              (.ne (.fld "Kind" (.var "sep")) (.kind "TokenComma"))
              [.ret [.var "op", .errNoPos]]
              []]
           [.prev "p", .ret [.var "op", .nil]]]]]

theorem projectOperator_ir : unitOf "projectOperator" = some ⟨[("p", "*parser"), ("pipe", "Token"), ("keyword", "Token")], ["*ProjectOperator", "error"], projectOperatorBody⟩ := by rfl


/-- `extendColumn` and `summarizeColumn`: one body, up to the type `ty` of the node -/
def namedColumnBody (ty : String) : List IStmt :=
  [.assign (.def_ "restorePos") (.pos "p"),
   .assign (.def_ "col") (.withFld (.new ty) "Assign" (.nullSpan)),
   .varDecl "err" "error",
   .call "p" "ident" [.fset "col" "Name", .set "err"] [],
   .ite
     (.eq (.var "err") (.nil))
     [.scope
        [.call "p" "next" [.def_ "assign", .blank] [],
         .ite
           (.eq (.fld "Kind" (.var "assign")) (.kind "TokenAssign"))
           [.assign (.fset "col" "Assign") (.fld "Span" (.var "assign"))]
           [.assign (.fset "col" "Name") (.nil),
            .assign (.setPos "p") (.var "restorePos")]]]
     [.ite
        (.not (.isNF (.var "err")))
        [.assign (.fset "col" "X") (.asQual (.fld "Name" (.var "col"))),
         .assign (.fset "col" "Name") (.nil),
         .ret [.var "col", .opaque (.var "err")]]
        []],
   .call "p" "expr" [.fset "col" "X", .set "err"] [],
   .ite
     (.ne (.fld "Name" (.var "col")) (.nil))
     [.assign (.set "err") (.opaque (.var "err"))]
     [],
   .ret [.var "col", .var "err"]]

theorem extendColumn_ir : unitOf "extendColumn" = some ⟨[("p", "*parser")], ["*ExtendColumn", "error"], namedColumnBody "ExtendColumn"⟩ := by rfl


def extendOperatorBody : List IStmt :=
  [.assign
     (.def_ "op")
     (.withFld
       (.withFld (.new "ExtendOperator") "Pipe" (.fld "Span" (.var "pipe")))
       "Keyword"
       (.fld "Span" (.var "keyword"))),
   .loop
     [.call "p" "extendColumn" [.def_ "col", .def_ "err"] [],
      .ite
        (.ne (.var "err") (.nil))
        [.ret [.var "op", .opaque (.var "err")]]
        [],
      .assign
        (.fset "op" "Cols")
        (.append (.fld "Cols" (.var "op")) (.var "col")),
      .call "p" "next" [.def_ "sep", .def_ "ok"] [],
      .ite
        (.not (.truth (.var "ok")))
        [.ret [.var "op", .nil]]
        [],
      .ite
        (.ne (.fld "Kind" (.var "sep")) (.kind "TokenComma"))
        [.prev "p", .ret [.var "op", .nil]]
        []]]

theorem extendOperator_ir : unitOf "extendOperator" = some ⟨[("p", "*parser"), ("pipe", "Token"), ("keyword", "Token")], ["*ExtendOperator", "error"], extendOperatorBody⟩ := by rfl


theorem summarizeColumn_ir : unitOf "summarizeColumn" = some ⟨[("p", "*parser")], ["*SummarizeColumn", "error"], namedColumnBody "SummarizeColumn"⟩ := by rfl


def summarizeOperatorBody : List IStmt :=
  [.assign
     (.def_ "op")
     (.withFld
       (.withFld
         (.withFld (.new "SummarizeOperator") "Pipe" (.fld "Span" (.var "pipe")))
         "Keyword"
         (.fld "Span" (.var "keyword")))
       "By"
       (.nullSpan)),
   .varDecl "danglingComma" "*Token",
   .loop
     [.call "p" "summarizeColumn" [.def_ "col", .def_ "err"] [],
      .ite (.isNF (.var "err")) [.brk] [],
      .assign (.set "danglingComma") (.nil),
      .ite
        (.ne (.var "col") (.nil))
        [.assign
           (.fset "op" "Cols")
           (.append (.fld "Cols" (.var "op")) (.var "col"))]
        [],
      .ite
        (.ne (.var "err") (.nil))
        [.ret [.var "op", .opaque (.var "err")]]
        [],
      .call "p" "next" [.def_ "sep", .def_ "ok"] [],
      .ite
        (.not (.truth (.var "ok")))
        [.ret [.var "op", .nil]]
        [],
      .ite
        (.ne (.fld "Kind" (.var "sep")) (.kind "TokenComma"))
        [.prev "p", .brk]
        [],
      .assign (.set "danglingComma") (.addr "sep")],
   .call "p" "next" [.def_ "sep", .def_ "ok"] [],
   .ite
     (.not (.truth (.var "ok")))
     [.ite
        (.eq (.len (.fld "Cols" (.var "op"))) (.int 0))
        [.ret [.var "op", .perr "p" false (.fld "Span" (.var "sep"))]]
        [],
      .ite
        (.ne (.var "danglingComma") (.nil))
        [.ret [.var "op", .perr "p" false (.fld "Span" (.var "danglingComma"))]]
        [],
      .ret [.var "op", .nil]]
     [],
   .ite
     (.ne (.fld "Kind" (.var "sep")) (.kind "TokenBy"))
     [.prev "p",
      .ite
        (.eq (.len (.fld "Cols" (.var "op"))) (.int 0))
        [.ret [.var "op", .perr "p" false (.fld "Span" (.var "sep"))]]
        [],
      .ite
        (.ne (.var "danglingComma") (.nil))
        [.ret [.var "op", .perr "p" false (.fld "Span" (.var "danglingComma"))]]
        [],
      .ret [.var "op", .nil]]
     [],
   .assign (.fset "op" "By") (.fld "Span" (.var "sep")),
   .loop
     [.call "p" "summarizeColumn" [.def_ "col", .def_ "err"] [],
      .ite
        (.isNF (.var "err"))
        [.ret [.var "op", .opaque (.var "err")]]
        [],
      .ite
        (.ne (.var "col") (.nil))
        [.assign
           (.fset "op" "GroupBy")
           (.append (.fld "GroupBy" (.var "op")) (.var "col"))]
        [],
      .ite
        (.ne (.var "err") (.nil))
        [.ret [.var "op", .opaque (.var "err")]]
        [],
      .call "p" "next" [.def_ "sep", .def_ "ok"] [],
      .ite
        (.not (.truth (.var "ok")))
        [.ret [.var "op", .nil]]
        [],
      .ite
        (.ne (.fld "Kind" (.var "sep")) (.kind "TokenComma"))
        [.prev "p", .ret [.var "op", .nil]]
        []]]

theorem summarizeOperator_ir : unitOf "summarizeOperator" = some ⟨[("p", "*parser"), ("pipe", "Token"), ("keyword", "Token")], ["*SummarizeOperator", "error"], summarizeOperatorBody⟩ := by rfl


def renderPropertyBody : List IStmt :=
  [.assign
     (.def_ "prop")
     (.withFld (.new "RenderProperty") "Assign" (.nullSpan)),
   .call "p" "ident" [.def_ "name", .def_ "err"] [],
   .ite
     (.ne (.var "err") (.nil))
     [.ret [.nil, .var "err"]]
     [],
   .assign (.fset "prop" "Name") (.var "name"),
   .call "p" "next" [.def_ "tok", .blank] [],
   .ite
     (.ne (.fld "Kind" (.var "tok")) (.kind "TokenAssign"))
     [.ret [.nil, .perr "p" false (.fld "Span" (.var "tok"))]]
     [],
   .assign (.fset "prop" "Assign") (.fld "Span" (.var "tok")),
   .call "p" "expr" [.def_ "value", .set "err"] [],
   .ite
     (.ne (.var "err") (.nil))
     [.ret [.nil, .var "err"]]
     [],
   .assign (.fset "prop" "Value") (.var "value"),
   .ret [.var "prop", .nil]]

theorem renderProperty_ir : unitOf "renderProperty" = some ⟨[("p", "*parser")], ["*RenderProperty", "error"], renderPropertyBody⟩ := by rfl


def renderOperatorBody : List IStmt :=
  [.assign
     (.def_ "op")
     (.withFld
       (.withFld
         (.withFld
           (.withFld
             (.withFld (.new "RenderOperator") "Pipe" (.fld "Span" (.var "pipe")))
             "Keyword"
             (.fld "Span" (.var "keyword")))
           "With"
           (.nullSpan))
         "Lparen"
         (.nullSpan))
       "Rparen"
       (.nullSpan)),
   .call "p" "ident" [.def_ "chartType", .def_ "err"] [],
   .ite
     (.ne (.var "err") (.nil))
     [.ret [.var "op", .perr "p" false (.fld "Span" (.var "keyword"))]]
     [],
   .assign (.fset "op" "ChartType") (.var "chartType"),
   .call "p" "next" [.def_ "tok", .def_ "ok"] [],
   .ite
     (.not (.truth (.var "ok")))
     [.ret [.var "op", .nil]]
     [],
   .ite
     (.or
       (.ne (.fld "Kind" (.var "tok")) (.kind "TokenIdentifier"))
       (.ne (.fld "Value" (.var "tok")) (.str "with")))
     [.prev "p", .ret [.var "op", .nil]]
     [],
   .assign (.fset "op" "With") (.fld "Span" (.var "tok")),
   .call "p" "next" [.set "tok", .blank] [],
   .ite
     (.ne (.fld "Kind" (.var "tok")) (.kind "TokenLParen"))
     [.ret [.var "op", .perr "p" false (.fld "Span" (.var "tok"))]]
     [],
   .assign (.fset "op" "Lparen") (.fld "Span" (.var "tok")),
   .loop
     [.call "p" "renderProperty" [.def_ "prop", .def_ "err"] [],
      .ite
        (.ne (.var "err") (.nil))
        [.ret [.var "op", .opaque (.var "err")]]
        [],
      .ite
        (.ne (.var "prop") (.nil))
        [.assign
           (.fset "op" "Props")
           (.append (.fld "Props" (.var "op")) (.var "prop"))]
        [],
      .call "p" "next" [.set "tok", .blank] [],
      .ite
        (.eq (.fld "Kind" (.var "tok")) (.kind "TokenRParen"))
        [.assign (.fset "op" "Rparen") (.fld "Span" (.var "tok")), .brk]
        [],
      .ite
        (.ne (.fld "Kind" (.var "tok")) (.kind "TokenComma"))
        [.ret [.var "op", .perr "p" false (.fld "Span" (.var "tok"))]]
        []],
   .ret [.var "op", .nil]]

theorem renderOperator_ir : unitOf "renderOperator" = some ⟨[("p", "*parser"), ("pipe", "Token"), ("keyword", "Token")], ["*RenderOperator", "error"], renderOperatorBody⟩ := by rfl

end Pql.OpIR
