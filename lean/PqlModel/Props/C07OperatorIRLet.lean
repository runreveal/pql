/-
Property C07 (also C06), tie by translation: `(*parser).letStatement` — the model's `pLet` is the
interpretation of the regenerated body (`C07_letStatement_ir`).
-/
import PqlModel.Props.C07OperatorIRTreesB
import PqlModel.Props.C07OperatorIRExtend
namespace Pql.OpIR
open Pql
set_option linter.unusedSimpArgs false

theorem letStatement_run (c : PCtx) (fuel : Nat) (ts : List Token) :
    runP toLet "stmt" c letStatementBody fuel ts = .ok ⟨(pLet c fuel ts).val, (pLet c fuel ts).errs, (pLet c fuel ts).rest⟩ := by
  unfold pLet runP
  ir_simp [letStatementBody, toLet]
  rcases ts with _ | ⟨k, rest⟩
  · simp [eofTok, PCtx.eof, Span.index, nfAt, Token.span]
  obtain ⟨val, errs, rest1, hri⟩ : ∃ v e r, pIdent c rest = ⟨v, e, r⟩ := ⟨_, _, _, rfl⟩
  have hi := pIdent_spec c rest
  rw [hri] at hi
  by_cases hk : k.kind = .ident <;> by_cases hv : k.value = Bytes.ofString "let" <;>
    simp [hk, hv, hri, isIdentNamed, Token.span, nfAt]
  rcases hi with ⟨hv, he⟩ | ⟨i, hv, he⟩ <;> simp only at hv he <;> subst hv
  · simp [he, mkOpaque]
  subst he
  rcases rest1 with _ | ⟨a, rest2⟩ <;> simp [eofTok, PCtx.eof, Span.index, errAt]
  by_cases ha : a.kind = .assign <;> simp [ha]
  by_cases he : (pExpr c fuel rest2).errs = [] <;> simp [he, mkOpaque_nil]

theorem C07_letStatement_ir (c : PCtx) (fuel : Nat) (ts : List Token) :
    runP toLet "stmt" c (bodyOf "letStatement") fuel ts = .ok (pLet c fuel ts) := by
  simp only [bodyOf, letStatement_ir, Option.map_some, Option.getD_some, letStatement_run]

end Pql.OpIR
