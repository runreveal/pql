/-
Property C02 / C03 / C05 composed — END TO END: the SQL text the compiler model emits for a pipeline,
read back by the reference SQL reader (`CompileOracle.readSql` = `Sql.lex .standard`, then
`Sql.parseStatement`) and evaluated by the reference evaluator (`Sql.evalStatement`), yields on every
rectangular database exactly the table the specification interpreter `Rel.interp` assigns to the pipeline.

    bytes ──Sql.lex──▶ toksOf cs            C05_lexRender_statement   (Props/C05LexStatement.lean)
          ──parseStatement──▶ st ≈ want     C05_parse_statement       (Props/C05ParseStatement.lean)
    evalStatement (normStatement st)
          = evalStatement want              evalStatement_of_statementEq, intended_noBang   (Lemmas/E2E*.lean)
          = Rel.interp src db t             C03_intended_semantics    (Props/C03Full.lean)

The reading of the conclusion.  `st ≈ want` is the oracle's `statementEq`: equality modulo `normS`
(function names lower-cased, `!=` read as `<>`).  The reference evaluator is invariant under the first
(`E2E.evalSelect_normSelF`) but NOT under the second (`E2E.evalStatement_not_invariant_under_statementEq`),
so the theorems evaluate the NORMAL FORM `normStatement st` of the statement read back — the very
object `statementEq` compares.

`normStatement`, `noBangStatement`, `noBangSel`: Lemmas/E2ESelect.lean; `k4Free`: Props/C05Parsed.lean; `envJoinSafe`:
Lemmas/ScopeRTLets.lean; `tabNamed`: Lemmas/ScopeProgram.lean; `namesOk`, `tabOpsOk`, `RectDB` and the other notions of
the semantic half: see the header of Props/C03Full.lean.
-/
import PqlModel.Lemmas.E2EIntended
import PqlModel.Lemmas.E2EProgram
import PqlModel.Props.C05LexStatement
import PqlModel.Props.C05ParseStatement
import PqlModel.Props.C03Full
import PqlModel.Props.C06Subst
namespace Pql.E2E
open Pql Sql CompileOracle Intended JoinFull

theorem readSql_of_lex {sql : Bytes} {ts : List STok} (h : Sql.lex .standard sql = some ts) :
    readSql sql = parseStatement ts := by
  simp only [readSql, h, bind, Option.bind]

/-- **C02 (end to end, tree level), with the intermediate statement.**  For every source text `src`
    and every tabular expression `t` that `compileChunks` accepts (no parameters), under the side
    conditions of the three arrows: the emitted bytes are read back as a statement `st`; `st` is the
    intended statement `want` up to `normS`; and on every rectangular database the normal form of `st`
    — and `want` itself — evaluate to `Rel.interp src db t`. -/
theorem C02_end_to_end_tree_detail (src : Bytes) (t : Tabular) (cs : List Chunk)
    (hc : compileChunks src [] [.tabular t] = .ok cs)
    (hok : C05.tabularOK t = true) (hnames : namesOk t = true) (hops : tabOpsOk t = true) :
    ∃ st want, readSql (renderChunks cs) = some st ∧ intended src [.tabular t] = some want ∧
      statementEq st want = true ∧
      ∀ db, RectDB db →
        evalStatement db (normStatement st) = Rel.interp src db t ∧ evalStatement db want = Rel.interp src db t := by
  have hl := C05.C05_lexRender_statement src t cs (tabularOK_lexOK t hok) hc
  obtain ⟨st, want, hp, hi, heq⟩ := C05.C05_parse_statement src t cs hok hc
  refine ⟨st, want, by rw [readSql_of_lex hl, hp], hi, heq, fun db hdb => ?_⟩
  have hsem := C03.C03_intended_semantics src db t want hi hnames hops hdb
  exact ⟨by rw [evalStatement_of_statementEq db heq (intended_noBang src _ want hi), hsem], hsem⟩

/-- **C02 (end to end, tree level).**  The SQL text emitted for `t`, read back by the reference reader
    and evaluated (in normal form) by the reference evaluator, is `Rel.interp src db t` on every
    rectangular database. -/
theorem C02_end_to_end_tree (src : Bytes) (t : Tabular) (cs : List Chunk)
    (hc : compileChunks src [] [.tabular t] = .ok cs)
    (hok : C05.tabularOK t = true) (hnames : namesOk t = true) (hops : tabOpsOk t = true) :
    ∃ st, readSql (renderChunks cs) = some st ∧
      ∀ db, RectDB db → evalStatement db (normStatement st) = Rel.interp src db t := by
  obtain ⟨st, _, h1, _, _, h2⟩ := C02_end_to_end_tree_detail src t cs hc hok hnames hops
  exact ⟨st, h1, fun db hdb => (h2 db hdb).1⟩

/-- **C02 (end to end, tree level), without normalisation.**  If the statement read back contains no `!=`
    operator (`noBangStatement st`, a decidable check on the reading), the statement itself evaluates to
    `Rel.interp src db t`.  The compiler writes `<>`, never `!=`, so the condition always holds:
    `E2EFinal.C02_end_to_end_tree_raw_full`, Props/C02EndToEndSource.lean. -/
theorem C02_end_to_end_tree_raw (src : Bytes) (t : Tabular) (cs : List Chunk)
    (hc : compileChunks src [] [.tabular t] = .ok cs)
    (hok : C05.tabularOK t = true) (hnames : namesOk t = true) (hops : tabOpsOk t = true) :
    ∃ st, readSql (renderChunks cs) = some st ∧
      (noBangStatement st = true → ∀ db, RectDB db → evalStatement db st = Rel.interp src db t) := by
  obtain ⟨st, h1, h2⟩ := C02_end_to_end_tree src t cs hc hok hnames hops
  exact ⟨st, h1, fun hnb db hdb => by rw [← evalStatement_normStatement db st hnb]; exact h2 db hdb⟩

/-- **C02 (end to end, source bytes).**  If `Compile` (the byte-level model `compile`, no parameters)
    succeeds on `src` with the SQL text `sql`, and `src` parses to the single query `t` satisfying the
    side conditions, then `sql` read back and evaluated is `Rel.interp src db t`. -/
theorem C02_end_to_end_source (src sql : Bytes) (t : Tabular)
    (h : compile [] src = .ok sql) (hp : (parse src).1 = [.tabular t])
    (hok : C05.tabularOK t = true) (hnames : namesOk t = true) (hops : tabOpsOk t = true) :
    ∃ st, readSql sql = some st ∧
      ∀ db, RectDB db → evalStatement db (normStatement st) = Rel.interp src db t := by
  obtain ⟨cs, hcs, rfl, _⟩ := C05.C05_lexRender_compile src sql (by rw [hp]; exact tabularOK_lexOK t hok) h
  rw [hp] at hcs
  exact C02_end_to_end_tree src t cs hcs hok hnames hops

theorem lets_run_of_compile (src : Bytes) (lets : List Stmt) (t : Tabular) (cs : List Chunk) (hl : IsLets lets)
    (hc : compileChunks src [] (lets ++ [.tabular t]) = .ok cs) :
    ∃ sc q, compileStmts src lets (paramScope []) none = .ok (sc, q) := by
  rw [C14.compileChunks_eq, C06.compileStmts_lets_then_query src t lets hl] at hc
  cases h : compileStmts src lets (paramScope []) none with
  | error e => rw [h] at hc; cases hc
  | ok r => exact ⟨r.1, r.2, rfl⟩

theorem resolveLets_of_compile (src : Bytes) (lets : List Stmt) (t : Tabular) (cs : List Chunk) (hl : IsLets lets)
    (hc : compileChunks src [] (lets ++ [.tabular t]) = .ok cs) :
    resolveLets (lets ++ [.tabular t]) [] = some (substTabular (letsEnv lets []) t) := by
  obtain ⟨sc, q, hrun⟩ := lets_run_of_compile src lets t cs hl hc
  exact C06.C06_resolveLets_env lets t hl (C06.lets_named_of_run src lets hl _ sc q hrun)

theorem intended_of_resolveLets (src : Bytes) (stmts : List Stmt) (t' : Tabular)
    (h : resolveLets stmts [] = some t') : intended src stmts = intended src [.tabular t'] := by
  simp only [intended, h, resolveLets, C05.substTabular_nil]

/-- **C02 (end to end, programs with lets), four parts.**  For a program `lets ++ [query t]` that
    compiles to `cs`, with the side conditions on the RESOLVED query `t' = substTabular (letsEnv lets []) t`.
    (The statement that reads back `cs` itself is `E2EFinal.C02_end_to_end_program`,
    Props/C02EndToEndSource.lean.)

    (1) `resolveLets` gives `t'`, the program's meaning `Rel.interpProgram` is `Rel.interp … t'`, and
    `intended src (lets ++ [t])` is the intended statement `want` of `t'`; (2) the emitted text LEXES to the chunk tokens (C05, lexical half, whole programs);
    (3) the resolved program `[t']` compiles too, to chunks `cs'` that are `cs` up to parentheses (C06);
    (4) the end-to-end statement for `cs'`: read back as `st ≈ want`, and `normStatement st` and `want`
    evaluate to `Rel.interp src db t'`.

    `cs` and `cs'` differ in parentheses (an atomic let value is stored bare and substituted in
    parentheses); `EqUpToParens` is a relation on TEXT and does not say which parentheses are redundant
    for the grammar, so (3) and (4) alone do not give the reading of `cs`. -/
theorem C02_end_to_end_program_partial (src : Bytes) (lets : List Stmt) (t : Tabular) (cs : List Chunk)
    (hc : compileChunks src [] (lets ++ [.tabular t]) = .ok cs)
    (hl : IsLets lets) (hjoin : LetsJoinSafe .join lets) (hT : TrueFree (letsEnv lets []))
    (hN : tabNamed t) (hlexP : stmtsLexOK (lets ++ [.tabular t]) = true)
    (hok : C05.tabularOK (substTabular (letsEnv lets []) t) = true)
    (hnames : namesOk (substTabular (letsEnv lets []) t) = true)
    (hops : tabOpsOk (substTabular (letsEnv lets []) t) = true) :
    resolveLets (lets ++ [.tabular t]) [] = some (substTabular (letsEnv lets []) t) ∧
    (∀ db, Rel.interpProgram src db (lets ++ [.tabular t]) =
      some (Rel.interp src db (substTabular (letsEnv lets []) t))) ∧
    Sql.lex .standard (renderChunks cs) = some (toksOf cs) ∧
    ∃ cs' st want, compileChunks src [] [.tabular (substTabular (letsEnv lets []) t)] = .ok cs' ∧
      EqUpToParens cs cs' ∧
      readSql (renderChunks cs') = some st ∧ intended src (lets ++ [.tabular t]) = some want ∧
      statementEq st want = true ∧
      ∀ db, RectDB db →
        evalStatement db (normStatement st) = Rel.interp src db (substTabular (letsEnv lets []) t) ∧
        evalStatement db want = Rel.interp src db (substTabular (letsEnv lets []) t) := by
  obtain ⟨sc, q, hrun⟩ := lets_run_of_compile src lets t cs hl hc
  obtain ⟨t', hres, hrel⟩ := C06.C06_subst_program src [] lets t hl hjoin hT hN sc q hrun
  have hres' := resolveLets_of_compile src lets t cs hl hc
  rw [hres'] at hres
  cases hres
  rw [hc] at hrel
  rcases hrel.cases_on with ⟨a, cs', ha, hcs', hpar⟩ | ⟨e, he, _⟩
  · cases ha
    obtain ⟨st, want, h1, h2, h3, h4⟩ := C02_end_to_end_tree_detail src _ cs' hcs' hok hnames hops
    exact ⟨hres', fun db => interpProgram_lets src db lets t _ hl hN hres', C05.C05_lexRender_program src _ cs hlexP hc, cs', st, want, hcs', hpar, h1,
      by rw [intended_of_resolveLets src _ _ hres']; exact h2, h3, h4⟩
  · cases he

def endToEnd (src : Bytes) (t : Tabular) (db : DB) : Option Table :=
  match compileChunks src [] [.tabular t] with
  | .ok cs => (readSql (renderChunks cs)).map fun st => evalStatement db (normStatement st)
  | .error _ => none

/-- `endToEnd` without normalisation (what the theorems do NOT speak about; equal on the examples below) -/
def endToEndRaw (src : Bytes) (t : Tabular) (db : DB) : Option Table :=
  match compileChunks src [] [.tabular t] with
  | .ok cs => (readSql (renderChunks cs)).map (evalStatement db)
  | .error _ => none

/-- **C02 (end to end), functional form**: whenever the pipeline compiles, `endToEnd` is the
    specification interpreter. -/
theorem C02_end_to_end (src : Bytes) (t : Tabular) (db : DB)
    (hc : (compileChunks src [] [.tabular t]).toBool = true)
    (hok : C05.tabularOK t = true) (hnames : namesOk t = true) (hops : tabOpsOk t = true) (hdb : RectDB db) :
    endToEnd src t db = some (Rel.interp src db t) := by
  unfold endToEnd
  cases hcs : compileChunks src [] [.tabular t] with
  | error e => rw [hcs] at hc; cases hc
  | ok cs =>
    obtain ⟨st, h1, h2⟩ := C02_end_to_end_tree src t cs hcs hok hnames hops
    simp only [h1, Option.map_some, h2 db hdb]

namespace Ex
open C05

/-- `T | where x > 1 | extend y = x + 1 | join kind=leftouter (U | project k) on k
      | summarize n = count() by k | sort by n desc | take 2` as a tree (spans irrelevant: all columns named) -/
def exQ : Tabular :=
  .mk (some (idn "T"))
    (.cons (.where_ .zero .zero (.binary (col "x") .zero .gt (numL "1")))
    (.cons (.extend .zero .zero [⟨some (idn "y"), .zero, .binary (col "x") .zero .plus (numL "1")⟩])
    (.cons (.join .zero .zero .zero .zero (some (idn "leftouter")) .zero
        (.mk (some (idn "U")) (.cons (.project .zero .zero [⟨some (idn "k"), .zero, .nil⟩]) .nil)) .zero .zero
        (.cons (col "k") .nil))
    (.cons (.summarize .zero .zero [⟨some (idn "n"), .zero, .call (idn "count") .zero .nil .zero⟩] .zero
        [⟨some (idn "k"), .zero, col "k"⟩])
    (.cons (.sort .zero .zero [⟨col "n", false, .zero, false, .zero⟩])
    (.cons (.take .zero .zero (numL "2")) .nil))))))

def b (s : String) : Bytes := Bytes.ofString s
/-- T(x, k), U(k, b) -/
def exDB : DB :=
  [(b "T", ⟨[b "x", b "k"], [[.int 1, .int 1], [.int 2, .int 1], [.int 4, .int 1], [.int 3, .int 2], [.int 5, .int 3]]⟩),
   (b "U", ⟨[b "k", b "b"], [[.int 1, .int 10], [.int 2, .int 20]]⟩)]
/-- the result: k = 1 twice, k = 2 once (k = 3 cut off by `take 2`) -/
def exResult : Table := ⟨[b "k", b "n"], [[.int 1, .int 2], [.int 2, .int 1]]⟩

/-- all hypotheses of `C02_end_to_end_tree` / `C02_end_to_end` hold of the example -/
theorem exQ_hyps : (compileChunks [] [] [.tabular exQ]).toBool = true ∧ tabularOK exQ = true ∧
    namesOk exQ = true ∧ tabOpsOk exQ = true ∧ RectDB exDB := by decide +kernel

theorem exQ_end_to_end : endToEnd [] exQ exDB = some (Rel.interp [] exDB exQ) :=
  C02_end_to_end [] exQ exDB exQ_hyps.1 exQ_hyps.2.1 exQ_hyps.2.2.1 exQ_hyps.2.2.2.1 exQ_hyps.2.2.2.2

set_option maxRecDepth 100000 in
/-- both sides computed (kernel evaluation — `decide +kernel`: the SQL reader compares keywords through
    `String.toUpper`, which only the kernel unfolds —, no `#eval`): the emitted text has 5 CTEs, and read back
    and evaluated — with or without normalisation — it is the table the interpreter gives -/
theorem exQ_computed :
    Rel.interp [] exDB exQ = exResult ∧ endToEnd [] exQ exDB = some exResult ∧
    endToEndRaw [] exQ exDB = some exResult ∧
    (match compileChunks [] [] [.tabular exQ] with
     | .ok cs => (readSql (renderChunks cs)).map (·.ctes.length)
     | .error _ => none) = some 5 := by
  decide +kernel

/-- source level: the same pipeline as PQL text -/
def exSrc : Bytes := Bytes.ofString
  "T | where x > 1 | extend y = x + 1 | join kind=leftouter (U | project k) on k | summarize n = count() by k | sort by n desc | take 2"

def srcHyps (src : Bytes) : Bool :=
  (match compile [] src with | .ok _ => true | _ => false) &&
  match (parse src).1 with
  | [.tabular t] => tabularOK t && namesOk t && tabOpsOk t
  | _ => false

/-- the hypotheses of `C02_end_to_end_source` hold of the text (`decide +kernel`: the scanner is defined
    by well-founded recursion, which only the kernel unfolds; no axiom beyond the three standard ones) -/
theorem exSrc_hyps : srcHyps exSrc = true := by
  unfold exSrc
  rw [Bytes.ofString_ofList]
  decide +kernel

theorem exSrc_end_to_end : ∃ sql t st, compile [] exSrc = .ok sql ∧ (parse exSrc).1 = [.tabular t] ∧
    readSql sql = some st ∧ ∀ db, RectDB db → evalStatement db (normStatement st) = Rel.interp exSrc db t := by
  have h := exSrc_hyps
  simp only [srcHyps, Bool.and_eq_true] at h
  obtain ⟨hc, hp⟩ := h
  split at hc <;> try cases hc
  split at hp <;> try cases hp
  rename_i sql hc _ t ht
  simp only [Bool.and_eq_true] at hp
  obtain ⟨st, h1, h2⟩ := C02_end_to_end_source exSrc sql t hc ht hp.1.1 hp.1.2 hp.2
  exact ⟨sql, t, st, hc, ht, h1, h2⟩

/-- `let n = 1; T | where x > n | sort by x desc | take 2`: the hypotheses of
    `C02_end_to_end_program_partial` hold (the resolved query is `T | where x > (1) | …`) -/
def exLets : List Stmt := [.let_ .zero (some (idn "n")) .zero (numL "1")]
def exLetQ : Tabular :=
  .mk (some (idn "T"))
    (.cons (.where_ .zero .zero (.binary (col "x") .zero .gt (col "n")))
    (.cons (.sort .zero .zero [⟨col "x", false, .zero, false, .zero⟩])
    (.cons (.take .zero .zero (numL "2")) .nil)))

theorem exLet_program : ∃ cs cs' st, compileChunks [] [] (exLets ++ [.tabular exLetQ]) = .ok cs ∧
    compileChunks [] [] [.tabular (substTabular (letsEnv exLets []) exLetQ)] = .ok cs' ∧ EqUpToParens cs cs' ∧
    Sql.lex .standard (renderChunks cs) = some (toksOf cs) ∧ readSql (renderChunks cs') = some st ∧
    ∀ db, RectDB db →
      evalStatement db (normStatement st) = Rel.interp [] db (substTabular (letsEnv exLets []) exLetQ) := by
  have hc : ∃ cs, compileChunks [] [] (exLets ++ [.tabular exLetQ]) = .ok cs := ⟨_, rfl⟩
  obtain ⟨cs, hc⟩ := hc
  obtain ⟨_, _, hlex, cs', st, want, h1, h2, h3, _, _, h6⟩ :=
    C02_end_to_end_program_partial [] exLets exLetQ cs hc
      (by intro s hs; simp only [exLets, List.mem_singleton] at hs; exact ⟨_, _, _, _, hs⟩)
      (by
        intro s hs kw n a x hx _
        simp only [exLets, List.mem_singleton] at hs
        rw [hs] at hx
        cases hx
        refine ⟨by decide, by decide, ?_, ?_⟩ <;> rfl)
      rfl ⟨trivial, trivial, trivial, trivial⟩ (by decide) (by decide) (by decide) (by decide)
  exact ⟨cs, cs', st, hc, h1, h2, hlex, h3, fun db hdb => (h6 db hdb).1⟩

end Ex

/-! ### every hypothesis is needed (end-to-end counterexamples)

* compilation succeeds (`hc`) — defines `cs`; not a side condition.
* `tabularOK`: `tabularOK_needed` below (expression level: `C05.C05_counterexample_untranslatable`,
  `C05_counterexample_empty_sort`, `C05_counterexample_anonymous_column`; the `lexOK` part: `C05.C05_lexOK_needed`; the `shapeOK` part:
  Props/C01Syntactic.lean).
* `namesOk` (name capture, finding K3): `namesOk_needed` (all parts: `C03.Cex.C03_needs_namesOk_*`).
* `tabOpsOk` (aggregates outside `summarize`; join aliases in a sort directly after a join):
  `tabOpsOk_needed` (others: `C02.Cex.C02_*_differs`, `C03.Cex.C03_join_sort_needs_aliasFree`).
* `RectDB`: `rectDB_needed` (= `C03.Cex.C03_join_sort_needs_rect`, end to end).
* evaluating the NORMAL FORM: `E2E.evalStatement_not_invariant_under_statementEq`. -/
namespace Cex
open C05 C03.Ex C03.Cex
-- `exDB` below is `C03.Ex.exDB` (T(k, a) with four rows, U(k, b)), not `E2E.Ex.exDB` above

/-- `T | project` (no columns) compiles to `SELECT  FROM "T";`, which the reader rejects -/
theorem tabularOK_needed :
    tabularOK cexProj = false ∧ namesOk cexProj = true ∧ tabOpsOk cexProj = true ∧
    (compileChunks [] [] [.tabular cexProj]).toBool = true ∧ endToEnd [] cexProj exDB = none := by decide +kernel

/-- `T | as U | join (U) on k`: the CTE named `U` captures the right-hand table `U` -/
def pNames : Tabular :=
  .mk (some (idt "T")) (.cons (.as_ .zero .zero (some (idt "U"))) (.cons (joinOp none tabU) .nil))

set_option maxRecDepth 100000 in
theorem namesOk_needed :
    tabularOK pNames = true ∧ namesOk pNames = false ∧ tabOpsOk pNames = true ∧ RectDB exDB ∧
    (endToEnd [] pNames exDB).isSome = true ∧ endToEnd [] pNames exDB ≠ some (Rel.interp [] exDB pNames) := by
  decide +kernel

/-- `T | project c = count()`: SQL aggregates (one row: 4), the pipeline reading does not (four rows: 0) -/
def pAgg : Tabular :=
  .mk (some (idt "T")) (.cons (.project .zero .zero [⟨some (idt "c"), .zero, .call (idt "count") .zero .nil .zero⟩]) .nil)

set_option maxRecDepth 100000 in
theorem tabOpsOk_needed :
    tabularOK pAgg = true ∧ namesOk pAgg = true ∧ tabOpsOk pAgg = false ∧ RectDB exDB ∧
    endToEnd [] pAgg exDB = some ⟨[bs "c"], [[.int 4]]⟩ ∧
    Rel.interp [] exDB pAgg = ⟨[bs "c"], [[.int 0], [.int 0], [.int 0], [.int 0]]⟩ := by
  decide +kernel

set_option maxRecDepth 100000 in
/-- `T | join (U) on k | sort by c asc` on a database with a short row -/
theorem rectDB_needed :
    tabularOK progSort = true ∧ namesOk progSort = true ∧ tabOpsOk progSort = true ∧ ¬ RectDB badDB ∧
    (endToEnd [] progSort badDB).isSome = true ∧
    endToEnd [] progSort badDB ≠ some (Rel.interp [] badDB progSort) := by
  decide +kernel

end Cex

end Pql.E2E
