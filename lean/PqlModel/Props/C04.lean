/-
Property C04 — literals and names are transmitted as data, never as SQL syntax.

`quoteSQLString` / `quoteIdentifier` followed by the SQL lexer's quoted-token reader is the
identity on *every* byte string (quotes of all kinds, comment markers, semicolons, NUL, invalid
UTF-8 …): the content can neither close the quote nor leak into the following text.
Under ClickHouse's backslash rules the same holds for contents without a backslash; contents
with a backslash are the recorded finding K1.
-/
import PqlModel.Model.Compile
import PqlModel.Spec.Sql.Lex
namespace Pql.C04
open Pql Sql

def dbl (q : UInt8) (v : Bytes) : Bytes := v.flatMap fun b => if b == q then [q, q] else [b]

theorem quoteWith_eq (q : UInt8) (v : Bytes) : quoteWith q v = q :: (dbl q v ++ [q]) := rfl

theorem lexQuoted_dbl (mode : QuoteMode) (q : UInt8) (v rest : Bytes)
    (hrest : rest.head? ≠ some q)
    (hbs : mode = .clickhouse → (92 : UInt8) ∉ v ∧ q ≠ 92) :
    lexQuoted mode q (dbl q v ++ q :: rest) = some (v, rest) := by
  induction v with
  | nil =>
    simp only [dbl, List.flatMap_nil, List.nil_append]
    unfold lexQuoted
    cases rest with
    | nil => simp
    | cons d rest' =>
      have : d ≠ q := by intro h; apply hrest; simp [h]
      simp [this]
  | cons b v ih =>
    have ih' := ih (fun hm => by
      have := hbs hm
      exact ⟨fun h => this.1 (List.mem_cons_of_mem _ h), this.2⟩)
    by_cases hb : b = q
    · subst hb
      have : dbl b (b :: v) = b :: b :: dbl b v := by simp [dbl]
      rw [this]
      simp only [List.cons_append]
      unfold lexQuoted
      simp only [beq_self_eq_true, ↓reduceIte]
      rw [show dbl b v ++ b :: rest = dbl b v ++ b :: rest from rfl, ih']
      simp
    · have hd : dbl q (b :: v) = b :: dbl q v := by simp [dbl, hb]
      rw [hd]
      simp only [List.cons_append]
      unfold lexQuoted
      have hne : (b == q) = false := by simp [hb]
      simp only [hne, Bool.false_eq_true, ↓reduceIte]
      by_cases hm : mode = .clickhouse
      · have h92 := (hbs hm).1
        have : b ≠ 92 := by intro h; apply h92; simp [h]
        simp [this, ih']
      · have : (mode == QuoteMode.clickhouse) = false := by
          cases mode <;> simp_all
        simp [this, ih']

/-- **C04 (strings decode, standard SQL).** For every byte string `v` and every following text
    that does not start with a quote, the SQL lexer reads `quoteSQLString v` back as exactly
    `v` and continues exactly after it. -/
theorem C04_decode_string (v rest : Bytes) (hrest : rest.head? ≠ some 39) :
    lexQuoted .standard 39 ((quoteSQLString v).tail ++ rest) = some (v, rest) := by
  simp only [quoteSQLString, quoteWith_eq, List.tail_cons, List.append_assoc, List.singleton_append]
  exact lexQuoted_dbl .standard 39 v rest hrest (by intro h; cases h)

/-- **C04 (names decode, standard SQL).** -/
theorem C04_decode_identifier (v rest : Bytes) (hrest : rest.head? ≠ some 34) :
    lexQuoted .standard 34 ((quoteIdentifier v).tail ++ rest) = some (v, rest) := by
  simp only [quoteIdentifier, quoteWith_eq, List.tail_cons, List.append_assoc, List.singleton_append]
  exact lexQuoted_dbl .standard 34 v rest hrest (by intro h; cases h)

/-- **C04 (ClickHouse rules, partial).** Under backslash-escape rules the same holds for every
    content without a backslash.  Contents with a backslash are finding K1 (see below). -/
theorem C04_decode_string_clickhouse_partial (v rest : Bytes) (hrest : rest.head? ≠ some 39)
    (hv : (92 : UInt8) ∉ v) :
    lexQuoted .clickhouse 39 ((quoteSQLString v).tail ++ rest) = some (v, rest) := by
  simp only [quoteSQLString, quoteWith_eq, List.tail_cons, List.append_assoc, List.singleton_append]
  exact lexQuoted_dbl .clickhouse 39 v rest hrest (fun _ => ⟨hv, by decide⟩)

theorem C04_decode_identifier_clickhouse_partial (v rest : Bytes) (hrest : rest.head? ≠ some 34)
    (hv : (92 : UInt8) ∉ v) :
    lexQuoted .clickhouse 34 ((quoteIdentifier v).tail ++ rest) = some (v, rest) := by
  simp only [quoteIdentifier, quoteWith_eq, List.tail_cons, List.append_assoc, List.singleton_append]
  exact lexQuoted_dbl .clickhouse 34 v rest hrest (fun _ => ⟨hv, by decide⟩)

/-- **K1, witnessed.** The full ClickHouse statement is false: the string `a\` is quoted as
    `'a\'`, whose closing quote ClickHouse reads as escaped — the literal does not terminate. -/
theorem K1_backslash_witness :
    lexQuoted .clickhouse 39 ((quoteSQLString [97, 92]).tail ++ [59]) ≠ some ([97, 92], [59]) := by decide

/-- the hypotheses of the decode theorems are satisfiable: `it's` followed by `;` -/
example : lexQuoted .standard 39 ((quoteSQLString [105, 116, 39, 115]).tail ++ [59]) = some ([105, 116, 39, 115], [59]) :=
  C04_decode_string _ _ (by decide)

end Pql.C04
