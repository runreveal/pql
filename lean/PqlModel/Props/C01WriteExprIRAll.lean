/-
Property C01 (and C13), tie by translation: `writeExpression` is translated code.  Its regenerated body is run one level
at a time (`C01_writeExpression_step`: if the callee agrees with the model on every smaller expression, so does the body),
which gives `interpWriteExpression c e = liftW (writeExpr c e)` for every context and every expression
(`C01_writeExpression_ir`; in join mode without nil sub-expressions, as `Walk` panics on those), errors and their order
included.  The callees the regenerated body calls — `writeExpressionTight` on the operand of a sign, `hasJoinTerms`, the
`write*Function` rewrites — are interpreted from their own regenerated bodies.  Inside a template range (binary operators,
`in`, indexing, calls) the operands are written with `writeExpression` in source order and parenthesised by `Tmpl.interp`,
that is by the model's `wrapMaybe` / `wrapTight`; `C01_maybeParen_ir` / `C01_tight_ir` tie those to the regenerated wrappers.
-/
import PqlModel.Props.C01WriteExprIRCases
import PqlModel.Lemmas.DispatchRune
namespace Pql.ExprIR
open Pql
open Pql.WriteIR (M IErr liftW goPanic stuck Path)
set_option linter.unusedSimpArgs false

/-- the callees of the body of `writeExpression` at one level of unfolding -/
def stepSem (we : Ctx → Expr → M (List Chunk)) : Sem := { innerSem we with known := interpKnown we }

theorem stepSem_plain (we) : (stepSem we).plain = we := by rw [stepSem, innerSem]
theorem stepSem_maybe (we) : (stepSem we).maybe = interpMaybe we := by rw [stepSem, innerSem]
theorem stepSem_tight (we) : (stepSem we).tight = interpTight we := by rw [stepSem, innerSem]
theorem stepSem_hasJoin (we) : (stepSem we).hasJoin = interpHasJoinTerms := by rw [stepSem, innerSem]
theorem stepSem_known (we) : (stepSem we).known = interpKnown we := by rw [stepSem]
theorem innerSem_plain (we) : (innerSem we).plain = we := rfl

/-- the callee is the model's `writeExpr` on every expression of size below `n`: what the induction on the size hands
    to one unfolding of the body -/
def AgreesBelow (we : Ctx → Expr → M (List Chunk)) (c : Ctx) (n : Nat) : Prop :=
  ∀ x : Expr, x.size < n → (c.mode = .join → x.Good) → we c x = liftW (writeExpr c x)

theorem good_unparen (e : Expr) (h : e.Good) : (unparen e).Good :=
  (unparen_congr Expr.Good (fun _ _ _ => rfl) e).symm ▸ h

theorem tok_number (k : TokKind) : (k.goName == "TokenNumber") = decide (k = .number) := goName_beq k .number
theorem tok_string (k : TokKind) : (k.goName == "TokenString") = decide (k = .string) := goName_beq k .string
theorem tok_plus (k : TokKind) : (k.goName == "TokenPlus") = decide (k = .plus) := goName_beq k .plus
theorem tok_minus (k : TokKind) : (k.goName == "TokenMinus") = decide (k = .minus) := goName_beq k .minus
theorem tok_eq (k : TokKind) : (k.goName == "TokenEq") = decide (k = .eq) := goName_beq k .eq
theorem tok_ne (k : TokKind) : (k.goName == "TokenNE") = decide (k = .ne) := goName_beq k .ne
theorem tok_cieq (k : TokKind) : (k.goName == "TokenCaseInsensitiveEq") = decide (k = .cieq) := goName_beq k .cieq
theorem tok_cine (k : TokKind) : (k.goName == "TokenCaseInsensitiveNE") = decide (k = .cine) := goName_beq k .cine

/-! Each case of the type switch runs the body after the unwrapping loop from the top of the switch, once, on an expression of that type whose
parts are variables: the outcome is the `if`-tree of the case, with the callees' results folded.  Inside a template range
(`runTemplate`) the operands are written with `writeExpression` in source order and `Tmpl.interp` applies the wrapping. -/

theorem liftW_ite {α : Type} (p : Prop) [Decidable p] (a b : Except WErr α) :
    liftW (if p then a else b) = if p then liftW a else liftW b := by split <;> rfl

theorem bind_ok_right {α : Type} (m : M α) : (m >>= fun x => Except.ok x) = m := by cases m <;> rfl

theorem core_nil (sem : Sem) (c : Ctx) :
    bindK (execBlock sem weIR.tail (st0 c .nil)) finish = liftW (writeExpr c .nil) := by
  xe_simp [weIR, defaultCase, st0, X, exprTypeName, finish, goTypeOf, writeExpr]

theorem core_lit (sem : Sem) (c : Ctx) (sp : Span) (k : TokKind) (v : Bytes) :
    bindK (execBlock sem weIR.tail (st0 c (.lit sp k v))) finish = liftW (writeExpr c (.lit sp k v)) := by
  xe_simp [weIR, litCase, st0, X, exprTypeName, finish, tok_number, tok_string]
  rw [writeExpr]
  split
  · rfl
  · split <;> rfl

/-- a qualified identifier: a single part is looked up in the scope and among the built-in constants (the answers stay
    variables of the run); otherwise, and for several parts, the loop over the parts -/
theorem core_qident (sem : Sem) (c : Ctx) (ps : List Ident) :
    bindK (execBlock sem weIR.tail (st0 c (.qident ps))) finish = liftW (writeExpr c (.qident ps)) := by
  have hl := fun out => parts_loop sem c (.expr (.qident ps)) (.expr (.qident ps)) ps 0 out
  by_cases hlen : ps.length = 1
  · obtain ⟨p, rfl⟩ := List.length_eq_one_iff.1 hlen
    simp only [List.map_cons, List.map_nil] at hl
    xe_simp [weIR, qidentCase, qidentPre, st0, X, CtxMode, Part, exprTypeName, finish, mapLookup, hl]
    clear hl
    rw [writeExpr_qident_single, partsFrom_zero]
    cases hq : p.quoted
    · cases lookupScope c.scope p.name with
      | some sql => rfl
      | none => cases builtinIdent p.name <;> simp [liftW_ok, liftW_err, liftW_ite, sepChunks]
    · simp [liftW_ok, liftW_err, liftW_ite, sepChunks, aliasErr, hq]
  · xe_simp [weIR, qidentCase, qidentPre, st0, X, CtxMode, Part, exprTypeName, finish, hl, hlen]
    rw [writeExpr_qident_multi c ps hlen, partsFrom_zero]
    simp [liftW_ok, liftW_err, liftW_ite]

theorem core_unary (we : Ctx → Expr → M (List Chunk)) (c : Ctx) (sp : Span) (op : TokKind) (x : Expr)
    (H : AgreesBelow we c (Expr.unary sp op x).size) (hg : c.mode = .join → (Expr.unary sp op x).Good) :
    bindK (execBlock (stepSem we) weIR.tail (st0 c (.unary sp op x))) finish = liftW (writeExpr c (.unary sp op x)) := by
  have hx : we c (unparen x) = liftW (writeExpr c x) := by
    rw [H (unparen x) (by have := size_unparen x; simp [Expr.size]; omega) (fun h => good_unparen x (hg h)),
      C01.C01_unparen_write]
  xe_simp [weIR, unaryCase, st0, X, exprTypeName, finish, tok_plus, tok_minus, stepSem_tight, C01_tight_ir, hx]
  rw [writeExpr]
  cases writeExpr c x
  · simp [liftW_err, Except.map, bind, Except.bind]
  · simp only [liftW_ok, map_ok, bind_ok]
    by_cases h1 : op = .plus
    · simp only [h1, if_true]; rfl
    · by_cases h2 : op = .minus
      · simp only [h2, if_true]; rfl
      · simp only [h1, h2, if_false]; rfl

/-- binary operators: the switch on the operator; `==` in join mode asks `hasJoinTerms` of both operands -/
theorem core_binary (we : Ctx → Expr → M (List Chunk)) (c : Ctx) (x : Expr) (sp : Span) (op : TokKind) (y : Expr)
    (H : AgreesBelow we c (Expr.binary x sp op y).size) (hg : c.mode = .join → (Expr.binary x sp op y).Good) :
    bindK (execBlock (stepSem we) weIR.tail (st0 c (.binary x sp op y))) finish =
      liftW (writeExpr c (.binary x sp op y)) := by
  have hx : we c x = liftW (writeExpr c x) := H x (by simp [Expr.size]; omega) (fun h => (hg h).1)
  have hy : we c y = liftW (writeExpr c y) := H y (by simp [Expr.size]; omega) (fun h => (hg h).2)
  xe_simp [weIR, binaryCase, eqCase, st0, X, CtxMode, exprTypeName, finish, tok_eq, tok_ne, tok_cieq, tok_cine, runTemplate,
    mapLookup, stepSem_plain, stepSem_hasJoin, hx, hy]
  by_cases h1 : op = .eq
  · subst h1
    rw [C01T.C01_eq_template]
    by_cases hm : c.mode = .join
    · simp only [hm, C01_hasJoinTerms_ir x (hg hm).1, C01_hasJoinTerms_ir y (hg hm).2, if_true, liftW_bind, bind_ok,
        bind_ok_right, true_and, Bool.or_eq_true]
      split <;> rfl
    · simp only [hm, if_true, if_false, liftW_bind, bind_ok_right, false_and]
  · by_cases h2 : op = .ne
    · subst h2
      simp only [C01T.C01_ne_template, liftW_bind, bind_ok_right, if_true, if_neg h1]
    · by_cases h3 : op = .cieq
      · subst h3
        simp only [C01T.C01_cieq_template, liftW_bind, bind_ok_right, if_true, if_neg h1, if_neg h2]
      · by_cases h4 : op = .cine
        · subst h4
          simp only [C01T.C01_cine_template, liftW_bind, bind_ok_right, if_true, if_neg h1, if_neg h2, if_neg h3]
        · simp only [if_neg h1, if_neg h2, if_neg h3, if_neg h4]
          cases hop : binaryOpText op with
          | some sql =>
            simp only [Option.elim]
            simp only [C01T.C01_plain_op_template c x y sp op sql h1 h2 h3 h4 hop, liftW_bind, bind_ok_right]
          | none =>
            rw [writeExpr]
            simp only [h1, h2, h3, h4, hop, ↓reduceIte]
            rfl

theorem core_index (we : Ctx → Expr → M (List Chunk)) (c : Ctx) (x : Expr) (a : Span) (idx : Expr) (b : Span)
    (H : AgreesBelow we c (Expr.index x a idx b).size) (hg : c.mode = .join → (Expr.index x a idx b).Good) :
    bindK (execBlock (stepSem we) weIR.tail (st0 c (.index x a idx b))) finish =
      liftW (writeExpr c (.index x a idx b)) := by
  have hx : we c x = liftW (writeExpr c x) := H x (by simp [Expr.size]; omega) (fun h => (hg h).1)
  have hy : we c idx = liftW (writeExpr c idx) := H idx (by simp [Expr.size]; omega) (fun h => (hg h).2)
  xe_simp [weIR, st0, X, exprTypeName, finish, runTemplate, stepSem_plain, hx, hy]
  simp only [C01T.C01_index_template, liftW_bind, bind_ok_right]

theorem core_in (we : Ctx → Expr → M (List Chunk)) (c : Ctx) (x : Expr) (a b : Span) (vals : ExprList) (d : Span)
    (H : AgreesBelow we c (Expr.inE x a b vals d).size) (hg : c.mode = .join → (Expr.inE x a b vals d).Good) :
    bindK (execBlock (stepSem we) weIR.tail (st0 c (.inE x a b vals d))) finish =
      liftW (writeExpr c (.inE x a b vals d)) := by
  have hx : we c x = liftW (writeExpr c x) := H x (by simp [Expr.size]; omega) (fun h => (hg h).1)
  have hv : plainAll (stepSem we) c vals = liftW (writeList c vals) :=
    plainAll_eq (stepSem we) c vals (fun z hz hgz => H z (by simp [Expr.size]; omega) hgz) (fun h => (hg h).2)
  xe_simp [weIR, st0, X, exprTypeName, finish, runTemplate, stepSem_plain, hx, hv]
  simp only [C01T.C01_in_template, liftW_bind, bind_ok_right]

/-- **the `write*Function` rewrites are translated code**: for every writer named in the regenerated
    `initKnownFunctions` table, the interpretation of its regenerated body (arity guard, then the statements that
    are its template) is the model's guard from the regenerated table followed by the template -/
theorem known_eq (we : Ctx → Expr → M (List Chunk)) (c : Ctx) (fn : Ident) (lp : Span) (args : ExprList) (rp : Span)
    (w : String) (hw : Facts.knownFunctions.any (fun r => r.2.1 == w) = true)
    (hp : plainAll (innerSem we) c args = liftW (writeList c args)) :
    interpKnown we w c (.call fn lp args rp) =
      liftW (if arityRejects w args.length then .error .err
             else writeList c args >>= fun as => Tmpl.interp (Tmpl.argsEnv (args.toList.zip as)) (Tmpl.templateOf w)) := by
  obtain ⟨r, hr, hrw⟩ := List.any_eq_true.1 hw
  obtain ⟨guard, _, _, _, hir, hne, hg⟩ := writerCheck_sound (beq_iff_eq.1 hrw ▸ List.all_eq_true.1 writers_checked r hr)
  have hg := hg c fn lp args rp
  simp only [st0] at hg
  unfold interpKnown
  rw [runWriter_eq _ _ _ _ _ hir]
  generalize arityRejects w args.length = rej at hg ⊢
  cases rej <;> xe_simp [hg, finish, runTemplate, innerSem_plain, hp, hne, liftW_bind, bind_ok_right]

theorem known_names (name : Bytes) (w : String) (np : Bool) (hk : knownFunction name = some (w, np)) :
    Facts.knownFunctions.any (fun r => r.2.1 == w) = true := by
  unfold knownFunction at hk
  cases hf : Facts.knownFunctions.find? (fun r => Bytes.ofString r.1 == name) with
  | none => rw [hf] at hk; simp at hk
  | some r =>
    rw [hf] at hk
    simp only [Option.map_some, Option.some.injEq] at hk
    exact List.any_eq_true.2 ⟨r, List.mem_of_find?_eq_some hf, by rw [hk]; simp⟩

theorem core_call (we : Ctx → Expr → M (List Chunk)) (c : Ctx) (fn : Ident) (lp : Span) (args : ExprList) (rp : Span)
    (H : AgreesBelow we c (Expr.call fn lp args rp).size) (hg : c.mode = .join → (Expr.call fn lp args rp).Good) :
    bindK (execBlock (stepSem we) weIR.tail (st0 c (.call fn lp args rp))) finish =
      liftW (writeExpr c (.call fn lp args rp)) := by
  have hp := fun sem (h : sem.plain = we) => plainAll_eq sem c args
    (fun z hz hgz => h ▸ H z (by simp [Expr.size]; omega) hgz) hg
  cases hk : knownFunction fn.name with
  | none =>
    xe_simp [weIR, callCase, st0, X, exprTypeName, finish, runTemplate, hp _ (stepSem_plain we), hk]
    simp only [C01T.C01_call_default_template c fn args lp rp hk, liftW_bind, bind_ok_right]
  | some wn =>
    have hw := known_names fn.name wn.1 wn.2 hk
    xe_simp [weIR, callCase, st0, X, exprTypeName, finish, stepSem_known, hk, known_eq we c fn lp args rp wn.1 hw (hp _ rfl),
      bind_ok_right]
    rw [C01T.C01_call_known_template c fn args lp rp wn.1 wn.2 hk hw]

/-- **one unfolding of `writeExpression`**: if the callee `we` agrees with the model on every expression
    smaller than `e`, then the interpretation of the regenerated body of `writeExpression` — the unwrapping
    loop, the type switch, every case; with the interpretations of `writeExpressionMaybeParen`,
    `writeExpressionTight`, `hasJoinTerms` and the `write*Function` rewrites as callees — agrees with the
    model on `e`: same chunks, same error, never stuck -/
theorem C01_writeExpression_step (we : Ctx → Expr → M (List Chunk)) (c : Ctx) (e : Expr)
    (H : AgreesBelow we c e.size) (hg : c.mode = .join → e.Good) :
    interpWriteStep we c e = liftW (writeExpr c e) := by
  change runWriter (stepSem we) "writeExpression" c e = _
  rw [runWriter_eq _ _ weIR _ _ we_ir]
  have h : weIR = .unparen "x" "p" "ok" "ParenExpr" "X" :: weIR.tail := rfl
  rw [h, exec_unparen_x, ← C01.C01_unparen_write]
  have hsz := size_unparen e
  have H' : AgreesBelow we c (unparen e).size := fun x hx hgx => H x (by omega) hgx
  have hg' : c.mode = .join → (unparen e).Good := fun h => good_unparen e (hg h)
  have hnp := unparen_notParen e
  show bindK (execBlock (stepSem we) weIR.tail (st0 c (unparen e))) finish = _
  generalize unparen e = u at H' hg' hnp
  cases u with
  | paren => simp [notParen] at hnp
  | nil => exact core_nil _ c
  | qident ps => exact core_qident _ c ps
  | lit sp k v => exact core_lit _ c sp k v
  | unary sp op x => exact core_unary we c sp op x H' hg'
  | binary x sp op y => exact core_binary we c x sp op y H' hg'
  | inE x a b vals d => exact core_in we c x a b vals d H' hg'
  | call fn lp args rp => exact core_call we c fn lp args rp H' hg'
  | index x a idx b => exact core_index we c x a idx b H' hg'

theorem fuel_eq : ∀ (n : Nat) (c : Ctx) (e : Expr), e.size < n → (c.mode = .join → e.Good) →
    interpWriteFuel n c e = liftW (writeExpr c e)
  | 0, _, _, h, _ => absurd h (Nat.not_lt_zero _)
  | n + 1, c, e, h, hg => by
    rw [interpWriteFuel]
    exact C01_writeExpression_step _ c e (fun x hx hgx => fuel_eq n c x (by omega) hgx) hg

/-- **C01 / C13 (`writeExpression` is translated code).**  For every context (any scope, any of the three
    modes) and every expression of any depth — outside join mode also with nil sub-expressions — the
    interpretation of the IR regenerated from `writeExpression` and everything it calls is the model's
    `writeExpr`: the same chunks, or the same failure (error / panic), first failure first; never `stuck`.
    In join mode `hasJoinTerms` walks the operands of `==`, and `Walk` panics on a nil sub-expression
    where the model does not (`C01_writeExpression_ir_needs_good`), hence the side condition there. -/
theorem C01_writeExpression_ir (c : Ctx) (e : Expr) (hg : c.mode = .join → e.Good) :
    interpWriteExpression c e = liftW (writeExpr c e) :=
  fuel_eq (e.size + 1) c e (Nat.lt_succ_self _) hg

theorem liftW_map {α β : Type} (r : Except WErr α) (f : α → β) : (liftW r).map f = liftW (r.map f) := by
  cases r <;> rfl

/-- `writeExpressionMaybeParen`, with `writeExpression` and its callees interpreted, is `wrapMaybe` after `writeExpr` -/
theorem C01_writeMaybeParen_ir (c : Ctx) (e : Expr) (hg : c.mode = .join → e.Good) :
    interpWriteMaybeParen c e = liftW ((writeExpr c e).map (wrapMaybe e)) := by
  unfold interpWriteMaybeParen
  rw [C01_maybeParen_ir, fuel_eq _ c (unparen e) (by have := size_unparen e; omega) (fun h => good_unparen e (hg h)),
    C01.C01_unparen_write, liftW_map]

/-- `writeExpressionTight`, likewise, is `wrapTight` after `writeExpr` -/
theorem C01_writeTight_ir (c : Ctx) (e : Expr) (hg : c.mode = .join → e.Good) :
    interpWriteTight c e = liftW ((writeExpr c e).map (wrapTight e)) := by
  unfold interpWriteTight
  rw [C01_tight_ir, fuel_eq _ c (unparen e) (by have := size_unparen e; omega) (fun h => good_unparen e (hg h)),
    C01.C01_unparen_write, liftW_map]

theorem C01_writeExpression_ir_nonjoin (c : Ctx) (e : Expr) (hm : c.mode ≠ .join) :
    interpWriteExpression c e = liftW (writeExpr c e) :=
  C01_writeExpression_ir c e (fun h => absurd h hm)

def joinCtx : Ctx := ⟨[], [], .join⟩

/-- `<nil> == $left.x` in join mode: Go's `hasJoinTerms` panics in `Walk`, the model writes the comparison -/
theorem C01_writeExpression_ir_needs_good :
    interpWriteExpression joinCtx Glue.nilEq = .error (.go .panic) ∧ (writeExpr joinCtx Glue.nilEq).toBool = true := by
  decide +kernel

/-- non-vacuity: `f($left.x, -(y)) == $right.x` in join mode satisfies the side condition; both sides write
    the plain comparison -/
theorem C01_writeExpression_ir_nonvacuous :
    (joinCtx.mode = .join → Glue.sample.Good) ∧
    interpWriteExpression joinCtx Glue.sample = liftW (writeExpr joinCtx Glue.sample) ∧
    (writeExpr joinCtx Glue.sample).toBool = true :=
  ⟨fun _ => Glue.sample_good, C01_writeExpression_ir _ _ (fun _ => Glue.sample_good), by decide⟩

end Pql.ExprIR
