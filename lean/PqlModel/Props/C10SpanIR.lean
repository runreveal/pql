/-
Property C10 (and C12), tie by translation: the span helpers of parser/span.go, `nodeSpan`,
`nodeSliceSpan`, `(*Ident).AsQualified` (parser/ast.go); the `Span()` methods are in
Props/C10SpanIRNodes.lean.

`harness/extract_ast.go` regenerates an IR of these functions from the go/ast of the source on every
run (`Facts.astIR`); `Model/AstIR.lean` interprets it.  This file proves that the hand-written model
functions ARE the interpretation of the regenerated IR.  In this family `x_dec` is the decode fact ("the regenerated unit is
the tree `xIR`") and `x_ir` the semantic one.
-/
import PqlModel.Model.AstIR
namespace Pql.AstIR
open Pql
set_option linter.unusedSimpArgs false

theorem pure_bind {α β : Type} (a : α) (f : α → M β) : (pure a : M α) >>= f = f a := rfl
theorem stuck_bind {α β : Type} (f : α → M β) : (stuck : M α) >>= f = stuck := rfl
theorem panic_bind {α β : Type} (f : α → M β) : (goPanic : M α) >>= f = goPanic := rfl

theorem bind_assoc' {α β γ : Type} (m : M α) (f : α → M β) (g : β → M γ) :
    (m >>= f) >>= g = m >>= fun a => f a >>= g := by
  funext w
  show M.bind (M.bind m f) g w = M.bind m (fun a => M.bind (f a) g) w
  unfold M.bind
  cases m w <;> rfl

theorem bind_pure' {α : Type} (m : M α) : m >>= pure = m := by
  funext w
  show M.bind m M.pure w = m w
  unfold M.bind
  cases m w <;> rfl

def finish : Ctl × Env → M Val
  | (.ret v, _) => pure v
  | (.next, _) => pure .unit
  | (.cont, _) => stuck

theorem runUnit_eq {u : String} {params : List String} {body : List St}
    (h : (irOf u).map (fun x => (x.1, decode x.2)) = some (params, some body)) (sem : Sem) (args : List Val) :
    runUnit sem u args =
      if params.length == args.length then execBlock sem body (params.zip args) >>= finish else stuck := by
  unfold runUnit
  cases hu : irOf u with
  | none => rw [hu] at h; simp at h
  | some x =>
    obtain ⟨p, items⟩ := x
    rw [hu] at h
    simp only [Option.map_some, Option.some.injEq, Prod.mk.injEq] at h
    obtain ⟨rfl, hd⟩ := h
    simp only [hd]
    split
    · congr 1
    · rfl

/-- makes the equations of `fieldOf` and `arith`, which the run set names -/
theorem prims_smallest : fieldOf .unit "" = stuck ∧ arith "" .unit .unit = stuck := by
  simp only [fieldOf, arith, and_self]

/-- the run set.  `fieldOf` and `arith` are given by their equations on constructor forms only: `simp` visits the
    continuation of a bind before the value is there, and the catch-all equation of a primitive applied to the bound
    variable costs a failed discharge each time.  (The `ir_simp` of Lemmas/ExprParseIRCursor.lean and Props/C07OperatorIR.lean
    are other tactics, over other interpreters.) -/
syntax "ir_simp" (" [" Lean.Parser.Tactic.simpLemma,* "]")? : tactic
macro_rules
  | `(tactic| ir_simp) => `(tactic| ir_simp [])
  | `(tactic| ir_simp [$ls,*]) =>
    `(tactic| simp only [execBlock, exec, eval, evalList, AstIR.get, List.find?, fieldOf.eq_1, fieldOf.eq_2, arith.eq_1,
        assignIn, leaveM, leaveTo, finish, pure_bind, stuck_bind, panic_bind, forEach, BEq.rfl, String.reduceBEq, ↓reduceIte, Bool.false_eq_true,
        Bool.not_true, Bool.not_false, List.length_cons, List.length_nil, Nat.zero_add, Nat.reduceAdd, Nat.sub_self,
        Nat.reduceSub, List.drop_zero, List.drop_succ_cons, Option.map_some, List.zip_cons_cons, List.zip_nil_right, $ls,*])

theorem nullSpan_ir (sem : Sem) : runUnit sem "nullSpan" [] = pure (.span .null) := by rfl

theorem newSpan_ir (sem : Sem) (a b : Int) : runUnit sem "newSpan" [.int a, .int b] = pure (.span ⟨a, b⟩) := by rfl

theorem indexSpan_ir (sem : Sem) (i : Nat) : runUnit sem "indexSpan" [.int i] = pure (.span (Span.index i)) := by rfl

def isValidIR : List St :=
  [.ret (some (.op2 "and"
      (.op2 "and" (.op2 "ge" (.fld "Start" (.var "span")) (.int "0")) (.op2 "ge" (.fld "End" (.var "span")) (.int "0")))
      (.op2 "le" (.fld "Start" (.var "span")) (.fld "End" (.var "span")))))]

theorem isValid_dec : (irOf "Span.IsValid").map (fun x => (x.1, decode x.2)) = some (["span"], some isValidIR) := by rfl

theorem isValid_ir (sem : Sem) (s : Span) : runUnit sem "Span.IsValid" [.span s] = pure (.bool s.isValid) := by
  rw [runUnit_eq isValid_dec]
  obtain ⟨a, b⟩ := s
  ir_simp [isValidIR, Span.isValid]
  cases decide (0 ≤ a) <;> cases decide (0 ≤ b) <;> rfl

/-- what the callees of the span functions must do: `nullSpan`, `newSpan`, `IsValid` -/
structure SpanSem (sem : Sem) : Prop where
  nullSpan : sem.call "nullSpan" [] = pure (.span .null)
  newSpan : ∀ a b, sem.call "newSpan" [.int a, .int b] = pure (.span ⟨a, b⟩)
  isValid : ∀ s, sem.method "IsValid" (.span s) = pure (.bool s.isValid)

theorem semAt_spanSem (spanOf : GNode → M Span) (d : Nat) : SpanSem (semAt spanOf (d + 1)) :=
  ⟨nullSpan_ir _, fun a b => newSpan_ir _ a b, fun s => by simp [semAt, isValid_ir]⟩

def lenIR : List St :=
  [.ite (.not (.mcall "IsValid" (.var "span"))) [.ret (some (.int "0"))] [],
   .ret (some (.op2 "sub" (.fld "End" (.var "span")) (.fld "Start" (.var "span"))))]

theorem len_dec : (irOf "Span.Len").map (fun x => (x.1, decode x.2)) = some (["span"], some lenIR) := by rfl

theorem len_ir {sem : Sem} (h : SpanSem sem) (s : Span) :
    runUnit sem "Span.Len" [.span s] = pure (.int (if s.isValid then s.stop - s.start else 0)) := by
  rw [runUnit_eq len_dec]
  cases hv : s.isValid <;> ir_simp [lenIR, h.isValid, hv]

def unionBody : List St :=
  [.ite (.not (.mcall "IsValid" (.var "span"))) [.continue_] [],
   .ite (.mcall "IsValid" (.var "u"))
     [.set "u" (.call "newSpan" [.op2 "min" (.fld "Start" (.var "u")) (.fld "Start" (.var "span")),
        .op2 "max" (.fld "End" (.var "u")) (.fld "End" (.var "span"))])]
     [.set "u" (.var "span")]]

def unionIR : List St :=
  [.def_ "u" (.call "nullSpan" []), .forRange "span" (.var "spans") unionBody, .ret (some (.var "u"))]

theorem union_dec : (irOf "unionSpans").map (fun x => (x.1, decode x.2)) = some (["spans"], some unionIR) := by rfl

theorem union_step {sem : Sem} (h : SpanSem sem) (u s : Span) (all : Val) :
    execBlock sem unionBody [("span", .span s), ("u", .span u), ("spans", all)] =
      pure (if s.isValid then Ctl.next else Ctl.cont, [("span", .span s), ("u", .span (Span.union u s)), ("spans", all)]) := by
  cases hs : s.isValid
  · ir_simp [unionBody, h.isValid, hs, Span.union]
  · ir_simp [unionBody, h.isValid, hs, Span.union]
    cases hu : u.isValid <;> ir_simp [h.newSpan, hu]

theorem union_loop {sem : Sem} (h : SpanSem sem) (all : Val) : ∀ (l : List Span) (u : Span),
    forEach "span" (execBlock sem unionBody) (l.map .span) [("u", .span u), ("spans", all)] =
      pure (.next, [("u", .span (l.foldl Span.union u)), ("spans", all)])
  | [], u => rfl
  | s :: l, u => by
    have ih := union_loop h all l (Span.union u s)
    simp only [List.map_cons, forEach, union_step h, pure_bind, List.foldl_cons]
    cases s.isValid <;> simpa [leaveTo] using ih

/-- **`unionSpans` is translated code**: for every list of spans the interpretation of the regenerated
    body returns the model's `Span.unions` -/
theorem C10_unionSpans_ir {sem : Sem} (h : SpanSem sem) (l : List Span) :
    runUnit sem "unionSpans" [.spans l] = pure (.span (Span.unions l)) := by
  rw [runUnit_eq union_dec]
  ir_simp [unionIR, h.nullSpan, union_loop h, Span.unions]

/-- … in closed form: at every non-zero call depth, whatever `Span()` of nodes does, with `nullSpan`,
    `newSpan` and `IsValid` interpreted from their own regenerated bodies -/
theorem C10_unionSpans_interp (spanOf : GNode → M Span) (d : Nat) (l : List Span) :
    runUnit (semAt spanOf (d + 1)) "unionSpans" [.spans l] = pure (.span (Span.unions l)) :=
  C10_unionSpans_ir (semAt_spanSem spanOf d) l

theorem len_interp (spanOf : GNode → M Span) (d : Nat) (s : Span) :
    runUnit (semAt spanOf (d + 1)) "Span.Len" [.span s] = pure (.int (if s.isValid then s.stop - s.start else 0)) :=
  len_ir (semAt_spanSem spanOf d) s

def nodeSpanIR : List St :=
  [.ite (.isNilI (.var "n")) [.ret (some (.call "nullSpan" []))] [], .ret (some (.mcall "Span" (.var "n")))]

theorem nodeSpan_dec : (irOf "nodeSpan").map (fun x => (x.1, decode x.2)) = some (["n"], some nodeSpanIR) := by rfl

/-- **`nodeSpan` is translated code**: the nil interface has the null span without any call; every other
    value (a nil pointer included) is asked for its `Span()` -/
theorem C10_nodeSpan_ir {sem : Sem} (h : SpanSem sem) (g : GNode) :
    runUnit sem "nodeSpan" [.node g] = if g.isNilIface then pure (.span .null) else sem.method "Span" (.node g) := by
  rw [runUnit_eq nodeSpan_dec]
  cases hn : g.isNilIface
  · ir_simp [nodeSpanIR, hn, bind_assoc', bind_pure']
  · ir_simp [nodeSpanIR, hn, h.nullSpan]

def sliceBody : List St :=
  [.iteDef "span" (.call "nodeSpan" [.var "n"]) (.mcall "IsValid" (.var "span"))
    [.set "spans" (.append (.var "spans") (.var "span"))]]

def sliceIR : List St :=
  [.def_ "spans" (.make0 "Span" (.len (.var "nodes"))), .forRange "n" (.var "nodes") sliceBody,
   .ret (some (.callV "unionSpans" (.var "spans")))]

theorem slice_dec : (irOf "nodeSliceSpan").map (fun x => (x.1, decode x.2)) = some (["nodes"], some sliceIR) := by rfl

theorem slice_step {sem : Sem} (h : SpanSem sem) (g : GNode) (sp : Span) (acc : List Span) (all : Val)
    (h1 : sem.call "nodeSpan" [.node g] = pure (.span sp)) :
    execBlock sem sliceBody [("n", .node g), ("spans", .spans acc), ("nodes", all)] =
      pure (.next, [("n", .node g), ("spans", .spans (acc ++ if sp.isValid then [sp] else [])), ("nodes", all)]) := by
  cases hv : sp.isValid <;> ir_simp [sliceBody, h1, h.isValid, hv, List.append_nil]

theorem slice_loop {sem : Sem} (h : SpanSem sem) (f : GNode → Span) (all : Val) : ∀ (gs : List GNode) (acc : List Span),
    (∀ g ∈ gs, sem.call "nodeSpan" [.node g] = pure (.span (f g))) →
    forEach "n" (execBlock sem sliceBody) (gs.map .node) [("spans", .spans acc), ("nodes", all)] =
      pure (.next, [("spans", .spans (acc ++ (gs.map f).filter Span.isValid)), ("nodes", all)])
  | [], acc, _ => by simp [forEach]
  | g :: gs, acc, hg => by
    have ih := slice_loop h f all gs (acc ++ (if (f g).isValid then [f g] else []))
      (fun c hc => hg c (List.mem_cons_of_mem _ hc))
    have h1 := hg g (List.mem_cons_self ..)
    simp only [List.map_cons, forEach, slice_step h g (f g) acc all h1, pure_bind]
    cases hv : (f g).isValid <;> simp only [hv] at ih <;> simpa [leaveTo, List.filter, hv] using ih

/-- **`nodeSliceSpan` is translated code**: for every slice of nodes whose `nodeSpan`s are `f`, the
    interpretation of the regenerated body returns the model's `sliceSpan` of these spans -/
theorem C10_nodeSliceSpan_ir {sem : Sem} (h : SpanSem sem) (f : GNode → Span) (gs : List GNode)
    (hn : ∀ g ∈ gs, sem.call "nodeSpan" [.node g] = pure (.span (f g)))
    (hu : ∀ l, sem.call "unionSpans" [.spans l] = pure (.span (Span.unions l))) :
    runUnit sem "nodeSliceSpan" [.nodes gs] = pure (.span (sliceSpan (gs.map f))) := by
  rw [runUnit_eq slice_dec]
  have hl := slice_loop h f (.nodes gs) gs [] hn
  have h0 : ¬ ((gs.length : Int) < 0) := by omega
  ir_simp [sliceIR, h0, hl, hu, sliceSpan, List.nil_append]

def asQualifiedIR : List St :=
  [.ite (.isNilP (.var "id")) [.ret (some (.nilPtr "QualifiedIdent"))] [], .ret (some (.newQid [.var "id"]))]

theorem asQualified_dec :
    (irOf "Ident.AsQualified").map (fun x => (x.1, decode x.2)) = some (["id"], some asQualifiedIR) := by rfl

/-- **`AsQualified` is translated code**: a nil `*Ident` gives a nil `*QualifiedIdent`, any other a
    qualified identifier of that single part (what the model writes as `.qident [i]`) -/
theorem C12_asQualified_ir (sem : Sem) (i : Option Ident) :
    runUnit sem "Ident.AsQualified" [vIdent i] = pure (.qid (i.map fun x => [x])) := by
  rw [runUnit_eq asQualified_dec]
  cases i <;> rfl

end Pql.AstIR
