/-
Property C04, parametricity half — expressions.

The chunk list `writeExpr` emits is a function of the *structure* of the expression with the
contents (string literal values, names, number texts) plugged in: replacing contents replaces
exactly the corresponding `.qstr` / `.qid` / `.num` chunks, nothing else, and errors are
preserved.  (What each such chunk decodes to is `C04_decode_string` / `C04_decode_identifier`.)
-/
import PqlModel.Lemmas.ShapeJoin
namespace Pql.C04
open Pql

mutual
def mapStr (f : Bytes → Bytes) : Expr → Expr
  | .nil => .nil
  | .qident parts => .qident parts
  | .lit sp k v => if k = .string then .lit sp k (f v) else .lit sp k v
  | .unary os op x => .unary os op (mapStr f x)
  | .binary x os op y => .binary (mapStr f x) os op (mapStr f y)
  | .inE x i lp vals rp => .inE (mapStr f x) i lp (mapStrL f vals) rp
  | .paren lp x rp => .paren lp (mapStr f x) rp
  | .call fn lp args rp => .call fn lp (mapStrL f args) rp
  | .index x lb idx rb => .index (mapStr f x) lb (mapStr f idx) rb
def mapStrL (f : Bytes → Bytes) : ExprList → ExprList
  | .nil => .nil
  | .cons e es => .cons (mapStr f e) (mapStrL f es)
end

end Pql.C04

namespace Pql
def Chunk.mapStr (f : Bytes → Bytes) : Chunk → Chunk
  | .qstr v => .qstr (f v)
  | c => c
def Chunk.mapName (f : Bytes → Bytes) : Chunk → Chunk
  | .qid v => .qid (f v)
  | c => c
def Chunk.mapNum (f : Bytes → Bytes) : Chunk → Chunk
  | .num v => .num (f v)
  | c => c
end Pql

namespace Pql.C04

theorem ident_id (φ : CMap) (hn : ∀ n, φ.fn n = n) (hsp : ∀ sp, φ.fsp sp = sp) (p : Ident) : φ.ident p = p := by
  cases p
  simp only [CMap.ident, hn, hsp]

theorem map_ident_id (φ : CMap) (hn : ∀ n, φ.fn n = n) (hsp : ∀ sp, φ.fsp sp = sp) (ps : List Ident) :
    ps.map φ.ident = ps := by
  induction ps with
  | nil => rfl
  | cons p ps ih => rw [List.map_cons, ih, ident_id φ hn hsp]

mutual
theorem mapStr_eq (f : Bytes → Bytes) : (e : Expr) → mapStr f e = mapE (.ofStr f) e
  | .nil => by simp only [mapStr, mapE]
  | .qident parts => by
    simp only [mapStr, mapE]
    rw [map_ident_id _ (fun _ => rfl) (fun _ => rfl)]
  | .lit sp k v => by
    simp only [mapStr, mapE, CMap.lit, CMap.ofStr, id]
    split <;> (try split) <;> rfl
  | .unary _ _ x | .paren _ x _ => by simp only [mapStr, mapE, mapStr_eq f x]; rfl
  | .binary x _ _ y | .index x _ y _ => by simp only [mapStr, mapE, mapStr_eq f x, mapStr_eq f y]; rfl
  | .inE x i lp vals rp => by simp only [mapStr, mapE, mapStr_eq f x, mapStrL_eq f vals]; rfl
  | .call fn lp args rp => by simp only [mapStr, mapE, mapStrL_eq f args]; rfl
theorem mapStrL_eq (f : Bytes → Bytes) : (es : ExprList) → mapStrL f es = mapL (.ofStr f) es
  | .nil => by simp only [mapStrL, mapL]
  | .cons e es => by simp only [mapStrL, mapL, mapStr_eq f e, mapStrL_eq f es]
end

theorem Chunk.mapStr_eq (f : Bytes → Bytes) : Chunk.mapStr f = Chunk.mapC (.ofStr f) := by
  funext c
  cases c <;> rfl

theorem Chunk.mapName_eq (f : Bytes → Bytes) : Chunk.mapName f = Chunk.mapC (.ofName f) := by
  funext c
  cases c <;> rfl

theorem Chunk.mapNum_eq (f : Bytes → Bytes) : Chunk.mapNum f = Chunk.mapC (.ofNum f) := by
  funext c
  cases c <;> rfl

def mapScope (φ : CMap) (s : Scope) : Scope := s.map fun kv => (kv.1, kv.2.map (Chunk.mapC φ))

/-- the general exact statement, for any content map, any scope (mapped alike) and any two sources -/
theorem C04_content_parametric (φ : CMap) (src src' : Bytes) (s : Scope) (m : Mode) (e : Expr)
    (hi : inertE s m φ e = true) :
    writeExpr ⟨src', mapScope φ s, m⟩ (mapE φ e) = (writeExpr ⟨src, s, m⟩ e).map (List.map (Chunk.mapC φ)) :=
  (mapE_rel (MapsTo.cong φ).toWCong (ScopeRel.map (MapsTo.cong φ) s) e hi).mapsTo_eq

/-- **C04 (string contents are data).** Replacing the values of the string literals of an
    expression replaces exactly the `.qstr` chunks of its SQL, in place; every other chunk, the
    order, the parentheses and — when the expression does not compile — the error are the same. -/
theorem C04_string_parametric (ctx : Ctx) (hs : ctx.scope = []) (f : Bytes → Bytes) (e : Expr) :
    writeExpr ctx (mapStr f e) = (writeExpr ctx e).map (List.map (Chunk.mapStr f)) := by
  obtain ⟨src, s, m⟩ := ctx
  subst hs
  rw [mapStr_eq, Chunk.mapStr_eq]
  exact C04_content_parametric (.ofStr f) src src [] m e (inertE_of_fn_id (fun _ => rfl) _ _ e)

/-- with let-bound names and parameters in scope: the bound texts are mapped alike -/
theorem C04_string_parametric_scope (ctx : Ctx) (f : Bytes → Bytes) (e : Expr) :
    writeExpr ⟨ctx.src, mapScope (.ofStr f) ctx.scope, ctx.mode⟩ (mapStr f e) =
      (writeExpr ctx e).map (List.map (Chunk.mapStr f)) := by
  rw [mapStr_eq, Chunk.mapStr_eq]
  exact C04_content_parametric (.ofStr f) ctx.src ctx.src ctx.scope ctx.mode e (inertE_of_fn_id (fun _ => rfl) _ _ e)

theorem sameShape_refl_scope (s : Scope) : ScopeRel SameShape s s := by
  intro n
  cases lookupScope s n with
  | none => exact .none
  | some v => exact .some rfl

/-- **C04 (shape).** The shapes of the chunks (constructor only for `.qstr` / `.qid` / `.num`,
    full text for the fixed pieces) do not depend on the string contents — in any scope. -/
theorem C04_string_shape (ctx : Ctx) (f : Bytes → Bytes) (e : Expr) :
    (writeExpr ctx (mapStr f e)).map (List.map Chunk.shape) = (writeExpr ctx e).map (List.map Chunk.shape) := by
  rw [mapStr_eq]
  exact (mapE_rel (SameShape.cong (.ofStr f)).toWCong (sameShape_refl_scope ctx.scope) e
    (inertE_of_fn_id (fun _ => rfl) _ _ e)).sameShape_eq.symm

/-- `strcat('a', x) == 'it''s'` -/
def exStr : Expr :=
  .binary (.call ⟨Bytes.ofString "strcat", .zero, false⟩ .zero
      (.cons (.lit .zero .string [97]) (.cons (.qident [⟨[120], .zero, false⟩]) .nil)) .zero)
    .zero .eq (.lit .zero .string [105, 116, 39, 115])

/-- non-vacuity: every literal of `exStr` doubled -/
example :
    writeExpr ⟨[], [], .default⟩ exStr =
      .ok [.txt "coalesce(", .txt "(", .qstr [97], .txt " || ", .qid [120], .txt ")", .txt " = ",
           .qstr [105, 116, 39, 115], .txt ", FALSE)"] ∧
    writeExpr ⟨[], [], .default⟩ (mapStr (fun v => v ++ v) exStr) =
      .ok [.txt "coalesce(", .txt "(", .qstr [97, 97], .txt " || ", .qid [120], .txt ")", .txt " = ",
           .qstr [105, 116, 39, 115, 105, 116, 39, 115], .txt ", FALSE)"] :=
  ⟨rfl, rfl⟩

mutual
def mapNum (f : Bytes → Bytes) : Expr → Expr
  | .nil => .nil
  | .qident parts => .qident parts
  | .lit sp k v => if k = .number then .lit sp k (f v) else .lit sp k v
  | .unary os op x => .unary os op (mapNum f x)
  | .binary x os op y => .binary (mapNum f x) os op (mapNum f y)
  | .inE x i lp vals rp => .inE (mapNum f x) i lp (mapNumL f vals) rp
  | .paren lp x rp => .paren lp (mapNum f x) rp
  | .call fn lp args rp => .call fn lp (mapNumL f args) rp
  | .index x lb idx rb => .index (mapNum f x) lb (mapNum f idx) rb
def mapNumL (f : Bytes → Bytes) : ExprList → ExprList
  | .nil => .nil
  | .cons e es => .cons (mapNum f e) (mapNumL f es)
end

mutual
theorem mapNum_eq (f : Bytes → Bytes) : (e : Expr) → mapNum f e = mapE (.ofNum f) e
  | .nil => by simp only [mapNum, mapE]
  | .qident parts => by
    simp only [mapNum, mapE]
    rw [map_ident_id _ (fun _ => rfl) (fun _ => rfl)]
  | .lit sp k v => by
    simp only [mapNum, mapE, CMap.lit, CMap.ofNum, id]
    by_cases h : k = .number
    · subst h
      rfl
    · simp only [h, if_false, ite_self]
  | .unary _ _ x | .paren _ x _ => by simp only [mapNum, mapE, mapNum_eq f x]; rfl
  | .binary x _ _ y | .index x _ y _ => by simp only [mapNum, mapE, mapNum_eq f x, mapNum_eq f y]; rfl
  | .inE x i lp vals rp => by simp only [mapNum, mapE, mapNum_eq f x, mapNumL_eq f vals]; rfl
  | .call fn lp args rp => by simp only [mapNum, mapE, mapNumL_eq f args]; rfl
theorem mapNumL_eq (f : Bytes → Bytes) : (es : ExprList) → mapNumL f es = mapL (.ofNum f) es
  | .nil => by simp only [mapNumL, mapL]
  | .cons e es => by simp only [mapNumL, mapL, mapNum_eq f e, mapNumL_eq f es]
end

/-- **C04 (number texts are data).** A number literal's text never influences the structure
    (in particular not the parenthesisation: `wrapTight` / `isSigned` look at the tree only). -/
theorem C04_number_parametric (ctx : Ctx) (hs : ctx.scope = []) (f : Bytes → Bytes) (e : Expr) :
    writeExpr ctx (mapNum f e) = (writeExpr ctx e).map (List.map (Chunk.mapNum f)) := by
  obtain ⟨src, s, m⟩ := ctx
  subst hs
  rw [mapNum_eq, Chunk.mapNum_eq]
  exact C04_content_parametric (.ofNum f) src src [] m e (inertE_of_fn_id (fun _ => rfl) _ _ e)

theorem C04_number_shape (ctx : Ctx) (f : Bytes → Bytes) (e : Expr) :
    (writeExpr ctx (mapNum f e)).map (List.map Chunk.shape) = (writeExpr ctx e).map (List.map Chunk.shape) := by
  rw [mapNum_eq]
  exact (mapE_rel (SameShape.cong (.ofNum f)).toWCong (sameShape_refl_scope ctx.scope) e
    (inertE_of_fn_id (fun _ => rfl) _ _ e)).sameShape_eq.symm

/-- `-(1) - -(-2)` -/
def exNum : Expr :=
  .binary (.unary .zero .minus (.paren .zero (.lit .zero .number [49]) .zero)) .zero .minus
    (.unary .zero .minus (.unary .zero .minus (.lit .zero .number [50])))

/-- non-vacuity: the numbers of `exNum` get a `0` appended; the parentheses stay -/
example :
    writeExpr ⟨[], [], .default⟩ (mapNum (fun v => v ++ [48]) exNum) =
      .ok [.txt "-", .num [49, 48], .txt " ", .txt "-", .txt " ", .txt "-", .txt "(", .txt "-", .num [50, 48],
        .txt ")"] :=
  rfl

mutual
/-- rename every identifier part (quoted or not) — function names are not names in this sense:
    they select the rewrite, or are passed through as `.fname` -/
def mapName (f : Bytes → Bytes) : Expr → Expr
  | .nil => .nil
  | .qident parts => .qident (parts.map fun p => { p with name := f p.name })
  | .lit sp k v => .lit sp k v
  | .unary os op x => .unary os op (mapName f x)
  | .binary x os op y => .binary (mapName f x) os op (mapName f y)
  | .inE x i lp vals rp => .inE (mapName f x) i lp (mapNameL f vals) rp
  | .paren lp x rp => .paren lp (mapName f x) rp
  | .call fn lp args rp => .call fn lp (mapNameL f args) rp
  | .index x lb idx rb => .index (mapName f x) lb (mapName f idx) rb
def mapNameL (f : Bytes → Bytes) : ExprList → ExprList
  | .nil => .nil
  | .cons e es => .cons (mapName f e) (mapNameL f es)
end

mutual
theorem mapName_eq (f : Bytes → Bytes) : (e : Expr) → mapName f e = mapE (.ofName f) e
  | .nil => by simp only [mapName, mapE]
  | .qident parts => by
    simp only [mapName, mapE]
    rfl
  | .lit sp k v => by
    simp only [mapName, mapE, CMap.lit, CMap.ofName, id]
    split <;> (try split) <;> rfl
  | .unary _ _ x | .paren _ x _ => by simp only [mapName, mapE, mapName_eq f x]; rfl
  | .binary x _ _ y | .index x _ y _ => by simp only [mapName, mapE, mapName_eq f x, mapName_eq f y]; rfl
  | .inE x i lp vals rp => by simp only [mapName, mapE, mapName_eq f x, mapNameL_eq f vals]; rfl
  | .call fn lp args rp => by simp only [mapName, mapE, mapNameL_eq f args]; rfl
theorem mapNameL_eq (f : Bytes → Bytes) : (es : ExprList) → mapNameL f es = mapL (.ofName f) es
  | .nil => by simp only [mapNameL, mapL]
  | .cons e es => by simp only [mapNameL, mapL, mapName_eq f e, mapNameL_eq f es]
end

/-- the renaming `f` is inert on `e` in `ctx`: it fixes the names `writeExpr` looks at (`keyName`:
    unquoted `$left` / `$right`, and these two in any form inside a join condition; for an unquoted
    single-part name also the names in scope and `true` / `false` / `null`) and maps no other name
    of `e` to such a name.  Decidable. -/
def NameInert (ctx : Ctx) (e : Expr) (f : Bytes → Bytes) : Bool := inertE ctx.scope ctx.mode (.ofName f) e

/-- **C04 (names are data).** An inert renaming replaces exactly the `.qid` chunks. -/
theorem C04_name_parametric (ctx : Ctx) (hs : ctx.scope = []) (f : Bytes → Bytes) (e : Expr)
    (hi : NameInert ctx e f = true) :
    writeExpr ctx (mapName f e) = (writeExpr ctx e).map (List.map (Chunk.mapName f)) := by
  obtain ⟨src, s, m⟩ := ctx
  subst hs
  rw [mapName_eq, Chunk.mapName_eq]
  exact C04_content_parametric (.ofName f) src src [] m e hi

/-- with names in scope: the bound names are key names (fixed by an inert `f`), the `.qid` chunks
    inside the bound texts are renamed alike -/
theorem C04_name_parametric_scope (ctx : Ctx) (f : Bytes → Bytes) (e : Expr) (hi : NameInert ctx e f = true) :
    writeExpr ⟨ctx.src, mapScope (.ofName f) ctx.scope, ctx.mode⟩ (mapName f e) =
      (writeExpr ctx e).map (List.map (Chunk.mapName f)) := by
  rw [mapName_eq, Chunk.mapName_eq]
  exact C04_content_parametric (.ofName f) ctx.src ctx.src ctx.scope ctx.mode e hi

theorem C04_name_shape (ctx : Ctx) (f : Bytes → Bytes) (e : Expr) (hi : NameInert ctx e f = true) :
    (writeExpr ctx (mapName f e)).map (List.map Chunk.shape) = (writeExpr ctx e).map (List.map Chunk.shape) := by
  rw [mapName_eq]
  exact (mapE_rel (SameShape.cong (.ofName f)).toWCong (sameShape_refl_scope ctx.scope) e hi).sameShape_eq.symm

end Pql.C04
