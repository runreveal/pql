/-
Property C07 — the parser builds the tree the documented grammar dictates (forward direction):
for every tree of the grammar (`Grammar.okSpine` / `wf…`: the grouping and defaults the grammar
prescribes), of any depth and operator mix, and every token list that realises it
(`Grammar.accounts true (unparse tree) ts`), parsing succeeds without error and yields exactly that
tree, spans included.

Stage 1 (expressions) is `C07_expr`.  It carries one hypothesis the specification does not give:
`NoLparenComma ts` — no comma token directly after a `(` token.  `Grammar.accounts` lets a comma
precede the `)` of any call; the parser accepts it only after an argument: `f(a,)` parses to
`f(a)`, but `f(,)` is an error (`C07_expr_unrestricted_false`).  With at least one argument the
optional comma is covered by the theorem.

No `canon…` side condition is needed for expressions: every field of every expression node
is determined by the tokens (`Ident.name/span/quoted` by the identifier token's value, position and
kind; all `Span` fields by `accounts true`; `lit.kind/value`, operator kinds by the token).
-/
import PqlModel.Lemmas.ForwardStmt
namespace Pql.C07
open Pql

/-- `rest` does not continue an expression: it is empty, or its first token is neither a binary
    operator, nor `in`, nor `.`, `(` or `[`. -/
def Stops (rest : List Token) : Bool := StopsAt 0 rest

theorem stops_iff (rest : List Token) :
    Stops rest = true ↔ rest = [] ∨ ∃ t r, rest = t :: r ∧ precOf t.kind < 0 ∧ t.kind ≠ .dot ∧
      t.kind ≠ .lparen ∧ t.kind ≠ .lbracket := by
  cases rest with
  | nil => simp [Stops, StopsAt]
  | cons t r =>
    simp only [Stops, StopsAt, kindStops]
    constructor
    · intro h
      split at h
      · rename_i hp
        simp only [Bool.and_eq_true, bne_iff_ne] at h
        exact Or.inr ⟨t, r, rfl, hp, h.1.1, h.1.2, h.2⟩
      · rename_i hp
        simp only [decide_eq_true_eq] at h
        omega
    · rintro (h | ⟨t', r', h, hp, h1, h2, h3⟩)
      · cases h
      · cases h
        rw [if_pos hp]
        simp [h1, h2, h3]

/-- **C07, stage 1 (expressions).** On the tokens of a well-grouped expression tree, followed by
    anything that does not continue an expression, `expr` returns exactly the tree (spans
    included), no error, and what follows. -/
theorem C07_expr (c : PCtx) (e : Expr) (us : List Grammar.UTok) (ts rest : List Token) (fuel : Nat)
    (hwf : (Grammar.okSpine 0 e).isSome = true)
    (hu : Grammar.unparseExpr e = some us)
    (hacc : Grammar.accounts true us ts = true)
    (hno : NoLparenComma ts = true)
    (hrest : Stops rest = true)
    (hfuel : 4 * (ts ++ rest).length + 4 ≤ fuel) :
    pExpr c fuel (ts ++ rest) = ⟨e, [], rest⟩ :=
  (fwd_all c fuel).expr e ts rest hwf ⟨us, hu, hacc, hno⟩ hrest hfuel

theorem C07_expr_all (c : PCtx) (e : Expr) (us : List Grammar.UTok) (ts : List Token) (fuel : Nat)
    (hwf : (Grammar.okSpine 0 e).isSome = true) (hu : Grammar.unparseExpr e = some us)
    (hacc : Grammar.accounts true us ts = true) (hno : NoLparenComma ts = true)
    (hfuel : 4 * ts.length + 4 ≤ fuel) : pExpr c fuel ts = ⟨e, [], []⟩ := by
  have := C07_expr c e us ts [] fuel hwf hu hacc hno rfl (by simpa using hfuel)
  simpa using this

/-- **C07, stage 1 (context-dependent form).** `okSpine m e = some cap` against
    `exprBinaryTrail … minPrec`: started on the head of the spine with the tokens of the spine's
    segments, followed by a `rest` that does not continue at level `m`, the trail returns `e`. -/
theorem C07_trail (c : PCtx) (e : Expr) (m cap : Int) (us : List Grammar.UTok) (ts rest : List Token)
    (acc : Errs) (fuel : Nat)
    (hwf : Grammar.okSpine m e = some cap) (hu : Grammar.unparseExpr e = some us)
    (hacc : Grammar.accounts true us ts = true) (hno : NoLparenComma ts = true)
    (hrest : StopsAt m rest = true) (hfuel : 4 * (ts ++ rest).length + 4 ≤ fuel) :
    ∃ th sg, ts = th ++ sg ∧
      pUnary c fuel (th ++ (sg ++ rest)) = ⟨spineHead e, [], sg ++ rest⟩ ∧
      pTrail c fuel (spineHead e) m acc (sg ++ rest) = ⟨e, acc, rest⟩ := by
  obtain ⟨th, sg, rfl, hU, hsegs, hrs⟩ := (fwd_all c fuel).spine hwf ⟨us, hu, hacc, hno⟩ hrest (by omega)
  simp only [List.length_append] at hfuel
  refine ⟨th, sg, rfl, hU, ?_⟩
  have := (fwd_all c fuel).trail (spineSegs e) (spineHead e) m Grammar.inf cap acc sg rest hsegs hrs hrest
    (by simp only [List.length_append]; omega)
  rwa [fold_spine] at this

/-- the same against the "higher precedence first" loop: behind an operator of precedence `p`, the
    right operand `y` (a spine at level `p + 1`) is what the loop returns when `rest` does not
    continue at level `p + 1` -/
theorem C07_higher (c : PCtx) (y : Expr) (p cap : Int) (us : List Grammar.UTok) (ts rest : List Token)
    (acc : Errs) (fuel : Nat)
    (hwf : Grammar.okSpine (p + 1) y = some cap) (hu : Grammar.unparseExpr y = some us)
    (hacc : Grammar.accounts true us ts = true) (hno : NoLparenComma ts = true)
    (hrest : StopsAt (p + 1) rest = true) (hfuel : 4 * (ts ++ rest).length + 4 ≤ fuel) :
    ∃ th sg, ts = th ++ sg ∧
      pUnary c fuel (th ++ (sg ++ rest)) = ⟨spineHead y, [], sg ++ rest⟩ ∧
      pHigher c fuel (spineHead y) p acc (sg ++ rest) = ⟨y, acc, rest⟩ := by
  obtain ⟨th, sg, rfl, hU, hsegs, hrs⟩ := (fwd_all c fuel).spine hwf ⟨us, hu, hacc, hno⟩ hrest (by omega)
  simp only [List.length_append] at hfuel
  refine ⟨th, sg, rfl, hU, ?_⟩
  have := (fwd_all c fuel).higher (spineSegs y) (spineHead y) p cap acc sg rest hsegs hrs hrest
    (by simp only [List.length_append]; omega)
  rwa [fold_spine] at this

/-- expression lists (`in (…)`, call arguments, join conditions): a non-empty list, followed by
    something that neither continues an expression nor is a comma (other than one final comma) -/
theorem C07_exprList (c : PCtx) (e : Expr) (es : ExprList) (us : List Grammar.UTok) (ts rest : List Token)
    (fuel : Nat) (hwf : Grammar.okList (.cons e es) = true)
    (hu : Grammar.unparseExprList (.cons e es) = some us)
    (hacc : Grammar.accounts true us ts = true) (hno : NoLparenComma ts = true)
    (hrest : ListStops rest = true) (hfuel : 4 * (ts ++ rest).length + 5 ≤ fuel) :
    pExprList c fuel (ts ++ rest) = ⟨.cons e es, [], rest⟩ :=
  (fwd_all c fuel).exprList e es ts rest hwf ⟨us, hu, hacc, hno⟩ hrest hfuel

def badCallToks : List Token :=
  [⟨.ident, 0, 1, [102]⟩, ⟨.lparen, 1, 2, []⟩, ⟨.comma, 2, 3, []⟩, ⟨.rparen, 3, 4, []⟩]

def badCall : Expr := .call ⟨[102], ⟨0, 1⟩, false⟩ ⟨1, 2⟩ .nil ⟨3, 4⟩

theorem badCall_ok : (Grammar.okSpine 0 badCall).isSome = true := by decide

theorem badCall_accounted :
    (Grammar.unparseExpr badCall).map (fun us => Grammar.accounts true us badCallToks) = some true := by
  decide

theorem badCall_rejected : (pExpr ⟨4⟩ 20 badCallToks).errs ≠ [] := by decide

/-- Without `NoLparenComma` stage 1 is false: `f(,)` is accounted for by the well-formed
    tree `f()` (the specification allows a comma before the `)` of any call), but the parser reports
    an error (it allows the comma only after an argument). -/
theorem C07_expr_unrestricted_false :
    ¬ ∀ (c : PCtx) (e : Expr) (us : List Grammar.UTok) (ts : List Token) (fuel : Nat),
      (Grammar.okSpine 0 e).isSome = true → Grammar.unparseExpr e = some us →
      Grammar.accounts true us ts = true → 4 * ts.length + 4 ≤ fuel → pExpr c fuel ts = ⟨e, [], []⟩ := by
  intro hall
  have hu : Grammar.unparseExpr badCall = some ((Grammar.unparseExpr badCall).getD []) := by rfl
  have h := hall ⟨4⟩ badCall _ badCallToks 20 badCall_ok hu (by decide) (by decide)
  exact badCall_rejected (by rw [h])

/-! ### stage 2: operators and tabular expressions

The `canon…` side conditions (`canonSortTerm`, `canonColumn`, `canonOp`, `canonTabular`, `canonStmt`):
the span field of an *absent* optional part must be `Span.null` — that is what the parser stores,
while `unparse` / `wf…` only ask whether the span is valid, so the tokens do not determine it
(`C07_canon_needed`).  Everything else in the nodes is determined by the tokens. -/

/-- sort terms `x [asc|desc] [nulls first|last]` with their defaults: without `asc`/`desc` the
    term has `asc = false`; without `nulls …` it has `nullsFirst = asc` (both part of `wfSortTerm`) -/
theorem C07_sortTerm (c : PCtx) (t : SortTerm) (us : List Grammar.UTok) (ts rest : List Token) (fuel : Nat)
    (hwf : Grammar.wfSortTerm t = true) (hcan : canonSortTerm t = true)
    (hu : Grammar.unparseSortTerm t = some us) (hacc : Grammar.accounts true us ts = true)
    (hno : NoLparenComma ts = true) (hrest : SortStops rest = true)
    (hfuel : 4 * (ts ++ rest).length + 4 ≤ fuel) :
    pSortTerm c fuel (ts ++ rest) = ⟨some t, [], rest⟩ :=
  pSortTerm_fwd c fuel t ts rest hwf hcan ⟨us, hu, hacc, hno⟩ hrest hfuel

/-- extend / summarize columns `[name =] x` -/
theorem C07_column (c : PCtx) (col : Column) (us : List Grammar.UTok) (ts rest : List Token) (fuel : Nat)
    (hwf : Grammar.wfColumn col = true) (hcan : canonColumn col = true)
    (hu : Grammar.unparseColumn false col = some us) (hacc : Grammar.accounts true us ts = true)
    (hno : NoLparenComma ts = true) (hrest : ColStops rest = true)
    (hfuel : 4 * (ts ++ rest).length + 4 ≤ fuel) :
    pNamedColumn c fuel (ts ++ rest) = ⟨col, [], rest⟩ :=
  pNamedColumn_fwd c fuel col ts rest hwf hcan ⟨us, hu, hacc, hno⟩ hrest hfuel

/-- **C07, stage 2 (operators).** The tokens of a well-formed operator node are `| name …`, and
    `pOperator` on them returns exactly the node, without error, having consumed its whole range —
    all eleven operators: sort terms with their defaults, columns, summarize with and without `by`
    (and the optional comma before `by`), join with optional `kind = flavor`, render with optional
    `with (…)`, take / top row counts. -/
theorem C07_operator (c : PCtx) (o : Op) (us : List Grammar.UTok) (to : List Token) (fuel : Nat)
    (hwf : Grammar.wfOp o = true) (hcan : canonOp o = true)
    (hu : Grammar.unparseOp o = some us) (hacc : Grammar.accounts true us to = true)
    (hno : NoLparenComma to = true) (hfuel : 4 * to.length + 1 ≤ fuel) :
    ∃ pipeTok name optoks, to = pipeTok :: name :: optoks ∧ pipeTok.kind = .pipe ∧ name.kind = .ident ∧
      pOperator c fuel pipeTok.span name optoks = some ⟨o, [], []⟩ := by
  obtain ⟨pipeTok, name, optoks, h1, h2, h3, h4, -⟩ :=
    (tabFwd_all c fuel).operator o to hwf hcan ⟨us, hu, hacc, hno⟩ hfuel
  exact ⟨pipeTok, name, optoks, h1, h2, h3, h4⟩

/-- **C07, stage 2 (tabular expressions)** `source | op | op …`, joins nested to any depth. -/
theorem C07_tabular (c : PCtx) (t : Tabular) (us : List Grammar.UTok) (ts : List Token) (fuel : Nat)
    (hwf : Grammar.wfTabular t = true) (hcan : canonTabular t = true)
    (hu : Grammar.unparseTabular t = some us) (hacc : Grammar.accounts true us ts = true)
    (hno : NoLparenComma ts = true) (hfuel : 4 * ts.length + 1 ≤ fuel) :
    pTabular c fuel ts = ⟨t, [], []⟩ :=
  ((tabFwd_all c fuel).tab t ts hwf hcan ⟨us, hu, hacc, hno⟩ hfuel).1

theorem C07_let (c : PCtx) (kw : Span) (name : Option Ident) (asg : Span) (x : Expr)
    (us : List Grammar.UTok) (ts : List Token) (fuel : Nat)
    (hwf : Grammar.wfStmt (.let_ kw name asg x) = true)
    (hu : Grammar.unparseStmt (.let_ kw name asg x) = some us) (hacc : Grammar.accounts true us ts = true)
    (hno : NoLparenComma ts = true) (hfuel : 4 * ts.length + 4 ≤ fuel) :
    pLet c fuel ts = ⟨some (.let_ kw name asg x), [], []⟩ :=
  pLet_fwd c fuel kw name asg x ts hwf ⟨us, hu, hacc, hno⟩ hfuel

/-! why the `canon…` conditions are needed: `sort by a` as a term whose (absent) direction keyword
has the invalid, non-null span `5:3` -/

def oddTerm : SortTerm := ⟨.qident [⟨[97], ⟨0, 1⟩, false⟩], false, ⟨5, 3⟩, false, .null⟩
def oddTermToks : List Token := [⟨.ident, 0, 1, [97]⟩]

/-- Without `canonSortTerm` the sort-term statement is false: the term is well-formed
    and accounted for by the single token `a`, but the parser stores `Span.null`, not `5:3`, for the
    absent direction keyword. -/
theorem C07_canon_needed :
    Grammar.wfSortTerm oddTerm = true ∧
    (Grammar.unparseSortTerm oddTerm).map (fun us => Grammar.accounts true us oddTermToks) = some true ∧
    (pSortTerm ⟨1⟩ 20 oddTermToks).val.map (·.ascDescSpan) = some Span.null ∧
    oddTerm.ascDescSpan ≠ Span.null := by decide

/-- what stage 3 assumes about a statement `st` and its token group `g`: the grammar's
    well-formedness, the canonical form of absent parts, the tokens realise the tree (with
    positions), no comma directly after `(`, and — for a tabular statement — the source table is not
    the unquoted identifier `let` (`notLetSource`).  It is `StmtOK` of Lemmas/ForwardStmt.lean with `RealBy`
    written out, and the proofs below pass it as such -/
def StmtHyp (st : Stmt) (g : List Token) : Prop :=
  Grammar.wfStmt st = true ∧ canonStmt st = true ∧ notLetSource st = true ∧
    ∃ us, Grammar.unparseStmt st = some us ∧ Grammar.accounts true us g = true ∧ NoLparenComma g = true

theorem C07_statement (c : PCtx) (st : Stmt) (g : List Token) (h : StmtHyp st g) :
    pStatement c g = (some st, [], false) :=
  pStatement_fwd c st g h

/-- **C07, stage 3.** If the non-empty semicolon-separated token groups of `ts`
    realise, one to one and in order, the well-formed statements `stmts` (empty statements between
    semicolons are allowed anywhere), then `Parse` succeeds without error and returns exactly
    `stmts`.  This is the converse of `C08_accounted_partial`.  Excluded, each by an explicit decidable
    hypothesis: a comma directly after `(` (`NoLparenComma`), non-null spans of absent optional parts
    (`canonStmt`), and a tabular statement whose source table is the unquoted identifier `let`
    (`notLetSource`). -/
theorem C07_parse_partial (srcLen : Nat) (ts : List Token) (stmts : List Stmt)
    (h : Forall₂ StmtHyp stmts (Grammar.splitStatementsToks ts)) :
    parseTokens srcLen ts = (stmts, []) :=
  parseTokens_fwd srcLen ts stmts h

theorem C07_parse_src_partial (src : Bytes) (stmts : List Stmt)
    (h : Forall₂ StmtHyp stmts (Grammar.splitStatementsToks (scan src))) :
    parse src = (stmts, []) :=
  C07_parse_partial src.length (scan src) stmts h

def letTableToks : List Token :=
  [⟨.ident, 0, 3, Bytes.ofString "let"⟩, ⟨.pipe, 4, 5, []⟩, ⟨.ident, 6, 11, Bytes.ofString "count"⟩]

def letTable : Stmt :=
  .tabular (.mk (some ⟨Bytes.ofString "let", ⟨0, 3⟩, false⟩) (.cons (.count ⟨4, 5⟩ ⟨6, 11⟩) .nil))

/-- Without `notLetSource` stage 3 is false: `let | count` is accounted for by the
    well-formed (and canonical) tabular statement with source table `let`, but the parser commits to
    a `let` statement on seeing the identifier `let` and reports errors. -/
theorem C07_parse_unrestricted_false :
    Grammar.wfStmt letTable = true ∧ canonStmt letTable = true ∧
    (Grammar.unparseStmt letTable).map (fun us => Grammar.accounts true us letTableToks) = some true ∧
    NoLparenComma letTableToks = true ∧
    (parseTokens 11 letTableToks).2 ≠ [] := by decide

#print axioms C07_expr
#print axioms C07_expr_all
#print axioms C07_trail
#print axioms C07_higher
#print axioms C07_exprList
#print axioms C07_expr_unrestricted_false
#print axioms C07_sortTerm
#print axioms C07_column
#print axioms C07_operator
#print axioms C07_tabular
#print axioms C07_let
#print axioms C07_canon_needed
#print axioms C07_statement
#print axioms C07_parse_partial
#print axioms C07_parse_src_partial
#print axioms C07_parse_unrestricted_false

end Pql.C07
