/-
Property C07 (also C03), tie by translation: `(*parser).joinOperator` — the optional `kind = flavor` clause
(an unknown flavor is recorded and parsing goes on), the parenthesised right-hand table parsed by a
sub-parser (`split`, the recursive `tabularExpr`, `endSplit`), `on` and the condition list — the model's
`pJoin` is the interpretation of the regenerated body (`C07_joinOperator_ir`), at every call depth `f + 1`
(`pJoin c 0` is the model's fuel artefact: `join_fuel_cx`).
-/
import PqlModel.Props.C07OperatorIRRender
namespace Pql.OpIR
open Pql
set_option linter.unusedSimpArgs false

/-- the `Flavor` field and what the heap holds besides the operator: the flavor (if any) at address 1 -/
def flVal : Option Ident → Val
  | some _ => .ref 1
  | none => .ident none

def flHeap : Option Ident → List Rec
  | some i => [⟨"Ident", [("Name", .str i.name), ("NameSpan", .span i.span), ("Quoted", .bool i.quoted)]⟩]
  | none => []

theorem toIdent_flavor (r : Rec) : ∀ fl : Option Ident, toIdent (r :: flHeap fl) (flVal fl) = some fl
  | some _ => by simp [toIdent, flVal, flHeap]
  | none => rfl

/-- the state after the optional clause: the operator at address 0 -/
def joinSt (pipe kws kind ka : Span) (kw pt : Token) (fl : Option Ident) (e0 : Errs) (tk : Token) (ts : List Token)
    (u : Option (List Token)) : St :=
  ⟨[("finalError", .errs e0), ("ok", .bool true), ("tok", .tok tk), ("op", .ref 0), ("keyword", .tok kw), ("pipe", .tok pt),
    ("p", .parser ts u)],
   ⟨"JoinOperator", [("Pipe", .span pipe), ("Keyword", .span kws), ("Kind", .span kind), ("KindAssign", .span ka),
      ("Flavor", flVal fl), ("Lparen", .span .null), ("Right", .tab .nil),
      ("Rparen", .span .null), ("On", .span .null), ("Conditions", .exprs .nil)]⟩ :: flHeap fl⟩

theorem join_tail (c : PCtx) (f : Nat) (pipe kws kind ka : Span) (kw pt : Token) (fl : Option Ident) (e0 : Errs) (tk : Token)
    (ts : List Token) (u : Option (List Token)) :
    result toOp "op" none (execBlock (envAt c) (joinOperatorBody.drop 5) f (joinSt pipe kws kind ka kw pt fl e0 tk ts u)) =
      .ok (joinTail c f pipe kws kind ka fl e0 ts) := by
  unfold joinTail
  ir_simp [joinOperatorBody, joinSt, toIdent_flavor, toTab, toExprs, List.append_assoc]
  rcases ts with _ | ⟨lp, rest1⟩
  · simp [eofTok, PCtx.eof, Span.index, Token.span]
  by_cases hl : lp.kind = .lparen <;> simp [hl, Token.span]
  obtain ⟨s1, s2, hsp⟩ : ∃ s1 s2, split .rparen rest1 = (s1, s2) := ⟨_, _, rfl⟩
  rcases s2 with _ | ⟨rp, _ | ⟨on, rest3⟩⟩ <;> simp [hsp, eofTok, PCtx.eof, Span.index, Token.span]
  all_goals by_cases hr : rp.kind = .rparen <;> simp [hr, isIdentNamed]
  by_cases ho : on.kind = .ident <;> by_cases hov : on.value = Bytes.ofString "on" <;> simp [ho, hov]

theorem joinOperator_run (c : PCtx) (f : Nat) (pipe kw : Token) (ts : List Token) :
    runOp c joinOperatorBody f pipe kw ts = .ok (pJoin c (f + 1) pipe.span kw.span ts) := by
  have hsplit : joinOperatorBody = joinOperatorBody.take 5 ++ joinOperatorBody.drop 5 := rfl
  rw [pJoin_eq]
  unfold runOp run
  rw [hsplit, execBlock_append]
  -- the statements after the optional clause stay closed while the ones before it run
  have tail := join_tail c f pipe.span kw.span
  generalize joinOperatorBody.drop 5 = T at tail ⊢
  ir_simp [joinOperatorBody, toTab, toExprs]
  rcases ts with _ | ⟨t0, rest0⟩
  · simp
  by_cases hk : t0.kind = .ident <;> by_cases hv : t0.value = Bytes.ofString "kind" <;> simp [hk, hv, isIdentNamed]
  · rcases rest0 with _ | ⟨asg, rest1⟩
    · simp [eofTok, PCtx.eof, Span.index, Token.span]
    by_cases ha : asg.kind = .assign <;> simp [ha, Token.span]
    rcases rest1 with _ | ⟨fl, rest2⟩
    · simp [eofTok, PCtx.eof, Span.index, Token.span]
    simp
    by_cases hf : fl.kind = .ident <;> simp [hf]
    cases hj : isJoinType fl.value <;> simp <;> exact tail _ _ _ _ (some ⟨fl.value, fl.span, false⟩) _ _ _ _
  all_goals exact tail _ _ _ _ none _ _ _ _

/-- **joinOperator**: the model's production is the interpretation of the regenerated body, the callees
    (`tabularExpr` on the sub-parser, `exprList`) running one level deeper as in the model -/
theorem C07_joinOperator_ir (c : PCtx) (f : Nat) (pipe kw : Token) (ts : List Token) :
    (runOp c (bodyOf "joinOperator") f pipe kw ts).map some =
      .ok (pOperator c (f + 2) pipe.span (kwTok "join" kw) ts) := by
  simp only [bodyOf, joinOperator_ir, Option.map_some, Option.getD_some, joinOperator_run,
    pOperator_join c (f + 1) _ (kwTok "join" kw) ts rfl]
  rfl

/-- at call depth 1 the model's `pJoin` is out of fuel before it looks at anything: a `count` node and the
    fuel leaf — the model's artefact, not an interpretation of the Go code (which builds a JoinOperator) -/
theorem join_fuel_cx (c : PCtx) (pipe : Span) (kw : Token) (ts : List Token) :
    pOperator c 1 pipe (kwTok "join" kw) ts = some ⟨.count pipe kw.span, errFuel, ts⟩ := by
  rw [pOperator_join c 0 _ (kwTok "join" kw) ts rfl]
  rfl

end Pql.OpIR
