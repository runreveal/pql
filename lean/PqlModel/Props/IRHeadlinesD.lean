/-
THE HEADLINE PROPERTIES ON THE INTERPRETATIONS OF THE TRANSLATED GO CODE: the lexer, statement splitting,
spans, Walk (C09, C15, C10, C11).  See Props/IRHeadlinesA.lean for the conventions.

Interpreters: `Dispatch.interp` (the switch of `Scan`) and the loop around it `scanIR`
(Lemmas/IRHeadlinesAux.lean), `LexIR.numFn … "scanner.numberOrDot"`, `LexIR.interpSplit` (`SplitStatements`),
`OpIR.runParse n ts (bodyOf "Parse")` (`Parse`), `AstIR.interpSpan` (`Span()`), `LexIR.interpLinecolParser`
(`linecol`), `AstIR.interpWalk` (`Walk`).
-/
import PqlModel.Lemmas.IRHeadlinesAux
import PqlModel.Props.C09
import PqlModel.Props.C09b
import PqlModel.Props.C09Gaps
import PqlModel.Props.C10Extent
import PqlModel.Props.C10Failed
import PqlModel.Props.C10Linecol
import PqlModel.Props.C10Compile
import PqlModel.Props.C11b
import PqlModel.Props.C15
import PqlModel.Props.C15Parse
namespace Pql.IRHead
open Pql Pql.Grammar
set_option linter.unusedSimpArgs false

/-- **C09 (one step = longest lexeme of the declarative grammar) on the translated switch of `Scan`.**
    At every non-empty suffix, whatever step the interpretation of the regenerated 21-case switch returns is
    the piece the regular-expression tokenizer with maximal munch prescribes (same width, trivia vs token,
    kind and value); it consumes at least one byte and at most what is left. -/
theorem C09_switch_ir (c : UInt8) (rest : Bytes) (st : Step) (h : Dispatch.interp (c :: rest) = some st) :
    stepOfPiece (LexSpec.pieceAt (c :: rest)) = st ∧ 1 ≤ st.width ∧ st.width ≤ (c :: rest).length := by
  rw [Dispatch.C09_dispatch_interp] at h
  injection h with h
  subst h
  exact ⟨C09.C09_refines_step c rest, scanOne_width_pos c rest, scanOne_width_le _⟩

/-- the switch has a meaning on every byte string (valid UTF-8 or not) -/
theorem C09_switch_total (s : Bytes) : ∃ st, Dispatch.interp s = some st := ⟨_, Dispatch.C09_dispatch_interp s⟩

/-- **C09 on the loop around the translated switch.**  For every byte string (valid UTF-8 or not) the loop
    returns tokens (never `none`: the switch always has a meaning and makes progress, `len + 1` iterations
    suffice), and whatever it returns: (a) is exactly the token list of the reference tokenizer (kinds,
    spans, values); (b) the tokens are non-empty, inside the source, in source order, non-overlapping;
    (c) before the first, between two consecutive and after the last token there is only white space and
    `//` comments; (d) rescanning a token's text gives that token. -/
theorem C09_scan_ir (s : Bytes) :
    (∃ ts, scanIR s = some ts) ∧
    ∀ ts, scanIR s = some ts →
      ts = LexSpec.tokens s ∧
      C09.Ordered 0 s.length ts ∧
      ((ts = [] → C09.AllTrivia s) ∧
       (∀ t tl, ts = t :: tl → C09.AllTrivia (s.take t.start)) ∧
       (∀ pre t1 t2 post, ts = pre ++ t1 :: t2 :: post → C09.AllTrivia ((s.drop t1.stop).take (t2.start - t1.stop))) ∧
       (∀ pre t, ts = pre ++ [t] → C09.AllTrivia (s.drop t.stop))) ∧
      (∀ t ∈ ts, ∃ ts', scanIR ((s.drop t.start).take (t.stop - t.start)) = some ts' ∧
        ts' = [⟨t.kind, 0, t.stop - t.start, t.value⟩]) := by
  refine ⟨⟨_, scanIR_eq s⟩, fun ts h => ?_⟩
  rw [scanIR_eq] at h
  injection h with h
  subst h
  exact ⟨C09.C09_refines s, C09.C09_partition s, C09.C09_gaps_trivia s,
    fun t ht => ⟨_, scanIR_eq _, C09.C09_rescan_any s t ht⟩⟩

/-- **C09 (numbers keep their value) on the translated `numberOrDot`.**  At a position where the remaining
    bytes start with a digit or '.' (where the switch of `Scan` hands over to it,
    `NoPanic.select_numberOrDot`): the interpretation of the regenerated `numberOrDot` — `numberExponent`,
    `normalizeNumberValue`, the cursor and span helpers interpreted from their own bodies — returns
    normally; and if what it returns is a NUMBER token with value `v` over `[a, b)`, then it starts at the
    cursor, the cursor is left after it, the source spelling is a well-formed literal and the decimal
    spelling `v` denotes exactly the same rational number; an integer token reads back as the source's
    number. -/
theorem C09_number_value_ir (lib : LexIR.Lib) (pre : Bytes) (c : UInt8) (rest : Bytes) (l : Nat)
    (hc : (isDigit c || c == 46) = true) :
    (∃ r, LexIR.numFn lib ((c :: rest).length + 1) "scanner.numberOrDot" [.scanner] ⟨pre ++ c :: rest, pre.length, l⟩ = .ok r) ∧
    ∀ (a b : Nat) (v : Bytes) (h' : LexIR.Heap),
      LexIR.numFn lib ((c :: rest).length + 1) "scanner.numberOrDot" [.scanner] ⟨pre ++ c :: rest, pre.length, l⟩ =
        .ok ([.tok .number a b v], h') →
      a = pre.length ∧ h'.pos = b ∧
      (∃ q : Rat, C09.spellingValue ((c :: rest).take (b - a)) = some q ∧ C09.decValue v = some q) ∧
      (C09.isFloatValue v = false →
        C09.allDigits v = true ∧ C09.spellingValue ((c :: rest).take (b - a)) = some (C09.natOfDigits v : Rat)) := by
  obtain ⟨l', msg, he⟩ := LexIR.C09_numberOrDot_ir lib ((c :: rest).length + 1) pre (c :: rest) l (Nat.lt_succ_self _)
    (by intro c' rest' h; injection h with h1 _; subst h1; exact hc)
  refine ⟨⟨_, he⟩, fun a b v h' hr => ?_⟩
  rw [he] at hr
  simp only [LexIR.lexTok, Except.ok.injEq, Prod.mk.injEq, List.cons.injEq, LexIR.Val.tok.injEq, and_true] at hr
  obtain ⟨⟨hk, ha, hb, hv⟩, hh⟩ := hr
  have hv' : (scanNumberOrDot (c :: rest)).value = v := by
    rw [hk] at hv
    simpa using hv
  have hw : (scanNumberOrDot (c :: rest)).width = b - a := by omega
  have hL : scanNumberOrDot (c :: rest) = ⟨.number, v, b - a⟩ := by
    cases hx : scanNumberOrDot (c :: rest) with
    | mk k v0 w0 =>
      rw [hx] at hk hv' hw
      simp only at hk hv' hw
      rw [hk, hv', hw]
  refine ⟨ha.symm, by rw [← hh]; simpa using hb, C09.C09_number_value c rest v _ hc hL, fun hf => ?_⟩
  obtain ⟨_, _, h3⟩ := C09.C09_accessors c rest v _ hc hL
  exact ⟨(h3 hf).1, (h3 hf).2.1⟩

/-- the first conjunct of `C09_number_value_ir` at the hex literal of "ab 0x1F+": the interpretation returns normally
    (that what it returns there is a NUMBER token is not part of this statement) -/
theorem C09_number_value_ir_nonvacuous :
    ∃ r, LexIR.numFn lexLib 6 "scanner.numberOrDot" [.scanner] ⟨Bytes.ofString "ab " ++ 48 :: Bytes.ofString "x1F+", 3, 0⟩ = .ok r :=
  (C09_number_value_ir lexLib (Bytes.ofString "ab ") 48 (Bytes.ofString "x1F+") 0 (by decide)).1

/-- **C09 in one statement**: the interpreted switch takes the step of the reference tokenizer; the loop around it
    returns the reference token list, in order and inside the source; `scanFn` is the model's `scan`; the
    interpreted `numberOrDot` keeps the value of the spelling. -/
theorem C09_on_translated_code :
    (∀ (c : UInt8) (rest : Bytes) (st : Step), Dispatch.interp (c :: rest) = some st →
      stepOfPiece (LexSpec.pieceAt (c :: rest)) = st ∧ 1 ≤ st.width ∧ st.width ≤ (c :: rest).length) ∧
    (∀ s : Bytes, ∃ ts, scanIR s = some ts ∧ ts = LexSpec.tokens s ∧ C09.Ordered 0 s.length ts) ∧
    scanFn = scan ∧
    (∀ (lib : LexIR.Lib) (pre : Bytes) (c : UInt8) (rest : Bytes) (l a b : Nat) (v : Bytes) (h' : LexIR.Heap),
      (isDigit c || c == 46) = true →
      LexIR.numFn lib ((c :: rest).length + 1) "scanner.numberOrDot" [.scanner] ⟨pre ++ c :: rest, pre.length, l⟩ =
        .ok ([.tok .number a b v], h') →
      ∃ q : Rat, C09.spellingValue ((c :: rest).take (b - a)) = some q ∧ C09.decValue v = some q) :=
  ⟨C09_switch_ir,
   fun s => ⟨_, scanIR_eq s, ((C09_scan_ir s).2 _ (scanIR_eq s)).1, ((C09_scan_ir s).2 _ (scanIR_eq s)).2.1⟩,
   scanFn_eq,
   fun lib pre c rest l a b v h' hc hr => ((C09_number_value_ir lib pre c rest l hc).2 a b v h' hr).2.2.1⟩

/-- **C15 (SplitStatements) on the translated `SplitStatements`**, `Scan` being the model's scanner (or the
    loop around the interpreted switch: `lexLib_scan`).  For every byte string the interpretation of the
    regenerated body returns normally, and whatever `[]string` it returns: the heap is unchanged; joining
    the pieces with `;` restores the source byte for byte; there is one more piece than semicolon tokens;
    no piece, scanned on its own, contains a semicolon token; the scan of the whole is the scans of the
    pieces, shifted, with the semicolon tokens between them; each piece is the text of the source at its
    offset and its tokens inside the whole are its own tokens, shifted. -/
theorem C15_split_headlines_ir (lib : LexIR.Lib) (hs : lib.scan = scan) (src : Bytes) (h : LexIR.Heap) :
    (∃ r, LexIR.interpSplit lib [.str src] h = .ok r) ∧
    ∀ (ps : List Bytes) (h' : LexIR.Heap), LexIR.interpSplit lib [.str src] h = .ok ([.strs ps], h') →
      h' = h ∧
      C15.intercalateSemi ps = src ∧
      ps.length = ((scan src).filter (·.kind = .semi)).length + 1 ∧
      (∀ p ∈ ps, ∀ t ∈ scan p, t.kind ≠ .semi) ∧
      scan src = C15.rejoinTokens 0 ps ∧
      (∀ po ∈ ps.zip (pieceStarts src),
        (src.drop po.2).take po.1.length = po.1 ∧
        tokensWithin (scan src) po.2 po.1.length = (scan po.1).map (Token.shift po.2)) := by
  refine ⟨⟨_, LexIR.C15_split_ir lib hs src h⟩, fun ps h' hr => ?_⟩
  have := (split_ir_iff lib hs src h _).1 hr
  simp only [Prod.mk.injEq, List.cons.injEq, LexIR.Val.strs.injEq, and_true] at this
  obtain ⟨rfl, rfl⟩ := this
  exact ⟨rfl, C15.C15_join src, C15.C15_count src, C15.C15_no_semi_in_piece src, C15.C15_piece_tokens src,
    C15.C15_piece_tokens_at src⟩

/-- **C15 (Parse and the pieces) on the translated `SplitStatements` and `Parse`.**  With `ps` the pieces
    the interpretation of `SplitStatements` returns: the interpretation of `Parse` on the whole source
    succeeds iff it succeeds on every piece; a piece yields at most one statement; and on success the number
    of statements is the number of pieces with at least one token. -/
theorem C15_parse_pieces_ir (lib : LexIR.Lib) (hs : lib.scan = scan) (src : Bytes) (h h' : LexIR.Heap)
    (ps : List Bytes) (hr : LexIR.interpSplit lib [.str src] h = .ok ([.strs ps], h')) :
    ∃ stmts errs, ParseIR(src) = .ok (stmts, errs) ∧
      (errs = [] ↔ ∀ p ∈ ps, ∃ sp, ParseIR(p) = .ok (sp, [])) ∧
      (∀ p ∈ ps, ∃ sp ep, ParseIR(p) = .ok (sp, ep) ∧ sp.length ≤ 1) ∧
      (errs = [] → stmts.length = (ps.filter (fun p => decide (scan p ≠ []))).length) := by
  have := (split_ir_iff lib hs src h _).1 hr
  simp only [Prod.mk.injEq, List.cons.injEq, LexIR.Val.strs.injEq, and_true] at this
  obtain ⟨rfl, rfl⟩ := this
  refine ⟨(parse src).1, (parse src).2, OpIR.C07_Parse_ir src, ?_, ?_, Piecewise.C15_statement_count src⟩
  · rw [Piecewise.C15_parse_error_iff]
    constructor
    · intro hp p hm
      exact ⟨(parse p).1, by rw [OpIR.C07_Parse_ir, ← hp p hm]⟩
    · intro hp p hm
      obtain ⟨sp, hsp⟩ := hp p hm
      rw [(parse_ir_iff p _).1 hsp]
  · intro p hm
    exact ⟨_, _, OpIR.C07_Parse_ir p, (Piecewise.C15_piece_statements src p hm).1⟩

/-- **C15 on translated code** (the library of the lexer interpreters: `Scan` = the loop around the
    interpreted switch; empty heap) -/
theorem C15_on_translated_code (src : Bytes) :
    ∃ ps, LexIR.interpSplit lexLib [.str src] emptyHeap = .ok ([.strs ps], emptyHeap) ∧
      C15.intercalateSemi ps = src ∧
      ps.length = ((scan src).filter (·.kind = .semi)).length + 1 ∧
      (∀ p ∈ ps, ∀ t ∈ scan p, t.kind ≠ .semi) ∧
      scan src = C15.rejoinTokens 0 ps ∧
      ∃ stmts errs, ParseIR(src) = .ok (stmts, errs) ∧
        (errs = [] ↔ ∀ p ∈ ps, ∃ sp, ParseIR(p) = .ok (sp, [])) ∧
        (errs = [] → stmts.length = (ps.filter (fun p => decide (scan p ≠ []))).length) := by
  have hr := LexIR.C15_split_ir lexLib lexLib_scan src emptyHeap
  obtain ⟨_, h2, h3, h4, h5, _⟩ := (C15_split_headlines_ir lexLib lexLib_scan src emptyHeap).2 _ _ hr
  obtain ⟨stmts, errs, p1, p2, _, p4⟩ := C15_parse_pieces_ir lexLib lexLib_scan src _ _ _ hr
  exact ⟨_, hr, h2, h3, h4, h5, stmts, errs, p1, p2, p4⟩

theorem gspan_ofStmt (st : Stmt) : (AstIR.GNode.node (Node.ofStmt st)).span = st.spanOf := by
  cases st <;> rfl

theorem span_ir_expr (e : Expr) (h : e ≠ .nil) :
    AstIR.interpSpan (Node.expr e).size (.node (.expr e)) = pure e.spanOf :=
  AstIR.C10_spanOf_ir _ (.node (.expr e)) (NoPanic.not_nilIface_of_ne (by intro hh; injection hh with hh; exact h hh))
    (Nat.le_refl _)

/-- **C10 on translated code (spans of a successfully parsed program, on the translated `Parse` and `Span()`
    methods).**  If the
    interpretation of `Parse` returns `stmts` without error then
    (a) on EVERY node of every statement (everything `Walk` can hand to a visitor) the interpretation of
        `n.Span()` — dynamic dispatch through the regenerated tables, `nodeSpan`, `nodeSliceSpan`,
        `unionSpans` interpreted — returns normally;
    (b) the `Span()` the interpretation returns for the `i`-th statement is the extent, first token's start
        to last token's end, of the `i`-th non-empty group of tokens of the scan. -/
theorem C10_on_translated_code (src : Bytes) (stmts : List Stmt) (hp : ParseIR(src) = .ok (stmts, [])) :
    (∀ s ∈ stmts, ∀ m ∈ allNodes (Node.ofStmt s),
      AstIR.interpSpan m.size (.node m) = pure (AstIR.GNode.node m).span) ∧
    Forall₂ (fun st g => ∃ hne : g ≠ [],
        AstIR.interpSpan (Node.ofStmt st).size (.node (Node.ofStmt st)) =
          pure ⟨(g.head hne).start, (g.getLast hne).stop⟩)
      stmts (splitStatementsToks (scan src)) := by
  have hp' := (parse_ir_iff src _).1 hp
  have hall := fun s hs m hm => NoPanic.C12_span_ir_no_panic src stmts hp' s hs m hm
  refine ⟨hall, (C10.C10_span_extent src stmts hp').imp_mem ?_⟩
  intro st hst g _ ⟨hne, hsp⟩
  refine ⟨hne, ?_⟩
  rw [hall st hst _ (allNodes_self_mem _), gspan_ofStmt, hsp]

theorem C10_span_extent_ir (src : Bytes) (stmts : List Stmt) (hp : ParseIR(src) = .ok (stmts, [])) :
    (∀ s ∈ stmts, ∀ m ∈ allNodes (Node.ofStmt s),
      AstIR.interpSpan m.size (.node m) = pure (AstIR.GNode.node m).span) ∧
    Forall₂ (fun st g => ∃ hne : g ≠ [],
        AstIR.interpSpan (Node.ofStmt st).size (.node (Node.ofStmt st)) =
          pure ⟨(g.head hne).start, (g.getLast hne).stop⟩)
      stmts (splitStatementsToks (scan src)) :=
  C10_on_translated_code src stmts hp

/-- **C10 (a node's span contains its parts, at any depth, and is its token extent) on the translated
    `Span()` methods.**  For an expression `e` whose `unparse` accounts for the tokens `ts` (true of every
    expression position of a parsed program, `Glue.parsed_segs`, Lemmas/GlueAcc.lean) and every sub-expression `d` of `e` at
    any depth: the interpretations of `e.Span()` and `d.Span()` return normally spans `se`, `sd` such that
    `sd` is the extent of a contiguous segment of `ts`, is valid, and lies within `se`. -/
theorem C10_span_deep_ir (e d : Expr) (us : List UTok) (ts : List Token) (hs : Expr.Sub d e)
    (hu : unparseExpr e = some us) (hok : TokOK ts) (ha : accounts true us ts = true) :
    ∃ se sd, AstIR.interpSpan (Node.expr e).size (.node (.expr e)) = pure se ∧
      AstIR.interpSpan (Node.expr d).size (.node (.expr d)) = pure sd ∧
      (∃ p seg q, ts = p ++ seg ++ q ∧ ∃ hne : seg ≠ [], sd = ⟨(seg.head hne).start, (seg.getLast hne).stop⟩) ∧
      sd.isValid = true ∧ C10.Span.within sd se := by
  obtain ⟨p, seg, q, h1, ⟨hne, h2⟩, h3, h4⟩ := C10.C10_span_extent_deep e d us ts hs hu hok ha
  have hd : d ≠ .nil := by
    intro hn; subst hn
    simp [Expr.spanOf, Span.isValid, Span.null] at h3
  have he : e ≠ .nil := by
    intro hn; subst hn
    simp [unparseExpr] at hu
  exact ⟨e.spanOf, d.spanOf, span_ir_expr e he, span_ir_expr d hd, ⟨p, seg, q, h1, hne, h2⟩, h3, h4⟩

/-- **C10 (every expression's span is its source text) on the translated `Parse` and `Span()`.**  If the
    interpretation of `Parse` returns `stmts` without error, then for every expression position `e` of the
    program (operator arguments, column expressions, sort terms, join conditions at any join depth, `let`
    values): the interpretation of `e.Span()` returns normally a span that is the extent of a non-empty run of
    tokens of the scan, a non-empty range inside the source, and slicing the source at it — what the compiler
    does for an implicit column name — gives exactly the bytes from the first token's start to the last
    token's end (`Glue.IsSourceText`). -/
theorem C10_expr_span_is_source_text_ir (src : Bytes) (stmts : List Stmt) (hp : ParseIR(src) = .ok (stmts, [])) :
    ∀ s ∈ stmts,
      ParsedOK.StmtAll
        (fun e => Glue.IsSourceText src e ∧ AstIR.interpSpan (Node.expr e).size (.node (.expr e)) = pure e.spanOf)
        (fun l => ∀ e ∈ l.toList,
          Glue.IsSourceText src e ∧ AstIR.interpSpan (Node.expr e).size (.node (.expr e)) = pure e.spanOf) s := by
  intro s hs
  have hne : ∀ e, Glue.IsSourceText src e → e ≠ .nil := by
    rintro e ⟨us, _, _, hu, _⟩ hn
    subst hn
    simp [unparseExpr] at hu
  refine ParsedOK.StmtAll.imp ?_ ?_ s (Glue.C10_expr_span_is_source_text src stmts ((parse_ir_iff src _).1 hp) s hs)
  · exact fun e he => ⟨he, span_ir_expr e (hne e he)⟩
  · exact fun l hl e hm => ⟨hl e hm, span_ir_expr e (hne e (hl e hm))⟩

/-- **C10 (positions of error messages) on the translated `Parse` and `linecol`.**  For every source and every
    error leaf with a position that the interpretation of `Parse` reports: the span lies inside the source,
    and the interpretation of the regenerated `linecol` on its start returns normally a line that is
    1 + the number of newline bytes before it (between 1 and the number of lines) and a column ≥ 1. -/
theorem C10_error_positions_ir (lib : LexIR.Lib) (src : Bytes) (h : LexIR.Heap) (stmts : List Stmt) (errs : Errs)
    (hp : ParseIR(src) = .ok (stmts, errs)) :
    ∀ e ∈ errs, ∀ sp, e.span = some sp →
      0 ≤ sp.start ∧ sp.start ≤ sp.stop ∧ sp.stop ≤ src.length ∧
      ∃ line col, LexIR.interpLinecolParser lib [.str src, .int sp.start.toNat] h = .ok ([.int line, .int col], h) ∧
        line = 1 + (src.take sp.start.toNat).count 10 ∧ line ≤ 1 + src.count 10 ∧ 1 ≤ col := by
  have hp' := (parse_ir_iff src _).1 hp
  intro e he sp hsp
  have he' : e ∈ (parse src).2 := by rw [hp']; exact he
  have hin := C10.C10_error_spans_inside src e he' sp hsp
  refine ⟨hin.1, hin.2.1, hin.2.2, _, _, (NoPanic.C12_linecol_ir_no_panic lib src h).1 e he' sp hsp,
    C10.C10_linecol_line src _, (C10.C10_linecol_line_bounds src _).2, C10.C10_linecol_col_pos src _⟩

/-- **C11 on translated code (Walk over a successfully parsed statement, on the translated `Parse` and `Walk`).**
    If the
    interpretation of `Parse` returns `stmts` without error then, for every statement `s`, the
    interpretation of the regenerated loop of `Walk` (pop, type switch, visitor call, pushes from the
    regenerated per-type tables, default `panic`):
    (a) with a visitor that always answers true, records exactly one visit per node of the tree, in
        pre-order (parents before their children, children in order);
    (b) with any visitor `decide` (answer to the `i`-th call), records exactly the recursive pre-order with
        pruning `preNode` — a false answer skips exactly that node's descendants —, which is a
        sub-sequence of the full pre-order; never a nil node, never a panic;
    (c) with a visitor that answers false at the root, records the root only;
    (d) with ANY visitor (answers may depend on the node too) returns normally without a panic event. -/
theorem C11_on_translated_code (src : Bytes) (stmts : List Stmt) (hp : ParseIR(src) = .ok (stmts, []))
    (s : Stmt) (hs : s ∈ stmts) :
    (AstIR.interpWalk (fun _ _ => true) (Node.ofStmt s)).trace = some ((allNodes (Node.ofStmt s)).map eventOf) ∧
    (∀ decide : Nat → Bool, ∃ evs,
      (AstIR.interpWalk (fun i _ => decide i) (Node.ofStmt s)).trace = some evs ∧
      evs = (preNode decide 0 (Node.ofStmt s)).1 ∧
      evs.Sublist ((allNodes (Node.ofStmt s)).map eventOf) ∧
      WalkEvent.panic ∉ evs ∧ WalkEvent.visitNil ∉ evs) ∧
    (∀ decide : Nat → Bool, decide 0 = false →
      (AstIR.interpWalk (fun i _ => decide i) (Node.ofStmt s)).trace = some [eventOf (Node.ofStmt s)]) ∧
    (∀ v : Nat → Node → Bool, ∃ r w, AstIR.interpWalk v (Node.ofStmt s) = .ok r w ∧ WalkEvent.panic ∉ w.events) := by
  have hp' := (parse_ir_iff src _).1 hp
  have hc : Complete (Node.ofStmt s) := C11.C11_parsed_complete _ _ stmts hp' s hs
  refine ⟨?_, fun decide => ?_, fun decide hd => ?_, fun v => ?_⟩
  · have := AstIR.C11_walk_ir_model (fun _ => true) (Node.ofStmt s)
    rw [C11.C11_visits_all _ hc.noPanic] at this
    exact this
  · refine ⟨_, AstIR.C11_walk_ir_model decide _, C11.walk_eq_preNode decide _ hc.noPanic,
      C11.C11_visits_sublist decide _ hc.noPanic, C11.C11_no_panic decide _ hc.noPanic, C11.C11_no_nil decide _ hc⟩
  · rw [AstIR.C11_walk_ir_model, C11.C11_prune decide _ hc.noPanic hd]
  · obtain ⟨r, w, h1, _, h3⟩ := NoPanic.C12_walk_ir_no_panic src stmts hp' s hs v
    exact ⟨r, w, h1, h3⟩

theorem C11_walk_headlines_ir (src : Bytes) (stmts : List Stmt) (hp : ParseIR(src) = .ok (stmts, []))
    (s : Stmt) (hs : s ∈ stmts) :
    (AstIR.interpWalk (fun _ _ => true) (Node.ofStmt s)).trace = some ((allNodes (Node.ofStmt s)).map eventOf) ∧
    (∀ decide : Nat → Bool, ∃ evs,
      (AstIR.interpWalk (fun i _ => decide i) (Node.ofStmt s)).trace = some evs ∧
      evs = (preNode decide 0 (Node.ofStmt s)).1 ∧
      evs.Sublist ((allNodes (Node.ofStmt s)).map eventOf) ∧
      WalkEvent.panic ∉ evs ∧ WalkEvent.visitNil ∉ evs) ∧
    (∀ decide : Nat → Bool, decide 0 = false →
      (AstIR.interpWalk (fun i _ => decide i) (Node.ofStmt s)).trace = some [eventOf (Node.ofStmt s)]) ∧
    (∀ v : Nat → Node → Bool, ∃ r w, AstIR.interpWalk v (Node.ofStmt s) = .ok r w ∧ WalkEvent.panic ∉ w.events) :=
  C11_on_translated_code src stmts hp s hs

/-- non-vacuity of C10 / C11: `A | join (B) on $left.x == $right.y` — the interpretation of `Parse` returns one
    statement without error; its walk has 14 events -/
theorem C11_on_translated_code_nonvacuous :
    ParseIR(Glue.joinSrc) = .ok ([Glue.joinStmt], []) ∧
    ∃ r w, AstIR.interpWalk (fun _ _ => true) (Node.ofStmt Glue.joinStmt) = .ok r w ∧ w.events.length = 14 :=
  ⟨NoPanic.C12_parse_ir_nonvacuous, NoPanic.C12_walk_ir_nonvacuous.2.1⟩

end Pql.IRHead
