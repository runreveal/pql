/-
Property C05, lexical half ("LexRender" for whole statements) — the bytes `Compile` emits for a
program are read by the SQL lexer as exactly the tokens the chunks stand for: no content of a
name, string, number, render value or function name and no juxtaposition of two chunks opens a
comment, leaves a token unterminated, merges two tokens or swallows the following text; and the
one `;` symbol token is the statement terminator at the very end.

Route (Lemmas/LexStmt*.lean): the expression-level result (Props/C01LexRender.lean) is lifted through
`Subquery.write`, the CTE list and the final assembly by one invariant, adjacency before every separator, which
`let` statements establish for the scope (`ScopeAdj`) and `splitQueries` for every subquery (`SubOK`: its source is a
quoted name or the join source built in `splitOps`); and no fixed text the writers emit contains the byte `;`.

The side condition `Tabular.lexOK` / `stmtsLexOK` (Lemmas/LexStmtOK.lean, LexStmtSplit.lean)
only asks `Expr.lexOK` of the expressions in the operators (and of `let` values).
-/
import PqlModel.Lemmas.LexStmtSemi
namespace Pql.C05
open Pql Sql LexRender

/-- the chunks of every subquery `splitQueries` produces (its source is `[.qid n]` or the join
    source built in `splitOps`) are adjacent before every text that is empty or begins with `)`
    or `;` -/
theorem C05_subquery_adj (src : Bytes) (t : Tabular) (subs : List Subquery)
    (hok : Tabular.lexOK t = true) (hs : splitQueries src [] [] t = .ok subs)
    (sub : Subquery) (hsub : sub ∈ subs) (mode : Mode) (cs : List Chunk)
    (h : sub.write ⟨src, [], mode⟩ = .ok cs)
    (rest : Bytes) (hrest : rest = [] ∨ rest.head? = some 41 ∨ rest.head? = some 59) :
    AdjC rest cs = true := by
  have hS := splitQueries_subOK src [] scopeAdj_nil t [] subs hok (by simp) hs sub hsub
  refine write_good ⟨src, [], mode⟩ scopeAdj_nil hS h rest ?_
  rcases hrest with rfl | h | h
  · rfl
  · rw [h]; decide
  · rw [h]; decide

/-- … hence are read as their chunk tokens, lexing continuing with exactly the following text -/
theorem C05_subquery_lexRender_before (src : Bytes) (t : Tabular) (subs : List Subquery)
    (hok : Tabular.lexOK t = true) (hs : splitQueries src [] [] t = .ok subs)
    (sub : Subquery) (hsub : sub ∈ subs) (mode : Mode) (cs : List Chunk)
    (h : sub.write ⟨src, [], mode⟩ = .ok cs)
    (rest : Bytes) (hrest : rest = [] ∨ rest.head? = some 41 ∨ rest.head? = some 59) (fuel : Nat) :
    (lexAux .standard (fuel + steps cs) (renderChunks cs ++ rest)).map (·.filter (· != .comment)) =
      (lexAux .standard fuel rest).map (fun ts => toksOf cs ++ ts.filter (· != .comment)) :=
  lexRender_of_adj cs rest fuel (C05_subquery_adj src t subs hok hs sub hsub mode cs h rest hrest)

theorem stmtsLexOK_single (t : Tabular) : stmtsLexOK [.tabular t] = t.lexOK := rfl

theorem C05_statement_adj (src : Bytes) (t : Tabular) (cs : List Chunk)
    (hok : Tabular.lexOK t = true) (hc : compileChunks src [] [.tabular t] = .ok cs) : Adj cs = true :=
  program_adj src [.tabular t] cs hok hc

/-- **C05 (LexRender, whole statement).** For a program that is a single tabular statement,
    without parameters, the bytes `Compile` emits lex to exactly the token list `toksOf cs`. -/
theorem C05_lexRender_statement (src : Bytes) (t : Tabular) (cs : List Chunk)
    (hok : Tabular.lexOK t = true)
    (hc : compileChunks src [] [.tabular t] = .ok cs) :
    Sql.lex .standard (renderChunks cs) = some (toksOf cs) :=
  lexRender_of_adj_top cs (C05_statement_adj src t cs hok hc)

/-- **C05 (LexRender, whole program).** The same with `let` statements before
    (and after) the query: the value of every `let` before the query must be `Expr.lexOK`. -/
theorem C05_lexRender_program (src : Bytes) (stmts : List Stmt) (cs : List Chunk)
    (hok : stmtsLexOK stmts = true)
    (hc : compileChunks src [] stmts = .ok cs) :
    Sql.lex .standard (renderChunks cs) = some (toksOf cs) :=
  lexRender_of_adj_top cs (program_adj src stmts cs hok hc)

/-- the same from any initial scope satisfying `ScopeAdj` (what parameters would have to provide:
    every bound chunk list adjacent before every separator and not starting with `-`) -/
theorem C05_lexRender_from_scope (src : Bytes) (scope0 : List (Bytes × List Chunk)) (hs0 : ScopeAdj scope0)
    (stmts : List Stmt) (cs : List Chunk) (hok : stmtsLexOK stmts = true)
    (hc : (compileStmts src stmts scope0 none >>= fun r => C14.finishChunks src r.1 r.2) = .ok cs) :
    Sql.lex .standard (renderChunks cs) = some (toksOf cs) :=
  lexRender_of_adj_top cs (program_adj_from src scope0 hs0 stmts cs hok hc)

theorem scopeAdj_literals (scope : List (Bytes × List Chunk))
    (h : ∀ p ∈ scope, (∃ v, p.2 = [.qstr v]) ∨ (∃ v, p.2 = [.num v] ∧ numOK v = true)) : ScopeAdj scope := by
  intro p hp
  rcases h p hp with ⟨v, hv⟩ | ⟨v, hv, hn⟩
  · rw [hv]; exact ⟨good_qstr v, head_qstr v⟩
  · rw [hv]; exact ⟨good_num hn, head_num hn⟩

/-- at the level of `compile`: the SQL text of a successful compilation (no parameters) lexes to
    the tokens of its chunks -/
theorem C05_lexRender_compile (src sql : Bytes) (hok : stmtsLexOK (parse src).1 = true)
    (h : compile [] src = .ok sql) :
    ∃ cs, compileChunks src [] (parse src).1 = .ok cs ∧ sql = renderChunks cs ∧
      Sql.lex .standard sql = some (toksOf cs) := by
  obtain ⟨_, cs, hcs, rfl⟩ := compile_ok [] src sql h
  exact ⟨cs, hcs, rfl, C05_lexRender_program src _ cs hok hcs⟩

/-- no comment swallows anything and no token is unterminated: the output lexes -/
theorem C05_no_comment_or_unterminated (src : Bytes) (t : Tabular) (cs : List Chunk)
    (hok : Tabular.lexOK t = true) (hc : compileChunks src [] [.tabular t] = .ok cs) :
    (Sql.lex .standard (renderChunks cs)).isSome = true := by
  rw [C05_lexRender_statement src t cs hok hc]; rfl

theorem txtToks_semicolon : txtToks ";" = [STok.sym ";"] := by decide

/-- whole programs: the token list ends with the symbol `;` and contains no other `;` symbol -/
theorem C05_single_semicolon_program (src : Bytes) (stmts : List Stmt) (cs : List Chunk)
    (hok : stmtsLexOK stmts = true) (hc : compileChunks src [] stmts = .ok cs) :
    ∃ pre, toksOf cs = pre ++ [STok.sym ";"] ∧ STok.sym ";" ∉ pre := by
  obtain ⟨init, rfl, hsf⟩ := program_sf src stmts cs hc
  have hadj := program_adj src stmts _ hok hc
  refine ⟨toksOf init, ?_, toksOf_no_semi (AdjC_split hadj).1 hsf⟩
  rw [RT.toksOf_append]
  simp [toksOf, chunkToks, txtToks_semicolon]

/-- **C05 (one statement).** The token list `toksOf cs` ends with the symbol `;` and contains no
    other `;` symbol token: a `;` inside a name or a string never separates statements. -/
theorem C05_single_semicolon (src : Bytes) (t : Tabular) (cs : List Chunk)
    (hok : Tabular.lexOK t = true) (hc : compileChunks src [] [.tabular t] = .ok cs) :
    ∃ pre, toksOf cs = pre ++ [STok.sym ";"] ∧ STok.sym ";" ∉ pre :=
  C05_single_semicolon_program src [.tabular t] cs hok hc

/-- what the lexer of a consumer sees: exactly one `;` symbol, last -/
theorem C05_single_semicolon_lexed (src : Bytes) (t : Tabular) (cs : List Chunk)
    (hok : Tabular.lexOK t = true) (hc : compileChunks src [] [.tabular t] = .ok cs) :
    ∃ pre, Sql.lex .standard (renderChunks cs) = some (pre ++ [STok.sym ";"]) ∧ STok.sym ";" ∉ pre := by
  obtain ⟨pre, h1, h2⟩ := C05_single_semicolon src t cs hok hc
  exact ⟨pre, by rw [C05_lexRender_statement src t cs hok hc, h1], h2⟩

/-! ### non-vacuity

`let n = -3; T | where a == 'x;--' and b > n | join kind=leftouter (U | take 5) on k
 | summarize c = count() by a | sort by c desc | project c, d = a
 | render barchart with (title='t;')` as a tree (spans irrelevant). -/

def exId (s : String) : Ident := ⟨Bytes.ofString s, .zero, false⟩
def exCol (s : String) : Expr := .qident [exId s]
def exQuery : Tabular :=
  .mk (some (exId "T"))
    (.cons (.where_ .zero .zero (.binary (.binary (exCol "a") .zero .eq (.lit .zero .string (Bytes.ofString "x;--")))
        .zero .and_ (.binary (exCol "b") .zero .gt (exCol "n"))))
    (.cons (.join .zero .zero .zero .zero (some (exId "leftouter")) .zero
        (.mk (some (exId "U")) (.cons (.take .zero .zero (.lit .zero .number [53])) .nil)) .zero .zero
        (.cons (exCol "k") .nil))
    (.cons (.summarize .zero .zero [⟨some (exId "c"), .zero, .call (exId "count") .zero .nil .zero⟩] .zero
        [⟨some (exId "a"), .zero, exCol "a"⟩])
    (.cons (.sort .zero .zero [⟨exCol "c", false, .zero, false, .zero⟩])
    (.cons (.project .zero .zero [⟨some (exId "c"), .zero, .nil⟩, ⟨some (exId "d"), .zero, exCol "a"⟩])
    (.cons (.render .zero .zero (some (exId "barchart")) .zero .zero
        [⟨some (exId "title"), .zero, .lit .zero .string (Bytes.ofString "t;")⟩] .zero) .nil))))))
def exProgram : List Stmt :=
  [.let_ .zero (some (exId "n")) .zero (.unary .zero .minus (.lit .zero .number [51])), .tabular exQuery]

/-- the hypotheses of `C05_lexRender_statement` / `C05_single_semicolon` hold of the example … -/
example : Tabular.lexOK exQuery = true ∧ (compileChunks [] [] [.tabular exQuery]).toBool = true := by decide +kernel
/-- … and those of `C05_lexRender_program` (the `let` value `-3` is substituted as `(-3)`) -/
example : stmtsLexOK exProgram = true ∧ (compileChunks [] [] exProgram).toBool = true := by decide +kernel

set_option maxRecDepth 100000 in
/-- the example's output contains three `;` bytes (two of them inside strings, one of these
    followed by `--`) but one `;` token -/
example : (match compileChunks [] [] exProgram with
    | .ok cs => ((renderChunks cs).count 59, (toksOf cs).count (.sym ";"), (toksOf cs).contains (.str (Bytes.ofString "x;--")))
    | .error _ => (0, 0, false)) = (3, 1, true) := by decide +kernel

/-- `C05_subquery_adj` on the example: all seven subqueries, before `)` -/
example : (match splitQueries [] [] [] exQuery with
    | .ok subs => subs.all fun sub =>
        match sub.write ⟨[], [], .default⟩ with
        | .ok cs => AdjC [41] cs
        | .error _ => false
    | .error _ => false) = true := by decide +kernel

/-- a scope of literals for `C05_lexRender_from_scope` -/
example : ScopeAdj [(Bytes.ofString "p", [.qstr (Bytes.ofString "it's; --")]), (Bytes.ofString "q", [.num [52, 50]])] :=
  scopeAdj_literals _ (by
    intro p hp
    simp only [List.mem_cons, List.not_mem_nil, or_false] at hp
    rcases hp with rfl | rfl
    · exact Or.inl ⟨_, rfl⟩
    · exact Or.inr ⟨_, rfl, by decide⟩)

/-! ### the side condition is needed for arbitrary trees

`Expr.lexOK` asks number literals to be spelled as numbers.  A tree (not one the parser builds)
whose row count "number" is the text `5 --` compiles to `SELECT * FROM "T" LIMIT 5 --;`: the
terminator is swallowed by the comment. -/

def cexQuery : Tabular :=
  .mk (some (exId "T")) (.cons (.take .zero .zero (.lit .zero .number (Bytes.ofString "5 --"))) .nil)

theorem C05_lexOK_needed :
    Tabular.lexOK cexQuery = false ∧
    ∃ cs, compileChunks [] [] [.tabular cexQuery] = .ok cs ∧
      Sql.lex .standard (renderChunks cs) ≠ some (toksOf cs) ∧
      Sql.lex .standard (renderChunks cs) = some [.word (Bytes.ofString "SELECT"), .sym "*",
        .word (Bytes.ofString "FROM"), .qid [84], .word (Bytes.ofString "LIMIT"), .num [53]] := by
  refine ⟨by decide, _, rfl, by decide, by decide⟩

end Pql.C05
