/-
Property C10, failed parses — "every span that is reported is either marked invalid or lies
inside the source".

For the error leaves of `parse src` (for every byte string): a leaf either carries no
position (`span = none`: plain `fmt.Errorf` errors and the out-of-fuel leaf) or its span is the
span of a token of `scan src` or the EOF index `src.length` (`C10_error_spans_at_tokens`); since
the tokens lie inside the source (`mem_scan_bounds`), every reported span satisfies
`0 ≤ start ≤ stop ≤ len(src)` (`C10_error_spans_inside`).

For the partial trees `(parse src).1` (returned next to the errors): every `Span` field of every
node (`Stmt.SpansIn`, defined in Lemmas/SpanFree.lean by listing the span fields of each
node type) is `Span.null`, `Span.zero`, the span of a token of `scan src`, or the extent of two
tokens in source order (`C10_partial_tree_spans_origin`); hence it is the invalid marker or lies
inside the source (`C10_partial_tree_spans_inside`).

Both follow from `parseTokens_spans` (PqlModel/Lemmas/SpanFree.lean): the parser commutes with
every map on positions, in particular with one that is the identity exactly on the positions
claimed.
-/
import PqlModel.Lemmas.AccountedScan
import PqlModel.Lemmas.SpanFree
namespace Pql.C10
open Pql

def Inside (n : Nat) (sp : Span) : Prop := 0 ≤ sp.start ∧ sp.start ≤ sp.stop ∧ sp.stop ≤ (n : Int)

def AtToken (n : Nat) (ts : List Token) (sp : Span) : Prop :=
  sp = Span.index n ∨ ∃ t ∈ ts, sp = t.span

/-- the tokens of `scan src` lie inside the source -/
theorem scan_tokens_inside (src : Bytes) : ToksIn (Inside src.length) (scan src) := by
  intro t ht
  have := mem_scan_bounds src t ht
  simp only [Inside, Token.span]
  omega

/-- **C10 (error positions are token positions).** Every error leaf of `parse src` that carries
    a position carries the span of a token of `scan src`, or the EOF index `len(src)`. -/
theorem C10_error_spans_at_tokens (src : Bytes) :
    ∀ e ∈ (parse src).2, ∀ sp, e.span = some sp → AtToken src.length (scan src) sp := by
  unfold parse
  exact parseTokens_in (P := AtToken src.length (scan src)) src.length (scan src)
    (Or.inl rfl) (fun t ht => Or.inr ⟨t, ht, rfl⟩)

/-- **C10 (error spans lie inside the source).** Every span an error leaf of `parse src` reports
    satisfies `0 ≤ start ≤ stop ≤ len(src)`; the other leaves (`span = none`) report no position. -/
theorem C10_error_spans_inside :
    ∀ src : Bytes, ∀ e ∈ (parse src).2, ∀ sp, e.span = some sp →
      0 ≤ sp.start ∧ sp.start ≤ sp.stop ∧ sp.stop ≤ src.length := by
  intro src
  unfold parse
  exact parseTokens_in (P := Inside src.length) src.length (scan src)
    (by simp [Inside, Span.index]) (scan_tokens_inside src)

/-- a reported error span is valid in the sense of `Span.IsValid` -/
theorem C10_error_spans_valid (src : Bytes) :
    ∀ e ∈ (parse src).2, ∀ sp, e.span = some sp → sp.isValid = true := by
  intro e he sp hsp
  have := C10_error_spans_inside src e he sp hsp
  simp only [Span.isValid, Bool.and_eq_true, decide_eq_true_eq]
  omega

/-- the out-of-fuel leaf and position-less errors report no span -/
theorem C10_fuel_leaf_no_span : ∀ e ∈ errFuel ++ errNoPos, e.span = none := by
  intro e he
  simp only [errFuel, errNoPos, List.cons_append, List.nil_append, List.mem_cons,
    List.not_mem_nil, or_false] at he
  rcases he with rfl | rfl <;> rfl

/-- a span field that is the invalid marker `Span.null` or lies inside a source of length `n` -/
def NullOrInside (n : Nat) (sp : Span) : Prop := sp = Span.null ∨ Inside n sp

/-- where a span field of a tree comes from: never assigned (`null`, or Go's zero value), the
    span of a token, or the extent from one token to a later one -/
def TreeSpanOrigin (ts : List Token) (sp : Span) : Prop :=
  sp = Span.null ∨ sp = Span.zero ∨ (∃ t ∈ ts, sp = t.span) ∨
    (∃ t ∈ ts, ∃ t2 ∈ ts, t.stop ≤ t2.start ∧ sp = ⟨t.start, t2.stop⟩)

theorem scan_toksQ_inside (src : Bytes) : ToksQ (NullOrInside src.length) (scan src) := by
  refine ⟨fun t ht => Or.inr (scan_tokens_inside src t ht), ?_⟩
  refine (scan_tokOK src).2.imp_of_mem ?_
  intro a b ha hb hab
  have h1 := mem_scan_bounds src a ha
  have h2 := mem_scan_bounds src b hb
  refine Or.inr ?_
  simp only [Inside]
  omega

theorem scan_toksQ_origin (src : Bytes) : ToksQ (TreeSpanOrigin (scan src)) (scan src) := by
  refine ⟨fun t ht => Or.inr (Or.inr (Or.inl ⟨t, ht, rfl⟩)), ?_⟩
  refine (scan_tokOK src).2.imp_of_mem ?_
  intro a b ha hb hab
  exact Or.inr (Or.inr (Or.inr ⟨a, ha, b, hb, hab, rfl⟩))

/-- **C10 (origin of the spans of partial trees).** Every span field of every statement that
    `parse src` returns — also next to errors — is `Span.null`, `Span.zero`, the span of a token
    of `scan src`, or the extent `⟨t.start, t2.stop⟩` of two tokens `t` before `t2`. -/
theorem C10_partial_tree_spans_origin (src : Bytes) :
    ∀ st ∈ (parse src).1, st.SpansIn (TreeSpanOrigin (scan src)) := by
  unfold parse
  exact parseTokens_tree (Q := TreeSpanOrigin (scan src)) src.length (scan src)
    (Or.inl rfl) (Or.inr (Or.inl rfl)) (scan_toksQ_origin src)

/-- **C10 (spans of partial trees are marked invalid or lie inside the source).** Every span
    field of every statement that `parse src` returns is `Span.null` or satisfies
    `0 ≤ start ≤ stop ≤ len(src)` (`Span.zero` is the latter). -/
theorem C10_partial_tree_spans_inside (src : Bytes) :
    ∀ st ∈ (parse src).1, st.SpansIn (NullOrInside src.length) := by
  unfold parse
  exact parseTokens_tree (Q := NullOrInside src.length) src.length (scan src)
    (Or.inl rfl) (Or.inr (by simp [Inside, Span.zero])) (scan_toksQ_inside src)

-- the predicate is not vacuous: a tree with a span field outside the source is rejected
example : ¬ (Stmt.let_ ⟨0, 3⟩ none .null (.lit ⟨5, 12⟩ .number [])).SpansIn (NullOrInside 10) := by
  simp [Stmt.SpansIn, Expr.SpansIn, NullOrInside, Inside, Span.null]

-- the error of `t | where a[1` sits at the EOF index 13
#guard ((parse (Bytes.ofString "t | where a[1")).2.map (·.span)) = [some ⟨13, 13⟩]

end Pql.C10
