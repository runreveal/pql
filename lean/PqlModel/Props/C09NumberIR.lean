/-
Property C09 (and C04: the literal test of `take` / `top`), tie by translation: the number scanner
of parser/lex.go and the numeric accessors of parser/ast.go.

`(*scanner).numberOrDot`, `(*scanner).numberExponent`, `normalizeNumberValue`, the cursor
`next` / `prev` / `setPos`, the span helpers `newSpan`, `indexSpan`, `Span.IsValid`, `spanString`
(`Facts.lexNumberIR`) and `(*BasicLit).IsFloat`, `IsInteger`, `Uint64` (`Facts.litAccessIR`) are
regenerated from the Go source on every run as IRs (translator `harness/extract_lexir.go`,
interpreter `Model/LexIR.lean`: Go's block scoping, the `pos` / `last` cursor by RUNES, the deferred
closure of `numberExponent`, `for { }` loops with fuel, panics explicit).  This file proves that the
hand-written model IS the interpretation of the regenerated IR, every function interpreted in the
environment of the primitives and of the translated functions before it (`envNumber`, `numFn`):

  `C09_numberOrDot_ir` — for every byte string `s` that is empty or begins with a digit or '.', at
  every offset (after any prefix `pre`, valid UTF-8 or not), with enough fuel for the loops
  (`len(s) < fuel`): the regenerated `numberOrDot` ends without a panic, returns the token
  (kind, span, value) of the model's `scanNumberOrDot s` — the value of an error token, its message,
  is the only thing the model does not keep — and leaves the cursor right after the token;
  `C09_numberOrDot_ir_needs_start` — on a source that begins with another byte the Go function
  returns an error token where the model's function says "number": the hypothesis is needed (`Scan`
  calls the function only on a digit or '.', `C09_dispatch_interp`);
  `C09_numberExponent_ir` (= `exponentLen`, cursor restored by the `defer` when there is none),
  `C09_normalizeNumberValue_ir` (= `normalizeNumber`), `C09_next_ir`, `C09_prev_ir`, `C09_setPos_ir`,
  `C09_spanString_ir`;
  `C09_IsFloat_ir`, `C09_IsInteger_ir` (= the model's `litIsFloat`, `litIsInteger`), `C09_Uint64_ir`
  (= `litUint64`, defined here from `litIsFloat` and the reference `C09.parseUint64`), a nil
  receiver panics (`C09_accessors_nil_panic`).  `(*BasicLit).Float64` is NOT translated
  (`strconv.ParseFloat`); `Uint64` reaches it only for float literals, through the parameter
  `Lib.f64ToU64`.

The byte-wise model against the rune-wise Go code: `next` decodes a rune; every test of the number
scanner is on an ASCII value, a byte ≥ 0x80 starts a rune ≥ 0x80 (`Dispatch.decodeRune_rune_ge`),
which fails every test, and is then un-read by `prev` (`next_any`).
-/
import PqlModel.Lemmas.LexIRNumber
import PqlModel.Props.C09b
namespace Pql.LexIR
open Pql
set_option linter.unusedSimpArgs false
set_option linter.unusedVariables false

/-! ### the environments

Every environment here is `numEnv` of the first `n` keys of the table; `numEnv_key` says what a key means in
it, whatever `n`, so a callee's specification is stated once, about that meaning. -/

def keysSpan : List String := ["newSpan", "indexSpan", "Span.IsValid", "spanString"]
def keysCursor : List String :=
  keysSpan ++ ["scanner.next", "scanner.prev", "scanner.setPos", "normalizeNumberValue"]

/-- the functions of `Facts.lexNumberIR`, in the order of the table -/
def keysNumber : List String := keysCursor ++ ["scanner.numberExponent", "scanner.numberOrDot"]

/-- the translated functions `keys` of `Facts.lexNumberIR` over the primitives -/
def numEnv (lib : Lib) (fuel : Nat) (keys : List String) : Env := layer Facts.lexNumberIR fuel keys (prims lib)

theorem envCursor_eq (lib : Lib) (fuel : Nat) : envCursor lib fuel = numEnv lib fuel keysCursor := by
  simp only [envCursor, envSpan, numEnv, layer]
  rfl

-- the nested layers are flattened first: compared as they stand, the two sides share no prefix of keys
theorem envNumber_eq' (lib : Lib) (fuel : Nat) : envNumber lib fuel = numEnv lib fuel (keysNumber.take 10) := by
  simp only [envNumber, envExp, envCursor, envSpan, numEnv, layer]
  rfl

theorem keysNumber_nodup : keysNumber.Nodup := by simp [keysNumber, keysCursor, keysSpan]

theorem numEnv_key (lib : Lib) (fuel : Nat) {k : String} (i n : Nat) (hk : keysNumber[i]? = some k) (hi : i < n) :
    numEnv lib fuel (keysNumber.take n) k = some (fnOf Facts.lexNumberIR (numEnv lib fuel (keysNumber.take i)) fuel k) :=
  layer_take _ fuel keysNumber _ i n keysNumber_nodup hk hi

theorem numEnv_prim (lib : Lib) (fuel n : Nat) (p : String) (h : p ∉ keysNumber) :
    HasPrim lib (numEnv lib fuel (keysNumber.take n)) p :=
  layer_other _ _ _ _ _ fun hm => h (List.mem_of_mem_take hm)

theorem spanString_ok (lib : Lib) (fuel : Nat) :
    SpecSpanString (fnOf Facts.lexNumberIR (numEnv lib fuel (keysNumber.take 3)) fuel "spanString") := by
  rw [fnOf_eq spanString_ir]
  refine spanString_spec _ fuel _ (numEnv_key lib fuel 2 3 rfl (by omega)) ?_
  rw [fnOf_eq spanIsValid_ir]
  exact spanIsValid_spec _ _

theorem normalize_ok (lib : Lib) (fuel : Nat) :
    SpecNormalize (fnOf Facts.lexNumberIR (numEnv lib fuel (keysNumber.take 7)) fuel "normalizeNumberValue") := by
  rw [fnOf_eq normalize_ir]
  exact normalize_spec lib _ fuel (numEnv_prim lib fuel 7 _ (by simp [keysNumber, keysCursor, keysSpan]))

/-- the cursor functions and the rune classes, in every environment that has the keys of `keysCursor` -/
theorem numEnv_cursor (lib : Lib) (fuel n : Nat) (hn : 8 ≤ n) : CursorEnv lib (numEnv lib fuel (keysNumber.take n)) where
  next := ⟨_, numEnv_key lib fuel 4 n rfl (by omega), by
    rw [fnOf_eq next_ir]; exact next_spec lib _ fuel (numEnv_prim lib fuel 4 _ (by simp [keysNumber, keysCursor, keysSpan]))⟩
  prev := ⟨_, numEnv_key lib fuel 5 n rfl (by omega), by rw [fnOf_eq prev_ir]; exact prev_spec _ _⟩
  setPos := ⟨_, numEnv_key lib fuel 6 n rfl (by omega), by rw [fnOf_eq setPos_ir]; exact setPos_spec _ _⟩
  isDigit := numEnv_prim lib fuel n _ (by simp [keysNumber, keysCursor, keysSpan])
  isHexDigit := numEnv_prim lib fuel n _ (by simp [keysNumber, keysCursor, keysSpan])

theorem exponent_ok (lib : Lib) (fuel : Nat) :
    SpecExponent fuel (fnOf Facts.lexNumberIR (numEnv lib fuel (keysNumber.take 8)) fuel "scanner.numberExponent") := by
  rw [fnOf_eq numberExponent_ir]
  exact numberExponent_spec lib _ fuel (numEnv_cursor lib fuel 8 (Nat.le_refl 8))

/-- the environment in which `numberOrDot` is interpreted has everything the function calls -/
theorem numberEnv_exp (lib : Lib) (fuel : Nat) : NumberEnv lib (numEnv lib fuel (keysNumber.take 9)) fuel where
  cursor := numEnv_cursor lib fuel 9 (by omega)
  newSpan := ⟨_, numEnv_key lib fuel 0 9 rfl (by omega), by rw [fnOf_eq newSpan_ir]; exact newSpan_spec _ _⟩
  indexSpan := ⟨_, numEnv_key lib fuel 1 9 rfl (by omega), by rw [fnOf_eq indexSpan_ir]; exact indexSpan_spec _ _⟩
  spanString := ⟨_, numEnv_key lib fuel 3 9 rfl (by omega), spanString_ok lib fuel⟩
  normalize := ⟨_, numEnv_key lib fuel 7 9 rfl (by omega), normalize_ok lib fuel⟩
  exponent := ⟨_, numEnv_key lib fuel 8 9 rfl (by omega), exponent_ok lib fuel⟩
  errorToken := numEnv_prim lib fuel 9 _ (by simp [keysNumber, keysCursor, keysSpan])
  parseUint := numEnv_prim lib fuel 9 _ (by simp [keysNumber, keysCursor, keysSpan])
  formatUint := numEnv_prim lib fuel 9 _ (by simp [keysNumber, keysCursor, keysSpan])

/-- a translated function of `Facts.lexNumberIR` in the environment of the primitives and of the
    translated functions before it -/
def numFn (lib : Lib) (fuel : Nat) (key : String) : Fn := fun args h =>
  match envNumber lib fuel key with
  | some f => f args h
  | none => stuck

theorem numFn_key (lib : Lib) (fuel : Nat) {k : String} (i : Nat) (hk : keysNumber[i]? = some k) :
    numFn lib fuel k = fnOf Facts.lexNumberIR (numEnv lib fuel (keysNumber.take i)) fuel k := by
  funext args h
  unfold numFn
  rw [envNumber_eq', numEnv_key lib fuel i 10 hk (List.getElem?_eq_some_iff.mp hk).1]

/-! ### the number scanner -/

/-- **C09 (`numberOrDot` is the interpretation of its translation).** -/
theorem C09_numberOrDot_ir (lib : Lib) (fuel : Nat) (pre s : Bytes) (l : Nat) (hf : s.length < fuel)
    (hs : ∀ c rest, s = c :: rest → (isDigit c || c == 46) = true) :
    ∃ l' msg, numFn lib fuel "scanner.numberOrDot" [.scanner] ⟨pre ++ s, pre.length, l⟩ =
      .ok ([lexTok pre.length (scanNumberOrDot s) msg],
        ⟨pre ++ s, pre.length + (scanNumberOrDot s).width, l'⟩) := by
  rw [numFn_key lib fuel 9 rfl, fnOf_eq numberOrDot_ir]
  exact numberOrDot_spec lib _ fuel (numberEnv_exp lib fuel) pre s l hf hs

/-- without the hypothesis on the first byte the statement is false: on "a" the Go function returns an
    error token (and leaves the cursor BEFORE it), the model's function says "number" -/
theorem C09_numberOrDot_ir_needs_start (lib : Lib) :
    numFn lib 2 "scanner.numberOrDot" [.scanner] ⟨[97], 0, 0⟩ = .ok ([.tok .error 0 1 []], ⟨[97], 0, 0⟩) ∧
      (scanNumberOrDot [97]).kind = .number := by
  constructor
  · rw [numFn_key lib 2 9 rfl, fnOf_eq numberOrDot_ir]
    obtain ⟨fN, hN, sN⟩ := (numberEnv_exp lib 2).cursor.next
    obtain ⟨fP, hP, sP⟩ := (numberEnv_exp lib 2).cursor.prev
    obtain ⟨fA, hA, sA0⟩ := (numberEnv_exp lib 2).newSpan
    have sA : ∀ a b h, fA [.int a, .int b] h = .ok ([.span a b], h) := sA0
    obtain ⟨fD, hD, sD⟩ := (numberEnv_exp lib 2).cursor.digit
    obtain ⟨fE, hE, sE⟩ := (numberEnv_exp lib 2).errTok
    have nx := next_cons' sN [] [97] 0 0 97 [] 97 1 rfl rfl
    have pv := prev_hp sP [] [97] 0 1
    simp only [hp, List.nil_append, List.length_nil, Nat.zero_add] at nx pv
    unfold numberOrDotDecl firstSwitch otherCase
    lx_simp [hN, hP, hA, sA, nx, pv, hD, sD, hE, sE, Dispatch.inRangesNat, Facts.isDigitRanges]
  · decide

/-- **C09 (`numberExponent`).**  At every offset `k` of every `s`: reports whether the model's
    `exponentLen` finds an exponent there and leaves the cursor after it — where it was, by the
    deferred closure, when there is none. -/
theorem C09_numberExponent_ir (lib : Lib) (fuel : Nat) (pre s : Bytes) (k l : Nat) (hk : k ≤ s.length)
    (hf : s.length < fuel) :
    ∃ l', numFn lib fuel "scanner.numberExponent" [.scanner] ⟨pre ++ s, pre.length + k, l⟩ =
      .ok ([.bool (exponentLen (s.drop k) != 0)], ⟨pre ++ s, pre.length + (k + exponentLen (s.drop k)), l'⟩) := by
  obtain ⟨l', e⟩ := exponent_ok lib fuel pre s k l hk hf
  rw [numFn_key lib fuel 8 rfl]
  exact ⟨l', by simpa [hp, Nat.add_assoc] using e⟩

theorem C09_normalizeNumberValue_ir (lib : Lib) (fuel : Nat) (s : Bytes) (h : Heap) :
    numFn lib fuel "normalizeNumberValue" [.str s] h = .ok ([.str (normalizeNumber s)], h) := by
  rw [numFn_key lib fuel 7 rfl]
  exact normalize_ok lib fuel s h

theorem cursorEnv_number (lib : Lib) (fuel : Nat) : CursorEnv lib (envNumber lib fuel) :=
  envNumber_eq' lib fuel ▸ numEnv_cursor lib fuel 10 (by omega)

/-- **C09 (`s.next()`).**  At the end `(0, false)`; else the rune at the cursor (U+FFFD of width 1
    for an invalid byte), the cursor after it, `last` before it. -/
theorem C09_next_ir (lib : Lib) (fuel : Nat) (h : Heap) :
    numFn lib fuel "scanner.next" [.scanner] h =
      .ok (if h.src.length ≤ h.pos then ([.int 0, .bool false], h)
        else ([.int (decodeRune (h.src.drop h.pos)).1, .bool true],
          ⟨h.src, h.pos + (decodeRune (h.src.drop h.pos)).2, h.pos⟩)) := by
  obtain ⟨f, hf1, hf2⟩ := (cursorEnv_number lib fuel).next
  simp only [numFn, hf1]
  exact hf2 h

theorem C09_prev_ir (lib : Lib) (fuel : Nat) (h : Heap) :
    numFn lib fuel "scanner.prev" [.scanner] h = .ok ([], { h with pos := h.last }) := by
  obtain ⟨f, hf1, hf2⟩ := (cursorEnv_number lib fuel).prev
  simp only [numFn, hf1]
  exact hf2 h

theorem C09_setPos_ir (lib : Lib) (fuel : Nat) (n : Nat) (h : Heap) :
    numFn lib fuel "scanner.setPos" [.scanner, .int n] h = .ok ([], { h with pos := n, last := n }) := by
  obtain ⟨f, hf1, hf2⟩ := (cursorEnv_number lib fuel).setPos
  simp only [numFn, hf1]
  exact hf2 n h

/-- **C09 (`spanString`).**  The bytes under a valid span inside the string. -/
theorem C09_spanString_ir (lib : Lib) (fuel : Nat) (s : Bytes) (a b : Nat) (h : Heap) (hab : a ≤ b) (hb : b ≤ s.length) :
    numFn lib fuel "spanString" [.str s, .span a b] h = .ok ([.str ((s.drop a).take (b - a))], h) := by
  rw [numFn_key lib fuel 3 rfl]
  exact spanString_ok lib fuel s a b h hab hb

-- sanity tests (evaluated): the interpretation of the regenerated IR on concrete sources
#guard (numFn ⟨scan, fun _ _ => 0⟩ 100 "scanner.numberOrDot" [.scanner] ⟨Bytes.ofString "ab 0x1F+", 3, 0⟩).toOption.map (·.1) =
  some [.tok .number 3 7 (Bytes.ofString "31")]
#guard (numFn ⟨scan, fun _ _ => 0⟩ 100 "scanner.numberOrDot" [.scanner] ⟨Bytes.ofString "00012.50.", 0, 0⟩).toOption.map (·.1) =
  some [lexTok 0 (scanNumberOrDot (Bytes.ofString "00012.50.")) []]
#guard (numFn ⟨scan, fun _ _ => 0⟩ 100 "scanner.numberOrDot" [.scanner] ⟨Bytes.ofString "1e+x", 0, 0⟩).toOption.map (·.1) =
  some [.tok .number 0 1 (Bytes.ofString "1")]
#guard (numFn ⟨scan, fun _ _ => 0⟩ 2 "scanner.numberOrDot" [.scanner] ⟨Bytes.ofString "123456", 0, 0⟩).toOption.isNone

/-! ### the accessors of `BasicLit` -/

/-- a translated accessor in the environment of the accessors listed before it -/
def litFn (lib : Lib) (key : String) : Fn := fun args h =>
  match envLit lib key with
  | some f => f args h
  | none => stuck

/-- `(*BasicLit).Uint64` in terms of the model's `litIsFloat` and the reference `parseUint64` of
    Props/C09b.lean; `f64` stands for `uint64(lit.Float64())` (strconv.ParseFloat: not translated) -/
def litUint64 (f64 : TokKind → Bytes → Nat) (kind : TokKind) (value : Bytes) : Nat :=
  if kind ≠ .number then 0
  else if litIsFloat kind value then f64 kind value
  else match C09.parseUint64 value with
    | some n => n
    | none => 0

def SpecIsFloat (f : Fn) : Prop :=
  ∀ k v h, f [.lit (some (k, v))] h = .ok ([.bool (litIsFloat k v)], h)

theorem any_dotEe (v : Bytes) : (List.any v fun x => decide (x = 46) || (decide (x = 101) || decide (x = 69))) =
    List.any v fun b => b == 46 || b == 101 || b == 69 := by
  congr 1; funext x
  simp only [Bool.or_assoc, beq_dec]

theorem isFloat_spec (lib : Lib) (env : Env) (fuel : Nat) (hd : HasPrim lib env "strings.ContainsAny") :
    SpecIsFloat (interpFn env fuel isFloatDecl) := by
  intro k v h
  unfold isFloatDecl litIsFloat litKindIs
  unfold HasPrim at hd
  lx_simp [kind_number, hd, prims, ofString_dotEe, isAsciiSet, any_dotEe]

theorem isInteger_spec (env : Env) (fuel : Nat) (ff : Fn) (hf : env "BasicLit.IsFloat" = some ff) (sf : SpecIsFloat ff)
    (k : TokKind) (v : Bytes) (h : Heap) :
    interpFn env fuel isIntegerDecl [.lit (some (k, v))] h = .ok ([.bool (litIsInteger k v)], h) := by
  unfold isIntegerDecl litIsInteger litKindIs
  lx_simp [kind_number, hf, sf k v h]

/-- `strconv.ParseUint(v, 10, 64)` against the reference `C09.parseUint64`: its value where that has one, an error
    where it has none -/
theorem parseUint_dec (v : Bytes) :
    ∃ m, parseUint 10 64 v = some ((C09.parseUint64 v).getD m, (C09.parseUint64 v).isNone) := by
  have hval : decDigitsVal v = C09.natOfDigits v := rfl
  have hall : v.all C09.isDec = v.all isDigit := by
    congr 1; funext c; exact C09.isDec_eq_isDigit c
  unfold parseUint C09.parseUint64 C09.allDigits
  rw [hall, hval]
  by_cases he : v.isEmpty = true
  · exact ⟨0, by simp [he]⟩
  · by_cases ha : v.all isDigit = true
    · by_cases hl : C09.natOfDigits v < 2 ^ 64
      · exact ⟨0, by simp [he, ha, hl]⟩
      · exact ⟨2 ^ 64 - 1, by simp [he, ha, hl]⟩
    · exact ⟨0, by simp [he, ha]⟩

theorem uint64_spec (lib : Lib) (env : Env) (fuel : Nat) (ff : Fn) (hf : env "BasicLit.IsFloat" = some ff) (sf : SpecIsFloat ff)
    (h1 : HasPrim lib env "strconv.ParseUint") (h2 : HasPrim lib env "uint64") (h3 : HasPrim lib env "BasicLit.Float64")
    (k : TokKind) (v : Bytes) (h : Heap) :
    interpFn env fuel uint64Decl [.lit (some (k, v))] h = .ok ([.int (litUint64 lib.f64ToU64 k v)], h) := by
  unfold HasPrim at h1 h2 h3
  obtain ⟨m, hm⟩ := parseUint_dec v
  unfold uint64Decl litKindIs
  lx_simp [kind_number, hf, sf k v h, h1, h2, h3, prims, hm]
  unfold litUint64
  by_cases hk : k = .number
  · rw [if_pos hk, if_neg (not_not_intro hk)]
    by_cases hfl : litIsFloat k v = true
    · rw [if_pos hfl, if_pos hfl]
    · rw [if_neg hfl, if_neg hfl]
      cases C09.parseUint64 v <;> rfl
  · rw [if_neg hk, if_pos hk]

/-! ### the accessors in their environment -/

def keysLit : List String := ["BasicLit.IsFloat", "BasicLit.IsInteger", "BasicLit.Uint64"]

theorem envLit_key (lib : Lib) {k : String} (i n : Nat) (hk : keysLit[i]? = some k) (hi : i < n) :
    layer Facts.litAccessIR 0 (keysLit.take n) (prims lib) k =
      some (fnOf Facts.litAccessIR (layer Facts.litAccessIR 0 (keysLit.take i) (prims lib)) 0 k) :=
  layer_take _ 0 keysLit _ i n (by simp [keysLit]) hk hi

theorem litFn_key (lib : Lib) {k : String} (i : Nat) (hk : keysLit[i]? = some k) :
    litFn lib k = fnOf Facts.litAccessIR (layer Facts.litAccessIR 0 (keysLit.take i) (prims lib)) 0 k := by
  funext args h
  have : envLit lib k = _ := envLit_key lib i 3 hk (List.getElem?_eq_some_iff.mp hk).1
  simp only [litFn, this]

theorem isFloat_ok (lib : Lib) : SpecIsFloat (fnOf Facts.litAccessIR (prims lib) 0 "BasicLit.IsFloat") := by
  rw [fnOf_eq isFloat_ir]
  exact isFloat_spec lib _ 0 rfl

theorem C09_IsFloat_ir (lib : Lib) (k : TokKind) (v : Bytes) (h : Heap) :
    litFn lib "BasicLit.IsFloat" [.lit (some (k, v))] h = .ok ([.bool (litIsFloat k v)], h) := by
  rw [litFn_key lib 0 rfl]
  exact isFloat_ok lib k v h

theorem C09_IsInteger_ir (lib : Lib) (k : TokKind) (v : Bytes) (h : Heap) :
    litFn lib "BasicLit.IsInteger" [.lit (some (k, v))] h = .ok ([.bool (litIsInteger k v)], h) := by
  rw [litFn_key lib 1 rfl, fnOf_eq isInteger_ir]
  exact isInteger_spec _ 0 _ (envLit_key lib 0 1 rfl (by omega)) (isFloat_ok lib) k v h

/-- **C09 (`Uint64`).**  0 for a literal that is not a number; `uint64(lit.Float64())` (not
    translated) for a float literal; else `strconv.ParseUint(lit.Value, 10, 64)`, 0 if that fails. -/
theorem C09_Uint64_ir (lib : Lib) (k : TokKind) (v : Bytes) (h : Heap) :
    litFn lib "BasicLit.Uint64" [.lit (some (k, v))] h = .ok ([.int (litUint64 lib.f64ToU64 k v)], h) := by
  rw [litFn_key lib 2 rfl, fnOf_eq uint64_ir]
  exact uint64_spec lib _ 0 _ (envLit_key lib 0 2 rfl (by omega)) (isFloat_ok lib) (layer_other _ _ _ _ _ (by simp [keysLit]))
    (layer_other _ _ _ _ _ (by simp [keysLit])) (layer_other _ _ _ _ _ (by simp [keysLit])) k v h

/-- a nil `*BasicLit` makes every accessor panic (nil pointer dereference at `lit.Kind`) -/
theorem C09_accessors_nil_panic (lib : Lib) (h : Heap) :
    litFn lib "BasicLit.IsFloat" [.lit none] h = .error .panic ∧
    litFn lib "BasicLit.IsInteger" [.lit none] h = .error .panic ∧
    litFn lib "BasicLit.Uint64" [.lit none] h = .error .panic := by
  rw [litFn_key lib 0 rfl, litFn_key lib 1 rfl, litFn_key lib 2 rfl, fnOf_eq isFloat_ir, fnOf_eq isInteger_ir, fnOf_eq uint64_ir]
  exact ⟨rfl, rfl, rfl⟩

/-- the literal test of `take` / `top` (`rowCount`: `lit.IsInteger()`): on a number token the translated
    `IsInteger` is true exactly when the value has no '.', 'e', 'E' (`C09.isFloatValue`) -/
theorem C04_IsInteger_on_scanned (lib : Lib) (v : Bytes) (h : Heap) :
    litFn lib "BasicLit.IsInteger" [.lit (some (.number, v))] h = .ok ([.bool (!C09.isFloatValue v)], h) := by
  rw [C09_IsInteger_ir]
  simp [litIsInteger, litIsFloat, C09.isFloatValue]

#guard (litFn ⟨scan, fun _ _ => 7⟩ "BasicLit.Uint64" [.lit (some (.number, Bytes.ofString "18446744073709551615"))] ⟨[], 0, 0⟩).toOption.map (·.1) =
  some [.int 18446744073709551615]
#guard (litFn ⟨scan, fun _ _ => 7⟩ "BasicLit.Uint64" [.lit (some (.number, Bytes.ofString "18446744073709551616"))] ⟨[], 0, 0⟩).toOption.map (·.1) =
  some [.int 0]
#guard (litFn ⟨scan, fun _ _ => 7⟩ "BasicLit.Uint64" [.lit (some (.number, Bytes.ofString "1e3"))] ⟨[], 0, 0⟩).toOption.map (·.1) =
  some [.int 7]

end Pql.LexIR
