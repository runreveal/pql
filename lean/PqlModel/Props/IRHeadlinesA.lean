/-
THE HEADLINE PROPERTIES ON THE INTERPRETATIONS OF THE TRANSLATED GO CODE: the expression writer,
end to end, joins (C01 – C03).

Every theorem here is a statement about what an IR REGENERATED from the Go source computes when it is
interpreted (`ExprIR.interpCompile`, `ExprIR.interpWriteExpression`, `ExprIR.interpWriteMaybeParen`,
`SplitIR.interpSplit`, `JoinCondIR.interpBuild`, `JoinCondIR.interpRewrite`, `OpIR.runParse … (bodyOf "Parse")`),
obtained from the model-level headline theorem by rewriting with the `…_ir` equality
("model function = interpretation of the regenerated IR").  Where a hand-model function occurs in a hypothesis
or conclusion it is part of a SPECIFICATION (`Rel.interp`, `Intended.intended`, `tr`, `readSql`, …), a decidable
side condition on the parsed tree, the tokens a statement speaks of (`scan src`, also inside `ParseIR(src)`: the
model's scanner, which `ScanIR.C09_Scan_ir` ties to the regenerated `Scan`), or the value an interpretation is said
to return (`interpBuild conds = .ok (buildJoinCondition conds)` in `C03_on_translated_code`; in IRHeadlinesB – D and
IRHeadlines.lean for instance `compileChunks … (parse src).1` in `C05_no_placeholder_ir`, `(GNode.node m).span` in C10,
`scanFn = scan` in C09, `parse src`, `splitStatements src`, `scanOne s` in C12).

`interpCompile List.reverse opts src` is `(*CompileOptions).Compile(src)` with `opts = none` the nil
options and `some ps` the parameter map `ps` (visited in list order; `C14_map_order_ir`, Props/IRHeadlines.lean:
the order is irrelevant).  `runParse src.length (scan src) (bodyOf "Parse")` is `parser.Parse(src)`.

Callees that are MODEL functions inside `interpCompile` (each tied to its own regenerated IR by a
separate theorem, see Lemmas/NoPanicIR.lean): `parser.Parse` (`C07_Parse_ir`), `splitQueries`
(`C02_split_ir`), `(*subquery).write` (`C05_write_ir`) and the `writeExpression` it calls
(`C01_writeExpression_ir`).
-/
import PqlModel.Lemmas.IRHeadlinesAux
import PqlModel.Props.C01LexRender
import PqlModel.Props.C01Syntactic
import PqlModel.Props.C01
import PqlModel.Props.C02EndToEndSource
import PqlModel.Props.C02ProgramNames
import PqlModel.Props.C02Split
import PqlModel.Props.C02SplitIR
import PqlModel.Props.C03
namespace Pql.IRHead
open Pql Sql CompileOracle Intended Pql.ParsedOK Pql.E2E Pql.RT JoinFull
set_option linter.unusedSimpArgs false

/-- **C01 (LexRender) on the translated `writeExpression`.**  Whatever chunks the interpretation of the
    regenerated `writeExpression` returns for a `lexOK` expression, their bytes lex under the reference SQL
    lexer to exactly the chunk tokens. -/
theorem C01_lexRender_ir (ctx : Ctx) (e : Expr) (cs : List Chunk) (hscope : ctx.scope = [])
    (hok : e.lexOK = true) (h : ExprIR.interpWriteExpression ctx e = .ok cs) :
    Sql.lex .standard (renderChunks cs) = some (toksOf cs) :=
  C01.C01_lexRender ctx e cs hscope hok ((writeExpr_ir_ok_iff ctx e hok cs).1 h)

/-- **C01 (ParseRoundtrip) on the translated `writeExpression`.**  The tokens of what the interpretation
    writes are read by the reference SQL parser as the intended translation `tr e` (up to `normS`), stopping
    before any follower, at every sufficiently large fuel. -/
theorem C01_parse_roundtrip_ir (ctx : Ctx) (e : Expr) (cs : List Chunk) (want : Sql.SExpr) (rest : List STok)
    (hscope : ctx.scope = []) (hok : e.lexOK = true) (hshape : shapeOK e = true)
    (hw : ExprIR.interpWriteExpression ctx e = .ok cs)
    (ht : CompileOracle.tr (ctx.mode == .join) e = some want) (hrest : C01.Stops rest) :
    ∃ s, normS s = normS want ∧
      ∃ fuel, ∀ fuel', fuel ≤ fuel' → Sql.pExprS fuel' 0 (toksOf cs ++ rest) = some (s, rest) :=
  C01.C01_parse_roundtrip_partial ctx e cs want rest hscope hok hshape ((writeExpr_ir_ok_iff ctx e hok cs).1 hw) ht hrest

/-- … at EVERY fuel at which the SQL reader returns at all -/
theorem C01_parse_roundtrip_anyfuel_ir (ctx : Ctx) (e : Expr) (cs : List Chunk) (want : Sql.SExpr) (rest : List STok)
    (hscope : ctx.scope = []) (hok : e.lexOK = true) (hshape : shapeOK e = true)
    (hw : ExprIR.interpWriteExpression ctx e = .ok cs)
    (ht : CompileOracle.tr (ctx.mode == .join) e = some want) (hrest : C01.Stops rest)
    (fuel : Nat) (s : Sql.SExpr) (r : List STok)
    (hp : Sql.pExprS fuel 0 (toksOf cs ++ rest) = some (s, r)) : normS s = normS want ∧ r = rest :=
  C01.C01_parse_roundtrip_anyfuel ctx e cs want rest hscope hok hshape ((writeExpr_ir_ok_iff ctx e hok cs).1 hw) ht hrest
    fuel s r hp

/-- **C01 (operands are units) on the translated `writeExpressionMaybeParen`.**  What the interpretation
    of the regenerated `writeExpressionMaybeParen` (with `writeExpression` and its callees interpreted)
    writes for an operand is read by the SQL reader's unary level as ONE operand, whatever follows. -/
theorem C01_operand_is_unit_ir (ctx : Ctx) (x : Expr) (cs : List Chunk) (want : Sql.SExpr) (rest : List STok)
    (hscope : ctx.scope = []) (hok : x.lexOK = true) (hshape : shapeOK x = true)
    (hw : ExprIR.interpWriteMaybeParen ctx x = .ok cs)
    (ht : CompileOracle.tr (ctx.mode == .join) x = some want) (hrest : Ends unaryEndTok rest) :
    ∃ s, normS s = normS want ∧
      ∃ fuel, ∀ fuel', fuel ≤ fuel' → Sql.pUnaryS fuel' (toksOf cs ++ rest) = some (s, rest) := by
  rw [ExprIR.C01_writeMaybeParen_ir ctx x (fun _ => good_of_lexOK x hok), liftW_ok_iff] at hw
  cases hb : writeExpr ctx x with
  | error e => rw [hb] at hw; cases hw
  | ok body =>
    rw [hb] at hw
    simp only [Except.map, Except.ok.injEq] at hw
    subst hw
    exact C01.C01_operand_is_unit ctx x body want rest hscope hok hshape hb ht hrest

/-- **C01 (source parentheses never matter) on the translated `writeExpression`** -/
theorem C01_unparen_ir (ctx : Ctx) (e : Expr) (hg : ctx.mode = .join → e.Good) :
    ExprIR.interpWriteExpression ctx (unparen e) = ExprIR.interpWriteExpression ctx e := by
  rw [ExprIR.C01_writeExpression_ir ctx e hg,
    ExprIR.C01_writeExpression_ir ctx (unparen e) (fun h => ExprIR.good_unparen e (hg h)), C01.C01_unparen_write]

/-- **C01 on translated code.**  For every context without scope, every `lexOK`, `shapeOK` expression of
    any depth and whatever the interpretation of the regenerated `writeExpression` returns for it: the bytes
    lex to the chunk tokens, and the reference SQL parser reads them back as the intended translation
    `tr e`, stopping before any follower.  (`lexOK` / `shapeOK` exclude K4 — a pass-through function named like
    an SQL operator word, `C01.C01_counterexample_Not`; they hold of every K4-free parsed tree, see C02 below.) -/
theorem C01_on_translated_code (ctx : Ctx) (e : Expr) (cs : List Chunk)
    (hscope : ctx.scope = []) (hok : e.lexOK = true) (hshape : shapeOK e = true)
    (hw : ExprIR.interpWriteExpression ctx e = .ok cs) :
    Sql.lex .standard (renderChunks cs) = some (toksOf cs) ∧
    ∀ (want : Sql.SExpr) (rest : List STok), CompileOracle.tr (ctx.mode == .join) e = some want → C01.Stops rest →
      ∃ s, normS s = normS want ∧
        ∃ fuel, ∀ fuel', fuel ≤ fuel' → Sql.pExprS fuel' 0 (toksOf cs ++ rest) = some (s, rest) :=
  ⟨C01_lexRender_ir ctx e cs hscope hok hw,
   fun want rest ht hrest => C01_parse_roundtrip_ir ctx e cs want rest hscope hok hshape hw ht hrest⟩

/-- non-vacuity: `f($left.x, -(y)) == $right.x` in join mode — the interpretation returns chunks -/
theorem C01_on_translated_code_nonvacuous :
    ∃ cs, ExprIR.interpWriteExpression ExprIR.joinCtx Glue.sample = .ok cs := by
  obtain ⟨_, h2, h3⟩ := ExprIR.C01_writeExpression_ir_nonvacuous
  rw [h2]
  cases hw : writeExpr ExprIR.joinCtx Glue.sample with
  | ok cs => exact ⟨cs, rfl⟩
  | error e => rw [hw] at h3; cases h3

/-- **C02 / C03 (end to end) on the translated `Parse` and `Compile`.**  If the interpretation of the
    regenerated `Parse` returns the single query `t` without error and the interpretation of the translated
    `Compile` (nil options) returns `sql`, then `sql`, read back by the reference SQL reader and evaluated AS
    READ by the reference evaluator, is the table the specification interpreter `Rel.interp` assigns to the
    pipeline — any operators, any number of joins nested to any depth — on every rectangular database.
    Hypotheses: exactly those of `E2EFinal.C02_end_to_end_bytes_raw` (`k4Free` = K4, `namesOk` = K3,
    `tabOpsOk`; counterexamples `E2EFinal.Cex.*`). -/
theorem C02_end_to_end_bytes_raw_ir (src sql : Bytes) (t : Tabular)
    (hp : ParseIR(src) = .ok ([.tabular t], [])) (hc : CompileIR(none, src) = .ok sql)
    (hk : k4Free [.tabular t] = true) (hnames : namesOk t = true) (hops : tabOpsOk t = true) :
    ∃ st, readSql sql = some st ∧ ∀ db, RectDB db → evalStatement db st = Rel.interp src db t :=
  E2EFinal.C02_end_to_end_bytes_raw src sql t ((parse_ir_iff src _).1 hp) ((compile_ir_ok_iff none src sql).1 hc)
    hk hnames hops

/-- … with the intended statement: what is read back IS the intended statement up to `normS` -/
theorem C02_end_to_end_bytes_detail_ir (src sql : Bytes) (t : Tabular)
    (hp : ParseIR(src) = .ok ([.tabular t], [])) (hc : CompileIR(none, src) = .ok sql)
    (hk : k4Free [.tabular t] = true) (hnames : namesOk t = true) (hops : tabOpsOk t = true) :
    ∃ st want, readSql sql = some st ∧ intended src [.tabular t] = some want ∧ statementEq st want = true ∧
      ∀ db, RectDB db →
        evalStatement db (normStatement st) = Rel.interp src db t ∧
        evalStatement db want = Rel.interp src db t :=
  E2EFinal.C02_end_to_end_bytes_detail src sql t ((parse_ir_iff src _).1 hp)
    ((compile_ir_ok_iff none src sql).1 hc) hk hnames hops

/-- **C02 / C06 (end to end, programs with `let` statements) on the translated `Parse` and `Compile`.**
    Hypotheses: exactly those of `E2EFinal.C02_end_to_end_program_bytes_detail`. -/
theorem C02_end_to_end_program_bytes_ir (src sql : Bytes) (lets : List Stmt) (t : Tabular)
    (hp : ParseIR(src) = .ok (lets ++ [.tabular t], [])) (hc : CompileIR(none, src) = .ok sql)
    (hk : k4Free (lets ++ [.tabular t]) = true)
    (hl : IsLets lets) (hjs : envJoinSafe (letsEnv lets []) = true) (hN : tabNamed t)
    (hnames : namesOk (substTabular (letsEnv lets []) t) = true)
    (hops : tabOpsOk (substTabular (letsEnv lets []) t) = true) :
    ∃ st want, readSql sql = some st ∧ noBangStatement st = true ∧
      intended src (lets ++ [.tabular t]) = some want ∧ statementEq st want = true ∧
      ∀ db, RectDB db →
        evalStatement db st = Rel.interp src db (substTabular (letsEnv lets []) t) ∧
        evalStatement db want = Rel.interp src db (substTabular (letsEnv lets []) t) ∧
        Rel.interpProgram src db (lets ++ [.tabular t]) =
          some (Rel.interp src db (substTabular (letsEnv lets []) t)) :=
  E2EFinal.C02_end_to_end_program_bytes_detail src sql lets t ((parse_ir_iff src _).1 hp)
    ((compile_ir_ok_iff none src sql).1 hc) hk hl hjs hN hnames hops

/-- … against `Rel.interpProgram`, without `tabNamed` (implicit column names allowed) -/
theorem C02_end_to_end_program_names_bytes_ir (src sql : Bytes) (lets : List Stmt) (t : Tabular)
    (hp : ParseIR(src) = .ok (lets ++ [.tabular t], [])) (hc : CompileIR(none, src) = .ok sql)
    (hk : k4Free (lets ++ [.tabular t]) = true)
    (hl : IsLets lets) (hjs : envJoinSafe (letsEnv lets []) = true)
    (hnames : namesOk (substTabular (letsEnv lets []) (Rel.nameTabular src t)) = true)
    (hops : tabOpsOk (substTabular (letsEnv lets []) (Rel.nameTabular src t)) = true) :
    ∃ st, readSql sql = some st ∧
      ∀ db, RectDB db → Rel.interpProgram src db (lets ++ [.tabular t]) = some (evalStatement db st) :=
  E2EMore.C02_end_to_end_program_names_bytes src sql lets t ((parse_ir_iff src _).1 hp)
    ((compile_ir_ok_iff none src sql).1 hc) hk hl hjs hnames hops

/-- compile with the TRANSLATED `Compile`, read the text back, evaluate what was read -/
def runBytesIR (src : Bytes) (db : DB) : Option Table :=
  match CompileIR(none, src) with
  | .ok sql => (readSql sql).map (evalStatement db)
  | .error _ => none

theorem runBytesIR_eq : runBytesIR = E2EFinal.runBytes := by
  funext src db
  unfold runBytesIR E2EFinal.runBytes
  rw [ExprIR.C06_compile_ir]
  show (match ExprIR.resultM (compile [] src) with | .ok sql => _ | .error _ => _) = _
  cases compile [] src <;> rfl

/-- **C02 (end to end, functional form) on the translated `Compile`**: under the decidable hypotheses
    `progHyps` (one Boolean), compile-with-the-interpretation, read back, evaluate = the meaning of the
    program the interpretation of `Parse` returns. -/
theorem C02_end_to_end_program_run_ir (src : Bytes) (h : E2EFinal.progHyps src = true) :
    ∃ stmts, ParseIR(src) = .ok (stmts, []) ∧
      ∀ db, RectDB db → (runBytesIR src db).isSome = true ∧ runBytesIR src db = Rel.interpProgram src db stmts := by
  have hp : (parse src).2 = [] := by
    unfold E2EFinal.progHyps at h
    split at h
    · rename_i stmts sql hp _; rw [hp]
    · cases h
  refine ⟨(parse src).1, ?_, ?_⟩
  · rw [OpIR.C07_Parse_ir, ← hp]
  · rw [runBytesIR_eq]
    exact E2EFinal.C02_end_to_end_program_run src h

/-- non-vacuity of the functional form on concrete source bytes (a `let`, a `where`, a `sort`, a `take`;
    a join with a let in its right side) -/
theorem C02_end_to_end_program_run_ir_nonvacuous :
    E2EFinal.progHyps E2EFinal.Ex.exLet1 = true ∧ E2EFinal.progHyps E2EFinal.Ex.exLet3 = true :=
  ⟨E2EFinal.Ex.exLet_hyps.1, E2EFinal.Ex.exLet_hyps.2.2⟩

/-- **C02 (the splitting invariants) on the translated `splitQueries` / `chainSubquery`.**  Whatever heap
    and slice the interpretation of the regenerated IR returns on the empty slice (the call in `Compile`),
    the subqueries it denotes (`SplitImp.abs`): a subquery with ORDER BY / LIMIT never renames columns, and
    reading every subquery as body; ORDER BY; LIMIT and concatenating gives exactly the operator list of
    the pipeline (joins at any depth) — a limit never crosses a sort, filter, projection or aggregation.
    `skeletonOk t` (no nil where the Go code dereferences): needed (`SplitImp.C02_refines_needs_*`), true of
    every parsed tree (`SplitImp.skeletonOk_of_parsed`). -/
theorem C02_split_invariants_ir (src : Bytes) (scope : List (Bytes × List Chunk)) (t : Tabular)
    (hg : SplitImp.skeletonOk t = true) (h : SplitImp.Heap) (dst : List SplitImp.Addr)
    (hr : SplitIR.interpSplit src scope #[] [] t = .ok (h, dst)) :
    (∀ s ∈ SplitImp.abs h dst, (s.sort.isSome ∨ s.take.isSome) →
      canAttachSort s.op = true ∧ ∀ o, s.op = some o → SplitQ.renames o = false) ∧
    (SplitImp.abs h dst).flatMap SplitQ.subClauses = SplitQ.tabClauses t := by
  have hm := SplitIR.C02_split_ir_refines_model_top src scope t hg
  rw [hr] at hm
  have hs : splitQueries src scope [] t = .ok (SplitImp.abs h dst) := by
    cases hq : splitQueries src scope [] t with
    | ok subs =>
      rw [hq] at hm
      simp only [Except.map, SplitIR.liftW, Except.ok.injEq] at hm
      rw [hm]
    | error e =>
      rw [hq] at hm
      cases e <;> simp [Except.map, SplitIR.liftW] at hm
  exact ⟨C02.C02_sort_not_after_rename src scope t _ hs, C02.C02_limit_never_crosses_nested src scope t _ hs⟩

/-- … for every query of a program the interpretation of `Parse` returns without error (the hypothesis
    `skeletonOk` is then a theorem), every scope -/
theorem C02_split_invariants_parsed_ir (src : Bytes) (stmts : List Stmt) (hp : ParseIR(src) = .ok (stmts, []))
    (t : Tabular) (ht : Stmt.tabular t ∈ stmts) (scope : List (Bytes × List Chunk))
    (h : SplitImp.Heap) (dst : List SplitImp.Addr)
    (hr : SplitIR.interpSplit src scope #[] [] t = .ok (h, dst)) :
    (∀ s ∈ SplitImp.abs h dst, (s.sort.isSome ∨ s.take.isSome) →
      canAttachSort s.op = true ∧ ∀ o, s.op = some o → SplitQ.renames o = false) ∧
    (SplitImp.abs h dst).flatMap SplitQ.subClauses = SplitQ.tabClauses t :=
  C02_split_invariants_ir src scope t
    (SplitImp.skeletonOk_of_parsed (show parseTokens src.length (scan src) = (stmts, []) from (parse_ir_iff src _).1 hp) t ht)
    h dst hr

/-- non-vacuity: on `T | join (U) on a` the interpretation of `splitQueries` returns a heap and a slice -/
theorem C02_split_invariants_ir_nonvacuous :
    SplitImp.skeletonOk SplitIR.exJoin = true ∧ ∃ r, SplitIR.interpSplit [] [] #[] [] SplitIR.exJoin = .ok r := by
  refine ⟨by decide, ?_⟩
  rw [SplitIR.C02_split_ir]
  have h : (SplitImp.splitQueriesI [] [] #[] [] SplitIR.exJoin).toBool = true := by decide
  cases hq : SplitImp.splitQueriesI [] [] #[] [] SplitIR.exJoin with
  | ok r => exact ⟨r, rfl⟩
  | error e => rw [hq] at h; cases h

/-- **C02 on translated code**: the end-to-end statement (single query and programs with lets). -/
theorem C02_on_translated_code :
    (∀ (src sql : Bytes) (t : Tabular),
      ParseIR(src) = .ok ([.tabular t], []) → CompileIR(none, src) = .ok sql →
      k4Free [.tabular t] = true → namesOk t = true → tabOpsOk t = true →
      ∃ st, readSql sql = some st ∧ ∀ db, RectDB db → evalStatement db st = Rel.interp src db t) ∧
    (∀ (src sql : Bytes) (lets : List Stmt) (t : Tabular),
      ParseIR(src) = .ok (lets ++ [.tabular t], []) → CompileIR(none, src) = .ok sql →
      k4Free (lets ++ [.tabular t]) = true → IsLets lets → envJoinSafe (letsEnv lets []) = true →
      namesOk (substTabular (letsEnv lets []) (Rel.nameTabular src t)) = true →
      tabOpsOk (substTabular (letsEnv lets []) (Rel.nameTabular src t)) = true →
      ∃ st, readSql sql = some st ∧
        ∀ db, RectDB db → Rel.interpProgram src db (lets ++ [.tabular t]) = some (evalStatement db st)) :=
  ⟨C02_end_to_end_bytes_raw_ir, C02_end_to_end_program_names_bytes_ir⟩

/-- **C03 (bare key, conjunction) on the translated `buildJoinCondition` / `rewriteSimpleJoinCondition`.**
    Interpreted from their regenerated bodies: a bare unquoted column `k` after `on` becomes
    `$left.k == $right.k`, a quoted name is left alone, and two conditions become the conjunction of their
    rewritings, in order. -/
theorem C03_join_condition_ir :
    (∀ (name : Bytes) (sp : Span), builtinIdent name = none →
      JoinCondIR.interpRewrite (.qident [⟨name, sp, false⟩]) =
        .ok (.binary (.qident [⟨leftAlias, .zero, false⟩, ⟨name, sp, false⟩]) .zero .eq
          (.qident [⟨rightAlias, .zero, false⟩, ⟨name, sp, false⟩]))) ∧
    (∀ (name : Bytes) (sp : Span),
      JoinCondIR.interpRewrite (.qident [⟨name, sp, true⟩]) = .ok (.qident [⟨name, sp, true⟩])) ∧
    (∀ c1 c2 : Expr, ∃ r1 r2, JoinCondIR.interpRewrite c1 = .ok r1 ∧ JoinCondIR.interpRewrite c2 = .ok r2 ∧
      JoinCondIR.interpBuild (.cons c1 (.cons c2 .nil)) = .ok (.binary r1 .zero .and_ r2)) := by
  refine ⟨fun name sp h => ?_, fun name sp => ?_, fun c1 c2 => ?_⟩
  · rw [JoinCondIR.C03_rewriteSimpleJoinCondition_ir, C03.C03_bare_key_rewrite name sp h]
  · rw [JoinCondIR.C03_rewriteSimpleJoinCondition_ir, C03.C03_quoted_key_not_rewritten]
  · exact ⟨_, _, JoinCondIR.C03_rewriteSimpleJoinCondition_ir c1, JoinCondIR.C03_rewriteSimpleJoinCondition_ir c2,
      by rw [JoinCondIR.C03_buildJoinCondition_ir, C03.C03_two_conditions_anded]⟩

/-- **C03 on translated code.**  (a) the join semantics is part of the end-to-end theorem on the
    interpretations of `Parse` and `Compile` — `Rel.interp` has the join case `joinTables` (nested loop;
    innerunique = distinct left rows; leftouter pads with NULLs), and `t` may contain any number of joins at
    any depth; (b) the join-condition rewriting as interpreted from its regenerated body. -/
theorem C03_on_translated_code :
    (∀ (src sql : Bytes) (t : Tabular),
      ParseIR(src) = .ok ([.tabular t], []) → CompileIR(none, src) = .ok sql →
      k4Free [.tabular t] = true → namesOk t = true → tabOpsOk t = true →
      ∃ st, readSql sql = some st ∧ ∀ db, RectDB db → evalStatement db st = Rel.interp src db t) ∧
    (∀ (name : Bytes) (sp : Span), builtinIdent name = none →
      JoinCondIR.interpRewrite (.qident [⟨name, sp, false⟩]) =
        .ok (.binary (.qident [⟨leftAlias, .zero, false⟩, ⟨name, sp, false⟩]) .zero .eq
          (.qident [⟨rightAlias, .zero, false⟩, ⟨name, sp, false⟩]))) ∧
    (∀ conds : ExprList, JoinCondIR.interpBuild conds = .ok (buildJoinCondition conds)) :=
  ⟨C02_end_to_end_bytes_raw_ir, C03_join_condition_ir.1, JoinCondIR.C03_buildJoinCondition_ir⟩

/-- non-vacuity of the end-to-end conjunct of `C03_on_translated_code` with a join: the decidable hypotheses hold of
    `T | join kind=inner (U | where b > 1) on k | summarize c = count() by k = k` -/
theorem C03_on_translated_code_nonvacuous : E2EFinal.bytesHyps E2EFinal.Ex.exJoin = true :=
  E2EFinal.Ex.ex_hyps.2.1

end Pql.IRHead
