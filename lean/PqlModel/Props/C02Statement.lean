/-
Property C02, semantic form, Stage 2: the intended SQL *statement* of a join-free pipeline,
evaluated by the reference SQL evaluator (CTEs in order, each visible to the later ones),
computes what the specification interpreter `Rel` computes for the pipeline.

  bytes Compile emits ≈ intended statement (C05 / C01; oracle: `Intended.intendedClauses`, which reports a
                                            difference only if the two statements also evaluate differently)
  evalStatement db (intended statement) = Rel.interp db pipeline        (this file)
-/
import PqlModel.Lemmas.JoinFullTop
namespace Pql.C02
open Pql Sql CompileOracle Intended SplitQ SelSem

/-- **C02 (statement semantics), sharpest form**: only the names of the CTEs (all links but the
    last, which is the statement's body) have to be pairwise distinct. -/
theorem C02_statement_semantics_ctes (src : Bytes) (db : DB) (T : Ident) (ops : OpList) (subs : List SubA)
    (st : Statement) (hjf : joinFree ops = true)
    (hs : splitA [] (.mk (some T) ops) = some subs) (hst : stmtOf src subs = some st)
    (hnames : (subs.dropLast.map (·.name)).Nodup) (hside : opsOk ops = true) :
    evalStatement db st = Rel.interpOps src db (lookupTable db [] T.name) ops := by
  obtain ⟨_, hok, hnr, hval⟩ := JoinFull.block_joinFree src db [] subs T ops hjf hside hs
  rw [JoinFull.evalStatement_val src db (some T) subs st hst hok (.inl hnr)]
  exact hval [] ⟨hnames, by simp⟩

/-- **C02 (statement semantics).** For a join-free pipeline `T | ops`: if the names of the links of
    the chain (`__subquery{i}` or the names chosen with `as`) are pairwise distinct and every
    operator satisfies its aggregate side condition (`opsOk`), then evaluating the intended
    statement on any database gives the pipeline's meaning: the operators applied one after the
    other, left to right, to the table `T`. -/
theorem C02_statement_semantics (src : Bytes) (db : DB) (T : Ident) (ops : OpList) (subs : List SubA)
    (st : Statement) (hjf : joinFree ops = true)
    (hs : splitA [] (.mk (some T) ops) = some subs) (hst : stmtOf src subs = some st)
    (hnames : (subs.map (·.name)).Nodup) (hside : opsOk ops = true) :
    evalStatement db st = Rel.interpOps src db (lookupTable db [] T.name) ops := by
  refine C02_statement_semantics_ctes src db T ops subs st hjf hs hst ?_ hside
  exact List.Nodup.sublist (List.Sublist.map _ (List.dropLast_sublist subs)) hnames

/-- the two lookups of the source table agree -/
theorem lookupTable_nil (db : DB) (n : Bytes) :
    lookupTable db [] n = (match db.find? (·.1 == n) with | some t => t.2 | none => ⟨[], []⟩) := rfl

/-- **C02 (statement semantics), against `Rel.interp`.** -/
theorem C02_statement_interp (src : Bytes) (db : DB) (T : Ident) (ops : OpList) (subs : List SubA)
    (st : Statement) (hjf : joinFree ops = true)
    (hs : splitA [] (.mk (some T) ops) = some subs) (hst : stmtOf src subs = some st)
    (hnames : (subs.map (·.name)).Nodup) (hside : opsOk ops = true) :
    evalStatement db st = Rel.interp src db (.mk (some T) ops) := by
  rw [C02_statement_semantics src db T ops subs st hjf hs hst hnames hside, Rel.interp]
  rfl

theorem asNamesO_joinFree : ∀ (ops : OpList), joinFree ops = true → JoinFull.asNamesO ops = asNames ops
  | .nil, _ => by simp only [JoinFull.asNamesO, asNames]
  | .cons o rest, h => by
    obtain ⟨hj, h⟩ := joinFree_cons_iff.1 h
    have ih := asNamesO_joinFree rest h
    cases o with
    | join => cases hj
    | _ => simp only [JoinFull.asNamesO, asNames, ih]

/-- `asNamesOk` makes the names of the links pairwise distinct -/
theorem splitA_names_nodup (T : Ident) (ops : OpList) (subs : List SubA) (hjf : joinFree ops = true)
    (hn : asNamesOk ops = true) (hs : splitA [] (.mk (some T) ops) = some subs) : (subs.map (·.name)).Nodup := by
  simp only [asNamesOk, Bool.and_eq_true, Bool.not_eq_true', List.all_eq_true] at hn
  refine (JoinFull.names_of_asNames _ subs hs ?_ ?_).1 <;> rw [JoinFull.asNamesT, asNamesO_joinFree ops hjf]
  · exact hn.1
  · exact hn.2

/-- **C02 (statement semantics), with a condition on the pipeline instead of on the chain**: the
    names chosen with `as` are pairwise distinct and none looks like a generated name
    (`asNamesOk`, decidable on the program); then the link names are pairwise distinct
    (`splitA_names_nodup`). -/
theorem C02_statement_semantics_asNames (src : Bytes) (db : DB) (T : Ident) (ops : OpList) (subs : List SubA)
    (st : Statement) (hjf : joinFree ops = true)
    (hs : splitA [] (.mk (some T) ops) = some subs) (hst : stmtOf src subs = some st)
    (hnames : asNamesOk ops = true) (hside : opsOk ops = true) :
    evalStatement db st = Rel.interp src db (.mk (some T) ops) :=
  C02_statement_interp src db T ops subs st hjf hs hst (splitA_names_nodup T ops subs hjf hnames hs) hside

/-- **C02 (program level, no lets).** The intended statement of the program consisting of the
    single join-free query `T | ops` computes `Rel.interp` of that query, on every database. -/
theorem C02_intended_semantics (src : Bytes) (db : DB) (T : Ident) (ops : OpList) (st : Statement)
    (hjf : joinFree ops = true) (hi : intended src [.tabular (.mk (some T) ops)] = some st)
    (hnames : asNamesOk ops = true) (hside : opsOk ops = true) :
    evalStatement db st = Rel.interp src db (.mk (some T) ops) := by
  simp only [intended, resolveLets, substTabular, C05.substOps_nil ops, bind, Option.bind] at hi
  cases hs : splitA [] (.mk (some T) ops) with
  | none => simp [hs] at hi
  | some subs =>
    simp only [hs] at hi
    exact C02_statement_semantics_asNames src db T ops subs st hjf hs hi hnames hside

end Pql.C02
