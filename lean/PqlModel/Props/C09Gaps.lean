/-
Property C09 — "… the tokens leave between them only white space and `//` comments".

* `IsSpaceRunePrefix x`   : `x` is exactly one UTF-8 rune and that rune is white space;
* `IsLineComment x y`     : `x` (followed by `y`) is a `//` comment: two slashes, a newline-free
                            body, and then the newline — or the end of the input (`y = []`);
* `IsTriviaStep x y`      : one of the two;
* `AllTrivia g`           : `g` is a concatenation of trivia steps.

`C09_skip_is_trivia` / `C09_trivia_is_skip`: a step of the scanner emits no token exactly on a
trivia step.  `C09_gaps_trivia`: for every byte string, the text before the first token, between
any two consecutive tokens and after the last token of `scan` is `AllTrivia`; scanning such a
gap alone yields no token (`C09_gaps_rescan_nil`), because a trivia step is one skipped step of the
scanner, of exactly that width (`scanOne_trivia`).

Helper lemmas: PqlModel/Lemmas/GapLemmas.lean.
-/
import PqlModel.Props.C09
import PqlModel.Lemmas.GapLemmas
namespace Pql.C09
open Pql

/-- `x` is exactly one rune (as Go decodes it) and the rune is white space (`unicode.IsSpace`) -/
def IsSpaceRunePrefix (x : Bytes) : Prop :=
  x ≠ [] ∧ (decodeRune x).2 = x.length ∧ isSpaceRune (decodeRune x).1 = true

/-- `x`, followed by `y`, is a `//` comment: it starts with the bytes 47 47 and extends to and
    including the next newline, or to the end of the input -/
def IsLineComment (x y : Bytes) : Prop :=
  ∃ body : Bytes, (∀ b ∈ body, b ≠ 10) ∧
    (x = 47 :: 47 :: (body ++ [10]) ∨ (x = 47 :: 47 :: body ∧ y = []))

/-- one step of trivia at the head of `x ++ y` -/
def IsTriviaStep (x y : Bytes) : Prop := IsSpaceRunePrefix x ∨ IsLineComment x y

inductive AllTrivia : Bytes → Prop
  | nil : AllTrivia []
  | step (x y : Bytes) : IsTriviaStep x y → AllTrivia y → AllTrivia (x ++ y)

/-- **C09 (skipped steps are trivia).** Whenever a step of the scanner emits no token, the bytes
    it consumes are one white-space rune or one `//` comment. -/
theorem C09_skip_is_trivia (c : UInt8) (rest : Bytes) (h : (scanOne (c :: rest)).tok = none) :
    IsTriviaStep ((c :: rest).take (scanOne (c :: rest)).width)
      ((c :: rest).drop (scanOne (c :: rest)).width) := by
  rcases scanOne_skip c rest h with ⟨hs, hw⟩ | ⟨rfl, t, rfl, hw⟩
  · left
    rw [hw]
    have hpos := decodeRune_width_pos c rest
    have hle := decodeRune_width_le (c :: rest)
    have hlen : ((c :: rest).take (decodeRune (c :: rest)).2).length = (decodeRune (c :: rest)).2 := by
      rw [List.length_take]; omega
    refine ⟨?_, ?_, ?_⟩
    · intro h0; rw [h0] at hlen; simp at hlen; omega
    · rw [decodeRune_take_self, hlen]
    · rw [decodeRune_take_self]; exact hs
  · right
    rw [hw]
    obtain ⟨body, hb, hor⟩ := commentLen_spec t
    refine ⟨body, hb, ?_⟩
    simp only [List.take_succ_cons, List.drop_succ_cons]
    rcases hor with h1 | ⟨h1, h2⟩
    · exact Or.inl (by rw [h1])
    · exact Or.inr ⟨by rw [h1], h2⟩

/-- **C09 (trivia is skipped).** Conversely, at a white-space rune and at `//` the scanner emits
    no token; with `C09_skip_is_trivia`, `scanOne` returns `tok = none` at these two heads and nowhere else. -/
theorem C09_trivia_is_skip (c : UInt8) (rest : Bytes)
    (h : isSpaceRune (decodeRune (c :: rest)).1 = true ∨ ∃ t, c :: rest = 47 :: 47 :: t) :
    (scanOne (c :: rest)).tok = none := by
  rcases h with h | ⟨t, ht⟩
  · -- white space is the first rule of the grammar
    rw [← pieceAt_eq_scanOne]
    simp [LexSpec.pieceAt, h, stepOfPiece]
  · obtain ⟨rfl, rfl⟩ := List.cons.inj ht
    rfl

theorem decodeRune_append_space (x z : Bytes) (h : isSpaceRune (decodeRune x).1 = true) :
    decodeRune (x ++ z) = decodeRune x := by
  cases x with
  | nil => exact absurd h (by decide)
  | cons b x =>
    simp only [List.cons_append, decodeRune_cons] at h ⊢
    split
    · rfl
    · rename_i hb
      simp only [hb, if_false] at h
      cases hm : decodeMulti b.toNat x with
      | some rw => rw [decodeMulti_append_mono _ x z rw hm]
      | none =>
        rw [hm] at h
        exact absurd h (by decide)

/-- **a trivia step is one skipped step of the scanner, of exactly that width** -/
theorem scanOne_trivia (x z : Bytes) (h : IsTriviaStep x z) : scanOne (x ++ z) = ⟨none, x.length⟩ := by
  rcases h with ⟨hne, hw, hs⟩ | ⟨body, hb, hor⟩
  · -- white space is the first rule of the grammar
    have hd := decodeRune_append_space x z hs
    cases x with
    | nil => exact absurd rfl hne
    | cons c rest =>
      rw [List.cons_append] at hd ⊢
      rw [← pieceAt_eq_scanOne]
      simp [LexSpec.pieceAt, hd, hs, hw, stepOfPiece]
  · rcases hor with rfl | ⟨rfl, rfl⟩
    · simp [scanOne_comment, commentLen_skip body (10 :: z) hb, commentLen]
    · have := commentLen_skip body [] hb
      rw [List.append_nil] at this
      simp [scanOne_comment, this, commentLen]

theorem triviaStep_ne_nil {x z : Bytes} (h : IsTriviaStep x z) : x ≠ [] := by
  rcases h with ⟨hne, _, _⟩ | ⟨body, _, hor⟩
  · exact hne
  · rcases hor with rfl | ⟨rfl, _⟩ <;> simp

theorem AllTrivia.scanFrom_nil {g : Bytes} (h : AllTrivia g) : ∀ off, scanFrom g off = [] := by
  induction h with
  | nil => exact Pql.scanFrom_nil
  | step x y hx _ ih =>
    intro off
    have hne : x ++ y ≠ [] := by simp [triviaStep_ne_nil hx]
    rw [scanFrom_step hne, scanOne_trivia x y hx, List.drop_left, ih]
    rfl

theorem IsTriviaStep.take {x y : Bytes} (h : IsTriviaStep x y) (k : Nat) :
    IsTriviaStep x (y.take k) := by
  rcases h with h | ⟨body, hb, hor⟩
  · exact Or.inl h
  · refine Or.inr ⟨body, hb, ?_⟩
    rcases hor with h1 | ⟨h1, h2⟩
    · exact Or.inl h1
    · exact Or.inr ⟨h1, by rw [h2]; simp⟩

theorem AllTrivia.of_split (s : Bytes) (w : Nat) (h1 : IsTriviaStep (s.take w) (s.drop w))
    (h2 : AllTrivia (s.drop w)) : AllTrivia s := by
  have := AllTrivia.step _ _ h1 h2
  rwa [List.take_append_drop] at this

theorem AllTrivia.of_split_take (s : Bytes) (w k : Nat) (h1 : IsTriviaStep (s.take w) (s.drop w))
    (h2 : AllTrivia ((s.drop w).take k)) : AllTrivia (s.take (w + k)) := by
  have := AllTrivia.step _ _ (h1.take k) h2
  rwa [← List.take_add] at this

/-- What is scanned before the first token (or, if there is no token, everything) is trivia. -/
theorem scanFrom_first_gap (s : Bytes) (off : Nat) :
    (scanFrom s off = [] → AllTrivia s) ∧
    (∀ t ts, scanFrom s off = t :: ts → AllTrivia (s.take (t.start - off))) := by
  fun_induction scanFrom s off with
  | case1 off => exact ⟨fun _ => AllTrivia.nil, fun t ts h => (by cases h)⟩
  | case2 off c rest st tl k v hk ih =>
    refine ⟨fun h => (by cases h), fun t ts h => ?_⟩
    simp only [List.cons.injEq] at h
    obtain ⟨rfl, _⟩ := h
    simp only [Nat.sub_self, List.take_zero]
    exact AllTrivia.nil
  | case3 off c rest st tl hk ih =>
    have hstep := C09_skip_is_trivia c rest hk
    refine ⟨fun h => AllTrivia.of_split _ _ hstep (ih.1 h), fun t ts h => ?_⟩
    have hb := mem_scanFrom_bounds (List.drop st.width (c :: rest)) (off + st.width) t
      (by show t ∈ tl; rw [h]; simp)
    have e : t.start - off = st.width + (t.start - (off + st.width)) := by omega
    rw [e]
    exact AllTrivia.of_split_take _ _ _ hstep (ih.2 t ts h)

/-- **C09 (gaps are trivia).** For every byte string `s`: if `scan s` has no token, all of `s`
    is trivia; otherwise the text before the first token, the text between any two consecutive
    tokens, and the text after the last token are concatenations of white-space runes and `//`
    comments. -/
theorem C09_gaps_trivia (s : Bytes) :
    (scan s = [] → AllTrivia s) ∧
    (∀ t ts, scan s = t :: ts → AllTrivia (s.take t.start)) ∧
    (∀ pre t1 t2 post, scan s = pre ++ t1 :: t2 :: post →
        AllTrivia ((s.drop t1.stop).take (t2.start - t1.stop))) ∧
    (∀ pre t, scan s = pre ++ [t] → AllTrivia (s.drop t.stop)) := by
  refine ⟨(scanFrom_first_gap s 0).1, ?_, ?_, ?_⟩
  · intro t ts h
    simpa using (scanFrom_first_gap s 0).2 t ts h
  · intro pre t1 t2 post h
    obtain ⟨_, -, -, -, -, -, -, hs⟩ := scanFrom_at s 0 pre t1 (t2 :: post) h
    exact (scanFrom_first_gap _ _).2 t2 post hs.symm
  · intro pre t h
    obtain ⟨_, -, -, -, -, -, -, hs⟩ := scanFrom_at s 0 pre t [] h
    exact (scanFrom_first_gap _ _).1 hs.symm

/-- **C09 (gaps rescan to nothing).** The text before the first token, between two consecutive
    tokens and after the last token, scanned on its own, yields no token. -/
theorem C09_gaps_rescan_nil (s : Bytes) :
    (∀ t ts, scan s = t :: ts → scan (s.take t.start) = []) ∧
    (∀ pre t1 t2 post, scan s = pre ++ t1 :: t2 :: post →
        scan ((s.drop t1.stop).take (t2.start - t1.stop)) = []) ∧
    (∀ pre t, scan s = pre ++ [t] → scan (s.drop t.stop) = []) :=
  have h := C09_gaps_trivia s
  ⟨fun t ts e => (h.2.1 t ts e).scanFrom_nil 0, fun pre t1 t2 post e => (h.2.2.1 pre t1 t2 post e).scanFrom_nil 0,
    fun pre t e => (h.2.2.2 pre t e).scanFrom_nil 0⟩

-- sanity test (evaluated): `a // c\n b` — the gap between the two tokens is " // c\n "
#guard (scan [97, 32, 47, 47, 32, 99, 10, 32, 98]).map (fun t => (t.start, t.stop)) = [(0, 1), (8, 9)]

end Pql.C09
