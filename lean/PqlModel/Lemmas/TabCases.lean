/-
Case analysis of the tabular productions `pOps`, `pOperator` and `pJoin`: each result of a
production is one of a few leaves, given here with what is known of the input at that leaf.  An
error leaf says where its error points and which tokens are left; an invariant that does not look
at that ignores those facts.

These eliminators serve an invariant of every result (a `motive` over the result).  Where a proof needs
the result as a term for one keyword, or that a name is none of the keywords, the equations of
Lemmas/TabDispatch.lean (`pOperator_count` … `pOperator_unknown`, `pJoin_eq`) are the view to use.
-/
import PqlModel.Model.Parse
namespace Pql

/-- What `pJoin` has read before the parenthesis: nothing, or `kind = flavor` (tokens `hd`);
    `e0` is the error for an unknown flavor. -/
def JoinHdr (hd : List Token) (kind ka : Span) (fl : Option Ident) (e0 : Errs) : Prop :=
  (hd = [] ∧ kind = .null ∧ ka = .null ∧ fl = none ∧ e0 = []) ∨
  (∃ t0 asg flt, hd = [t0, asg, flt] ∧ isIdentNamed t0 "kind" = true ∧ asg.kind = .assign ∧
    flt.kind = .ident ∧ kind = t0.span ∧ ka = asg.span ∧ fl = some ⟨flt.value, flt.span, false⟩ ∧
    e0 = if isJoinType flt.value then [] else errAt flt.span)

theorem JoinHdr.notNF {hd : List Token} {kind ka : Span} {fl : Option Ident} {e0 : Errs}
    (h : JoinHdr hd kind ka fl e0) : isNF e0 = false := by
  rcases h with ⟨-, -, -, -, rfl⟩ | ⟨t0, asg, flt, -, -, -, -, -, -, -, rfl⟩
  · rfl
  · split <;> rfl

/-- The part of `joinOperator` after the optional `kind = flavor`, as a function of what the header
    gave.  It is the text of `pJoin` (Model/Parse.lean) behind its `match hdr`, so unfolding
    `pJoin` at a known header leaves exactly `joinTail …`. -/
def joinTail (c : PCtx) (fuel : Nat) (pipe kw kind ka : Span) (fl : Option Ident) (e0 : Errs)
    (rest : List Token) : PRes Op :=
  match rest with
  | [] => ⟨.join pipe kw kind ka fl .null .nil .null .null .nil, e0 ++ errAt c.eof, []⟩
  | lp :: rest1 =>
    if lp.kind ≠ .lparen then
      ⟨.join pipe kw kind ka fl .null .nil .null .null .nil, e0 ++ errAt lp.span, rest1⟩
    else
      let sp := split .rparen rest1
      let rr := pTabular c fuel sp.1
      let e1 := e0 ++ mkOpaque rr.errs ++ endSplit rr.rest
      match sp.2 with
      | [] => ⟨.join pipe kw kind ka fl lp.span rr.val .null .null .nil, e1 ++ errAt c.eof, []⟩
      | rp :: rest2 =>
        if rp.kind ≠ .rparen then
          ⟨.join pipe kw kind ka fl lp.span rr.val .null .null .nil, e1 ++ errAt rp.span, rest2⟩
        else
          match rest2 with
          | [] => ⟨.join pipe kw kind ka fl lp.span rr.val rp.span .null .nil, e1 ++ errAt c.eof, []⟩
          | on :: rest3 =>
            if !isIdentNamed on "on" then
              ⟨.join pipe kw kind ka fl lp.span rr.val rp.span .null .nil, e1 ++ errAt on.span, rest3⟩
            else
              let rc := pExprList c fuel rest3
              ⟨.join pipe kw kind ka fl lp.span rr.val rp.span on.span rc.val,
                e1 ++ mkOpaque rc.errs, rc.rest⟩

/-- The leaves of `pJoin`: a broken header (`early`, after the tokens `pre`), no parenthesis
    (`noLp`), something missing after the right-hand side (`afterTab`), and the complete operator
    (`full`).  An error leaf complains about the first of the tokens `post` that were left, or about
    the end of input, and consumes that token. -/
theorem pJoin_cases {c : PCtx} {f : Nat} {pipe kw : Span} {ts : List Token} {motive : PRes Op → Prop}
    (early : ∀ (kind ka : Span) (pre post : List Token), ts = pre ++ post →
      (kind = .null ∨ ∃ t ∈ pre, kind = t.span) → (ka = .null ∨ ∃ t ∈ pre, ka = t.span) →
      motive ⟨.join pipe kw kind ka none .null .nil .null .null .nil, errAt (headSpan c post), post.tail⟩)
    (noLp : ∀ hd kind ka fl e0, JoinHdr hd kind ka fl e0 → ∀ post, ts = hd ++ post →
      (∀ lp rest1, post = lp :: rest1 → lp.kind ≠ .lparen) →
      motive ⟨.join pipe kw kind ka fl .null .nil .null .null .nil,
        e0 ++ errAt (headSpan c post), post.tail⟩)
    (afterTab : ∀ hd kind ka fl e0, JoinHdr hd kind ka fl e0 → ∀ lp rest1, ts = hd ++ lp :: rest1 →
      lp.kind = .lparen → ∀ rr, pTabular c f (split .rparen rest1).1 = rr →
      ∀ (rp : Span) (post : List Token),
      (rp = .null ∧ post = (split .rparen rest1).2) ∨
        (∃ rpTok, (split .rparen rest1).2 = rpTok :: post ∧ rpTok.kind = .rparen ∧ rp = rpTok.span) →
      motive ⟨.join pipe kw kind ka fl lp.span rr.val rp .null .nil,
        e0 ++ mkOpaque rr.errs ++ endSplit rr.rest ++ errAt (headSpan c post), post.tail⟩)
    (full : ∀ hd kind ka fl e0, JoinHdr hd kind ka fl e0 → ∀ lp rest1, ts = hd ++ lp :: rest1 →
      lp.kind = .lparen → ∀ rp on rest3, (split .rparen rest1).2 = rp :: on :: rest3 →
      rp.kind = .rparen → isIdentNamed on "on" = true →
      ∀ rr, pTabular c f (split .rparen rest1).1 = rr → ∀ rc, pExprList c f rest3 = rc →
      motive ⟨.join pipe kw kind ka fl lp.span rr.val rp.span on.span rc.val,
        e0 ++ mkOpaque rr.errs ++ endSplit rr.rest ++ mkOpaque rc.errs, rc.rest⟩) :
    motive (pJoin c (f + 1) pipe kw ts) := by
  have body : ∀ hd kind ka fl e0 rest, JoinHdr hd kind ka fl e0 → ts = hd ++ rest →
      motive (joinTail c f pipe kw kind ka fl e0 rest) := by
    intro hd kind ka fl e0 rest hh hts
    unfold joinTail
    cases rest with
    | nil => exact noLp _ _ _ _ _ hh [] hts fun _ _ h => nomatch h
    | cons lp rest1 =>
      dsimp only
      by_cases hlp : lp.kind = .lparen
      · rw [if_neg (not_not_intro hlp)]
        have aT := afterTab _ _ _ _ _ hh lp rest1 hts hlp _ rfl
        have fu := fun rp on rest3 h1 h2 h3 => full _ _ _ _ _ hh lp rest1 hts hlp rp on rest3 h1 h2 h3 _ rfl
        generalize (split .rparen rest1).2 = sp2 at aT fu
        cases sp2 with
        | nil => exact aT .null [] (Or.inl ⟨rfl, rfl⟩)
        | cons rp rest2 =>
          dsimp only
          by_cases hrp : rp.kind = .rparen
          · rw [if_neg (not_not_intro hrp)]
            cases rest2 with
            | nil => exact aT rp.span [] (Or.inr ⟨rp, rfl, hrp, rfl⟩)
            | cons on rest3 =>
              dsimp only
              cases hon : isIdentNamed on "on"
              · exact aT rp.span (on :: rest3) (Or.inr ⟨rp, rfl, hrp, rfl⟩)
              · exact fu rp on rest3 rfl hrp hon _ rfl
          · rw [if_pos hrp]; exact aT .null (rp :: rest2) (Or.inl ⟨rfl, rfl⟩)
      · rw [if_pos hlp]
        exact noLp _ _ _ _ _ hh (lp :: rest1) hts fun lp' rest' h => by cases h; exact hlp
  unfold pJoin
  dsimp only
  cases ts with
  | nil => exact early _ _ [] [] rfl (Or.inl rfl) (Or.inl rfl)
  | cons t0 rest0 =>
    dsimp only
    cases hkind : isIdentNamed t0 "kind"
    · exact body [] _ _ _ _ _ (Or.inl ⟨rfl, rfl, rfl, rfl, rfl⟩) rfl
    · simp only [if_true]
      have h0 : ∃ t ∈ [t0], t0.span = t.span := ⟨t0, List.mem_cons_self .., rfl⟩
      cases rest0 with
      | nil => exact early _ _ [t0] [] rfl (Or.inr h0) (Or.inl rfl)
      | cons asg rest1 =>
        dsimp only
        by_cases hasg : asg.kind = .assign
        · rw [if_neg (not_not_intro hasg)]
          have h0' : ∃ t ∈ [t0, asg], t0.span = t.span := ⟨t0, List.mem_cons_self .., rfl⟩
          have h1 : ∃ t ∈ [t0, asg], asg.span = t.span :=
            ⟨asg, List.mem_cons_of_mem _ (List.mem_cons_self ..), rfl⟩
          cases rest1 with
          | nil => exact early _ _ [t0, asg] [] rfl (Or.inr h0') (Or.inr h1)
          | cons flt rest2 =>
            dsimp only
            by_cases hfl : flt.kind = .ident
            · rw [if_neg (not_not_intro hfl)]
              exact body [t0, asg, flt] _ _ _ _ _
                (Or.inr ⟨t0, asg, flt, rfl, hkind, hasg, hfl, rfl, rfl, rfl, rfl⟩) rfl
            · rw [if_pos hfl]; exact early _ _ [t0, asg] (flt :: rest2) rfl (Or.inr h0') (Or.inr h1)
        · rw [if_pos hasg]; exact early _ _ [t0] (asg :: rest1) rfl (Or.inr h0) (Or.inl rfl)

/-- The leaves of the operator loop: it stops (no further pipe), it skips a segment that names no
    operator with an error (at the pipe if the segment is empty, else at its first token), or it appends the operator parsed from the segment. -/
theorem pOps_cases {c : PCtx} {f : Nat} {ops : OpList} {acc : Errs} {ts : List Token} {motive : PRes OpList → Prop}
    (stop : motive ⟨ops, acc, ts⟩)
    (skip : ∀ pipeTok rest (s : Span), ts = pipeTok :: rest → pipeTok.kind = .pipe →
      (s = pipeTok.span ∨ ∃ name opToks, (split .pipe rest).1 = name :: opToks ∧ s = name.span) →
      motive (pOps c f ops (acc ++ errAt s) (split .pipe rest).2))
    (op : ∀ pipeTok rest name opToks r, ts = pipeTok :: rest → pipeTok.kind = .pipe →
      (split .pipe rest).1 = name :: opToks → name.kind = .ident →
      pOperator c f pipeTok.span name opToks = some r →
      motive (pOps c f (ops.snoc r.val) (acc ++ r.errs ++ endSplit r.rest) (split .pipe rest).2)) :
    motive (pOps c (f + 1) ops acc ts) := by
  unfold pOps
  cases ts with
  | nil => exact stop
  | cons pipeTok rest =>
    dsimp only
    by_cases hp : pipeTok.kind = .pipe
    · rw [if_neg (not_not_intro hp)]
      have sk := fun s => skip pipeTok rest s rfl hp
      have o := op pipeTok rest
      generalize (split .pipe rest).1 = sp1 at sk o
      cases sp1 with
      | nil => exact sk _ (Or.inl rfl)
      | cons name opToks =>
        dsimp only
        by_cases hn : name.kind = .ident
        · rw [if_neg (not_not_intro hn)]
          have o := o name opToks
          generalize pOperator c f pipeTok.span name opToks = ro at o
          cases ro with
          | none => exact sk _ (Or.inr ⟨name, opToks, rfl, rfl⟩)
          | some r => exact o r rfl hp rfl hn rfl
        · rw [if_pos hn]; exact sk _ (Or.inr ⟨name, opToks, rfl, rfl⟩)
    · rw [if_pos hp]; exact stop

theorem or_of_beq_or {a b c : Bytes} (h : (a == b || a == c) = true) : a = b ∨ a = c :=
  (Bool.or_eq_true_iff.mp h).imp eq_of_beq eq_of_beq

/-- The leaves of `pOperator`, one per operator name, with the failures of `sort` and `top` before
    their `by` in `sortErr`, `topErr` and `topNoBy` (`sortErr` consumes the token it complains
    about, `topNoBy` does not). -/
theorem pOperator_cases {c : PCtx} {f : Nat} {pipe : Span} {name : Token} {ts : List Token}
    {motive : Option (PRes Op) → Prop}
    (count : name.value = Bytes.ofString "count" → motive (some ⟨.count pipe name.span, [], ts⟩))
    (where_ : name.value = Bytes.ofString "where" ∨ name.value = Bytes.ofString "filter" →
      ∀ r, pExpr c f ts = r → motive (some ⟨.where_ pipe name.span r.val, mkOpaque r.errs, r.rest⟩))
    (sortErr : name.value = Bytes.ofString "sort" ∨ name.value = Bytes.ofString "order" →
      (∀ by_ rest, ts = by_ :: rest → by_.kind ≠ .by_) →
      motive (some ⟨.sort pipe name.span [], errAt (headSpan c ts), ts.tail⟩))
    (sort : name.value = Bytes.ofString "sort" ∨ name.value = Bytes.ofString "order" →
      ∀ by_ rest, ts = by_ :: rest → by_.kind = .by_ →
      ∀ r, pSortTerms c f (rest.length + 1) [] rest = r →
      motive (some ⟨.sort pipe ⟨name.span.start, by_.stop⟩ r.val, r.errs, r.rest⟩))
    (take : name.value = Bytes.ofString "take" ∨ name.value = Bytes.ofString "limit" →
      ∀ r, pRowCount c f ts = r → motive (some ⟨.take pipe name.span r.val, mkOpaque r.errs, r.rest⟩))
    (topErr : name.value = Bytes.ofString "top" → ∀ r, pRowCount c f ts = r → r.errs ≠ [] →
      motive (some ⟨.top pipe name.span r.val .null none, mkOpaque r.errs, r.rest⟩))
    (topNoBy : name.value = Bytes.ofString "top" → ∀ r, pRowCount c f ts = r → r.errs = [] →
      (∀ by_ rest, r.rest = by_ :: rest → by_.kind ≠ .by_) →
      motive (some ⟨.top pipe name.span r.val .null none, errAt (headSpan c r.rest), r.rest⟩))
    (top : name.value = Bytes.ofString "top" → ∀ r, pRowCount c f ts = r → r.errs = [] →
      ∀ by_ rest, r.rest = by_ :: rest → by_.kind = .by_ → ∀ rt, pSortTerm c f rest = rt →
      motive (some ⟨.top pipe name.span r.val by_.span rt.val, mkOpaque rt.errs, rt.rest⟩))
    (project : name.value = Bytes.ofString "project" →
      ∀ r, pProjectCols c f (ts.length + 1) [] ts = r → motive (some ⟨.project pipe name.span r.val, r.errs, r.rest⟩))
    (extend : name.value = Bytes.ofString "extend" →
      ∀ r, pExtendCols c f (ts.length + 1) [] ts = r → motive (some ⟨.extend pipe name.span r.val, r.errs, r.rest⟩))
    (summarize : name.value = Bytes.ofString "summarize" → motive (some (pSummarize c f pipe name.span ts)))
    (join : name.value = Bytes.ofString "join" → motive (some (pJoin c f pipe name.span ts)))
    (as_ : name.value = Bytes.ofString "as" →
      ∀ r, pIdent c ts = r → motive (some ⟨.as_ pipe name.span r.val, mkOpaque r.errs, r.rest⟩))
    (render : name.value = Bytes.ofString "render" → motive (some (pRender c f pipe name.span ts)))
    (unknown : motive none) :
    motive (pOperator c (f + 1) pipe name ts) := by
  unfold pOperator
  dsimp only
  by_cases h1 : (name.value == Bytes.ofString "count") = true
  · rw [if_pos h1]; exact count (eq_of_beq h1)
  rw [if_neg h1]
  by_cases h2 : (name.value == Bytes.ofString "where" || name.value == Bytes.ofString "filter") = true
  · rw [if_pos h2]; exact where_ (or_of_beq_or h2) _ rfl
  rw [if_neg h2]
  by_cases h3 : (name.value == Bytes.ofString "sort" || name.value == Bytes.ofString "order") = true
  · rw [if_pos h3]
    cases ts with
    | nil => exact sortErr (or_of_beq_or h3) fun _ _ h => nomatch h
    | cons by_ rest =>
      dsimp only
      by_cases hby : by_.kind = .by_
      · rw [if_neg (not_not_intro hby)]; exact sort (or_of_beq_or h3) by_ rest rfl hby _ rfl
      · rw [if_pos hby]; exact sortErr (or_of_beq_or h3) fun by' rest' h => by cases h; exact hby
  rw [if_neg h3]
  by_cases h4 : (name.value == Bytes.ofString "take" || name.value == Bytes.ofString "limit") = true
  · rw [if_pos h4]; exact take (or_of_beq_or h4) _ rfl
  rw [if_neg h4]
  by_cases h5 : (name.value == Bytes.ofString "top") = true
  · rw [if_pos h5]
    by_cases he : (pRowCount c f ts).errs = []
    · rw [if_neg (not_not_intro he)]
      have tN := topNoBy (eq_of_beq h5) _ rfl he
      have tB := top (eq_of_beq h5) _ rfl he
      generalize (pRowCount c f ts).rest = rrest at tN tB
      cases rrest with
      | nil => exact tN fun _ _ h => nomatch h
      | cons by_ rest =>
        dsimp only
        by_cases hby : by_.kind = .by_
        · rw [if_neg (not_not_intro hby)]; exact tB by_ rest rfl hby _ rfl
        · rw [if_pos hby]; exact tN fun by' rest' h => by cases h; exact hby
    · rw [if_pos he]; exact topErr (eq_of_beq h5) _ rfl he
  rw [if_neg h5]
  by_cases h6 : (name.value == Bytes.ofString "project") = true
  · rw [if_pos h6]; exact project (eq_of_beq h6) _ rfl
  rw [if_neg h6]
  by_cases h7 : (name.value == Bytes.ofString "extend") = true
  · rw [if_pos h7]; exact extend (eq_of_beq h7) _ rfl
  rw [if_neg h7]
  by_cases h8 : (name.value == Bytes.ofString "summarize") = true
  · rw [if_pos h8]; exact summarize (eq_of_beq h8)
  rw [if_neg h8]
  by_cases h9 : (name.value == Bytes.ofString "join") = true
  · rw [if_pos h9]; exact join (eq_of_beq h9)
  rw [if_neg h9]
  by_cases h10 : (name.value == Bytes.ofString "as") = true
  · rw [if_pos h10]; exact as_ (eq_of_beq h10) _ rfl
  rw [if_neg h10]
  by_cases h11 : (name.value == Bytes.ofString "render") = true
  · rw [if_pos h11]; exact render (eq_of_beq h11)
  rw [if_neg h11]
  exact unknown

end Pql
