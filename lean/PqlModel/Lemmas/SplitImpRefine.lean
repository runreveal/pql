/-
The refinement proof: `SplitImp.splitQueriesI` / `loopI` (imperative: heap, slice of pointers,
`lastSubquery` pointer) against the functional model's `splitQueries` / `splitOps`, by one mutual
structural induction over `Tabular` / `OpList` (so for every length and every nesting of joins).
-/
import PqlModel.Lemmas.SplitImpOps
namespace Pql.SplitImp
open Pql SplitQ

/-! Machine and model stop with the same error, or succeed with related results: `ExRel` (Lemmas/ScopeParen.lean). -/

/-- what a successful call `splitQueries(dst, …)` on heap `h` returns: `Post` seen from the caller (`frame` protects
    every object that existed at the call), and at least one pointer has been added -/
structure PostQ (h : Heap) (dst : List Addr) (h' : Heap) (dst' : List Addr) (out : List Subquery) : Prop where
  abs_eq : abs h' dst' = out
  valid : ∀ a ∈ dst', a < h'.size
  grows : dst.length < dst'.length
  frame : Frame h.size h h'
  ext : ∃ new, dst' = dst ++ new ∧ ∀ a ∈ new, h.size ≤ a

theorem finishI_ok {n0 k : Nat} {st : St} (inv : Inv n0 k st) (source : Option Ident)
    (hs : source.isSome = true) :
    ∃ st', finishI source k st = .ok (st'.heap, st'.dst) ∧ k < st'.dst.length ∧
      Post n0 k st st' (closeBlock (abs st.heap st.dst) k source) := by
  unfold finishI closeBlock
  rw [abs_length]
  by_cases hlen : st.dst.length = k
  · simp only [if_pos hlen, bind, Except.bind, stChain_ok source k st inv.valid (fun _ => hs),
      stAppend_some, pure, Except.pure]
    refine ⟨_, rfl, ?_, post_fresh inv _⟩
    simp only [List.length_append, List.length_singleton]; omega
  · simp only [if_neg hlen, bind, Except.bind, pure, Except.pure]
    refine ⟨st, rfl, ?_, rfl, inv, Frame.refl _ _, [], by simp, by simp⟩
    have := inv.start_le; omega

mutual
theorem refines_tab (src : Bytes) (scope : List (Bytes × List Chunk)) :
    ∀ (t : Tabular) (h : Heap) (dst : List Addr), (∀ a ∈ dst, a < h.size) → skeletonOk t = true →
      ExRel (fun r out => PostQ h dst r.1 r.2 out) (splitQueriesI src scope h dst t)
        (splitQueries src scope (abs h dst) t)
  | .nil, h, dst, _, _ => by
    unfold splitQueriesI splitQueries
    exact rfl
  | .mk source ops, h, dst, hv, hg => by
    simp only [skeletonOk, Bool.and_eq_true] at hg
    rw [splitQueries_mk, abs_length]
    unfold splitQueriesI
    refine (refines_ops src scope ops source dst.length ⟨h, dst, none⟩ h.size
      ⟨hv, Nat.le_refl _, Nat.le_refl _, rfl⟩ hg.1 hg.2).bind fun st1 mid post1 => ?_
    obtain ⟨st2, hf, hlt, post2⟩ := finishI_ok post1.inv source hg.1
    have post := post1.trans post2
    rw [post1.abs_eq] at post
    rw [hf]
    exact ⟨post.abs_eq, post.inv.valid, hlt, post.frame, post.ext⟩
theorem refines_ops (src : Bytes) (scope : List (Bytes × List Chunk)) :
    ∀ (ops : OpList) (source : Option Ident) (k : Nat) (st : St) (n0 : Nat), Inv n0 k st →
      source.isSome = true → opsOk ops = true →
      ExRel (Post n0 k st) (loopI src scope source k st ops) (splitOps src scope source k (abs st.heap st.dst) ops)
  | .nil, source, k, st, n0, inv, _, _ => by
    unfold loopI splitOps
    exact ⟨rfl, inv, Frame.refl _ _, [], by simp, by simp⟩
  | .cons o rest, source, k, st, n0, inv, hs, hg => by
    have step : steps o = true → isJoin o = false → ExRel (Post n0 k st) (loopI src scope source k st (.cons o rest))
        (splitOps src scope source k (abs st.heap st.dst) (.cons o rest)) := fun ho hj => by
      obtain ⟨st1, h1, post⟩ := stepI_place inv source hs ho hg
      have ih := refines_ops src scope rest source k st1 n0 post.inv hs (opsOk_tail hg)
      rw [post.abs_eq] at ih
      rw [loopI_cons _ _ _ _ _ _ _ hj, splitOps_step _ _ _ _ _ ho, h1]
      exact ih.mono fun _ _ => post.trans
    cases o with
    | join p kw kind ka flavor lp right rp on conds =>
      simp only [opsOk, Bool.and_eq_true] at hg
      rw [loopI_join, splitOps_join]
      refine (refines_tab src scope right st.heap st.dst inv.valid hg.1).bind fun r out postq => ?_
      rw [joinTailI_ok src scope source hs k st.dst.length flavor conds r.1 r.2 st.last postq.valid postq.grows,
        postq.abs_eq, abs_length]
      cases joinSub src scope source k st.dst.length flavor conds out with
      | error e => exact rfl
      | ok J =>
        -- the state after `lastSubquery = &J; dst = append(dst, lastSubquery)`
        have hb : n0 ≤ r.1.size := Nat.le_trans inv.base postq.frame.1
        have post : Post n0 k st ⟨r.1.push J, r.2 ++ [r.1.size], some r.1.size⟩ (out ++ [J]) := by
          refine ⟨postq.abs_eq ▸ abs_push_snoc _ _ postq.valid,
            inv_fresh _ postq.valid hb (Nat.le_trans inv.start_le (Nat.le_of_lt postq.grows)),
            (Frame.mono inv.base postq.frame).trans (Frame.push _ _ _ hb), ?_⟩
          obtain ⟨new, hnew, hge⟩ := postq.ext
          refine ⟨new ++ [r.1.size], by rw [hnew, List.append_assoc], fun x hx => ?_⟩
          rcases List.mem_append.mp hx with hx | hx
          · exact hge x hx
          · rw [List.mem_singleton.mp hx]
            exact postq.frame.1
        have ih := refines_ops src scope rest source k _ n0 post.inv hs hg.2
        rw [post.abs_eq] at ih
        exact ih.mono fun _ _ => post.trans
    | top p kw n b col =>
      cases col with
      | none =>
        rw [loopI_cons _ _ _ _ _ _ _ rfl, stepI_top_none inv source hs, splitOps]
        exact rfl
      | some c => exact step rfl rfl
    | _ => exact step rfl rfl
end

end Pql.SplitImp
