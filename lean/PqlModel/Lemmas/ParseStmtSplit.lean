/-
C05, syntactic half, stage 1: the model's `splitQueries` is the intended splitting `Intended.splitA`
followed by erasing the structured sources (`erase`): whenever `splitQueries` succeeds, `splitA`
is defined and its links erase to exactly the subqueries `splitQueries` produced.
-/
import PqlModel.Lemmas.ParseStmtDefs
import PqlModel.Lemmas.ScopeProgram
import PqlModel.Lemmas.SplitASim
namespace Pql.C05
open Pql Sql CompileOracle Intended

section
variable {src : Bytes} {scope : List (Bytes × List Chunk)}

theorem eraseRel_iff {a : SubA} {s : Subquery} : EraseRel src scope a s ↔ SubRel src scope a s := by
  have hsrc : ∀ cs, eraseSrc src scope a.source = .ok cs ↔ SrcRel src scope a.source cs := by
    intro cs
    cases a.source with
    | table n => simp only [eraseSrc, SrcRel, Except.ok.injEq]; exact eq_comm
    | join u l ln rn cond =>
      simp only [eraseSrc, SrcRel]
      cases writeExpr ⟨src, scope, .join⟩ cond with
      | error e => exact ⟨fun h => (nomatch h), fun ⟨c, hc, _⟩ => (nomatch hc)⟩
      | ok c =>
        exact ⟨fun h => ⟨c, rfl, (Except.ok.inj h).symm⟩, fun ⟨c', hc, h⟩ => by cases hc; exact congrArg _ h.symm⟩
  exact ⟨fun h => ⟨h.name.symm, h.op.symm, h.sort.symm, h.take.symm, (hsrc _).1 h.source⟩,
    fun h => ⟨h.name.symm, (hsrc _).2 h.source, h.op.symm, h.sort.symm, h.take.symm⟩⟩

theorem listRel_iff {l : List SubA} {l' : List Subquery} :
    ListRel (EraseRel src scope) l l' ↔ Forall₂ (SubRel src scope) l l' :=
  ⟨fun h => forall₂_iff.2 (h.imp fun _ _ => eraseRel_iff.1), fun h => (forall₂_iff.1 h).imp fun _ _ => eraseRel_iff.2⟩

end

theorem splitQueries_refines (src : Bytes) (scope : List (Bytes × List Chunk))
    (t : Tabular) (dst : List Subquery) (dstA : List SubA) (hd : ListRel (EraseRel src scope) dstA dst)
    (out : List Subquery) (h : splitQueries src scope dst t = .ok out) :
    ∃ outA, splitA dstA t = some outA ∧ ListRel (EraseRel src scope) outA out ∧ dst.length ≤ out.length := by
  have := splitQueries_sim src scope t dstA dst (listRel_iff.1 hd)
  rw [h] at this
  obtain ⟨_, outA, hA, hr⟩ := this
  exact ⟨outA, hA, listRel_iff.2 hr, Nat.le_of_lt (C05_length_grows src scope t dst out h).2⟩

theorem splitOps_refines (src : Bytes) (scope : List (Bytes × List Chunk)) :
    (ops : OpList) → (source : Option Ident) → (ds : Nat) → (dst : List Subquery) → (dstA : List SubA) →
    ListRel (EraseRel src scope) dstA dst →
    (out : List Subquery) → splitOps src scope source ds dst ops = .ok out →
    ∃ outA, splitOpsA source ds dstA ops = some outA ∧ ListRel (EraseRel src scope) outA out ∧ dst.length ≤ out.length := by
  intro ops source ds dst dstA hd out h
  have := splitOps_sim src scope ops source ds dstA dst (listRel_iff.1 hd)
  rw [h] at this
  obtain ⟨_, outA, hA, hr⟩ := this
  exact ⟨outA, hA, listRel_iff.2 hr, (C05_length_grows_ops src scope source ds dst out ops h).2.1⟩

theorem split_refines (src : Bytes) (scope : List (Bytes × List Chunk)) (t : Tabular) (dst : List Subquery)
    (dstA : List SubA) (hd : dstA.mapM (erase src scope) = .ok dst) (out : List Subquery)
    (h : splitQueries src scope dst t = .ok out) :
    ∃ outA, splitA dstA t = some outA ∧ outA.mapM (erase src scope) = .ok out := by
  obtain ⟨outA, h1, h2, _⟩ := splitQueries_refines src scope t dst dstA ((eraseAll_iff _ _).1 hd) out h
  exact ⟨outA, h1, (eraseAll_iff _ _).2 h2⟩

/-- `T | count | join kind=leftouter (U) on k | take 5` -/
def demoT : Tabular :=
  .mk (some ⟨Bytes.ofString "T", .zero, false⟩)
    (.cons (.count .zero .zero)
      (.cons (.join .zero .zero .zero .zero (some ⟨Bytes.ofString "leftouter", .zero, false⟩) .zero
          (.mk (some ⟨Bytes.ofString "U", .zero, false⟩) .nil) .zero .zero
          (.cons (.qident [⟨Bytes.ofString "k", .zero, false⟩]) .nil))
        (.cons (.take .zero .zero (.lit .zero .number (Bytes.ofString "5"))) .nil)))

/-- the hypotheses of `split_refines` hold on `demoT`: the splitter succeeds, with three links
    (`count`; the right side `U`; the join, to which `take` attaches) -/
theorem demo_ok : ∃ out, splitQueries [] [] [] demoT = .ok out ∧ out.length = 3 :=
  ⟨_, rfl, rfl⟩

example : ∃ out outA, splitQueries [] [] [] demoT = .ok out ∧ out.length = 3 ∧
    splitA [] demoT = some outA ∧ outA.mapM (erase [] []) = .ok out := by
  obtain ⟨out, h, hl⟩ := demo_ok
  obtain ⟨outA, h1, h2⟩ := split_refines [] [] demoT [] [] rfl out h
  exact ⟨out, outA, h, hl, h1, h2⟩

/-- the pointwise form, starting from a non-empty chain -/
example : ∃ out outA, splitQueries [] [] [{ name := Bytes.ofString "a", source := [.qid (Bytes.ofString "V")] }] demoT = .ok out ∧
    splitA [{ name := Bytes.ofString "a", source := .table (Bytes.ofString "V") }] demoT = some outA ∧
    ListRel (EraseRel [] []) outA out ∧ out.length = 4 := by
  have h : ∃ out, splitQueries [] [] [{ name := Bytes.ofString "a", source := [.qid (Bytes.ofString "V")] }] demoT = .ok out ∧
      out.length = 4 := ⟨_, rfl, rfl⟩
  obtain ⟨out, h, hl⟩ := h
  obtain ⟨outA, h1, h2, _⟩ := splitQueries_refines [] [] demoT _
    [{ name := Bytes.ofString "a", source := .table (Bytes.ofString "V") }] (.cons ⟨rfl, rfl, rfl, rfl, rfl⟩ .nil) out h
  exact ⟨out, outA, h, h1, h2, hl⟩


end Pql.C05
