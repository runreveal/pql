/-
C05, syntactic half, stage 2: `op_spec` — for every operator a link can carry, the body
`bodyOf` writes under a scope is `SELECT items FROM source [WHERE …] [GROUP BY …]` with items and clauses that are
read back as `SelSem.partsOf` prescribes for the operator with the bindings resolved (`substOp env`).

One SELECT — what `Subquery.write` emits under a scope for an
erased link is read by `pSelect` as the intended SELECT `selOf` of the link with the bindings resolved,
field by field up to `normS`.
-/
import PqlModel.Lemmas.ParseStmtOps
namespace Pql.C05
set_option linter.unusedSimpArgs false
open Pql Sql CompileOracle Intended Pql.RT
open Pql.E2EFinal (substSrcA substSubA)
open Pql.SelSem (partsOf)

def OpSpec (src : Bytes) (op : Option Op) (source body : List Chunk) : Prop :=
  ∃ itemTs mid witems wwh wgb,
    toksOf body = RT.W "SELECT" :: (sepToks itemTs ++ RT.W "FROM" :: (toksOf source ++ mid)) ∧
    ListRel ItemP itemTs witems ∧ itemTs ≠ [] ∧ MidP mid wwh wgb ∧
    partsOf src op = some (witems, wwh, wgb)

set_option linter.unusedVariables false in
theorem star_spec (src : Bytes) (source : List Chunk) :
    ∃ itemTs, RT.W "SELECT" :: S "*" :: RT.W "FROM" :: toksOf source =
        RT.W "SELECT" :: (sepToks itemTs ++ RT.W "FROM" :: (toksOf source ++ [])) ∧
      ListRel ItemP itemTs [starItem] ∧ itemTs ≠ [] :=
  ⟨[[S "*"]], by simp [sepToks], .cons itemP_star .nil, by simp⟩

section
variable {src : Bytes} {scope : Scope} {env : List (Bytes × Expr)} (rt : ExprRT src scope env)
include rt

theorem op_spec (op : Option Op) (hn : env = [] ∨ optColsNamed op) (hok : opOK (op.map (substOp env)) = true)
    (source : List Chunk) (b : Option (List Chunk))
    (hb : bodyOf ⟨src, scope, .default⟩ op source = .ok b) :
    ∃ body, b = some body ∧ OpSpec src (op.map (substOp env)) source body := by
  have plain : ∀ o : Option Op, bodyOf ⟨src, scope, .default⟩ o source = .ok (some (.txt "SELECT * FROM " :: source)) →
      partsOf src (o.map (substOp env)) = some ([starItem], none, []) →
      bodyOf ⟨src, scope, .default⟩ o source = .ok b → ∃ body, b = some body ∧ OpSpec src (o.map (substOp env)) source body := by
    intro o h1 h2 h3
    rw [h1] at h3
    simp only [Except.ok.injEq] at h3
    subst h3
    exact ⟨_, rfl, [[S "*"]], [], [starItem], none, [], by simp [sepToks], .cons itemP_star .nil, by simp, midP_nil, h2⟩
  rcases op with _ | o
  · exact plain none rfl rfl hb
  cases o with
  | as_ p k n => exact plain _ rfl rfl hb
  | sort => simp [opOK, substOp] at hok
  | take => simp [opOK, substOp] at hok
  | top => simp [opOK, substOp] at hok
  | join => simp [opOK, substOp] at hok
  | where_ p k pred =>
    simp only [Option.map_some, substOp, opOK] at hok
    simp only [bodyOf] at hb
    obtain ⟨pc, hp, hb⟩ := LexRender.bind_ok hb
    cases hb
    obtain ⟨want, ht, hP⟩ := rt.default hok hp
    refine ⟨_, rfl, [[S "*"]], RT.W "WHERE" :: toksOf pc, [starItem], some want, [], by simp [sepToks],
      .cons itemP_star .nil, by simp, midP_where hP, ?_⟩
    simp only [Option.map_some, substOp, partsOf, ht, Option.bind_eq_bind, Option.bind_some, Option.pure_def]
  | count p k =>
    simp only [bodyOf, pure, Except.pure, Except.ok.injEq] at hb
    subst hb
    refine ⟨_, rfl, [[RT.W "COUNT", S "(", S "*", S ")", RT.W "AS", .qid (Bytes.ofString "count()")]], [], _, none, [],
      by simp [sepToks], .cons ?_ .nil, by simp, midP_nil, rfl⟩
    exact itemP_alias countStarP.toExpr up_AS (Bytes.ofString "count()")
  | project p k cols =>
    simp only [Option.map_some, substOp, opOK, Bool.and_eq_true, Bool.not_eq_true', List.isEmpty_eq_false_iff] at hok
    have hb' : (do let cs ← cols.mapM (projCol ⟨src, scope, .default⟩)
                   pure (some (Chunk.txt "SELECT " :: sepChunks ", " cs ++ .txt " FROM " :: source)) :
                Except WErr (Option (List Chunk))) = .ok b := hb
    obtain ⟨cs, hcs, hb'⟩ := LexRender.bind_ok hb'
    cases hb'
    obtain ⟨witems, hw, hrel⟩ := projCols_spec rt cols cs hok.2 hcs
    have hne : cs.map toksOf ≠ [] := ne_nil_of_rel hrel (by
      intro he
      have := mapM_length hw
      rw [he] at this
      exact hok.1 (List.length_eq_zero_iff.1 this.symm))
    refine ⟨_, rfl, cs.map toksOf, [], witems, none, [], by simp [toksOf_sepChunks], hrel, hne, midP_nil, ?_⟩
    simp only [Option.map_some, substOp, partsOf, hw, Option.bind_eq_bind, Option.bind_some, Option.pure_def]
  | extend p k cols =>
    simp only [Option.map_some, substOp, opOK] at hok
    simp only [bodyOf] at hb
    obtain ⟨cs, hcs, hb⟩ := LexRender.bind_ok hb
    cases hb
    obtain ⟨witems, hw, hrel⟩ := writeColumns_spec rt cols hn cs hok hcs
    refine ⟨_, rfl, [S "*"] :: cs.map toksOf, [], starItem :: witems, none, [],
      by simp [toksOf_commaFlat, sepToks_cons], .cons itemP_star hrel, by simp, midP_nil, ?_⟩
    simp only [Option.map_some, substOp, partsOf, hw, Option.bind_eq_bind, Option.bind_some, Option.pure_def]
  | summarize p k cols byS groupBy =>
    simp only [Option.map_some, substOp, opOK, Bool.and_eq_true, Bool.not_eq_true', List.isEmpty_eq_false_iff] at hok
    simp only [bodyOf] at hb
    obtain ⟨gs, hgs, hb⟩ := LexRender.bind_ok hb
    obtain ⟨cs, hcs, hb⟩ := LexRender.bind_ok hb
    obtain ⟨gb, hgb, hb⟩ := LexRender.bind_ok hb
    cases hb
    obtain ⟨wgs, hwgs, hrg⟩ := writeColumns_spec rt groupBy (hn.imp id (·.2)) gs hok.2 hgs
    obtain ⟨wcs, hwcs, hrc⟩ := writeColumns_spec rt cols (hn.imp id (·.1)) cs hok.1.2 hcs
    obtain ⟨wgb, hwgb, hrb⟩ := groupExprs_spec rt groupBy (hn.imp id (·.2)) gb hok.2 hgb
    have hrel : ListRel ItemP ((gs ++ cs).map toksOf) (wgs ++ wcs) := by
      rw [List.map_append]; exact hrg.append hrc
    have hne : (gs ++ cs).map toksOf ≠ [] := ne_nil_of_rel hrel (by
      intro he
      have h1 := mapM_length hwgs
      have h2 := mapM_length hwcs
      have : (wgs ++ wcs).length = 0 := by rw [he]; rfl
      rw [List.length_append, h1, h2, ← List.length_append] at this
      exact hok.1.1 (List.length_eq_zero_iff.1 this))
    have hbody : partsOf src (Option.map (substOp env) (some (.summarize p k cols byS groupBy))) =
        some (wgs ++ wcs, none, wgb) := by
      simp only [Option.map_some, substOp, partsOf, hwgs, hwcs, hwgb, Option.bind_eq_bind, Option.bind_some, Option.pure_def]
    cases hE : groupBy with
    | nil =>
      subst hE
      simp only [List.mapM_nil, pure, Except.pure, Except.ok.injEq] at hgb
      subst hgb
      simp only [List.map_nil, List.mapM_nil, Option.pure_def, Option.some.injEq] at hwgb
      subst hwgb
      exact ⟨_, rfl, (gs ++ cs).map toksOf, [], wgs ++ wcs, none, [], by simp [toksOf_sepChunks], hrel, hne,
        midP_nil, hbody⟩
    | cons g gs' =>
      rw [hE] at hwgb
      have hgne : gb.map toksOf ≠ [] := ne_nil_of_rel hrb (by
        intro he
        have := mapM_length hwgb
        rw [he] at this
        simp at this)
      refine ⟨_, rfl, (gs ++ cs).map toksOf, RT.W "GROUP" :: RT.W "BY" :: sepToks (gb.map toksOf), wgs ++ wcs, none, wgb,
        by simp [toksOf_sepChunks], hrel, hne, midP_group hrb hgne, ?_⟩
      rw [← hE]
      exact hbody
  | render p k chart w lp props rp =>
    simp only [bodyOf, pure, Except.pure, Except.ok.injEq] at hb
    subst hb
    refine ⟨_, rfl, [S "*"] :: [.str (identName chart), RT.W "as", .qid (Bytes.ofString "render_type")] ::
        props.map (fun pr => [STok.str (renderPropValue pr.value), RT.W "as",
          .qid (Bytes.ofString "render_prop_" ++ identName pr.name)]), [], _, none, [],
      ?_, .cons itemP_star (.cons ?_ ?_), by simp, midP_nil, rfl⟩
    · simp only [sepToks_cons, List.flatMap_cons]
      have : ∀ ps : List RenderProp, toksOf (ps.flatMap fun pr =>
            [.txt ",\n    ", .qstr (renderPropValue pr.value), .txt " as ",
             .qid (Bytes.ofString "render_prop_" ++ identName pr.name)]) =
          (ps.map fun pr => [STok.str (renderPropValue pr.value), RT.W "as",
            .qid (Bytes.ofString "render_prop_" ++ identName pr.name)]).flatMap fun y => S "," :: y := by
        intro ps
        induction ps with
        | nil => rfl
        | cons pr ps ih => simp [ih]
      simp [this]
    · exact itemP_alias (E := [.str (identName chart)]) (strP _).toExpr up_as (Bytes.ofString "render_type")
    · clear hok plain hn
      induction props with
      | nil => exact .nil
      | cons pr ps ih =>
        exact .cons (itemP_alias (E := [.str (renderPropValue pr.value)]) (strP _).toExpr up_as _) ih


end

end Pql.C05

namespace Pql.C05
set_option linter.unusedSimpArgs false
open Pql Sql CompileOracle Intended Pql.RT
open Pql.E2EFinal (substSrcA substSubA substSubA_nil)

section
variable {src : Bytes} {scope : Scope} {env : List (Bytes × Expr)} (rt : ExprRT src scope env)
include rt

theorem select_parse_under (a : SubA) (sub : Subquery) (cs : List Chunk) (rest : List STok)
    (he : EraseRel src scope a sub) (hn : env = [] ∨ optColsNamed a.op) (hok : subOK (substSubA env a) = true)
    (hw : sub.write ⟨src, scope, .default⟩ = .ok cs) (hrest : Closer rest) :
    ∃ sel want, pSelect (toksOf cs ++ rest) = some (sel, rest) ∧ selOf src (substSubA env a) = some want ∧
      SelRel sel want := by
  simp only [subOK, Bool.and_eq_true] at hok
  obtain ⟨⟨⟨hsrcOK, hopOK⟩, hsortOK⟩, htakeOK⟩ := hok
  rw [write_eq, he.op, he.sort, he.take] at hw
  obtain ⟨b, hb, hw⟩ := LexRender.bind_ok hw
  obtain ⟨body, rfl, itemTs, mid, witems, wwh, wgb, htoks, hitems, hne, ⟨hmidEnds, hmidParse⟩, hparts⟩ :=
    op_spec rt a.op hn hopOK sub.source b hb
  have hw' : tailOf ⟨src, scope, .default⟩ a.sort a.take (some body) = .ok cs := hw
  obtain ⟨tl, wob, wlim, hcs, hord, hlim, htlEnds, htlParse⟩ :=
    tail_spec rt a.sort a.take hsortOK htakeOK body cs hw'
  obtain ⟨wsrc, wjn, hsrcA, hsrcParse⟩ := src_spec rt a.source hsrcOK sub.source he.source
  have E5 := htlEnds rest hrest
  have E3 := hmidEnds _ E5
  obtain ⟨items, h1, relItems⟩ := pItems_select hitems hne (toksOf sub.source ++ (mid ++ (tl ++ rest)))
  obtain ⟨jn, r3, h2, h3, relJoin⟩ := hsrcParse _ E3
  obtain ⟨wh, gb, r5, h4, h5, relWh, relGb⟩ := hmidParse _ E5
  obtain ⟨ob, lim, r7, h6, h7, relOb, relLim⟩ := htlParse rest hrest
  have hsel := pSelect_build h1 h2 h3 h4 h5 h6 h7
  refine ⟨{ items, source := wsrc, join := jn, where_ := wh, groupBy := gb, orderBy := ob, limit := lim }, _, ?_,
    SelSem.selOf_of_parts (a := substSubA env a) hsrcA hparts hord hlim,
    ⟨rfl, relItems, rfl, relJoin, relWh, relGb, relOb, relLim⟩⟩
  rw [← hsel, hcs, htoks]
  simp only [List.append_assoc, List.cons_append]

end

theorem select_parse (src : Bytes) (a : SubA) (sub : Subquery) (cs : List Chunk) (rest : List STok)
    (he : EraseRel src [] a sub) (hok : subOK a = true)
    (hw : sub.write ⟨src, [], .default⟩ = .ok cs) (hrest : Closer rest) :
    ∃ sel want, pSelect (toksOf cs ++ rest) = some (sel, rest) ∧ selOf src a = some want ∧ SelRel sel want := by
  have h := select_parse_under (ExprRT.nil src) a sub cs rest he (.inl rfl)
  rw [substSubA_nil] at h
  exact h hok hw hrest

end Pql.C05
