/-
The cursor of the scanner on a string `pre ++ s` at offset `k` of `s` (`hp`), the rune `next`
delivers there versus the byte of the model.
-/
import PqlModel.Lemmas.LexIRCore
import PqlModel.Lemmas.LexBasic
namespace Pql.LexIR
open Pql
set_option linter.unusedSimpArgs false

/-- the scanner on the source `pre ++ s` with the cursor at offset `k` OF `s` (`pos = pre.length + k`).  `l` is the field
    `last` as it is, an offset into `pre ++ s`: after a `next()` that started at offset `k` it is `pre.length + k`
    (`next_cons`, `prev_hp`) -/
def hp (pre s : Bytes) (k l : Nat) : Heap := ⟨pre ++ s, pre.length + k, l⟩

theorem drop_hp (pre s : Bytes) (k : Nat) : (pre ++ s).drop (pre.length + k) = s.drop k := by
  rw [List.drop_append]
  simp

theorem take_drop_pre (pre s : Bytes) (w : Nat) :
    List.take (pre.length + w - pre.length) (List.drop pre.length (pre ++ s)) = s.take w := by
  simp

theorem next_end {f : Fn} (sf : SpecNext f) (pre s : Bytes) (k l : Nat) (hk : s.length ≤ k) :
    f [.scanner] (hp pre s k l) = .ok ([.int 0, .bool false], hp pre s k l) := by
  rw [sf]
  have : (pre ++ s).length ≤ pre.length + k := by simp; omega
  simp [hp, this, hk]

theorem next_cons {f : Fn} (sf : SpecNext f) (pre s : Bytes) (k l : Nat) (c : UInt8) (rest : Bytes)
    (hd : s.drop k = c :: rest) :
    f [.scanner] (hp pre s k l) = .ok ([.int (decodeRune (c :: rest)).1, .bool true],
      hp pre s (k + (decodeRune (c :: rest)).2) (pre.length + k)) := by
  rw [sf]
  have hlt : k < s.length := by
    have := congrArg List.length hd
    simp at this; omega
  have : ¬ (pre ++ s).length ≤ pre.length + k := by simp; omega
  simp only [hp, this, if_false, drop_hp, hd, Nat.add_assoc]

theorem drop_succ_of_cons {s : Bytes} {k : Nat} {c : UInt8} {rest : Bytes} (hd : s.drop k = c :: rest) :
    s.drop (k + 1) = rest := by
  have : s.drop (k + 1) = (s.drop k).drop 1 := by rw [List.drop_drop]
  rw [this, hd]; rfl

theorem lt_of_drop_cons {s : Bytes} {k : Nat} {c : UInt8} {rest : Bytes} (hd : s.drop k = c :: rest) :
    k < s.length := by
  have := congrArg List.length hd
  simp at this; omega

theorem rune_eq (c : UInt8) (rest : Bytes) (n : Nat) (hn : n < 128) :
    ((decodeRune (c :: rest)).1 = n) ↔ c = UInt8.ofNat n := by
  rw [Dispatch.decodeRune_eq_ascii c rest n hn, toNat_eq_iff c n (by omega)]

theorem isDigit_lt (c : UInt8) (h : isDigit c = true) : c.toNat < 128 := by
  rw [isDigit_iff] at h
  simp at h; omega

theorem isHexDigit_lt (c : UInt8) (h : isHexDigit c = true) : c.toNat < 128 := by
  rw [isHexDigit_iff] at h
  simp at h; omega

theorem rune_class {p : Nat → Bool} {q : UInt8 → Bool} (hb : ∀ c : UInt8, c.toNat < 128 → p c.toNat = q c)
    (hq : ∀ c, q c = true → c.toNat < 128) (hge : ∀ r, 128 ≤ r → p r = false) (c : UInt8) (rest : Bytes) :
    p (decodeRune (c :: rest)).1 = q c := by
  by_cases h : c.toNat < 128
  · rw [decodeRune_ascii c rest h]
    exact hb c h
  · rw [hge _ (Dispatch.decodeRune_rune_ge c rest (by omega))]
    cases hd : q c with
    | false => rfl
    | true => exact absurd (hq c hd) h

theorem rune_isDigit (c : UInt8) (rest : Bytes) :
    Dispatch.inRangesNat Facts.isDigitRanges (decodeRune (c :: rest)).1 = isDigit c :=
  rune_class (fun _ _ => rfl) isDigit_lt (fun r h => by simp [Dispatch.inRangesNat, Facts.isDigitRanges]; omega) c rest

theorem rune_isHex (c : UInt8) (rest : Bytes) :
    Dispatch.inRangesNat Facts.isHexDigitRanges (decodeRune (c :: rest)).1 = isHexDigit c :=
  rune_class (fun _ _ => rfl) isHexDigit_lt (fun r h => by simp [Dispatch.inRangesNat, Facts.isHexDigitRanges]; omega) c rest

theorem next_cons' {f : Fn} (sf : SpecNext f) (pre s : Bytes) (k l : Nat) (c : UInt8) (rest : Bytes) (r w : Nat)
    (hd : s.drop k = c :: rest) (hr : decodeRune (c :: rest) = (r, w)) :
    f [.scanner] (hp pre s k l) = .ok ([.int r, .bool true], hp pre s (k + w) (pre.length + k)) := by
  rw [next_cons sf pre s k l c rest hd, hr]

/-- `s.next()` at offset `k`, whatever is there: some rune, whether there was one, the cursor at or after `k`.  A body
    is run once on these as variables; what they are at the end of `s` and at a byte (where every test of the number
    scanner agrees with the test on the byte, and an ASCII byte is one rune) is used afterwards. -/
theorem next_any {f : Fn} (sf : SpecNext f) (pre s : Bytes) (k l : Nat) (hk : k ≤ s.length) :
    ∃ r ok k' l', f [.scanner] (hp pre s k l) = .ok ([.int r, .bool ok], hp pre s k' l') ∧ k ≤ k' ∧ k' ≤ s.length ∧
      (s.drop k = [] → ok = false ∧ k' = k ∧ l' = l) ∧
      ∀ c rest, s.drop k = c :: rest → ok = true ∧ l' = pre.length + k ∧ k < k' ∧ (c.toNat < 128 → k' = k + 1) ∧
        (∀ n, n < 128 → (r = n ↔ c = UInt8.ofNat n)) ∧ Dispatch.inRangesNat Facts.isDigitRanges r = isDigit c ∧
        Dispatch.inRangesNat Facts.isHexDigitRanges r = isHexDigit c := by
  cases hd : s.drop k with
  | nil => exact ⟨0, false, k, l, next_end sf pre s k l (List.drop_eq_nil_iff.mp hd), Nat.le_refl k, hk, fun _ => ⟨rfl, rfl, rfl⟩, nofun⟩
  | cons c rest =>
    have hw := decodeRune_width_le (c :: rest)
    have hw0 := decodeRune_width_pos c rest
    have hl := congrArg List.length hd
    rw [List.length_drop] at hl
    refine ⟨_, true, _, _, next_cons sf pre s k l c rest hd, Nat.le_add_right .., by omega, nofun, fun c' rest' e => ?_⟩
    obtain ⟨rfl, rfl⟩ := List.cons.inj e
    exact ⟨rfl, rfl, by omega, fun h => by rw [decodeRune_ascii_width c rest h], rune_eq c rest, rune_isDigit c rest, rune_isHex c rest⟩

@[simp] theorem hp_pos (pre s : Bytes) (k l : Nat) : (hp pre s k l).pos = pre.length + k := rfl
@[simp] theorem hp_last (pre s : Bytes) (k l : Nat) : (hp pre s k l).last = l := rfl
@[simp] theorem hp_src (pre s : Bytes) (k l : Nat) : (hp pre s k l).src = pre ++ s := rfl

/-- `s.prev()` right after a `s.next()` that started at `k` -/
theorem prev_hp {f : Fn} (sf : SpecPrev f) (pre s : Bytes) (k k' : Nat) :
    f [.scanner] (hp pre s k' (pre.length + k)) = .ok ([], hp pre s k (pre.length + k)) := by
  rw [sf]; rfl

theorem setPos_hp {f : Fn} (sf : SpecSetPos f) (pre s : Bytes) (k k' l : Nat) :
    f [.scanner, .int (pre.length + k)] (hp pre s k' l) = .ok ([], hp pre s k (pre.length + k)) := by
  rw [sf]; rfl

structure CursorEnv (lib : Lib) (env : Env) : Prop where
  next : ∃ f, env "scanner.next" = some f ∧ SpecNext f
  prev : ∃ f, env "scanner.prev" = some f ∧ SpecPrev f
  setPos : ∃ f, env "scanner.setPos" = some f ∧ SpecSetPos f
  isDigit : HasPrim lib env "isDigit"
  isHexDigit : HasPrim lib env "isHexDigit"

section
variable {lib : Lib} {env : Env}

theorem CursorEnv.digit (E : CursorEnv lib env) : ∃ f, env "isDigit" = some f ∧
    ∀ r h, f [.int r] h = .ok ([.bool (Dispatch.inRangesNat Facts.isDigitRanges r)], h) := by
  rw [E.isDigit]
  simp [prims]

theorem CursorEnv.hex (E : CursorEnv lib env) : ∃ f, env "isHexDigit" = some f ∧
    ∀ r h, f [.int r] h = .ok ([.bool (Dispatch.inRangesNat Facts.isHexDigitRanges r)], h) := by
  rw [E.isHexDigit]
  simp [prims]

end

end Pql.LexIR
