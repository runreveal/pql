/-
ParseRoundtrip: calls — the writer's table (`knownFunction`, `assembleKnown`) and the
intended translation's dispatch evaluated for the built-in rewrites (`not`, `isnull`, `isnotnull`,
`iff`/`iif`, `strcat`, `tolower`, `toupper`, `now`, `count`, `countif`), and lower-casing of
pass-through names.
-/
import PqlModel.Lemmas.SqlRoundtripCases
import PqlModel.Lemmas.JoinSemNorm
namespace Pql.RT
open Pql Sql CompileOracle

theorem kf_count : knownFunction (Bytes.ofString "count") = some ("writeCountFunction", false) := by decide +kernel
theorem kf_countif : knownFunction (Bytes.ofString "countif") = some ("writeCountIfFunction", false) := by decide +kernel
theorem kf_iff : knownFunction (Bytes.ofString "iff") = some ("writeIfFunction", true) := by decide +kernel
theorem kf_iif : knownFunction (Bytes.ofString "iif") = some ("writeIfFunction", true) := by decide +kernel
theorem kf_isnotnull : knownFunction (Bytes.ofString "isnotnull") = some ("writeIsNotNullFunction", true) := by decide +kernel
theorem kf_isnull : knownFunction (Bytes.ofString "isnull") = some ("writeIsNullFunction", true) := by decide +kernel
theorem kf_not : knownFunction (Bytes.ofString "not") = some ("writeNotFunction", true) := by decide +kernel
theorem kf_now : knownFunction (Bytes.ofString "now") = some ("writeNowFunction", false) := by decide +kernel
theorem kf_strcat : knownFunction (Bytes.ofString "strcat") = some ("writeStrcatFunction", true) := by decide +kernel
theorem kf_tolower : knownFunction (Bytes.ofString "tolower") = some ("writeToLowerFunction", true) := by decide +kernel
theorem kf_toupper : knownFunction (Bytes.ofString "toupper") = some ("writeToUpperFunction", true) := by decide +kernel

abbrev Arg := Expr × List Chunk

theorem ak_not (a : Arg) (l : List Arg) :
    assembleKnown "writeNotFunction" (a :: l) = .ok (.txt "NOT " :: wrapMaybe a.1 a.2) := C01.assembleKnown_not _
theorem ak_not_nil : assembleKnown "writeNotFunction" [] = .error .panic := C01.assembleKnown_not _
theorem ak_now (l : List Arg) : assembleKnown "writeNowFunction" l = .ok [.txt "CURRENT_TIMESTAMP"] :=
  C01.assembleKnown_now _
theorem ak_isnull (a : Arg) (l : List Arg) :
    assembleKnown "writeIsNullFunction" (a :: l) = .ok (wrapMaybe a.1 a.2 ++ [.txt " IS NULL"]) :=
  C01.assembleKnown_isnull _
theorem ak_isnull_nil : assembleKnown "writeIsNullFunction" [] = .error .panic := C01.assembleKnown_isnull _
theorem ak_isnotnull (a : Arg) (l : List Arg) :
    assembleKnown "writeIsNotNullFunction" (a :: l) = .ok (wrapMaybe a.1 a.2 ++ [.txt " IS NOT NULL"]) :=
  C01.assembleKnown_isnotnull _
theorem ak_isnotnull_nil : assembleKnown "writeIsNotNullFunction" [] = .error .panic := C01.assembleKnown_isnotnull _
theorem ak_strcat (a : Arg) (l : List Arg) :
    assembleKnown "writeStrcatFunction" (a :: l) =
      .ok (sepChunks " || " ((a :: l).map fun a => wrapMaybe a.1 a.2)) := C01.assembleKnown_strcat _
theorem ak_strcat_nil : assembleKnown "writeStrcatFunction" [] = .error .panic := C01.assembleKnown_strcat _
theorem ak_count (l : List Arg) : assembleKnown "writeCountFunction" l = .ok [.txt "count()"] :=
  C01.assembleKnown_count _
theorem ak_countif (a : Arg) (l : List Arg) :
    assembleKnown "writeCountIfFunction" (a :: l) = .ok (.txt "count() FILTER (WHERE " :: a.2 ++ [.txt ")"]) :=
  C01.assembleKnown_countif _
theorem ak_countif_nil : assembleKnown "writeCountIfFunction" [] = .error .panic := C01.assembleKnown_countif _
theorem ak_if (a b c : Arg) (l : List Arg) :
    assembleKnown "writeIfFunction" (a :: b :: c :: l) =
      .ok (.txt "CASE WHEN coalesce(" :: a.2 ++ .txt ", FALSE) THEN " :: b.2 ++ .txt " ELSE " :: c.2 ++ [.txt " END"]) :=
  C01.assembleKnown_if _
theorem ak_tolower (a : Arg) (l : List Arg) :
    assembleKnown "writeToLowerFunction" (a :: l) = .ok (.txt "LOWER(" :: a.2 ++ [.txt ")"]) :=
  C01.assembleKnown_tolower _
theorem ak_tolower_nil : assembleKnown "writeToLowerFunction" [] = .error .panic := C01.assembleKnown_tolower _
theorem ak_toupper (a : Arg) (l : List Arg) :
    assembleKnown "writeToUpperFunction" (a :: l) = .ok (.txt "UPPER(" :: a.2 ++ [.txt ")"]) :=
  C01.assembleKnown_toupper _
theorem ak_toupper_nil : assembleKnown "writeToUpperFunction" [] = .error .panic := C01.assembleKnown_toupper _

section
variable (j : Bool) (fn : Ident) (a b : Span) (args : ExprList)

theorem tr_not (hn : fn.name = Bytes.ofString "not") : tr j (.call fn a args b) =
    (trList j args).bind fun as => match as.toList with | [x] => some (.not_ x) | _ => none := by
  simp only [tr]; rw [hn]; rfl
theorem tr_isnull (hn : fn.name = Bytes.ofString "isnull") : tr j (.call fn a args b) =
    (trList j args).bind fun as => match as.toList with | [x] => some (.isNull x false) | _ => none := by
  simp only [tr]; rw [hn]; rfl
theorem tr_isnotnull (hn : fn.name = Bytes.ofString "isnotnull") : tr j (.call fn a args b) =
    (trList j args).bind fun as => match as.toList with | [x] => some (.isNull x true) | _ => none := by
  simp only [tr]; rw [hn]; rfl
theorem tr_iff (hn : fn.name = Bytes.ofString "iff") : tr j (.call fn a args b) =
    (trList j args).bind fun as =>
      match as.toList with | [c, t, e] => some (.case_ (coalesceFalse c) t e) | _ => none := by
  simp only [tr]; rw [hn]; rfl
theorem tr_iif (hn : fn.name = Bytes.ofString "iif") : tr j (.call fn a args b) =
    (trList j args).bind fun as =>
      match as.toList with | [c, t, e] => some (.case_ (coalesceFalse c) t e) | _ => none := by
  simp only [tr]; rw [hn]; rfl
theorem tr_strcat (hn : fn.name = Bytes.ofString "strcat") : tr j (.call fn a args b) =
    (trList j args).bind fun as =>
      match as.toList with
      | x :: rest => some (rest.foldl (fun acc y => .bin "||" acc y) x)
      | [] => none := by
  simp only [tr]; rw [hn]; rfl
theorem tr_tolower (hn : fn.name = Bytes.ofString "tolower") : tr j (.call fn a args b) =
    (trList j args).bind fun as => match as.toList with | [x] => some (fnCall "lower" [x]) | _ => none := by
  simp only [tr]; rw [hn]; rfl
theorem tr_toupper (hn : fn.name = Bytes.ofString "toupper") : tr j (.call fn a args b) =
    (trList j args).bind fun as => match as.toList with | [x] => some (fnCall "upper" [x]) | _ => none := by
  simp only [tr]; rw [hn]; rfl
theorem tr_now (hn : fn.name = Bytes.ofString "now") : tr j (.call fn a args b) =
    (trList j args).bind fun as =>
      match as.toList with | [] => some (.const "CURRENT_TIMESTAMP") | _ => none := by
  simp only [tr]; rw [hn]; rfl
theorem tr_count (hn : fn.name = Bytes.ofString "count") : tr j (.call fn a args b) =
    (trList j args).bind fun as => match as.toList with | [] => some (fnCall "count" []) | _ => none := by
  simp only [tr]; rw [hn]; rfl
theorem tr_countif (hn : fn.name = Bytes.ofString "countif") : tr j (.call fn a args b) =
    (trList j args).bind fun as =>
      match as.toList with | [x] => some (.call (Bytes.ofString "count") false .nil x) | _ => none := by
  simp only [tr]; rw [hn]; rfl

end

@[simp] theorem toList_ofL (l : List SExpr) : (ofL l).toList = l := by
  induction l with
  | nil => rfl
  | cons x xs ih => simp [ofL, SExprList.toList] at ih ⊢; exact ih

theorem needsWrap_call {fn : Ident} {a b : Span} {args : ExprList} {writer : String} {np : Bool}
    (hk : knownFunction fn.name = some (writer, np)) : needsWrap (.call fn a args b) = np := by
  simp only [needsWrap, hk]
  cases np <;> rfl

theorem isSigned_call (fn : Ident) (a b : Span) (args : ExprList) : isSigned (.call fn a args b) = false := rfl

theorem isName_false {n : Bytes} {s : String} (h : n ≠ Bytes.ofString s) : isName n s = false := by
  simpa [isName] using h

end Pql.RT
