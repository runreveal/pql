/-
Fuel sufficiency for the non-recursive tabular operators and for `let`: the column / term / property loops are
given `ts.length + 1` iterations, and every iteration but the last consumes a separator token.
`fuel` is the fuel handed to the expression parser, which needs `4 * ts.length + 4`.
-/
import PqlModel.Lemmas.ParseFuelExpr
import PqlModel.Lemmas.ParseCasesOps
namespace Pql

theorem pRowCount_noFuel (c : PCtx) (fuel : Nat) (ts : List Token) (hf : 4 * ts.length + 4 ≤ fuel) :
    NoFuel (pRowCount c fuel ts).errs := by
  apply pRowCount_cases (motive := fun r => NoFuel r.errs)
  case same => exact pExpr_noFuel c fuel ts hf
  case notInt => intro r sp k v _ _ _ _; exact NoFuel.errNoPos

theorem pRowCount_rest_suffix (c : PCtx) (fuel : Nat) (ts : List Token) :
    (pRowCount c fuel ts).rest <:+ ts := by
  have h1 := pExpr_rest_suffix c fuel ts
  apply pRowCount_cases (motive := fun r => r.rest <:+ ts)
  case same => exact h1
  case notInt => intro r sp k v hr _ _ _; subst hr; exact h1

theorem sortDir_rest_suffix (term : SortTerm) : ∀ ts, (sortDir term ts).2 <:+ ts := by
  apply sortDir_cases (motive := fun ts d => d.2 <:+ ts)
  case none => intro ts _; exact List.suffix_refl _
  case asc => intro t rest _; exact List.suffix_cons _ _
  case desc => intro t rest _ _; exact List.suffix_cons _ _

theorem nullsClause_rest_suffix (c : PCtx) (term : SortTerm) :
    ∀ ts, (nullsClause c term ts).rest <:+ ts := by
  apply nullsClause_cases (motive := fun ts r => r.rest <:+ ts)
  case none => intro ts _; exact List.suffix_refl _
  case eof => intro t _; exact List.nil_suffix
  case first | last => intros; exact (List.suffix_cons _ _).trans (List.suffix_cons _ _)
  case other => intros; exact List.suffix_cons _ _

theorem nullsClause_noFuel (c : PCtx) (term : SortTerm) :
    ∀ ts, NoFuel (nullsClause c term ts).errs := by
  apply nullsClause_cases (motive := fun _ r => NoFuel r.errs)
  case none => intro ts _; exact NoFuel.nil
  case eof => intro t _; exact NoFuel.errAt _
  case first => intro t t2 rest2 _ _; exact NoFuel.nil
  case last => intro t t2 rest2 _ _ _; exact NoFuel.nil
  case other => intro t t2 rest2 _ _ _; exact NoFuel.errAt _

theorem pSortTerm_rest_suffix (c : PCtx) (fuel : Nat) (ts : List Token) :
    (pSortTerm c fuel ts).rest <:+ ts := by
  have h1 := pExpr_rest_suffix c fuel ts
  apply pSortTerm_cases (motive := fun r => r.rest <:+ ts)
  case err => intro r hr _; subst hr; exact h1
  case ok =>
    intro r d hr _ hd
    subst hr hd
    exact (nullsClause_rest_suffix c _ _).trans ((sortDir_rest_suffix _ _).trans h1)

theorem pSortTerm_noFuel (c : PCtx) (fuel : Nat) (ts : List Token) (hf : 4 * ts.length + 4 ≤ fuel) :
    NoFuel (pSortTerm c fuel ts).errs := by
  apply pSortTerm_cases (motive := fun r => NoFuel r.errs)
  case err => intro r hr _; subst hr; exact pExpr_noFuel c fuel ts hf
  case ok => intro r d _ _ _; exact nullsClause_noFuel c _ _

/-- the loop of `sort`, `extend` and the `by` clause of `summarize`: one iteration per remaining
    token (plus one) suffices, since every further round has consumed a comma -/
theorem commaLoop_noFuel {α β : Type} {item : List Token → PRes β} {bad : List α → PRes β → List α}
    {good : List α → β → List α} {fuel : Nat}
    (hitem : ∀ ts, 4 * ts.length + 4 ≤ fuel → NoFuel (item ts).errs)
    (hsuf : ∀ ts, (item ts).rest <:+ ts) :
    ∀ (k : Nat) (acc : List α) (ts : List Token), 4 * ts.length + 4 ≤ fuel → ts.length + 1 ≤ k →
      NoFuel (commaLoop item bad good k acc ts).errs := by
  apply commaLoop_induct
    (motive := fun k _ ts r => 4 * ts.length + 4 ≤ fuel → ts.length + 1 ≤ k → NoFuel r.errs)
  case fuel => intro acc ts _ hk; omega
  case err => intro n acc ts r hr _ hf _; subst hr; exact (hitem ts hf).mkOpaque
  case last => intros; exact NoFuel.nil
  case more =>
    intro n acc ts r t rest res hr _ hrest _ ih hf hk
    subst hr
    have hl := (hsuf ts).length_le
    rw [hrest, List.length_cons] at hl
    exact ih (by omega) (by omega)

theorem commaLoop_rest_suffix {α β : Type} {item : List Token → PRes β}
    {bad : List α → PRes β → List α} {good : List α → β → List α}
    (hsuf : ∀ ts, (item ts).rest <:+ ts) :
    ∀ (k : Nat) (acc : List α) (ts : List Token), (commaLoop item bad good k acc ts).rest <:+ ts := by
  apply commaLoop_induct (motive := fun _ _ ts r => r.rest <:+ ts)
  case fuel => intros; exact List.suffix_refl _
  case err => intro n acc ts r hr _; exact hr ▸ hsuf ts
  case last => intro n acc ts r hr _ _; exact hr ▸ hsuf ts
  case more =>
    intro n acc ts r t rest res hr _ hrest _ ih
    exact ih.trans ((List.suffix_cons t rest).trans (hrest ▸ hr ▸ hsuf ts))

theorem pSortTerms_rest_suffix (c : PCtx) (fuel k : Nat) (acc : List SortTerm) (ts : List Token) :
    (pSortTerms c fuel k acc ts).rest <:+ ts :=
  pSortTerms_eq_loop k acc ts ▸ commaLoop_rest_suffix (pSortTerm_rest_suffix c fuel) k acc ts

theorem pSortTerms_noFuel (c : PCtx) (fuel k : Nat) (acc : List SortTerm) (ts : List Token)
    (hf : 4 * ts.length + 4 ≤ fuel) (hk : ts.length + 1 ≤ k) :
    NoFuel (pSortTerms c fuel k acc ts).errs :=
  pSortTerms_eq_loop k acc ts ▸
    commaLoop_noFuel (pSortTerm_noFuel c fuel) (pSortTerm_rest_suffix c fuel) k acc ts hf hk

theorem pNamedColumn_rest_suffix (c : PCtx) (fuel : Nat) :
    ∀ ts, (pNamedColumn c fuel ts).rest <:+ ts := by
  apply pNamedColumn_cases (motive := fun ts r => r.rest <:+ ts)
  case named =>
    intro t0 t rest r _ _ hr
    subst hr
    exact ((pExpr_rest_suffix c fuel rest).trans (List.suffix_cons _ _)).trans (List.suffix_cons _ _)
  case plain => intro ts r _ hr; subst hr; exact pExpr_rest_suffix c fuel ts

theorem pNamedColumn_noFuel (c : PCtx) (fuel : Nat) :
    ∀ ts, 4 * ts.length + 4 ≤ fuel → NoFuel (pNamedColumn c fuel ts).errs := by
  apply pNamedColumn_cases (motive := fun ts r => 4 * ts.length + 4 ≤ fuel → NoFuel r.errs)
  case named =>
    intro t0 t rest r _ _ hr hf
    subst hr
    simp only [List.length_cons] at hf
    exact (pExpr_noFuel c fuel rest (by omega)).mkOpaque
  case plain => intro ts r _ hr hf; subst hr; exact pExpr_noFuel c fuel ts hf

theorem pExtendCols_noFuel (c : PCtx) (fuel k : Nat) (acc : List Column) (ts : List Token)
    (hf : 4 * ts.length + 4 ≤ fuel) (hk : ts.length + 1 ≤ k) :
    NoFuel (pExtendCols c fuel k acc ts).errs :=
  pExtendCols_eq_loop k acc ts ▸
    commaLoop_noFuel (pNamedColumn_noFuel c fuel) (pNamedColumn_rest_suffix c fuel) k acc ts hf hk

theorem pGroupByCols_noFuel (c : PCtx) (fuel k : Nat) (acc : List Column) (ts : List Token)
    (hf : 4 * ts.length + 4 ≤ fuel) (hk : ts.length + 1 ≤ k) :
    NoFuel (pGroupByCols c fuel k acc ts).errs :=
  pGroupByCols_eq_loop k acc ts ▸
    commaLoop_noFuel (pNamedColumn_noFuel c fuel) (pNamedColumn_rest_suffix c fuel) k acc ts hf hk

theorem pExtendCols_rest_suffix (c : PCtx) (fuel k : Nat) (acc : List Column) (ts : List Token) :
    (pExtendCols c fuel k acc ts).rest <:+ ts :=
  pExtendCols_eq_loop k acc ts ▸ commaLoop_rest_suffix (pNamedColumn_rest_suffix c fuel) k acc ts

theorem pGroupByCols_rest_suffix (c : PCtx) (fuel k : Nat) (acc : List Column) (ts : List Token) :
    (pGroupByCols c fuel k acc ts).rest <:+ ts :=
  pGroupByCols_eq_loop k acc ts ▸ commaLoop_rest_suffix (pNamedColumn_rest_suffix c fuel) k acc ts

theorem pProjectCols_rest_suffix (c : PCtx) (fuel : Nat) :
    ∀ (k : Nat) (acc : List Column) (ts : List Token), (pProjectCols c fuel k acc ts).rest <:+ ts := by
  have tl : ∀ {a : Token} {l r : List Token}, r <:+ l → r <:+ a :: l :=
    fun h => h.trans (List.suffix_cons _ _)
  apply pProjectCols_induct (motive := fun _ _ ts r => r.rest <:+ ts)
  case fuel | noIdent => intros; exact List.suffix_refl _
  case bare => intros; exact List.suffix_cons _ _
  case bareMore => intro n acc t0 sep rest res _ _ ih; exact tl (tl ih)
  case namedErr => intro n acc t0 sep rest r _ _ hr _; exact tl (tl (hr ▸ pExpr_rest_suffix c fuel rest))
  case namedLast => intros; exact List.nil_suffix
  case namedJunk =>
    intro n acc t0 sep rest r sep2 rest2 _ _ hr _ hrest _
    exact tl (tl ((List.suffix_cons sep2 rest2).trans (hrest ▸ hr ▸ pExpr_rest_suffix c fuel rest)))
  case namedMore =>
    intro n acc t0 sep rest r sep2 rest2 res _ _ hr _ hrest _ ih
    exact tl (tl (ih.trans
      ((List.suffix_cons sep2 rest2).trans (hrest ▸ hr ▸ pExpr_rest_suffix c fuel rest))))

theorem pProjectCols_noFuel (c : PCtx) (fuel : Nat) : ∀ (k : Nat) (acc : List Column) (ts : List Token),
    4 * ts.length + 4 ≤ fuel → ts.length + 1 ≤ k → NoFuel (pProjectCols c fuel k acc ts).errs := by
  apply pProjectCols_induct
    (motive := fun k _ ts r => 4 * ts.length + 4 ≤ fuel → ts.length + 1 ≤ k → NoFuel r.errs)
  case fuel => intro acc ts _ hk; omega
  case noIdent => intros; exact (NoFuel.nfAt _).mkOpaque
  case bare => intros; exact NoFuel.nil
  case bareMore =>
    intro n acc t0 sep rest res _ _ ih hf hk
    simp only [List.length_cons] at hf hk
    exact ih (by omega) (by omega)
  case namedErr =>
    intro n acc t0 sep rest r _ _ hr _ hf _
    subst hr
    simp only [List.length_cons] at hf
    exact (pExpr_noFuel c fuel rest (by omega)).mkOpaque
  case namedLast => intros; exact NoFuel.nil
  case namedJunk => intros; exact NoFuel.errNoPos
  case namedMore =>
    intro n acc t0 sep rest r sep2 rest2 res _ _ hr _ hrest _ ih hf hk
    subst hr
    have hl := pExpr_rest_le c fuel rest
    rw [hrest] at hl
    simp only [List.length_cons] at hf hk hl
    exact ih (by omega) (by omega)

theorem pSummarizeCols_rest_suffix (c : PCtx) (fuel : Nat) :
    ∀ (k : Nat) (acc : List Column) (cm : Option Span) (ts : List Token),
    (pSummarizeCols c fuel k acc cm ts).rest <:+ ts := by
  apply pSummarizeCols_induct (motive := fun _ _ _ ts r => r.rest <:+ ts)
  case fuel | none => intros; exact List.suffix_refl _
  case err => intro n acc cm ts r hr _ _; subst hr; exact pNamedColumn_rest_suffix c fuel ts
  case eof => intros; exact List.nil_suffix
  case stop => intro n acc cm ts r t rest hr _ _ _; subst hr; exact pNamedColumn_rest_suffix c fuel ts
  case more =>
    intro n acc cm ts r t rest res hr _ hrest _ ih
    exact ih.trans ((List.suffix_cons t rest).trans (hrest ▸ hr ▸ pNamedColumn_rest_suffix c fuel ts))

theorem pSummarizeCols_noFuel (c : PCtx) (fuel : Nat) :
    ∀ (k : Nat) (acc : List Column) (cm : Option Span) (ts : List Token),
    4 * ts.length + 4 ≤ fuel → ts.length + 1 ≤ k → NoFuel (pSummarizeCols c fuel k acc cm ts).errs := by
  apply pSummarizeCols_induct
    (motive := fun k _ _ ts r => 4 * ts.length + 4 ≤ fuel → ts.length + 1 ≤ k → NoFuel r.errs)
  case fuel => intro acc cm ts _ hk; omega
  case none => intros; exact NoFuel.nil
  case err =>
    intro n acc cm ts r hr _ _ hf _
    subst hr
    exact (pNamedColumn_noFuel c fuel ts hf).mkOpaque
  case eof => intros; exact NoFuel.nil
  case stop => intros; exact NoFuel.nil
  case more =>
    intro n acc cm ts r t rest res hr _ hrest _ ih hf hk
    subst hr
    have hl := (pNamedColumn_rest_suffix c fuel ts).length_le
    rw [hrest, List.length_cons] at hl
    exact ih (by omega) (by omega)

theorem pSummarize_noFuel (c : PCtx) (fuel : Nat) (pipe kw : Span) (ts : List Token)
    (hf : 4 * ts.length + 4 ≤ fuel) : NoFuel (pSummarize c fuel pipe kw ts).errs := by
  have hl := (pSummarizeCols_rest_suffix c fuel (ts.length + 1) [] none ts).length_le
  apply pSummarize_cases (motive := fun r => NoFuel r.errs)
  case done =>
    intro r1 h1 _
    subst h1
    exact pSummarizeCols_noFuel c fuel (ts.length + 1) [] none ts hf (Nat.le_refl _)
  case noCols | dangling => intros; exact NoFuel.errAt _
  case plain => intros; exact NoFuel.nil
  case by_ =>
    intro r1 sep rest r2 h1 _ hrest _ h2
    subst h1 h2
    rw [hrest, List.length_cons] at hl
    exact pGroupByCols_noFuel c fuel _ _ _ (by omega) (Nat.le_refl _)

theorem pRenderProp_rest_suffix (c : PCtx) (fuel : Nat) :
    ∀ ts, (pRenderProp c fuel ts).rest <:+ ts := by
  apply pRenderProp_cases (motive := fun ts r => r.rest <:+ ts)
  case noIdent => intro ts _; exact List.suffix_refl _
  case noAssign => intro t0 rest _ _; exact (List.tail_suffix rest).trans (List.suffix_cons _ _)
  case err | ok =>
    intro t0 t rest r _ _ hr _
    subst hr
    exact ((pExpr_rest_suffix c fuel rest).trans (List.suffix_cons _ _)).trans (List.suffix_cons _ _)

theorem pRenderProp_noFuel (c : PCtx) (fuel : Nat) :
    ∀ ts, 4 * ts.length + 4 ≤ fuel → NoFuel (pRenderProp c fuel ts).errs := by
  apply pRenderProp_cases (motive := fun ts r => 4 * ts.length + 4 ≤ fuel → NoFuel r.errs)
  case noIdent => intros; exact NoFuel.nfAt _
  case noAssign => intros; exact NoFuel.errAt _
  case ok => intros; exact NoFuel.nil
  case err =>
    intro t0 t rest r _ _ hr _ hf
    subst hr
    simp only [List.length_cons] at hf
    exact pExpr_noFuel c fuel rest (by omega)

theorem pRenderProps_noFuel (c : PCtx) (fuel : Nat) :
    ∀ (k : Nat) (acc : List RenderProp) (ts : List Token),
    4 * ts.length + 4 ≤ fuel → ts.length + 1 ≤ k → NoFuel (pRenderProps c fuel k acc ts).errs := by
  apply pRenderProps_induct
    (motive := fun k _ ts r => 4 * ts.length + 4 ≤ fuel → ts.length + 1 ≤ k → NoFuel r.errs)
  case fuel => intro acc ts _ hk; omega
  case err => intro n acc ts r hr _ hf _; subst hr; exact (pRenderProp_noFuel c fuel ts hf).mkOpaque
  case junk => intros; exact NoFuel.errAt _
  case close => intros; exact NoFuel.nil
  case more =>
    intro n acc ts r t rest res hr _ hrest _ ih hf hk
    subst hr
    have hl := (pRenderProp_rest_suffix c fuel ts).length_le
    rw [hrest, List.length_cons] at hl
    exact ih (by omega) (by omega)

theorem pRenderProps_rest_suffix (c : PCtx) (fuel : Nat) :
    ∀ (k : Nat) (acc : List RenderProp) (ts : List Token),
    (pRenderProps c fuel k acc ts).rest <:+ ts := by
  apply pRenderProps_induct (motive := fun _ _ ts r => r.rest <:+ ts)
  case fuel => intros; exact List.suffix_refl _
  case err => intro n acc ts r hr _; exact hr ▸ pRenderProp_rest_suffix c fuel ts
  case junk =>
    intro n acc ts r hr _ _
    exact (List.tail_suffix _).trans (hr ▸ pRenderProp_rest_suffix c fuel ts)
  case close =>
    intro n acc ts r t rest hr _ hrest _
    exact (List.suffix_cons t rest).trans (hrest ▸ hr ▸ pRenderProp_rest_suffix c fuel ts)
  case more =>
    intro n acc ts r t rest res hr _ hrest _ ih
    exact ih.trans ((List.suffix_cons t rest).trans (hrest ▸ hr ▸ pRenderProp_rest_suffix c fuel ts))

theorem pRender_noFuel (c : PCtx) (fuel : Nat) (pipe kw : Span) :
    ∀ ts, 4 * ts.length + 4 ≤ fuel → NoFuel (pRender c fuel pipe kw ts).errs := by
  apply pRender_cases (motive := fun ts r => 4 * ts.length + 4 ≤ fuel → NoFuel r.errs)
  case noIdent | noLp => intros; exact NoFuel.errAt _
  case plain => intros; exact NoFuel.nil
  case props =>
    intro t0 t lp rest2 r _ _ _ hr hf
    subst hr
    simp only [List.length_cons] at hf
    exact pRenderProps_noFuel c fuel _ _ _ (by omega) (Nat.le_refl _)

theorem pLet_noFuel (c : PCtx) (fuel : Nat) :
    ∀ ts, 4 * ts.length + 4 ≤ fuel → NoFuel (pLet c fuel ts).errs := by
  apply pLet_cases (motive := fun ts r => 4 * ts.length + 4 ≤ fuel → NoFuel r.errs)
  case notLet => intros; exact NoFuel.nfAt _
  case noAssign => intros; exact NoFuel.errAt _
  case noName => intros; exact (NoFuel.nfAt _).mkOpaque
  case full =>
    intro kwd t0 asg rest2 r _ _ _ hr hf
    subst hr
    simp only [List.length_cons] at hf
    exact (pExpr_noFuel c fuel rest2 (by omega)).mkOpaque

end Pql
