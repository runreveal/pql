/-
Property C08, the mutually recursive block
`pTabular` / `pOps` / `pOperator` / `pJoin`, and `pLet`.
-/
import PqlModel.Lemmas.AccountedOps
import PqlModel.Lemmas.ParsedOKLift
import PqlModel.Lemmas.UnparseInduct
namespace Pql
open Grammar

theorem unparseOps_snoc : ∀ (ops : OpList) (o : Op) (uo u : List UTok),
    unparseOps ops = some uo → unparseOp o = some u → unparseOps (ops.snoc o) = some (uo ++ u)
  | .nil, o, uo, u, h1, h2 => by
    simp only [unparseOps, Option.some.injEq] at h1
    subst h1
    simp [OpList.snoc, unparseOps, h2]
  | .cons a as, o, uo, u, h1, h2 => by
    obtain ⟨ua, uas, ha, has, rfl⟩ := unparseOps_cons_inv h1
    simp [OpList.snoc, unparseOps, ha, unparseOps_snoc as o uas u has h2]

/-- `pOps` only adds to the errors it is handed.  That is the first half of `TabShape.ops`, which
    does not depend on the predicates: `tabShapeOk` is run at trivial ones to get at it. -/
theorem pOps_errs_nil (c : PCtx) (fuel : Nat) (ops : OpList) (acc : Errs) (ts : List Token)
    (h : (pOps c fuel ops acc ts).errs = []) : acc = [] :=
  ((tabShapeOk (ParsedOK.tabAll_alg True (fun _ => True) (fun _ => True)) (fun _ _ _ _ => trivial)
    (fun _ _ _ _ => trivial) c fuel).ops ops acc ts fun _ => h).1 trivial

/-- C08 for the four functions of the block at fuel `f`, proved together (`acc_tab_all`).  `pOps`
    extends the operators `ops` it is handed: if those unparse to `uo`, the result unparses to `uo`
    followed by what accounts for the tokens consumed. -/
def STab (c : PCtx) (f : Nat) : Prop :=
  ∀ ts t rest, TokOK ts → pTabular c f ts = ⟨t, [], rest⟩ →
    ∃ us cons, unparseTabular t = some us ∧ ts = cons ++ rest ∧ accounts true us cons = true
def SOps (c : PCtx) (f : Nat) : Prop :=
  ∀ ops acc ts l rest, TokOK ts → pOps c f ops acc ts = ⟨l, [], rest⟩ →
    ∀ uo, unparseOps ops = some uo →
      ∃ more cons, unparseOps l = some (uo ++ more) ∧ ts = cons ++ rest ∧ accounts true more cons = true
def SOperator (c : PCtx) (f : Nat) : Prop :=
  ∀ pipeTok name ts op rest, TokOK (pipeTok :: name :: ts) → pipeTok.kind = .pipe → name.kind = .ident →
    pOperator c f pipeTok.span name ts = some ⟨op, [], rest⟩ → OpAcc pipeTok name ts op rest
def SJoin (c : PCtx) (f : Nat) : Prop :=
  ∀ pipeTok name ts op rest, TokOK (pipeTok :: name :: ts) → pipeTok.kind = .pipe → name.kind = .ident →
    name.value = Bytes.ofString "join" →
    pJoin c f pipeTok.span name.span ts = ⟨op, [], rest⟩ → OpAcc pipeTok name ts op rest

theorem step_tab {c : PCtx} {f : Nat} (hO : SOps c f) : STab c (f + 1) := by
  intro ts t rest
  revert ts
  apply pTabular_cases (motive := fun ts r => TokOK ts → r = ⟨t, [], rest⟩ →
    ∃ us cons, unparseTabular t = some us ∧ ts = cons ++ rest ∧ accounts true us cons = true)
  case noIdent => intro ts _ _ h; exact absurd (congrArg PRes.errs h) (nfAt_ne_nil _)
  case ops =>
    intro t0 rest0 r h0 hr hok h
    simp only [PRes.mk.injEq] at h
    obtain ⟨rfl, he, rfl⟩ := h
    obtain ⟨more, cons, hu, hts, ha⟩ :=
      hO _ _ _ _ _ hok.tail (hr.trans (PRes.eq_of_errs he)) [] (by simp [unparseOps])
    exact ⟨_, t0 :: cons, unparse_eq.tmk _ _ _ (by simpa using hu) (by simpa using hu), by rw [hts]; rfl,
      accounts_cons (tokOk_identTok h0) ha⟩

theorem step_ops {c : PCtx} {f : Nat} (hO : SOps c f) (hOp : SOperator c f) : SOps c (f + 1) := by
  intro ops acc ts l rest hok
  refine pOps_cases (motive := fun r => r = ⟨l, [], rest⟩ → ∀ uo, unparseOps ops = some uo →
    ∃ more cons, unparseOps l = some (uo ++ more) ∧ ts = cons ++ rest ∧ accounts true more cons = true)
    ?_ ?_ ?_
  · intro h uo huo
    simp only [PRes.mk.injEq] at h
    obtain ⟨rfl, -, rfl⟩ := h
    exact ⟨[], [], by simpa using huo, rfl, accounts_nil _⟩
  · intro pipeTok rest0 s _ _ _ h
    have := pOps_errs_nil c f _ _ _ (by rw [h]); simp at this
  · intro pipeTok rest0 name opToks ⟨rv, re, rrest⟩ hts hpipe hsp1 hname hop h uo huo
    subst hts
    have hacc := pOps_errs_nil c f _ _ _ (by rw [h])
    simp only [List.append_eq_nil_iff, endSplit_eq_nil] at hacc
    obtain ⟨⟨rfl, rfl⟩, rfl⟩ := hacc
    have hrest0 : rest0 = (name :: opToks) ++ (split .pipe rest0).2 := by
      rw [← hsp1, split_append]
    have hok' : TokOK ((pipeTok :: name :: opToks) ++ (split .pipe rest0).2) := by
      have := hok; rw [hrest0] at this; simpa using this
    obtain ⟨us, cons, hus, hts, ha⟩ := hOp _ _ _ _ _ hok'.left hpipe hname hop
    simp only [List.append_nil] at hts
    subst hts
    obtain ⟨more, cons', hu, hts', ha'⟩ :=
      hO _ _ _ _ _ hok'.right h _ (unparseOps_snoc _ _ _ _ huo hus)
    refine ⟨us ++ more, (pipeTok :: name :: opToks) ++ cons', by rw [hu]; simp, ?_,
      accounts_append ha ha'⟩
    rw [hrest0, hts']; simp

theorem tokOk_byStop {t : Token} (hk : t.kind = .by_) (hv : t.value = []) :
    tokOk { kind := .by_, stop := some (t.stop : Int) } t = true := by
  simp [tokOk, tokMatches, posMatches, hk, hv]

theorem mem_one {v : Bytes} {a : String} (h : v = Bytes.ofString a) : v ∈ [a].map Bytes.ofString :=
  h ▸ List.mem_singleton.mpr rfl

theorem mem_two {v : Bytes} {a b : String} (h : v = Bytes.ofString a ∨ v = Bytes.ofString b) :
    v ∈ [a, b].map Bytes.ofString := by
  rcases h with h | h
  · exact h ▸ List.mem_cons_self
  · exact h ▸ List.mem_cons_of_mem _ List.mem_cons_self

theorem step_operator {c : PCtx} {f : Nat} (hJ : SJoin c f) : SOperator c (f + 1) := by
  intro pipeTok name ts op rest hok hp hk
  have hokt : TokOK ts := hok.tail.tail
  apply pOperator_cases (motive := fun r => r = some ⟨op, [], rest⟩ → OpAcc pipeTok name ts op rest)
  case count =>
    intro hv h
    simp only [Option.some.injEq, PRes.mk.injEq, true_and] at h
    obtain ⟨rfl, rfl⟩ := h
    exact opAcc_intro (cons := []) hok hp hk (mem_one hv) (unparse_eq.count _ _) rfl (accounts_nil _)
  case where_ =>
    intro hv ⟨rv, re, rrest⟩ hE h
    simp only [Option.some.injEq, PRes.mk.injEq, mkOpaque_eq_nil] at h
    obtain ⟨rfl, rfl, rfl⟩ := h
    obtain ⟨ux, cx, hux, hts, hax⟩ := pExpr_acc hokt hE
    exact opAcc_intro hok hp hk (mem_two hv) (unparse_eq.where_ _ _ _ _ hux) hts hax
  case sortErr => intro _ _ h; simp at h
  case sort =>
    intro hv by_ rest1 hts hby ⟨rv, re, rrest⟩ hr h
    subst hts
    simp only [Option.some.injEq, PRes.mk.injEq] at h
    obtain ⟨rfl, rfl, rfl⟩ := h
    obtain ⟨more, cons, rfl, hts, hne, us, hus, hacc⟩ := pSortTerms_acc c f _ _ _ _ _ hokt.tail hr
    refine ⟨_, by_ :: cons,
      unparse_eq.sort pipeTok.span ⟨name.span.start, by_.stop⟩ _ _ (by simpa using hne) (by simpa using hus),
      by rw [hts]; simp, ?_⟩
    exact accounts_cons (tokOk_sym hp (hok.head.symVal hp))
      (accounts_cons (tokOk_kwPlain_start hk (mem_two hv))
        (accounts_cons (tokOk_byStop hby (hokt.head.symVal hby)) hacc))
  case take =>
    intro hv ⟨rv, re, rrest⟩ hR h
    simp only [Option.some.injEq, PRes.mk.injEq, mkOpaque_eq_nil] at h
    obtain ⟨rfl, rfl, rfl⟩ := h
    obtain ⟨ux, cx, hux, hts, hax⟩ := pExpr_acc hokt (pRowCount_acc hR)
    exact opAcc_intro hok hp hk (mem_two hv) (unparse_eq.take _ _ _ _ hux) hts hax
  case topErr =>
    intro _ r _ hne h
    simp only [Option.some.injEq, PRes.mk.injEq, mkOpaque_eq_nil] at h
    exact absurd h.2.1 hne
  case topNoBy => intro _ r _ _ _ h; simp at h
  case top =>
    intro hv ⟨rv, re, rrest⟩ hR hre by_ rest1 hrest hby ⟨tv, te, trest⟩ hrt h
    dsimp only at hre hrest
    subst hre hrest
    simp only [Option.some.injEq, PRes.mk.injEq, mkOpaque_eq_nil] at h
    obtain ⟨rfl, rfl, rfl⟩ := h
    obtain ⟨ux, cx, hux, hts, hax⟩ := pExpr_acc hokt (pRowCount_acc hR)
    have hok1 : TokOK (by_ :: rest1) := hokt.of_eq_append hts
    obtain ⟨term, us, cons, rfl, hus, hts1, ha⟩ := pSortTerm_acc hok1.tail hrt
    refine opAcc_intro (cons := cx ++ by_ :: cons) hok hp hk (mem_one hv)
      (unparse_eq.top _ _ _ _ _ _ _ hux hus) (by rw [hts, hts1]; simp) ?_
    exact accounts_append hax (accounts_cons (tokOk_sym hby (hok1.head.symVal hby)) ha)
  case project =>
    intro hv ⟨rv, re, rrest⟩ hP h
    simp only [Option.some.injEq, PRes.mk.injEq] at h
    obtain ⟨rfl, rfl, rfl⟩ := h
    obtain ⟨more, cons, rfl, hts, hne, us, hus, hacc⟩ := pProjectCols_acc c f _ _ _ _ _ hokt hP
    exact opAcc_intro hok hp hk (mem_one hv)
      (unparse_eq.project _ _ _ _ (by simpa using hne) (by simpa using hus)) hts hacc
  case extend =>
    intro hv ⟨rv, re, rrest⟩ hX h
    simp only [Option.some.injEq, PRes.mk.injEq] at h
    obtain ⟨rfl, rfl, rfl⟩ := h
    obtain ⟨more, cons, rfl, hts, hne, us, hus, hacc⟩ := pExtendCols_acc c f _ _ _ _ _ hokt hX
    exact opAcc_intro hok hp hk (mem_one hv)
      (unparse_eq.extend _ _ _ _ (by simpa using hne) (by simpa using hus)) hts hacc
  case summarize =>
    intro hv h
    exact pSummarize_acc hok hp hk hv (Option.some.inj h)
  case join =>
    intro hv h
    exact hJ _ _ _ _ _ hok hp hk hv (Option.some.inj h)
  case as_ =>
    intro hv ⟨iv, ie, irest⟩ hI h
    simp only [Option.some.injEq, PRes.mk.injEq, mkOpaque_eq_nil] at h
    obtain ⟨rfl, rfl, rfl⟩ := h
    obtain ⟨t0, rfl, hk0, rfl⟩ := pIdent_acc hI
    exact opAcc_intro (cons := [t0]) hok hp hk (mem_one hv) (unparse_eq.as_ _ _ _) rfl
      (accounts_single (tokOk_identTok hk0))
  case render =>
    intro hv h
    exact pRender_acc hok hp hk hv (Option.some.inj h)
  case unknown => intro h; simp at h

theorem step_join {c : PCtx} {f : Nat} (hT : STab c f) : SJoin c (f + 1) := by
  intro pipeTok name ts op rest hok hp hk hv
  have hvm : name.value ∈ ["join"].map Bytes.ofString := by simp [hv]
  refine pJoin_cases (motive := fun r => r = ⟨op, [], rest⟩ → OpAcc pipeTok name ts op rest) ?_ ?_ ?_ ?_
  · intro kind ka pre post _ _ _ h; simp at h
  · intro hd kind ka fl e0 _ post _ _ h; simp at h
  · intro hd kind ka fl e0 _ lp rest1 _ _ rr _ rp post _ h; simp at h
  · intro hd kind ka fl e0 hh lp rest1 hts hlp rp on rest3 hsp2 hrp hon ⟨rv, re, rrest⟩ hr ⟨cv, ce, crest⟩ hc h
    obtain ⟨hkon, hvon⟩ := isIdentNamed_iff.mp hon
    simp only [PRes.mk.injEq, List.append_eq_nil_iff, mkOpaque_eq_nil, endSplit_eq_nil] at h
    obtain ⟨rfl, ⟨⟨⟨rfl, rfl⟩, rfl⟩, rfl⟩, rfl⟩ := h
    have hokt : TokOK (hd ++ lp :: rest1) := hts ▸ hok.tail.tail
    have hok1 : TokOK (lp :: rest1) := hokt.right
    have hok3 : TokOK (rp :: on :: rest3) := by
      have := hok1.tail.split2 (k := .rparen); rwa [hsp2] at this
    obtain ⟨ur, cr, hur, hsp1, har⟩ := hT _ _ _ hok1.tail.split1 hr
    simp only [List.append_nil] at hsp1
    obtain ⟨hcne, uc, cc, huc, hts3, hac⟩ := pExprList_acc hok3.tail.tail hc
    have hrest1 : rest1 = cr ++ rp :: on :: rest3 := by
      rw [← split_append .rparen rest1, hsp2, hsp1]
    have htail : accounts true
        (sym .lparen lp.span :: ur ++ sym .rparen rp.span :: kwTok ["on"] on.span :: uc)
        (lp :: cr ++ rp :: on :: cc) = true :=
      accounts_cons (tokOk_sym hlp (hok1.head.symVal hlp))
        (accounts_append har (accounts_cons (tokOk_sym hrp (hok3.head.symVal hrp))
          (accounts_cons (tokOk_kwTok hkon (by simp [hvon])) hac)))
    rcases hh with ⟨rfl, rfl, rfl, rfl, -⟩ | ⟨t0, asg, flt, rfl, hkind, hasg, hflt, rfl, rfl, rfl, -⟩
    · refine opAcc_intro (cons := lp :: cr ++ rp :: on :: cc) hok hp hk hvm
        (unparse_eq.join _ _ .null .null _ _ _ _ _ _ _ hur hur huc hcne null_isValid null_isValid) ?_ htail
      rw [hts, hrest1, hts3]; simp
    · obtain ⟨hkk, hvk⟩ := isIdentNamed_iff.mp hkind
      refine opAcc_intro (cons := t0 :: asg :: flt :: (lp :: cr ++ rp :: on :: cc)) hok hp hk hvm
        (unparse_eq.joinKind _ _ _ _ _ _ _ _ _ _ _ _ hur hur huc hcne) ?_ ?_
      · rw [hts, hrest1, hts3]; simp
      · exact accounts_cons (tokOk_kwTok hkk (by simp [hvk]))
          (accounts_cons (tokOk_sym hasg (hokt.tail.head.symVal hasg))
            (accounts_cons (tokOk_identTok_plain hflt) htail))

theorem acc_tab_all (c : PCtx) (fuel : Nat) :
    STab c fuel ∧ SOps c fuel ∧ SOperator c fuel ∧ SJoin c fuel := by
  induction fuel with
  | zero =>
    refine ⟨?_, ?_, ?_, ?_⟩
    · intro ts t rest _ h; simp [pTabular] at h
    · intro ops acc ts l rest _ h; simp [pOps] at h
    · intro pipeTok name ts op rest _ _ _ h; simp [pOperator] at h
    · intro pipeTok name ts op rest _ _ _ _ h; simp [pJoin] at h
  | succ f ih =>
    obtain ⟨hT, hO, hOp, hJ⟩ := ih
    exact ⟨step_tab hO, step_ops hO hOp, step_operator hJ, step_join hT⟩

theorem pTabular_acc {c : PCtx} {fuel : Nat} {ts : List Token} {t : Tabular} {rest : List Token}
    (hok : TokOK ts) (h : pTabular c fuel ts = ⟨t, [], rest⟩) :
    ∃ us cons, unparseTabular t = some us ∧ ts = cons ++ rest ∧ accounts true us cons = true :=
  (acc_tab_all c fuel).1 ts t rest hok h

theorem pOperator_acc {c : PCtx} {fuel : Nat} {pipeTok name : Token} {ts : List Token} {op : Op}
    {rest : List Token} (hok : TokOK (pipeTok :: name :: ts)) (hp : pipeTok.kind = .pipe)
    (hk : name.kind = .ident) (h : pOperator c fuel pipeTok.span name ts = some ⟨op, [], rest⟩) :
    OpAcc pipeTok name ts op rest :=
  (acc_tab_all c fuel).2.2.1 pipeTok name ts op rest hok hp hk h

theorem unparse_let {x : Expr} {xs : List UTok} (kw asg : Span) (n : Ident) (hx : unparseExpr x = some xs) :
    unparseStmt (.let_ kw (some n) asg x) = some (kwTok ["let"] kw :: identTok n :: sym .assign asg :: xs) := by
  simp [unparseStmt, hx]

theorem pLet_acc {c : PCtx} {fuel : Nat} {ts : List Token} {v : Option Stmt} {rest : List Token}
    (hok : TokOK ts) (h : pLet c fuel ts = ⟨v, [], rest⟩) :
    ∃ s us cons, v = some s ∧ unparseStmt s = some us ∧ ts = cons ++ rest ∧ accounts true us cons = true := by
  revert ts
  apply pLet_cases (motive := fun ts r => TokOK ts → r = ⟨v, [], rest⟩ →
    ∃ s us cons, v = some s ∧ unparseStmt s = some us ∧ ts = cons ++ rest ∧ accounts true us cons = true)
  case notLet => intro ts _ _ h; exact absurd (congrArg PRes.errs h) (nfAt_ne_nil _)
  case noName => intro kwd rest0 _ _ _ h; exact absurd (congrArg PRes.errs h) (by simp)
  case noAssign => intro kwd t0 rest0 _ _ _ _ h; exact absurd (congrArg PRes.errs h) (errAt_ne_nil _)
  case full =>
    intro kwd t0 asg rest2 r hlet h0 hasg hr hok h
    simp only [PRes.mk.injEq, mkOpaque_eq_nil] at h
    obtain ⟨rfl, he, rfl⟩ := h
    obtain ⟨hkl, hvl⟩ := isIdentNamed_iff.mp hlet
    obtain ⟨ux, cx, hux, hts, hax⟩ := pExpr_acc hok.tail.tail.tail (hr.trans (PRes.eq_of_errs he))
    exact ⟨_, _, kwd :: t0 :: asg :: cx, rfl, unparse_let _ _ _ hux, by rw [hts]; rfl,
      accounts_cons (tokOk_kwTok hkl (by simp [hvl]))
        (accounts_cons (tokOk_identTok h0) (accounts_cons (hok.tail.tail.sym hasg) hax))⟩

end Pql
