/-
The not-found flag in the expression productions: an error that still carries the flag
(i.e. was not made opaque) comes without any consumption, and the loops never produce one.
-/
import PqlModel.Lemmas.ErrsAlgebra
import PqlModel.Lemmas.ParseInduct
namespace Pql

theorem pQualTail_notNF (c : PCtx) (fuel : Nat) : ∀ (parts : List Ident) (ts : List Token),
    isNF (pQualTail c fuel parts ts).errs = false := by
  induction fuel with
  | zero => intro parts ts; rfl
  | succ f ih =>
    intro parts
    apply pQualTail_cases (motive := fun _ r => isNF r.errs = false)
    case nil => rfl
    case stop => intros; rfl
    case sel => intros; exact ih _ _
    case nosel => intros; exact isNF_mkOpaque _

theorem pQualifiedIdent_notNF (c : PCtx) (t : Token) (rest : List Token)
    (hk : t.kind = .ident ∨ t.kind = .qident) : isNF (pQualifiedIdent c (t :: rest)).errs = false := by
  rw [pQualifiedIdent_cons hk]
  exact pQualTail_notNF _ _ _ _

theorem nf_expr (c : PCtx) (fuel : Nat) : ExprHolds c
    (fun _ ts r => isNF r.errs = true → r.rest = ts)
    (fun _ _ _ acc _ r => isNF r.errs = isNF acc) (fun _ _ _ acc _ r => isNF r.errs = isNF acc)
    (fun _ ts r => isNF r.errs = true → r.rest = ts)
    (fun _ ts r => isNF r.errs = true → r.rest = ts)
    (fun _ ts r => isNF r.errs = true → r.rest = ts)
    (fun _ ts r => isNF r.errs = true → r.val = .nil ∧ r.rest = ts)
    (fun _ _ _ r => isNF r.errs = false) fuel := by
  -- what is appended to the accumulator never carries the flag
  have app : ∀ (acc e : Errs), isNF e = false → isNF (acc ++ e) = isNF acc :=
    fun acc e he => by rw [isNF_append, he, Bool.or_false]
  have no : ∀ {α : Prop} {e : Errs}, isNF e = false → isNF e = true → α :=
    fun he h => absurd (he ▸ h) Bool.false_ne_true
  apply expr_induct
  case e_fuel | u_fuel | p_fuel | i_fuel => intro _ _; rfl
  case l_fuel => intro _ h; exact no rfl h
  case lt_fuel => intros; rfl
  case t_fuel | h_fuel => intro _ _ acc _; exact app acc _ rfl
  case e_nf => intro _ _ _ _ h1 hn _; exact h1 hn
  case e_trail =>
    intro _ _ r1 r2 _ _ hn _ h2 h
    rw [isNF_append, hn, h2] at h; exact no rfl h
  case t_nil | h_nil => intros; rfl
  case t_stop | h_stop => intros; rfl
  case t_inEof => intro _ _ _ acc _ _ _; exact app acc _ rfl
  case t_inNoParen => intro _ _ _ acc _ _ _ _ _ _; exact app acc _ rfl
  case t_inOpen =>
    intro _ _ _ acc _ _ _ _ cl _ _ _ _ _ _ hcl
    rw [app _ _ (hcl ▸ isNF_closeSplit ..), app _ _ (isNF_endSplit _), app _ _ (isNF_mkOpaque _)]
  case t_inList =>
    intro _ _ _ acc _ _ _ _ _ _ _ _ _ _ _ _ _ _ ih
    rw [ih, app _ _ (isNF_endSplit _), app _ _ (isNF_mkOpaque _)]
  case t_binary => intro _ _ _ acc _ _ _ _ _ _ _ _ _ _ hh _ ih; rw [ih, hh, app _ _ (isNF_mkOpaque _)]
  case h_go => intro _ _ _ acc _ _ _ _ _ _ _ _ ih; rw [ih, app _ _ (isNF_mkOpaque _)]
  case u_nil | i_nil => intro _ _; rfl
  case u_sign => intro _ _ _ _ _ _ _ h; exact no (isNF_mkOpaque _) h
  case u_plain => intro _ _ _ _ _ _ h1; exact h1
  case p_err => intro _ _ _ _ h1 _; exact h1
  case p_plain => intro _ _ _ _ _ _ _ h; exact no rfl h
  case p_index =>
    intro _ _ _ _ _ _ _ _ _ _ _ _ _ _ hcl h
    rw [app _ _ (hcl ▸ isNF_closeSplit ..), app _ _ (isNF_endSplit _)] at h
    exact no (isNF_mkOpaque _) h
  case i_lit => intro _ _ _ _ h; exact no rfl h
  case i_ident => intro _ _ _ _ _ hq _ h; exact no (hq ▸ pQualTail_notNF ..) h
  case i_qident => intro _ _ _ _ _ hq h; exact no (hq ▸ pQualTail_notNF ..) h
  case i_call =>
    intro _ _ _ _ _ _ _ _ _ _ _ _ _ _ _ _ hcl h
    rw [app _ _ (hcl ▸ isNF_closeSplit ..)] at h
    exact no (isNF_callArgErrs _) h
  case i_paren =>
    intro _ _ _ _ _ _ _ _ hcl h
    rw [app _ _ (hcl ▸ isNF_closeSplit ..), app _ _ (isNF_endSplit _)] at h
    exact no (isNF_mkOpaque _) h
  case i_other => intro _ _ _ _ _ _ _ _; rfl
  case l_err => intro _ _ _ _ h1 _ h; exact ⟨rfl, h1 h⟩
  case l_tail => intro _ _ _ _ _ _ _ _ ih h; exact no ih h
  case lt_nil | lt_stop | lt_back => intros; rfl
  case lt_err => intros; exact isNF_mkOpaque _
  case lt_more => intro _ _ _ _ _ _ _ _ _ _ _ ih; exact ih

theorem pNamedColumn_nf (c : PCtx) (fuel : Nat) (ts : List Token) (h : isNF (pNamedColumn c fuel ts).errs = true) :
    (pNamedColumn c fuel ts).rest = ts := by
  unfold pNamedColumn at h ⊢
  dsimp only at h ⊢
  split at h
  · simp at h
  · exact (nf_expr c fuel).expr ts h

end Pql
