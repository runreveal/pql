/-
Placeholders: the reference SQL reader commutes with the instantiation,

    parseStatement (ts.map (instTok ρ)) = (parseStatement ts).map (instStatement ρ)

(an EQUATION: the instantiated token list is read iff the token list with placeholders is).  It is the
token-map theorem of Lemmas/SqlTokMapStmt.lean for the map that renames no operator.
-/
import PqlModel.Lemmas.SqlTokMapStmt
namespace Pql.E2EMore
open Pql Sql SqlMap

variable (ρ : Bytes → PVal)

theorem instS_simps :
    (∀ x, instS ρ (.not_ x) = .not_ (instS ρ x)) ∧ (∀ x, instS ρ (.neg x) = .neg (instS ρ x)) ∧
    (∀ x, instS ρ (.pos x) = .pos (instS ρ x)) ∧ (∀ x n, instS ρ (.isNull x n) = .isNull (instS ρ x) n) ∧
    (∀ x vs, instS ρ (.inList x vs) = .inList (instS ρ x) (instL ρ vs)) ∧
    (∀ op x y, instS ρ (.bin op x y) = .bin op (instS ρ x) (instS ρ y)) ∧
    (∀ x i, instS ρ (.index x i) = .index (instS ρ x) (instS ρ i)) := by
  refine ⟨?_, ?_, ?_, ?_, ?_, ?_, ?_⟩ <;> intros <;> simp only [instS]

theorem instTok_qid (n : Bytes) : instTok ρ (.qid n) = .qid n := rfl

theorem gOk_id : GOk id :=
  ⟨fun _ _ _ => rfl, fun s => by cases h : infixPrec (.sym s) <;> simp [h], rfl, rfl⟩

theorem mapTok_inst : mapTok (fun p => some (ρ p)) id = instTok ρ := by
  funext t; cases t <;> rfl

mutual
theorem mapS_inst : ∀ x, mapS (fun p => some (ρ p)) id x = instS ρ x
  | .param _ | .col _ | .str _ | .num _ | .const _ | .none_ => by simp only [mapS, instS]
  | .call _ _ args fl => by simp only [mapS, instS, mapL_inst args, mapS_inst fl]
  | .case_ a b c => by simp only [mapS, instS, mapS_inst a, mapS_inst b, mapS_inst c]
  | .neg x | .pos x | .not_ x | .isNull x _ => by simp only [mapS, instS, mapS_inst x]
  | .bin _ x y | .index x y => by simp only [mapS, instS, mapS_inst x, mapS_inst y, id]
  | .inList x vs => by simp only [mapS, instS, mapS_inst x, mapL_inst vs]
theorem mapL_inst : ∀ l, mapL (fun p => some (ρ p)) id l = instL ρ l
  | .nil => by simp only [mapL, instL]
  | .cons e es => by simp only [mapL, instL, mapS_inst e, mapL_inst es]
end

theorem mapStatement_inst (st : Statement) : mapStatement (fun p => some (ρ p)) id st = instStatement ρ st := by
  have hS : mapS (fun p => some (ρ p)) id = instS ρ := funext (mapS_inst ρ)
  have hI : mapItem (fun p => some (ρ p)) id = instItem ρ := by funext x; simp only [mapItem, instItem, hS]
  have hJ : mapJoin (fun p => some (ρ p)) id = instJoin ρ := by funext x; simp only [mapJoin, instJoin, hS]
  have hO : mapOrd (fun p => some (ρ p)) id = instOrd ρ := by funext x; simp only [mapOrd, instOrd, hS]
  simp only [mapStatement, instStatement, mapSelect, instSel, hI, hJ, hO, hS]

theorem parseStatement_inst (ts : List STok) :
    parseStatement (ts.map (instTok ρ)) = (parseStatement ts).map (instStatement ρ) := by
  have h := parseStatement_map (fun p => some (ρ p)) gOk_id ts
  rwa [mapTok_inst, funext (mapStatement_inst ρ)] at h

end Pql.E2EMore
