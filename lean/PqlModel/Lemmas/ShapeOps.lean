/-
Content maps on operators and pipelines; `(*subquery).write` is parametric in contents
(`Subquery.write_mrel`): the image of a subquery is written like the subquery (`SubAlike`,
Lemmas/WriterCongStmt.lean).
-/
import PqlModel.Lemmas.ShapeExpr
import PqlModel.Lemmas.WriterCongStmt
namespace Pql

def mapSortTerm (φ : CMap) (t : SortTerm) : SortTerm :=
  { x := mapE φ t.x, asc := t.asc, ascDescSpan := φ.fsp t.ascDescSpan, nullsFirst := t.nullsFirst,
    nullsSpan := φ.fsp t.nullsSpan }

def mapColumn (φ : CMap) (c : Column) : Column :=
  { name := c.name.map φ.ident, assign := φ.fsp c.assign, x := mapE φ c.x }

def mapProp (φ : CMap) (p : RenderProp) : RenderProp :=
  { name := p.name.map φ.ident, assign := φ.fsp p.assign, value := mapE φ p.value }

mutual
def mapT (φ : CMap) : Tabular → Tabular
  | .nil => .nil
  | .mk source ops => .mk (source.map φ.ident) (mapOps φ ops)
/-- the join flavour (`kind=inner`) is a keyword, not a name: only its position changes -/
def mapOp (φ : CMap) : Op → Op
  | .count p k => .count (φ.fsp p) (φ.fsp k)
  | .where_ p k e => .where_ (φ.fsp p) (φ.fsp k) (mapE φ e)
  | .sort p k ts => .sort (φ.fsp p) (φ.fsp k) (ts.map (mapSortTerm φ))
  | .take p k n => .take (φ.fsp p) (φ.fsp k) (mapE φ n)
  | .top p k n b c => .top (φ.fsp p) (φ.fsp k) (mapE φ n) (φ.fsp b) (c.map (mapSortTerm φ))
  | .project p k cs => .project (φ.fsp p) (φ.fsp k) (cs.map (mapColumn φ))
  | .extend p k cs => .extend (φ.fsp p) (φ.fsp k) (cs.map (mapColumn φ))
  | .summarize p k cs b gs =>
    .summarize (φ.fsp p) (φ.fsp k) (cs.map (mapColumn φ)) (φ.fsp b) (gs.map (mapColumn φ))
  | .join p k kind ka fl lp right rp on conds =>
    .join (φ.fsp p) (φ.fsp k) (φ.fsp kind) (φ.fsp ka) (fl.map φ.fnIdent) (φ.fsp lp) (mapT φ right) (φ.fsp rp)
      (φ.fsp on) (mapL φ conds)
  | .as_ p k n => .as_ (φ.fsp p) (φ.fsp k) (n.map φ.ident)
  | .render p k ch w lp props rp =>
    .render (φ.fsp p) (φ.fsp k) (ch.map φ.ident) (φ.fsp w) (φ.fsp lp) (props.map (mapProp φ)) (φ.fsp rp)
def mapOps (φ : CMap) : OpList → OpList
  | .nil => .nil
  | .cons o os => .cons (mapOp φ o) (mapOps φ os)
end

theorem opTypeName_mapOp (φ : CMap) (o : Op) : opTypeName (mapOp φ o) = opTypeName o := by
  cases o <;> rfl

theorem canAttachSort_mapOp (φ : CMap) (o : Option Op) : canAttachSort (o.map (mapOp φ)) = canAttachSort o := by
  cases o with
  | none => rfl
  | some o => simp only [Option.map, canAttachSort, opTypeName_mapOp]

theorem projExpr_mapColumn (φ : CMap) (c : Column) : projExpr (mapColumn φ c) = mapE φ (projExpr c) := by
  obtain ⟨name, asg, x⟩ := c
  cases x <;> try (simp only [projExpr, mapColumn, mapE])
  cases name <;> simp only [Option.map, List.map_cons, List.map_nil]

def inertTerms (s : Scope) (m : Mode) (φ : CMap) (ts : List SortTerm) : Bool := ts.all fun t => inertE s m φ t.x
def inertCols (s : Scope) (m : Mode) (φ : CMap) (cs : List Column) : Bool := cs.all fun c => inertE s m φ c.x

def inertOp (s : Scope) (m : Mode) (φ : CMap) : Op → Bool
  | .where_ _ _ e => inertE s m φ e
  | .project _ _ cs => cs.all fun c => inertE s m φ (projExpr c)
  | .extend _ _ cs => inertCols s m φ cs
  | .summarize _ _ cs _ gs => inertCols s m φ cs && inertCols s m φ gs
  | _ => true

def inertOpOpt (s : Scope) (m : Mode) (φ : CMap) : Option Op → Bool
  | some o => inertOp s m φ o
  | none => true
def inertSortOpt (s : Scope) (m : Mode) (φ : CMap) : Option (List SortTerm) → Bool
  | some ts => inertTerms s m φ ts
  | none => true
def inertTakeOpt (s : Scope) (m : Mode) (φ : CMap) : Option Expr → Bool
  | some n => inertE s m φ n
  | none => true

def inertSub (s : Scope) (m : Mode) (φ : CMap) (sub : Subquery) : Bool :=
  inertOpOpt s m φ sub.op && inertSortOpt s m φ sub.sort && inertTakeOpt s m φ sub.take

/-! ### the pieces of output that do not come through `writeExpr` -/

/-- the alias of an unnamed column is a slice of the source text: the two slices must be related -/
def AliasRel (φ : CMap) (R : List Chunk → List Chunk → Prop) (src src' : Bytes) (c : Column) : Prop :=
  c.name = none →
    ExRel (fun t t' => R [.qid t] [.qid t']) (sliceSource src c.x.spanOf) (sliceSource src' (mapE φ c.x).spanOf)

def renderPrefix : Bytes := Bytes.ofString "render_prop_"

def OpOK (φ : CMap) (R : List Chunk → List Chunk → Prop) (src src' : Bytes) : Op → Prop
  | .project _ _ cs => ∀ c ∈ cs, c.name = none → R [.qid []] [.qid []]
  | .extend _ _ cs => ∀ c ∈ cs, AliasRel φ R src src' c
  | .summarize _ _ cs _ gs => (∀ c ∈ cs, AliasRel φ R src src' c) ∧ (∀ c ∈ gs, AliasRel φ R src src' c)
  | .render _ _ chart _ _ props _ =>
    R [.qstr (identName chart)] [.qstr (identName (chart.map φ.ident))] ∧
    ∀ p ∈ props, R [.qstr (renderPropValue p.value)] [.qstr (renderPropValue (mapE φ p.value))] ∧
      R [.qid (renderPrefix ++ identName p.name)] [.qid (renderPrefix ++ identName (p.name.map φ.ident))]
  | _ => True

def OpOKOpt (φ : CMap) (R : List Chunk → List Chunk → Prop) (src src' : Bytes) : Option Op → Prop
  | some o => OpOK φ R src src' o
  | none => True

def SubOK (φ : CMap) (R : List Chunk → List Chunk → Prop) (src src' : Bytes) (sub : Subquery) : Prop :=
  OpOKOpt φ R src src' sub.op

structure MSubRel (φ : CMap) (R : List Chunk → List Chunk → Prop) (sub sub' : Subquery) : Prop where
  name : R [.qid sub.name] [.qid sub'.name]
  source : R sub.source sub'.source
  op : sub'.op = sub.op.map (mapOp φ)
  sort : sub'.sort = sub.sort.map (List.map (mapSortTerm φ))
  take : sub'.take = sub.take.map (mapE φ)

section
variable {φ : CMap} {R : List Chunk → List Chunk → Prop} {src src' : Bytes} {s s' : Scope} {m : Mode}

theorem columnAlias_rel (hR : WCong φ R) (c : Column) (ha : AliasRel φ R src src' c) :
    ExRel R (columnAlias ⟨src, s, m⟩ c) (columnAlias ⟨src', s', m⟩ (mapColumn φ c)) := by
  obtain ⟨name, asg, x⟩ := c
  cases name with
  | some n =>
    simp only [columnAlias, mapColumn, Option.map]
    exact hR.cons_txt _ (hR.qid _)
  | none =>
    simp only [columnAlias, mapColumn, Option.map]
    refine ExRel.bind (ha rfl) fun t t' ht => ExRel.pure_pure ?_
    exact hR.cons_txt _ ht

theorem identName_rel (hR : WCong φ R) (n : Option Ident) (h : n = none → R [.qid []] [.qid []]) :
    R [.qid (identName n)] [.qid (identName (n.map φ.ident))] := by
  cases n with
  | none => exact h rfl
  | some i => exact hR.qid _

theorem renderProps_mrel (hR : WCong φ R) : (props : List RenderProp) →
    (∀ p ∈ props, R [.qstr (renderPropValue p.value)] [.qstr (renderPropValue (mapE φ p.value))] ∧
      R [.qid (renderPrefix ++ identName p.name)] [.qid (renderPrefix ++ identName (p.name.map φ.ident))]) →
    R (renderProps props) (renderProps (props.map (mapProp φ)))
  | [], _ => hR.nil
  | q :: props, hp => by
    have hq := hp q (List.mem_cons_self ..)
    simp only [renderProps, List.map_cons, List.flatMap_cons]
    refine hR.append ?_ (renderProps_mrel hR props fun x hx => hp x (List.mem_cons_of_mem _ hx))
    simp only [mapProp]
    exact hR.cons_txt _ (hR.cons_of hq.1 (hR.cons_txt _ hq.2))

theorem mapOp_alike (hR : WCong φ R) (hs : ScopeRel R s s') (o : Op) (hi : inertOp s m φ o = true)
    (hok : OpOK φ R src src' o) : OpAlike R ⟨src, s, m⟩ ⟨src', s', m⟩ o (mapOp φ o) := by
  have hcols : ∀ cs : List Column, inertCols s m φ cs = true → (∀ c ∈ cs, AliasRel φ R src src' c) →
      ListRel (ColAlike R ⟨src, s, m⟩ ⟨src', s', m⟩) cs (cs.map (mapColumn φ)) := fun cs hi ha => by
    simp only [inertCols, List.all_eq_true] at hi
    exact ListRel.of_map _ fun c hc => ⟨mapE_rel hR hs c.x (hi c hc), columnAlias_rel hR c (ha c hc)⟩
  cases o with
  | where_ p k e => exact .where_ (mapE_rel hR hs e hi)
  | project p k cs =>
    simp only [inertOp, List.all_eq_true] at hi
    refine .project (ListRel.of_map _ fun c hc => ?_)
    rw [projCol_eq, projCol_eq, projExpr_mapColumn]
    exact ExRel.bind (mapE_rel hR hs _ (hi c hc)) fun _ _ hx =>
      ExRel.pure_pure (hR.append hx (hR.cons_txt _ (identName_rel hR c.name (hok c hc))))
  | extend p k cs => exact .extend (hcols cs hi hok)
  | summarize p k cs b gs =>
    simp only [inertOp, Bool.and_eq_true] at hi
    exact .summarize (hcols cs hi.1 hok.1) (hcols gs hi.2 hok.2)
  | render p k ch w lp props rp => exact .render hok.1 (renderProps_mrel hR props hok.2)
  | count => exact .count
  | as_ => exact .as_
  | sort | take | top | join => exact .other rfl rfl

theorem Subquery.write_mrel (hR : WCong φ R) (hs : ScopeRel R s s') {sub sub' : Subquery}
    (hsub : MSubRel φ R sub sub') (hi : inertSub s m φ sub = true) (hok : SubOK φ R src src' sub) :
    ExRel R (sub.write ⟨src, s, m⟩) (sub'.write ⟨src', s', m⟩) := by
  simp only [inertSub, Bool.and_eq_true] at hi
  unfold SubOK at hok
  refine Subquery.write_alike hR.toFrameCong (.of_map hR.toFrameCong hsub.source hsub.op hsub.sort hsub.take
    (fun o ho => ?_) (fun ts hts t ht => ?_) fun n hn => ?_)
  · rw [ho] at hi hok
    exact mapOp_alike hR hs o hi.1.1 hok
  · have h2 := hi.1.2
    rw [hts] at h2
    simp only [inertSortOpt, inertTerms, List.all_eq_true] at h2
    exact ⟨mapE_rel hR hs t.x (h2 t ht), rfl, rfl⟩
  · have h3 := hi.2
    rw [hn] at h3
    exact mapE_rel hR hs n h3

end

end Pql
