/-
The relation between the subqueries of the model (`Subquery`, source = written SQL chunks) and
the structured links of the intended splitting (`Intended.SubA`, source = `SrcA`), and the list
lemmas the refinement proof (Lemmas/SplitASim.lean) needs.
-/
import PqlModel.Props.C02Split
import PqlModel.Lemmas.ScopeParen
import PqlModel.Spec.Intended
namespace Pql.C05
open Pql SplitQ Intended

/-- pointwise relation of two lists of equal length (Mathlib's `List.Forall₂`; core has none) -/
inductive Forall₂ {α β : Type} (R : α → β → Prop) : List α → List β → Prop
  | nil : Forall₂ R [] []
  | cons {a : α} {b : β} {l₁ : List α} {l₂ : List β} : R a b → Forall₂ R l₁ l₂ → Forall₂ R (a :: l₁) (b :: l₂)

/-- it is `Pql.ListRel`; its lemmas come from there -/
theorem forall₂_iff {α β : Type} {R : α → β → Prop} {l : List α} {l' : List β} :
    Forall₂ R l l' ↔ Pql.ListRel R l l' := by
  constructor
  · intro h; induction h with
    | nil => exact .nil
    | cons hab _ ih => exact .cons hab ih
  · intro h; induction h with
    | nil => exact .nil
    | cons hab _ ih => exact .cons hab ih

theorem listRel_snoc {α β : Type} {R : α → β → Prop} {as : List α} {bs : List β} {b : β}
    (h : Pql.ListRel R as (bs ++ [b])) : ∃ as' a, as = as' ++ [a] ∧ Pql.ListRel R as' bs ∧ R a b := by
  have hr := h.reverse
  simp only [List.reverse_append, List.reverse_cons, List.reverse_nil, List.nil_append, List.cons_append] at hr
  generalize hrev : as.reverse = ar at hr
  cases hr with
  | cons hab hrest =>
    refine ⟨_, _, ?_, by simpa using hrest.reverse, hab⟩
    have := congrArg List.reverse hrev
    simpa using this

namespace Forall₂
variable {α β : Type} {R : α → β → Prop}

theorem length_eq {l₁ : List α} {l₂ : List β} (h : Forall₂ R l₁ l₂) : l₁.length = l₂.length :=
  (forall₂_iff.1 h).length_eq

theorem append {l₁ l₁' : List α} {l₂ l₂' : List β} (h : Forall₂ R l₁ l₂) (h' : Forall₂ R l₁' l₂') :
    Forall₂ R (l₁ ++ l₁') (l₂ ++ l₂') := forall₂_iff.2 ((forall₂_iff.1 h).append (forall₂_iff.1 h'))

theorem snoc {l₁ : List α} {l₂ : List β} {a : α} {b : β} (h : Forall₂ R l₁ l₂) (hab : R a b) :
    Forall₂ R (l₁ ++ [a]) (l₂ ++ [b]) := h.append (.cons hab .nil)

theorem snoc_right {l₁ : List α} {init : List β} {b : β} (h : Forall₂ R l₁ (init ++ [b])) :
    ∃ initA a, l₁ = initA ++ [a] ∧ Forall₂ R initA init ∧ R a b :=
  let ⟨initA, a, e, hi, ha⟩ := listRel_snoc (forall₂_iff.1 h)
  ⟨initA, a, e, forall₂_iff.2 hi, ha⟩

theorem getElem? {l₁ : List α} {l₂ : List β} (h : Forall₂ R l₁ l₂) (i : Nat) :
    (l₁[i]? = none ∧ l₂[i]? = none) ∨ ∃ a b, l₁[i]? = some a ∧ l₂[i]? = some b ∧ R a b := by
  have := (forall₂_iff.1 h).getElem? i
  generalize l₁[i]? = x at this
  generalize l₂[i]? = y at this
  cases this with
  | none => exact .inl ⟨rfl, rfl⟩
  | some hab => exact .inr ⟨_, _, rfl, rfl, hab⟩

theorem getElem {l₁ : List α} {l₂ : List β} (h : Forall₂ R l₁ l₂) (i : Nat) (h₁ : i < l₁.length)
    (h₂ : i < l₂.length) : R l₁[i] l₂[i] := by
  rcases h.getElem? i with ⟨h, _⟩ | ⟨a, b, ha, hb, hab⟩
  · simp at h; omega
  · rw [List.getElem?_eq_getElem h₁] at ha
    rw [List.getElem?_eq_getElem h₂] at hb
    cases ha; cases hb; exact hab

theorem getLast? {l₁ : List α} {l₂ : List β} (h : Forall₂ R l₁ l₂) :
    (l₁ = [] ∧ l₂ = []) ∨ ∃ i₁ a i₂ b, l₁ = i₁ ++ [a] ∧ l₂ = i₂ ++ [b] ∧ Forall₂ R i₁ i₂ ∧ R a b := by
  rcases List.eq_nil_or_concat l₂ with rfl | ⟨i₂, b, rfl⟩
  · cases h; left; exact ⟨rfl, rfl⟩
  · rw [List.concat_eq_append] at h
    obtain ⟨i₁, a, rfl, hi, ha⟩ := h.snoc_right
    right; exact ⟨i₁, a, i₂, b, rfl, List.concat_eq_append .., hi, ha⟩

theorem map_eq {γ : Type} {f : α → γ} {g : β → γ} {l₁ : List α} {l₂ : List β} (h : Forall₂ R l₁ l₂)
    (hfg : ∀ a b, R a b → f a = g b) : l₁.map f = l₂.map g := ((forall₂_iff.1 h).map hfg).eq

end Forall₂


/-- a structured source and the SQL text `splitOps` writes for it: `.table n ~ [.qid n]`;
    `.join unique left l r cond ~` the `joinSource` chunk list of `splitOps`
    (`SplitQ.joinSourceOf`), with `cond` written in join mode -/
def SrcRel (src : Bytes) (scope : List (Bytes × List Chunk)) : SrcA → List Chunk → Prop
  | .table n, cs => cs = [.qid n]
  | .join unique left l r cond, cs =>
    ∃ c, writeExpr ⟨src, scope, .join⟩ cond = .ok c ∧
      cs = joinSourceOf unique (joinKwOf left) [.qid l] r c

structure SubRel (src : Bytes) (scope : List (Bytes × List Chunk)) (a : SubA) (s : Subquery) : Prop where
  name : a.name = s.name
  op : a.op = s.op
  sort : a.sort = s.sort
  take : a.take = s.take
  source : SrcRel src scope a.source s.source

def srcNames : SrcA → List Bytes
  | .table n => [n]
  | .join _ _ l r _ => [l, r]

/-- the four chunks between the left side and the condition (alias, keyword, right name, alias and `ON`):
    a join source is never a single quoted name -/
theorem joinSourceOf_length_ge (unique : Bool) (kw : String) (l : List Chunk) (r : Bytes) (c : List Chunk) :
    4 ≤ (joinSourceOf unique kw l r c).length := by
  simp [joinSourceOf]; omega

theorem SrcRel.of_qid {src scope} {a : SrcA} {n : Bytes} (h : SrcRel src scope a [.qid n]) : a = .table n := by
  cases a with
  | table m => simp only [SrcRel] at h; cases h; rfl
  | join u l ln rn cond =>
    obtain ⟨c, _, hc⟩ := h
    have := joinSourceOf_length_ge u (joinKwOf l) [.qid ln] rn c
    rw [← hc] at this; simp at this

variable {src : Bytes} {scope : List (Bytes × List Chunk)}

theorem lastOf_rel_splita {dstA : List SubA} {dst : List Subquery} (h : Forall₂ (SubRel src scope) dstA dst) (k : Nat) :
    (lastOfA dstA k = none ∧ lastOf dst k = none) ∨
      ∃ a s, lastOfA dstA k = some a ∧ lastOf dst k = some s ∧ SubRel src scope a s := by
  unfold lastOfA lastOf
  rw [h.length_eq]
  split
  · rcases h.getLast? with ⟨rfl, rfl⟩ | ⟨i₁, a, i₂, b, rfl, rfl, _, hab⟩
    · left; simp
    · right; exact ⟨a, b, by simp, by simp, hab⟩
  · left; exact ⟨rfl, rfl⟩

theorem chain_rel_splita {dstA : List SubA} {dst : List Subquery} (h : Forall₂ (SubRel src scope) dstA dst) (k : Nat)
    (source : Option Ident) : SubRel src scope (chainA dstA k source) (chainSubquery dst k source) := by
  refine ⟨?_, rfl, rfl, rfl, ?_⟩
  · simp [chainA, chainSubquery, h.length_eq]
  · simp only [chainA, chainSubquery, h.length_eq]
    split
    · rename_i hk
      rcases h.getLast? with ⟨rfl, rfl⟩ | ⟨i₁, a, i₂, b, rfl, rfl, _, hab⟩
      · simp at hk
      · simp [SrcRel, hab.name]
    · simp [SrcRel]

theorem setLast_rel_splita {dstA : List SubA} {dst : List Subquery} (h : Forall₂ (SubRel src scope) dstA dst)
    {fA : SubA → SubA} {f : Subquery → Subquery}
    (hf : ∀ a s, SubRel src scope a s → SubRel src scope (fA a) (f s)) :
    Forall₂ (SubRel src scope) (setLastA dstA fA) (setLast dst f) := by
  rcases h.getLast? with ⟨rfl, rfl⟩ | ⟨i₁, a, i₂, b, rfl, rfl, hi, hab⟩
  · exact .nil
  · have h1 : setLastA (i₁ ++ [a]) fA = i₁ ++ [fA a] := by simp [setLastA]
    rw [h1, C02.setLast_append_singleton]
    exact hi.snoc (hf _ _ hab)

theorem getLast_name_rel {dstA : List SubA} {dst : List Subquery} (h : Forall₂ (SubRel src scope) dstA dst) :
    (match dstA.getLast? with | some s => s.name | none => []) = joinRight dst := by
  unfold joinRight
  rcases h.getLast? with ⟨rfl, rfl⟩ | ⟨i₁, a, i₂, b, rfl, rfl, _, hab⟩
  · rfl
  · simp [hab.name]

end Pql.C05
