/-
ParseRoundtrip: the SQL expression parser as a set of composable judgements.
`PE m ts s r` — with enough fuel `pExprS · m ts` returns `s` and leaves `r`; likewise `PT`
(trail), `PU` (unary), `PP` (postfix), `PA` (atom), `PC` (column tail), `PL` (list).  One lemma
per grammar production.  Each judgement is written out (the statements of C01 mention `PE`, `PU`, `PA`)
and unfolds to `Ev`, stated after them, of an equation in the fuel; the production lemmas take their
fuel from `Ev.leaf` / `Ev.step` / `Ev.step₂` and do no arithmetic of their own (`PE.unique` and
`PE_head`, which open a judgement, do).
The numbers in the hypotheses are the reader's levels (Spec/Sql/Parse.lean): `infixPrec` puts `OR` at 1,
`AND` 2, the comparisons 4, `||` 5, `+ -` 6, `* / %` 7 and the right operand is read one level above;
`pTrailS` takes `IS` / `IN` while `m ≤ 4`, `pExprS` a prefix `NOT` while `m ≤ 3`, its operand read at 3.
-/
import PqlModel.Lemmas.SqlRoundtripToks
namespace Pql.RT
set_option linter.unusedSimpArgs false
open Pql Sql

def PE (m : Nat) (ts : List STok) (s : SExpr) (r : List STok) : Prop :=
  ∃ N, ∀ n, N ≤ n → pExprS n m ts = some (s, r)
def PT (m : Nat) (x : SExpr) (ts : List STok) (s : SExpr) (r : List STok) : Prop :=
  ∃ N, ∀ n, N ≤ n → pTrailS n m x ts = some (s, r)
def PU (ts : List STok) (s : SExpr) (r : List STok) : Prop :=
  ∃ N, ∀ n, N ≤ n → pUnaryS n ts = some (s, r)
def PP (x : SExpr) (ts : List STok) (s : SExpr) (r : List STok) : Prop :=
  ∃ N, ∀ n, N ≤ n → pPostfixS n x ts = some (s, r)
def PA (ts : List STok) (s : SExpr) (r : List STok) : Prop :=
  ∃ N, ∀ n, N ≤ n → pAtomS n ts = some (s, r)
def PC (parts : List Bytes) (ts : List STok) (s : SExpr) (r : List STok) : Prop :=
  ∃ N, ∀ n, N ≤ n → pColTail n parts ts = some (s, r)
def PL (ts : List STok) (vs : SExprList) (r : List STok) : Prop :=
  ∃ N, ∀ n, N ≤ n → pListS n ts = some (vs, r)

def Ends (p : STok → Bool) : List STok → Prop
  | [] => True
  | t :: _ => p t = true

/-- what may follow an atom: anything but `.` (column continuation), `FILTER` (aggregate filter)
    and `(` (a constant word followed by `(` is read as a function name) -/
def atomEndTok (t : STok) : Bool := !isSym t "." && !isWord t "FILTER" && !isSym t "("
/-- what may follow a signed term: additionally no `[` -/
def unaryEndTok (t : STok) : Bool := atomEndTok t && !isSym t "["
/-- a token that cannot continue an expression -/
def stopTok (t : STok) : Bool :=
  unaryEndTok t && (infixPrec t).isNone && !isWord t "IS" && !isWord t "IN"

theorem Ends.mono {p q : STok → Bool} (h : ∀ t, p t = true → q t = true) {r : List STok} (hr : Ends p r) :
    Ends q r := by
  cases r with
  | nil => trivial
  | cons t _ => exact h t hr

theorem stop_unaryEnd {r : List STok} (h : Ends stopTok r) : Ends unaryEndTok r :=
  h.mono fun t ht => by simp only [stopTok, Bool.and_eq_true] at ht; exact ht.1.1.1

theorem unaryEnd_atomEnd {r : List STok} (h : Ends unaryEndTok r) : Ends atomEndTok r :=
  h.mono fun t ht => by simp only [unaryEndTok, Bool.and_eq_true] at ht; exact ht.1

theorem atomEnd_filter {t : STok} (h : atomEndTok t = true) : isWord t "FILTER" = false := by
  simp only [atomEndTok, Bool.and_eq_true, Bool.not_eq_true'] at h; exact h.1.2

theorem atomEnd_lparen {t : STok} (h : atomEndTok t = true) : isSym t "(" = false := by
  simp only [atomEndTok, Bool.and_eq_true, Bool.not_eq_true'] at h; exact h.2

theorem succ_of_le {N n : Nat} (h : N + 1 ≤ n) : ∃ k, n = k + 1 ∧ N ≤ k := ⟨n - 1, by omega, by omega⟩

/-- `P` holds of every sufficiently large fuel: what the judgements say of their equation.  A
    production is one unfolding of the reader: its premises at fuel `k` give its conclusion at `k + 1`. -/
def Ev (P : Nat → Prop) : Prop := ∃ N, ∀ n, N ≤ n → P n

theorem Ev.leaf {Q : Nat → Prop} (f : ∀ k, Q (k + 1)) : Ev Q :=
  ⟨1, fun n hn => by obtain ⟨k, rfl, _⟩ := succ_of_le hn; exact f k⟩

theorem Ev.step {P Q : Nat → Prop} (h : Ev P) (f : ∀ k, P k → Q (k + 1)) : Ev Q := by
  obtain ⟨N, h⟩ := h
  exact ⟨N + 1, fun n hn => by obtain ⟨k, rfl, hk⟩ := succ_of_le hn; exact f k (h k hk)⟩

theorem Ev.and {P Q : Nat → Prop} (h1 : Ev P) (h2 : Ev Q) : Ev fun n => P n ∧ Q n := by
  obtain ⟨N1, h1⟩ := h1; obtain ⟨N2, h2⟩ := h2
  exact ⟨N1 + N2, fun n hn => ⟨h1 n (by omega), h2 n (by omega)⟩⟩

theorem Ev.step₂ {P₁ P₂ Q : Nat → Prop} (h1 : Ev P₁) (h2 : Ev P₂) (f : ∀ k, P₁ k → P₂ k → Q (k + 1)) : Ev Q :=
  (h1.and h2).step fun k h => f k h.1 h.2

theorem T_stop {m : Nat} {x : SExpr} {r : List STok} (hr : Ends stopTok r) : PT m x r x r := by
  refine Ev.leaf fun k => ?_
  cases r with
  | nil => simp only [pTrailS]
  | cons t rest =>
    simp only [Ends, stopTok, Bool.and_eq_true, Bool.not_eq_true', Option.isNone_iff_eq_none] at hr
    obtain ⟨⟨⟨_, h1⟩, h2⟩, h3⟩ := hr
    simp only [pTrailS, h1, h2, h3, Bool.false_and, Bool.false_eq_true, if_false]

theorem T_bin {m p : Nat} {op : String} {t : STok} {x y s : SExpr} {rest r1 r2 : List STok}
    (hop : infixPrec t = some (op, p)) (his : isWord t "IS" = false) (hin : isWord t "IN" = false)
    (hp : m ≤ p) (hy : PE (p + 1) rest y r1) (ht : PT m (.bin op x y) r1 s r2) : PT m x (t :: rest) s r2 := by
  refine Ev.step₂ hy ht fun k h1 h2 => ?_
  have hlt : ¬ p < m := by omega
  simp only [pTrailS, his, hin, hop, Bool.false_and, Bool.false_eq_true, if_false, hlt, h1, h2]

theorem T_low {m p : Nat} {op : String} {t : STok} {x : SExpr} {rest : List STok}
    (hop : infixPrec t = some (op, p)) (his : isWord t "IS" = false) (hin : isWord t "IN" = false)
    (hp : p < m) : PT m x (t :: rest) x (t :: rest) := by
  refine Ev.leaf fun k => ?_
  simp only [pTrailS, his, hin, hop, Bool.false_and, Bool.false_eq_true, if_false, hp, if_true]

theorem T_isnull {m : Nat} {x s : SExpr} {r r2 : List STok} (hm : m ≤ 4)
    (ht : PT m (.isNull x false) r s r2) : PT m x (W "IS" :: W "NULL" :: r) s r2 :=
  Ev.step ht fun k h => by simp [pTrailS, hm, h]

theorem T_isnotnull {m : Nat} {x s : SExpr} {r r2 : List STok} (hm : m ≤ 4)
    (ht : PT m (.isNull x true) r s r2) : PT m x (W "IS" :: W "NOT" :: W "NULL" :: r) s r2 :=
  Ev.step ht fun k h => by simp [pTrailS, hm, h]

theorem T_in {m : Nat} {x s : SExpr} {vs : SExprList} {r1 r3 r' : List STok} (hm : m ≤ 4)
    (hl : PL r1 vs (S ")" :: r3)) (ht : PT m (.inList x vs) r3 s r') :
    PT m x (W "IN" :: S "(" :: r1) s r' :=
  Ev.step₂ hl ht fun k h1 h2 => by simp [pTrailS, hm, h1, h2]

/-- words that are not operator words of the SQL expression grammar: exactly the words `pAtomS`
    reads as a function name when `(` follows -/
def wordSafe (w : Bytes) : Bool :=
  let u := upper w
  !(u == "CASE") && !operatorWords.contains u

theorem A_str {v : Bytes} {r : List STok} : PA (.str v :: r) (.str v) r :=
  Ev.leaf fun k => by simp only [pAtomS]

theorem A_num {v : Bytes} {r : List STok} : PA (.num v :: r) (.num v) r :=
  Ev.leaf fun k => by simp only [pAtomS]

theorem A_col {v : Bytes} {s : SExpr} {rest r : List STok} (h : PC [v] rest s r) : PA (.qid v :: rest) s r :=
  Ev.step h fun k h => by simp only [pAtomS, h]

theorem C_step {parts : List Bytes} {v : Bytes} {s : SExpr} {rest r : List STok}
    (h : PC (parts ++ [v]) rest s r) : PC parts (S "." :: .qid v :: rest) s r :=
  Ev.step h fun k h => by simp [pColTail, h]

theorem C_stop {parts : List Bytes} {r : List STok} (hr : Ends atomEndTok r) : PC parts r (.col parts) r := by
  refine Ev.leaf fun k => ?_
  unfold pColTail
  split
  · simp only [Ends, atomEndTok, Bool.and_eq_true, Bool.not_eq_true'] at hr
    simp only [hr.1.1, Bool.false_eq_true, if_false]
  · rfl

theorem A_paren {ts r : List STok} {x : SExpr} (h : PE 0 ts x (S ")" :: r)) : PA (S "(" :: ts) x r :=
  Ev.step h fun k h => by simp [pAtomS, h]

theorem A_const {w : Bytes} {r : List STok}
    (hw : (upper w == "TRUE" || upper w == "FALSE" || upper w == "NULL" || upper w == "CURRENT_TIMESTAMP") = true)
    (hr : Ends atomEndTok r) : PA (.word w :: r) (.const (upper w)) r := by
  refine Ev.leaf fun k => ?_
  cases r with
  | nil => simp only [pAtomS, hw, Bool.not_false, Bool.and_self, if_true]
  | cons t r' =>
    have := atomEnd_lparen hr
    simp only [pAtomS, hw, this, Bool.not_false, Bool.and_self, if_true]

theorem wordSafe_iff {w : Bytes} (hw : wordSafe w = true) :
    (upper w == "CASE") = false ∧ operatorWords.contains (upper w) = false := by
  simp only [wordSafe, Bool.and_eq_true, Bool.not_eq_true'] at hw
  exact ⟨hw.1, hw.2⟩

theorem A_call_empty {w : Bytes} {r : List STok} (hw : wordSafe w = true) (hr : Ends atomEndTok r) :
    PA (.word w :: S "(" :: S ")" :: r) (.call w false .nil .none_) r := by
  obtain ⟨h2, h3⟩ := wordSafe_iff hw
  have h3' : ¬ upper w ∈ operatorWords := by simpa using h3
  refine Ev.leaf fun k => ?_
  match r, hr with
  | [], _ => simp [pAtomS, h2, h3']
  | [a], hr => simp [pAtomS, h2, h3']
  | [a, b], hr => simp [pAtomS, h2, h3']
  | a :: b :: c :: r', hr =>
    have := atomEnd_filter hr
    simp [pAtomS, h2, h3', this]

def startTok (t : STok) : Bool := !isSym t ")" && !isSym t "*"

theorem A_call_args {w : Bytes} {t : STok} {tl r : List STok} {as : SExprList} (hw : wordSafe w = true)
    (ht : startTok t = true) (htl : tl ≠ []) (hl : PL (t :: tl) as (S ")" :: r)) (hr : Ends atomEndTok r) :
    PA (.word w :: S "(" :: t :: tl) (.call w false as .none_) r := by
  obtain ⟨h2, h3⟩ := wordSafe_iff hw
  have h3' : ¬ upper w ∈ operatorWords := by simpa using h3
  simp only [startTok, Bool.and_eq_true, Bool.not_eq_true'] at ht
  obtain ⟨a, tl', rfl⟩ : ∃ a tl', tl = a :: tl' := by
    cases tl with
    | nil => exact absurd rfl htl
    | cons a tl' => exact ⟨a, tl', rfl⟩
  refine Ev.step hl fun k hl => ?_
  match r, hr with
  | [], _ => simp [pAtomS, h2, h3', ht.1, ht.2, hl]
  | [a], hr => simp [pAtomS, h2, h3', ht.1, ht.2, hl]
  | [a, b], hr => simp [pAtomS, h2, h3', ht.1, ht.2, hl]
  | a :: b :: c :: r', hr =>
    have := atomEnd_filter hr
    simp [pAtomS, h2, h3', ht.1, ht.2, hl, this]

theorem A_call_filter {w : Bytes} {r2 r4 : List STok} {c : SExpr} (hw : wordSafe w = true)
    (hc : PE 0 r2 c (S ")" :: r4)) :
    PA (.word w :: S "(" :: S ")" :: W "FILTER" :: S "(" :: W "WHERE" :: r2) (.call w false .nil c) r4 := by
  obtain ⟨h2, h3⟩ := wordSafe_iff hw
  have h3' : ¬ upper w ∈ operatorWords := by simpa using h3
  exact Ev.step hc fun k hc => by simp [pAtomS, h2, h3', hc]

theorem A_case {r1 r3 r5 r7 : List STok} {c a b : SExpr} (hc : PE 0 r1 c (W "THEN" :: r3))
    (ha : PE 0 r3 a (W "ELSE" :: r5)) (hb : PE 0 r5 b (W "END" :: r7)) :
    PA (W "CASE" :: W "WHEN" :: r1) (.case_ c a b) r7 :=
  Ev.step₂ hc (Ev.and ha hb) fun k hc h => by simp [pAtomS, hc, h.1, h.2]

theorem L_one {ts r : List STok} {x : SExpr} (hx : PE 0 ts x r) (hr : Ends (fun t => !isSym t ",") r) :
    PL ts (.cons x .nil) r := by
  refine Ev.step hx fun k hx => ?_
  cases r with
  | nil => simp [pListS, hx]
  | cons t r' =>
    simp only [Ends, Bool.not_eq_true'] at hr
    simp [pListS, hx, hr]

theorem L_cons {ts r2 r : List STok} {x : SExpr} {vs : SExprList} (hx : PE 0 ts x (S "," :: r2))
    (hl : PL r2 vs r) : PL ts (.cons x vs) r :=
  Ev.step₂ hx hl fun k hx hl => by simp [pListS, hx, hl]

theorem P_stop {x : SExpr} {r : List STok} (hr : Ends unaryEndTok r) : PP x r x r := by
  refine Ev.leaf fun k => ?_
  cases r with
  | nil => simp only [pPostfixS]
  | cons t r' =>
    simp only [Ends, unaryEndTok, Bool.and_eq_true, Bool.not_eq_true'] at hr
    simp only [pPostfixS, hr.2, Bool.false_eq_true, if_false]

theorem P_index {x i s : SExpr} {rest r2 r' : List STok} (hi : PE 0 rest i (S "]" :: r2))
    (hp : PP (.index x i) r2 s r') : PP x (S "[" :: rest) s r' :=
  Ev.step₂ hi hp fun k hi hp => by simp [pPostfixS, hi, hp]

theorem pAtomS_head {n : Nat} {t : STok} {tl : List STok} {res : SExpr × List STok}
    (h : pAtomS n (t :: tl) = some res) :
    isSym t "-" = false ∧ isSym t "+" = false ∧ isSym t ")" = false ∧ isSym t "*" = false ∧
      isWord t "NOT" = false := by
  cases n with
  | zero => simp [pAtomS] at h
  | succ k =>
    cases t with
    | sym s =>
      by_cases hs : s = "("
      · subst hs; simp
      · simp [pAtomS, hs] at h
    | word w =>
      refine ⟨rfl, rfl, rfl, rfl, ?_⟩
      simp only [isWord_word]
      by_cases hN : upper w = "NOT"
      · simp [pAtomS, hN, operatorWords] at h
      · simpa using hN
    | comment => simp [pAtomS] at h
    | _ => simp

theorem U_atom {ts r r' : List STok} {x s : SExpr} (ha : PA ts x r) (hp : PP x r s r') : PU ts s r' := by
  refine Ev.step₂ ha hp fun k ha hp => ?_
  cases ts with
  | nil => cases k <;> simp [pAtomS] at ha
  | cons t tl =>
    obtain ⟨h1, h2, _⟩ := pAtomS_head ha
    simp only [pUnaryS, h1, h2, Bool.false_eq_true, if_false, ha, hp]

theorem U_neg {ts r : List STok} {x : SExpr} (hu : PU ts x r) : PU (S "-" :: ts) (.neg x) r :=
  Ev.step hu fun k hu => by simp [pUnaryS, hu]

theorem U_pos {ts r : List STok} {x : SExpr} (hu : PU ts x r) : PU (S "+" :: ts) (.pos x) r :=
  Ev.step hu fun k hu => by simp [pUnaryS, hu]

theorem pUnaryS_head {n : Nat} {ts : List STok} {res : SExpr × List STok} (h : pUnaryS n ts = some res) :
    ∃ t tl, ts = t :: tl ∧ startTok t = true ∧ isWord t "NOT" = false := by
  cases n with
  | zero => simp [pUnaryS] at h
  | succ k =>
    cases ts with
    | nil => simp [pUnaryS] at h
    | cons t tl =>
      refine ⟨t, tl, rfl, ?_⟩
      by_cases hm : isSym t "-" = true
      · cases t <;> simp_all [startTok]
      · by_cases hp : isSym t "+" = true
        · cases t <;> simp_all [startTok]
        · simp only [pUnaryS, hm, hp, if_false] at h
          cases ha : pAtomS k (t :: tl) with
          | none => simp [ha] at h
          | some res' =>
            obtain ⟨_, _, h3, h4, h5⟩ := pAtomS_head ha
            simp [startTok, h3, h4, h5]

theorem E_unary {m : Nat} {ts r r' : List STok} {x s : SExpr} (hu : PU ts x r) (ht : PT m x r s r') :
    PE m ts s r' := by
  refine Ev.step₂ hu ht fun k hu ht => ?_
  obtain ⟨t, tl, rfl, _, hnot⟩ := pUnaryS_head hu
  simp only [pExprS, hnot, Bool.false_and, Bool.false_eq_true, if_false, hu, ht]

theorem E_not_word {m : Nat} {w : Bytes} {rest r r' : List STok} {x s : SExpr} (hw : upper w = "NOT") (hm : m ≤ 3)
    (hx : PE 3 rest x r) (ht : PT m (.not_ x) r s r') : PE m (.word w :: rest) s r' :=
  Ev.step₂ hx ht fun k hx ht => by simp [pExprS, hw, hm, hx, ht]

theorem E_not {m : Nat} {rest r r' : List STok} {x s : SExpr} (hm : m ≤ 3) (hx : PE 3 rest x r)
    (ht : PT m (.not_ x) r s r') : PE m (W "NOT" :: rest) s r' := E_not_word up_NOT hm hx ht

theorem PE.unique {m : Nat} {ts r r' : List STok} {s s' : SExpr} (h : PE m ts s r) (h' : PE m ts s' r') :
    s = s' ∧ r = r' := by
  obtain ⟨N, h⟩ := h; obtain ⟨N', h'⟩ := h'
  have := (h (N + N') (by omega)).symm.trans (h' (N + N') (by omega))
  simpa using this

theorem PE_head {m : Nat} {ts r : List STok} {s : SExpr} (h : PE m ts s r) :
    ∃ t tl, ts = t :: tl ∧ startTok t = true := by
  obtain ⟨N, h⟩ := h
  have h := h (N + 1) (by omega)
  cases ts with
  | nil => simp [pExprS] at h
  | cons t tl =>
    refine ⟨t, tl, rfl, ?_⟩
    by_cases hn : (isWord t "NOT" && decide (m ≤ 3)) = true
    · cases t <;> simp_all [startTok]
    · simp only [pExprS, hn, if_false] at h
      cases hu : pUnaryS N (t :: tl) with
      | none => simp [hu] at h
      | some res =>
        obtain ⟨t', tl', heq, hs, _⟩ := pUnaryS_head hu
        cases heq; exact hs

end Pql.RT
