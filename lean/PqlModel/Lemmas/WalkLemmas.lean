/-
Lemmas about the `Walk` model (`PqlModel/Model/Walk.lean`):

* `children_size`: the sizes of the children a case pushes sum up to strictly less than the
  size of the node, so `Node.size` is a termination measure for recursion through
  `Node.children` (and `n.size + 1` is enough fuel for `walkLoop`);
* the recursive pre-order specification `preNode` / `preList` (well-founded recursion on the
  size), `allNodes`, the predicates `NoPanic` / `Complete`;
* `walkLoop_eq_preList`: the explicit-stack loop computes the recursive pre-order;
* what the pre-order reports: every node if the visitor always answers true (`preNode_all`), a
  sub-sequence of that otherwise (`preNode_sublist`), the `j`-th call producing the `j`-th event
  (`preNode_index`); `NoPanic` and `Complete` hold of every node of the tree (`noPanic_allNodes`,
  `complete_allNodes`);
* `Expr.Good` … `Stmt.Good`: `Complete` read by structural recursion on the AST types; the two
  are the same (`complete_expr_iff` … `complete_stmt_iff`; `Expr.Good.complete` … `Stmt.Good.complete`
  are the direction the walk theorems use); below an expression every node has a label, so there
  `NoPanic` alone is `Good` as well (`expr_iff_good`, `noPanic_expr_iff`).
-/
import PqlModel.Model.Walk
namespace Pql

def totalSize (ns : List Node) : Nat := (ns.map Node.size).sum

@[simp] theorem totalSize_nil : totalSize [] = 0 := rfl
@[simp] theorem totalSize_cons (n : Node) (ns : List Node) :
    totalSize (n :: ns) = n.size + totalSize ns := by simp [totalSize]
@[simp] theorem totalSize_append (a b : List Node) :
    totalSize (a ++ b) = totalSize a + totalSize b := by simp [totalSize]

theorem totalSize_exprs : (es : ExprList) → totalSize (es.toList.map .expr) = es.size
  | .nil => by simp [ExprList.toList, ExprList.size]
  | .cons e es => by simp [ExprList.toList, ExprList.size, Node.size, totalSize_exprs es]

theorem totalSize_ops : (os : OpList) → totalSize (os.toList.map .op) = os.size
  | .nil => by simp [OpList.toList, OpList.size]
  | .cons o os => by simp [OpList.toList, OpList.size, Node.size, totalSize_ops os]

theorem totalSize_idents (l : List Ident) :
    totalSize (l.map fun i => .ident (some i)) = l.length := by
  induction l with
  | nil => rfl
  | cons a l ih => simp [Node.size, ih]; omega

theorem totalSize_sortTerms (l : List SortTerm) :
    totalSize (l.map fun t => .sortTerm (some t)) = (l.map SortTerm.size).sum := by
  induction l with
  | nil => rfl
  | cons a l ih => simp [Node.size, ih]

theorem totalSize_columns (k : ColKind) (l : List Column) :
    totalSize (l.map (.column k)) = (l.map Column.size).sum := by
  induction l with
  | nil => rfl
  | cons a l ih => simp [Node.size, ih]

theorem totalSize_optExpr (e : Expr) : totalSize (optExpr e) ≤ e.size := by
  cases e <;> simp [optExpr, Node.size, Expr.size]

theorem totalSize_optIdent (i : Option Ident) : totalSize (optIdent i) ≤ 1 := by
  cases i <;> simp [optIdent, Node.size]

theorem totalSize_renderProps (l : List RenderProp) :
    totalSize (l.flatMap fun p => .ident p.name :: optExpr p.value)
      ≤ (l.map fun p => p.value.size + 1).sum := by
  induction l with
  | nil => simp
  | cons a l ih =>
    have h := totalSize_optExpr a.value
    simp [Node.size] at ih ⊢
    omega

/-- The children a case pushes are, together, strictly smaller than the node. -/
theorem children_size (n : Node) (kids : List Node) (h : n.children = some kids) :
    totalSize kids < n.size := by
  cases n with
  | ident i => simp [Node.children] at h; subst h; simp [Node.size]
  | expr e =>
    cases e <;> simp [Node.children] at h <;> subst h <;>
      simp [Node.size, Expr.size, totalSize_idents, totalSize_exprs] <;> omega
  | tabular t =>
    cases t <;> simp [Node.children] at h
    subst h; simp [Node.size, Tabular.size, totalSize_ops]; omega
  | tableRef t => simp [Node.children] at h; subst h; simp [Node.size]
  | op o =>
    cases o with
    | top p k n b c =>
      simp [Node.children] at h; subst h
      cases c <;> simp [Node.size, Op.size] <;> omega
    | render p k ch w lp props rp =>
      simp [Node.children] at h; subst h
      have := totalSize_renderProps props
      simp [Node.size, Op.size]; omega
    | _ =>
      simp [Node.children] at h <;> subst h <;>
      simp [Node.size, Op.size, totalSize_sortTerms, totalSize_columns, totalSize_exprs] <;> omega
  | sortTerm t =>
    cases t <;> simp [Node.children] at h
    subst h; simp [Node.size, SortTerm.size]
  | column k c =>
    have h1 := totalSize_optExpr c.x
    have h2 := totalSize_optIdent c.name
    cases k <;> simp [Node.children] at h <;> subst h <;>
      simp [Node.size, Column.size] <;> omega
  | letStmt kw nm a x => simp [Node.children] at h; subst h; simp [Node.size]; omega

/-- what the visitor records when it is called with `n` -/
def eventOf (n : Node) : WalkEvent :=
  match n.label with
  | some (ty, sp) => .visit ty sp
  | none => .visitNil

theorem eventOf_ne_panic (n : Node) : eventOf n ≠ .panic := by
  unfold eventOf; split <;> simp

mutual
/-- Pre-order with pruning, by recursion on the tree: the node's own event, then — if the
    visitor's `i`-th answer is true — the pre-orders of its children, in order.  Returns the
    events and the index of the visitor's next call. -/
def preNode (decide : Nat → Bool) (i : Nat) (n : Node) : List WalkEvent × Nat :=
  if decide i then
    match h : n.children with
    | some kids =>
      let r := preList decide (i + 1) kids
      (eventOf n :: r.1, r.2)
    | none => ([eventOf n, .panic], i + 1)
  else ([eventOf n], i + 1)
termination_by (n.size, 0)
decreasing_by
  have := children_size n kids h
  exact Prod.Lex.left _ _ this
def preList (decide : Nat → Bool) (i : Nat) (ns : List Node) : List WalkEvent × Nat :=
  match ns with
  | [] => ([], i)
  | n :: ns =>
    let r := preNode decide i n
    let s := preList decide r.2 ns
    (r.1 ++ s.1, s.2)
termination_by (totalSize ns, ns.length + 1)
decreasing_by
  · simp only [totalSize_cons]
    by_cases h : totalSize ns = 0
    · rw [h]; exact Prod.Lex.right _ (by omega)
    · exact Prod.Lex.left _ _ (by omega)
  · simp only [totalSize_cons, List.length_cons]
    by_cases h : n.size = 0
    · rw [h, Nat.zero_add]; exact Prod.Lex.right _ (by omega)
    · exact Prod.Lex.left _ _ (by omega)
end

set_option linter.unusedVariables false in
mutual
/-- all nodes of the tree below (and including) `n`, parents first, children in order -/
def allNodes (n : Node) : List Node :=
  match h : n.children with
  | some kids => n :: allNodesList kids
  | none => [n]
termination_by (n.size, 0)
decreasing_by
  have := children_size n kids h
  exact Prod.Lex.left _ _ this
def allNodesList (ns : List Node) : List Node :=
  match ns with
  | [] => []
  | n :: ns => allNodes n ++ allNodesList ns
termination_by (totalSize ns, ns.length + 1)
decreasing_by
  · simp only [totalSize_cons]
    by_cases h : totalSize ns = 0
    · rw [h]; exact Prod.Lex.right _ (by omega)
    · exact Prod.Lex.left _ _ (by omega)
  · simp only [totalSize_cons, List.length_cons]
    by_cases h : n.size = 0
    · rw [h, Nat.zero_add]; exact Prod.Lex.right _ (by omega)
    · exact Prod.Lex.left _ _ (by omega)
end

/-- No case of `Walk` panics anywhere in the tree: every reachable node has a case
    (`children` is `some kids`; in particular it is not the nil interface `.expr .nil`, not a
    nil `*TabularExpr`, not a nil `*SortTerm`), recursively. -/
inductive NoPanic : Node → Prop
  | mk (n : Node) (kids : List Node) (hc : n.children = some kids)
      (hk : ∀ k ∈ kids, NoPanic k) : NoPanic n

/-- `NoPanic`, and no reachable node is a nil pointer that reaches the visitor
    (`.ident none`; `.sortTerm none` is already excluded by `NoPanic`). -/
inductive Complete : Node → Prop
  | mk (n : Node) (kids : List Node) (hl : n.label ≠ none) (hc : n.children = some kids)
      (hk : ∀ k ∈ kids, Complete k) : Complete n

theorem NoPanic.ne_nil {n : Node} (h : NoPanic n) : n ≠ .expr .nil := by
  cases h with
  | mk _ kids hc _ => intro e; subst e; simp [Node.children] at hc

theorem NoPanic.children {n : Node} (h : NoPanic n) :
    ∃ kids, n.children = some kids ∧ ∀ k ∈ kids, NoPanic k := by
  cases h with
  | mk _ kids hc hk => exact ⟨kids, hc, hk⟩

theorem noPanic_iff_kids {n : Node} {kids : List Node} (hc : n.children = some kids) :
    NoPanic n ↔ ∀ k ∈ kids, NoPanic k :=
  ⟨fun h => by obtain ⟨_, hc', hk⟩ := h.children; rw [hc] at hc'; cases hc'; exact hk, .mk n kids hc⟩

/-- the recursive reading of `NoPanic` -/
theorem noPanic_iff (n : Node) :
    NoPanic n ↔ n ≠ .expr .nil ∧ ∃ kids, n.children = some kids ∧ ∀ k ∈ kids, NoPanic k :=
  ⟨fun h => ⟨h.ne_nil, h.children⟩, fun ⟨_, kids, hc, hk⟩ => .mk n kids hc hk⟩

theorem Complete.noPanic {n : Node} (h : Complete n) : NoPanic n := by
  induction h with
  | mk n kids _ hc _ ih => exact .mk n kids hc ih

theorem complete_iff (n : Node) :
    Complete n ↔ n.label ≠ none ∧ ∃ kids, n.children = some kids ∧ ∀ k ∈ kids, Complete k :=
  ⟨fun h => by cases h with | mk _ kids hl hc hk => exact ⟨hl, kids, hc, hk⟩,
   fun ⟨hl, kids, hc, hk⟩ => .mk n kids hl hc hk⟩

theorem complete_iff_kids {n : Node} {kids : List Node} (hc : n.children = some kids) :
    Complete n ↔ n.label ≠ none ∧ ∀ k ∈ kids, Complete k :=
  ⟨fun h => by obtain ⟨hl, _, hc', hk⟩ := (complete_iff n).1 h; rw [hc] at hc'; cases hc'; exact ⟨hl, hk⟩,
   fun h => .mk n kids h.1 hc h.2⟩

theorem preNode_false {decide : Nat → Bool} {i : Nat} (n : Node) (h : decide i = false) :
    preNode decide i n = ([eventOf n], i + 1) := by
  rw [preNode]; simp [h]

theorem preNode_true {decide : Nat → Bool} {i : Nat} {n : Node} {kids : List Node}
    (h : decide i = true) (hc : n.children = some kids) :
    preNode decide i n =
      (eventOf n :: (preList decide (i + 1) kids).1, (preList decide (i + 1) kids).2) := by
  rw [preNode]; simp only [h, if_true]
  split
  · next kids' h' => rw [hc] at h'; cases h'; rfl
  · next h' => rw [hc] at h'; cases h'

theorem preNode_eq {decide : Nat → Bool} {i : Nat} {n : Node} {kids : List Node}
    (hc : n.children = some kids) :
    preNode decide i n =
      if decide i then (eventOf n :: (preList decide (i + 1) kids).1, (preList decide (i + 1) kids).2)
      else ([eventOf n], i + 1) := by
  cases h : decide i
  · simp [preNode_false n h]
  · simp [preNode_true h hc]

@[simp] theorem preList_nil (decide : Nat → Bool) (i : Nat) : preList decide i [] = ([], i) := by
  rw [preList]

theorem preList_cons (decide : Nat → Bool) (i : Nat) (n : Node) (ns : List Node) :
    preList decide i (n :: ns) =
      ((preNode decide i n).1 ++ (preList decide (preNode decide i n).2 ns).1,
       (preList decide (preNode decide i n).2 ns).2) := by
  rw [preList]

theorem preList_append (decide : Nat → Bool) (i : Nat) (a b : List Node) :
    preList decide i (a ++ b) =
      ((preList decide i a).1 ++ (preList decide (preList decide i a).2 b).1,
       (preList decide (preList decide i a).2 b).2) := by
  induction a generalizing i with
  | nil => simp
  | cons n a ih => simp [preList_cons, ih]

theorem preList_singleton (decide : Nat → Bool) (i : Nat) (n : Node) :
    preList decide i [n] = preNode decide i n := by
  simp [preList_cons]

theorem allNodes_eq {n : Node} {kids : List Node} (hc : n.children = some kids) :
    allNodes n = n :: allNodesList kids := by
  rw [allNodes]
  split
  · next kids' h' => rw [hc] at h'; cases h'; rfl
  · next h' => rw [hc] at h'; cases h'

@[simp] theorem allNodesList_nil : allNodesList [] = [] := by rw [allNodesList]

theorem allNodesList_cons (n : Node) (ns : List Node) :
    allNodesList (n :: ns) = allNodes n ++ allNodesList ns := by rw [allNodesList]

theorem allNodesList_eq_flatMap (ns : List Node) : allNodesList ns = ns.flatMap allNodes := by
  induction ns with
  | nil => simp
  | cons n ns ih => simp [allNodesList_cons, ih]

theorem walkLoop_cons (decide : Nat → Bool) (fuel i : Nat) (n : Node) (stack : List Node)
    (hn : n ≠ .expr .nil) :
    walkLoop decide (fuel + 1) i (n :: stack) =
      if decide i then
        match n.children with
        | some kids => eventOf n :: walkLoop decide fuel (i + 1) (kids ++ stack)
        | none => [eventOf n, .panic]
      else eventOf n :: walkLoop decide fuel (i + 1) stack := by
  rw [walkLoop]
  · rfl
  · exact hn

/-- `Walk`'s loop on a stack of well-formed nodes, with more fuel than the total size of the
    stack, produces the recursive pre-order of the stack. -/
theorem walkLoop_eq_preList (decide : Nat → Bool) :
    ∀ (fuel i : Nat) (stack : List Node), (∀ n ∈ stack, NoPanic n) → totalSize stack < fuel →
      walkLoop decide fuel i stack = (preList decide i stack).1 := by
  intro fuel
  induction fuel with
  | zero => intro i stack _ h; omega
  | succ fuel ih =>
    intro i stack hs hf
    cases stack with
    | nil => simp [walkLoop]
    | cons n stack =>
      have hn : NoPanic n := hs n (by simp)
      have hst : ∀ m ∈ stack, NoPanic m := fun m hm => hs m (by simp [hm])
      obtain ⟨kids, hc, hk⟩ := hn.children
      have hsz := children_size n kids hc
      rw [walkLoop_cons decide fuel i n stack hn.ne_nil, preList_cons, preNode_eq hc]
      simp only [totalSize_cons] at hf
      cases hd : decide i
      · simp only [Bool.false_eq_true, if_false]
        rw [ih (i + 1) stack hst (by omega)]
        rfl
      · simp only [if_true, hc]
        rw [ih (i + 1) (kids ++ stack) ?_ (by simp only [totalSize_append]; omega), preList_append]
        · rfl
        · intro m hm
          rcases List.mem_append.1 hm with h | h
          · exact hk m h
          · exact hst m h

theorem preList_all_of_forall (kids : List Node)
    (ih : ∀ k ∈ kids, ∀ i, preNode (fun _ => true) i k
      = ((allNodes k).map eventOf, i + (allNodes k).length)) :
    ∀ i, preList (fun _ => true) i kids
      = ((allNodesList kids).map eventOf, i + (allNodesList kids).length) := by
  induction kids with
  | nil => intro i; simp
  | cons k kids ihl =>
    intro i
    rw [preList_cons, ih k (by simp), ihl (fun m hm => ih m (by simp [hm])), allNodesList_cons]
    simp [Nat.add_assoc]

/-- With a visitor that always answers true the pre-order lists every node of the tree. -/
theorem preNode_all {n : Node} (h : NoPanic n) :
    ∀ i, preNode (fun _ => true) i n = ((allNodes n).map eventOf, i + (allNodes n).length) := by
  induction h with
  | mk n kids hc _ ih =>
    intro i
    rw [preNode_true rfl hc, preList_all_of_forall kids ih, allNodes_eq hc]
    simp [Nat.add_assoc, Nat.add_comm 1]

theorem preList_all {ns : List Node} (h : ∀ n ∈ ns, NoPanic n) :
    ∀ i, preList (fun _ => true) i ns
      = ((allNodesList ns).map eventOf, i + (allNodesList ns).length) :=
  preList_all_of_forall ns fun k hk => preNode_all (h k hk)

theorem preList_sublist_of_forall (decide : Nat → Bool) (kids : List Node)
    (ih : ∀ k ∈ kids, ∀ i, (preNode decide i k).1.Sublist ((allNodes k).map eventOf)) :
    ∀ i, (preList decide i kids).1.Sublist ((allNodesList kids).map eventOf) := by
  induction kids with
  | nil => intro i; simp
  | cons k kids ihl =>
    intro i
    rw [preList_cons, allNodesList_cons, List.map_append]
    exact List.Sublist.append (ih k (by simp) i) (ihl (fun m hm => ih m (by simp [hm])) _)

/-- Whatever the visitor answers, the events are a sub-sequence of the full pre-order: no node
    is reported twice or out of order, and nothing but nodes of the tree is reported. -/
theorem preNode_sublist (decide : Nat → Bool) {n : Node} (h : NoPanic n) :
    ∀ i, (preNode decide i n).1.Sublist ((allNodes n).map eventOf) := by
  induction h with
  | mk n kids hc _ ih =>
    intro i
    rw [preNode_eq hc, allNodes_eq hc, List.map_cons]
    cases decide i
    · simp
    · simp only [if_true]
      exact List.Sublist.cons_cons _ (preList_sublist_of_forall decide kids ih _)

theorem preList_index_of_forall (decide : Nat → Bool) (kids : List Node)
    (ih : ∀ k ∈ kids, ∀ i, (preNode decide i k).2 = i + (preNode decide i k).1.length) :
    ∀ i, (preList decide i kids).2 = i + (preList decide i kids).1.length := by
  induction kids with
  | nil => intro i; simp
  | cons k kids ihl =>
    intro i
    rw [preList_cons]
    simp only [List.length_append]
    rw [ihl (fun m hm => ih m (by simp [hm])), ih k (by simp)]
    omega

/-- The call index is threaded correctly: the visitor's `j`-th call is the one that produces
    the `j`-th event, so `decide j` is the answer for the node reported at position `j`. -/
theorem preNode_index (decide : Nat → Bool) {n : Node} (h : NoPanic n) :
    ∀ i, (preNode decide i n).2 = i + (preNode decide i n).1.length := by
  induction h with
  | mk n kids hc _ ih =>
    intro i
    rw [preNode_eq hc]
    cases decide i
    · simp
    · simp only [if_true, List.length_cons]
      rw [preList_index_of_forall decide kids ih]
      omega

theorem allNodes_self_mem (n : Node) : n ∈ allNodes n := by
  rw [allNodes]; split <;> simp

theorem mem_allNodes_kid {n k : Node} {kids : List Node} (hc : n.children = some kids) (hk : k ∈ kids) :
    ∀ m ∈ allNodes k, m ∈ allNodes n := fun m hm => by
  rw [allNodes_eq hc, allNodesList_eq_flatMap]
  exact List.mem_cons_of_mem _ (List.mem_flatMap.2 ⟨k, hk, hm⟩)

/-- what passes from a node to the children it pushes holds of every node of the tree below it -/
theorem allNodes_forall {P : Node → Prop}
    (step : ∀ {n : Node} {kids : List Node}, P n → n.children = some kids → ∀ k ∈ kids, P k) (n : Node) :
    P n → ∀ m ∈ allNodes n, P m := by
  refine allNodes.induct (fun n => P n → ∀ m ∈ allNodes n, P m)
    (fun ns => (∀ k ∈ ns, P k) → ∀ m ∈ allNodesList ns, P m) ?_ ?_ ?_ ?_ n
  · intro n kids hc ih hn m hm
    rw [allNodes_eq hc] at hm
    rcases List.mem_cons.1 hm with rfl | hm
    · exact hn
    · exact ih (step hn hc) m hm
  · intro n hc hn m hm
    rw [allNodes, hc] at hm
    exact List.mem_singleton.1 hm ▸ hn
  · simp
  · intro k ks ih1 ih2 h m hm
    rw [allNodesList_cons] at hm
    exact (List.mem_append.1 hm).elim (ih1 (h k (by simp)) m) (ih2 (fun x hx => h x (by simp [hx])) m)

theorem noPanic_allNodes {n : Node} (h : NoPanic n) : ∀ m ∈ allNodes n, NoPanic m :=
  allNodes_forall (fun hn hc => (noPanic_iff_kids hc).1 hn) n h

theorem complete_allNodes {n : Node} (h : Complete n) : ∀ m ∈ allNodes n, Complete m :=
  allNodes_forall (fun hn hc => ((complete_iff_kids hc).1 hn).2) n h

theorem Complete.allNodes_label {n : Node} (h : Complete n) : ∀ m ∈ allNodes n, m.label ≠ none :=
  fun m hm => ((complete_iff m).1 (complete_allNodes h m hm)).1

theorem eventOf_eq_visitNil {n : Node} : eventOf n = .visitNil ↔ n.label = none := by
  unfold eventOf
  split
  · next h => simp [h]
  · next h => simp [h]

/-! ### structural reading of `Complete` on the AST types

`Good` says, by structural recursion on the AST, that no required position holds a nil:
the shape `Walk` needs in order not to panic and not to hand a nil node to the visitor.
Optional positions (the expression of a project/extend column, a render property's value)
may be `Expr.nil`; the names of extend/summarize columns may be absent. -/

mutual
def Expr.Good : Expr → Prop
  | .nil => False
  | .qident _ => True
  | .lit .. => True
  | .unary _ _ x => x.Good
  | .binary x _ _ y => x.Good ∧ y.Good
  | .inE x _ _ vals _ => x.Good ∧ vals.Good
  | .paren _ x _ => x.Good
  | .call _ _ args _ => args.Good
  | .index x _ idx _ => x.Good ∧ idx.Good
def ExprList.Good : ExprList → Prop
  | .nil => True
  | .cons e es => e.Good ∧ es.Good
end

/-- an optional expression: absent, or good -/
def Expr.OptGood (e : Expr) : Prop := e = .nil ∨ e.Good

def SortTerm.Good (t : SortTerm) : Prop := t.x.Good

mutual
def Tabular.Good : Tabular → Prop
  | .nil => False
  | .mk src ops => src ≠ none ∧ ops.Good
def Op.Good : Op → Prop
  | .count .. => True
  | .where_ _ _ e => e.Good
  | .sort _ _ ts => ∀ t ∈ ts, SortTerm.Good t
  | .take _ _ n => n.Good
  | .top _ _ n _ c => n.Good ∧ ∃ t, c = some t ∧ SortTerm.Good t
  | .project _ _ cs => ∀ c ∈ cs, c.name ≠ none ∧ c.x.OptGood
  | .extend _ _ cs => ∀ c ∈ cs, c.x.OptGood
  | .summarize _ _ cs _ gs => (∀ c ∈ cs, c.x.Good) ∧ (∀ c ∈ gs, c.x.Good)
  | .join _ _ _ _ _ _ right _ _ conds => right.Good ∧ conds.Good
  | .as_ _ _ n => n ≠ none
  | .render _ _ ch _ _ props _ => ch ≠ none ∧ ∀ p ∈ props, p.name ≠ none ∧ p.value.OptGood
def OpList.Good : OpList → Prop
  | .nil => True
  | .cons o os => o.Good ∧ os.Good
end

def Stmt.Good : Stmt → Prop
  | .let_ _ name _ x => name ≠ none ∧ x.Good
  | .tabular t => t.Good

theorem label_expr (e : Expr) : (Node.expr e).label ≠ none := by simp [Node.label]
theorem label_ident (i : Ident) : (Node.ident (some i)).label ≠ none := by simp [Node.label]

/-! Below an expression every node has a label, so there a predicate that holds of a node exactly
when it holds of its children (`NoPanic`, `Complete`) is `Good`. -/
mutual
theorem expr_iff_good {Q : Node → Prop} (nil : ¬ Q (.expr .nil))
    (step : ∀ {n : Node} {kids : List Node}, n.children = some kids → n.label ≠ none →
      (Q n ↔ ∀ k ∈ kids, Q k)) : (e : Expr) → (Q (.expr e) ↔ e.Good)
  | .nil => ⟨fun h => absurd h nil, False.elim⟩
  | .qident _ => (step rfl (label_expr _)).trans (by
      simp only [List.forall_mem_map, (step (kids := []) rfl (label_ident _)).2 (fun _ h => nomatch h),
        implies_true, Expr.Good])
  | .lit .. => (step (kids := []) rfl (label_expr _)).trans (by simp [Expr.Good])
  | .unary _ _ x | .paren _ x _ =>
    (step rfl (label_expr _)).trans (by
      simp only [List.forall_mem_singleton, expr_iff_good nil step x, Expr.Good])
  | .binary x _ _ y | .index x _ y _ =>
    (step rfl (label_expr _)).trans (by
      simp only [List.forall_mem_cons, List.not_mem_nil, false_implies, implies_true, and_true,
        expr_iff_good nil step x, expr_iff_good nil step y, Expr.Good])
  | .inE x _ _ vals _ =>
    (step rfl (label_expr _)).trans (by
      simp only [List.forall_mem_cons, expr_iff_good nil step x, exprs_iff_good nil step vals, Expr.Good])
  | .call _ _ args _ => (step rfl (label_expr _)).trans (exprs_iff_good nil step args)
theorem exprs_iff_good {Q : Node → Prop} (nil : ¬ Q (.expr .nil))
    (step : ∀ {n : Node} {kids : List Node}, n.children = some kids → n.label ≠ none →
      (Q n ↔ ∀ k ∈ kids, Q k)) : (es : ExprList) → ((∀ k ∈ es.toList.map Node.expr, Q k) ↔ es.Good)
  | .nil => by simp [ExprList.toList, ExprList.Good]
  | .cons e es => by
    simp only [ExprList.toList, List.map_cons, List.forall_mem_cons, expr_iff_good nil step e,
      exprs_iff_good nil step es, ExprList.Good]
end

theorem noPanic_expr_iff (e : Expr) : NoPanic (.expr e) ↔ e.Good :=
  expr_iff_good (fun h => h.ne_nil rfl) (fun hc _ => noPanic_iff_kids hc) e

theorem complete_expr_iff (e : Expr) : Complete (.expr e) ↔ e.Good :=
  expr_iff_good (fun h => h.noPanic.ne_nil rfl)
    (fun hc hl => (complete_iff_kids hc).trans (and_iff_right hl)) e

theorem complete_exprs_iff (es : ExprList) : (∀ k ∈ es.toList.map Node.expr, Complete k) ↔ es.Good :=
  exprs_iff_good (fun h => h.noPanic.ne_nil rfl)
    (fun hc hl => (complete_iff_kids hc).trans (and_iff_right hl)) es

/-! ### `Good` is `Complete`

Each node form, read through `complete_iff_kids`: its label, and `Complete` of the children it pushes. -/

theorem complete_ident_iff (i : Option Ident) : Complete (.ident i) ↔ i ≠ none := by
  rw [complete_iff_kids (kids := []) rfl]; cases i <;> simp [Node.label]

theorem complete_optExpr_iff (e : Expr) : (∀ k ∈ optExpr e, Complete k) ↔ e.OptGood := by
  cases e <;> simp [optExpr, Expr.OptGood, complete_expr_iff, Expr.Good]

theorem complete_optIdent_iff (i : Option Ident) : (∀ k ∈ optIdent i, Complete k) ↔ True := by
  cases i <;> simp [optIdent, complete_ident_iff]

theorem complete_sortTerm_iff (t : Option SortTerm) :
    Complete (.sortTerm t) ↔ ∃ t', t = some t' ∧ t'.Good := by
  cases t with
  | none =>
    exact ⟨fun h => (by obtain ⟨_, hc, _⟩ := h.noPanic.children; cases hc), fun ⟨_, h, _⟩ => nomatch h⟩
  | some t =>
    exact (complete_iff_kids rfl).trans (by simp [Node.label, complete_expr_iff, SortTerm.Good])

theorem complete_project_iff (c : Column) :
    Complete (.column .project c) ↔ c.name ≠ none ∧ c.x.OptGood :=
  (complete_iff_kids rfl).trans (by
    simp only [List.forall_mem_cons, complete_ident_iff, complete_optExpr_iff]; simp [Node.label])

theorem complete_extend_iff (c : Column) : Complete (.column .extend c) ↔ c.x.OptGood :=
  (complete_iff_kids rfl).trans (by
    simp only [List.forall_mem_append, complete_optIdent_iff, complete_optExpr_iff]; simp [Node.label])

theorem complete_summarize_iff (c : Column) : Complete (.column .summarize c) ↔ c.x.Good :=
  (complete_iff_kids rfl).trans (by
    simp only [List.forall_mem_append, List.forall_mem_singleton, complete_optIdent_iff, complete_expr_iff]
    simp [Node.label])

mutual
theorem complete_tabular_iff : (t : Tabular) → (Complete (.tabular t) ↔ t.Good)
  | .nil => ⟨fun h => (by obtain ⟨_, hc, _⟩ := h.noPanic.children; cases hc), False.elim⟩
  | .mk src ops => (complete_iff_kids rfl).trans (by
      simp only [List.forall_mem_cons, complete_ops_iff ops, Tabular.Good,
        complete_iff_kids (n := .tableRef src) rfl, complete_ident_iff]
      simp [Node.label])
theorem complete_op_iff : (o : Op) → (Complete (.op o) ↔ o.Good)
  | .count .. => (complete_iff_kids (kids := []) rfl).trans (by simp [Node.label, Op.Good])
  | .where_ _ _ e | .take _ _ e =>
    (complete_iff_kids rfl).trans (by simp [Node.label, complete_expr_iff, Op.Good])
  | .sort _ _ ts => (complete_iff_kids rfl).trans (by
      simp only [List.forall_mem_map, complete_sortTerm_iff, Op.Good]; simp [Node.label])
  | .top _ _ n _ c => (complete_iff_kids rfl).trans (by
      simp only [List.forall_mem_cons, complete_expr_iff, complete_sortTerm_iff, Op.Good]
      simp [Node.label])
  | .project _ _ cs => (complete_iff_kids rfl).trans (by
      simp only [List.forall_mem_map, complete_project_iff, Op.Good]; simp [Node.label])
  | .extend _ _ cs => (complete_iff_kids rfl).trans (by
      simp only [List.forall_mem_map, complete_extend_iff, Op.Good]; simp [Node.label])
  | .summarize _ _ cs _ gs => (complete_iff_kids rfl).trans (by
      simp only [List.forall_mem_append, List.forall_mem_map, complete_summarize_iff, Op.Good]
      simp [Node.label])
  | .join _ _ _ _ _ _ right _ _ conds => (complete_iff_kids rfl).trans (by
      simp only [List.forall_mem_cons, complete_tabular_iff right, complete_exprs_iff conds, Op.Good]
      simp [Node.label])
  | .as_ _ _ n => (complete_iff_kids rfl).trans (by
      simp only [List.forall_mem_singleton, complete_ident_iff, Op.Good]; simp [Node.label])
  | .render _ _ ch _ _ props _ => (complete_iff_kids rfl).trans (by
      simp only [List.forall_mem_append, List.forall_mem_flatMap, List.forall_mem_cons,
        complete_ident_iff, complete_optExpr_iff, Op.Good]
      simp [Node.label, and_comm])
theorem complete_ops_iff : (os : OpList) → ((∀ k ∈ os.toList.map Node.op, Complete k) ↔ os.Good)
  | .nil => by simp [OpList.toList, OpList.Good]
  | .cons o os => by
    simp only [OpList.toList, List.map_cons, List.forall_mem_cons, complete_op_iff o,
      complete_ops_iff os, OpList.Good]
end

theorem complete_stmt_iff : (s : Stmt) → (Complete (Node.ofStmt s) ↔ s.Good)
  | .let_ _ name _ x => (complete_iff_kids rfl).trans (by
      simp only [List.forall_mem_cons, complete_ident_iff, complete_expr_iff, Stmt.Good]
      simp [Node.ofStmt, Node.label])
  | .tabular t => complete_tabular_iff t

theorem Expr.Good.complete : (e : Expr) → e.Good → Complete (.expr e) := fun e =>
  (complete_expr_iff e).2

theorem ExprList.Good.complete : (es : ExprList) → es.Good →
    ∀ k ∈ es.toList.map Node.expr, Complete k := fun es => (complete_exprs_iff es).2

theorem Expr.OptGood.complete {e : Expr} (h : e.OptGood) : ∀ k ∈ optExpr e, Complete k :=
  (complete_optExpr_iff e).2 h

theorem SortTerm.Good.complete {t : SortTerm} (h : t.Good) : Complete (.sortTerm (some t)) :=
  (complete_sortTerm_iff _).2 ⟨t, rfl, h⟩

theorem Tabular.Good.complete : (t : Tabular) → t.Good → Complete (.tabular t) := fun t =>
  (complete_tabular_iff t).2

theorem Op.Good.complete : (o : Op) → o.Good → Complete (.op o) := fun o => (complete_op_iff o).2

theorem OpList.Good.complete : (os : OpList) → os.Good →
    ∀ k ∈ os.toList.map Node.op, Complete k := fun os => (complete_ops_iff os).2

theorem Stmt.Good.complete : (s : Stmt) → s.Good → Complete (Node.ofStmt s) := fun s =>
  (complete_stmt_iff s).2

end Pql
