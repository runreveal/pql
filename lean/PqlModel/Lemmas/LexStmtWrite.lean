/-
LexRender for whole statements: `Subquery.write` and `writeCtes` only produce adjacent
chunk lists, for subqueries satisfying `SubOK` (the invariant of `splitQueries`, Lemmas/LexStmtSplit.lean).
-/
import PqlModel.Lemmas.LexStmtOK
namespace Pql.C05
open Pql Sql LexRender

/-- what `splitQueries` guarantees about every subquery it produces from a `Tabular.lexOK` tree
    (under a `ScopeAdj` scope): the source is adjacent before every separator, the stored operator, sort
    terms and row count only contain `Expr.lexOK` expressions.  (`C05.subOK : SubA → Bool`, with a small `s`,
    is the side condition of the syntactic half on a link, Lemmas/ParseStmtWrite.lean.) -/
structure SubOK (s : Subquery) : Prop where
  source : Good s.source
  op : ∀ o, s.op = some o → o.lexOK = true
  sort : ∀ ts, s.sort = some ts → (ts.all fun (t : SortTerm) => t.x.lexOK) = true
  take : ∀ n, s.take = some n → n.lexOK = true

/-- one render property: `,\n    'value' as "render_prop_name"` -/
theorem good_renderProp (p : RenderProp) :
    Good [Chunk.txt ",\n    ", .qstr (renderPropValue p.value), .txt " as ",
      .qid (Bytes.ofString "render_prop_" ++ identName p.name)] :=
  good_cons_inert (by decide) (good_app (xs := [Chunk.qstr _]) (good_qstr _) (by decide)
    (good_cons_inert (by decide) (good_qid _)))

theorem head_space (cs : List Chunk) (rest : Bytes) {s : String} (h : txtHead s = some 32) :
    (renderChunks (.txt s :: cs) ++ rest).head? ≠ some 34 := by
  rw [head_txt (d := 32) cs rest h]; decide

section
variable (ctx : Ctx) (hscope : ScopeAdj ctx.scope)
include hscope

theorem bodyOf_good (op : Option Op) (hop : ∀ o, op = some o → o.lexOK = true) {source : List Chunk}
    (hs : Good source) {body : List Chunk} (h : bodyOf ctx op source = .ok (some body)) : Good body := by
  rcases op with _ | o
  · simp only [bodyOf] at h; cases h
    exact good_cons_inert (by decide) hs
  have hok := hop o rfl
  cases o with
  | as_ p k n =>
    simp only [bodyOf] at h; cases h
    exact good_cons_inert (by decide) hs
  | count p k =>
    simp only [bodyOf] at h; cases h
    exact good_cons_inert (by decide) hs
  | project p k cols =>
    simp only [bodyOf] at h
    simp only [Op.lexOK] at hok
    obtain ⟨cs, hcs, h⟩ := bind_ok h
    cases h
    have hg := mapM_forall cols (fun c hc b hb =>
      projCol_good ctx hscope (List.all_eq_true.mp hok c hc) hb) cs hcs
    simp only [List.cons_append]
    exact good_cons_inert (by decide) (good_app (good_commaSep cs hg) (by decide)
      (good_cons_inert (by decide) hs))
  | extend p k cols =>
    simp only [bodyOf] at h
    simp only [Op.lexOK] at hok
    obtain ⟨cs, hcs, h⟩ := bind_ok h
    cases h
    have hg := writeColumns_good ctx hscope cols hok cs hcs
    have := good_flatMap (f := fun c => Chunk.txt ", " :: c) (tail := Chunk.txt " FROM " :: source)
      (sepLed_txt _ (by decide)) (good_cons_inert (by decide) hs) cs
      fun c hc => ⟨good_cons_inert (by decide) (hg c hc), sepLed_txt _ (by decide)⟩
    simp only [List.cons_append]
    exact good_cons_sep (by decide) this.2 this.1
  | summarize p k cols b groupBy =>
    simp only [bodyOf] at h
    simp only [Op.lexOK, Bool.and_eq_true] at hok
    obtain ⟨gs, hgs, h⟩ := bind_ok h
    obtain ⟨cs, hcs, h⟩ := bind_ok h
    obtain ⟨gb, hgb, h⟩ := bind_ok h
    cases h
    have hg1 := writeColumns_good ctx hscope groupBy hok.2 gs hgs
    have hg2 := writeColumns_good ctx hscope cols hok.1 cs hcs
    have hg3 := groupBy_good ctx hscope groupBy hok.2 gb hgb
    have hall : ∀ v ∈ gs ++ cs, Good v := by
      intro v hv
      rcases List.mem_append.mp hv with hv | hv
      · exact hg1 v hv
      · exact hg2 v hv
    have hend : Good (if groupBy.isEmpty = true then [] else Chunk.txt " GROUP BY " :: sepChunks ", " gb) ∧
        SepLed (if groupBy.isEmpty = true then [] else Chunk.txt " GROUP BY " :: sepChunks ", " gb) := by
      split
      · exact ⟨good_nil, sepLed_nil⟩
      · exact ⟨good_cons_inert (by decide) (good_commaSep gb hg3), sepLed_txt _ (by decide)⟩
    simp only [List.cons_append, List.append_assoc]
    exact good_cons_inert (by decide) (good_app (good_commaSep _ hall) (by decide)
      (good_cons_inert (by decide) (good_append hs hend.2 hend.1)))
  | where_ p k pred =>
    simp only [bodyOf] at h
    simp only [Op.lexOK] at hok
    obtain ⟨ps, hps, h⟩ := bind_ok h
    cases h
    simp only [List.cons_append]
    exact good_cons_inert (by decide) (good_app hs (by decide)
      (good_cons_inert (by decide) (writeExpr_Good ctx hscope hok hps)))
  | render p k chart w lp props rp =>
    simp only [bodyOf] at h; cases h
    have := good_flatMap (tail := Chunk.txt "\nFROM " :: source) (sepLed_txt _ (by decide))
      (good_cons_inert (by decide) hs) props fun p _ => ⟨good_renderProp p, sepLed_txt _ (by decide)⟩
    simp only [List.cons_append, List.nil_append]
    refine good_cons_inert (by decide) (good_cons_inert (by decide) ?_)
    exact good_app (xs := [Chunk.qstr _]) (good_qstr _) (by decide)
      (good_cons_sep (by decide) this.2 this.1)
  | sort p k ts => simp only [bodyOf] at h; cases h
  | take p k n => simp only [bodyOf] at h; cases h
  | top p k n b c => simp only [bodyOf] at h; cases h
  | join p k kind ka fl lp right rp on conds => simp only [bodyOf] at h; cases h

theorem tailOf_good {sort : Option (List SortTerm)} {take : Option Expr}
    (hsort : ∀ ts, sort = some ts → (ts.all fun (t : SortTerm) => t.x.lexOK) = true)
    (htake : ∀ n, take = some n → n.lexOK = true)
    {body : Option (List Chunk)} (hb : ∀ b, body = some b → Good b) {cs : List Chunk}
    (h : tailOf ctx sort take body = .ok cs) : Good cs := by
  rcases body with _ | b
  · simp only [tailOf] at h; cases h
    exact good_cons_inert (by decide) good_nil
  have fin : ∀ {sp tp : List Chunk}, Good sp ∧ SepLed sp → Good tp ∧ SepLed tp → Good (b ++ sp ++ tp) :=
    fun h1 h2 => by
      rw [List.append_assoc]
      exact good_append (hb b rfl) (sepLed_append h1.2 h2.2) (good_append h1.1 h2.2 h2.1)
  have hnil : Good ([] : List Chunk) ∧ SepLed [] := ⟨good_nil, sepLed_nil⟩
  have hS : ∀ {ts xs}, sort = some ts → writeSortTerms ctx ts = .ok xs →
      Good (Chunk.txt " ORDER BY " :: sepChunks ", " xs) ∧ SepLed (Chunk.txt " ORDER BY " :: sepChunks ", " xs) :=
    fun hs hxs => ⟨good_cons_inert (by decide) (good_commaSep _
      (writeSortTerms_good ctx hscope _ (hsort _ hs) _ hxs)), sepLed_txt _ (by decide)⟩
  have hT : ∀ {n x}, take = some n → writeExpr ctx n = .ok x →
      Good (Chunk.txt " LIMIT " :: x) ∧ SepLed (Chunk.txt " LIMIT " :: x) :=
    fun hn hx => ⟨good_cons_inert (by decide) (writeExpr_Good ctx hscope (htake _ hn) hx), sepLed_txt _ (by decide)⟩
  rcases sort with _ | ts <;> rcases take with _ | n <;> simp only [tailOf, pure_bind] at h
  · cases h; exact fin hnil hnil
  · obtain ⟨x, hx, h⟩ := bind_ok h
    cases h; exact fin hnil (hT rfl hx)
  · obtain ⟨xs, hxs, h⟩ := bind_ok h
    cases h; exact fin (hS rfl hxs) hnil
  · obtain ⟨xs, hxs, h⟩ := bind_ok h
    obtain ⟨x, hx, h⟩ := bind_ok h
    cases h; exact fin (hS rfl hxs) (hT rfl hx)

/-- **`Subquery.write` level**: the chunks of a subquery are adjacent before every text that is
    empty or starts with a separator (in particular `)` and `;`) -/
theorem write_good {sub : Subquery} (hsub : SubOK sub) {cs : List Chunk} (h : sub.write ctx = .ok cs) :
    Good cs := by
  rw [write_eq] at h
  obtain ⟨body, hbody, h⟩ := bind_ok h
  refine tailOf_good ctx hscope hsub.sort hsub.take ?_ h
  intro b hb
  subst hb
  exact bodyOf_good ctx hscope sub.op hsub.op hsub.source hbody

/-- **`writeCtes` level**: `"name" AS (…),\n     "name" AS (…)\n`, before any text -/
theorem writeCtes_adj : ∀ (l : List Subquery), (∀ s ∈ l, SubOK s) → ∀ cs, writeCtes ctx l = .ok cs →
    ∀ rest, AdjC rest cs = true
  | [], _, cs, h, rest => by
    simp only [writeCtes] at h; cases h; exact AdjC_nil _
  | [s], hl, cs, h, rest => by
    simp only [writeCtes] at h
    obtain ⟨b, hb, h⟩ := bind_ok h
    cases h
    have hg := write_good ctx hscope (hl s (by simp)) hb
    refine AdjC_cons (adj_qid s.name (head_space _ rest (by decide))) (adj_txt_inert (by decide) ?_)
    exact good_app_txt hg (by decide) (adj_txt_inert (by decide) (adj_txt_inert (by decide) (AdjC_nil _)))
  | s :: s2 :: l, hl, cs, h, rest => by
    simp only [writeCtes] at h
    obtain ⟨b, hb, h⟩ := bind_ok h
    obtain ⟨r, hr, h⟩ := bind_ok h
    cases h
    have hg := write_good ctx hscope (hl s (by simp)) hb
    have ih := writeCtes_adj (s2 :: l) (fun x hx => hl x (List.mem_cons_of_mem _ hx)) r hr rest
    refine AdjC_cons (adj_qid s.name (head_space _ rest (by decide))) (adj_txt_inert (by decide) ?_)
    exact good_app_txt hg (by decide) (adj_txt_inert (by decide) (adj_txt_inert (by decide) ih))

end

end Pql.C05
