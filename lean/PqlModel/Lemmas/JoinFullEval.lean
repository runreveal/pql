/-
The value of a link (`linkVal`), of a list of
links bound in order as common table expressions (`evalLinks`), and: the reference SQL evaluator
computes exactly that (`link_eval`, `runCtes_eq_evalLinks`).
-/
import PqlModel.Lemmas.JoinFullLink
import PqlModel.Lemmas.JoinSemEval
import PqlModel.Lemmas.SelSemChain
namespace Pql.JoinFull
open Pql Sql CompileOracle Intended SplitQ SelSem C02

def srcVal (db : DB) (E : List (Bytes × Table)) : SrcA → Table
  | .table n => lookupTable db E n
  | .join u l ln rn cond => JoinSem.joinTables u l (lookupTable db E ln) (lookupTable db E rn) cond

def linkVal (src : Bytes) (db : DB) (E : List (Bytes × Table)) (a : SubA) : Table :=
  subEvalA src db (srcVal db E a.source) a

def evalLinks (src : Bytes) (db : DB) (E : List (Bytes × Table)) (links : List SubA) : List (Bytes × Table) :=
  links.foldl (fun acc a => acc ++ [(a.name, linkVal src db acc a)]) E

def isJoinSrc : SrcA → Bool
  | .join .. => true
  | .table _ => false

/-- the side conditions of one link: ORDER BY only where `canAttachSort` allows; the operator's
    aggregate side condition (`opOk`), and it is not a join; a join link carries no operator and its
    ORDER BY terms do not mention the join aliases -/
def linkOk (a : SubA) : Bool :=
  sortOkA a && (match a.op with | some o => opOk o && !isJoin o | none => true) &&
  (!isJoinSrc a.source || (a.op.isNone && (match a.sort with | some ts => aliasFreeTerms ts | none => true)))

def needsRect (a : SubA) : Bool := isJoinSrc a.source && a.sort.isSome

theorem linkOk_sort {a : SubA} (h : linkOk a = true) : sortOkA a = true := by
  simp only [linkOk, Bool.and_eq_true] at h; exact h.1.1

theorem linkOk_op {a : SubA} (h : linkOk a = true) (o : Op) (ho : a.op = some o) :
    opOk o = true ∧ isJoin o = false := by
  simp only [linkOk, Bool.and_eq_true, ho] at h
  exact ⟨h.1.2.1, by simpa using h.1.2.2⟩

theorem linkOk_join {a : SubA} (h : linkOk a = true) (hj : isJoinSrc a.source = true) :
    a.op = none ∧ ∀ ts, a.sort = some ts → aliasFreeTerms ts = true := by
  simp only [linkOk, Bool.and_eq_true, hj, Bool.not_true, Bool.false_or, Option.isNone_iff_eq_none] at h
  refine ⟨h.2.1, fun ts hts => ?_⟩
  have := h.2.2
  rw [hts] at this
  exact this

theorem link_eval (src : Bytes) (db : DB) (E : List (Bytes × Table)) (a : SubA) (sel : Select)
    (hsel : selOf src a = some sel) (hok : linkOk a = true)
    (hrect : needsRect a = true → RectDB db ∧ RectDB E) :
    evalSelect db E sel = linkVal src db E a := by
  cases hs : a.source with
  | table n =>
    rw [C02_sel src db E a n sel hs hsel (linkOk_sort hok) (fun o ho => (linkOk_op hok o ho).1)]
    simp only [linkVal, hs, srcVal]
  | join u left l r cond =>
    obtain ⟨hop, hal⟩ := linkOk_join hok (by rw [hs]; rfl)
    rw [evalSelect_join_sort src db E a u left l r cond sel hs hop hsel hal]
    · simp only [linkVal, hs, srcVal, subEvalA, subClausesA, opPartA, hop, List.nil_append]
    · intro hsome
      obtain ⟨h1, h2⟩ := hrect (by simp only [needsRect, hs, isJoinSrc, hsome, Bool.and_self])
      exact Rect_lookup db E l h1 h2

theorem Rect_foldl_clauses (src : Bytes) (db : DB) : ∀ (cs : List Clause) (t : Table),
    (∀ c ∈ cs, ∀ o, c = .op o → isJoin o = false) → Rect t → Rect (cs.foldl (interpClause src db) t)
  | [], t, _, h => h
  | c :: cs, t, hc, h => by
    simp only [List.foldl_cons]
    exact Rect_foldl_clauses src db cs _ (fun c' hc' => hc c' (List.mem_cons_of_mem _ hc'))
      (Rect_interpClause src db t c (hc c (List.mem_cons_self ..)) h)

theorem Rect_linkVal (src : Bytes) (db : DB) (E : List (Bytes × Table)) (a : SubA) (hok : linkOk a = true)
    (hdb : RectDB db) (hE : RectDB E) : Rect (linkVal src db E a) := by
  unfold linkVal subEvalA
  apply Rect_foldl_clauses
  · intro c hc o hco
    subst hco
    simp only [subClausesA, opPartA, sortTakeA, List.mem_append] at hc
    rcases hc with hc | hc | hc
    · cases hop : a.op with
      | none => simp [hop] at hc
      | some o' =>
        simp only [hop, List.mem_singleton, Clause.op.injEq] at hc
        subst hc
        exact (linkOk_op hok o hop).2
    · cases hso : a.sort <;> simp [hso] at hc
    · cases hta : a.take <;> simp [hta] at hc
  · cases hs : a.source with
    | table n => exact Rect_lookup db E n hdb hE
    | join u left l r cond =>
      exact Rect_joinTables u left _ _ cond (Rect_lookup db E l hdb hE) (Rect_lookup db E r hdb hE)

theorem evalLinks_nil (src : Bytes) (db : DB) (E : List (Bytes × Table)) : evalLinks src db E [] = E := rfl

theorem evalLinks_cons (src : Bytes) (db : DB) (E : List (Bytes × Table)) (a : SubA) (rest : List SubA) :
    evalLinks src db E (a :: rest) = evalLinks src db (E ++ [(a.name, linkVal src db E a)]) rest := rfl

theorem evalLinks_append (src : Bytes) (db : DB) (E : List (Bytes × Table)) (xs ys : List SubA) :
    evalLinks src db E (xs ++ ys) = evalLinks src db (evalLinks src db E xs) ys := by
  simp [evalLinks, List.foldl_append]

theorem evalLinks_snoc (src : Bytes) (db : DB) (E : List (Bytes × Table)) (xs : List SubA) (a : SubA) :
    evalLinks src db E (xs ++ [a]) =
      evalLinks src db E xs ++ [(a.name, linkVal src db (evalLinks src db E xs) a)] := by
  rw [evalLinks_append]; rfl

theorem evalLinks_names (src : Bytes) (db : DB) : ∀ (xs : List SubA) (E : List (Bytes × Table)),
    (evalLinks src db E xs).map (·.1) = E.map (·.1) ++ xs.map (·.name)
  | [], E => by simp [evalLinks]
  | a :: rest, E => by
    rw [evalLinks_cons, evalLinks_names src db rest]
    simp

theorem evalLinks_prefix (src : Bytes) (db : DB) : ∀ (xs : List SubA) (E : List (Bytes × Table)),
    ∃ more, evalLinks src db E xs = E ++ more
  | [], E => ⟨[], by simp [evalLinks]⟩
  | a :: rest, E => by
    obtain ⟨more, h⟩ := evalLinks_prefix src db rest (E ++ [(a.name, linkVal src db E a)])
    exact ⟨(a.name, linkVal src db E a) :: more, by rw [evalLinks_cons, h]; simp⟩

theorem RectDB_evalLinks (src : Bytes) (db : DB) (hdb : RectDB db) : ∀ (links : List SubA) (E : List (Bytes × Table)),
    RectDB E → (∀ a ∈ links, linkOk a = true) → RectDB (evalLinks src db E links)
  | [], _, h, _ => h
  | a :: rest, E, h, hok => by
    rw [evalLinks_cons]
    exact RectDB_evalLinks src db hdb rest _
      (RectDB_snoc h _ _ (Rect_linkVal src db E a (hok a (List.mem_cons_self ..)) hdb h))
      fun b hb => hok b (List.mem_cons_of_mem _ hb)

theorem runCtes_eq_evalLinks (src : Bytes) (db : DB) : ∀ (links : List SubA) (E : List (Bytes × Table))
    (sels : List (Bytes × Select)),
    links.mapM (JoinSem.linkSel src) = some sels → (∀ a ∈ links, linkOk a = true) →
    ((∀ a ∈ links, needsRect a = false) ∨ (RectDB db ∧ RectDB E)) →
    JoinSem.runCtes db E sels = evalLinks src db E links
  | [], E, sels, hm, _, _ => by
    simp only [List.mapM_nil, pure, Option.some.injEq] at hm
    subst hm; rfl
  | a :: rest, E, sels, hm, hok, hrect => by
    obtain ⟨sel, xs, hsel, h2, rfl⟩ := JoinSem.mapM_linkSel_cons hm
    have hv : evalSelect db E sel = linkVal src db E a := by
      apply link_eval src db E a sel hsel (hok a (List.mem_cons_self ..))
      intro hn
      rcases hrect with h | h
      · rw [h a (List.mem_cons_self ..)] at hn; cases hn
      · exact h
    have hstep : JoinSem.runCtes db E ((a.name, sel) :: xs) =
        JoinSem.runCtes db (E ++ [(a.name, evalSelect db E sel)]) xs := rfl
    rw [hstep, hv, evalLinks_cons]
    apply runCtes_eq_evalLinks src db rest _ xs h2 (fun b hb => hok b (List.mem_cons_of_mem _ hb))
    rcases hrect with h | h
    · exact .inl fun b hb => h b (List.mem_cons_of_mem _ hb)
    · exact .inr ⟨h.1, RectDB_snoc h.2 _ _ (Rect_linkVal src db E a (hok a (List.mem_cons_self ..)) h.1 h.2)⟩

end Pql.JoinFull
