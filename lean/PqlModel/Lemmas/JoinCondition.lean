/-
What `buildJoinCondition` builds, as a rule of proof: a predicate on expressions that holds of the
conditions written holds of the condition compiled, if it holds of `true`, is kept by `and`, and
passes from a bare key `k` to `$left.k == $right.k` (the one thing `rewriteSimpleJoinCondition` does).
`PL` is the predicate on the list as its family states it; `cons` reads it element by element.
-/
import PqlModel.Model.Compile
namespace Pql

section
variable {P : Expr → Prop}
  (key : ∀ part, P (.qident [part]) →
    P (.binary (.qident [⟨leftAlias, .zero, false⟩, part]) .zero .eq (.qident [⟨rightAlias, .zero, false⟩, part])))
include key

theorem rewriteSimpleJoinCondition_of {c : Expr} (h : P c) : P (rewriteSimpleJoinCondition c) := by
  unfold rewriteSimpleJoinCondition
  split
  · split
    · exact h
    · exact key _ h
  · exact h

variable {PL : ExprList → Prop} (cons : ∀ c rest, PL (.cons c rest) → P c ∧ PL rest)
  (and : ∀ x y, P x → P y → P (.binary x .zero .and_ y))
include cons and

theorem buildJoinCondition_go_of : (ys : ExprList) → (x : Expr) → P x → PL ys →
    P (buildJoinCondition.go x ys)
  | .nil, _, hx, _ => hx
  | .cons y ys, _, hx, h =>
    buildJoinCondition_go_of ys _ (and _ _ hx (rewriteSimpleJoinCondition_of key (cons y ys h).1))
      (cons y ys h).2

theorem buildJoinCondition_of (true_ : P (.qident [⟨Bytes.ofString "true", .zero, false⟩])) :
    (conds : ExprList) → PL conds → P (buildJoinCondition conds)
  | .nil, _ => true_
  | .cons c rest, h =>
    buildJoinCondition_go_of key cons and rest _ (rewriteSimpleJoinCondition_of key (cons c rest h).1)
      (cons c rest h).2

end

namespace JoinSem

def kindOf (flavor : Option Ident) : Bytes :=
  match flavor with | some f => f.name | none => Bytes.ofString "innerunique"

end JoinSem

end Pql
