/-
Placeholders: a value for a placeholder (`PVal`: a string or a number spelling) and the instantiation of
placeholder tokens, placeholder leaves and whole statements with values.  That the reference SQL reader
commutes with the instantiation (`parseStatement_inst`) is Lemmas/E2EMoreInstTop.lean.
-/
import PqlModel.Spec.Sql.Parse
namespace Pql.E2EMore
open Pql Sql

inductive PVal
  | str (v : Bytes)
  | num (v : Bytes)
  deriving DecidableEq, Repr, Inhabited

def PVal.tok : PVal → STok
  | .str v => .str v
  | .num v => .num v

def PVal.sexpr : PVal → SExpr
  | .str v => .str v
  | .num v => .num v

def instTok (ρ : Bytes → PVal) : STok → STok
  | .param p => (ρ p).tok
  | t => t

mutual
def instS (ρ : Bytes → PVal) : SExpr → SExpr
  | .param p => (ρ p).sexpr
  | .col ps => .col ps
  | .str v => .str v
  | .num v => .num v
  | .const w => .const w
  | .call fn star args filter => .call fn star (instL ρ args) (instS ρ filter)
  | .case_ c t e => .case_ (instS ρ c) (instS ρ t) (instS ρ e)
  | .neg x => .neg (instS ρ x)
  | .pos x => .pos (instS ρ x)
  | .not_ x => .not_ (instS ρ x)
  | .bin op x y => .bin op (instS ρ x) (instS ρ y)
  | .isNull x n => .isNull (instS ρ x) n
  | .inList x vs => .inList (instS ρ x) (instL ρ vs)
  | .index x i => .index (instS ρ x) (instS ρ i)
  | .none_ => .none_
def instL (ρ : Bytes → PVal) : SExprList → SExprList
  | .nil => .nil
  | .cons e es => .cons (instS ρ e) (instL ρ es)
end

theorem PVal.tok_isWord (v : PVal) (kw : String) : isWord v.tok kw = false := by cases v <;> rfl
theorem PVal.tok_isSym (v : PVal) (s : String) : isSym v.tok s = false := by cases v <;> rfl
theorem PVal.tok_infix (v : PVal) : infixPrec v.tok = none := by cases v <;> rfl

section
variable (ρ : Bytes → PVal)

def instR (r : SExpr × List STok) : SExpr × List STok := (instS ρ r.1, r.2.map (instTok ρ))
def instRL (r : SExprList × List STok) : SExprList × List STok := (instL ρ r.1, r.2.map (instTok ρ))

@[simp] theorem instR_mk (x : SExpr) (r : List STok) : instR ρ (x, r) = (instS ρ x, r.map (instTok ρ)) := rfl
@[simp] theorem instRL_mk (x : SExprList) (r : List STok) : instRL ρ (x, r) = (instL ρ x, r.map (instTok ρ)) := rfl

end

def instItem (ρ : Bytes → PVal) (it : SelectItem) : SelectItem := { it with expr := instS ρ it.expr }
def instOrd (ρ : Bytes → PVal) (o : OrderTerm) : OrderTerm := { o with expr := instS ρ o.expr }
def instJoin (ρ : Bytes → PVal) (j : JoinClause) : JoinClause := { j with on := instS ρ j.on }

def instSel (ρ : Bytes → PVal) (s : Select) : Select :=
  { s with
    items := s.items.map (instItem ρ)
    join := s.join.map (instJoin ρ)
    where_ := s.where_.map (instS ρ)
    groupBy := s.groupBy.map (instS ρ)
    orderBy := s.orderBy.map (instOrd ρ)
    limit := s.limit.map (instS ρ) }

def instStatement (ρ : Bytes → PVal) (st : Statement) : Statement :=
  ⟨st.ctes.map fun c => (c.1, instSel ρ c.2), instSel ρ st.body⟩

end Pql.E2EMore
