/-
`CliSpec.run` unfolded into a closed form over the list of statement pieces:
per-statement records (`steps`), output = the SQL texts in statement order, error count =
number of failed records (+1 for a read error).  Lemmas for `C16_main_spec` and friends.
-/
import PqlModel.Lemmas.CliLemmasLast
namespace Pql.CliIO
open Pql Pql.CliSpec

inductive Outcome where
  | letOk                 -- a `let` that compiles (with the prelude and a dummy query): accepted
  | letFail               -- a `let` that does not: logged, NOT added to the prelude
  | sql (s : Bytes)       -- a query that compiles: `s`, newline, newline are written
  | queryFail             -- a query that does not: logged, nothing written
  deriving DecidableEq, Repr

def Outcome.failed : Outcome → Bool
  | .letFail | .queryFail => true
  | _ => false

def Outcome.sql? : Outcome → Option Bytes
  | .sql s => some s
  | _ => none

def Outcome.accepted : Outcome → Bool
  | .letOk => true
  | _ => false

def queryOutcome (compile : Bytes → Option Bytes) (lets stmt : Bytes) : Outcome :=
  match compile (lets ++ stmt) with
  | some s => .sql s
  | none => .queryFail

/-- the let/query decision of `cliStatement` and `CliSpec.statement` as a value; `statement_eq` reads the specification's
    step off it -/
def outcome (compile : Bytes → Option Bytes) (lets stmt : Bytes) : Outcome :=
  if isLetStatement stmt then
    if (compile (lets ++ stmt ++ Bytes.ofString ";X")).isSome then .letOk else .letFail
  else queryOutcome compile lets stmt

/-- the record of one terminated statement: the prelude it was compiled behind, its text, what came of it
    (the scanner's step is `Pql.Step`) -/
structure Step where
  prelude : Bytes
  stmt : Bytes
  res : Outcome
  deriving DecidableEq, Repr

def preludeAfter (lets : Bytes) (tr : List Step) : Bytes :=
  lets ++ (tr.filter (·.res.accepted)).flatMap fun p => p.stmt ++ Bytes.ofString ";\n"

def steps (compile : Bytes → Option Bytes) (lets : Bytes) : List Bytes → List Step
  | [] => []
  | s :: ss =>
    let o := outcome compile lets s
    ⟨lets, s, o⟩ :: steps compile (if o.accepted then lets ++ s ++ Bytes.ofString ";\n" else lets) ss

def sqlText (os : List Outcome) : Bytes := (os.filterMap Outcome.sql?).flatMap (· ++ [10, 10])

def nFailed (os : List Outcome) : Nat := os.countP Outcome.failed

/-- the unterminated last piece: ignored iff it has no token, else compiled as a query -/
def finalOutcome (compile : Bytes → Option Bytes) (lets last : Bytes) : List Outcome :=
  if (scan last).isEmpty then [] else [queryOutcome compile lets last]

def allOutcomes (compile : Bytes → Option Bytes) (pieces : List Bytes) : List Outcome :=
  let tr := steps compile [] pieces.dropLast
  tr.map (·.res) ++ finalOutcome compile (preludeAfter [] tr) (pieces.getLast?.getD [])

def runPieces (compile : Bytes → Option Bytes) (pieces : List Bytes) (readErr : Bool) :
    CliResult :=
  let all := allOutcomes compile pieces
  let n := nFailed all + (if readErr then 1 else 0)
  ⟨sqlText all, n, decide (n > 0)⟩

theorem steps_stmts (compile : Bytes → Option Bytes) (lets : Bytes) (ss : List Bytes) :
    (steps compile lets ss).map (·.stmt) = ss := by
  induction ss generalizing lets with
  | nil => rfl
  | cons s ss ih => simp [steps, ih]

theorem steps_length (compile : Bytes → Option Bytes) (lets : Bytes) (ss : List Bytes) :
    (steps compile lets ss).length = ss.length := by
  have := congrArg List.length (steps_stmts compile lets ss)
  simpa using this

theorem steps_res (compile : Bytes → Option Bytes) (lets : Bytes) (ss : List Bytes) :
    ∀ st ∈ steps compile lets ss, st.res = outcome compile st.prelude st.stmt := by
  induction ss generalizing lets with
  | nil => simp [steps]
  | cons s ss ih =>
    intro st hst
    simp only [steps, List.mem_cons] at hst
    rcases hst with rfl | hst
    · rfl
    · exact ih _ st hst

theorem preludeAfter_nil (lets : Bytes) : preludeAfter lets [] = lets := by
  simp [preludeAfter]

theorem preludeAfter_cons (lets : Bytes) (p : Step) (tr : List Step) :
    preludeAfter lets (p :: tr) =
      preludeAfter (if p.res.accepted then lets ++ p.stmt ++ Bytes.ofString ";\n" else lets) tr := by
  unfold preludeAfter
  by_cases h : p.res.accepted = true
  · simp [h]
  · simp [h]

theorem preludeAfter_append (lets : Bytes) (a b : List Step) :
    preludeAfter lets (a ++ b) = preludeAfter (preludeAfter lets a) b := by
  simp [preludeAfter, List.filter_append]

theorem steps_prelude (compile : Bytes → Option Bytes) (lets : Bytes) (ss : List Bytes)
    (pre post : List Step) (st : Step) (h : steps compile lets ss = pre ++ st :: post) :
    st.prelude = preludeAfter lets pre := by
  induction ss generalizing lets pre with
  | nil => simp [steps] at h
  | cons s ss ih =>
    simp only [steps] at h
    cases pre with
    | nil =>
      simp only [List.nil_append, List.cons.injEq] at h
      rw [← h.1, preludeAfter_nil]
    | cons p pre' =>
      simp only [List.cons_append, List.cons.injEq] at h
      rw [preludeAfter_cons, ← h.1]
      exact ih _ pre' h.2

theorem steps_append (compile : Bytes → Option Bytes) (lets : Bytes) (a b : List Bytes) :
    steps compile lets (a ++ b) =
      steps compile lets a ++ steps compile (preludeAfter lets (steps compile lets a)) b := by
  induction a generalizing lets with
  | nil => simp [steps, preludeAfter_nil]
  | cons s a ih =>
    simp only [List.cons_append, steps, ih, preludeAfter_cons]

theorem sqlText_append (a b : List Outcome) : sqlText (a ++ b) = sqlText a ++ sqlText b := by
  simp [sqlText, List.filterMap_append]

theorem nFailed_append (a b : List Outcome) : nFailed (a ++ b) = nFailed a + nFailed b := by
  simp [nFailed, List.countP_append]

theorem statement_eq (compile : Bytes → Option Bytes) (a : Acc) (s : Bytes) :
    statement compile a s =
      ⟨if (outcome compile a.lets s).accepted then a.lets ++ s ++ Bytes.ofString ";\n" else a.lets,
        a.out ++ sqlText [outcome compile a.lets s],
        a.nErrors + nFailed [outcome compile a.lets s]⟩ := by
  unfold statement outcome queryOutcome
  by_cases hl : isLetStatement s = true
  · simp only [hl, if_true]
    cases compile (a.lets ++ s ++ Bytes.ofString ";X") <;>
      simp [Outcome.accepted, sqlText, nFailed, Outcome.sql?, Outcome.failed]
  · simp only [hl]
    cases compile (a.lets ++ s) <;>
      simp [Outcome.accepted, sqlText, nFailed, Outcome.sql?, Outcome.failed]

theorem foldl_statement_eq (compile : Bytes → Option Bytes) (ss : List Bytes) (a : Acc) :
    ss.foldl (statement compile) a =
      ⟨preludeAfter a.lets (steps compile a.lets ss),
        a.out ++ sqlText ((steps compile a.lets ss).map (·.res)),
        a.nErrors + nFailed ((steps compile a.lets ss).map (·.res))⟩ := by
  induction ss generalizing a with
  | nil => simp [steps, preludeAfter_nil, sqlText, nFailed]
  | cons s ss ih =>
    rw [List.foldl_cons, ih, statement_eq]
    simp only [steps, preludeAfter_cons, List.map_cons]
    rw [show (outcome compile a.lets s :: List.map (·.res) (steps compile
        (if (outcome compile a.lets s).accepted = true then a.lets ++ s ++ Bytes.ofString ";\n"
          else a.lets) ss)) = [outcome compile a.lets s] ++ List.map (·.res) (steps compile
        (if (outcome compile a.lets s).accepted = true then a.lets ++ s ++ Bytes.ofString ";\n"
          else a.lets) ss) from rfl, sqlText_append, nFailed_append]
    simp [List.append_assoc, Nat.add_assoc]

theorem specFrom_eq_runPieces (compile : Bytes → Option Bytes) (text : Bytes) (readErr : Bool) :
    specFrom compile {} text readErr = runPieces compile (splitStatements text) readErr := by
  unfold specFrom specFinish runPieces allOutcomes finalOutcome lastPiece
  rw [foldl_statement_eq]
  simp only [List.nil_append, Nat.zero_add]
  generalize steps compile [] (splitStatements text).dropLast = tr
  generalize (splitStatements text).getLast?.getD [] = last
  by_cases hs : (scan last).isEmpty = true
  · cases readErr <;> simp [hs, sqlText, nFailed]
  · simp only [hs, Bool.false_eq_true, if_false, queryOutcome]
    cases hc : compile (preludeAfter [] tr ++ last) with
    | none =>
      cases readErr <;>
        simp [hc, sqlText, nFailed, Outcome.sql?, Outcome.failed]
      all_goals omega
    | some q =>
      cases readErr <;>
        simp [hc, sqlText, nFailed, Outcome.sql?, Outcome.failed]

theorem failed_not_accepted {o : Outcome} (h : o.failed = true) : o.accepted = false := by
  cases o <;> simp_all [Outcome.failed, Outcome.accepted]

theorem failed_no_sql {o : Outcome} (h : o.failed = true) : o.sql? = none := by
  cases o <;> simp_all [Outcome.failed, Outcome.sql?]

theorem nFailed_of_total (compile : Bytes → Option Bytes) (h : ∀ x, (compile x).isSome = true)
    (pieces : List Bytes) : nFailed (allOutcomes compile pieces) = 0 := by
  have hq : ∀ l s, (queryOutcome compile l s).failed = false := by
    intro l s
    unfold queryOutcome
    have := h (l ++ s)
    cases hc : compile (l ++ s) with
    | none => rw [hc] at this; simp at this
    | some q => rfl
  have ho : ∀ l s, (outcome compile l s).failed = false := by
    intro l s
    unfold outcome
    split
    · simp [h, Outcome.failed]
    · exact hq l s
  unfold nFailed
  rw [List.countP_eq_zero]
  intro o hmem
  unfold allOutcomes finalOutcome at hmem
  rcases List.mem_append.mp hmem with hm | hm
  · obtain ⟨st, hst, rfl⟩ := List.mem_map.mp hm
    rw [steps_res compile [] _ st hst, ho]; simp
  · split at hm
    · simp at hm
    · simp only [List.mem_singleton] at hm
      rw [hm, hq]; simp

/-- a statement that is not an accepted `let` (a query, or anything that fails) leaves the prelude as it is: inserted before
    the last piece it adds its own outcome and changes no other -/
theorem allOutcomes_insert (compile : Bytes → Option Bytes) (pre post : List Bytes)
    (s : Bytes) (hpost : post ≠ [])
    (hacc : (outcome compile (preludeAfter [] (steps compile [] pre)) s).accepted = false) :
    ∃ A B, allOutcomes compile (pre ++ post) = A ++ B ∧
      allOutcomes compile (pre ++ s :: post) =
        A ++ outcome compile (preludeAfter [] (steps compile [] pre)) s :: B := by
  have hd1 : (pre ++ s :: post).dropLast = pre ++ s :: post.dropLast := by
    rw [List.dropLast_append_of_ne_nil (by simp), List.dropLast_cons_of_ne_nil hpost]
  have hd2 : (pre ++ post).dropLast = pre ++ post.dropLast := by
    rw [List.dropLast_append_of_ne_nil hpost]
  have hl1 : (pre ++ s :: post).getLast? = post.getLast? := by
    rw [getLast?_append_ne pre (s :: post) (by simp), ← List.singleton_append, getLast?_append_ne [s] post hpost]
  have hl2 : (pre ++ post).getLast? = post.getLast? := by
    rw [getLast?_append_ne pre post hpost]
  refine ⟨(steps compile [] pre).map (·.res), ?_, ?_, ?_⟩
  rotate_left
  · unfold allOutcomes
    simp only [hd2, hl2, steps_append, List.map_append, List.append_assoc]
    rfl
  · unfold allOutcomes
    simp only [hd1, hl1, steps_append, steps, hacc, Bool.false_eq_true, if_false, List.map_append,
      List.map_cons, List.append_assoc, List.cons_append, preludeAfter_append, preludeAfter_cons]

theorem outcome_trichotomy (os : List Outcome) :
    os.length = (os.filterMap Outcome.sql?).length + os.countP Outcome.accepted + nFailed os := by
  induction os with
  | nil => rfl
  | cons o os ih =>
    cases o <;>
      simp [List.filterMap_cons, List.countP_cons, nFailed, Outcome.sql?, Outcome.accepted,
        Outcome.failed] at ih ⊢ <;> omega

end Pql.CliIO
