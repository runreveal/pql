/-
Property C16, semantic half — the statement records of cmd/pql, with the real `Compile` (`compileCli`: `pql.Compile`
with no options, as the `Bytes → Option Bytes` the CLI model takes), in terms of scopes instead of texts: in
`semOutcome`, `semSteps`, `semAll` the scope is a list of `let` statements (trees) — no text is concatenated anywhere.
-/
import PqlModel.Lemmas.CliSemCompile
import PqlModel.Props.C16IO
namespace Pql.CliSem
open Pql Pql.Piecewise Pql.CliIO Pql.CliSpec

def compileCli (src : Bytes) : Option Bytes :=
  match compile [] src with
  | .ok sql => some sql
  | _ => none

def okB {ε α : Type} : Except ε α → Bool
  | .ok _ => true
  | .error _ => false

/-- the library accepts the let text `l` with `lets` in scope: it parses without error and the statement loop gets through
    `lets` and its statements (`C16_letAccepts_iff` says what the last step asks of the value) -/
def letAccepts (lets : List Stmt) (l : Bytes) : Bool :=
  (parse l).2.isEmpty && okB (compileStmts [] (lets ++ (parse l).1) [] none)

def queryResult (lets : List Stmt) (s : Bytes) : Outcome :=
  match compileWithLets lets s with
  | .ok sql => .sql sql
  | _ => .queryFail

def semOutcome (lets : List Stmt) (s : Bytes) : Outcome :=
  if isLetStatement s then (if letAccepts lets s then .letOk else .letFail)
  else queryResult lets s

/-- the outcomes of the pieces in order and the scope behind them; only an accepted `let` extends the scope -/
def semSteps (lets : List Stmt) : List Bytes → List Outcome × List Stmt
  | [] => ([], lets)
  | s :: ss =>
    let o := semOutcome lets s
    let r := semSteps (if o.accepted then lets ++ (parse s).1 else lets) ss
    (o :: r.1, r.2)

/-- all outcomes, in statement order: the terminated pieces, then the unterminated last piece if
    it has a token (compiled as a query with everything accepted before it in scope) -/
def semAll (pieces : List Bytes) : List Outcome :=
  let r := semSteps [] pieces.dropLast
  let last := pieces.getLast?.getD []
  r.1 ++ (if (scan last).isEmpty then [] else [queryResult r.2 last])

theorem pLet_let (c : PCtx) (fuel : Nat) (t : Token) (rest : List Token)
    (h : isIdentNamed t "let" = true) :
    isNF (pLet c fuel (t :: rest)).errs = false ∧
      ∃ kw n a x, (pLet c fuel (t :: rest)).val = some (.let_ kw n a x) := by
  unfold pLet
  simp only [h, Bool.not_true, Bool.false_eq_true, if_false]
  split
  · exact ⟨by simp, _, _, _, _, rfl⟩
  · split
    · exact ⟨by simp, _, _, _, _, rfl⟩
    · split
      · exact ⟨by simp, _, _, _, _, rfl⟩
      · exact ⟨by simp, _, _, _, _, rfl⟩

/-- a piece without ';' token that starts with `let` parses into exactly one statement, a `let`
    (possibly a partial one, next to errors) -/
theorem parse_let_piece (l : Bytes) (hns : ∀ t ∈ scan l, t.kind ≠ .semi)
    (hl : isLetStatement l = true) : ∃ kw n a x, (parse l).1 = [.let_ kw n a x] := by
  rw [parse_nosemi_fst l hns]
  unfold isLetStatement at hl
  cases hsc : scan l with
  | nil => rw [hsc] at hl; cases hl
  | cons t rest =>
    rw [hsc] at hl
    obtain ⟨h1, kw, n, a, x, h2⟩ := pLet_let ⟨l.length⟩ (fuelFor (t :: rest).length) t rest hl
    -- `pStatement` takes the result of `pLet` unless that says "not found"
    have no : ∀ rl, pLet ⟨l.length⟩ (fuelFor (t :: rest).length) (t :: rest) = rl →
        isNF rl.errs = true → False := fun rl hrl hnf => by rw [← hrl, h1] at hnf; cases hnf
    exact pStatement_cases (motive := fun r => ∃ kw n a x, r.1.toList = [.let_ kw n a x]) _ _
      (fun rl hrl _ => ⟨kw, n, a, x, by rw [← hrl, h2]; rfl⟩)
      (fun rl _ _ _ hrl hnf _ _ _ => (no rl hrl hnf).elim)
      (fun rl _ hrl hnf _ _ _ => (no rl hrl hnf).elim)
      (fun rl _ _ _ hrl hnf _ _ _ => (no rl hrl hnf).elim)

theorem allLets_of_isLetStatement (l : Bytes) (hns : ∀ t ∈ scan l, t.kind ≠ .semi)
    (hl : isLetStatement l = true) : AllLets (parse l).1 := by
  obtain ⟨kw, n, a, x, h⟩ := parse_let_piece l hns hl
  rw [h]
  intro st hst
  rw [List.mem_singleton.mp hst]
  rfl

theorem ofString_probe : Bytes.ofString ";X" = 59 :: probeX := by decide
theorem ofString_sep : Bytes.ofString ";\n" = sep := by decide

theorem isSome_compileCli (src : Bytes) :
    (compileCli src).isSome = match compile [] src with | .ok _ => true | _ => false := by
  unfold compileCli
  cases compile [] src <;> rfl

theorem probe_iff (ls : List Bytes) (hls : ∀ l ∈ ls, AcceptedLet l) (l : Bytes) (hl : TermPiece l)
    (hlet : isLetStatement l = true) :
    (compileCli (preludeOf ls ++ l ++ Bytes.ofString ";X")).isSome = letAccepts (letsOf ls) l := by
  have hlets := allLets_of_isLetStatement l hl.2 hlet
  have hL : AllLets (letsOf ls ++ (parse l).1) := by
    intro st hst
    rcases List.mem_append.mp hst with h | h
    · exact allLets_letsOf (fun l hl => (hls l hl).2.2) st h
    · exact hlets st h
  rw [ofString_probe, isSome_compileCli, List.append_assoc, prelude_compile ls hls,
    compileWithLets_probe _ l hl.1 hL, letAccepts]
  by_cases hs : (parse l).2 = []
  · rw [if_pos hs, hs]
    cases compileStmts [] (letsOf ls ++ (parse l).1) [] none with
    | ok r => rfl
    | error e => cases e <;> rfl
  · rw [if_neg hs]
    cases hp : (parse l).2 with
    | nil => exact absurd hp hs
    | cons _ _ => rfl

theorem query_eq (ls : List Bytes) (hls : ∀ l ∈ ls, AcceptedLet l) (s : Bytes) :
    queryOutcome compileCli (preludeOf ls) s = queryResult (letsOf ls) s := by
  unfold queryOutcome queryResult compileCli
  rw [prelude_compile ls hls s]
  cases compileWithLets (letsOf ls) s <;> rfl

theorem outcome_eq (ls : List Bytes) (hls : ∀ l ∈ ls, AcceptedLet l) (s : Bytes) (hs : TermPiece s) :
    outcome compileCli (preludeOf ls) s = semOutcome (letsOf ls) s := by
  unfold outcome semOutcome
  by_cases hl : isLetStatement s = true
  · rw [if_pos hl, if_pos hl, probe_iff ls hls s hs hl]
  · rw [if_neg hl, if_neg hl, query_eq ls hls s]

theorem letsOf_snoc (ls : List Bytes) (l : Bytes) : letsOf (ls ++ [l]) = letsOf ls ++ (parse l).1 := by
  simp [letsOf]

theorem acceptedLet_of_accepts (lets : List Stmt) (l : Bytes) (hl : TermPiece l)
    (hlet : isLetStatement l = true) (h : letAccepts lets l = true) : AcceptedLet l := by
  refine ⟨hl.1, ?_, allLets_of_isLetStatement l hl.2 hlet⟩
  simp only [letAccepts, Bool.and_eq_true, List.isEmpty_iff] at h
  exact h.1

theorem accepted_semOutcome (lets : List Stmt) (s : Bytes) (h : (semOutcome lets s).accepted = true) :
    isLetStatement s = true ∧ letAccepts lets s = true := by
  unfold semOutcome at h
  by_cases hl : isLetStatement s = true
  · rw [if_pos hl] at h
    by_cases ha : letAccepts lets s = true
    · exact ⟨hl, ha⟩
    · rw [if_neg ha] at h; cases h
  · rw [if_neg hl] at h
    unfold queryResult at h
    split at h <;> cases h

/-- the records of the tool, started with the prelude of accepted lets `ls`, are the semantic
    outcomes started with their statements in scope; the prelude afterwards is again the text of
    accepted lets, whose statements are the semantic scope -/
theorem steps_eq (ss : List Bytes) : ∀ (ls : List Bytes), (∀ l ∈ ls, AcceptedLet l) →
    (∀ s ∈ ss, TermPiece s) →
    (steps compileCli (preludeOf ls) ss).map (·.res) = (semSteps (letsOf ls) ss).1 ∧
      ∃ ls', (∀ l ∈ ls', AcceptedLet l) ∧
        preludeAfter (preludeOf ls) (steps compileCli (preludeOf ls) ss) = preludeOf ls' ∧
        (semSteps (letsOf ls) ss).2 = letsOf ls' := by
  induction ss with
  | nil =>
    intro ls hls _
    exact ⟨rfl, ls, hls, by simp [steps, preludeAfter_nil], rfl⟩
  | cons s ss ih =>
    intro ls hls hss
    have hs := hss s (by simp)
    have hss' : ∀ s' ∈ ss, TermPiece s' := fun s' h => hss s' (by simp [h])
    have ho := outcome_eq ls hls s hs
    simp only [steps, semSteps, List.map_cons, preludeAfter_cons, ho]
    by_cases hacc : (semOutcome (letsOf ls) s).accepted = true
    · obtain ⟨hl1, hl2⟩ := accepted_semOutcome _ _ hacc
      have hA := acceptedLet_of_accepts _ s hs hl1 hl2
      have hls' : ∀ l ∈ ls ++ [s], AcceptedLet l := by
        intro l hl
        rcases List.mem_append.mp hl with h | h
        · exact hls l h
        · rw [List.mem_singleton.mp h]; exact hA
      have hp : preludeOf ls ++ s ++ Bytes.ofString ";\n" = preludeOf (ls ++ [s]) := by
        rw [ofString_sep, preludeOf_snoc]; rfl
      simp only [hacc, if_true, hp, ← letsOf_snoc]
      obtain ⟨i1, i2⟩ := ih (ls ++ [s]) hls' hss'
      exact ⟨by rw [i1], i2⟩
    · simp only [hacc, Bool.false_eq_true, if_false]
      obtain ⟨i1, i2⟩ := ih ls hls hss'
      exact ⟨by rw [i1], i2⟩

theorem allOutcomes_eq (text : Bytes) :
    allOutcomes compileCli (splitStatements text) = semAll (splitStatements text) := by
  unfold allOutcomes semAll
  obtain ⟨h1, ls', h2, h3, h4⟩ := steps_eq (splitStatements text).dropLast [] (by simp)
    (termPiece_of_split text)
  have e0 : preludeOf [] = ([] : Bytes) := rfl
  have e1 : letsOf [] = ([] : List Stmt) := rfl
  rw [e0] at h1 h3
  rw [e1] at h1 h4
  simp only [h1, h3, h4, finalOutcome]
  congr 1
  split
  · rfl
  · rw [query_eq ls' h2]

end Pql.CliSem
