/-
Expressions that do not mention the join
aliases `$left` / `$right` evaluate alike in the ORDER BY environment of a join SELECT (output
columns, then the two aliased sides) and in the environment of the join result alone.

The SELECT of a join link (`joinSel`), with ORDER BY / LIMIT attached or not, evaluates to those
clauses applied to `joinTables` of the two tables it names (`evalSelect_join_sort`).
-/
import PqlModel.Lemmas.JoinFullBase
namespace Pql.JoinFull
open Pql Sql CompileOracle Intended SplitQ

def notAliased (parts : List Bytes) : Bool :=
  match parts with
  | [a, _] => !(a == leftA || a == rightA)
  | _ => true

def aliasFreeS (e : Sql.SExpr) : Bool := colsAll notAliased e

def aliasFreeTerms (ts : List SortTerm) : Bool :=
  ts.all fun t => match tr false t.x with | some e => aliasFreeS e | none => true

theorem envOfRow_append (alias : Bytes) (c1 c2 : List Bytes) (r1 r2 : List Val) (h : r1.length = c1.length) :
    envOfRow alias (c1 ++ c2) (r1 ++ r2) = envOfRow alias c1 r1 ++ envOfRow alias c2 r2 := by
  unfold envOfRow
  rw [List.zip_append h.symm, List.map_append]

theorem mem_envOfRow_realias (a b : Bytes) (cols : List Bytes) (row : List Val) (y : Bytes × Bytes × Val)
    (hy : y ∈ envOfRow a cols row) : (b, y.2.1, y.2.2) ∈ envOfRow b cols row ∧ y.1 = a := by
  unfold envOfRow at *
  simp only [List.mem_map] at hy ⊢
  obtain ⟨cv, hcv, rfl⟩ := hy
  exact ⟨⟨cv, hcv, rfl⟩, rfl⟩

theorem lookupCol_joinEnv (lc rc : List Bytes) (l r : List Val) (hl : l.length = lc.length)
    (parts : List Bytes) (hp : notAliased parts = true) :
    lookupCol (envOfRow [] (lc ++ rc) (l ++ r) ++ (envOfRow leftA lc l ++ envOfRow rightA rc r)) parts =
      lookupCol (envOfRow [] (lc ++ rc) (l ++ r)) parts := by
  rw [envOfRow_append [] lc rc l r hl]
  have hmem : ∀ y ∈ envOfRow leftA lc l ++ envOfRow rightA rc r,
      ([], y.2.1, y.2.2) ∈ envOfRow [] lc l ++ envOfRow [] rc r ∧ (y.1 = leftA ∨ y.1 = rightA) := by
    intro y hy
    rcases List.mem_append.mp hy with hy | hy
    · obtain ⟨h1, h2⟩ := mem_envOfRow_realias leftA [] lc l y hy
      exact ⟨List.mem_append_left _ h1, .inl h2⟩
    · obtain ⟨h1, h2⟩ := mem_envOfRow_realias rightA [] rc r y hy
      exact ⟨List.mem_append_right _ h1, .inr h2⟩
  unfold lookupCol
  split
  · rename_i c
    rw [SelSem.find?_append_dominated]
    intro y hy hpy
    exact ⟨_, (hmem y hy).1, hpy⟩
  · rename_i a c
    rw [SelSem.find?_append_dominated]
    intro y hy hpy
    exfalso
    simp only [notAliased, Bool.not_eq_true', Bool.or_eq_false_iff, beq_eq_false_iff_ne, ne_eq] at hp
    simp only [Bool.and_eq_true, beq_iff_eq] at hpy
    rcases (hmem y hy).2 with h | h
    · exact hp.1 (hpy.1.symm.trans h)
    · exact hp.2 (hpy.1.symm.trans h)
  · rfl

theorem evalS_joinEnv (lc rc : List Bytes) (l r : List Val) (hl : l.length = lc.length)
    (e : Sql.SExpr) (he : aliasFreeS e = true) :
    evalS [] (envOfRow [] (lc ++ rc) (l ++ r) ++ (envOfRow leftA lc l ++ envOfRow rightA rc r)) e =
      evalS [] (envOfRow [] (lc ++ rc) (l ++ r)) e :=
  evalS_congr_on notAliased [] _ _ (fun parts hp => lookupCol_joinEnv lc rc l r hl parts hp) e he

end Pql.JoinFull

namespace Pql.JoinFull
open Pql Sql CompileOracle Intended SplitQ SelSem C02

def joinSel (unique left : Bool) (l r : Bytes) (c : Sql.SExpr) (obs : List OrderTerm) (lim : Option Sql.SExpr) : Select :=
  { items := [starItem],
    source := (if unique then TableRef.distinctOf l (some leftA) else TableRef.named l (some leftA)),
    join := some ⟨left, .named r (some rightA), c⟩,
    where_ := none, groupBy := [], orderBy := obs, limit := lim }

theorem selOf_joinSel (src : Bytes) (a : SubA) (unique left : Bool) (l r : Bytes) (cond : Expr) (sel : Select)
    (hsrc : a.source = .join unique left l r cond) (hop : a.op = none) (hsel : selOf src a = some sel) :
    ∃ c obs lim, tr true cond = some c ∧ obsOf a.sort = some obs ∧ limOf a.take = some lim ∧
      sel = joinSel unique left l r c obs lim := by
  obtain ⟨f, items, w, gb, obs, lim, hf, hp, ho, hl, rfl⟩ := selOf_inv src a sel hsel
  rw [hop] at hp
  cases hp
  simp only [hsrc, fromOf, Option.bind_eq_bind, Option.pure_def, Option.bind_eq_some_iff, Option.some.injEq] at hf
  obtain ⟨c, hc, rfl⟩ := hf
  exact ⟨c, obs, lim, hc, ho, hl, rfl⟩

/-- the FROM / JOIN rows of `evalSelect` for a join SELECT: (ON environment, flat row) -/
def joinPairs (left : Bool) (lcols : List Bytes) (rt : Table) (c : Sql.SExpr) (rows : List (List Val)) :
    List (Env × List Val) :=
  rows.flatMap fun l =>
    let le := envOfRow leftA lcols l
    let ms := rt.rows.filterMap fun r =>
      let env := le ++ envOfRow rightA rt.cols r
      if evalS [] env c == .bool true then some (env, l ++ r) else none
    if ms.isEmpty && left then [(le ++ envOfRow rightA rt.cols (rt.cols.map fun _ => Val.null), l ++ rt.cols.map fun _ => Val.null)]
    else ms

theorem evalSelect_joinSel (db : DB) (ctes : List (Bytes × Table)) (unique left : Bool) (l r : Bytes)
    (c : Sql.SExpr) (obs : List OrderTerm) (lim : Option Sql.SExpr) :
    evalSelect db ctes (joinSel unique left l r c obs lim) =
      let lt := lookupTable db ctes l
      let rt := lookupTable db ctes r
      let pairs := joinPairs left lt.cols rt c (if unique then distinctRows lt.rows else lt.rows)
      ⟨lt.cols ++ rt.cols,
       (limitStep lim (sortStep obs (lt.cols ++ rt.cols)
          (pairs.map fun p => ((p.1, [], p.2) : ORow)))).map (·.2.2)⟩ := by
  cases unique
  · simp only [evalSelect, joinSel, refTable, starItem, Option.getD, Bool.false_eq_true, ↓reduceIte, List.isEmpty_nil,
      Bool.not_true, List.any_cons, List.any_nil, Bool.false_and, Bool.or_false,
      List.flatMap_cons, List.flatMap_nil, List.append_nil]
    rfl
  · simp only [evalSelect, joinSel, refTable, starItem, Option.getD, Bool.false_eq_true, ↓reduceIte, List.isEmpty_nil,
      Bool.not_true, List.any_cons, List.any_nil, Bool.false_and, Bool.or_false,
      List.flatMap_cons, List.flatMap_nil, List.append_nil]
    rfl

theorem joinPairs_map_snd (left : Bool) (lcols : List Bytes) (rt : Table) (cond : Expr) (c : Sql.SExpr)
    (hev : ∀ env, evalS [] env c = Rel.evalP true [] env cond) (rows : List (List Val)) :
    (joinPairs left lcols rt c rows).map (·.2) = rows.flatMap (JoinSem.joinRow left lcols rt cond) := by
  unfold joinPairs
  rw [List.map_flatMap]
  congr 1
  funext l
  have hms : (rt.rows.filterMap fun r =>
        if evalS [] (envOfRow leftA lcols l ++ envOfRow rightA rt.cols r) c == .bool true
        then some (envOfRow leftA lcols l ++ envOfRow rightA rt.cols r, l ++ r) else none).map (·.2) =
      rt.rows.filterMap fun r =>
        if Rel.evalP true [] (envOfRow leftA lcols l ++ envOfRow rightA rt.cols r) cond == .bool true
        then some (l ++ r) else none := by
    rw [List.map_filterMap]
    congr 1
    funext r
    rw [hev]
    split <;> rfl
  simp only [JoinSem.joinRow]
  rw [← hms]
  simp only [List.isEmpty_map]
  split <;> rfl

theorem joinPairs_shape (left : Bool) (lcols : List Bytes) (rt : Table) (c : Sql.SExpr) (rows : List (List Val))
    (p : Env × List Val) (hp : p ∈ joinPairs left lcols rt c rows) :
    ∃ l r, l ∈ rows ∧ p = (envOfRow leftA lcols l ++ envOfRow rightA rt.cols r, l ++ r) := by
  simp only [joinPairs, List.mem_flatMap] at hp
  obtain ⟨l, hl, hp⟩ := hp
  split at hp
  · simp only [List.mem_singleton] at hp
    exact ⟨l, _, hl, hp⟩
  · simp only [List.mem_filterMap] at hp
    obtain ⟨r, _, hsome⟩ := hp
    split at hsome
    · simp only [Option.some.injEq] at hsome
      exact ⟨l, r, hl, hsome.symm⟩
    · cases hsome

/-- **C03 (the join link, with ORDER BY and / or LIMIT attached).**  The SELECT of a join link
    evaluates to the link's ORDER BY / LIMIT (`Rel.sortTable`, `Rel.takeTable`) applied to the documented
    join of the two tables it names — when there is an ORDER BY: provided the left table is rectangular
    and the sort terms do not mention `$left.…` / `$right.…`. -/
theorem evalSelect_join_sort (src : Bytes) (db : DB) (ctes : List (Bytes × Table)) (a : SubA)
    (unique left : Bool) (l r : Bytes) (cond : Expr) (sel : Select)
    (hsrc : a.source = .join unique left l r cond) (hop : a.op = none) (hsel : selOf src a = some sel)
    (hal : ∀ ts, a.sort = some ts → aliasFreeTerms ts = true)
    (hrect : a.sort.isSome = true → Rect (lookupTable db ctes l)) :
    evalSelect db ctes sel =
      (sortTakeA a).foldl (interpClause src db)
        (JoinSem.joinTables unique left (lookupTable db ctes l) (lookupTable db ctes r) cond) := by
  obtain ⟨c, obs, lim, hc, ho, hl, rfl⟩ := selOf_joinSel src a unique left l r cond sel hsrc hop hsel
  rw [evalSelect_joinSel]
  have hev : ∀ env, evalS [] env c = Rel.evalP true [] env cond :=
    fun env => (evalP_eq true [] env cond c hc).symm
  have hJ : JoinSem.joinTables unique left (lookupTable db ctes l) (lookupTable db ctes r) cond =
      ⟨(lookupTable db ctes l).cols ++ (lookupTable db ctes r).cols,
       (joinPairs left (lookupTable db ctes l).cols (lookupTable db ctes r) c
          (if unique then distinctRows (lookupTable db ctes l).rows else (lookupTable db ctes l).rows)).map
            fun p => (((p.1, [], p.2) : ORow)).2.2⟩ := by
    simp only [JoinSem.joinTables, Table.mk.injEq, true_and]
    exact (joinPairs_map_snd left _ _ cond c hev _).symm
  rw [hJ]
  refine (post src db a obs lim ho hl _ _ (fun (p : Env × List Val) => ((p.1, [], p.2) : ORow)) (.inl ?_)).symm
  intro p hp o hobs
  cases hs : a.sort with
  | none =>
    cases obsOf_sort_none hs ho
    cases hobs
  | some ts =>
    obtain ⟨l0, r0, hl0, rfl⟩ := joinPairs_shape _ _ _ _ _ p hp
    have hlen : l0.length = (lookupTable db ctes l).cols.length := by
      apply hrect (by rw [hs]; rfl)
      cases unique
      · simpa using hl0
      · exact (JoinSem.distinctRows_spec _).2.1 l0 |>.mp (by simpa using hl0)
    apply evalS_joinEnv _ _ _ _ hlen
    -- the ORDER BY term is the translation of an alias-free sort term
    simp only [obsOf, hs] at ho
    obtain ⟨rfl, htr⟩ := mapM_orderOf ts obs ho
    obtain ⟨t, ht, rfl⟩ := List.mem_map.mp hobs
    have := List.all_eq_true.mp (hal ts hs) t ht
    rwa [htr t ht] at this

end Pql.JoinFull
