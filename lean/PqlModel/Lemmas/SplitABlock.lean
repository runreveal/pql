/-
Who reads whom, exactly, in the intended structured splitting `splitA`: the block structure
(the counterpart of `SplitQ.Block` / `C05_block_structure` for `splitA`, proved directly by
induction over a run `RunA`; no writability side condition).
-/
import PqlModel.Lemmas.SplitAReads
namespace Pql.C05
open Pql SplitQ Intended

def prevNameA (source : Option Ident) (blk : List SubA) : Bytes :=
  match blk.getLast? with
  | some s => s.name
  | none => identName source

/-- The block of links one pipeline (`source | ops`) contributes.
    * `chain`: a link reading the previous link of the same block (the base table for the first);
    * `join`: the complete block `rblk` of the right-hand pipeline (with its own base table
      `rsource`), followed by the join link, whose left side is what a chained link would have
      read (the link in front of the right-hand block, or the base table) and whose right side
      is the last link of the right-hand block. -/
inductive BlockA : Option Ident → List SubA → Prop
  | nil {source} : BlockA source []
  | chain {source blk} (s : SubA) :
      BlockA source blk → s.source = .table (prevNameA source blk) → BlockA source (blk ++ [s])
  | join {source blk} (rsource : Option Ident) (rblk : List SubA) (r s : SubA)
      (unique left : Bool) (cond : Expr) :
      BlockA source blk → BlockA rsource rblk → rblk.getLast? = some r →
      s.source = .join unique left (prevNameA source blk) r.name cond →
      BlockA source (blk ++ rblk ++ [s])

theorem BlockA.congr_last {source : Option Ident} {blk : List SubA} {s s' : SubA}
    (h : BlockA source (blk ++ [s])) (hsrc : s'.source = s.source) : BlockA source (blk ++ [s']) := by
  generalize hL : blk ++ [s] = L at h
  cases h with
  | nil => simp at hL
  | chain s0 hb hs0 =>
    obtain ⟨rfl, rfl⟩ := snoc_inj hL
    exact BlockA.chain s' hb (hsrc.trans hs0)
  | join rsource rblk r s0 unique left cond hb hr hlast hs0 =>
    obtain ⟨rfl, rfl⟩ := snoc_inj hL
    exact BlockA.join rsource rblk r s' unique left cond hb hr hlast (hsrc.trans hs0)

theorem chainA_source (pre blk : List SubA) (source : Option Ident) :
    (chainA (pre ++ blk) pre.length source).source = .table (prevNameA source blk) := by
  unfold chainA prevNameA
  cases hb : blk.getLast? with
  | none =>
    have : blk = [] := by simpa using hb
    subst this; simp
  | some l =>
    obtain ⟨b0, rfl⟩ := List.getLast?_eq_some_iff.mp hb
    simp [← List.append_assoc]
    intro h; omega

theorem joinLeftA_eq (pre blk rblk : List SubA) (source : Option Ident) :
    joinLeftA source pre.length (pre ++ blk).length (pre ++ blk ++ rblk) = prevNameA source blk := by
  have h := left_index pre blk rblk
  unfold joinLeftA prevNameA
  cases hb : blk.getLast? with
  | none => rw [hb] at h; rw [if_neg h]
  | some l => rw [hb] at h; rw [if_pos h.1, h.2]

theorem joinRightA_eq (pre rblk : List SubA) (r : SubA) (h : rblk.getLast? = some r) :
    joinRightA (pre ++ rblk) = r.name := by
  obtain ⟨b0, rfl⟩ := List.getLast?_eq_some_iff.mp h
  unfold joinRightA
  simp [← List.append_assoc]

theorem block_closeA {dst rblk0 : List SubA} {rsource : Option Ident} (hb : BlockA rsource rblk0) :
    ∃ rblk r, closeA (dst ++ rblk0) dst.length rsource = dst ++ rblk ∧ BlockA rsource rblk ∧
      rblk.getLast? = some r := by
  unfold closeA
  by_cases hlen : (dst ++ rblk0).length = dst.length
  · have : rblk0 = [] := by simpa using hlen
    subst this
    refine ⟨[chainA (dst ++ []) dst.length rsource], _, by simp, ?_, rfl⟩
    have := BlockA.chain _ hb (chainA_source dst [] rsource)
    simpa using this
  · simp only [hlen, ↓reduceIte]
    rcases List.eq_nil_or_concat rblk0 with rfl | ⟨b0, x, rfl⟩
    · simp at hlen
    · exact ⟨_, x, rfl, hb, by simp⟩

theorem RunA.block {source : Option Ident} {k : Nat} {dst out : List SubA} {ops : OpList}
    (h : RunA source k dst ops out) :
    ∀ pre blk, dst = pre ++ blk → pre.length = k → BlockA source blk →
      ∃ blk', out = pre ++ blk' ∧ BlockA source blk' := by
  induction h with
  | nil => intro pre blk hd _ hb; exact ⟨blk, hd, hb⟩
  | @step source k dst rest out o ho _ ih =>
    intro pre blk hd hp hb; subst hd; subst hp
    rcases placeA_cases source pre.length o (pre ++ blk) with he | ⟨init, l, hd, hk, _, he⟩
    · exact ih pre (blk ++ [_]) (he.trans (List.append_assoc _ _ _)) rfl
        (BlockA.chain _ hb ((storeA_source ..).trans (chainA_source pre blk _)))
    · obtain ⟨b0, rfl, rfl⟩ := split_last hd.symm hk
      exact ih pre (b0 ++ [_]) (he.trans (List.append_assoc _ _ _)) rfl (hb.congr_last (storeA_source ..))
  | @join source k dst rest out p kw kind ka flavor lp rsource rops rp on conds left mid d hl _ hd' _ ih1 ih2 =>
    intro pre blk hd hp hb; subst hd; subst hp
    obtain ⟨rblk0, rfl, hrb0⟩ := ih1 (pre ++ blk) [] (by simp) rfl BlockA.nil
    obtain ⟨rblk, r, hd, hrb, hlast⟩ := block_closeA (dst := pre ++ blk) hrb0
    rw [hd] at hd'
    subst hd'
    refine ih2 pre (blk ++ rblk ++ [joinLinkA source pre.length (pre ++ blk).length (pre ++ blk ++ rblk) flavor left conds])
      (by simp only [List.append_assoc]) rfl
      (BlockA.join rsource rblk r _ (uniqueOf flavor) left (buildJoinCondition conds) hb hrb hlast ?_)
    simp only [joinLinkA, joinLeftA_eq, joinRightA_eq (pre ++ blk) rblk r hlast]

theorem blk_tab (t : Tabular) (dstA out : List SubA) (h : splitA dstA t = some out) :
    ∃ source ops rblk r, t = .mk source ops ∧ out = dstA ++ rblk ∧ BlockA source rblk ∧
      rblk.getLast? = some r := by
  obtain ⟨source, ops, mid, rfl, hrun, rfl⟩ := splitA_run t dstA out h
  obtain ⟨rblk0, rfl, hrb0⟩ := hrun.block dstA [] (by simp) rfl BlockA.nil
  obtain ⟨rblk, r, hd, hrb, hlast⟩ := block_closeA (dst := dstA) hrb0
  exact ⟨source, ops, rblk, r, rfl, hd, hrb, hlast⟩

theorem blk_ops : ∀ (ops : OpList) (source : Option Ident) (pre blk out : List SubA),
    splitOpsA source pre.length (pre ++ blk) ops = some out → BlockA source blk →
    ∃ blk', out = pre ++ blk' ∧ BlockA source blk' :=
  fun ops source pre blk out h hb => (splitOpsA_run ops source _ _ out h).block pre blk rfl rfl hb

end Pql.C05
