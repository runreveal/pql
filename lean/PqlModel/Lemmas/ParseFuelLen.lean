/-
What a production leaves is a suffix of what it was given, whatever the fuel: the parser is a
cursor that only moves forward, or back to a position it saved.  `ExprLen` (the remainder is no
longer than the input) is the corollary `List.IsSuffix.length_le`; a predicate on token lists that
is closed under suffixes passes from the input to the remainder by `exprSuffix` alone.
-/
import PqlModel.Lemmas.ParseFuelBasic
import PqlModel.Lemmas.ParseInduct
namespace Pql

structure ExprLen (c : PCtx) (fuel : Nat) : Prop where
  expr : ∀ ts, (pExpr c fuel ts).rest.length ≤ ts.length
  trail : ∀ x m acc ts, (pTrail c fuel x m acc ts).rest.length ≤ ts.length
  higher : ∀ y p acc ts, (pHigher c fuel y p acc ts).rest.length ≤ ts.length
  unary : ∀ ts, (pUnary c fuel ts).rest.length ≤ ts.length
  primary : ∀ ts, (pPrimary c fuel ts).rest.length ≤ ts.length
  inner : ∀ ts, (pInner c fuel ts).rest.length ≤ ts.length
  exprList : ∀ ts, (pExprList c fuel ts).rest.length ≤ ts.length
  exprListTail : ∀ acc ts, (pExprListTail c fuel acc ts).rest.length ≤ ts.length

/-- `exprBinaryTrail` leaves a suffix of its input, and (unless it is out of fuel) when it sees an
    acceptable operator it consumes it -/
def TrailSuffix (f : Nat) (m : Int) (ts : List Token) (r : PRes Expr) : Prop :=
  r.rest <:+ ts ∧ ∀ op rest, ts = op :: rest → ¬(precOf op.kind < 0 ∨ precOf op.kind < m) →
    f ≠ 0 → r.rest <:+ rest

theorem TrailSuffix.consumed {f : Nat} {m : Int} {op : Token} {rest : List Token} {r : PRes Expr}
    (h : r.rest <:+ rest) : TrailSuffix f m (op :: rest) r :=
  ⟨h.trans (List.suffix_cons _ _), fun _ _ heq _ _ => by cases heq; exact h⟩

theorem exprSuffix (c : PCtx) : ∀ fuel, ExprHolds c
    (fun _ ts r => r.rest <:+ ts) (fun f _ m _ ts r => TrailSuffix f m ts r)
    (fun _ _ _ _ ts r => r.rest <:+ ts) (fun _ ts r => r.rest <:+ ts) (fun _ ts r => r.rest <:+ ts)
    (fun _ ts r => r.rest <:+ ts) (fun _ ts r => r.rest <:+ ts) (fun _ _ ts r => r.rest <:+ ts)
    fuel := by
  have tl : ∀ {a : Token} {l r : List Token}, r <:+ l → r <:+ a :: l :=
    fun h => h.trans (List.suffix_cons _ _)
  apply expr_induct
  case e_fuel | u_fuel | p_fuel | i_fuel | l_fuel => intro _; exact List.suffix_refl _
  case h_fuel => intro _ _ _ _; exact List.suffix_refl _
  case lt_fuel => intro _ _; exact List.suffix_refl _
  case t_fuel => intro _ _ _ _; exact ⟨List.suffix_refl _, fun _ _ _ _ h => absurd rfl h⟩
  case e_nf => intro _ _ _ _ h1 _; exact h1
  case e_trail => intro _ _ _ _ _ h1 _ _ h2; exact h2.1.trans h1
  case t_nil => intro _ _ _ _; exact ⟨List.suffix_refl _, fun _ _ h => nomatch h⟩
  case t_stop =>
    intro _ _ _ _ op rest h
    exact ⟨List.suffix_refl _, fun _ _ heq hn => by cases heq; exact absurd h hn⟩
  case t_inEof => intros; exact .consumed List.nil_suffix
  case t_inNoParen => intros; exact .consumed (List.suffix_cons _ _)
  case t_inOpen =>
    intro _ _ _ _ _ _ _ _ _ _ _ _ _ _ _ hcl
    exact .consumed (tl (hcl ▸ closeSplit_rest_suffix _ _ _ _))
  case t_inList =>
    intro _ _ _ _ _ _ _ _ _ _ _ _ _ _ _ _ hcl _ ih
    exact .consumed (tl (ih.1.trans (hcl ▸ closeSplit_rest_suffix _ _ _ _)))
  case t_binary => intro _ _ _ _ _ _ _ _ _ _ _ _ hu _ hh _ ih; exact .consumed (ih.1.trans (hh.trans hu))
  case h_nil => intros; exact List.suffix_refl _
  case h_stop => intros; exact List.suffix_refl _
  case h_go => intro _ _ _ _ _ _ _ _ _ _ ht _ ih; exact ih.trans ht.1
  case u_nil | i_nil => intro _; exact List.suffix_refl _
  case u_sign => intro _ _ _ _ _ _ h1; exact tl h1
  case u_plain => intro _ _ _ _ _ _ h1; exact h1
  case p_err => intro _ _ _ _ h1 _; exact h1
  case p_plain => intro _ _ _ _ h1 _ _; exact h1
  case p_index =>
    intro _ _ _ _ rest _ _ _ h1 _ hrest _ _ _ hcl
    exact (hcl ▸ closeSplit_rest_suffix _ _ _ rest).trans ((List.suffix_cons _ _).trans (hrest ▸ h1))
  case i_lit => intros; exact List.suffix_cons _ _
  case i_ident => intro _ _ rest _ _ hq _; exact tl (hq ▸ pQualTail_rest_suffix c _ _ rest)
  case i_qident => intro _ _ rest _ _ hq; exact tl (hq ▸ pQualTail_rest_suffix c _ _ rest)
  case i_call =>
    intro _ t rest _ _ rest2 _ _ _ hq _ _ hr _ _ _ hcl
    have h1 := pQualTail_rest_suffix c (rest.length + 1) [⟨t.value, t.span, false⟩] rest
    rw [hq, hr] at h1
    exact tl ((hcl ▸ closeSplit_rest_suffix _ _ _ rest2).trans ((List.suffix_cons _ _).trans h1))
  case i_paren => intro _ _ rest _ _ _ _ _ hcl; exact tl (hcl ▸ closeSplit_rest_suffix _ _ _ rest)
  case i_other => intros; exact List.suffix_refl _
  case l_err => intro _ _ _ _ h1 _; exact h1
  case l_tail => intro _ _ _ _ _ h1 _ _ ih; exact ih.trans h1
  case lt_nil | lt_stop | lt_back => intros; exact List.suffix_refl _
  case lt_err => intro _ _ _ _ _ _ _ h1 _ _; exact tl h1
  case lt_more => intro _ _ _ _ _ _ _ _ h1 _ _ ih; exact tl (ih.trans h1)

theorem exprLen (c : PCtx) (fuel : Nat) : ExprLen c fuel :=
  have g := exprSuffix c fuel
  ⟨fun ts => (g.expr ts).length_le, fun x m acc ts => (g.trail x m acc ts).1.length_le,
    fun y p acc ts => (g.higher y p acc ts).length_le, fun ts => (g.unary ts).length_le,
    fun ts => (g.primary ts).length_le, fun ts => (g.inner ts).length_le,
    fun ts => (g.exprList ts).length_le, fun acc ts => (g.exprListTail acc ts).length_le⟩

theorem pExpr_rest_suffix (c : PCtx) (fuel : Nat) (ts : List Token) : (pExpr c fuel ts).rest <:+ ts :=
  (exprSuffix c fuel).expr ts
theorem pExprList_rest_suffix (c : PCtx) (fuel : Nat) (ts : List Token) :
    (pExprList c fuel ts).rest <:+ ts := (exprSuffix c fuel).exprList ts

theorem pExpr_rest_le (c : PCtx) (fuel : Nat) (ts : List Token) : (pExpr c fuel ts).rest.length ≤ ts.length :=
  (exprLen c fuel).expr ts
theorem pExprList_rest_le (c : PCtx) (fuel : Nat) (ts : List Token) :
    (pExprList c fuel ts).rest.length ≤ ts.length := (exprLen c fuel).exprList ts

theorem pTrail_progress (c : PCtx) (fuel : Nat) (x : Expr) (m : Int) (acc : Errs)
    (op1 : Token) (rest : List Token) (hp : ¬ (precOf op1.kind < 0 ∨ precOf op1.kind < m)) :
    (pTrail c (fuel + 1) x m acc (op1 :: rest)).rest.length ≤ rest.length :=
  (((exprSuffix c (fuel + 1)).trail x m acc (op1 :: rest)).2 op1 rest rfl hp
    (Nat.succ_ne_zero _)).length_le

end Pql
