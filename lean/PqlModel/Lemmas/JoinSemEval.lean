/-
Evaluating a chain of links as common table expressions.
-/
import PqlModel.Lemmas.JoinSemSplit
import PqlModel.Spec.Rel
namespace Pql.JoinSem
open Pql Sql CompileOracle Intended

def lastName (dst : List SubA) : Bytes := match dst.getLast? with | some s => s.name | none => []

def linkSel (src : Bytes) (s : SubA) : Option (Bytes × Select) := do pure (s.name, ← selOf src s)

/-- evaluate CTEs in order, each seeing the earlier ones (the loop of `evalStatement`) -/
def runCtes (db : DB) (ctes0 : List (Bytes × Table)) (sels : List (Bytes × Select)) : List (Bytes × Table) :=
  sels.foldl (fun acc (n, sel) => acc ++ [(n, evalSelect db acc sel)]) ctes0

theorem evalStatement_eq (db : DB) (sels : List (Bytes × Select)) (body : Select) :
    evalStatement db ⟨sels, body⟩ = evalSelect db (runCtes db [] sels) body := rfl

theorem runCtes_append (db : DB) (c : List (Bytes × Table)) (a b : List (Bytes × Select)) :
    runCtes db c (a ++ b) = runCtes db (runCtes db c a) b := by
  simp [runCtes, List.foldl_append]

theorem runCtes_snoc (db : DB) (c : List (Bytes × Table)) (a : List (Bytes × Select)) (n : Bytes) (sel : Select) :
    runCtes db c (a ++ [(n, sel)]) = runCtes db c a ++ [(n, evalSelect db (runCtes db c a) sel)] := by
  rw [runCtes_append]; rfl

theorem runCtes_names (db : DB) : ∀ (sels : List (Bytes × Select)) (c : List (Bytes × Table)),
    (runCtes db c sels).map (·.1) = c.map (·.1) ++ sels.map (·.1)
  | [], c => by simp [runCtes]
  | (n, sel) :: rest, c => by
    have := runCtes_names db rest (c ++ [(n, evalSelect db c sel)])
    simp only [runCtes, List.foldl_cons] at this ⊢
    rw [this]; simp

theorem runCtes_prefix (db : DB) : ∀ (sels : List (Bytes × Select)) (c : List (Bytes × Table)),
    ∃ more, runCtes db c sels = c ++ more
  | [], c => ⟨[], by simp [runCtes]⟩
  | (n, sel) :: rest, c => by
    obtain ⟨more, h⟩ := runCtes_prefix db rest (c ++ [(n, evalSelect db c sel)])
    refine ⟨(n, evalSelect db c sel) :: more, ?_⟩
    simp only [runCtes, List.foldl_cons] at h ⊢
    rw [h]; simp

theorem lookupTable_append_of_mem (db : DB) (c more : List (Bytes × Table)) (n : Bytes)
    (h : n ∈ c.map (·.1)) : lookupTable db (c ++ more) n = lookupTable db c n := by
  simp only [lookupTable, List.find?_append]
  cases hf : c.find? (·.1 == n) with
  | some t => rfl
  | none =>
    exfalso
    rw [List.find?_eq_none] at hf
    simp only [List.mem_map] at h
    obtain ⟨x, hx, rfl⟩ := h
    exact hf x hx (by simp)

theorem find?_name_none {c : List (Bytes × Table)} {n : Bytes} (h : n ∉ c.map (·.1)) :
    c.find? (·.1 == n) = none := by
  rw [List.find?_eq_none]
  intro x hx hxn
  exact h (List.mem_map.mpr ⟨x, hx, by simpa using hxn⟩)

theorem lookupTable_of_not_mem (db : DB) (c : List (Bytes × Table)) (n : Bytes)
    (h : n ∉ c.map (·.1)) : lookupTable db c n = lookupTable db [] n := by
  simp only [lookupTable, find?_name_none h, List.find?_nil]

theorem lookupTable_snoc_self (db : DB) (c : List (Bytes × Table)) (n : Bytes) (t : Table)
    (h : n ∉ c.map (·.1)) : lookupTable db (c ++ [(n, t)]) n = t := by
  simp [lookupTable, List.find?_append, find?_name_none h]

theorem interp_mk (src : Bytes) (db : DB) (T : Ident) (ops : OpList) :
    Rel.interp src db (.mk (some T) ops) = Rel.interpOps src db (lookupTable db [] T.name) ops := by
  simp only [Rel.interp, lookupTable, List.find?_nil]
  rfl

theorem linkSel_eq_some {src : Bytes} {s : SubA} {x : Bytes × Select} :
    linkSel src s = some x ↔ ∃ sel, selOf src s = some sel ∧ (s.name, sel) = x := by
  simp only [linkSel, Option.bind_eq_bind, Option.pure_def, Option.bind_eq_some_iff, Option.some.injEq]

theorem mapM_linkSel_cons {src : Bytes} {s : SubA} {rest : List SubA} {sels : List (Bytes × Select)}
    (h : (s :: rest).mapM (linkSel src) = some sels) :
    ∃ sel xs, selOf src s = some sel ∧ rest.mapM (linkSel src) = some xs ∧ sels = (s.name, sel) :: xs := by
  simp only [List.mapM_cons, Option.bind_eq_bind, Option.pure_def, Option.bind_eq_some_iff, Option.some.injEq] at h
  obtain ⟨x, hx, xs, hxs, rfl⟩ := h
  obtain ⟨sel, hsel, rfl⟩ := linkSel_eq_some.1 hx
  exact ⟨sel, xs, hsel, hxs, rfl⟩

theorem mapM_linkSel_names (src : Bytes) : ∀ (subs : List SubA) (sels : List (Bytes × Select)),
    subs.mapM (linkSel src) = some sels → sels.map (·.1) = subs.map (·.name)
  | [], sels, h => by simp at h; subst h; rfl
  | s :: rest, sels, h => by
    obtain ⟨sel, xs, _, hxs, rfl⟩ := mapM_linkSel_cons h
    simp [mapM_linkSel_names src rest xs hxs]

theorem mapM_append_some {α β} (f : α → Option β) (xs ys : List α) (r : List β)
    (h : (xs ++ ys).mapM f = some r) :
    ∃ a b, xs.mapM f = some a ∧ ys.mapM f = some b ∧ r = a ++ b := by
  rw [List.mapM_append] at h
  simp only [bind, Option.bind] at h
  cases h1 : xs.mapM f with
  | none => simp [h1] at h
  | some a =>
    cases h2 : ys.mapM f with
    | none => simp [h1, h2] at h
    | some b =>
      simp only [h1, h2, pure, Option.some.injEq] at h
      exact ⟨a, b, rfl, rfl, h.symm⟩

theorem mapM_append_of_some {α β} (f : α → Option β) (xs ys : List α) (a b : List β)
    (h1 : xs.mapM f = some a) (h2 : ys.mapM f = some b) : (xs ++ ys).mapM f = some (a ++ b) := by
  rw [List.mapM_append]
  simp [h1, h2, bind, Option.bind]

theorem lastName_snoc (init : List SubA) (q : SubA) : lastName (init ++ [q]) = q.name := by
  simp [lastName]

theorem lastName_mem (R : List SubA) (h : R ≠ []) : lastName R ∈ R.map (·.name) := by
  rcases List.eq_nil_or_concat R with rfl | ⟨R0, l, rfl⟩
  · exact absurd rfl h
  · simp [lastName]

theorem stmtOf_concat (src : Bytes) (init : List SubA) (q : SubA) :
    stmtOf src (init ++ [q]) = (do
      let ctes ← init.mapM (linkSel src)
      let body ← selOf src q
      pure ⟨ctes, body⟩) := by
  simp only [stmtOf, List.reverse_append, List.reverse_cons, List.reverse_nil, List.nil_append, List.cons_append,
    List.reverse_reverse]
  rfl

theorem stmtOf_snoc (src : Bytes) (subs : List SubA) (st : Statement) (h : stmtOf src subs = some st) :
    ∃ init q sels body, subs = init ++ [q] ∧ init.mapM (linkSel src) = some sels ∧ selOf src q = some body ∧
      st = ⟨sels, body⟩ := by
  rcases List.eq_nil_or_concat subs with rfl | ⟨init, q, rfl⟩
  · cases h
  · rw [List.concat_eq_append, stmtOf_concat] at h
    simp only [Option.bind_eq_bind, Option.pure_def, Option.bind_eq_some_iff, Option.some.injEq] at h
    obtain ⟨sels, h1, body, h2, rfl⟩ := h
    exact ⟨init, q, sels, body, by simp, h1, h2, rfl⟩

theorem evalStatement_chain (src : Bytes) (db : DB) (subs : List SubA) (st : Statement)
    (hst : stmtOf src subs = some st) (hnd : (subs.map (·.name)).Nodup) :
    ∃ all, subs.mapM (linkSel src) = some all ∧
      evalStatement db st = lookupTable db (runCtes db [] all) (lastName subs) := by
  obtain ⟨init, q, sels, body, rfl, h1, h2, rfl⟩ := stmtOf_snoc src subs st hst
  have hq : [q].mapM (linkSel src) = some [(q.name, body)] := by simp [linkSel, h2, bind, Option.bind]
  refine ⟨sels ++ [(q.name, body)], mapM_append_of_some _ _ _ _ _ h1 hq, ?_⟩
  rw [evalStatement_eq, runCtes_snoc, lastName_snoc, lookupTable_snoc_self]
  rw [runCtes_names, mapM_linkSel_names src _ _ h1]
  simp only [List.map_append, List.map_cons, List.map_nil, List.nodup_append] at hnd
  simpa using fun hmem => hnd.2.2 _ hmem _ (by simp) rfl

/-- **what property C02 says of one join-free block**, placed behind links `dst` (they fix the indices of
    the block's generated names) and earlier bindings `ctes0` (meant: the evaluation of `dst`; the definition
    does not ask for it): binding the links of the block in order as CTEs, the block's last name is
    bound to the pipeline's meaning on the table the block reads. -/
def BlockSem (src : Bytes) (db : DB) (ctes0 : List (Bytes × Table)) (dst : List SubA) (T : Ident)
    (ops : OpList) : Prop :=
  ∀ (R : List SubA) (sels : List (Bytes × Select)),
    splitA dst (.mk (some T) ops) = some (dst ++ R) →
    R.mapM (linkSel src) = some sels →
    (R.map (·.name)).Nodup →
    (∀ n ∈ R.map (·.name), n ∉ ctes0.map (·.1)) →
    lookupTable db (runCtes db ctes0 sels) (lastName R) =
      Rel.interpOps src db (lookupTable db ctes0 T.name) ops

end Pql.JoinSem
