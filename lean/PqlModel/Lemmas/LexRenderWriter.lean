/-
The invariant of the expression writer (`ExprInv`: `Good` — adjacent before any separator or the
end of the text — and `HeadNotMinus` for an unsigned operand that `writeExpressionMaybeParen`
leaves bare: this makes the sign's `"-"` safe, `wrapTight` parenthesises everything else) and the
facts its forms use; `writeExpr_goodS` itself is in Lemmas/ScopeRTLex.lean.
-/
import PqlModel.Lemmas.LexRenderComb
import PqlModel.Props.C01
import PqlModel.Lemmas.WriterCases
namespace Pql.LexRender
open Pql Sql

def HeadNotMinus (cs : List Chunk) : Prop :=
  ∀ rest : Bytes, rest.head? ≠ some 45 → (renderChunks cs ++ rest).head? ≠ some 45

def txtHead (s : String) : Option UInt8 := (Bytes.ofString s).head?

theorem head_txt {s : String} {d : UInt8} (cs : List Chunk) (rest : Bytes) (h : txtHead s = some d) :
    (renderChunks (.txt s :: cs) ++ rest).head? = some d := by
  unfold txtHead at h
  rw [renderChunks_cons, Chunk.bytes]
  cases hb : Bytes.ofString s with
  | nil => rw [hb] at h; cases h
  | cons c r => rw [hb] at h; simpa using h

theorem headNotMinus_txt {s : String} {d : UInt8} (cs : List Chunk) (h : txtHead s = some d) (hd : d ≠ 45) :
    HeadNotMinus (.txt s :: cs) := by
  intro rest _
  rw [head_txt cs rest h]
  intro e; apply hd; injection e

theorem sepHead_not_minus {o : Option UInt8} (h : sepHead o = true) : o ≠ some 45 := by
  intro e; subst e; revert h; decide

theorem sepHead_not_dq {o : Option UInt8} (h : sepHead o = true) : o ≠ some 34 := by
  intro e; subst e; revert h; decide

theorem adj_paren {body : List Chunk} (hb : Good body) (rest : Bytes) : AdjC rest (parenthesise body) = true :=
  adj_txt_inert (by decide) (good_app_txt hb (by decide) (adj_txt_inert (by decide) (AdjC_nil _)))

theorem good_paren {body : List Chunk} (hb : Good body) : Good (parenthesise body) :=
  fun rest _ => adj_paren hb rest

theorem head_paren (body : List Chunk) : HeadNotMinus (parenthesise body) :=
  headNotMinus_txt _ (d := 40) (by decide) (by decide)

theorem good_wrapMaybe (e : Expr) {body : List Chunk} (hb : Good body) : Good (wrapMaybe e body) := by
  unfold wrapMaybe; split
  · exact good_paren hb
  · exact hb

theorem good_wrapTight (e : Expr) {body : List Chunk} (hb : Good body) : Good (wrapTight e body) := by
  unfold wrapTight; split
  · exact good_paren hb
  · exact good_wrapMaybe e hb

theorem head_wrapTight (e : Expr) {body : List Chunk}
    (hh : isSigned e = false → needsWrap e = false → HeadNotMinus body) : HeadNotMinus (wrapTight e body) := by
  unfold wrapTight
  by_cases hs : isSigned e = true
  · rw [if_pos hs]; exact head_paren body
  · rw [if_neg hs]
    unfold wrapMaybe
    by_cases hw : needsWrap e = true
    · rw [if_pos hw]; exact head_paren body
    · rw [if_neg hw]
      exact hh (by simpa using hs) (by simpa using hw)

theorem adj_qids : ∀ (parts : List Ident) (rest : Bytes), rest.head? ≠ some 34 →
    AdjC rest (sepChunks "." (parts.map fun p => [Chunk.qid p.name])) = true
  | [], rest, _ => AdjC_nil rest
  | [p], rest, hr => by simpa [sepChunks] using adj_qid p.name hr
  | p :: q :: ps, rest, hr => by
    simp only [List.map_cons, sepChunks]
    refine AdjC_append (adj_qid p.name ?_) (adj_txt_inert (by decide) ?_)
    · rw [head_txt (d := 46) _ rest (by decide)]; decide
    · have := adj_qids (q :: ps) rest hr
      simpa only [List.map_cons] using this

theorem head_qids (parts : List Ident) :
    HeadNotMinus (sepChunks "." (parts.map fun p => [Chunk.qid p.name])) := by
  intro rest hr
  match parts with
  | [] => simpa [sepChunks, renderChunks] using hr
  | [p] => simp [sepChunks, renderChunks, Chunk.bytes, quoteIdentifier, quoteWith]
  | p :: q :: ps => simp [sepChunks, renderChunks, Chunk.bytes, quoteIdentifier, quoteWith]

theorem builtin_mem {name : Bytes} {sql : String} (h : builtinIdent name = some sql) :
    sql ∈ ["FALSE", "NULL", "TRUE"] := by
  obtain ⟨kv, hm, _, rfl⟩ := lookup_row h
  simp only [Facts.builtinIdentifiers, List.mem_cons, List.not_mem_nil, or_false] at hm
  rcases hm with rfl | rfl | rfl <;> simp

theorem binaryOp_mem {op : TokKind} {sql : String} (h : binaryOpText op = some sql) :
    sql ∈ ["AND", ">=", ">", "<=", "<", "-", "%", "OR", "+", "/", "*"] := by
  obtain ⟨kv, hm, _, rfl⟩ := lookup_row h
  simp only [Facts.binaryOps, List.mem_cons, List.not_mem_nil, or_false] at hm
  rcases hm with rfl | rfl | rfl | rfl | rfl | rfl | rfl | rfl | rfl | rfl | rfl <;> simp

def knownPairs : List (String × Bool) :=
  [("writeCountFunction", false), ("writeCountIfFunction", false), ("writeIfFunction", true),
   ("writeIsNotNullFunction", true), ("writeIsNullFunction", true), ("writeNotFunction", true),
   ("writeNowFunction", false), ("writeStrcatFunction", true), ("writeToLowerFunction", true),
   ("writeToUpperFunction", true)]

theorem known_mem {name : Bytes} {wf : String × Bool} (h : knownFunction name = some wf) :
    wf ∈ knownPairs := by
  obtain ⟨kv, hm, _, rfl⟩ := lookup_row h
  simp only [Facts.knownFunctions, List.mem_cons, List.not_mem_nil, or_false] at hm
  rcases hm with rfl | rfl | rfl | rfl | rfl | rfl | rfl | rfl | rfl | rfl | rfl <;> simp [knownPairs]

theorem adj_minus {rest : Bytes} (hr : rest.head? ≠ some 45) : AdjC rest [.txt "-"] = true := by
  refine AdjC_single_txt (by decide) ?_
  have e : txtAtoms "-" = [.sym1 45] := by decide
  rw [e]
  cases h : rest.head? with
  | none => rfl
  | some d =>
    have hd : d ≠ 45 := by intro e; apply hr; rw [h, e]
    simp [lastFollows, follows, Atom.bad, sym1Bad, hd, twoCharSyms]

theorem assembleKnown_good {writer : String} {flag : Bool} (hmem : (writer, flag) ∈ knownPairs)
    (args : List (Expr × List Chunk)) (hargs : ∀ a ∈ args, Good a.2) (cs : List Chunk)
    (h : assembleKnown writer args = .ok cs) : Good cs ∧ (flag = false → HeadNotMinus cs) := by
  simp only [knownPairs, List.mem_cons, Prod.mk.injEq, List.not_mem_nil, or_false] at hmem
  rcases hmem with ⟨rfl, rfl⟩ | ⟨rfl, rfl⟩ | ⟨rfl, rfl⟩ | ⟨rfl, rfl⟩ | ⟨rfl, rfl⟩ | ⟨rfl, rfl⟩ |
    ⟨rfl, rfl⟩ | ⟨rfl, rfl⟩ | ⟨rfl, rfl⟩ | ⟨rfl, rfl⟩
  · rw [C01.assembleKnown_count] at h; cases h
    exact ⟨good_txt_sep (by decide), fun _ => headNotMinus_txt _ (d := 99) (by decide) (by decide)⟩
  · rw [C01.assembleKnown_countif] at h
    rcases args with _ | ⟨a, t⟩
    · cases h
    cases h
    exact ⟨good_cons_inert (by decide) (good_app (hargs a (by simp)) (by decide) (good_cons_inert (by decide) good_nil)),
      fun _ => headNotMinus_txt _ (d := 99) (by decide) (by decide)⟩
  · rw [C01.assembleKnown_if] at h
    rcases args with _ | ⟨a, _ | ⟨b, _ | ⟨c, t⟩⟩⟩ <;> cases h
    refine ⟨?_, fun hf => by cases hf⟩
    simp only [List.append_assoc, List.cons_append]
    exact good_cons_inert (by decide) (good_app (hargs a (by simp)) (by decide) (good_cons_inert (by decide)
      (good_app (hargs b (by simp)) (by decide) (good_cons_inert (by decide)
        (good_app (hargs c (by simp)) (by decide) (good_txt_sep (by decide)))))))
  · rw [C01.assembleKnown_isnotnull] at h
    rcases args with _ | ⟨a, t⟩
    · cases h
    cases h
    exact ⟨good_app (good_wrapMaybe a.1 (hargs a (by simp))) (by decide) (good_txt_sep (by decide)),
      fun hf => by cases hf⟩
  · rw [C01.assembleKnown_isnull] at h
    rcases args with _ | ⟨a, t⟩
    · cases h
    cases h
    exact ⟨good_app (good_wrapMaybe a.1 (hargs a (by simp))) (by decide) (good_txt_sep (by decide)),
      fun hf => by cases hf⟩
  · rw [C01.assembleKnown_not] at h
    rcases args with _ | ⟨a, t⟩
    · cases h
    cases h
    exact ⟨good_cons_inert (by decide) (good_wrapMaybe a.1 (hargs a (by simp))), fun hf => by cases hf⟩
  · rw [C01.assembleKnown_now] at h; cases h
    exact ⟨good_txt_sep (by decide), fun _ => headNotMinus_txt _ (d := 67) (by decide) (by decide)⟩
  · rw [C01.assembleKnown_strcat] at h
    rcases args with _ | ⟨a, t⟩
    · cases h
    cases h
    refine ⟨good_sepChunks (by decide) (by decide) _ ?_, fun hf => by cases hf⟩
    intro v hv
    obtain ⟨x, hx, rfl⟩ := List.mem_map.mp hv
    exact good_wrapMaybe x.1 (hargs x hx)
  · rw [C01.assembleKnown_tolower] at h
    rcases args with _ | ⟨a, t⟩
    · cases h
    cases h
    exact ⟨good_cons_inert (by decide) (good_app (hargs a (by simp)) (by decide) (good_cons_inert (by decide) good_nil)),
      fun hf => by cases hf⟩
  · rw [C01.assembleKnown_toupper] at h
    rcases args with _ | ⟨a, t⟩
    · cases h
    cases h
    exact ⟨good_cons_inert (by decide) (good_app (hargs a (by simp)) (by decide) (good_cons_inert (by decide) good_nil)),
      fun hf => by cases hf⟩

theorem good_builtin {sql : String} (h : sql ∈ ["FALSE", "NULL", "TRUE"]) :
    Good [.txt sql] ∧ HeadNotMinus [.txt sql] := by
  simp only [List.mem_cons, List.not_mem_nil, or_false] at h
  rcases h with rfl | rfl | rfl
  · exact ⟨good_txt_sep (by decide), headNotMinus_txt _ (d := 70) (by decide) (by decide)⟩
  · exact ⟨good_txt_sep (by decide), headNotMinus_txt _ (d := 78) (by decide) (by decide)⟩
  · exact ⟨good_txt_sep (by decide), headNotMinus_txt _ (d := 84) (by decide) (by decide)⟩

theorem good_unhandled_binary (op : TokKind) :
    txtInert ("NULL /* unhandled " ++ op.goName ++ " binary op */ ") = true := by
  cases op <;> decide

def ExprInv (e : Expr) (cs : List Chunk) : Prop :=
  Good cs ∧ (isSigned e = false → needsWrap e = false → HeadNotMinus cs)

theorem head_num {v : Bytes} (hv : numOK v = true) : HeadNotMinus [.num v] := by
  obtain ⟨c, v', rfl, hc, _⟩ := numOK_scan v hv
  intro rest _
  simp only [renderChunks, List.flatMap_cons, List.flatMap_nil, Chunk.bytes, List.append_nil,
    List.cons_append, List.head?_cons]
  intro e; injection e with e; subst e; revert hc; decide

theorem head_qstr (v : Bytes) : HeadNotMinus [.qstr v] := by
  intro rest _
  simp [renderChunks, Chunk.bytes, quoteSQLString, quoteWith]

theorem head_fname {v : Bytes} (hv : nameOK v = true) (cs : List Chunk) : HeadNotMinus (.fname v :: cs) := by
  obtain ⟨c, w, rfl, hc, _⟩ := nameOK_scan v hv
  intro rest _
  simp only [renderChunks_cons, Chunk.bytes, List.cons_append, List.head?_cons]
  intro e; injection e with e; subst e; revert hc; decide

theorem fname_follow (cs : List Chunk) (rest : Bytes) :
    ∀ d, (renderChunks (.txt "(" :: cs) ++ rest).head? = some d → isWordCont d = false := by
  intro d hd
  rw [head_txt (d := 40) cs rest (by decide)] at hd
  injection hd with hd; subst hd; decide

end Pql.LexRender
