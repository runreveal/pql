/-
Interpretation of the regenerated control-flow tables of the scanner (`Facts.scanCases`,
`Facts.identCont`, `Facts.stringCases`, `Facts.stringEscapes`, `Facts.quotedIdentShape`; translator
`harness/extract_lex.go`).  These definitions say what the extracted Go code does, rune by rune, in
terms of `decodeRune` (Go's `s.next()`), independently of the model's `scanOne`; the theorems of
Props/C09Dispatch.lean prove that the model equals the interpretation.

Specification-level definitions introduced here: `classHolds`, `condHolds`, `select`, `runesUntil`,
`subScanner`, `exec`, `interp` (the main switch of `Scan`); `identContByte`, `identInterp`;
`strSelect`, `strInterp`; `qidentInterp`.
-/
import PqlModel.Model.Lex
namespace Pql.Dispatch
open Pql
open Pql.Facts (ScanAction StrAction)

/-! ### conditions of the switch cases -/

def inRangesNat (rs : List (Nat × Nat)) (r : Nat) : Bool := rs.any fun p => p.1 ≤ r && r ≤ p.2

/-- the rune-class predicates a condition may call; an unknown name has no meaning (`none`) -/
def classHolds (name : String) (r : Nat) : Option Bool :=
  if name = "unicode.IsSpace" then some (isSpaceRune r)
  else if name = "isAlpha" then some (inRangesNat Facts.isAlphaRanges r)
  else if name = "isDigit" then some (inRangesNat Facts.isDigitRanges r)
  else if name = "isHexDigit" then some (inRangesNat Facts.isHexDigitRanges r)
  else none

def classesHold : List String → Nat → Option Bool
  | [], _ => some false
  | n :: ns, r =>
    match classHolds n r, classesHold ns r with
    | some a, some b => some (a || b)
    | _, _ => none

/-- `class₁(c) || … || c == 'x' || …` -/
def condHolds (classes : List String) (runes : List Nat) (r : Nat) : Option Bool :=
  (classesHold classes r).map (· || runes.contains r)

/-- Go's tag-less `switch`: the first case (top to bottom) whose condition holds, else the default -/
def select : List (List String × List Nat × ScanAction) → ScanAction → Nat → Option ScanAction
  | [], d, _ => some d
  | (cl, rs, a) :: more, d, r =>
    match condHolds cl rs r with
    | none => none
    | some true => some a
    | some false => select more d r

/-! ### what a case does -/

/-- `for { c, ok = s.next(); if !ok || c == term { break } }`: bytes consumed, rune by rune -/
def runesUntil (term : Nat) (s : Bytes) : Nat :=
  match s with
  | [] => 0
  | c :: rest =>
    let rw := decodeRune (c :: rest)
    if rw.1 == term then rw.2 else rw.2 + runesUntil term ((c :: rest).drop rw.2)
termination_by s.length
decreasing_by
  have := decodeRune_width_pos c rest
  simp only [List.length_drop, List.length_cons]
  omega

/-- the sub-scanners `Scan` hands over to (the model's functions; tied to their own extracted shapes in Props/C09Dispatch.lean) -/
def subScanner (m : String) (s : Bytes) : Option Lexeme :=
  if m = "ident" then some (scanIdent s)
  else if m = "numberOrDot" then some (scanNumberOrDot s)
  else if m = "string" then some (scanString s)
  else if m = "quotedIdent" then some (scanQuotedIdent s)
  else none

/-- one pass through the body of a case; `s` is the suffix starting at the rune the case matched.
    `s.next()` = `decodeRune`; `newSpan(start, s.pos)` = bytes consumed so far;
    `if ok { s.prev() }` after a failed look-ahead = the second rune's bytes are not consumed. -/
def exec (a : ScanAction) (s : Bytes) : Option Step :=
  let w := (decodeRune s).2
  let s2 := s.drop w
  let rw2 := decodeRune s2
  match a with
  | .skip => some (.skip w)
  | .sub m => (subScanner m s).map Step.ofLexeme
  | .single k => (TokKind.ofGoName k).map (Step.sym · w)
  | .two secs fb unread =>
    match (if s2.isEmpty then none else secs.find? fun p => p.1 == rw2.1) with
    | some p => (TokKind.ofGoName p.2).map (Step.sym · (w + rw2.2))
    | none => (TokKind.ofGoName fb).map (Step.sym · (if unread then w else w + rw2.2))
  | .comment op term ke ko unread =>
    if s2.isEmpty then (TokKind.ofGoName ke).map (Step.sym · w)
    else if rw2.1 == op then some (.skip (w + rw2.2 + runesUntil term (s2.drop rw2.2)))
    else (TokKind.ofGoName ko).map (Step.sym · (if unread then w else w + rw2.2))
  | .error => some (.sym .error w)

/-- one iteration of `Scan`'s loop as the regenerated switch describes it -/
def interp (s : Bytes) : Option Step :=
  match s with
  | [] => some (.skip 0)
  | _ => (select Facts.scanCases Facts.scanDefault (decodeRune s).1).bind (exec · s)

/-! ### `(*scanner).ident` -/

/-- the continuation condition on a byte (every class and literal of the table is ASCII: a byte
    ≥ 0x80 starts a rune ≥ 0x80 which satisfies none; checked on all 256 values by `identCont_all`,
    Lemmas/DispatchSub.lean) -/
def identContByte (c : UInt8) : Option Bool :=
  condHolds Facts.identCont.1 Facts.identCont.2 c.toNat

def identLoopI : Bytes → Option Nat
  | [] => some 0
  | c :: rest =>
    match identContByte c with
    | none => none
    | some true => (identLoopI rest).map (· + 1)
    | some false => some 0

/-- `(*scanner).ident` as extracted: first rune unchecked, the loop, the keyword lookup -/
def identInterp (s : Bytes) : Option Lexeme :=
  match identLoopI s.tail, TokKind.ofGoName Facts.identKind with
  | some n, some k0 =>
    let w := n + 1
    let text := s.take w
    match Facts.keywords.find? (fun kv => Bytes.ofString kv.1 == text) with
    | some kv => (TokKind.ofGoName kv.2).map fun k => ⟨k, if Facts.identKeywordClearsValue then [] else text, w⟩
    | none => some ⟨k0, text, w⟩
  | _, _ => none

/-! ### `(*scanner).string` -/

/-- a `switch c { case k₁: … }` with rune labels; label `none` stands for the variable `quoteChar` -/
def strSelect (cases : List (Option Nat × StrAction)) (d : StrAction) (q c : Nat) : StrAction :=
  match cases.find? (fun p => (p.1.getD q) == c) with
  | some p => p.2
  | none => d

/-- the loop of `(*scanner).string` after the opening quote `q`, byte by byte (all labels are
    ASCII).  Width bookkeeping: `.bad true` = `s.prev()` before the error token, the
    rune is not part of the token.  `none` = a table shape without meaning (e.g. `.escape` inside the
    escape switch). -/
def strInterp (q : UInt8) : Bytes → Option QRes
  | [] => some (.bad 0)
  | c :: rest =>
    match strSelect Facts.stringCases Facts.stringDefault q.toNat c.toNat with
    | .close => some (.closed [] 1)
    | .bad unread => some (.bad (if unread then 0 else 1))
    | .copy => (strInterp q rest).map (QRes.shift 1 (some c))
    | .rune _ => none
    | .escape =>
      match rest with
      | [] => some (.bad 1)
      | e :: rest' =>
        match strSelect Facts.stringEscapes Facts.stringEscapeDefault q.toNat e.toNat with
        | .bad unread => some (.bad (if unread then 1 else 2))
        | .rune r => (strInterp q rest').map (QRes.shift 2 (some (UInt8.ofNat r)))
        | .copy => (strInterp q rest').map (QRes.shift 2 (some e))
        | .close => none
        | .escape => none

/-! ### `(*scanner).quotedIdent` -/

/-- the loop of `(*scanner).quotedIdent` after the opening rune, from `Facts.quotedIdentShape` -/
def qidentInterp : Bytes → QRes
  | [] => .bad 0
  | c :: rest =>
    let closer := Facts.quotedIdentShape.2.1
    let eol := Facts.quotedIdentShape.2.2
    if c.toNat == closer then
      match rest with
      | [] => .closed [] 1
      | d :: rest' =>
        if d.toNat == closer then (qidentInterp rest').shift 2 (some c)
        else .closed [] 1
    else if c.toNat == eol.1 then .bad (if eol.2 then 0 else 1)
    else (qidentInterp rest).shift 1 (some c)

end Pql.Dispatch
