/-
Basic lemmas for property C08 ("the parser accepts only what its tree represents").  `TokOK` is the
well-formedness of token lists the property needs (and `scan` guarantees): every token has
`start ≤ stop` and, if its kind carries no text (everything but identifiers, quoted identifiers,
numbers, strings), an empty value (`TokWF`, the part about one token), and tokens are in source
order.  `tokOk u t` (lower case) is another thing: the token `t` matches the grammar token `u` in
kind, value and position.
-/
import PqlModel.Model.Parse
import PqlModel.Spec.Grammar
import PqlModel.Lemmas.SplitBasic
import PqlModel.Props.C07
import PqlModel.Lemmas.ErrsAlgebra
namespace Pql
open Grammar

structure TokWF (t : Token) : Prop where
  le : t.start ≤ t.stop
  val : t.kind ≠ .ident → t.kind ≠ .qident → t.kind ≠ .number → t.kind ≠ .string → t.value = []

def TokOK (ts : List Token) : Prop :=
  (∀ t ∈ ts, TokWF t) ∧ ts.Pairwise (fun a b => a.stop ≤ b.start)

theorem TokOK.nil : TokOK [] := ⟨by simp, List.Pairwise.nil⟩

theorem TokOK.sublist {l₁ l₂ : List Token} (hs : l₁.Sublist l₂) (h : TokOK l₂) : TokOK l₁ :=
  ⟨fun t ht => h.1 t (hs.subset ht), h.2.sublist hs⟩

theorem TokOK.left {a b : List Token} (h : TokOK (a ++ b)) : TokOK a :=
  h.sublist (List.sublist_append_left a b)

theorem TokOK.right {a b : List Token} (h : TokOK (a ++ b)) : TokOK b :=
  h.sublist (List.sublist_append_right a b)

theorem TokOK.of_eq_append {ts a b : List Token} (h : TokOK ts) (e : ts = a ++ b) : TokOK b := by
  subst e; exact h.right

theorem TokOK.tail {t : Token} {ts : List Token} (h : TokOK (t :: ts)) : TokOK ts :=
  h.sublist (List.sublist_cons_self t ts)

theorem TokOK.head {t : Token} {ts : List Token} (h : TokOK (t :: ts)) : TokWF t :=
  h.1 t (by simp)

theorem TokOK.head_le {t : Token} {ts : List Token} (h : TokOK (t :: ts)) : t.start ≤ t.stop :=
  h.head.le

theorem TokOK.head2 {t t2 : Token} {ts : List Token} (h : TokOK (t :: t2 :: ts)) : t.start ≤ t2.stop := by
  have h1 := h.head.le
  have h2 := h.tail.head.le
  have h3 : t.stop ≤ t2.start := by
    have := h.2
    rw [List.pairwise_cons] at this
    exact this.1 t2 (by simp)
  omega

theorem TokOK.split1 {k : TokKind} {ts : List Token} (h : TokOK ts) : TokOK (split k ts).1 := by
  rw [← split_append k ts] at h; exact h.left

theorem TokOK.split2 {k : TokKind} {ts : List Token} (h : TokOK ts) : TokOK (split k ts).2 := by
  rw [← split_append k ts] at h; exact h.right

theorem span_isValid {t : Token} (h : t.start ≤ t.stop) : t.span.isValid = true := by
  simp [Token.span, Span.isValid]
  omega

theorem span2_isValid {t t2 : Token} (h : t.start ≤ t2.stop) :
    (Span.mk (t.start : Int) (t2.stop : Int)).isValid = true := by
  simp [Span.isValid]
  omega

@[simp] theorem null_isValid : Span.null.isValid = false := by decide

def tokOk (u : UTok) (t : Token) : Bool := tokMatches u t && posMatches u t

@[simp] theorem accounts_nil (pos : Bool) : accounts pos [] [] = true := by simp [accounts]

theorem accounts_nil_left {pos : Bool} {ts : List Token} (h : accounts pos [] ts = true) : ts = [] := by
  cases ts with
  | nil => rfl
  | cons t ts => simp [accounts] at h

theorem matches_iff {pos : Bool} {u : UTok} {t : Token} :
    (tokMatches u t && (!pos || posMatches u t)) = true ↔
      tokMatches u t = true ∧ (pos = true → posMatches u t = true) := by
  cases pos <;> simp

theorem accounts_tok {pos : Bool} {u : UTok} {t : Token} {us : List UTok} {ts : List Token}
    (hm : tokMatches u t = true) (hp : pos = true → posMatches u t = true)
    (hr : accounts pos us ts = true) : accounts pos (u :: us) (t :: ts) = true := by
  unfold accounts
  rw [if_pos (matches_iff.2 ⟨hm, hp⟩)]; exact hr

theorem accounts_comma {pos : Bool} {u : UTok} {c t : Token} {us : List UTok} {ts : List Token}
    (hn : ¬ (tokMatches u c && (!pos || posMatches u c)) = true) (ho : u.optComma = true)
    (hc : c.kind = .comma) (hm : tokMatches u t = true) (hp : pos = true → posMatches u t = true)
    (hr : accounts pos us ts = true) : accounts pos (u :: us) (c :: t :: ts) = true := by
  unfold accounts
  rw [if_neg hn, if_pos (by simp [ho, hc])]
  simp only [matches_iff.2 ⟨hm, hp⟩, hr, Bool.and_self]

theorem accounts_cons_cases {pos : Bool} {u : UTok} {us : List UTok} {ts : List Token}
    (h : accounts pos (u :: us) ts = true) :
    (∃ t ts', ts = t :: ts' ∧ tokMatches u t = true ∧ (pos = true → posMatches u t = true) ∧
      accounts pos us ts' = true) ∨
    (∃ c t ts', ts = c :: t :: ts' ∧ ¬ (tokMatches u c && (!pos || posMatches u c)) = true ∧
      u.optComma = true ∧ c.kind = .comma ∧ tokMatches u t = true ∧
      (pos = true → posMatches u t = true) ∧ accounts pos us ts' = true) := by
  cases ts with
  | nil => simp [accounts] at h
  | cons t ts =>
    unfold accounts at h
    split at h
    · next hm => exact Or.inl ⟨t, ts, rfl, (matches_iff.1 hm).1, (matches_iff.1 hm).2, h⟩
    · next hn =>
      split at h
      · next hc =>
        simp only [Bool.and_eq_true, beq_iff_eq] at hc
        cases ts with
        | nil => simp at h
        | cons t2 ts2 =>
          rw [Bool.and_eq_true] at h
          exact Or.inr ⟨t, t2, ts2, rfl, hn, hc.1, hc.2, (matches_iff.1 h.1).1, (matches_iff.1 h.1).2, h.2⟩
      · cases h

/-- What `accounts pos us ts = true` is made of: nothing; a token that matches; an unrecorded comma
    and then a token that matches.  Every fact that `accounts` passes on to the source tokens is an
    induction by this rule. -/
theorem accounts_elim {pos : Bool} {P : List UTok → List Token → Prop} (nil : P [] [])
    (tok : ∀ {u us t ts}, tokMatches u t = true → (pos = true → posMatches u t = true) →
      accounts pos us ts = true → P us ts → P (u :: us) (t :: ts))
    (comma : ∀ {u us c t ts}, ¬ (tokMatches u c && (!pos || posMatches u c)) = true →
      u.optComma = true → c.kind = .comma → tokMatches u t = true →
      (pos = true → posMatches u t = true) → accounts pos us ts = true → P us ts →
      P (u :: us) (c :: t :: ts)) :
    ∀ {us : List UTok} {ts : List Token}, accounts pos us ts = true → P us ts
  | [], _, h => accounts_nil_left h ▸ nil
  | _ :: _, _, h => by
    rcases accounts_cons_cases h with ⟨t, ts', rfl, hm, hp, hr⟩ | ⟨c, t, ts', rfl, hn, ho, hc, hm, hp, hr⟩
    · exact tok hm hp hr (accounts_elim nil tok comma hr)
    · exact comma hn ho hc hm hp hr (accounts_elim nil tok comma hr)

theorem accounts_cons {pos : Bool} {u : UTok} {t : Token} {us : List UTok} {ts : List Token}
    (h : tokOk u t = true) (hr : accounts pos us ts = true) : accounts pos (u :: us) (t :: ts) = true := by
  simp only [tokOk, Bool.and_eq_true] at h
  exact accounts_tok h.1 (fun _ => h.2) hr

theorem accounts_single {pos : Bool} {u : UTok} {t : Token} (h : tokOk u t = true) :
    accounts pos [u] [t] = true := accounts_cons h (accounts_nil pos)

theorem accounts_optComma {pos : Bool} {u : UTok} {cm t : Token} {us : List UTok} {ts : List Token}
    (ho : u.optComma = true) (hk : u.kind ≠ .comma) (hc : cm.kind = .comma)
    (h : tokOk u t = true) (hr : accounts pos us ts = true) :
    accounts pos (u :: us) (cm :: t :: ts) = true := by
  simp only [tokOk, Bool.and_eq_true] at h
  refine accounts_comma (fun hm => hk ?_) ho hc h.1 (fun _ => h.2) hr
  simp only [tokMatches, Bool.and_eq_true, beq_iff_eq] at hm
  rw [hm.1.1, hc]

theorem accounts_append {pos : Bool} {us1 : List UTok} {ts1 : List Token} {us2 : List UTok}
    {ts2 : List Token} (h1 : accounts pos us1 ts1 = true) (h2 : accounts pos us2 ts2 = true) :
    accounts pos (us1 ++ us2) (ts1 ++ ts2) = true :=
  accounts_elim (P := fun us1 ts1 => accounts pos (us1 ++ us2) (ts1 ++ ts2) = true) h2
    (fun hm hp _ ih => accounts_tok hm hp ih) (fun hn ho hc hm hp _ ih => accounts_comma hn ho hc hm hp ih) h1

theorem accounts_append_split {pos : Bool} : ∀ {us1 us2 : List UTok} {ts : List Token},
    accounts pos (us1 ++ us2) ts = true →
    ∃ ts1 ts2, ts = ts1 ++ ts2 ∧ accounts pos us1 ts1 = true ∧ accounts pos us2 ts2 = true
  | [], _, ts, h => ⟨[], ts, rfl, accounts_nil pos, h⟩
  | u :: us1, us2, ts, h => by
    rcases accounts_cons_cases (List.cons_append ▸ h) with
      ⟨t, ts', rfl, hm, hp, hr⟩ | ⟨c, t, ts', rfl, hn, ho, hc, hm, hp, hr⟩
    · obtain ⟨ts1, ts2, rfl, h1, h2⟩ := accounts_append_split hr
      exact ⟨t :: ts1, ts2, rfl, accounts_tok hm hp h1, h2⟩
    · obtain ⟨ts1, ts2, rfl, h1, h2⟩ := accounts_append_split hr
      exact ⟨c :: t :: ts1, ts2, rfl, accounts_comma hn ho hc hm hp h1, h2⟩

theorem accounts_cons_inv {u : UTok} {us : List UTok} {ts : List Token} (ho : u.optComma = false)
    (h : accounts true (u :: us) ts = true) :
    ∃ t ts', ts = t :: ts' ∧ tokOk u t = true ∧ accounts true us ts' = true := by
  rcases accounts_cons_cases h with ⟨t, ts', rfl, hm, hp, hr⟩ | ⟨_, _, _, _, _, ho', _⟩
  · exact ⟨t, ts', rfl, by simp [tokOk, hm, hp rfl], hr⟩
  · rw [ho] at ho'; cases ho'

theorem accounts_cons_inv_opt {u : UTok} {us : List UTok} {ts : List Token}
    (h : accounts true (u :: us) ts = true) :
    (∃ t ts', ts = t :: ts' ∧ tokOk u t = true ∧ accounts true us ts' = true) ∨
    (∃ cm t ts', ts = cm :: t :: ts' ∧ cm.kind = .comma ∧ tokOk u t = true ∧ accounts true us ts' = true ∧
      u.optComma = true) := by
  rcases accounts_cons_cases h with ⟨t, ts', rfl, hm, hp, hr⟩ | ⟨c, t, ts', rfl, -, ho, hc, hm, hp, hr⟩
  · exact Or.inl ⟨t, ts', rfl, by simp [tokOk, hm, hp rfl], hr⟩
  · exact Or.inr ⟨c, t, ts', rfl, hc, by simp [tokOk, hm, hp rfl], hr, ho⟩

theorem tokOk_sym {t : Token} {k : TokKind} (hk : t.kind = k) (hv : t.value = []) :
    tokOk (sym k t.span) t = true := by
  simp [tokOk, tokMatches, posMatches, sym, Token.span, hk, hv]

theorem tokOk_symOpt {t : Token} {k : TokKind} (hk : t.kind = k) (hv : t.value = []) (b : Bool) :
    tokOk { sym k t.span with optComma := b } t = true := by
  simp [tokOk, tokMatches, posMatches, sym, Token.span, hk, hv]

theorem tokOk_commaTok {t : Token} (hk : t.kind = .comma) (hv : t.value = []) :
    tokOk commaTok t = true := by
  simp [tokOk, tokMatches, posMatches, commaTok, hk, hv]

theorem tokOk_dot {t : Token} (hk : t.kind = .dot) (hv : t.value = []) :
    tokOk { kind := .dot } t = true := by
  simp [tokOk, tokMatches, posMatches, hk, hv]

def identOf (t : Token) : Ident := ⟨t.value, t.span, t.kind = .qident⟩

theorem tokOk_identTok {t : Token} (hk : t.kind = .ident ∨ t.kind = .qident) :
    tokOk (identTok ⟨t.value, t.span, t.kind = .qident⟩) t = true := by
  rcases hk with hk | hk <;>
    simp [tokOk, tokMatches, posMatches, identTok, Token.span, hk]

theorem tokOk_identTok_plain {t : Token} (hk : t.kind = .ident) :
    tokOk (identTok ⟨t.value, t.span, false⟩) t = true := by
  simp [tokOk, tokMatches, posMatches, identTok, Token.span, hk]

theorem tokOk_lit {t : Token} :
    tokOk { kind := t.kind, value := t.value, start := some t.span.start, stop := some t.span.stop } t = true := by
  simp [tokOk, tokMatches, posMatches, Token.span]

theorem isIdentNamed_iff {t : Token} {name : String} :
    isIdentNamed t name = true ↔ t.kind = .ident ∧ t.value = Bytes.ofString name := by
  simp [isIdentNamed]

theorem tokOk_kw {t : Token} {names : List String} {st sp : Option Int} (hk : t.kind = .ident)
    (hv : t.value ∈ names.map Bytes.ofString) (hst : st = none ∨ st = some (t.start : Int))
    (hsp : sp = none ∨ sp = some (t.stop : Int)) :
    tokOk { kwPlain names with start := st, stop := sp } t = true := by
  have hne : (names.map Bytes.ofString).isEmpty = false := by
    cases names with
    | nil => simp at hv
    | cons a as => simp
  have hv' : (names.map Bytes.ofString).contains t.value = true := by simpa using hv
  rcases hst with rfl | rfl <;> rcases hsp with rfl | rfl <;>
    simp only [tokOk, tokMatches, posMatches, kwPlain, hk, hne, hv', Bool.and_self, BEq.rfl,
      Bool.false_eq_true, if_false]

theorem tokOk_kwTok {t : Token} {names : List String} (hk : t.kind = .ident)
    (hv : t.value ∈ names.map Bytes.ofString) : tokOk (kwTok names t.span) t = true :=
  tokOk_kw hk hv (Or.inr rfl) (Or.inr rfl)

theorem tokOk_kwPlain {t : Token} {names : List String} (hk : t.kind = .ident)
    (hv : t.value ∈ names.map Bytes.ofString) : tokOk (kwPlain names) t = true :=
  tokOk_kw hk hv (Or.inl rfl) (Or.inl rfl)

theorem tokOk_kwPlain_start {t : Token} {names : List String} (hk : t.kind = .ident)
    (hv : t.value ∈ names.map Bytes.ofString) :
    tokOk { kwPlain names with start := some (t.start : Int) } t = true :=
  tokOk_kw hk hv (Or.inr rfl) (Or.inl rfl)

theorem tokOk_kwPlain_stop {t : Token} {names : List String} (hk : t.kind = .ident)
    (hv : t.value ∈ names.map Bytes.ofString) :
    tokOk { kwPlain names with stop := some (t.stop : Int) } t = true :=
  tokOk_kw hk hv (Or.inl rfl) (Or.inr rfl)

theorem unparseList_single (e : Expr) : unparseExprList (.cons e .nil) = unparseExpr e := by
  simp [unparseExprList]

theorem prec_kind {k : TokKind} (h : ¬ precOf k < 0) :
    k ≠ .ident ∧ k ≠ .qident ∧ k ≠ .number ∧ k ≠ .string := by
  refine ⟨?_, ?_, ?_, ?_⟩ <;> (intro hk; subst hk; exact h (by rw [C07.precOf_eq]; decide))

end Pql
