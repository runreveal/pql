/-
The statement groups of the machine of Lemmas/SplitImpMachine.lean, one specification each: under
the loop invariant `Inv` they succeed, re-establish `Inv`, respect `Frame`, and the list the new `dst` denotes is the
functional model's expression.
-/
import PqlModel.Lemmas.SplitImpHeap
namespace Pql.SplitImp
open Pql SplitQ

theorem chainSubqueryI_ok (h : Heap) (dst : List Addr) (k : Nat) (source : Option Ident)
    (hv : ∀ a ∈ dst, a < h.size) (hs : dst.length ≤ k → source.isSome = true) :
    chainSubqueryI h dst k source = .ok (h.push (chainSubquery (abs h dst) k source), h.size) := by
  unfold chainSubqueryI alloc
  simp only
  by_cases hlen : dst.length > k
  · rw [if_pos hlen]
    have hne : dst ≠ [] := by intro e; rw [e] at hlen; simp at hlen
    obtain ⟨pre, p, rfl⟩ : ∃ pre p, dst = pre ++ [p] :=
      ⟨dst.dropLast, dst.getLast hne, (List.dropLast_concat_getLast hne).symm⟩
    have hp : p < h.size := hv p (by simp)
    rw [index_last]
    simp only [bind, Except.bind, pure, Except.pure]
    rw [load_push_lt _ _ hp]
    simp only
    rw [store_push]
    simp only [chainSubquery, abs_length, if_pos hlen, abs_getLast?]
  · rw [if_neg hlen]
    have hsome := hs (by omega)
    obtain ⟨i, rfl⟩ := Option.isSome_iff_exists.mp hsome
    simp only [dataSourceSQLI, bind, Except.bind, pure, Except.pure]
    rw [store_push]
    simp only [chainSubquery, abs_length, if_neg hlen, identName]

theorem stChain_ok (source : Option Ident) (k : Nat) (st : St)
    (hv : ∀ a ∈ st.dst, a < st.heap.size) (hs : st.dst.length ≤ k → source.isSome = true) :
    stChain source k st =
      .ok ⟨st.heap.push (chainSubquery (abs st.heap st.dst) k source), st.dst, some st.heap.size⟩ := by
  unfold stChain
  rw [chainSubqueryI_ok _ _ _ _ hv hs]
  rfl

theorem stAssign_fresh (h : Heap) (c : Subquery) (dst : List Addr) (f : Subquery → Subquery) :
    stAssign f ⟨h.push c, dst, some h.size⟩ = .ok ⟨h.push (f c), dst, some h.size⟩ := by
  unfold stAssign
  simp only [deref, bind, Except.bind, pure, Except.pure]
  rw [store_push]

theorem stAppend_some (h : Heap) (dst : List Addr) (p : Addr) :
    stAppend ⟨h, dst, some p⟩ = .ok ⟨h, dst ++ [p], some p⟩ := rfl

/-- what a statement group leaves: from `st` the activation (`n0`, `k` as in `Inv`) has reached `st'`, whose `dst`
    denotes `out` — the functional model's list at this point — and is that of `st` followed by pointers to objects
    allocated since; the invariant holds again and no object below `n0` has been written -/
structure Post (n0 k : Nat) (st st' : St) (out : List Subquery) : Prop where
  abs_eq : abs st'.heap st'.dst = out
  inv : Inv n0 k st'
  frame : Frame n0 st.heap st'.heap
  ext : ∃ new, st'.dst = st.dst ++ new ∧ ∀ a ∈ new, st.heap.size ≤ a

/-- `p := chainSubquery(…); p.f… = …; dst = append(dst, p)` -/
theorem post_fresh {n0 k : Nat} {st : St} (inv : Inv n0 k st) (s : Subquery) :
    Post n0 k st ⟨st.heap.push s, st.dst ++ [st.heap.size], some st.heap.size⟩
      (abs st.heap st.dst ++ [s]) :=
  ⟨abs_push_snoc _ _ inv.valid, inv_fresh s inv.valid inv.base inv.start_le, Frame.push _ _ _ inv.base,
    [st.heap.size], rfl, by simp⟩

theorem stAssign_inv {n0 k : Nat} {st : St} (inv : Inv n0 k st) {p : Addr} (hl : st.last = some p)
    (f : Subquery → Subquery) :
    ∃ st', stAssign f st = .ok st' ∧ st'.last = some p ∧
      Post n0 k st st' (setLast (abs st.heap st.dst) f) := by
  have hlast := inv.last
  rw [hl] at hlast
  obtain ⟨hk, hn0, pre, hd, hnot⟩ := hlast
  have hp : p < st.heap.size := inv.valid p (by rw [hd]; simp)
  refine ⟨⟨st.heap.setIfInBounds p (f (cell st.heap p)), st.dst, some p⟩, ?_, rfl, ?_, ?_, ?_,
    [], by simp, by simp⟩
  · unfold stAssign
    rw [hl]
    simp only [deref, bind, Except.bind, pure, Except.pure]
    rw [store_ok _ _ hp]
  · show abs (st.heap.setIfInBounds p (f (cell st.heap p))) st.dst = _
    rw [hd, abs_set_last _ _ hp hnot, abs_append]
    have : abs st.heap [p] = [cell st.heap p] := rfl
    rw [this, C02.setLast_append_singleton]
  · refine ⟨?_, ?_, inv.start_le, ?_⟩
    · intro a ha
      simp only [Array.size_setIfInBounds]
      exact inv.valid a ha
    · simp only [Array.size_setIfInBounds]; exact inv.base
    · exact ⟨hk, hn0, pre, hd, hnot⟩
  · exact Frame.set _ _ _ _ hn0

theorem stGuard_ok {n0 k : Nat} {st : St} (inv : Inv n0 k st) (g : Subquery → Bool) :
    stGuard g st = .ok (match lastOf (abs st.heap st.dst) k with | some l => g l | none => true) := by
  rw [lastOf_abs inv]
  unfold stGuard
  cases hl : st.last with
  | none => rfl
  | some p =>
    have hlast := inv.last
    rw [hl] at hlast
    obtain ⟨_, _, pre, hd, _⟩ := hlast
    have hp : p < st.heap.size := inv.valid p (by rw [hd]; simp)
    simp only [bind, Except.bind, pure, Except.pure, Option.map]
    rw [load_ok _ hp]

/-- `if lastSubquery == nil || g(*lastSubquery) { lastSubquery = chainSubquery(…); dst = append(dst, lastSubquery) }`:
    afterwards `lastSubquery` is non-nil and the invariant holds; `g'` is the functional model's
    (negated) reading of the guard -/
theorem stChainIf_inv {n0 k : Nat} {st : St} (inv : Inv n0 k st) (source : Option Ident)
    (hs : source.isSome = true) (g g' : Subquery → Bool) (hg : ∀ l, g' l = !g l) :
    ∃ st' p, stChainIf g source k st = .ok st' ∧ st'.last = some p ∧
      Post n0 k st st'
        (if (match lastOf (abs st.heap st.dst) k with | some l => g' l | none => false) = true
          then abs st.heap st.dst
          else abs st.heap st.dst ++ [chainSubquery (abs st.heap st.dst) k source]) := by
  have chain : ∃ st' p, (stChain source k st >>= stAppend) = .ok st' ∧ st'.last = some p ∧
      Post n0 k st st' (abs st.heap st.dst ++ [chainSubquery (abs st.heap st.dst) k source]) :=
    ⟨_, _, by rw [stChain_ok source k st inv.valid (fun _ => hs)]; rfl, rfl, post_fresh inv _⟩
  unfold stChainIf
  rw [stGuard_ok inv g]
  simp only [bind, Except.bind]
  cases hlo : lastOf (abs st.heap st.dst) k with
  | none => exact chain
  | some l =>
    simp only [hg l]
    by_cases hgl : g l = true
    · simp only [hgl, if_true, Bool.not_true, Bool.false_eq_true, if_false]
      exact chain
    · have hgl' : g l = false := by simpa using hgl
      simp only [hgl', Bool.false_eq_true, if_false, Bool.not_false, if_true, pure, Except.pure]
      rw [lastOf_abs inv] at hlo
      cases hl : st.last with
      | none => rw [hl] at hlo; cases hlo
      | some p => exact ⟨st, p, rfl, hl, rfl, inv, Frame.refl _ _, [], by simp, by simp⟩

end Pql.SplitImp
