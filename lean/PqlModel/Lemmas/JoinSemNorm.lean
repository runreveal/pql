/-
Lower-casing of function names (`CompileOracle.lower` is `Sql.lowerB`, by `rfl`) is idempotent and does not change
`isAggName`; `noBang`: a SQL expression without the operator `!=`, the only operator `normS` rewrites.
-/
import PqlModel.Spec.Rel
namespace Pql.JoinSem
open Pql Sql CompileOracle

def lowerByte (c : UInt8) : UInt8 := if 65 ≤ c.toNat && c.toNat ≤ 90 then c + 32 else c

theorem lowerByte_idem (c : UInt8) : lowerByte (lowerByte c) = lowerByte c := by
  unfold lowerByte
  by_cases h : (65 ≤ c.toNat && c.toNat ≤ 90) = true
  · simp only [h, ↓reduceIte]
    have h' : 65 ≤ c.toNat ∧ c.toNat ≤ 90 := by simpa using h
    have : (c + 32).toNat = c.toNat + 32 := by
      rw [UInt8.toNat_add]; simp; omega
    rw [this]
    have : ¬ ((65 ≤ c.toNat + 32 && c.toNat + 32 ≤ 90) = true) := by simp; omega
    rw [if_neg this]
  · simp only [h, Bool.false_eq_true, ↓reduceIte]

theorem lower_eq_lowerB (b : Bytes) : CompileOracle.lower b = lowerB b := rfl

theorem lowerB_idem (b : Bytes) : lowerB (lowerB b) = lowerB b := by
  show List.map lowerByte (List.map lowerByte b) = List.map lowerByte b
  rw [List.map_map]
  apply List.map_congr_left
  intro c _
  exact lowerByte_idem c

theorem lower_idem (b : Bytes) : lower (lower b) = lower b := lowerB_idem b

theorem isAggName_lowerB (fn : Bytes) : isAggName (lowerB fn) = isAggName fn := by
  simp only [isAggName, lowerB_idem]

theorem isAggName_lower (fn : Bytes) : isAggName (CompileOracle.lower fn) = isAggName fn := isAggName_lowerB fn

mutual
/-- no `!=` operator (the only operator `normS` rewrites) -/
def noBang : SExpr → Bool
  | .call _ _ args fl => noBangL args && noBang fl
  | .case_ a b c => noBang a && noBang b && noBang c
  | .neg x | .pos x | .not_ x | .isNull x _ => noBang x
  | .bin op x y => op != "!=" && noBang x && noBang y
  | .index x y => noBang x && noBang y
  | .inList x vs => noBang x && noBangL vs
  | _ => true
def noBangL : SExprList → Bool
  | .nil => true
  | .cons e es => noBang e && noBangL es
end

theorem normS_eq_none (s : SExpr) : (match normS s with | .none_ => true | _ => false) = (match s with | .none_ => true | _ => false) := by
  cases s <;> rfl

end Pql.JoinSem
