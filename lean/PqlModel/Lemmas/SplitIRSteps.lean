/-
Every case of the type switch in the loop of `splitQueries` except the join case:
executing the regenerated unit on the frame of an activation is the corresponding statement group of
the hand-written machine (`SplitImp.stepI`).  The `SplitImp` items (`stepI`, `stChainIf`, `stGuard`, …)
are the heap machine of Lemmas/SplitImpMachine.lean.

A state of the interpreter inside an activation is `inScope loc st`: the machine's state `st` seen as
the six variables of the frame, under the block-local variables `loc`.  Each statement form that
occurs in the cases is shown once to do what one statement group of the machine does (`StmtSim`);
a case of the switch is then the sequential composition (`BlockSim.cons`) of its statements.
-/
import PqlModel.Lemmas.SplitIRBasic
namespace Pql.SplitIR
open Pql

/-- the variables of an activation of `splitQueries` once the statements before the loop have run:
    the machine's state `st` (heap apart) and the variables that are never assigned again -/
def frameVars (src : Bytes) (scope : List (Bytes × List Chunk)) (source : Option Ident) (ops : OpList) (k : Nat)
    (st : SplitImp.St) : List (String × Val) :=
  [("lastSubquery", .ptr st.last), ("dstStart", .int k), ("dst", .slice st.dst), ("source", .str src),
   ("scope", .scope scope), ("expr", .tab (.mk source ops))]

def frameState (src : Bytes) (scope : List (Bytes × List Chunk)) (source : Option Ident) (ops : OpList) (k : Nat)
    (st : SplitImp.St) : State :=
  ⟨st.heap, frameVars src scope source ops k st⟩

theorem find?_append_fresh {v : String} {loc r : List (String × Val)} (hp : ∀ kv ∈ loc, (kv.1 == v) = false) :
    (loc ++ r).find? (·.1 == v) = r.find? (·.1 == v) := by
  induction loc with
  | nil => rfl
  | cons kv l ih =>
    rw [List.cons_append, List.find?_cons, hp kv (List.mem_cons_self ..)]
    exact ih fun kv' h => hp kv' (List.mem_cons_of_mem _ h)

theorem assignIn_append_fresh {v : String} {x : Val} {loc r : List (String × Val)}
    (hp : ∀ kv ∈ loc, (kv.1 == v) = false) : assignIn v x (loc ++ r) = (assignIn v x r).map (loc ++ ·) := by
  induction loc with
  | nil =>
    rw [List.nil_append]
    cases assignIn v x r <;> rfl
  | cons kv l ih =>
    rw [List.cons_append, assignIn, hp kv (List.mem_cons_self ..), ih fun kv' h => hp kv' (List.mem_cons_of_mem _ h)]
    cases assignIn v x r <;> rfl

def frameNames : List String := ["lastSubquery", "dstStart", "dst", "source", "scope", "expr"]

/-- no local variable hides a variable of the frame (for a given list of names: by `rfl`) -/
def fresh (loc : List (String × Val)) : Bool := loc.all fun kv => frameNames.all fun v => !(kv.1 == v)

theorem fresh_ne {loc : List (String × Val)} (hp : fresh loc = true) {v : String} (hv : v ∈ frameNames) :
    ∀ kv ∈ loc, (kv.1 == v) = false := by
  intro kv hkv
  simpa using List.all_eq_true.mp (List.all_eq_true.mp hp kv hkv) v hv

variable (self : SplitImp.Heap → List Val → IM (SplitImp.Heap × Val))

/-- what an activation of `splitQueries` never assigns: the parameters `source`, `scope`, `expr` (not nil:
    its `Source` and `Operators`) and `dstStart` -/
structure Activation where
  src : Bytes
  scope : List (Bytes × List Chunk)
  source : Option Ident
  ops : OpList
  k : Nat

variable {A : Activation}

variable (A) in
/-- the frame of an activation with the block-local variables `loc` in scope on top of it -/
def inScope (loc : List (String × Val)) (st : SplitImp.St) : State :=
  ⟨st.heap, loc ++ frameVars A.src A.scope A.source A.ops A.k st⟩

variable {loc : List (String × Val)} (hp : fresh loc = true) (st : SplitImp.St)

theorem inScope_heap : (inScope A loc st).heap = st.heap := rfl

/-- leaving a block that declared nothing -/
theorem leave_inScope {loc' : List (String × Val)} (st' : SplitImp.St) (hl : loc'.length = loc.length) :
    (inScope A loc' st').leave (inScope A loc st) =
      inScope A loc' st' := by
  simp [State.leave, inScope, frameVars, hl]

include hp

theorem get_frame {v : String} (hv : v ∈ frameNames) :
    (inScope A loc st).get v = (frameState A.src A.scope A.source A.ops A.k st).get v := by
  unfold State.get inScope frameState
  rw [find?_append_fresh (fresh_ne hp hv)]

theorem get_last : (inScope A loc st).get "lastSubquery" = .ok (.ptr st.last) := by
  rw [get_frame hp st (by decide)]; rfl
theorem get_dstStart : (inScope A loc st).get "dstStart" = .ok (.int A.k) := by
  rw [get_frame hp st (by decide)]; rfl
theorem get_dst : (inScope A loc st).get "dst" = .ok (.slice st.dst) := by
  rw [get_frame hp st (by decide)]; rfl
theorem get_source : (inScope A loc st).get "source" = .ok (.str A.src) := by
  rw [get_frame hp st (by decide)]; rfl
theorem get_scope : (inScope A loc st).get "scope" = .ok (.scope A.scope) := by
  rw [get_frame hp st (by decide)]; rfl
theorem get_expr : (inScope A loc st).get "expr" = .ok (.tab (.mk A.source A.ops)) := by
  rw [get_frame hp st (by decide)]; rfl

theorem set_frame {v : String} (hv : v ∈ frameNames) (x : Val) :
    (inScope A loc st).set v x =
      match assignIn v x (frameVars A.src A.scope A.source A.ops A.k st) with
      | some vars => .ok ⟨st.heap, loc ++ vars⟩
      | none => stuck := by
  unfold State.set inScope
  rw [assignIn_append_fresh (fresh_ne hp hv)]
  cases assignIn v x (frameVars A.src A.scope A.source A.ops A.k st) <;> rfl

theorem set_last (p : Option SplitImp.Addr) : (inScope A loc st).set "lastSubquery" (.ptr p) =
    .ok (inScope A loc { st with last := p }) := by
  rw [set_frame hp st (by decide)]; rfl

theorem set_dst (d : List SplitImp.Addr) : (inScope A loc st).set "dst" (.slice d) =
    .ok (inScope A loc { st with dst := d }) := by
  rw [set_frame hp st (by decide)]; rfl

omit hp st

theorem callWith_chain (h : SplitImp.Heap) (args : List Val) :
    (callWith self).call "chainSubquery" h args = interpChain h args := by
  simp [callWith]

theorem callWith_split (h : SplitImp.Heap) (args : List Val) :
    (callWith self).call "splitQueries" h args = self h args := by
  simp [callWith]

variable (A) in
/-- with `loc` in scope, the statement `s` does to the machine's state what `m` does, and leaves `loc` alone -/
def StmtSim (loc : List (String × Val)) (s : Stmt) (m : SplitImp.St → SplitImp.M SplitImp.St) : Prop :=
  ∀ st, exec (callWith self) s (inScope A loc st) =
    liftW (m st) >>= fun st' => .ok (inScope A loc st')

variable (A) in
def BlockSim (loc : List (String × Val)) (b : List Stmt) (m : SplitImp.St → SplitImp.M SplitImp.St) : Prop :=
  ∀ st, execBlock (callWith self) b (inScope A loc st) =
    liftW (m st) >>= fun st' => .ok (inScope A loc st')

variable {self}

theorem BlockSim.nil : BlockSim self A loc [] .ok := fun _ => rfl

theorem BlockSim.cons {s : Stmt} {r : List Stmt} {m1 m2 : SplitImp.St → SplitImp.M SplitImp.St}
    (hs : StmtSim self A loc s m1) (hr : BlockSim self A loc r m2) :
    BlockSim self A loc (s :: r) fun st => m1 st >>= m2 := by
  intro st
  rw [execBlock, hs st]
  show _ = liftW (m1 st >>= m2) >>= _
  cases m1 st with
  | error e => rfl
  | ok st1 => exact hr st1

theorem BlockSim.one {s : Stmt} {m : SplitImp.St → SplitImp.M SplitImp.St}
    (hs : StmtSim self A loc s m) : BlockSim self A loc [s] m := by
  intro st
  rw [execBlock, hs st]
  cases m st <;> rfl

/-- `var err error` declares nothing the interpreter tracks -/
theorem BlockSim.varErr {r : List Stmt} {m : SplitImp.St → SplitImp.M SplitImp.St}
    (hr : BlockSim self A loc r m) : BlockSim self A loc (.varErr :: r) m :=
  hr

/-- a conditional whose branches declare nothing that outlives them -/
theorem sim_ite {c : Cond} {t e : List Stmt} {g : SplitImp.St → SplitImp.M Bool}
    {mt me : SplitImp.St → SplitImp.M SplitImp.St}
    (hc : ∀ st, evalCond (inScope A loc st) c = liftW (g st))
    (ht : BlockSim self A loc t mt) (he : BlockSim self A loc e me) :
    StmtSim self A loc (.ite c t e) fun st => g st >>= fun b => if b then mt st else me st := by
  intro st
  have hb : ∀ b : Bool,
      (if b then execBlock (callWith self) t (inScope A loc st) >>= fun st1 =>
          .ok (st1.leave (inScope A loc st))
        else execBlock (callWith self) e (inScope A loc st) >>= fun st1 =>
          .ok (st1.leave (inScope A loc st))) =
      liftW (if b then mt st else me st) >>= fun st' => .ok (inScope A loc st') := by
    intro b
    cases b
    · simp only [Bool.false_eq_true, ↓reduceIte, he st]
      cases me st <;> simp only [liftW_ok, liftW_error, bind_ok, bind_error, leave_inScope _ _ rfl]
    · simp only [↓reduceIte, ht st]
      cases mt st <;> simp only [liftW_ok, liftW_error, bind_ok, bind_error, leave_inScope _ _ rfl]
  simp only [exec, hc, pure_ok]
  show liftW (g st) >>= _ = liftW (g st >>= _) >>= _
  cases g st with
  | error e => rfl
  | ok b => exact hb b

include hp

theorem sim_callChain : StmtSim self A loc callChain (SplitImp.stChain A.source A.k) := by
  intro st
  -- with `rfl` proofs left implicit the kernel evaluates the argument list of the call once more
  simp (config := { implicitDefEqProofs := false }) only [callChain, exec, List.mapM_cons, List.mapM_nil, get_dst hp, get_dstStart hp, get_expr hp, valAt,
    bind_ok, pure_ok, callWith_chain, SplitImp.stChain, String.reduceBEq, Bool.false_eq_true, ↓reduceIte]
  show interpChain st.heap _ >>= _ = _
  rw [interpChain_eq]
  cases SplitImp.chainSubqueryI st.heap st.dst A.k A.source with
  | error e => rfl
  | ok r => exact set_last hp ⟨r.1, st.dst, st.last⟩ (some r.2)

theorem sim_append : StmtSim self A loc (.append "dst" "lastSubquery") SplitImp.stAppend := by
  intro st
  simp only [exec, sliceOf, ptrOf, get_dst hp, get_last hp, bind_ok, pure_ok, SplitImp.stAppend]
  obtain ⟨heap, dst, last⟩ := st
  cases last with
  | none => rfl
  | some a => exact set_dst hp _ _

/-- `lastSubquery.f = e`, where `e` evaluates (from the locals alone) to the update `x` or panics -/
theorem sim_setField {f : String} {e : ValE} {x : SplitImp.M (Subquery → Subquery)}
    (hu : ∀ st, fieldUpdate (inScope A loc st) f e = liftW x) :
    StmtSim self A loc (.setField "lastSubquery" f e)
      fun st => x >>= fun upd => SplitImp.stAssign upd st := by
  intro st
  simp only [exec, ptrOf, get_last hp, bind_ok, pure_ok, hu, SplitImp.stAssign]
  obtain ⟨heap, dst, last⟩ := st
  cases x with
  | error e => rfl
  | ok upd =>
    cases last with
    | none => rfl
    | some a =>
      show liftW (SplitImp.store heap a upd) >>= _ = liftW (SplitImp.store heap a upd >>= _) >>= _
      cases SplitImp.store heap a upd <;> rfl

theorem sim_chainBlock : BlockSim self A loc chainBlock
    fun st => SplitImp.stChain A.source A.k st >>= SplitImp.stAppend :=
  .varErr (.cons (sim_callChain hp) (.one (sim_append hp)))

/-- the guards of the sort / top case and of the take case -/
theorem evalCond_guards (st : SplitImp.St) :
    evalCond (inScope A loc st) sortGuard =
      liftW (SplitImp.stGuard (fun l => !canAttachSort l.op || l.sort.isSome || l.take.isSome) st) ∧
    evalCond (inScope A loc st) takeGuard =
      liftW (SplitImp.stGuard (fun l => !canAttachSort l.op || l.take.isSome) st) := by
  obtain ⟨heap, dst, last⟩ := st
  simp only [sortGuard, takeGuard, evalCond, nilAt, loadPtr, ptrOf, get_last hp, bind_ok, pure_ok, String.reduceBEq,
    Bool.false_eq_true, ↓reduceIte, SplitImp.stGuard]
  cases last with
  | none => exact ⟨rfl, rfl⟩
  | some a =>
    simp only [SplitImp.deref, bind_ok, inScope_heap]
    cases SplitImp.load heap a with
    | error e => exact ⟨rfl, rfl⟩
    | ok l =>
      simp only [liftW_ok, bind_ok]
      cases canAttachSort l.op <;> cases l.sort <;> cases l.take <;> exact ⟨rfl, rfl⟩

/-- `if <guard> { chainBlock }` -/
theorem sim_chainIf {c : Cond} {g : Subquery → Bool}
    (hc : ∀ st, evalCond (inScope A loc st) c = liftW (SplitImp.stGuard g st)) :
    StmtSim self A loc (.ite c chainBlock []) (SplitImp.stChainIf g A.source A.k) :=
  sim_ite hc (sim_chainBlock hp) .nil

omit hp

/-! ### the cases of the switch: `op` is bound

In the compositions below `fresh_op` says that `op` hides no variable of the frame (stated once: as a `rfl` at
each statement it is six comparisons of names by unfolding); the `fun _ => rfl` given to
`sim_setField` evaluates the right-hand side of the assignment, which reads `op` only, to the update the machine
makes (or to the panic both make). -/

theorem fresh_op (o : Op) : fresh [("op", .op o)] = true := rfl

variable (self A)

/-- what "the unit `body` is the machine's step for `o`" means -/
def StepOk (body : List Stmt) (o : Op) : Prop :=
  BlockSim self A [("op", .op o)] body (SplitImp.stepI A.source A.k o)

theorem exec_as (p kw : Span) (name : Option Ident) :
    StepOk self A asIR (.as_ p kw name) := by
  cases name with
  | none =>
    exact .varErr (.cons (sim_callChain (fresh_op _)) (.cons (sim_setField (fresh_op _) (x := .error .panic) fun _ => rfl)
      (.cons (sim_setField (fresh_op _) (x := .ok _) fun _ => rfl) (.one (sim_append (fresh_op _))))))
  | some i =>
    exact .varErr (.cons (sim_callChain (fresh_op _)) (.cons (sim_setField (fresh_op _) (x := .ok _) fun _ => rfl)
      (.cons (sim_setField (fresh_op _) (x := .ok _) fun _ => rfl) (.one (sim_append (fresh_op _))))))

theorem exec_sort (p kw : Span) (terms : List SortTerm) :
    StepOk self A sortIR (.sort p kw terms) :=
  .cons (sim_chainIf (fresh_op _) fun st => (evalCond_guards (fresh_op _) st).1) (.one (sim_setField (fresh_op _) (x := .ok _) fun _ => rfl))

theorem exec_take (p kw : Span) (n : Expr) :
    StepOk self A takeIR (.take p kw n) :=
  .cons (sim_chainIf (fresh_op _) fun st => (evalCond_guards (fresh_op _) st).2) (.one (sim_setField (fresh_op _) (x := .ok _) fun _ => rfl))

theorem exec_top (p kw : Span) (n : Expr) (by_ : Span) (col : Option SortTerm) :
    StepOk self A topIR (.top p kw n by_ col) := by
  cases col with
  | none =>
    -- `Terms: []*SortTerm{op.Col}` with `op.Col == nil`: both sides panic
    exact .cons (sim_chainIf (fresh_op _) fun st => (evalCond_guards (fresh_op _) st).1)
      (.cons (sim_setField (fresh_op _) (x := .error .panic) fun _ => rfl) (.one (sim_setField (fresh_op _) (x := .ok _) fun _ => rfl)))
  | some c =>
    exact .cons (sim_chainIf (fresh_op _) fun st => (evalCond_guards (fresh_op _) st).1)
      (.cons (sim_setField (fresh_op _) (x := .ok _) fun _ => rfl) (.one (sim_setField (fresh_op _) (x := .ok _) fun _ => rfl)))

/-- every operator the switch sends to its `default:` case; `ho` is `stepI` unfolded at such an
    operator: the caller passes `rfl` -/
theorem exec_default (o : Op)
    (ho : SplitImp.stepI A.source A.k o = fun st => SplitImp.stChain A.source A.k st >>= fun st =>
      SplitImp.stAssign (fun s => { s with op := some o }) st >>= SplitImp.stAppend) :
    StepOk self A defaultIR o := by
  unfold StepOk
  rw [ho]
  exact .varErr (.cons (sim_callChain (fresh_op _)) (.cons (sim_setField (fresh_op _) (x := .ok _) fun _ => rfl) (.one (sim_append (fresh_op _)))))

end Pql.SplitIR
