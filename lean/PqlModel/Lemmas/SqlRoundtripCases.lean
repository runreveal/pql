/-
ParseRoundtrip: the invariant `Good ctx e` of the round trip — what the
writer emits for `e` is read as the intended translation of `e`, as an expression, and, when
`writeExpressionMaybeParen` leaves it bare, as a unit / an atom — and the exclusions `shapeOK`.

What the facts about signs, binary operators, `in`, subscripts, calls and
identifiers share — inversion of the translation's binds, the operator table, argument lists paired
with their chunks and translations, the tokens of a column path, the built-in constants.
-/
import PqlModel.Props.C01
import PqlModel.Lemmas.WriterCases
import PqlModel.Lemmas.SqlRoundtripForms
namespace Pql.RT
open Pql Sql CompileOracle

mutual
/-- trees on which the round trip can hold at all: identifiers have at least one part, `in` has at
    least one value (the parser returns no other tree), and a pass-through function name is not an
    operator word of the SQL expression grammar (`C01.C01_counterexample_Not`: false without it) -/
def shapeOK : Expr → Bool
  | .nil => false
  | .qident parts => !parts.isEmpty
  | .lit .. => true
  | .unary _ _ x => shapeOK x
  | .binary x _ _ y => shapeOK x && shapeOK y
  | .inE x _ _ vals _ => shapeOK x && shapeOKList vals && vals.length != 0
  | .paren _ x _ => shapeOK x
  | .call fn _ args _ => ((knownFunction fn.name).isSome || wordSafe fn.name) && shapeOKList args
  | .index x _ idx _ => shapeOK x && shapeOK idx
def shapeOKList : ExprList → Bool
  | .nil => true
  | .cons e es => shapeOK e && shapeOKList es
end

def Good (ctx : Ctx) (e : Expr) : Prop :=
  ∀ cs want, writeExpr ctx e = .ok cs → tr (ctx.mode == .join) e = some want →
    ExprP (toksOf cs) want ∧
    (needsWrap e = false → UnitP (toksOf cs) want) ∧
    (needsWrap e = false → isSigned e = false → AtomP (toksOf cs) want)

set_option linter.unusedSimpArgs false

theorem needsWrap_unary (a : Span) (op : TokKind) (x : Expr) : needsWrap (.unary a op x) = false := by
  simp [needsWrap, exprTypeName, Facts.maybeParenBare]

theorem obind_some {α β : Type} {r : Option α} {k : α → Option β} {b : β}
    (h : (r >>= k) = some b) : ∃ a, r = some a ∧ k a = some b := by
  cases r with
  | none => cases h
  | some a => exact ⟨a, rfl, h⟩

theorem plain_op {op : TokKind} {sym : String} (h : plainOp op = some sym) :
    binaryOpText op = some sym ∧ ∃ t p, txtToks sym = [t] ∧ InfixTok t sym p := by
  cases op <;> simp only [plainOp, reduceCtorEq, Option.some.injEq] at h <;> subst h <;>
    refine ⟨by decide, ?_⟩
  · exact ⟨_, _, tt_AND, infix_AND⟩
  · exact ⟨_, _, tt_OR, infix_OR⟩
  · exact ⟨_, _, tt_plus, infix_plus⟩
  · exact ⟨_, _, tt_minus, infix_minus⟩
  · exact ⟨_, _, tt_star, infix_star⟩
  · exact ⟨_, _, tt_slash, infix_slash⟩
  · exact ⟨_, _, tt_mod, infix_mod⟩
  · exact ⟨_, _, tt_lt, infix_lt⟩
  · exact ⟨_, _, tt_le, infix_le⟩
  · exact ⟨_, _, tt_gt, infix_gt⟩
  · exact ⟨_, _, tt_ge, infix_ge⟩

/-- an operator for which the writer has no SQL text (it emits the `unhandled` comment) has no translation either -/
theorem tr_binOther {j : Bool} {x y : Expr} {a : Span} {op : TokKind} (h1 : op ≠ .eq) (h2 : op ≠ .ne)
    (h3 : op ≠ .cieq) (h4 : op ≠ .cine) (hb : binaryOpText op = none) (want : SExpr) :
    tr j (.binary x a op y) ≠ some want := by
  intro h
  simp only [tr] at h
  obtain ⟨wx, _, h⟩ := obind_some h
  obtain ⟨wy, _, h⟩ := obind_some h
  rw [if_neg h1, if_neg h2, if_neg h3, if_neg h4] at h
  cases hp : plainOp op with
  | none => rw [hp] at h; cases h
  | some sym => rw [(plain_op hp).1] at hb; cases hb

theorem toksOf_sepChunks (sep : String) (cs : List (List Chunk)) : ∀ (c : List Chunk),
    toksOf (sepChunks sep (c :: cs)) = toksOf c ++ cs.flatMap (fun d => txtToks sep ++ toksOf d) := by
  induction cs with
  | nil => intro c; simp [sepChunks]
  | cons d ds ih => intro c; simp [sepChunks, ih d]

structure ArgRel (ctx : Ctx) (es : ExprList) (as : List (List Chunk)) (ws : SExprList)
    (ps : List (Expr × List Chunk × SExpr)) : Prop where
  exprs : es.toList = ps.map (·.1)
  chunks : as = ps.map (·.2.1)
  trs : ws = ofL (ps.map (·.2.2))
  good : ∀ p ∈ ps, ExprP (toksOf p.2.1) p.2.2 ∧ UnitP (toksOf (wrapMaybe p.1 p.2.1)) p.2.2

theorem zip_rel {ctx : Ctx} {es : ExprList} {as : List (List Chunk)} {ws : SExprList}
    {ps : List (Expr × List Chunk × SExpr)} (h : ArgRel ctx es as ws ps) :
    es.toList.zip as = ps.map (fun p => (p.1, p.2.1)) := by
  rw [h.exprs, h.chunks]
  clear h
  induction ps with
  | nil => rfl
  | cons p ps ih => simp [ih]

def plainPairs (ps : List (Expr × List Chunk × SExpr)) : List (List STok × SExpr) :=
  ps.map fun p => (toksOf p.2.1, p.2.2)
def wrapPairs (ps : List (Expr × List Chunk × SExpr)) : List (List STok × SExpr) :=
  ps.map fun p => (toksOf (wrapMaybe p.1 p.2.1), p.2.2)

theorem sepTail_plain (sep : String) (t : STok) (hs : txtToks sep = [t]) (ps : List (Expr × List Chunk × SExpr)) :
    (ps.map (·.2.1)).flatMap (fun d => txtToks sep ++ toksOf d) = sepTail t (plainPairs ps) := by
  induction ps with
  | nil => rfl
  | cons p ps ih => simp [sepTail, plainPairs, hs] at ih ⊢; exact ih

theorem sepTail_wrap (sep : String) (t : STok) (hs : txtToks sep = [t]) (ps : List (Expr × List Chunk × SExpr)) :
    (ps.map (fun p => wrapMaybe p.1 p.2.1)).flatMap (fun d => txtToks sep ++ toksOf d) = sepTail t (wrapPairs ps) := by
  induction ps with
  | nil => rfl
  | cons p ps ih => simp [sepTail, wrapPairs, hs] at ih ⊢; exact ih

theorem toksOf_qident (p : Ident) (ps : List Ident) :
    toksOf (sepChunks "." ((p :: ps).map fun q => [Chunk.qid q.name])) = .qid p.name :: colTailToks (ps.map (·.name)) := by
  rw [List.map_cons, toksOf_sepChunks]
  simp only [toksOf_cons, chunkToks_qid, toksOf_nil, List.append_nil, List.singleton_append, List.cons.injEq, true_and]
  induction ps with
  | nil => rfl
  | cons q qs ih => simp [colTailToks] at ih ⊢; exact ih

theorem builtinIdent_cases (name : Bytes) :
    (name = Bytes.ofString "false" ∧ builtinIdent name = some "FALSE") ∨
    (name = Bytes.ofString "null" ∧ builtinIdent name = some "NULL") ∨
    (name = Bytes.ofString "true" ∧ builtinIdent name = some "TRUE") ∨
    (name ≠ Bytes.ofString "false" ∧ name ≠ Bytes.ofString "null" ∧ name ≠ Bytes.ofString "true" ∧
      builtinIdent name = none) := by
  by_cases h1 : name = Bytes.ofString "false"
  · subst h1; exact .inl ⟨rfl, by decide⟩
  · by_cases h2 : name = Bytes.ofString "null"
    · subst h2; exact .inr (.inl ⟨rfl, by decide⟩)
    · by_cases h3 : name = Bytes.ofString "true"
      · subst h3; exact .inr (.inr (.inl ⟨rfl, by decide⟩))
      · refine .inr (.inr (.inr ⟨h1, h2, h3, ?_⟩))
        have e1 : (Bytes.ofString "false" == name) = false := by simpa using fun h => h1 h.symm
        have e2 : (Bytes.ofString "null" == name) = false := by simpa using fun h => h2 h.symm
        have e3 : (Bytes.ofString "true" == name) = false := by simpa using fun h => h3 h.symm
        simp [builtinIdent, Facts.builtinIdentifiers, List.find?, e1, e2, e3]

end Pql.RT
