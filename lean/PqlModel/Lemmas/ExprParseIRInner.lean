/-
`ExprParseIR`, `innerPrimaryExpr`: literals, (qualified) identifiers, calls with their argument sub-parser
and the optional trailing comma, parenthesised expressions, the not-found leaf.
-/
import PqlModel.Lemmas.ExprParseIRProd
namespace Pql.ExprParseIR
open Pql
set_option linter.unusedSimpArgs false

theorem inner_step (c : ICtx) (F : Nat) (ih : Level c F) (ts : List Token) (sk : Option TokKind) :
    AgreeE (4 * ts.length + 1 ≤ F + 1) (runUnit c (F + 1) "innerPrimaryExpr" [] ⟨ts, none, sk⟩) (pInner c.pctx (F + 1) ts) sk := by
  rw [runUnit_succ]
  simp only [runBody, innerIR_ir, params_inner, results_inner, loopFn_inner, Bool.false_eq_true, if_false]
  rcases ts with _ | ⟨t, rest⟩
  · ir_simp [innerIR, pInner_nil]
  -- the qualified name, when the first token is an identifier
  generalize hqe : pQualTail c.pctx (rest.length + 1) [⟨t.value, t.span, t.kind = .qident⟩] rest = q
  have hq : runQualifiedIdent c ⟨t :: rest, none, sk⟩ =
      if t.kind = .ident ∨ t.kind = .qident then .ok ([.qid (some q.val), .err q.errs], ⟨q.rest, none, sk⟩)
      else .ok ([.qid none, .err (nfAt c.pctx.eof)], ⟨t :: rest, none, sk⟩) := by
    split
    · next h => rw [qualifiedIdent_ir, pQualifiedIdent_cons h, hqe]
    · next h => rw [qualifiedIdent_ir, pQualifiedIdent_none (by rw [pIdent_other h]), pIdent_other h]
  -- a call: the arguments in their sub-parser
  generalize hlp : q.rest.head?.getD ⟨.error, c.srcLen, c.srcLen, c.eofValue⟩ = lp
  have hsp1 := split_ir c ⟨q.rest.tail, none, sk⟩ .rparen ⟨by decide, by decide⟩
  generalize hsp1e : split .rparen q.rest.tail = sp1 at hsp1
  obtain ⟨fa, hfa, ha⟩ := Agree.eq (ih.exprList sp1.1 (some .rparen))
  generalize hrae : pExprList c.pctx F sp1.1 = ra at ha hfa
  -- a parenthesised expression
  have hsp2 := split_ir c ⟨rest, none, sk⟩ .rparen ⟨by decide, by decide⟩
  generalize hsp2e : split .rparen rest = sp2 at hsp2
  obtain ⟨fx, hfx, hx⟩ := Agree.eq (ih.expr sp2.1 (some .rparen))
  generalize hrxe : pExpr c.pctx F sp2.1 = rx at hx hfx
  ir_simp [innerIR, semAt, hq, hlp, hsp1, ha, hsp2, hx, endSplitP]
  clear hq hsp1 ha hsp2 hx
  simp only [pInner]
  by_cases hn : t.kind = .number ∨ t.kind = .string
  · rcases hn with hn | hn <;> simp [hn, Token.span]
  have hn1 : ¬ t.kind = .number := fun h => hn (.inl h)
  have hn2 : ¬ t.kind = .string := fun h => hn (.inr h)
  by_cases hid : t.kind = .ident
  · simp [hid, pQualifiedIdent_cons (Or.inl hid)]
    simp [hid] at hqe
    rw [hqe]
    have hqr := pQualTail_rest_le c.pctx (rest.length + 1) [⟨t.value, t.span, false⟩] rest
    rw [hqe] at hqr
    clear hqe
    obtain ⟨parts, qe, qr⟩ := q
    rcases qe with _ | _ <;> simp
    by_cases hlen : (1 : Int) < parts.length
    · simp [hlen, (by omega : 1 < parts.length)]
    have hlenN : ¬ 1 < parts.length := by omega
    simp only [hlen, hlenN, if_false]
    rcases qr with _ | ⟨lp', rest2⟩ <;> simp at hlp hsp1e hqr <;> subst hlp
    · simp
    by_cases hl : lp'.kind = .lparen <;> simp [hl]
    subst hsp1e hrae
    have hs1 := split_fst_le .rparen rest2
    generalize split .rparen rest2 = sp1 at *
    cases fa <;> simp <;> try (simp at hfa; omega)
    generalize pExprList c.pctx F sp1.1 = ra
    obtain ⟨s1, s2⟩ := sp1
    obtain ⟨av, ae, ar⟩ := ra
    -- what is left of the arguments, then the closing parenthesis
    rcases s2 with _ | ⟨rp, rest3⟩
    · rcases ae with _ | ⟨e0, es⟩
      · rcases ar with _ | ⟨cm, more⟩
        · simp [isNF, PCtx.eof, Span.index, Token.span, pctx_srcLen]
        · by_cases hc : cm.kind = .comma <;> simp [isNF, hc, PCtx.eof, Span.index, Token.span, pctx_srcLen]
      · by_cases hnf : isNF (e0 :: es) = true <;> simp [hnf, PCtx.eof, Span.index, Token.span, pctx_srcLen]
    · by_cases hr : rp.kind = .rparen <;> rcases ae with _ | ⟨e0, es⟩
      · rcases ar with _ | ⟨cm, more⟩
        · simp [isNF, hr, Token.span]
        · by_cases hc : cm.kind = .comma <;> simp [isNF, hc, hr, Token.span]
      · by_cases hnf : isNF (e0 :: es) = true <;> simp [hnf, hr, Token.span]
      · rcases ar with _ | ⟨cm, more⟩
        · simp [isNF, hr, Token.span]
        · by_cases hc : cm.kind = .comma <;> simp [isNF, hc, hr, Token.span]
      · by_cases hnf : isNF (e0 :: es) = true <;> simp [hnf, hr, Token.span]
  by_cases hqi : t.kind = .qident
  · simp [hid, hqi, pQualifiedIdent_cons (Or.inr hqi)]
    simp [hqi] at hqe
    rw [hqe]
    simp
  by_cases hl : t.kind = .lparen
  · simp [hn1, hn2, hid, hqi, hl]
    have hs := split_fst_le .rparen rest
    subst hsp2e hrxe
    generalize split .rparen rest = sp2 at *
    obtain ⟨s1, _ | ⟨rp, rest2⟩⟩ := sp2 <;> cases fx <;>
      simp [PCtx.eof, Span.index, Token.span, pctx_srcLen] <;> try (simp at hfx hs; omega)
    by_cases hr : rp.kind = .rparen <;> simp [hr]
  · simp [hn1, hn2, hid, hqi, hl, Token.span]

end Pql.ExprParseIR
