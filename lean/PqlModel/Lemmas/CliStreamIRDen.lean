/-
Helpers for Props/C16StreamIR.lean: the interpreted `Read` under the reading `den` of Props/C16IOIRMake.lean, i.e. for the
reader lists `makeInput` builds — `nopReadCloser{os.Stdin}` (object 0) any number of times, the opened files (objects
1, 2, …) once each.

`CliIO.makeInput` fixes by convention A3 that a second `-` is a used-up reader.  On the heap that is a THEOREM as soon as
the script of standard input is `clean` (nothing is scripted after its `io.EOF`): when the second `nopReadCloser` is
reached, the first has been read to its `io.EOF`, so object 0 is used up.  `RDen` is the reading, `inv_den` says that the
primitive steps of `Read` respect it (`CliIOIR.ReadInv`).
-/
import PqlModel.Lemmas.CliStreamIR
namespace Pql.StreamIR
open Pql Pql.CliIO Pql.CliIOIR
set_option linter.unusedSimpArgs false

/-- nothing is scripted after an `io.EOF`: the reader stays at its end once it has reported it -/
def clean : Reader → Bool
  | [] => true
  | (_, .eof) :: rs => rs.isEmpty
  | _ :: rs => clean rs

theorem clean_read (r : Reader) (h : clean r = true) : clean (Reader.read r).2 = true := by
  rcases r with _ | ⟨⟨c, s⟩, rs⟩
  · rfl
  · cases s
    · simpa [clean, Reader.read] using h
    · have : rs = [] := by simpa [clean] using h
      subst this; rfl
    · simpa [clean, Reader.read] using h

theorem clean_read_eof (r : Reader) (h : clean r = true) (he : (Reader.read r).1.2 = .eof) : (Reader.read r).2 = [] := by
  rcases r with _ | ⟨⟨c, s⟩, rs⟩
  · rfl
  · cases s
    · simp [Reader.read] at he
    · simpa [clean, Reader.read] using h
    · simp [Reader.read] at he

theorem Shape.tail {n : Nat} {x : Option RC} {l : List (Option RC)} (hs : Shape n (x :: l)) : Shape n l where
  nonnil := fun h => hs.nonnil (List.mem_cons_of_mem _ h)
  nop0 := fun h hm => hs.nop0 h (List.mem_cons_of_mem _ hm)
  files := fun h hm => hs.files h (by
    rcases x with _ | ⟨h', _ | _⟩ <;> simp [fileHandles, hm])
  nodup := by
    have := hs.nodup
    rcases x with _ | ⟨h', _ | _⟩ <;> simp [fileHandles] at this ⊢ <;> first | exact this | exact this.2
  pos := hs.pos

theorem Shape.suffix {n : Nat} : ∀ (d l : List (Option RC)), Shape n (d ++ l) → Shape n l
  | [], _, h => h
  | _ :: d, l, h => Shape.suffix d l (Shape.tail h)

theorem Shape.head_lt {n h : Nat} {nop : Bool} {l : List (Option RC)} (hs : Shape n (some ⟨h, nop⟩ :: l)) : h < n := by
  cases nop
  · exact (hs.files h (by simp [fileHandles])).2
  · rw [hs.nop0 h (by simp)]; exact hs.pos

theorem Shape.head_notin {n h : Nat} {nop : Bool} {l : List (Option RC)} (hs : Shape n (some ⟨h, nop⟩ :: l)) :
    h ∉ fileHandles l := by
  cases nop
  · have := hs.nodup
    simp only [fileHandles, List.nodup_cons] at this
    exact this.1
  · intro hm
    have h0 := hs.nop0 h (by simp)
    have := (hs.tail.files h hm).1
    omega

theorem Shape.head_cond {n h : Nat} {nop : Bool} {l : List (Option RC)} (hs : Shape n (some ⟨h, nop⟩ :: l)) :
    nop = true ∨ h ≠ 0 := by
  cases nop
  · right
    have := (hs.files h (by simp [fileHandles])).1
    omega
  · left; rfl

theorem nops_suffix : ∀ (d l : List (Option RC)), nops l ≤ nops (d ++ l)
  | [], _ => Nat.le_refl _
  | none :: d, l | some ⟨_, false⟩ :: d, l => by simpa [nops] using nops_suffix d l
  | some ⟨_, true⟩ :: d, l => by have := nops_suffix d l; simp only [List.cons_append, nops]; omega

theorem den_length (objs : List Reader) : ∀ (used : Bool) (l : List (Option RC)), (den objs used l).length = l.length
  | _, [] => rfl
  | used, none :: l | used, some ⟨_, false⟩ :: l => by simp [den, den_length objs used l]
  | used, some ⟨_, true⟩ :: l => by simp [den, den_length objs true l]

/-- a first entry that has not been used up reads as the object it points to -/
theorem den_cons {objs : List Reader} {h : Nat} {r : Reader} (ho : objs[h]? = some r) (nop : Bool) (l : List (Option RC)) :
    den objs false (some ⟨h, nop⟩ :: l) = r :: den objs nop l := by
  cases nop <;> simp [den, ho]

theorem den_set (objs : List Reader) (h : Nat) (r : Reader) : ∀ (used : Bool) (l : List (Option RC)),
    h ∉ fileHandles l → (used = true ∨ h ≠ 0) → (∀ h', some ⟨h', true⟩ ∈ l → h' = 0) →
    den (objs.set h r) used l = den objs used l
  | _, [], _, _, _ => rfl
  | used, none :: l, hn, hc, h0 => by
    simp only [den]
    rw [den_set objs h r used l (by simpa [fileHandles] using hn) hc (fun h' hm => h0 h' (List.mem_cons_of_mem _ hm))]
  | used, some ⟨h', true⟩ :: l, hn, hc, h0 => by
    have e0 : h' = 0 := h0 h' (by simp)
    subst e0
    simp only [den]
    rw [den_set objs h r true l (by simpa [fileHandles] using hn) (Or.inl rfl) (fun h' hm => h0 h' (List.mem_cons_of_mem _ hm))]
    rcases hc with rfl | hc
    · rfl
    · rw [List.getElem?_set_ne hc]
  | used, some ⟨h', false⟩ :: l, hn, hc, h0 => by
    simp only [fileHandles, List.mem_cons, not_or] at hn
    simp only [den]
    rw [den_set objs h r used l hn.2 hc (fun h' hm => h0 h' (List.mem_cons_of_mem _ hm)), List.getElem?_set_ne hn.1]

theorem den_used (objs : List Reader) : ∀ (l : List (Option RC)), (∀ h', some ⟨h', true⟩ ∈ l → h' = 0) →
    (nops l = 0 ∨ objs[0]?.getD [] = []) → den objs true l = den objs false l
  | [], _, _ => rfl
  | none :: l, h0, hc | some ⟨_, false⟩ :: l, h0, hc => by
    simp only [den]
    rw [den_used objs l (fun h' hm => h0 h' (List.mem_cons_of_mem _ hm)) (by simpa [nops] using hc)]
  | some ⟨h', true⟩ :: l, h0, hc => by
    have e0 : h' = 0 := h0 h' (by simp)
    subst e0
    have : objs[0]?.getD [] = [] := by simpa [nops] using hc
    simp [den, this]

theorem clean_after (objs : List Reader) (h : Nat) (r r' : Reader) (ho : objs[h]? = some r)
    (hstep : clean r = true → clean r' = true) (hc : clean (objs[0]?.getD []) = true) :
    clean ((objs.set h r')[0]?.getD []) = true := by
  by_cases h0 : h = 0
  · subst h0
    have hlt : 0 < objs.length := by
      rcases objs with _ | ⟨x, xs⟩
      · simp at ho
      · simp
    rw [List.getElem?_set_self hlt]
    exact hstep (by simpa [ho] using hc)
  · rw [List.getElem?_set_ne h0]; exact hc

def RDen (objs : List Reader) (l : List (Option RC)) (rs : List Reader) : Prop :=
  rs = den objs false l ∧ Shape objs.length l ∧ (nops l ≤ 1 ∨ clean (objs[0]?.getD []) = true)

theorem RDen.head {objs : List Reader} {h : Nat} {nop : Bool} {l : List (Option RC)} {rs : List Reader}
    (hR : RDen objs (some ⟨h, nop⟩ :: l) rs) : ∃ r, h < objs.length ∧ objs[h]? = some r ∧ rs = r :: den objs nop l := by
  have hlt : h < objs.length := hR.2.1.head_lt
  refine ⟨objs[h], hlt, List.getElem?_eq_getElem hlt, ?_⟩
  rw [hR.1, den_cons (List.getElem?_eq_getElem hlt)]

/-- **`Read`, step B for the lists of `makeInput`**: the primitive steps of `Read` respect that reading.  When the head is
    dropped at `io.EOF`, what `multiRead` keeps is `den … nop l`; on the new heap that is `den … false l`: a second
    `nopReadCloser` finds standard input used up because its script is `clean`. -/
theorem inv_den : ReadInv RDen where
  len := fun objs l rs h => by rw [h.1, den_length]
  nonnil := fun objs l rs h => h.2.1.nonnil
  head := fun objs x l rs h => by
    rcases x with _ | ⟨h', nop⟩
    · exact absurd h.2.1.nonnil (by simp)
    · obtain ⟨r, -, ho, hrs⟩ := h.head
      exact ⟨⟨h', nop⟩, r, _, rfl, hrs, ho⟩
  keep := fun objs rc l r rs' hR _ => by
    obtain ⟨h, nop⟩ := rc
    obtain ⟨r0, hlt, ho, hrs⟩ := hR.head
    obtain ⟨rfl, rfl⟩ := List.cons.inj hrs
    obtain ⟨-, hs, hc⟩ := hR
    have hself : (objs.set h (Reader.read r).2)[h]? = some (Reader.read r).2 := List.getElem?_set_self hlt
    refine ⟨?_, by simpa using hs, hc.imp id (clean_after objs h _ _ ho (clean_read _))⟩
    rw [den_cons hself, den_set objs h _ nop l hs.head_notin hs.head_cond hs.tail.nop0]
  drop := fun objs rc l r rs' hR he => by
    obtain ⟨h, nop⟩ := rc
    obtain ⟨r0, hlt, ho, hrs⟩ := hR.head
    obtain ⟨rfl, rfl⟩ := List.cons.inj hrs
    obtain ⟨-, hs, hc⟩ := hR
    have hnop0 := hs.tail.nop0
    have hc' : nops (some ⟨h, nop⟩ :: l) ≤ 1 ∨ clean ((objs.set h (Reader.read r).2)[0]?.getD []) = true :=
      hc.imp id (clean_after objs h _ _ ho (clean_read _))
    refine ⟨?_, by simpa using hs.tail, hc'.imp (fun hle => Nat.le_trans (nops_suffix [some ⟨h, nop⟩] l) hle) id⟩
    rw [← den_set objs h (Reader.read r).2 nop l hs.head_notin hs.head_cond hnop0]
    cases nop with
    | false => rfl
    | true =>
      have e0 : h = 0 := hs.nop0 h (by simp)
      refine den_used _ l hnop0 ?_
      rcases hc with hc | hc
      · left; simpa [nops] using hc
      · right
        subst e0
        have h1 : clean r = true := by simpa [ho] using hc
        rw [clean_read_eof _ h1 he]
        simp [List.getElem?_set_self hlt]

end Pql.StreamIR
