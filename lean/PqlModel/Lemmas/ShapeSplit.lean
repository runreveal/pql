/-
`splitQueries` is parametric in contents: the mapped pipeline is split in the same way, into
subqueries that are the images of the original ones (and each of them can be written:
inertness and the side facts `SubOK` travel with the relation).
-/
import PqlModel.Lemmas.ShapeJoin
namespace Pql

theorem kindOf_map (φ : CMap) (fl : Option Ident) :
    JoinSem.kindOf (fl.map φ.fnIdent) = JoinSem.kindOf fl := by
  cases fl <;> rfl

/-- what the splitter needs of the relation beyond `MapCong`: generated names and the empty
    name (a missing identifier) are related to themselves -/
structure SplitCong (φ : CMap) (R : List Chunk → List Chunk → Prop) : Prop where
  cong : MapCong φ R
  gen : ∀ i, R [.qid (subqueryName i)] [.qid (subqueryName i)]
  qnil : R [.qid []] [.qid []]

structure WSplitCong (φ : CMap) (R : List Chunk → List Chunk → Prop) : Prop where
  cong : WCong φ R
  gen : ∀ i, R [.qid (subqueryName i)] [.qid (subqueryName i)]
  qnil : R [.qid []] [.qid []]

theorem SplitCong.toW {φ : CMap} {R : List Chunk → List Chunk → Prop} (H : SplitCong φ R) : WSplitCong φ R :=
  ⟨H.cong.toWCong, H.gen, H.qnil⟩

def inertTermOpt (s : Scope) (φ : CMap) : Option SortTerm → Bool
  | some t => inertE s .default φ t.x
  | none => true

mutual
/-- inertness of every expression of the pipeline, each in the mode it is written in; a pipeline
    with a join needs a renaming that fixes `$left` / `$right` -/
def inertT (s : Scope) (φ : CMap) : Tabular → Bool
  | .nil => true
  | .mk _ ops => inertOps s φ ops
def inertOps (s : Scope) (φ : CMap) : OpList → Bool
  | .nil => true
  | .cons o os => inertO s φ o && inertOps s φ os
def inertO (s : Scope) (φ : CMap) : Op → Bool
  | .sort _ _ ts => inertTerms s .default φ ts
  | .take _ _ n => inertE s .default φ n
  | .top _ _ n _ c => inertE s .default φ n && inertTermOpt s φ c
  | .join _ _ _ _ _ _ right _ _ conds => inertT s φ right && inertL s .join φ conds && fixesAliases φ
  | o => inertOp s .default φ o
end

mutual
/-- the side facts about output that does not come through `writeExpr` (aliases of unnamed
    columns, render properties), for every operator of the pipeline -/
def TabOK (φ : CMap) (R : List Chunk → List Chunk → Prop) (src src' : Bytes) : Tabular → Prop
  | .nil => True
  | .mk _ ops => OpsOK φ R src src' ops
def OpsOK (φ : CMap) (R : List Chunk → List Chunk → Prop) (src src' : Bytes) : OpList → Prop
  | .nil => True
  | .cons o os => OpOKJ φ R src src' o ∧ OpsOK φ R src src' os
def OpOKJ (φ : CMap) (R : List Chunk → List Chunk → Prop) (src src' : Bytes) : Op → Prop
  | .join _ _ _ _ _ _ right _ _ _ => TabOK φ R src src' right
  | o => OpOK φ R src src' o
end

structure WSubRel (φ : CMap) (R : List Chunk → List Chunk → Prop) (src src' : Bytes) (s : Scope)
    (sub sub' : Subquery) : Prop extends MSubRel φ R sub sub' where
  inert : inertSub s .default φ sub = true
  ok : SubOK φ R src src' sub

section
variable {φ : CMap} {R : List Chunk → List Chunk → Prop} {src src' : Bytes} {s s' : Scope}

local notation "Rel" => WSubRel φ R src src' s

theorem mchain_rel (H : WSplitCong φ R) {dst dst' : List Subquery} (h : ListRel Rel dst dst') (ds : Nat)
    (source : Option Ident) :
    Rel (chainSubquery dst ds source) (chainSubquery dst' ds (source.map φ.ident)) := by
  have hsrc : R (chainSubquery dst ds source).source (chainSubquery dst' ds (source.map φ.ident)).source := by
    unfold chainSubquery
    rw [← h.length_eq]
    dsimp only
    split
    · have hg := h.getLast?
      revert hg
      generalize dst.getLast? = g
      generalize dst'.getLast? = g'
      intro hg
      cases hg with
      | none => exact H.cong.nil
      | some hab => exact hab.name
    · exact identName_rel H.cong source fun _ => H.qnil
  refine ⟨⟨?_, hsrc, rfl, rfl, rfl⟩, rfl, trivial⟩
  unfold chainSubquery
  rw [← h.length_eq]
  exact H.gen _

theorem WSubRel.bits {a b : Subquery} (hab : Rel a b) : attachBits b = attachBits a := by
  simp only [attachBits, hab.op, hab.sort, hab.take, canAttachSort_mapOp, Option.isNone_map]

theorem kind_mapOp (φ : CMap) (o : Op) :
    SplitQ.steps (mapOp φ o) = SplitQ.steps o ∧ SplitQ.attaches (mapOp φ o) = SplitQ.attaches o := by
  cases o with
  | top p k n b c => cases c <;> exact ⟨rfl, rfl⟩
  | _ => exact ⟨rfl, rfl⟩

theorem inertSub_split {sub : Subquery} (h : inertSub s .default φ sub = true) :
    inertOpOpt s .default φ sub.op = true ∧ inertSortOpt s .default φ sub.sort = true ∧
      inertTakeOpt s .default φ sub.take = true := by
  simp only [inertSub, Bool.and_eq_true] at h
  exact ⟨h.1.1, h.1.2, h.2⟩

theorem inertSub_mk {name : Bytes} {source : List Chunk} {op : Option Op} {sort : Option (List SortTerm)}
    {take : Option Expr} (h1 : inertOpOpt s .default φ op = true) (h2 : inertSortOpt s .default φ sort = true)
    (h3 : inertTakeOpt s .default φ take = true) :
    inertSub s .default φ ⟨name, source, op, sort, take⟩ = true := by
  simp only [inertSub, h1, h2, h3, Bool.and_self]

theorem store_mrel (H : WSplitCong φ R) {o : Op} (hi : inertO s φ o = true) (hok : OpOKJ φ R src src' o)
    (hst : SplitQ.steps o = true) {a b : Subquery} (hab : Rel a b) :
    Rel (SplitQ.store o a) (SplitQ.store (mapOp φ o) b) := by
  obtain ⟨h1, h2, h3⟩ := inertSub_split hab.inert
  cases o with
  | join => cases hst
  | sort p k ts => exact ⟨⟨hab.name, hab.source, hab.op, rfl, hab.take⟩, inertSub_mk h1 hi h3, hab.ok⟩
  | take p k n => exact ⟨⟨hab.name, hab.source, hab.op, hab.sort, rfl⟩, inertSub_mk h1 h2 hi, hab.ok⟩
  | top p k n b c =>
    cases c with
    | none => cases hst
    | some c =>
      simp only [inertO, inertTermOpt, Bool.and_eq_true] at hi
      refine ⟨⟨hab.name, hab.source, hab.op, rfl, rfl⟩, inertSub_mk h1 ?_ hi.1, hab.ok⟩
      simp only [inertSortOpt, inertTerms, List.all_cons, List.all_nil, hi.2, Bool.and_self]
  | as_ p k name =>
    exact ⟨⟨identName_rel H.cong name fun _ => H.qnil, hab.source, rfl, hab.sort, hab.take⟩, inertSub_mk rfl h2 h3, trivial⟩
  | count | where_ | project | extend | summarize | render =>
    exact ⟨⟨hab.name, hab.source, rfl, hab.sort, hab.take⟩, inertSub_mk hi h2 h3, hok⟩

theorem joinSub_rel (H : WSplitCong φ R) (hs : ScopeRel R s s') (hf : fixesAliases φ = true)
    (conds : ExprList) (hi : inertL s .join φ conds = true) {d d' : List Subquery} (hd : ListRel Rel d d')
    (source : Option Ident) (ds n : Nat) (fl : Option Ident) :
    ExRel Rel (SplitQ.joinSub src s source ds n fl conds d)
      (SplitQ.joinSub src' s' (source.map φ.ident) ds n (fl.map φ.fnIdent) (mapL φ conds) d') :=
  joinSub_alike H.cong.toFrameCong hd (fun _ _ hab => hab.name) H.qnil (identName_rel H.cong source fun _ => H.qnil)
    (kindOf_map φ fl) (buildJoin_rel H.cong hs hf conds hi)
    (fun _ _ hx => ⟨⟨H.gen _, hx, rfl, rfl, rfl⟩, rfl, trivial⟩) ds n

mutual
theorem msplitQueries_rel (H : WSplitCong φ R) (hs : ScopeRel R s s') :
    (t : Tabular) → inertT s φ t = true → TabOK φ R src src' t → (dst dst' : List Subquery) → ListRel Rel dst dst' →
      ExRel (ListRel Rel) (splitQueries src s dst t) (splitQueries src' s' dst' (mapT φ t))
  | .nil, _, _, dst, dst', _ => by
    simp only [mapT, splitQueries]
    exact ExRel.error_error _
  | .mk source ops, hi, hok, dst, dst', h => by
    simp only [inertT] at hi
    simp only [TabOK] at hok
    rw [SplitQ.splitQueries_mk, mapT, SplitQ.splitQueries_mk, ← h.length_eq]
    exact (msplitOps_wrel H hs ops hi hok source dst.length dst dst' h).bind fun _ _ hd =>
      ExRel.ok_ok (closeBlock_rel hd _ (mchain_rel H hd _ source))

/-- every operator but `join` is one `place` step of both loops -/
theorem msplitOps_wrel (H : WSplitCong φ R) (hs : ScopeRel R s s') :
    (ops : OpList) → inertOps s φ ops = true → OpsOK φ R src src' ops → (source : Option Ident) → (ds : Nat) →
      (dst dst' : List Subquery) → ListRel Rel dst dst' →
      ExRel (ListRel Rel) (splitOps src s source ds dst ops)
        (splitOps src' s' (source.map φ.ident) ds dst' (mapOps φ ops))
  | .nil, _, _, source, ds, dst, dst', h => by
    simp only [mapOps, splitOps]
    exact ExRel.pure_pure h
  | .cons o rest, hi, hok, source, ds, dst, dst', h => by
    simp only [inertOps, Bool.and_eq_true] at hi
    simp only [OpsOK] at hok
    have ih := fun d d' => msplitOps_wrel H hs rest hi.2 hok.2 source ds d d'
    rw [mapOps]
    cases hst : SplitQ.steps o with
    | true =>
      rw [SplitQ.splitOps_step src s source ds dst hst,
        SplitQ.splitOps_step src' s' _ ds dst' ((kind_mapOp φ o).1.trans hst)]
      exact ih _ _ (place_rel h ds (mchain_rel H h ds source) (kind_mapOp φ o).2 (fun _ _ => WSubRel.bits)
        fun _ _ => store_mrel H hi.1 hok.1 hst)
    | false =>
      cases o with
      | join p kw kind ka flavor lp right rp on conds =>
        simp only [inertO, Bool.and_eq_true] at hi
        simp only [OpOKJ] at hok
        rw [SplitQ.splitOps_join, mapOp, SplitQ.splitOps_join, ← h.length_eq]
        refine ExRel.bind (msplitQueries_rel H hs right hi.1.1.1 hok.1 dst dst' h) fun d d' hd => ?_
        refine ExRel.bind (joinSub_rel H hs hi.1.2 conds hi.1.1.2 hd source ds dst.length _) fun sub sub' hsub => ?_
        exact ih _ _ (hd.append (ListRel.single hsub))
      | top p kw n b col =>
        cases col with
        | none =>
          simp only [mapOp, Option.map_none, splitOps]
          exact ExRel.error_error _
        | some c => cases hst
      | _ => cases hst
end

theorem msplitOps_rel (H : SplitCong φ R) (hs : ScopeRel R s s') :
    (ops : OpList) → inertOps s φ ops = true → OpsOK φ R src src' ops → (source : Option Ident) → (ds : Nat) →
      (dst dst' : List Subquery) → ListRel Rel dst dst' →
      ExRel (ListRel Rel) (splitOps src s source ds dst ops)
        (splitOps src' s' (source.map φ.ident) ds dst' (mapOps φ ops)) :=
  msplitOps_wrel H.toW hs

end

end Pql
