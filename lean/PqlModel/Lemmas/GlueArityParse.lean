/-
C13 / C01 glue, source level: the parser on `T | where name(a, a, …, a)` for ALL n.

`stmtAt name n` is the tree with the exact source positions; `parse (srcCall name n)` returns it
without error (through the forward parser theorem `C07_parse_src_partial`), and its misuse verdict
is `Misuse.wrongArity name n`.
-/
import PqlModel.Lemmas.GlueArityScan
import PqlModel.Props.C07Full
namespace Pql.Glue
open Pql Pql.Grammar

def aId (p : Nat) : Ident := ⟨B "a", Span.mk' p (p + 1), false⟩
def aAt (p : Nat) : Expr := .qident [aId p]

/-- the arguments after the one before position `p` (where `, a` or `)` starts) -/
def restArgs (p : Nat) : Nat → ExprList
  | 0 => .nil
  | k + 1 => .cons (aAt (p + 2)) (restArgs (p + 3) k)

def argsAt (p : Nat) : Nat → ExprList
  | 0 => .nil
  | k + 1 => .cons (aAt p) (restArgs (p + 1) k)

/-- where the closing parenthesis is -/
def restEnd (p : Nat) : Nat → Nat
  | 0 => p
  | k + 1 => restEnd (p + 3) k

def argEnd (p : Nat) : Nat → Nat
  | 0 => p
  | k + 1 => restEnd (p + 1) k

/-- `srcCall name n` begins `T | where ` (10 bytes): the name starts at offset 10, its `(` stands at
    `10 + name.length`, the arguments begin at `11 + name.length` -/
def fnId (name : Bytes) : Ident := ⟨name, Span.mk' 10 (10 + name.length), false⟩

def callAt (name : Bytes) (n : Nat) : Expr :=
  .call (fnId name) (Span.mk' (10 + name.length) (11 + name.length)) (argsAt (11 + name.length) n)
    (Span.mk' (argEnd (11 + name.length) n) (argEnd (11 + name.length) n + 1))

def stmtAt (name : Bytes) (n : Nat) : Stmt :=
  .tabular (.mk (some ⟨B "T", Span.mk' 0 1, false⟩)
    (.cons (.where_ (Span.mk' 2 3) (Span.mk' 4 9) (callAt name n)) .nil))

theorem restEnd_eq (k : Nat) : ∀ p, restEnd p k = p + 3 * k := by
  induction k with
  | zero => intro p; rfl
  | succ k ih => intro p; simp only [restEnd, ih]; omega

theorem aAt_ok (bound : List Bytes) (p : Nat) : Misuse.badExpr .plain bound (aAt p) = false := col_ok bound _

theorem restArgs_ok (bound : List Bytes) (k : Nat) : ∀ p,
    Misuse.badList .plain bound (restArgs p k) = false ∧ (restArgs p k).length = k := by
  induction k with
  | zero => intro p; simp only [restArgs, Misuse.badList, ExprList.length, and_self]
  | succ k ih => intro p; simp only [restArgs, Misuse.badList, aAt_ok, ih, Bool.or_self, ExprList.length, and_self]

theorem argsAt_ok (bound : List Bytes) (p n : Nat) :
    Misuse.badList .plain bound (argsAt p n) = false ∧ (argsAt p n).length = n := by
  cases n with
  | zero => simp only [argsAt, Misuse.badList, ExprList.length, and_self]
  | succ k =>
    have h := restArgs_ok bound k (p + 1)
    simp only [argsAt, Misuse.badList, aAt_ok, h.1, h.2, Bool.or_self, ExprList.length, and_self]

theorem stmtAt_misuse (params : List Bytes) (name : Bytes) (n : Nat) :
    Misuse.misuse params [stmtAt name n] = Misuse.wrongArity name n := by
  have h : ∀ bound, Misuse.badExpr .plain bound (callAt name n) = Misuse.wrongArity name n := by
    intro bound
    have h := argsAt_ok bound (11 + name.length) n
    simp only [callAt, fnId, Misuse.badExpr, h.1, h.2, Bool.or_false]
  simp [Misuse.misuse, stmtAt, Misuse.misuseStmts, Misuse.badTabular, Misuse.badOps, Misuse.badOp, h]

theorem aAt_spine (p : Nat) : okSpine 0 (aAt p) = some inf := by
  simp [aAt, okSpine]

theorem restArgs_okList (k : Nat) : ∀ p, okList (restArgs p k) = true := by
  induction k with
  | zero => intro p; simp only [restArgs, okList]
  | succ k ih => intro p; simp only [restArgs, okList, aAt_spine, Option.isSome_some, ih, Bool.and_self]

theorem argsAt_okList (p n : Nat) : okList (argsAt p n) = true := by
  cases n with
  | zero => simp only [argsAt, okList]
  | succ k => simp only [argsAt, okList, aAt_spine, Option.isSome_some, restArgs_okList, Bool.and_self]

theorem stmtAt_wf (name : Bytes) (n : Nat) : Grammar.wfStmt (stmtAt name n) = true := by
  simp [stmtAt, Grammar.wfStmt, Grammar.wfTabular, Grammar.wfOps, Grammar.wfOp, okExpr, callAt, okSpine, fnId,
    argsAt_okList]

def rparenU (p : Nat) : UTok := { sym .rparen (Span.mk' p (p + 1)) with optComma := true }

def uRest (p : Nat) : Nat → List UTok
  | 0 => []
  | k + 1 => commaTok :: identTok (aId (p + 2)) :: uRest (p + 3) k

def uArgs (p : Nat) : Nat → List UTok
  | 0 => []
  | k + 1 => identTok (aId p) :: uRest (p + 1) k

theorem unparse_aAt (p : Nat) : unparseExpr (aAt p) = some [identTok (aId p)] := by
  simp [aAt, unparseExpr, identsDotted]

theorem unparse_rest (k : Nat) : ∀ q p,
    unparseExprList (.cons (aAt q) (restArgs p k)) = some (identTok (aId q) :: uRest p k) := by
  induction k with
  | zero => intro q p; simp only [restArgs, unparseExprList, unparse_aAt, uRest]
  | succ k ih =>
    intro q p
    simp only [restArgs, unparseExprList, unparse_aAt, ih, uRest, bind, Option.bind, pure, List.cons_append,
      List.nil_append]

theorem unparse_args (p n : Nat) : unparseExprList (argsAt p n) = some (uArgs p n) := by
  cases n with
  | zero => simp only [argsAt, unparseExprList, uArgs]
  | succ k => simp only [argsAt, unparse_rest, uArgs]

def uCall (name : Bytes) (n : Nat) : List UTok :=
  identTok ⟨B "T", Span.mk' 0 1, false⟩ :: sym .pipe (Span.mk' 2 3) :: kwTok ["where", "filter"] (Span.mk' 4 9) ::
    identTok (fnId name) :: sym .lparen (Span.mk' (10 + name.length) (11 + name.length)) ::
    (uArgs (11 + name.length) n ++ [rparenU (argEnd (11 + name.length) n)])

theorem unparse_stmtAt (name : Bytes) (n : Nat) : unparseStmt (stmtAt name n) = some (uCall name n) := by
  simp [stmtAt, unparseStmt, unparseTabular, unparseOps, unparseOp, callAt, unparseExpr, unparse_args, uCall,
    rparenU]

theorem acc_rparen (p : Nat) : accounts true [rparenU p] [⟨.rparen, p, p + 1, []⟩] = true := by
  simp [accounts, rparenU, sym, tokMatches, posMatches, Span.mk']

theorem acc_rest (k : Nat) : ∀ p,
    accounts true (uRest p k ++ [rparenU (restEnd p k)]) (restToks p k) = true := by
  induction k with
  | zero => intro p; exact acc_rparen p
  | succ k ih =>
    intro p
    have := ih (p + 3)
    simp [uRest, restToks, restEnd, accounts, commaTok, identTok, aId, tokMatches, posMatches, Span.mk', this,
      Nat.add_assoc]

theorem acc_args (p n : Nat) :
    accounts true (uArgs p n ++ [rparenU (argEnd p n)]) (argToks p n) = true := by
  cases n with
  | zero => exact acc_rparen p
  | succ k =>
    have := acc_rest k (p + 1)
    simp [uArgs, argToks, argEnd, accounts, identTok, aId, tokMatches, posMatches, Span.mk', this]

theorem acc_call (name : Bytes) (n : Nat) : accounts true (uCall name n) (toksCall name n) = true := by
  have h := acc_args (11 + name.length) n
  simp [uCall, toksCall, accounts, identTok, sym, kwTok, fnId, tokMatches, posMatches, Span.mk', h, B]

theorem nlc_no_lparen : ∀ (ts : List Token), (∀ t ∈ ts, t.kind ≠ .lparen) → NoLparenComma ts = true
  | [], _ => rfl
  | a :: ts, h => by
    have ha : (a.kind == TokKind.lparen) = false := by
      simpa using h a (List.mem_cons_self ..)
    have ht := nlc_no_lparen ts (fun t ht => h t (List.mem_cons_of_mem _ ht))
    cases ts <;> simp [NoLparenComma, ha] at ht ⊢ <;> exact ht

theorem restToks_kind (k : Nat) : ∀ p, ∀ t ∈ restToks p k, t.kind = .comma ∨ t.kind = .ident ∨ t.kind = .rparen := by
  induction k with
  | zero => intro p t ht; simp only [restToks, List.mem_singleton] at ht; subst ht; simp
  | succ k ih =>
    intro p t ht
    simp only [restToks, List.mem_cons] at ht
    rcases ht with rfl | rfl | ht
    · simp
    · simp
    · exact ih _ t ht

theorem argToks_kind (p n : Nat) : ∀ t ∈ argToks p n, t.kind = .comma ∨ t.kind = .ident ∨ t.kind = .rparen := by
  cases n with
  | zero => intro t ht; simp only [argToks, List.mem_singleton] at ht; subst ht; simp
  | succ k =>
    intro t ht
    simp only [argToks, List.mem_cons] at ht
    rcases ht with rfl | ht
    · simp
    · exact restToks_kind k _ t ht

theorem argToks_no_lparen (p n : Nat) : ∀ t ∈ argToks p n, t.kind ≠ .lparen := by
  intro t ht
  rcases argToks_kind p n t ht with h | h | h <;> simp [h]

theorem argToks_head (p n : Nat) : ∃ t r, argToks p n = t :: r ∧ t.kind ≠ .comma := by
  cases n with
  | zero => exact ⟨_, _, rfl, by simp⟩
  | succ k => exact ⟨_, _, rfl, by simp⟩

theorem nlc_call (name : Bytes) (n : Nat) : NoLparenComma (toksCall name n) = true := by
  obtain ⟨t, r, ht, hk⟩ := argToks_head (11 + name.length) n
  have h := nlc_no_lparen _ (argToks_no_lparen (11 + name.length) n)
  have hk' : (t.kind == TokKind.comma) = false := by simpa using hk
  rw [ht] at h
  simp [toksCall, NoLparenComma, ht, hk'] at h ⊢
  exact h

theorem toksCall_nosemi (name : Bytes) (n : Nat) : ∀ t ∈ toksCall name n, t.kind ≠ .semi := by
  intro t ht
  simp only [toksCall, List.mem_cons] at ht
  rcases ht with rfl | rfl | rfl | rfl | rfl | ht
  iterate 5 simp
  rcases argToks_kind _ n t ht with h | h | h <;> simp [h]

theorem split_toksCall (name : Bytes) (n : Nat) :
    splitStatementsToks (toksCall name n) = [toksCall name n] :=
  splitStatementsToks_nosemi (by simp [toksCall]) (toksCall_nosemi name n)

theorem parse_srcCall (name : Bytes) (n : Nat) (hn : identName name = true) :
    parse (srcCall name n) = ([stmtAt name n], []) := by
  apply C07.C07_parse_src_partial
  rw [scan_srcCall name n hn, split_toksCall]
  refine Forall₂.cons ?_ Forall₂.nil
  exact ⟨stmtAt_wf name n, rfl, rfl, uCall name n, unparse_stmtAt name n, acc_call name n, nlc_call name n⟩

end Pql.Glue
