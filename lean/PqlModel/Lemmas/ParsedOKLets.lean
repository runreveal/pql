/-
The four expression-level facts (`sOK`, `leavesE tokP`, no K4 function, `arOK`) are preserved by
`substExpr env` when every value of `env` satisfies them; hence `tabularOK` is preserved by
`substTabular env` (the let-resolved pipeline of a program with `let` statements).
-/
import PqlModel.Lemmas.ParsedOKTree
namespace Pql.ParsedOK
open Pql Pql.Exact CompileOracle Sql Pql.RT Pql.C05

theorem substExpr_qident (env : List (Bytes × Expr)) : ∀ ps : List Ident,
    substExpr env (.qident ps) = .qident ps ∨
      ∃ kv ∈ env, substExpr env (.qident ps) = .paren .zero kv.2 .zero
  | [p] => by
    simp only [substExpr]
    split
    · exact .inl rfl
    · split
      · next v hf => exact .inr ⟨_, List.mem_of_find?_eq_some hf, rfl⟩
      · exact .inl rfl
  | [] | _ :: _ :: _ => .inl (by simp [substExpr])

theorem subst_qident {env : List (Bytes × Expr)} {p : Expr → Bool}
    (hp : ∀ v, p (.paren .zero v .zero) = p v) (henv : ∀ kv ∈ env, p kv.2 = true) (ps : List Ident)
    (h : p (.qident ps) = true) : p (substExpr env (.qident ps)) = true := by
  rcases substExpr_qident env ps with e | ⟨kv, hkv, e⟩ <;> rw [e]
  · exact h
  · rw [hp]; exact henv kv hkv

theorem sOK_subst_alg (env : List (Bytes × Expr)) (henv : ∀ kv ∈ env, sOK kv.2 = true) : ExprTreeAlg
    (fun e => sOK e = true → sOK (substExpr env e) = true)
    (fun l => sOKList l = true → sOKList (substList env l) = true) where
  nil := fun h => h
  qident := subst_qident (fun _ => rfl) henv
  lit := fun _ _ _ h => h
  unary := fun _ _ _ ih h => and_true' (and_true_of h).1 (ih (and_true_of h).2)
  binary := fun _ _ _ _ ihx ihy h =>
    and_true' (and_true_of h).1
      (and_true' (ihx (and_true_of (and_true_of h).2).1) (ihy (and_true_of (and_true_of h).2).2))
  inE := fun _ _ _ _ _ ihx ihl h =>
    and_true' (ihx (and_true_of h).1)
      (and_true' (ihl (and_true_of (and_true_of h).2).1)
        (by rw [substList_length]; exact (and_true_of (and_true_of h).2).2))
  paren := fun _ _ _ ih => ih
  call := fun _ _ _ _ ihl h => and_true' (and_true_of h).1 (ihl (and_true_of h).2)
  index := fun _ _ _ _ ihx ihy h => and_true' (ihx (and_true_of h).1) (ihy (and_true_of h).2)
  lnil := fun h => h
  cons := fun _ _ ihe ihl h => and_true' (ihe (and_true_of h).1) (ihl (and_true_of h).2)

theorem sOK_subst (env : List (Bytes × Expr)) (henv : ∀ kv ∈ env, sOK kv.2 = true) :
    ∀ e : Expr, sOK e = true → sOK (substExpr env e) = true := (sOK_subst_alg env henv).expr

theorem sOKList_subst (env : List (Bytes × Expr)) (henv : ∀ kv ∈ env, sOK kv.2 = true) :
    ∀ l : ExprList, sOKList l = true → sOKList (substList env l) = true := (sOK_subst_alg env henv).list

theorem leaves_subst_alg (P : LP) (env : List (Bytes × Expr)) (henv : ∀ kv ∈ env, leavesE P kv.2 = true) :
    ExprTreeAlg (fun e => leavesE P e = true → leavesE P (substExpr env e) = true)
      (fun l => leavesL P l = true → leavesL P (substList env l) = true) where
  nil := fun h => h
  qident := subst_qident (fun _ => rfl) henv
  lit := fun _ _ _ h => h
  unary := fun _ _ _ ih => ih
  binary := fun _ _ _ _ ihx ihy h => and_true' (ihx (and_true_of h).1) (ihy (and_true_of h).2)
  inE := fun _ _ _ _ _ ihx ihl h => and_true' (ihx (and_true_of h).1) (ihl (and_true_of h).2)
  paren := fun _ _ _ ih => ih
  call := fun _ _ _ _ ihl h => and_true' (and_true_of h).1 (ihl (and_true_of h).2)
  index := fun _ _ _ _ ihx ihy h => and_true' (ihx (and_true_of h).1) (ihy (and_true_of h).2)
  lnil := fun h => h
  cons := fun _ _ ihe ihl h => and_true' (ihe (and_true_of h).1) (ihl (and_true_of h).2)

theorem leaves_subst (P : LP) (env : List (Bytes × Expr)) (henv : ∀ kv ∈ env, leavesE P kv.2 = true) :
    ∀ e : Expr, leavesE P e = true → leavesE P (substExpr env e) = true :=
  (leaves_subst_alg P env henv).expr

theorem leavesL_subst (P : LP) (env : List (Bytes × Expr)) (henv : ∀ kv ∈ env, leavesE P kv.2 = true) :
    ∀ l : ExprList, leavesL P l = true → leavesL P (substList env l) = true :=
  (leaves_subst_alg P env henv).list

theorem noKw_subst_alg (env : List (Bytes × Expr)) (henv : ∀ kv ∈ env, exprHasKeywordFn kv.2 = false) :
    ExprTreeAlg (fun e => exprHasKeywordFn e = false → exprHasKeywordFn (substExpr env e) = false)
      (fun l => listHasKeywordFn l = false → listHasKeywordFn (substList env l) = false) where
  nil := fun h => h
  qident := fun ps h => by
    rcases substExpr_qident env ps with e | ⟨kv, hkv, e⟩ <;> rw [e]
    · exact h
    · exact henv kv hkv
  lit := fun _ _ _ h => h
  unary := fun _ _ _ ih => ih
  binary := fun _ _ _ _ ihx ihy h => or_false' (ihx (or_false_of h).1) (ihy (or_false_of h).2)
  inE := fun _ _ _ _ _ ihx ihl h => or_false' (ihx (or_false_of h).1) (ihl (or_false_of h).2)
  paren := fun _ _ _ ih => ih
  call := fun _ _ _ _ ihl h => or_false' (or_false_of h).1 (ihl (or_false_of h).2)
  index := fun _ _ _ _ ihx ihy h => or_false' (ihx (or_false_of h).1) (ihy (or_false_of h).2)
  lnil := fun h => h
  cons := fun _ _ ihe ihl h => or_false' (ihe (or_false_of h).1) (ihl (or_false_of h).2)

theorem noKw_subst (env : List (Bytes × Expr)) (henv : ∀ kv ∈ env, exprHasKeywordFn kv.2 = false) :
    ∀ e : Expr, exprHasKeywordFn e = false → exprHasKeywordFn (substExpr env e) = false :=
  (noKw_subst_alg env henv).expr

theorem noKwL_subst (env : List (Bytes × Expr)) (henv : ∀ kv ∈ env, exprHasKeywordFn kv.2 = false) :
    ∀ l : ExprList, listHasKeywordFn l = false → listHasKeywordFn (substList env l) = false :=
  (noKw_subst_alg env henv).list

theorem arOK_subst_alg (env : List (Bytes × Expr)) (henv : ∀ kv ∈ env, arOK kv.2 = true) : ExprTreeAlg
    (fun e => arOK e = true → arOK (substExpr env e) = true)
    (fun l => arOKL l = true → arOKL (substList env l) = true) where
  nil := fun h => h
  qident := subst_qident (fun _ => rfl) henv
  lit := fun _ _ _ h => h
  unary := fun _ _ _ ih => ih
  binary := fun _ _ _ _ ihx ihy h => and_true' (ihx (and_true_of h).1) (ihy (and_true_of h).2)
  inE := fun _ _ _ _ _ ihx ihl h => and_true' (ihx (and_true_of h).1) (ihl (and_true_of h).2)
  paren := fun _ _ _ ih => ih
  call := fun _ _ _ _ ihl h =>
    and_true' (by rw [substList_length]; exact (and_true_of h).1) (ihl (and_true_of h).2)
  index := fun _ _ _ _ ihx ihy h => and_true' (ihx (and_true_of h).1) (ihy (and_true_of h).2)
  lnil := fun h => h
  cons := fun _ _ ihe ihl h => and_true' (ihe (and_true_of h).1) (ihl (and_true_of h).2)

theorem arOK_subst (env : List (Bytes × Expr)) (henv : ∀ kv ∈ env, arOK kv.2 = true) :
    ∀ e : Expr, arOK e = true → arOK (substExpr env e) = true := (arOK_subst_alg env henv).expr

theorem arOKL_subst (env : List (Bytes × Expr)) (henv : ∀ kv ∈ env, arOK kv.2 = true) :
    ∀ l : ExprList, arOKL l = true → arOKL (substList env l) = true := (arOK_subst_alg env henv).list

def EnvOK (env : List (Bytes × Expr)) : Prop := ∀ kv ∈ env, fullE kv.2

theorem fullE_subst {env : List (Bytes × Expr)} (henv : EnvOK env) {e : Expr} (h : fullE e) :
    fullE (substExpr env e) :=
  ⟨sOK_subst env (fun kv hk => (henv kv hk).1) e h.1,
   leaves_subst tokP env (fun kv hk => (henv kv hk).2.1) e h.2.1,
   noKw_subst env (fun kv hk => (henv kv hk).2.2.1) e h.2.2.1,
   arOK_subst env (fun kv hk => (henv kv hk).2.2.2) e h.2.2.2⟩

theorem fullE_paren {v : Expr} (h : fullE v) : fullE (.paren .zero v .zero) := by
  obtain ⟨h1, h2, h3, h4⟩ := h
  exact ⟨by simpa [sOK] using h1, by simpa [leavesE] using h2, by simpa [exprHasKeywordFn] using h3,
    by simpa [arOK] using h4⟩

def fullL' (l : ExprList) : Prop :=
  sOKList l = true ∧ leavesL tokP l = true ∧ listHasKeywordFn l = false ∧ arOKL l = true

theorem exprOK_ne_nil {e : Expr} (h : exprOK e = true) : e ≠ .nil := by
  rintro rfl
  simp [exprOKin, Expr.lexOK] at h

theorem projColOK_of_exprOK {c : Column} (h : exprOK c.x = true) : projColOK c = true := by
  unfold projColOK
  split
  · next hx => exact absurd hx (exprOK_ne_nil h)
  · exact h

theorem substColumn_x {env : List (Bytes × Expr)} {c : Column} (h : c.x ≠ .nil) :
    (substColumn env c).x = substExpr env c.x := by
  unfold substColumn
  split
  · next hx _ => exact absurd hx h
  · rfl

theorem colOK_subst {env : List (Bytes × Expr)} (henv : EnvOK env) {c : Column} (h : fullE c.x) :
    colOK (substColumn env c) = true := by
  have hne : c.x ≠ .nil := by
    intro hx; have := h.1; rw [hx] at this; simp [sOK] at this
  unfold colOK
  rw [substColumn_x hne]
  exact exprOKin_of_full false (fullE_subst henv h)

theorem projColOK_subst {env : List (Bytes × Expr)} (henv : EnvOK env) {c : Column}
    (hc : projColOK c = true) (h : c.x = .nil ∨ fullE c.x) : projColOK (substColumn env c) = true := by
  by_cases hx : c.x = .nil
  · unfold substColumn
    split
    · next n _ hn =>
      split
      · next v hf =>
        split
        · exact hc
        · apply projColOK_of_exprOK
          exact exprOKin_of_full false (fullE_paren (henv _ (List.mem_of_find?_eq_some hf)))
      · exact hc
    · next hno =>
      -- `c.x = .nil` and no name: excluded by `projColOK c`
      unfold projColOK at hc
      rw [hx] at hc
      simp only at hc
      cases hn : c.name with
      | none => rw [hn] at hc; cases hc
      | some n => exact absurd hn (fun h' => hno n hx h')
  · have hf : fullE c.x := h.resolve_left hx
    apply projColOK_of_exprOK
    rw [substColumn_x hx]
    exact exprOKin_of_full false (fullE_subst henv hf)

theorem condsOK_substConds {env : List (Bytes × Expr)} (henv : EnvOK env) : ∀ l : ExprList,
    sOKList l = true → leavesL tokP l = true → listHasKeywordFn l = false → arOKL l = true →
    condsOK (substConds env l) = true
  | .nil, _, _, _, _ => rfl
  | .cons e es, h1, h2, h3, h4 => by
    simp only [sOKList, Bool.and_eq_true] at h1
    simp only [leavesL, Bool.and_eq_true] at h2
    simp only [listHasKeywordFn, Bool.or_eq_false_iff] at h3
    simp only [arOKL, Bool.and_eq_true] at h4
    simp only [substConds, condsOK, Bool.and_eq_true]
    refine ⟨?_, condsOK_substConds henv es h1.2 h2.2 h3.2 h4.2⟩
    have hf : fullE e := ⟨h1.1, h2.1, h3.1, h4.1⟩
    unfold substCond
    split
    · exact exprOKin_of_full true hf
    · exact exprOKin_of_full true (fullE_subst henv hf)

theorem all_map_of {α : Type} {f : α → α} {p : α → Bool} {l : List α} (h : ∀ x ∈ l, p (f x) = true) :
    (l.map f).all p = true :=
  List.all_eq_true.2 fun _ hy => by
    obtain ⟨x, hx, rfl⟩ := List.mem_map.1 hy
    exact h x hx

theorem tabularOK_subst_alg {env : List (Bytes × Expr)} (henv : EnvOK env) : TreeAlg
    (fun t => tabularOK t = true → TabAll fullE fullL' t → tabularOK (substTabular env t) = true)
    (fun o => opOK1 o = true → OpAll fullE fullL' o → opOK1 (substOp env o) = true)
    (fun ops => opsOK ops = true → OpsAll fullE fullL' ops → opsOK (substOps env ops) = true) where
  tnil := fun _ _ => rfl
  tmk := fun _ _ ih => ih
  onil := fun _ _ => rfl
  cons := fun _ _ iho ihl h ha =>
    and_true' (iho (and_true_of h).1 ha.1) (ihl (and_true_of h).2 ha.2)
  count := fun _ _ h _ => h
  where_ := fun _ _ _ _ ha => exprOKin_of_full false (fullE_subst henv ha)
  sort := fun _ _ _ h ha =>
    and_true' (by simpa using (and_true_of h).1)
      (all_map_of fun t ht => exprOKin_of_full false (fullE_subst henv (ha t ht)))
  take := fun _ _ _ _ ha => exprOKin_of_full false (fullE_subst henv ha)
  top := fun _ _ _ _ c _ ha => and_true' (exprOKin_of_full false (fullE_subst henv ha.1)) (by
    cases c with
    | none => rfl
    | some t => exact exprOKin_of_full false (fullE_subst henv (ha.2 t rfl)))
  project := fun _ _ _ h ha =>
    and_true' (by simpa using (and_true_of h).1)
      (all_map_of fun c hc => projColOK_subst henv (List.all_eq_true.1 (and_true_of h).2 c hc) (ha c hc))
  extend := fun _ _ _ _ ha => all_map_of fun c hc => colOK_subst henv (ha c hc)
  summarize := fun _ _ _ _ _ h ha =>
    and_true' (and_true' (by simpa using (and_true_of (and_true_of h).1).1)
      (all_map_of fun c hc => colOK_subst henv (ha.1 c hc))) (all_map_of fun c hc => colOK_subst henv (ha.2 c hc))
  join := fun _ _ _ _ _ _ _ _ _ conds ih h ha =>
    and_true' (ih (and_true_of h).1 ha.1)
      (condsOK_build _ (condsOK_substConds henv conds ha.2.1 ha.2.2.1 ha.2.2.2.1 ha.2.2.2.2))
  as_ := fun _ _ _ h _ => h
  render := fun _ _ _ _ _ _ _ h _ => h

theorem tabularOK_subst {env : List (Bytes × Expr)} (henv : EnvOK env) : ∀ t : Tabular,
    tabularOK t = true → TabAll fullE fullL' t → tabularOK (substTabular env t) = true :=
  (tabularOK_subst_alg henv).tabular

theorem opsOK_subst {env : List (Bytes × Expr)} (henv : EnvOK env) : ∀ ops : OpList,
    opsOK ops = true → OpsAll fullE fullL' ops → opsOK (substOps env ops) = true :=
  (tabularOK_subst_alg henv).ops

theorem opOK1_subst {env : List (Bytes × Expr)} (henv : EnvOK env) : ∀ o : Op,
    opOK1 o = true → OpAll fullE fullL' o → opOK1 (substOp env o) = true :=
  (tabularOK_subst_alg henv).op

/-- what an error-free parse of a K4-free program gives for each statement (Props/C05Parsed.lean) -/
def StmtFacts (s : Stmt) : Prop :=
  s.Good ∧
  StmtAll (fun e => (sOK e = true ∧ leavesE tokP e = true) ∧ exprHasKeywordFn e = false)
    (fun l => ((sOKList l = true ∧ l.length ≠ 0) ∧ leavesL tokP l = true) ∧ listHasKeywordFn l = false) s ∧
  (∀ t, s = .tabular t → TabNE t = true)

theorem resolveLets_tabularOK : ∀ (stmts : List Stmt) (env : List (Bytes × Expr)) (bound : List Bytes),
    EnvOK env → (∀ s ∈ stmts, StmtFacts s) → Misuse.misuseStmts stmts bound 0 = false →
    ∀ q, resolveLets stmts env = some q → tabularOK q = true
  | [], _, _, _, _, _, q, hq => by simp [resolveLets] at hq
  | .tabular t :: rest, env, bound, henv, hf, hm, q, hq => by
    simp only [resolveLets, Option.some.injEq] at hq
    subst hq
    simp only [Misuse.misuseStmts, ge_iff_le, Nat.le_zero_eq, Nat.succ_ne_zero, if_false,
      Bool.or_eq_false_iff] at hm
    obtain ⟨hg, h2, hne⟩ := hf _ List.mem_cons_self
    have h4 := tabAll_notBad bound t hm.1
    have hfull : TabAll fullE fullL' t := by
      refine TabAll.imp ?_ ?_ t (TabAll.and t h2 h4)
      · rintro e ⟨⟨⟨h1, h2⟩, h3⟩, h4⟩; exact ⟨h1, h2, h3, h4⟩
      · rintro l ⟨⟨⟨⟨h1, _⟩, h2⟩, h3⟩, h4⟩; exact ⟨h1, h2, h3, h4⟩
    have hall : TabAll (fun e => exprOK e = true) (fun l => condsOK l = true) t := by
      refine TabAll.imp ?_ ?_ t hfull
      · intro e he; exact exprOKin_of_full false he
      · rintro l ⟨h1, h2, h3, h4⟩; exact condsOK_of_full l h1 h2 h3 h4
    exact tabularOK_subst henv t (tabularOK_of t hg hall (hne t rfl)) hfull
  | .let_ _ none _ _ :: _, _, _, _, _, _, q, hq => by simp [resolveLets] at hq
  | .let_ kw (some n) a x :: rest, env, bound, henv, hf, hm, q, hq => by
    simp only [resolveLets] at hq
    simp only [Misuse.misuseStmts, ge_iff_le, Nat.le_zero_eq, Nat.succ_ne_zero, if_false,
      Bool.or_eq_false_iff] at hm
    obtain ⟨_, h2, _⟩ := hf _ List.mem_cons_self
    have hx : fullE x := ⟨h2.1.1, h2.1.2, h2.2, arOK_of_notBad _ _ x hm.1⟩
    have henv' : EnvOK ((n.name, substExpr env x) :: env) := by
      intro kv hkv
      rcases List.mem_cons.1 hkv with rfl | hkv
      · exact fullE_subst henv hx
      · exact henv kv hkv
    exact resolveLets_tabularOK rest _ _ henv' (fun s hs => hf s (List.mem_cons_of_mem _ hs)) hm.2 q hq

end Pql.ParsedOK
