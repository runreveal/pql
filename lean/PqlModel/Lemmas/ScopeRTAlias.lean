/-
ParseRoundtrip under a scope: `envJoinSafe` from the names alone.  A let value is written in
let mode, where every identifier must be a bound name or `true` / `false` / `null`; so the resolved
value of a let mentions `$left` / `$right` only if an earlier let is so called (or the value contains
an operator the writer does not handle — then it has no translation).
-/
import PqlModel.Lemmas.ScopeRTLets
namespace Pql.RT
set_option linter.unusedSectionVars false
open Pql Sql CompileOracle

def scopeNamesSafe (scope : Scope) : Bool :=
  scope.all fun kv => !(kv.1 == leftAlias) && !(kv.1 == rightAlias)

section
variable {src : Bytes} {scope : Scope} {env : List (Bytes × Expr)} {a : Bytes}

abbrev IdsInv (env : List (Bytes × Expr)) (a : Bytes) (e : Expr) (_ : List Chunk) : Prop :=
  ∀ w, tr false (substExpr env e) = some w → IdsFree a (exprIdents (substExpr env e))

theorem two_ids {x y : Expr} {j : Bool} {k : SExpr → SExpr → Option SExpr} {w : SExpr}
    (ihx : ∀ w, tr j (substExpr env x) = some w → IdsFree a (exprIdents (substExpr env x)))
    (ihy : ∀ w, tr j (substExpr env y) = some w → IdsFree a (exprIdents (substExpr env y)))
    (h : (do let p ← tr j (substExpr env x); let q ← tr j (substExpr env y); k p q) = some w) :
    IdsFree a (exprIdents (substExpr env x) ++ exprIdents (substExpr env y)) := by
  obtain ⟨wx, hwx, h⟩ := obind_some h
  obtain ⟨wy, hwy, _⟩ := obind_some h
  exact IdsFree.append.mpr ⟨ihx wx hwx, ihy wy hwy⟩

theorem bin_ids {x y : Expr} {sp : Span} {op : TokKind} {xs ys cs : List Chunk} (ihx : IdsInv env a x xs)
    (ihy : IdsInv env a y ys) : IdsInv env a (.binary x sp op y) cs := fun w h2 => by
  simp only [substExpr, tr] at h2
  simp only [substExpr, exprIdents]
  exact two_ids ihx ihy h2

theorem args_ids {es : ExprList} {as : List (List Chunk)} (h : Args (IdsInv env a) es as) :
    ∀ ws, trList false (substList env es) = some ws → IdsFree a (exprListIdents (substList env es)) := by
  induction h with
  | nil => intro _ _; simp only [substList, exprListIdents, IdsFree, List.any_nil]
  | cons he _ ih =>
    intro ws h2
    simp only [substList, trList] at h2
    obtain ⟨w, hw, h2⟩ := obind_some h2
    obtain ⟨ws', hws, _⟩ := obind_some h2
    simp only [substList, exprListIdents, IdsFree.append]
    exact ⟨he w hw, ih ws' hws⟩

variable (ha : builtinIdent a = none)
  (hsc : ∀ name sql, lookupScope scope name = some sql → (name == a) = false)
  (henv : ∀ kv ∈ env, IdsFree a (exprIdents kv.2))
include ha hsc henv

theorem name_ids (p : Ident) (hq : p.quoted = false) (hp : (p.name == a) = false) :
    IdsFree a (exprIdents (substExpr env (.qident [p]))) := by
  simp only [substExpr, hq, Bool.false_eq_true, if_false]
  cases hf : env.find? (·.1 == p.name) with
  | some kv => exact henv _ (List.mem_of_find?_eq_some hf)
  | none => simpa only [exprIdents, IdsFree, List.any_cons, List.any_nil, Bool.or_false] using hp

theorem idsCases : WriterCases ⟨src, scope, .let_⟩ (IdsInv env a) where
  nil := fun _ h2 => by simp [substExpr, tr] at h2
  paren := fun _ x _ _ ih w h2 => by
    simp only [substExpr, tr] at h2
    simp only [substExpr, exprIdents]
    exact ih w h2
  bound := fun p _ hq hl _ _ => name_ids ha hsc henv p hq (hsc _ _ hl)
  builtin := fun p sql hq _ hb _ _ => name_ids ha hsc henv p hq (by
    cases hpa : p.name == a with
    | false => rfl
    | true => rw [eq_of_beq hpa, ha] at hb; cases hb)
  cols := fun _ _ hm _ => absurd rfl hm
  num := fun _ _ _ _ => by simp only [substExpr, exprIdents, IdsFree, List.any_nil]
  str := fun _ _ _ _ => by simp only [substExpr, exprIdents, IdsFree, List.any_nil]
  litOther := fun _ _ _ _ _ _ _ => by simp only [substExpr, exprIdents, IdsFree, List.any_nil]
  unary := fun _ _ x _ ih w h2 => by
    simp only [substExpr, tr] at h2
    obtain ⟨wx, hwx, _⟩ := obind_some h2
    simp only [substExpr, exprIdents]
    exact ih wx hwx
  eqJoin := fun _ _ _ _ _ _ ihx ihy => bin_ids ihx ihy
  eq := fun _ _ _ _ _ _ ihx ihy => bin_ids ihx ihy
  ne := fun _ _ _ _ _ ihx ihy => bin_ids ihx ihy
  cieq := fun _ _ _ _ _ ihx ihy => bin_ids ihx ihy
  cine := fun _ _ _ _ _ ihx ihy => bin_ids ihx ihy
  plain := fun _ _ _ _ _ _ _ _ _ _ _ _ ihx ihy => bin_ids ihx ihy
  binOther := fun x sp op y h1 h2 h3 h4 hb w h => by
    simp only [substExpr] at h
    exact absurd h (tr_binOther h1 h2 h3 h4 hb w)
  inE := fun x _ _ vals _ _ _ ihx ihv w h2 => by
    simp only [substExpr, tr] at h2
    obtain ⟨wx, hwx, h2⟩ := obind_some h2
    obtain ⟨ws, hws, _⟩ := obind_some h2
    simp only [substExpr, exprIdents, IdsFree.append]
    exact ⟨ihx wx hwx, args_ids ihv ws hws⟩
  index := fun x _ i _ _ _ ihx ihi w h2 => by
    simp only [substExpr, tr] at h2
    simp only [substExpr, exprIdents]
    exact two_ids ihx ihi h2
  known := fun _ _ _ _ _ _ _ _ _ _ ihv _ w h2 => by
    simp only [substExpr, tr] at h2
    obtain ⟨ws, hws, _⟩ := obind_some h2
    simp only [substExpr, exprIdents]
    exact args_ids ihv ws hws
  passthrough := fun _ _ _ _ _ _ ihv w h2 => by
    simp only [substExpr, tr] at h2
    obtain ⟨ws, hws, _⟩ := obind_some h2
    simp only [substExpr, exprIdents]
    exact args_ids ihv ws hws

theorem let_value_idsFree (x : Expr) (cs : List Chunk) (w : SExpr)
    (h1 : writeExpr ⟨src, scope, .let_⟩ x = .ok cs) (h2 : tr false (substExpr env x) = some w) :
    IdsFree a (exprIdents (substExpr env x)) :=
  writeExpr_cases (idsCases ha hsc henv) x cs h1 w h2

theorem let_values_idsFree : (es : ExprList) → (as : List (List Chunk)) → (ws : SExprList) →
    writeList ⟨src, scope, .let_⟩ es = .ok as → trList false (substList env es) = some ws →
    IdsFree a (exprListIdents (substList env es)) :=
  fun es as ws h1 h2 => args_ids (writeList_cases (idsCases ha hsc henv) es as h1) ws h2

end

theorem builtin_left : builtinIdent leftAlias = none := by decide
theorem builtin_right : builtinIdent rightAlias = none := by decide

theorem envJoinSafe_of_names {src : Bytes} {scope : Scope} {env : List (Bytes × Expr)}
    (h : ScopeLetsEnv src scope env) (hn : scopeNamesSafe scope = true)
    (ht : ∀ kv ∈ env, (tr false kv.2).isSome = true) : envJoinSafe env = true := by
  induction h with
  | nil => rfl
  | @cons scope env n x cs hsc hok hshape hw ih =>
    simp only [scopeNamesSafe, List.all_cons, Bool.and_eq_true, Bool.not_eq_true'] at hn
    have hn' : scopeNamesSafe scope = true := hn.2
    have ih' := ih hn' (fun kv hkv => ht kv (List.mem_cons_of_mem _ hkv))
    obtain ⟨hl, hr⟩ := envJoinSafe_elim ih'
    have hsafe : ∀ (a : Bytes), (∀ kv ∈ scope, (kv.1 == a) = false) →
        ∀ name sql, lookupScope scope name = some sql → (name == a) = false := by
      intro a hall name sql hlk
      obtain ⟨kv, hkv, rfl, _⟩ := lookupScope_mem hlk
      exact hall kv hkv
    have hscL : ∀ kv ∈ scope, (kv.1 == leftAlias) = false := by
      intro kv hkv
      simp only [scopeNamesSafe, List.all_eq_true, Bool.and_eq_true, Bool.not_eq_true'] at hn'
      exact (hn' kv hkv).1
    have hscR : ∀ kv ∈ scope, (kv.1 == rightAlias) = false := by
      intro kv hkv
      simp only [scopeNamesSafe, List.all_eq_true, Bool.and_eq_true, Bool.not_eq_true'] at hn'
      exact (hn' kv hkv).2
    have hsome := ht (n, substExpr env x) List.mem_cons_self
    obtain ⟨w, hw'⟩ := Option.isSome_iff_exists.mp hsome
    have fl := let_value_idsFree builtin_left (hsafe leftAlias hscL) (fun kv hkv => (hl kv hkv).2) x cs w hw hw'
    have fr := let_value_idsFree builtin_right (hsafe rightAlias hscR) (fun kv hkv => (hr kv hkv).2) x cs w hw hw'
    unfold IdsFree at fl fr
    simp only [envJoinSafe, List.all_cons, Bool.and_eq_true, Bool.not_eq_true']
    exact ⟨⟨⟨⟨hn.1.1, hn.1.2⟩, fl⟩, fr⟩, ih'⟩

end Pql.RT
