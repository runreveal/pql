/-
The statement loop of `Compile` (`compileStmts`).  Before the query it goes through
named lets, each written in let mode under the scope built so far and consed onto it; it ends with
the list, or at the query, after which only lets may come and are skipped.
-/
import PqlModel.Model.Compile
namespace Pql

def IsLets (lets : List Stmt) : Prop := ∀ st ∈ lets, ∃ kw n a x, st = Stmt.let_ kw n a x

theorem IsLets.tail {st : Stmt} {rest : List Stmt} (h : IsLets (st :: rest)) : IsLets rest :=
  fun s hs => h s (List.mem_cons_of_mem _ hs)

theorem IsLets.not_tabular {t : Tabular} {rest : List Stmt} (h : IsLets (.tabular t :: rest)) : False := by
  obtain ⟨_, _, _, _, e⟩ := h _ List.mem_cons_self
  cases e

theorem IsLets.cons (kw : Span) (n : Option Ident) (a : Span) (x : Expr) {rest : List Stmt} (h : IsLets rest) :
    IsLets (.let_ kw n a x :: rest) := by
  intro s hs
  rcases List.mem_cons.mp hs with rfl | hs
  · exact ⟨kw, n, a, x, rfl⟩
  · exact h s hs

variable (src : Bytes)

theorem compileStmts_let (kw : Span) (name : Option Ident) (a : Span) (x : Expr) (rest : List Stmt)
    (scope : List (Bytes × List Chunk)) :
    compileStmts src (.let_ kw name a x :: rest) scope none =
      (writeExpr ⟨src, scope, .let_⟩ x).map (wrapTight x) >>= fun sql =>
        match name with
        | none => .error .panic
        | some n => compileStmts src rest ((n.name, sql) :: scope) none := by
  rw [compileStmts]
  cases (writeExpr ⟨src, scope, .let_⟩ x).map (wrapTight x) <;> rfl

theorem compileStmts_some_of_isLets (t : Tabular) (scope : List (Bytes × List Chunk)) :
    (lets : List Stmt) → IsLets lets → compileStmts src lets scope (some t) = .ok (scope, some t)
  | [], _ => rfl
  | st :: rest, h => by
    obtain ⟨kw, n, a, x, rfl⟩ := h st List.mem_cons_self
    exact compileStmts_some_of_isLets t scope rest h.tail

theorem compileStmts_some_ok {t : Tabular} {scope : List (Bytes × List Chunk)} :
    {stmts : List Stmt} → {r : List (Bytes × List Chunk) × Option Tabular} →
    compileStmts src stmts scope (some t) = .ok r → r = (scope, some t) ∧ IsLets stmts
  | [], _, h => by
    cases h
    exact ⟨rfl, fun _ hs => nomatch hs⟩
  | .tabular _ :: _, _, h => nomatch h
  | .let_ kw n a x :: rest, _, h =>
    have ih := compileStmts_some_ok (stmts := rest) h
    ⟨ih.1, ih.2.cons kw n a x⟩

theorem compileStmts_append (B : List Stmt) : (A : List Stmt) → (scope : List (Bytes × List Chunk)) →
    (q : Option Tabular) →
    compileStmts src (A ++ B) scope q = compileStmts src A scope q >>= fun r => compileStmts src B r.1 r.2
  | [], _, _ => rfl
  | .tabular t :: A, scope, none => compileStmts_append B A scope (some t)
  | .tabular _ :: _, _, some _ => rfl
  | .let_ _ _ _ _ :: A, scope, some t => compileStmts_append B A scope (some t)
  | .let_ _ name _ x :: A, scope, none => by
    simp only [List.cons_append, compileStmts]
    cases (writeExpr ⟨src, scope, .let_⟩ x).map (wrapTight x) with
    | error e => rfl
    | ok sql =>
      cases name with
      | none => rfl
      | some n => exact compileStmts_append B A _ none

theorem compileStmts_induct {motive : List Stmt → List (Bytes × List Chunk) → List (Bytes × List Chunk) × Option Tabular → Prop}
    (nil : ∀ scope, motive [] scope (scope, none))
    (query : ∀ {rest scope} t, IsLets rest → motive (.tabular t :: rest) scope (scope, some t))
    (let_ : ∀ {rest scope r} kw n a x cs, writeExpr ⟨src, scope, .let_⟩ x = .ok cs →
      motive rest ((n.name, wrapTight x cs) :: scope) r → motive (.let_ kw (some n) a x :: rest) scope r) :
    {stmts : List Stmt} → {scope : List (Bytes × List Chunk)} → {r : List (Bytes × List Chunk) × Option Tabular} →
    compileStmts src stmts scope none = .ok r → motive stmts scope r
  | [], scope, _, h => by
    cases h
    exact nil scope
  | .tabular t :: rest, scope, _, h => by
    obtain ⟨rfl, hl⟩ := compileStmts_some_ok src (stmts := rest) h
    exact query t hl
  | .let_ kw name a x :: rest, scope, r, h => by
    simp only [compileStmts] at h
    cases hw : writeExpr ⟨src, scope, .let_⟩ x with
    | error e => rw [hw] at h; cases h
    | ok cs =>
      rw [hw] at h
      cases name with
      | none => cases h
      | some n => exact let_ kw n a x cs hw (compileStmts_induct nil query let_ h)

theorem compileStmts_isLets_none {lets : List Stmt} (hl : IsLets lets) {scope : List (Bytes × List Chunk)}
    {r : List (Bytes × List Chunk) × Option Tabular} (h : compileStmts src lets scope none = .ok r) : r.2 = none :=
  compileStmts_induct src (motive := fun lets _ r => IsLets lets → r.2 = none)
    (fun _ _ => rfl) (fun _ _ hl => hl.not_tabular.elim)
    (fun _ _ _ _ _ _ ih hl => ih hl.tail) h hl

theorem compile_ok (params : List (Bytes × Bytes)) (src sql : Bytes) (h : compile params src = .ok sql) :
    parse src = ((parse src).1, []) ∧
    ∃ cs, compileChunks src params (parse src).1 = .ok cs ∧ sql = renderChunks cs := by
  unfold compile at h
  dsimp only at h
  split at h
  · cases h
  · rename_i he
    have he' : (parse src).2 = [] := by simpa using he
    refine ⟨by rw [← he'], ?_⟩
    split at h
    · rename_i cs hcs
      cases h
      exact ⟨cs, hcs, rfl⟩
    · cases h
    · cases h

theorem compile_ok_chunks {params : List (Bytes × Bytes)} (src sql : Bytes) (stmts : List Stmt)
    (hp : parse src = (stmts, [])) (hc : compile params src = .ok sql) :
    ∃ cs, compileChunks src params stmts = .ok cs ∧ sql = renderChunks cs := by
  obtain ⟨_, cs, hcs, e⟩ := compile_ok params src sql hc
  rw [hp] at hcs
  exact ⟨cs, hcs, e⟩

end Pql
