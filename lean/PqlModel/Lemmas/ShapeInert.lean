/-
Which names does `writeExpr` look at?  `keyName`: the join aliases `$left` / `$right`
(unquoted, or in any form inside a join condition, where `hasJoinTerms` compares names without
looking at the quoting) and, for an unquoted single-part name, the names bound in the scope and
the built-in constants.  A content map is *inert* on an expression when it fixes the key names
and maps no other name to a key name.
-/
import PqlModel.Lemmas.ShapeBasic
namespace Pql

def isAlias (n : Bytes) : Bool := n == leftAlias || n == rightAlias

def keyName (s : Scope) (m : Mode) (single : Bool) (p : Ident) : Bool :=
  (isAlias p.name && (!p.quoted || m == .join)) ||
  (single && !p.quoted && ((lookupScope s p.name).isSome || (builtinIdent p.name).isSome))

def inertPart (s : Scope) (m : Mode) (φ : CMap) (single : Bool) (p : Ident) : Bool :=
  if keyName s m single p then φ.fn p.name == p.name else !keyName s m single (φ.ident p)

mutual
def inertE (s : Scope) (m : Mode) (φ : CMap) : Expr → Bool
  | .nil => true
  | .qident parts => parts.all (inertPart s m φ (parts.length == 1))
  | .lit .. => true
  | .unary _ _ x => inertE s m φ x
  | .binary x _ _ y => inertE s m φ x && inertE s m φ y
  | .inE x _ _ vals _ => inertE s m φ x && inertL s m φ vals
  | .paren _ x _ => inertE s m φ x
  | .call _ _ args _ => inertL s m φ args
  | .index x _ idx _ => inertE s m φ x && inertE s m φ idx
def inertL (s : Scope) (m : Mode) (φ : CMap) : ExprList → Bool
  | .nil => true
  | .cons e es => inertE s m φ e && inertL s m φ es
end

def ScopeRel (R : List Chunk → List Chunk → Prop) (s s' : Scope) : Prop :=
  ∀ n, OptRel R (lookupScope s n) (lookupScope s' n)

theorem ScopeRel.nil (R : List Chunk → List Chunk → Prop) : ScopeRel R [] [] := fun _ => .none

theorem ScopeRel.isSome {R : List Chunk → List Chunk → Prop} {s s' : Scope} (h : ScopeRel R s s') (n : Bytes) :
    (lookupScope s' n).isSome = (lookupScope s n).isSome := by
  have := h n
  revert this
  generalize lookupScope s n = l1
  generalize lookupScope s' n = l2
  intro this
  cases this <;> rfl

theorem ScopeRel.cons {R : List Chunk → List Chunk → Prop} {s s' : Scope} (h : ScopeRel R s s')
    (n : Bytes) {v v' : List Chunk} (hv : R v v') : ScopeRel R ((n, v) :: s) ((n, v') :: s') := by
  intro k
  rw [lookupScope_cons, lookupScope_cons]
  dsimp only
  split
  · exact .some hv
  · exact h k

theorem keyName_scopeRel {R : List Chunk → List Chunk → Prop} {s s' : Scope} (h : ScopeRel R s s')
    (m : Mode) (single : Bool) (p : Ident) : keyName s' m single p = keyName s m single p := by
  simp only [keyName, h.isSome]

theorem ScopeRel.map {φ : CMap} {R : List Chunk → List Chunk → Prop} (hR : MapCong φ R) :
    (s : Scope) → ScopeRel R s (s.map fun kv => (kv.1, kv.2.map (Chunk.mapC φ)))
  | [] => ScopeRel.nil R
  | (n, v) :: s => by
    simp only [List.map_cons]
    exact (ScopeRel.map hR s).cons n (hR.map v)

section
variable {s : Scope} {m : Mode} {φ : CMap} {single : Bool} {p : Ident}

theorem inertPart_key (h : inertPart s m φ single p = true) (hk : keyName s m single p = true) :
    φ.fn p.name = p.name := by
  simp only [inertPart, hk, if_true, beq_iff_eq] at h
  exact h

theorem inertPart_notKey (h : inertPart s m φ single p = true) (hk : keyName s m single p = false) :
    keyName s m single (φ.ident p) = false := by
  simp only [inertPart, hk, Bool.false_eq_true, if_false, Bool.not_eq_true'] at h
  exact h

theorem inertPart_pred (h : inertPart s m φ single p = true) (P : Bytes → Bool → Bool)
    (hP : ∀ q, keyName s m single q = false → P q.name q.quoted = false) :
    P (φ.ident p).name (φ.ident p).quoted = P p.name p.quoted := by
  cases hk : keyName s m single p with
  | true => simp only [CMap.ident_name, CMap.ident_quoted, inertPart_key h hk]
  | false => rw [hP _ (inertPart_notKey h hk), hP _ hk]

end

theorem keyName_false_alias {s : Scope} {m : Mode} {single : Bool} {q : Ident}
    (h : keyName s m single q = false) :
    (isAlias q.name && (!q.quoted || m == .join)) = false := by
  simp only [keyName, Bool.or_eq_false_iff] at h
  exact h.1

/-- the `$left` / `$right` outside a join check of `writeExpr` -/
theorem inertPart_aliasErr {s : Scope} {m : Mode} {φ : CMap} {single : Bool} {p : Ident}
    (h : inertPart s m φ single p = true) :
    aliasErr m (φ.ident p) = aliasErr m p := by
  refine inertPart_pred h (fun n q => !q && (n == leftAlias || n == rightAlias) && decide (m ≠ .join)) ?_
  intro q hq
  have := keyName_false_alias hq
  simp only [isAlias] at this
  cases hquo : q.quoted <;> cases hal : (q.name == leftAlias || q.name == rightAlias) <;>
    cases m <;> simp_all

theorem inertPart_isName {s : Scope} {φ : CMap} {single : Bool} {p : Ident}
    (h : inertPart s .join φ single p = true) (a : Bytes) (ha : isAlias a = true) :
    ((φ.ident p).name == a) = (p.name == a) := by
  refine inertPart_pred h (fun n _ => n == a) ?_
  intro q hq
  have := keyName_false_alias hq
  simp only [beq_self_eq_true, Bool.or_true, Bool.and_true] at this
  cases hqa : q.name == a with
  | false => rfl
  | true =>
    rw [beq_iff_eq] at hqa
    rw [hqa, ha] at this
    exact absurd this (by decide)

mutual
theorem exprIdents_mapE (φ : CMap) : (e : Expr) → exprIdents (mapE φ e) = (exprIdents e).map φ.ident
  | .nil | .qident _ | .lit .. => by simp only [mapE, exprIdents, List.map_nil]
  | .unary _ _ x | .paren _ x _ => by simp only [mapE, exprIdents, exprIdents_mapE φ x]
  | .binary x _ _ y | .index x _ y _ => by
    simp only [mapE, exprIdents, exprIdents_mapE φ x, exprIdents_mapE φ y, List.map_append]
  | .inE x _ _ vals _ => by
    simp only [mapE, exprIdents, exprIdents_mapE φ x, exprListIdents_mapL φ vals, List.map_append]
  | .call _ _ args _ => by simp only [mapE, exprIdents, exprListIdents_mapL φ args]
theorem exprListIdents_mapL (φ : CMap) : (es : ExprList) → exprListIdents (mapL φ es) = (exprListIdents es).map φ.ident
  | .nil => by simp only [mapL, exprListIdents, List.map_nil]
  | .cons e es => by
    simp only [mapL, exprListIdents, exprIdents_mapE φ e, exprListIdents_mapL φ es, List.map_append]
end

def inertAny (s : Scope) (m : Mode) (φ : CMap) (p : Ident) : Prop :=
  ∃ single, inertPart s m φ single p = true

mutual
theorem inertE_idents {s : Scope} {m : Mode} {φ : CMap} :
    (e : Expr) → inertE s m φ e = true → ∀ p ∈ exprIdents e, inertAny s m φ p
  | .nil, _ | .lit .., _ => by simp [exprIdents]
  | .qident parts, h => by
    simp only [inertE, List.all_eq_true] at h
    exact fun p hp => ⟨_, h p hp⟩
  | .unary _ _ x, h | .paren _ x _, h => by
    simp only [inertE] at h
    simpa only [exprIdents] using inertE_idents x h
  | .binary x _ _ y, h | .index x _ y _, h => by
    simp only [inertE, Bool.and_eq_true] at h
    exact List.forall_mem_append.2 ⟨inertE_idents x h.1, inertE_idents y h.2⟩
  | .inE x _ _ vals _, h => by
    simp only [inertE, Bool.and_eq_true] at h
    exact List.forall_mem_append.2 ⟨inertE_idents x h.1, inertL_idents vals h.2⟩
  | .call _ _ args _, h => by
    simp only [inertE] at h
    simpa only [exprIdents] using inertL_idents args h
theorem inertL_idents {s : Scope} {m : Mode} {φ : CMap} :
    (es : ExprList) → inertL s m φ es = true → ∀ p ∈ exprListIdents es, inertAny s m φ p
  | .nil, _ => by simp [exprListIdents]
  | .cons e es, h => by
    simp only [inertL, Bool.and_eq_true] at h
    exact List.forall_mem_append.2 ⟨inertE_idents e h.1, inertL_idents es h.2⟩
end

theorem any_map_congr {α : Type} (f : α → α) (P : α → Bool) :
    (l : List α) → (∀ p ∈ l, P (f p) = P p) → (l.map f).any P = l.any P
  | [], _ => rfl
  | a :: l, h => by
    simp only [List.map_cons, List.any_cons]
    rw [h a (List.mem_cons_self ..), any_map_congr f P l fun p hp => h p (List.mem_cons_of_mem _ hp)]

theorem hasJoinTerms_mapE {s : Scope} {φ : CMap} (e : Expr) (h : inertE s .join φ e = true) :
    hasJoinTerms (mapE φ e) = hasJoinTerms e := by
  have hall := inertE_idents e h
  simp only [hasJoinTerms, exprIdents_mapE]
  rw [any_map_congr, any_map_congr]
  · intro p hp
    obtain ⟨single, hi⟩ := hall p hp
    exact inertPart_isName hi rightAlias (by decide)
  · intro p hp
    obtain ⟨single, hi⟩ := hall p hp
    exact inertPart_isName hi leftAlias (by decide)

end Pql
