/-
C08 (`parseTokens_acc`) says that the `unparse` of every statement of an error-free parse accounts
for a group of tokens of the scan.  Hence every number / string literal and every function name
of the tree carries the kind and value of a token (`leavesE P`: they satisfy any predicate `P`
on kind and value that all tokens satisfy), and the lists the grammar needs non-empty are
non-empty (`TabNE`: sort terms, project columns, summarize columns-or-groups, join conditions).

The way from a statement down to its expression positions is walked once (`unparse_alg`, the clauses
of `UnparseAlg`; `stmt_unparse`): each position unparses to a contiguous part of the statement's
tokens, so it inherits whatever passes to such parts (`SubClosed`): here that the plain tokens
satisfy `P` (`UOK P`), in Lemmas/GlueAcc.lean that the tokens account, with positions, for tokens of
the scan.
-/
import PqlModel.Lemmas.AccountedStmt
import PqlModel.Lemmas.AccountedScan
import PqlModel.Lemmas.SpanExtentTidy
import PqlModel.Lemmas.ParsedOKLift
import PqlModel.Lemmas.UnparseInduct
namespace Pql.ParsedOK
open Pql Grammar

abbrev LP := TokKind → Bytes → Bool

def identKind (i : Ident) : TokKind := if i.quoted then .qident else .ident

mutual
def leavesE (P : LP) : Expr → Bool
  | .nil => true
  | .qident _ => true
  | .lit _ k v => P k v
  | .unary _ _ x => leavesE P x
  | .binary x _ _ y => leavesE P x && leavesE P y
  | .inE x _ _ vals _ => leavesE P x && leavesL P vals
  | .paren _ x _ => leavesE P x
  | .call fn _ args _ => P (identKind fn) fn.name && leavesL P args
  | .index x _ idx _ => leavesE P x && leavesE P idx
def leavesL (P : LP) : ExprList → Bool
  | .nil => true
  | .cons e es => leavesE P e && leavesL P es
end

/-- all plain (non-keyword) tokens of an `unparse` satisfy `P` -/
def UOK (P : LP) (us : List UTok) : Prop := ∀ u ∈ us, u.alts = [] → P u.kind u.value = true

theorem UOK.mono {P : LP} {a b : List UTok} (h : UOK P b) (hs : ∀ u ∈ a, u ∈ b) : UOK P a :=
  fun u hu => h u (hs u hu)

def SubClosed (I : List UTok → Prop) : Prop := ∀ a m b, I (a ++ m ++ b) → I m

def USeg (I : List UTok → Prop) (e : Expr) : Prop := ∃ us, unparseExpr e = some us ∧ I us
def USegL (I : List UTok → Prop) (l : ExprList) : Prop := ∃ us, unparseExprList l = some us ∧ I us

theorem listM_mem {α β : Type} (f : α → Option β) : ∀ (xs : List α) (ys : List β), listM f xs = some ys →
    ∀ x ∈ xs, ∃ y ∈ ys, f x = some y
  | [], _, _, _, hx => by cases hx
  | x :: xs, ys, h, x', hx => by
    simp only [listM, Option.bind_eq_bind, Option.pure_def, Option.bind_eq_some_iff,
      Option.some.injEq] at h
    obtain ⟨y, hy, ys', hys, rfl⟩ := h
    rcases List.mem_cons.1 hx with rfl | hx
    · exact ⟨y, by simp, hy⟩
    · obtain ⟨y', hy', hf⟩ := listM_mem f xs ys' hys x' hx
      exact ⟨y', List.mem_cons_of_mem _ hy', hf⟩

section
variable {I : List UTok → Prop} (hI : SubClosed I)
include hI

theorem SubClosed.left {a b : List UTok} (h : I (a ++ b)) : I a :=
  hI [] a b (by simpa using h)

theorem SubClosed.right {a b : List UTok} (h : I (a ++ b)) : I b :=
  hI a b [] (by simpa using h)

theorem SubClosed.tail {u : UTok} {us : List UTok} (h : I (u :: us)) : I us :=
  hI.right (a := [u]) h

theorem sortTerm_unparse (t : SortTerm) (us : List UTok) (h : unparseSortTerm t = some us)
    (hu : I us) : USeg I t.x := by
  simp only [unparseSortTerm, Option.bind_eq_bind, Option.pure_def, Option.bind_eq_some_iff,
    Option.some.injEq] at h
  obtain ⟨xs, hx, rfl⟩ := h
  exact ⟨xs, hx, hI.left (hI.left hu)⟩

/-- only a `project` column can do without its expression -/
theorem column_unparse (b : Bool) (c : Column) (us : List UTok) (h : unparseColumn b c = some us)
    (hu : I us) : (b = true ∧ c.x = .nil) ∨ USeg I c.x :=
  unparseColumn_cases (P := fun c us => I us → (b = true ∧ c.x = .nil) ∨ USeg I c.x)
    (fun _ _ _ xs _ hx hu => Or.inr ⟨xs, hx, hI.tail (hI.tail hu)⟩) (fun _ _ hb _ _ => Or.inl ⟨hb, rfl⟩)
    (fun _ _ xs _ _ hx hu => Or.inr ⟨xs, hx, hu⟩) c us h hu

theorem sepList_unparse {α : Type} (f : α → Option (List UTok)) (E : α → Prop)
    (hf : ∀ x us, f x = some us → I us → E x)
    (xs : List α) (ys : List (List UTok)) (h : listM f xs = some ys) : I (Grammar.sepBy commaTok ys) →
    ∀ x ∈ xs, E x :=
  sepList_induct (P := fun xs us => I us → ∀ x ∈ xs, E x) (fun _ _ h => nomatch h)
    (fun x us hx hu _ hx' => List.mem_singleton.1 hx' ▸ hf x us hx hu)
    (fun x _ _ us _ hx ih hu x' hx' =>
      (List.mem_cons.1 hx').elim (fun e => e ▸ hf x us hx (hI.left hu)) (ih (hI.tail (hI.right hu)) x'))
    xs ys h

theorem columns_unparse (cs : List Column) (ys : List (List UTok)) (h : listM (unparseColumn false) cs = some ys)
    (hu : I (Grammar.sepBy commaTok ys)) : ∀ c ∈ cs, USeg I c.x :=
  sepList_unparse hI (unparseColumn false) (fun c => USeg I c.x)
    (fun c us h hu => (column_unparse hI false c us h hu).resolve_left (by simp)) cs ys h hu

/-- **Every expression position of a tree that unparses does so itself**, to a contiguous part of
    the tokens of the tree: whatever passes to the parts of a token list passes to them. -/
theorem unparse_alg : UnparseAlg (fun t us => I us → TabAll (USeg I) (USegL I) t)
    (fun o us => I us → OpAll (USeg I) (USegL I) o) (fun ops us => I us → OpsAll (USeg I) (USegL I) ops) where
  tmk := fun _ _ _ _ ih hu => ih (hI.tail hu)
  onil := fun _ => trivial
  cons := fun _ _ _ _ _ _ iho ihl hu => ⟨iho (hI.left hu), ihl (hI.right hu)⟩
  count := fun _ _ _ => trivial
  where_ := fun _ _ _ xs hx hu => ⟨xs, hx, hI.tail (hI.tail hu)⟩
  sort := fun _ _ ts tss _ h hu =>
    sepList_unparse hI unparseSortTerm (fun t => USeg I t.x) (sortTerm_unparse hI) ts tss h
      (hI.tail (hI.tail (hI.tail hu)))
  take := fun _ _ _ xs hx hu => ⟨xs, hx, hI.tail (hI.tail hu)⟩
  top := fun _ _ _ _ col xs cs hx hcs hu =>
    ⟨⟨xs, hx, hI.tail (hI.tail (hI.left hu))⟩,
      fun _ ht => Option.some.inj ht ▸ sortTerm_unparse hI col cs hcs (hI.tail (hI.right hu))⟩
  project := fun _ _ cs css _ h hu =>
    sepList_unparse hI (unparseColumn true) (fun c => c.x = .nil ∨ USeg I c.x)
      (fun c us h hu => (column_unparse hI true c us h hu).imp_left (·.2)) cs css h (hI.tail (hI.tail hu))
  extend := fun _ _ cs css _ h hu => columns_unparse hI cs css h (hI.tail (hI.tail hu))
  summarize := fun _ _ cs _ css _ h _ hu =>
    ⟨columns_unparse hI cs css h (hI.tail (hI.tail hu)), fun _ hc => nomatch hc⟩
  summarizeBy := fun _ _ cs _ gs css gss _ hc hg _ hu =>
    ⟨columns_unparse hI cs css hc (hI.tail (hI.tail (hI.left hu))),
      columns_unparse hI gs gss hg (hI.tail (hI.right hu))⟩
  join := fun _ _ _ _ _ _ _ _ _ _ cs _ ih hcs _ _ _ hu =>
    ⟨ih (hI.tail (hI.tail (hI.tail (hI.left hu)))), cs, hcs, hI.tail (hI.tail (hI.right hu))⟩
  joinKind := fun _ _ _ _ _ _ _ _ _ _ _ cs _ ih hcs _ hu =>
    ⟨ih (hI.tail (hI.tail (hI.tail (hI.tail (hI.tail (hI.tail (hI.left hu))))))), cs, hcs,
      hI.tail (hI.tail (hI.right hu))⟩
  as_ := fun _ _ _ _ => trivial
  render := fun _ _ _ _ _ _ _ _ => trivial
  renderWith := fun _ _ _ _ _ _ _ _ _ _ _ _ => trivial

theorem stmt_unparse (s : Stmt) (us : List UTok) (h : unparseStmt s = some us) : I us →
    StmtAll (USeg I) (USegL I) s :=
  unparseStmt_cases (P := fun s us => I us → StmtAll (USeg I) (USegL I) s)
    (fun _ _ _ _ xs hx hu => ⟨xs, hx, hI.tail (hI.tail (hI.tail hu))⟩) (unparse_alg hI).tabular s us h

end

section
variable (P : LP)

theorem leaves_alg : UnparseExprAlg (fun e us => UOK P us → leavesE P e = true)
    (fun l us => UOK P us → leavesL P l = true) where
  qident := fun _ _ _ => rfl
  lit := fun _ _ _ hu => by simpa [leavesE] using hu _ (List.mem_singleton.2 rfl) rfl
  unary := fun _ _ _ _ ih hu => ih (hu.mono fun u h => by simp [h])
  binary := fun _ _ _ _ _ _ ihx ihy hu =>
    and_true' (ihx (hu.mono fun u h => by simp [h])) (ihy (hu.mono fun u h => by simp [h]))
  inE := fun _ _ _ _ _ _ _ ihx ihl hu =>
    and_true' (ihx (hu.mono fun u h => by simp [h])) (ihl (hu.mono fun u h => by simp [h]))
  paren := fun _ _ _ _ ih hu => ih (hu.mono fun u h => by simp [h])
  call := fun fn _ _ _ _ ihl hu =>
    and_true' (by simpa [identTok, identKind] using hu (identTok fn) (by simp) rfl)
      (ihl (hu.mono fun u h => by simp [h]))
  index := fun _ _ _ _ _ _ ihx ihi hu =>
    and_true' (ihx (hu.mono fun u h => by simp [h])) (ihi (hu.mono fun u h => by simp [h]))
  lnil := fun _ => rfl
  one := fun _ _ ih hu => and_true' (ih hu) rfl
  cons := fun _ _ _ _ _ ihe ihl hu =>
    and_true' (ihe (hu.mono fun u h => by simp [h])) (ihl (hu.mono fun u h => by simp [h]))

theorem leavesE_of_unparse : ∀ (e : Expr) (us : List UTok), unparseExpr e = some us → UOK P us →
    leavesE P e = true := (leaves_alg P).expr

theorem leavesL_of_unparse : ∀ (l : ExprList) (us : List UTok), unparseExprList l = some us → UOK P us →
    leavesL P l = true := (leaves_alg P).list

abbrev LE (P : LP) : Expr → Prop := fun e => leavesE P e = true
abbrev LL (P : LP) : ExprList → Prop := fun l => leavesL P l = true

theorem UOK.subClosed : SubClosed (UOK P) :=
  fun _ _ _ h => h.mono fun u hu => by simp [hu]

theorem leaves_of_useg (e : Expr) : USeg (UOK P) e → LE P e :=
  fun ⟨us, h, hu⟩ => leavesE_of_unparse P e us h hu

theorem leavesL_of_useg (l : ExprList) : USegL (UOK P) l → LL P l :=
  fun ⟨us, h, hu⟩ => leavesL_of_unparse P l us h hu

theorem ops_of_unparse : ∀ (ops : OpList) (us : List UTok), unparseOps ops = some us → UOK P us →
    OpsAll (LE P) (LL P) ops := fun ops us h hu =>
  OpsAll.imp (leaves_of_useg P) (leavesL_of_useg P) ops ((unparse_alg (UOK.subClosed P)).ops ops us h hu)

theorem op_of_unparse : ∀ (o : Op) (us : List UTok), unparseOp o = some us → UOK P us →
    OpAll (LE P) (LL P) o := fun o us h hu =>
  OpAll.imp (leaves_of_useg P) (leavesL_of_useg P) o ((unparse_alg (UOK.subClosed P)).op o us h hu)

theorem stmt_of_unparse (s : Stmt) (us : List UTok) (h : unparseStmt s = some us) (hu : UOK P us) :
    StmtAll (LE P) (LL P) s :=
  StmtAll.imp (leaves_of_useg P) (leavesL_of_useg P) s (stmt_unparse (UOK.subClosed P) s us h hu)

end

mutual
def TabNE : Tabular → Bool
  | .nil => true
  | .mk _ ops => OpsNE ops
def OpNE : Op → Bool
  | .sort _ _ ts => !ts.isEmpty
  | .project _ _ cs => !cs.isEmpty
  | .summarize _ _ cs _ gs => !(gs ++ cs).isEmpty
  | .join _ _ _ _ _ _ right _ _ conds => TabNE right && conds.length != 0
  | _ => true
def OpsNE : OpList → Bool
  | .nil => true
  | .cons o os => OpNE o && OpsNE os
end

theorem ne_alg : UnparseAlg (fun t _ => TabNE t = true) (fun o _ => OpNE o = true)
    (fun ops _ => OpsNE ops = true) where
  tmk := fun _ _ _ _ ih => ih
  onil := rfl
  cons := fun _ _ _ _ _ _ iho ihl => by simp only [OpsNE, iho, ihl, Bool.and_self]
  count := fun _ _ => rfl
  where_ := fun _ _ _ _ _ => rfl
  sort := fun _ _ _ _ hne _ => by simpa [OpNE] using hne
  take := fun _ _ _ _ _ => rfl
  top := fun _ _ _ _ _ _ _ _ _ => rfl
  project := fun _ _ _ _ hne _ => by simpa [OpNE] using hne
  extend := fun _ _ _ _ _ _ => rfl
  summarize := fun _ _ _ _ _ hne _ _ => by simpa [OpNE] using hne
  summarizeBy := fun _ _ _ _ _ _ _ hne _ _ _ => by simp [OpNE, hne]
  join := fun _ _ _ _ _ _ _ _ conds _ _ _ ih _ hne _ _ => by
    cases conds with
    | nil => exact absurd rfl hne
    | cons _ _ => simp [OpNE, ih, ExprList.length]
  joinKind := fun _ _ _ _ _ _ _ _ _ conds _ _ _ ih _ hne => by
    cases conds with
    | nil => exact absurd rfl hne
    | cons _ _ => simp [OpNE, ih, ExprList.length]
  as_ := fun _ _ _ => rfl
  render := fun _ _ _ _ _ _ _ => rfl
  renderWith := fun _ _ _ _ _ _ _ _ _ _ _ => rfl

theorem tabNE_of_unparse : ∀ (t : Tabular) (us : List UTok), unparseTabular t = some us → TabNE t = true :=
  ne_alg.tabular

theorem opsNE_of_unparse : ∀ (ops : OpList) (us : List UTok), unparseOps ops = some us → OpsNE ops = true :=
  ne_alg.ops

theorem opNE_of_unparse : ∀ (o : Op) (us : List UTok), unparseOp o = some us → OpNE o = true :=
  ne_alg.op

theorem accounts_mem (pos : Bool) (us : List UTok) (ts : List Token) (h : accounts pos us ts = true) :
    ∀ u ∈ us, u.alts = [] → u.kind = .error ∨ ∃ t ∈ ts, t.kind = u.kind ∧ t.value = u.value := by
  have hm : ∀ {u : UTok} {t : Token}, tokMatches u t = true → u.alts = [] →
      u.kind = .error ∨ (t.kind = u.kind ∧ t.value = u.value) := fun hm ha => by
    simp only [tokMatches, ha, List.isEmpty_nil, if_true, Bool.and_eq_true, beq_iff_eq,
      Bool.or_eq_true] at hm
    exact hm.2.imp id fun h => ⟨hm.1.symm, h.symm⟩
  refine accounts_elim (P := fun us ts => ∀ u ∈ us, u.alts = [] →
    u.kind = .error ∨ ∃ t ∈ ts, t.kind = u.kind ∧ t.value = u.value) (by simp) ?_ ?_ h
  · intro u us t ts hmt _ _ ih u' hu' ha
    rcases List.mem_cons.1 hu' with rfl | hu'
    · exact (hm hmt ha).imp id fun h1 => ⟨t, by simp, h1⟩
    · exact (ih u' hu' ha).imp id fun ⟨t', ht', h1⟩ => ⟨t', List.mem_cons_of_mem _ ht', h1⟩
  · intro u us c t ts _ _ _ hmt _ _ ih u' hu' ha
    rcases List.mem_cons.1 hu' with rfl | hu'
    · exact (hm hmt ha).imp id fun h1 => ⟨t, by simp, h1⟩
    · exact (ih u' hu' ha).imp id fun ⟨t', ht', h1⟩ =>
        ⟨t', List.mem_cons_of_mem _ (List.mem_cons_of_mem _ ht'), h1⟩

theorem parseTokens_leaves (P : LP) (hPe : ∀ v, P .error v = true) (srcLen : Nat) (ts : List Token)
    (stmts : List Stmt) (hok : TokOK ts) (hP : ∀ t ∈ ts, P t.kind t.value = true)
    (h : parseTokens srcLen ts = (stmts, [])) :
    ∀ s ∈ stmts, StmtAll (LE P) (LL P) s ∧ (∀ t, s = .tabular t → TabNE t = true) := by
  intro s hs
  obtain ⟨g, hg, us, hus, ha⟩ := (parseTokens_acc srcLen ts stmts hok h).exists_mem s hs
  have hu : UOK P us := by
    intro u hu hal
    rcases accounts_mem true us g ha u hu hal with h1 | ⟨t, ht, hk, hv⟩
    · rw [h1]; exact hPe _
    · rw [← hk, ← hv]; exact hP t ((splitStatementsToks_sublist ts g hg).subset ht)
  refine ⟨stmt_of_unparse P s us hus hu, ?_⟩
  rintro t rfl
  exact tabNE_of_unparse t us hus

end Pql.ParsedOK
