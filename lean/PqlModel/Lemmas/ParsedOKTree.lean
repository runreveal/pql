/-
From the facts about parsed expressions (`sOK`, leaves from tokens, function names, `arOK`) to the Bool side
conditions of the headline theorems (`Expr.lexOK`, `RT.shapeOK`, `exprOKin`; `Tabular.lexOK`, `C05.tabularOK`,
`C05.hasSources`).  The function identifier of a call in a parsed tree is unquoted and identifier-shaped
(`fnShape`), so `nameOK` fails exactly for the names that begin with `$`.  On pipelines each step is a
`TreeAlg` (Lemmas/TreeInduct.lean): one clause per operator, most of them the unfolding of the two sides.

Function names of calls, on pipelines and programs: `fnNamesOK` — every pass-through function name is one
SQL word (`nameOK`) — is what `lexOK` needs.
-/
import PqlModel.Lemmas.ParsedOKLeaves
import PqlModel.Lemmas.WalkLemmas
import PqlModel.Lemmas.ParsedOKNum
import PqlModel.Lemmas.ParsedOKTr
import PqlModel.Lemmas.ParseStmtOK
import PqlModel.Lemmas.SplitAReads
import PqlModel.Lemmas.LexStmtSplit
namespace Pql.ParsedOK
open Pql Pql.Exact CompileOracle Sql Pql.RT Pql.C05

/-- what every token of a scan satisfies: a number value is one SQL number, an identifier value is
    `[A-Za-z_$][A-Za-z0-9_]*` -/
def tokP : LP := fun k v => (k != .number || numOK v) && (k != .ident || identShaped v)

theorem tokP_error (v : Bytes) : tokP .error v = true := rfl

theorem tokP_scan (src : Bytes) : ∀ t ∈ scan src, tokP t.kind t.value = true := by
  intro t ht
  simp only [tokP, Bool.and_eq_true, Bool.or_eq_true, bne_iff_ne, ne_eq]
  refine ⟨?_, ?_⟩
  · by_cases hk : t.kind = .number
    · exact Or.inr (scan_number_numOK src t ht hk)
    · exact Or.inl hk
  · by_cases hk : t.kind = .ident
    · exact Or.inr (scan_ident_shaped src t ht hk)
    · exact Or.inl hk

theorem notKw_name {fn : Ident} (h : isKeywordFn fn = false) (hk : knownFunction fn.name = none) :
    sqlOperatorWords.contains (Sql.upper fn.name) = false ∧ fn.name.head? ≠ some 36 := by
  simp only [isKeywordFn, hk, Option.isNone_none, Bool.true_and, Bool.or_eq_false_iff, beq_eq_false_iff_ne,
    ne_eq] at h
  exact h

theorem wordSafe_of {w : Bytes} (h : sqlOperatorWords.contains (Sql.upper w) = false) : wordSafe w = true := by
  have hl : operatorWords = sqlOperatorWords := rfl
  simp only [wordSafe, hl, h, Bool.not_false, Bool.and_true, Bool.not_eq_true', beq_eq_false_iff_ne, ne_eq]
  intro hu
  rw [hu] at h
  revert h
  decide

mutual
def exprFnAll (p : Ident → Bool) : Expr → Bool
  | .call fn _ args _ => p fn && listFnAll p args
  | .unary _ _ x => exprFnAll p x
  | .paren _ x _ => exprFnAll p x
  | .binary x _ _ y => exprFnAll p x && exprFnAll p y
  | .index x _ y _ => exprFnAll p x && exprFnAll p y
  | .inE x _ _ vs _ => exprFnAll p x && listFnAll p vs
  | .nil => true
  | .qident _ => true
  | .lit .. => true
def listFnAll (p : Ident → Bool) : ExprList → Bool
  | .nil => true
  | .cons e es => exprFnAll p e && listFnAll p es
end

/-- a pass-through function name must be one SQL word -/
def nameP (fn : Ident) : Bool := (knownFunction fn.name).isSome || nameOK fn.name

def fnShape (fn : Ident) : Bool := !fn.quoted && identShaped fn.name

/-- a call follows an unquoted identifier token -/
theorem fnShape_call {fn : Ident} (hq : fn.quoted = false) (hl : tokP (identKind fn) fn.name = true) :
    fnShape fn = true := by
  simpa [fnShape, tokP, identKind, hq] using hl

section
variable {q : Ident → Bool} (hq : ∀ fn, fnShape fn = true → q fn = true → nameP fn = true)
include hq

theorem exprLexOK_alg : ExprTreeAlg
    (fun e => sOK e = true → leavesE tokP e = true → exprFnAll q e = true → e.lexOK = true)
    (fun l => sOKList l = true → leavesL tokP l = true → listFnAll q l = true → l.lexOK = true) where
  nil := fun h => nomatch h
  qident := fun _ _ _ _ => rfl
  lit := fun _ k v h hl _ => by
    simp only [sOK, Bool.or_eq_true, decide_eq_true_eq] at h
    simp only [leavesE, tokP, Bool.and_eq_true, Bool.or_eq_true, bne_iff_ne, ne_eq] at hl
    rcases h with rfl | rfl
    · simpa [Expr.lexOK] using hl.1
    · simp [Expr.lexOK]
  unary := fun _ _ _ ih h hl hk => and_true' (and_true_of h).1 (ih (and_true_of h).2 hl hk)
  binary := fun _ _ _ _ ihx ihy h hl hk =>
    and_true' (ihx (and_true_of (and_true_of h).2).1 (and_true_of hl).1 (and_true_of hk).1)
      (ihy (and_true_of (and_true_of h).2).2 (and_true_of hl).2 (and_true_of hk).2)
  inE := fun _ _ _ _ _ ihx ihl h hl hk =>
    and_true' (ihx (and_true_of h).1 (and_true_of hl).1 (and_true_of hk).1)
      (ihl (and_true_of (and_true_of h).2).1 (and_true_of hl).2 (and_true_of hk).2)
  paren := fun _ _ _ ih => ih
  call := fun fn _ _ _ ihl h hl hk =>
    and_true' (hq fn (fnShape_call (by simpa using (and_true_of h).1) (and_true_of hl).1) (and_true_of hk).1)
      (ihl (and_true_of h).2 (and_true_of hl).2 (and_true_of hk).2)
  index := fun _ _ _ _ ihx ihy h hl hk =>
    and_true' (ihx (and_true_of h).1 (and_true_of hl).1 (and_true_of hk).1)
      (ihy (and_true_of h).2 (and_true_of hl).2 (and_true_of hk).2)
  lnil := fun _ _ _ => rfl
  cons := fun _ _ ihe ihl h hl hk =>
    and_true' (ihe (and_true_of h).1 (and_true_of hl).1 (and_true_of hk).1)
      (ihl (and_true_of h).2 (and_true_of hl).2 (and_true_of hk).2)

theorem lexOK_of_names : ∀ e : Expr, sOK e = true → leavesE tokP e = true → exprFnAll q e = true →
    e.lexOK = true := (exprLexOK_alg hq).expr

theorem lexOKList_of_names : ∀ l : ExprList, sOKList l = true → leavesL tokP l = true →
    listFnAll q l = true → l.lexOK = true := (exprLexOK_alg hq).list

end

theorem fnShape_alg : ExprTreeAlg
    (fun e => sOK e = true → leavesE tokP e = true → exprFnAll fnShape e = true)
    (fun l => sOKList l = true → leavesL tokP l = true → listFnAll fnShape l = true) where
  nil := fun _ _ => rfl
  qident := fun _ _ _ => rfl
  lit := fun _ _ _ _ _ => rfl
  unary := fun _ _ _ ih h => ih (and_true_of h).2
  binary := fun _ _ _ _ ihx ihy h hl =>
    and_true' (ihx (and_true_of (and_true_of h).2).1 (and_true_of hl).1)
      (ihy (and_true_of (and_true_of h).2).2 (and_true_of hl).2)
  inE := fun _ _ _ _ _ ihx ihl h hl =>
    and_true' (ihx (and_true_of h).1 (and_true_of hl).1)
      (ihl (and_true_of (and_true_of h).2).1 (and_true_of hl).2)
  paren := fun _ _ _ ih => ih
  call := fun _ _ _ _ ihl h hl =>
    and_true' (fnShape_call (by simpa using (and_true_of h).1) (and_true_of hl).1)
      (ihl (and_true_of h).2 (and_true_of hl).2)
  index := fun _ _ _ _ ihx ihy h hl =>
    and_true' (ihx (and_true_of h).1 (and_true_of hl).1) (ihy (and_true_of h).2 (and_true_of hl).2)
  lnil := fun _ _ => rfl
  cons := fun _ _ ihe ihl h hl =>
    and_true' (ihe (and_true_of h).1 (and_true_of hl).1) (ihl (and_true_of h).2 (and_true_of hl).2)

theorem fnShape_of : ∀ e : Expr, sOK e = true → leavesE tokP e = true → exprFnAll fnShape e = true :=
  fnShape_alg.expr

theorem fnShapeList_of : ∀ l : ExprList, sOKList l = true → leavesL tokP l = true →
    listFnAll fnShape l = true := fnShape_alg.list

/-- for the function identifiers of parsed trees, `nameOK` fails exactly on a leading `$` -/
theorem nameOK_of_fnShape (fn : Ident) (h : fnShape fn = true) :
    nameOK fn.name = (fn.name.head? != some 36) := by
  simp only [fnShape, Bool.and_eq_true] at h
  exact nameOK_of_identShaped _ h.2

theorem nameP_of_shape (fn : Ident) (h1 : fnShape fn = true)
    (h2 : ((knownFunction fn.name).isSome || fn.name.head? != some 36) = true) : nameP fn = true := by
  simp only [nameP, Bool.or_eq_true] at h2 ⊢
  rcases h2 with h2 | h2
  · exact Or.inl h2
  · right; rw [nameOK_of_fnShape fn h1]; exact h2

theorem dollarFree_of_notKw (fn : Ident) (h : isKeywordFn fn = false) :
    ((knownFunction fn.name).isSome || fn.name.head? != some 36) = true := by
  cases hk : knownFunction fn.name with
  | some _ => rfl
  | none => simpa using (notKw_name h hk).2

theorem noKwFn_alg : ExprTreeAlg
    (fun e => exprHasKeywordFn e = false →
      exprFnAll (fun fn => (knownFunction fn.name).isSome || fn.name.head? != some 36) e = true)
    (fun l => listHasKeywordFn l = false →
      listFnAll (fun fn => (knownFunction fn.name).isSome || fn.name.head? != some 36) l = true) where
  nil := fun _ => rfl
  qident := fun _ _ => rfl
  lit := fun _ _ _ _ => rfl
  unary := fun _ _ _ ih => ih
  binary := fun _ _ _ _ ihx ihy h => and_true' (ihx (or_false_of h).1) (ihy (or_false_of h).2)
  inE := fun _ _ _ _ _ ihx ihl h => and_true' (ihx (or_false_of h).1) (ihl (or_false_of h).2)
  paren := fun _ _ _ ih => ih
  call := fun fn _ _ _ ihl h => and_true' (dollarFree_of_notKw fn (or_false_of h).1) (ihl (or_false_of h).2)
  index := fun _ _ _ _ ihx ihy h => and_true' (ihx (or_false_of h).1) (ihy (or_false_of h).2)
  lnil := fun _ => rfl
  cons := fun _ _ ihe ihl h => and_true' (ihe (or_false_of h).1) (ihl (or_false_of h).2)

theorem fnAll_of_noKw : ∀ e : Expr, exprHasKeywordFn e = false →
    exprFnAll (fun fn => (knownFunction fn.name).isSome || fn.name.head? != some 36) e = true :=
  noKwFn_alg.expr

theorem fnAllList_of_noKw : ∀ l : ExprList, listHasKeywordFn l = false →
    listFnAll (fun fn => (knownFunction fn.name).isSome || fn.name.head? != some 36) l = true :=
  noKwFn_alg.list

theorem lexOK_of (e : Expr) (h : sOK e = true) (hl : leavesE tokP e = true)
    (hk : exprHasKeywordFn e = false) : e.lexOK = true :=
  lexOK_of_names nameP_of_shape e h hl (fnAll_of_noKw e hk)

theorem lexOKList_of (l : ExprList) (h : sOKList l = true) (hl : leavesL tokP l = true)
    (hk : listHasKeywordFn l = false) : l.lexOK = true :=
  lexOKList_of_names nameP_of_shape l h hl (fnAllList_of_noKw l hk)

theorem shapeOK_alg : ExprTreeAlg
    (fun e => sOK e = true → exprHasKeywordFn e = false → shapeOK e = true)
    (fun l => sOKList l = true → listHasKeywordFn l = false → shapeOKList l = true) where
  nil := fun h => nomatch h
  qident := fun _ h _ => h
  lit := fun _ _ _ _ _ => rfl
  unary := fun _ _ _ ih h => ih (and_true_of h).2
  binary := fun _ _ _ _ ihx ihy h hk =>
    and_true' (ihx (and_true_of (and_true_of h).2).1 (or_false_of hk).1)
      (ihy (and_true_of (and_true_of h).2).2 (or_false_of hk).2)
  inE := fun _ _ _ _ _ ihx ihl h hk =>
    and_true' (and_true' (ihx (and_true_of h).1 (or_false_of hk).1)
      (ihl (and_true_of (and_true_of h).2).1 (or_false_of hk).2)) (and_true_of (and_true_of h).2).2
  paren := fun _ _ _ ih => ih
  call := fun fn _ _ _ ihl h hk =>
    and_true' (by
      cases hkf : knownFunction fn.name with
      | some _ => rfl
      | none => exact wordSafe_of (notKw_name (or_false_of hk).1 hkf).1)
      (ihl (and_true_of h).2 (or_false_of hk).2)
  index := fun _ _ _ _ ihx ihy h hk =>
    and_true' (ihx (and_true_of h).1 (or_false_of hk).1) (ihy (and_true_of h).2 (or_false_of hk).2)
  lnil := fun _ _ => rfl
  cons := fun _ _ ihe ihl h hk =>
    and_true' (ihe (and_true_of h).1 (or_false_of hk).1) (ihl (and_true_of h).2 (or_false_of hk).2)

theorem shapeOK_of : ∀ e : Expr, sOK e = true → exprHasKeywordFn e = false → shapeOK e = true :=
  shapeOK_alg.expr

theorem shapeOKList_of : ∀ l : ExprList, sOKList l = true → listHasKeywordFn l = false →
    shapeOKList l = true := shapeOK_alg.list

def fullE (e : Expr) : Prop :=
  sOK e = true ∧ leavesE tokP e = true ∧ exprHasKeywordFn e = false ∧ arOK e = true

-- the proofs use `fullL'` (Lemmas/ParsedOKLets.lean), which has no length clause
def fullL (l : ExprList) : Prop :=
  sOKList l = true ∧ leavesL tokP l = true ∧ listHasKeywordFn l = false ∧ arOKL l = true ∧ l.length ≠ 0

theorem exprOKin_of_full (join : Bool) {e : Expr} (h : fullE e) : exprOKin join e = true := by
  obtain ⟨h1, h2, h3, h4⟩ := h
  simp only [exprOKin, Bool.and_eq_true]
  exact ⟨⟨lexOK_of e h1 h2 h3, shapeOK_of e h1 h3⟩, tr_isSome join e h1 h4⟩

theorem condsOK_of_full : ∀ l : ExprList, sOKList l = true → leavesL tokP l = true →
    listHasKeywordFn l = false → arOKL l = true → condsOK l = true
  | .nil, _, _, _, _ => rfl
  | .cons e es, h1, h2, h3, h4 => by
    simp only [sOKList, Bool.and_eq_true] at h1
    simp only [leavesL, Bool.and_eq_true] at h2
    simp only [listHasKeywordFn, Bool.or_eq_false_iff] at h3
    simp only [arOKL, Bool.and_eq_true] at h4
    simp only [condsOK, Bool.and_eq_true]
    exact ⟨exprOKin_of_full true ⟨h1.1, h2.1, h3.1, h4.1⟩, condsOK_of_full es h1.2 h2.2 h3.2 h4.2⟩

theorem any_false {α : Type} {f : α → Bool} {l : List α} (h : l.any f = false) : ∀ x ∈ l, f x = false := by
  intro x hx
  rw [List.any_eq_false] at h
  simpa using h x hx

theorem noKw_alg : TreeAlg
    (fun t => tabularHasKeywordFn t = false →
      TabAll (fun e => exprHasKeywordFn e = false) (fun l => listHasKeywordFn l = false) t)
    (fun o => opHasKeywordFn o = false →
      OpAll (fun e => exprHasKeywordFn e = false) (fun l => listHasKeywordFn l = false) o)
    (fun ops => opsHaveKeywordFn ops = false →
      OpsAll (fun e => exprHasKeywordFn e = false) (fun l => listHasKeywordFn l = false) ops) where
  tnil := fun _ => trivial
  tmk := fun _ _ ih => ih
  onil := fun _ => trivial
  cons := fun _ _ iho ihl h => ⟨iho (or_false_of h).1, ihl (or_false_of h).2⟩
  count := fun _ _ _ => trivial
  where_ := fun _ _ _ h => h
  sort := fun _ _ _ h => any_false h
  take := fun _ _ _ h => h
  top := fun _ _ _ _ _ h => ⟨(or_false_of h).1, by rintro t rfl; exact (or_false_of h).2⟩
  project := fun _ _ _ h c hc => Or.inr (any_false h c hc)
  extend := fun _ _ _ h => any_false h
  summarize := fun _ _ _ _ _ h => ⟨any_false (or_false_of h).1, any_false (or_false_of h).2⟩
  join := fun _ _ _ _ _ _ _ _ _ _ ih h => ⟨ih (or_false_of h).1, (or_false_of h).2⟩
  as_ := fun _ _ _ _ => trivial
  render := fun _ _ _ _ _ _ _ _ => trivial

theorem tabAll_noKw : ∀ t : Tabular, tabularHasKeywordFn t = false →
    TabAll (fun e => exprHasKeywordFn e = false) (fun l => listHasKeywordFn l = false) t :=
  noKw_alg.tabular

theorem opsAll_noKw : ∀ ops : OpList, opsHaveKeywordFn ops = false →
    OpsAll (fun e => exprHasKeywordFn e = false) (fun l => listHasKeywordFn l = false) ops :=
  noKw_alg.ops

theorem opAll_noKw : ∀ o : Op, opHasKeywordFn o = false →
    OpAll (fun e => exprHasKeywordFn e = false) (fun l => listHasKeywordFn l = false) o :=
  noKw_alg.op

theorem arOKL_of_conds (bound : List Bytes) : ∀ l : ExprList, Misuse.badConds bound l = false → arOKL l = true
  | .nil, _ => by simp [arOKL]
  | .cons e es, h => by
    simp only [Misuse.badConds, Bool.or_eq_false_iff, Bool.and_eq_false_iff, Bool.not_eq_false'] at h
    simp only [arOKL, Bool.and_eq_true]
    refine ⟨?_, arOKL_of_conds bound es h.2⟩
    rcases h.1 with hb | hb
    · unfold Misuse.isBareKey at hb
      split at hb
      · simp [arOK]
      · cases hb
    · exact arOK_of_notBad .join bound e hb

theorem arOK_of_column (bound : List Bytes) (c : Column) (h : Misuse.badColumn bound c = false) :
    arOK c.x = true := by
  unfold Misuse.badColumn at h
  split at h
  · next hx => rw [hx]; rfl
  · exact arOK_of_notBad .plain bound _ h

theorem notBad_alg (bound : List Bytes) : TreeAlg
    (fun t => Misuse.badTabular bound t = false → TabAll (fun e => arOK e = true) (fun l => arOKL l = true) t)
    (fun o => Misuse.badOp bound o = false → OpAll (fun e => arOK e = true) (fun l => arOKL l = true) o)
    (fun ops => Misuse.badOps bound ops = false →
      OpsAll (fun e => arOK e = true) (fun l => arOKL l = true) ops) where
  tnil := fun _ => trivial
  tmk := fun _ _ ih => ih
  onil := fun _ => trivial
  cons := fun _ _ iho ihl h => ⟨iho (or_false_of h).1, ihl (or_false_of h).2⟩
  count := fun _ _ _ => trivial
  where_ := fun _ _ e h => arOK_of_notBad _ _ e h
  sort := fun _ _ _ h t ht => arOK_of_notBad _ _ _ (any_false h t ht)
  take := fun _ _ e h => arOK_of_notBad _ _ e h
  top := fun _ _ n _ _ h =>
    ⟨arOK_of_notBad _ _ n (or_false_of h).1, by rintro t rfl; exact arOK_of_notBad _ _ _ (or_false_of h).2⟩
  project := fun _ _ _ h c hc => Or.inr (arOK_of_column bound c (any_false h c hc))
  extend := fun _ _ _ h c hc => arOK_of_column bound c (any_false h c hc)
  summarize := fun _ _ _ _ _ h =>
    ⟨fun c hc => arOK_of_column bound c (any_false (or_false_of h).1 c hc),
      fun c hc => arOK_of_column bound c (any_false (or_false_of h).2 c hc)⟩
  join := fun _ _ _ _ _ _ _ _ _ conds ih h => ⟨ih (or_false_of h).1, arOKL_of_conds bound conds (or_false_of h).2⟩
  as_ := fun _ _ _ _ => trivial
  render := fun _ _ _ _ _ _ _ _ => trivial

theorem tabAll_notBad (bound : List Bytes) : ∀ t : Tabular, Misuse.badTabular bound t = false →
    TabAll (fun e => arOK e = true) (fun l => arOKL l = true) t := (notBad_alg bound).tabular

theorem opsAll_notBad (bound : List Bytes) : ∀ ops : OpList, Misuse.badOps bound ops = false →
    OpsAll (fun e => arOK e = true) (fun l => arOKL l = true) ops := (notBad_alg bound).ops

theorem opAll_notBad (bound : List Bytes) : ∀ o : Op, Misuse.badOp bound o = false →
    OpAll (fun e => arOK e = true) (fun l => arOKL l = true) o := (notBad_alg bound).op

theorem lexOK_alg : TreeAlg
    (fun t => TabAll (fun e => e.lexOK = true) (fun l => l.lexOK = true) t → t.lexOK = true)
    (fun o => OpAll (fun e => e.lexOK = true) (fun l => l.lexOK = true) o → o.lexOK = true)
    (fun ops => OpsAll (fun e => e.lexOK = true) (fun l => l.lexOK = true) ops → ops.lexOK = true) where
  tnil := fun _ => rfl
  tmk := fun _ _ ih => ih
  onil := fun _ => rfl
  cons := fun _ _ iho ihl h => and_true' (iho h.1) (ihl h.2)
  count := fun _ _ _ => rfl
  where_ := fun _ _ _ h => h
  sort := fun _ _ _ h => List.all_eq_true.2 h
  take := fun _ _ _ h => h
  top := fun _ _ _ _ c h => and_true' h.1 (by
    cases c with
    | none => rfl
    | some t => exact h.2 t rfl)
  project := fun _ _ _ h => List.all_eq_true.2 fun c hc => by
    unfold Column.projOK
    rcases h c hc with h1 | h1
    · rw [h1]
    · split
      · rfl
      · exact h1
  extend := fun _ _ _ h => List.all_eq_true.2 h
  summarize := fun _ _ _ _ _ h => and_true' (List.all_eq_true.2 h.1) (List.all_eq_true.2 h.2)
  join := fun _ _ _ _ _ _ _ _ _ _ ih h => and_true' (ih h.1) h.2
  as_ := fun _ _ _ _ => rfl
  render := fun _ _ _ _ _ _ _ _ => rfl

theorem tabLexOK_of : ∀ t : Tabular, TabAll (fun e => e.lexOK = true) (fun l => l.lexOK = true) t →
    t.lexOK = true := lexOK_alg.tabular

theorem opsLexOK_of : ∀ ops : OpList, OpsAll (fun e => e.lexOK = true) (fun l => l.lexOK = true) ops →
    ops.lexOK = true := lexOK_alg.ops

/-- `hn` is what `Op.Good` says of a project column -/
theorem projColOK_of {c : Column} (hn : c.name ≠ none) (h : c.x = .nil ∨ exprOK c.x = true) :
    projColOK c = true := by
  unfold projColOK
  rcases h with h1 | h1
  · rw [h1]
    cases hc : c.name with
    | none => exact absurd hc hn
    | some _ => rfl
  · split
    · next hx => rw [hx] at h1; simp [exprOKin, Expr.lexOK] at h1
    · exact h1

theorem tabularOK_alg : TreeAlg
    (fun t => t.Good → TabAll (fun e => exprOK e = true) (fun l => condsOK l = true) t → TabNE t = true →
      tabularOK t = true)
    (fun o => o.Good → OpAll (fun e => exprOK e = true) (fun l => condsOK l = true) o → OpNE o = true →
      opOK1 o = true)
    (fun ops => ops.Good → OpsAll (fun e => exprOK e = true) (fun l => condsOK l = true) ops →
      OpsNE ops = true → opsOK ops = true) where
  tnil := fun _ _ _ => rfl
  tmk := fun _ _ ih hg => ih hg.2
  onil := fun _ _ _ => rfl
  cons := fun _ _ iho ihl hg h hn =>
    and_true' (iho hg.1 h.1 (and_true_of hn).1) (ihl hg.2 h.2 (and_true_of hn).2)
  count := fun _ _ _ _ _ => rfl
  where_ := fun _ _ _ _ h _ => h
  sort := fun _ _ _ _ h hn => and_true' hn (List.all_eq_true.2 h)
  take := fun _ _ _ _ h _ => h
  top := fun _ _ _ _ c _ h _ => and_true' h.1 (by
    cases c with
    | none => rfl
    | some t => exact h.2 t rfl)
  project := fun _ _ _ hg h hn =>
    and_true' hn (List.all_eq_true.2 fun c hc => projColOK_of (hg c hc).1 (h c hc))
  extend := fun _ _ _ _ h _ => List.all_eq_true.2 h
  summarize := fun _ _ _ _ _ _ h hn =>
    and_true' (and_true' hn (List.all_eq_true.2 h.1)) (List.all_eq_true.2 h.2)
  join := fun _ _ _ _ _ _ _ _ _ conds ih hg h hn =>
    and_true' (ih hg.1 h.1 (and_true_of hn).1) (condsOK_build conds h.2)
  as_ := fun _ _ _ _ _ _ => rfl
  render := fun _ _ _ _ _ _ _ _ _ _ => rfl

theorem tabularOK_of : ∀ t : Tabular, t.Good →
    TabAll (fun e => exprOK e = true) (fun l => condsOK l = true) t → TabNE t = true →
    tabularOK t = true := tabularOK_alg.tabular

theorem opsOK_of : ∀ ops : OpList, ops.Good →
    OpsAll (fun e => exprOK e = true) (fun l => condsOK l = true) ops → OpsNE ops = true →
    opsOK ops = true := tabularOK_alg.ops

theorem opOK1_of : ∀ o : Op, o.Good →
    OpAll (fun e => exprOK e = true) (fun l => condsOK l = true) o → OpNE o = true →
    opOK1 o = true := tabularOK_alg.op

/-- an operator keeps the sources of the list behind it, a `join` adds those of its right-hand side -/
theorem hasSources_alg : TreeAlg (fun t => t.Good → hasSources t = true)
    (fun o => o.Good → ∀ os, opsHaveSources os = true → opsHaveSources (.cons o os) = true)
    (fun ops => ops.Good → opsHaveSources ops = true) where
  tnil := fun h => h.elim
  tmk := fun _ _ ih h => and_true' (Option.isSome_iff_ne_none.2 h.1) (ih h.2)
  onil := fun _ => rfl
  cons := fun _ os iho ihl h => iho h.1 os (ihl h.2)
  count := fun _ _ _ _ h => h
  where_ := fun _ _ _ _ _ h => h
  sort := fun _ _ _ _ _ h => h
  take := fun _ _ _ _ _ h => h
  top := fun _ _ _ _ _ _ _ h => h
  project := fun _ _ _ _ _ h => h
  extend := fun _ _ _ _ _ h => h
  summarize := fun _ _ _ _ _ _ _ h => h
  join := fun _ _ _ _ _ _ _ _ _ _ ih hg _ h => and_true' (ih hg.1) h
  as_ := fun _ _ _ _ _ h => h
  render := fun _ _ _ _ _ _ _ _ _ h => h

theorem hasSources_of_good : ∀ t : Tabular, t.Good → hasSources t = true := hasSources_alg.tabular

theorem opsHaveSources_of_good : ∀ ops : OpList, ops.Good → opsHaveSources ops = true := hasSources_alg.ops

end Pql.ParsedOK

namespace Pql.ParsedOK
open Pql Pql.Exact CompileOracle Sql Pql.RT Pql.C05

mutual
def tabFnAll (p : Ident → Bool) : Tabular → Bool
  | .nil => true
  | .mk _ ops => opsFnAll p ops
def opsFnAll (p : Ident → Bool) : OpList → Bool
  | .nil => true
  | .cons o os => opFnAll p o && opsFnAll p os
def opFnAll (p : Ident → Bool) : Op → Bool
  | .where_ _ _ e => exprFnAll p e
  | .take _ _ e => exprFnAll p e
  | .sort _ _ ts => ts.all fun t => exprFnAll p t.x
  | .top _ _ n _ c => exprFnAll p n && (match c with | some t => exprFnAll p t.x | none => true)
  | .project _ _ cs => cs.all fun c => exprFnAll p c.x
  | .extend _ _ cs => cs.all fun c => exprFnAll p c.x
  | .summarize _ _ cs _ gs => (cs.all fun c => exprFnAll p c.x) && (gs.all fun c => exprFnAll p c.x)
  | .join _ _ _ _ _ _ right _ _ conds => tabFnAll p right && listFnAll p conds
  | .count .. => true
  | .as_ .. => true
  | .render .. => true
end

def stmtsFnAll (p : Ident → Bool) (stmts : List Stmt) : Bool :=
  stmts.all fun
    | .tabular t => tabFnAll p t
    | .let_ _ _ _ x => exprFnAll p x

/-- **the decidable side condition of `parsed_lexOK`**: every pass-through (not built-in) function
    name in the program is read by the SQL lexer as one word -/
def fnNamesOK (stmts : List Stmt) : Bool := stmtsFnAll nameP stmts

theorem fnAll_alg (p : Ident → Bool) : TreeAlg
    (fun t => tabFnAll p t = true →
      TabAll (fun e => exprFnAll p e = true) (fun l => listFnAll p l = true) t)
    (fun o => opFnAll p o = true →
      OpAll (fun e => exprFnAll p e = true) (fun l => listFnAll p l = true) o)
    (fun ops => opsFnAll p ops = true →
      OpsAll (fun e => exprFnAll p e = true) (fun l => listFnAll p l = true) ops) where
  tnil := fun _ => trivial
  tmk := fun _ _ ih => ih
  onil := fun _ => trivial
  cons := fun _ _ iho ihl h => ⟨iho (and_true_of h).1, ihl (and_true_of h).2⟩
  count := fun _ _ _ => trivial
  where_ := fun _ _ _ h => h
  sort := fun _ _ _ h => List.all_eq_true.1 h
  take := fun _ _ _ h => h
  top := fun _ _ _ _ _ h => ⟨(and_true_of h).1, by rintro t rfl; exact (and_true_of h).2⟩
  project := fun _ _ _ h c hc => Or.inr (List.all_eq_true.1 h c hc)
  extend := fun _ _ _ h => List.all_eq_true.1 h
  summarize := fun _ _ _ _ _ h =>
    ⟨List.all_eq_true.1 (and_true_of h).1, List.all_eq_true.1 (and_true_of h).2⟩
  join := fun _ _ _ _ _ _ _ _ _ _ ih h => ⟨ih (and_true_of h).1, (and_true_of h).2⟩
  as_ := fun _ _ _ _ => trivial
  render := fun _ _ _ _ _ _ _ _ => trivial

theorem tabAll_fnAll (p : Ident → Bool) : ∀ t : Tabular, tabFnAll p t = true →
    TabAll (fun e => exprFnAll p e = true) (fun l => listFnAll p l = true) t := (fnAll_alg p).tabular

theorem opsAll_fnAll (p : Ident → Bool) : ∀ ops : OpList, opsFnAll p ops = true →
    OpsAll (fun e => exprFnAll p e = true) (fun l => listFnAll p l = true) ops := (fnAll_alg p).ops

theorem stmtAll_fnAll (p : Ident → Bool) (stmts : List Stmt) (h : stmtsFnAll p stmts = true) :
    ∀ s ∈ stmts, StmtAll (fun e => exprFnAll p e = true) (fun l => listFnAll p l = true) s := by
  intro s hs
  simp only [stmtsFnAll, List.all_eq_true] at h
  have := h s hs
  cases s with
  | tabular t => exact tabAll_fnAll p t this
  | let_ kw n a x => exact this

end Pql.ParsedOK
