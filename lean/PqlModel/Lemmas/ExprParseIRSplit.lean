/-
`ExprParseIR`, `split`: the unit interpreted on the abstract reading of a parser equals the model's `split`
(for every search kind other than an opening bracket, which is how the parser calls it).
-/
import PqlModel.Lemmas.ExprParseIRCursor
namespace Pql.ExprParseIR
open Pql
set_option linter.unusedSimpArgs false

def splitInnerCond : E := .cmp "gt" (.len (.var "stack")) (.int 0)

def splitInner : List Stmt :=
  [.assign true [.var "k"] (.e (.index (.var "stack") (.sub (.len (.var "stack")) (.int 1)))),
   .assign false [.var "stack"] (.e (.slice (.var "stack") (.none) (.sub (.len (.var "stack")) (.int 1)))),
   .ite (.cmp "eq" (.var "k") (.field (.var "tok") "Kind")) [.brk ""] []]

def splitBody : List Stmt :=
  [.assign true [.var "tok", .var "ok"] (.pcall "p" "next" []),
   .ite
     (.not (.var "ok"))
     [.ret [.new "parser" ["source", "tokens", "splitKind"] [.field (.var "p") "source", .slice (.field (.var "p") "tokens") (.var "start") (.none), .var "search"]]]
     [],
   .ite
     (.or (.cmp "eq" (.field (.var "tok") "Kind") (.kind "TokenLParen")) (.cmp "eq" (.field (.var "tok") "Kind") (.kind "TokenLBracket")))
     [.ite (.cmp "eq" (.var "search") (.field (.var "tok") "Kind")) [.do_ (.pcall "p" "prev" []), .brk "loop"] [],
      .ite
        (.cmp "eq" (.field (.var "tok") "Kind") (.kind "TokenLParen"))
        [.assign false [.var "stack"] (.e (.append (.var "stack") (.kind "TokenRParen")))]
        [.ite
           (.cmp "eq" (.field (.var "tok") "Kind") (.kind "TokenLBracket"))
           [.assign false [.var "stack"] (.e (.append (.var "stack") (.kind "TokenRBracket")))]
           [.panic]]]
     [.ite
        (.or (.cmp "eq" (.field (.var "tok") "Kind") (.kind "TokenRParen")) (.cmp "eq" (.field (.var "tok") "Kind") (.kind "TokenRBracket")))
        [.ite
           (.cmp "gt" (.len (.var "stack")) (.int 0))
           [.loop "" splitInnerCond splitInner]
           [.ite (.cmp "eq" (.var "search") (.field (.var "tok") "Kind")) [.do_ (.pcall "p" "prev" []), .brk "loop"] []]]
        [.ite
           (.cmp "eq" (.field (.var "tok") "Kind") (.var "search"))
           [.ite (.cmp "eq" (.len (.var "stack")) (.int 0)) [.do_ (.pcall "p" "prev" []), .brk "loop"] []]
           []]]]

def splitRet : Stmt :=
  .ret [.new "parser" ["source", "tokens", "splitKind"] [.field (.var "p") "source", .slice (.field (.var "p") "tokens") (.var "start") (.field (.var "p") "pos"), .var "search"]]

theorem splitIR_loop :
    splitIR =
      [.decl "stack" "[]TokenKind", .assign true [.var "start"] (.e (.field (.var "p") "pos")),
       .loop "loop" (.bool true) splitBody, splitRet] := rfl

theorem splitBody_notLeaves : leaves splitBody = false := by rfl
theorem splitInnerCond_notTrue : isTrue splitInnerCond = false := by rfl

def splitState (start : List Token) (ms : List TokKind) (p : PState) (k : TokKind) : State :=
  ⟨[("start", .pos start), ("stack", .kinds ms.reverse), ("p", .parser p), ("search", .kind k)]⟩

/-- the pop loop is `popTo` (the Go stack grows at the end, the model's at the head) -/
theorem splitInner_loop (c : ICtx) (t : Token) (start : List Token) (p : PState) (k : TokKind) :
    ∀ (ms : List TokKind) (B : Nat), ms.length < B →
      iter (loopStep c noCalls splitInnerCond splitInner) "" B
          ⟨("ok", .bool true) :: ("tok", .tok t) :: (splitState start ms p k).vars⟩ =
        .ok (.next ⟨("ok", .bool true) :: ("tok", .tok t) :: (splitState start (popTo t.kind ms) p k).vars⟩) := by
  intro ms
  induction ms with
  | nil =>
    intro B h
    obtain ⟨B, rfl⟩ : ∃ B', B = B' + 1 := ⟨B - 1, by omega⟩
    rw [iter_succ]
    ir_simp [loopStep, splitInnerCond, splitState, popTo]
  | cons x xs ih =>
    intro B h
    obtain ⟨B, rfl⟩ : ∃ B', B = B' + 1 := ⟨B - 1, by omega⟩
    have ih := ih B (by simp at h; omega)
    rw [iter_succ]
    generalize iter (loopStep c noCalls splitInnerCond splitInner) "" B = I at ih
    have h1 : ¬ ((xs.length : Int) < 0) := by omega
    have h2 : ¬ ((xs.length : Int) + 1 < 0) := by omega
    have h3 : ¬ ((xs.length : Int) + 1 < (xs.length : Int)) := by omega
    have h4 : (xs.reverse ++ [x])[xs.length]? = some x := by simp
    have h5 : (xs.reverse ++ [x]).take xs.length = xs.reverse := by simp
    simp only [splitState] at ih
    ir_simp [loopStep, splitInnerCond, splitInner, splitState, popTo, h1, h2, h3, h4, h5, ih]
    split <;> rfl

def afterLoop (c : ICtx) (b0 : Nat) : Flow → Out Flow := andThen (exec c noCalls splitRet b0)

theorem splitInner_notLeaves : leaves splitInner = false := by rfl

theorem afterLoop_next (c : ICtx) (b0 : Nat) (σ : State) : afterLoop c b0 (.next σ) = exec c noCalls splitRet b0 σ := by
  rw [afterLoop, andThen_next]

theorem popTo_length_le (t : TokKind) (l : List TokKind) : (popTo t l).length ≤ l.length := by
  induction l with
  | nil => simp [popTo]
  | cons y ys ih => simp only [popTo]; split <;> simp <;> omega

/-- the main loop, the final `return` and the end of the function: the model's `splitAux`.
    `pre` is what the loop has consumed since `start`; the budget covers two units per token left and
    one per open bracket. -/
theorem splitLoop (c : ICtx) (k : TokKind) (sk : Option TokKind) (hs : k ≠ .lparen ∧ k ≠ .lbracket) (b0 : Nat) :
    ∀ (ts : List Token) (b : Nat) (ms : List TokKind) (pre : List Token) (bk : Option (List Token)),
      ms.length + 2 * ts.length + 2 ≤ b →
      (((iter (loopStep c noCalls (.bool true) splitBody) "loop" b
            (splitState (pre ++ ts) ms ⟨ts, bk, sk⟩ k)).bind (afterLoop c b0)).bind
          (finish "p" ["*parser"])).bind asPState =
        .ok ([.parser ⟨pre ++ (splitAux k ms ts).1, none, some k⟩], ⟨(splitAux k ms ts).2, none, sk⟩) := by
  obtain ⟨hs1, hs2⟩ := hs
  intro ts
  induction ts with
  | nil =>
    intro b ms pre bk h
    obtain ⟨b, rfl⟩ : ∃ b', b = b' + 1 := ⟨b - 1, by omega⟩
    rw [iter_succ]
    ir_simp [loopStep, splitBody, splitState, splitAux, afterLoop]
  | cons t ts ih =>
    intro b ms pre bk h
    obtain ⟨b, rfl⟩ : ∃ b', b = b' + 1 := ⟨b - 1, by omega⟩
    simp only [List.length_cons] at h
    rw [iter_succ]
    -- the rest of the loop, on the stacks an iteration can leave
    replace ih := fun ms h => ih b ms (pre ++ [t]) (some (t :: ts)) h
    generalize iter (loopStep c noCalls (.bool true) splitBody) "loop" b = I at ih
    have hp := popTo_length_le t.kind ms
    have ih1 := ih (.rparen :: ms) (by simp; omega)
    have ih2 := ih (.rbracket :: ms) (by simp; omega)
    have ih3 := ih ms (by omega)
    have ih4 := ih (popTo t.kind ms) (by omega)
    have hin := splitInner_loop c t (pre ++ t :: ts) ⟨ts, some (t :: ts), sk⟩ k ms b (by omega)
    simp only [splitState, List.reverse_cons, List.append_assoc, List.singleton_append] at hin ih1 ih2 ih3 ih4
    have hlen : ¬ (pre.length + (ts.length + 1) < ts.length + 1) := by omega
    have hsub : pre.length + (ts.length + 1) - (ts.length + 1) = pre.length := by omega
    ir_simp [loopStep, splitBody, splitState, afterLoop_next, splitRet, splitInnerCond_notTrue, hin, ih1, ih2, ih3, ih4, hlen, hsub]
    by_cases h1 : t.kind = .lparen
    · simp [splitAux, h1, hs1]
    by_cases h2 : t.kind = .lbracket
    · simp [splitAux, h2, hs2]
    by_cases h3 : t.kind = .rparen
    · by_cases hk : k = .rparen <;> cases ms <;> simp [splitAux, h3, hk]
    by_cases h4 : t.kind = .rbracket
    · by_cases hk : k = .rbracket <;> cases ms <;> simp [splitAux, h4, hk]
    by_cases hk : t.kind = k
    · subst hk
      cases ms <;> simp [splitAux, h1, h2, h3, h4]
    · cases ms <;> simp [splitAux, h1, h2, h3, h4, hk]

theorem split_tail_block (c : ICtx) (b : Nat) (st : State) :
    execBlock c noCalls [.loop "loop" (.bool true) splitBody, splitRet] b st =
      (iter (loopStep c noCalls (.bool true) splitBody) "loop" b st).bind (afterLoop c b) := by
  rw [execBlock_cons2, exec_loop]
  simp only [isTrue_true, splitBody_notLeaves, Bool.and_false, Bool.false_eq_true, if_false]
  congr 2
  funext st'
  exact execBlock_last c noCalls splitRet b st'

-- ahead of `execBlock_cons2` of the run set, which would cut the loop statement off from the `return` after it
attribute [local simp 2000] split_tail_block

/-- **`split`, translated.**  For every search kind other than an opening bracket: the sub-parser gets the
    model's bracket-balanced prefix (and remembers the search kind), the receiver keeps the rest. -/
theorem split_ir (c : ICtx) (p : PState) (k : TokKind) (hs : k ≠ .lparen ∧ k ≠ .lbracket) :
    runSplit c p k =
      .ok ([.parser ⟨(split k p.rest).1, none, some k⟩], { p with rest := (split k p.rest).2, back := none }) := by
  obtain ⟨ts, back, sk⟩ := p
  have hl := splitLoop c k sk hs (2 * ts.length + 2) ts (2 * ts.length + 2) [] [] none (by simp)
  simp only [splitState, List.nil_append, List.reverse_nil] at hl
  unfold runSplit
  ir_simp [splitIR_ir, splitIR_loop, params_split, results_split, split]
  exact hl

/-- the hypothesis is needed: asked to stop at `(`, the Go code stops at the first `(`, while the model's
    `split` (which the parser never asks that) opens a bracket group -/
theorem split_ir_needs_search (c : ICtx) :
    let lp : Token := ⟨.lparen, 0, 1, []⟩
    runSplit c ⟨[lp], none, none⟩ .lparen = .ok ([.parser ⟨[], none, some .lparen⟩], ⟨[lp], none, none⟩) ∧
    split .lparen [lp] = ([lp], []) := by
  refine ⟨?_, by decide⟩
  unfold runSplit
  ir_simp [splitIR_ir, splitIR_loop, params_split, results_split]
  rw [iter_succ]
  ir_simp [afterLoop, splitRet, loopStep, splitBody]

end Pql.ExprParseIR
