/-
C08, second sentence (what the parser rejects): the vocabulary, all on token *kinds* and keyword
spellings only.  `Cl` is the class of a grammar token (`UTok`): a name, a literal, one of the
keywords `count`, `asc`/`desc`, `first`/`last`, any other keyword, or a symbol of a given kind;
`okPair` says which classes may stand next to each other (a list of *forbidden* neighbours); `Acc`
(`Reject.Acc`; core's accessibility predicate is hidden by it in this namespace) is the relation
`Grammar.accounts` decides (slightly weakened: several optional commas) as an inductive predicate,
with the transfer lemmas to source tokens.
-/
import PqlModel.Lemmas.AccountedStmt
namespace Pql.Reject
open Pql Pql.Grammar

inductive Cl
  | nm | lit | kCount | kDir | kNF | kw | bad
  | s (k : TokKind)
  deriving DecidableEq, Repr

def b (x : String) : Bytes := Bytes.ofString x

/-- the spellings of every keyword other than `count`, `asc`, `desc`, `first`, `last` -/
def otherAlts : List (List Bytes) :=
  [[b "where", b "filter"], [b "sort", b "order"], [b "take", b "limit"], [b "top"], [b "project"],
   [b "extend"], [b "summarize"], [b "join"], [b "kind"], [b "on"], [b "as"], [b "render"],
   [b "with"], [b "nulls"], [b "let"]]

def otherSpellings : List Bytes := otherAlts.flatten

def plainCl : TokKind → Cl
  | .ident | .qident => .nm
  | .number | .string => .lit
  | k => .s k

def kwCl (alts : List Bytes) : Cl :=
  if alts == [b "count"] then .kCount
  else if alts == [b "asc"] || alts == [b "desc"] then .kDir
  else if alts == [b "first"] || alts == [b "last"] then .kNF
  else if otherAlts.contains alts then .kw
  else .bad

def cl (u : UTok) : Cl :=
  if u.alts.isEmpty || u.kind != .ident then plainCl u.kind else kwCl u.alts

/-- what a source token matched by a grammar token of class `c` looks like -/
def compat : Cl → Token → Bool
  | .nm, t => t.kind == .ident || t.kind == .qident
  | .lit, t => t.kind == .number || t.kind == .string
  | .kCount, t => t.kind == .ident && t.value == b "count"
  | .kDir, t => t.kind == .ident && (t.value == b "asc" || t.value == b "desc")
  | .kNF, t => t.kind == .ident && (t.value == b "first" || t.value == b "last")
  | .kw, t => t.kind == .ident && otherSpellings.contains t.value
  | .bad, t => t.kind == .ident
  | .s k, t => t.kind == k

theorem compat_plain (k : TokKind) (t : Token) (h : t.kind = k) : compat (plainCl k) t = true := by
  subst h; cases hk : t.kind <;> simp [plainCl, compat, hk]

theorem tokMatches_compat {u : UTok} {t : Token} (h : tokMatches u t = true) : compat (cl u) t = true := by
  simp only [tokMatches, Bool.and_eq_true, beq_iff_eq] at h
  obtain ⟨hk, hv⟩ := h
  unfold cl
  split
  · exact compat_plain _ _ hk.symm
  · next hc =>
    simp only [Bool.or_eq_true, bne_iff_ne, ne_eq, not_or, Bool.not_eq_true, Decidable.not_not] at hc
    obtain ⟨hne, hki⟩ := hc
    have hti : t.kind = .ident := by rw [← hk, hki]
    simp only [hne, Bool.false_eq_true, if_false] at hv
    have hmem : t.value ∈ u.alts := List.contains_iff_mem.mp hv
    unfold kwCl
    split
    · next h1 =>
      have : u.alts = [b "count"] := by simpa using h1
      rw [this] at hmem
      simp only [compat, hti, beq_self_eq_true, Bool.true_and, beq_iff_eq]
      simpa using hmem
    · split
      · next h2 =>
        simp only [Bool.or_eq_true, beq_iff_eq] at h2
        simp only [compat, hti, beq_self_eq_true, Bool.true_and, Bool.or_eq_true, beq_iff_eq]
        rcases h2 with h2 | h2 <;> (rw [h2] at hmem; simp at hmem; simp [hmem])
      · split
        · next h3 =>
          simp only [Bool.or_eq_true, beq_iff_eq] at h3
          simp only [compat, hti, beq_self_eq_true, Bool.true_and, Bool.or_eq_true, beq_iff_eq]
          rcases h3 with h3 | h3 <;> (rw [h3] at hmem; simp at hmem; simp [hmem])
        · split
          · next h4 =>
            simp only [compat, hti, beq_self_eq_true, Bool.true_and]
            apply List.contains_iff_mem.mpr
            exact List.mem_flatten.mpr ⟨u.alts, List.contains_iff_mem.mp h4, hmem⟩
          · simp [compat, hti]

inductive Br
  | o (closer : TokKind) | c (k : TokKind) | n
  deriving DecidableEq, Repr

def brK : TokKind → Br
  | .lparen => .o .rparen
  | .lbracket => .o .rbracket
  | .rparen => .c .rparen
  | .rbracket => .c .rbracket
  | _ => .n

def Cl.br : Cl → Br
  | .s k => brK k
  | _ => .n

def run : List TokKind → List Br → Option (List TokKind)
  | stk, [] => some stk
  | stk, .n :: l => run stk l
  | stk, .o k :: l => run (k :: stk) l
  | [], .c _ :: _ => none
  | k' :: stk, .c k :: l => if k = k' then run stk l else none

/-- **bracket balance of a token list** (token kinds only): every `(` is closed by a `)`, every `[`
    by a `]`, properly nested, nothing left open, no surplus closer -/
def balanced (ts : List Token) : Bool := run [] (ts.map fun t => brK t.kind) == some []

def Bal (l : List Br) : Prop := ∀ stk, run stk l = some stk

theorem run_append : ∀ (a b : List Br) (stk : List TokKind),
    run stk (a ++ b) = (run stk a).bind fun s => run s b
  | [], b, stk => by simp [run]
  | .n :: a, b, stk | .o k :: a, b, stk => by simp [run, run_append a b]
  | .c k :: a, b, [] => by simp [run]
  | .c k :: a, b, k' :: stk => by
    simp only [List.cons_append, run]
    split
    · exact run_append a b stk
    · simp

theorem Bal.nil : Bal [] := fun _ => rfl

theorem Bal.app {a b : List Br} (ha : Bal a) (hb : Bal b) : Bal (a ++ b) := by
  intro stk; rw [run_append, ha stk]; exact hb stk

theorem Bal.consN {a : List Br} (ha : Bal a) : Bal (.n :: a) := fun stk => ha stk

theorem Bal.wrap {a rest : List Br} (k : TokKind) (ha : Bal a) (hr : Bal rest) :
    Bal (.o k :: (a ++ .c k :: rest)) := by
  intro stk
  simp only [run]
  rw [run_append, ha (k :: stk)]
  simp only [Option.bind_some, run, if_true]
  exact hr stk

def BalC (cs : List Cl) : Prop := Bal (cs.map Cl.br)

theorem BalC.nil : BalC [] := Bal.nil

theorem BalC.app {a c : List Cl} (ha : BalC a) (hc : BalC c) : BalC (a ++ c) := by
  unfold BalC; rw [List.map_append]; exact Bal.app ha hc

theorem BalC.cons {a : List Cl} (c : Cl) (h : c.br = .n) (ha : BalC a) : BalC (c :: a) := by
  unfold BalC; rw [List.map_cons, h]; exact Bal.consN ha

theorem BalC.one (c : Cl) (h : c.br = .n) : BalC [c] := BalC.cons c h BalC.nil

theorem BalC.paren {a rest : List Cl} (ha : BalC a) (hr : BalC rest) :
    BalC (.s .lparen :: (a ++ .s .rparen :: rest)) := by
  unfold BalC; simp only [List.map_cons, List.map_append]; exact Bal.wrap .rparen ha hr

theorem BalC.brack {a rest : List Cl} (ha : BalC a) (hr : BalC rest) :
    BalC (.s .lbracket :: (a ++ .s .rbracket :: rest)) := by
  unfold BalC; simp only [List.map_cons, List.map_append]; exact Bal.wrap .rbracket ha hr

theorem kwCl_br (a : List Bytes) : (kwCl a).br = .n := by
  unfold kwCl; repeat' split
  all_goals rfl

theorem plainCl_br (k : TokKind) : (plainCl k).br = brK k := by cases k <;> rfl

theorem cl_br (u : UTok) : (cl u).br = brK u.kind := by
  unfold cl
  split
  · exact plainCl_br _
  · next hc =>
    simp only [Bool.or_eq_true, bne_iff_ne, ne_eq, not_or, Bool.not_eq_true, Decidable.not_not] at hc
    rw [kwCl_br, hc.2]; rfl

/-- the table `otherAlts`, read once: its entries are non-empty and of the class `kw` -/
theorem otherAlts_kw : ∀ a ∈ otherAlts, a.isEmpty = false ∧ kwCl a = .kw := by decide +kernel

/-- a keyword token whose spellings are an entry of `otherAlts` (shown by finding the entry, not by
    comparing spellings) -/
theorem cl_of_alts {u : UTok} (hk : u.kind = .ident) (ha : u.alts ∈ otherAlts) : cl u = .kw := by
  obtain ⟨h1, h2⟩ := otherAlts_kw _ ha
  simp only [cl, h1, hk, bne_self_eq_false, Bool.or_self, Bool.false_eq_true, if_false, h2]

theorem cl_kwTok {names : List String} {sp : Span}
    (h : names.map Bytes.ofString ∈ otherAlts := by
      simp only [List.map, Pql.Reject.otherAlts, Pql.Reject.b, List.mem_cons, true_or, or_true]) :
    cl (kwTok names sp) = .kw := cl_of_alts rfl h

def endsOperand : Cl → Bool
  | .nm | .lit | .s .rparen | .s .rbracket => true
  | _ => false

def startsOperand : Cl → Bool
  | .nm | .lit => true
  | _ => false

def isKw : Cl → Bool
  | .kCount | .kDir | .kNF | .kw => true
  | _ => false

/-- what may follow a token that needs something after it -/
def isStart : Cl → Bool
  | .nm | .lit | .kCount | .kDir | .kNF | .kw | .s .lparen | .s .plus | .s .minus => true
  | _ => false

/-- tokens that need something after them: binary operators, signs, `,` `=` `by` `in` `.` `(` `[` `|` -/
def opLike : Cl → Bool
  | .s .and_ | .s .or_ | .s .plus | .s .minus | .s .star | .s .slash | .s .mod
  | .s .eq | .s .ne | .s .lt | .s .le | .s .gt | .s .ge | .s .cieq | .s .cine
  | .s .comma | .s .assign | .s .by_ | .s .in_ | .s .dot | .s .lparen | .s .lbracket | .s .pipe => true
  | _ => false

/-- classes that never occur in a statement -/
def never : Cl → Bool
  | .bad | .s .error | .s .semi | .s .ident | .s .qident | .s .number | .s .string => true
  | _ => false

/-- **allowed neighbours.**  Forbidden are:
    1. an operand end (name, literal, `)`, `]`) directly followed by a name or literal;
    2. a `|` followed by anything but a keyword (other than `asc desc first last`);
    3. `asc`/`desc` (as keyword) followed by `asc`/`desc`, a name or a literal;
    4. `count` (as operator keyword) followed by anything but `|` or `)`;
    5. an operator-like token followed by something that cannot start an operand
       (exception: `(` `)` — a call without arguments);
    6. any other keyword followed by something that cannot start an operand and is not `by` or `=`;
    7. an unknown keyword, an error token, a semicolon. -/
def okPair (a c : Cl) : Bool :=
  !(endsOperand a && startsOperand c) &&
  !(a == .s .pipe && !(c == .kw || c == .kCount)) &&
  !(a == .kDir && (c == .kDir || startsOperand c)) &&
  !(a == .kCount && !(c == .s .pipe || c == .s .rparen)) &&
  !(opLike a && !isStart c && !(a == .s .lparen && c == .s .rparen)) &&
  !(a == .kw && !(isStart c || c == .s .by_ || c == .s .assign)) &&
  !(never a || never c)

def adjOK : List Cl → Bool
  | a :: c :: l => okPair a c && adjOK (c :: l)
  | _ => true

theorem adjOK_append : ∀ (a c : List Cl),
    adjOK (a ++ c) = (adjOK a && adjOK c &&
      (match a.getLast?, c.head? with | some x, some y => okPair x y | _, _ => true))
  | [], c => by cases c <;> simp [adjOK]
  | [x], [] => by simp [adjOK]
  | [x], y :: c => by simp [adjOK, Bool.and_comm]
  | x :: y :: a, c => by
    have ih := adjOK_append (y :: a) c
    simp only [List.cons_append] at ih
    simp only [List.cons_append, adjOK, ih, List.getLast?_cons_cons, Bool.and_assoc]

theorem okPair_never_left {a c : Cl} (h : never a = true) : okPair a c = false := by
  simp [okPair, h]
theorem okPair_never_right {a c : Cl} (h : never c = true) : okPair a c = false := by
  simp [okPair, h]

theorem adjOK_never : ∀ (l : List Cl), adjOK l = true → ∀ x ∈ l, never x = true → l = [x]
  | [], _, _, hx, _ => by cases hx
  | [a], _, x, hx, _ => by rw [List.mem_singleton.1 hx]
  | a :: c :: l, h, x, hx, hn => by
    simp only [adjOK, Bool.and_eq_true] at h
    rcases List.mem_cons.1 hx with rfl | hx
    · rw [okPair_never_left hn] at h; exact absurd h.1 (by decide)
    · have := adjOK_never (c :: l) h.2 x hx hn
      simp only [List.cons.injEq] at this
      rw [this.1, okPair_never_right hn] at h; exact absurd h.1 (by decide)

structure Lin (F L : List Cl) (l : List Cl) : Prop where
  first : ∃ a, l.head? = some a ∧ a ∈ F
  last : ∃ a, l.getLast? = some a ∧ a ∈ L
  adj : adjOK l = true

theorem Lin.one (c : Cl) : Lin [c] [c] [c] := ⟨⟨c, rfl, by simp⟩, ⟨c, rfl, by simp⟩, rfl⟩

theorem Lin.ne {F L l} (h : Lin F L l) : l ≠ [] := by
  obtain ⟨a, ha, _⟩ := h.first
  intro hl; rw [hl] at ha; cases ha

theorem Lin.app {F L F' L' : List Cl} {a c : List Cl} (ha : Lin F L a) (hc : Lin F' L' c)
    (h : ∀ x ∈ L, ∀ y ∈ F', okPair x y = true) : Lin F L' (a ++ c) := by
  obtain ⟨x, hx, hxF⟩ := ha.first
  obtain ⟨y, hy, hyL⟩ := ha.last
  obtain ⟨x', hx', hxF'⟩ := hc.first
  obtain ⟨y', hy', hyL'⟩ := hc.last
  refine ⟨⟨x, ?_, hxF⟩, ⟨y', ?_, hyL'⟩, ?_⟩
  · cases a with
    | nil => cases hx
    | cons a0 a' => simpa using hx
  · rw [List.getLast?_append, hy']; rfl
  · rw [adjOK_append, ha.adj, hc.adj, hy, hx']
    simp only [Bool.and_self, Bool.true_and]
    exact h y hyL x' hxF'

theorem Lin.cons {F L : List Cl} {l : List Cl} (c : Cl) (hl : Lin F L l)
    (h : ∀ y ∈ F, okPair c y = true) : Lin [c] L (c :: l) := by
  have := (Lin.one c).app hl (by intro x hx y hy; rw [List.mem_singleton.1 hx]; exact h y hy)
  simpa using this

theorem Lin.snoc {F L : List Cl} {l : List Cl} (c : Cl) (hl : Lin F L l)
    (h : ∀ x ∈ L, okPair x c = true) : Lin F [c] (l ++ [c]) :=
  hl.app (Lin.one c) (by intro x hx y hy; rw [List.mem_singleton.1 hy]; exact h x hx)

theorem Lin.mono {F L F' L' : List Cl} {l : List Cl} (hl : Lin F L l)
    (hF : ∀ a ∈ F, a ∈ F') (hL : ∀ a ∈ L, a ∈ L') : Lin F' L' l := by
  obtain ⟨x, hx, hxF⟩ := hl.first
  obtain ⟨y, hy, hyL⟩ := hl.last
  exact ⟨⟨x, hx, hF x hxF⟩, ⟨y, hy, hL y hyL⟩, hl.adj⟩

theorem adjOK_infix (a v c : List Cl) (h : adjOK (a ++ v ++ c) = true) : adjOK v = true := by
  rw [adjOK_append, adjOK_append] at h
  simp only [Bool.and_eq_true] at h
  exact h.1.1.1.2

inductive Acc : List UTok → List Token → Prop
  | nil : Acc [] []
  | tok {u t us ts} : tokMatches u t = true → Acc us ts → Acc (u :: us) (t :: ts)
  | comma {u c us ts} : u.optComma = true → c.kind = .comma → Acc (u :: us) ts → Acc (u :: us) (c :: ts)

theorem acc_of_accounts (pos : Bool) (us : List UTok) (ts : List Token)
    (h : accounts pos us ts = true) : Acc us ts :=
  accounts_elim .nil (fun hm _ _ ih => .tok hm ih) (fun _ ho hc hm _ _ ih => .comma ho hc (.tok hm ih)) h

theorem Acc.nil_right {us : List UTok} (h : Acc us []) : us = [] := by cases h; rfl
theorem Acc.nil_left {ts : List Token} (h : Acc [] ts) : ts = [] := by cases h; rfl

theorem tokMatches_kind {u : UTok} {t : Token} (h : tokMatches u t = true) : u.kind = t.kind := by
  simp only [tokMatches, Bool.and_eq_true, beq_iff_eq] at h; exact h.1

theorem Acc.run_eq {us : List UTok} {ts : List Token} (h : Acc us ts) : ∀ stk,
    run stk (ts.map fun t => brK t.kind) = run stk ((us.map cl).map Cl.br) := by
  induction h with
  | nil => intro stk; rfl
  | @tok u t us ts hm _ ih =>
    intro stk
    have hb : brK t.kind = (cl u).br := by rw [cl_br, tokMatches_kind hm]
    simp only [List.map_cons, hb]
    cases hbr : (cl u).br with
    | n => simp only [run]; exact ih stk
    | o k => simp only [run]; exact ih _
    | c k =>
      cases stk with
      | nil => simp only [run]
      | cons k' stk => simp only [run]; split; exact ih _; rfl
  | @comma u c us ts _ hc _ ih =>
    intro stk
    simp only [List.map_cons, hc, brK, run]
    exact ih stk

theorem Acc.suffix {us : List UTok} {ts : List Token} (h : Acc us ts) :
    ∀ pre rest, ts = pre ++ rest → ∃ pre' rest', us = pre' ++ rest' ∧ Acc rest' rest := by
  induction h with
  | nil =>
    intro pre rest hts
    obtain ⟨rfl, rfl⟩ := List.append_eq_nil_iff.1 hts.symm
    exact ⟨[], [], rfl, .nil⟩
  | @tok u t us ts hm hacc ih =>
    intro pre rest hts
    cases pre with
    | nil => obtain rfl : rest = t :: ts := hts.symm; exact ⟨[], u :: us, rfl, .tok hm hacc⟩
    | cons p pre2 =>
      obtain ⟨rfl, hr⟩ := List.cons.inj (hts.trans (List.cons_append ..))
      obtain ⟨pre', rest', hv, hp⟩ := ih pre2 rest hr
      exact ⟨u :: pre', rest', by rw [hv]; rfl, hp⟩
  | @comma u c us ts ho hc hacc ih =>
    intro pre rest hts
    cases pre with
    | nil => obtain rfl : rest = c :: ts := hts.symm; exact ⟨[], u :: us, rfl, .comma ho hc hacc⟩
    | cons p pre2 =>
      obtain ⟨rfl, hr⟩ := List.cons.inj (hts.trans (List.cons_append ..))
      exact ih pre2 rest hr

theorem Acc.last {us : List UTok} {ts : List Token} (h : Acc us ts) :
    ∀ t, ts.getLast? = some t → ∃ u, us.getLast? = some u ∧ tokMatches u t = true := by
  intro t ht
  obtain ⟨pre, rfl⟩ : ∃ pre, ts = pre ++ [t] := ⟨ts.dropLast, by
    rw [List.getLast?_eq_some_iff] at ht; obtain ⟨l, rfl⟩ := ht; simp⟩
  obtain ⟨pre', rest', rfl, hr⟩ := h.suffix pre [t] rfl
  cases hr with
  | tok hm hacc => cases hacc.nil_right; exact ⟨_, by simp, hm⟩
  | comma _ _ hacc => cases hacc

theorem Acc.prefix {us : List UTok} {ts : List Token} (h : Acc us ts) :
    ∀ w post, ts = w ++ post → (∀ t ∈ w, t.kind ≠ .comma) →
      ∃ v post', us = v ++ post' ∧ Forall₂ (fun u t => tokMatches u t = true) v w ∧ Acc post' post := by
  induction h with
  | nil =>
    intro w post hw _
    have hw' := List.append_eq_nil_iff.1 hw.symm
    obtain ⟨rfl, rfl⟩ := hw'
    exact ⟨[], [], rfl, .nil, .nil⟩
  | @tok u t us ts hm hacc ih =>
    intro w post hw hnc
    cases w with
    | nil =>
      simp only [List.nil_append] at hw
      subst hw
      exact ⟨[], u :: us, rfl, .nil, .tok hm hacc⟩
    | cons t1 w2 =>
      simp only [List.cons_append, List.cons.injEq] at hw
      obtain ⟨rfl, hts⟩ := hw
      obtain ⟨v, post', hv, hf, hp⟩ := ih w2 post hts (fun t ht => hnc t (List.mem_cons_of_mem _ ht))
      exact ⟨u :: v, post', by rw [hv]; rfl, .cons hm hf, hp⟩
  | @comma u c us ts ho hc hacc _ =>
    intro w post hw hnc
    cases w with
    | nil =>
      simp only [List.nil_append] at hw
      subst hw
      exact ⟨[], u :: us, rfl, .nil, .comma ho hc hacc⟩
    | cons t1 w2 =>
      simp only [List.cons_append, List.cons.injEq] at hw
      obtain ⟨rfl, _⟩ := hw
      exact absurd hc (hnc _ (by simp))

theorem Acc.window {us : List UTok} {ts : List Token} (h : Acc us ts) :
    ∀ pre w post, ts = pre ++ w ++ post → (∀ t ∈ w, t.kind ≠ .comma) →
      ∃ pre' v post', us = pre' ++ v ++ post' ∧ Forall₂ (fun u t => tokMatches u t = true) v w ∧
        Acc post' post := by
  intro pre w post hts hnc
  obtain ⟨pre', rest', hv, hr⟩ := h.suffix pre (w ++ post) (by rw [hts, List.append_assoc])
  obtain ⟨v, post', hv', hf, hp⟩ := hr.prefix w post rfl hnc
  exact ⟨pre', v, post', by rw [hv, hv', List.append_assoc], hf, hp⟩

end Pql.Reject
