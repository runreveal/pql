/-
Property C16, semantic half — `Parse` on `prelude ++ statement`.

`prelude_parse` : the statements of `preludeOf ls ++ s` are the statements of the let texts (each
   parsed alone, moved to its offset) followed by the statements of `s` moved by the length of the
   prelude; error-free iff all parts are.
The prelude is taken apart from the front: a let text, its ';' (`C15_parse_semicolon_of_reaches`), a
newline in front of the rest (`parse_nl_cons`); the offsets add up (`shStmt_add`).
The only hypothesis is `SemiClosed l` for every let text: the ';' behind it is a token whatever
follows (`semiClosed_iff`, Lemmas/CliSemCompile.lean: equivalent to `SemiEnds l`).
-/
import PqlModel.Lemmas.CliSemDefs
import PqlModel.Lemmas.CliLemmasLast
import PqlModel.Props.C15Parse
namespace Pql.CliSem
open Pql Pql.Piecewise

theorem scan_nl_cons (b : Bytes) : scan (10 :: b) = (scan b).map (Token.shift 1) := by
  unfold scan
  rw [scanFrom_nl_cons, scanFrom_eq_map_scan]
  rfl

theorem parse_nl_cons (b : Bytes) :
    (parse (10 :: b)).1 = (parse b).1.map (shStmt 1) ∧ ((parse (10 :: b)).2 = [] ↔ (parse b).2 = []) := by
  have h := parse_in_context b (10 :: b).length 1
  have e : parse (10 :: b) = parseTokens (10 :: b).length ((scan b).map (Token.shift 1)) := by
    rw [parse, scan_nl_cons]
  rw [e, h]
  exact ⟨rfl, mapE_eq_nil _ _ _ _⟩

theorem shStmt_add (a b : Nat) (st : Stmt) : shStmt a (shStmt b st) = shStmt (b + a) st := by
  rw [shStmt_eq, shStmt_eq, shStmt_eq, Layout.mapStmt_comp]
  congr 1
  funext sp
  simp only [Function.comp, shSpan]
  split
  · rw [if_pos (by simp only; omega)]
    simp only [Span.mk.injEq]
    omega
  · rfl

theorem map_shStmt_add (a b : Nat) (l : List Stmt) :
    (l.map (shStmt b)).map (shStmt a) = l.map (shStmt (b + a)) := by
  rw [List.map_map]
  exact List.map_congr_left fun st _ => shStmt_add a b st

/-- `SemiEnds` for every follower of the ';' — the form the parse lemmas consume
    (`semiClosed_iff`, Lemmas/CliSemCompile.lean) -/
def SemiClosed (l : Bytes) : Prop := ∀ v, Reaches (l ++ 59 :: v) l.length

theorem SemiClosed.semiEnds {l : Bytes} (h : SemiClosed l) : SemiEnds l := h []

theorem preludeOf_nil : preludeOf [] = [] := rfl

theorem preludeOf_cons (l : Bytes) (ls : List Bytes) :
    preludeOf (l :: ls) = l ++ 59 :: 10 :: preludeOf ls := by
  simp [preludeOf, sep]

theorem preludeOf_append (a b : List Bytes) : preludeOf (a ++ b) = preludeOf a ++ preludeOf b := by
  simp [preludeOf]

theorem preludeOf_snoc (ls : List Bytes) (l : Bytes) :
    preludeOf (ls ++ [l]) = preludeOf ls ++ l ++ [59, 10] := by
  simp [preludeOf, sep]

theorem letsAt_shift (d : Nat) (ls : List Bytes) : ∀ off,
    (letsAt off ls).map (shStmt d) = letsAt (off + d) ls := by
  induction ls with
  | nil => intro off; rfl
  | cons l ls ih =>
    intro off
    simp only [letsAt, List.map_append, map_shStmt_add, ih]
    congr 2; omega

theorem prelude_parse (ls : List Bytes) (hls : ∀ l ∈ ls, SemiClosed l) (s : Bytes) :
    (parse (preludeOf ls ++ s)).1 =
        letsAt 0 ls ++ (parse s).1.map (shStmt (preludeOf ls).length) ∧
      ((parse (preludeOf ls ++ s)).2 = [] ↔ (∀ l ∈ ls, (parse l).2 = []) ∧ (parse s).2 = []) := by
  induction ls with
  | nil => simp [preludeOf_nil, letsAt, map_shStmt_zero]
  | cons l ls ih =>
    -- `l`, the ';' (a token whatever follows), then a newline in front of the rest
    obtain ⟨ih1, ih2⟩ := ih fun l' h => hls l' (List.mem_cons_of_mem _ h)
    obtain ⟨n1, n2⟩ := parse_nl_cons (preludeOf ls ++ s)
    obtain ⟨p1, p2⟩ := C15_parse_semicolon_of_reaches l (10 :: (preludeOf ls ++ s))
      (hls l List.mem_cons_self _)
    have e : preludeOf (l :: ls) ++ s = l ++ 59 :: 10 :: (preludeOf ls ++ s) := by
      rw [preludeOf_cons]; simp
    have elen : (preludeOf (l :: ls)).length = (preludeOf ls).length + (1 + (l.length + 1)) := by
      rw [preludeOf_cons]; simp; omega
    rw [e, elen]
    constructor
    · rw [p1, n1, ih1, map_shStmt_add, List.map_append, letsAt_shift, map_shStmt_add]
      simp only [letsAt, map_shStmt_zero, List.append_assoc]
      congr 3; omega
    · rw [p2, n2, ih2, List.forall_mem_cons, and_assoc]

end Pql.CliSem
