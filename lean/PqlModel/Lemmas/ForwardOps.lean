/-
Property C07 (forward direction), the productions below the operators: sort terms,
columns, column lists, row counts, `summarize`, `render`.  The item parsers are non-recursive
apart from calls to `pExpr`, for which `fwd_all` (Lemmas/ForwardExpr.lean) is used; the comma
loops over them all go through `items_run` (`commaLoop_fwd` for the three that are `commaLoop`).
-/
import PqlModel.Lemmas.ForwardExpr
import PqlModel.Lemmas.ForwardSplit
import PqlModel.Lemmas.AccountedStmt
import PqlModel.Lemmas.ParseCasesOps
import PqlModel.Lemmas.UnparseInduct
namespace Pql
open Grammar

def RealBy {α : Type} (f : α → Option (List UTok)) (x : α) (ts : List Token) : Prop :=
  ∃ us, f x = some us ∧ accounts true us ts = true ∧ NoLparenComma ts = true

theorem realBy_expr {e : Expr} {ts : List Token} : RealBy unparseExpr e ts ↔ Real e ts := Iff.rfl

theorem pExpr_real (c : PCtx) (fuel : Nat) {e : Expr} {ts : List Token} (rest : List Token)
    (hok : okExpr e = true) (hr : Real e ts) (hs : StopsAt 0 rest = true)
    (hf : 4 * (ts ++ rest).length + 4 ≤ fuel) : pExpr c fuel (ts ++ rest) = ⟨e, [], rest⟩ :=
  (fwd_all c fuel).expr e ts rest hok hr hs hf

/-- a span field that marks an absent optional part is the null span -/
def canonSpan (s : Span) : Bool := s.isValid || s == Span.null

theorem canonSpan_invalid {s : Span} (hc : canonSpan s = true) (hv : s.isValid = false) : s = Span.null := by
  simpa [canonSpan, hv] using hc

theorem tokOk_kwTok_inv {a : String} {as : List String} {sp : Span} {t : Token}
    (h : tokOk (kwTok (a :: as) sp) t = true) :
    t.kind = .ident ∧ t.value ∈ (a :: as).map Bytes.ofString ∧ t.span = sp := by
  simp only [tokOk, tokMatches, posMatches, kwTok, List.map_cons, List.isEmpty_cons, Bool.false_eq_true,
    if_false, Bool.and_eq_true, beq_iff_eq, List.contains_eq_mem, decide_eq_true_eq] at h
  exact ⟨h.1.1.symm, by simpa using h.1.2, span_eq h.2.1 h.2.2⟩

theorem tokOk_kwTok1_inv {a : String} {sp : Span} {t : Token} (h : tokOk (kwTok [a] sp) t = true) :
    isIdentNamed t a = true ∧ t.span = sp := by
  obtain ⟨hk, hv, hs⟩ := tokOk_kwTok_inv h
  simp only [List.map_cons, List.map_nil, List.mem_singleton] at hv
  exact ⟨by simp [isIdentNamed, hk, hv], hs⟩

theorem tokOk_kwPlainStart_inv {a : String} {s : Int} {t : Token}
    (h : tokOk { kwPlain [a] with start := some s } t = true) :
    isIdentNamed t a = true ∧ s = (t.start : Int) := by
  simp only [tokOk, tokMatches, posMatches, kwPlain, List.map_cons, List.map_nil, List.isEmpty_cons,
    Bool.false_eq_true, if_false, Bool.and_eq_true, beq_iff_eq, List.contains_eq_mem, decide_eq_true_eq,
    List.mem_singleton, and_true] at h
  exact ⟨by simp [isIdentNamed, ← h.1.1, h.1.2], h.2⟩

theorem tokOk_kwPlainStop_inv {a : String} {s : Int} {t : Token}
    (h : tokOk { kwPlain [a] with stop := some s } t = true) :
    isIdentNamed t a = true ∧ s = (t.stop : Int) := by
  simp only [tokOk, tokMatches, posMatches, kwPlain, List.map_cons, List.map_nil, List.isEmpty_cons,
    Bool.false_eq_true, if_false, Bool.and_eq_true, beq_iff_eq, List.contains_eq_mem, decide_eq_true_eq,
    List.mem_singleton, true_and] at h
  exact ⟨by simp [isIdentNamed, ← h.1.1, h.1.2], h.2⟩

theorem isIdentNamed_kind {t : Token} {a : String} (h : isIdentNamed t a = true) : t.kind = .ident :=
  (isIdentNamed_iff.1 h).1

theorem stopsAt_kind {t : Token} {r : List Token} {k : TokKind} (hk : t.kind = k)
    (h : kindStops 0 k = true := by rw [kindStops, C07.precOf_eq]; decide) : StopsAt 0 (t :: r) = true := by
  simp only [StopsAt, hk, h]

theorem stopsAt_ident {t : Token} {r : List Token} (hk : t.kind = .ident) : StopsAt 0 (t :: r) = true :=
  stopsAt_kind hk

def canonSortTerm (t : SortTerm) : Bool := canonSpan t.ascDescSpan && canonSpan t.nullsSpan

def notNamed (names : List String) : List Token → Bool
  | [] => true
  | t :: _ => !(names.any fun n => isIdentNamed t n)

def SortStops (rest : List Token) : Bool := StopsAt 0 rest && notNamed ["asc", "desc", "nulls"] rest

def DirReal (t : SortTerm) (td : List Token) : Prop :=
  (t.ascDescSpan.isValid = false ∧ td = []) ∨
  (t.ascDescSpan.isValid = true ∧ ∃ d, td = [d] ∧ isIdentNamed d (if t.asc then "asc" else "desc") = true ∧
    d.span = t.ascDescSpan)

def NullsReal (t : SortTerm) (tn : List Token) : Prop :=
  (t.nullsSpan.isValid = false ∧ tn = []) ∨
  (t.nullsSpan.isValid = true ∧ ∃ n1 n2, tn = [n1, n2] ∧ isIdentNamed n1 "nulls" = true ∧
    isIdentNamed n2 (if t.nullsFirst then "first" else "last") = true ∧
    t.nullsSpan = ⟨n1.start, n2.stop⟩)

theorem sortTerm_real {t : SortTerm} {ts : List Token} (h : RealBy unparseSortTerm t ts) :
    ∃ tx td tn, ts = tx ++ (td ++ tn) ∧ Real t.x tx ∧ DirReal t td ∧ NullsReal t tn := by
  obtain ⟨us, hu, ha, hn⟩ := h
  cases hx : unparseExpr t.x with
  | none => simp [unparseSortTerm, hx] at hu
  | some xs =>
    rw [unparseSortTerm_eq hx] at hu
    simp only [Option.some.injEq] at hu
    subst hu
    rw [List.append_assoc] at ha
    obtain ⟨tx, t2, rfl, h1, h2⟩ := accounts_append_split ha
    obtain ⟨td, tn, rfl, h3, h4⟩ := accounts_append_split h2
    refine ⟨tx, td, tn, rfl, ⟨xs, hx, h1, nlc_left hn⟩, ?_, ?_⟩
    · unfold dirOf at h3
      by_cases hv : t.ascDescSpan.isValid = true
      · rw [if_pos hv] at h3
        obtain ⟨d, r, rfl, hd, hr⟩ := accounts_cons_inv rfl h3
        have := accounts_nil_left hr
        subst this
        obtain ⟨h5, h6⟩ := tokOk_kwTok1_inv hd
        exact Or.inr ⟨hv, d, rfl, h5, h6⟩
      · rw [if_neg hv] at h3
        exact Or.inl ⟨by simpa using hv, accounts_nil_left h3⟩
    · unfold nullsOf at h4
      by_cases hv : t.nullsSpan.isValid = true
      · rw [if_pos hv] at h4
        obtain ⟨n1, r, rfl, hd1, hr⟩ := accounts_cons_inv rfl h4
        obtain ⟨n2, r2, rfl, hd2, hr2⟩ := accounts_cons_inv rfl hr
        have := accounts_nil_left hr2
        subst this
        obtain ⟨h5, h6⟩ := tokOk_kwPlainStart_inv hd1
        obtain ⟨h7, h8⟩ := tokOk_kwPlainStop_inv hd2
        refine Or.inr ⟨hv, n1, n2, rfl, h5, h7, ?_⟩
        cases hsp : t.nullsSpan with
        | mk a b => rw [hsp] at h6 h8; simp only at h6 h8; rw [h6, h8]
      · rw [if_neg hv] at h4
        exact Or.inl ⟨by simpa using hv, accounts_nil_left h4⟩

theorem kw_asc_desc : (Bytes.ofString "asc" == Bytes.ofString "desc") = false := by decide
theorem kw_desc_asc : (Bytes.ofString "desc" == Bytes.ofString "asc") = false := by decide
theorem kw_nulls_asc : (Bytes.ofString "nulls" == Bytes.ofString "asc") = false := by decide
theorem kw_nulls_desc : (Bytes.ofString "nulls" == Bytes.ofString "desc") = false := by decide
theorem kw_last_first : (Bytes.ofString "last" == Bytes.ofString "first") = false := by decide

theorem isIdentNamed_other {t : Token} {a b : String} (h : isIdentNamed t a = true)
    (hne : (Bytes.ofString a == Bytes.ofString b) = false) : isIdentNamed t b = false := by
  obtain ⟨hk, hv⟩ := isIdentNamed_iff.1 h
  simp [isIdentNamed, hk, hv, hne]

theorem notNamed_cons {names : List String} {t : Token} {r : List Token} {n : String}
    (h : notNamed names (t :: r) = true) (hn : n ∈ names) : isIdentNamed t n = false := by
  simp only [notNamed, Bool.not_eq_true', List.any_eq_false] at h
  simpa using h n hn

theorem sortDir_real {t : SortTerm} {td r : List Token} (hd : DirReal t td)
    (hno : t.ascDescSpan.isValid = false → t.asc = false ∧ t.ascDescSpan = .null)
    (hr : td = [] → ∀ t0 r0, r = t0 :: r0 → isIdentNamed t0 "asc" = false ∧ isIdentNamed t0 "desc" = false) :
    sortDir ⟨t.x, false, .null, false, .null⟩ (td ++ r) = (⟨t.x, t.asc, t.ascDescSpan, t.asc, .null⟩, r) := by
  rcases hd with ⟨hv, rfl⟩ | ⟨-, d, rfl, hdn, hds⟩
  · obtain ⟨h1, h2⟩ := hno hv
    rw [List.nil_append, sortDir_none (hr rfl), h1, h2]
  · cases hasc : t.asc with
    | true =>
      rw [hasc] at hdn
      rw [← hds]
      exact sortDir_asc hdn
    | false =>
      rw [hasc] at hdn
      rw [← hds]
      exact sortDir_desc (isIdentNamed_other hdn kw_desc_asc) hdn

theorem nullsClause_real {c : PCtx} {t term : SortTerm} {tn rest : List Token} (hnl : NullsReal t tn)
    (hno : t.nullsSpan.isValid = false → term.nullsFirst = t.nullsFirst ∧ term.nullsSpan = t.nullsSpan)
    (hr : tn = [] → ∀ t0 r0, rest = t0 :: r0 → isIdentNamed t0 "nulls" = false) :
    nullsClause c term (tn ++ rest) =
      ⟨some { term with nullsFirst := t.nullsFirst, nullsSpan := t.nullsSpan }, [], rest⟩ := by
  rcases hnl with ⟨hv, rfl⟩ | ⟨-, n1, n2, rfl, hn1, hn2, hsp⟩
  · obtain ⟨h1, h2⟩ := hno hv
    rw [List.nil_append, nullsClause_none (hr rfl), ← h1, ← h2]
  · rw [hsp]
    cases hnf : t.nullsFirst with
    | true =>
      rw [hnf] at hn2
      exact nullsClause_first hn1 hn2
    | false =>
      rw [hnf] at hn2
      exact nullsClause_last hn1 (isIdentNamed_other hn2 kw_last_first) hn2

theorem pSortTerm_fwd (c : PCtx) (fuel : Nat) (t : SortTerm) (ts rest : List Token)
    (hwf : wfSortTerm t = true) (hcan : canonSortTerm t = true) (hr : RealBy unparseSortTerm t ts)
    (hs : SortStops rest = true) (hf : 4 * (ts ++ rest).length + 4 ≤ fuel) :
    pSortTerm c fuel (ts ++ rest) = ⟨some t, [], rest⟩ := by
  obtain ⟨tx, td, tn, rfl, hx, hd, hnl⟩ := sortTerm_real hr
  simp only [wfSortTerm, Bool.and_eq_true, Bool.or_eq_true, Bool.not_eq_true', beq_iff_eq] at hwf
  obtain ⟨⟨hok, hwa⟩, hwn⟩ := hwf
  simp only [canonSortTerm, Bool.and_eq_true] at hcan
  simp only [SortStops, Bool.and_eq_true] at hs
  have hstop : StopsAt 0 (td ++ (tn ++ rest)) = true := by
    rcases hd with ⟨-, rfl⟩ | ⟨-, d, rfl, hdn, -⟩
    · rcases hnl with ⟨-, rfl⟩ | ⟨-, n1, n2, rfl, hn1, -⟩
      · exact hs.1
      · exact stopsAt_ident (isIdentNamed_kind hn1)
    · exact stopsAt_ident (isIdentNamed_kind hdn)
  have hE := pExpr_real c fuel (td ++ (tn ++ rest)) hok hx hstop
    (by simp only [List.length_append] at hf ⊢; omega)
  have hlist : tx ++ (td ++ tn) ++ rest = tx ++ (td ++ (tn ++ rest)) := by simp
  rw [hlist, pSortTerm_ok (by rw [hE]), hE]
  -- without a direction keyword the next token is `nulls` or what follows the term
  have hnodir : td = [] → ∀ t0 r0, tn ++ rest = t0 :: r0 →
      isIdentNamed t0 "asc" = false ∧ isIdentNamed t0 "desc" = false := by
    intro _ t0 r0 h0
    rcases hnl with ⟨-, rfl⟩ | ⟨-, n1, n2, rfl, hn1, -⟩
    · rw [List.nil_append] at h0
      rw [h0] at hs
      exact ⟨notNamed_cons (n := "asc") hs.2 (by simp), notNamed_cons (n := "desc") hs.2 (by simp)⟩
    · cases h0
      exact ⟨isIdentNamed_other hn1 kw_nulls_asc, isIdentNamed_other hn1 kw_nulls_desc⟩
  rw [sortDir_real hd (fun hv => ⟨by simpa [hv] using hwa, canonSpan_invalid hcan.1 hv⟩) hnodir]
  rw [nullsClause_real (t := t) hnl (fun hv => ⟨by simpa [hv, eq_comm] using hwn, (canonSpan_invalid hcan.2 hv).symm⟩)
    (fun _ t0 r0 h0 => by rw [h0] at hs; exact notNamed_cons (n := "nulls") hs.2 (by simp))]

def Items {α : Type} (R : α → List Token → Prop) : List α → List Token → Prop
  | [], _ => False
  | [x], ts => R x ts
  | x :: y :: ys, ts => ∃ tx cm tr, ts = tx ++ cm :: tr ∧ cm.kind = .comma ∧ R x tx ∧ Items R (y :: ys) tr

theorem items_real {α : Type} {f : α → Option (List UTok)} {xs : List α} {uss : List (List UTok)}
    {ts : List Token} (hne : xs ≠ []) (hl : listM f xs = some uss)
    (ha : accounts true (sepBy commaTok uss) ts = true) (hn : NoLparenComma ts = true) : Items (RealBy f) xs ts :=
  sepList_induct
    (P := fun xs us => xs ≠ [] → ∀ ts, accounts true us ts = true → NoLparenComma ts = true → Items (RealBy f) xs ts)
    (fun h => absurd rfl h) (fun _ u hx _ _ ha hn => ⟨u, hx, ha, hn⟩)
    (fun _ _ _ u _ hx ih _ _ ha hn => by
      obtain ⟨tx, t2, rfl, h1, h2⟩ := accounts_append_split ha
      obtain ⟨cm, tr, rfl, hcm, h3⟩ := accounts_cons_inv rfl h2
      exact ⟨tx, cm, tr, rfl, tokOk_commaTok_inv hcm, ⟨u, hx, h1, nlc_left hn⟩,
        ih (List.cons_ne_nil _ _) tr h3 (nlc_tail (nlc_right hn))⟩) xs uss hl hne ts ha hn

theorem items_length {α : Type} {R : α → List Token → Prop} : ∀ {xs : List α} {ts : List Token},
    Items R xs ts → xs.length ≤ ts.length + 1
  | [_], _, _ => by simp
  | _ :: y :: ys, _, ⟨tx, cm, tr, hts, _, _, hr⟩ => by
    have := items_length hr
    subst hts
    simp only [List.length_cons, List.length_append] at this ⊢
    omega

/-- A loop over comma-separated items, seen from its runs: `Run n acc ts acc'` says that the loop
    with `n` rounds left, holding `acc`, ends on `ts` with the items `acc'`, in whatever way the
    particular loop ends before `tail`.  A loop that gets through one item and its comma (`more`) and
    through a last item (`last`) gets through a whole list; `P` is what the item parser needs to know
    about an item. -/
theorem items_run {α : Type} {P : α → Prop} {R : α → List Token → Prop}
    {Run : Nat → List α → List Token → List α → Prop} {tail : List Token}
    (more : ∀ {n acc acc' x tx cm r}, P x → R x tx → cm.kind = .comma → Run n (acc ++ [x]) r acc' →
      Run (n + 1) acc (tx ++ cm :: r) acc')
    (last : ∀ {n acc x tx}, P x → R x tx → Run (n + 1) acc (tx ++ tail) (acc ++ [x])) :
    ∀ (xs : List α) {n : Nat} {acc : List α} {ts : List Token}, (∀ y ∈ xs, P y) → Items R xs ts →
      xs.length ≤ n → Run n acc (ts ++ tail) (acc ++ xs)
  | [], _, _, _, _, h, _ => h.elim
  | [x], n, _, _, hP, h, hn => by
    obtain ⟨n, rfl⟩ := Nat.exists_eq_add_one_of_ne_zero (Nat.ne_zero_of_lt hn)
    exact last (hP x List.mem_cons_self) h
  | x :: y :: ys, n, acc, _, hP, ⟨tx, cm, tr, hts, hcm, hx, hr⟩, hn => by
    obtain ⟨n, rfl⟩ := Nat.exists_eq_add_one_of_ne_zero (Nat.ne_zero_of_lt hn)
    have := more (hP x List.mem_cons_self) hx hcm (items_run (Run := Run) more last (y :: ys) (acc := acc ++ [x])
      (fun z hz => hP z (List.mem_cons_of_mem _ hz)) hr (Nat.le_of_succ_le_succ hn))
    rw [List.append_assoc acc] at this
    rw [hts, List.append_assoc, List.cons_append]
    exact this

/-- `commaLoop` (the loop of `pSortTerms`, `pExtendCols`, `pGroupByCols`) gets through a list of
    items if its item parser gets through one item that stands in front of a comma or at the end -/
theorem commaLoop_fwd {α β : Type} {item : List Token → PRes β} {bad : List α → PRes β → List α}
    {good : List α → β → List α} {P : α → Prop} {R : α → List Token → Prop} {fuel : Nat}
    (hitem : ∀ x tx rest, P x → R x tx → (rest = [] ∨ ∃ cm r, rest = cm :: r ∧ cm.kind = .comma) →
      4 * (tx ++ rest).length + 4 ≤ fuel →
      ∃ v, item (tx ++ rest) = ⟨v, [], rest⟩ ∧ ∀ acc, good acc v = acc ++ [x])
    {xs : List α} {n : Nat} {acc : List α} {ts : List Token} (hP : ∀ y ∈ xs, P y) (hI : Items R xs ts)
    (hn : xs.length ≤ n) (hf : 4 * ts.length + 4 ≤ fuel) :
    commaLoop item bad good n acc ts = ⟨acc ++ xs, [], []⟩ := by
  rw [← List.append_nil ts]
  refine items_run
    (Run := fun n acc ts acc' => 4 * ts.length + 4 ≤ fuel → commaLoop item bad good n acc ts = ⟨acc', [], []⟩)
    ?_ ?_ xs hP hI hn (by rwa [List.append_nil])
  · intro n acc acc' x tx cm r hp hx hcm ih hf
    obtain ⟨v, hv, hg⟩ := hitem x tx (cm :: r) hp hx (.inr ⟨cm, r, rfl, hcm⟩) hf
    rw [commaLoop]
    simp only [hv, ne_eq, not_true_eq_false, if_false, hcm, if_true, hg]
    exact ih (by simp only [List.length_append, List.length_cons] at hf; omega)
  · intro n acc x tx hp hx hf
    obtain ⟨v, hv, hg⟩ := hitem x tx [] hp hx (.inl rfl) hf
    rw [commaLoop]
    simp only [hv, ne_eq, not_true_eq_false, if_false, hg]

theorem all_and {α : Type} {p q : α → Bool} {l : List α} (hp : l.all p = true) (hq : l.all q = true) :
    ∀ y ∈ l, p y = true ∧ q y = true :=
  fun y hy => ⟨List.all_eq_true.1 hp y hy, List.all_eq_true.1 hq y hy⟩

theorem isIdentNamed_comma {t : Token} {a : String} (hk : t.kind = .comma) : isIdentNamed t a = false := by
  simp [isIdentNamed, hk]

theorem sortStops_comma {cm : Token} {r : List Token} (hcm : cm.kind = .comma) :
    SortStops (cm :: r) = true := by
  simp only [SortStops, Bool.and_eq_true]
  refine ⟨stopsAt_kind hcm, ?_⟩
  simp [notNamed, isIdentNamed_comma hcm]

theorem pSortTerms_fwd (c : PCtx) (fuel : Nat) {xs : List SortTerm} {n : Nat} {acc : List SortTerm}
    {ts : List Token} (hP : ∀ y ∈ xs, wfSortTerm y = true ∧ canonSortTerm y = true)
    (hI : Items (RealBy unparseSortTerm) xs ts) (hn : xs.length ≤ n) (hf : 4 * ts.length + 4 ≤ fuel) :
    pSortTerms c fuel n acc ts = ⟨acc ++ xs, [], []⟩ := by
  rw [pSortTerms_eq_loop]
  refine commaLoop_fwd (fun x tx rest hp hx hr hf => ⟨some x, ?_, fun _ => rfl⟩) hP hI hn hf
  refine pSortTerm_fwd c fuel x tx rest hp.1 hp.2 hx ?_ hf
  rcases hr with rfl | ⟨cm, r, rfl, hcm⟩
  · rfl
  · exact sortStops_comma hcm

def canonColumn (col : Column) : Bool := canonSpan col.assign

def ColStops (rest : List Token) : Bool :=
  StopsAt 0 rest && (match rest with | t :: _ => t.kind != .assign | [] => true)

theorem wfColumn_ok {col : Column} (h : wfColumn col = true) (hne : col.x ≠ .nil) : okExpr col.x = true := by
  obtain ⟨n, a, x⟩ := col
  cases x <;> first | exact absurd rfl hne | exact h

theorem real_ne_nilE {e : Expr} {ts : List Token} (h : Real e ts) : e ≠ .nil :=
  (real_iff.1 h).1.ne_nil.1

/-- the tokens of a column, by the three ways a column unparses: `name = x`; a bare name (`project`
    only); a bare expression (not in `project`) -/
def ColReal (b : Bool) (col : Column) (ts : List Token) : Prop :=
  (∃ n tn ta tx, col.name = some n ∧ ts = tn :: ta :: tx ∧ IsIdentTok n tn ∧ ta.kind = .assign ∧
    ta.span = col.assign ∧ Real col.x tx ∧ okExpr col.x = true) ∨
  (b = true ∧ ∃ n tn, col = ⟨some n, .null, .nil⟩ ∧ ts = [tn] ∧ IsIdentTok n tn) ∨
  (b = false ∧ col.name = none ∧ col.assign = .null ∧ Real col.x ts ∧ okExpr col.x = true)

theorem col_real {b : Bool} {col : Column} {ts : List Token} (h : RealBy (unparseColumn b) col ts)
    (hwf : wfColumn col = true) (hcan : canonColumn col = true) : ColReal b col ts := by
  obtain ⟨us, hu, ha, hn⟩ := h
  refine unparseColumn_cases (P := fun col us => ∀ ts, accounts true us ts = true → NoLparenComma ts = true →
    wfColumn col = true → canonColumn col = true → ColReal b col ts) ?_ ?_ ?_ col us hu ts ha hn hwf hcan
  · intro n asg x xs _ hx ts ha hn hwf _
    obtain ⟨tn, t2, rfl, htn, h2⟩ := accounts_cons_inv (by simp [identTok]) ha
    obtain ⟨ta, tx, rfl, hta, h3⟩ := accounts_cons_inv rfl h2
    have hrx : Real x tx := ⟨xs, hx, h3, nlc_tail (nlc_tail hn)⟩
    exact Or.inl ⟨n, tn, ta, tx, rfl, rfl, tokOk_identTok_inv htn, (tokOk_sym_inv hta).1, (tokOk_sym_inv hta).2,
      hrx, wfColumn_ok hwf (real_ne_nilE hrx)⟩
  · intro n asg hb hv ts ha _ _ hcan
    obtain rfl := canonSpan_invalid hcan hv
    obtain ⟨tn, t2, rfl, htn, h2⟩ := accounts_cons_inv (by simp [identTok]) ha
    obtain rfl := accounts_nil_left h2
    exact Or.inr (Or.inl ⟨hb, n, tn, rfl, rfl, tokOk_identTok_inv htn⟩)
  · intro asg x xs hb hv hx ts ha hn hwf hcan
    have hrx : Real x ts := ⟨xs, hx, ha, hn⟩
    exact Or.inr (Or.inr ⟨hb, rfl, canonSpan_invalid hcan hv, hrx, wfColumn_ok hwf (real_ne_nilE hrx)⟩)

theorem colStops_stops {rest : List Token} (h : ColStops rest = true) : StopsAt 0 rest = true := by
  simp only [ColStops, Bool.and_eq_true] at h; exact h.1

theorem exprKind_not_assign {k : TokKind} (h : exprKind k = true) : k ≠ .assign := by
  rintro rfl; simp [exprKind] at h

theorem pNamedColumn_fwd (c : PCtx) (fuel : Nat) (col : Column) (ts rest : List Token)
    (hwf : wfColumn col = true) (hcan : canonColumn col = true) (hr : RealBy (unparseColumn false) col ts)
    (hs : ColStops rest = true) (hf : 4 * (ts ++ rest).length + 4 ≤ fuel) :
    pNamedColumn c fuel (ts ++ rest) = ⟨col, [], rest⟩ := by
  rcases col_real hr hwf hcan with ⟨n, tn, ta, tx, hname, rfl, htn, hk, hsp, hx, hok⟩ | ⟨hb, -⟩ |
    ⟨-, hname, hasg, hx, hok⟩
  · obtain ⟨name, asg, x⟩ := col
    simp only at hname hsp hx hok
    subst hname hsp
    simp only [List.cons_append, List.length_cons] at hf ⊢
    have hE := pExpr_real c fuel rest hok hx (colStops_stops hs) (by omega)
    simp [pNamedColumn, pIdent_real htn, hk, hE, mkOpaque]
  · cases hb
  · obtain ⟨name, asg, x⟩ := col
    simp only at hname hasg hx hok
    subst hname hasg
    have hE := pExpr_real c fuel rest hok hx (colStops_stops hs) hf
    rw [pNamedColumn_plain ?_, hE]
    -- the second token is no `=`: it is a token of the expression, or the first of `rest`
    intro t0 t r hts _
    match ts, (real_iff.1 hx).1.ne_nil.2, real_kinds x 0 ts hok hx with
    | [a], _, _ =>
      obtain ⟨-, rfl⟩ := List.cons.inj hts
      simp only [ColStops, Bool.and_eq_true, bne_iff_ne] at hs
      exact hs.2
    | a :: b :: ts', _, hkinds =>
      obtain ⟨-, hb⟩ := List.cons.inj hts
      obtain ⟨rfl, -⟩ := List.cons.inj hb
      exact exprKind_not_assign (hkinds b (by simp))

theorem colStops_comma {cm : Token} {r : List Token} (hcm : cm.kind = .comma) : ColStops (cm :: r) = true := by
  simp only [ColStops, Bool.and_eq_true]
  exact ⟨stopsAt_kind hcm, by simp [hcm]⟩

theorem pNamedColumn_item_fwd (c : PCtx) (fuel : Nat) (x : Column) (tx rest : List Token)
    (hp : wfColumn x = true ∧ canonColumn x = true) (hx : RealBy (unparseColumn false) x tx)
    (hr : rest = [] ∨ ∃ cm r, rest = cm :: r ∧ cm.kind = .comma) (hf : 4 * (tx ++ rest).length + 4 ≤ fuel) :
    ∃ v, pNamedColumn c fuel (tx ++ rest) = ⟨v, [], rest⟩ ∧ ∀ acc : List Column, acc ++ [v] = acc ++ [x] := by
  refine ⟨x, pNamedColumn_fwd c fuel x tx rest hp.1 hp.2 hx ?_ hf, fun _ => rfl⟩
  rcases hr with rfl | ⟨cm, r, rfl, hcm⟩
  · rfl
  · exact colStops_comma hcm

theorem pExtendCols_fwd (c : PCtx) (fuel : Nat) {xs : List Column} {n : Nat} {acc : List Column}
    {ts : List Token} (hP : ∀ y ∈ xs, wfColumn y = true ∧ canonColumn y = true)
    (hI : Items (RealBy (unparseColumn false)) xs ts) (hn : xs.length ≤ n) (hf : 4 * ts.length + 4 ≤ fuel) :
    pExtendCols c fuel n acc ts = ⟨acc ++ xs, [], []⟩ := by
  rw [pExtendCols_eq_loop]
  exact commaLoop_fwd (pNamedColumn_item_fwd c fuel) hP hI hn hf

theorem pGroupByCols_fwd (c : PCtx) (fuel : Nat) {xs : List Column} {n : Nat} {acc : List Column}
    {ts : List Token} (hP : ∀ y ∈ xs, wfColumn y = true ∧ canonColumn y = true)
    (hI : Items (RealBy (unparseColumn false)) xs ts) (hn : xs.length ≤ n) (hf : 4 * ts.length + 4 ≤ fuel) :
    pGroupByCols c fuel n acc ts = ⟨acc ++ xs, [], []⟩ := by
  rw [pGroupByCols_eq_loop]
  exact commaLoop_fwd (pNamedColumn_item_fwd c fuel) hP hI hn hf

theorem pProjectCols_fwd (c : PCtx) (fuel : Nat) {xs : List Column} {n : Nat} {acc : List Column}
    {ts : List Token} (hP : ∀ y ∈ xs, wfColumn y = true ∧ canonColumn y = true)
    (hI : Items (RealBy (unparseColumn true)) xs ts) (hn : xs.length ≤ n) (hf : 4 * ts.length + 4 ≤ fuel) :
    pProjectCols c fuel n acc ts = ⟨acc ++ xs, [], []⟩ := by
  rw [← List.append_nil ts]
  refine items_run
    (Run := fun n acc ts acc' => 4 * ts.length + 4 ≤ fuel → pProjectCols c fuel n acc ts = ⟨acc', [], []⟩)
    ?_ ?_ xs hP hI hn (by rwa [List.append_nil])
  · intro n acc acc' x tx cm r hp hx hcm ih hf
    rw [pProjectCols]
    rcases col_real hx hp.1 hp.2 with ⟨nm, tn, ta, tx', hname, rfl, htn, hk, hsp, hrx, hok⟩ |
      ⟨-, nm, tn, rfl, rfl, htn⟩ | ⟨hb, -⟩
    · -- name = expression
      obtain ⟨name, asg, xe⟩ := x
      simp only at hname hsp hrx hok
      subst hname hsp
      simp only [List.cons_append, List.length_cons, List.length_append] at hf ⊢
      have hE := pExpr_real c fuel (cm :: r) hok hrx (stopsAt_kind hcm)
        (by simp only [List.length_append, List.length_cons]; omega)
      simp only [pIdent_real htn, hk, reduceCtorEq, if_false, if_true, hE, ne_eq, not_true_eq_false, hcm]
      exact ih (by omega)
    · -- plain name
      simp only [List.cons_append, List.nil_append, List.length_cons] at hf ⊢
      simp only [pIdent_real htn, hcm, if_true]
      exact ih (by omega)
    · cases hb
  · intro n acc x tx hp hx hf
    rw [pProjectCols]
    rcases col_real hx hp.1 hp.2 with ⟨nm, tn, ta, tx', hname, rfl, htn, hk, hsp, hrx, hok⟩ |
      ⟨-, nm, tn, rfl, rfl, htn⟩ | ⟨hb, -⟩
    · obtain ⟨name, asg, xe⟩ := x
      simp only at hname hsp hrx hok
      subst hname hsp
      simp only [List.cons_append, List.length_cons] at hf ⊢
      have hE := pExpr_real c fuel [] hok hrx rfl (by omega)
      simp only [pIdent_real htn, hk, reduceCtorEq, if_false, if_true, hE, ne_eq, not_true_eq_false]
    · simp only [List.cons_append, List.nil_append, pIdent_real htn]
    · cases hb

theorem pRowCount_fwd (c : PCtx) (fuel : Nat) (n : Expr) (ts rest : List Token) (hok : okExpr n = true)
    (hint : isIntegerLit n = true) (hr : Real n ts) (hs : StopsAt 0 rest = true)
    (hf : 4 * (ts ++ rest).length + 4 ≤ fuel) : pRowCount c fuel (ts ++ rest) = ⟨n, [], rest⟩ := by
  have hE := pExpr_real c fuel rest hok hr hs hf
  simp only [pRowCount, hE, ne_eq, not_true_eq_false, if_false]
  cases n with
  | lit sp k v =>
    simp only [isIntegerLit, Bool.and_eq_true, beq_iff_eq, Bool.not_eq_true'] at hint
    have : litIsInteger k v = true := by
      simp [litIsInteger, litIsFloat, hint.1, hint.2]
    simp [this]
  | nil => rfl
  | qident _ => rfl
  | unary _ _ _ => rfl
  | binary _ _ _ _ => rfl
  | inE _ _ _ _ _ => rfl
  | paren _ _ _ => rfl
  | call _ _ _ _ => rfl
  | index _ _ _ _ => rfl

theorem pExpr_nf_kind (c : PCtx) (f : Nat) (t : Token) (r : List Token)
    (h1 : t.kind ≠ .plus) (h2 : t.kind ≠ .minus) (h3 : t.kind ≠ .number) (h4 : t.kind ≠ .string)
    (h5 : t.kind ≠ .ident) (h6 : t.kind ≠ .qident) (h7 : t.kind ≠ .lparen) :
    pExpr c (f + 4) (t :: r) = ⟨.nil, nfAt t.span, t :: r⟩ := by
  simp [pExpr, pUnary, pPrimary, pInner, h1, h2, h3, h4, h5, h6, h7]

theorem pNamedColumn_by (c : PCtx) (f : Nat) (t : Token) (r : List Token) (hk : t.kind = .by_) :
    isNF (pNamedColumn c (f + 4) (t :: r)).errs = true := by
  have hE := pExpr_nf_kind c f t r (by rw [hk]; decide) (by rw [hk]; decide) (by rw [hk]; decide)
    (by rw [hk]; decide) (by rw [hk]; decide) (by rw [hk]; decide) (by rw [hk]; decide)
  simp [pNamedColumn, pIdent, hk, hE]

theorem pSummarizeCols_end (c : PCtx) (fuel : Nat) {xs : List Column} {n : Nat} {acc : List Column}
    {ts : List Token} (cm : Option Span) (hP : ∀ y ∈ xs, wfColumn y = true ∧ canonColumn y = true)
    (hI : Items (RealBy (unparseColumn false)) xs ts) (hn : xs.length ≤ n) (hf : 4 * ts.length + 4 ≤ fuel) :
    pSummarizeCols c fuel n acc cm ts = ⟨⟨acc ++ xs, true, none⟩, [], []⟩ := by
  rw [← List.append_nil ts]
  refine items_run
    (Run := fun n acc ts acc' => 4 * ts.length + 4 ≤ fuel →
      ∀ cm, pSummarizeCols c fuel n acc cm ts = ⟨⟨acc', true, none⟩, [], []⟩)
    ?_ ?_ xs hP hI hn (by rwa [List.append_nil]) cm
  · intro n acc acc' x tx cm r hp hx hcm ih hf cm0
    have hT := pNamedColumn_fwd c fuel x tx (cm :: r) hp.1 hp.2 hx (colStops_comma hcm) hf
    rw [pSummarizeCols]
    simp only [hT, isNF_nil, Bool.false_eq_true, ne_eq, not_true_eq_false, if_false, hcm, if_true]
    exact ih (by simp only [List.length_append, List.length_cons] at hf; omega) _
  · intro n acc x tx hp hx hf cm0
    have hT := pNamedColumn_fwd c fuel x tx [] hp.1 hp.2 hx rfl hf
    rw [pSummarizeCols]
    simp only [hT, isNF_nil, Bool.false_eq_true, ne_eq, not_true_eq_false, if_false]

def OptCommaReal (tc : List Token) (cm : Option Span) : Prop :=
  (tc = [] ∧ cm = none) ∨ ∃ t, tc = [t] ∧ t.kind = .comma ∧ cm = some t.span

theorem colStops_by {tb : Token} {rest : List Token} (hb : tb.kind = .by_) : ColStops (tb :: rest) = true := by
  simp only [ColStops, Bool.and_eq_true]
  exact ⟨stopsAt_kind hb, by simp [hb]⟩

/-- the column loop when `by` follows (possibly after a comma): after that comma the loop looks for
    one more column, finds none at `by`, and remembers the comma -/
theorem pSummarizeCols_by (c : PCtx) (fuel : Nat) {xs : List Column} {n : Nat} {acc : List Column}
    {cm : Option Span} {ts tc : List Token} {tb : Token} {rest : List Token}
    (cm0 : Option Span) (hP : ∀ y ∈ xs, wfColumn y = true ∧ canonColumn y = true)
    (hI : Items (RealBy (unparseColumn false)) xs ts)
    (hc : OptCommaReal tc cm) (hb : tb.kind = .by_) (hn : xs.length ≤ n)
    (hf : 4 * (ts ++ (tc ++ tb :: rest)).length + 4 ≤ fuel) :
    pSummarizeCols c fuel (n + 1) acc cm0 (ts ++ (tc ++ tb :: rest)) =
      ⟨⟨acc ++ xs, false, cm⟩, [], tb :: rest⟩ := by
  refine items_run
    (Run := fun n acc ts acc' => 4 * ts.length + 4 ≤ fuel →
      ∀ cm0, pSummarizeCols c fuel (n + 1) acc cm0 ts = ⟨⟨acc', false, cm⟩, [], tb :: rest⟩)
    ?_ ?_ xs hP hI hn hf cm0
  · intro n acc acc' x tx cm r hp hx hcm ih hf cm0
    have hT := pNamedColumn_fwd c fuel x tx (cm :: r) hp.1 hp.2 hx (colStops_comma hcm) hf
    rw [pSummarizeCols]
    simp only [hT, isNF_nil, Bool.false_eq_true, ne_eq, not_true_eq_false, if_false, hcm, if_true]
    exact ih (by simp only [List.length_append, List.length_cons] at hf; omega) _
  · intro n acc x tx hp hx hf cm0
    have hcs : ColStops (tc ++ tb :: rest) = true := by
      rcases hc with ⟨rfl, -⟩ | ⟨t, rfl, ht, -⟩
      · exact colStops_by hb
      · exact colStops_comma ht
    have hT := pNamedColumn_fwd c fuel x tx (tc ++ tb :: rest) hp.1 hp.2 hx hcs hf
    rw [pSummarizeCols]
    simp only [hT, isNF_nil, Bool.false_eq_true, ne_eq, not_true_eq_false, if_false]
    rcases hc with ⟨rfl, rfl⟩ | ⟨t, rfl, ht, rfl⟩
    · simp only [List.nil_append, hb, reduceCtorEq, if_false]
    · obtain ⟨f', rfl⟩ : ∃ f', fuel = f' + 4 := ⟨fuel - 4, by omega⟩
      simp only [List.cons_append, List.nil_append, ht, if_true, pSummarizeCols, pNamedColumn_by c f' tb rest hb,
        if_true]

theorem pSummarize_plain (c : PCtx) (fuel : Nat) (pipe kw : Span) {xs : List Column} {ts : List Token}
    (hP : ∀ y ∈ xs, wfColumn y = true ∧ canonColumn y = true)
    (hI : Items (RealBy (unparseColumn false)) xs ts) (hf : 4 * ts.length + 4 ≤ fuel) :
    pSummarize c fuel pipe kw ts = ⟨.summarize pipe kw xs .null [], [], []⟩ := by
  have h1 := pSummarizeCols_end c fuel (acc := []) none hP hI (items_length hI) hf
  simp only [pSummarize, h1, if_true, List.nil_append]

theorem pSummarize_by (c : PCtx) (fuel : Nat) (pipe kw : Span) {xs gs : List Column}
    {ts tc : List Token} {tb : Token} {tg : List Token} {cm : Option Span}
    (hP : ∀ y ∈ xs, wfColumn y = true ∧ canonColumn y = true)
    (hPg : ∀ y ∈ gs, wfColumn y = true ∧ canonColumn y = true)
    (hI : Items (RealBy (unparseColumn false)) xs ts) (hc : OptCommaReal tc cm) (hb : tb.kind = .by_)
    (hG : Items (RealBy (unparseColumn false)) gs tg)
    (hf : 4 * (ts ++ (tc ++ tb :: tg)).length + 4 ≤ fuel) :
    pSummarize c fuel pipe kw (ts ++ (tc ++ tb :: tg)) = ⟨.summarize pipe kw xs tb.span gs, [], []⟩ := by
  have hlen := items_length hI
  have h1 := pSummarizeCols_by c fuel (n := (ts ++ (tc ++ tb :: tg)).length) (acc := []) none hP hI hc hb
    (by simp only [List.length_append, List.length_cons]; omega) hf
  have h2 := pGroupByCols_fwd c fuel (acc := []) hPg hG (items_length hG)
    (by simp only [List.length_append, List.length_cons] at hf; omega)
  simp only [pSummarize, h1, Bool.false_eq_true, if_false, hb, ne_eq, not_true_eq_false, h2, List.nil_append]

theorem pSummarize_byOnly (c : PCtx) (fuel : Nat) (pipe kw : Span) {gs : List Column} {tb : Token}
    {tg : List Token} (hPg : ∀ y ∈ gs, wfColumn y = true ∧ canonColumn y = true) (hb : tb.kind = .by_)
    (hG : Items (RealBy (unparseColumn false)) gs tg) (hf : 4 * (tb :: tg).length + 4 ≤ fuel) :
    pSummarize c fuel pipe kw (tb :: tg) = ⟨.summarize pipe kw [] tb.span gs, [], []⟩ := by
  simp only [List.length_cons] at hf
  obtain ⟨f', rfl⟩ : ∃ f', fuel = f' + 4 := ⟨fuel - 4, by omega⟩
  have h2 := pGroupByCols_fwd c (f' + 4) (acc := []) hPg hG (items_length hG) (by omega)
  simp only [pSummarize, pSummarizeCols, pNamedColumn_by c f' tb tg hb, if_true, Bool.false_eq_true,
    if_false, hb, ne_eq, not_true_eq_false, h2, List.nil_append]

theorem prop_real {p : RenderProp} {ts : List Token} (h : RealBy unparseProp p ts) :
    ∃ n tn ta tv, p.name = some n ∧ ts = tn :: ta :: tv ∧ IsIdentTok n tn ∧ ta.kind = .assign ∧
      ta.span = p.assign ∧ Real p.value tv := by
  obtain ⟨us, hu, ha, hn⟩ := h
  simp only [unparseProp, Option.bind_eq_bind, Option.pure_def, Option.bind_eq_some_iff,
    Option.some.injEq] at hu
  obtain ⟨n, hname, vs, hv, rfl⟩ := hu
  obtain ⟨tn, t2, rfl, htn, h2⟩ := accounts_cons_inv (by simp [identTok]) ha
  obtain ⟨ta, tv, rfl, hta, h3⟩ := accounts_cons_inv rfl h2
  obtain ⟨hk, hs⟩ := tokOk_sym_inv hta
  exact ⟨n, tn, ta, tv, hname, rfl, tokOk_identTok_inv htn, hk, hs, vs, hv, h3, nlc_tail (nlc_tail hn)⟩

theorem pRenderProp_fwd (c : PCtx) (fuel : Nat) (p : RenderProp) (ts rest : List Token)
    (hok : okExpr p.value = true) (hr : RealBy unparseProp p ts) (hs : StopsAt 0 rest = true)
    (hf : 4 * (ts ++ rest).length + 4 ≤ fuel) : pRenderProp c fuel (ts ++ rest) = ⟨some p, [], rest⟩ := by
  obtain ⟨n, tn, ta, tv, hname, rfl, htn, hk, hsp, hv⟩ := prop_real hr
  obtain ⟨name, asg, v⟩ := p
  simp only at hname hsp hv hok
  subst hname hsp
  simp only [List.cons_append, List.length_cons] at hf ⊢
  have hE := pExpr_real c fuel rest hok hv hs (by omega)
  simp [pRenderProp, pIdent_real htn, hk, hE]

theorem pRenderProps_fwd (c : PCtx) (fuel : Nat) {xs : List RenderProp} {n : Nat} {acc : List RenderProp}
    {ts : List Token} {trp : Token} {rest : List Token} (hP : ∀ y ∈ xs, okExpr y.value = true)
    (hI : Items (RealBy unparseProp) xs ts) (hrp : trp.kind = .rparen)
    (hn : xs.length ≤ n) (hf : 4 * (ts ++ trp :: rest).length + 4 ≤ fuel) :
    pRenderProps c fuel n acc (ts ++ trp :: rest) = ⟨(acc ++ xs, trp.span), [], rest⟩ := by
  refine items_run
    (Run := fun n acc ts acc' => 4 * ts.length + 4 ≤ fuel →
      pRenderProps c fuel n acc ts = ⟨(acc', trp.span), [], rest⟩)
    ?_ ?_ xs hP hI hn hf
  · intro n acc acc' x tx cm r hp hx hcm ih hf
    have hT := pRenderProp_fwd c fuel x tx (cm :: r) hp hx (stopsAt_kind hcm) hf
    rw [pRenderProps]
    simp only [hT, ne_eq, not_true_eq_false, if_false, hcm, reduceCtorEq]
    exact ih (by simp only [List.length_append, List.length_cons] at hf; omega)
  · intro n acc x tx hp hx hf
    have hT := pRenderProp_fwd c fuel x tx (trp :: rest) hp hx (stopsAt_kind hrp) hf
    rw [pRenderProps]
    simp only [hT, ne_eq, not_true_eq_false, if_false, hrp, if_true]

theorem pRender_plain (c : PCtx) (fuel : Nat) (pipe kw : Span) (chart : Ident) (tch : Token)
    (hch : IsIdentTok chart tch) :
    pRender c fuel pipe kw [tch] = ⟨.render pipe kw (some chart) .null .null [] .null, [], []⟩ := by
  simp [pRender, pIdent_real hch]

theorem pRender_with (c : PCtx) (fuel : Nat) (pipe kw : Span) {chart : Ident} {tch tw tlp : Token}
    {xs : List RenderProp} {ts : List Token} {trp : Token}
    (hch : IsIdentTok chart tch) (hw : isIdentNamed tw "with" = true) (hlp : tlp.kind = .lparen)
    (hP : ∀ y ∈ xs, okExpr y.value = true) (hI : Items (RealBy unparseProp) xs ts) (hrp : trp.kind = .rparen)
    (hf : 4 * (tch :: tw :: tlp :: (ts ++ [trp])).length + 4 ≤ fuel) :
    pRender c fuel pipe kw (tch :: tw :: tlp :: (ts ++ [trp])) =
      ⟨.render pipe kw (some chart) tw.span tlp.span xs trp.span, [], []⟩ := by
  have hlen := items_length hI
  simp only [List.length_cons] at hf
  have h1 := pRenderProps_fwd c fuel (n := (ts ++ [trp]).length + 1) (acc := []) (rest := []) hP hI hrp
    (by simp only [List.length_append]; omega) (by omega)
  simp only [pRender, pIdent_real hch, hw, Bool.not_true, Bool.false_eq_true, if_false, hlp, ne_eq,
    not_true_eq_false, h1, List.nil_append]

end Pql
