/-
The shape of the intended chain of
    T | before | join kind=… (U | rops) on conds | after
for join-free `before`, `rops`, `after`:   B ++ R ++ [J] ++ A, where `A` is the chain of the pipeline
`J | after` placed behind `J` (`after_shape`), so that what is known of a block placed anywhere
(`BlockSem`) applies to each of `B`, `R`, `A`.
-/
import PqlModel.Lemmas.JoinFullGen
namespace Pql.JoinSem
open Pql Sql CompileOracle Intended JoinFull

theorem run_indep (s1 s2 : Option Ident) (k1 k2 : Nat) : ∀ (ops : OpList) (dst : List SubA),
    SplitQ.joinFree ops = true → k1 < dst.length → k2 < dst.length →
    splitOpsA s1 k1 dst ops = splitOpsA s2 k2 dst ops
  | .nil, _, _, _, _ => by simp only [splitOpsA]
  | .cons o rest, dst, hjf, h1, h2 => by
    obtain ⟨hnj, hjf⟩ := SplitQ.joinFree_cons_iff.1 hjf
    cases ho : SplitQ.steps o with
    | true =>
      have := placeA_length s2 k2 o dst
      rw [C05.splitOpsA_step _ _ _ ho, C05.splitOpsA_step _ _ _ ho, placeA_indep s1 s2 o h1 h2]
      exact run_indep s1 s2 k1 k2 rest _ hjf (by omega) (by omega)
    | false => rw [splitOpsA_stuck _ _ _ _ hnj ho, splitOpsA_stuck _ _ _ _ hnj ho]

theorem splitA_of_run_nonempty (dst d : List SubA) (s : Option Ident) (ops : OpList)
    (h : splitOpsA s dst.length dst ops = some d) (hlen : dst.length < d.length) :
    splitA dst (.mk s ops) = some d := by
  simp only [splitA, bind, Option.bind, h]
  have : ¬ d.length = dst.length := by omega
  simp [this]

theorem run_length_le {source : Option Ident} {ops : OpList} {dst out : List SubA}
    (h : splitOpsA source 0 dst ops = some out) : dst.length ≤ out.length := by
  obtain ⟨N', rfl, g⟩ := gen_ops [] [] ops source [] dst out h
  simpa using g.len

def joinLink (T : Ident) (B R : List SubA) (flavor : Option Ident) (left : Bool) (conds : ExprList) : SubA :=
  { name := subqueryName (B ++ R).length,
    source := .join (C05.uniqueOf flavor) left (C05.prevNameA (some T) B) (lastName R) (buildJoinCondition conds) }

theorem chain_shape0 (T U : Ident) (before after rops : OpList) (p k a b : Span) (flavor : Option Ident)
    (d e f : Span) (conds : ExprList) (subs : List SubA)
    (hjb : SplitQ.joinFree before = true)
    (hs : splitA [] (.mk (some T) (appendOps before
      (.cons (.join p k a b flavor d (.mk (some U) rops) e f conds) after))) = some subs) :
    ∃ (B R : List SubA) (left : Bool),
      splitOpsA (some T) 0 [] before = some B ∧
      splitA B (.mk (some U) rops) = some (B ++ R) ∧
      C05.leftOf flavor = some left ∧
      splitOpsA (some T) 0 (B ++ R ++ [joinLink T B R flavor left conds]) after = some subs := by
  simp only [splitA, List.length_nil, bind, Option.bind] at hs
  cases hd : splitOpsA (some T) 0 [] (appendOps before
      (.cons (.join p k a b flavor d (.mk (some U) rops) e f conds) after)) with
  | none => simp [hd] at hs
  | some out =>
    rw [hd] at hs
    simp only [] at hs
    rw [run_append _ _ _ _ _ hjb] at hd
    cases hB : splitOpsA (some T) 0 [] before with
    | none => simp [hB] at hd
    | some B =>
      simp only [hB, Option.bind] at hd
      rw [C05.splitOpsA_join] at hd
      cases hBR : splitA B (.mk (some U) rops) with
      | none => simp [hBR] at hd
      | some BR =>
        obtain ⟨_, _, R, r, _, rfl, _, hlast⟩ := C05.blk_tab _ B BR hBR
        cases hl : C05.leftOf flavor with
        | none => simp [hBR, hl] at hd
        | some left =>
          have hr : C05.joinRightA (B ++ R) = lastName R := by
            rw [C05.joinRightA_eq B R r hlast]; simp [lastName, hlast]
          simp only [hBR, hl, hr, show C05.joinLeftA (some T) 0 B.length (B ++ R) = C05.prevNameA (some T) B from
            C05.joinLeftA_eq [] B R (some T)] at hd
          refine ⟨B, R, left, rfl, hBR, rfl, ?_⟩
          have hout : ¬ out.length = 0 := by
            have := run_length_le hd
            simp only [List.length_append, List.length_cons] at this
            omega
          simp only [hout, ↓reduceIte, pure, Option.some.injEq] at hs
          subst hs
          exact hd

theorem after_shape (T : Ident) (pre : List SubA) (J : SubA) (after : OpList) (subs : List SubA)
    (hja : SplitQ.joinFree after = true)
    (hfirst : ∀ o rest, after = .cons o rest → C05.attachesA o J = false)
    (hd : splitOpsA (some T) 0 (pre ++ [J]) after = some subs) :
    (after = .nil ∧ subs = pre ++ [J]) ∨
    (after ≠ .nil ∧ splitA (pre ++ [J]) (.mk (some ⟨J.name, .zero, false⟩) after) = some subs) := by
  cases after with
  | nil =>
    simp only [splitOpsA, Option.some.injEq] at hd
    exact .inl ⟨rfl, hd.symm⟩
  | cons o rest =>
    right
    refine ⟨by simp, ?_⟩
    obtain ⟨hnj, hja⟩ := SplitQ.joinFree_cons_iff.1 hja
    cases ho : SplitQ.steps o with
    | false => rw [splitOpsA_stuck _ _ _ _ hnj ho] at hd; cases hd
    | true =>
      -- the first step, read from `J` as a source table, starts a link; from there on the runs agree
      have hlt := placeA_start_length (some ⟨J.name, .zero, false⟩) o (pre ++ [J])
      rw [C05.splitOpsA_step _ _ _ ho,
        placeA_first (some T) (some ⟨J.name, .zero, false⟩) o (l := J) (by simp) rfl (hfirst o rest rfl)] at hd
      have hlen := run_length_le hd
      rw [run_indep (some T) (some ⟨J.name, .zero, false⟩) 0 (pre ++ [J]).length rest _ hja (by omega) hlt] at hd
      exact splitA_of_run_nonempty _ _ _ _ (by rw [C05.splitOpsA_step _ _ _ ho]; exact hd) (by omega)

theorem chain_shape (T U : Ident) (before after rops : OpList) (p k a b : Span) (flavor : Option Ident)
    (d e f : Span) (conds : ExprList) (subs : List SubA)
    (hjb : SplitQ.joinFree before = true) (hja : SplitQ.joinFree after = true)
    (hpl : startsPlain after = true)
    (hs : splitA [] (.mk (some T) (appendOps before
      (.cons (.join p k a b flavor d (.mk (some U) rops) e f conds) after))) = some subs) :
    ∃ (B R : List SubA) (left : Bool),
      splitOpsA (some T) 0 [] before = some B ∧
      splitA B (.mk (some U) rops) = some (B ++ R) ∧
      C05.leftOf flavor = some left ∧
      (let J := joinLink T B R flavor left conds
       (after = .nil ∧ subs = B ++ R ++ [J]) ∨
       (after ≠ .nil ∧ splitA (B ++ R ++ [J]) (.mk (some ⟨J.name, .zero, false⟩) after) = some subs)) := by
  obtain ⟨B, R, left, hB, hBR, hl, hd⟩ := chain_shape0 T U before after rops p k a b flavor d e f conds subs hjb hs
  refine ⟨B, R, left, hB, hBR, hl, after_shape T (B ++ R) _ after subs hja (fun o rest ho => ?_) hd⟩
  subst ho
  exact attachesA_plain hpl _

/-- the chain behind the join when `after` starts with `take n`: the LIMIT goes onto the join link -/
theorem after_shape_take (T : Ident) (BR : List SubA) (J : SubA) (hJop : J.op = none) (hJtake : J.take = none)
    (pp kk : Span) (n : Expr) (rest : OpList) (subs : List SubA) (hjr : SplitQ.joinFree rest = true)
    (hd : splitOpsA (some T) 0 (BR ++ [J]) (.cons (.take pp kk n) rest) = some subs) :
    let J' : SubA := { J with take := some n }
    (rest = .nil ∧ subs = BR ++ [J']) ∨
    (rest ≠ .nil ∧ splitA (BR ++ [J']) (.mk (some ⟨J'.name, .zero, false⟩) rest) = some subs) := by
  intro J'
  have hstep : C05.placeA (some T) 0 (.take pp kk n) (BR ++ [J]) = BR ++ [J'] := by
    have l1 : lastOfA (BR ++ [J]) 0 = some J := by rw [lastOfA_of_lt (by simp)]; simp
    have hc : canAttachSort J.op = true := by rw [hJop]; rfl
    have hn : J.take.isNone = true := by rw [hJtake]; rfl
    simp only [C05.placeA, C05.attachesA, l1, hc, hn, Bool.and_self, ↓reduceIte, C05.setLastA_snoc]
    rfl
  rw [C05.splitOpsA_step _ _ _ rfl, hstep] at hd
  exact after_shape T BR J' rest subs hjr (fun o _ _ => attachesA_taken o rfl) hd

end Pql.JoinSem
