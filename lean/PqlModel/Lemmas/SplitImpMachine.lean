/-
Namespace `SplitImp`: an IMPERATIVE model of the Go function `splitQueries` (pql.go, lines 131–268)
with `chainSubquery` (270–287), written statement group by statement group.

What the Go code manipulates, and how it is modelled:
* `type subquery struct{ name, sourceSQL; op; sort; take }`; objects are created by
  `&subquery{…}` only (one site in `chainSubquery`, one in the join case).  They live on the Go
  heap: `Heap := Array Subquery`, an address is an index into it, `alloc` pushes.  Go never frees
  or moves an object that is still referenced, so an address stays valid for ever.
* `dst []*subquery` is a slice of POINTERS (pql.go:131 `dst []*subquery`, 120 `type subquery
  struct`), not of structs.  Hence `append(dst, p)` copies at most the pointer words when the
  backing array is re-allocated; the objects do not move, and the pointer `lastSubquery` is NOT
  invalidated by `append`.  `dst : List Addr`.  The slice header is used linearly (every
  `append`/recursive result is assigned back to the one variable `dst` of the activation, the
  callee works on its own copy of the header and on error the caller returns immediately), so
  sharing of backing arrays between slice headers cannot be observed and `append` is `++ [p]`.
* `lastSubquery *subquery` is a Go pointer: `last : Option Addr`, `none` = `nil`.  All writes
  `lastSubquery.f = v` are heap updates AT THAT ADDRESS (`store`): if the address occurred twice
  in `dst`, or somewhere else than at the end, the machine — like Go, unlike the functional
  model's `setLast` — would change those entries.
* `dstStart`, `expr.Source`, `source`, `scope` are never assigned after initialisation.
* Go run-time panics are explicit: dereferencing `nil` (`deref`), indexing a slice out of range
  (`index`, with Go's signed `int` index: `len(dst)-1` may be `-1`), `expr.Operators` on a nil
  `expr`, `op.Name.Name` on a nil `Name`, `src.Table.Name` on a nil `Table`.  A dangling address
  cannot exist in Go; `load`/`store` report it as a panic so that nothing is silently defaulted.

Two representation limits of the AST / `Subquery` types (both unreachable from
parser output, `Tabular.Good`):
* `top` with `Col == nil`: Go stores `Terms: []*SortTerm{nil}` and panics only later, in
  `(*subquery).write` (`term.X`).  `Subquery.sort : Option (List SortTerm)` cannot hold a nil
  term; the machine panics at this point, like the functional model.
* `dst` cannot hold a nil pointer; every `append(dst, lastSubquery)` in the source directly
  follows `lastSubquery = &subquery{…}` (possibly through `chainSubquery`), so the appended
  pointer is never nil; the machine's `stAppend` flags the impossible case as a panic.
-/
import PqlModel.Model.Compile
namespace Pql.SplitImp
open Pql

/-! ### heap, pointers, slices -/

abbrev Addr := Nat
/-- the `subquery` objects of the Go heap, by address -/
abbrev Heap := Array Subquery
abbrev M := Except WErr

/-- `&subquery{…}`: a new object at a fresh address -/
def alloc (h : Heap) (s : Subquery) : Heap × Addr := (h.push s, h.size)

/-- `*p` (reading a field of `p`) -/
def load (h : Heap) (a : Addr) : M Subquery :=
  match h[a]? with
  | some s => .ok s
  | none => .error .panic

/-- `p.f = v`: update the object at address `a` in place -/
def store (h : Heap) (a : Addr) (f : Subquery → Subquery) : M Heap :=
  match h[a]? with
  | some s => .ok (h.setIfInBounds a (f s))
  | none => .error .panic

/-- using a pointer: `nil` dereference panics -/
def deref : Option Addr → M Addr
  | some a => .ok a
  | none => .error .panic

/-- `dst[i]` with a Go `int` index: out of range panics -/
def index (dst : List Addr) (i : Int) : M Addr :=
  if 0 ≤ i then
    match dst[i.toNat]? with
    | some a => .ok a
    | none => .error .panic
  else .error .panic

/-- the mutable variables of one activation of `splitQueries`, and the heap -/
structure St where
  heap : Heap
  /-- `dst []*subquery` -/
  dst : List Addr
  /-- `lastSubquery *subquery` -/
  last : Option Addr

/-! ### `dataSourceSQL`, `chainSubquery` -/

/-- `dataSourceSQL(sb, src)` for `src = &TableRef{Table}`: `quoteIdentifier(sb, src.Table.Name)`;
    `Table == nil` (the AST's `source = none`) is a nil dereference -/
def dataSourceSQLI : Option Ident → M (List Chunk)
  | some i => .ok [.qid i.name]
  | none => .error .panic

/-- `func chainSubquery(dst []*subquery, dstStart int, src parser.TabularDataSource) (*subquery, error)` -/
def chainSubqueryI (h : Heap) (dst : List Addr) (dstStart : Nat) (src : Option Ident) :
    M (Heap × Addr) := do
  -- sub := &subquery{ name: subqueryName(len(dst)) }
  let (h, sub) := alloc h { name := subqueryName dst.length, source := [] }
  -- sb := new(strings.Builder)
  -- if len(dst) > dstStart { quoteIdentifier(sb, dst[len(dst)-1].name) }
  -- else { if err := dataSourceSQL(sb, src); err != nil { return nil, err } }
  let sb ←
    if dst.length > dstStart then do
      let p ← index dst ((dst.length : Int) - 1)
      let l ← load h p
      pure [Chunk.qid l.name]
    else dataSourceSQLI src
  -- sub.sourceSQL = sb.String()
  let h ← store h sub fun s => { s with source := sb }
  -- return sub, nil
  pure (h, sub)

/-! ### the statement groups of the loop body -/

/-- `lastSubquery, err = chainSubquery(dst, dstStart, expr.Source); if err != nil { return nil, err }` -/
def stChain (source : Option Ident) (dstStart : Nat) (st : St) : M St := do
  let (h, p) ← chainSubqueryI st.heap st.dst dstStart source
  pure { st with heap := h, last := some p }

/-- `lastSubquery.f = v` -/
def stAssign (f : Subquery → Subquery) (st : St) : M St := do
  let p ← deref st.last
  let h ← store st.heap p f
  pure { st with heap := h }

/-- `dst = append(dst, lastSubquery)` -/
def stAppend (st : St) : M St := do
  let p ← deref st.last
  pure { st with dst := st.dst ++ [p] }

/-- `lastSubquery == nil || g(*lastSubquery)`, evaluated left to right with short circuit -/
def stGuard (g : Subquery → Bool) (st : St) : M Bool :=
  match st.last with
  | none => .ok true                       -- lastSubquery == nil
  | some p => do
    let l ← load st.heap p
    pure (g l)

/-- `if <guard> { lastSubquery, err = chainSubquery(dst, dstStart, expr.Source);
      if err != nil { return nil, err }; dst = append(dst, lastSubquery) }` -/
def stChainIf (g : Subquery → Bool) (source : Option Ident) (dstStart : Nat) (st : St) : M St := do
  if (← stGuard g st) then
    let st ← stChain source dstStart st
    stAppend st
  else pure st

/-- `op.Name.Name` -/
def nameOf : Option Ident → M Bytes
  | some i => .ok i.name
  | none => .error .panic

/-- one iteration of `for i := 0; i < len(expr.Operators); i++ { switch op := expr.Operators[i].(type) {…} }`
    for every case but `*parser.JoinOperator` (which recurses, see `loopI`) -/
def stepI (source : Option Ident) (dstStart : Nat) (o : Op) (st : St) : M St :=
  match o with
  | .as_ _ _ name => do
    -- case *parser.AsOperator:
    --   lastSubquery, err = chainSubquery(dst, dstStart, expr.Source); if err != nil { return nil, err }
    let st ← stChain source dstStart st
    --   lastSubquery.name = op.Name.Name
    let n ← nameOf name
    let st ← stAssign (fun s => { s with name := n }) st
    --   lastSubquery.op = op
    let st ← stAssign (fun s => { s with op := some o }) st
    --   dst = append(dst, lastSubquery)
    stAppend st
  | .sort _ _ terms => do
    -- case *parser.SortOperator:
    --   if lastSubquery == nil || !canAttachSort(lastSubquery.op) || lastSubquery.sort != nil || lastSubquery.take != nil {
    --     lastSubquery, err = chainSubquery(…); if err != nil { return nil, err }; dst = append(dst, lastSubquery) }
    let st ← stChainIf (fun l => !canAttachSort l.op || l.sort.isSome || l.take.isSome) source dstStart st
    --   lastSubquery.sort = op
    stAssign (fun s => { s with sort := some terms }) st
  | .take _ _ n => do
    -- case *parser.TakeOperator:
    --   if lastSubquery == nil || !canAttachSort(lastSubquery.op) || lastSubquery.take != nil { … same block … }
    let st ← stChainIf (fun l => !canAttachSort l.op || l.take.isSome) source dstStart st
    --   lastSubquery.take = op
    stAssign (fun s => { s with take := some n }) st
  | .top _ _ n _ col => do
    -- case *parser.TopOperator:
    --   if lastSubquery == nil || !canAttachSort(lastSubquery.op) || lastSubquery.sort != nil || lastSubquery.take != nil { … same block … }
    let st ← stChainIf (fun l => !canAttachSort l.op || l.sort.isSome || l.take.isSome) source dstStart st
    match col with
    | none => .error .panic      -- `Terms: []*SortTerm{nil}` is not representable, see the header
    | some c => do
      --   lastSubquery.sort = &parser.SortOperator{Pipe: op.Pipe, Keyword: op.Keyword, Terms: []*parser.SortTerm{op.Col}}
      let st ← stAssign (fun s => { s with sort := some [c] }) st
      --   lastSubquery.take = &parser.TakeOperator{Pipe: op.Pipe, Keyword: op.Keyword, RowCount: op.RowCount}
      stAssign (fun s => { s with take := some n }) st
  | .join .. => .error .panic    -- not used: `loopI` handles the join case itself
  | _ => do
    -- default:
    --   lastSubquery, err = chainSubquery(dst, dstStart, expr.Source); if err != nil { return nil, err }
    let st ← stChain source dstStart st
    --   lastSubquery.op = op
    let st ← stAssign (fun s => { s with op := some o }) st
    --   dst = append(dst, lastSubquery)
    stAppend st

/-- `flavorName := "innerunique"; if op.Flavor != nil { flavorName = op.Flavor.Name }` -/
def flavorNameI : Option Ident → Bytes
  | some f => f.name
  | none => Bytes.ofString "innerunique"

/-- `if leftSubquery >= dstStart { quoteIdentifier(joinSource, dst[leftSubquery].name) }
    else { if err := dataSourceSQL(joinSource, expr.Source); err != nil { return nil, err } }`:
    what gets written to `joinSource` -/
def joinLeftI (source : Option Ident) (dstStart : Nat) (leftSubquery : Int) (st : St) : M (List Chunk) :=
  if leftSubquery ≥ (dstStart : Int) then do
    let q ← index st.dst leftSubquery
    let l ← load st.heap q
    pure [Chunk.qid l.name]
  else dataSourceSQLI source

/-- `switch flavorName { case "inner", "innerunique": joinSource.WriteString(" JOIN ")
      case "leftouter": joinSource.WriteString(" LEFT JOIN ")
      default: return nil, &compileError{…} }` -/
def joinKwI (flavorName : Bytes) : M (List Chunk) :=
  if flavorName == Bytes.ofString "inner" || flavorName == Bytes.ofString "innerunique" then
    .ok [Chunk.txt " JOIN "]
  else if flavorName == Bytes.ofString "leftouter" then .ok [Chunk.txt " LEFT JOIN "]
  else .error .err

/-- the join case after the recursive call returned without error (pql.go:194–245);
    `leftSubquery` was computed BEFORE the call (`leftSubquery := len(dst) - 1`) -/
def joinTailI (src : Bytes) (scope : List (Bytes × List Chunk)) (source : Option Ident) (dstStart : Nat)
    (leftSubquery : Int) (flavor : Option Ident) (conds : ExprList) (st : St) : M St := do
  -- lastSubquery = dst[len(dst)-1]
  let p ← index st.dst ((st.dst.length : Int) - 1)
  let st : St := { st with last := some p }
  -- flavorName := "innerunique"; if op.Flavor != nil { flavorName = op.Flavor.Name }
  let flavorName := flavorNameI flavor
  -- joinSource := new(strings.Builder)
  let js : List Chunk := []
  -- if flavorName == "innerunique" { joinSource.WriteString("(SELECT DISTINCT * FROM ") }
  let js := if flavorName == Bytes.ofString "innerunique" then js ++ [.txt "(SELECT DISTINCT * FROM "] else js
  -- if leftSubquery >= dstStart { … dst[leftSubquery].name … } else { … dataSourceSQL … }
  let left ← joinLeftI source dstStart leftSubquery st
  let js := js ++ left
  -- if flavorName == "innerunique" { joinSource.WriteString(")") }
  let js := if flavorName == Bytes.ofString "innerunique" then js ++ [.txt ")"] else js
  -- joinSource.WriteString(` AS "` + leftJoinTableAlias + `"`)
  let js := js ++ [.txt (" AS \"" ++ Facts.leftJoinTableAlias ++ "\"")]
  -- switch flavorName { … }
  let kw ← joinKwI flavorName
  let js := js ++ kw
  -- quoteIdentifier(joinSource, lastSubquery.name)
  let pl ← deref st.last
  let r ← load st.heap pl
  let js := js ++ [.qid r.name]
  -- joinSource.WriteString(` AS "` + rightJoinTableAlias + `" ON `)
  let js := js ++ [.txt (" AS \"" ++ Facts.rightJoinTableAlias ++ "\" ON ")]
  -- joinCtx := &exprContext{source: source, scope: scope, mode: joinExprMode}
  -- if err := writeExpression(joinCtx, joinSource, buildJoinCondition(op.Conditions)); err != nil { return nil, err }
  let c ← writeExpr ⟨src, scope, .join⟩ (buildJoinCondition conds)
  let js := js ++ c
  -- lastSubquery = &subquery{ name: subqueryName(len(dst)), sourceSQL: joinSource.String() }
  let (h, p) := alloc st.heap { name := subqueryName st.dst.length, source := js }
  let st : St := { st with heap := h, last := some p }
  -- dst = append(dst, lastSubquery)
  stAppend st

/-- the end of `splitQueries`:
    `if len(dst) == dstStart { lastSubquery, err = chainSubquery(…); if err != nil { return nil, err };
       dst = append(dst, lastSubquery) }; return dst, nil` -/
def finishI (source : Option Ident) (dstStart : Nat) (st : St) : M (Heap × List Addr) := do
  let st ←
    if st.dst.length = dstStart then do
      let st ← stChain source dstStart st
      stAppend st
    else pure st
  pure (st.heap, st.dst)

mutual
/-- `func splitQueries(dst []*subquery, source string, scope map[string]string, expr *parser.TabularExpr) ([]*subquery, error)`:
    the heap is threaded through, the result is the final heap and the returned slice -/
def splitQueriesI (src : Bytes) (scope : List (Bytes × List Chunk)) (h : Heap) (dst : List Addr) :
    Tabular → M (Heap × List Addr)
  | .nil => .error .panic        -- `expr.Operators` with `expr == nil`
  | .mk source ops => do
    -- dstStart := len(dst); var lastSubquery *subquery
    let dstStart := dst.length
    -- for i := 0; i < len(expr.Operators); i++ { … }
    let st ← loopI src scope source dstStart { heap := h, dst := dst, last := none } ops
    finishI source dstStart st

/-- the loop over `expr.Operators` -/
def loopI (src : Bytes) (scope : List (Bytes × List Chunk)) (source : Option Ident) (dstStart : Nat)
    (st : St) : OpList → M St
  | .nil => .ok st
  | .cons o rest =>
    match o with
    | .join _ _ _ _ flavor _ right _ _ conds => do
      -- case *parser.JoinOperator:
      --   leftSubquery := len(dst) - 1
      let leftSubquery : Int := (st.dst.length : Int) - 1
      --   dst, err = splitQueries(dst, source, scope, op.Right); if err != nil { return nil, err }
      let (h, dst) ← splitQueriesI src scope st.heap st.dst right
      let st : St := { st with heap := h, dst := dst }
      let st ← joinTailI src scope source dstStart leftSubquery flavor conds st
      loopI src scope source dstStart st rest
    | o => do
      let st ← stepI source dstStart o st
      loopI src scope source dstStart st rest
end

/-! ### reading the result -/

/-- the object at an address (a dangling address reads as the default object) -/
def cell (h : Heap) (a : Addr) : Subquery := h[a]?.getD default

/-- the list of subqueries a slice of pointers denotes -/
def abs (h : Heap) (dst : List Addr) : List Subquery := dst.map (cell h)

/-- all pointers of the slice point to allocated objects (what Go's type system guarantees) -/
def validDst (h : Heap) (dst : List Addr) : Bool := dst.all (· < h.size)

/-- `splitQueries(nil, source, scope, expr)` as `Compile` calls it, read back as a list -/
def runI (src : Bytes) (scope : List (Bytes × List Chunk)) (t : Tabular) : Except WErr (List Subquery) :=
  (splitQueriesI src scope #[] [] t).map fun r => abs r.1 r.2

mutual
/-- no nil where the machine panics and the functional model does not: every pipeline (right-hand sides
    of joins included) has a source table, every `as` has a name (a nil `expr` and a `top` without
    column pass: there both panic) -/
def skeletonOk : Tabular → Bool
  | .nil => true
  | .mk source ops => source.isSome && opsOk ops
def opsOk : OpList → Bool
  | .nil => true
  | .cons (.as_ _ _ name) os => name.isSome && opsOk os
  | .cons (.join _ _ _ _ _ _ right _ _ _) os => skeletonOk right && opsOk os
  | .cons _ os => opsOk os
end

end Pql.SplitImp
