/-
One binding, substituted: writing `e` with `n` bound to the (tightly wrapped) text of `v`
versus writing `substExpr [(n, v)] e` without the binding.  Generic in the relation between
the two outputs (`ChunkCong R` plus the two base facts about the bound occurrence itself), so
that the same induction gives the exact statement for atoms and the statement up to
parentheses in general.  The two sides differ at the bound occurrences only; everything around
them is `Alike.*` (Lemmas/WriterCong.lean).
-/
import PqlModel.Lemmas.WriterCong
import PqlModel.Lemmas.ScopeEq
import PqlModel.Spec.CompileOracle
namespace Pql
open CompileOracle

/-- is `x` (under source parentheses) the unquoted single-part identifier `n`? -/
def isVar (n : Bytes) : Expr → Bool
  | .paren _ x _ => isVar n x
  | .qident [p] => !p.quoted && n == p.name
  | _ => false

theorem find?_single (n : Bytes) (v : Expr) (name : Bytes) :
    List.find? (fun kv => kv.1 == name) [(n, v)] = if n == name then some (n, v) else none := by
  rw [List.find?_cons]
  cases n == name <;> rfl

theorem needsWrap_qident (parts : List Ident) : needsWrap (.qident parts) = false := by
  simp only [needsWrap, exprTypeName]
  decide

theorem needsWrap_of_isSigned : (x : Expr) → isSigned x = true → needsWrap x = false
  | .paren _ x _, h => by
    simp only [isSigned] at h
    simp only [needsWrap]
    exact needsWrap_of_isSigned x h
  | .unary .., _ => by
    simp only [needsWrap, exprTypeName]
    decide
  | .nil, h | .qident _, h | .lit .., h | .binary .., h | .inE .., h | .call .., h | .index .., h => by
    simp [isSigned] at h

section
variable (n : Bytes) (v : Expr)

theorem subst_isVar (x : Expr) : isVar n x = true →
    needsWrap (substExpr [(n, v)] x) = needsWrap v ∧ isSigned (substExpr [(n, v)] x) = isSigned v ∧
      needsWrap x = false ∧ isSigned x = false := by
  fun_induction isVar n x with
  | case1 _ x _ ih =>
    simp only [substExpr, needsWrap, isSigned]
    exact ih
  | case2 p =>
    intro h
    simp only [Bool.and_eq_true, Bool.not_eq_true'] at h
    simp only [substExpr, h.1, find?_single, h.2, if_true, Bool.false_eq_true, if_false]
    exact ⟨by simp only [needsWrap], by simp only [isSigned], needsWrap_qident _, by simp only [isSigned]⟩
  | case3 => nofun

end

theorem write_isVar_scope {src : Bytes} {s : Scope} {m : Mode} {n : Bytes} (w : List Chunk) (x : Expr) :
    isVar n x = true → writeExpr ⟨src, (n, w) :: s, m⟩ x = .ok w := by
  fun_induction isVar n x with
  | case1 _ x _ ih =>
    simp only [writeExpr]
    exact ih
  | case2 p =>
    intro h
    simp only [Bool.and_eq_true, Bool.not_eq_true'] at h
    simp [writeExpr, lookupScope_cons, h.1, h.2]
  | case3 => nofun

theorem write_isVar_subst {src : Bytes} {s : Scope} {m : Mode} {n : Bytes} {v : Expr} {bv : List Chunk}
    (hv : writeExpr ⟨src, s, m⟩ v = .ok bv) (x : Expr) :
    isVar n x = true → writeExpr ⟨src, s, m⟩ (substExpr [(n, v)] x) = .ok bv := by
  fun_induction isVar n x with
  | case1 _ x _ ih =>
    simp only [substExpr, writeExpr]
    exact ih
  | case2 p =>
    intro h
    simp only [Bool.and_eq_true, Bool.not_eq_true'] at h
    simp only [substExpr, h.1, find?_single, h.2, if_true, Bool.false_eq_true, if_false, writeExpr]
    exact hv
  | case3 => nofun

theorem qident_not_isVar {src : Bytes} {s : Scope} {m : Mode} {n : Bytes} (v : Expr) (w : List Chunk)
    (parts : List Ident) (h : isVar n (.qident parts) = false) :
    substExpr [(n, v)] (.qident parts) = .qident parts ∧
      writeExpr ⟨src, (n, w) :: s, m⟩ (.qident parts) = writeExpr ⟨src, s, m⟩ (.qident parts) := by
  match parts, h with
  | [], _ => exact ⟨by simp only [substExpr], by simp only [writeExpr]⟩
  | _ :: _ :: _, _ => exact ⟨by simp only [substExpr], by simp only [writeExpr]⟩
  | [p], h =>
    simp only [isVar] at h
    cases hq : p.quoted with
    | true => exact ⟨by simp [substExpr, hq], by simp only [writeExpr, hq]; rfl⟩
    | false =>
      simp only [hq, Bool.not_false, Bool.true_and] at h
      exact ⟨by simp [substExpr, hq, h], by simp only [writeExpr, lookupScope_cons, h]; rfl⟩

theorem substList_length (env : List (Bytes × Expr)) : (es : ExprList) → (substList env es).length = es.length
  | .nil => by simp only [substList]
  | .cons e es => by simp only [substList, ExprList.length, substList_length env es]

structure SubstHyp (R : List Chunk → List Chunk → Prop) (src : Bytes) (s : Scope) (m : Mode)
    (n : Bytes) (v : Expr) (bv : List Chunk) : Prop where
  cong : ChunkCong R
  hv : writeExpr ⟨src, s, m⟩ v = .ok bv
  /-- the stored text against the value written bare -/
  bare : R (wrapTight v bv) bv
  /-- the stored text against the value written as an operand -/
  maybe : R (wrapTight v bv) (wrapMaybe v bv)
  join : m = .join → ∀ x, hasJoinTerms (substExpr [(n, v)] x) = hasJoinTerms x

section
variable {R : List Chunk → List Chunk → Prop} {src : Bytes} {s : Scope} {m : Mode}
  {n : Bytes} {v : Expr} {bv : List Chunk}

theorem alike_isVar (H : SubstHyp R src s m n v bv) (x : Expr) (hx : isVar n x = true) :
    Alike R ⟨src, (n, wrapTight v bv) :: s, m⟩ ⟨src, s, m⟩ x (substExpr [(n, v)] x) := by
  obtain ⟨h1, h2, h3, h4⟩ := subst_isVar n v x hx
  have e1 : wrapMaybe x (wrapTight v bv) = wrapTight v bv := by simp only [wrapMaybe, h3]; rfl
  have e2 : wrapMaybe (substExpr [(n, v)] x) bv = wrapMaybe v bv := by simp only [wrapMaybe, h1]
  have e3 : wrapTight x (wrapTight v bv) = wrapTight v bv := by simp only [wrapTight, wrapMaybe, h3, h4]; rfl
  have e4 : wrapTight (substExpr [(n, v)] x) bv = wrapTight v bv := by simp only [wrapTight, wrapMaybe, h1, h2]
  refine ⟨?_, ?_, ?_⟩ <;> rw [write_isVar_scope _ x hx, write_isVar_subst H.hv x hx]
  · exact H.bare
  · show R (wrapMaybe x (wrapTight v bv)) (wrapMaybe (substExpr [(n, v)] x) bv)
    rw [e1, e2]
    exact H.maybe
  · show R (wrapTight x (wrapTight v bv)) (wrapTight (substExpr [(n, v)] x) bv)
    rw [e3, e4]
    exact H.cong.refl _

theorem joinTest_subst (H : SubstHyp R src s m n v bv) (x y : Expr) :
    joinTest ⟨src, (n, wrapTight v bv) :: s, m⟩ x y ↔
      joinTest ⟨src, s, m⟩ (substExpr [(n, v)] x) (substExpr [(n, v)] y) := by
  by_cases hm : m = .join
  · simp only [joinTest, H.join hm x, H.join hm y]
  · simp only [joinTest, hm, false_and]

theorem subst_alg (H : SubstHyp R src s m n v bv) : ExprTreeAlg
    (fun e => Alike R ⟨src, (n, wrapTight v bv) :: s, m⟩ ⟨src, s, m⟩ e (substExpr [(n, v)] e))
    (fun es => AlikeArgs R ⟨src, (n, wrapTight v bv) :: s, m⟩ ⟨src, s, m⟩ es (substList [(n, v)] es) ∧
      AlikeVals R ⟨src, (n, wrapTight v bv) :: s, m⟩ ⟨src, s, m⟩ es (substList [(n, v)] es)) where
  nil := Alike.of_eq H.cong.frame H.cong.refl rfl
  qident := fun parts => by
    cases hx : isVar n (.qident parts) with
    | true => exact alike_isVar H _ hx
    | false =>
      obtain ⟨h1, h2⟩ := qident_not_isVar (src := src) (s := s) (m := m) v (wrapTight v bv) parts hx
      rw [h1]
      exact Alike.of_eq H.cong.frame H.cong.refl h2
  lit := fun _ _ _ => Alike.of_eq H.cong.frame H.cong.refl rfl
  unary := fun a op _ ih => ih.unary H.cong.frame a a op
  binary := fun x a op y ihx ihy => ihx.binary H.cong.frame ihy (joinTest_subst H x y) a a op
  inE := fun _ a b _ d ihx ihl => ihx.inE H.cong.frame ihl.2 a b d a b d
  paren := fun a _ b ih => ih.paren a b a b
  call := fun _ a args b ihl => Alike.call H.cong.frame rfl (substList_length _ args) ihl.1 a b a b
  index := fun _ a _ b ihx ihi => ihx.index H.cong.frame ihi a b a b
  lnil := ⟨AlikeArgs.nil, AlikeVals.nil⟩
  cons := fun _ _ ihe ihl => ⟨AlikeArgs.cons ihe ihl.1, AlikeVals.cons ihe ihl.2⟩

theorem subst_expr_rel (H : SubstHyp R src s m n v bv) (e : Expr) :
    ExRel R (writeExpr ⟨src, (n, wrapTight v bv) :: s, m⟩ e) (writeExpr ⟨src, s, m⟩ (substExpr [(n, v)] e)) :=
  ((subst_alg H).expr e).bare

theorem subst_list_rel (H : SubstHyp R src s m n v bv) :
    (es : ExprList) → ExRel (ArgsRel R es (substList [(n, v)] es))
      (writeList ⟨src, (n, wrapTight v bv) :: s, m⟩ es) (writeList ⟨src, s, m⟩ (substList [(n, v)] es)) :=
  fun es => ((subst_alg H).list es).1

theorem subst_listMP_rel (H : SubstHyp R src s m n v bv) :
    (es : ExprList) → ExRel (ListRel R)
      (writeListMaybeParen' ⟨src, (n, wrapTight v bv) :: s, m⟩ es)
      (writeListMaybeParen' ⟨src, s, m⟩ (substList [(n, v)] es)) :=
  fun es => ((subst_alg H).list es).2

end

end Pql
