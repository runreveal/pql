/-
The small functions the scanning code calls (parser/span.go, the cursor `next` / `prev`, the rune classes,
`errorToken`), run in the interpreter of Model/LexScanIR.lean.  Each lemma is about the expected tree
(Lemmas/LexScanIRDecls.lean) interpreted in ANY environment that has the callees with their specified
behaviour (`Spec…`); in a layered environment a key means its function interpreted in the environment of
the keys before it (`layer_take`).  `RuneAt` relates the rune `next` delivers to the bytes the model sees.
-/
import PqlModel.Lemmas.LexScanIRExec
import PqlModel.Lemmas.LexIRCursor
namespace Pql.ScanIR
open Pql
open Pql.LexIR (IErr M BinOp goPanic stuck irOf)
set_option linter.unusedSimpArgs false
set_option linter.unusedVariables false

/-- symbolic execution of the interpreter by `simp` -/
macro "ls_simp" " [" ls:Lean.Parser.Tactic.simpLemma,* "]" : tactic =>
  `(tactic| simp [interpFn, paramList, bindParams, zeroVal, storeFld,
      execBlock, exec, eval, evalArgs, evalCall, getVar, State.declare, State.assign, State.leave, assignIn,
      fldOf, valEq, binVal, lenVal, boundOf, single, stuck, goPanic, bind, Except.bind, pure, Except.pure,
      Except.map, eS, eC, ePos, eLast, eSrc, eNext, sPrev, cIs, cIsNot, eOk, notOk, setNext, defNext, spanHere,
      errHere, push, symTok, pushSym, pushSub, inRange, sliceVal, $ls,*])

theorem ofString_bq : Bytes.ofString "`" = [96] := by decide
theorem ofString_bq2 : Bytes.ofString "``" = [96, 96] := by decide

theorem extend_self (env : Env) (k : String) (f : Fn) : extend env k f k = some f := by simp [extend]
theorem extend_other (env : Env) (k n : String) (f : Fn) (h : n ≠ k) : extend env k f n = env n := by
  simp [extend, h]

theorem layer_other (tbl : List (String × List (List String))) (fuel : Nat) (n : String) :
    ∀ (keys : List String) (env : Env), n ∉ keys → layer tbl fuel keys env n = env n
  | [], _, _ => rfl
  | k :: ks, env, h => by
    rw [layer, layer_other tbl fuel n ks _ (fun hm => h (List.mem_cons_of_mem _ hm))]
    exact extend_other _ _ _ _ (fun e => h (e ▸ List.mem_cons_self))

theorem layer_append (tbl : List (String × List (List String))) (fuel : Nat) :
    ∀ (a b : List String) (env : Env), layer tbl fuel (a ++ b) env = layer tbl fuel b (layer tbl fuel a env)
  | [], _, _ => rfl
  | k :: ks, b, env => by simp only [List.cons_append, layer, layer_append tbl fuel ks b]

theorem layer_at (tbl : List (String × List (List String))) (fuel : Nat) (pre : List String) (k : String)
    (post : List String) (env : Env) (hk : k ∉ post) :
    layer tbl fuel (pre ++ k :: post) env k = some (fnOf tbl (layer tbl fuel pre env) fuel k) := by
  rw [layer_append, layer, layer_other tbl fuel k post _ hk, extend_self]

theorem layer_take (tbl : List (String × List (List String))) (fuel : Nat) {k : String} :
    ∀ (keys : List String) (env : Env) (i n : Nat), keys.Nodup → keys[i]? = some k → i < n →
      layer tbl fuel (keys.take n) env k = some (fnOf tbl (layer tbl fuel (keys.take i) env) fuel k)
  | k0 :: ks, env, 0, n + 1, hnd, hk, _ => by
    obtain rfl : k0 = k := by simpa using hk
    rw [List.take_succ_cons, layer, layer_other tbl fuel k0 _ _ fun h => (List.nodup_cons.mp hnd).1 (List.mem_of_mem_take h),
      extend_self]
    rfl
  | k0 :: ks, env, i + 1, n + 1, hnd, hk, hi =>
    layer_take tbl fuel ks _ i n (List.nodup_cons.mp hnd).2 (by simpa using hk) (by omega)

/-- `layer` over functions given as trees: `fnOf` decodes its function from the table at every call, which is half of what
    the kernel does when it runs a test vector (`scanFn_decoded`, Props/C09ScanIR.lean). -/
def layerD (fuel : Nat) : List (String × FnDecl) → Env → Env
  | [], env => env
  | kd :: ks, env => layerD fuel ks (extend env kd.1 (interpFn env fuel kd.2))

theorem layer_eq_layerD (tbl : List (String × List (List String))) (fuel : Nat) :
    ∀ (ds : List (String × FnDecl)) (env : Env), (∀ kd ∈ ds, decodeFn (irOf tbl kd.1) = some kd.2) →
      layer tbl fuel (ds.map (·.1)) env = layerD fuel ds env
  | [], _, _ => rfl
  | kd :: ds, env, h => by
    rw [List.map_cons, layer, layerD, fnOf_eq (h kd List.mem_cons_self),
      layer_eq_layerD tbl fuel ds _ fun p hp => h p (List.mem_cons_of_mem _ hp)]

def HasPrim (env : Env) (name : String) : Prop := env name = prims name

def SpecNewSpan (f : Fn) : Prop := ∀ a b h, f [.int a, .int b] h = .ok ([.span a b], h)
def SpecIndexSpan (f : Fn) : Prop := ∀ a h, f [.int a] h = .ok ([.span a a], h)
def SpecIsValid (f : Fn) : Prop := ∀ a b h, f [.span a b] h = .ok ([.bool (decide (a ≤ b))], h)
def SpecSpanString (f : Fn) : Prop := ∀ s a b h, a ≤ b → b ≤ s.length →
  f [.str s, .span a b] h = .ok ([.str ((s.drop a).take (b - a))], h)
def SpecPrev (f : Fn) : Prop := ∀ h : Store, f [.scanner] h = .ok ([], { h with pos := h.last })
def SpecNext (f : Fn) : Prop := ∀ h : Store,
  f [.scanner] h = .ok (if h.src.length ≤ h.pos then ([.int 0, .bool false], h)
    else ([.int (decodeRune (h.src.drop h.pos)).1, .bool true],
      { h with pos := h.pos + (decodeRune (h.src.drop h.pos)).2, last := h.pos }))

/-- the rune classes as the Go code states them -/
def alphaR (r : Nat) : Bool := (decide (97 ≤ r) && decide (r ≤ 122)) || (decide (65 ≤ r) && decide (r ≤ 90))
def digitR (r : Nat) : Bool := decide (48 ≤ r) && decide (r ≤ 57)
def hexR (r : Nat) : Bool :=
  digitR r || (decide (97 ≤ r) && decide (r ≤ 102)) || (decide (65 ≤ r) && decide (r ≤ 70))

def SpecIsAlpha (f : Fn) : Prop := ∀ r h, f [.int r] h = .ok ([.bool (alphaR r)], h)
def SpecIsDigit (f : Fn) : Prop := ∀ r h, f [.int r] h = .ok ([.bool (digitR r)], h)
def SpecIsHexDigit (f : Fn) : Prop := ∀ r h, f [.int r] h = .ok ([.bool (hexR r)], h)
/-- `errorToken(span, format, args…)`: kind and span; the message is not modelled -/
def SpecErrorToken (f : Fn) : Prop :=
  ∀ a b m extra h, f (.span a b :: .str m :: extra) h = .ok ([.tok .error a b []], h)

theorem newSpan_spec (env : Env) (fuel : Nat) : SpecNewSpan (interpFn env fuel newSpanDecl) := fun a b _ =>
  interpFn_ret1 (ps := [("start", .int a), ("end", .int b)]) rfl rfl rfl (ev_mkSpan (ev_var rfl) (ev_var rfl))

theorem indexSpan_spec (env : Env) (fuel : Nat) : SpecIndexSpan (interpFn env fuel indexSpanDecl) := fun a _ =>
  interpFn_ret1 (ps := [("i", .int a)]) rfl rfl rfl (ev_mkSpan (ev_var rfl) (ev_var rfl))

theorem spanIsValid_spec (env : Env) (fuel : Nat) : SpecIsValid (interpFn env fuel spanIsValidDecl) := fun a b h =>
  have hv : getVar [("span", Val.span a b)] "span" = .ok (.span a b) := rfl
  have st : Ev env [("span", Val.span a b)] h (.fld (.var "span") "Start") (.int a) := ev_fld (ev_var hv) rfl
  have en : Ev env [("span", Val.span a b)] h (.fld (.var "span") "End") (.int b) := ev_fld (ev_var hv) rfl
  interpFn_ret1 rfl rfl rfl
    ((evb_and (evb_and (evb_ge st (ev_int 0)) (evb_ge en (ev_int 0))) (evb_le st en)).cast (by simp))

theorem spanString_spec (env : Env) (fuel : Nat) (fv : Fn) (hv : env "Span.IsValid" = some fv) (sv : SpecIsValid fv) :
    SpecSpanString (interpFn env fuel spanStringDecl) := by
  intro s a b h hab hb
  have hsp : getVar [("span", Val.span a b), ("s", .str s)] "span" = .ok (.span a b) := rfl
  refine interpFn_ret (ps := [("s", .str s), ("span", .span a b)]) (vars1 := [("span", .span a b), ("s", .str s)]) rfl ?_ rfl
  refine block_step (exec_ite_skip ((evb_not (x := decide (a ≤ b)) (ev_call hv (evArgs_cons (ev_var hsp) evArgs_nil) (sv a b h))).cast
    (by simp [hab]))) (block_last (exec_ret1 ?_))
  exact ev_slice (ev_var (by rfl)) (ev_fld (ev_var hsp) rfl) (ev_fld (ev_var hsp) rfl) hab hb

theorem prev_spec (env : Env) (fuel : Nat) : SpecPrev (interpFn env fuel prevDecl) := fun h =>
  interpFn_next (ps := [("s", .scanner)]) rfl (block_last (exec_setPos (by rfl) (ev_last (by rfl)))) rfl

theorem next_spec (env : Env) (fuel : Nat) (hd : HasPrim env "utf8.DecodeRuneInString") :
    SpecNext (interpFn env fuel nextDecl) := by
  intro h
  have hs : ∀ x y, getVar (("n", x) :: ("c", y) :: [("s", Val.scanner)]) "s" = .ok .scanner := fun _ _ => rfl
  have atEnd : EvB env [("s", .scanner)] h (.bin .ge ePos (.len eSrc)) (decide (h.pos ≥ h.src.length)) :=
    evb_ge (ev_pos (by rfl)) (ev_len (ev_src (by rfl)))
  by_cases hp : h.src.length ≤ h.pos
  · rw [if_pos hp]
    refine interpFn_ret (ps := [("s", .scanner)]) (vars1 := [("s", .scanner)]) rfl ?_ rfl
    exact block_stop (exec_ite_then (atEnd.cast (decide_eq_true hp))
      (block_last (exec_ret (evArgs_cons (ev_int 0) (evArgs_cons ev_ff evArgs_nil)))) rfl) (by simp)
  · rw [if_neg hp]
    refine interpFn_ret (ps := [("s", .scanner)])
      (vars1 := [("n", .int (decodeRune (h.src.drop h.pos)).2), ("c", .int (decodeRune (h.src.drop h.pos)).1), ("s", .scanner)]) rfl ?_ rfl
    refine block_step (exec_ite_skip (atEnd.cast (decide_eq_false hp))) ?_
    refine block_step (exec_def2 (hd.trans rfl) (evArgs_cons (ev_sliceFrom (ev_src (by rfl)) (ev_pos (by rfl)) (by omega)) evArgs_nil)
      rfl (by decide) (by decide)) ?_
    refine block_step (exec_setLast (hs _ _) (ev_pos (hs _ _))) ?_
    refine block_step (exec_setPos (hs _ _) (ev_bin (ev_pos (hs _ _)) (ev_var (getVar_top _ _ _)) rfl (by decide) (by decide))) ?_
    exact block_last (exec_ret (evArgs_cons (ev_var (by rfl)) (evArgs_cons ev_tt evArgs_nil)))

theorem isAlpha_spec (env : Env) (fuel : Nat) : SpecIsAlpha (interpFn env fuel isAlphaDecl) := fun r _ =>
  have hc : getVar [("c", .int r)] "c" = .ok (.int r) := rfl
  interpFn_ret1 rfl rfl rfl (evb_or (evb_inRange 97 122 hc) (evb_inRange 65 90 hc))

theorem isDigit_spec (env : Env) (fuel : Nat) : SpecIsDigit (interpFn env fuel isDigitDecl) := fun r _ =>
  interpFn_ret1 rfl rfl rfl (evb_inRange 48 57 (r := r) rfl)

theorem isHexDigit_spec (env : Env) (fuel : Nat) (fd : Fn) (hd : env "isDigit" = some fd) (sd : SpecIsDigit fd) :
    SpecIsHexDigit (interpFn env fuel isHexDigitDecl) := fun r _ =>
  have hc : getVar [("c", .int r)] "c" = .ok (.int r) := rfl
  interpFn_ret1 rfl rfl rfl
    (evb_or (evb_or (evb_call "isDigit" fd digitR hd sd hc) (evb_inRange 97 102 hc)) (evb_inRange 65 70 hc))

theorem errorToken_spec (env : Env) (fuel : Nat) (hd : HasPrim env "fmt.Sprintf") :
    SpecErrorToken (interpFn env fuel errorTokenDecl) := by
  intro a b m extra h
  have hb : bindParams (paramList errorTokenDecl) (.span a b :: .str m :: extra) =
      some [("span", .span a b), ("format", .str m), ("args", .opaque)] := by cases extra <;> rfl
  refine interpFn_ret1 hb rfl rfl (ev_mkToken (ev_kind kind_error) (ev_var (by rfl)) ?_)
  unfold Ev
  unfold HasPrim at hd
  simp [eval, evalArgs, getVar_cons, hd, prims, single, Except.map, bind, Except.bind, pure, Except.pure]

def hp (pre s : Bytes) (k l : Nat) (bs : List (Nat × Bytes)) : Store := ⟨pre ++ s, pre.length + k, l, bs⟩

@[simp] theorem hp_pos (pre s : Bytes) (k l : Nat) (bs : List (Nat × Bytes)) : (hp pre s k l bs).pos = pre.length + k := rfl
@[simp] theorem hp_last (pre s : Bytes) (k l : Nat) (bs : List (Nat × Bytes)) : (hp pre s k l bs).last = l := rfl
@[simp] theorem hp_src (pre s : Bytes) (k l : Nat) (bs : List (Nat × Bytes)) : (hp pre s k l bs).src = pre ++ s := rfl
@[simp] theorem hp_blds (pre s : Bytes) (k l : Nat) (bs : List (Nat × Bytes)) : (hp pre s k l bs).blds = bs := rfl

theorem ev_slice_hp {env : Env} {vars : List (String × Val)} {pre s : Bytes} {k l : Nat} {bs : List (Nat × Bytes)} {lo hi : Expr}
    {a b : Nat} (hs : getVar vars "s" = .ok .scanner) (hl : Ev env vars (hp pre s k l bs) lo (.int (pre.length + a)))
    (hh : Ev env vars (hp pre s k l bs) hi (.int (pre.length + b))) (hab : a ≤ b) (hb : b ≤ s.length) :
    Ev env vars (hp pre s k l bs) (.slice eSrc lo hi) (.str ((s.drop a).take (b - a))) := by
  have := ev_slice (ev_src hs) hl hh (by omega) (by show pre.length + b ≤ (pre ++ s).length; simp; omega)
  rwa [hp_src, LexIR.drop_hp, Nat.add_sub_add_left] at this

theorem next_end {f : Fn} (sf : SpecNext f) (pre s : Bytes) (k l : Nat) (bs : List (Nat × Bytes)) (hk : s.length ≤ k) :
    f [.scanner] (hp pre s k l bs) = .ok ([.int 0, .bool false], hp pre s k l bs) := by
  rw [sf]
  have : (pre ++ s).length ≤ pre.length + k := by simp; omega
  simp [hp, this, hk]

theorem next_cons {f : Fn} (sf : SpecNext f) (pre s : Bytes) (k l : Nat) (bs : List (Nat × Bytes)) (c : UInt8) (rest : Bytes)
    (r w : Nat) (hd : s.drop k = c :: rest) (hr : decodeRune (c :: rest) = (r, w)) :
    f [.scanner] (hp pre s k l bs) = .ok ([.int r, .bool true], hp pre s (k + w) (pre.length + k) bs) := by
  rw [sf]
  have hlt : k < s.length := LexIR.lt_of_drop_cons hd
  have : ¬ (pre ++ s).length ≤ pre.length + k := by simp; omega
  simp only [hp, this, if_false, LexIR.drop_hp, hd, hr, Nat.add_assoc]

theorem prev_hp {f : Fn} (sf : SpecPrev f) (pre s : Bytes) (k k' : Nat) (bs : List (Nat × Bytes)) :
    f [.scanner] (hp pre s k' (pre.length + k) bs) = .ok ([], hp pre s k (pre.length + k) bs) := by
  rw [sf]; rfl

theorem alphaR_byte (c : UInt8) (h : c.toNat < 128) : alphaR c.toNat = isAlpha c := by
  simp [alphaR, isAlpha, inRanges, Facts.isAlphaRanges]

theorem digitR_byte (c : UInt8) (h : c.toNat < 128) : digitR c.toNat = isDigit c := by
  simp [digitR, isDigit, inRanges, Facts.isDigitRanges]

theorem isAlpha_lt (c : UInt8) (h : isAlpha c = true) : c.toNat < 128 := by
  simp [isAlpha, inRanges, Facts.isAlphaRanges] at h; omega

theorem alphaR_rune (c : UInt8) (rest : Bytes) : alphaR (decodeRune (c :: rest)).1 = isAlpha c :=
  LexIR.rune_class alphaR_byte isAlpha_lt (fun r h => by simp [alphaR]; omega) c rest

theorem digitR_rune (c : UInt8) (rest : Bytes) : digitR (decodeRune (c :: rest)).1 = isDigit c :=
  LexIR.rune_class digitR_byte LexIR.isDigit_lt (fun r h => by simp [digitR]; omega) c rest

/-- the rune `r` of width `w` at the cursor `k` of `s`, where the model sees bytes: the byte `c` at `k`, then the
    bytes `y`, all ≥ 0x80, and `s` goes on at `k + w`; on ASCII values `r` is `c`.  A test of the Go code against
    an ASCII value is a test of `c`, and a loop of the model that stops at ASCII bytes only passes over `y`. -/
structure RuneAt (s : Bytes) (k : Nat) (c : UInt8) (r w : Nat) (y : Bytes) : Prop where
  bytes : s.drop k = c :: y ++ s.drop (k + w)
  width : y.length + 1 = w
  tail : ∀ b ∈ y, 128 ≤ b.toNat
  ascii : ∀ n, n < 128 → (r = n ↔ c = UInt8.ofNat n)
  one : c.toNat < 128 → w = 1

theorem rune_at {s : Bytes} {k : Nat} {c : UInt8} {rest : Bytes} (hd : s.drop k = c :: rest) :
    ∃ r w y, decodeRune (c :: rest) = (r, w) ∧ rest = y ++ s.drop (k + w) ∧ RuneAt s k c r w y := by
  obtain ⟨y, hy, hlen, hge⟩ := decodeRune_block c rest
  rw [show (c :: rest).drop (decodeRune (c :: rest)).2 = s.drop (k + (decodeRune (c :: rest)).2) by
    rw [← List.drop_drop, hd]] at hy
  exact ⟨(decodeRune (c :: rest)).1, (decodeRune (c :: rest)).2, y, rfl, hy, by rw [hd, List.cons_append, ← hy], hlen, hge, fun n hn => LexIR.rune_eq c rest n hn,
    decodeRune_ascii_width c rest⟩

section
variable {s : Bytes} {k : Nat} {c : UInt8} {r w : Nat} {y : Bytes} (R : RuneAt s k c r w y)
include R

theorem RuneAt.le : k + w ≤ s.length := by
  have h := congrArg List.length R.bytes
  have := R.width
  simp only [List.length_drop, List.length_cons, List.length_append] at h
  omega

theorem RuneAt.take : (s.drop k).take w = c :: y := by
  rw [R.bytes, ← R.width, List.cons_append, List.take_succ_cons, List.take_left']
  rfl

theorem RuneAt.ne {n : UInt8} (hn : n.toNat < 128) (hc : c ≠ n) : ∀ b ∈ c :: y, b ≠ n := by
  intro b hb e
  subst e
  rcases List.mem_cons.mp hb with rfl | hb
  · exact hc rfl
  · have := R.tail b hb
    omega

end

structure CursorEnv (env : Env) : Prop where
  next : ∃ f, env "scanner.next" = some f ∧ SpecNext f
  prev : ∃ f, env "scanner.prev" = some f ∧ SpecPrev f
  newSpan : ∃ f, env "newSpan" = some f ∧ SpecNewSpan f
  indexSpan : ∃ f, env "indexSpan" = some f ∧ SpecIndexSpan f
  spanString : ∃ f, env "spanString" = some f ∧ SpecSpanString f
  isAlpha : ∃ f, env "isAlpha" = some f ∧ SpecIsAlpha f
  isDigit : ∃ f, env "isDigit" = some f ∧ SpecIsDigit f
  errorToken : ∃ f, env "errorToken" = some f ∧ SpecErrorToken f

section
variable {env : Env} {fuel : Nat} {vars : List (String × Val)} {h h' : Store} {p0 : Nat}

theorem evArgs_recv (hs : getVar vars "s" = .ok .scanner) : EvArgs env vars h [eS] [.scanner] :=
  evArgs_cons (ev_var hs) evArgs_nil

theorem exec_defNext {f : Fn} {r : Nat} {b : Bool} (hs : getVar vars "s" = .ok .scanner) (hN : env "scanner.next" = some f)
    (nx : f [.scanner] h = .ok ([.int r, .bool b], h')) :
    exec env fuel defNext ⟨vars, h⟩ = .ok (.next, ⟨("ok", .bool b) :: ("c", .int r) :: vars, h'⟩) :=
  exec_def2 hN (evArgs_recv hs) nx (by decide) (by decide)

theorem exec_setNext {f : Fn} {r : Nat} {b : Bool} {o c : Val} (hs : getVar vars "s" = .ok .scanner)
    (hN : env "scanner.next" = some f) (nx : f [.scanner] h = .ok ([.int r, .bool b], h')) :
    exec env fuel setNext ⟨("ok", o) :: ("c", c) :: vars, h⟩ = .ok (.next, ⟨("ok", .bool b) :: ("c", .int r) :: vars, h'⟩) := by
  have hs' := (getVar_under "s" o c vars (by decide) (by decide)).trans hs
  simp [setNext, eNext, eS, exec, evalCall, evalArgs, eval, hs', hN, nx, State.assign, assignIn, Except.map, bind, Except.bind,
    pure, Except.pure]

theorem block_nextRune (E : CursorEnv env) {pre s : Bytes} {k l : Nat} {bs : List (Nat × Bytes)} {c : UInt8} {rest : Bytes} {r w : Nat}
    {t more : List Stmt} {res : M (Flow × State)} (hs : getVar vars "s" = .ok .scanner) (hd : s.drop k = c :: rest)
    (hr : decodeRune (c :: rest) = (r, w))
    (hm : execBlock env fuel more ⟨("ok", .bool true) :: ("c", .int r) :: vars, hp pre s (k + w) (pre.length + k) bs⟩ = res) :
    execBlock env fuel (defNext :: .ite notOk t [] :: more) ⟨vars, hp pre s k l bs⟩ = res := by
  obtain ⟨fN, hN, sN⟩ := E.next
  exact block_step (exec_defNext hs hN (next_cons sN pre s k l bs c rest r w hd hr))
    (block_step (exec_ite_skip (evb_not (evb_ok (getVar_ok _ _ _)))) hm)

theorem exec_sPrev {f : Fn} (hs : getVar vars "s" = .ok .scanner) (hP : env "scanner.prev" = some f)
    (pv : f [.scanner] h = .ok ([], h')) : exec env fuel sPrev ⟨vars, h⟩ = .ok (.next, ⟨vars, h'⟩) :=
  exec_do hP (evArgs_recv hs) pv

theorem ev_spanHere (E : CursorEnv env) (hs : getVar vars "s" = .ok .scanner) (hst : getVar vars "start" = .ok (.int p0)) :
    Ev env vars h spanHere (.span p0 h.pos) := by
  obtain ⟨fA, hA, sA⟩ := E.newSpan
  exact ev_call hA (evArgs_cons (ev_var hst) (evArgs_cons (ev_pos hs) evArgs_nil)) (sA p0 h.pos h)

theorem ev_errHere (E : CursorEnv env) (hs : getVar vars "s" = .ok .scanner) (hst : getVar vars "start" = .ok (.int p0))
    (msg : String) : Ev env vars h (errHere msg) (.tok .error p0 h.pos []) := by
  obtain ⟨fE, hE, sE⟩ := E.errorToken
  exact ev_call hE (evArgs_cons (ev_spanHere E hs hst) (evArgs_cons (ev_str msg) evArgs_nil)) (sE p0 h.pos _ [] h)

theorem ev_symTok (E : CursorEnv env) (hs : getVar vars "s" = .ok .scanner) (hst : getVar vars "start" = .ok (.int p0))
    {K : String} {kd : TokKind} (hK : TokKind.ofGoName K = some kd) : Ev env vars h (symTok K) (.tok kd p0 h.pos []) :=
  ev_mkToken (ev_kind hK) (ev_spanHere E hs hst) (ev_str "")

theorem exec_push {e : Expr} {l : List Token} {kd : TokKind} {a b : Nat} {v : Bytes} {vars' : List (String × Val)}
    (hA : HasPrim env "append") (ht : getVar vars "tokens" = .ok (.toks l)) (he : eval env vars e h = .ok (.tok kd a b v, h'))
    (ha : assignIn "tokens" (.toks (l ++ [⟨kd, a, b, v⟩])) vars = some vars') :
    exec env fuel (push e) ⟨vars, h⟩ = .ok (.next, ⟨vars', h'⟩) := by
  unfold HasPrim at hA
  simp [push, exec, eval, evalArgs, ht, he, hA, prims, single, State.assign, ha, bind, Except.bind, pure, Except.pure,
    Except.map]

theorem eval_recv {m : String} {f : Fn} {v : Val} (hs : getVar vars "s" = .ok .scanner) (hf : env m = some f)
    (hr : f [.scanner] h = .ok ([v], h')) : eval env vars (.call m [eS]) h = .ok (v, h') := by
  simp [eS, eval, evalArgs, hs, hf, hr, single, Except.map, bind, Except.bind, pure, Except.pure]

theorem exec_ret_err (E : CursorEnv env) (hs : getVar vars "s" = .ok .scanner) (hst : getVar vars "start" = .ok (.int p0))
    (msg : String) : execBlock env fuel [.ret [errHere msg]] ⟨vars, h⟩ = .ok (.ret [.tok .error p0 h.pos []], ⟨vars, h⟩) := by
  rw [execBlock_single, exec_ret1 (ev_errHere E hs hst msg)]

end

def startSt (p0 : Nat) (h : Store) : State := ⟨[("start", .int p0), ("s", .scanner)], h⟩

def tokAt (p : Nat) (l : Lexeme) : Val := .tok l.kind p (p + l.width) l.value

end Pql.ScanIR
