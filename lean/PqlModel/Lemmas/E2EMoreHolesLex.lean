/-
Placeholders: lexing.  `isPlaceholder text` — the decidable predicate "the text is ONE placeholder
`$name`, `?` or `{…}`" — implies that the reference lexer reads the text as the one token `.param text`
(`lex_placeholder`), and one lexer iteration reads it in front of any text that does not start with a
word byte (`lexAux_placeholder`).

A chunk list with holes, the holes filled with NUMBERS (adjacent: `AdjC`; `HoleVal` at a constant
assignment) resp. with PLACEHOLDERS.  `holes_lex`: the text with the placeholders is lexed chunk by chunk, to the tokens `toksOf`
of the chunk list with the placeholders.  `holes_inst`: these tokens, instantiated, are the tokens of the
chunk list with the VALUES in the holes (no chunk the compiler writes itself contributes a `.param` token).
-/
import PqlModel.Lemmas.LexRenderChunks
import PqlModel.Lemmas.ParamsBind
import PqlModel.Lemmas.E2EMoreInst
namespace Pql.E2EMore
set_option linter.unusedSimpArgs false
open Pql Sql LexRender Pql.Params

/-- the text is one placeholder: `$` followed by one or more word bytes, `?`, or `{` … `}` without an inner `}` -/
def isPlaceholder (text : Bytes) : Bool :=
  match text with
  | [] => false
  | c :: w =>
    if c == 36 then !w.isEmpty && w.all isWordCont
    else if c == 63 then w.isEmpty
    else if c == 123 then w.getLast? == some 125 && w.dropLast.all (· != 125)
    else false

theorem isPlaceholder_ne {text : Bytes} (h : isPlaceholder text = true) : ∃ c w, text = c :: w := by
  cases text with
  | nil => simp [isPlaceholder] at h
  | cons c w => exact ⟨c, w, rfl⟩

theorem isPlaceholder_head {c : UInt8} {w : Bytes} (h : isPlaceholder (c :: w) = true) :
    c = 36 ∨ c = 63 ∨ c = 123 := by
  simp only [isPlaceholder] at h
  by_cases h1 : (c == 36) = true
  · left; simpa using h1
  · by_cases h2 : (c == 63) = true
    · right; left; simpa using h2
    · by_cases h3 : (c == 123) = true
      · right; right; simpa using h3
      · simp [h1, h2, h3] at h

/-- one lexer iteration on one of these three bytes: every earlier test of `lexStep` fails -/
theorem lexStep_head (c : UInt8) (hc : c = 36 ∨ c = 63 ∨ c = 123) (rest : Bytes) :
    lexStep .standard c rest =
      if c == 36 then
        let r := spanWhile isWordCont rest
        if r.1.isEmpty then none else some ([STok.param (c :: r.1)], r.2)
      else if c == 63 then some ([STok.param [63]], rest)
      else
        let r := spanWhile (· != 125) rest
        match r.2 with
        | _ :: r2 => some ([STok.param (c :: r.1 ++ [125])], r2)
        | [] => none := by
  rcases hc with rfl | rfl | rfl <;> rfl

theorem lexStep_ph (c : UInt8) (w X : Bytes) (h : isPlaceholder (c :: w) = true)
    (hX : ∀ d, X.head? = some d → isWordCont d = false) :
    lexStep .standard c (w ++ X) = some ([STok.param (c :: w)], X) := by
  rw [lexStep_head c (isPlaceholder_head h)]
  simp only [isPlaceholder] at h
  by_cases h1 : (c == 36) = true
  · simp only [h1, if_true, Bool.and_eq_true, Bool.not_eq_true', List.all_eq_true] at h ⊢
    simp only [spanWhile_append_stop isWordCont w X h.2 hX, h.1, Bool.false_eq_true, if_false]
  · simp only [h1, if_false, Bool.false_eq_true] at h ⊢
    by_cases h2 : (c == 63) = true
    · simp only [h2, if_true, List.isEmpty_iff] at h ⊢
      rw [h, eq_of_beq h2]
      rfl
    · simp only [h2, if_false, Bool.false_eq_true] at h ⊢
      by_cases h3 : (c == 123) = true
      · simp only [h3, if_true, Bool.and_eq_true, List.all_eq_true, beq_iff_eq] at h
        obtain ⟨hl, hb⟩ := h
        have hne : w ≠ [] := by intro e; subst e; simp at hl
        have hw : w = w.dropLast ++ [125] := by
          rw [List.getLast?_eq_some_getLast hne, Option.some.injEq] at hl
          rw [← hl]; exact (List.dropLast_concat_getLast hne).symm
        have hsp : spanWhile (· != 125) (w ++ X) = (w.dropLast, 125 :: X) := by
          rw [hw, List.append_assoc]
          simp only [List.dropLast_concat]
          exact spanWhile_append_stop _ _ _ hb (by intro d hd; simp at hd; subst hd; decide)
        simp only [hsp]
        rw [List.cons_append, ← hw]
      · simp [h3] at h

theorem lexAux_placeholder (text : Bytes) (f : Nat) (X : Bytes) (h : isPlaceholder text = true)
    (hX : ∀ d, X.head? = some d → isWordCont d = false) :
    lexAux .standard (f + 1) (text ++ X) = (lexAux .standard f X).map ([STok.param text] ++ ·) := by
  obtain ⟨c, w, rfl⟩ := isPlaceholder_ne h
  rw [List.cons_append, lexAux_step, lexStep_ph c w X h hX]
  rfl

theorem lex_placeholder (text : Bytes) (h : isPlaceholder text = true) :
    lex .standard text = some [STok.param text] := by
  obtain ⟨c, w, rfl⟩ := isPlaceholder_ne h
  have := lexAux_placeholder (c :: w) (w.length + 1) [] h (by simp)
  simp only [List.append_nil, lexAux_nil_pos] at this
  simp only [lex, lexRaw, List.length_cons, this]
  rfl

/-- `X` starts like `X'`, or `X'` starts with a digit and `X` with `$`, `?` or `{` -/
def HeadRel (X' X : Bytes) : Prop :=
  X.head? = X'.head? ∨
    ∃ d c, X'.head? = some d ∧ isDigitB d = true ∧ X.head? = some c ∧ (c = 36 ∨ c = 63 ∨ c = 123)

theorem HeadRel.refl (X : Bytes) : HeadRel X X := Or.inl rfl

theorem HeadRel.pre (p : Bytes) {X' X : Bytes} (h : HeadRel X' X) : HeadRel (p ++ X') (p ++ X) := by
  cases p with
  | nil => exact h
  | cons c p => exact Or.inl rfl

set_option maxRecDepth 8000 in
theorem digit_wordCont (d : UInt8) : (!isDigitB d || (isWordCont d && numBad d)) = true :=
  forall_uint8 (fun d => !isDigitB d || (isWordCont d && numBad d)) (by decide) d

/-- `sym1Bad c d` only for a `d` that ends a comment opener or a two-character symbol -/
theorem sym1Bad_false (c d : UInt8) (h1 : d ≠ 45) (h2 : d ≠ 42) (h3 : twoCharSyms.all (fun o => o.2.1 != d) = true) :
    sym1Bad c d = false := by
  have hf : twoCharSyms.find? (fun o => o.1 == c && o.2.1 == d) = none := by
    rw [List.find?_eq_none]
    intro o ho
    have := List.all_eq_true.mp h3 o ho
    simp only [bne_iff_ne, ne_eq] at this
    simp [this]
  simp [sym1Bad, hf, h1, h2]

/-- whatever may stand before a digit may stand before `$`, `?`, `{` -/
theorem bad_ph (a : Atom) (d c : UInt8) (hd : isDigitB d = true) (ha : a.bad d = false)
    (hc : c = 36 ∨ c = 63 ∨ c = 123) : a.bad c = false := by
  have hdw := digit_wordCont d
  simp only [hd, Bool.not_true, Bool.false_or, Bool.and_eq_true] at hdw
  cases a with
  | sp _ => rfl
  | word w => simp [Atom.bad, hdw.1] at ha
  | sym1 c0 =>
    rcases hc with rfl | rfl | rfl <;> exact sym1Bad_false c0 _ (by decide) (by decide) (by decide)
  | sym2 _ _ => rfl
  | qid n => rcases hc with rfl | rfl | rfl <;> simp [Atom.bad]
  | str n => rcases hc with rfl | rfl | rfl <;> simp [Atom.bad]
  | num v => simp [Atom.bad, hdw.2] at ha
  | cmt _ => rfl

theorem follows_transfer {a : Atom} {X' X : Bytes} (h : follows a X'.head? = true) (hr : HeadRel X' X) :
    follows a X.head? = true := by
  rcases hr with e | ⟨d, c, h1, hd, h2, hc⟩
  · rw [e]; exact h
  · rw [h1] at h
    rw [h2]
    simp only [follows, Bool.not_eq_true'] at h ⊢
    exact bad_ph a d c hd h hc

theorem AdjBefore_transfer {X' X : Bytes} (hr : HeadRel X' X) :
    ∀ {as : List Atom}, AdjBefore X' as = true → AdjBefore X as = true
  | [], _ => rfl
  | a :: r, h => by
    simp only [AdjBefore, Bool.and_eq_true] at h ⊢
    exact ⟨⟨h.1.1, follows_transfer h.1.2 (hr.pre _)⟩, AdjBefore_transfer hr h.2⟩

theorem AdjC_transfer {X' X : Bytes} (hr : HeadRel X' X) {cs : List Chunk} (h : AdjC X' cs = true) :
    AdjC X cs = true := by
  obtain ⟨h1, h2⟩ := AdjC_elim h
  simp only [AdjC, h1, AdjBefore_transfer hr h2, Bool.and_self]

theorem atom_head_ne_dollar {a : Atom} (h : a.wf = true) : a.bytes.head? ≠ some 36 := by
  have key : ∀ c : UInt8, (isSpaceB c || isWordStart c || isDigitB c || (oneCharSyms.find? (fun o => o.1 == c)).isSome ||
      twoCharSyms.any (fun o => o.1 == c)) = true → c ≠ 36 := by
    rintro c hc rfl
    revert hc
    decide
  cases a with
  | sp c =>
    simp only [Atom.wf] at h
    simp only [Atom.bytes, List.head?_cons, ne_eq, Option.some.injEq]
    exact key c (by simp [h])
  | word w =>
    obtain ⟨c, w', rfl, hc, _⟩ := wordOK_elim h
    simp only [Atom.bytes, List.head?_cons, ne_eq, Option.some.injEq]
    exact key c (by simp [hc])
  | sym1 c =>
    simp only [Atom.wf] at h
    simp only [Atom.bytes, List.head?_cons, ne_eq, Option.some.injEq]
    exact key c (by simp [h])
  | sym2 c d =>
    simp only [Atom.wf] at h
    simp only [Atom.bytes, List.head?_cons, ne_eq, Option.some.injEq]
    refine key c ?_
    obtain ⟨o, ho⟩ := Option.isSome_iff_exists.mp h
    have hm := List.mem_of_find?_eq_some ho
    have hp := List.find?_some ho
    simp only [Bool.and_eq_true] at hp
    have : twoCharSyms.any (fun o => o.1 == c) = true := List.any_eq_true.mpr ⟨o, hm, hp.1⟩
    simp [this]
  | qid n => simp [Atom.bytes, quoteIdentifier, quoteWith]
  | str n => simp [Atom.bytes, quoteSQLString, quoteWith]
  | num v =>
    obtain ⟨c, v', rfl, hc, _⟩ := numOK_scan v h
    simp only [Atom.bytes, List.head?_cons, ne_eq, Option.some.injEq]
    exact key c (by simp [hc])
  | cmt b => simp [Atom.bytes]

theorem atoms_head_ne_dollar {R : Bytes} (hR : R.head? ≠ some 36) :
    ∀ {as : List Atom}, AdjBefore R as = true → (renderAtoms as ++ R).head? ≠ some 36
  | [], _ => by simpa [renderAtoms] using hR
  | a :: r, h => by
    have hwf := AdjBefore_head_wf h
    have hne := atom_bytes_ne hwf
    rw [renderAtoms_cons, List.append_assoc, head?_append_ne _ hne]
    exact atom_head_ne_dollar hwf

theorem chunks_head_ne_dollar {R : Bytes} (hR : R.head? ≠ some 36) {cs : List Chunk} (h : AdjC R cs = true) :
    (renderChunks cs ++ R).head? ≠ some 36 := by
  obtain ⟨h1, h2⟩ := AdjC_elim h
  rw [← render_atomsOf h1]
  exact atoms_head_ne_dollar hR h2

/-- the chunk a value is written as (what the compiler stores for `let p = 'v'` / `let p = 42`) -/
def PVal.chunk : PVal → Chunk
  | .str v => .qstr v
  | .num v => .num v

/-- the two fillings of the holes: placeholders (`σ`) and their values under `ρ` (`σ''`); numbers, for which the
    compiler's output is known to lex (`Adj`), are the case of a constant `ρ` -/
def HoleVal (ρ : Bytes → PVal) (σ σ'' : Bytes → List Chunk) : Prop :=
  ∀ v, (σ v = [] ∧ σ'' v = []) ∨
    ∃ text, σ v = [.raw text] ∧ isPlaceholder text = true ∧ σ'' v = [(ρ text).chunk]

/-- the tokens `lexAux` emits for a chunk (comments included), a raw chunk being one placeholder -/
def ptoks : Chunk → List STok
  | .raw t => [.param t]
  | c => rawToks (chunkAtoms c)

theorem steps_cons (c : Chunk) (cs : List Chunk) : steps (c :: cs) = steps [c] + steps cs := by
  simp [steps, atomsOf]

theorem ptoks_notRaw {c : Chunk} (h : ∀ v, c ≠ .raw v) : ptoks c = rawToksOf [c] := by
  cases c with
  | raw v => exact absurd rfl (h v)
  | _ => simp [ptoks, rawToksOf, atomsOf]

theorem bindRaw_notRaw (σ : Bytes → List Chunk) {c : Chunk} (h : ∀ v, c ≠ .raw v) (cs : List Chunk) :
    bindRaw σ (c :: cs) = c :: bindRaw σ cs := by
  cases c with
  | raw v => exact absurd rfl (h v)
  | _ => rfl

theorem chunkToks_of_adj {X : Bytes} {c : Chunk} (h : AdjC X [c] = true) :
    (rawToks (chunkAtoms c)).filter (· != .comment) = chunkToks c := by
  obtain ⟨hok, hb⟩ := AdjC_elim h
  simp only [List.all_cons, List.all_nil, Bool.and_true] at hok
  have : atomsOf [c] = chunkAtoms c := by simp [atomsOf]
  rw [this] at hb
  exact chunkToks_eq hok (AdjBefore_nil_of hb)

structure HolesOut (cs cs' : List Chunk) (rest : Bytes) : Prop where
  lexes : ∀ f, lexAux .standard (f + steps cs') (renderChunks cs ++ rest) =
    (lexAux .standard f rest).map (cs.flatMap ptoks ++ ·)
  head : HeadRel (renderChunks cs' ++ rest) (renderChunks cs ++ rest)
  len : steps cs' ≤ (renderChunks cs).length
  toks : (cs.flatMap ptoks).filter (· != .comment) = toksOf cs

theorem holes_lex (σ σ' : Bytes → List Chunk) (hσ : HoleVal (fun _ => .num [48]) σ σ') :
    ∀ (r0 : List Chunk) (rest : Bytes), AdjC rest (bindRaw σ' r0) = true → rest.head? ≠ some 36 →
      HolesOut (bindRaw σ r0) (bindRaw σ' r0) rest
  | [], rest, _, _ => by
    refine ⟨fun f => ?_, HeadRel.refl _, by simp [steps, atomsOf], rfl⟩
    simp only [bindRaw_nil, steps, atomsOf, List.flatMap_nil, List.length_nil, Nat.add_zero, renderChunks,
      List.nil_append]
    cases lexAux .standard f rest <;> rfl
  | c :: r0, rest, hadj, hrest => by
    by_cases hc : ∃ v, c = .raw v
    · obtain ⟨v, rfl⟩ := hc
      rcases hσ v with ⟨e1, e2⟩ | ⟨text, e1, hph, e2'⟩
      · simp only [bindRaw_raw, e1, e2, List.nil_append] at hadj ⊢
        exact holes_lex σ σ' hσ r0 rest hadj hrest
      · obtain ⟨n, e2⟩ : ∃ n, σ' v = [.num n] := ⟨_, e2'⟩
        simp only [bindRaw_raw, e1, e2, List.cons_append, List.nil_append] at hadj
        rw [bindRaw_raw, bindRaw_raw, e1, e2, List.cons_append, List.nil_append, List.cons_append, List.nil_append]
        obtain ⟨h1, h2⟩ := AdjC_split (a := [.num n]) (b := bindRaw σ' r0) hadj
        have ih := holes_lex σ σ' hσ r0 rest h2 hrest
        have hnd := chunks_head_ne_dollar hrest h2
        -- the number atom
        obtain ⟨_, hb⟩ := AdjC_elim h1
        simp only [atomsOf, List.flatMap_cons, List.flatMap_nil, chunkAtoms, List.append_nil, AdjBefore,
          Bool.and_eq_true, renderAtoms, List.nil_append, Bool.and_true] at hb
        obtain ⟨hnum, hfol⟩ := hb
        obtain ⟨d0, n', rfl, hd0, _⟩ := numOK_scan n hnum
        obtain ⟨c0, w0, rfl⟩ := isPlaceholder_ne hph
        -- what follows the hole
        have hX : ∀ d, (renderChunks (bindRaw σ r0) ++ rest).head? = some d → isWordCont d = false := by
          intro d hd
          rcases ih.head with e | ⟨d', c', hd', hdig, _, _⟩
          · rw [e] at hd
            have hbad := follows_elim hfol d hd
            simp only [Atom.bad, numBad, Bool.or_eq_false_iff] at hbad
            have hne : d ≠ 36 := fun e' => hnd (e' ▸ hd)
            simp only [isWordCont, hbad.2, hbad.1.1, Bool.false_or, beq_eq_false_iff_ne, ne_eq]
            exact hne
          · have hbad := follows_elim hfol d' hd'
            simp [Atom.bad, numBad, hdig] at hbad
        refine ⟨fun f => ?_, ?_, ?_, ?_⟩
        · rw [steps_cons, renderChunks_cons, List.append_assoc]
          have hs1 : steps [Chunk.num (d0 :: n')] = 1 := rfl
          rw [hs1, show f + (1 + steps (bindRaw σ' r0)) = (f + steps (bindRaw σ' r0)) + 1 by omega]
          simp only [Chunk.bytes]
          rw [lexAux_placeholder _ _ _ hph hX, ih.lexes f]
          simp only [List.flatMap_cons, ptoks]
          cases lexAux .standard f rest <;> simp
        · right
          exact ⟨d0, c0, by simp [renderChunks_cons, Chunk.bytes], hd0, by simp [renderChunks_cons, Chunk.bytes],
            isPlaceholder_head hph⟩
        · rw [steps_cons, renderChunks_cons, List.length_append]
          have hs1 : steps [Chunk.num (d0 :: n')] = 1 := rfl
          have := ih.len
          simp only [Chunk.bytes, List.length_cons, hs1]
          omega
        · simp only [List.flatMap_cons, ptoks, List.filter_append, RT.toksOf_cons, chunkToks, lex_placeholder _ hph,
            Option.getD_some]
          rw [ih.toks]
          rfl
    · have hc' : ∀ v, c ≠ .raw v := fun v e => hc ⟨v, e⟩
      rw [bindRaw_notRaw σ' hc'] at hadj
      rw [bindRaw_notRaw σ' hc', bindRaw_notRaw σ hc']
      obtain ⟨h1, h2⟩ := AdjC_split (a := [c]) (b := bindRaw σ' r0) hadj
      have ih := holes_lex σ σ' hσ r0 rest h2 hrest
      have h1' : AdjC (renderChunks (bindRaw σ r0) ++ rest) [c] = true := AdjC_transfer ih.head h1
      refine ⟨fun f => ?_, ?_, ?_, ?_⟩
      · rw [steps_cons, renderChunks_cons, List.append_assoc,
          show f + (steps [c] + steps (bindRaw σ' r0)) = (f + steps (bindRaw σ' r0)) + steps [c] by omega]
        have := lexRender_of_adj_raw [c] _ (f + steps (bindRaw σ' r0)) h1'
        simp only [renderChunks, List.flatMap_cons, List.flatMap_nil, List.append_nil] at this
        simp only [renderChunks]
        rw [this]
        have ih' := ih.lexes f
        simp only [renderChunks] at ih'
        rw [ih']
        simp only [List.flatMap_cons, ptoks_notRaw hc']
        cases lexAux .standard f rest <;> simp
      · rw [renderChunks_cons, renderChunks_cons, List.append_assoc, List.append_assoc]
        exact ih.head.pre _
      · rw [steps_cons, renderChunks_cons, List.length_append]
        have := steps_le h1
        simp only [renderChunks, List.flatMap_cons, List.flatMap_nil, List.append_nil] at this
        have := ih.len
        omega
      · simp only [List.flatMap_cons, List.filter_append, RT.toksOf_cons]
        rw [ih.toks, ptoks_notRaw hc']
        have : rawToksOf [c] = rawToks (chunkAtoms c) := by simp [rawToksOf, atomsOf]
        rw [this, chunkToks_of_adj h1]

theorem holes_lex_top (σ σ' : Bytes → List Chunk) (hσ : HoleVal (fun _ => .num [48]) σ σ') (r0 : List Chunk)
    (hadj : Adj (bindRaw σ' r0) = true) :
    lex .standard (renderChunks (bindRaw σ r0)) = some (toksOf (bindRaw σ r0)) := by
  have h := holes_lex σ σ' hσ r0 [] hadj (by simp)
  have hl := h.lexes ((renderChunks (bindRaw σ r0)).length - steps (bindRaw σ' r0) + 1)
  have hlen := h.len
  simp only [List.append_nil] at hl
  rw [show (renderChunks (bindRaw σ r0)).length - steps (bindRaw σ' r0) + 1 + steps (bindRaw σ' r0) =
    (renderChunks (bindRaw σ r0)).length + 1 by omega, lexAux_nil_pos] at hl
  simp only [lex, lexRaw, hl, Option.map_some, List.append_nil, h.toks]


theorem atom_toks_inst (ρ : Bytes → PVal) (a : Atom) : a.toks.map (instTok ρ) = a.toks := by
  cases a <;> simp [Atom.toks, instTok]

theorem rawToks_inst (ρ : Bytes → PVal) : ∀ as : List Atom, (rawToks as).map (instTok ρ) = rawToks as
  | [] => rfl
  | a :: r => by rw [rawToks_cons, List.map_append, atom_toks_inst, rawToks_inst ρ r]

theorem filter_map_inst (ρ : Bytes → PVal) {ts : List STok} (h : ts.map (instTok ρ) = ts) :
    (ts.filter (· != .comment)).map (instTok ρ) = ts.filter (· != .comment) := by
  induction ts with
  | nil => rfl
  | cons t r ih =>
    simp only [List.map_cons, List.cons.injEq] at h
    by_cases ht : (t != STok.comment) = true
    · simp only [List.filter_cons, ht, if_true, List.map_cons, h.1, ih h.2]
    · simp only [List.filter_cons, ht, if_false, Bool.false_eq_true, ih h.2]

theorem holes_inst (ρ : Bytes → PVal) (σ σ'' σ' : Bytes → List Chunk) (hv : HoleVal ρ σ σ'') :
    ∀ (r0 : List Chunk) (rest : Bytes), AdjC rest (bindRaw σ' r0) = true →
      (toksOf (bindRaw σ r0)).map (instTok ρ) = toksOf (bindRaw σ'' r0)
  | [], _, _ => rfl
  | c :: r0, rest, hadj => by
    by_cases hc : ∃ v, c = .raw v
    · obtain ⟨v, rfl⟩ := hc
      rw [bindRaw_raw] at hadj
      have ih := holes_inst ρ σ σ'' σ' hv r0 rest (AdjC_split hadj).2
      rw [bindRaw_raw, bindRaw_raw, RT.toksOf_append, RT.toksOf_append, List.map_append, ih]
      rcases hv v with ⟨e1, e2⟩ | ⟨text, e1, hph, e2⟩
      · rw [e1, e2]; rfl
      · rw [e1, e2]
        congr 1
        have hi : instTok ρ (.param text) = (ρ text).tok := rfl
        simp only [toksOf, List.flatMap_cons, List.flatMap_nil, List.append_nil, chunkToks, lex_placeholder _ hph,
          Option.getD_some, List.map_cons, List.map_nil, hi]
        cases hρ : ρ text <;> rfl
    · have hc' : ∀ v, c ≠ .raw v := fun v e => hc ⟨v, e⟩
      rw [bindRaw_notRaw σ' hc'] at hadj
      obtain ⟨h1, h2⟩ := AdjC_split (a := [c]) (b := bindRaw σ' r0) hadj
      have ih := holes_inst ρ σ σ'' σ' hv r0 rest h2
      rw [bindRaw_notRaw σ hc', bindRaw_notRaw σ'' hc', RT.toksOf_cons, RT.toksOf_cons, List.map_append, ih]
      congr 1
      rw [← chunkToks_of_adj h1]
      exact filter_map_inst ρ (rawToks_inst ρ _)

end Pql.E2EMore
