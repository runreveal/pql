/-
End-to-end composition: every intended statement (`Intended.intended`) is free of the operator
`!=` — its expressions are translations `tr …` (`JoinSem.tr_noBang`), string constants or `COUNT(*)` —
so evaluating its normal form is evaluating it.  (Its normal form is NOT literally itself: the `count`
operator's `COUNT(*)` is spelled in upper case, `normS` lower-cases it.)
-/
import PqlModel.Lemmas.E2ESelect
import PqlModel.Lemmas.SelSemOps
import PqlModel.Lemmas.JoinSemEval
namespace Pql.E2E
open Pql Sql CompileOracle Intended JoinSem SelSem
set_option linter.unusedSimpArgs false

/-- the expressions of a list `selOf` translates (`SelSem.mapM_tr`) are translations -/
theorem mapM_tr_noBang {α β} (g : α → Expr) {mk : α → SExpr → β} {f : α → Option β}
    (hf : ∀ x, f x = (tr false (g x)).map (mk x)) (ex : β → SExpr) (hex : ∀ x e, ex (mk x e) = e)
    {l : List α} {ys : List β} (h : l.mapM f = some ys) : ∀ y ∈ ys, noBang (ex y) = true := by
  obtain ⟨rfl, h2⟩ := mapM_tr g mk f hf l ys h
  intro y hy
  obtain ⟨x, hx, rfl⟩ := List.mem_map.1 hy
  rw [hex]
  exact tr_noBang false _ _ (h2 x hx)

theorem partsOf_noBang (src : Bytes) (op : Option Op) (items : List SelectItem) (w : Option SExpr) (gb : List SExpr)
    (h : partsOf src op = some (items, w, gb)) :
    (∀ it ∈ items, noBang it.expr = true) ∧ (∀ e, w = some e → noBang e = true) ∧ ∀ g ∈ gb, noBang g = true := by
  have star : ∀ it ∈ [starItem], noBang it.expr = true := fun it hit => by rw [List.mem_singleton.1 hit]; rfl
  have items_ := fun (cols : List Column) its =>
    mapM_tr_noBang (l := cols) (ys := its) Column.x (itemOf_eq src) SelectItem.expr fun _ _ => rfl
  rcases op with _ | o
  · cases h; exact ⟨star, nofun, nofun⟩
  · cases o <;> simp only [partsOf, Option.pure_def, Option.some.injEq, Option.bind_eq_bind, Option.bind_eq_some_iff,
      Prod.mk.injEq, reduceCtorEq] at h
    case where_ p k pred =>
      obtain ⟨e, he, rfl, rfl, rfl⟩ := h
      exact ⟨star, fun e' h' => by cases h'; exact tr_noBang false pred e he, nofun⟩
    case project p k cols =>
      obtain ⟨its, hi, rfl, rfl, rfl⟩ := h
      exact ⟨mapM_tr_noBang projExpr projectItem_eq SelectItem.expr (fun _ _ => rfl) hi, nofun, nofun⟩
    case extend p k cols =>
      obtain ⟨its, hi, rfl, rfl, rfl⟩ := h
      exact ⟨List.forall_mem_cons.2 ⟨rfl, items_ cols its hi⟩, nofun, nofun⟩
    case summarize p k cols b gbs =>
      obtain ⟨gs, hgs, cs, hcs, gb', hgb, rfl, rfl, rfl⟩ := h
      refine ⟨fun it hit => ?_, nofun,
        mapM_tr_noBang Column.x (mk := fun _ e => e) (fun c => by simp) id (fun _ _ => rfl) hgb⟩
      rcases List.mem_append.1 hit with hit | hit
      · exact items_ gbs gs hgs it hit
      · exact items_ cols cs hcs it hit
    case count p k =>
      obtain ⟨rfl, rfl, rfl⟩ := h
      exact ⟨fun it hit => by rw [List.mem_singleton.1 hit]; rfl, nofun, nofun⟩
    case render p k chart w' lp props rp =>
      obtain ⟨rfl, rfl, rfl⟩ := h
      refine ⟨fun it hit => ?_, nofun, nofun⟩
      simp only [List.mem_cons, List.mem_map] at hit
      rcases hit with rfl | rfl | ⟨pr, _, rfl⟩ <;> rfl
    case as_ p k n =>
      obtain ⟨rfl, rfl, rfl⟩ := h
      exact ⟨star, nofun, nofun⟩

/-- **every intended SELECT is free of `!=`**: its expressions are translations, string constants or `COUNT(*)` -/
theorem selOf_noBang (src : Bytes) (a : SubA) (w : Select) (h : selOf src a = some w) : noBangSel w = true := by
  obtain ⟨f, items, wh, gb, obs, lim, hf, hp, ho, hl, rfl⟩ := selOf_inv src a w h
  obtain ⟨p1, p2, p3⟩ := partsOf_noBang src a.op items wh gb hp
  simp only [noBangSel, Bool.and_eq_true, List.all_eq_true]
  refine ⟨⟨⟨⟨⟨p1, ?_⟩, ?_⟩, p3⟩, ?_⟩, ?_⟩
  · cases hs : a.source with
    | table n => rw [hs] at hf; cases hf; rfl
    | join u l ln rn cond =>
      simp only [hs, fromOf, Option.bind_eq_bind, Option.pure_def, Option.bind_eq_some_iff, Option.some.injEq] at hf
      obtain ⟨c, hc, rfl⟩ := hf
      exact tr_noBang true cond c hc
  · cases wh with
    | none => rfl
    | some e => exact p2 e rfl
  · cases hs : a.sort with
    | none => cases obsOf_sort_none hs ho; nofun
    | some ts =>
      simp only [obsOf, hs] at ho
      exact mapM_tr_noBang SortTerm.x orderOf_eq OrderTerm.expr (fun _ _ => rfl) ho
  · cases ht : a.take with
    | none => simp only [limOf, ht, Option.pure_def, Option.some.injEq] at hl; subst hl; rfl
    | some n =>
      simp only [limOf, ht, Option.map_eq_some_iff] at hl
      obtain ⟨e, he, rfl⟩ := hl
      exact tr_noBang false n e he

theorem mapM_forall {α β : Type} (f : α → Option β) (P : β → Prop) (hf : ∀ a b, f a = some b → P b) :
    ∀ (l : List α) (out : List β), l.mapM f = some out → ∀ b ∈ out, P b
  | [], out, h, b, hb => by simp at h; subst h; cases hb
  | a :: l, out, h, b, hb => by
    simp only [List.mapM_cons, Option.bind_eq_bind, Option.pure_def, Option.bind_eq_some_iff, Option.some.injEq] at h
    obtain ⟨w, hw, ws, hws, rfl⟩ := h
    rcases List.mem_cons.1 hb with rfl | hb
    · exact hf a _ hw
    · exact mapM_forall f P hf l ws hws b hb

theorem stmtOf_noBang (src : Bytes) (subs : List SubA) (st : Statement) (h : stmtOf src subs = some st) :
    noBangStatement st = true := by
  obtain ⟨init, q, sels, body, rfl, hsels, hbody, rfl⟩ := stmtOf_snoc src subs st h
  simp only [noBangStatement, Bool.and_eq_true, List.all_eq_true]
  refine ⟨mapM_forall _ (fun c : Bytes × Select => noBangSel c.2 = true) (fun a b hab => ?_) _ sels hsels,
    selOf_noBang src q body hbody⟩
  obtain ⟨w, hw, rfl⟩ := linkSel_eq_some.1 hab
  exact selOf_noBang src a w hw

/-- **every intended statement is free of `!=`** -/
theorem intended_noBang (src : Bytes) (stmts : List Stmt) (want : Statement) (h : intended src stmts = some want) :
    noBangStatement want = true := by
  simp only [intended, Option.bind_eq_bind, Option.bind_eq_some_iff] at h
  obtain ⟨t, _, subs, _, hst⟩ := h
  exact stmtOf_noBang src subs want hst

theorem evalStatement_norm_intended (src : Bytes) (stmts : List Stmt) (want : Statement) (db : DB)
    (h : intended src stmts = some want) : evalStatement db (normStatement want) = evalStatement db want :=
  evalStatement_normStatement db want (intended_noBang src stmts want h)

end Pql.E2E
