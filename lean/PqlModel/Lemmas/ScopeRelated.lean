/-
Compiling from related scopes.  The compiler never looks inside a chunk list stored in the scope: for a
relation `R` on chunk lists that is closed under `++` and relates every chunk the compiler itself emits to
itself (`WCong CMap.idMap R`), two initial scopes that bind the same names to `R`-related chunk lists compile to
`R`-related chunk lists, or fail alike (`compileFrom_srel`).  This is content parametricity
(Lemmas/ShapeCompile.lean) at the content map that changes nothing (`CMap.idMap`, `mapE_id` …).  Instances:
filling holes (Lemmas/ParamsBindTop.lean), scopes whose entries read alike (Lemmas/ParamsHoles.lean).
-/
import PqlModel.Lemmas.ShapeAll
namespace Pql

def CMap.idMap : CMap := ⟨id, id, id, id⟩

section
open CMap

theorem optMap_id_of {α : Type} {f : α → α} (h : ∀ a, f a = a) (o : Option α) : o.map f = o := by
  cases o with
  | none => rfl
  | some a => rw [Option.map_some, h]

theorem idMap_ident (p : Ident) : idMap.ident p = p := rfl

theorem idMap_fnIdent (p : Ident) : idMap.fnIdent p = p := rfl

theorem idMap_lit (k : TokKind) (v : Bytes) : idMap.lit k v = v := by
  unfold CMap.lit
  split
  · rfl
  · split <;> rfl

mutual
theorem mapE_id : (e : Expr) → mapE idMap e = e
  | .nil => by simp only [mapE]
  | .qident parts => by simp only [mapE, List.map_id'' idMap_ident]
  | .lit sp k v => by
    simp only [mapE, idMap_lit]
    rfl
  | .unary _ _ x | .paren _ x _ => by
    simp only [mapE, mapE_id x]
    rfl
  | .binary x _ _ y | .index x _ y _ => by
    simp only [mapE, mapE_id x, mapE_id y]
    rfl
  | .inE x _ _ vals _ => by
    simp only [mapE, mapE_id x, mapL_id vals]
    rfl
  | .call fn _ args _ => by
    simp only [mapE, mapL_id args]
    rfl
theorem mapL_id : (es : ExprList) → mapL idMap es = es
  | .nil => by simp only [mapL]
  | .cons e es => by simp only [mapL, mapE_id e, mapL_id es]
end

theorem mapSortTerm_id (t : SortTerm) : mapSortTerm idMap t = t := by
  cases t
  simp only [mapSortTerm, mapE_id]
  rfl

theorem mapColumn_id (c : Column) : mapColumn idMap c = c := by
  cases c
  simp only [mapColumn, mapE_id, optMap_id_of idMap_ident]
  rfl

theorem mapProp_id (p : RenderProp) : mapProp idMap p = p := by
  cases p
  simp only [mapProp, mapE_id, optMap_id_of idMap_ident]
  rfl

mutual
theorem mapT_id : (t : Tabular) → mapT idMap t = t
  | .nil => by simp only [mapT]
  | .mk source ops => by simp only [mapT, mapOps_id ops, optMap_id_of idMap_ident]
theorem mapOps_id : (ops : OpList) → mapOps idMap ops = ops
  | .nil => by simp only [mapOps]
  | .cons o os => by simp only [mapOps, mapOp_id o, mapOps_id os]
theorem mapOp_id : (o : Op) → mapOp idMap o = o
  | .join p k kind ka fl lp right rp on conds => by
    simp only [mapOp, mapT_id right, mapL_id, optMap_id_of idMap_fnIdent]
    rfl
  | .count .. | .where_ .. | .sort .. | .take .. | .top .. | .project .. | .extend .. | .summarize .. | .as_ ..
  | .render .. => by
    simp only [mapOp, mapE_id, List.map_id'' mapSortTerm_id, List.map_id'' mapColumn_id, List.map_id'' mapProp_id,
      optMap_id_of idMap_ident, optMap_id_of mapSortTerm_id]
    rfl
end

theorem mapStmt_id (st : Stmt) : mapStmt idMap st = st := by
  cases st with
  | let_ kw name asg x =>
    simp only [mapStmt, mapE_id, optMap_id_of idMap_fnIdent]
    rfl
  | tabular t => simp only [mapStmt, mapT_id]

end

section
variable {R : List Chunk → List Chunk → Prop} (hR : WCong CMap.idMap R)
include hR

theorem idMap_wsplit : WSplitCong CMap.idMap R := ⟨hR, fun _ => hR.qid _, hR.qid _⟩

theorem idMap_opOK (src : Bytes) (o : Op) : OpOK CMap.idMap R src src o := by
  have ha : ∀ c : Column, AliasRel CMap.idMap R src src c := fun c _ => by
    rw [mapE_id]
    exact ExRel.refl' (fun _ => hR.qid _) _
  cases o with
  | project => exact fun _ _ _ => hR.qid _
  | extend => exact fun c _ => ha c
  | summarize => exact ⟨fun c _ => ha c, fun c _ => ha c⟩
  | render p k ch w lp props rp =>
    refine ⟨by rw [optMap_id_of idMap_ident]; exact hR.qstr _, fun p _ => ⟨?_, ?_⟩⟩
    · rw [mapE_id]
      exact hR.qstr _
    · rw [optMap_id_of idMap_ident]
      exact hR.qid _
  | _ => trivial

theorem idMap_tabOK (src : Bytes) (t : Tabular) : TabOK CMap.idMap R src src t :=
  TabOK_of_all (P := fun _ => true) (fun o _ => idMap_opOK hR src o) t (TabAll_of_forall (fun _ => rfl) t)

variable {src : Bytes} {s s' : Scope} {m : Mode}

theorem writeExpr_srel (hs : ScopeRel R s s') (e : Expr) :
    ExRel R (writeExpr ⟨src, s, m⟩ e) (writeExpr ⟨src, s', m⟩ e) := by
  have := mapE_rel (src := src) (src' := src) (m := m) hR hs e (inertE_of_fn_id (fun _ => rfl) s m e)
  rwa [mapE_id] at this

theorem compileFrom_srel (hs : ScopeRel R s s') (stmts : List Stmt) :
    ExRel R (compileStmts src stmts s none >>= fun r => C14.finishChunks src r.1 r.2)
      (compileStmts src stmts s' none >>= fun r => C14.finishChunks src r.1 r.2) := by
  have := compileFrom_mrel (src := src) (src' := src) (idMap_wsplit hR) hs stmts
    (inertProg_of_fn_id (fun _ => rfl) src stmts s none) (fun t _ => idMap_tabOK hR src t)
  rwa [List.map_id'' mapStmt_id] at this

end

end Pql
