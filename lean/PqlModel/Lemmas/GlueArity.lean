/-
C13 / C01 glue: the families of trees `T | where name(a, …, a)` and `T | summarize c = name(a, …, a)`
(n arguments, all n, all spans `Span.zero`), their well-formedness, and their misuse verdict.  The
same `where` tree with the positions of its source text is `stmtAt` (Lemmas/GlueArityParse.lean).
`wfStmt` here is `Exact.wfStmt` (what the compiler asks of a tree); `stmtAt_wf` there is about
`Grammar.wfStmt` (what the forward parser theorem asks).

Specification-level definition (independent of the compiler model and of `Spec/Misuse`):
`Glue.arityOK` — the documented arities of the built-ins, as a Prop on (name, argument count).
-/
import PqlModel.Props.C13Exact
namespace Pql.Glue
open Pql Pql.Exact

def B (s : String) : Bytes := Bytes.ofString s

def unaryBuiltins : List Bytes :=
  [B "not", B "isnull", B "isnotnull", B "tolower", B "toupper", B "countif"]
def nullaryBuiltins : List Bytes := [B "now", B "count"]
def ternaryBuiltins : List Bytes := [B "iff", B "iif"]
def variadicBuiltins : List Bytes := [B "strcat"]

def builtins : List Bytes := unaryBuiltins ++ nullaryBuiltins ++ ternaryBuiltins ++ variadicBuiltins

/-- **documented arities.**  `arityOK name n`: a call of `name` with `n` arguments has an
    acceptable number of arguments.  Any other name is passed through to SQL with any number of
    arguments. -/
def arityOK (name : Bytes) (n : Nat) : Prop :=
  if unaryBuiltins.contains name then n = 1
  else if nullaryBuiltins.contains name then n = 0
  else if ternaryBuiltins.contains name then n = 3
  else if variadicBuiltins.contains name then 1 ≤ n
  else True

instance (name : Bytes) (n : Nat) : Decidable (arityOK name n) := by
  unfold arityOK; exact inferInstance

def idn (name : Bytes) : Ident := ⟨name, .zero, false⟩

def colA : Expr := .qident [idn (B "a")]

def argsA : Nat → ExprList
  | 0 => .nil
  | n + 1 => .cons colA (argsA n)

def callE (name : Bytes) (n : Nat) : Expr := .call (idn name) .zero (argsA n) .zero

/-- `T | where name(a, …, a)` -/
def whereCall (name : Bytes) (n : Nat) : List Stmt :=
  [.tabular (.mk (some (idn (B "T"))) (.cons (.where_ .zero .zero (callE name n)) .nil))]

/-- `T | summarize c = name(a, …, a)` -/
def summarizeCall (name : Bytes) (n : Nat) : List Stmt :=
  [.tabular (.mk (some (idn (B "T")))
    (.cons (.summarize .zero .zero [⟨some (idn (B "c")), .zero, callE name n⟩] .null []) .nil))]

theorem argsA_length (n : Nat) : (argsA n).length = n := by
  induction n with
  | zero => rfl
  | succ n ih => simp only [argsA, ExprList.length, ih]

theorem argsA_opsKnown (n : Nat) : opsKnownList (argsA n) = true := by
  induction n with
  | zero => simp only [argsA, opsKnownList]
  | succ n ih => simp only [argsA, opsKnownList, colA, opsKnown, ih, Bool.and_self]

theorem callE_opsKnown (name : Bytes) (n : Nat) : opsKnown (callE name n) = true := by
  simp only [callE, opsKnown, argsA_opsKnown]

theorem whereCall_wf (name : Bytes) (n : Nat) : ∀ s ∈ whereCall name n, wfStmt s = true := by
  intro s hs
  simp only [whereCall, List.mem_singleton] at hs
  subst hs
  simp only [wfStmt, wfTabular, wfOps, wfOp, callE_opsKnown, Bool.and_self]

theorem whereCall_spans (src name : Bytes) (n : Nat) : SpansInside src (whereCall name n) = true := by
  simp only [SpansInside, whereCall, List.all_cons, List.all_nil, spansTabular, spansOps, spansOp, Bool.and_self]

theorem summarizeCall_wf (name : Bytes) (n : Nat) : ∀ s ∈ summarizeCall name n, wfStmt s = true := by
  intro s hs
  simp only [summarizeCall, List.mem_singleton] at hs
  subst hs
  have hnil : isNilExpr (callE name n) = false := rfl
  simp only [wfStmt, wfTabular, wfOps, wfOp, List.all_cons, List.all_nil, colWf, callE_opsKnown, hnil,
    Bool.not_false, Bool.and_self]

theorem summarizeCall_spans (src name : Bytes) (n : Nat) :
    SpansInside src (summarizeCall name n) = true := by
  simp only [SpansInside, summarizeCall, List.all_cons, List.all_nil, spansTabular, spansOps, spansOp,
    colSpanOK, Option.isSome_some, Bool.true_or, Bool.and_self]

theorem col_ok (bound : List Bytes) (sp : Span) :
    Misuse.badExpr .plain bound (.qident [⟨B "a", sp, false⟩]) = false := by
  have h1 : Misuse.isAlias (B "a") = false := by decide
  have h2 : (Misuse.Pos.plain == Misuse.Pos.letValue) = false := by decide
  simp only [Misuse.badExpr, h1, h2]
  split <;> simp

theorem colA_ok (bound : List Bytes) : Misuse.badExpr .plain bound colA = false := col_ok bound .zero

theorem argsA_ok (bound : List Bytes) (n : Nat) : Misuse.badList .plain bound (argsA n) = false := by
  induction n with
  | zero => simp only [argsA, Misuse.badList]
  | succ n ih => simp only [argsA, Misuse.badList, colA_ok, ih, Bool.or_self]

theorem callE_bad (bound : List Bytes) (name : Bytes) (n : Nat) :
    Misuse.badExpr .plain bound (callE name n) = Misuse.wrongArity name n := by
  simp only [callE, idn, Misuse.badExpr, argsA_ok, argsA_length, Bool.or_false]

theorem whereCall_misuse (params : List Bytes) (name : Bytes) (n : Nat) :
    Misuse.misuse params (whereCall name n) = Misuse.wrongArity name n := by
  simp [Misuse.misuse, whereCall, Misuse.misuseStmts, Misuse.badTabular, Misuse.badOps, Misuse.badOp,
    callE_bad]

theorem summarizeCall_misuse (params : List Bytes) (name : Bytes) (n : Nat) :
    Misuse.misuse params (summarizeCall name n) = Misuse.wrongArity name n := by
  have hc : ∀ bound, Misuse.badColumn bound ⟨some (idn (B "c")), .zero, callE name n⟩ =
      Misuse.wrongArity name n := by
    intro bound
    simp only [Misuse.badColumn, callE, idn, Misuse.badExpr, argsA_ok, argsA_length, Bool.or_false]
  simp [Misuse.misuse, summarizeCall, Misuse.misuseStmts, Misuse.badTabular, Misuse.badOps, Misuse.badOp, hc]

theorem wrongArity_iff (name : Bytes) (n : Nat) : Misuse.wrongArity name n = false ↔ arityOK name n := by
  unfold Misuse.wrongArity Misuse.arities arityOK unaryBuiltins nullaryBuiltins ternaryBuiltins
    variadicBuiltins
  simp only [List.find?_cons, List.find?_nil, Misuse.bytesEq, B, List.contains_cons, List.contains_nil,
    Bool.or_false]
  cases h1 : name == Bytes.ofString "not"
  case true => simp
  cases h2 : name == Bytes.ofString "isnull"
  case true => simp
  cases h3 : name == Bytes.ofString "isnotnull"
  case true => simp
  cases h4 : name == Bytes.ofString "tolower"
  case true => simp
  cases h5 : name == Bytes.ofString "toupper"
  case true => simp
  cases h6 : name == Bytes.ofString "countif"
  case true => simp
  cases h7 : name == Bytes.ofString "now"
  case true => simp
  cases h8 : name == Bytes.ofString "count"
  case true => simp
  cases h9 : name == Bytes.ofString "iff"
  case true => simp
  cases h10 : name == Bytes.ofString "iif"
  case true => simp
  cases h11 : name == Bytes.ofString "strcat"
  case true => simp; omega
  simp

end Pql.Glue
