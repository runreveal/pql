/-
The last statement of the input: `specFrom` gives the same result for `s;\n` and `s\n` if
`compile` ignores one trailing newline (a newline is the weakest follower of a step boundary:
`reaches_newline_of_other`, Lemmas/LexFollower.lean).
-/
import PqlModel.Lemmas.CliLemmasRun
import PqlModel.Lemmas.LexFollower
namespace Pql

open Pql.CliSpec

theorem normalise_concat (ls : List Bytes) (l : Bytes) :
    normalise (ls ++ [l]) = normalise ls ++ (l ++ [10]) := by
  simp [normalise]

theorem closed_normalise (ls : List Bytes) : Closed (normalise ls) := by
  rcases List.eq_nil_or_concat ls with h | ⟨ls', l, h⟩
  · subst h; exact closed_nil
  · rw [h, List.concat_eq_append, normalise_concat, ← List.append_assoc]
    exact closed_newline _

theorem scanFrom_nl_cons (b : Bytes) (off : Nat) : scanFrom (10 :: b) off = scanFrom b (off + 1) := by
  rw [scanFrom_step (by simp)]
  have : scanOne (10 :: b) = ⟨none, 1⟩ := by simp [scanOne, isAsciiSpace, Step.skip]
  simp [this, Step.toks]

theorem scanFrom_newline (off : Nat) : scanFrom [10] off = [] := by
  rw [scanFrom_nl_cons, scanFrom_nil]

theorem scan_append_newline (s : Bytes) (h : Reaches (s ++ [10]) s.length) :
    scan (s ++ [10]) = scan s := by
  unfold scan
  rw [scanFrom_append s [10] 0 h, scanFrom_newline, List.append_nil]

theorem specFrom_terminated (compile : Bytes → Option Bytes) (a : Acc) (s : Bytes) (readErr : Bool)
    (hsemi : ∀ t ∈ scan s, t.kind ≠ .semi) (hb : Reaches (s ++ 59 :: [10]) s.length) :
    specFrom compile a (s ++ 59 :: [10]) readErr =
      specFinish compile (statement compile a s) [10] readErr := by
  have h1 : splitStatements [10] = [[10]] :=
    splitStatements_nosemi [10] (by simp [scan, scanFrom_newline])
  have h2 := splitStatements_semi s [10] hb hsemi
  rw [h1] at h2
  simp [specFrom, lastPiece, h2]

theorem specFrom_unterminated (compile : Bytes → Option Bytes) (a : Acc) (s : Bytes)
    (readErr : Bool) (hsemi : ∀ t ∈ scan s, t.kind ≠ .semi) (hb : Reaches (s ++ [10]) s.length) :
    specFrom compile a (s ++ [10]) readErr = specFinish compile a (s ++ [10]) readErr := by
  have h2 := splitStatements_nosemi (s ++ [10]) (by rw [scan_append_newline s hb]; exact hsemi)
  simp [specFrom, lastPiece, h2]

theorem specFrom_last_terminated_or_not (compile : Bytes → Option Bytes) (a : Acc) (s : Bytes)
    (readErr : Bool) (hnl : ∀ x, compile (x ++ [10]) = compile x)
    (hsemi : ∀ t ∈ scan s, t.kind ≠ .semi) (hb : Reaches (s ++ 59 :: [10]) s.length)
    (htok : scan s ≠ []) (hlet : isLetStatement s = false) :
    specFrom compile a (s ++ 59 :: [10]) readErr = specFrom compile a (s ++ [10]) readErr := by
  have hb' : Reaches (s ++ [10]) s.length := reaches_newline_of_other s [10] [] 59 hb
  rw [specFrom_terminated compile a s readErr hsemi hb,
    specFrom_unterminated compile a s readErr hsemi hb']
  have he : (scan (s ++ [10])).isEmpty = false := by
    rw [scan_append_newline s hb']
    cases hs : scan s with
    | nil => exact absurd hs htok
    | cons t ts => rfl
  have hn : (scan [10]).isEmpty = true := by simp [scan, scanFrom_newline]
  have hc : compile (a.lets ++ (s ++ [10])) = compile (a.lets ++ s) := by
    rw [← List.append_assoc, hnl]
  cases readErr <;> cases hcs : compile (a.lets ++ s) <;>
    simp [specFinish, statement, hlet, he, hn, hc, hcs]

end Pql
