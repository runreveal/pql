/-
The writers above the expression level are congruences as well: `writeSortTerms`, `writeColumns`, `bodyOf` /
`tailOf` (the two halves of `(*subquery).write`), `writeCtes`, the two kinds of step of the splitter on related lists
of subqueries (`place_rel` for every operator but `join`, `joinSub_alike`), and what `compileChunks` does after the
statement loop (`C14.finishChunks`, given related splits).  The hypotheses speak of what the writers do on the two sides (`ExprAlike`, `OpAlike`, `SubAlike`),
not of how the second tree was obtained from the first: substitution (Lemmas/ScopeWriteSub.lean) and content
maps (Lemmas/ShapeOps.lean) are instances.
-/
import PqlModel.Lemmas.WriterCong
import PqlModel.Lemmas.ScopeCompile
import PqlModel.Lemmas.WriterCases
namespace Pql

/-- what `compileChunks` does after the statement loop -/
def C14.finishChunks (src : Bytes) (scope : Scope) (q : Option Tabular) : W :=
  match q with
  | none => .error .err
  | some t => do
    let subs ← splitQueries src scope [] t
    let ctx : Ctx := ⟨src, scope, .default⟩
    match subs.reverse with
    | [] => .error .panic
    | query :: ctesRev =>
      let ctes := ctesRev.reverse
      let withPart ← if ctes.isEmpty then pure [] else do
        let c ← writeCtes ctx ctes
        pure (.txt "WITH " :: c)
      let body ← query.write ctx
      pure (withPart ++ body ++ [.txt ";"])

theorem C14.finishChunks_tabular (src : Bytes) (scope : Scope) (t : Tabular) (cs : List Chunk)
    (hc : C14.finishChunks src scope (some t) = .ok cs) :
    ∃ ctes query body, splitQueries src scope [] t = .ok (ctes ++ [query]) ∧
      query.write ⟨src, scope, .default⟩ = .ok body ∧
      ((ctes = [] ∧ cs = body ++ [.txt ";"]) ∨
       (ctes ≠ [] ∧ ∃ c, writeCtes ⟨src, scope, .default⟩ ctes = .ok c ∧ cs = .txt "WITH " :: c ++ body ++ [.txt ";"])) := by
  simp only [C14.finishChunks] at hc
  obtain ⟨subs, hs, hc⟩ := LexRender.bind_ok hc
  cases hrev : subs.reverse with
  | nil => rw [hrev] at hc; cases hc
  | cons query ctesRev =>
    rw [hrev] at hc
    have hsubs : subs = ctesRev.reverse ++ [query] := by
      rw [← List.reverse_reverse subs, hrev, List.reverse_cons]
    simp only at hc
    refine ⟨ctesRev.reverse, query, ?_⟩
    split at hc
    · next hE =>
      obtain ⟨_, hp, hc⟩ := LexRender.bind_ok hc
      obtain ⟨body, hb, hc⟩ := LexRender.bind_ok hc
      cases hp; cases hc
      exact ⟨body, by rw [hs, hsubs], hb, Or.inl ⟨List.isEmpty_iff.1 hE, rfl⟩⟩
    · next hE =>
      obtain ⟨c, hw, hc⟩ := LexRender.bind_ok hc
      obtain ⟨_, hp, hc⟩ := LexRender.bind_ok hc
      obtain ⟨body, hb, hc⟩ := LexRender.bind_ok hc
      cases hp; cases hc
      exact ⟨body, by rw [hs, hsubs], hb, Or.inr ⟨fun he => hE (by rw [he]; rfl), c, hw, rfl⟩⟩

section
variable {R : List Chunk → List Chunk → Prop} {c c' : Ctx}

abbrev ExprAlike (R : List Chunk → List Chunk → Prop) (c c' : Ctx) (e e' : Expr) : Prop :=
  ExRel R (writeExpr c e) (writeExpr c' e')

def TermAlike (R : List Chunk → List Chunk → Prop) (c c' : Ctx) (t t' : SortTerm) : Prop :=
  ExprAlike R c c' t.x t'.x ∧ t'.asc = t.asc ∧ t'.nullsFirst = t.nullsFirst

theorem writeSortTerms_alike (hR : FrameCong R) {ts ts' : List SortTerm} (h : ListRel (TermAlike R c c') ts ts') :
    ExRel (ListRel R) (writeSortTerms c ts) (writeSortTerms c' ts') := by
  induction h with
  | nil => exact .nil
  | cons hab _ ih =>
    simp only [writeSortTerms, hab.2.1, hab.2.2]
    exact ExRel.bind hab.1 fun _ _ hx => ExRel.bind ih fun _ _ hr =>
      ExRel.pure_pure (.cons (hR.append hx (hR.cons_txt _ (hR.txt _))) hr)

theorem tailOf_alike (hR : FrameCong R) {sort sort' : Option (List SortTerm)} {take take' : Option Expr}
    {b b' : Option (List Chunk)}
    (hs : OptRel (fun ts ts' => ExRel (ListRel R) (writeSortTerms c ts) (writeSortTerms c' ts')) sort sort')
    (ht : OptRel (ExprAlike R c c') take take') (hb : OptRel R b b') :
    ExRel R (tailOf c sort take b) (tailOf c' sort' take' b') := by
  cases hb with
  | none => exact hR.txt _
  | some hbody =>
    rw [tailOf_some, tailOf_some]
    have hsp : ExRel R (sortPartOf c sort) (sortPartOf c' sort') := by
      cases hs with
      | none => exact hR.nil
      | some hsr => exact ExRel.bind hsr fun _ _ hr => ExRel.pure_pure (hR.cons_txt _ (hR.sepChunks ", " hr))
    have htp : ExRel R (takePartOf c take) (takePartOf c' take') := by
      cases ht with
      | none => exact hR.nil
      | some h => exact ExRel.bind h fun _ _ hx => ExRel.pure_pure (hR.cons_txt _ hx)
    exact ExRel.bind hsp fun _ _ hs => ExRel.bind htp fun _ _ ht =>
      ExRel.pure_pure (hR.append (hR.append hbody hs) ht)

def ColAlike (R : List Chunk → List Chunk → Prop) (c c' : Ctx) (col col' : Column) : Prop :=
  ExprAlike R c c' col.x col'.x ∧ ExRel R (columnAlias c col) (columnAlias c' col')

theorem writeColumns_alike (hR : FrameCong R) {cs cs' : List Column} (h : ListRel (ColAlike R c c') cs cs') :
    ExRel (ListRel R) (writeColumns c cs) (writeColumns c' cs') := by
  induction h with
  | nil => exact .nil
  | cons hab _ ih =>
    simp only [writeColumns]
    exact ExRel.bind hab.1 fun _ _ hx => ExRel.bind hab.2 fun _ _ ha => ExRel.bind ih fun _ _ hr =>
      ExRel.pure_pure (.cons (hR.append hx ha) hr)

def renderProps (props : List RenderProp) : List Chunk :=
  props.flatMap fun p =>
    [.txt ",\n    ", .qstr (renderPropValue p.value), .txt " as ",
     .qid (Bytes.ofString "render_prop_" ++ identName p.name)]

/-- what `bodyOf` does with the two operators is alike -/
inductive OpAlike (R : List Chunk → List Chunk → Prop) (c c' : Ctx) : Op → Op → Prop
  | where_ {p k p' k' : Span} {e e' : Expr} : ExprAlike R c c' e e' → OpAlike R c c' (.where_ p k e) (.where_ p' k' e')
  | project {p k p' k' : Span} {cs cs' : List Column} :
    ListRel (fun a b => ExRel R (projCol c a) (projCol c' b)) cs cs' → OpAlike R c c' (.project p k cs) (.project p' k' cs')
  | extend {p k p' k' : Span} {cs cs' : List Column} :
    ListRel (ColAlike R c c') cs cs' → OpAlike R c c' (.extend p k cs) (.extend p' k' cs')
  | summarize {p k b p' k' b' : Span} {cs cs' gs gs' : List Column} :
    ListRel (ColAlike R c c') cs cs' → ListRel (ColAlike R c c') gs gs' →
    OpAlike R c c' (.summarize p k cs b gs) (.summarize p' k' cs' b' gs')
  | render {p k w lp rp p' k' w' lp' rp' : Span} {ch ch' : Option Ident} {ps ps' : List RenderProp} :
    R [.qstr (identName ch)] [.qstr (identName ch')] → R (renderProps ps) (renderProps ps') →
    OpAlike R c c' (.render p k ch w lp ps rp) (.render p' k' ch' w' lp' ps' rp')
  | count {p k p' k' : Span} : OpAlike R c c' (.count p k) (.count p' k')
  | as_ {p k p' k' : Span} {n n' : Option Ident} : OpAlike R c c' (.as_ p k n) (.as_ p' k' n')
  /-- operators that never sit in a subquery's `op` -/
  | other {o o' : Op} : Exact.storedOp o = false → Exact.storedOp o' = false → OpAlike R c c' o o'

theorem bodyOf_alike (hR : FrameCong R) {op op' : Option Op} (h : OptRel (OpAlike R c c') op op')
    {source source' : List Chunk} (hsrc : R source source') :
    ExRel (OptRel R) (bodyOf c op source) (bodyOf c' op' source') := by
  cases h with
  | none => exact ExRel.pure_pure (.some (hR.cons_txt _ hsrc))
  | some ho =>
    cases ho with
    | count | as_ => exact ExRel.pure_pure (.some (hR.cons_txt _ hsrc))
    | other h1 h2 =>
      rw [bodyOf_noBody c _ h1, bodyOf_noBody c' _ h2]
      exact ExRel.pure_pure .none
    | where_ hx =>
      simp only [bodyOf]
      refine ExRel.bind hx fun _ _ ha => ExRel.pure_pure (.some ?_)
      chunk_frame hR
    | project hcs =>
      simp only [bodyOf]
      refine ExRel.bind (ExRel.mapM hcs) fun _ _ ha => ExRel.pure_pure (.some ?_)
      have := hR.sepChunks ", " ha
      chunk_frame hR
    | extend hcs =>
      simp only [bodyOf]
      refine ExRel.bind (writeColumns_alike hR hcs) fun a a' ha => ExRel.pure_pure (.some ?_)
      have := hR.flatSep ", " ha
      chunk_frame hR
    | summarize hcs hgs =>
      simp only [bodyOf]
      refine ExRel.bind (writeColumns_alike hR hgs) fun g g' hg => ?_
      refine ExRel.bind (writeColumns_alike hR hcs) fun cs cs' hc => ?_
      refine ExRel.bind (ExRel.mapM (hgs.imp fun _ _ h => h.1)) fun gb gb' hgb => ExRel.pure_pure (.some ?_)
      have h1 := hR.sepChunks ", " (hg.append hc)
      have h2 := hR.sepChunks ", " hgb
      rw [← hgs.isEmpty_eq]
      split <;> chunk_frame hR
    | render hch hps =>
      refine ExRel.pure_pure (.some ?_)
      show R (_ ++ renderProps _ ++ _) (_ ++ renderProps _ ++ _)
      refine hR.append (hR.append ?_ hps) (hR.cons_txt _ hsrc)
      exact hR.cons_txt _ (hR.cons_txt _ (hR.cons_of hch (hR.txt _)))

structure SubAlike (R : List Chunk → List Chunk → Prop) (c c' : Ctx) (a b : Subquery) : Prop where
  source : R a.source b.source
  op : OptRel (OpAlike R c c') a.op b.op
  sort : OptRel (fun ts ts' => ExRel (ListRel R) (writeSortTerms c ts) (writeSortTerms c' ts')) a.sort b.sort
  take : OptRel (ExprAlike R c c') a.take b.take

theorem SubAlike.of_map (hR : FrameCong R) {a b : Subquery} {g : Op → Op} {gt : SortTerm → SortTerm} {ge : Expr → Expr}
    (hsrc : R a.source b.source) (hop : b.op = a.op.map g) (hsort : b.sort = a.sort.map (List.map gt))
    (htake : b.take = a.take.map ge) (ho : ∀ o, a.op = some o → OpAlike R c c' o (g o))
    (hs : ∀ ts, a.sort = some ts → ∀ t ∈ ts, TermAlike R c c' t (gt t))
    (ht : ∀ n, a.take = some n → ExprAlike R c c' n (ge n)) : SubAlike R c c' a b := by
  refine ⟨hsrc, ?_, ?_, ?_⟩
  · rw [hop]
    exact OptRel.map _ _ ho
  · rw [hsort]
    exact OptRel.map _ _ fun ts hts => writeSortTerms_alike hR (ListRel.of_map gt (hs ts hts))
  · rw [htake]
    exact OptRel.map _ _ ht

theorem Subquery.write_alike (hR : FrameCong R) {a b : Subquery} (h : SubAlike R c c' a b) :
    ExRel R (a.write c) (b.write c') := by
  rw [write_eq, write_eq]
  exact ExRel.bind (bodyOf_alike hR h.op h.source) fun _ _ hb => tailOf_alike hR h.sort h.take hb

theorem writeCtes_alike (hR : FrameCong R) {as bs : List Subquery}
    (h : ListRel (fun a b => R [.qid a.name] [.qid b.name] ∧ ExRel R (a.write c) (b.write c')) as bs) :
    ExRel R (writeCtes c as) (writeCtes c' bs) := by
  induction h with
  | nil => exact hR.nil
  | @cons a b as bs hab hrest ih =>
    cases hrest with
    | nil =>
      simp only [writeCtes]
      refine ExRel.bind hab.2 fun x x' hx => ExRel.pure_pure ?_
      exact hR.cons_of hab.1 (hR.cons_txt _ (hR.append hx (hR.cons_txt _ (hR.txt _))))
    | cons hab' hrest' =>
      simp only [writeCtes]
      refine ExRel.bind hab.2 fun x x' hx => ExRel.bind ih fun r r' hr => ExRel.pure_pure ?_
      exact hR.cons_of hab.1 (hR.cons_txt _ (hR.append hx (hR.cons_txt _ (hR.cons_txt _ hr))))

end

section
variable {Q : Subquery → Subquery → Prop} {dst dst' : List Subquery}

/-- the subquery chained behind a list depends on the length of the list and the name of its last element -/
theorem chainSubquery_rel (h : ListRel Q dst dst') (hn : ∀ a b, Q a b → b.name = a.name) (ds : Nat)
    (source : Option Ident) : chainSubquery dst' ds source = chainSubquery dst ds source := by
  unfold chainSubquery
  rw [← h.length_eq]
  have hg := h.getLast?
  revert hg
  generalize dst.getLast? = g
  generalize dst'.getLast? = g'
  intro hg
  cases hg with
  | none => rfl
  | some hab => simp only [hn _ _ hab]

theorem lastOf_rel (h : ListRel Q dst dst') (ds : Nat) : OptRel Q (lastOf dst ds) (lastOf dst' ds) := by
  unfold lastOf
  rw [← h.length_eq]
  split
  · exact h.getLast?
  · exact .none

theorem setLast_rel (h : ListRel Q dst dst') {f g : Subquery → Subquery} (hf : ∀ a b, Q a b → Q (f a) (g b)) :
    ListRel Q (setLast dst f) (setLast dst' g) := by
  unfold setLast
  have hr := h.reverse
  revert hr
  generalize dst.reverse = r
  generalize dst'.reverse = r'
  intro hr
  cases hr with
  | nil => exact .nil
  | cons hab hrest => exact (ListRel.cons (hf _ _ hab) hrest).reverse

/-- the three things the loop asks of the last subquery before it puts a `sort` / `take` / `top` there -/
def attachBits (l : Subquery) : Bool × Bool × Bool := (canAttachSort l.op, l.sort.isNone, l.take.isNone)

theorem attaches_bits (o : Op) {a b : Subquery} (h : attachBits b = attachBits a) :
    SplitQ.attaches o b = SplitQ.attaches o a := by
  simp only [attachBits, Prod.mk.injEq] at h
  unfold SplitQ.attaches
  split <;> simp only [h]

/-- One step of the loop (`SplitQ.place`) on related lists: both sides decide alike whether the operator goes into
    the last subquery or into a fresh one, the fresh ones are related, and storing keeps subqueries related. -/
theorem place_rel (h : ListRel Q dst dst') (ds : Nat) {source source' : Option Ident} {o o' : Op}
    (hc : Q (chainSubquery dst ds source) (chainSubquery dst' ds source'))
    (ho : SplitQ.attaches o' = SplitQ.attaches o) (ha : ∀ a b, Q a b → attachBits b = attachBits a)
    (hs : ∀ a b, Q a b → Q (SplitQ.store o a) (SplitQ.store o' b)) :
    ListRel Q (SplitQ.place source ds o dst) (SplitQ.place source' ds o' dst') := by
  unfold SplitQ.place
  have hnew : ListRel Q (dst ++ [chainSubquery dst ds source]) (dst' ++ [chainSubquery dst' ds source']) :=
    h.append (.single hc)
  have hl := lastOf_rel h ds
  revert hl
  generalize lastOf dst ds = l
  generalize lastOf dst' ds = l'
  intro hl
  cases hl with
  | none => exact setLast_rel hnew hs
  | some hab =>
    simp only [ho, attaches_bits o (ha _ _ hab)]
    split
    · exact setLast_rel h hs
    · exact setLast_rel hnew hs

end

theorem closeBlock_rel {Q : Subquery → Subquery → Prop} {d d' : List Subquery} (h : ListRel Q d d') (k : Nat)
    {source source' : Option Ident} (hc : Q (chainSubquery d k source) (chainSubquery d' k source')) :
    ListRel Q (SplitQ.closeBlock d k source) (SplitQ.closeBlock d' k source') := by
  unfold SplitQ.closeBlock
  rw [← h.length_eq]
  split
  · exact h.append (.single hc)
  · exact h

/-- The join step on related lists: for the same flavor name, when the two conditions are written alike, the join
    subqueries have the same generated name and `R`-related sources (`hmk` makes them `Q`-related); the names a
    source mentions are those of the subqueries to the left and to the right, or of the base table. -/
theorem joinSub_alike {R : List Chunk → List Chunk → Prop} (hR : FrameCong R) {Q : Subquery → Subquery → Prop}
    {src src' : Bytes} {s s' : Scope} {source source' flavor flavor' : Option Ident} {conds conds' : ExprList}
    {d d' : List Subquery} (hd : ListRel Q d d') (hQ : ∀ a b, Q a b → R [.qid a.name] [.qid b.name])
    (hnil : R [.qid []] [.qid []]) (hsrc : R [.qid (identName source)] [.qid (identName source')])
    (hfl : JoinSem.kindOf flavor' = JoinSem.kindOf flavor)
    (hc : ExRel R (writeExpr ⟨src, s, .join⟩ (buildJoinCondition conds))
      (writeExpr ⟨src', s', .join⟩ (buildJoinCondition conds')))
    (hmk : ∀ x x', R x x' →
      Q { name := subqueryName d.length, source := x } { name := subqueryName d.length, source := x' })
    (ds n : Nat) :
    ExRel Q (SplitQ.joinSub src s source ds n flavor conds d) (SplitQ.joinSub src' s' source' ds n flavor' conds' d') := by
  have hright : R [Chunk.qid (SplitQ.joinRight d)] [Chunk.qid (SplitQ.joinRight d')] := by
    unfold SplitQ.joinRight
    have hg := hd.getLast?
    revert hg
    generalize d.getLast? = g
    generalize d'.getLast? = g'
    intro hg
    cases hg with
    | none => exact hnil
    | some hab => exact hQ _ _ hab
  have hleft : R (SplitQ.joinLeft source ds n d) (SplitQ.joinLeft source' ds n d') := by
    unfold SplitQ.joinLeft
    split
    · have he := hd.getElem? ((n : Int) - 1).toNat
      revert he
      generalize d[((n : Int) - 1).toNat]? = e
      generalize d'[((n : Int) - 1).toNat]? = e'
      intro he
      cases he with
      | none => exact hR.nil
      | some hab => exact hQ _ _ hab
    · exact hsrc
  have hu : C05.uniqueOf flavor' = C05.uniqueOf flavor := congrArg (· == Bytes.ofString "innerunique") hfl
  have hl : C05.leftOf flavor' = C05.leftOf flavor := by
    unfold C05.leftOf
    rw [hu, hfl]
  unfold SplitQ.joinSub
  rw [hl, hu]
  cases C05.leftOf flavor with
  | none => exact ExRel.error_error _
  | some left =>
    dsimp only
    refine ExRel.bind hc fun c c' hcc => ExRel.ok_ok ?_
    rw [← hd.length_eq]
    refine hmk _ _ ?_
    unfold SplitQ.joinSourceOf
    refine hR.append (hR.append (hR.append (hR.append ?_ hleft) ?_) ?_) hcc
    · split
      · exact hR.txt _
      · exact hR.nil
    · split
      · exact hR.txt _
      · exact hR.nil
    · exact hR.cons_txt _ (hR.cons_txt _ (hR.cons_of hright (hR.txt _)))

theorem finishChunks_alike {R : List Chunk → List Chunk → Prop} (hR : FrameCong R) {Q : Subquery → Subquery → Prop}
    {src src' : Bytes} {s s' : Scope} {t t' : Tabular}
    (hsplit : ExRel (ListRel Q) (splitQueries src s [] t) (splitQueries src' s' [] t'))
    (hQ : ∀ a b, Q a b → R [.qid a.name] [.qid b.name] ∧
      ExRel R (a.write ⟨src, s, .default⟩) (b.write ⟨src', s', .default⟩)) :
    ExRel R (C14.finishChunks src s (some t)) (C14.finishChunks src' s' (some t')) := by
  unfold C14.finishChunks
  dsimp only
  refine ExRel.bind hsplit fun subs subs' hsubs => ?_
  have hr := hsubs.reverse
  revert hr
  generalize subs.reverse = r
  generalize subs'.reverse = r'
  intro hr
  cases hr with
  | nil => exact ExRel.error_error _
  | @cons query query' ctesRev ctesRev' hq hctes =>
    dsimp only
    have hc := hctes.reverse
    rw [← hc.isEmpty_eq]
    apply ExRel.ite
    · refine ExRel.bind (R := R) (ExRel.pure_pure hR.nil) fun w w' hw =>
        ExRel.bind (hQ _ _ hq).2 fun b b' hb => ExRel.pure_pure ?_
      exact hR.append (hR.append hw hb) (hR.txt _)
    · refine ExRel.bind (writeCtes_alike hR (hc.imp hQ)) fun c c' hcc =>
        ExRel.bind (R := R) (ExRel.pure_pure (hR.cons_txt _ hcc)) fun w w' hw =>
        ExRel.bind (hQ _ _ hq).2 fun b b' hb => ExRel.pure_pure ?_
      exact hR.append (hR.append hw hb) (hR.txt _)


end Pql
