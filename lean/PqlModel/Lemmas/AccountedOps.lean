/-
Property C08, what stands below the tabular operators: the comma loops (`commaLoop_acc`, `AccItems`),
sort terms, columns, row counts, and of the operators themselves the two with a body of their own,
`summarize` and `render` (`OpAcc`); the other nine are in Lemmas/AccountedTab.lean (`join` in
`step_join`, the rest as cases of `step_operator`).  `unparse_eq`: the clauses of `UnparseAlg` are ways `unparse` succeeds.
-/
import PqlModel.Lemmas.AccountedExpr
import PqlModel.Lemmas.ParseCasesOps
import PqlModel.Lemmas.UnparseInduct
namespace Pql
open Grammar

theorem sepBy_single (sep : UTok) (x : List UTok) : sepBy sep [x] = x := rfl
theorem sepBy_cons_cons (sep : UTok) (x y : List UTok) (ys : List (List UTok)) :
    sepBy sep (x :: y :: ys) = x ++ sep :: sepBy sep (y :: ys) := rfl

theorem listM_cons {α β} (f : α → Option β) {x : α} {xs : List α} {y : β} {ys : List β}
    (hx : f x = some y) (hxs : listM f xs = some ys) : listM f (x :: xs) = some (y :: ys) := by
  simp [listM, hx, hxs]

theorem listM_nil {α β} (f : α → Option β) : listM f [] = some [] := rfl

def AccItems {α} (f : α → Option (List UTok)) (items : List α) (cons : List Token) : Prop :=
  items ≠ [] ∧ ∃ us, listM f items = some us ∧ accounts true (sepBy commaTok us) cons = true

theorem AccItems.single {α} {f : α → Option (List UTok)} {x : α} {ux : List UTok} {cx : List Token}
    (hx : f x = some ux) (ha : accounts true ux cx = true) : AccItems f [x] cx :=
  ⟨by simp, [ux], listM_cons f hx (listM_nil f), by simpa [sepBy_single] using ha⟩

theorem AccItems.cons {α} {f : α → Option (List UTok)} {x : α} {ux : List UTok} {cx : List Token}
    {t : Token} {items : List α} {cons : List Token}
    (hx : f x = some ux) (ha : accounts true ux cx = true) (hk : t.kind = .comma) (hv : t.value = [])
    (hi : AccItems f items cons) : AccItems f (x :: items) (cx ++ t :: cons) := by
  obtain ⟨hne, us, hus, hacc⟩ := hi
  cases us with
  | nil =>
    cases items with
    | nil => exact absurd rfl hne
    | cons a as =>
      simp only [listM, Option.bind_eq_bind, Option.pure_def] at hus
      cases h1 : f a <;> cases h2 : listM f as <;> simp [h1, h2] at hus
  | cons u us' =>
    refine ⟨by simp, ux :: u :: us', listM_cons f hx hus, ?_⟩
    rw [sepBy_cons_cons]
    exact accounts_append ha (accounts_cons (tokOk_commaTok hk hv) hacc)

theorem PRes.eq_of_errs {α : Type} {r : PRes α} (h : r.errs = []) : r = ⟨r.val, [], r.rest⟩ := by
  cases r; cases h; rfl

/-- The loop of `sort`, `extend` and the `by` clause of `summarize`: if every item that parses
    without error is accounted for by the tokens it consumed, so are the items of a loop that ends
    without error, with the commas between them. -/
theorem commaLoop_acc {α β : Type} {f : α → Option (List UTok)} {item : List Token → PRes β}
    {bad : List α → PRes β → List α} {good : List α → β → List α}
    (hitem : ∀ ts, TokOK ts → (item ts).errs = [] → ∃ x us cons,
      (∀ acc, good acc (item ts).val = acc ++ [x]) ∧ f x = some us ∧ ts = cons ++ (item ts).rest ∧
      accounts true us cons = true) :
    ∀ (n : Nat) (acc : List α) (ts : List Token), TokOK ts →
      (commaLoop item bad good n acc ts).errs = [] →
      ∃ more cons, (commaLoop item bad good n acc ts).val = acc ++ more ∧
        ts = cons ++ (commaLoop item bad good n acc ts).rest ∧ AccItems f more cons := by
  apply commaLoop_induct (motive := fun _ acc ts r => TokOK ts → r.errs = [] →
    ∃ more cons, r.val = acc ++ more ∧ ts = cons ++ r.rest ∧ AccItems f more cons)
  case fuel => intro acc ts _ h; exact absurd h errFuel_ne_nil
  case err => intro n acc ts r _ hne _ h; exact absurd ((mkOpaque_eq_nil _).mp h) hne
  case last =>
    intro n acc ts r hr he _ hok _
    subst hr
    obtain ⟨x, us, cons, hg, hus, hts, ha⟩ := hitem ts hok he
    exact ⟨[x], cons, hg acc, hts, AccItems.single hus ha⟩
  case more =>
    intro n acc ts r t rest res hr he hrest hk ih hok hres
    subst hr
    obtain ⟨x, us, cons, hg, hus, hts, ha⟩ := hitem ts hok he
    have hok1 : TokOK (t :: rest) := hrest ▸ hok.of_eq_append hts
    obtain ⟨more, cons', hv, hr1, hi⟩ := ih hok1.tail hres
    refine ⟨x :: more, cons ++ t :: cons', ?_, ?_, AccItems.cons hus ha hk (hok1.head.symVal hk) hi⟩
    · rw [hv, hg, List.append_assoc, List.singleton_append]
    · rw [List.append_assoc, List.cons_append, ← hr1, ← hrest]; exact hts

def dirOf (t : SortTerm) : List UTok :=
  if t.ascDescSpan.isValid then [kwTok [if t.asc then "asc" else "desc"] t.ascDescSpan] else []

def nullsOf (t : SortTerm) : List UTok :=
  if t.nullsSpan.isValid then
    [{ kwPlain ["nulls"] with start := some t.nullsSpan.start },
     { kwPlain [if t.nullsFirst then "first" else "last"] with stop := some t.nullsSpan.stop }]
  else []

theorem unparseSortTerm_eq {t : SortTerm} {xs : List UTok} (h : unparseExpr t.x = some xs) :
    unparseSortTerm t = some (xs ++ dirOf t ++ nullsOf t) := by
  simp [unparseSortTerm, h, dirOf, nullsOf]

theorem sortDir_acc {term : SortTerm} (hd : term.ascDescSpan = .null) : ∀ ts, TokOK ts →
    ∃ cd, ts = cd ++ (sortDir term ts).2 ∧ (sortDir term ts).1.x = term.x ∧
      (sortDir term ts).1.nullsSpan = term.nullsSpan ∧
      accounts true (dirOf (sortDir term ts).1) cd = true := by
  apply sortDir_cases (motive := fun ts d => TokOK ts → ∃ cd, ts = cd ++ d.2 ∧ d.1.x = term.x ∧
    d.1.nullsSpan = term.nullsSpan ∧ accounts true (dirOf d.1) cd = true)
  case none => intro ts _ _; exact ⟨[], rfl, rfl, rfl, by simp [dirOf, hd]⟩
  case asc =>
    intro t rest h hok
    obtain ⟨hk, hv⟩ := isIdentNamed_iff.mp h
    refine ⟨[t], rfl, rfl, rfl, ?_⟩
    simp only [dirOf, span_isValid hok.head_le, if_true]
    exact accounts_single (tokOk_kwTok hk (by simp [hv]))
  case desc =>
    intro t rest _ h hok
    obtain ⟨hk, hv⟩ := isIdentNamed_iff.mp h
    refine ⟨[t], rfl, rfl, rfl, ?_⟩
    simp only [dirOf, span_isValid hok.head_le, if_true]
    exact accounts_single (tokOk_kwTok hk (by simp [hv]))

theorem nullsClause_acc {c : PCtx} {term : SortTerm} (hnull : term.nullsSpan = .null) :
    ∀ ts, TokOK ts → (nullsClause c term ts).errs = [] →
    ∃ term' cn, (nullsClause c term ts).val = some term' ∧ term'.x = term.x ∧
      dirOf term' = dirOf term ∧ ts = cn ++ (nullsClause c term ts).rest ∧
      accounts true (nullsOf term') cn = true := by
  have two : ∀ {t t2 : Token} (b : Bool), t.start ≤ t2.stop → isIdentNamed t "nulls" = true →
      isIdentNamed t2 (if b then "first" else "last") = true →
      accounts true (nullsOf { term with nullsFirst := b, nullsSpan := ⟨t.start, t2.stop⟩ }) [t, t2] = true := by
    intro t t2 b hle hn h2
    obtain ⟨hk, hv⟩ := isIdentNamed_iff.mp hn
    obtain ⟨hk2, hv2⟩ := isIdentNamed_iff.mp h2
    simp only [nullsOf, span2_isValid hle, if_true]
    exact accounts_cons (tokOk_kwPlain_start hk (by simp [hv]))
      (accounts_single (tokOk_kwPlain_stop hk2 (by simp [hv2])))
  apply nullsClause_cases (motive := fun ts r => TokOK ts → r.errs = [] →
    ∃ term' cn, r.val = some term' ∧ term'.x = term.x ∧ dirOf term' = dirOf term ∧
      ts = cn ++ r.rest ∧ accounts true (nullsOf term') cn = true)
  case none => intro ts _ _ _; exact ⟨term, [], rfl, rfl, rfl, rfl, by simp [nullsOf, hnull]⟩
  case eof => intro t _ _ h; exact absurd h (errAt_ne_nil _)
  case first => intro t t2 rest2 hn h2 hok _; exact ⟨_, [t, t2], rfl, rfl, rfl, rfl, two true hok.head2 hn h2⟩
  case last => intro t t2 rest2 hn _ h2 hok _; exact ⟨_, [t, t2], rfl, rfl, rfl, rfl, two false hok.head2 hn h2⟩
  case other => intro t t2 rest2 _ _ _ _ h; exact absurd h (errAt_ne_nil _)

theorem pSortTerm_acc {c : PCtx} {fuel : Nat} {ts : List Token} {v : Option SortTerm} {rest : List Token}
    (hok : TokOK ts) (h : pSortTerm c fuel ts = ⟨v, [], rest⟩) :
    ∃ term us cons, v = some term ∧ unparseSortTerm term = some us ∧ ts = cons ++ rest ∧
      accounts true us cons = true := by
  revert h
  apply pSortTerm_cases (motive := fun r => r = ⟨v, [], rest⟩ → ∃ term us cons, v = some term ∧
    unparseSortTerm term = some us ∧ ts = cons ++ rest ∧ accounts true us cons = true)
  case err => intro r _ hne h; exact absurd (congrArg PRes.errs h) hne
  case ok =>
    intro r d hr he hd h
    obtain ⟨ux, cx, hux, hts, hax⟩ := pExpr_acc hok (hr.trans (PRes.eq_of_errs he))
    have hokr : TokOK r.rest := hok.of_eq_append hts
    obtain ⟨cd, hcd, hx, hnull, had⟩ := sortDir_acc (term := ⟨r.val, false, .null, false, .null⟩) rfl _ hokr
    rw [hd] at hcd hx hnull had
    have hx : d.1.x = r.val := hx
    obtain ⟨term', cn, hv, hx', hdir, hsr, han⟩ :=
      nullsClause_acc (c := c) hnull _ (hokr.of_eq_append hcd) (congrArg PRes.errs h)
    rw [h] at hv hsr
    refine ⟨term', _, cx ++ cd ++ cn, hv, unparseSortTerm_eq (hx'.trans hx ▸ hux),
      by rw [hts, hcd, hsr]; simp, ?_⟩
    rw [hdir]
    exact accounts_append (accounts_append hax had) han

theorem pSortTerms_acc (c : PCtx) (fuel : Nat) (n : Nat) (acc : List SortTerm) (ts : List Token)
    (l : List SortTerm) (rest : List Token) (hok : TokOK ts)
    (h : pSortTerms c fuel n acc ts = ⟨l, [], rest⟩) :
    ∃ more cons, l = acc ++ more ∧ ts = cons ++ rest ∧ AccItems unparseSortTerm more cons := by
  rw [pSortTerms_eq_loop] at h
  have := commaLoop_acc (f := unparseSortTerm) (item := pSortTerm c fuel)
    (good := fun acc v => acc ++ v.toList) (fun ts hok he => by
    obtain ⟨term, us, cons, hv, hus, hts, ha⟩ := pSortTerm_acc hok (PRes.eq_of_errs he)
    exact ⟨term, us, cons, fun acc => by rw [hv]; rfl, hus, hts, ha⟩) n acc ts hok (by rw [h])
  rw [h] at this
  exact this

theorem unparseColumn_named {p : Bool} {n : Ident} {asg : Span} {x : Expr} {xs : List UTok}
    (hv : asg.isValid = true) (hx : unparseExpr x = some xs) :
    unparseColumn p ⟨some n, asg, x⟩ = some (identTok n :: sym .assign asg :: xs) := by
  simp [unparseColumn, hv, hx]

theorem namedColumn_acc {c : PCtx} {fuel : Nat} {p : Bool} {t0 sep : Token} {rest : List Token}
    (hok : TokOK (t0 :: sep :: rest)) (h0 : t0.kind = .ident ∨ t0.kind = .qident)
    (ha : sep.kind = .assign) (he : (pExpr c fuel rest).errs = []) :
    ∃ us cx, unparseColumn p
        ⟨some ⟨t0.value, t0.span, t0.kind = .qident⟩, sep.span, (pExpr c fuel rest).val⟩ = some us ∧
      rest = cx ++ (pExpr c fuel rest).rest ∧ accounts true us (t0 :: sep :: cx) = true := by
  obtain ⟨ux, cx, hux, hts, hax⟩ := pExpr_acc hok.tail.tail (PRes.eq_of_errs he)
  exact ⟨_, cx, unparseColumn_named (span_isValid hok.tail.head_le) hux, hts,
    accounts_cons (tokOk_identTok h0) (accounts_cons (tokOk_sym ha (hok.tail.head.symVal ha)) hax)⟩

theorem pNamedColumn_acc {c : PCtx} {fuel : Nat} {ts : List Token} {col : Column} {rest : List Token}
    (hok : TokOK ts) (h : pNamedColumn c fuel ts = ⟨col, [], rest⟩) :
    ∃ us cons, unparseColumn false col = some us ∧ ts = cons ++ rest ∧ accounts true us cons = true := by
  revert ts
  apply pNamedColumn_cases (motive := fun ts r => TokOK ts → r = ⟨col, [], rest⟩ →
    ∃ us cons, unparseColumn false col = some us ∧ ts = cons ++ rest ∧ accounts true us cons = true)
  case named =>
    intro t0 t rest1 r h0 ha hr hok h
    subst hr
    simp only [PRes.mk.injEq, mkOpaque_eq_nil] at h
    obtain ⟨rfl, he, rfl⟩ := h
    obtain ⟨us, cx, hcol, hts, hacol⟩ := namedColumn_acc hok h0 ha he
    exact ⟨us, t0 :: t :: cx, hcol, congrArg (t0 :: t :: ·) hts, hacol⟩
  case plain =>
    intro ts r _ hr hok h
    subst hr
    simp only [PRes.mk.injEq] at h
    obtain ⟨rfl, he, rfl⟩ := h
    obtain ⟨ux, cx, hux, hts, hax⟩ := pExpr_acc hok (PRes.eq_of_errs he)
    exact ⟨ux, cx, by simpa [unparseColumn] using hux, hts, hax⟩

theorem pNamedColumn_item {c : PCtx} {fuel : Nat} (ts : List Token) (hok : TokOK ts)
    (he : (pNamedColumn c fuel ts).errs = []) : ∃ x us cons,
      (∀ acc : List Column, acc ++ [(pNamedColumn c fuel ts).val] = acc ++ [x]) ∧
      unparseColumn false x = some us ∧ ts = cons ++ (pNamedColumn c fuel ts).rest ∧
      accounts true us cons = true := by
  obtain ⟨us, cons, hus, hts, ha⟩ := pNamedColumn_acc hok (PRes.eq_of_errs he)
  exact ⟨_, us, cons, fun _ => rfl, hus, hts, ha⟩

theorem pExtendCols_acc (c : PCtx) (fuel : Nat) (n : Nat) (acc : List Column) (ts : List Token)
    (l : List Column) (rest : List Token) (hok : TokOK ts)
    (h : pExtendCols c fuel n acc ts = ⟨l, [], rest⟩) :
    ∃ more cons, l = acc ++ more ∧ ts = cons ++ rest ∧ AccItems (unparseColumn false) more cons := by
  rw [pExtendCols_eq_loop] at h
  have := commaLoop_acc (f := unparseColumn false) pNamedColumn_item n acc ts hok (by rw [h])
  rw [h] at this
  exact this

theorem pGroupByCols_acc {c : PCtx} {fuel n : Nat} {acc : List Column} {ts : List Token}
    {r : PRes (List Column)} (hok : TokOK ts) (hr : pGroupByCols c fuel n acc ts = r)
    (he : r.errs = []) :
    ∃ more cons, r.val = acc ++ more ∧ ts = cons ++ r.rest ∧
      AccItems (unparseColumn false) more cons := by
  subst hr
  rw [pGroupByCols_eq_loop] at he ⊢
  exact commaLoop_acc (f := unparseColumn false) pNamedColumn_item n acc ts hok he

theorem unparseColumn_bare (n : Ident) : unparseColumn true ⟨some n, .null, .nil⟩ = some [identTok n] := by
  simp [unparseColumn]

theorem pProjectCols_acc (c : PCtx) (fuel : Nat) : ∀ (n : Nat) (acc : List Column) (ts : List Token)
    (l : List Column) (rest : List Token), TokOK ts → pProjectCols c fuel n acc ts = ⟨l, [], rest⟩ →
    ∃ more cons, l = acc ++ more ∧ ts = cons ++ rest ∧ AccItems (unparseColumn true) more cons := by
  have hplain : ∀ {t0 : Token}, t0.kind = .ident ∨ t0.kind = .qident →
      accounts true [identTok ⟨t0.value, t0.span, t0.kind = .qident⟩] [t0] = true :=
    fun h0 => accounts_single (tokOk_identTok h0)
  suffices H : ∀ n acc ts, TokOK ts → (pProjectCols c fuel n acc ts).errs = [] →
      ∃ more cons, (pProjectCols c fuel n acc ts).val = acc ++ more ∧
        ts = cons ++ (pProjectCols c fuel n acc ts).rest ∧ AccItems (unparseColumn true) more cons by
    intro n acc ts l rest hok h
    have := H n acc ts hok (by rw [h])
    rw [h] at this
    exact this
  apply pProjectCols_induct (motive := fun _ acc ts r => TokOK ts → r.errs = [] →
    ∃ more cons, r.val = acc ++ more ∧ ts = cons ++ r.rest ∧ AccItems (unparseColumn true) more cons)
  case fuel => intro acc ts _ h; exact absurd h errFuel_ne_nil
  case noIdent => intro n acc ts _ _ h; exact absurd ((mkOpaque_eq_nil _).mp h) (nfAt_ne_nil _)
  case bare =>
    intro n acc t0 rest h0 _ _ _
    exact ⟨[_], [t0], rfl, rfl, AccItems.single (unparseColumn_bare _) (hplain h0)⟩
  case bareMore =>
    intro n acc t0 sep rest res h0 hc ih hok hres
    obtain ⟨more, cons', hv, hr1, hi⟩ := ih hok.tail.tail hres
    refine ⟨_ :: more, [t0] ++ sep :: cons', ?_, ?_,
      AccItems.cons (unparseColumn_bare _) (hplain h0) hc (hok.tail.head.symVal hc) hi⟩
    · rw [hv, List.append_assoc, List.singleton_append]
    · rw [hr1]; simp
  case namedErr =>
    intro n acc t0 sep rest r _ _ _ hne _ h
    exact absurd ((mkOpaque_eq_nil _).mp h) hne
  case namedLast =>
    intro n acc t0 sep rest r h0 ha hr he hrest hok _
    subst hr
    obtain ⟨us, cx, hcol, hts, hacol⟩ := namedColumn_acc hok h0 ha he
    refine ⟨[_], t0 :: sep :: cx, rfl, ?_, AccItems.single hcol hacol⟩
    rw [List.append_nil, ← List.append_nil cx, ← hrest, ← hts]
  case namedJunk => intro n acc t0 sep rest r sep2 rest2 _ _ _ _ _ _ _ h; cases h
  case namedMore =>
    intro n acc t0 sep rest r sep2 rest2 res h0 ha hr he hrest hc ih hok hres
    subst hr
    obtain ⟨us, cx, hcol, hts, hacol⟩ := namedColumn_acc hok h0 ha he
    have hok2 : TokOK (sep2 :: rest2) := hrest ▸ hok.tail.tail.of_eq_append hts
    obtain ⟨more, cons', hv, hr1, hi⟩ := ih hok2.tail hres
    refine ⟨_ :: more, (t0 :: sep :: cx) ++ sep2 :: cons', ?_, ?_,
      AccItems.cons hcol hacol hc (hok2.head.symVal hc) hi⟩
    · rw [hv, List.append_assoc, List.singleton_append]
    · rw [hts, hrest, hr1]; simp

/-- What the first loop of `summarize` leaves when it ends without error: nothing was consumed,
    or the columns `more` were, possibly with a comma `t` left over after them. -/
def SumColsAcc (acc : List Column) (cm : Option Span) (ts : List Token) (r : PRes SumCols) : Prop :=
  (r.val.cols = acc ∧ r.val.done = false ∧ r.val.comma = cm ∧ r.rest = ts) ∨
  ∃ more cons, r.val.cols = acc ++ more ∧ AccItems (unparseColumn false) more cons ∧
    ((r.val.comma = none ∧ ts = cons ++ r.rest) ∨
     (r.val.done = false ∧ ∃ t, t.kind = .comma ∧ t.value = [] ∧ r.val.comma = some t.span ∧
        ts = cons ++ t :: r.rest))

theorem pSummarizeCols_acc (c : PCtx) (fuel : Nat) : ∀ (n : Nat) (acc : List Column) (cm : Option Span)
    (ts : List Token), TokOK ts → (pSummarizeCols c fuel n acc cm ts).errs = [] →
    SumColsAcc acc cm ts (pSummarizeCols c fuel n acc cm ts) := by
  apply pSummarizeCols_induct
    (motive := fun _ acc cm ts r => TokOK ts → r.errs = [] → SumColsAcc acc cm ts r)
  case fuel => intro acc cm ts _ h; exact absurd h errFuel_ne_nil
  case none => intros; exact Or.inl ⟨rfl, rfl, rfl, rfl⟩
  case err => intro n acc cm ts r _ _ hne _ h; exact absurd ((mkOpaque_eq_nil _).mp h) hne
  case eof =>
    intro n acc cm ts r hr he hrest hok _
    subst hr
    obtain ⟨us, cons, hus, hts, ha⟩ := pNamedColumn_acc hok (PRes.eq_of_errs he)
    exact Or.inr ⟨[_], cons, rfl, AccItems.single hus ha,
      Or.inl ⟨rfl, by rw [List.append_nil, ← List.append_nil cons, ← hrest]; exact hts⟩⟩
  case stop =>
    intro n acc cm ts r t rest hr he _ _ hok _
    subst hr
    obtain ⟨us, cons, hus, hts, ha⟩ := pNamedColumn_acc hok (PRes.eq_of_errs he)
    exact Or.inr ⟨[_], cons, rfl, AccItems.single hus ha, Or.inl ⟨rfl, hts⟩⟩
  case more =>
    intro n acc cm ts r t rest res hr he hrest hk ih hok hres
    subst hr
    obtain ⟨us, cons, hus, hts, ha⟩ := pNamedColumn_acc hok (PRes.eq_of_errs he)
    rw [hrest] at hts
    have hok1 : TokOK (t :: rest) := hok.of_eq_append hts
    have hv := hok1.head.symVal hk
    refine Or.inr ?_
    rcases ih hok1.tail hres with ⟨hc, hd, hcm, hr1⟩ | ⟨more, cons', hc, hi, halt⟩
    · exact ⟨[_], cons, hc, AccItems.single hus ha, Or.inr ⟨hd, t, hk, hv, hcm, hr1 ▸ hts⟩⟩
    · refine ⟨_ :: more, cons ++ t :: cons', ?_, AccItems.cons hus ha hk hv hi, ?_⟩
      · rw [hc, List.append_assoc, List.singleton_append]
      · rcases halt with ⟨hcm, hr1⟩ | ⟨hd, t', hk', hv', hcm, hr1⟩
        · exact Or.inl ⟨hcm, by rw [List.append_assoc, List.cons_append, ← hr1]; exact hts⟩
        · exact Or.inr ⟨hd, t', hk', hv', hcm, by rw [List.append_assoc, List.cons_append, ← hr1]; exact hts⟩

theorem pRowCount_acc {c : PCtx} {fuel : Nat} {ts : List Token} {e : Expr} {rest : List Token}
    (h : pRowCount c fuel ts = ⟨e, [], rest⟩) : pExpr c fuel ts = ⟨e, [], rest⟩ := by
  revert h
  apply pRowCount_cases (motive := fun r => r = ⟨e, [], rest⟩ → pExpr c fuel ts = ⟨e, [], rest⟩)
  case same => exact id
  case notInt => intro r sp k v _ _ _ _ h; exact absurd (congrArg PRes.errs h) errNoPos_ne_nil

theorem isEmpty_false_of_ne {α} {l : List α} (h : l ≠ []) : l.isEmpty = false := by
  cases l with
  | nil => exact absurd rfl h
  | cons a as => rfl

theorem exprList_length_ne {l : ExprList} (h : l ≠ .nil) : ¬ (l.length = 0) := by
  cases l with
  | nil => exact absurd rfl h
  | cons e es => simp [ExprList.length]

/-- every clause of `UnparseAlg` is an equation of `unparse`: the tokens it writes out are what the
    tree unparses to (with `UnparseAlg.op`: the clauses are exactly the ways `unparse` succeeds) -/
theorem unparse_eq : UnparseAlg (fun t us => unparseTabular t = some us)
    (fun o us => unparseOp o = some us) (fun l us => unparseOps l = some us) where
  tmk := fun s ops os h _ => by simp [unparseTabular, h]
  onil := by simp [unparseOps]
  cons := fun o os a b ha hb _ _ => by simp [unparseOps, ha, hb]
  count := fun p k => by simp [unparseOp]
  where_ := fun p k e xs h => by simp [unparseOp, h]
  sort := fun p k ts tss hne h => by simp [unparseOp, h, isEmpty_false_of_ne hne]
  take := fun p k n xs h => by simp [unparseOp, h]
  top := fun p k n b col xs cs hn hc => by simp [unparseOp, hn, hc]
  project := fun p k cs css hne h => by simp [unparseOp, h, isEmpty_false_of_ne hne]
  extend := fun p k cs css hne h => by simp [unparseOp, h, isEmpty_false_of_ne hne]
  summarize := fun p k cs b css hne h hb => by simp [unparseOp, h, hb, isEmpty_false_of_ne hne, listM]
  summarizeBy := fun p k cs b gs css gss hne h hg hb => by
    simp [unparseOp, h, hg, hb, isEmpty_false_of_ne hne]
  join := fun p k kind ka lp right rp on conds r cs hr _ hc hne hk hka => by
    simp [unparseOp, hr, hc, exprList_length_ne hne, hk, hka]
  joinKind := fun p k kind ka f lp right rp on conds r cs hr _ hc hne => by
    simp [unparseOp, hr, hc, exprList_length_ne hne]
  as_ := fun p k n => by simp [unparseOp]
  render := fun p k c w lp rp hw => by simp [unparseOp, listM, hw]
  renderWith := fun p k c w lp props rp pss hne h hw => by
    simp [unparseOp, h, hw, isEmpty_false_of_ne hne]

def OpAcc (pipeTok name : Token) (ts : List Token) (op : Op) (rest : List Token) : Prop :=
  ∃ us cons, unparseOp op = some us ∧ ts = cons ++ rest ∧ accounts true us (pipeTok :: name :: cons) = true

theorem opAcc_intro {pipeTok name : Token} {ts : List Token} {op : Op} {rest : List Token}
    {names : List String} {body : List UTok} {cons : List Token}
    (hok : TokOK (pipeTok :: name :: ts)) (hp : pipeTok.kind = .pipe) (hk : name.kind = .ident)
    (hv : name.value ∈ names.map Bytes.ofString)
    (hu : unparseOp op = some (sym .pipe pipeTok.span :: kwTok names name.span :: body))
    (hts : ts = cons ++ rest) (ha : accounts true body cons = true) : OpAcc pipeTok name ts op rest :=
  ⟨_, cons, hu, hts, accounts_cons (tokOk_sym hp (hok.head.symVal hp)) (accounts_cons (tokOk_kwTok hk hv) ha)⟩

theorem pSummarize_acc {c : PCtx} {fuel : Nat} {pipeTok name : Token} {ts : List Token} {op : Op}
    {rest : List Token} (hok : TokOK (pipeTok :: name :: ts)) (hp : pipeTok.kind = .pipe)
    (hk : name.kind = .ident) (hv : name.value = Bytes.ofString "summarize")
    (h : pSummarize c fuel pipeTok.span name.span ts = ⟨op, [], rest⟩) : OpAcc pipeTok name ts op rest := by
  have hvm : name.value ∈ ["summarize"].map Bytes.ofString := by simp [hv]
  have hokt : TokOK ts := hok.tail.tail
  -- without `by`: the columns are all there is
  have noBy : ∀ {cols more : List Column} {cons rest' : List Token}, cols = [] ++ more →
      AccItems (unparseColumn false) more cons → ts = cons ++ rest' →
      OpAcc pipeTok name ts (.summarize pipeTok.span name.span cols .null []) rest' := by
    intro cols more cons rest' hc ⟨hne, us, hus, hacc⟩ hts
    subst hc
    exact opAcc_intro hok hp hk hvm
      (unparse_eq.summarize _ _ _ .null _ (by simpa using hne) (by simpa using hus) null_isValid) hts hacc
  have hcols : ∀ r1, pSummarizeCols c fuel (ts.length + 1) [] none ts = r1 → r1.errs = [] →
      SumColsAcc [] none ts r1 :=
    fun r1 h1 => h1 ▸ pSummarizeCols_acc c fuel _ [] none ts hokt
  have herrs : ∀ r1, pSummarizeCols c fuel (ts.length + 1) [] none ts = r1 → r1.val.done = false →
      r1.errs = [] :=
    fun r1 h1 => h1 ▸ pSummarizeCols_errs c fuel _ [] none ts
  revert h
  apply pSummarize_cases (motive := fun r => r = ⟨op, [], rest⟩ → OpAcc pipeTok name ts op rest)
  case done =>
    intro r1 h1 hdone h
    simp only [PRes.mk.injEq] at h
    obtain ⟨rfl, he, rfl⟩ := h
    rcases hcols r1 h1 he with ⟨-, hd, -, -⟩ | ⟨more, cons, hc, hi, ⟨-, hts⟩ | ⟨hd, -⟩⟩
    · rw [hdone] at hd; cases hd
    · exact noBy hc hi hts
    · rw [hdone] at hd; cases hd
  case noCols => intro r1 _ _ _ _ h; exact absurd (congrArg PRes.errs h) (errAt_ne_nil _)
  case dangling => intro r1 cm _ _ _ _ _ h; exact absurd (congrArg PRes.errs h) (errAt_ne_nil _)
  case plain =>
    intro r1 h1 hdone _ hemp hcm h
    simp only [PRes.mk.injEq, true_and] at h
    obtain ⟨rfl, rfl⟩ := h
    rcases hcols r1 h1 (herrs r1 h1 hdone) with
      ⟨hc, -, -, -⟩ | ⟨more, cons, hc, hi, ⟨-, hts⟩ | ⟨-, t, -, -, hcm', -⟩⟩
    · rw [hc] at hemp; cases hemp
    · exact noBy hc hi hts
    · rw [hcm] at hcm'; cases hcm'
  case by_ =>
    intro r1 sep rest2 r2 h1 hdone hrest hby h2 h
    simp only [PRes.mk.injEq] at h
    obtain ⟨rfl, he2, rfl⟩ := h
    have hg : TokOK (sep :: rest2) →
        ∃ gcons, rest2 = gcons ++ r2.rest ∧ AccItems (unparseColumn false) r2.val gcons := by
      intro hoks
      obtain ⟨gmore, gcons, hgv, hgts, hgi⟩ := pGroupByCols_acc hoks.tail h2 he2
      rw [List.nil_append] at hgv
      exact ⟨gcons, hgts, hgv ▸ hgi⟩
    rcases hcols r1 h1 (herrs r1 h1 hdone) with
      ⟨hc, -, -, hts⟩ | ⟨more, cons, hc, ⟨hne, us, hus, hacc⟩, halt⟩
    · -- no aggregate columns
      have hts' : ts = sep :: rest2 := hts.symm.trans hrest
      have hoks : TokOK (sep :: rest2) := hts' ▸ hokt
      obtain ⟨gcons, hgts, hgne, gus, hgus, hgacc⟩ := hg hoks
      rw [hc]
      have hu := unparse_eq.summarizeBy pipeTok.span name.span [] sep.span _ _ _ hgne (listM_nil _) hgus
        (span_isValid hoks.head_le)
      refine opAcc_intro (cons := sep :: gcons) hok hp hk hvm hu (by rw [hts', hgts]; simp) ?_
      simp only [sepBy]
      exact accounts_cons (tokOk_symOpt hby (hoks.head.symVal hby) _) hgacc
    · rw [List.nil_append] at hc
      rw [hc]
      rcases halt with ⟨-, hts⟩ | ⟨-, t, htk, htv, -, hts⟩
      · rw [hrest] at hts
        have hoks : TokOK (sep :: rest2) := hokt.of_eq_append hts
        obtain ⟨gcons, hgts, hgne, gus, hgus, hgacc⟩ := hg hoks
        have hu := unparse_eq.summarizeBy pipeTok.span name.span _ sep.span _ _ _ hgne hus hgus
          (span_isValid hoks.head_le)
        refine opAcc_intro (cons := cons ++ sep :: gcons) hok hp hk hvm hu (by rw [hts, hgts]; simp) ?_
        exact accounts_append hacc (accounts_cons (tokOk_symOpt hby (hoks.head.symVal hby) _) hgacc)
      · rw [hrest] at hts
        have hoks : TokOK (sep :: rest2) := (hokt.of_eq_append hts).tail
        obtain ⟨gcons, hgts, hgne, gus, hgus, hgacc⟩ := hg hoks
        have hu := unparse_eq.summarizeBy pipeTok.span name.span _ sep.span _ _ _ hgne hus hgus
          (span_isValid hoks.head_le)
        refine opAcc_intro (cons := cons ++ t :: sep :: gcons) hok hp hk hvm hu
          (by rw [hts, hgts]; simp) ?_
        have hopt : (!more.isEmpty) = true := by simp [isEmpty_false_of_ne hne]
        exact accounts_append hacc (accounts_optComma (by simpa using hopt) (by simp [sym]) htk
          (tokOk_symOpt hby (hoks.head.symVal hby) _) hgacc)

theorem unparseProp_eq {n : Ident} {asg : Span} {x : Expr} {xs : List UTok} (hx : unparseExpr x = some xs) :
    unparseProp ⟨some n, asg, x⟩ = some (identTok n :: sym .assign asg :: xs) := by
  simp [unparseProp, hx]

theorem pRenderProp_acc {c : PCtx} {fuel : Nat} : ∀ ts, TokOK ts → (pRenderProp c fuel ts).errs = [] →
    ∃ prop us cons, (pRenderProp c fuel ts).val = some prop ∧ unparseProp prop = some us ∧
      ts = cons ++ (pRenderProp c fuel ts).rest ∧ accounts true us cons = true := by
  apply pRenderProp_cases (motive := fun ts r => TokOK ts → r.errs = [] →
    ∃ prop us cons, r.val = some prop ∧ unparseProp prop = some us ∧ ts = cons ++ r.rest ∧
      accounts true us cons = true)
  case noIdent => intro ts _ _ h; exact absurd h (nfAt_ne_nil _)
  case noAssign => intro t0 rest _ _ _ h; exact absurd h (errAt_ne_nil _)
  case err => intro t0 t rest r _ _ _ hne _ h; exact absurd h hne
  case ok =>
    intro t0 t rest r h0 ha hr he hok _
    obtain ⟨ux, cx, hux, hts, hax⟩ := pExpr_acc hok.tail.tail (hr.trans (PRes.eq_of_errs he))
    exact ⟨_, _, t0 :: t :: cx, rfl, unparseProp_eq hux, congrArg (t0 :: t :: ·) hts,
      accounts_cons (tokOk_identTok h0) (accounts_cons (tokOk_sym ha (hok.tail.head.symVal ha)) hax)⟩

theorem pRenderProps_acc (c : PCtx) (fuel : Nat) : ∀ (n : Nat) (acc : List RenderProp) (ts : List Token),
    TokOK ts → (pRenderProps c fuel n acc ts).errs = [] →
    ∃ more cons t, (pRenderProps c fuel n acc ts).val.1 = acc ++ more ∧
      ts = cons ++ t :: (pRenderProps c fuel n acc ts).rest ∧ t.kind = .rparen ∧
      (pRenderProps c fuel n acc ts).val.2 = t.span ∧ t.value = [] ∧ AccItems unparseProp more cons := by
  apply pRenderProps_induct (motive := fun _ acc ts r => TokOK ts → r.errs = [] →
    ∃ more cons t, r.val.1 = acc ++ more ∧ ts = cons ++ t :: r.rest ∧ t.kind = .rparen ∧
      r.val.2 = t.span ∧ t.value = [] ∧ AccItems unparseProp more cons)
  case fuel => intro acc ts _ h; exact absurd h errFuel_ne_nil
  case err => intro n acc ts r _ hne _ h; exact absurd ((mkOpaque_eq_nil _).mp h) hne
  case junk => intro n acc ts r _ _ _ _ h; exact absurd h (errAt_ne_nil _)
  case close =>
    intro n acc ts r t rest hr he hrest hrp hok _
    subst hr
    obtain ⟨prop, us, cons, hv, hus, hts, ha⟩ := pRenderProp_acc ts hok he
    rw [hrest] at hts
    have hok1 : TokOK (t :: rest) := hok.of_eq_append hts
    exact ⟨[prop], cons, t, congrArg (fun v => acc ++ v.toList) hv, hts, hrp, rfl,
      hok1.head.symVal hrp, AccItems.single hus ha⟩
  case more =>
    intro n acc ts r t rest res hr he hrest hk ih hok hres
    subst hr
    obtain ⟨prop, us, cons, hv, hus, hts, ha⟩ := pRenderProp_acc ts hok he
    rw [hrest] at hts
    have hok1 : TokOK (t :: rest) := hok.of_eq_append hts
    obtain ⟨more, cons', t', hv', hr1, hk', hrp', hvv', hi⟩ := ih hok1.tail hres
    refine ⟨prop :: more, cons ++ t :: cons', t', ?_, ?_, hk', hrp', hvv',
      AccItems.cons hus ha hk (hok1.head.symVal hk) hi⟩
    · rw [hv', hv]; simp
    · rw [hts, hr1]; simp

theorem pRender_acc {c : PCtx} {fuel : Nat} {pipeTok name : Token} {ts : List Token} {op : Op}
    {rest : List Token} (hok : TokOK (pipeTok :: name :: ts)) (hp : pipeTok.kind = .pipe)
    (hk : name.kind = .ident) (hv : name.value = Bytes.ofString "render")
    (h : pRender c fuel pipeTok.span name.span ts = ⟨op, [], rest⟩) : OpAcc pipeTok name ts op rest := by
  have hvm : name.value ∈ ["render"].map Bytes.ofString := by simp [hv]
  revert ts
  apply pRender_cases (motive := fun ts r => TokOK (pipeTok :: name :: ts) → r = ⟨op, [], rest⟩ →
    OpAcc pipeTok name ts op rest)
  case noIdent => intro ts _ _ h; exact absurd (congrArg PRes.errs h) (errAt_ne_nil _)
  case plain =>
    intro t0 rest1 h0 _ hok h
    simp only [PRes.mk.injEq, true_and] at h
    obtain ⟨rfl, rfl⟩ := h
    exact opAcc_intro (cons := [t0]) hok hp hk hvm (unparse_eq.render _ _ _ .null .null .null null_isValid) rfl
      (accounts_single (tokOk_identTok h0))
  case noLp => intro t0 t rest1 _ _ _ _ h; exact absurd (congrArg PRes.errs h) (errAt_ne_nil _)
  case props =>
    intro t0 t lp rest2 r h0 hw hl hr hok h
    simp only [PRes.mk.injEq] at h
    obtain ⟨rfl, he, rfl⟩ := h
    obtain ⟨hkw, hvw⟩ := isIdentNamed_iff.mp hw
    have hok1 : TokOK (t :: lp :: rest2) := hok.tail.tail.tail
    have H := pRenderProps_acc c fuel (rest2.length + 1) [] rest2 hok1.tail.tail
    rw [hr] at H
    obtain ⟨more, cons, t', hv', hr1, hk', hrp, hvv, hne, us, hus, hacc⟩ := H he
    rw [hv', hrp, List.nil_append]
    have hu := unparse_eq.renderWith pipeTok.span name.span ⟨t0.value, t0.span, t0.kind = .qident⟩ t.span
      lp.span _ t'.span _ hne hus (span_isValid hok1.head_le)
    refine opAcc_intro (cons := t0 :: t :: lp :: (cons ++ [t'])) hok hp hk hvm hu
      (by rw [hr1]; simp) ?_
    exact accounts_cons (tokOk_identTok h0)
      (accounts_cons (tokOk_kwTok hkw (by simp [hvw]))
        (accounts_cons (tokOk_sym hl (hok1.tail.head.symVal hl))
          (accounts_append hacc (accounts_single (tokOk_sym hk' hvv)))))

end Pql
