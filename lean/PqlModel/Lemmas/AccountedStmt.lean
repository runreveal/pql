/-
Property C08, statements.  First the not-found flag in the tabular productions
(an error that still carries the flag comes without consumption; operators never produce one),
then `pStatement` on one group of tokens, the pieces of `splitStatementsToks` as the non-empty
groups of the loop (`splitStatementsToks_eq_groups`), and `parseTokens` against them: it succeeds
iff `pStatement` does on every piece (`parseTokens_ok_iff`).  `Forall₂` (core Lean has none) is
defined here, between the two halves; the statement-level theorems of C07, C08, C10 and C15 are
stated with it or rest on `parseTokens_ok_iff`.
-/
import PqlModel.Lemmas.AccountedTab
namespace Pql
open Grammar

theorem commaLoop_notNF {α β : Type} {item : List Token → PRes β} {bad : List α → PRes β → List α}
    {good : List α → β → List α} :
    ∀ n acc ts, isNF (commaLoop item bad good n acc ts).errs = false := by
  apply commaLoop_induct (motive := fun _ _ _ r => isNF r.errs = false)
  case fuel | err | last => intros; simp
  case more => intro n acc ts r t rest res _ _ _ _ ih; exact ih

theorem pSortTerms_notNF (c : PCtx) (fuel n : Nat) (acc : List SortTerm) (ts : List Token) :
    isNF (pSortTerms c fuel n acc ts).errs = false :=
  pSortTerms_eq_loop n acc ts ▸ commaLoop_notNF n acc ts

theorem pExtendCols_notNF (c : PCtx) (fuel n : Nat) (acc : List Column) (ts : List Token) :
    isNF (pExtendCols c fuel n acc ts).errs = false :=
  pExtendCols_eq_loop n acc ts ▸ commaLoop_notNF n acc ts

theorem pGroupByCols_notNF (c : PCtx) (fuel n : Nat) (acc : List Column) (ts : List Token) :
    isNF (pGroupByCols c fuel n acc ts).errs = false :=
  pGroupByCols_eq_loop n acc ts ▸ commaLoop_notNF n acc ts

theorem pProjectCols_notNF (c : PCtx) (fuel : Nat) : ∀ (n : Nat) (acc : List Column) (ts : List Token),
    isNF (pProjectCols c fuel n acc ts).errs = false := by
  apply pProjectCols_induct (motive := fun _ _ _ r => isNF r.errs = false)
  case fuel | noIdent | bare | namedErr | namedLast | namedJunk => intros; simp
  case bareMore => intro n acc t0 sep rest res _ _ ih; exact ih
  case namedMore => intro n acc t0 sep rest r sep2 rest2 res _ _ _ _ _ _ ih; exact ih

theorem pSummarizeCols_notNF (c : PCtx) (fuel : Nat) : ∀ (n : Nat) (acc : List Column) (cm : Option Span)
    (ts : List Token), isNF (pSummarizeCols c fuel n acc cm ts).errs = false := by
  apply pSummarizeCols_induct (motive := fun _ _ _ _ r => isNF r.errs = false)
  case fuel | none | err | eof | stop => intros; simp
  case more => intro n acc cm ts r t rest res _ _ _ _ ih; exact ih

theorem pSummarize_notNF (c : PCtx) (fuel : Nat) (pipe kw : Span) (ts : List Token) :
    isNF (pSummarize c fuel pipe kw ts).errs = false := by
  apply pSummarize_cases (motive := fun r => isNF r.errs = false)
  case done => intro r1 h1 _; subst h1; exact pSummarizeCols_notNF _ _ _ _ _ _
  case noCols | dangling | plain => intros; simp
  case by_ => intro r1 sep rest r2 _ _ _ _ h2; subst h2; exact pGroupByCols_notNF _ _ _ _ _

theorem pRenderProps_notNF (c : PCtx) (fuel : Nat) : ∀ (n : Nat) (acc : List RenderProp) (ts : List Token),
    isNF (pRenderProps c fuel n acc ts).errs = false := by
  apply pRenderProps_induct (motive := fun _ _ _ r => isNF r.errs = false)
  case fuel | err | junk | close => intros; simp
  case more => intro n acc ts r t rest res _ _ _ _ ih; exact ih

theorem pRender_notNF (c : PCtx) (fuel : Nat) (pipe kw : Span) :
    ∀ ts, isNF (pRender c fuel pipe kw ts).errs = false := by
  apply pRender_cases (motive := fun _ r => isNF r.errs = false)
  case noIdent | plain | noLp => intros; simp
  case props => intro t0 t lp rest2 r _ _ _ hr; subst hr; exact pRenderProps_notNF _ _ _ _ _

theorem pJoin_notNF (c : PCtx) (fuel : Nat) (pipe kw : Span) (ts : List Token) :
    isNF (pJoin c fuel pipe kw ts).errs = false := by
  cases fuel with
  | zero => simp [pJoin]
  | succ f =>
    refine pJoin_cases (motive := fun r => isNF r.errs = false) ?_ ?_ ?_ ?_
    · intros; simp
    · intro hd kind ka fl e0 hh post _ _; simp [hh.notNF]
    · intro hd kind ka fl e0 hh lp rest1 _ _ rr _ rp post _; simp [hh.notNF]
    · intro hd kind ka fl e0 hh lp rest1 _ _ rp on rest3 _ _ _ rr _ rc _; simp [hh.notNF]

theorem pOperator_notNF (c : PCtx) (fuel : Nat) (pipe : Span) (name : Token) (ts : List Token) (r : PRes Op)
    (h : pOperator c fuel pipe name ts = some r) : isNF r.errs = false := by
  cases fuel with
  | zero => simp only [pOperator, Option.some.injEq] at h; subst h; simp
  | succ f =>
    revert h
    apply pOperator_cases (motive := fun o => o = some r → isNF r.errs = false)
    case count => intro _ h; cases h; rfl
    case where_ => intro _ r' _ h; cases h; simp
    case sortErr => intro _ _ h; cases h; simp
    case sort => intro _ by_ rest _ _ r' hr h; cases h; subst hr; exact pSortTerms_notNF _ _ _ _ _
    case take => intro _ r' _ h; cases h; simp
    case topErr => intro _ r' _ _ h; cases h; simp
    case topNoBy => intro _ r' _ _ _ h; cases h; simp
    case top => intro _ r' _ _ by_ rest _ _ rt _ h; cases h; simp
    case project => intro _ r' hr h; cases h; subst hr; exact pProjectCols_notNF _ _ _ _ _
    case extend => intro _ r' hr h; cases h; subst hr; exact pExtendCols_notNF _ _ _ _ _
    case summarize => intro _ h; cases h; exact pSummarize_notNF _ _ _ _ _
    case join => intro _ h; cases h; exact pJoin_notNF _ _ _ _ _
    case as_ => intro _ r' _ h; cases h; simp
    case render => intro _ h; cases h; exact pRender_notNF _ _ _ _ _
    case unknown => intro h; cases h

theorem pOps_notNF (c : PCtx) (fuel : Nat) : ∀ (ops : OpList) (acc : Errs) (ts : List Token),
    isNF acc = false → isNF (pOps c fuel ops acc ts).errs = false := by
  induction fuel with
  | zero => intro ops acc ts h; simp [pOps, h]
  | succ f ih =>
    intro ops acc ts hacc
    refine pOps_cases (motive := fun r => isNF r.errs = false) hacc ?_ ?_
    · intro pipeTok rest s _ _ _
      exact ih _ _ _ (by simp [hacc])
    · intro pipeTok rest name opToks r _ _ _ _ hop
      exact ih _ _ _ (by simp [hacc, pOperator_notNF _ _ _ _ _ _ hop])

theorem pTabular_nf (c : PCtx) (fuel : Nat) (ts : List Token)
    (h : isNF (pTabular c fuel ts).errs = true) : (pTabular c fuel ts).rest = ts := by
  cases fuel with
  | zero => simp [pTabular] at h
  | succ f =>
    revert ts
    apply pTabular_cases (motive := fun ts r => isNF r.errs = true → r.rest = ts)
    case noIdent => intros; rfl
    case ops =>
      intro t0 rest r _ hr h
      subst hr
      rw [pOps_notNF c f _ _ _ rfl] at h
      cases h

theorem pLet_nf (c : PCtx) (fuel : Nat) :
    ∀ ts, isNF (pLet c fuel ts).errs = true → (pLet c fuel ts).rest = ts := by
  apply pLet_cases (motive := fun ts r => isNF r.errs = true → r.rest = ts)
  case notLet => intros; rfl
  case noName => intro kwd rest _ _ h; exact absurd h (by simp)
  case noAssign => intro kwd t0 rest _ _ _ h; exact absurd h (by simp)
  case full => intro kwd t0 asg rest2 r _ _ _ _ h; exact absurd h (by simp)

theorem pStatement_nil (c : PCtx) : pStatement c [] = (none, [], false) := by
  simp [pStatement, pLet, fuelFor, pTabular, pIdent]

theorem pLet_val_of_notNF (c : PCtx) (fuel : Nat) :
    ∀ ts, isNF (pLet c fuel ts).errs = false → (pLet c fuel ts).val ≠ none := by
  apply pLet_cases (motive := fun _ r => isNF r.errs = false → r.val ≠ none)
  case notLet => intro ts _ h; rw [isNF_nfAt] at h; cases h
  case noName | noAssign | full => intros; exact nofun

/-- **A statement's tokens yield no statement exactly when there are no tokens or the statement
    fails with a not-found error** (neither a `let` statement nor a tabular expression starts
    here).  Any other failure still yields a (partial) statement. -/
theorem pStatement_none_iff (c : PCtx) (g : List Token) :
    (pStatement c g).1 = none ↔ g = [] ∨ (pStatement c g).2.2 = true := by
  apply pStatement_cases (motive := fun r => r.1 = none ↔ g = [] ∨ r.2.2 = true)
  case let_ =>
    intro rl hl hnf
    have hv := hl ▸ pLet_val_of_notNF c _ g (hl ▸ hnf)
    have hg : g ≠ [] := by rintro rfl; rw [← hl] at hnf; cases hnf
    exact ⟨fun h => absurd h hv, fun h => h.elim (absurd · hg) nofun⟩
  case tab =>
    intro rl rt name ops _ _ ht hnf _
    have hg : g ≠ [] := by rintro rfl; rw [← ht] at hnf; cases hnf
    exact ⟨nofun, fun h => h.elim (absurd · hg) nofun⟩
  case empty =>
    intro rl rt _ _ ht hnf hrest
    exact ⟨fun _ => Or.inl ((ht ▸ pTabular_nf c _ g (ht ▸ hnf)).symm.trans hrest), fun _ => rfl⟩
  case junk => intros; exact ⟨fun _ => Or.inr rfl, fun _ => rfl⟩

def StmtAcc (st : Stmt) (g : List Token) : Prop :=
  ∃ us, unparseStmt st = some us ∧ accounts true us g = true

/-- A statement parsed without error accounts for its whole token group: the `let` and the
    pipeline come from `pLet_acc` / `pTabular_acc`. -/
theorem pStatement_acc {c : PCtx} {g : List Token} {s : Stmt} {b : Bool} (hok : TokOK g)
    (h : pStatement c g = (some s, [], b)) : StmtAcc s g := by
  have clean : ∀ {α} {r : PRes α} {o' : Option Stmt},
      (o', mkOpaque r.errs ++ endSplit r.rest, false) = (some s, [], b) →
      o' = some s ∧ r = ⟨r.val, [], []⟩ := by
    intro α r o' h
    simp only [Prod.mk.injEq, List.append_eq_nil_iff, mkOpaque_eq_nil, endSplit_eq_nil] at h
    obtain ⟨ho, ⟨he, hr⟩, -⟩ := h
    exact ⟨ho, by cases r; cases he; cases hr; rfl⟩
  revert h
  apply pStatement_cases c g (motive := fun r => r = (some s, [], b) → StmtAcc s g)
  case let_ =>
    intro rl hl _ h
    obtain ⟨hv, hr⟩ := clean h
    obtain ⟨s', us, cons, hv', hus, hts, ha⟩ := pLet_acc hok (hl.trans hr)
    cases hv.symm.trans hv'
    rw [List.append_nil] at hts
    exact ⟨us, hus, hts ▸ ha⟩
  case tab =>
    intro rl rt name ops _ _ ht _ _ h
    obtain ⟨hv, hr⟩ := clean h
    cases hv
    obtain ⟨us, cons, hus, hts, ha⟩ := pTabular_acc hok (ht.trans hr)
    rw [List.append_nil] at hts
    exact ⟨us, hus, hts ▸ ha⟩
  case empty => intro rl rt _ _ _ _ _ h; cases h
  case junk => intro rl rt t rest _ _ _ _ _ h; cases h

/-- pointwise relation of two lists of equal length (Mathlib's `List.Forall₂`; core has none) -/
inductive Forall₂ {α β : Type} (R : α → β → Prop) : List α → List β → Prop
  | nil : Forall₂ R [] []
  | cons {a : α} {b : β} {l₁ : List α} {l₂ : List β} : R a b → Forall₂ R l₁ l₂ → Forall₂ R (a :: l₁) (b :: l₂)

theorem Forall₂.length_eq {α β : Type} {R : α → β → Prop} {l₁ : List α} {l₂ : List β}
    (h : Forall₂ R l₁ l₂) : l₁.length = l₂.length := by
  induction h with
  | nil => rfl
  | cons _ _ ih => simp [ih]

theorem Forall₂.append {α β : Type} {R : α → β → Prop} {a c : List α} {b d : List β}
    (h1 : Forall₂ R a b) (h2 : Forall₂ R c d) : Forall₂ R (a ++ c) (b ++ d) := by
  induction h1 with
  | nil => simpa using h2
  | cons hab _ ih => exact Forall₂.cons hab ih

theorem Forall₂.zip {α β : Type} {R : α → β → Prop} {l₁ : List α} {l₂ : List β}
    (h : Forall₂ R l₁ l₂) : ∀ p ∈ l₁.zip l₂, R p.1 p.2 := by
  induction h with
  | nil => simp
  | cons hab _ ih =>
    intro p hp
    simp only [List.zip_cons_cons, List.mem_cons] at hp
    rcases hp with rfl | hp
    · exact hab
    · exact ih p hp

theorem Forall₂.imp_mem {α β : Type} {R S : α → β → Prop} {l₁ : List α} {l₂ : List β}
    (h : Forall₂ R l₁ l₂) (himp : ∀ a ∈ l₁, ∀ b ∈ l₂, R a b → S a b) : Forall₂ S l₁ l₂ := by
  induction h with
  | nil => exact .nil
  | cons hab _ ih =>
    refine .cons (himp _ (by simp) _ (by simp) hab) (ih ?_)
    intro a ha b hb
    exact himp a (List.mem_cons_of_mem _ ha) b (List.mem_cons_of_mem _ hb)

theorem Forall₂.exists_mem {α β : Type} {R : α → β → Prop} {l₁ : List α} {l₂ : List β}
    (h : Forall₂ R l₁ l₂) : ∀ a ∈ l₁, ∃ b ∈ l₂, R a b := by
  induction h with
  | nil => nofun
  | cons hab _ ih =>
    intro a ha
    rcases List.mem_cons.mp ha with rfl | ha
    · exact ⟨_, by simp, hab⟩
    · obtain ⟨b, hb, hr⟩ := ih a ha
      exact ⟨b, List.mem_cons_of_mem _ hb, hr⟩

theorem Forall₂.exists_mem_right {α β : Type} {R : α → β → Prop} {l₁ : List α} {l₂ : List β}
    (h : Forall₂ R l₁ l₂) : ∀ b ∈ l₂, ∃ a ∈ l₁, R a b := by
  induction h with
  | nil => nofun
  | cons hab _ ih =>
    intro b hb
    rcases List.mem_cons.mp hb with rfl | hb
    · exact ⟨_, by simp, hab⟩
    · obtain ⟨a, ha, hr⟩ := ih b hb
      exact ⟨a, List.mem_cons_of_mem _ ha, hr⟩

theorem splitStatementsToks_go_nil (cur : List Token) :
    splitStatementsToks.go [] cur = if cur.isEmpty then [] else [cur.reverse] := by
  rw [splitStatementsToks.go]

theorem splitStatementsToks_go_cons (t : Token) (rest cur : List Token) :
    splitStatementsToks.go (t :: rest) cur =
      if t.kind == .semi then
        (if cur.isEmpty then splitStatementsToks.go rest [] else cur.reverse :: splitStatementsToks.go rest [])
      else splitStatementsToks.go rest (t :: cur) := by
  rw [splitStatementsToks.go]

/-- Induction over the statement pieces of a token list: the tokens are one group `g` without a
    semicolon token, or such a group, a semicolon token and the tokens of the remaining pieces; an
    empty group makes no piece. -/
theorem splitStatementsToks_induct {P : List Token → List (List Token) → Prop}
    (last : ∀ g, (∀ t ∈ g, t.kind ≠ .semi) → P g (if g = [] then [] else [g]))
    (more : ∀ g s rest, (∀ t ∈ g, t.kind ≠ .semi) → s.kind = .semi →
      P rest (splitStatementsToks rest) →
      P (g ++ s :: rest) ((if g = [] then [] else [g]) ++ splitStatementsToks rest)) :
    ∀ ts, P ts (splitStatementsToks ts) := by
  -- `go` collects the current group in reverse
  have go : ∀ ts cur, (∀ t ∈ cur, t.kind ≠ .semi) →
      P (cur.reverse ++ ts) (splitStatementsToks.go ts cur) := by
    intro ts
    induction ts with
    | nil =>
      intro cur hc
      have := last cur.reverse (by simpa using hc)
      rw [splitStatementsToks_go_nil, List.append_nil]
      cases cur <;> simpa using this
    | cons t rest ih =>
      intro cur hc
      rw [splitStatementsToks_go_cons]
      by_cases hk : t.kind = .semi
      · have hr : P rest (splitStatementsToks rest) := ih [] (by simp)
        have := more cur.reverse t rest (by simpa using hc) hk hr
        rw [if_pos (by simp [hk])]
        cases cur <;> simpa [splitStatementsToks] using this
      · have := ih (t :: cur) (by simpa [hk] using hc)
        rw [if_neg (by simp [hk])]
        simpa using this
  intro ts
  have := go ts [] (by simp)
  rwa [List.reverse_nil, List.nil_append] at this

theorem splitStatementsToks_eq_groups (ts : List Token) :
    splitStatementsToks ts = (semiGroups ts).filter (· ≠ []) := by
  refine splitStatementsToks_induct (P := fun ts l => l = (semiGroups ts).filter (· ≠ [])) ?_ ?_ ts
  · intro g hg
    rw [semiGroups_nosemi g hg]
    by_cases h : g = [] <;> simp [h]
  · intro g s rest hg hs ih
    rw [semiGroups_append g s rest hs, semiGroups_nosemi g hg, List.filter_append, ← ih]
    by_cases h : g = [] <;> simp [h]

theorem splitStatementsToks_nosemi {ts : List Token} (hne : ts ≠ [])
    (h : ∀ t ∈ ts, t.kind ≠ .semi) : splitStatementsToks ts = [ts] := by
  rw [splitStatementsToks_eq_groups, semiGroups_nosemi ts h]; simp [hne]

theorem splitStatementsToks_sublist (ts : List Token) : ∀ g ∈ splitStatementsToks ts, g.Sublist ts := by
  intro g hg
  rw [splitStatementsToks_eq_groups] at hg
  exact semiGroups_sublist ts g (List.mem_filter.1 hg).1

theorem splitStatementsToks_tokOK {ts : List Token} (hok : TokOK ts) :
    ∀ g ∈ splitStatementsToks ts, TokOK g :=
  fun g hg => hok.sublist (splitStatementsToks_sublist ts g hg)

theorem mem_splitStatementsToks {t : Token} (hk : t.kind ≠ .semi) :
    ∀ ts, t ∈ ts → ∃ g ∈ splitStatementsToks ts, t ∈ g := by
  refine splitStatementsToks_induct (P := fun ts l => t ∈ ts → ∃ g ∈ l, t ∈ g) ?_ ?_
  · intro g _ ht
    exact ⟨g, by rw [if_neg (List.ne_nil_of_mem ht)]; simp, ht⟩
  · intro g s rest _ hs ih ht
    rcases List.mem_append.1 ht with ht | ht
    · exact ⟨g, by rw [if_neg (List.ne_nil_of_mem ht)]; simp, ht⟩
    · rcases List.mem_cons.1 ht with rfl | ht
      · exact absurd hs hk
      · obtain ⟨g', hg', ht'⟩ := ih ht
        exact ⟨g', List.mem_append_right _ hg', ht'⟩

theorem groups_parsed (c : PCtx) : ∀ gs : List (List Token), (∀ g ∈ gs, (pStatement c g).2.1 = []) →
    Forall₂ (fun s g => pStatement c g = (some s, [], false))
      (gs.flatMap fun g => (pStatement c g).1.toList) (gs.filter (· ≠ []))
  | [], _ => .nil
  | g :: gs, h => by
    obtain ⟨h1, h2⟩ := List.forall_mem_cons.1 h
    have ih := groups_parsed c gs h2
    rw [List.flatMap_cons]
    by_cases hg : g = []
    · rw [List.filter_cons_of_neg (by simpa using hg), hg, pStatement_nil]
      exact ih
    · -- no error, so no not-found flag, so a statement unless there are no tokens
      have hf : (pStatement c g).2.2 = false := by rw [pStatement_flag, h1]; rfl
      have hv := mt (pStatement_none_iff c g).1 (by simp [hg, hf])
      rw [List.filter_cons_of_pos (by simpa using hg)]
      obtain ⟨s, hs⟩ := Option.ne_none_iff_exists'.1 hv
      rw [hs]
      exact .cons (by rw [← hs, ← h1, ← hf]) ih

theorem foldStmts_parsed (c : PCtx) : ∀ (gs : List (List Token)) (acc stmts : List Stmt),
    Forall₂ (fun s g => pStatement c g = (some s, [], false)) stmts (gs.filter (· ≠ [])) →
    foldStmts c (acc, []) gs = (acc ++ stmts, [])
  | [], acc, _, .nil => by rw [List.append_nil]; rfl
  | g :: gs, acc, stmts, h => by
    rw [foldStmts_cons]
    by_cases hg : g = []
    · rw [List.filter_cons_of_neg (by simpa using hg)] at h
      rw [hg, pStatement_nil]
      simpa [stepAcc] using foldStmts_parsed c gs acc stmts h
    · rw [List.filter_cons_of_pos (by simpa using hg)] at h
      cases h with
      | @cons s _ ss _ hs hrest =>
        rw [hs]
        simpa [stepAcc] using foldStmts_parsed c gs (acc ++ [s]) ss hrest

/-- **`parseTokens` succeeds with `stmts` iff `pStatement` returns them, one for each piece.** -/
theorem parseTokens_ok_iff (n : Nat) (ts : List Token) (stmts : List Stmt) :
    parseTokens n ts = (stmts, []) ↔
      Forall₂ (fun s g => pStatement ⟨n⟩ g = (some s, [], false)) stmts (splitStatementsToks ts) := by
  rw [splitStatementsToks_eq_groups]
  constructor
  · intro h
    rw [show stmts = _ from (congrArg Prod.fst h).symm.trans (parseTokens_fst n ts)]
    exact groups_parsed _ _ ((parseTokens_errs_nil n ts).1 (by rw [h]))
  · intro h
    rw [parseTokens_eq_fold]
    exact foldStmts_parsed _ _ [] stmts h

theorem parseTokens_acc (srcLen : Nat) (ts : List Token) (stmts : List Stmt) (hok : TokOK ts)
    (h : parseTokens srcLen ts = (stmts, [])) : Forall₂ StmtAcc stmts (splitStatementsToks ts) :=
  ((parseTokens_ok_iff srcLen ts stmts).1 h).imp_mem fun _ _ g hg hs =>
    pStatement_acc (splitStatementsToks_tokOK hok g hg) hs

end Pql
