/-
Heap lemmas for the machine of Lemmas/SplitImpMachine.lean (namespace `SplitImp`): what `alloc` /
`load` / `store` do to the list of subqueries a slice of pointers denotes (`abs`), the loop invariant `Inv` (what `lastSubquery` points to) and
the frame condition `Frame` (objects allocated before the activation are never written).
-/
import PqlModel.Lemmas.SplitImpMachine
import PqlModel.Lemmas.SplitQueriesRun
namespace Pql.SplitImp
open Pql

theorem push_set_last (h : Heap) (s v : Subquery) : (h.push s).setIfInBounds h.size v = h.push v := by
  apply Array.ext_getElem?
  intro i
  rw [Array.getElem?_setIfInBounds, Array.getElem?_push, Array.getElem?_push]
  by_cases hi : h.size = i
  · subst hi; simp
  · have : i ≠ h.size := fun e => hi e.symm
    simp [hi, this]

theorem cell_push_lt (h : Heap) (s : Subquery) {a : Addr} (ha : a < h.size) :
    cell (h.push s) a = cell h a := by
  unfold cell
  rw [Array.getElem?_push, if_neg (Nat.ne_of_lt ha)]

theorem cell_push_size (h : Heap) (s : Subquery) : cell (h.push s) h.size = s := by
  unfold cell
  rw [Array.getElem?_push, if_pos rfl]; rfl

theorem cell_set (h : Heap) {p : Addr} (v : Subquery) (a : Addr) (hp : p < h.size) :
    cell (h.setIfInBounds p v) a = if a = p then v else cell h a := by
  unfold cell
  rw [Array.getElem?_setIfInBounds]
  by_cases hpa : p = a
  · subst hpa; simp [hp]
  · have : ¬ a = p := fun e => hpa e.symm
    simp [hpa, this]

theorem getElem?_eq_some_cell (h : Heap) {a : Addr} (ha : a < h.size) : h[a]? = some (cell h a) := by
  unfold cell
  rw [Array.getElem?_eq_getElem ha]; rfl

theorem load_ok (h : Heap) {a : Addr} (ha : a < h.size) : load h a = .ok (cell h a) := by
  unfold load
  rw [getElem?_eq_some_cell h ha]

theorem load_push_lt (h : Heap) (s : Subquery) {a : Addr} (ha : a < h.size) :
    load (h.push s) a = .ok (cell h a) := by
  have ha' : a < (h.push s).size := by rw [Array.size_push]; exact Nat.lt_succ_of_lt ha
  rw [load_ok (h.push s) ha', cell_push_lt h s ha]

theorem store_ok (h : Heap) {a : Addr} (f : Subquery → Subquery) (ha : a < h.size) :
    store h a f = .ok (h.setIfInBounds a (f (cell h a))) := by
  unfold store
  rw [getElem?_eq_some_cell h ha]

theorem store_push (h : Heap) (s : Subquery) (f : Subquery → Subquery) :
    store (h.push s) h.size f = .ok (h.push (f s)) := by
  rw [store_ok _ _ (by simp), cell_push_size, push_set_last]

theorem index_last (pre : List Addr) (p : Addr) :
    index (pre ++ [p]) (((pre ++ [p]).length : Int) - 1) = .ok p := by
  unfold index
  have h1 : (0 : Int) ≤ ((pre ++ [p]).length : Int) - 1 := by simp
  have h2 : (((pre ++ [p]).length : Int) - 1).toNat = pre.length := by simp
  rw [if_pos h1, h2]
  simp

theorem index_nat (dst : List Addr) (i : Nat) (hi : i < dst.length) :
    index dst (i : Int) = .ok dst[i] := by
  unfold index
  rw [if_pos (Int.natCast_nonneg i)]
  simp [hi]

theorem abs_length (h : Heap) (dst : List Addr) : (abs h dst).length = dst.length := by
  simp [abs]

theorem abs_append (h : Heap) (d e : List Addr) : abs h (d ++ e) = abs h d ++ abs h e := by
  simp [abs]

theorem abs_congr {h h' : Heap} {dst : List Addr} (hc : ∀ a ∈ dst, cell h' a = cell h a) :
    abs h' dst = abs h dst := by
  unfold abs
  exact List.map_congr_left hc

theorem abs_push (h : Heap) (s : Subquery) {dst : List Addr} (hv : ∀ a ∈ dst, a < h.size) :
    abs (h.push s) dst = abs h dst :=
  abs_congr fun a ha => cell_push_lt h s (hv a ha)

theorem abs_push_snoc (h : Heap) (s : Subquery) {dst : List Addr} (hv : ∀ a ∈ dst, a < h.size) :
    abs (h.push s) (dst ++ [h.size]) = abs h dst ++ [s] := by
  rw [abs_append, abs_push h s hv]
  simp [abs, cell_push_size]

theorem abs_set_notin (h : Heap) {p : Addr} (v : Subquery) {dst : List Addr} (hp : p < h.size)
    (hn : p ∉ dst) : abs (h.setIfInBounds p v) dst = abs h dst :=
  abs_congr fun a ha => by
    rw [cell_set h v a hp, if_neg]
    rintro rfl; exact hn ha

theorem abs_set_last (h : Heap) {p : Addr} (v : Subquery) {pre : List Addr} (hp : p < h.size)
    (hn : p ∉ pre) : abs (h.setIfInBounds p v) (pre ++ [p]) = abs h pre ++ [v] := by
  rw [abs_append, abs_set_notin h v hp hn]
  simp [abs, cell_set h v p hp]

theorem abs_getLast? (h : Heap) (pre : List Addr) (p : Addr) :
    (abs h (pre ++ [p])).getLast? = some (cell h p) := by
  simp [abs]

/-- **What `lastSubquery` points to**, between two iterations of the loop of the activation that
    started with `len(dst) = k` on a heap of `n0` objects: it is `nil` exactly as long as the
    activation has appended nothing; afterwards it is the LAST pointer of `dst`, that address
    occurs nowhere else in `dst`, and the object was allocated by this activation. -/
structure Inv (n0 k : Nat) (st : St) : Prop where
  valid : ∀ a ∈ st.dst, a < st.heap.size
  base : n0 ≤ st.heap.size
  start_le : k ≤ st.dst.length
  last : match st.last with
    | none => st.dst.length = k
    | some p => k < st.dst.length ∧ n0 ≤ p ∧ ∃ pre, st.dst = pre ++ [p] ∧ p ∉ pre

/-- from `h` to `h'` the heap has only grown, and the objects below address `n0` are as they were -/
def Frame (n0 : Nat) (h h' : Heap) : Prop := h.size ≤ h'.size ∧ ∀ a, a < n0 → h'[a]? = h[a]?

theorem Frame.refl (n0 : Nat) (h : Heap) : Frame n0 h h := ⟨Nat.le_refl _, fun _ _ => rfl⟩

theorem Frame.trans {n0 : Nat} {h1 h2 h3 : Heap} (a : Frame n0 h1 h2) (b : Frame n0 h2 h3) :
    Frame n0 h1 h3 :=
  ⟨Nat.le_trans a.1 b.1, fun x hx => (b.2 x hx).trans (a.2 x hx)⟩

theorem Frame.mono {n0 n1 : Nat} {h h' : Heap} (hle : n0 ≤ n1) (a : Frame n1 h h') : Frame n0 h h' :=
  ⟨a.1, fun x hx => a.2 x (Nat.lt_of_lt_of_le hx hle)⟩

theorem Frame.push (n0 : Nat) (h : Heap) (s : Subquery) (hb : n0 ≤ h.size) : Frame n0 h (h.push s) := by
  refine ⟨by simp, fun a ha => ?_⟩
  rw [Array.getElem?_push, if_neg]; omega

theorem Frame.set (n0 : Nat) (h : Heap) (p : Addr) (v : Subquery) (hp : n0 ≤ p) :
    Frame n0 h (h.setIfInBounds p v) := by
  refine ⟨by simp, fun a ha => ?_⟩
  rw [Array.getElem?_setIfInBounds, if_neg]; omega

/-- the state right after `p := &subquery{…}; dst = append(dst, p)` -/
theorem inv_fresh {n0 k : Nat} {h : Heap} {dst : List Addr} (s : Subquery)
    (hv : ∀ a ∈ dst, a < h.size) (hb : n0 ≤ h.size) (hk : k ≤ dst.length) :
    Inv n0 k ⟨h.push s, dst ++ [h.size], some h.size⟩ := by
  refine ⟨?_, ?_, ?_, ?_⟩
  · intro a ha
    simp only [List.mem_append, List.mem_singleton] at ha
    simp only [Array.size_push]
    rcases ha with ha | rfl
    · exact Nat.lt_succ_of_lt (hv a ha)
    · exact Nat.lt_succ_self _
  · simp only [Array.size_push]; omega
  · simp only [List.length_append, List.length_singleton]; omega
  · refine ⟨?_, hb, dst, rfl, fun hm => Nat.lt_irrefl _ (hv _ hm)⟩
    simp only [List.length_append, List.length_singleton]; omega

/-- the functional model's stand-in for `lastSubquery` (`lastOf`) is the object the pointer
    points to -/
theorem lastOf_abs {n0 k : Nat} {st : St} (inv : Inv n0 k st) :
    lastOf (abs st.heap st.dst) k = st.last.map (cell st.heap) := by
  have hl := inv.last
  unfold lastOf
  rw [abs_length]
  cases hlast : st.last with
  | none =>
    rw [hlast] at hl
    simp only at hl
    rw [if_neg (by omega)]; rfl
  | some p =>
    rw [hlast] at hl
    obtain ⟨hk, _, pre, hd, _⟩ := hl
    rw [if_pos hk, hd, abs_getLast?]; rfl

end Pql.SplitImp
