/-
The induction principle of the expression block restricted to SUCCESSFUL parses (`errs = []`).

On success every sub-parse succeeded, every bracket was closed, every sub-parser consumed its
`split` prefix, and the error accumulators of `pTrail` / `pHigher` were empty.  So the motives are
on (fuel, arguments, tokens, value, rest) and only the 23 error-free leaves remain, with values
and remainders as variables.  Derived once from `expr_induct`; the families of the form
"`errs = []` → fact about the value" (ParseGood, ParsedOK, Accounted, …) instantiate this one.
-/
import PqlModel.Lemmas.ParseNotFound
namespace Pql

private theorem app_nil {a b : Errs} (h : a ++ b = []) : a = [] ∧ b = [] := List.append_eq_nil_iff.mp h

theorem closeSplit_closed {k : TokKind} {d e : Span} {ts : List Token} {cl : Closing}
    (hcl : closeSplit k d e ts = cl) (he : cl.errs = []) :
    ∃ rp rest, (split k ts).2 = rp :: rest ∧ rp.kind = k ∧ cl = ⟨rp.span, [], rest⟩ := by
  subst hcl
  revert he
  apply closeSplit_cases (motive := fun cl => cl.errs = [] → ∃ rp rest, (split k ts).2 = rp :: rest ∧
    rp.kind = k ∧ cl = ⟨rp.span, [], rest⟩)
  · intro _ h; exact absurd h (List.cons_ne_nil _ _)
  · intro rp rest hs hk _; exact ⟨rp, rest, hs, hk, rfl⟩

theorem expr_ok_induct {c : PCtx}
    {mE mU mP mI : Nat → List Token → Expr → List Token → Prop}
    {mT mH : Nat → Expr → Int → List Token → Expr → List Token → Prop}
    {mL : Nat → List Token → ExprList → List Token → Prop}
    {mLT : Nat → ExprList → List Token → ExprList → List Token → Prop}
    (e_ok : ∀ (f : Nat) (ts : List Token) (v1 : Expr) (rest1 : List Token) (v2 : Expr)
      (rest2 : List Token), mU f ts v1 rest1 → mT f v1 0 rest1 v2 rest2 → mE (f + 1) ts v2 rest2)
    (t_nil : ∀ (f : Nat) (x : Expr) (m : Int), mT (f + 1) x m [] x [])
    (t_stop : ∀ (f : Nat) (x : Expr) (m : Int) (op : Token) (rest : List Token),
      precOf op.kind < 0 ∨ precOf op.kind < m → mT (f + 1) x m (op :: rest) x (op :: rest))
    (t_inList : ∀ (f : Nat) (x : Expr) (m : Int) (op lp : Token) (rest2 : List Token)
      (vl : ExprList) (rp : Token) (rest3 : List Token) (v : Expr) (rest : List Token),
      ¬(precOf op.kind < 0 ∨ precOf op.kind < m) → op.kind = .in_ → lp.kind = .lparen →
      (split .rparen rest2).2 = rp :: rest3 → rp.kind = .rparen →
      mL f (split .rparen rest2).1 vl [] →
      mT f (.inE x op.span lp.span vl rp.span) m rest3 v rest →
      mT (f + 1) x m (op :: lp :: rest2) v rest)
    (t_binary : ∀ (f : Nat) (x : Expr) (m : Int) (op : Token) (rest : List Token) (vy : Expr)
      (resty : List Token) (vh : Expr) (resth : List Token) (v : Expr) (r : List Token),
      ¬(precOf op.kind < 0 ∨ precOf op.kind < m) → op.kind ≠ .in_ → mU f rest vy resty →
      mH f vy (precOf op.kind) resty vh resth →
      mT f (.binary x op.span op.kind vh) m resth v r → mT (f + 1) x m (op :: rest) v r)
    (h_nil : ∀ (f : Nat) (y : Expr) (p : Int), mH (f + 1) y p [] y [])
    (h_stop : ∀ (f : Nat) (y : Expr) (p : Int) (op : Token) (rest : List Token),
      precOf op.kind < 0 ∨ precOf op.kind ≤ p → mH (f + 1) y p (op :: rest) y (op :: rest))
    (h_go : ∀ (f : Nat) (y : Expr) (p : Int) (op : Token) (rest : List Token) (v1 : Expr)
      (rest1 : List Token) (v : Expr) (r : List Token), ¬(precOf op.kind < 0 ∨ precOf op.kind ≤ p) →
      mT f y (p + 1) (op :: rest) v1 rest1 → mH f v1 p rest1 v r → mH (f + 1) y p (op :: rest) v r)
    (u_sign : ∀ (f : Nat) (t : Token) (rest : List Token) (v : Expr) (r : List Token),
      t.kind = .plus ∨ t.kind = .minus → mP f rest v r →
      mU (f + 1) (t :: rest) (.unary t.span t.kind v) r)
    (u_plain : ∀ (f : Nat) (t : Token) (rest : List Token) (v : Expr) (r : List Token),
      ¬(t.kind = .plus ∨ t.kind = .minus) → mP f (t :: rest) v r → mU (f + 1) (t :: rest) v r)
    (p_plain : ∀ (f : Nat) (ts : List Token) (v : Expr) (rest : List Token), mI f ts v rest →
      (∀ t rest', rest = t :: rest' → t.kind ≠ .lbracket) → mP (f + 1) ts v rest)
    (p_index : ∀ (f : Nat) (ts : List Token) (v : Expr) (t : Token) (rest : List Token) (vi : Expr)
      (rb : Token) (rest2 : List Token), mI f ts v (t :: rest) → t.kind = .lbracket →
      (split .rbracket rest).2 = rb :: rest2 → rb.kind = .rbracket →
      mE f (split .rbracket rest).1 vi [] → mP (f + 1) ts (.index v t.span vi rb.span) rest2)
    (i_lit : ∀ (f : Nat) (t : Token) (rest : List Token), t.kind = .number ∨ t.kind = .string →
      mI (f + 1) (t :: rest) (.lit t.span t.kind t.value) rest)
    (i_ident : ∀ (f : Nat) (t : Token) (rest : List Token) (q : PRes (List Ident)),
      t.kind = .ident → pQualTail c (rest.length + 1) [⟨t.value, t.span, false⟩] rest = q →
      NotCall q → q.errs = [] → mI (f + 1) (t :: rest) (.qident q.val) q.rest)
    (i_call0 : ∀ (f : Nat) (t : Token) (rest : List Token) (q : PRes (List Ident)) (lp : Token)
      (rest2 : List Token) (rp : Token) (rest3 : List Token), t.kind = .ident →
      pQualTail c (rest.length + 1) [⟨t.value, t.span, false⟩] rest = q → q.errs = [] →
      ¬q.val.length > 1 → q.rest = lp :: rest2 → lp.kind = .lparen →
      (split .rparen rest2).1 = [] → (split .rparen rest2).2 = rp :: rest3 → rp.kind = .rparen →
      mI (f + 1) (t :: rest) (.call ⟨t.value, t.span, false⟩ lp.span .nil rp.span) rest3)
    (i_call : ∀ (f : Nat) (t : Token) (rest : List Token) (q : PRes (List Ident)) (lp : Token)
      (rest2 : List Token) (vl : ExprList) (restA : List Token) (rp : Token) (rest3 : List Token),
      t.kind = .ident → pQualTail c (rest.length + 1) [⟨t.value, t.span, false⟩] rest = q →
      q.errs = [] → ¬q.val.length > 1 → q.rest = lp :: rest2 → lp.kind = .lparen →
      mL f (split .rparen rest2).1 vl restA →
      (restA = [] ∨ ∃ cm, restA = [cm] ∧ cm.kind = .comma) →
      (split .rparen rest2).2 = rp :: rest3 → rp.kind = .rparen →
      mI (f + 1) (t :: rest) (.call ⟨t.value, t.span, false⟩ lp.span vl rp.span) rest3)
    (i_qident : ∀ (f : Nat) (t : Token) (rest : List Token) (q : PRes (List Ident)),
      t.kind = .qident → pQualTail c (rest.length + 1) [⟨t.value, t.span, true⟩] rest = q →
      q.errs = [] → mI (f + 1) (t :: rest) (.qident q.val) q.rest)
    (i_paren : ∀ (f : Nat) (t : Token) (rest : List Token) (vx : Expr) (rp : Token)
      (rest2 : List Token), t.kind = .lparen → (split .rparen rest).2 = rp :: rest2 →
      rp.kind = .rparen → mE f (split .rparen rest).1 vx [] →
      mI (f + 1) (t :: rest) (.paren t.span vx rp.span) rest2)
    (l_tail : ∀ (f : Nat) (ts : List Token) (v : Expr) (rest : List Token) (vl : ExprList)
      (restl : List Token), mE f ts v rest → mLT f (.cons v .nil) rest vl restl →
      mL (f + 1) ts vl restl)
    (lt_nil : ∀ (f : Nat) (acc : ExprList), mLT (f + 1) acc [] acc [])
    (lt_stop : ∀ (f : Nat) (acc : ExprList) (t : Token) (rest : List Token), t.kind ≠ .comma →
      mLT (f + 1) acc (t :: rest) acc (t :: rest))
    (lt_back : ∀ (f : Nat) (acc : ExprList) (t : Token) (rest : List Token), t.kind = .comma →
      isNF (pExpr c f rest).errs = true → mLT (f + 1) acc (t :: rest) acc (t :: rest))
    (lt_more : ∀ (f : Nat) (acc : ExprList) (t : Token) (rest : List Token) (v : Expr)
      (rest1 : List Token) (vl : ExprList) (restl : List Token), t.kind = .comma →
      mE f rest v rest1 → mLT f (pushArg acc v) rest1 vl restl →
      mLT (f + 1) acc (t :: rest) vl restl) :
    ∀ f, ExprHolds c
      (fun f ts r => r.errs = [] → mE f ts r.val r.rest)
      (fun f x m acc ts r => r.errs = [] → acc = [] ∧ mT f x m ts r.val r.rest)
      (fun f y p acc ts r => r.errs = [] → acc = [] ∧ mH f y p ts r.val r.rest)
      (fun f ts r => r.errs = [] → mU f ts r.val r.rest)
      (fun f ts r => r.errs = [] → mP f ts r.val r.rest)
      (fun f ts r => r.errs = [] → mI f ts r.val r.rest)
      (fun f ts r => r.errs = [] → mL f ts r.val r.rest)
      (fun f acc ts r => r.errs = [] → mLT f acc ts r.val r.rest) f := by
  apply expr_induct
  case e_fuel | u_fuel | p_fuel | i_fuel | l_fuel => intro _ h; exact absurd h (List.cons_ne_nil _ _)
  case lt_fuel => intro _ _ h; exact absurd h (List.cons_ne_nil _ _)
  case t_fuel | h_fuel => intro _ _ _ _ h; exact absurd (app_nil h).2 (List.cons_ne_nil _ _)
  case e_nf => intro f ts r1 _ _ hn h; exact absurd h (ne_nil_of_isNF hn)
  case e_trail =>
    intro f ts r1 r2 _ h1 _ _ h2 h
    exact e_ok f ts _ _ _ _ (h1 (app_nil h).1) (h2 (app_nil h).2).2
  case t_nil => intro f x m acc h; exact ⟨h, t_nil f x m⟩
  case t_stop => intro f x m acc op rest hg h; exact ⟨h, t_stop f x m op rest hg⟩
  case t_inEof => intro _ _ _ _ _ _ _ h; exact absurd (app_nil h).2 (List.cons_ne_nil _ _)
  case t_inNoParen => intro _ _ _ _ _ _ _ _ _ _ h; exact absurd (app_nil h).2 (List.cons_ne_nil _ _)
  case t_inOpen =>
    intro f x m acc op lp rest2 rl cl _ _ _ hs _ _ hcl h
    obtain ⟨rp, rest3, hs', -, -⟩ := closeSplit_closed hcl (app_nil h).2
    rw [hs] at hs'; cases hs'
  case t_inList =>
    intro f x m acc op lp rest2 rl cl res hg hk hl hs _ ihl hcl _ ih h
    obtain ⟨hacc, hres⟩ := ih h
    obtain ⟨h1, h2⟩ := app_nil hacc
    obtain ⟨h3, h4⟩ := app_nil h1
    have hrl := ihl ((mkOpaque_eq_nil _).mp h4)
    rw [(endSplit_eq_nil _).mp h2] at hrl
    rcases split_snd .rparen rest2 with hs' | ⟨rp, rest3, hs', hrp⟩
    · exact absurd hs' hs
    · rw [← hcl, closeSplit_close hs'] at hres
      exact ⟨h3, t_inList f x m op lp rest2 _ rp rest3 _ _ hg hk hl hs' hrp hrl hres⟩
  case t_binary =>
    intro f x m acc op rest ry rh res hg hk _ ihu _ ihh _ ih h
    obtain ⟨hrh, hres⟩ := ih h
    obtain ⟨hacc, hh⟩ := ihh hrh
    obtain ⟨h1, h2⟩ := app_nil hacc
    exact ⟨h1, t_binary f x m op rest _ _ _ _ _ _ hg hk (ihu ((mkOpaque_eq_nil _).mp h2)) hh hres⟩
  case h_nil => intro f y p acc h; exact ⟨h, h_nil f y p⟩
  case h_stop => intro f y p acc op rest hg h; exact ⟨h, h_stop f y p op rest hg⟩
  case h_go =>
    intro f y p acc op rest r res hg _ iht _ ih h
    obtain ⟨hacc, hres⟩ := ih h
    obtain ⟨h1, h2⟩ := app_nil hacc
    exact ⟨h1, h_go f y p op rest _ _ _ _ hg (iht ((mkOpaque_eq_nil _).mp h2)).2 hres⟩
  case u_nil | i_nil => intro _ h; exact absurd h (List.cons_ne_nil _ _)
  case u_sign => intro f t rest r hg _ ih h; exact u_sign f t rest _ _ hg (ih ((mkOpaque_eq_nil _).mp h))
  case u_plain => intro f t rest r hg _ ih h; exact u_plain f t rest _ _ hg (ih h)
  case p_err => intro f ts r _ _ he h; exact absurd h he
  case p_plain => intro f ts r _ ih he hb _; exact p_plain f ts _ _ (ih he) hb
  case p_index =>
    intro f ts r t rest ri cl _ ih he hrest hk _ ihi hcl h
    obtain ⟨h1, h2⟩ := app_nil h
    obtain ⟨h3, h4⟩ := app_nil h1
    obtain ⟨rb, rest2, hs, hrb, rfl⟩ := closeSplit_closed hcl h2
    have hi := ihi ((mkOpaque_eq_nil _).mp h3)
    rw [(endSplit_eq_nil _).mp h4] at hi
    exact p_index f ts _ t rest _ rb rest2 (hrest ▸ ih he) hk hs hrb hi
  case i_lit => intro f t rest hg _; exact i_lit f t rest hg
  case i_ident => intro f t rest q hk hq hn h; exact i_ident f t rest q hk hq hn h
  case i_call =>
    intro f t rest q lp rest2 ra cl hk hq he hl hr hlp hra ih hcl h
    obtain ⟨h1, h2⟩ := app_nil h
    obtain ⟨rp, rest3, hs, hrp, rfl⟩ := closeSplit_closed hcl h2
    cases hnf : isNF ra.errs
    · -- an argument list, and at most a comma after it
      rw [callArgErrs_of_not_nf hnf] at h1
      obtain ⟨h3, h4⟩ := app_nil h1
      exact i_call f t rest q lp rest2 _ _ rp rest3 hk hq he hl hr hlp (ih h3)
        (callArgRest_cases
          (motive := fun l => l = [] → (ra.rest = [] ∨ ∃ cm, ra.rest = [cm] ∧ cm.kind = .comma)) ra
          Or.inl (fun cm more _ hrest hc hm => Or.inr ⟨cm, hm ▸ hrest, hc⟩) ((endSplit_eq_nil _).mp h4)) hs hrp
    · -- not found: no arguments, nothing consumed
      rw [callArgErrs_nf hnf] at h1
      obtain ⟨hv, hrest⟩ := (nf_expr c f).exprList _ (hra ▸ hnf)
      rw [hra] at hv hrest
      rw [hv]
      exact i_call0 f t rest q lp rest2 rp rest3 hk hq he hl hr hlp (hrest ▸ (endSplit_eq_nil _).mp h1) hs hrp
  case i_qident => intro f t rest q hk hq h; exact i_qident f t rest q hk hq h
  case i_paren =>
    intro f t rest rx cl hk _ ih hcl h
    obtain ⟨h1, h2⟩ := app_nil h
    obtain ⟨h3, h4⟩ := app_nil h1
    obtain ⟨rp, rest2, hs, hrp, rfl⟩ := closeSplit_closed hcl h2
    have hx := ih ((mkOpaque_eq_nil _).mp h3)
    rw [(endSplit_eq_nil _).mp h4] at hx
    exact i_paren f t rest _ rp rest2 hk hs hrp hx
  case i_other => intro _ _ _ _ _ _ _ h; exact absurd h (List.cons_ne_nil _ _)
  case l_err => intro f ts r _ _ he h; exact absurd h he
  case l_tail => intro f ts r res _ ih he _ iht h; exact l_tail f ts _ _ _ _ (ih he) (iht h)
  case lt_nil => intro f acc _; exact lt_nil f acc
  case lt_stop => intro f acc t rest hk _; exact lt_stop f acc t rest hk
  case lt_back => intro f acc t rest r hk hr _ hn _; exact lt_back f acc t rest hk (hr ▸ hn)
  case lt_err => intro f acc t rest r _ _ _ _ he h; exact absurd ((mkOpaque_eq_nil _).mp h) he
  case lt_more =>
    intro f acc t rest r res hk _ ih he _ iht h
    exact lt_more f acc t rest _ _ _ _ hk (ih he) (iht h)

end Pql
