import Lean.Meta.Tactic.Simp.RegisterCommand
/-- the equations that run `WriteIR.exec` on symbolic data (Props/C05WriteIR.lean) -/
register_simp_attr writeIR
