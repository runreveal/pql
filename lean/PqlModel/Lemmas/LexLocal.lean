/-
Locality of the two parts of a scanner step that the grammar's regular expressions do not describe:
the decoding of a rune and the body of a quoted name.  A rune decoded from `x ++ y` that does not
run past `x` is the rune decoded from `x`, and a multi-byte decode never reads past an ASCII byte;
likewise for `qidentLoop`.  The other token classes: Lemmas/LexGrammar.lean.  Also the `cons` equations
of the two quoting loops.
-/
import PqlModel.Lemmas.LexBasic
namespace Pql

theorem qidentLoop_cons (c : UInt8) (rest : Bytes) :
    qidentLoop (c :: rest) =
      if c == 96 then
        match rest with
        | [] => .closed [] 1
        | d :: rest' => if d == 96 then (qidentLoop rest').shift 2 (some 96) else .closed [] 1
      else if c == 10 then .bad 0
      else (qidentLoop rest).shift 1 (some c) := by
  cases rest <;> simp [qidentLoop]

theorem qidentLoop_width_zero (s : Bytes) (h : (qidentLoop s).width = 0) : qidentLoop s = .bad 0 := by
  revert h
  fun_cases qidentLoop s <;> simp

theorem qidentLoop_append (x y : Bytes) (h : (qidentLoop (x ++ y)).width ≤ x.length) :
    qidentLoop (x ++ y) = qidentLoop x := by
  fun_induction qidentLoop x with
  | case1 => exact qidentLoop_width_zero y (Nat.le_zero.mp h)
  | case2 c hc =>
    cases y with
    | nil => simp [qidentLoop, hc]
    | cons d y =>
      simp only [List.cons_append, List.nil_append, List.length_cons, List.length_nil,
        qidentLoop, hc, if_true] at h ⊢
      split at h <;> simp_all
  | case3 c hc d rest' hd ih =>
    simp only [List.cons_append, List.length_cons, qidentLoop, hc, hd, if_true,
      QRes.width_shift] at h ⊢
    rw [ih (by omega)]
  | case4 c hc d rest' hd =>
    simp [qidentLoop, hc, hd]
  | case5 c rest hc hc' =>
    simp [qidentLoop_cons, hc, hc']
  | case6 c rest hc hc' ih =>
    simp only [List.cons_append, List.length_cons, qidentLoop_cons, hc, hc', Bool.false_eq_true, ↓reduceIte,
      QRes.width_shift] at h ⊢
    rw [ih (by simpa using h)]

theorem stringLoop_cons (q c : UInt8) (rest : Bytes) :
    stringLoop q (c :: rest) =
      if c == q then .closed [] 1
      else if c == 10 then .bad 0
      else if c == 92 then
        match rest with
        | [] => .bad 1
        | e :: rest' =>
          if e == 10 then .bad 1
          else
            (stringLoop q rest').shift 2 (some (if e == 110 then 10 else if e == 116 then 9 else e))
      else (stringLoop q rest).shift 1 (some c) := by
  cases rest <;> simp [stringLoop]

theorem decodeMulti_append_some (n0 : Nat) (x y : Bytes) (r w : Nat)
    (h : decodeMulti n0 (x ++ y) = some (r, w)) (hw : w ≤ x.length + 1) :
    decodeMulti n0 x = some (r, w) := by
  obtain ⟨bs, tl, hxy, rfl, -, -, hbs⟩ := decodeMulti_some h
  -- `bs` is a prefix of `x ++ y` no longer than `x`, hence a prefix of `x`
  have hb : x.take bs.length = bs := by
    have := congrArg (List.take bs.length) hxy
    rwa [List.take_append_of_le_length (by omega), List.take_left] at this
  rw [← List.take_append_drop bs.length x, hb]; exact hbs _

theorem decodeMulti_append_mono (n0 : Nat) (x y : Bytes) (rw : Nat × Nat)
    (h : decodeMulti n0 x = some rw) : decodeMulti n0 (x ++ y) = some rw := by
  obtain ⟨bs, tl, rfl, -, -, -, hbs⟩ := decodeMulti_some h
  rw [List.append_assoc]; exact hbs _

theorem decodeRune_append (x y : Bytes) (h : (decodeRune (x ++ y)).2 ≤ x.length) :
    decodeRune (x ++ y) = decodeRune x := by
  cases x with
  | nil =>
    cases y with
    | nil => rfl
    | cons b y => have := decodeRune_width_pos b y; simp at h; omega
  | cons b x =>
    simp only [List.cons_append, decodeRune_cons, List.length_cons] at h ⊢
    split
    · rfl
    · rename_i hb
      simp only [hb, if_false] at h
      cases hm : decodeMulti b.toNat (x ++ y) with
      | some rw =>
        obtain ⟨r, w⟩ := rw
        rw [hm] at h
        rw [decodeMulti_append_some _ x y r w hm (by simpa using h)]
      | none =>
        cases hx : decodeMulti b.toNat x with
        | none => rfl
        | some rw => rw [decodeMulti_append_mono _ x y rw hx] at hm; cases hm

theorem decodeRune_stop {b : UInt8} (hb : b.toNat < 0x80) (c : UInt8) (x y : Bytes) :
    (decodeRune (c :: x ++ b :: y)).2 ≤ x.length + 1 := by
  simp only [List.cons_append, decodeRune_cons]
  split
  · simp
  · cases hm : decodeMulti c.toNat (x ++ b :: y) with
    | none => simp
    | some rw =>
      obtain ⟨bs, tl, he, hw, _, hbs, _⟩ := decodeMulti_some (r := rw.1) (w := rw.2) hm
      show rw.2 ≤ x.length + 1
      refine Nat.le_of_not_lt fun hlt => ?_
      -- otherwise `b` is one of the bytes read, none of which is ASCII
      have h1 : (bs ++ tl)[x.length]? = some b := by rw [← he]; simp
      rw [List.getElem?_append_left (by omega)] at h1
      have := hbs b (List.mem_of_getElem? h1)
      omega

theorem scanNonAscii_append (x y : Bytes) (h : (scanNonAscii (x ++ y)).width ≤ x.length) :
    scanNonAscii (x ++ y) = scanNonAscii x := by
  unfold scanNonAscii at h ⊢
  have hw : (decodeRune (x ++ y)).2 ≤ x.length := by
    simp only [Step.skip, Step.sym] at h
    split at h <;> simpa using h
  rw [decodeRune_append x y hw]

theorem scanQuotedIdent_append (c : UInt8) (x y : Bytes)
    (h : (scanQuotedIdent (c :: x ++ y)).width ≤ x.length + 1) :
    scanQuotedIdent (c :: x ++ y) = scanQuotedIdent (c :: x) := by
  have hw : (qidentLoop (x ++ y)).width ≤ x.length := by
    simp only [scanQuotedIdent, List.cons_append, List.tail_cons] at h
    split at h <;> simp_all
  simp only [scanQuotedIdent, List.cons_append, List.tail_cons, qidentLoop_append x y hw]

end Pql
