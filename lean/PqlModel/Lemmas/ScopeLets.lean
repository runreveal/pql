/-
Several lets: the scope the statement loop builds, against the environment `resolveLets`
builds (every value resolved in the environment before it).
The equations about a tree map (`substExpr` here, `mapE` in the Shape files) are direct mutual recursions that follow
the map's own case split, so that `paren | unary` and `binary | index` are one alternative each; the `ExprTreeAlg`
tables (`subst_alg`, `of_let_alg`, `agree_alg`, `mapE_alg`) are for motives that treat every constructor differently.
-/
import PqlModel.Lemmas.ScopeMode
import PqlModel.Lemmas.StmtLoop
namespace Pql
open CompileOracle

namespace RT

mutual
theorem idents_substEnv_any (a : Bytes) (env : List (Bytes × Expr))
    (hv : ∀ kv ∈ env, (kv.1 == a) = false ∧ IdsFree a (exprIdents kv.2)) :
    (e : Expr) → (exprIdents (substExpr env e)).any (·.name == a) = (exprIdents e).any (·.name == a)
  | .paren _ x _ | .unary _ _ x => by
    simp only [substExpr, exprIdents]
    exact idents_substEnv_any a env hv x
  | .qident [p] => by
    simp only [substExpr]
    cases hq : p.quoted with
    | true => rfl
    | false =>
      cases hf : env.find? (·.1 == p.name) with
      | none => rfl
      | some kv =>
        obtain ⟨h1, h2⟩ := hv _ (List.mem_of_find?_eq_some hf)
        have hp := List.find?_some hf
        rw [eq_of_beq hp] at h1
        simp only [Bool.false_eq_true, if_false, exprIdents, List.any_cons, List.any_nil, Bool.or_false, h1]
        exact h2
  | .qident [] | .qident (_ :: _ :: _) | .nil | .lit .. => by simp only [substExpr]
  | .binary x _ _ y | .index x _ y _ => by
    simp only [substExpr, exprIdents, List.any_append, idents_substEnv_any a env hv x, idents_substEnv_any a env hv y]
  | .inE x _ _ vals _ => by
    simp only [substExpr, exprIdents, List.any_append, idents_substEnv_any a env hv x, identsL_substEnv_any a env hv vals]
  | .call _ _ args _ => by
    simp only [substExpr, exprIdents]
    exact identsL_substEnv_any a env hv args
theorem identsL_substEnv_any (a : Bytes) (env : List (Bytes × Expr))
    (hv : ∀ kv ∈ env, (kv.1 == a) = false ∧ IdsFree a (exprIdents kv.2)) :
    (es : ExprList) → (exprListIdents (substList env es)).any (·.name == a) = (exprListIdents es).any (·.name == a)
  | .nil => by simp only [substList]
  | .cons e es => by
    simp only [substList, exprListIdents, List.any_append, idents_substEnv_any a env hv e, identsL_substEnv_any a env hv es]
end

end RT

theorem identsL_subst_any (a n : Bytes) (v : Expr) (hn : (n == a) = false) (hv : IdsFree a (exprIdents v)) :
    (es : ExprList) → (exprListIdents (substList [(n, v)] es)).any (·.name == a) = (exprListIdents es).any (·.name == a) :=
  RT.identsL_substEnv_any a [(n, v)] (List.forall_mem_singleton.2 ⟨hn, hv⟩)

theorem hasJoinTerms_subst {n : Bytes} {v : Expr} (hl : (n == leftAlias) = false) (hr : (n == rightAlias) = false)
    (hv : AliasFree v) (x : Expr) : hasJoinTerms (substExpr [(n, v)] x) = hasJoinTerms x := by
  unfold hasJoinTerms
  dsimp only
  rw [RT.idents_substEnv_any leftAlias [(n, v)] (List.forall_mem_singleton.2 ⟨hl, hv.1⟩) x,
    RT.idents_substEnv_any rightAlias [(n, v)] (List.forall_mem_singleton.2 ⟨hr, hv.2⟩) x]

mutual
theorem substExpr_nil : (e : Expr) → substExpr [] e = e
  | .paren _ x _ | .unary _ _ x => by simp only [substExpr, substExpr_nil x]
  | .qident [p] => by
    simp only [substExpr, List.find?_nil]
    split <;> rfl
  | .qident [] | .qident (_ :: _ :: _) | .nil | .lit .. => by simp only [substExpr]
  | .binary x _ _ y | .index x _ y _ => by simp only [substExpr, substExpr_nil x, substExpr_nil y]
  | .inE x _ _ vals _ => by simp only [substExpr, substExpr_nil x, substList_nil vals]
  | .call _ _ args _ => by simp only [substExpr, substList_nil args]
theorem substList_nil : (es : ExprList) → substList [] es = es
  | .nil => by simp only [substList]
  | .cons e es => by simp only [substList, substExpr_nil e, substList_nil es]
end

mutual
theorem substExpr_comp (env : List (Bytes × Expr)) (n : Bytes) (v : Expr) :
    (e : Expr) → substExpr env (substExpr [(n, v)] e) = substExpr ((n, substExpr env v) :: env) e
  | .paren _ x _ | .unary _ _ x => by simp only [substExpr, substExpr_comp env n v x]
  | .qident [p] => by
    cases hq : p.quoted with
    | true => simp only [substExpr, hq, if_true]
    | false =>
      cases hnp : n == p.name with
      | false =>
        simp only [substExpr, hq, hnp, Bool.false_eq_true, if_false, List.find?_cons, List.find?_nil]
      | true =>
        simp only [substExpr, hq, hnp, Bool.false_eq_true, if_false, List.find?_cons]
  | .qident [] | .qident (_ :: _ :: _) | .nil | .lit .. => by simp only [substExpr]
  | .binary x _ _ y | .index x _ y _ => by simp only [substExpr, substExpr_comp env n v x, substExpr_comp env n v y]
  | .inE x _ _ vals _ => by simp only [substExpr, substExpr_comp env n v x, substList_comp env n v vals]
  | .call _ _ args _ => by simp only [substExpr, substList_comp env n v args]
theorem substList_comp (env : List (Bytes × Expr)) (n : Bytes) (v : Expr) :
    (es : ExprList) → substList env (substList [(n, v)] es) = substList ((n, substExpr env v) :: env) es
  | .nil => by simp only [substList]
  | .cons e es => by simp only [substList, substExpr_comp env n v e, substList_comp env n v es]
end

theorem stripOcc_bare (v : Expr) (bv : List Chunk) : StripOcc bv (wrapTight v bv) bv := by
  unfold wrapTight wrapMaybe
  split
  · exact .strip
  · split
    · exact .strip
    · exact .refl _

theorem stripOcc_maybe (v : Expr) (bv : List Chunk) : StripOcc bv (wrapTight v bv) (wrapMaybe v bv) := by
  cases hs : isSigned v with
  | true =>
    have e1 : wrapTight v bv = parenthesise bv := by simp only [wrapTight, hs, if_true]
    have e2 : wrapMaybe v bv = bv := by simp [wrapMaybe, needsWrap_of_isSigned v hs]
    rw [e1, e2]
    exact .strip
  | false =>
    have e1 : wrapTight v bv = wrapMaybe v bv := by simp [wrapTight, hs]
    rw [e1]
    exact .refl _

def JoinSafe (m : Mode) (n : Bytes) (v : Expr) : Prop :=
  m = .join → (n == leftAlias) = false ∧ (n == rightAlias) = false ∧ AliasFree v

theorem substHyp_stripOcc {src : Bytes} {s : Scope} {m : Mode} {n : Bytes} {v : Expr} {bv : List Chunk}
    (hlet : writeExpr ⟨src, s, .let_⟩ v = .ok bv) (hj : JoinSafe m n v) :
    SubstHyp (StripOcc bv) src s m n v bv where
  cong := StripOcc.cong bv
  hv := writeExpr_of_let v (fun hm => (hj hm).2.2) bv hlet
  bare := stripOcc_bare v bv
  maybe := stripOcc_maybe v bv
  join := fun hm => hasJoinTerms_subst (hj hm).1 (hj hm).2.1 (hj hm).2.2

/-- the environment `resolveLets` has accumulated when it reaches the query -/
def letsEnv : List Stmt → List (Bytes × Expr) → List (Bytes × Expr)
  | .let_ _ (some n) _ x :: rest, env => letsEnv rest ((n.name, substExpr env x) :: env)
  | _, env => env

def LetsJoinSafe (m : Mode) (lets : List Stmt) : Prop :=
  ∀ st ∈ lets, ∀ kw n a x, st = Stmt.let_ kw (some n) a x → JoinSafe m n.name x

theorem resolveLets_lets (t : Tabular) : (lets : List Stmt) → (env : List (Bytes × Expr)) → IsLets lets →
    (∀ st ∈ lets, ∀ kw a x, st ≠ Stmt.let_ kw none a x) →
    resolveLets (lets ++ [.tabular t]) env = some (substTabular (letsEnv lets env) t)
  | [], env, _, _ => by simp only [List.nil_append, resolveLets, letsEnv]
  | .tabular _ :: _, _, h, _ => by
    obtain ⟨_, _, _, _, h⟩ := h _ (List.mem_cons_self)
    cases h
  | .let_ kw none a x :: _, _, _, h => absurd rfl (h _ (List.mem_cons_self) kw a x)
  | .let_ _ (some n) _ x :: rest, env, h, h' => by
    simp only [List.cons_append, resolveLets, letsEnv]
    exact resolveLets_lets t rest _ (fun st hst => h st (List.mem_cons_of_mem _ hst))
      (fun st hst => h' st (List.mem_cons_of_mem _ hst))

def WriteRel (src : Bytes) (sc s0 : Scope) (env : List (Bytes × Expr)) (m : Mode) : Prop :=
  ∀ e, ExRel EqUpToParens (writeExpr ⟨src, sc, m⟩ e) (writeExpr ⟨src, s0, m⟩ (substExpr env e))

theorem writeRel_init (src : Bytes) (s0 : Scope) (m : Mode) : WriteRel src s0 s0 [] m := by
  intro e
  rw [substExpr_nil]
  exact ExRel.refl' EqUpToParens.refl _

theorem writeRel_step {src : Bytes} {s0 : Scope} {m : Mode} {sc : Scope} {env : List (Bytes × Expr)}
    (hinv : WriteRel src sc s0 env m) {n : Bytes} {v : Expr} {bv : List Chunk}
    (hlet : writeExpr ⟨src, sc, .let_⟩ v = .ok bv) (hj : JoinSafe m n v) :
    WriteRel src ((n, wrapTight v bv) :: sc) s0 ((n, substExpr env v) :: env) m := by
  intro e
  have h1 := (subst_expr_rel (substHyp_stripOcc hlet hj) e).mono fun _ _ h => h.eqUpToParens
  have h2 := hinv (substExpr [(n, v)] e)
  rw [substExpr_comp] at h2
  exact ExRel.trans' (R := EqUpToParens) (fun _ _ _ hab hbc => EqUpToParens.trans hab hbc) h1 h2

theorem lets_writeRel {src : Bytes} {s0 : Scope} {m : Mode} {lets : List Stmt} (hjs : LetsJoinSafe m lets)
    {sc : Scope} {env : List (Bytes × Expr)} {r : Scope × Option Tabular}
    (hinv : WriteRel src sc s0 env m) (h : compileStmts src lets sc none = .ok r) :
    WriteRel src r.1 s0 (letsEnv lets env) m :=
  compileStmts_induct src
    (motive := fun lets sc r => ∀ env, LetsJoinSafe m lets → WriteRel src sc s0 env m →
      WriteRel src r.1 s0 (letsEnv lets env) m)
    (fun _ _ _ hinv => hinv) (fun _ _ _ _ hinv => hinv)
    (fun kw n a x _ hw ih _ hjs hinv =>
      ih _ (fun st hst => hjs st (List.mem_cons_of_mem _ hst))
        (writeRel_step hinv hw (hjs _ List.mem_cons_self kw n a x rfl)))
    h env hjs hinv

end Pql
