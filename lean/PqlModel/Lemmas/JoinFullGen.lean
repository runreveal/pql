/-
What a run of `splitOpsA` does to the block it works on (`RunRes`), for ARBITRARY operator lists — any
number of joins, nested to any depth — by induction over the run (`C05.RunA.res`): a step is
`place_res`, a join is the run of its right-hand pipeline from the empty block, closed (`close_res`),
and the join link (`join_sem`).  The meaning is that of the block's LAST link (`val`), so only the names
in front of it have to be fresh: for a join-free list nothing else is asked (`block_joinFree`).

A join-free block placed anywhere (`block_joinFree`: the value of its last link is the pipeline's meaning;
`BlockSem_joinFree` is its reading by name); the statement of a chain evaluates to the value of its last
link (`evalStatement_val`).
-/
import PqlModel.Lemmas.JoinFullNames
namespace Pql.JoinFull
open Pql Sql CompileOracle Intended SplitQ SelSem C02

theorem lookupTable_append_stable (db : DB) (E more : List (Bytes × Table)) (n : Bytes)
    (h : n ∈ E.map (·.1) ∨ n ∉ more.map (·.1)) : lookupTable db (E ++ more) n = lookupTable db E n := by
  rcases h with h | h
  · exact JoinSem.lookupTable_append_of_mem db E more n h
  · simp [lookupTable, List.find?_append, JoinSem.find?_name_none h]

theorem opsTablesOf_cons (o : Op) (rest : OpList) (hj : isJoin o = false) :
    C05.opsTablesOf (.cons o rest) = C05.opsTablesOf rest := by
  cases o <;> first | (simp [isJoin] at hj; done) | (simp only [C05.opsTablesOf])

theorem opsHaveSources_cons (o : Op) (rest : OpList) (hj : isJoin o = false) :
    C05.opsHaveSources (.cons o rest) = C05.opsHaveSources rest := by
  cases o <;> first | (simp [isJoin] at hj; done) | (simp only [C05.opsHaveSources])

theorem opsHaveSources_joinFree : ∀ (a : OpList), joinFree a = true → C05.opsHaveSources a = true
  | .nil, _ => by simp only [C05.opsHaveSources]
  | .cons o rest, h => by
    obtain ⟨hj, h⟩ := joinFree_cons_iff.1 h
    rw [opsHaveSources_cons o rest hj]
    exact opsHaveSources_joinFree rest h

theorem opsTablesOf_joinFree : ∀ (a : OpList), joinFree a = true → C05.opsTablesOf a = []
  | .nil, _ => by simp only [C05.opsTablesOf]
  | .cons o rest, h => by
    obtain ⟨hj, h⟩ := joinFree_cons_iff.1 h
    rw [opsTablesOf_cons o rest hj]
    exact opsTablesOf_joinFree rest h

/-- what a run of the intended splitting over `ops` (joins included) makes of the block `N` (behind `k` earlier
    links) of `source | …`: `StepRes` along the run.  `nm` and `mem` are the bookkeeping of names behind `namesOk`
    (`NamesP`: the names so far are distinct, the generated-looking ones below the index; `NamesQ`: the `as` names
    still to come are new); they depend on neither `src` nor `db`. -/
structure RunRes (src : Bytes) (db : DB) (source : Option Ident) (k : Nat) (N N' : List SubA) (ops : OpList) : Prop where
  ne : ops ≠ .nil → N' ≠ []
  len : N.length ≤ N'.length
  names : ∃ extra, N'.map (·.name) = N.map (·.name) ++ extra
  ok : (∀ a ∈ N, linkOk a = true) → opsOkJ (openJoinL N) ops = true → ∀ a ∈ N', linkOk a = true
  tbl : joinFree ops = true → (∀ a ∈ N, isJoinSrc a.source = false) → ∀ a ∈ N', isJoinSrc a.source = false
  /-- only the names in front of the last link have to be fresh, and no table a right-hand pipeline reads
      may be among them; the source of an empty block is looked up by the first link — for a join, that is
      behind the links of its right-hand side -/
  sem : ∀ E : List (Bytes × Table), FreshNames E (N'.dropLast.map (·.name)) → C05.opsHaveSources ops = true →
      (∀ n ∈ C05.opsTablesOf ops, n ∉ E.map (·.1) ++ N'.dropLast.map (·.name)) →
      (N = [] → joinFree ops = true ∨ identName source ∉ N'.dropLast.map (·.name)) →
      val src db E source N' = Rel.interpOps src db (val src db E source N) ops
  nm : ∀ base later : List Bytes, NamesP (base ++ N.map (·.name)) (k + N.length) →
      NamesQ (asNamesO ops ++ later) (base ++ N.map (·.name)) →
      NamesP (base ++ N'.map (·.name)) (k + N'.length) ∧ NamesQ later (base ++ N'.map (·.name))
  mem : ∀ n ∈ N'.map (·.name), n ∈ N.map (·.name) ∨ isGeneratedName n = true ∨ n ∈ asNamesO ops

/-- `RunRes` read by name: when the last name is fresh too, the block's value is what its last name is
    bound to (`cur`) -/
structure GenRes (src : Bytes) (db : DB) (source : Option Ident) (k : Nat) (N N' : List SubA) (ops : OpList) : Prop where
  ne : ops ≠ .nil → N' ≠ []
  len : N.length ≤ N'.length
  names : ∃ extra, N'.map (·.name) = N.map (·.name) ++ extra
  ok : (∀ a ∈ N, linkOk a = true) → opsOkJ (openJoinL N) ops = true → ∀ a ∈ N', linkOk a = true
  sem : ∀ E : List (Bytes × Table), FreshNames E (N'.map (·.name)) → C05.opsHaveSources ops = true →
      (∀ n ∈ C05.opsTablesOf ops, n ∉ E.map (·.1) ++ N'.map (·.name)) →
      (N = [] → identName source ∉ N'.map (·.name)) →
      cur src db E source N' = Rel.interpOps src db (cur src db E source N) ops
  nm : ∀ base later : List Bytes, NamesP (base ++ N.map (·.name)) (k + N.length) →
      NamesQ (asNamesO ops ++ later) (base ++ N.map (·.name)) →
      NamesP (base ++ N'.map (·.name)) (k + N'.length) ∧ NamesQ later (base ++ N'.map (·.name))
  mem : ∀ n ∈ N'.map (·.name), n ∈ N.map (·.name) ∨ isGeneratedName n = true ∨ n ∈ asNamesO ops

theorem RunRes.gen {src : Bytes} {db : DB} {source : Option Ident} {k : Nat} {N N' : List SubA} {ops : OpList}
    (r : RunRes src db source k N N' ops) : GenRes src db source k N N' ops := by
  obtain ⟨ex, hn⟩ := r.names
  refine ⟨r.ne, r.len, r.names, r.ok, fun E hfr hs ht hsrc => ?_, r.nm, r.mem⟩
  have hsub : ∀ n ∈ N'.dropLast.map (·.name), n ∈ N'.map (·.name) :=
    fun n h => ((List.dropLast_sublist N').map _).subset h
  rw [cur_eq_val _ _ _ _ _ hfr, cur_eq_val _ _ _ _ _ (by rw [hn] at hfr; exact hfr.prefix)]
  refine r.sem E hfr.dropLast hs (fun n hn' hm => ht n hn' ?_) fun h => .inr fun hm => hsrc h (hsub _ hm)
  rcases List.mem_append.mp hm with h | h
  · exact List.mem_append_left _ h
  · exact List.mem_append_right _ (hsub n h)

theorem subEvalA_bare (src : Bytes) (db : DB) (t : Table) (a : SubA) (h1 : a.op = none) (h2 : a.sort = none)
    (h3 : a.take = none) : subEvalA src db t a = t := by
  simp [subEvalA, subClausesA, opPartA, sortTakeA, h1, h2, h3]

theorem prevNameA_mem (source : Option Ident) (N : List SubA) (h : N ≠ []) :
    C05.prevNameA source N ∈ N.map (·.name) := by
  rw [prevNameA_eq_lastName source N h]; exact JoinSem.lastName_mem N h

theorem interp_mk_val (src : Bytes) (db : DB) (E : List (Bytes × Table)) (source : Option Ident) (ops : OpList)
    (hs : C05.hasSources (.mk source ops) = true) (ht : identName source ∉ E.map (·.1)) :
    Rel.interp src db (.mk source ops) = Rel.interpOps src db (val src db E source []) ops := by
  unfold C05.hasSources at hs
  simp only [Bool.and_eq_true] at hs
  cases source with
  | none => simp at hs
  | some T =>
    rw [JoinSem.interp_mk]
    show _ = Rel.interpOps src db (lookupTable db E T.name) ops
    rw [JoinSem.lookupTable_of_not_mem db E T.name ht]

theorem join_sem (src : Bytes) (db : DB) (E : List (Bytes × Table)) (source rsource : Option Ident) (N R : List SubA)
    (J : SubA) (flavor : Option Ident) (left : Bool) (cond : Expr) (rops : OpList)
    {k : Nat} (hR : RunRes src db rsource k [] R rops) (hne : R ≠ [])
    (hJs : J.source = .join (C05.uniqueOf flavor) left (C05.prevNameA source N) (JoinSem.lastName R) cond)
    (hJ1 : J.op = none) (hJ2 : J.sort = none) (hJ3 : J.take = none)
    (hl : C05.leftOf flavor = some left)
    (hfr : FreshNames E ((N ++ R).map (·.name)))
    (hsrcs : C05.hasSources (.mk rsource rops) = true)
    (htabs : ∀ n ∈ C05.tablesOf (.mk rsource rops), n ∉ E.map (·.1) ++ (N ++ R).map (·.name))
    (hsrc : N = [] → identName source ∉ R.map (·.name)) :
    val src db E source (N ++ R ++ [J]) =
      JoinSem.joinTables (JoinSem.kindOf flavor == Bytes.ofString "innerunique")
        (JoinSem.kindOf flavor == Bytes.ofString "leftouter")
        (val src db E source N) (Rel.interp src db (.mk rsource rops)) cond := by
  rw [val_snoc]
  rw [List.map_append] at hfr
  have hfrR : FreshNames (evalLinks src db E N) (R.map (·.name)) :=
    ⟨hfr.suffix.1, fun n hn => by rw [evalLinks_names]; exact hfr.suffix.2 n hn⟩
  simp only [linkVal, hJs, srcVal, subEvalA_bare src db _ J hJ1 hJ2 hJ3]
  rw [evalLinks_append]
  obtain ⟨more, hmore⟩ := evalLinks_prefix src db R (evalLinks src db E N)
  have hmoreNames : more.map (·.1) = R.map (·.name) := by
    have h1 := evalLinks_names src db R (evalLinks src db E N)
    rw [hmore, List.map_append] at h1
    exact List.append_cancel_left h1
  -- the left side: the block's last name, or its source, is not rebound by the links of `R`
  have hleft : lookupTable db (evalLinks src db (evalLinks src db E N) R) (C05.prevNameA source N) =
      val src db E source N := by
    rw [hmore, ← cur_eq_val src db E source N hfr.prefix]
    apply lookupTable_append_stable
    by_cases hN : N = []
    · right
      subst hN
      rw [hmoreNames]
      exact hsrc rfl
    · left
      rw [evalLinks_names]
      exact List.mem_append_right _ (prevNameA_mem source N hN)
  -- the right side: the run of the right-hand pipeline behind the bindings of `N`
  have hright : lookupTable db (evalLinks src db (evalLinks src db E N) R) (JoinSem.lastName R) =
      Rel.interp src db (.mk rsource rops) := by
    have hnot : ∀ n ∈ C05.tablesOf (.mk rsource rops),
        n ∉ (evalLinks src db E N).map (·.1) ++ R.dropLast.map (·.name) := by
      intro n hn hmem
      apply htabs n hn
      rw [evalLinks_names] at hmem
      simp only [List.map_append, List.mem_append] at hmem ⊢
      rcases hmem with (h | h) | h
      · exact .inl h
      · exact .inr (.inl h)
      · exact .inr (.inr (((List.dropLast_sublist R).map _).subset h))
    unfold C05.tablesOf at hnot
    have hs' := hsrcs
    unfold C05.hasSources at hs'
    simp only [Bool.and_eq_true] at hs'
    rw [← prevNameA_eq_lastName rsource R hne]
    show cur src db (evalLinks src db E N) rsource R = _
    rw [cur_eq_val _ _ _ _ _ hfrR,
      hR.sem _ hfrR.dropLast hs'.2 (fun n hn => hnot n (List.mem_cons_of_mem _ hn))
        (fun _ => .inr fun h => hnot _ (List.mem_cons_self ..) (List.mem_append_right _ h)),
      interp_mk_val src db _ rsource rops hsrcs
        (fun h => hnot _ (List.mem_cons_self ..) (List.mem_append_left _ h))]
  rw [hleft, hright, uniqueOf_eq, leftOf_some hl]

theorem linkOk_joinLink (J : SubA) (hs : isJoinSrc J.source = true) (hJ1 : J.op = none) (hJ2 : J.sort = none) :
    linkOk J = true := by
  simp [linkOk, sortOkA, hJ1, hJ2, hs]

theorem joinLinkA_fields (source : Option Ident) (pre N R : List SubA) (flavor : Option Ident) (left : Bool)
    (conds : ExprList) (hR : R ≠ []) :
    ∃ J, C05.joinLinkA source pre.length (pre ++ N).length (pre ++ N ++ R) flavor left conds = J ∧
      J.source = .join (C05.uniqueOf flavor) left (C05.prevNameA source N) (JoinSem.lastName R)
        (buildJoinCondition conds) ∧
      J.op = none ∧ J.sort = none ∧ J.take = none ∧ J.name = subqueryName (pre ++ N ++ R).length := by
  obtain ⟨R0, r, rfl⟩ := List.eq_nil_or_concat R |>.resolve_left hR
  refine ⟨_, rfl, ?_, rfl, rfl, rfl, rfl⟩
  simp only [C05.joinLinkA, C05.joinLeftA_eq, C05.joinRightA_eq (pre ++ N) (R0 ++ [r]) r (by simp),
    List.concat_eq_append, JoinSem.lastName_snoc]

theorem close_res {src : Bytes} {db : DB} {source : Option Ident} {ops : OpList} {pre N' : List SubA}
    (g : RunRes src db source pre.length [] N' ops) :
    ∃ R, C05.closeA (pre ++ N') pre.length source = pre ++ R ∧ R ≠ [] ∧
      RunRes src db source pre.length [] R ops := by
  unfold C05.closeA
  by_cases hlen : (pre ++ N').length = pre.length
  · have hnil : N' = [] := by simpa using hlen
    subst hnil
    have hops : ops = .nil := by
      cases ops with
      | nil => rfl
      | cons o r => exact absurd rfl (g.ne (by simp))
    subst hops
    simp only [hlen, ↓reduceIte]
    refine ⟨[chainA (pre ++ []) pre.length source], by simp, by simp, fun _ => by simp, by simp, ⟨_, rfl⟩,
      fun _ _ a ha => ?_, fun _ _ a ha => ?_, fun E _ _ _ _ => ?_, fun base later hp hq => ?_, fun n hn => ?_⟩
    · rw [List.mem_singleton.mp ha]; exact linkOk_chainA _ _ _
    · rw [List.mem_singleton.mp ha]; rfl
    · rw [← List.nil_append [chainA _ _ _], val_snoc]
      simp only [linkVal, C05.chainA_source pre [] source, srcVal,
        subEvalA_bare src db _ (chainA (pre ++ []) pre.length source) rfl rfl rfl]
      rfl
    · have hnm : [chainA (pre ++ []) pre.length source].map (·.name) = [subqueryName pre.length] := by
        simp [chainA]
      rw [hnm]
      exact ⟨namesP_fresh (by simpa using hp), NamesQ.fresh (by simpa [asNamesO] using hq) _⟩
    · simp only [chainA, List.map_cons, List.map_nil, List.mem_singleton] at hn
      rw [hn]; exact .inr (.inl (isGeneratedName_subqueryName _))
  · simp only [hlen, ↓reduceIte]
    exact ⟨N', rfl, fun h => hlen (by simp [h]), g⟩

theorem _root_.Pql.C05.RunA.res (src : Bytes) (db : DB) {source : Option Ident} {k : Nat} {dst out : List SubA}
    {ops : OpList} (h : C05.RunA source k dst ops out) :
    ∀ pre N, dst = pre ++ N → pre.length = k → ∃ N', out = pre ++ N' ∧ RunRes src db source k N N' ops := by
  induction h with
  | nil =>
    intro pre N hd _
    exact ⟨N, hd, fun h => absurd rfl h, Nat.le_refl _, ⟨[], by simp⟩, fun h _ => h, fun _ h => h,
      fun E _ _ _ _ => rfl, fun base later hp hq => ⟨hp, by simpa [asNamesO] using hq⟩, fun n hn => .inl hn⟩
  | @step source k dst rest out o ho _ ih =>
    intro pre N hd hp; subst hd; subst hp
    have hj := steps_not_join ho
    obtain ⟨N1, h1, s1⟩ := place_res src db source pre N ho
    obtain ⟨N', rfl, r⟩ := ih pre N1 h1 rfl
    obtain ⟨ex1, hn1, _⟩ := s1.names
    obtain ⟨ex2, hn2⟩ := r.names
    have hlen1 : N.length ≤ N1.length := by
      have := congrArg List.length hn1
      simp at this; omega
    refine ⟨N', rfl, fun _ hN' => ?_, by have := r.len; omega, ⟨ex1 ++ ex2, by rw [hn2, hn1, List.append_assoc]⟩,
      ?_, ?_, ?_, ?_, ?_⟩
    · have hne := s1.ne
      have := r.len
      subst hN'
      cases N1 with
      | nil => exact hne rfl
      | cons => simp at this
    · intro hN hok
      simp only [opsOkJ, Bool.and_eq_true, hj] at hok
      exact r.ok (s1.ok hN hok.1) (by rw [s1.open_]; exact hok.2)
    · intro hjf hN
      exact r.tbl (joinFree_cons_iff.1 hjf).2 (s1.tbl hN)
    · intro E hfr hs ht _
      rw [opsHaveSources_cons o rest hj] at hs
      rw [opsTablesOf_cons o rest hj] at ht
      rw [r.sem E hfr hs ht (fun h => absurd h s1.ne), s1.sem E (hfr.dropLast_of_append hn2), Rel.interpOps]
    · intro base later hp hq
      obtain ⟨hp1, hq1⟩ := step_names s1 hj rest base later hp hq
      exact r.nm base later hp1 hq1
    · intro n hn
      rcases r.mem n hn with h | h | h
      · exact step_names_mem s1 rest n h
      · exact .inr (.inl h)
      · exact .inr (.inr (asNamesO_cons_mem o rest n h))
  | @join source k dst rest out p kw kind ka flavor lp rsource rops rp on conds left mid d hl _ hd' _ ih1 ih2 =>
    intro pre N hd hp; subst hd; subst hp
    obtain ⟨R0, rfl, g0⟩ := ih1 (pre ++ N) [] (by simp) rfl
    obtain ⟨R, hR, hRne, rr⟩ := close_res g0
    rw [hR] at hd'
    subst hd'
    obtain ⟨J, hJ, hJs, hJ1, hJ2, hJ3, hJn⟩ := joinLinkA_fields source pre N R flavor left conds hRne
    obtain ⟨N', rfl, g⟩ := ih2 pre (N ++ R ++ [J]) (by rw [hJ]; simp only [List.append_assoc]) rfl
    obtain ⟨ex2, hn2⟩ := g.names
    have hlenJ := g.len
    simp only [List.length_append, List.length_cons, List.length_nil] at hlenJ
    refine ⟨N', rfl, fun _ hN' => ?_, by omega,
      ⟨R.map (·.name) ++ [J.name] ++ ex2, by rw [hn2]; simp⟩, ?_, fun hjf => by simp [joinFree] at hjf, ?_, ?_, ?_⟩
    · subst hN'; simp at hlenJ
    · intro hN hok
      simp only [opsOkJ, opOkJ, tabOpsOk, Bool.and_eq_true, isJoin] at hok
      apply g.ok
      · intro a ha
        simp only [List.mem_append, List.mem_singleton] at ha
        rcases ha with (ha | ha) | ha
        · exact hN a ha
        · exact rr.ok (by simp) hok.1 a ha
        · subst ha; exact linkOk_joinLink _ (by rw [hJs]; rfl) hJ1 hJ2
      · rw [openJoinL_snoc, hJs, hJ2, hJ3]
        exact hok.2
    · intro E hfr hs ht hsrc
      unfold C05.opsHaveSources at hs
      simp only [Bool.and_eq_true] at hs
      unfold C05.opsTablesOf at ht
      have hsub := (dropLast_names_sublist hn2).subset
      have hfrNR := hfr.dropLast_of_append hn2
      rw [List.dropLast_concat] at hsub hfrNR
      rw [g.sem E hfr hs.2 (fun n hn => ht n (List.mem_append_right _ hn)) (fun h => absurd h (by simp)),
        Rel.interpOps, JoinSem.interpOp_join]
      congr 1
      apply join_sem src db E source rsource N R J flavor left (buildJoinCondition conds) rops rr hRne hJs hJ1 hJ2
        hJ3 hl hfrNR hs.1
      · intro n hn hmem
        apply ht n (List.mem_append_left _ hn)
        rcases List.mem_append.mp hmem with h | h
        · exact List.mem_append_left _ h
        · exact List.mem_append_right _ (hsub h)
      · intro hN hmem
        rcases hsrc hN with h | h
        · simp [joinFree] at h
        · exact h (hsub (by rw [List.map_append]; exact List.mem_append_right _ hmem))
    · intro base later hp hq
      simp only [asNamesO, asNamesT, List.append_assoc] at hq
      obtain ⟨hp1, hq1⟩ := rr.nm (base ++ N.map (·.name)) (asNamesO rest ++ later)
        (by simpa using hp) (by simpa using hq)
      have hp2 := namesP_fresh hp1
      have hq2 := NamesQ.fresh hq1 ((pre ++ N).length + R.length)
      apply g.nm base later
      · simpa [hJn, Nat.add_assoc] using hp2
      · simpa [hJn, Nat.add_assoc] using hq2
    · intro n hn
      rcases g.mem n hn with h | h | h
      · simp only [List.map_append, List.map_cons, List.map_nil, List.mem_append, List.mem_singleton] at h
        rcases h with (h | h) | h
        · exact .inl h
        · rcases rr.mem n h with h' | h' | h'
          · simp at h'
          · exact .inr (.inl h')
          · right; right; simp only [asNamesO, asNamesT]; exact List.mem_append_left _ h'
        · right; left; rw [h, hJn]; exact isGeneratedName_subqueryName _
      · exact .inr (.inl h)
      · right; right; simp only [asNamesO]; exact List.mem_append_right _ h

theorem gen_ops (src : Bytes) (db : DB) : ∀ (ops : OpList) (source : Option Ident) (pre N out : List SubA),
    splitOpsA source pre.length (pre ++ N) ops = some out →
    ∃ N', out = pre ++ N' ∧ GenRes src db source pre.length N N' ops := fun ops source pre N out h =>
  let ⟨N', hd, r⟩ := (C05.splitOpsA_run ops source _ _ out h).res src db pre N rfl rfl
  ⟨N', hd, r.gen⟩

theorem gen_tab (src : Bytes) (db : DB) (t : Tabular) (pre out : List SubA) (h : splitA pre t = some out) :
    ∃ source ops R, t = .mk source ops ∧ out = pre ++ R ∧ R ≠ [] ∧ RunRes src db source pre.length [] R ops := by
  obtain ⟨source, ops, mid, rfl, hrun, rfl⟩ := C05.splitA_run t pre out h
  obtain ⟨N', rfl, g⟩ := hrun.res src db pre [] (by simp) rfl
  obtain ⟨R, hR, hne, r⟩ := close_res g
  exact ⟨source, ops, R, rfl, hR, hne, r⟩

end Pql.JoinFull

namespace Pql.JoinFull
open Pql Sql CompileOracle Intended SplitQ SelSem C02

theorem opsOkJ_joinFree : ∀ (ops : OpList), joinFree ops = true → opsOkJ false ops = opsOk ops
  | .nil, _ => rfl
  | .cons o rest, h => by
    obtain ⟨hj, h⟩ := joinFree_cons_iff.1 h
    simp only [opsOkJ, opsOk, hj, opsOkJ_joinFree rest h, opOkJ_of_not_join _ o hj]
    simp

theorem opsOkJ_mono : ∀ (ops : OpList) (aj : Bool), opsOkJ true ops = true → opsOkJ aj ops = true
  | .nil, _, _ => rfl
  | .cons o rest, aj, h => by
    simp only [opsOkJ, Bool.and_eq_true] at h ⊢
    exact ⟨opOkJ_mono o h.1 aj, h.2⟩

theorem opsOkJ_false_of (ops : OpList) (aj : Bool) (h : opsOkJ aj ops = true) : opsOkJ false ops = true := by
  cases aj
  · exact h
  · exact opsOkJ_mono ops false h

theorem block_joinFree (src : Bytes) (db : DB) (dst R : List SubA) (T : Ident) (ops : OpList)
    (hjf : joinFree ops = true) (hok : opsOk ops = true)
    (hsplit : splitA dst (.mk (some T) ops) = some (dst ++ R)) :
    R ≠ [] ∧ (∀ a ∈ R, linkOk a = true) ∧ (∀ a ∈ R, needsRect a = false) ∧
    ∀ E, FreshNames E (R.dropLast.map (·.name)) →
      val src db E (some T) R = Rel.interpOps src db (lookupTable db E T.name) ops := by
  obtain ⟨_, _, R', ht, hR, hne, r⟩ := gen_tab src db _ dst _ hsplit
  cases ht
  obtain rfl := List.append_cancel_left hR
  refine ⟨hne, r.ok (by simp) (by rw [show openJoinL [] = false from rfl, opsOkJ_joinFree _ hjf]; exact hok),
    fun a ha => by simp [needsRect, r.tbl hjf (by simp) a ha], fun E hfr => ?_⟩
  exact r.sem E hfr (opsHaveSources_joinFree ops hjf) (by simp [opsTablesOf_joinFree ops hjf]) fun _ => .inl hjf

/-- **the C02 statement theorem for a join-free block placed anywhere**: for every join-free operator list
    whose operators satisfy their aggregate side conditions, every list `dst` of earlier links and every
    list `ctes0` of earlier bindings, binding the links of the block `T | ops` in order as common table
    expressions binds the block's last name to the pipeline's meaning on the table `T` denotes. -/
theorem BlockSem_joinFree (src : Bytes) (db : DB) (ctes0 : List (Bytes × Table)) (dst : List SubA) (T : Ident)
    (ops : OpList) (hjf : joinFree ops = true) (hok : opsOk ops = true) :
    JoinSem.BlockSem src db ctes0 dst T ops := by
  intro R sels hsplit hsels hnd hfresh
  obtain ⟨hne, hlk, hnr, hval⟩ := block_joinFree src db dst R T ops hjf hok hsplit
  have hfr : FreshNames ctes0 (R.map (·.name)) := ⟨hnd, hfresh⟩
  rw [runCtes_eq_evalLinks src db R ctes0 sels hsels hlk (.inl hnr), ← prevNameA_eq_lastName (some T) R hne]
  exact (cur_eq_val src db ctes0 (some T) R hfr).trans (hval ctes0 hfr.dropLast)

theorem evalStatement_val (src : Bytes) (db : DB) (source : Option Ident) (subs : List SubA) (st : Statement)
    (hst : stmtOf src subs = some st) (hok : ∀ a ∈ subs, linkOk a = true)
    (hrect : (∀ a ∈ subs, needsRect a = false) ∨ RectDB db) :
    evalStatement db st = val src db [] source subs := by
  obtain ⟨init, q, sels, body, rfl, hm, hb, rfl⟩ := JoinSem.stmtOf_snoc src subs st hst
  have hq : q ∈ init ++ [q] := by simp
  rw [JoinSem.evalStatement_eq, val_snoc,
    runCtes_eq_evalLinks src db init [] sels hm (fun a ha => hok a (List.mem_append_left _ ha))
      (hrect.imp (fun h a ha => h a (List.mem_append_left _ ha)) fun h => ⟨h, fun x hx => by cases hx⟩)]
  apply link_eval src db _ q body hb (hok q hq)
  intro hn
  rcases hrect with h | h
  · rw [h q hq] at hn; cases hn
  · exact ⟨h, RectDB_evalLinks src db h init [] (fun x hx => by cases hx) fun a ha => hok a (List.mem_append_left _ ha)⟩

end Pql.JoinFull
