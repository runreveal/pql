/-
Implicit column names: the named query is `tabNamed` (if every extend / summarize column has an
expression: `tabExprsB`), has the same `lexOK` / `TabNE`, and the same meaning as a program.
`tabExprsB` follows from `lexOK`; `C05.tabularOK` of the resolved named query
is `C05.tabularOK` of the resolved query.
-/
import PqlModel.Lemmas.E2EMoreNamesWrite
import PqlModel.Lemmas.E2EProgram
import PqlModel.Lemmas.E2EFinalChecks
import PqlModel.Lemmas.ParseStmtOK
namespace Pql.E2EMore
set_option linter.unusedSimpArgs false
open Pql Pql.Rel CompileOracle Pql.ParsedOK

def colHasExpr (c : Column) : Bool := match c.x with | .nil => false | _ => true

mutual
/-- every extend / summarize column of the query, at any depth, has an expression (a missing expression
    only arises from parse errors) -/
def tabExprsB : Tabular → Bool
  | .nil => true
  | .mk _ ops => opsExprsB ops
def opsExprsB : OpList → Bool
  | .nil => true
  | .cons o os => opExprsB o && opsExprsB os
def opExprsB : Op → Bool
  | .join _ _ _ _ _ _ right _ _ _ => tabExprsB right
  | .extend _ _ cs => cs.all colHasExpr
  | .summarize _ _ cs _ gs => cs.all colHasExpr && gs.all colHasExpr
  | _ => true
end

theorem colNamed_name (src : Bytes) (c : Column) (h : colHasExpr c = true) : ColNamed (nameColumn src c) := by
  refine ⟨?_, ?_⟩
  · unfold nameColumn; cases hn : c.name <;> simp [hn]
  · rw [nameColumn_x]; intro e; simp [colHasExpr, e] at h

theorem colsNamed_name (src : Bytes) (cs : List Column) (h : cs.all colHasExpr = true) :
    ∀ c ∈ cs.map (nameColumn src), ColNamed c := by
  intro c hc
  obtain ⟨c0, h0, rfl⟩ := List.mem_map.mp hc
  exact colNamed_name src c0 (List.all_eq_true.mp h c0 h0)

mutual
theorem tabNamed_name (src : Bytes) : (t : Tabular) → tabExprsB t = true → tabNamed (nameTabular src t)
  | .nil, _ => by simp only [nameTabular, tabNamed]
  | .mk _ ops, h => by
    simp only [tabExprsB] at h
    simp only [nameTabular, tabNamed]
    exact opsNamed_name src ops h
theorem opsNamed_name (src : Bytes) : (ops : OpList) → opsExprsB ops = true → opsNamed (nameOps src ops)
  | .nil, _ => by simp only [nameOps, opsNamed]
  | .cons o os, h => by
    simp only [opsExprsB, Bool.and_eq_true] at h
    simp only [nameOps, opsNamed]
    exact ⟨opNamed_name src o h.1, opsNamed_name src os h.2⟩
theorem opNamed_name (src : Bytes) : (o : Op) → opExprsB o = true → opNamed (nameOp src o)
  | .join _ _ _ _ _ _ right _ _ _, h => by
    simp only [opExprsB] at h
    simp only [nameOp, opNamed]
    exact tabNamed_name src right h
  | .extend _ _ cs, h => by
    simp only [opExprsB] at h
    simp only [nameOp, opNamed]
    exact colsNamed_name src cs h
  | .summarize _ _ cs _ gs, h => by
    simp only [opExprsB, Bool.and_eq_true] at h
    simp only [nameOp, opNamed]
    exact ⟨colsNamed_name src cs h.1, colsNamed_name src gs h.2⟩
  | .where_ .., _ | .sort .., _ | .take .., _ | .top .., _ | .project .., _ | .count .., _ | .as_ .., _
  | .render .., _ => by simp only [nameOp, opNamed]
end

theorem all_x_name (src : Bytes) (p : Expr → Bool) (cs : List Column) :
    (cs.map (nameColumn src)).all (fun c => p c.x) = cs.all (fun c => p c.x) := by
  rw [List.all_map]
  congr 1
  funext c
  simp only [Function.comp, nameColumn_x]

mutual
theorem lexOK_name (src : Bytes) : (t : Tabular) → (nameTabular src t).lexOK = t.lexOK
  | .nil => rfl
  | .mk _ ops => by simp only [nameTabular, Tabular.lexOK]; exact opsLexOK_name src ops
theorem opsLexOK_name (src : Bytes) : (ops : OpList) → (nameOps src ops).lexOK = ops.lexOK
  | .nil => rfl
  | .cons o os => by simp only [nameOps, OpList.lexOK, opLexOK_name src o, opsLexOK_name src os]
theorem opLexOK_name (src : Bytes) : (o : Op) → (nameOp src o).lexOK = o.lexOK
  | .join _ _ _ _ _ _ right _ _ _ => by simp only [nameOp, Op.lexOK, lexOK_name src right]
  | .extend _ _ cs => by simp only [nameOp, Op.lexOK]; exact all_x_name src Expr.lexOK cs
  | .summarize _ _ cs _ gs => by
    simp only [nameOp, Op.lexOK]
    rw [all_x_name src Expr.lexOK cs, all_x_name src Expr.lexOK gs]
  | .where_ .. | .sort .. | .take .. | .top .. | .project .. | .count .. | .as_ .. | .render .. => rfl
end

mutual
theorem tabNE_name (src : Bytes) : (t : Tabular) → TabNE (nameTabular src t) = TabNE t
  | .nil => rfl
  | .mk _ ops => by simp only [nameTabular, TabNE]; exact opsNE_name src ops
theorem opsNE_name (src : Bytes) : (ops : OpList) → OpsNE (nameOps src ops) = OpsNE ops
  | .nil => rfl
  | .cons o os => by simp only [nameOps, OpsNE, opNE_name src o, opsNE_name src os]
theorem opNE_name (src : Bytes) : (o : Op) → OpNE (nameOp src o) = OpNE o
  | .join _ _ _ _ _ _ right _ _ _ => by simp only [nameOp, OpNE, tabNE_name src right]
  | .summarize _ _ cs _ gs => by
    simp only [nameOp, OpNE, ← List.map_append, List.isEmpty_map]
  | .extend .. | .where_ .. | .sort .. | .take .. | .top .. | .project .. | .count .. | .as_ .. | .render .. => rfl
end

theorem interpProgram_name (src : Bytes) (db : Sql.DB) (lets : List Stmt) (t : Tabular) (hl : IsLets lets)
    (hX : tabExprsB t = true) :
    Rel.interpProgram src db (lets ++ [.tabular t]) =
      Rel.interpProgram src db (lets ++ [.tabular (nameTabular src t)]) := by
  rw [E2E.interpProgram_query src db lets t hl, E2E.interpProgram_query src db lets _ hl,
    E2E.nameTabular_named src _ (tabNamed_name src t hX)]

open Pql.C05

theorem colHasExpr_of_lexOK (c : Column) (h : c.x.lexOK = true) : colHasExpr c = true := by
  unfold colHasExpr
  cases hx : c.x <;> first | rfl | (rw [hx] at h; simp [Expr.lexOK] at h)

theorem colsHaveExpr_of_lexOK (cs : List Column) (h : (cs.all fun c => c.x.lexOK) = true) :
    cs.all colHasExpr = true := by
  simp only [List.all_eq_true] at h ⊢
  exact fun c hc => colHasExpr_of_lexOK c (h c hc)

mutual
theorem tabExprs_of_lexOK : (t : Tabular) → t.lexOK = true → tabExprsB t = true
  | .nil, _ => rfl
  | .mk _ ops, h => by simp only [Tabular.lexOK] at h; simp only [tabExprsB]; exact opsExprs_of_lexOK ops h
theorem opsExprs_of_lexOK : (ops : OpList) → ops.lexOK = true → opsExprsB ops = true
  | .nil, _ => rfl
  | .cons o os, h => by
    simp only [OpList.lexOK, Bool.and_eq_true] at h
    simp only [opsExprsB, Bool.and_eq_true]
    exact ⟨opExprs_of_lexOK o h.1, opsExprs_of_lexOK os h.2⟩
theorem opExprs_of_lexOK : (o : Op) → o.lexOK = true → opExprsB o = true
  | .join _ _ _ _ _ _ right _ _ _, h => by
    simp only [Op.lexOK, Bool.and_eq_true] at h
    simp only [opExprsB]
    exact tabExprs_of_lexOK right h.1
  | .extend _ _ cs, h => by
    simp only [Op.lexOK] at h
    simp only [opExprsB]
    exact colsHaveExpr_of_lexOK cs h
  | .summarize _ _ cs _ gs, h => by
    simp only [Op.lexOK, Bool.and_eq_true] at h
    simp only [opExprsB, Bool.and_eq_true]
    exact ⟨colsHaveExpr_of_lexOK cs h.1, colsHaveExpr_of_lexOK gs h.2⟩
  | .where_ .., _ | .sort .., _ | .take .., _ | .top .., _ | .project .., _ | .count .., _ | .as_ .., _
  | .render .., _ => rfl
end

theorem stmtsLexOK_query (t : Tabular) : (lets : List Stmt) → IsLets lets →
    stmtsLexOK (lets ++ [.tabular t]) = true → t.lexOK = true
  | [], _, h => by simpa only [List.nil_append, stmtsLexOK] using h
  | s :: rest, hl, h => by
    obtain ⟨kw, n, a, x, rfl⟩ := hl s List.mem_cons_self
    simp only [List.cons_append, stmtsLexOK, Bool.and_eq_true] at h
    exact stmtsLexOK_query t rest (fun s hs => hl s (List.mem_cons_of_mem _ hs)) h.2

theorem substColumn_x (env : List (Bytes × Expr)) (c : Column) (h : colHasExpr c = true) :
    (substColumn env c).x = substExpr env c.x := by
  unfold substColumn
  unfold colHasExpr at h
  split
  · rename_i hx _; rw [hx] at h; cases h
  · rfl

theorem colOK_name (src : Bytes) (env : List (Bytes × Expr)) (c : Column) (h : colHasExpr c = true) :
    colOK (substColumn env (nameColumn src c)) = colOK (substColumn env c) := by
  have h' : colHasExpr (nameColumn src c) = true := by
    unfold colHasExpr at h ⊢; rw [nameColumn_x]; exact h
  simp only [colOK, substColumn_x env _ h', substColumn_x env _ h, nameColumn_x]

theorem colsOK_name (src : Bytes) (env : List (Bytes × Expr)) : (cs : List Column) → cs.all colHasExpr = true →
    ((cs.map (nameColumn src)).map (substColumn env)).all colOK = (cs.map (substColumn env)).all colOK
  | [], _ => rfl
  | c :: cs, h => by
    simp only [List.all_cons, Bool.and_eq_true] at h
    simp only [List.map_cons, List.all_cons, colOK_name src env c h.1, colsOK_name src env cs h.2]

mutual
theorem tabularOK_name (src : Bytes) (env : List (Bytes × Expr)) : (t : Tabular) → tabExprsB t = true →
    tabularOK (substTabular env (nameTabular src t)) = tabularOK (substTabular env t)
  | .nil, _ => rfl
  | .mk _ ops, h => by
    simp only [tabExprsB] at h
    simp only [nameTabular, substTabular, tabularOK]
    exact opsOK_name src env ops h
theorem opsOK_name (src : Bytes) (env : List (Bytes × Expr)) : (ops : OpList) → opsExprsB ops = true →
    opsOK (substOps env (nameOps src ops)) = opsOK (substOps env ops)
  | .nil, _ => rfl
  | .cons o os, h => by
    simp only [opsExprsB, Bool.and_eq_true] at h
    simp only [nameOps, substOps, opsOK, opOK1_name src env o h.1, opsOK_name src env os h.2]
theorem opOK1_name (src : Bytes) (env : List (Bytes × Expr)) : (o : Op) → opExprsB o = true →
    opOK1 (substOp env (nameOp src o)) = opOK1 (substOp env o)
  | .join _ _ _ _ _ _ right _ _ _, h => by
    simp only [opExprsB] at h
    simp only [nameOp, substOp, opOK1, tabularOK_name src env right h]
  | .extend _ _ cs, h => by
    simp only [opExprsB] at h
    simp only [nameOp, substOp, opOK1, opOK, colsOK_name src env cs h]
  | .summarize _ _ cs _ gs, h => by
    simp only [opExprsB, Bool.and_eq_true] at h
    simp only [nameOp, substOp, opOK1, opOK, colsOK_name src env cs h.1, colsOK_name src env gs h.2,
      ← List.map_append, List.isEmpty_map]
  | .where_ .., _ | .sort .., _ | .take .., _ | .top .., _ | .project .., _ | .count .., _ | .as_ .., _
  | .render .., _ => rfl
end

end Pql.E2EMore
