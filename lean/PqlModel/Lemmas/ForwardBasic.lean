/-
Property C07, forward direction (every program of the grammar is parsed to the tree the grammar
prescribes).  `Real e ts`: the token list `ts` realises the tree `e` (`unparse e` accounts for it,
positions included).  `accounts` allows a comma before the `)` of a call whether or not the call
has arguments; the parser allows it only after an argument (`f(,)` is rejected), so `Real` has
`NoLparenComma ts` (no comma token directly after a `(` token) as its third conjunct.
-/
import PqlModel.Lemmas.Derives
import PqlModel.Props.C07
namespace Pql
open Grammar

def NoLparenComma : List Token → Bool
  | [] => true
  | a :: ts =>
    (match ts with
     | b :: _ => !(a.kind == .lparen && b.kind == .comma)
     | [] => true) && NoLparenComma ts

theorem nlc_tail {a : Token} {ts : List Token} (h : NoLparenComma (a :: ts) = true) :
    NoLparenComma ts = true := by
  simp only [NoLparenComma, Bool.and_eq_true] at h
  exact h.2

theorem nlc_right : ∀ {a b : List Token}, NoLparenComma (a ++ b) = true → NoLparenComma b = true
  | [], _, h => h
  | _ :: a, _, h => nlc_right (a := a) (nlc_tail h)

theorem nlc_left : ∀ {a b : List Token}, NoLparenComma (a ++ b) = true → NoLparenComma a = true
  | [], _, _ => rfl
  | [x], b, h => by simp [NoLparenComma]
  | x :: y :: a, b, h => by
    have ih := nlc_left (a := y :: a) (b := b) (nlc_tail h)
    simp only [List.cons_append, NoLparenComma, Bool.and_eq_true] at h ih ⊢
    exact ⟨h.1, ih⟩

theorem nlc_head {a b : Token} {ts : List Token} (h : NoLparenComma (a :: b :: ts) = true)
    (ha : a.kind = .lparen) : b.kind ≠ .comma := by
  simp only [NoLparenComma, Bool.and_eq_true] at h
  intro hb
  simp [ha, hb] at h

theorem span_eq {t : Token} {sp : Span} (h1 : sp.start = (t.start : Int)) (h2 : sp.stop = (t.stop : Int)) :
    t.span = sp := by
  cases sp; simp only [Token.span] at *; simp [h1, h2]

theorem tokOk_symOpt_inv {k : TokKind} {sp : Span} {t : Token} {b : Bool}
    (h : tokOk { sym k sp with optComma := b } t = true) : t.kind = k ∧ t.span = sp := by
  simp only [tokOk, tokMatches, posMatches, sym, Bool.and_eq_true, beq_iff_eq] at h
  exact ⟨h.1.1.symm, span_eq h.2.1 h.2.2⟩

theorem tokOk_sym_inv {k : TokKind} {sp : Span} {t : Token} (h : tokOk (sym k sp) t = true) :
    t.kind = k ∧ t.span = sp :=
  tokOk_symOpt_inv (b := false) h

theorem tokOk_commaTok_inv {t : Token} (h : tokOk commaTok t = true) : t.kind = .comma := by
  simp only [tokOk, tokMatches, commaTok, Bool.and_eq_true, beq_iff_eq] at h
  exact h.1.1.symm

theorem tokOk_dot_inv {t : Token} (h : tokOk { kind := .dot } t = true) : t.kind = .dot := by
  simp only [tokOk, tokMatches, Bool.and_eq_true, beq_iff_eq] at h
  exact h.1.1.symm

theorem tokOk_identTok_inv {i : Ident} {t : Token} (h : tokOk (identTok i) t = true) :
    (t.kind = .ident ∨ t.kind = .qident) ∧ i = ⟨t.value, t.span, t.kind = .qident⟩ := by
  obtain ⟨name, sp, q⟩ := i
  simp only [tokOk, tokMatches, posMatches, identTok, Bool.and_eq_true, beq_iff_eq] at h
  obtain ⟨⟨hk, hv⟩, hs1, hs2⟩ := h
  have hsp := span_eq hs1 hs2
  cases q with
  | true =>
    simp only [if_true] at hk hv
    have hv' : name = t.value := by
      simpa [← hk] using hv
    refine ⟨Or.inr hk.symm, ?_⟩
    simp [hv', hsp, ← hk]
  | false =>
    simp only [Bool.false_eq_true, if_false] at hk hv
    have hv' : name = t.value := by
      simpa [← hk] using hv
    refine ⟨Or.inl hk.symm, ?_⟩
    simp [hv', hsp, ← hk]

theorem tokOk_lit_inv {k : TokKind} {v : Bytes} {sp : Span} {t : Token} (hk : k ≠ .error)
    (h : tokOk { kind := k, value := v, start := some sp.start, stop := some sp.stop } t = true) :
    t.kind = k ∧ t.value = v ∧ t.span = sp := by
  simp only [tokOk, tokMatches, posMatches, Bool.and_eq_true, beq_iff_eq] at h
  obtain ⟨⟨hk', hv⟩, hs1, hs2⟩ := h
  refine ⟨hk'.symm, ?_, span_eq hs1 hs2⟩
  simp only [List.isEmpty_nil, if_true, Bool.or_eq_true, beq_iff_eq] at hv
  rcases hv with hv | hv
  · exact absurd hv hk
  · exact hv.symm

def Real (e : Expr) (ts : List Token) : Prop :=
  ∃ us, unparseExpr e = some us ∧ accounts true us ts = true ∧ NoLparenComma ts = true

def RealL (l : ExprList) (ts : List Token) : Prop :=
  ∃ us, unparseExprList l = some us ∧ accounts true us ts = true ∧ NoLparenComma ts = true

def IsIdentTok (i : Ident) (t : Token) : Prop :=
  (t.kind = .ident ∨ t.kind = .qident) ∧ i = ⟨t.value, t.span, t.kind = .qident⟩

theorem IsIdentTok.plain {i : Ident} {t : Token} (h : IsIdentTok i t) (hq : i.quoted = false) :
    t.kind = .ident ∧ i = ⟨t.value, t.span, false⟩ := by
  obtain ⟨hk, rfl⟩ := h
  rcases hk with hk | hk
  · exact ⟨hk, by simp [hk]⟩
  · simp [hk] at hq

def QualTailReal : List Ident → List Token → Prop
  | [], ts => ts = []
  | i :: is, ts => ∃ d t ts', ts = d :: t :: ts' ∧ d.kind = .dot ∧ IsIdentTok i t ∧ QualTailReal is ts'

theorem DQual.real : ∀ {is : List Ident} {ts : List Token}, DQual is ts → QualTailReal is ts
  | _, _, .nil => rfl
  | _, _, .cons hd ht h => ⟨_, _, _, rfl, tokOk_dot_inv hd, tokOk_identTok_inv ht, h.real⟩

theorem real_iff {e : Expr} {ts : List Token} : Real e ts ↔ DExpr e ts ∧ NoLparenComma ts = true := by
  rw [dexpr_iff]
  exact ⟨fun ⟨us, hu, ha, hn⟩ => ⟨⟨us, hu, ha⟩, hn⟩, fun ⟨⟨us, hu, ha⟩, hn⟩ => ⟨us, hu, ha, hn⟩⟩

theorem realL_iff {l : ExprList} {ts : List Token} :
    RealL l ts ↔ DList l ts ∧ NoLparenComma ts = true := by
  rw [dlist_iff]
  exact ⟨fun ⟨us, hu, ha, hn⟩ => ⟨⟨us, hu, ha⟩, hn⟩, fun ⟨⟨us, hu, ha⟩, hn⟩ => ⟨us, hu, ha, hn⟩⟩

/-! The rules of `DExpr` read backwards, with the tokens decoded and `NoLparenComma` passed on to
the parts. -/

theorem real_lit {sp : Span} {k : TokKind} {v : Bytes} {ts : List Token} (hk : k ≠ .error)
    (h : Real (.lit sp k v) ts) : ∃ t, ts = [t] ∧ t.kind = k ∧ t.value = v ∧ t.span = sp := by
  cases (real_iff.1 h).1 with
  | lit ht => exact ⟨_, rfl, tokOk_lit_inv hk ht⟩

theorem real_qident {parts : List Ident} {ts : List Token} (h : Real (.qident parts) ts) :
    ∃ i is t ts', parts = i :: is ∧ ts = t :: ts' ∧ IsIdentTok i t ∧ QualTailReal is ts' := by
  cases (real_iff.1 h).1 with
  | qident ht hq => exact ⟨_, _, _, _, rfl, rfl, tokOk_identTok_inv ht, hq.real⟩

theorem real_unary {os : Span} {op : TokKind} {x : Expr} {ts : List Token} (h : Real (.unary os op x) ts) :
    ∃ t tx, ts = t :: tx ∧ t.kind = op ∧ t.span = os ∧ Real x tx := by
  obtain ⟨hd, hn⟩ := real_iff.1 h
  cases hd with
  | unary ht hx =>
    exact ⟨_, _, rfl, (tokOk_sym_inv ht).1, (tokOk_sym_inv ht).2, real_iff.2 ⟨hx, nlc_tail hn⟩⟩

theorem real_binary {x y : Expr} {os : Span} {op : TokKind} {ts : List Token}
    (h : Real (.binary x os op y) ts) :
    ∃ tx t ty, ts = tx ++ t :: ty ∧ Real x tx ∧ t.kind = op ∧ t.span = os ∧ Real y ty := by
  obtain ⟨hd, hn⟩ := real_iff.1 h
  cases hd with
  | binary hx ht hy =>
    exact ⟨_, _, _, rfl, real_iff.2 ⟨hx, nlc_left hn⟩, (tokOk_sym_inv ht).1, (tokOk_sym_inv ht).2,
      real_iff.2 ⟨hy, nlc_tail (nlc_right hn)⟩⟩

theorem real_inE {x : Expr} {i lp rp : Span} {vals : ExprList} {ts : List Token}
    (h : Real (.inE x i lp vals rp) ts) :
    ∃ tx ti tl tv tr, ts = tx ++ ti :: tl :: (tv ++ [tr]) ∧ Real x tx ∧ ti.kind = .in_ ∧ ti.span = i ∧
      tl.kind = .lparen ∧ tl.span = lp ∧ RealL vals tv ∧ tr.kind = .rparen ∧ tr.span = rp := by
  obtain ⟨hd, hn⟩ := real_iff.1 h
  cases hd with
  | inE hx hi hl hv hr =>
    exact ⟨_, _, _, _, _, rfl, real_iff.2 ⟨hx, nlc_left hn⟩, (tokOk_sym_inv hi).1, (tokOk_sym_inv hi).2,
      (tokOk_sym_inv hl).1, (tokOk_sym_inv hl).2,
      realL_iff.2 ⟨hv, nlc_left (nlc_tail (nlc_tail (nlc_right hn)))⟩,
      (tokOk_sym_inv hr).1, (tokOk_sym_inv hr).2⟩

theorem real_paren {x : Expr} {lp rp : Span} {ts : List Token} (h : Real (.paren lp x rp) ts) :
    ∃ tl tx tr, ts = tl :: (tx ++ [tr]) ∧ tl.kind = .lparen ∧ tl.span = lp ∧ Real x tx ∧
      tr.kind = .rparen ∧ tr.span = rp := by
  obtain ⟨hd, hn⟩ := real_iff.1 h
  cases hd with
  | paren hl hx hr =>
    exact ⟨_, _, _, rfl, (tokOk_sym_inv hl).1, (tokOk_sym_inv hl).2,
      real_iff.2 ⟨hx, nlc_left (nlc_tail hn)⟩, (tokOk_sym_inv hr).1, (tokOk_sym_inv hr).2⟩

theorem real_index {x idx : Expr} {lb rb : Span} {ts : List Token} (h : Real (.index x lb idx rb) ts) :
    ∃ tx tl ti tr, ts = tx ++ tl :: (ti ++ [tr]) ∧ Real x tx ∧ tl.kind = .lbracket ∧ tl.span = lb ∧
      Real idx ti ∧ tr.kind = .rbracket ∧ tr.span = rb := by
  obtain ⟨hd, hn⟩ := real_iff.1 h
  cases hd with
  | index hx hl hi hr =>
    exact ⟨_, _, _, _, rfl, real_iff.2 ⟨hx, nlc_left hn⟩, (tokOk_sym_inv hl).1, (tokOk_sym_inv hl).2,
      real_iff.2 ⟨hi, nlc_left (nlc_tail (nlc_right hn))⟩, (tokOk_sym_inv hr).1, (tokOk_sym_inv hr).2⟩

theorem real_call {fn : Ident} {lp rp : Span} {args : ExprList} {ts : List Token}
    (h : Real (.call fn lp args rp) ts) :
    ∃ tf tl ta tc tr, ts = tf :: tl :: (ta ++ tc ++ [tr]) ∧ IsIdentTok fn tf ∧ tl.kind = .lparen ∧
      tl.span = lp ∧ RealL args ta ∧ (tc = [] ∨ ∃ cm, tc = [cm] ∧ cm.kind = .comma ∧ ta ≠ []) ∧
      tr.kind = .rparen ∧ tr.span = rp := by
  obtain ⟨hd, hn⟩ := real_iff.1 h
  cases hd with
  | @call _ _ _ _ tf tl tr ta tc hf hl ha hc hr =>
    have hna : NoLparenComma ta = true := by
      rw [List.append_assoc] at hn; exact nlc_left (nlc_tail (nlc_tail hn))
    refine ⟨tf, tl, ta, tc, tr, rfl, tokOk_identTok_inv hf, (tokOk_sym_inv hl).1, (tokOk_sym_inv hl).2,
      realL_iff.2 ⟨ha, hna⟩, ?_, (tokOk_symOpt_inv hr).1, (tokOk_symOpt_inv hr).2⟩
    cases hc with
    | none => exact Or.inl rfl
    | one hcm =>
      refine Or.inr ⟨_, rfl, hcm, ?_⟩
      rintro rfl
      exact nlc_head (nlc_tail hn) (tokOk_sym_inv hl).1 hcm

def ListTailReal : ExprList → List Token → Prop
  | .nil, ts => ts = []
  | .cons e es, ts => ∃ cm te tl, ts = cm :: (te ++ tl) ∧ cm.kind = .comma ∧ Real e te ∧ ListTailReal es tl

theorem realL_nil {ts : List Token} (h : RealL .nil ts) : ts = [] := by
  cases (realL_iff.1 h).1; rfl

theorem realL_cons : ∀ {e : Expr} {es : ExprList} {ts : List Token}, RealL (.cons e es) ts →
    ∃ te tl, ts = te ++ tl ∧ Real e te ∧ ListTailReal es tl
  | e, .nil, ts, h => by
    obtain ⟨hd, hn⟩ := realL_iff.1 h
    cases hd with
    | one he => exact ⟨ts, [], by simp, real_iff.2 ⟨he, hn⟩, rfl⟩
  | e, .cons e' es, ts, h => by
    obtain ⟨hd, hn⟩ := realL_iff.1 h
    cases hd with
    | cons he hcm hl =>
      obtain ⟨te', tl', rfl, he', hl'⟩ := realL_cons (realL_iff.2 ⟨hl, nlc_tail (nlc_right hn)⟩)
      exact ⟨_, _, rfl, real_iff.2 ⟨he, nlc_left hn⟩, _, te', tl', rfl, tokOk_commaTok_inv hcm, he', hl'⟩

theorem okSpine_binary {m cap : Int} {x y : Expr} {os : Span} {op : TokKind}
    (h : okSpine m (.binary x os op y) = some cap) :
    ∃ capx, okSpine m x = some capx ∧ isBinaryOp op = true ∧ m ≤ Pql.precOf op ∧ Pql.precOf op ≤ capx ∧
      (okSpine (Pql.precOf op + 1) y).isSome = true ∧ cap = Pql.precOf op := by
  simp only [okSpine] at h
  split at h
  · simp at h
  · rename_i capx hx
    split at h
    · rename_i hc
      simp only [Bool.and_eq_true, decide_eq_true_eq] at hc
      simp only [Option.some.injEq] at h
      exact ⟨capx, hx, hc.1.1.1, hc.1.1.2, hc.1.2, hc.2, h.symm⟩
    · simp at h

theorem okSpine_inE {m cap : Int} {x : Expr} {i lp rp : Span} {vals : ExprList}
    (h : okSpine m (.inE x i lp vals rp) = some cap) :
    ∃ capx, okSpine m x = some capx ∧ m ≤ 2 ∧ 2 ≤ capx ∧ vals.length > 0 ∧ okList vals = true ∧ cap = inf := by
  simp only [okSpine] at h
  split at h
  · simp at h
  · rename_i capx hx
    split at h
    · rename_i hc
      simp only [Bool.and_eq_true, decide_eq_true_eq] at hc
      simp only [Option.some.injEq] at h
      exact ⟨capx, hx, hc.1.1.1, hc.1.1.2, hc.1.2, hc.2, h.symm⟩
    · simp at h

theorem okSpine_lit {m : Int} {sp : Span} {k : TokKind} {v : Bytes}
    (h : (okSpine m (.lit sp k v)).isSome = true) : k = .number ∨ k = .string := by
  simp only [okSpine] at h
  split at h
  · rename_i hc; simpa using hc
  · simp at h

theorem okSpine_unary {m : Int} {os : Span} {op : TokKind} {x : Expr}
    (h : (okSpine m (.unary os op x)).isSome = true) :
    (op = .plus ∨ op = .minus) ∧ isPrimary x = true ∧ (okSpine 0 x).isSome = true := by
  simp only [okSpine] at h
  split at h
  · rename_i hc
    simp only [Bool.and_eq_true, Bool.or_eq_true, beq_iff_eq] at hc
    exact ⟨hc.1.1, hc.1.2, hc.2⟩
  · simp at h

theorem okSpine_paren {m : Int} {lp rp : Span} {x : Expr}
    (h : (okSpine m (.paren lp x rp)).isSome = true) : (okSpine 0 x).isSome = true := by
  simp only [okSpine] at h
  split at h
  · assumption
  · simp at h

theorem okSpine_call {m : Int} {fn : Ident} {lp rp : Span} {args : ExprList}
    (h : (okSpine m (.call fn lp args rp)).isSome = true) : fn.quoted = false ∧ okList args = true := by
  simp only [okSpine] at h
  split at h
  · rename_i hc
    simpa using hc
  · simp at h

theorem okSpine_index {m : Int} {x idx : Expr} {lb rb : Span}
    (h : (okSpine m (.index x lb idx rb)).isSome = true) :
    isInnerPrimary x = true ∧ (okSpine 0 x).isSome = true ∧ (okSpine 0 idx).isSome = true := by
  simp only [okSpine] at h
  split at h
  · rename_i hc
    simp only [Bool.and_eq_true] at hc
    exact ⟨hc.1.1, hc.1.2, hc.2⟩
  · simp at h

theorem okList_cons {e : Expr} {es : ExprList} (h : okList (.cons e es) = true) :
    (okSpine 0 e).isSome = true ∧ okList es = true := by
  simpa [okList] using h

theorem isBinaryOp_kind {k : TokKind} (h : isBinaryOp k = true) : k ≠ .in_ ∧ 0 ≤ Pql.precOf k := by
  unfold isBinaryOp at h
  rw [C07.C07_spec_prec_eq_model, C07.precOf_eq] at h
  rw [C07.precOf_eq]
  revert h
  cases k <;> decide

end Pql
