/-
The expression grammar as a relation between trees and token lists: `DExpr e ts` — `ts` is a
sentence for the tree `e`.  It is `accounts true (unparseExpr e) ts` written as rules, one per
node form (`dexpr_iff`).  A production of the parser that succeeds applies a rule (C08), a proof
about the tokens of a given tree takes them apart by `cases` (C07), and what holds of the tokens of
every tree (bracket balance, kinds, where the parts lie) is an induction over derivations.

The same relation under the names the property files use: `Sound ts e rest` (AccountedExpr: `ts`
is a sentence of `e` followed by `rest`), `Real e ts` = `RealBy unparseExpr e ts` (ForwardBasic,
ForwardOps: a sentence without `(,`; `real_iff`), `Glue.ESeg ts e` (GlueAcc: some sublist of `ts` is
a sentence of `e`), `Glue.IsSourceText` (Props/C10Compile: the same of `scan src`, with the extent
spelled out).  Since the comma before the `)` of a call does not depend on the arguments
(`OptComma`), `f ( , )` is a sentence of `f()`, which the parser rejects: hence `NoLparenComma`.
-/
import PqlModel.Lemmas.AccountedBasic
import PqlModel.Lemmas.UnparseInduct
namespace Pql
open Grammar

def tailDotted : List Ident → List UTok
  | [] => []
  | i :: is => { kind := .dot } :: identTok i :: tailDotted is

theorem identsDotted_cons : ∀ (i : Ident) (is : List Ident),
    identsDotted (i :: is) = identTok i :: tailDotted is
  | i, [] => rfl
  | i, j :: js => by
    have ih := identsDotted_cons j js
    simp only [identsDotted, tailDotted, ih]

inductive DQual : List Ident → List Token → Prop
  | nil : DQual [] []
  | cons {i : Ident} {is : List Ident} {d t : Token} {ts : List Token} :
      tokOk { kind := .dot } d = true → tokOk (identTok i) t = true → DQual is ts →
      DQual (i :: is) (d :: t :: ts)

/-- the comma that may stand before the `)` of a call -/
inductive OptComma : List Token → Prop
  | none : OptComma []
  | one {cm : Token} : cm.kind = .comma → OptComma [cm]

mutual
inductive DExpr : Expr → List Token → Prop
  | qident {i : Ident} {is : List Ident} {t : Token} {ts : List Token} :
      tokOk (identTok i) t = true → DQual is ts → DExpr (.qident (i :: is)) (t :: ts)
  | lit {sp : Span} {k : TokKind} {v : Bytes} {t : Token} :
      tokOk { kind := k, value := v, start := some sp.start, stop := some sp.stop } t = true →
      DExpr (.lit sp k v) [t]
  | unary {os : Span} {op : TokKind} {x : Expr} {t : Token} {tx : List Token} :
      tokOk (sym op os) t = true → DExpr x tx → DExpr (.unary os op x) (t :: tx)
  | binary {x y : Expr} {os : Span} {op : TokKind} {t : Token} {tx ty : List Token} :
      DExpr x tx → tokOk (sym op os) t = true → DExpr y ty →
      DExpr (.binary x os op y) (tx ++ t :: ty)
  | inE {x : Expr} {i lp rp : Span} {vals : ExprList} {ti tl tr : Token} {tx tv : List Token} :
      DExpr x tx → tokOk (sym .in_ i) ti = true → tokOk (sym .lparen lp) tl = true → DList vals tv →
      tokOk (sym .rparen rp) tr = true → DExpr (.inE x i lp vals rp) (tx ++ ti :: tl :: (tv ++ [tr]))
  | paren {lp rp : Span} {x : Expr} {tl tr : Token} {tx : List Token} :
      tokOk (sym .lparen lp) tl = true → DExpr x tx → tokOk (sym .rparen rp) tr = true →
      DExpr (.paren lp x rp) (tl :: (tx ++ [tr]))
  | call {fn : Ident} {lp rp : Span} {args : ExprList} {tf tl tr : Token} {ta tc : List Token} :
      tokOk (identTok fn) tf = true → tokOk (sym .lparen lp) tl = true → DList args ta → OptComma tc →
      tokOk { sym .rparen rp with optComma := true } tr = true →
      DExpr (.call fn lp args rp) (tf :: tl :: (ta ++ tc ++ [tr]))
  | index {x idx : Expr} {lb rb : Span} {tl tr : Token} {tx ti : List Token} :
      DExpr x tx → tokOk (sym .lbracket lb) tl = true → DExpr idx ti →
      tokOk (sym .rbracket rb) tr = true → DExpr (.index x lb idx rb) (tx ++ tl :: (ti ++ [tr]))
inductive DList : ExprList → List Token → Prop
  | nil : DList .nil []
  | one {e : Expr} {te : List Token} : DExpr e te → DList (.cons e .nil) te
  | cons {e e' : Expr} {es : ExprList} {cm : Token} {te tl : List Token} :
      DExpr e te → tokOk commaTok cm = true → DList (.cons e' es) tl →
      DList (.cons e (.cons e' es)) (te ++ cm :: tl)
end

theorem DExpr.ne_nil {e : Expr} {ts : List Token} (h : DExpr e ts) : e ≠ .nil ∧ ts ≠ [] := by
  cases h <;> simp

/-- one more element behind a non-empty list, the way `exprList` builds it -/
theorem DList.snoc : ∀ {acc : ExprList} {ta : List Token}, DList acc ta → acc ≠ .nil →
    ∀ {v : Expr} {cm : Token} {tv : List Token}, tokOk commaTok cm = true → DExpr v tv →
    DList (acc.snoc v) (ta ++ cm :: tv)
  | _, _, .nil, h => absurd rfl h
  | _, _, .one he, _ => fun hcm hv => .cons he hcm (.one hv)
  | _, _, .cons he hc hl, _ => fun hcm hv => by
    have := DList.snoc hl (by simp) hcm hv
    simp only [ExprList.snoc, List.append_assoc, List.cons_append] at this ⊢
    exact .cons he hc this

theorem DQual.acc : ∀ {is : List Ident} {ts : List Token}, DQual is ts →
    accounts true (tailDotted is) ts = true
  | _, _, .nil => accounts_nil _
  | _, _, .cons hd ht h => accounts_cons hd (accounts_cons ht h.acc)

mutual
theorem DExpr.acc : ∀ {e : Expr} {ts : List Token}, DExpr e ts →
    ∃ us, unparseExpr e = some us ∧ accounts true us ts = true
  | _, _, .qident ht hq =>
    ⟨_, by simp [unparseExpr], identsDotted_cons _ _ ▸ accounts_cons ht hq.acc⟩
  | _, _, .lit ht => ⟨_, by simp [unparseExpr], accounts_single ht⟩
  | _, _, .unary ht hx => by
    obtain ⟨xs, hx, hax⟩ := hx.acc
    exact ⟨_, by simp [unparseExpr, hx], accounts_cons ht hax⟩
  | _, _, .binary hx ht hy => by
    obtain ⟨xs, hx, hax⟩ := hx.acc
    obtain ⟨ys, hy, hay⟩ := hy.acc
    exact ⟨_, by simp [unparseExpr, hx, hy], accounts_append hax (accounts_cons ht hay)⟩
  | _, _, .inE hx hi hl hv hr => by
    obtain ⟨xs, hx, hax⟩ := hx.acc
    obtain ⟨vs, hv, hav⟩ := hv.acc
    exact ⟨_, by simp [unparseExpr, hx, hv], accounts_append hax (accounts_cons hi (accounts_cons hl
      (accounts_append hav (accounts_single hr))))⟩
  | _, _, .paren hl hx hr => by
    obtain ⟨xs, hx, hax⟩ := hx.acc
    exact ⟨_, by simp [unparseExpr, hx], accounts_cons hl (accounts_append hax (accounts_single hr))⟩
  | _, _, .call (rp := rp) hf hl ha hc hr => by
    obtain ⟨as, ha, haa⟩ := ha.acc
    refine ⟨identTok _ :: sym .lparen _ :: (as ++ [{ sym .rparen rp with optComma := true }]),
      by simp [unparseExpr, ha], accounts_cons hf (accounts_cons hl ?_)⟩
    rw [List.append_assoc]
    refine accounts_append haa ?_
    cases hc with
    | none => exact accounts_single hr
    | one hcm => exact accounts_optComma rfl (by simp [sym]) hcm hr (accounts_nil _)
  | _, _, .index hx hl hi hr => by
    obtain ⟨xs, hx, hax⟩ := hx.acc
    obtain ⟨is, hi, hai⟩ := hi.acc
    exact ⟨_, by simp [unparseExpr, hx, hi], accounts_append hax (accounts_cons hl
      (accounts_append hai (accounts_single hr)))⟩
theorem DList.acc : ∀ {l : ExprList} {ts : List Token}, DList l ts →
    ∃ us, unparseExprList l = some us ∧ accounts true us ts = true
  | _, _, .nil => ⟨[], rfl, accounts_nil _⟩
  | _, _, .one he => by simpa [unparseExprList] using he.acc
  | _, _, .cons he hcm hl => by
    obtain ⟨a, he, haa⟩ := he.acc
    obtain ⟨b, hl, hab⟩ := hl.acc
    exact ⟨_, by simp [unparseExprList, he, hl], accounts_append haa (accounts_cons hcm hab)⟩
end

theorem dqual_of_acc : ∀ {is : List Ident} {ts : List Token},
    accounts true (tailDotted is) ts = true → DQual is ts
  | [], ts, h => by cases accounts_nil_left h; exact .nil
  | i :: is, ts, h => by
    obtain ⟨d, ts1, rfl, hd, h1⟩ := accounts_cons_inv rfl h
    obtain ⟨t, ts2, rfl, ht, h2⟩ := accounts_cons_inv (by simp [identTok]) h1
    exact .cons hd ht (dqual_of_acc h2)

theorem dexpr_alg : UnparseExprAlg (fun e us => ∀ ts : List Token, accounts true us ts = true → DExpr e ts)
    (fun l us => ∀ ts : List Token, accounts true us ts = true → DList l ts) where
  qident := fun i is _ ha => by
    rw [identsDotted_cons] at ha
    obtain ⟨t, ts', rfl, ht, hr⟩ := accounts_cons_inv (by simp [identTok]) ha
    exact .qident ht (dqual_of_acc hr)
  lit := fun _ _ _ _ ha => by
    obtain ⟨t, ts', rfl, ht, hr⟩ := accounts_cons_inv rfl ha
    cases accounts_nil_left hr
    exact .lit ht
  unary := fun _ _ _ _ ih _ ha => by
    obtain ⟨t, tx, rfl, ht, hr⟩ := accounts_cons_inv rfl ha
    exact .unary ht (ih _ hr)
  binary := fun _ _ _ _ _ _ ihx ihy _ ha => by
    obtain ⟨tx, t2, rfl, h1, h2⟩ := accounts_append_split ha
    obtain ⟨t, ty, rfl, ht, hr⟩ := accounts_cons_inv rfl h2
    exact .binary (ihx _ h1) ht (ihy _ hr)
  inE := fun _ _ _ _ _ _ _ ihx ihv _ ha => by
    simp only [List.append_assoc, List.cons_append] at ha
    obtain ⟨tx, t2, rfl, h1, h2⟩ := accounts_append_split ha
    obtain ⟨ti, t3, rfl, hti, h3⟩ := accounts_cons_inv rfl h2
    obtain ⟨tl, t4, rfl, htl, h4⟩ := accounts_cons_inv rfl h3
    obtain ⟨tv, t5, rfl, h5, h6⟩ := accounts_append_split h4
    obtain ⟨tr, t6, rfl, htr, h7⟩ := accounts_cons_inv rfl h6
    cases accounts_nil_left h7
    exact .inE (ihx _ h1) hti htl (ihv _ h5) htr
  paren := fun _ _ _ _ ih _ ha => by
    simp only [List.cons_append] at ha
    obtain ⟨tl, t2, rfl, htl, h2⟩ := accounts_cons_inv rfl ha
    obtain ⟨tx, t3, rfl, h3, h4⟩ := accounts_append_split h2
    obtain ⟨tr, t4, rfl, htr, h5⟩ := accounts_cons_inv rfl h4
    cases accounts_nil_left h5
    exact .paren htl (ih _ h3) htr
  call := fun _ _ _ _ _ iha _ ha => by
    simp only [List.cons_append] at ha
    obtain ⟨tf, t2, rfl, htf, h2⟩ := accounts_cons_inv (by simp [identTok]) ha
    obtain ⟨tl, t3, rfl, htl, h3⟩ := accounts_cons_inv rfl h2
    obtain ⟨ta, t4, rfl, h4, h5⟩ := accounts_append_split h3
    rcases accounts_cons_inv_opt h5 with ⟨tr, t5, rfl, htr, h6⟩ | ⟨cm, tr, t5, rfl, hcm, htr, h6, -⟩
    · cases accounts_nil_left h6
      simpa using DExpr.call htf htl (iha _ h4) .none htr
    · cases accounts_nil_left h6
      simpa using DExpr.call htf htl (iha _ h4) (.one hcm) htr
  index := fun _ _ _ _ _ _ ihx ihi _ ha => by
    simp only [List.append_assoc, List.cons_append] at ha
    obtain ⟨tx, t2, rfl, h1, h2⟩ := accounts_append_split ha
    obtain ⟨tl, t3, rfl, htl, h3⟩ := accounts_cons_inv rfl h2
    obtain ⟨ti, t4, rfl, h4, h5⟩ := accounts_append_split h3
    obtain ⟨tr, t5, rfl, htr, h6⟩ := accounts_cons_inv rfl h5
    cases accounts_nil_left h6
    exact .index (ihx _ h1) htl (ihi _ h4) htr
  lnil := fun _ ha => by cases accounts_nil_left ha; exact .nil
  one := fun _ _ ih _ ha => .one (ih _ ha)
  cons := fun _ _ _ _ _ ihe ihl _ ha => by
    obtain ⟨te, t2, rfl, h1, h2⟩ := accounts_append_split ha
    obtain ⟨cm, t3, rfl, hcm, h3⟩ := accounts_cons_inv rfl h2
    exact .cons (ihe _ h1) hcm (ihl _ h3)

theorem dexpr_of_acc (e : Expr) {us : List UTok} {ts : List Token} (hu : unparseExpr e = some us)
    (ha : accounts true us ts = true) : DExpr e ts := dexpr_alg.expr e us hu ts ha

theorem dlist_of_acc (l : ExprList) {us : List UTok} {ts : List Token} (hu : unparseExprList l = some us)
    (ha : accounts true us ts = true) : DList l ts := dexpr_alg.list l us hu ts ha

theorem dexpr_iff {e : Expr} {ts : List Token} :
    DExpr e ts ↔ ∃ us, unparseExpr e = some us ∧ accounts true us ts = true :=
  ⟨DExpr.acc, fun ⟨_, hu, ha⟩ => dexpr_of_acc e hu ha⟩

theorem dlist_iff {l : ExprList} {ts : List Token} :
    DList l ts ↔ ∃ us, unparseExprList l = some us ∧ accounts true us ts = true :=
  ⟨DList.acc, fun ⟨_, hu, ha⟩ => dlist_of_acc l hu ha⟩

end Pql
