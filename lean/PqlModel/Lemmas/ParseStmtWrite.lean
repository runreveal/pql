/-
C05, syntactic half, stage 2: the comparison `selectEq (normSel ·) (normSel ·)` of the oracle
follows from field-wise agreement up to `normS` (`SelRel`).

The Bool side conditions (`exprOK`, `opOK`, `subOK`), the link with its
let bindings resolved (`substSubA`), and the expression-level bridge from the C01 round trip (`ExprRT`).
The intended SELECT `selOf` is cut along the same lines as `Subquery.write` in Lemmas/SelSemBody.lean
(`SelSem.selOf_eq`: `fromOf`, `partsOf`, `obsOf`, `limOf`).
Nothing here speaks of `Subquery.write` itself; its cuts are in Lemmas/ScopeCompile.lean.
-/
import PqlModel.Lemmas.SelSemBody
import PqlModel.Lemmas.ParseStmtClauses
namespace Pql.C05
set_option linter.unusedSimpArgs false
open Pql Sql CompileOracle Intended Pql.RT

mutual
theorem sexpr_beq_refl : ∀ a : SExpr, SExpr.beq a a = true
  | .col _ | .str _ | .num _ | .param _ | .const _ => by simp [SExpr.beq]
  | .call f s as fl => by simp [SExpr.beq, sexprList_beq_refl as, sexpr_beq_refl fl]
  | .case_ a b c => by simp [SExpr.beq, sexpr_beq_refl a, sexpr_beq_refl b, sexpr_beq_refl c]
  | .neg a | .pos a | .not_ a => by simp [SExpr.beq, sexpr_beq_refl a]
  | .bin o a b => by simp [SExpr.beq, sexpr_beq_refl a, sexpr_beq_refl b]
  | .isNull a n => by simp [SExpr.beq, sexpr_beq_refl a]
  | .inList a as => by simp [SExpr.beq, sexpr_beq_refl a, sexprList_beq_refl as]
  | .index a i => by simp [SExpr.beq, sexpr_beq_refl a, sexpr_beq_refl i]
  | .none_ => by simp [SExpr.beq]
theorem sexprList_beq_refl : ∀ a : SExprList, SExprList.beq a a = true
  | .nil => by simp [SExprList.beq]
  | .cons a as => by simp [SExprList.beq, sexpr_beq_refl a, sexprList_beq_refl as]
end

theorem NormEq.beq {s w : SExpr} (h : NormEq s w) : (normS s == normS w) = true := by
  unfold NormEq at h
  rw [h]
  exact sexpr_beq_refl _

def JoinRel (j k : JoinClause) : Prop := j.left = k.left ∧ j.table = k.table ∧ NormEq j.on k.on

structure SelRel (a b : Select) : Prop where
  distinct : a.distinct = b.distinct
  items : ListRel ItemRel a.items b.items
  source : a.source = b.source
  join : OptRel JoinRel a.join b.join
  where_ : OptRel NormEq a.where_ b.where_
  groupBy : ListRel NormEq a.groupBy b.groupBy
  orderBy : ListRel OrdRel a.orderBy b.orderBy
  limit : OptRel NormEq a.limit b.limit

theorem tableRefEq_refl (t : TableRef) : tableRefEq t t = true := by
  cases t <;> simp [tableRefEq]

theorem optEq_of_rel {a b : Option SExpr} (h : OptRel NormEq a b) : optEq (a.map normS) (b.map normS) = true := by
  cases h with
  | none => rfl
  | some h => simpa [optEq] using h.beq

theorem zip_all_of_rel {α β γ δ : Type} {R : α → β → Prop} {f : α → γ} {g : β → δ} {p : γ × δ → Bool}
    (hp : ∀ x y, R x y → p (f x, g y) = true) {a : List α} {b : List β} (h : ListRel R a b) :
    ((a.map f).zip (b.map g)).all p = true := by
  induction h with
  | nil => rfl
  | cons hab _ ih => simp only [List.map_cons, List.zip_cons_cons, List.all_cons, ih, hp _ _ hab, Bool.and_self]

theorem items_all {a b : List SelectItem} (h : ListRel ItemRel a b) :
    ((a.map fun it => { it with expr := normS it.expr }).zip (b.map fun it => { it with expr := normS it.expr })).all
      (fun (x, y) => x.star == y.star && x.expr == y.expr && x.alias == y.alias) = true :=
  zip_all_of_rel (fun x y ⟨h1, h2, h3⟩ => by simp [h1, h3, h2.beq]) h

theorem order_all {a b : List OrderTerm} (h : ListRel OrdRel a b) :
    ((a.map fun o => { o with expr := normS o.expr }).zip (b.map fun o => { o with expr := normS o.expr })).all
      (fun (x, y) => x.expr == y.expr && x.asc == y.asc && x.nullsFirst == y.nullsFirst) = true :=
  zip_all_of_rel (fun x y ⟨h1, h2, h3⟩ => by simp [h2, h3, h1.beq]) h

theorem listEq_of_rel {a b : List SExpr} (h : ListRel NormEq a b) : listEq (a.map normS) (b.map normS) = true := by
  have := zip_all_of_rel (f := normS) (g := normS) (p := fun (x, y) => x == y) (fun x y (hxy : NormEq x y) => hxy.beq) h
  unfold listEq
  rw [this]
  simp [h.length_eq]

theorem selectEq_of_rel {a b : Select} (h : SelRel a b) : selectEq (normSel a) (normSel b) = true := by
  obtain ⟨da, ia, sa, ja, wa, ga, oa, la⟩ := a
  obtain ⟨db, ib, sb, jb, wb, gb, ob, lb⟩ := b
  obtain ⟨h1, h2, h3, h4, h5, h6, h7, h8⟩ := h
  simp only at h1 h2 h3 h4 h5 h6 h7 h8
  subst h1 h3
  have e2 := items_all h2
  have e7 := order_all h7
  have e5 := optEq_of_rel h5
  have e8 := optEq_of_rel h8
  have e6 := listEq_of_rel h6
  unfold selectEq normSel
  cases h4 with
  | none =>
    simp only [tableRefEq_refl, List.length_map, h2.length_eq, h7.length_eq, e2, e7, e5, e8, e6, Option.map_none,
      beq_self_eq_true, Bool.and_self]
  | some hab =>
    obtain ⟨e1, e2', e3⟩ := hab
    simp only [tableRefEq_refl, List.length_map, h2.length_eq, h7.length_eq, e2, e7, e5, e8, e6, Option.map_some,
      beq_self_eq_true, Bool.and_self, e1, e2', e3.beq, Bool.and_true]

end Pql.C05

namespace Pql.E2EFinal
open Pql CompileOracle Intended

def substSrcA (env : List (Bytes × Expr)) : SrcA → SrcA
  | .table n => .table n
  | .join u l a b c => .join u l a b (substExpr env c)

def substSubA (env : List (Bytes × Expr)) (a : SubA) : SubA :=
  { name := a.name, source := substSrcA env a.source, op := a.op.map (substOp env),
    sort := a.sort.map (·.map (substTerm env)), take := a.take.map (substExpr env) }

theorem substSubA_nil : substSubA [] = id := by
  funext ⟨name, source, op, sort, take⟩
  have hs : substSrcA [] source = source := by cases source <;> simp only [substSrcA, substExpr_nil]
  have ht : substTerm [] = id := funext fun t => by simp only [substTerm, substExpr_nil, id]
  have ho : substOp [] = id := funext C05.substOp_nil
  have he : substExpr [] = id := funext substExpr_nil
  simp [substSubA, hs, ht, ho, he]

end Pql.E2EFinal
namespace Pql.C05
set_option linter.unusedSimpArgs false
open Pql Sql CompileOracle Intended Pql.RT Pql.E2EFinal

/-- an expression the round trip applies to: lexable literals / names, `shapeOK` (no operator-word
    function names, no empty identifier, no empty `in` list), and translatable by `tr` -/
def exprOKin (join : Bool) (e : Expr) : Bool := e.lexOK && shapeOK e && (tr join e).isSome

abbrev exprOK (e : Expr) : Bool := exprOKin false e

/-- a `project` column: `name` alone stands for `name = name` -/
def projColOK (c : Column) : Bool :=
  match c.x with
  | .nil => c.name.isSome
  | x => exprOK x

def colOK (c : Column) : Bool := exprOK c.x

def opOK : Option Op → Bool
  | none => true
  | some (.as_ ..) => true
  | some (.project _ _ cols) => !cols.isEmpty && cols.all projColOK
  | some (.extend _ _ cols) => cols.all colOK
  | some (.summarize _ _ cols _ gb) => !(gb ++ cols).isEmpty && cols.all colOK && gb.all colOK
  | some (.where_ _ _ p) => exprOK p
  | some (.count ..) => true
  | some (.render ..) => true
  | some _ => false

def srcOK : SrcA → Bool
  | .table _ => true
  | .join _ _ _ _ cond => exprOKin true cond

def sortOK : Option (List SortTerm) → Bool
  | some ts => !ts.isEmpty && ts.all fun t => exprOK t.x
  | none => true

def takeOK : Option Expr → Bool
  | some n => exprOK n
  | none => true

def subOK (a : SubA) : Bool := srcOK a.source && opOK a.op && sortOK a.sort && takeOK a.take

theorem exprP_of_ok {src : Bytes} {m : Mode} {e : Expr} {cs : List Chunk}
    (hok : exprOKin (m == .join) e = true) (hw : writeExpr ⟨src, [], m⟩ e = .ok cs) :
    ∃ want, tr (m == .join) e = some want ∧ ExprP (toksOf cs) want := by
  simp only [exprOKin, Bool.and_eq_true, Option.isSome_iff_exists] at hok
  obtain ⟨⟨hl, hs⟩, want, ht⟩ := hok
  exact ⟨want, ht, (C01.good_all ⟨src, [], m⟩ rfl e hs hl).expr hw ht⟩

/-- What the statement-level lemmas need of the expression level: an expression written under `scope`
    is read back as the translation of that expression with the bindings `env` resolved.  Without lets
    (`scope = []`, `env = []`) this is `exprP_of_ok`; for a scope built from let statements it is
    `E2EFinal.exprP_s`. -/
def ExprRT (src : Bytes) (scope : Scope) (env : List (Bytes × Expr)) : Prop :=
  ∀ (m : Mode) (e : Expr) (cs : List Chunk), exprOKin (m == .join) (substExpr env e) = true →
    writeExpr ⟨src, scope, m⟩ e = .ok cs →
    ∃ want, tr (m == .join) (substExpr env e) = some want ∧ ExprP (toksOf cs) want

theorem ExprRT.nil (src : Bytes) : ExprRT src [] [] := fun m e cs hok hw => by
  rw [substExpr_nil] at hok ⊢
  exact exprP_of_ok hok hw

section
variable {src : Bytes} {scope : Scope} {env : List (Bytes × Expr)} (rt : ExprRT src scope env)
include rt

theorem ExprRT.default {e : Expr} {cs : List Chunk} (hok : exprOK (substExpr env e) = true)
    (hw : writeExpr ⟨src, scope, .default⟩ e = .ok cs) :
    ∃ want, tr false (substExpr env e) = some want ∧ ExprP (toksOf cs) want :=
  rt .default e cs hok hw

theorem ExprRT.join {e : Expr} {cs : List Chunk} (hok : exprOKin true (substExpr env e) = true)
    (hw : writeExpr ⟨src, scope, .join⟩ e = .ok cs) :
    ∃ want, tr true (substExpr env e) = some want ∧ ExprP (toksOf cs) want :=
  rt .join e cs hok hw

end

end Pql.C05
