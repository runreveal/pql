/-
The expected statement trees of the functions `harness/extract_lexir.go` translates, and the
theorems `…_ir : decodeFn (irOf <regenerated table> key) = some <expected tree> := by rfl`.
An edit of the Go code changes the regenerated table and one of these stops building; the semantic
lemmas (Lemmas/LexIRCore, LexIRCursor, LexIRExponent, LexIRMantissa, LexIRHex, LexIRNumber,
Props/C09NumberIR, C15SplitIR, C10LinecolIR) are about the expected
trees.
-/
import PqlModel.Model.LexIR
namespace Pql.LexIR
open Pql

/-! Shorthands for pieces of syntax that recur in the trees.  They are `abbrev`s: the equations of the interpreter apply
through them, so a run (`lx_simp`, Lemmas/LexIRCore.lean) needs no unfolding step for them. -/

abbrev eS : Expr := .var "s"
abbrev ePos : Expr := .fld eS "pos"
abbrev eSrc : Expr := .fld eS "s"
abbrev eNext : Expr := .call "scanner.next" [eS]
abbrev sPrev : Stmt := .do_ (.call "scanner.prev" [eS])
abbrev cIs (n : Nat) : Expr := .bin .eq (.var "c") (.int n)
abbrev cIsNot (n : Nat) : Expr := .bin .ne (.var "c") (.int n)
abbrev notOk : Expr := .not (.var "ok")
abbrev notDigit : Expr := .not (.call "isDigit" [.var "c"])
abbrev notHex : Expr := .not (.call "isHexDigit" [.var "c"])
abbrev spanHere : Expr := .call "newSpan" [.var "start", ePos]
abbrev tokHere (k v : String) : Expr := .mkToken (.kind k) spanHere (.str v)
/-- `span := newSpan(start, s.pos); return Token{TokenNumber, span, normalizeNumberValue(spanString(s.s, span))}` -/
def retNormalized : List Stmt :=
  [.def_ "span" spanHere,
   .ret [.mkToken (.kind "TokenNumber") (.var "span")
     (.call "normalizeNumberValue" [.call "spanString" [eSrc, .var "span"]])]]

def newSpanDecl : FnDecl :=
  ⟨("", ""), [("start", "int"), ("end", "int")], [("", "Span")],
   [.ret [.mkSpan (.var "start") (.var "end")]]⟩

def indexSpanDecl : FnDecl :=
  ⟨("", ""), [("i", "int")], [("", "Span")], [.ret [.mkSpan (.var "i") (.var "i")]]⟩

def spanIsValidDecl : FnDecl :=
  ⟨("span", "Span"), [], [("", "bool")],
   [.ret [.bin .and
     (.bin .and (.bin .ge (.fld (.var "span") "Start") (.int 0)) (.bin .ge (.fld (.var "span") "End") (.int 0)))
     (.bin .le (.fld (.var "span") "Start") (.fld (.var "span") "End"))]]⟩

def spanStringDecl : FnDecl :=
  ⟨("", ""), [("s", "string"), ("span", "Span")], [("", "string")],
   [.ite (.not (.call "Span.IsValid" [.var "span"])) [.ret [.str ""]] [],
    .ret [.slice (.var "s") (.fld (.var "span") "Start") (.fld (.var "span") "End")]]⟩

def nextDecl : FnDecl :=
  ⟨("s", "*scanner"), [], [("", "rune"), ("", "bool")],
   [.ite (.bin .ge ePos (.len eSrc)) [.ret [.int 0, .ff]] [],
    .def2 "c" "n" (.call "utf8.DecodeRuneInString" [.slice eSrc ePos .none]),
    .setFld "s" "last" ePos,
    .setFld "s" "pos" (.bin .add ePos (.var "n")),
    .ret [.var "c", .tt]]⟩

def prevDecl : FnDecl := ⟨("s", "*scanner"), [], [], [.setFld "s" "pos" (.fld eS "last")]⟩

def setPosDecl : FnDecl :=
  ⟨("s", "*scanner"), [("pos", "int")], [], [.setFld "s" "pos" (.var "pos"), .setFld "s" "last" (.var "pos")]⟩

def s0Is (n : Nat) : Expr := .bin .eq (.index (.var "s") (.int 0)) (.int n)

def normalizeDecl : FnDecl :=
  ⟨("", ""), [("s", "string")], [("", "string")],
   [.set "s" (.call "strings.TrimLeft" [.var "s", .str "0"]),
    .ite (.bin .eq (.var "s") (.str "")) [.ret [.str "0"]]
      [.ite (.bin .or (.bin .or (s0Is 46) (s0Is 101)) (s0Is 69))
        [.ret [.bin .add (.str "0") (.var "s")]]
        [.ret [.var "s"]]]]⟩

abbrev setNext : Stmt := .set2 "c" "ok" eNext
abbrev defNext : Stmt := .def2 "c" "ok" eNext
abbrev retFalseIfNotOk : Stmt := .ite notOk [.ret [.ff]] []

/-- the deferred closure of `numberExponent` -/
def expDefer : List Stmt := [.ite (.not (.var "found")) [.do_ (.call "scanner.setPos" [eS, .var "start"])] []]

/-- the digit loop of `numberExponent` -/
def expLoopBody : List Stmt :=
  [setNext, .ite notOk [.ret [.tt]] [], .ite notDigit [sPrev, .ret [.tt]] []]

/-- `numberExponent` after `start := s.pos` and the `defer` -/
def expRest : List Stmt :=
  [defNext,
   retFalseIfNotOk,
   .ite (.bin .and (cIsNot 101) (cIsNot 69)) [.ret [.ff]] [],
   setNext,
   retFalseIfNotOk,
   .ite (.bin .or (cIs 43) (cIs 45)) [setNext, retFalseIfNotOk] [],
   .ite notDigit [.ret [.ff]] [],
   .forever expLoopBody]

def numberExponentDecl : FnDecl :=
  ⟨("s", "*scanner"), [], [("found", "bool")], .def_ "start" ePos :: .defer_ expDefer :: expRest⟩

/-- the hexadecimal-digit loop of `numberOrDot` -/
def hexLoopBody : List Stmt := [defNext, .ite notOk [.break_] [], .ite notHex [sPrev, .break_] []]

/-- the hexadecimal branch after the `0x` -/
def hexBranch : List Stmt :=
  [.def_ "hexDigitStart" ePos,
   defNext,
   .ite (.bin .or notOk notHex)
     [.do_ (.call "scanner.setPos" [eS, .bin .add (.var "start") (.int 2)]),
      .ret [tokHere "TokenError" "invalid hex literal"]] [],
   .forever hexLoopBody,
   .def_ "span" spanHere,
   .def2 "n" "err" (.call "strconv.ParseUint" [.slice eSrc (.var "hexDigitStart") ePos, .int 16, .int 64]),
   .ite (.bin .ne (.var "err") .nil)
     [.ret [.call "errorToken" [.var "span", .str "parse hex literal: %v", .var "err"]]] [],
   .ret [.mkToken (.kind "TokenNumber") (.var "span") (.call "strconv.FormatUint" [.var "n", .int 10])]]

/-- the case `c == '0'` of the first switch -/
def zeroCase : List Stmt :=
  [defNext,
   .ite notOk [.ret [tokHere "TokenNumber" "0"]] [],
   .ite (cIs 46) [.set "hasDecimalPoint" .tt]
     [.ite (.bin .or (cIs 101) (cIs 69))
       (sPrev :: .do_ (.call "scanner.numberExponent" [eS]) :: retNormalized)
       [.ite (.bin .or (cIs 120) (cIs 88)) hexBranch
         [.ite notDigit [sPrev] []]]]]

/-- the case `c == '.'` of the first switch -/
def dotCase : List Stmt :=
  [.set "hasDecimalPoint" .tt,
   defNext,
   .ite notOk [.ret [tokHere "TokenDot" ""]] [],
   .ite notDigit [sPrev, .ret [tokHere "TokenDot" ""]] []]

/-- the case `!isDigit(c)` of the first switch -/
def otherCase : List Stmt :=
  [.ite notDigit
    [.def_ "end" ePos,
     sPrev,
     .ret [.call "errorToken" [.call "newSpan" [.var "start", .var "end"],
       .str "parse numeric literal: unexpected character %q", .var "c"]]] []]

/-- the body of the loop over the subsequent decimal digits -/
def mantLoopBody : List Stmt :=
  [defNext,
   .ite notOk retNormalized
     [.ite (.bin .and (cIs 46) (.not (.var "hasDecimalPoint"))) [.set "hasDecimalPoint" .tt]
       [.ite notDigit (sPrev :: .do_ (.call "scanner.numberExponent" [eS]) :: retNormalized) []]]]

def firstSwitch : Stmt := .ite (cIs 48) zeroCase [.ite (cIs 46) dotCase otherCase]

def numberOrDotDecl : FnDecl :=
  ⟨("s", "*scanner"), [], [("", "Token")],
   [.def_ "start" ePos,
    defNext,
    .ite notOk [.ret [.call "errorToken" [.call "indexSpan" [.var "start"], .str "parse numeric literal: unexpected EOF"]]] [],
    .def_ "hasDecimalPoint" .ff,
    firstSwitch,
    .forever mantLoopBody]⟩

def splitLoopBody : List Stmt :=
  [.ite (.bin .eq (.fld (.var "tok") "Kind") (.kind "TokenSemi"))
    [.set "parts" (.call "append" [.var "parts",
       .slice (.var "source") (.var "start") (.fld (.fld (.var "tok") "Span") "Start")]),
     .set "start" (.fld (.fld (.var "tok") "Span") "End")] []]

def splitStatementsDecl : FnDecl :=
  ⟨("", ""), [("source", "string")], [("", "[]string")],
   [.def_ "tokens" (.call "Scan" [.var "source"]),
    .var_ "parts" "[]string",
    .def_ "start" (.int 0),
    .range "tok" (.var "tokens") splitLoopBody,
    .set "parts" (.call "append" [.var "parts", .slice (.var "source") (.var "start") .none]),
    .ret [.var "parts"]]⟩

def linecolLoopBody : List Stmt :=
  [.ite (.bin .eq (.var "c") (.int 10))
    [.set "line" (.bin .add (.var "line") (.int 1)), .set "col" (.int 1)]
    [.ite (.bin .eq (.var "c") (.int 9))
      [.def_ "tabWidth" (.int 8),
       .def_ "tabLoc" (.bin .mod (.bin .sub (.var "col") (.int 1)) (.var "tabWidth")),
       .set "col" (.bin .add (.var "col") (.bin .sub (.var "tabWidth") (.var "tabLoc")))]
      [.set "col" (.bin .add (.var "col") (.int 1))]]]

def linecolDecl : FnDecl :=
  ⟨("", ""), [("source", "string"), ("pos", "int")], [("line", "int"), ("col", "int")],
   [.set "line" (.int 1),
    .set "col" (.int 1),
    .range "c" (.slice (.var "source") .none (.var "pos")) linecolLoopBody,
    .ret []]⟩

def litKindIs (op : BinOp) : Expr := .bin op (.fld (.var "lit") "Kind") (.kind "TokenNumber")

def isFloatDecl : FnDecl :=
  ⟨("lit", "*BasicLit"), [], [("", "bool")],
   [.ret [.bin .and (litKindIs .eq) (.call "strings.ContainsAny" [.fld (.var "lit") "Value", .str ".eE"])]]⟩

def isIntegerDecl : FnDecl :=
  ⟨("lit", "*BasicLit"), [], [("", "bool")],
   [.ret [.bin .and (litKindIs .eq) (.not (.call "BasicLit.IsFloat" [.var "lit"]))]]⟩

def uint64Decl : FnDecl :=
  ⟨("lit", "*BasicLit"), [], [("", "uint64")],
   [.ite (litKindIs .ne) [.ret [.int 0]] [],
    .ite (.call "BasicLit.IsFloat" [.var "lit"])
      [.ret [.call "uint64" [.call "BasicLit.Float64" [.var "lit"]]]] [],
    .def2 "x" "err" (.call "strconv.ParseUint" [.fld (.var "lit") "Value", .int 10, .int 64]),
    .ite (.bin .ne (.var "err") .nil) [.ret [.int 0]] [],
    .ret [.var "x"]]⟩

theorem newSpan_ir : decodeFn (irOf Facts.lexNumberIR "newSpan") = some newSpanDecl := by rfl
theorem indexSpan_ir : decodeFn (irOf Facts.lexNumberIR "indexSpan") = some indexSpanDecl := by rfl
theorem spanIsValid_ir : decodeFn (irOf Facts.lexNumberIR "Span.IsValid") = some spanIsValidDecl := by rfl
theorem spanString_ir : decodeFn (irOf Facts.lexNumberIR "spanString") = some spanStringDecl := by rfl
theorem next_ir : decodeFn (irOf Facts.lexNumberIR "scanner.next") = some nextDecl := by rfl
theorem prev_ir : decodeFn (irOf Facts.lexNumberIR "scanner.prev") = some prevDecl := by rfl
theorem setPos_ir : decodeFn (irOf Facts.lexNumberIR "scanner.setPos") = some setPosDecl := by rfl
theorem normalize_ir : decodeFn (irOf Facts.lexNumberIR "normalizeNumberValue") = some normalizeDecl := by rfl
theorem numberExponent_ir :
    decodeFn (irOf Facts.lexNumberIR "scanner.numberExponent") = some numberExponentDecl := by rfl
theorem numberOrDot_ir :
    decodeFn (irOf Facts.lexNumberIR "scanner.numberOrDot") = some numberOrDotDecl := by rfl
theorem splitStatements_ir :
    decodeFn (irOf Facts.lexSplitIR "SplitStatements") = some splitStatementsDecl := by rfl
theorem linecol_parser_ir : decodeFn (irOf Facts.linecolIR "parser.linecol") = some linecolDecl := by rfl
theorem isFloat_ir : decodeFn (irOf Facts.litAccessIR "BasicLit.IsFloat") = some isFloatDecl := by rfl
theorem isInteger_ir : decodeFn (irOf Facts.litAccessIR "BasicLit.IsInteger") = some isIntegerDecl := by rfl
theorem uint64_ir : decodeFn (irOf Facts.litAccessIR "BasicLit.Uint64") = some uint64Decl := by rfl

theorem fnOf_eq {tbl : List (String × List (List String))} {key : String} {d : FnDecl}
    (h : decodeFn (irOf tbl key) = some d) (env : Env) (fuel : Nat) :
    fnOf tbl env fuel key = interpFn env fuel d := by
  simp only [fnOf, h]

def envSpan (lib : Lib) (fuel : Nat) : Env :=
  layer Facts.lexNumberIR fuel ["newSpan", "indexSpan", "Span.IsValid", "spanString"] (prims lib)

def envCursor (lib : Lib) (fuel : Nat) : Env :=
  layer Facts.lexNumberIR fuel ["scanner.next", "scanner.prev", "scanner.setPos", "normalizeNumberValue"]
    (envSpan lib fuel)

def envExp (lib : Lib) (fuel : Nat) : Env :=
  layer Facts.lexNumberIR fuel ["scanner.numberExponent"] (envCursor lib fuel)

/-- everything `Facts.lexNumberIR` has, in the order of the table: each function sees the primitives
    and the functions before it -/
def envNumber (lib : Lib) (fuel : Nat) : Env :=
  layer Facts.lexNumberIR fuel ["scanner.numberOrDot"] (envExp lib fuel)

theorem envNumber_eq (lib : Lib) (fuel : Nat) :
    envNumber lib fuel = layer Facts.lexNumberIR fuel (Facts.lexNumberIR.map (·.1)) (prims lib) := by
  simp only [envNumber, envExp, envCursor, envSpan, layer]
  rfl

/-- `(*scanner).numberOrDot` as regenerated -/
def interpNumberOrDot (lib : Lib) (fuel : Nat) : Fn :=
  fnOf Facts.lexNumberIR (envExp lib fuel) fuel "scanner.numberOrDot"

def envLit (lib : Lib) : Env :=
  layer Facts.litAccessIR 0 ["BasicLit.IsFloat", "BasicLit.IsInteger", "BasicLit.Uint64"] (prims lib)

/-! ### the equations of the interpreter

Lean makes the equation lemmas of a recursive definition when a proof first unfolds it.  In the module where that
happens every later proof that unfolds it makes them again (at each `simp` that runs the interpreter, and that is
dear); a module that imports that one finds them made.  So every recursive definition of Model/LexIR.lean is
unfolded here once, on the smallest input, ahead of the modules that run the interpreter. -/

theorem interp_smallest (env : Env) (fuel : Nat) (st : State) : exec env fuel .break_ st = .ok (.brk, st) ∧
    eval env [] .tt st.heap = .ok (.bool true, st.heap) ∧ evalArgs env [] [] st.heap = .ok ([], st.heap) ∧
    execBlock env fuel [] st = .ok (.next, st) ∧ evalCall env [] .tt st.heap = stuck ∧
    bindArgs [] [] = some [] ∧ zeroResults [] = some [] ∧ storeResults [] [] st = .ok st ∧ runDefers env fuel [] st = .ok st ∧
    readResults [] [] = .ok [] ∧ assignIn "" .nil [] = none ∧ fldOf st.heap .nil "" = stuck ∧ valEq .nil .nil = stuck ∧
    binVal .lt .nil .nil = stuck ∧ lenVal .nil = stuck ∧ boundOf 0 (.int 0) = .ok 0 ∧ single ([], st.heap) = stuck ∧
    rangeLoop "" (fun s => .ok (.next, s)) [] st = .ok (.next, st) ∧ foreverLoop (fun s => .ok (.next, s)) 0 st = .error .fuel ∧
    rangeItems .nil = stuck := by
  simp only [exec, eval, evalArgs, execBlock, evalCall, bindArgs, zeroResults, storeResults, runDefers, readResults, assignIn,
    fldOf, valEq, binVal, lenVal, boundOf, single, rangeLoop, foreverLoop, rangeItems, and_self]

end Pql.LexIR
