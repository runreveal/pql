/-
Facts below the dispatch tie: a lead byte ≥ 0x80 never decodes to an ASCII rune; the rune loop of a
`//` comment consumes the same bytes as the model's byte loop `commentLen`.
-/
import PqlModel.Lemmas.Dispatch
import PqlModel.Lemmas.LexBasic
import PqlModel.Lemmas.LinecolLemmas
namespace Pql.Dispatch
open Pql

/-! The payload bits of the lead byte are not all 0 (`0xC2 ≤ n0`), or they are (`0xE0`, `0xF0`) and
`secondLo` then forces the top payload bits of the second byte: no overlong encodings. -/

theorem rune2_ge {n0 x : Nat} (h0 : ¬ n0 < 0xC2) (h1 : n0 < 0xE0) : 128 ≤ n0 % 32 * 64 + x := by
  omega

theorem rune3_ge {n0 b x : Nat} (h0 : ¬ n0 < 0xE0) (h1 : n0 < 0xF0) (hlo : secondLo n0 ≤ b)
    (hhi : b ≤ secondHi n0) : 128 ≤ n0 % 16 * 4096 + b % 64 * 64 + x := by
  have : n0 = 0xE0 ∨ 1 ≤ n0 % 16 := by omega
  rcases this with rfl | h
  · have : 0xA0 ≤ b ∧ b ≤ 0xBF := ⟨hlo, hhi⟩
    omega
  · omega

theorem rune4_ge {n0 b x y : Nat} (h0 : ¬ n0 < 0xF0) (h1 : n0 < 0xF5) (hlo : secondLo n0 ≤ b)
    (hhi : b ≤ secondHi n0) : 128 ≤ n0 % 8 * 262144 + b % 64 * 4096 + x + y := by
  have : n0 = 0xF0 ∨ 1 ≤ n0 % 8 := by omega
  rcases this with rfl | h
  · have : 0x90 ≤ b ∧ b ≤ 0xBF := ⟨hlo, hhi⟩
    omega
  · omega

theorem decodeMulti_rune_ge {n0 : Nat} {rest : Bytes} {r w : Nat}
    (h : decodeMulti n0 rest = some (r, w)) : 128 ≤ r := by
  unfold decodeMulti at h
  by_cases h0 : n0 < 0xC2
  · simp only [h0, ↓reduceIte, reduceCtorEq] at h
  simp only [h0, ↓reduceIte] at h
  by_cases h1 : n0 < 0xE0
  · simp only [h1, ↓reduceIte] at h
    split at h
    · split at h
      · cases h; exact rune2_ge h0 h1
      · cases h
    · cases h
  simp only [h1, ↓reduceIte] at h
  by_cases h2 : n0 < 0xF0
  · simp only [h2, ↓reduceIte] at h
    split at h
    · split at h
      · rename_i hb
        simp only [Bool.and_eq_true, decide_eq_true_eq] at hb
        cases h; exact rune3_ge h1 h2 hb.1.1 hb.1.2
      · cases h
    · cases h
  simp only [h2, ↓reduceIte] at h
  by_cases h3 : n0 < 0xF5
  · simp only [h3, ↓reduceIte] at h
    split at h
    · split at h
      · rename_i hb
        simp only [Bool.and_eq_true, decide_eq_true_eq] at hb
        cases h; exact rune4_ge h2 h3 hb.1.1.1 hb.1.1.2
      · cases h
    · cases h
  · simp only [h3, ↓reduceIte, reduceCtorEq] at h

theorem decodeRune_rune_ge (c : UInt8) (rest : Bytes) (h : 128 ≤ c.toNat) :
    128 ≤ (decodeRune (c :: rest)).1 := by
  rw [decodeRune_cons, if_neg (by omega)]
  cases hm : decodeMulti c.toNat rest with
  | none => simp [runeError]
  | some rw =>
    obtain ⟨r, w⟩ := rw
    exact decodeMulti_rune_ge hm

theorem decodeRune_eq_ascii (d : UInt8) (r : Bytes) (k : Nat) (hk : k < 128) :
    (decodeRune (d :: r)).1 = k ↔ d.toNat = k := by
  by_cases h : d.toNat < 128
  · rw [decodeRune_ascii d r h]
  · have := decodeRune_rune_ge d r (by omega)
    omega

theorem runesUntil_newline (s : Bytes) : runesUntil 10 s = commentLen s := by
  induction h : s.length using Nat.strongRecOn generalizing s with
  | _ n ih =>
    cases s with
    | nil => simp [runesUntil, commentLen]
    | cons c rest =>
      rw [runesUntil]
      by_cases hc : c.toNat < 128
      · rw [decodeRune_ascii c rest hc]
        simp only [List.drop_succ_cons, List.drop_zero, commentLen]
        by_cases h10 : c = 10
        · subst h10; simp
        · have : c.toNat ≠ 10 := fun e => h10 (UInt8.toNat_inj.mp e)
          simp only [beq_iff_eq, this, ↓reduceIte, h10]
          rw [ih rest.length (by simp at h; omega) rest rfl]
          omega
      · have hge := decodeRune_rune_ge c rest (by omega)
        have hne : ((decodeRune (c :: rest)).1 == 10) = false := by
          simp only [beq_eq_false_iff_ne, ne_eq]; omega
        rw [hne]
        simp only [Bool.false_eq_true, ↓reduceIte]
        obtain ⟨y, hy, hlen, hy128⟩ := decodeRune_block c rest
        have hskip := commentLen_skip (c :: y) ((c :: rest).drop (decodeRune (c :: rest)).2) fun b hb e => by
          subst e
          rcases List.mem_cons.mp hb with rfl | hb
          · simp at hc
          · simpa using hy128 _ hb
        rw [List.cons_append, ← hy, List.length_cons, hlen] at hskip
        rw [ih ((c :: rest).drop (decodeRune (c :: rest)).2).length (by simp at h ⊢; omega) _ rfl, hskip]

end Pql.Dispatch
