/-
Property C10 for expressions: the `Span()` of an expression whose `unparse` accounts (with
positions) for a token list is the extent of that token list, by the rules of `ExtOf` along the
ways `unparseExpr` succeeds.

Property C10 for the parts of operators: sort terms, columns, render properties, and
comma-separated lists of them.
-/
import PqlModel.Lemmas.SpanExtentAcc
import PqlModel.Lemmas.UnparseInduct
import PqlModel.Lemmas.AccountedOps
namespace Pql
open Grammar

theorem identsDotted_ne_nil {parts : List Ident} (h : parts ≠ []) : identsDotted parts ≠ [] := by
  match parts, h with
  | [i], _ => simp [identsDotted]
  | i :: j :: is, _ => simp [identsDotted]

theorem tokOk_span {u : UTok} {t : Token} {sp : Span} (h : tokOk u t = true)
    (hs : u.start = some sp.start := by rfl) (he : u.stop = some sp.stop := by rfl) : sp = t.span :=
  posMatches_span hs he (tokOk_pos h)

theorem identsDotted_ext : ∀ (parts : List Ident), parts ≠ [] →
    ExtOf (identsDotted parts) (sliceSpan (parts.map fun i => i.span))
  | [], h => absurd rfl h
  | [i], _ => by
    rw [sliceSpan_eq_unions]
    exact (ExtOf.tok i.span rfl rfl rfl).last
  | i :: j :: is, _ => by
    have ih := identsDotted_ext (j :: is) (by simp)
    rw [sliceSpan_eq_unions] at ih ⊢
    exact ExtOf.sep (us1 := [identTok i]) (ExtOf.tok i.span rfl rfl rfl) (by simp) rfl ih
      (identsDotted_ne_nil (by simp))

/-- an expression stands for at least one token and its span is the extent of its tokens, clause by
    clause: each clause lists the tokens in the order in which `spanOf` unites the span fields (the
    commas of a list lie inside; the comma that may stand before the `)` of a call lies behind the
    name and the `(`) -/
theorem exprExtAlg : UnparseExprAlg (fun e us => us ≠ [] ∧ ExtOf us e.spanOf)
    (fun l us => (l ≠ .nil → us ≠ []) ∧ ExtOf us (sliceSpan l.spansOf)) where
  qident := fun i is =>
    ⟨identsDotted_ne_nil (List.cons_ne_nil _ _), identsDotted_ext _ (List.cons_ne_nil _ _)⟩
  lit := fun sp _ _ => ⟨List.cons_ne_nil _ _, ExtOf.tok sp rfl rfl rfl⟩
  unary := fun os _ _ _ ih => ⟨List.cons_ne_nil _ _, (ExtOf.tok os rfl rfl rfl).cons ih.2.last⟩
  binary := fun _ os _ _ _ _ ihx ihy =>
    ⟨by simp, ihx.2.cons ((ExtOf.tok os rfl rfl rfl).cons ihy.2.last)⟩
  inE := fun _ i lp _ rp _ _ ihx ihv => ⟨by simp, by
    rw [List.append_assoc]
    exact ihx.2.cons ((ExtOf.tok i rfl rfl rfl).cons ((ExtOf.tok lp rfl rfl rfl).cons
      (ihv.2.cons (ExtOf.tok rp rfl rfl rfl).last)))⟩
  paren := fun lp _ rp _ ih =>
    ⟨List.cons_ne_nil _ _, (ExtOf.tok lp rfl rfl rfl).cons (ih.2.cons (ExtOf.tok rp rfl rfl rfl).last)⟩
  call := fun fn lp _ rp _ iha =>
    ⟨List.cons_ne_nil _ _, ExtOf.gap (ss1 := [fn.span, lp, _]) (ss := []) rp
      ((ExtOf.tok fn.span rfl rfl rfl).cons ((ExtOf.tok lp rfl rfl rfl).cons iha.2.last)) rfl rfl
      (fun _ => List.cons_ne_nil _ _) ExtOf.nil⟩
  index := fun _ lb _ rb _ _ ihx ihi => ⟨by simp, by
    rw [List.append_assoc]
    exact ihx.2.cons ((ExtOf.tok lb rfl rfl rfl).cons (ihi.2.cons (ExtOf.tok rb rfl rfl rfl).last))⟩
  lnil := ⟨fun h => absurd rfl h, ExtOf.nil⟩
  one := fun _ _ ih => ⟨fun _ => ih.1, sliceSpan_eq_unions _ ▸ ih.2.last⟩
  cons := fun _ _ _ _ _ ihe ihl => ⟨fun _ => by simp, by
    have ih2 := ihl.2
    rw [sliceSpan_eq_unions] at ih2 ⊢
    exact ExtOf.sep ihe.2 ihe.1 rfl ih2 (ihl.1 nofun)⟩

theorem unparseExpr_ne_nil {e : Expr} {us : List UTok} (h : unparseExpr e = some us) : us ≠ [] :=
  (exprExtAlg.expr e us h).1

theorem unparseExprList_ne_nil {e : Expr} {es : ExprList} {us : List UTok}
    (h : unparseExprList (.cons e es) = some us) : us ≠ [] := (exprExtAlg.list _ us h).1 nofun

theorem expr_ext {e : Expr} {us : List UTok} (h : unparseExpr e = some us) : ExtOf us e.spanOf :=
  (exprExtAlg.expr e us h).2

theorem exprList_ext {l : ExprList} {us : List UTok} (h : unparseExprList l = some us) :
    ExtOf us (sliceSpan l.spansOf) := (exprExtAlg.list l us h).2

end Pql

namespace Pql
open Grammar

/-- what the induction proves for one kind of node: it stands for at least one token, and its
    span is the extent of the tokens it accounts for -/
def ExtSpec {α} (f : α → Option (List UTok)) (sp : α → Span) : Prop :=
  ∀ c us, f c = some us → us ≠ [] ∧ ∀ ts, TokOK ts → accounts true us ts = true → sp c = ext ts

theorem expr_extSpec : ExtSpec unparseExpr Expr.spanOf := exprExtAlg.expr

theorem sortTerm_extSpec : ExtSpec unparseSortTerm SortTerm.spanOf := by
  intro t us h
  cases hx : unparseExpr t.x with
  | none => simp [unparseSortTerm, hx] at h
  | some xs =>
    rw [unparseSortTerm_eq hx, Option.some.injEq] at h
    subst h
    refine ⟨by simp [unparseExpr_ne_nil hx], ?_⟩
    rw [List.append_assoc, ← List.append_nil (nullsOf t)]
    exact ExtOf.cons (expr_ext hx) (ExtOf.opt (ExtOf.tok _ rfl rfl rfl)
      (ExtOf.opt (ExtOf.tok2 _ rfl rfl rfl rfl) ExtOf.nil))

theorem column_extSpec (project : Bool) : ExtSpec (unparseColumn project) Column.spanOf := by
  refine unparseColumn_cases (P := fun c us => us ≠ [] ∧ ExtOf us c.spanOf) ?_ ?_ ?_
  · intro n asg x xs _ hx
    exact ⟨by simp, (ExtOf.tok n.span rfl rfl rfl).cons ((ExtOf.tok asg rfl rfl rfl).cons
      (ExtOf.last (expr_ext hx)))⟩
  · intro n asg _ hv
    exact ⟨by simp, (ExtOf.tok n.span rfl rfl rfl).cons (ExtOf.skip hv (ExtOf.skip rfl ExtOf.nil))⟩
  · intro asg x xs _ hv hx
    exact ⟨unparseExpr_ne_nil hx, ExtOf.skip rfl (ExtOf.skip hv (ExtOf.last (expr_ext hx)))⟩

theorem prop_extSpec : ExtSpec unparseProp RenderProp.spanOf := by
  rintro ⟨name, asg, x⟩ us h
  simp only [unparseProp, Option.bind_eq_bind, Option.pure_def, Option.bind_eq_some_iff,
    Option.some.injEq] at h
  obtain ⟨n, rfl, xs, hx, rfl⟩ := h
  exact ⟨by simp, (ExtOf.tok n.span rfl rfl rfl).cons ((ExtOf.tok asg rfl rfl rfl).cons
    (ExtOf.last (expr_ext hx)))⟩

theorem sepBy_extSpec {α} {f : α → Option (List UTok)} {sp : α → Span} (hf : ExtSpec f sp) :
    ∀ (cs : List α) (css : List (List UTok)), listM f cs = some css →
      (cs ≠ [] → sepBy commaTok css ≠ []) ∧ ExtOf (sepBy commaTok css) (sliceSpan (cs.map sp)) :=
  sepList_induct (P := fun cs us => (cs ≠ [] → us ≠ []) ∧ ExtOf us (sliceSpan (cs.map sp)))
    ⟨fun h => absurd rfl h, ExtOf.nil⟩
    (fun c y hy => ⟨fun _ => (hf c y hy).1, by rw [sliceSpan_eq_unions]; exact ExtOf.last (hf c y hy).2⟩)
    (fun c c' cs y rest hy ih => ⟨fun _ => by simp, by
      have ih2 := ih.2
      rw [sliceSpan_eq_unions] at ih2 ⊢
      exact ExtOf.sep (hf c y hy).2 (hf c y hy).1 rfl ih2 (ih.1 (List.cons_ne_nil _ _))⟩)

theorem sepBy_ne_nil {α} {f : α → Option (List UTok)} {sp : α → Span} (hf : ExtSpec f sp) {cs : List α}
    {css : List (List UTok)} (h : listM f cs = some css) (hne : cs ≠ []) : sepBy commaTok css ≠ [] :=
  (sepBy_extSpec hf cs css h).1 hne

theorem sepBy_ext {α} {f : α → Option (List UTok)} {sp : α → Span} (hf : ExtSpec f sp) {cs : List α}
    {css : List (List UTok)} (h : listM f cs = some css) : ExtOf (sepBy commaTok css) (sliceSpan (cs.map sp)) :=
  (sepBy_extSpec hf cs css h).2

end Pql
