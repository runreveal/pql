/-
ParsedOK, lexical part: what the PQL scanner hands to the parser already satisfies the lexical
side conditions of the bridge (Spec/ChunkToks.lean).

 * every number token value (`normalizeNumber` of a decimal spelling, or `natToDec` of a hex
   literal) is read by the SQL lexer as exactly one number token (`numOK`);
 * every identifier token value has the shape `[A-Za-z_$][A-Za-z0-9_]*` (`identShaped`), and an
   identifier-shaped value is a single SQL word token iff it does not start with `$`.
-/
import PqlModel.Lemmas.LexRenderNum
import PqlModel.Lemmas.LexReach
import PqlModel.Props.C09b
import PqlModel.Spec.ChunkToks
namespace Pql.ParsedOK
open Pql Sql LexRender

theorem isDigit_eq (c : UInt8) : isDigit c = isDigitB c := by
  rw [isDigit_iff]; rfl

theorem digits_B {ds : Bytes} (h : ∀ c ∈ ds, isDigit c = true) : ∀ c ∈ ds, isDigitB c = true :=
  fun c hc => by rw [← isDigit_eq]; exact h c hc

theorem digitB_range {c : UInt8} (h : isDigitB c = true) : 48 ≤ c.toNat ∧ c.toNat ≤ 57 := by
  simpa [isDigitB] using h

theorem digitB_ne {c : UInt8} (h : isDigitB c = true) :
    (c == 46) = false ∧ (c == 101) = false ∧ (c == 69) = false ∧ (c == 43) = false ∧
      (c == 45) = false := by
  have := digitB_range h
  simp only [beq_iff_toNat]
  refine ⟨?_, ?_, ?_, ?_, ?_⟩ <;> simp <;> omega

theorem not_digitB_of {c : UInt8} (h : c = 46 ∨ c = 101 ∨ c = 69) : isDigitB c = false := by
  rcases h with rfl | rfl | rfl <;> decide

theorem spanWhile_digits (w : Bytes) (hw : ∀ b ∈ w, isDigitB b = true) :
    spanWhile isDigitB w = (w, []) := by
  have := spanWhile_append_stop isDigitB w [] hw (by simp)
  simpa using this

/-- an exponent in the sense of the PQL scanner is an exponent for the SQL lexer -/
theorem lexExponent_isExp (E : Bytes) (h : IsExp E) : lexExponent E = (E, []) := by
  rcases h with rfl | ⟨e, ds, he, hne, hds, hE⟩
  · rfl
  · have hds' := digits_B hds
    have he' : (e == 101 || e == 69) = true := by rcases he with rfl | rfl <;> rfl
    rcases ds with _ | ⟨d0, ds'⟩
    · exact absurd rfl hne
    · have hd0 : isDigitB d0 = true := hds' d0 (by simp)
      have hsp := spanWhile_digits (d0 :: ds') hds'
      rcases hE with rfl | rfl | rfl
      · rcases ds' with _ | ⟨d1, r⟩
        · simp only [lexExponent, if_pos he', if_pos hd0]
        · obtain ⟨_, _, _, h43, h45⟩ := digitB_ne hd0
          simp only [lexExponent, if_pos he', h43, h45, Bool.or_self, Bool.false_and,
            Bool.false_eq_true, if_false, if_pos hd0, hsp]
      · simp only [lexExponent, if_pos he', hd0, beq_self_eq_true, Bool.true_or, Bool.and_self,
          if_true, hsp]
      · simp only [lexExponent, if_pos he', hd0, beq_self_eq_true, Bool.or_true, Bool.and_self,
          if_true, hsp]

theorem numTail_isExp (pre E : Bytes) (h : IsExp E) : numTail pre E = some (pre ++ E, []) := by
  simp [numTail, lexExponent_isExp E h]

theorem numStep_exp (ds E : Bytes) (hds : ∀ c ∈ ds, isDigitB c = true) (hE : IsExp E) :
    numStep (ds ++ E) = some (ds ++ E, []) := by
  have hsp : spanWhile isDigitB (ds ++ E) = (ds, E) :=
    spanWhile_append_stop isDigitB ds E hds (fun c hc => not_digitB_of (.inr (isExp_head E hE c hc)))
  rw [numStep_eq, hsp]
  dsimp only
  rcases hEq : E with _ | ⟨d, r⟩
  · dsimp only
    have : IsExp [] := Or.inl rfl
    rw [numTail_isExp _ _ this]
  · dsimp only
    have hd : (d == 46) = false := by
      rcases isExp_head E hE d (hEq ▸ rfl) with rfl | rfl <;> rfl
    rw [hd]
    simp only [Bool.false_eq_true, if_false]
    rw [numTail_isExp _ _ (hEq ▸ hE)]

theorem numStep_frac (ds fs E : Bytes) (hds : ∀ c ∈ ds, isDigitB c = true)
    (hfs : ∀ c ∈ fs, isDigitB c = true) (hE : IsExp E) :
    numStep (ds ++ 46 :: fs ++ E) = some (ds ++ 46 :: fs ++ E, []) := by
  have hsp : spanWhile isDigitB (ds ++ (46 :: (fs ++ E))) = (ds, 46 :: (fs ++ E)) :=
    spanWhile_append_stop isDigitB ds _ hds (fun c hc => by
      simp only [List.head?_cons, Option.some.injEq] at hc; subst hc; rfl)
  have hsp2 : spanWhile isDigitB (fs ++ E) = (fs, E) :=
    spanWhile_append_stop isDigitB fs E hfs (fun c hc => not_digitB_of (.inr (isExp_head E hE c hc)))
  have e1 : ds ++ 46 :: fs ++ E = ds ++ (46 :: (fs ++ E)) := by simp
  rw [e1, numStep_eq, hsp]
  dsimp only
  rw [hsp2]
  simp only [beq_self_eq_true, if_true]
  rw [numTail_isExp _ _ hE]
  simp

/-- a first digit followed by text that the number branch consumes entirely -/
theorem numOK_of_numStep (d : UInt8) (rest : Bytes) (hd : isDigitB d = true)
    (h : numStep rest = some (rest, [])) : numOK (d :: rest) = true := by
  have hl : lexAux .standard ((d :: rest).length + 1) (d :: rest) = some [STok.num (d :: rest)] := by
    simp only [List.length_cons]
    rw [lexAux_step, lexStep_digit _ _ _ hd, h]
    simp [andThen, lexAux]
  rw [numOK, lex, lexRaw, hl]
  simp

theorem numOK_normalize (t : Bytes) (h : IsDecimal t) : numOK (normalizeNumber t) = true := by
  obtain ⟨ds, fs, E, hds, hfs, hE, ⟨_, rfl⟩ | ⟨_, rfl⟩⟩ := h
  · obtain ⟨d, ds', hn, hd, hds', -⟩ := C09.normalize_shape ds E (digits_B hds) (fun c hc => .inr (isExp_head E hE c hc))
    rw [hn]
    exact numOK_of_numStep d _ hd (numStep_exp ds' E hds' hE)
  · have e1 : ds ++ 46 :: fs ++ E = ds ++ (46 :: fs ++ E) := by simp
    obtain ⟨d, ds', hn, hd, hds', -⟩ := C09.normalize_shape ds (46 :: fs ++ E) (digits_B hds)
      (fun c hc => by simp only [List.cons_append, List.head?_cons, Option.some.injEq] at hc
                      exact Or.inl hc.symm)
    rw [e1, hn]
    have e2 : ds' ++ (46 :: fs ++ E) = ds' ++ 46 :: fs ++ E := by simp
    rw [e2]
    exact numOK_of_numStep d _ hd (numStep_frac ds' fs E hds' (digits_B hfs) hE)

theorem numOK_natToDec (n : Nat) : numOK (natToDec n) = true := by
  have hne := C09.natToDec_ne_nil n
  have hd : ∀ c ∈ natToDec n, isDigitB c = true := C09.natToDec_digits n
  rcases hv : natToDec n with _ | ⟨d, ds⟩
  · exact absurd hv hne
  · rw [hv] at hd
    have := numStep_exp ds [] (fun c hc => hd c (by simp [hc])) (Or.inl rfl)
    simp only [List.append_nil] at this
    exact numOK_of_numStep d ds (hd d (by simp)) this

/-- **Every number token value the PQL scanner produces is one SQL number token.** -/
theorem _root_.Pql.IsNumber.numOK {t v : Bytes} (h : IsNumber t v) : numOK v = true := by
  rcases h with ⟨hdec, rfl⟩ | ⟨_, _, _, _, _, _, rfl, _⟩
  · exact numOK_normalize _ hdec
  · exact numOK_natToDec _

theorem scan_number_numOK (src : Bytes) (t : Token) (ht : t ∈ scan src) (hk : t.kind = .number) :
    numOK t.value = true :=
  (scan_number_shape src t ht hk).numOK

/-- `[A-Za-z_$][A-Za-z0-9_]*` -/
def identShaped (v : Bytes) : Bool :=
  match v with
  | [] => false
  | c :: w => isIdentStart c && w.all isIdentCont

theorem take_identLoop (r : Bytes) : ∀ c ∈ r.take (identLoop r), isIdentCont c = true := by
  fun_induction identLoop r <;> simp_all

theorem scanOne_ident_shaped (s v : Bytes) (h : (scanOne s).tok = some (TokKind.ident, v)) :
    identShaped v = true := by
  obtain ⟨c, w, rfl, hc, hw⟩ := scanOne_ident_shape h
  simpa [identShaped, hc] using hw

theorem scan_ident_shaped (src : Bytes) (t : Token) (ht : t ∈ scan src) (hk : t.kind = .ident) :
    identShaped t.value = true := by
  obtain ⟨n, _, _, _, h, _⟩ := reaches_of_mem src 0 t ht
  rw [hk] at h
  exact scanOne_ident_shaped _ _ h

theorem identStart_wordStart {c : UInt8} (h : isIdentStart c = true) (h36 : c ≠ 36) :
    isWordStart c = true := by
  rw [isIdentStart_iff] at h
  have : c.toNat ≠ 36 := fun e => h36 (UInt8.toNat_inj.mp e)
  simp only [isWordStart, beq_iff_toNat]
  simp only [Bool.or_eq_true, Bool.and_eq_true, decide_eq_true_eq] at h ⊢
  have e95 : (95 : UInt8).toNat = 95 := rfl
  omega

theorem identCont_wordCont {c : UInt8} (h : isIdentCont c = true) : isWordCont c = true := by
  rw [isIdentCont_iff] at h
  simp only [isWordCont, isWordStart, isDigitB, beq_iff_toNat]
  simp only [Bool.or_eq_true, Bool.and_eq_true, decide_eq_true_eq] at h ⊢
  have e95 : (95 : UInt8).toNat = 95 := rfl
  omega

theorem nameOK_of_identShaped_pos (v : Bytes) (h : identShaped v = true)
    (h36 : v.head? ≠ some 36) : nameOK v = true := by
  rcases v with _ | ⟨c, w⟩
  · cases h
  · simp only [identShaped, Bool.and_eq_true, List.all_eq_true] at h
    have hc : isWordStart c = true :=
      identStart_wordStart h.1 (fun e => h36 (by rw [e]; rfl))
    have hw : ∀ b ∈ w, isWordCont b = true := fun b hb => identCont_wordCont (h.2 b hb)
    have hs := lexStep_word .standard c w [] hc hw (by simp)
    rw [List.append_nil] at hs
    have hl : lexAux .standard ((c :: w).length + 1) (c :: w) = some [STok.word (c :: w)] := by
      simp only [List.length_cons]
      rw [lexAux_step, hs]
      simp [andThen, lexAux]
    rw [nameOK, lex, lexRaw, hl]
    simp

theorem lexStep_dollar (w : Bytes) :
    lexStep .standard 36 w =
      if (spanWhile isWordCont w).1.isEmpty then none
      else some ([STok.param (36 :: (spanWhile isWordCont w).1)], (spanWhile isWordCont w).2) := by
  rw [lexStep]
  have h1 : isSpaceB 36 = false := by decide
  have h2 : isWordStart 36 = false := by decide
  have h3 : isDigitB 36 = false := by decide
  simp [h1, h2, h3]

theorem nameOK_of_identShaped_neg (v : Bytes) (h36 : v.head? = some 36) : nameOK v = false := by
  rcases v with _ | ⟨c, w⟩
  · cases h36
  · simp only [List.head?_cons, Option.some.injEq] at h36
    subst h36
    have hl : lex .standard (36 :: w) ≠ some [STok.word (36 :: w)] := by
      intro hl
      obtain ⟨ts, hts, hf⟩ := lex_eq_some hl
      simp only [List.length_cons] at hts
      rw [lexAux_step, lexStep_dollar] at hts
      split at hts
      · cases hts
      · simp only [andThen, Option.map_eq_some_iff] at hts
        obtain ⟨ts', _, rfl⟩ := hts
        simp at hf
    simpa [nameOK] using hl

theorem nameOK_of_identShaped (v : Bytes) (h : identShaped v = true) :
    nameOK v = (v.head? != some 36) := by
  by_cases h36 : v.head? = some 36
  · rw [nameOK_of_identShaped_neg v h36, h36]; simp
  · rw [nameOK_of_identShaped_pos v h h36]; simp [h36]

end Pql.ParsedOK
