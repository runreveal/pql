/-
Relations between writer results (C04, C06, C14):

* `ExRel R x y`: two `Except` results fail with the same error or both succeed with `R`-related
  values; `OkLe x y`: whenever `x` succeeds, `y` succeeds with the same value;
* `FrameCong R`: `R` is closed under the frames the writers build around their operands (`++` and
  the fixed pieces); `ChunkCong R`: reflexive and a congruence for `++`, the case of the
  substitution theorems.  The content maps add to `FrameCong`: `WCong φ R` (Lemmas/ShapeBasic) the
  three chunks that carry contents, mapped by `φ`; `MapCong φ R` every chunk, `.raw` included;
  `WSplitCong` / `SplitCong` (Lemmas/ShapeSplit) are these two plus the generated subquery names;
* `StripOcc u xs ys`: `ys` is `xs` with some occurrences of `parenthesise u` replaced by `u`
  (the tight relation of the one-binding theorem: `u` is the text of the bound value);
* `EqUpToParens`: the least equivalence that is a congruence for `++` and contains
  `parenthesise xs ~ xs`.
-/
import PqlModel.Model.Compile
namespace Pql

def ExRel {ε α β : Type} (R : α → β → Prop) : Except ε α → Except ε β → Prop
  | .ok a, .ok b => R a b
  | .error e, .error e' => e = e'
  | _, _ => False

namespace ExRel
variable {ε α β γ δ : Type} {R : α → β → Prop} {S : γ → δ → Prop}

theorem ok_ok {a : α} {b : β} (h : R a b) : ExRel (ε := ε) R (.ok a) (.ok b) := h

theorem error_error (e : ε) : ExRel R (.error e : Except ε α) (.error e : Except ε β) := rfl

theorem pure_pure {a : α} {b : β} (h : R a b) : ExRel (ε := ε) R (pure a) (pure b) := h

theorem cases_on {x : Except ε α} {y : Except ε β} (h : ExRel R x y) :
    (∃ a b, x = .ok a ∧ y = .ok b ∧ R a b) ∨ (∃ e, x = .error e ∧ y = .error e) := by
  cases x with
  | error e =>
    cases y with
    | error e' => exact Or.inr ⟨e, rfl, by rw [show e = e' from h]⟩
    | ok b => exact h.elim
  | ok a =>
    cases y with
    | error e' => exact h.elim
    | ok b => exact Or.inl ⟨a, b, rfl, rfl, h⟩

theorem of_ok {x : Except ε α} {y : Except ε β} {a : α}
    (h : ExRel R x y) (hx : x = .ok a) : ∃ b, y = .ok b ∧ R a b := by
  rcases h.cases_on with ⟨a', b, ha, hb, hab⟩ | ⟨e, he, _⟩
  · exact ⟨b, hb, Except.ok.inj (ha.symm.trans hx) ▸ hab⟩
  · cases he.symm.trans hx

theorem bind {x : Except ε α} {y : Except ε β} {f : α → Except ε γ} {g : β → Except ε δ}
    (h : ExRel R x y) (hf : ∀ a b, R a b → ExRel S (f a) (g b)) : ExRel S (x >>= f) (y >>= g) := by
  rcases h.cases_on with ⟨a, b, rfl, rfl, hab⟩ | ⟨e, rfl, rfl⟩
  · exact hf a b hab
  · exact error_error e

theorem bind' {x : Except ε α} {y : Except ε β} {f : α → Except ε γ} {g : β → Except ε δ}
    (h : ExRel R x y) (hf : ∀ a b, x = .ok a → y = .ok b → R a b → ExRel S (f a) (g b)) :
    ExRel S (x >>= f) (y >>= g) := by
  rcases h.cases_on with ⟨a, b, rfl, rfl, hab⟩ | ⟨e, rfl, rfl⟩
  · exact hf a b rfl rfl hab
  · exact error_error e

theorem map {x : Except ε α} {y : Except ε β} {f : α → γ} {g : β → δ}
    (h : ExRel R x y) (hf : ∀ a b, R a b → S (f a) (g b)) : ExRel S (x.map f) (y.map g) := by
  rcases h.cases_on with ⟨a, b, rfl, rfl, hab⟩ | ⟨e, rfl, rfl⟩
  · exact hf a b hab
  · exact error_error e

theorem mono {S' : α → β → Prop} {x : Except ε α} {y : Except ε β} (h : ExRel R x y)
    (hS : ∀ a b, R a b → S' a b) : ExRel S' x y := by
  rcases h.cases_on with ⟨a, b, rfl, rfl, hab⟩ | ⟨e, rfl, rfl⟩
  · exact hS a b hab
  · exact error_error e

theorem of_eq {x y : Except ε α} (h : x = y) : ExRel Eq x y := by
  subst h
  cases x with
  | error e => rfl
  | ok a => exact (rfl : a = a)

theorem eq {x y : Except ε α} (h : ExRel Eq x y) : x = y := by
  rcases h.cases_on with ⟨a, b, rfl, rfl, hab⟩ | ⟨e, rfl, rfl⟩
  · rw [show a = b from hab]
  · rfl

theorem refl' {R : α → α → Prop} (hR : ∀ a, R a a) (x : Except ε α) : ExRel R x x := by
  cases x with
  | error e => rfl
  | ok a => exact hR a

theorem symm' {R : α → α → Prop} (hR : ∀ a b, R a b → R b a) {x y : Except ε α} (h : ExRel R x y) :
    ExRel R y x := by
  rcases h.cases_on with ⟨a, b, rfl, rfl, hab⟩ | ⟨e, rfl, rfl⟩
  · exact hR a b hab
  · rfl

theorem trans' {R : α → α → Prop} (hR : ∀ a b c, R a b → R b c → R a c) {x y z : Except ε α}
    (h₁ : ExRel R x y) (h₂ : ExRel R y z) : ExRel R x z := by
  rcases h₁.cases_on with ⟨a, b, rfl, rfl, hab⟩ | ⟨e, rfl, rfl⟩
  · rcases h₂.cases_on with ⟨b', c, hb, rfl, hbc⟩ | ⟨e, hb, rfl⟩
    · cases hb
      exact hR a b c hab hbc
    · cases hb
  · rcases h₂.cases_on with ⟨b', c, hb, rfl, hbc⟩ | ⟨e', hb, rfl⟩
    · cases hb
    · cases hb
      rfl

theorem ite {c : Prop} [Decidable c] {a b : Except ε α} {a' b' : Except ε β}
    (h₁ : ExRel R a a') (h₂ : ExRel R b b') : ExRel R (if c then a else b) (if c then a' else b') := by
  split
  · exact h₁
  · exact h₂

theorem isOk_eq {x : Except ε α} {y : Except ε β} (h : ExRel R x y) : x.isOk = y.isOk := by
  rcases h.cases_on with ⟨a, b, rfl, rfl, _⟩ | ⟨e, rfl, rfl⟩ <;> rfl

end ExRel

def OkLe {ε α : Type} (x y : Except ε α) : Prop := ∀ a, x = .ok a → y = .ok a

namespace OkLe
variable {ε α β : Type}

theorem refl (x : Except ε α) : OkLe x x := fun _ h => h

theorem of_error (e : ε) (y : Except ε α) : OkLe (.error e) y := fun _ h => by cases h

theorem bind {x y : Except ε α} {f g : α → Except ε β} (h : OkLe x y) (hf : ∀ a, OkLe (f a) (g a)) :
    OkLe (x >>= f) (y >>= g) := by
  cases x with
  | error e => exact of_error e _
  | ok a =>
    rw [h a rfl]
    exact hf a

theorem map {x y : Except ε α} (f : α → β) (h : OkLe x y) : OkLe (x.map f) (y.map f) := by
  cases x with
  | error e => exact of_error e _
  | ok a =>
    rw [h a rfl]
    exact refl _

theorem ite {c : Prop} [Decidable c] {a b a' b' : Except ε α} (h₁ : OkLe a a') (h₂ : OkLe b b') :
    OkLe (if c then a else b) (if c then a' else b') := by
  split
  · exact h₁
  · exact h₂

end OkLe

/-- lists related elementwise (core has no `List.Forall₂`) -/
inductive ListRel {α β : Type} (R : α → β → Prop) : List α → List β → Prop
  | nil : ListRel R [] []
  | cons {a : α} {b : β} {as : List α} {bs : List β} : R a b → ListRel R as bs → ListRel R (a :: as) (b :: bs)

theorem ListRel.map {α β γ δ : Type} {R : α → β → Prop} {S : γ → δ → Prop} {f : α → γ} {g : β → δ}
    {as : List α} {bs : List β} (h : ListRel R as bs) (hf : ∀ a b, R a b → S (f a) (g b)) :
    ListRel S (as.map f) (bs.map g) := by
  induction h with
  | nil => exact .nil
  | cons hab _ ih => exact .cons (hf _ _ hab) ih

theorem ListRel.eq {α : Type} {as bs : List α} (h : ListRel Eq as bs) : as = bs := by
  induction h with
  | nil => rfl
  | cons hab _ ih => rw [hab, ih]

inductive OptRel {α β : Type} (R : α → β → Prop) : Option α → Option β → Prop
  | none : OptRel R none none
  | some {a : α} {b : β} : R a b → OptRel R (some a) (some b)

theorem OptRel.map {α β : Type} {R : α → β → Prop} (f : α → β) (o : Option α) (h : ∀ a, o = Option.some a → R a (f a)) :
    OptRel R o (o.map f) := by
  cases o with
  | none => exact .none
  | some a => exact .some (h a rfl)

namespace ListRel
variable {α β : Type} {R : α → β → Prop}

theorem length_eq {as : List α} {bs : List β} (h : ListRel R as bs) : as.length = bs.length := by
  induction h with
  | nil => rfl
  | cons _ _ ih => simp only [List.length_cons, ih]

theorem append {as as' : List α} {bs bs' : List β} (h : ListRel R as bs) (h' : ListRel R as' bs') :
    ListRel R (as ++ as') (bs ++ bs') := by
  induction h with
  | nil => exact h'
  | cons hab _ ih => exact .cons hab ih

theorem single {a : α} {b : β} (h : R a b) : ListRel R [a] [b] := .cons h .nil

theorem reverse {as : List α} {bs : List β} (h : ListRel R as bs) : ListRel R as.reverse bs.reverse := by
  induction h with
  | nil => exact .nil
  | cons hab _ ih =>
    simp only [List.reverse_cons]
    exact ih.append (single hab)

theorem head? {as : List α} {bs : List β} (h : ListRel R as bs) : OptRel R as.head? bs.head? := by
  cases h with
  | nil => exact .none
  | cons hab _ => exact .some hab

theorem getLast? {as : List α} {bs : List β} (h : ListRel R as bs) : OptRel R as.getLast? bs.getLast? := by
  rw [List.getLast?_eq_head?_reverse, List.getLast?_eq_head?_reverse]
  exact h.reverse.head?

theorem getElem? {as : List α} {bs : List β} (h : ListRel R as bs) (i : Nat) : OptRel R as[i]? bs[i]? := by
  induction h generalizing i with
  | nil => exact .none
  | cons hab _ ih =>
    cases i with
    | zero => exact .some hab
    | succ i => simpa only [List.getElem?_cons_succ] using ih i

theorem isEmpty_eq {as : List α} {bs : List β} (h : ListRel R as bs) : as.isEmpty = bs.isEmpty := by
  cases h <;> rfl

theorem imp {Q : α → β → Prop} {as : List α} {bs : List β} (h : ListRel R as bs) (hQ : ∀ a b, R a b → Q a b) :
    ListRel Q as bs := by
  induction h with
  | nil => exact .nil
  | cons hab _ ih => exact .cons (hQ _ _ hab) ih

theorem of_map (f : α → β) {as : List α} (h : ∀ a ∈ as, R a (f a)) : ListRel R as (as.map f) := by
  induction as with
  | nil => exact .nil
  | cons a as ih => exact .cons (h a (List.mem_cons_self ..)) (ih fun b hb => h b (List.mem_cons_of_mem _ hb))

theorem diag {R : α → α → Prop} {as : List α} (h : ∀ a ∈ as, R a a) : ListRel R as as := by
  have := of_map id h
  rwa [List.map_id] at this

theorem eq_map (f : α → β) (h : ∀ a b, R a b → b = f a) {as : List α} {bs : List β} (hl : ListRel R as bs) :
    bs = as.map f := by
  induction hl with
  | nil => rfl
  | cons hab _ ih => rw [List.map_cons, ← ih, h _ _ hab]

end ListRel

theorem ExRel.mapM {α β γ δ ε : Type} {S : γ → δ → Prop} {f : α → Except ε γ} {g : β → Except ε δ}
    {l : List α} {l' : List β} (h : ListRel (fun a b => ExRel S (f a) (g b)) l l') :
    ExRel (ListRel S) (l.mapM f) (l'.mapM g) := by
  induction h with
  | nil => exact ExRel.pure_pure .nil
  | cons hab _ ih =>
    rw [List.mapM_cons, List.mapM_cons]
    exact ExRel.bind hab fun _ _ hb => ExRel.bind ih fun _ _ hbs => ExRel.pure_pure (.cons hb hbs)

theorem ExRel.eq_map {ε α β : Type} {R : α → β → Prop} (f : α → β) (hR : ∀ a b, R a b → b = f a)
    {x : Except ε α} {y : Except ε β} (h : ExRel R x y) : y = x.map f := by
  rcases h.cases_on with ⟨a, b, rfl, rfl, hab⟩ | ⟨e, rfl, rfl⟩
  · rw [hR a b hab]; rfl
  · rfl

theorem ExRel.map_eq {ε α β γ : Type} {f : α → γ} {g : β → γ} {x : Except ε α} {y : Except ε β}
    (h : ExRel (fun a b => f a = g b) x y) : x.map f = y.map g := by
  rcases h.cases_on with ⟨a, b, rfl, rfl, hab⟩ | ⟨e, rfl, rfl⟩
  · exact congrArg Except.ok hab
  · rfl

/-- What the writers need of a relation between their outputs: the pieces they emit themselves (fixed
    text, a function name copied from the tree) are related to themselves, and related parts put
    together give related wholes.  Nothing is asked of the other chunks, which come out of the tree's
    contents or the scope. -/
structure FrameCong (R : List Chunk → List Chunk → Prop) : Prop where
  nil : R [] []
  txt : ∀ s, R [.txt s] [.txt s]
  fname : ∀ v, R [.fname v] [.fname v]
  append : ∀ {a a' b b'}, R a a' → R b b' → R (a ++ b) (a' ++ b')

namespace FrameCong
variable {R : List Chunk → List Chunk → Prop}

theorem cons_of (hR : FrameCong R) {c c' : Chunk} (hc : R [c] [c']) {a a' : List Chunk} (h : R a a') :
    R (c :: a) (c' :: a') := hR.append hc h

theorem cons_txt (hR : FrameCong R) (s : String) {a a' : List Chunk} (h : R a a') :
    R (.txt s :: a) (.txt s :: a') := hR.cons_of (hR.txt s) h

theorem cons_fname (hR : FrameCong R) (v : Bytes) {a a' : List Chunk} (h : R a a') :
    R (.fname v :: a) (.fname v :: a') := hR.cons_of (hR.fname v) h

theorem parenthesise (hR : FrameCong R) {a a' : List Chunk} (h : R a a') :
    R (parenthesise a) (parenthesise a') :=
  hR.cons_txt _ (hR.append h (hR.txt _))

theorem wrapMaybe (hR : FrameCong R) (x : Expr) {a a' : List Chunk} (h : R a a') :
    R (wrapMaybe x a) (wrapMaybe x a') := by
  unfold Pql.wrapMaybe
  split
  · exact hR.parenthesise h
  · exact h

theorem wrapTight (hR : FrameCong R) (x : Expr) {a a' : List Chunk} (h : R a a') :
    R (wrapTight x a) (wrapTight x a') := by
  unfold Pql.wrapTight
  split
  · exact hR.parenthesise h
  · exact hR.wrapMaybe x h

theorem sepChunks (hR : FrameCong R) (sep : String) {as as' : List (List Chunk)}
    (h : ListRel R as as') : R (sepChunks sep as) (sepChunks sep as') := by
  induction h with
  | nil => exact hR.nil
  | @cons a a' l l' hab hl ih =>
    cases hl with
    | nil => exact hab
    | cons hb hl' =>
      simp only [Pql.sepChunks]
      exact hR.append hab (hR.cons_txt _ ih)

theorem flatSep (hR : FrameCong R) (sep : String) {as as' : List (List Chunk)}
    (h : ListRel R as as') :
    R (as.flatMap fun c => .txt sep :: c) (as'.flatMap fun c => .txt sep :: c) := by
  induction h with
  | nil => exact hR.nil
  | cons hab _ ih =>
    simp only [List.flatMap_cons]
    exact hR.append (hR.cons_txt _ hab) ih

theorem eq : FrameCong (@Eq (List Chunk)) :=
  ⟨rfl, fun _ => rfl, fun _ => rfl, fun h₁ h₂ => by rw [h₁, h₂]⟩

end FrameCong

/-- closes goals `R frame frame'` where the two frames differ in related operands only -/
macro "chunk_frame" hR:term : tactic =>
  `(tactic| repeat (first
      | assumption
      | exact FrameCong.nil $hR
      | exact FrameCong.txt $hR _
      | apply FrameCong.cons_txt $hR
      | apply FrameCong.cons_fname $hR
      | apply FrameCong.append $hR))

structure ChunkCong (R : List Chunk → List Chunk → Prop) : Prop where
  refl : ∀ xs, R xs xs
  append : ∀ {a a' b b'}, R a a' → R b b' → R (a ++ b) (a' ++ b')

namespace ChunkCong
variable {R : List Chunk → List Chunk → Prop}

theorem frame (hR : ChunkCong R) : FrameCong R :=
  ⟨hR.refl _, fun _ => hR.refl _, fun _ => hR.refl _, hR.append⟩

theorem wrapMaybe (hR : ChunkCong R) (x : Expr) {a a' : List Chunk} (h : R a a') :
    R (wrapMaybe x a) (wrapMaybe x a') :=
  hR.frame.wrapMaybe x h

theorem wrapTight (hR : ChunkCong R) (x : Expr) {a a' : List Chunk} (h : R a a') :
    R (wrapTight x a) (wrapTight x a') :=
  hR.frame.wrapTight x h

theorem eq : ChunkCong (@Eq (List Chunk)) :=
  ⟨fun _ => rfl, fun h₁ h₂ => by rw [h₁, h₂]⟩

end ChunkCong

inductive StripOcc (u : List Chunk) : List Chunk → List Chunk → Prop
  | refl (xs : List Chunk) : StripOcc u xs xs
  | strip : StripOcc u (parenthesise u) u
  | append {a a' b b' : List Chunk} : StripOcc u a a' → StripOcc u b b' → StripOcc u (a ++ b) (a' ++ b')

theorem StripOcc.cong (u : List Chunk) : ChunkCong (StripOcc u) :=
  ⟨StripOcc.refl, StripOcc.append⟩

inductive EqUpToParens : List Chunk → List Chunk → Prop
  | refl (xs : List Chunk) : EqUpToParens xs xs
  | symm {xs ys : List Chunk} : EqUpToParens xs ys → EqUpToParens ys xs
  | trans {xs ys zs : List Chunk} : EqUpToParens xs ys → EqUpToParens ys zs → EqUpToParens xs zs
  | strip (xs : List Chunk) : EqUpToParens (parenthesise xs) xs
  | append {a a' b b' : List Chunk} : EqUpToParens a a' → EqUpToParens b b' → EqUpToParens (a ++ b) (a' ++ b')

theorem EqUpToParens.cong : ChunkCong EqUpToParens :=
  ⟨EqUpToParens.refl, EqUpToParens.append⟩

theorem EqUpToParens.equivalence : Equivalence EqUpToParens :=
  ⟨EqUpToParens.refl, EqUpToParens.symm, EqUpToParens.trans⟩

theorem EqUpToParens.double (xs : List Chunk) : EqUpToParens (parenthesise (parenthesise xs)) (parenthesise xs) :=
  .strip _

theorem StripOcc.eqUpToParens {u xs ys : List Chunk} (h : StripOcc u xs ys) : EqUpToParens xs ys := by
  induction h with
  | refl xs => exact .refl xs
  | strip => exact .strip u
  | append _ _ ih₁ ih₂ => exact .append ih₁ ih₂

def eraseParens (cs : List Chunk) : List Chunk := cs.filter fun c => c != .txt "(" && c != .txt ")"

theorem eraseParens_append (a b : List Chunk) : eraseParens (a ++ b) = eraseParens a ++ eraseParens b := by
  simp [eraseParens]

theorem eraseParens_parenthesise (a : List Chunk) : eraseParens (parenthesise a) = eraseParens a := by
  simp [eraseParens, parenthesise]

/-- a reader that does not look at `renderChunks`: related lists carry the same identifiers,
    literals, parameters and fixed pieces of SQL, in the same order -/
theorem EqUpToParens.eraseParens_eq {xs ys : List Chunk} (h : EqUpToParens xs ys) :
    eraseParens xs = eraseParens ys := by
  induction h with
  | refl => rfl
  | symm _ ih => exact ih.symm
  | trans _ _ ih₁ ih₂ => exact ih₁.trans ih₂
  | strip xs => exact eraseParens_parenthesise xs
  | append _ _ ih₁ ih₂ => rw [eraseParens_append, eraseParens_append, ih₁, ih₂]

end Pql
