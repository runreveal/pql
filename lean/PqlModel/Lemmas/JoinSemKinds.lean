/-
`joinTables`: the join case of `Rel.interpOp` as a function of the two tables; the three join kinds
over lists (`matchesOf`, `padRow`), and `distinctRows`.
-/
import PqlModel.Lemmas.SelSemNorm
import PqlModel.Lemmas.JoinCondition
import PqlModel.Spec.Intended
namespace Pql.JoinSem
open Pql Sql CompileOracle Intended

def joinRow (left : Bool) (lcols : List Bytes) (rt : Table) (cond : Expr) (l : List Val) : List (List Val) :=
  let ms := rt.rows.filterMap fun r =>
    if Rel.evalP true [] (envOfRow leftA lcols l ++ envOfRow rightA rt.cols r) cond == .bool true
    then some (l ++ r) else none
  if ms.isEmpty && left then [l ++ rt.cols.map fun _ => Val.null] else ms

/-- the documented join of two tables: nested loop, left-major; `unique` (innerunique) removes
    duplicate left rows first; `left` (leftouter) keeps unmatched left rows padded with NULLs -/
def joinTables (unique left : Bool) (lt rt : Table) (cond : Expr) : Table :=
  ⟨lt.cols ++ rt.cols,
   (if unique then distinctRows lt.rows else lt.rows).flatMap (joinRow left lt.cols rt cond)⟩

theorem interpOp_join (src : Bytes) (db : DB) (t : Table) (p k a b : Span) (flavor : Option Ident) (d : Span)
    (right : Tabular) (e f : Span) (conds : ExprList) :
    Rel.interpOp src db t (.join p k a b flavor d right e f conds) =
      joinTables (kindOf flavor == Bytes.ofString "innerunique") (kindOf flavor == Bytes.ofString "leftouter")
        t (Rel.interp src db right) (buildJoinCondition conds) := by
  cases flavor <;> rfl

def onEnv (lcols : List Bytes) (l : List Val) (rcols : List Bytes) (r : List Val) : Env :=
  envOfRow leftA lcols l ++ envOfRow rightA rcols r

def condHolds (lcols : List Bytes) (rt : Table) (cond : Expr) (l r : List Val) : Bool :=
  Rel.evalP true [] (onEnv lcols l rt.cols r) cond == .bool true

def matchesOf (lcols : List Bytes) (rt : Table) (cond : Expr) (l : List Val) : List (List Val) :=
  (rt.rows.filter (condHolds lcols rt cond l)).map (l ++ ·)

def padRow (rt : Table) (l : List Val) : List Val := l ++ rt.cols.map fun _ => Val.null

theorem joinRow_eq (left : Bool) (lcols : List Bytes) (rt : Table) (cond : Expr) (l : List Val) :
    joinRow left lcols rt cond l =
      if (matchesOf lcols rt cond l).isEmpty && left then [padRow rt l] else matchesOf lcols rt cond l := by
  have : (rt.rows.filterMap fun r =>
      if Rel.evalP true [] (envOfRow leftA lcols l ++ envOfRow rightA rt.cols r) cond == .bool true
      then some (l ++ r) else none) = matchesOf lcols rt cond l := by
    rw [matchesOf, ← List.filterMap_eq_map, List.filterMap_filter]
    rfl
  simp only [joinRow, this, padRow]

theorem joinRow_inner (lcols : List Bytes) (rt : Table) (cond : Expr) (l : List Val) :
    joinRow false lcols rt cond l = matchesOf lcols rt cond l := by
  rw [joinRow_eq]; simp

theorem distinctRows_foldl_spec (rows acc : List (List Val)) (hacc : acc.Nodup) :
    let out := rows.foldl (fun acc r => if acc.contains r then acc else acc ++ [r]) acc
    out.Nodup ∧ (∀ r, r ∈ out ↔ r ∈ acc ∨ r ∈ rows) ∧ ∃ more, out = acc ++ more ∧ more.Sublist rows := by
  induction rows generalizing acc with
  | nil => exact ⟨hacc, by simp, [], by simp, .slnil⟩
  | cons x xs ih =>
    simp only [List.foldl_cons]
    by_cases hx : acc.contains x = true
    · simp only [hx, ↓reduceIte]
      obtain ⟨h1, h2, more, h3, h4⟩ := ih acc hacc
      refine ⟨h1, ?_, more, h3, h4.cons _⟩
      intro r; rw [h2 r]
      have hx' : x ∈ acc := by simpa using hx
      constructor
      · rintro (h | h); exact .inl h; exact .inr (by simp [h])
      · rintro (h | h); exact .inl h
        simp only [List.mem_cons] at h
        rcases h with rfl | h
        · exact .inl hx'
        · exact .inr h
    · simp only [hx, Bool.false_eq_true, ↓reduceIte]
      have hx' : x ∉ acc := by simpa using hx
      have hnd : (acc ++ [x]).Nodup := by
        rw [List.nodup_append]
        refine ⟨hacc, by simp, ?_⟩
        intro a ha b hb
        simp at hb; subst hb
        intro h; subst h; exact hx' ha
      obtain ⟨h1, h2, more, h3, h4⟩ := ih (acc ++ [x]) hnd
      refine ⟨h1, ?_, x :: more, by rw [h3]; simp, h4.cons_cons _⟩
      intro r; rw [h2 r]
      simp only [List.mem_append, List.mem_cons, List.not_mem_nil, or_false]
      constructor
      · rintro ((h | h) | h); exact .inl h; exact .inr (.inl h); exact .inr (.inr h)
      · rintro (h | h | h); exact .inl (.inl h); exact .inl (.inr h); exact .inr h

theorem distinctRows_spec (rows : List (List Val)) :
    (distinctRows rows).Nodup ∧ (∀ r, r ∈ distinctRows rows ↔ r ∈ rows) ∧ (distinctRows rows).Sublist rows := by
  obtain ⟨h1, h2, more, h3, h4⟩ := distinctRows_foldl_spec rows [] List.nodup_nil
  refine ⟨h1, fun r => by have := h2 r; simp only [List.not_mem_nil, false_or] at this; exact this, ?_⟩
  simp only [List.nil_append] at h3
  show (List.foldl _ [] rows).Sublist rows
  rw [h3]; exact h4

theorem distinctRows_of_nodup (rows : List (List Val)) (h : rows.Nodup) : distinctRows rows = rows := by
  have key : ∀ (rows acc : List (List Val)), (acc ++ rows).Nodup →
      rows.foldl (fun acc r => if acc.contains r then acc else acc ++ [r]) acc = acc ++ rows := by
    intro rows
    induction rows with
    | nil => intro acc _; simp
    | cons x xs ih =>
      intro acc hnd
      have hx : acc.contains x = false := by
        rw [List.nodup_append] at hnd
        have := hnd.2.2 
        cases hc : acc.contains x with
        | false => rfl
        | true => exact absurd rfl (this x (by simpa using hc) x (by simp))
      simp only [List.foldl_cons, hx, Bool.false_eq_true, ↓reduceIte]
      rw [ih (acc ++ [x]) (by simpa using hnd)]
      simp
  have := key rows [] (by simpa using h)
  simp only [List.nil_append] at this
  exact this

end Pql.JoinSem
