/-
The cases of the productions around the operators, as in ParseCases.lean (conditional equations
for the leaves, one eliminator per production), up to one statement (`pStatement_cases`; the
statement loop: ParseFold.lean).  The operators themselves, `join` and the operator loop: TabCases.lean.

Conventions.  An eliminator is given its motive by name (`apply pX_cases (motive := fun ts r => …)`),
over the tokens as well where a leaf fixes their shape; the leaves are named arguments, to be
given with `case`.

A sort term is an expression, then an optional direction (`sortDir`), then an optional
`nulls first` / `nulls last` (`nullsClause`).  The model's flag "continue to the nulls clause" is
false only where the next token is not `nulls` anyway, so the two steps simply compose.
-/
import PqlModel.Lemmas.ParseCases
import PqlModel.Lemmas.SplitBasic
namespace Pql

section rowCount
variable {c : PCtx} {f : Nat} {ts : List Token}

theorem pRowCount_err (h : (pExpr c f ts).errs ≠ []) : pRowCount c f ts = pExpr c f ts := by
  simp only [pRowCount, h, ne_eq, not_false_eq_true, if_true]

theorem pRowCount_notInt {sp : Span} {k : TokKind} {v : Bytes} (h : (pExpr c f ts).errs = [])
    (hv : (pExpr c f ts).val = .lit sp k v) (hi : litIsInteger k v = false) :
    pRowCount c f ts = ⟨(pExpr c f ts).val, errNoPos, (pExpr c f ts).rest⟩ := by
  simp only [pRowCount, h, hv, hi, ne_eq, not_true_eq_false, Bool.false_eq_true, if_false]

/-- a row count is the expression as parsed, or a complaint that it is a literal of another
    kind than integer -/
theorem pRowCount_cases {motive : PRes Expr → Prop} (c : PCtx) (f : Nat) (ts : List Token)
    (same : motive (pExpr c f ts))
    (notInt : ∀ r sp k v, pExpr c f ts = r → r.errs = [] → r.val = .lit sp k v →
      litIsInteger k v = false → motive ⟨r.val, errNoPos, r.rest⟩) :
    motive (pRowCount c f ts) := by
  by_cases h : (pExpr c f ts).errs = []
  · cases hv : (pExpr c f ts).val with
    | lit sp k v =>
      cases hi : litIsInteger k v
      · rw [pRowCount_notInt h hv hi]; exact notInt _ sp k v rfl h hv hi
      · have : pRowCount c f ts = pExpr c f ts := by
          simp only [pRowCount, h, hv, hi, ne_eq, not_true_eq_false, if_false, if_true]
        rw [this]; exact same
    | _ =>
      have : pRowCount c f ts = pExpr c f ts := by
        simp only [pRowCount, h, hv, ne_eq, not_true_eq_false, if_false]
      rw [this]; exact same
  · rw [pRowCount_err h]; exact same

end rowCount

def sortDir (term : SortTerm) (ts : List Token) : SortTerm × List Token :=
  match ts with
  | [] => (term, [])
  | t :: rest =>
    if isIdentNamed t "asc" then
      ({ term with asc := true, ascDescSpan := t.span, nullsFirst := true }, rest)
    else if isIdentNamed t "desc" then
      ({ term with asc := false, ascDescSpan := t.span, nullsFirst := false }, rest)
    else (term, ts)

def nullsClause (c : PCtx) (term : SortTerm) (ts : List Token) : PRes (Option SortTerm) :=
  match ts with
  | [] => ⟨some term, [], []⟩
  | t :: rest =>
    if isIdentNamed t "nulls" then
      match rest with
      | [] => ⟨some term, errAt c.eof, []⟩
      | t2 :: rest2 =>
        if isIdentNamed t2 "first" then
          ⟨some { term with nullsFirst := true, nullsSpan := ⟨t.start, t2.stop⟩ }, [], rest2⟩
        else if isIdentNamed t2 "last" then
          ⟨some { term with nullsFirst := false, nullsSpan := ⟨t.start, t2.stop⟩ }, [], rest2⟩
        else ⟨some term, errAt t2.span, rest⟩
    else ⟨some term, [], ts⟩

section sortTerm
variable {c : PCtx} {f : Nat} {ts : List Token} {term : SortTerm} {t : Token} {rest : List Token}

theorem sortDir_asc (h : isIdentNamed t "asc" = true) :
    sortDir term (t :: rest) =
      ({ term with asc := true, ascDescSpan := t.span, nullsFirst := true }, rest) := by
  simp only [sortDir, h, if_true]

theorem sortDir_desc (ha : isIdentNamed t "asc" = false) (h : isIdentNamed t "desc" = true) :
    sortDir term (t :: rest) =
      ({ term with asc := false, ascDescSpan := t.span, nullsFirst := false }, rest) := by
  simp only [sortDir, ha, h, Bool.false_eq_true, if_false, if_true]

theorem sortDir_none
    (h : ∀ t rest, ts = t :: rest → isIdentNamed t "asc" = false ∧ isIdentNamed t "desc" = false) :
    sortDir term ts = (term, ts) := by
  cases ts with
  | nil => rfl
  | cons t rest =>
    simp only [sortDir, (h t rest rfl).1, (h t rest rfl).2, Bool.false_eq_true, if_false]

theorem sortDir_cases {motive : List Token → SortTerm × List Token → Prop} (term : SortTerm)
    (none : ∀ ts,
      (∀ t rest, ts = t :: rest → isIdentNamed t "asc" = false ∧ isIdentNamed t "desc" = false) →
      motive ts (term, ts))
    (asc : ∀ t rest, isIdentNamed t "asc" = true →
      motive (t :: rest) ({ term with asc := true, ascDescSpan := t.span, nullsFirst := true }, rest))
    (desc : ∀ t rest, isIdentNamed t "asc" = false → isIdentNamed t "desc" = true →
      motive (t :: rest)
        ({ term with asc := false, ascDescSpan := t.span, nullsFirst := false }, rest)) :
    ∀ ts, motive ts (sortDir term ts)
  | [] => none [] fun _ _ h => nomatch h
  | t :: rest => by
    cases ha : isIdentNamed t "asc"
    · cases hd : isIdentNamed t "desc"
      · have h : ∀ t' rest', t :: rest = t' :: rest' →
            isIdentNamed t' "asc" = false ∧ isIdentNamed t' "desc" = false := by
          intro t' rest' heq; cases heq; exact ⟨ha, hd⟩
        rw [sortDir_none h]; exact none _ h
      · rw [sortDir_desc ha hd]; exact desc t rest ha hd
    · rw [sortDir_asc ha]; exact asc t rest ha

theorem nullsClause_none (h : ∀ t rest, ts = t :: rest → isIdentNamed t "nulls" = false) :
    nullsClause c term ts = ⟨some term, [], ts⟩ := by
  cases ts with
  | nil => rfl
  | cons t rest => simp only [nullsClause, h t rest rfl, Bool.false_eq_true, if_false]

theorem nullsClause_eof (h : isIdentNamed t "nulls" = true) :
    nullsClause c term [t] = ⟨some term, errAt c.eof, []⟩ := by
  simp only [nullsClause, h, if_true]

theorem nullsClause_first {t2 : Token} {rest2 : List Token} (h : isIdentNamed t "nulls" = true)
    (h2 : isIdentNamed t2 "first" = true) :
    nullsClause c term (t :: t2 :: rest2) =
      ⟨some { term with nullsFirst := true, nullsSpan := ⟨t.start, t2.stop⟩ }, [], rest2⟩ := by
  simp only [nullsClause, h, h2, if_true]

theorem nullsClause_last {t2 : Token} {rest2 : List Token} (h : isIdentNamed t "nulls" = true)
    (h2 : isIdentNamed t2 "first" = false) (h3 : isIdentNamed t2 "last" = true) :
    nullsClause c term (t :: t2 :: rest2) =
      ⟨some { term with nullsFirst := false, nullsSpan := ⟨t.start, t2.stop⟩ }, [], rest2⟩ := by
  simp only [nullsClause, h, h2, h3, Bool.false_eq_true, if_false, if_true]

/-- `nulls` and then neither `first` nor `last`: only `nulls` is consumed -/
theorem nullsClause_other {t2 : Token} {rest2 : List Token} (h : isIdentNamed t "nulls" = true)
    (h2 : isIdentNamed t2 "first" = false) (h3 : isIdentNamed t2 "last" = false) :
    nullsClause c term (t :: t2 :: rest2) = ⟨some term, errAt t2.span, t2 :: rest2⟩ := by
  simp only [nullsClause, h, h2, h3, Bool.false_eq_true, if_false, if_true]

theorem nullsClause_cases {motive : List Token → PRes (Option SortTerm) → Prop} (c : PCtx)
    (term : SortTerm)
    (none : ∀ ts, (∀ t rest, ts = t :: rest → isIdentNamed t "nulls" = false) →
      motive ts ⟨some term, [], ts⟩)
    (eof : ∀ t, isIdentNamed t "nulls" = true → motive [t] ⟨some term, errAt c.eof, []⟩)
    (first : ∀ t t2 rest2, isIdentNamed t "nulls" = true → isIdentNamed t2 "first" = true →
      motive (t :: t2 :: rest2)
        ⟨some { term with nullsFirst := true, nullsSpan := ⟨t.start, t2.stop⟩ }, [], rest2⟩)
    (last : ∀ t t2 rest2, isIdentNamed t "nulls" = true → isIdentNamed t2 "first" = false →
      isIdentNamed t2 "last" = true →
      motive (t :: t2 :: rest2)
        ⟨some { term with nullsFirst := false, nullsSpan := ⟨t.start, t2.stop⟩ }, [], rest2⟩)
    (other : ∀ t t2 rest2, isIdentNamed t "nulls" = true → isIdentNamed t2 "first" = false →
      isIdentNamed t2 "last" = false →
      motive (t :: t2 :: rest2) ⟨some term, errAt t2.span, t2 :: rest2⟩) :
    ∀ ts, motive ts (nullsClause c term ts)
  | [] => none [] fun _ _ h => nomatch h
  | t :: rest => by
    cases hn : isIdentNamed t "nulls"
    · have h : ∀ t' rest', t :: rest = t' :: rest' → isIdentNamed t' "nulls" = false := by
        intro t' rest' heq; cases heq; exact hn
      rw [nullsClause_none h]; exact none _ h
    · match rest with
      | [] => rw [nullsClause_eof hn]; exact eof t hn
      | t2 :: rest2 =>
        cases h2 : isIdentNamed t2 "first"
        · cases h3 : isIdentNamed t2 "last"
          · rw [nullsClause_other hn h2 h3]; exact other t t2 rest2 hn h2 h3
          · rw [nullsClause_last hn h2 h3]; exact last t t2 rest2 hn h2 h3
        · rw [nullsClause_first hn h2]; exact first t t2 rest2 hn h2

theorem pSortTerm_err (h : (pExpr c f ts).errs ≠ []) :
    pSortTerm c f ts = ⟨none, (pExpr c f ts).errs, (pExpr c f ts).rest⟩ := by
  simp only [pSortTerm, h, ne_eq, not_false_eq_true, if_true]

theorem pSortTerm_ok (h : (pExpr c f ts).errs = []) :
    pSortTerm c f ts =
      nullsClause c (sortDir ⟨(pExpr c f ts).val, false, .null, false, .null⟩ (pExpr c f ts).rest).1
        (sortDir ⟨(pExpr c f ts).val, false, .null, false, .null⟩ (pExpr c f ts).rest).2 := by
  simp only [pSortTerm, h, ne_eq, not_true_eq_false, if_false]
  generalize (pExpr c f ts).rest = rr
  generalize (pExpr c f ts).val = v
  cases rr with
  | nil => rfl
  | cons t rest =>
    cases ha : isIdentNamed t "asc"
    · cases hd : isIdentNamed t "desc"
      · have hnone : ∀ t' rest', t :: rest = t' :: rest' →
            isIdentNamed t' "asc" = false ∧ isIdentNamed t' "desc" = false := by
          intro t' rest' heq; cases heq; exact ⟨ha, hd⟩
        rw [sortDir_none hnone]
        cases hn : isIdentNamed t "nulls"
        · have hnn : ∀ t' rest', t :: rest = t' :: rest' → isIdentNamed t' "nulls" = false := by
            intro t' rest' heq; cases heq; exact hn
          rw [nullsClause_none hnn]
          simp only [ha, hd, hn, Bool.false_eq_true, if_false, Bool.not_false, if_true]
        · simp only [nullsClause, ha, hd, hn, Bool.false_eq_true, if_false, if_true, Bool.not_true]
          cases rest <;> rfl
      · rw [sortDir_desc ha hd]
        simp only [ha, hd, Bool.false_eq_true, if_false, if_true, Bool.not_true]
        rfl
    · rw [sortDir_asc ha]
      simp only [ha, if_true, Bool.not_true, Bool.false_eq_true, if_false]
      rfl

theorem pSortTerm_cases {motive : PRes (Option SortTerm) → Prop} (c : PCtx) (f : Nat)
    (ts : List Token)
    (err : ∀ r, pExpr c f ts = r → r.errs ≠ [] → motive ⟨none, r.errs, r.rest⟩)
    (ok : ∀ r d, pExpr c f ts = r → r.errs = [] →
      sortDir ⟨r.val, false, .null, false, .null⟩ r.rest = d → motive (nullsClause c d.1 d.2)) :
    motive (pSortTerm c f ts) := by
  by_cases h : (pExpr c f ts).errs = []
  · rw [pSortTerm_ok h]; exact ok _ _ rfl h rfl
  · rw [pSortTerm_err h]; exact err _ rfl h

end sortTerm

section namedColumn
variable {c : PCtx} {f : Nat}

theorem pNamedColumn_named {t0 t : Token} {rest : List Token}
    (h0 : t0.kind = .ident ∨ t0.kind = .qident) (h : t.kind = .assign) :
    pNamedColumn c f (t0 :: t :: rest) =
      ⟨⟨some ⟨t0.value, t0.span, t0.kind = .qident⟩, t.span, (pExpr c f rest).val⟩,
        mkOpaque (pExpr c f rest).errs, (pExpr c f rest).rest⟩ := by
  simp only [pNamedColumn, pIdent_cons h0, h, if_true]

theorem pNamedColumn_plain {ts : List Token}
    (h : ∀ t0 t rest, ts = t0 :: t :: rest → (t0.kind = .ident ∨ t0.kind = .qident) →
      t.kind ≠ .assign) :
    pNamedColumn c f ts =
      ⟨⟨none, .null, (pExpr c f ts).val⟩, (pExpr c f ts).errs, (pExpr c f ts).rest⟩ := by
  match ts with
  | [] => simp only [pNamedColumn, pIdent_nil]
  | [t0] =>
    by_cases h0 : t0.kind = .ident ∨ t0.kind = .qident
    · simp only [pNamedColumn, pIdent_cons h0]
    · simp only [pNamedColumn, pIdent_other h0]
  | t0 :: t :: rest =>
    by_cases h0 : t0.kind = .ident ∨ t0.kind = .qident
    · simp only [pNamedColumn, pIdent_cons h0, h t0 t rest rfl h0, if_false]
    · simp only [pNamedColumn, pIdent_other h0]

theorem pNamedColumn_cases {motive : List Token → PRes Column → Prop} (c : PCtx) (f : Nat)
    (named : ∀ t0 t rest r, t0.kind = .ident ∨ t0.kind = .qident → t.kind = .assign →
      pExpr c f rest = r →
      motive (t0 :: t :: rest)
        ⟨⟨some ⟨t0.value, t0.span, t0.kind = .qident⟩, t.span, r.val⟩, mkOpaque r.errs, r.rest⟩)
    (plain : ∀ ts r,
      (∀ t0 t rest, ts = t0 :: t :: rest → (t0.kind = .ident ∨ t0.kind = .qident) →
        t.kind ≠ .assign) →
      pExpr c f ts = r → motive ts ⟨⟨none, .null, r.val⟩, r.errs, r.rest⟩) :
    ∀ ts, motive ts (pNamedColumn c f ts) := by
  intro ts
  by_cases h : ∀ t0 t rest, ts = t0 :: t :: rest → (t0.kind = .ident ∨ t0.kind = .qident) →
      t.kind ≠ .assign
  · rw [pNamedColumn_plain h]; exact plain ts _ h rfl
  · match ts with
    | [] => exact absurd (fun _ _ _ heq => nomatch heq) h
    | [_] => exact absurd (fun _ _ _ heq => nomatch heq) h
    | t0 :: t :: rest =>
      by_cases h0 : t0.kind = .ident ∨ t0.kind = .qident
      · by_cases hk : t.kind = .assign
        · rw [pNamedColumn_named h0 hk]; exact named t0 t rest _ h0 hk rfl
        · exact absurd (fun _ _ _ heq _ => by cases heq; exact hk) h
      · exact absurd (fun _ _ _ heq h0' => by cases heq; exact absurd h0' h0) h

end namedColumn

/-! Every loop over comma-separated items has a counter `n` (the model's fuel for the loop), an accumulator and the tokens.
Its principle `X_induct` is the induction on the counter done once: a leaf for every way the loop
ends, and for every way it goes round a step from the result `res` of the remaining rounds. -/

/-- The loop shared by `pSortTerms`, `pExtendCols` and `pGroupByCols`: parse an item; on an error
    stop with the accumulator `bad` makes of it; otherwise take the item in with `good` and go on
    exactly if a comma follows. -/
def commaLoop {α β : Type} (item : List Token → PRes β) (bad : List α → PRes β → List α)
    (good : List α → β → List α) : Nat → List α → List Token → PRes (List α)
  | 0, acc, ts => ⟨acc, errFuel, ts⟩
  | n + 1, acc, ts =>
    if (item ts).errs ≠ [] then ⟨bad acc (item ts), mkOpaque (item ts).errs, (item ts).rest⟩
    else
      match (item ts).rest with
      | t :: rest =>
        if t.kind = .comma then commaLoop item bad good n (good acc (item ts).val) rest
        else ⟨good acc (item ts).val, [], (item ts).rest⟩
      | [] => ⟨good acc (item ts).val, [], []⟩

theorem commaLoop_induct {α β : Type} {item : List Token → PRes β} {bad : List α → PRes β → List α}
    {good : List α → β → List α} {motive : Nat → List α → List Token → PRes (List α) → Prop}
    (fuel : ∀ acc ts, motive 0 acc ts ⟨acc, errFuel, ts⟩)
    (err : ∀ n acc ts r, item ts = r → r.errs ≠ [] →
      motive (n + 1) acc ts ⟨bad acc r, mkOpaque r.errs, r.rest⟩)
    (last : ∀ n acc ts r, item ts = r → r.errs = [] →
      (∀ t rest, r.rest = t :: rest → t.kind ≠ .comma) →
      motive (n + 1) acc ts ⟨good acc r.val, [], r.rest⟩)
    (more : ∀ n acc ts r t rest res, item ts = r → r.errs = [] → r.rest = t :: rest →
      t.kind = .comma → motive n (good acc r.val) rest res → motive (n + 1) acc ts res) :
    ∀ n acc ts, motive n acc ts (commaLoop item bad good n acc ts)
  | 0, acc, ts => fuel acc ts
  | n + 1, acc, ts => by
    unfold commaLoop
    by_cases he : (item ts).errs = []
    · rw [if_neg (not_not_intro he)]
      have L := last n acc ts _ rfl he
      have M := fun t rest => more n acc ts _ t rest (commaLoop item bad good n (good acc (item ts).val) rest) rfl he
      generalize (item ts).rest = rr at L M
      cases rr with
      | nil => exact L fun _ _ h => nomatch h
      | cons t rest =>
        dsimp only
        by_cases hk : t.kind = .comma
        · rw [if_pos hk]
          exact M t rest rfl hk (commaLoop_induct fuel err last more n _ rest)
        · rw [if_neg hk]; exact L fun t' rest' h => by cases h; exact hk
    · rw [if_pos he]; exact err n acc ts _ rfl he

section loops
variable {c : PCtx} {f : Nat}

theorem pSortTerms_eq_loop : ∀ n acc ts, pSortTerms c f n acc ts =
    commaLoop (pSortTerm c f) (fun acc r => acc ++ r.val.toList) (fun acc v => acc ++ v.toList)
      n acc ts
  | 0, _, _ => rfl
  | n + 1, acc, ts => by
    unfold pSortTerms commaLoop
    have ih := pSortTerms_eq_loop n
    generalize pSortTerm c f ts = r
    obtain ⟨v, e, rest⟩ := r
    cases v <;> cases rest <;>
      simp only [Option.toList_some, Option.toList_none, List.append_nil, ih]

theorem pExtendCols_eq_loop : ∀ n acc ts, pExtendCols c f n acc ts =
    commaLoop (pNamedColumn c f) (fun acc _ => acc) (fun acc v => acc ++ [v]) n acc ts
  | 0, _, _ => rfl
  | n + 1, acc, ts => by
    unfold pExtendCols commaLoop
    have ih := pExtendCols_eq_loop n
    generalize pNamedColumn c f ts = r
    obtain ⟨v, e, rest⟩ := r
    cases rest <;> simp only [ih]

theorem pGroupByCols_eq_loop : ∀ n acc ts, pGroupByCols c f n acc ts =
    commaLoop (pNamedColumn c f) (fun acc r => if isNF r.errs then acc else acc ++ [r.val])
      (fun acc v => acc ++ [v]) n acc ts
  | 0, _, _ => rfl
  | n + 1, acc, ts => by
    unfold pGroupByCols commaLoop
    have ih := pGroupByCols_eq_loop n
    by_cases hnf : isNF (pNamedColumn c f ts).errs = true
    · have he : (pNamedColumn c f ts).errs ≠ [] := fun h => by rw [h] at hnf; cases hnf
      simp only [hnf, he, if_true, ne_eq, not_false_eq_true]
    · generalize pNamedColumn c f ts = r at hnf
      obtain ⟨v, e, rest⟩ := r
      cases rest <;> simp only [hnf, Bool.false_eq_true, if_false, ih]

/-- `project`: a bare column name (`bare`, `bareMore`) or `name = expr` (the `named` leaves) -/
theorem pProjectCols_induct
    {motive : Nat → List Column → List Token → PRes (List Column) → Prop}
    (fuel : ∀ acc ts, motive 0 acc ts ⟨acc, errFuel, ts⟩)
    (noIdent : ∀ n acc ts, (∀ t rest, ts = t :: rest → ¬(t.kind = .ident ∨ t.kind = .qident)) →
      motive (n + 1) acc ts ⟨acc, mkOpaque (nfAt c.eof), ts⟩)
    (bare : ∀ n acc t0 rest, t0.kind = .ident ∨ t0.kind = .qident →
      (∀ sep rest', rest = sep :: rest' → sep.kind ≠ .comma ∧ sep.kind ≠ .assign) →
      motive (n + 1) acc (t0 :: rest)
        ⟨acc ++ [⟨some ⟨t0.value, t0.span, t0.kind = .qident⟩, .null, .nil⟩], [], rest⟩)
    (bareMore : ∀ n acc t0 sep rest res, t0.kind = .ident ∨ t0.kind = .qident → sep.kind = .comma →
      motive n (acc ++ [⟨some ⟨t0.value, t0.span, t0.kind = .qident⟩, .null, .nil⟩]) rest res →
      motive (n + 1) acc (t0 :: sep :: rest) res)
    (namedErr : ∀ n acc t0 sep rest r, t0.kind = .ident ∨ t0.kind = .qident → sep.kind = .assign →
      pExpr c f rest = r → r.errs ≠ [] →
      motive (n + 1) acc (t0 :: sep :: rest)
        ⟨acc ++ [⟨some ⟨t0.value, t0.span, t0.kind = .qident⟩, sep.span, r.val⟩],
          mkOpaque r.errs, r.rest⟩)
    (namedLast : ∀ n acc t0 sep rest r, t0.kind = .ident ∨ t0.kind = .qident → sep.kind = .assign →
      pExpr c f rest = r → r.errs = [] → r.rest = [] →
      motive (n + 1) acc (t0 :: sep :: rest)
        ⟨acc ++ [⟨some ⟨t0.value, t0.span, t0.kind = .qident⟩, sep.span, r.val⟩], [], []⟩)
    (namedJunk : ∀ n acc t0 sep rest r sep2 rest2, t0.kind = .ident ∨ t0.kind = .qident →
      sep.kind = .assign → pExpr c f rest = r → r.errs = [] → r.rest = sep2 :: rest2 →
      sep2.kind ≠ .comma →
      motive (n + 1) acc (t0 :: sep :: rest)
        ⟨acc ++ [⟨some ⟨t0.value, t0.span, t0.kind = .qident⟩, sep.span, r.val⟩], errNoPos, rest2⟩)
    (namedMore : ∀ n acc t0 sep rest r sep2 rest2 res, t0.kind = .ident ∨ t0.kind = .qident →
      sep.kind = .assign → pExpr c f rest = r → r.errs = [] → r.rest = sep2 :: rest2 →
      sep2.kind = .comma →
      motive n (acc ++ [⟨some ⟨t0.value, t0.span, t0.kind = .qident⟩, sep.span, r.val⟩]) rest2 res →
      motive (n + 1) acc (t0 :: sep :: rest) res) :
    ∀ n acc ts, motive n acc ts (pProjectCols c f n acc ts)
  | 0, acc, ts => fuel acc ts
  | n + 1, acc, ts => by
    have ih := pProjectCols_induct fuel noIdent bare bareMore namedErr namedLast namedJunk namedMore n
    unfold pProjectCols
    rcases head_cases (fun t => t.kind = .ident ∨ t.kind = .qident) ts with h | ⟨t0, rest, rfl, h0⟩
    · rw [pIdent_none h]; exact noIdent n acc ts h
    · rw [pIdent_cons h0]
      cases rest with
      | nil => exact bare n acc t0 [] h0 fun _ _ h => nomatch h
      | cons sep rest =>
        dsimp only
        by_cases hc : sep.kind = .comma
        · rw [if_pos hc]; exact bareMore n acc t0 sep rest _ h0 hc (ih _ rest)
        rw [if_neg hc]
        by_cases ha : sep.kind = .assign
        · rw [if_pos ha]
          by_cases he : (pExpr c f rest).errs = []
          · rw [if_neg (not_not_intro he)]
            have L := namedLast n acc t0 sep rest _ h0 ha rfl he
            have J := fun sep2 rest2 => namedJunk n acc t0 sep rest _ sep2 rest2 h0 ha rfl he
            have M := fun sep2 rest2 =>
              namedMore n acc t0 sep rest _ sep2 rest2 (pProjectCols c f n
                (acc ++ [⟨some ⟨t0.value, t0.span, t0.kind = .qident⟩, sep.span, (pExpr c f rest).val⟩]) rest2)
                h0 ha rfl he
            generalize (pExpr c f rest).rest = rr at L J M
            cases rr with
            | nil => exact L rfl
            | cons sep2 rest2 =>
              dsimp only
              by_cases hc2 : sep2.kind = .comma
              · rw [if_pos hc2]; exact M sep2 rest2 rfl hc2 (ih _ rest2)
              · rw [if_neg hc2]; exact J sep2 rest2 rfl hc2
          · rw [if_pos he]; exact namedErr n acc t0 sep rest _ h0 ha rfl he
        · rw [if_neg ha]
          exact bare n acc t0 (sep :: rest) h0 fun sep' rest' h => by cases h; exact ⟨hc, ha⟩

/-- the first loop of `summarize`; `none` is the exit without consuming anything when no column
    starts here -/
theorem pSummarizeCols_induct
    {motive : Nat → List Column → Option Span → List Token → PRes SumCols → Prop}
    (fuel : ∀ acc cm ts, motive 0 acc cm ts ⟨⟨acc, true, cm⟩, errFuel, ts⟩)
    (none : ∀ n acc cm ts r, pNamedColumn c f ts = r → isNF r.errs = true →
      motive (n + 1) acc cm ts ⟨⟨acc, false, cm⟩, [], ts⟩)
    (err : ∀ n acc cm ts r, pNamedColumn c f ts = r → isNF r.errs = false → r.errs ≠ [] →
      motive (n + 1) acc cm ts ⟨⟨acc ++ [r.val], true, .none⟩, mkOpaque r.errs, r.rest⟩)
    (eof : ∀ n acc cm ts r, pNamedColumn c f ts = r → r.errs = [] → r.rest = [] →
      motive (n + 1) acc cm ts ⟨⟨acc ++ [r.val], true, .none⟩, [], []⟩)
    (stop : ∀ n acc cm ts r t rest, pNamedColumn c f ts = r → r.errs = [] → r.rest = t :: rest →
      t.kind ≠ .comma → motive (n + 1) acc cm ts ⟨⟨acc ++ [r.val], false, .none⟩, [], r.rest⟩)
    (more : ∀ n acc cm ts r t rest res, pNamedColumn c f ts = r → r.errs = [] →
      r.rest = t :: rest → t.kind = .comma → motive n (acc ++ [r.val]) (some t.span) rest res →
      motive (n + 1) acc cm ts res) :
    ∀ n acc cm ts, motive n acc cm ts (pSummarizeCols c f n acc cm ts)
  | 0, acc, cm, ts => fuel acc cm ts
  | n + 1, acc, cm, ts => by
    have ih := pSummarizeCols_induct fuel none err eof stop more n
    unfold pSummarizeCols
    dsimp only
    by_cases hnf : isNF (pNamedColumn c f ts).errs = true
    · rw [if_pos hnf]; exact none n acc cm ts _ rfl hnf
    rw [if_neg hnf]
    by_cases he : (pNamedColumn c f ts).errs = []
    · rw [if_neg (not_not_intro he)]
      have E := eof n acc cm ts _ rfl he
      have S := fun t rest => stop n acc cm ts _ t rest rfl he
      have M := fun t rest =>
        more n acc cm ts _ t rest
          (pSummarizeCols c f n (acc ++ [(pNamedColumn c f ts).val]) (some t.span) rest) rfl he
      generalize (pNamedColumn c f ts).rest = rr at E S M
      cases rr with
      | nil => exact E rfl
      | cons t rest =>
        dsimp only
        by_cases hk : t.kind = .comma
        · rw [if_pos hk]; exact M t rest rfl hk (ih _ _ rest)
        · rw [if_neg hk]; exact S t rest rfl hk
    · rw [if_pos he]; exact err n acc cm ts _ rfl (Bool.eq_false_iff.mpr hnf) he

/-- `summarize`: the first loop returned (`done`); no `by` follows, and there is no column at
    all (`noCols`), a comma was left over (`dangling`), or all is well (`plain`); or a `by` clause
    follows (`by_`) -/
theorem pSummarize_cases {motive : PRes Op → Prop} (pipe kw : Span) (ts : List Token)
    (done : ∀ r1, pSummarizeCols c f (ts.length + 1) [] .none ts = r1 → r1.val.done = true →
      motive ⟨.summarize pipe kw r1.val.cols .null [], r1.errs, r1.rest⟩)
    (noCols : ∀ r1, pSummarizeCols c f (ts.length + 1) [] .none ts = r1 → r1.val.done = false →
      (∀ sep rest, r1.rest = sep :: rest → sep.kind ≠ .by_) → r1.val.cols.isEmpty = true →
      motive ⟨.summarize pipe kw r1.val.cols .null [], errAt (headSpan c r1.rest), r1.rest⟩)
    (dangling : ∀ r1 cm, pSummarizeCols c f (ts.length + 1) [] .none ts = r1 →
      r1.val.done = false → (∀ sep rest, r1.rest = sep :: rest → sep.kind ≠ .by_) →
      r1.val.cols.isEmpty = false → r1.val.comma = some cm →
      motive ⟨.summarize pipe kw r1.val.cols .null [], errAt cm, r1.rest⟩)
    (plain : ∀ r1, pSummarizeCols c f (ts.length + 1) [] .none ts = r1 → r1.val.done = false →
      (∀ sep rest, r1.rest = sep :: rest → sep.kind ≠ .by_) → r1.val.cols.isEmpty = false →
      r1.val.comma = .none → motive ⟨.summarize pipe kw r1.val.cols .null [], [], r1.rest⟩)
    (by_ : ∀ r1 sep rest r2, pSummarizeCols c f (ts.length + 1) [] .none ts = r1 →
      r1.val.done = false → r1.rest = sep :: rest → sep.kind = .by_ →
      pGroupByCols c f (rest.length + 1) [] rest = r2 →
      motive ⟨.summarize pipe kw r1.val.cols sep.span r2.val, r2.errs, r2.rest⟩) :
    motive (pSummarize c f pipe kw ts) := by
  unfold pSummarize
  dsimp only
  generalize h1 : pSummarizeCols c f (ts.length + 1) [] .none ts = r1
  obtain ⟨⟨cols, dn, cm⟩, e1, rest1⟩ := r1
  cases dn
  · have hnoBy : (∀ sep rest, rest1 = sep :: rest → sep.kind ≠ .by_) →
        motive (if cols.isEmpty then
            ⟨.summarize pipe kw cols .null [], errAt (headSpan c rest1), rest1⟩
          else match (generalizing := false) cm with
            | some s => ⟨.summarize pipe kw cols .null [], errAt s, rest1⟩
            | .none => ⟨.summarize pipe kw cols .null [], [], rest1⟩) := by
      intro hb
      cases hemp : cols.isEmpty
      · cases cm with
        | none => exact plain _ h1 rfl hb hemp rfl
        | some s => exact dangling _ s h1 rfl hb hemp rfl
      · exact noCols _ h1 rfl hb hemp
    rw [if_neg Bool.false_ne_true]
    cases rest1 with
    | nil => dsimp only; exact hnoBy fun _ _ h => nomatch h
    | cons sep rest =>
      dsimp only
      by_cases hb : sep.kind = .by_
      · rw [if_neg (not_not_intro hb)]; exact by_ _ sep rest _ h1 rfl rfl hb rfl
      · rw [if_pos hb]; exact hnoBy fun sep' rest' h => by cases h; exact hb
  · rw [if_pos rfl]; exact done _ h1 rfl

theorem pRenderProp_cases {motive : List Token → PRes (Option RenderProp) → Prop}
    (noIdent : ∀ ts, (∀ t rest, ts = t :: rest → ¬(t.kind = .ident ∨ t.kind = .qident)) →
      motive ts ⟨.none, nfAt c.eof, ts⟩)
    (noAssign : ∀ t0 rest, t0.kind = .ident ∨ t0.kind = .qident →
      (∀ t rest', rest = t :: rest' → t.kind ≠ .assign) →
      motive (t0 :: rest) ⟨.none, errAt (headSpan c rest), rest.tail⟩)
    (err : ∀ t0 t rest r, t0.kind = .ident ∨ t0.kind = .qident → t.kind = .assign →
      pExpr c f rest = r → r.errs ≠ [] → motive (t0 :: t :: rest) ⟨.none, r.errs, r.rest⟩)
    (ok : ∀ t0 t rest r, t0.kind = .ident ∨ t0.kind = .qident → t.kind = .assign →
      pExpr c f rest = r → r.errs = [] →
      motive (t0 :: t :: rest)
        ⟨some ⟨some ⟨t0.value, t0.span, t0.kind = .qident⟩, t.span, r.val⟩, [], r.rest⟩) :
    ∀ ts, motive ts (pRenderProp c f ts) := by
  intro ts
  unfold pRenderProp
  rcases head_cases (fun t => t.kind = .ident ∨ t.kind = .qident) ts with h | ⟨t0, rest, rfl, h0⟩
  · rw [pIdent_none h]; exact noIdent ts h
  · rw [pIdent_cons h0]
    cases rest with
    | nil => exact noAssign t0 [] h0 fun _ _ h => nomatch h
    | cons t rest =>
      dsimp only
      by_cases ha : t.kind = .assign
      · rw [if_neg (not_not_intro ha)]
        by_cases he : (pExpr c f rest).errs = []
        · rw [if_neg (not_not_intro he)]; exact ok t0 t rest _ h0 ha rfl he
        · rw [if_pos he]; exact err t0 t rest _ h0 ha rfl he
      · rw [if_pos ha]; exact noAssign t0 (t :: rest) h0 fun t' rest' h => by cases h; exact ha

theorem pRenderProps_induct
    {motive : Nat → List RenderProp → List Token → PRes (List RenderProp × Span) → Prop}
    (fuel : ∀ acc ts, motive 0 acc ts ⟨(acc, .null), errFuel, ts⟩)
    (err : ∀ n acc ts r, pRenderProp c f ts = r → r.errs ≠ [] →
      motive (n + 1) acc ts ⟨(acc, .null), mkOpaque r.errs, r.rest⟩)
    (junk : ∀ n acc ts r, pRenderProp c f ts = r → r.errs = [] →
      (∀ t rest, r.rest = t :: rest → t.kind ≠ .rparen ∧ t.kind ≠ .comma) →
      motive (n + 1) acc ts ⟨(acc ++ r.val.toList, .null), errAt (headSpan c r.rest), r.rest.tail⟩)
    (close : ∀ n acc ts r t rest, pRenderProp c f ts = r → r.errs = [] → r.rest = t :: rest →
      t.kind = .rparen → motive (n + 1) acc ts ⟨(acc ++ r.val.toList, t.span), [], rest⟩)
    (more : ∀ n acc ts r t rest res, pRenderProp c f ts = r → r.errs = [] → r.rest = t :: rest →
      t.kind = .comma → motive n (acc ++ r.val.toList) rest res → motive (n + 1) acc ts res) :
    ∀ n acc ts, motive n acc ts (pRenderProps c f n acc ts)
  | 0, acc, ts => fuel acc ts
  | n + 1, acc, ts => by
    have ih := pRenderProps_induct fuel err junk close more n
    unfold pRenderProps
    dsimp only
    by_cases he : (pRenderProp c f ts).errs = []
    · rw [if_neg (not_not_intro he)]
      -- the model's accumulator, as a variable
      have key : ∀ acc', acc' = acc ++ (pRenderProp c f ts).val.toList →
          motive (n + 1) acc ts
            (match (pRenderProp c f ts).rest with
              | [] => ⟨(acc', .null), errAt c.eof, []⟩
              | t :: rest =>
                if t.kind = .rparen then ⟨(acc', t.span), [], rest⟩
                else if t.kind ≠ .comma then ⟨(acc', .null), errAt t.span, rest⟩
                else pRenderProps c f n acc' rest) := by
        intro acc' hacc
        subst hacc
        have J := junk n acc ts _ rfl he
        have C := fun t rest => close n acc ts _ t rest rfl he
        have M := fun t rest =>
          more n acc ts _ t rest
            (pRenderProps c f n (acc ++ (pRenderProp c f ts).val.toList) rest) rfl he
        generalize (pRenderProp c f ts).rest = rr at J C M
        cases rr with
        | nil => exact J fun _ _ h => nomatch h
        | cons t rest =>
          dsimp only
          by_cases hr : t.kind = .rparen
          · rw [if_pos hr]; exact C t rest rfl hr
          rw [if_neg hr]
          by_cases hk : t.kind = .comma
          · rw [if_neg (not_not_intro hk)]; exact M t rest rfl hk (ih _ rest)
          · rw [if_pos hk]; exact J fun t' rest' h => by cases h; exact ⟨hr, hk⟩
      exact key _ (by
        cases (pRenderProp c f ts).val <;>
          simp only [Option.toList_some, Option.toList_none, List.append_nil])
    · rw [if_pos he]; exact err n acc ts _ rfl he

theorem pRender_cases {motive : List Token → PRes Op → Prop} (pipe kw : Span)
    (noIdent : ∀ ts, (∀ t rest, ts = t :: rest → ¬(t.kind = .ident ∨ t.kind = .qident)) →
      motive ts ⟨.render pipe kw .none .null .null [] .null, errAt kw, ts⟩)
    (plain : ∀ t0 rest, t0.kind = .ident ∨ t0.kind = .qident →
      (∀ t rest', rest = t :: rest' → isIdentNamed t "with" = false) →
      motive (t0 :: rest)
        ⟨.render pipe kw (some ⟨t0.value, t0.span, t0.kind = .qident⟩) .null .null [] .null, [], rest⟩)
    (noLp : ∀ t0 t rest, t0.kind = .ident ∨ t0.kind = .qident → isIdentNamed t "with" = true →
      (∀ lp rest2, rest = lp :: rest2 → lp.kind ≠ .lparen) →
      motive (t0 :: t :: rest)
        ⟨.render pipe kw (some ⟨t0.value, t0.span, t0.kind = .qident⟩) t.span .null [] .null,
          errAt (headSpan c rest), rest.tail⟩)
    (props : ∀ t0 t lp rest2 r, t0.kind = .ident ∨ t0.kind = .qident →
      isIdentNamed t "with" = true → lp.kind = .lparen →
      pRenderProps c f (rest2.length + 1) [] rest2 = r →
      motive (t0 :: t :: lp :: rest2)
        ⟨.render pipe kw (some ⟨t0.value, t0.span, t0.kind = .qident⟩) t.span lp.span r.val.1 r.val.2,
          r.errs, r.rest⟩) :
    ∀ ts, motive ts (pRender c f pipe kw ts) := by
  intro ts
  unfold pRender
  rcases head_cases (fun t => t.kind = .ident ∨ t.kind = .qident) ts with h | ⟨t0, rest, rfl, h0⟩
  · rw [pIdent_none h]; exact noIdent ts h
  · rw [pIdent_cons h0]
    cases rest with
    | nil => exact plain t0 [] h0 fun _ _ h => nomatch h
    | cons t rest =>
      dsimp only
      cases hw : isIdentNamed t "with"
      · simp only [Bool.not_false, if_true]
        exact plain t0 (t :: rest) h0 fun t' rest' h => by cases h; exact hw
      · simp only [Bool.not_true, Bool.false_eq_true, if_false]
        cases rest with
        | nil => exact noLp t0 t [] h0 hw fun _ _ h => nomatch h
        | cons lp rest2 =>
          dsimp only
          by_cases hl : lp.kind = .lparen
          · rw [if_neg (not_not_intro hl)]; exact props t0 t lp rest2 _ h0 hw hl rfl
          · rw [if_pos hl]
            exact noLp t0 t (lp :: rest2) h0 hw fun lp' rest' h => by cases h; exact hl

theorem pLet_cases {motive : List Token → PRes (Option Stmt) → Prop}
    (notLet : ∀ ts, (∀ kwd rest, ts = kwd :: rest → isIdentNamed kwd "let" = false) →
      motive ts ⟨.none, nfAt (headSpan c ts), ts⟩)
    (noName : ∀ kwd rest, isIdentNamed kwd "let" = true →
      (∀ t rest', rest = t :: rest' → ¬(t.kind = .ident ∨ t.kind = .qident)) →
      motive (kwd :: rest) ⟨some (.let_ kwd.span .none .null .nil), mkOpaque (nfAt c.eof), rest⟩)
    (noAssign : ∀ kwd t0 rest, isIdentNamed kwd "let" = true → t0.kind = .ident ∨ t0.kind = .qident →
      (∀ asg rest2, rest = asg :: rest2 → asg.kind ≠ .assign) →
      motive (kwd :: t0 :: rest)
        ⟨some (.let_ kwd.span (some ⟨t0.value, t0.span, t0.kind = .qident⟩) .null .nil),
          errAt (headSpan c rest), rest.tail⟩)
    (full : ∀ kwd t0 asg rest2 r, isIdentNamed kwd "let" = true →
      t0.kind = .ident ∨ t0.kind = .qident → asg.kind = .assign → pExpr c f rest2 = r →
      motive (kwd :: t0 :: asg :: rest2)
        ⟨some (.let_ kwd.span (some ⟨t0.value, t0.span, t0.kind = .qident⟩) asg.span r.val),
          mkOpaque r.errs, r.rest⟩) :
    ∀ ts, motive ts (pLet c f ts) := by
  intro ts
  unfold pLet
  cases ts with
  | nil => exact notLet [] fun _ _ h => nomatch h
  | cons kwd rest =>
    dsimp only
    cases hl : isIdentNamed kwd "let"
    · simp only [Bool.not_false, if_true]
      exact notLet (kwd :: rest) fun kwd' rest' h => by cases h; exact hl
    · simp only [Bool.not_true, Bool.false_eq_true, if_false]
      rcases head_cases (fun t => t.kind = .ident ∨ t.kind = .qident) rest with h | ⟨t0, rest1, rfl, h0⟩
      · rw [pIdent_none h]; exact noName kwd rest hl h
      · rw [pIdent_cons h0]
        cases rest1 with
        | nil => exact noAssign kwd t0 [] hl h0 fun _ _ h => nomatch h
        | cons asg rest2 =>
          dsimp only
          by_cases ha : asg.kind = .assign
          · rw [if_neg (not_not_intro ha)]; exact full kwd t0 asg rest2 _ hl h0 ha rfl
          · rw [if_pos ha]
            exact noAssign kwd t0 (asg :: rest2) hl h0 fun asg' rest' h => by cases h; exact ha

theorem pTabular_cases {motive : List Token → PRes Tabular → Prop}
    (noIdent : ∀ ts, (∀ t rest, ts = t :: rest → ¬(t.kind = .ident ∨ t.kind = .qident)) →
      motive ts ⟨.nil, nfAt c.eof, ts⟩)
    (ops : ∀ t0 rest r, t0.kind = .ident ∨ t0.kind = .qident → pOps c f .nil [] rest = r →
      motive (t0 :: rest) ⟨.mk (some ⟨t0.value, t0.span, t0.kind = .qident⟩) r.val, r.errs, r.rest⟩) :
    ∀ ts, motive ts (pTabular c (f + 1) ts) := by
  intro ts
  unfold pTabular
  rcases head_cases (fun t => t.kind = .ident ∨ t.kind = .qident) ts with h | ⟨t0, rest, rfl, h0⟩
  · rw [pIdent_none h]; exact noIdent ts h
  · rw [pIdent_cons h0]; exact ops t0 rest _ h0 rfl

theorem pTabular_val_of_notNF (c : PCtx) (fuel : Nat) :
    ∀ ts, isNF (pTabular c (fuel + 1) ts).errs = false → (pTabular c (fuel + 1) ts).val ≠ .nil := by
  apply pTabular_cases (motive := fun _ r => isNF r.errs = false → r.val ≠ .nil)
  case noIdent => intro ts _ h; cases h
  case ops => intros; exact nofun

/-- One statement: a `let` that was recognised (`let_`), else a tabular expression (`tab`), else
    nothing was recognised: an empty statement, or an error at the first token.

    The `match` of the model has one arm more, a `.nil` tabular expression whose error is not
    not-found; with fuel (`fuelFor _ ≥ 32`) it is never taken (`pTabular_val_of_notNF`). -/
theorem pStatement_cases {motive : Option Stmt × Errs × Bool → Prop} (c : PCtx) (ts : List Token)
    (let_ : ∀ rl, pLet c (fuelFor ts.length) ts = rl → isNF rl.errs = false →
      motive (rl.val, mkOpaque rl.errs ++ endSplit rl.rest, false))
    (tab : ∀ rl rt name ops, pLet c (fuelFor ts.length) ts = rl → isNF rl.errs = true →
      pTabular c (fuelFor ts.length) ts = rt → isNF rt.errs = false → rt.val = .mk name ops →
      motive (some (.tabular rt.val), mkOpaque rt.errs ++ endSplit rt.rest, false))
    (empty : ∀ rl rt, pLet c (fuelFor ts.length) ts = rl → isNF rl.errs = true →
      pTabular c (fuelFor ts.length) ts = rt → isNF rt.errs = true → rt.rest = [] →
      motive (.none, [], false))
    (junk : ∀ rl rt t rest, pLet c (fuelFor ts.length) ts = rl → isNF rl.errs = true →
      pTabular c (fuelFor ts.length) ts = rt → isNF rt.errs = true → rt.rest = t :: rest →
      motive (.none, rt.errs ++ errAt t.span, true)) :
    motive (pStatement c ts) := by
  unfold pStatement
  dsimp only
  cases hl : isNF (pLet c (fuelFor ts.length) ts).errs
  · simp only [Bool.not_false, if_true, hl, Bool.false_eq_true, if_false]
    exact let_ _ rfl hl
  · simp only [Bool.not_true, Bool.false_eq_true, if_false]
    have N := pTabular_val_of_notNF c (fuelFor ts.length - 1) ts
    rw [show fuelFor ts.length - 1 + 1 = fuelFor ts.length by unfold fuelFor; omega] at N
    have T := fun name ops => tab _ _ name ops rfl hl rfl
    have E := empty _ _ rfl hl rfl
    have J := fun t rest => junk _ _ t rest rfl hl rfl
    generalize pTabular c (fuelFor ts.length) ts = rt at N T E J
    obtain ⟨v, e, rest⟩ := rt
    cases hnf : isNF e
    · cases v with
      | nil => exact absurd rfl (N hnf)
      | mk name ops => simpa only [hnf, Bool.false_eq_true, if_false] using T name ops hnf rfl
    · cases rest with
      | nil => cases v <;> simpa only [hnf, if_true] using E hnf rfl
      | cons t rest' => cases v <;> simpa only [hnf, if_true] using J t rest' hnf rfl

end loops

theorem pSummarizeCols_errs (c : PCtx) (fuel : Nat) : ∀ (n : Nat) (acc : List Column) (cm : Option Span)
    (ts : List Token), (pSummarizeCols c fuel n acc cm ts).val.done = false →
    (pSummarizeCols c fuel n acc cm ts).errs = [] := by
  apply pSummarizeCols_induct (motive := fun _ _ _ _ r => r.val.done = false → r.errs = [])
  case fuel => intro acc cm ts h; cases h
  case none => intros; rfl
  case err => intro n acc cm ts r _ _ _ h; cases h
  case eof => intros; rfl
  case stop => intros; rfl
  case more => intro n acc cm ts r t rest res _ _ _ _ ih; exact ih

end Pql
