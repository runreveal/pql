/-
The statement loop of `Parse` is a fold over the groups of tokens between the semicolon tokens
(`semiGroups`, `pStatements_eq_fold`), so what `parseTokens` returns is a function of what
`pStatement` returns on each group: the statements are those of the groups, in order, whatever
errors there are (`parseTokens_fst`); there is no error iff no group has one
(`parseTokens_errs_nil`); every statement comes from a sublist of the tokens (`parseTokens_mem`).
The statement-level theorems of the properties are these list facts with the corresponding fact
about `pStatement` on one group.
-/
import PqlModel.Lemmas.ParseCasesOps
import PqlModel.Lemmas.ErrsAlgebra
namespace Pql

/-- the groups of tokens between the semicolon tokens (the last arm does not occur: there is
    always a group) -/
def semiGroups : List Token → List (List Token)
  | [] => [[]]
  | t :: ts =>
    if t.kind = .semi then [] :: semiGroups ts
    else match semiGroups ts with
      | g :: gs => (t :: g) :: gs
      | [] => [[t]]

theorem semiGroups_eq (ts : List Token) : semiGroups ts = (splitSemi ts).1 ::
    (match (splitSemi ts).2 with | [] => [] | _ :: rest => semiGroups rest) := by
  induction ts with
  | nil => rfl
  | cons t ts ih =>
    simp only [semiGroups, splitSemi]
    split
    · rfl
    · rw [ih]

theorem semiGroups_nosemi (g : List Token) (h : ∀ t ∈ g, t.kind ≠ .semi) : semiGroups g = [g] := by
  induction g with
  | nil => rfl
  | cons t g ih =>
    simp only [semiGroups, if_neg (h t List.mem_cons_self),
      ih fun t' ht' => h t' (List.mem_cons_of_mem _ ht')]

theorem semiGroups_append (X : List Token) (s : Token) (Y : List Token) (hs : s.kind = .semi) :
    semiGroups (X ++ s :: Y) = semiGroups X ++ semiGroups Y := by
  induction X with
  | nil => simp only [List.nil_append, semiGroups, hs, if_true, List.cons_append]
  | cons t X ih =>
    simp only [List.cons_append, semiGroups, ih]
    split
    · rfl
    · rcases hX : semiGroups X with _ | ⟨g, gs⟩
      · rw [semiGroups_eq] at hX; cases hX
      · rfl

theorem semiGroups_sublist : ∀ ts, ∀ g ∈ semiGroups ts, g.Sublist ts
  | [], g, hg => by rw [List.mem_singleton.1 hg]; exact .slnil
  | t :: ts, g, hg => by
    have ih := semiGroups_sublist ts
    simp only [semiGroups] at hg
    split at hg
    · rcases List.mem_cons.1 hg with rfl | hg
      · exact List.nil_sublist _
      · exact (ih g hg).cons t
    · rcases hX : semiGroups ts with _ | ⟨g0, gs⟩
      · rw [semiGroups_eq] at hX; cases hX
      · rw [hX] at hg ih
        rcases List.mem_cons.1 hg with rfl | hg
        · exact (ih g0 List.mem_cons_self).cons_cons t
        · exact (ih g (List.mem_cons_of_mem _ hg)).cons t

/-- one iteration of `Parse`'s loop: append the statement (if any); a "replacing" error list
    overwrites the accumulated errors, any other is appended -/
def stepAcc (st : List Stmt × Errs) (r : Option Stmt × Errs × Bool) : List Stmt × Errs :=
  (st.1 ++ r.1.toList, if r.2.2 then r.2.1 else st.2 ++ r.2.1)

def foldStmts (c : PCtx) (st : List Stmt × Errs) (gs : List (List Token)) : List Stmt × Errs :=
  gs.foldl (fun st g => stepAcc st (pStatement c g)) st

theorem pStatements_eq_fold (c : PCtx) : ∀ (k : Nat) (acc : List Stmt) (errs : Errs) (ts : List Token),
    ts.length < k → pStatements c k acc errs ts = foldStmts c (acc, errs) (semiGroups ts) := by
  intro k
  induction k with
  | zero => intro acc errs ts h; omega
  | succ k ih =>
    intro acc errs ts h
    have hl := congrArg List.length (splitSemi_append ts)
    rw [List.length_append] at hl
    have hst : ∀ r : Option Stmt × Errs × Bool,
        ((match r.1 with | some s => acc ++ [s] | none => acc),
          (if r.2.2 then r.2.1 else errs ++ r.2.1)) = stepAcc (acc, errs) r := by
      rintro ⟨_ | s, e, b⟩ <;> simp [stepAcc]
    rw [semiGroups_eq, foldStmts, List.foldl_cons, ← hst]
    simp only [pStatements]
    rcases hsp : (splitSemi ts).2 with _ | ⟨s, rest⟩
    · rfl
    · rw [hsp] at hl
      simp only [List.length_cons] at hl
      exact ih _ _ rest (by omega)

/-- the "replaces the accumulated error" flag is the not-found flag of the statement's errors -/
theorem pStatement_flag (c : PCtx) (g : List Token) :
    (pStatement c g).2.2 = isNF (pStatement c g).2.1 := by
  apply pStatement_cases (motive := fun r => r.2.2 = isNF r.2.1)
  case let_ | tab => intros; simp only [isNF_append, isNF_mkOpaque, isNF_endSplit, Bool.or_self]
  case empty => intros; rfl
  case junk => intro rl rt t rest _ _ _ hnf _; simp only [isNF_append, hnf, Bool.true_or]

theorem pStatement_replace {c : PCtx} {ts : List Token} (h : (pStatement c ts).2.2 = true) :
    (pStatement c ts).2.1 ≠ [] :=
  ne_nil_of_isNF (pStatement_flag c ts ▸ h)

theorem foldStmts_cons (c : PCtx) (st : List Stmt × Errs) (g : List Token) (gs : List (List Token)) :
    foldStmts c st (g :: gs) = foldStmts c (stepAcc st (pStatement c g)) gs := rfl

theorem foldStmts_fst (c : PCtx) : ∀ (gs : List (List Token)) (st : List Stmt × Errs),
    (foldStmts c st gs).1 = st.1 ++ gs.flatMap fun g => (pStatement c g).1.toList
  | [], st => (List.append_nil _).symm
  | g :: gs, st => by
    rw [foldStmts_cons, foldStmts_fst c gs, List.flatMap_cons, ← List.append_assoc]; rfl

theorem foldStmts_errs_nil (c : PCtx) : ∀ (gs : List (List Token)) (st : List Stmt × Errs),
    (foldStmts c st gs).2 = [] ↔ st.2 = [] ∧ ∀ g ∈ gs, (pStatement c g).2.1 = []
  | [], st => by simp [foldStmts]
  | g :: gs, st => by
    rw [foldStmts_cons, foldStmts_errs_nil c gs, List.forall_mem_cons, ← and_assoc]
    refine and_congr_left fun _ => ?_
    simp only [stepAcc]
    split
    · rename_i hf; simp [pStatement_replace hf]
    · exact List.append_eq_nil_iff

variable (n : Nat) (ts : List Token)

theorem parseTokens_eq_fold : parseTokens n ts = foldStmts ⟨n⟩ ([], []) (semiGroups ts) :=
  pStatements_eq_fold _ _ _ _ _ (Nat.lt_succ_self _)

theorem parseTokens_fst :
    (parseTokens n ts).1 = (semiGroups ts).flatMap fun g => (pStatement ⟨n⟩ g).1.toList := by
  rw [parseTokens_eq_fold, foldStmts_fst]; rfl

theorem parseTokens_errs_nil :
    (parseTokens n ts).2 = [] ↔ ∀ g ∈ semiGroups ts, (pStatement ⟨n⟩ g).2.1 = [] := by
  rw [parseTokens_eq_fold, foldStmts_errs_nil]; exact and_iff_right rfl

theorem parseTokens_mem {s : Stmt} (h : s ∈ (parseTokens n ts).1) :
    ∃ g, g.Sublist ts ∧ (pStatement ⟨n⟩ g).1 = some s ∧
      ((parseTokens n ts).2 = [] → (pStatement ⟨n⟩ g).2.1 = []) := by
  rw [parseTokens_fst, List.mem_flatMap] at h
  obtain ⟨g, hg, hs⟩ := h
  exact ⟨g, semiGroups_sublist ts g hg, Option.mem_toList.1 hs,
    fun he => (parseTokens_errs_nil n ts).1 he g hg⟩

theorem parseTokens_append (X : List Token) (s : Token) (Y : List Token) (hs : s.kind = .semi) :
    (parseTokens n (X ++ s :: Y)).1 = (parseTokens n X).1 ++ (parseTokens n Y).1 ∧
    ((parseTokens n (X ++ s :: Y)).2 = [] ↔ (parseTokens n X).2 = [] ∧ (parseTokens n Y).2 = []) := by
  simp only [parseTokens_fst, parseTokens_errs_nil, semiGroups_append X s Y hs, List.flatMap_append,
    List.forall_mem_append, true_and]

end Pql
