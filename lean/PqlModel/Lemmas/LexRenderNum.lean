/-
LexRender: number scanning with an abstract following text, and the shape of the
tokens the lexer emits (a number token starts with a digit, a word token with a word-start
byte) — what turns the semantic side conditions `numOK` / `nameOK` into scanning facts.
The side conditions (`numOK`, `nameOK`: "the SQL lexer reads this spelling as one number / one word")
turned into scanning facts, and the resulting one-step lemmas for number and function-name chunks with an abstract following text.
-/
import PqlModel.Lemmas.LexRenderBytes
import PqlModel.Spec.ChunkToks
namespace Pql.LexRender
open Pql Sql

theorem spanWhile_partition (p : UInt8 → Bool) (s : Bytes) :
    (spanWhile p s).1 ++ (spanWhile p s).2 = s := by
  induction s with
  | nil => rfl
  | cons c r ih =>
    by_cases h : p c = true
    · simp [spanWhile, h, ih]
    · simp [spanWhile, h]

theorem spanWhile_all (p : UInt8 → Bool) (s : Bytes) : ∀ b ∈ (spanWhile p s).1, p b = true := by
  induction s with
  | nil => simp [spanWhile]
  | cons c r ih =>
    by_cases h : p c = true
    · simp [spanWhile, h]; exact ih
    · simp [spanWhile, h]

theorem spanWhile_append (p : UInt8 → Bool) (s rest : Bytes)
    (hr : ∀ d, rest.head? = some d → p d = false) :
    spanWhile p (s ++ rest) = ((spanWhile p s).1, (spanWhile p s).2 ++ rest) := by
  induction s with
  | nil =>
    cases rest with
    | nil => rfl
    | cons d r => simp [spanWhile, hr d rfl]
  | cons c r ih =>
    by_cases h : p c = true
    · simp [spanWhile, h, ih]
    · simp [spanWhile, h]

/-- what must not directly follow a number -/
def numBad (d : UInt8) : Bool := isDigitB d || d == 46 || isWordStart d

/-- the two branches that read an exponent leave what `spanWhile` leaves; the others read nothing -/
theorem lexExponent_partition (s : Bytes) : (lexExponent s).1 ++ (lexExponent s).2 = s := by
  fun_cases lexExponent s
  case case1 => exact congrArg (_ :: _ :: ·) (spanWhile_partition isDigitB _)
  case case2 => exact congrArg (_ :: ·) (spanWhile_partition isDigitB _)
  all_goals rfl

theorem expByte_wordStart {e : UInt8} (h : (e == 101 || e == 69) = true) : isWordStart e = true := by
  simp only [Bool.or_eq_true, beq_iff_eq] at h
  rcases h with rfl | rfl <;> decide

theorem numBad_elim {d : UInt8} (h : numBad d = false) :
    isDigitB d = false ∧ (d == 46) = false ∧ isWordStart d = false := by
  simp only [numBad, Bool.or_eq_false_iff] at h
  exact ⟨h.1.1, h.1.2, h.2⟩

theorem digit_not_sign (d : UInt8) : (!isDigitB d || !(d == 43 || d == 45)) = true :=
  forall_uint8 (fun d => !isDigitB d || !(d == 43 || d == 45)) (by decide +kernel) d

theorem lexExponent_append (s rest : Bytes)
    (hr : ∀ d, rest.head? = some d → numBad d = false)
    (hs : ∀ d, (lexExponent s).2.head? = some d → isWordStart d = false) :
    lexExponent (s ++ rest) = ((lexExponent s).1, (lexExponent s).2 ++ rest) := by
  have hrd : ∀ d, rest.head? = some d → isDigitB d = false := fun d h => (numBad_elim (hr d h)).1
  rcases s with _ | ⟨e, t⟩
  · -- nothing left of the number: the following text starts no exponent
    rcases rest with _ | ⟨x, r⟩
    · rfl
    · have hx := (numBad_elim (hr x rfl)).2.2
      have : ¬ (x == 101 || x == 69) = true := fun h => by
        rw [expByte_wordStart h] at hx; cases hx
      simp only [List.nil_append, lexExponent, if_neg this]
  · by_cases he : (e == 101 || e == 69) = true
    · have hws := expByte_wordStart he
      rcases t with _ | ⟨sg, _ | ⟨d, r⟩⟩
      · have := hs e (by simp [lexExponent])
        rw [hws] at this; cases this
      · -- `e d`
        by_cases hd : isDigitB sg = true
        · rcases rest with _ | ⟨x, r⟩
          · simp
          · have hx := hrd x rfl
            have hns : (sg == 43 || sg == 45) = false := by
              have := digit_not_sign sg; simpa [hd] using this
            simp [lexExponent, he, hd, hx, hns, spanWhile]
        · have := hs e (by simp [lexExponent, he, hd])
          rw [hws] at this; cases this
      · by_cases h1 : ((sg == 43 || sg == 45) && isDigitB d) = true
        · have := spanWhile_append isDigitB (d :: r) rest hrd
          simp only [List.cons_append] at this
          simp only [List.cons_append, lexExponent, if_pos he, if_pos h1, this]
        · by_cases h2 : isDigitB sg = true
          · have := spanWhile_append isDigitB (sg :: d :: r) rest hrd
            simp only [List.cons_append] at this
            simp only [List.cons_append, lexExponent, if_pos he, if_neg h1, if_pos h2, this]
          · have := hs e (by simp only [lexExponent, if_pos he, if_neg h1, if_neg h2]; rfl)
            rw [hws] at this; cases this
    · have e1 : lexExponent (e :: t) = ([], e :: t) := by simp only [lexExponent, if_neg he]
      have e2 : lexExponent (e :: (t ++ rest)) = ([], e :: (t ++ rest)) := by
        simp only [lexExponent, if_neg he]
      simp only [List.cons_append, e1, e2]

/-- the exponent part and the boundary check of the number branch -/
def numTail (pre s : Bytes) : Option (Bytes × Bytes) :=
  if ((lexExponent s).2.head?.map isWordStart).getD false then none
  else some (pre ++ (lexExponent s).1, (lexExponent s).2)

theorem numStep_eq (s : Bytes) :
    numStep s =
      match (spanWhile isDigitB s).2 with
      | d :: r =>
        if d == 46 then numTail ((spanWhile isDigitB s).1 ++ 46 :: (spanWhile isDigitB r).1) (spanWhile isDigitB r).2
        else numTail (spanWhile isDigitB s).1 (d :: r)
      | [] => numTail (spanWhile isDigitB s).1 [] := by
  unfold numStep
  dsimp only
  generalize spanWhile isDigitB s = ip
  obtain ⟨ip1, ip2⟩ := ip
  rcases ip2 with _ | ⟨d, r⟩
  · simp [numTail]
  · dsimp only
    by_cases hd : (d == 46) = true
    · simp only [hd, if_true, numTail, List.append_assoc]
    · have hd' : (d == 46) = false := by simpa using hd
      simp only [hd', Bool.false_eq_true, if_false, numTail, List.append_nil]

theorem numTail_partition (pre s t r : Bytes) (h : numTail pre s = some (t, r)) : t ++ r = pre ++ s := by
  unfold numTail at h
  split at h
  · cases h
  · simp only [Option.some.injEq, Prod.mk.injEq] at h
    rw [← h.1, ← h.2, List.append_assoc, lexExponent_partition]

theorem numTail_append (pre s t r rest : Bytes) (h : numTail pre s = some (t, r))
    (hr : ∀ d, rest.head? = some d → numBad d = false) :
    numTail pre (s ++ rest) = some (t, r ++ rest) := by
  unfold numTail at h
  split at h
  · cases h
  · rename_i hc
    simp only [Option.some.injEq, Prod.mk.injEq] at h
    have hs : ∀ d, (lexExponent s).2.head? = some d → isWordStart d = false := by
      intro d hd
      rw [hd] at hc
      simpa using hc
    have ha := lexExponent_append s rest hr hs
    unfold numTail
    rw [ha]
    dsimp only
    have : ¬ ((((lexExponent s).2 ++ rest).head?.map isWordStart).getD false = true) := by
      rcases hl : (lexExponent s).2 with _ | ⟨x, xs⟩
      · rcases rest with _ | ⟨y, ys⟩
        · simp
        · simp [(numBad_elim (hr y rfl)).2.2]
      · simp [hs x (by rw [hl]; rfl)]
    rw [if_neg this, h.1, h.2]

theorem numStep_partition (s t r : Bytes) (h : numStep s = some (t, r)) : t ++ r = s := by
  rw [numStep_eq] at h
  have hp := spanWhile_partition isDigitB s
  generalize spanWhile isDigitB s = ip at h hp
  obtain ⟨ip1, ip2⟩ := ip
  dsimp only at h hp
  rcases ip2 with _ | ⟨d, r0⟩
  · dsimp only at h
    rw [numTail_partition _ _ _ _ h, hp]
  · dsimp only at h
    by_cases hd : (d == 46) = true
    · rw [if_pos hd] at h
      have := numTail_partition _ _ _ _ h
      have hd' : d = 46 := by simpa using hd
      rw [this, ← hp, hd', List.append_assoc, List.cons_append, spanWhile_partition]
    · rw [if_neg hd] at h
      rw [numTail_partition _ _ _ _ h, hp]

theorem numStep_append (s t r rest : Bytes) (h : numStep s = some (t, r))
    (hr : ∀ d, rest.head? = some d → numBad d = false) :
    numStep (s ++ rest) = some (t, r ++ rest) := by
  have hrd : ∀ d, rest.head? = some d → isDigitB d = false := fun d h => (numBad_elim (hr d h)).1
  rw [numStep_eq] at h
  rw [numStep_eq, spanWhile_append isDigitB s rest hrd]
  generalize spanWhile isDigitB s = ip at h
  obtain ⟨ip1, ip2⟩ := ip
  dsimp only at h ⊢
  rcases ip2 with _ | ⟨d, r0⟩
  · dsimp only at h
    have := numTail_append _ _ _ _ rest h hr
    rcases rest with _ | ⟨y, ys⟩
    · exact this
    · have hy : ¬ (y == 46) = true := by simp [(numBad_elim (hr y rfl)).2.1]
      simp only [List.nil_append] at this ⊢
      rw [if_neg hy]; exact this
  · dsimp only at h
    simp only [List.cons_append]
    by_cases hd : (d == 46) = true
    · rw [if_pos hd] at h
      rw [if_pos hd, spanWhile_append isDigitB r0 rest hrd]
      exact numTail_append _ _ _ _ rest h hr
    · rw [if_neg hd] at h
      rw [if_neg hd]
      exact numTail_append _ _ _ _ rest h hr

def tokShape : STok → Prop
  | .num x => ∃ c r, x = c :: r ∧ isDigitB c = true
  | .word w => ∃ c r, w = c :: r ∧ isWordStart c = true
  | _ => True

theorem shape_cons {o : Option (List STok)} {tok : STok} (htok : tokShape tok)
    (ih : ∀ ts, o = some ts → ∀ x ∈ ts, tokShape x) :
    ∀ ts, o.map (tok :: ·) = some ts → ∀ x ∈ ts, tokShape x := by
  intro ts h x hx
  obtain ⟨ts', hts', rfl⟩ := Option.map_eq_some_iff.mp h
  rcases List.mem_cons.mp hx with rfl | hx
  · exact htok
  · exact ih ts' hts' x hx

/-- by the branches of `lexAux`: it fails, is at the end of the input, skips white space (`case3`), or
    emits one token and goes on; the word branch (`case11`) and the number branch (`case13`) emit the
    first byte in front, and are entered on a word-start byte and on a digit -/
theorem lexAux_shape (mode : QuoteMode) (fuel : Nat) (s : Bytes) :
    ∀ ts, lexAux mode fuel s = some ts → ∀ x ∈ ts, tokShape x := by
  fun_induction lexAux mode fuel s
  case case2 => intro ts h; cases h; simp
  case case3 ih => exact ih
  case case11 hc _ ih => exact shape_cons ⟨_, _, rfl, hc⟩ ih
  case case13 hc _ _ _ _ _ _ ih => exact shape_cons ⟨_, _, rfl, hc⟩ ih
  case case1 | case6 | case8 | case10 | case12 | case14 | case18 | case21 => exact fun _ h => nomatch h
  all_goals exact shape_cons trivial ‹_›

theorem lex_eq_some {s : Bytes} {out : List STok} (h : lex .standard s = some out) :
    ∃ ts, lexAux .standard (s.length + 1) s = some ts ∧ ts.filter (· != .comment) = out := by
  simpa [lex, lexRaw] using h

theorem numOK_scan (v : Bytes) (h : numOK v = true) :
    ∃ c v', v = c :: v' ∧ isDigitB c = true ∧ numStep v' = some (v', []) := by
  have h' : lex .standard v = some [.num v] := by simpa [numOK] using h
  obtain ⟨ts, hts, hf⟩ := lex_eq_some h'
  have hmem : STok.num v ∈ ts := by
    have : STok.num v ∈ ts.filter (· != .comment) := by rw [hf]; simp
    exact (List.mem_filter.mp this).1
  have hsh : ∃ c r, v = c :: r ∧ isDigitB c = true := lexAux_shape _ _ _ _ hts _ hmem
  obtain ⟨c, v', rfl, hc⟩ := hsh
  refine ⟨c, v', rfl, hc, ?_⟩
  simp only [List.length_cons] at hts
  rw [lexAux_step, lexStep_digit _ _ _ hc] at hts
  rcases hn : numStep v' with _ | ⟨t, r⟩
  · rw [hn] at hts; cases hts
  · rw [hn] at hts
    simp only [andThen, Option.map_eq_some_iff] at hts
    obtain ⟨ts', _, rfl⟩ := hts
    have hne : (STok.num (c :: t) != STok.comment) = true := by simp
    simp only [List.cons_append, List.nil_append, List.filter_cons, hne, if_true, List.cons.injEq,
      STok.num.injEq] at hf
    obtain ⟨⟨_, rfl⟩, _⟩ := hf
    have hp := numStep_partition _ _ _ hn
    have hl := congrArg List.length hp
    simp only [List.length_append] at hl
    have : r = [] := List.eq_nil_of_length_eq_zero (by omega)
    rw [this]

theorem nameOK_scan (v : Bytes) (h : nameOK v = true) :
    ∃ c w, v = c :: w ∧ isWordStart c = true ∧ ∀ b ∈ w, isWordCont b = true := by
  have h' : lex .standard v = some [.word v] := by simpa [nameOK] using h
  obtain ⟨ts, hts, hf⟩ := lex_eq_some h'
  have hmem : STok.word v ∈ ts := by
    have : STok.word v ∈ ts.filter (· != .comment) := by rw [hf]; simp
    exact (List.mem_filter.mp this).1
  have hsh : ∃ c r, v = c :: r ∧ isWordStart c = true := lexAux_shape _ _ _ _ hts _ hmem
  obtain ⟨c, w, rfl, hc⟩ := hsh
  refine ⟨c, w, rfl, hc, ?_⟩
  simp only [List.length_cons] at hts
  rw [lexAux_step, lexStep_wordStart _ _ _ hc] at hts
  simp only [andThen, Option.map_eq_some_iff] at hts
  obtain ⟨ts', _, rfl⟩ := hts
  have hne : (STok.word (c :: (spanWhile isWordCont w).1) != STok.comment) = true := by simp
  simp only [List.cons_append, List.nil_append, List.filter_cons, hne, if_true, List.cons.injEq,
    STok.word.injEq] at hf
  obtain ⟨⟨_, hw⟩, _⟩ := hf
  have := spanWhile_all isWordCont w
  rw [hw] at this; exact this

theorem lexStep_num (v rest : Bytes) (hv : numOK v = true)
    (hr : ∀ d, rest.head? = some d → numBad d = false) :
    ∃ c v', v = c :: v' ∧ lexStep .standard c (v' ++ rest) = some ([STok.num v], rest) := by
  obtain ⟨c, v', rfl, hc, hn⟩ := numOK_scan v hv
  refine ⟨c, v', rfl, ?_⟩
  rw [lexStep_digit _ _ _ hc, numStep_append v' v' [] rest hn hr]
  rfl

theorem lexStep_fname (v rest : Bytes) (hv : nameOK v = true)
    (hr : ∀ d, rest.head? = some d → isWordCont d = false) :
    ∃ c w, v = c :: w ∧ lexStep .standard c (w ++ rest) = some ([STok.word v], rest) := by
  obtain ⟨c, w, rfl, hc, hw⟩ := nameOK_scan v hv
  exact ⟨c, w, rfl, lexStep_word _ c w rest hc hw hr⟩

end Pql.LexRender
