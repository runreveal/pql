/-
Helpers for Props/C16MainIR.lean: the expected statement trees of `main`, of the function literal `RunE` and of the
`logError` literal (cmd/pql/main.go, regenerated as `Facts.cliMainIR`), and the interpretation of the `RunE` tree
(Model/CliMainIR.lean) computed phase by phase.

`interpRunE_eq`: for EVERY system (`compile`, file system, `Close` failures, fuel, scanner bound), argument list, `-o` value and
standard-input script the interpretation of the regenerated closure is the hand-written `StreamIR.runE` of
Lemmas/CliStreamIRMain.lean followed by `afterRunE` — the bookkeeping `runE` does not do (`output.Close()` and its error,
where the output went, the `pql:` lines of the `logError` literal).  No hypothesis is needed: errors (`panic`, `stuck`, `fuel`)
are the same on both sides.  The proof runs the tree statement by statement (`rest_eq`, `run_tail`), the callees being
characterised by the theorems about THEIR regenerated bodies (`makeInput_phase`, `miSpec_spec`, `makeOutput_spec`,
`close_run`, `interpRun_eq`).

`interpMain_eq`: the interpretation of the regenerated `main` — cobra calling the regenerated `RunE` — is `runE` followed by
`afterRunE` and `mainEnd` (the `if err != nil { Fprintf; os.Exit(1) }` tail).
-/
import PqlModel.Model.CliMainIR
namespace Pql.MainIR
open Pql Pql.CliIO Pql.CliMainIR
open Pql.CliIOIR (Val GoErr RC WC State Env M IErr runUnit world0 closeObj stuck goPanic valEq nilLike nilAs)
set_option linter.unusedSimpArgs false

def runEBody : List Stmt :=
  [.callFn "makeInput" (.def_ "input") (.set "err") (.var "args"),
   .ite (.ne (.var "err") .nil) [.ret [.var "err"]] [],
   .callFn "makeOutput" (.def_ "output") (.set "err") (.deref "outputPath"),
   .ite (.ne (.var "err") .nil) [.close .blank (.var "input"), .ret [.var "err"]] [],
   .callRun "main.RunE.func1" (.set "err") (.ctxOf "cmd") (.var "output") (.var "input"),
   .scope
     [.close (.def_ "err2") (.var "output"),
      .ite (.eq (.var "err") .nil) [.assign (.set "err") (.var "err2")] []],
   .close .blank (.var "input"),
   .ret [.var "err"]]

def runEFn : FuncIR := ⟨[("cmd", "*cobra.Command"), ("args", "[]string")], [("err", "error")], runEBody⟩

/-- the function literal assigned to `rootCommand.RunE` (cmd/pql/main.go lines 33-52) -/
theorem runE_ir : unitOf "main.RunE" = some runEFn := by rfl

def logFn : FuncIR := ⟨[("err", "error")], [], [.fprintf "stderr" "pql: %v\n" (.var "err")]⟩

/-- the function literal passed to `run` as `logError` (lines 44-46) -/
theorem logError_ir : unitOf "main.RunE.func1" = some logFn := by rfl

def mainBody : List Stmt :=
  [.command "rootCommand",
   .flag "outputPath" "rootCommand" "StringP" "output" "o" "",
   .setRunE "rootCommand" "main.RunE",
   .notifyCtx "ctx" "cancel",
   .execute (.def_ "err") "rootCommand" "ctx",
   .callCancel "cancel",
   .ite (.ne (.var "err") .nil) [.fprintf "stderr" "pql: %v\n" (.var "err"), .exit 1] []]

def mainFn : FuncIR := ⟨[], [], mainBody⟩

/-- `main` (lines 23-61) -/
theorem main_ir : unitOf "main" = some mainFn := by rfl

/-- the command literal: `SilenceErrors` and `SilenceUsage` are true (cobra prints nothing itself) -/
theorem command_ir :
    Facts.cliMainCommand.lookup "SilenceErrors" = some "true" ∧ Facts.cliMainCommand.lookup "SilenceUsage" = some "true" ∧
    Facts.cliMainCommand.map (·.1) = ["Use", "Short", "DisableFlagsInUseLine", "SilenceErrors", "SilenceUsage"] ∧
    commandSilent = true := by decide

/-- the only flag is `--output` / `-o`, a string with the default "" -/
theorem flags_ir : Facts.cliMainFlags = [("outputPath", "StringP", "output", "o", "")] := by rfl

theorem runSignature_ok : runSignatureOK = true := by decide

theorem logError_call (sys : Sys) (d : Nat) (e : GoErr) (vars : List (String × MVal)) (st : MState) :
    callAt sys (d + 1) "main.RunE.func1" [.io (.err e)] vars st = .ok (some [], { st with stderr := st.stderr + 1 }) := by
  rw [callAt, logError_ir]
  rfl

theorem logError_repeat (sys : Sys) (d : Nat) (e : GoErr) (vars : List (String × MVal)) : ∀ (n : Nat) (st : MState),
    repeatCall (callAt sys (d + 1) "main.RunE.func1" [.io (.err e)] vars) n st = .ok (true, { st with stderr := st.stderr + n })
  | 0, st => rfl
  | n + 1, st => by
    simp only [repeatCall, logError_call, bind, Except.bind, logError_repeat sys d e vars n]
    congr 2
    simp only [Nat.add_assoc, Nat.add_comm 1 n]

def destOf (outArg : String) : WC := if outArg = "" ∨ outArg = "-" then .stdoutNop else .file outArg

def closeErrOf (sys : Sys) : WC → GoErr
  | .stdoutNop => .nil
  | .file p => if sys.outCloseFails p then .other else .nil

def closedOf : WC → List String
  | .stdoutNop => []
  | .file p => [p]

/-- what `RunE` returns and the world it leaves, in terms of what the hand-written `StreamIR.runE` yields: the bookkeeping
    `runE` does not do — `output.Close()` and its error, where the output went, one `pql:` line per `logError` call -/
def afterRunE (sys : Sys) (outArg : String) (st : MState) : Option CliResult × State → Option (List MVal) × MState
  | (none, w) => (some [.io (.err .other)], { st with io := w, flags := [("output", outArg)] })
  | (some r, w) =>
    (some [.io (.err (if r.exitNonZero then .other else closeErrOf sys (destOf outArg)))],
     { st with io := w, flags := [("output", outArg)], out := st.out ++ r.out, outDest := some (destOf outArg),
               stderr := st.stderr + r.nErrors, outClosed := st.outClosed ++ closedOf (destOf outArg) })

macro "main_simp" : tactic =>
  `(tactic| simp (config := { decide := true }) [*, execBlock, exec, eval, evalCond, evalAll, getAll, assignTo, MState.get, MState.declare,
      MState.assign, MState.leave, assignIn, nilLikeM, nilLike, nilAsM, nilAs, valEq, adopt, stuck, goPanic, bind, Except.bind, pure, Except.pure,
      Except.map])

def frame0 (args : List String) : List (String × MVal) :=
  [("err", .io (.err .nil)), ("args", .io (.strs args)), ("cmd", .cmd), ("outputPath", .flagPtr "output"), ("rootCommand", .cmd)]

/-- what `runClosure` makes of the flow the body of `RunE` ends with -/
def finish1 (vars : List (String × MVal)) : Flow × MState → M (Option (List MVal) × MState)
  | (.ret vs, st1) =>
    if vs.length = 1 then .ok (some (List.zipWith nilAsM ["error"] vs), { st1 with vars := vars }) else stuck
  | (.exit, st1) => .ok (none, { st1 with vars := vars })
  | (.next, _) => stuck

theorem interpRunE_unfold (sys : Sys) (outArg : String) (st : MState) :
    interpRunE sys outArg st =
      execBlock sys (callAt sys 1) ["err"] runEBody { st with flags := [("output", outArg)], vars := frame0 sys.args } >>=
        finish1 st.vars := by
  rw [interpRunE, callAt]
  simp only [runE_ir, runEFn, runClosure, bindParamsM, resultVarsM, zeroOfM, capturedByRunE, frame0]
  simp (config := { decide := true }) only [Option.map_some, List.map, List.filter, List.reverse_cons, List.reverse_nil, List.nil_append,
    List.cons_append, List.append_nil, bne_iff_ne, ne_eq, String.reduceEq, not_false_eq_true, decide_true, ↓reduceIte, String.reduceBNe]
  generalize execBlock sys (callAt sys 1) ["err"] runEBody _ = r
  rcases r with e | ⟨f, st1⟩
  · rfl
  · cases f <;> simp [finish1, bind, Except.bind, pure, Except.pure]

def restBody : List Stmt := runEBody.drop 2

/-- `x.Close()` on the value `makeInput` returned, with the error it reports -/
def closeInputE (env : Env) (fuel : Nat) : Val → State → M (GoErr × State)
  | .rc x, w => closeObj env w x
  | .mrcRef, w =>
    match runUnit env fuel "multiReadCloser.Close" [.mrcRef] w with
    | .ok ([.err e], w') => .ok (e, w')
    | .ok _ => stuck
    | .error e => .error e
  | _, _ => stuck

theorem close_shape (env : Env) (fuel : Nat) (w : State) (vs : List Val) (w' : State)
    (h : runUnit env fuel "multiReadCloser.Close" [.mrcRef] w = .ok (vs, w')) : ∃ e, vs = [.err e] := by
  have hA := CliIOIR.close_run env fuel w
  have hu : runUnit env fuel "multiReadCloser.Close" [.mrcRef] w = CliIOIR.runFn env fuel CliIOIR.closeFn [.mrcRef] w := by
    simp only [runUnit, CliIOIR.close_ir]
  rw [← hu, h] at hA
  cases hm : CliIOIR.mrClose env w.readers .nil w with
  | error e => simp [hm, Except.map] at hA
  | ok r =>
    simp only [hm, Except.map, Except.ok.injEq, Prod.mk.injEq] at hA
    exact ⟨r.1, hA.1⟩

theorem closeVal_input (sys : Sys) (st : MState) (input : Val) (h : input = .mrcRef ∨ ∃ x, input = .rc x) :
    closeVal sys st (.io input) = (closeInputE sys.env sys.fuel input st.io).map fun r => (r.1, { st with io := r.2 }) := by
  rcases h with rfl | ⟨x, rfl⟩
  · simp only [closeVal, closeInputE, bind, Except.bind]
    cases hc : runUnit sys.env sys.fuel "multiReadCloser.Close" [.mrcRef] st.io with
    | error e => rfl
    | ok r =>
      obtain ⟨vs, w'⟩ := r
      obtain ⟨e, rfl⟩ := close_shape _ _ _ _ _ hc
      rfl
  · simp only [closeVal, closeInputE, bind, Except.bind]
    cases closeObj sys.env st.io x <;> rfl

theorem closeInput_closeInputE (env : Env) (fuel : Nat) (input : Val) (w : State) (h : input = .mrcRef ∨ ∃ x, input = .rc x) :
    StreamIR.closeInput env fuel input w = (closeInputE env fuel input w).map (·.2) := by
  rcases h with rfl | ⟨x, rfl⟩
  · simp only [StreamIR.closeInput, closeInputE]
    cases hc : runUnit env fuel "multiReadCloser.Close" [.mrcRef] w with
    | error e => rfl
    | ok r =>
      obtain ⟨vs, w'⟩ := r
      obtain ⟨e, rfl⟩ := close_shape _ _ _ _ _ hc
      rfl
  · rfl

def body3 : List Stmt := runEBody.drop 3
def body4 : List Stmt := runEBody.drop 4
def body5 : List Stmt := runEBody.drop 5

theorem restBody_eq : restBody =
    .callFn "makeOutput" (.def_ "output") (.set "err") (.deref "outputPath") :: body3 := rfl
theorem body3_eq : body3 =
    .ite (.ne (.var "err") .nil) [.close .blank (.var "input"), .ret [.var "err"]] [] :: body4 := rfl
theorem body4_eq : body4 =
    .callRun "main.RunE.func1" (.set "err") (.ctxOf "cmd") (.var "output") (.var "input") :: body5 := rfl
theorem body5_eq : body5 =
    [.scope [.close (.def_ "err2") (.var "output"), .ite (.eq (.var "err") .nil) [.assign (.set "err") (.var "err2")] []],
     .close .blank (.var "input"), .ret [.var "err"]] := rfl

theorem closeVal_stdout (sys : Sys) (st : MState) : closeVal sys st (.io (.wc (some .stdoutNop))) = .ok (.nil, st) := rfl
theorem closeVal_file (sys : Sys) (st : MState) (p : String) :
    closeVal sys st (.io (.wc (some (.file p)))) =
      .ok (if sys.outCloseFails p then .other else .nil, { st with outClosed := st.outClosed ++ [p] }) := rfl

theorem closeVal_wc (sys : Sys) (st : MState) (d : WC) :
    closeVal sys st (.io (.wc (some d))) = .ok (closeErrOf sys d, { st with outClosed := st.outClosed ++ closedOf d }) := by
  cases d
  · simp only [closeVal_stdout, closeErrOf, closedOf, List.append_nil]
  · rfl

theorem run_tail (sys : Sys) (outArg : String) (st : MState) (input : Val) (w2 : State) (d : WC)
    (h : input = .mrcRef ∨ ∃ x, input = .rc x) (hd : destOf outArg = d) :
    execBlock sys (callAt sys 1) ["err"] body4
        { st with io := w2, flags := [("output", outArg)],
                  vars := ("output", .io (.wc (some d))) :: ("input", .io input) :: frame0 sys.args } >>= finish1 st.vars =
      (do let (bytes, ending, w3) ← StreamIR.drainM (StreamIR.readInput sys.env sys.fuel input) sys.k w2
          let o ← StreamIR.liftRun (CliIR.interpRun (CliIR.modelLib sys.compile) (bufioLines bytes).1
            ((bufioLines bytes).2 || ending != Ending.eof))
          let w4 ← StreamIR.closeInput sys.env sys.fuel input w3
          pure (some o.result, w4)).map (afterRunE sys outArg st) := by
  simp only [body4_eq, frame0]
  main_simp
  generalize StreamIR.drainM (StreamIR.readInput sys.env sys.fuel input) sys.k w2 = r
  rcases r with e | ⟨bytes, ending, w3⟩
  · main_simp
  obtain ⟨o, i1, -⟩ := StreamIR.liftRun_interp sys.compile (bufioLines bytes).1 ((bufioLines bytes).2 || ending != Ending.eof)
  have hlog := logError_repeat sys 0 .other
  simp only [Nat.zero_add] at hlog
  main_simp
  simp only [body5_eq]
  have hci := closeInput_closeInputE sys.env sys.fuel input w3 h
  cases hoe : o.err <;>
  · simp (config := { decide := true }) [closeVal_wc, closeVal_input _ _ _ h, hci, hoe, execBlock, exec, eval, evalCond,
      evalAll, getAll, assignTo, MState.get, MState.declare, MState.assign, MState.leave, assignIn, nilLikeM, nilLike, nilAsM, nilAs, valEq,
      adopt, stuck, goPanic, bind, Except.bind, pure, Except.pure, Except.map]
    generalize closeInputE sys.env sys.fuel input w3 = rc
    rcases rc with e | ⟨ce, w4⟩
    · rfl
    · simp (config := { decide := true }) [finish1, afterRunE, hd, CliIR.Outcome.result, hoe, nilAsM, nilAs]

theorem rest_eq (sys : Sys) (outArg : String) (st : MState) (input : Val) (w1 : State)
    (h : input = .mrcRef ∨ ∃ x, input = .rc x) :
    execBlock sys (callAt sys 1) ["err"] restBody
        { st with io := w1, flags := [("output", outArg)], vars := ("input", .io input) :: frame0 sys.args } >>= finish1 st.vars =
      (StreamIR.runRest sys.compile sys.env sys.fuel sys.k outArg input w1).map (afterRunE sys outArg st) := by
  obtain ⟨vars, hmo⟩ := StreamIR.makeOutput_spec sys.env sys.fuel outArg w1
  simp only [restBody_eq, StreamIR.runRest, frame0]
  cases hof : StreamIR.outputFails sys.env outArg with
  | true =>
    rw [hof, if_pos rfl] at hmo
    have hci := closeInput_closeInputE sys.env sys.fuel input { w1 with vars := vars, created := w1.created ++ StreamIR.createdBy sys.env outArg } h
    main_simp
    simp only [body3_eq]
    main_simp
    simp only [closeVal_input _ _ _ h]
    generalize closeInputE sys.env sys.fuel input _ = rc
    rcases rc with e | ⟨ce, w4⟩
    · rfl
    · simp (config := { decide := true }) [finish1, afterRunE, nilAsM, nilAs, Except.map]
  | false =>
    -- the output exists: standard output, or the file was created
    rw [hof, if_neg (by simp)] at hmo
    have ht := run_tail sys outArg st input { w1 with vars := vars, created := w1.created ++ StreamIR.createdBy sys.env outArg }
      (destOf outArg) h rfl
    simp only [frame0] at ht
    change _ = Except.ok ([Val.wc (some (destOf outArg)), Val.err GoErr.nil], _) at hmo
    main_simp
    simp only [body3_eq]
    main_simp
    simpa [bind, Except.bind, Except.map, pure, Except.pure] using ht

theorem runEBody_eq : runEBody =
    .callFn "makeInput" (.def_ "input") (.set "err") (.var "args") ::
    .ite (.ne (.var "err") .nil) [.ret [.var "err"]] [] :: restBody := rfl

theorem interpRunE_eq (sys : Sys) (outArg : String) (stdin : Reader) (st : MState) (hio : st.io = world0 stdin) :
    interpRunE sys outArg st =
      (StreamIR.runE sys.compile sys.env sys.fuel sys.k sys.args outArg stdin).map (afterRunE sys outArg st) := by
  obtain ⟨vars, hrun⟩ := StreamIR.makeInput_phase sys.env sys.fuel sys.args stdin
  obtain ⟨-, -, -, hshape⟩ := CliIOIR.miSpec_spec sys.env sys.args stdin _ rfl
  rw [interpRunE_unfold]
  simp only [runEBody_eq, StreamIR.runE, frame0]
  rcases hshape with ⟨l, hv, -⟩ | ⟨rc, hv, -⟩ | ⟨hv, -⟩
  · rw [hv] at hrun
    have hr := rest_eq sys outArg st .mrcRef { (CliIOIR.miSpec sys.env sys.args (world0 stdin)).2 with vars := vars, readers := l }
      (Or.inl rfl)
    simp only [frame0] at hr
    main_simp
    simpa [StreamIR.bindInput, bind, Except.bind, Except.map, pure, Except.pure] using hr
  · rw [hv] at hrun
    have hr := rest_eq sys outArg st (.rc (some rc)) { (CliIOIR.miSpec sys.env sys.args (world0 stdin)).2 with vars := vars }
      (Or.inr ⟨_, rfl⟩)
    simp only [frame0] at hr
    main_simp
    simpa [StreamIR.bindInput, bind, Except.bind, Except.map, pure, Except.pure] using hr
  · rw [hv] at hrun
    main_simp
    simp [finish1, afterRunE, nilAsM, nilAs]

theorem applyFlags_single : ∀ (sf : List (String × String)) (d : String),
    applyFlags sf [("output", d)] = none ∨ ∃ v, applyFlags sf [("output", d)] = some [("output", v)]
  | [], d => Or.inr ⟨d, rfl⟩
  | (n, v) :: more, d => by
    by_cases hn : n = "output"
    · subst hn
      simpa [applyFlags] using applyFlags_single more v
    · have : ("output" == n) = false := by simpa using fun h => hn h.symm
      exact Or.inl (by simp [applyFlags, this])

/-- cobra's reading of the flags given on the command line: the value of `--output` / `-o` (the last one wins; "" if it is not
    given), `none` if a flag is given that `main` did not define -/
def outArgOf (setFlags : List (String × String)) : Option String :=
  match applyFlags setFlags [("output", "")] with
  | some [(_, v)] => some v
  | _ => none

theorem applyFlags_of_outArg (sf : List (String × String)) (outArg : String) (h : outArgOf sf = some outArg) :
    applyFlags sf [("output", "")] = some [("output", outArg)] := by
  unfold outArgOf at h
  rcases applyFlags_single sf "" with h0 | ⟨v, hv⟩
  · simp [h0] at h
  · rw [hv] at h ⊢
    simp only [Option.some.injEq] at h
    rw [h]

theorem applyFlags_of_none (sf : List (String × String)) (h : outArgOf sf = none) : applyFlags sf [("output", "")] = none := by
  unfold outArgOf at h
  rcases applyFlags_single sf "" with h0 | ⟨v, hv⟩
  · exact h0
  · simp [hv] at h

def mainBase (stdin : Reader) : MState := { initial stdin with runE := some ("main.RunE", capturedByRunE) }

/-- the tail of `main` (lines 57-60): an error is reported on one more `pql:` line and the status is 1 -/
def mainEnd : Option (List MVal) × MState → MState
  | (some [.io (.err .nil)], st) => st
  | (_, st) => { st with stderr := st.stderr + 1, exit := some 1 }

theorem interpMain_eq (sys : Sys) (stdin : Reader) (outArg : String) (hf : outArgOf sys.setFlags = some outArg) :
    interpMain sys stdin =
      (StreamIR.runE sys.compile sys.env sys.fuel sys.k sys.args outArg stdin).map fun r =>
        mainEnd (afterRunE sys outArg (mainBase stdin) r) := by
  have hfl := applyFlags_of_outArg _ _ hf
  have key := interpRunE_eq sys outArg stdin
    { vars := [("cancel", .cancel), ("ctx", .ctx), ("outputPath", .flagPtr "output"), ("rootCommand", .cmd)], io := world0 stdin,
      flags := [("output", "")], runE := some ("main.RunE", capturedByRunE) } rfl
  simp only [interpRunE, capturedByRunE] at key
  simp only [interpMain, main_ir, mainFn, mainBody, runClosure, bindParamsM, resultVarsM, initial]
  main_simp
  generalize StreamIR.runE sys.compile sys.env sys.fuel sys.k sys.args outArg stdin = R
  rcases R with e | ⟨res, w⟩
  · rfl
  rcases res with _ | r
  · simp (config := { decide := true }) [afterRunE, mainEnd, mainBase, initial, capturedByRunE]
  · simp only [afterRunE, Except.map]
    generalize (if r.exitNonZero then GoErr.other else closeErrOf sys (destOf outArg)) = e
    cases e <;> simp (config := { decide := true }) [mainEnd, mainBase, initial, capturedByRunE]

/-- a flag that `main` did not define: cobra returns an error without calling `RunE`; one `pql:` line, status 1, nothing is
    opened, read or created -/
theorem interpMain_unknown_flag (sys : Sys) (stdin : Reader) (h : outArgOf sys.setFlags = none) :
    interpMain sys stdin = .ok { mainBase stdin with flags := [("output", "")], stderr := 1, exit := some 1 } := by
  have hfl := applyFlags_of_none _ h
  simp only [interpMain, main_ir, mainFn, mainBody, runClosure, bindParamsM, resultVarsM, initial]
  main_simp
  simp [mainBase, initial, capturedByRunE]

/-- did `RunE` return an error: it returned before `run`, or `run` returned an error, or `output.Close()` did -/
def failed (sys : Sys) (outArg : String) : Option CliResult → Bool
  | none => true
  | some r => r.exitNonZero || closeErrOf sys (destOf outArg) != .nil

theorem mainEnd_fields (sys : Sys) (outArg : String) (st : MState) (res : Option CliResult) (w : State) :
    (mainEnd (afterRunE sys outArg st (res, w))).io = w ∧
    (mainEnd (afterRunE sys outArg st (res, w))).out = st.out ++ (res.map (·.out)).getD [] ∧
    (mainEnd (afterRunE sys outArg st (res, w))).outDest = (match res with | none => st.outDest | some _ => some (destOf outArg)) ∧
    (mainEnd (afterRunE sys outArg st (res, w))).outClosed =
      st.outClosed ++ (match res with | none => [] | some _ => closedOf (destOf outArg)) ∧
    (mainEnd (afterRunE sys outArg st (res, w))).stderr =
      st.stderr + (res.map (·.nErrors)).getD 0 + (if failed sys outArg res then 1 else 0) ∧
    (mainEnd (afterRunE sys outArg st (res, w))).exit = (if failed sys outArg res then some 1 else st.exit) := by
  rcases res with _ | r
  · simp [afterRunE, mainEnd, failed]
  · cases hx : r.exitNonZero <;> cases hd : closeErrOf sys (destOf outArg) <;>
      simp (config := { decide := true }) [afterRunE, mainEnd, failed, hx, hd]

end Pql.MainIR
