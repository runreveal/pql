/-
LexRender: combinators for building adjacency proofs of writer outputs.

`Good cs`: the chunk list is adjacent before every text that starts like a separator (white
space, `)`, `]`, `[`, `,`, `;`) or is empty — the invariant of every expression and every subquery
the writers emit.  Fixed texts are classified by decidable checks (`txtInert`: ends in an atom
nothing can change; `txtSepOK`: may be followed by a separator; `sepTxt`: starts like a separator).
-/
import PqlModel.Lemmas.LexRenderChunks
namespace Pql.LexRender
open Pql Sql

def sepBytes : List UInt8 := [32, 10, 41, 93, 91, 44, 59]

def sepHead : Option UInt8 → Bool
  | none => true
  | some d => sepBytes.contains d

def Good (cs : List Chunk) : Prop := ∀ rest : Bytes, sepHead rest.head? = true → AdjC rest cs = true

def txtAtoms (s : String) : List Atom := atomize (Bytes.ofString s)

def txtOK (s : String) : Bool := chunkOK (.txt s) && AdjBefore [] (txtAtoms s)

/-- an atom after which any byte may follow: not a word, number or quoted token (which a following byte could extend),
    and of the one-character symbols not `-` and `/` (`--`, `/*` open a comment) nor the first half of a two-character one -/
def Atom.inert : Atom → Bool
  | .sp _ => true
  | .sym2 _ _ => true
  | .cmt _ => true
  | .sym1 c => !(c == 45) && !(c == 47) && !(twoCharSyms.any (fun o => o.1 == c))
  | _ => false

def lastInert (as : List Atom) : Bool :=
  match as.getLast? with
  | some a => a.inert
  | none => true

def txtInert (s : String) : Bool := txtOK s && lastInert (txtAtoms s)

def txtSepOK (s : String) : Bool :=
  txtOK s && sepBytes.all (fun d => lastFollows (txtAtoms s) (some d))

def sepTxt (s : String) : Bool :=
  match (Bytes.ofString s).head? with
  | some d => sepBytes.contains d
  | none => false

theorem inert_bad {a : Atom} (h : a.inert = true) (d : UInt8) : a.bad d = false := by
  cases a with
  | sym1 c =>
    simp only [Atom.inert, Bool.and_eq_true, Bool.not_eq_true'] at h
    obtain ⟨⟨h1, h2⟩, h3⟩ := h
    have h4 : twoCharSyms.find? (fun o => o.1 == c && o.2.1 == d) = none := by
      rw [List.find?_eq_none]
      intro o ho hc
      simp only [Bool.and_eq_true] at hc
      have : twoCharSyms.any (fun o => o.1 == c) = true := List.any_eq_true.mpr ⟨o, ho, hc.1⟩
      rw [h3] at this; cases this
    simp [Atom.bad, sym1Bad, h1, h2, h4]
  | sp c => rfl
  | sym2 c d => rfl
  | cmt b => rfl
  | _ => simp [Atom.inert] at h

theorem lastInert_follows {as : List Atom} (h : lastInert as = true) (o : Option UInt8) :
    lastFollows as o = true := by
  unfold lastInert at h
  unfold lastFollows
  cases hl : as.getLast? with
  | none => rfl
  | some a =>
    rw [hl] at h
    cases o with
    | none => rfl
    | some d => simp [follows, inert_bad h d]

theorem sep_lastFollows {as : List Atom} {o : Option UInt8}
    (h : sepBytes.all (fun d => lastFollows as (some d)) = true) (ho : sepHead o = true) :
    lastFollows as o = true := by
  cases o with
  | none => unfold lastFollows; cases as.getLast? <;> rfl
  | some d =>
    have hd : d ∈ sepBytes := by simpa [sepHead] using ho
    exact List.all_eq_true.mp h d hd

theorem AdjC_single_txt {s : String} {rest : Bytes} (hok : txtOK s = true)
    (hl : lastFollows (txtAtoms s) rest.head? = true) : AdjC rest [.txt s] = true := by
  simp only [txtOK, Bool.and_eq_true] at hok
  have := AdjBefore_of_nil hok.2 hl
  simp only [AdjC, List.all_cons, List.all_nil, hok.1, Bool.and_true, Bool.true_and, atomsOf,
    List.flatMap_cons, List.flatMap_nil, List.append_nil, chunkAtoms]
  exact this

theorem adj_txt_inert {s : String} {rest : Bytes} {cs : List Chunk} (hs : txtInert s = true)
    (h : AdjC rest cs = true) : AdjC rest (.txt s :: cs) = true := by
  simp only [txtInert, Bool.and_eq_true] at hs
  exact AdjC_cons (AdjC_single_txt hs.1 (lastInert_follows hs.2 _)) h

theorem adj_txt_sep {s : String} {rest : Bytes} (hs : txtSepOK s = true) (hr : sepHead rest.head? = true) :
    AdjC rest [.txt s] = true := by
  simp only [txtSepOK, Bool.and_eq_true] at hs
  exact AdjC_single_txt hs.1 (sep_lastFollows hs.2 hr)

theorem head_txt_cons {s : String} (cs : List Chunk) (rest : Bytes) (hs : sepTxt s = true) :
    sepHead (renderChunks (.txt s :: cs) ++ rest).head? = true := by
  unfold sepTxt at hs
  rw [renderChunks_cons, Chunk.bytes]
  cases hb : Bytes.ofString s with
  | nil => rw [hb] at hs; simp at hs
  | cons d r => rw [hb] at hs; simpa [sepHead] using hs

/-! ### the algebra of `Good`

`Good a` says what `a` needs of the text after it, `SepLed b` that `b` provides it: `good_append`.  A
fixed text in front needs nothing of a good list if it ends inertly (`good_cons_inert`), and a list
that starts like a separator if it only tolerates separators (`good_cons_sep`). -/

/-- followed by a text that starts like a separator (or by nothing), the text of `cs` starts like a
    separator; so for the empty list and for one that begins with a fixed text that does -/
def SepLed (cs : List Chunk) : Prop :=
  ∀ rest : Bytes, sepHead rest.head? = true → sepHead (renderChunks cs ++ rest).head? = true

theorem sepLed_nil : SepLed [] := fun _ hr => hr

theorem sepLed_txt {s : String} (tail : List Chunk) (h : sepTxt s = true) : SepLed (.txt s :: tail) :=
  fun rest _ => head_txt_cons tail rest h

theorem sepLed_append {a b : List Chunk} (ha : SepLed a) (hb : SepLed b) : SepLed (a ++ b) := fun rest hr => by
  rw [renderChunks_append, List.append_assoc]
  exact ha _ (hb rest hr)

theorem good_nil : Good [] := fun rest _ => AdjC_nil rest

theorem good_append {a b : List Chunk} (ha : Good a) (hl : SepLed b) (hb : Good b) : Good (a ++ b) :=
  fun rest hr => AdjC_append (ha _ (hl rest hr)) (hb rest hr)

theorem good_cons_inert {s : String} {cs : List Chunk} (hs : txtInert s = true) (h : Good cs) :
    Good (.txt s :: cs) := fun rest hr => adj_txt_inert hs (h rest hr)

theorem good_cons_sep {s : String} {cs : List Chunk} (hs : txtSepOK s = true) (hl : SepLed cs) (h : Good cs) :
    Good (.txt s :: cs) := fun rest hr => AdjC_cons (adj_txt_sep hs (hl rest hr)) (h rest hr)

theorem good_txt_sep {s : String} (hs : txtSepOK s = true) : Good [.txt s] :=
  good_cons_sep hs sepLed_nil good_nil

theorem good_app {xs tail : List Chunk} {s : String} (hx : Good xs) (hs : sepTxt s = true)
    (h : Good (.txt s :: tail)) : Good (xs ++ .txt s :: tail) :=
  good_append hx (sepLed_txt tail hs) h

theorem good_app_txt {xs : List Chunk} {s : String} {tail : List Chunk} {rest : Bytes}
    (hx : Good xs) (hs : sepTxt s = true) (h : AdjC rest (.txt s :: tail) = true) :
    AdjC rest (xs ++ .txt s :: tail) = true :=
  AdjC_append (hx _ (head_txt_cons tail rest hs)) h

theorem good_flatMap {α : Type} {f : α → List Chunk} {tail : List Chunk} (hl : SepLed tail) (ht : Good tail) :
    ∀ l : List α, (∀ a ∈ l, Good (f a) ∧ SepLed (f a)) →
      Good (l.flatMap f ++ tail) ∧ SepLed (l.flatMap f ++ tail)
  | [], _ => ⟨ht, hl⟩
  | a :: l, h => by
    have ih := good_flatMap hl ht l fun x hx => h x (List.mem_cons_of_mem _ hx)
    have ha := h a List.mem_cons_self
    rw [List.flatMap_cons, List.append_assoc]
    exact ⟨good_append ha.1 ih.2 ih.1, sepLed_append ha.2 ih.2⟩

theorem good_sepChunks {sep : String} (h1 : sepTxt sep = true) (h2 : txtInert sep = true) :
    ∀ (vs : List (List Chunk)), (∀ v ∈ vs, Good v) → Good (sepChunks sep vs)
  | [], _ => good_nil
  | [x], h => by simpa [sepChunks] using h x (by simp)
  | x :: y :: xs, h => by
    rw [sepChunks]
    case x_2 => intro e; cases e
    exact good_app (h x (by simp)) h1
      (good_cons_inert h2 (good_sepChunks h1 h2 (y :: xs) fun v hv => h v (by simp [hv])))

theorem good_commaSep (vs : List (List Chunk)) (h : ∀ v ∈ vs, Good v) : Good (sepChunks ", " vs) :=
  good_sepChunks (by decide) (by decide) vs h

theorem sepHead_elim {o : Option UInt8} (h : sepHead o = true) :
    ∀ d, o = some d → d ∈ sepBytes := by
  intro d hd; subst hd; simpa [sepHead] using h

theorem AdjC_single_atom {rest : Bytes} {c : Chunk} {a : Atom} (hc : chunkAtoms c = [a]) (hok : chunkOK c = true)
    (hwf : a.wf = true) (hf : follows a rest.head? = true) : AdjC rest [c] = true := by
  simp [AdjC, hok, atomsOf, hc, AdjBefore, hwf, hf, renderAtoms]

theorem sep_not_bad {o : Option UInt8} {a : Atom} (ho : sepHead o = true)
    (h : sepBytes.all (fun d => !a.bad d) = true) : follows a o = true := by
  cases o with
  | none => rfl
  | some d =>
    have := List.all_eq_true.mp h d (sepHead_elim ho d rfl)
    simpa [follows] using this

theorem good_num {v : Bytes} (hv : numOK v = true) : Good [.num v] := fun rest hr =>
  AdjC_single_atom (a := .num v) rfl rfl hv (sep_not_bad hr (by simp only [Atom.bad]; decide))

theorem good_qstr (v : Bytes) : Good [.qstr v] := fun rest hr =>
  AdjC_single_atom (a := .str v) rfl rfl rfl (sep_not_bad hr (by simp only [Atom.bad]; decide))

theorem adj_qid (n : Bytes) {rest : Bytes} (hr : rest.head? ≠ some 34) : AdjC rest [.qid n] = true := by
  refine AdjC_single_atom (a := .qid n) rfl rfl rfl ?_
  cases h : rest.head? with
  | none => rfl
  | some d =>
    have : d ≠ 34 := by intro e; apply hr; rw [h, e]
    simp [follows, Atom.bad, this]

theorem good_qid (n : Bytes) : Good [.qid n] := fun rest hr =>
  AdjC_single_atom (a := .qid n) rfl rfl rfl (sep_not_bad hr (by simp only [Atom.bad]; decide))

theorem adj_fname {v : Bytes} {rest : Bytes} (hv : nameOK v = true)
    (hr : ∀ d, rest.head? = some d → isWordCont d = false) : AdjC rest [.fname v] = true := by
  refine AdjC_single_atom (a := .word v) rfl rfl (nameOK_wordOK hv) ?_
  cases h : rest.head? with
  | none => rfl
  | some d => simp [follows, Atom.bad, hr d h]

end Pql.LexRender
