/-
`ExprParseIR`, how a unit is run, and the cursor.  First what every file of the family evaluates a body with: the
continuation forms of the interpreter of Model/ExprParseIR.lean (`andThen`, `leaveK`, `branch`, `iterK`), the facts
about the regenerated tables (`params_*`, `results_*`, `mkNode_*`), the simp set `eparseIR` and the tactic `ir_simp`
over it.  Then the units `next`, `prev` (concrete reading: token slice and integer position).

Lemmas/OpIRRun.lean does the same for the interpreter of Model/ParseIR.lean under other names: `andThen` is its
`thenK`, `branch` its `iteK`, `iterK` its `loopK`; its `leaveK` takes the run first, ours is the continuation.
The tactic is called `ir_simp` there too (Props/C07OperatorIR.lean, over `opIR`), and again in Props/C10SpanIR.lean
and Props/C05WriteIR.lean, each over its own interpreter; a module that imports two of them gets, at each call, the
first that succeeds.
-/
import PqlModel.Lemmas.ExprParseIRUnits
import PqlModel.Lemmas.LexBasic
namespace Pql.ExprParseIR
open Pql
set_option linter.unusedSimpArgs false

@[simp] theorem bind_ok {α β : Type} (a : α) (f : α → Out β) : (Out.ok a).bind f = f a := rfl
@[simp] theorem bind_panic {α β : Type} (f : α → Out β) : (Out.panic : Out α).bind f = .panic := rfl
@[simp] theorem bind_stuck {α β : Type} (f : α → Out β) : (Out.stuck : Out α).bind f = .stuck := rfl
@[simp] theorem bind_fuel {α β : Type} (f : α → Out β) : (Out.fuel : Out α).bind f = .fuel := rfl
@[simp] theorem ofOption_some {α : Type} (a : α) : Out.ofOption (some a) = .ok a := rfl
@[simp] theorem ofOption_none {α : Type} : Out.ofOption (none : Option α) = .stuck := rfl

theorem bind_ite {α β : Type} (p : Prop) [Decidable p] (a b : Out α) (f : α → Out β) :
    (if p then a else b).bind f = if p then a.bind f else b.bind f := by split <;> rfl

theorem params_next : paramsOf "next" = some ["p"] := by decide +kernel
theorem params_prev : paramsOf "prev" = some ["p"] := by decide +kernel
theorem params_endSplit : paramsOf "endSplit" = some ["p"] := by decide +kernel
theorem params_split : paramsOf "split" = some ["p", "search"] := by decide +kernel
theorem params_ident : paramsOf "ident" = some ["p"] := by decide +kernel
theorem params_qualifiedIdent : paramsOf "qualifiedIdent" = some ["p"] := by decide +kernel
theorem params_inner : paramsOf "innerPrimaryExpr" = some ["p"] := by decide +kernel
theorem params_primary : paramsOf "primaryExpr" = some ["p"] := by decide +kernel
theorem params_unary : paramsOf "unaryExpr" = some ["p"] := by decide +kernel
theorem params_trail : paramsOf "exprBinaryTrail" = some ["p", "x", "minPrecedence"] := by decide +kernel
theorem params_expr : paramsOf "expr" = some ["p"] := by decide +kernel
theorem params_exprList : paramsOf "exprList" = some ["p"] := by decide +kernel

theorem results_next : resultsOf "next" = some ["Token", "bool"] := by decide +kernel
theorem results_prev : resultsOf "prev" = some [] := by decide +kernel
theorem results_endSplit : resultsOf "endSplit" = some ["error"] := by decide +kernel
theorem results_split : resultsOf "split" = some ["*parser"] := by decide +kernel
theorem results_ident : resultsOf "ident" = some ["*Ident", "error"] := by decide +kernel
theorem results_qualifiedIdent : resultsOf "qualifiedIdent" = some ["*QualifiedIdent", "error"] := by decide +kernel
theorem results_inner : resultsOf "innerPrimaryExpr" = some ["Expr", "error"] := by decide +kernel
theorem results_primary : resultsOf "primaryExpr" = some ["Expr", "error"] := by decide +kernel
theorem results_unary : resultsOf "unaryExpr" = some ["Expr", "error"] := by decide +kernel
theorem results_trail : resultsOf "exprBinaryTrail" = some ["Expr", "error"] := by decide +kernel
theorem results_expr : resultsOf "expr" = some ["Expr", "error"] := by decide +kernel
theorem results_exprList : resultsOf "exprList" = some ["[]Expr", "error"] := by decide +kernel

/-- `==` on kinds as a decision, so that `simp` can use hypotheses about kinds -/
theorem kind_beq (a b : TokKind) : (a == b) = decide (a = b) := by
  cases h : decide (a = b) <;> simp_all

theorem kindValue_ne_zero (k : TokKind) : (kindValue k).map (· == 0) = some false := by
  have h : ∀ k ∈ TokKind.all, (kindValue k).map (· == 0) = some false := by decide +kernel
  exact h k (by cases k <;> decide)

theorem isTrue_true : isTrue (.bool true) = true := rfl

theorem coerceLike_val (old new : Val) (h : new ≠ .nil) : coerceLike old new = new := by
  cases new <;> first | rfl | exact absurd rfl h

theorem exec_loop (c : ICtx) (sem : Sem) (label : String) (cond : E) (body : List Stmt) (b : Nat) (st : State) :
    exec c sem (.loop label cond body) b st =
      if isTrue cond && leaves body then
        (execBlock c sem body b st).bind fun f => match f with | .ret vs st' => .ok (.ret vs st') | _ => .stuck
      else iter (loopStep c sem cond body) label b st := by
  rw [exec]; rfl

theorem execBlock_nil (c : ICtx) (sem : Sem) (b : Nat) (st : State) : execBlock c sem [] b st = .ok (.next st) := by
  rw [execBlock]

theorem execBlock_last (c : ICtx) (sem : Sem) (s : Stmt) (b : Nat) (st : State) :
    execBlock c sem [s] b st = exec c sem s b st := by
  rw [execBlock]
  cases exec c sem s b st with
  | ok f => cases f <;> simp [Out.bind, execBlock]
  | _ => rfl

/-- what a block does after a statement that ended with the flow `f`.  A name of its own rather than a
    `fun f => match f with …`: `simp` simplifies a `fun` before it is applied, and would run the rest of
    the block on an unknown state at every statement -/
def andThen (k : State → Out Flow) : Flow → Out Flow
  | .next st => k st
  | f => .ok f

/- Proved by rewriting, not by `rfl`: `simp` would use a `rfl` lemma without recording the step, and the
   kernel, left to find out that `andThen (execBlock … r b) (.next st)` is `execBlock … r b st`, unfolds
   `execBlock` first and runs the whole of `r`. -/
theorem andThen_next (k : State → Out Flow) (st : State) : andThen k (.next st) = k st := by rw [andThen]
theorem andThen_brk (k : State → Out Flow) (l : String) (st : State) : andThen k (.brk l st) = .ok (.brk l st) := by
  rw [andThen]; exact nofun
theorem andThen_cont (k : State → Out Flow) (st : State) : andThen k (.cont st) = .ok (.cont st) := by
  rw [andThen]; exact nofun
theorem andThen_ret (k : State → Out Flow) (vs : List Val) (st : State) : andThen k (.ret vs st) = .ok (.ret vs st) := by
  rw [andThen]; exact nofun

theorem execBlock_cons (c : ICtx) (sem : Sem) (s : Stmt) (r : List Stmt) (b : Nat) (st : State) :
    execBlock c sem (s :: r) b st = (exec c sem s b st).bind (andThen (execBlock c sem r b)) := by
  rw [execBlock]
  congr 1

theorem execBlock_cons2 (c : ICtx) (sem : Sem) (s s' : Stmt) (r : List Stmt) (b : Nat) (st : State) :
    execBlock c sem (s :: s' :: r) b st = (exec c sem s b st).bind (andThen (execBlock c sem (s' :: r) b)) :=
  execBlock_cons ..

/-- leaving the scope of a block (named for the same reason as `andThen`) -/
def leaveK (outer : State) (f : Flow) : Out Flow := .ok (f.leave outer)

theorem leaveK_eq (outer : State) (f : Flow) : leaveK outer f = .ok (f.leave outer) := by rw [leaveK]

/-- an `if` once its condition has the value `x`: the branch, run in its own scope (unfolded only when
    `x` is there, and then the branch not taken is dropped unread) -/
def branch (c : ICtx) (sem : Sem) (t e : List Stmt) (b : Nat) (st : State) (x : Bool) : Out Flow :=
  if x then (execBlock c sem t b st).bind (leaveK st) else (execBlock c sem e b st).bind (leaveK st)

theorem branch_eq (c : ICtx) (sem : Sem) (t e : List Stmt) (b : Nat) (st : State) (x : Bool) :
    branch c sem t e b st x =
      if x = true then (execBlock c sem t b st).bind (leaveK st) else (execBlock c sem e b st).bind (leaveK st) := by
  rw [branch]

theorem exec_ite (c : ICtx) (sem : Sem) (cond : E) (t e : List Stmt) (b : Nat) (st : State) :
    exec c sem (.ite cond t e) b st = (evalBool c st cond).bind (branch c sem t e b st) := by
  rw [exec]
  rfl

theorem exec_block (c : ICtx) (sem : Sem) (body : List Stmt) (b : Nat) (st : State) :
    exec c sem (.block body) b st = (execBlock c sem body b st).bind (leaveK st) := by
  rw [exec]
  rfl

/-- `next()` on any token list, so that running it needs no case distinction -/
theorem nextTokV_eq (c : ICtx) (l : List Token) :
    nextTokV c l = (l.head?.getD ⟨.error, c.srcLen, c.srcLen, c.eofValue⟩, !l.isEmpty, l.tail) := by
  cases l <;> rfl

/-- `a || b` and `a && b` as tests on the value of `a` (the interpreter matches on it, which is stuck on a
    symbolic value) -/
theorem eval_or (c : ICtx) (σ : State) (a b : E) :
    eval c σ (.or a b) = (evalBool c σ a).bind fun x =>
      if x then .ok (.bool true) else (evalBool c σ b).bind fun y => .ok (.bool y) := by
  rw [eval]; unfold evalBool
  cases eval c σ a with
  | ok v =>
    cases v <;> try rfl
    rename_i d
    cases d <;> simp [Out.bind] <;> (cases eval c σ b with | ok w => cases w <;> rfl | _ => rfl)
  | _ => rfl

theorem eval_and (c : ICtx) (σ : State) (a b : E) :
    eval c σ (.and a b) = (evalBool c σ a).bind fun x =>
      if x then (evalBool c σ b).bind fun y => .ok (.bool y) else .ok (.bool false) := by
  rw [eval]; unfold evalBool
  cases eval c σ a with
  | ok v =>
    cases v <;> try rfl
    rename_i d
    cases d <;> simp [Out.bind] <;> (cases eval c σ b with | ok w => cases w <;> rfl | _ => rfl)
  | _ => rfl

/-- what a loop does after an iteration that ended with the flow `f`; `next` is the rest of the loop, which
    stays folded while the body runs -/
def iterK (next : State → Out Flow) (label : String) : Flow → Out Flow
  | .next st' => next st'
  | .cont st' => next st'
  | .brk l st' => if l == "" || l == label then .ok (.next st') else .ok (.brk l st')
  | .ret vs st' => .ok (.ret vs st')

/-- one iteration, then `iterK` of the rest.  A loop lemma goes by induction on the budget: after `rw [iter_succ]` the rest
    `iter step l b` is generalized to a variable in the induction hypothesis, so that `ir_simp` runs this iteration's
    body only and meets the rest as an unknown function whose values the hypothesis supplies. -/
theorem iter_succ (step : Nat → State → Out Flow) (l : String) (b : Nat) (σ : State) :
    iter step l (b + 1) σ = (step b σ).bind (iterK (iter step l b) l) := by
  rw [iter]
  cases step b σ with
  | ok f => cases f <;> rfl
  | _ => rfl

theorem pctx_srcLen (c : ICtx) : c.pctx.srcLen = c.srcLen := rfl

theorem get_cons (x y : String) (v : Val) (r : List (String × Val)) :
    State.get ⟨(x, v) :: r⟩ y = if x == y then .ok v else State.get ⟨r⟩ y := by
  simp only [State.get, List.find?_cons]
  cases x == y <;> rfl
theorem get_nil (y : String) : State.get ⟨[]⟩ y = .stuck := rfl

section
variable (x y : Expr) (l : ExprList) (s s' s'' : Span) (k : TokKind) (v : Bytes) (q : Bool) (i : Ident)
  (ts : List Token)

theorem mkNode_binary : mkNode "BinaryExpr" [("X", .expr x), ("OpSpan", .span s), ("Op", .kind k), ("Y", .expr y)] =
    some (.expr (.binary x s k y)) := by rfl
theorem mkNode_in : mkNode "InExpr" [("X", .expr x), ("In", .span s), ("Lparen", .span s'), ("Vals", .exprs l),
    ("Rparen", .span s'')] = some (.expr (.inE x s s' l s'')) := by rfl
theorem mkNode_in_novals : mkNode "InExpr" [("X", .expr x), ("In", .span s), ("Lparen", .span s'), ("Rparen", .span s'')] =
    some (.expr (.inE x s s' .nil s'')) := by rfl
theorem mkNode_unary : mkNode "UnaryExpr" [("OpSpan", .span s), ("Op", .kind k), ("X", .expr x)] =
    some (.expr (.unary s k x)) := by rfl
theorem mkNode_index : mkNode "IndexExpr" [("X", .expr x), ("Lbrack", .span s)] =
    some (.expr (.index x s .nil .zero)) := by rfl
theorem mkNode_paren : mkNode "ParenExpr" [("Lparen", .span s), ("X", .expr x), ("Rparen", .span s')] =
    some (.expr (.paren s x s')) := by rfl
theorem mkNode_lit : mkNode "BasicLit" [("ValueSpan", .span s), ("Kind", .kind k), ("Value", .bytes v)] =
    some (.expr (.lit s k v)) := by rfl
theorem mkNode_call : mkNode "CallExpr" [("Func", .ident (some i)), ("Lparen", .span s), ("Args", .exprs l),
    ("Rparen", .span s')] = some (.expr (.call i s l s')) := by rfl
theorem mkNode_ident : mkNode "Ident" [("Name", .bytes v), ("NameSpan", .span s), ("Quoted", .bool q)] =
    some (.ident (some ⟨v, s, q⟩)) := by rfl
theorem mkNode_ident_plain : mkNode "Ident" [("Name", .bytes v), ("NameSpan", .span s)] =
    some (.ident (some ⟨v, s, false⟩)) := by rfl
theorem mkNode_token : mkNode "Token" [("Kind", .kind k), ("Span", .span s), ("Value", .bytes v)] =
    some (.tok ⟨k, s.start.toNat, s.stop.toNat, v⟩) := by rfl
theorem mkNode_parser : mkNode "parser" [("source", .src), ("tokens", .toks ts), ("splitKind", .kind k)] =
    some (.parser ⟨ts, none, some k⟩) := by rfl
end

/-- a method call by the method's name, so that the argument list is not matched on under a binder -/
theorem evalRhs_next (c : ICtx) (sem : Sem) (b : Nat) (st : State) (recv : String) :
    evalRhs c sem b st (.pcall recv "next" []) =
      (getParser st recv).bind fun p =>
        (st.set recv (.parser { p with rest := (nextTokV c p.rest).2.2, back := some p.rest })).bind fun st' =>
          .ok ([.tok (nextTokV c p.rest).1, .bool (nextTokV c p.rest).2.1], st') := by
  simp [evalRhs, evalList]

theorem evalRhs_prev (c : ICtx) (sem : Sem) (b : Nat) (st : State) (recv : String) :
    evalRhs c sem b st (.pcall recv "prev" []) =
      (getParser st recv).bind fun p =>
        match p.back with
        | some l => (st.set recv (.parser { p with rest := l, back := none })).bind fun st' => .ok ([], st')
        | none => .stuck := by
  simp [evalRhs, evalList]
  congr 1; funext p; cases p.back <;> rfl

/- The run set.  `simp` works on the continuation `fun v => …` of a bind before the value is there.  A primitive that is
   unfolded on the bound variable leaves a `match` that is stuck, and `simp` then tries the last equation of the match
   ("no pattern above fits"), whose hypotheses it cannot discharge, and failing there is slow.  So what a
   run applies to a bound variable (comparison, field access, length, index, slice, append, assignment, conversion to an
   error) enters the set by its equations on constructor forms (`f.eq_1 …`, without the last, `… = stuck` or `none`), and
   nothing fires on a variable; a valid run never needs the case left out. -/

attribute [eparseIR] runBody execBlock_nil execBlock_last execBlock_cons2 exec.eq_1 exec.eq_2 exec.eq_3 exec_ite branch_eq
  leaveK_eq andThen_next andThen_brk andThen_cont andThen_ret exec_block exec_loop exec.eq_7 exec.eq_8 exec.eq_9 exec.eq_10
  exec.eq_11 isTrue_true iterK finish asPState bind_ite
attribute [eparseIR] evalRhs evalBool eval evalList getParser get_cons get_nil State.set State.declare State.leave Flow.leave
  assignIn assignAll.eq_1 assignAll.eq_2 assignOne coerceLike zeroOf coerceResults coerceResult coerceIdent
  coerceQid coerceParser coerceTok coerceBool asExpr asExprs asErr.eq_1 asErr.eq_2 isNilExpr allErrs
attribute [eparseIR ↓] evalRhs_next evalRhs_prev nextTokV_eq eval_or eval_and
attribute [eparseIR] readField.eq_1 readField.eq_2 readField.eq_3 readField.eq_4 readField.eq_5 writeField.eq_1
  writeField.eq_2 writeField.eq_3 writeField.eq_4 setIndexField setParts setPos setCPos splitKindVal evalLen.eq_1 evalLen.eq_2
  evalLen.eq_3 evalLen.eq_4 evalLen.eq_5 evalCmp cmpEq.eq_1 cmpEq.eq_2 cmpEq.eq_3 cmpEq.eq_4 cmpEq.eq_5 cmpEq.eq_6 cmpEq.eq_7
  cmpLt.eq_1 cmpLt.eq_2 kind_beq evalIndex.eq_1 evalIndex.eq_2 evalIndex.eq_3 evalSlice.eq_1 evalSlice.eq_2 evalSlice.eq_3
  evalAppend.eq_1 evalAppend.eq_2 evalAppend.eq_3 evalCall callPrecedence callNullSpan callIndexSpan callOpaque.eq_1 callIsNF
  evalMcall mAsQualified mEndSplit mString
attribute [eparseIR] kind_comma kind_dot kind_error kind_ident kind_in kind_lbracket kind_lparen kind_minus kind_number
  kind_pipe kind_plus kind_qident kind_rbracket kind_rparen kind_string mkNode_binary mkNode_in mkNode_in_novals mkNode_unary
  mkNode_index mkNode_paren mkNode_lit mkNode_call mkNode_ident mkNode_ident_plain mkNode_token mkNode_parser

/-- runs a body once, on symbolic data, into the tree of its paths (DESIGN.md §3).  `BEq.rfl` asks for `ReflBEq String`
    at every comparison of two names.  Definitional steps are recorded as proofs: the kernel checks them faster than
    it finds them. -/
syntax "ir_simp" (" [" Lean.Parser.Tactic.simpLemma,* "]")? : tactic
macro_rules
  | `(tactic| ir_simp) => `(tactic| ir_simp [])
  | `(tactic| ir_simp [$ls,*]) =>
    `(tactic| simp (config := { implicitDefEqProofs := false }) [eparseIR, -BEq.rfl, $ls,*])

def nextPos (toks : List Token) (pos : Nat) : Nat := if pos < toks.length then pos + 1 else toks.length + 1
def prevPos (toks : List Token) (pos : Nat) : Nat := if 0 < pos ∧ pos ≤ toks.length then pos - 1 else pos

/-- **`next`, translated.**  On the Go fields (token slice, integer position): the token at `pos` and
    `true`, or the synthetic EOF token and `false`; the position moves by one, or to `len + 1` for good.
    The token's value is Go's literal "EOF" whatever `c.eofValue` is (the model's EOF token has the empty value): no
    production reads it (`C07_expr_ir_eof_value`, Props/C07ExprIR.lean). -/
theorem next_ir (c : ICtx) (toks : List Token) (pos : Nat) :
    runCursor c "next" toks pos =
      .ok ([.tok (nextTokV ⟨c.srcLen, Bytes.ofString "EOF"⟩ (toks.drop pos)).1,
            .bool (nextTokV ⟨c.srcLen, Bytes.ofString "EOF"⟩ (toks.drop pos)).2.1],
           .cparser toks (nextPos toks pos)) := by
  by_cases h : pos < toks.length
  · have hd : toks.drop pos = toks[pos] :: toks.drop (pos + 1) := List.drop_eq_getElem_cons h
    have h1 : ¬ (toks.length ≤ pos) := by omega
    have h2 : ¬ ((pos : Int) < 0) := by omega
    have h3 : toks[pos]? = some toks[pos] := List.getElem?_eq_getElem h
    have h4 : ¬ ((pos : Int) + 1 < 0) := by omega
    have h5 : ((pos : Int) + 1).toNat = pos + 1 := by omega
    have hn : ∀ c' : ICtx, nextTokV c' (toks.drop pos) = (toks[pos], true, toks.drop (pos + 1)) := by
      intro c'; rw [hd]; rfl
    rw [hn]
    ir_simp [runCursor, nextIR_ir, nextIR, params_next, results_next, nextPos, h, h1, h2, h3, h4, h5]
  · have hd : toks.drop pos = [] := List.drop_eq_nil_of_le (by omega)
    have h1 : toks.length ≤ pos := by omega
    have h4 : ¬ ((toks.length : Int) + 1 < 0) := by omega
    have h5 : ((toks.length : Int) + 1).toNat = toks.length + 1 := by omega
    rw [hd]
    ir_simp [runCursor, nextIR_ir, nextIR, params_next, results_next, nextTokV, nextPos, h, h1, h4, h5, Span.zero]

theorem prev_ir (c : ICtx) (toks : List Token) (pos : Nat) :
    runCursor c "prev" toks pos = .ok ([], .cparser toks (prevPos toks pos)) := by
  ir_simp [runCursor, prevIR_ir, prevIR, params_prev, results_prev, prevPos]
  by_cases h0 : 0 < pos <;> by_cases h1 : pos ≤ toks.length <;> simp [h0, h1]
  have h2 : ¬ ((pos : Int) - 1 < 0) := by omega
  have h3 : ((pos : Int) - 1).toNat = pos - 1 := by omega
  ir_simp [h2, h3]

theorem next_rest (c : ICtx) (toks : List Token) (pos : Nat) :
    toks.drop (nextPos toks pos) = (nextTokV c (toks.drop pos)).2.2 := by
  unfold nextPos
  by_cases h : pos < toks.length
  · rw [List.drop_eq_getElem_cons h]
    simp only [h, if_true, nextTokV]
  · have hd : toks.drop pos = [] := List.drop_eq_nil_of_le (by omega)
    simp [h, hd, nextTokV]

/-- **one-token push-back**: `prev` directly after `next` gives back what was to be read before — also at
    the end of the input, where both leave nothing to read -/
theorem prev_after_next (toks : List Token) (pos : Nat) :
    toks.drop (prevPos toks (nextPos toks pos)) = toks.drop pos := by
  unfold prevPos nextPos
  by_cases h : pos < toks.length
  · have : 0 < pos + 1 ∧ pos + 1 ≤ toks.length := by omega
    simp [h, this]
  · have h' : ¬ (0 < toks.length + 1 ∧ toks.length + 1 ≤ toks.length) := by omega
    simp only [h, if_false, h']
    rw [List.drop_eq_nil_of_le (by omega), List.drop_eq_nil_of_le (by omega)]

/-- **sticky end of input**: once `next` has reported EOF, neither `prev` nor `next` moves the position -/
theorem eof_sticky (toks : List Token) (pos : Nat) (h : toks.length ≤ pos) :
    prevPos toks (nextPos toks pos) = toks.length + 1 ∧ nextPos toks (nextPos toks pos) = toks.length + 1 := by
  unfold prevPos nextPos
  have h1 : ¬ pos < toks.length := by omega
  have h2 : ¬ (0 < toks.length + 1 ∧ toks.length + 1 ≤ toks.length) := by omega
  simp [h1, h2]

/-- a second `prev` WOULD go back a second token (so the abstract reading, which is stuck there, is the
    careful one): positions 2 → 1 → 0 on a two-token slice -/
theorem prev_twice (t u : Token) : prevPos [t, u] (prevPos [t, u] 2) = 0 := by simp [prevPos]

end Pql.ExprParseIR
