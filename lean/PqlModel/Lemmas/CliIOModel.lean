/-
Model of the input plumbing of cmd/pql: `makeInput` and `multiReadCloser.Read` (cmd/pql/main.go
lines 128-199), and what `run` reads from it.

A Go `io.Reader` is modelled by the script of results its successive `Read` calls return:
a chunk of bytes (`n` = its length) together with a status
  `ok`  = `err == nil`      (the chunk may be empty: Go allows `0, nil`),
  `eof` = `err == io.EOF`   (the chunk may be non-empty: Go allows `n > 0, io.EOF`),
  `err` = any other error   (the chunk may be non-empty).
A script that is used up answers `0, io.EOF` from then on (ASSUMPTION A1: every reader ends;
a Go reader that never returns `io.EOF` or an error — e.g. an endless pipe — makes `run` block
for ever and is outside this model).  The results do not depend on `len(p)` (ASSUMPTION A2:
the chunking is arbitrary but fixed in advance; `bufio.Scanner` never passes an empty `p`).
`Close` is not modelled beyond "the reader is dropped from the list" (closing has no effect
on the bytes delivered).
-/
import PqlModel.Model.Cli
namespace Pql.CliIO
open Pql

inductive Status where
  | ok | eof | err
  deriving DecidableEq, Repr

/-- result of one `Read` call: the bytes put into `p[:n]` and the error value -/
abbrev ReadResult := Bytes × Status

/-- a reader = the results of its successive `Read` calls; used up = `0, io.EOF` for ever -/
abbrev Reader := List ReadResult

/-- one `Read` on an underlying reader -/
def Reader.read : Reader → ReadResult × Reader
  | [] => (([], .eof), [])
  | r :: rs => (r, rs)

/-- `multiReadCloser.Read`, the Go loop line by line.  State = `mrc.readers`.
```
for len(mrc.readers) > 0 {
    n, err = mrc.readers[0].Read(p)
    if err == io.EOF { close; mrc.readers = mrc.readers[1:] }
    if n > 0 || err != io.EOF {
        if err == io.EOF && len(mrc.readers) > 0 { err = nil }
        return
    }
}
return 0, io.EOF
``` -/
def multiRead : List Reader → ReadResult × List Reader
  | [] => (([], .eof), [])
  | r :: rest =>
    match r.read with
    | ((chunk, .eof), _) =>
      -- the reader is closed and dropped
      if chunk ≠ [] then ((chunk, if rest ≠ [] then .ok else .eof), rest)
      else multiRead rest
    | ((chunk, .ok), r') => ((chunk, .ok), r' :: rest)
    | ((chunk, .err), r') => ((chunk, .err), r' :: rest)

/-- How a drain ended: the stream reported `io.EOF`, reported another error, or the caller's
    patience (fuel) ran out. -/
inductive Ending where
  | eof | err | outOfFuel
  deriving DecidableEq, Repr

/-- Read a stream until it reports `io.EOF` or an error (what `bufio.Scanner` does with its
    input; bytes delivered together with the final status are kept, as `Scanner` does). -/
def drain {σ : Type} (read : σ → ReadResult × σ) : Nat → σ → Bytes × Ending
  | 0, _ => ([], .outOfFuel)
  | fuel + 1, s =>
    match read s with
    | ((chunk, .ok), s') => let (b, e) := drain read fuel s'; (chunk ++ b, e)
    | ((chunk, .eof), _) => (chunk, .eof)
    | ((chunk, .err), _) => (chunk, .err)

/-- SPECIFICATION: the content of one reader read alone to its end (bytes, failed?) -/
def Reader.content : Reader → Bytes × Bool
  | [] => ([], false)
  | (c, .ok) :: rs => let (b, f) := Reader.content rs; (c ++ b, f)
  | (c, .eof) :: _ => (c, false)
  | (c, .err) :: _ => (c, true)

/-- SPECIFICATION: the logical concatenation: contents in order, up to and including the first
    reader that fails -/
def concatContents : List Reader → Bytes × Bool
  | [] => ([], false)
  | r :: rs =>
    let (b, f) := r.content
    if f then (b, true) else let (b', f') := concatContents rs; (b ++ b', f')

/-- number of `Read` results still scripted -/
def totalResults (rs : List Reader) : Nat := (rs.map List.length).sum

/-- `makeInput`: no argument or the single argument "-" = standard input; one path = that file
    (no `multiReadCloser`); several = a `multiReadCloser` over them in order.  `open` = `os.Open`
    (`none` = error: `makeInput` fails and nothing is compiled).  The result is the reader list;
    a single plain reader `r` is represented by `[r]` (`C16_multi_single`, Props/C16IO.lean: same bytes).
    ASSUMPTION A3: among several arguments "-" occurs at most once (all occurrences share the one
    `os.Stdin`; what a second drain of standard input yields is up to the OS) — here a second
    "-" is a used-up reader. -/
def makeInput (args : List String) (stdin : Reader) (openFile : String → Option Reader) :
    Option (List Reader) :=
  if args.isEmpty ∨ args = ["-"] then some [stdin]
  else
    let rec go : List String → Bool → Option (List Reader)
      | [], _ => some []
      | p :: ps, usedStdin =>
        if p = "-" then (go ps true).map ((if usedStdin then [] else stdin) :: ·)
        else match openFile p with
          | none => none
          | some f => (go ps usedStdin).map (f :: ·)
    go args false

/-- the byte stream `run` reads, and whether reading ended with a (non-EOF) error -/
def inputStream (readers : List Reader) : Bytes × Ending :=
  drain multiRead (totalResults readers + 1) readers

/-- `run` on a stream: `bufio.Scanner` tokenises what it got (after a read error the data read
    so far are still cut into lines, the last one as if at end of input), and `scanner.Err()`
    is non-nil for an over-long line as well as for a (non-EOF) read error. -/
def cliStream (compile : Bytes → Option Bytes) (s : Bytes × Ending) : CliResult :=
  let r := bufioLines s.1
  cliRun compile r.1 (r.2 || s.2 != .eof)

/-- `RunE` after a successful `makeInput`: `run` on the multi-reader -/
def cliFiles (compile : Bytes → Option Bytes) (readers : List Reader) : CliResult :=
  cliStream compile (inputStream readers)

end Pql.CliIO
