/-
`split` / `splitSemi` hand a contiguous prefix of the remaining tokens to the sub-parser and
leave the rest to the caller: nothing is dropped or reordered at a split.
-/
import PqlModel.Model.Parse
namespace Pql

/-- one step of `split` on a token of kind `k`: stop before it (`none`), or take it and go on
    with a new stack of expected closers -/
def splitStep (search : TokKind) (stack : List TokKind) (k : TokKind) : Option (List TokKind) :=
  if k = .lparen then some (.rparen :: stack)
  else if k = .lbracket then some (.rbracket :: stack)
  else if k = .rparen ∨ k = .rbracket then
    if stack ≠ [] then some (popTo k stack) else if search = k then none else some stack
  else if k = search then (if stack = [] then none else some stack)
  else some stack

theorem splitAux_cons (search : TokKind) (stack : List TokKind) (t : Token) (ts : List Token) :
    splitAux search stack (t :: ts) =
      match splitStep search stack t.kind with
      | none => ([], t :: ts)
      | some st => (t :: (splitAux search st ts).1, (splitAux search st ts).2) := by
  rw [splitAux, splitStep]
  by_cases h1 : t.kind = .lparen
  · rw [if_pos h1, if_pos h1]
  rw [if_neg h1, if_neg h1]
  by_cases h2 : t.kind = .lbracket
  · rw [if_pos h2, if_pos h2]
  rw [if_neg h2, if_neg h2]
  by_cases h3 : t.kind = .rparen ∨ t.kind = .rbracket
  · rw [if_pos h3, if_pos h3]
    by_cases h4 : stack ≠ []
    · rw [if_pos h4, if_pos h4]
    rw [if_neg h4, if_neg h4]
    by_cases h5 : search = t.kind
    · rw [if_pos h5, if_pos h5]
    · rw [if_neg h5, if_neg h5]
  rw [if_neg h3, if_neg h3]
  by_cases h6 : t.kind = search
  · rw [if_pos h6, if_pos h6]
    by_cases h7 : stack = []
    · rw [if_pos h7, if_pos h7]
    · rw [if_neg h7, if_neg h7]
  · rw [if_neg h6, if_neg h6]

theorem splitStep_none {search : TokKind} {stack : List TokKind} {k : TokKind}
    (h : splitStep search stack k = none) : k = search := by
  unfold splitStep at h
  by_cases h1 : k = .lparen
  · rw [if_pos h1] at h; cases h
  rw [if_neg h1] at h
  by_cases h2 : k = .lbracket
  · rw [if_pos h2] at h; cases h
  rw [if_neg h2] at h
  by_cases h3 : k = .rparen ∨ k = .rbracket
  · rw [if_pos h3] at h
    by_cases h4 : stack ≠ []
    · rw [if_pos h4] at h; cases h
    rw [if_neg h4] at h
    by_cases h5 : search = k
    · exact h5.symm
    · rw [if_neg h5] at h; cases h
  rw [if_neg h3] at h
  by_cases h6 : k = search
  · exact h6
  · rw [if_neg h6] at h; cases h

theorem splitAux_append (search : TokKind) (stack : List TokKind) (ts : List Token) :
    (splitAux search stack ts).1 ++ (splitAux search stack ts).2 = ts := by
  induction ts generalizing stack with
  | nil => rfl
  | cons t ts ih =>
    rw [splitAux_cons]
    cases splitStep search stack t.kind with
    | none => rfl
    | some st => exact congrArg (t :: ·) (ih st)

theorem split_append (search : TokKind) (ts : List Token) : (split search ts).1 ++ (split search ts).2 = ts :=
  splitAux_append search [] ts

theorem splitSemi_append (ts : List Token) : (splitSemi ts).1 ++ (splitSemi ts).2 = ts := by
  induction ts with
  | nil => simp [splitSemi]
  | cons t ts ih => simp only [splitSemi]; split <;> simp [ih]

theorem splitSemi_rest (ts : List Token) :
    (splitSemi ts).2 = [] ∨ ∃ t rest, (splitSemi ts).2 = t :: rest ∧ t.kind = .semi := by
  induction ts with
  | nil => simp [splitSemi]
  | cons t ts ih =>
    simp only [splitSemi]
    split
    · rename_i h; exact Or.inr ⟨t, ts, rfl, h⟩
    · exact ih

theorem splitSemi_no_semi (ts : List Token) : ∀ t ∈ (splitSemi ts).1, t.kind ≠ .semi := by
  induction ts with
  | nil => simp [splitSemi]
  | cons t ts ih =>
    simp only [splitSemi]
    split
    · simp
    · rename_i h
      intro x hx
      simp only [List.mem_cons] at hx
      rcases hx with rfl | hx
      · exact h
      · exact ih x hx

theorem splitSemi_nosemi (g : List Token) (h : ∀ t ∈ g, t.kind ≠ .semi) : splitSemi g = (g, []) := by
  induction g with
  | nil => rfl
  | cons t g ih =>
    simp only [splitSemi, if_neg (h t (by simp))]
    rw [ih (fun t' ht' => h t' (by simp [ht']))]

theorem splitSemi_append_semi (g : List Token) (s : Token) (rest : List Token)
    (h : ∀ t ∈ g, t.kind ≠ .semi) (hs : s.kind = .semi) :
    splitSemi (g ++ s :: rest) = (g, s :: rest) := by
  induction g with
  | nil => simp [splitSemi, hs]
  | cons t g ih =>
    simp only [List.cons_append, splitSemi, if_neg (h t (by simp))]
    rw [ih (fun t' ht' => h t' (by simp [ht']))]

end Pql
