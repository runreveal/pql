/-
The model scanner refines the declarative grammar: `scanOne` agrees with `LexSpec.pieceAt`
on every non-empty suffix (one token class at a time).  The token lists: `tokensFrom_eq_scanFrom`
(Props/C09b.lean).
-/
import PqlModel.Base.BytesLemmas
import PqlModel.Lemmas.RegexLemmas
set_option linter.unusedSimpArgs false
namespace Pql
open Re LexSpec

theorem byteArray_toList_loop (bs : ByteArray) (i : Nat) (r : List UInt8) :
    ByteArray.toList.loop bs i r = r.reverse ++ bs.data.toList.drop i := by
  fun_induction ByteArray.toList.loop bs i r with
  | case1 i r h ih =>
    rw [ih]
    have hi : i < bs.data.toList.length := by
      rw [Array.length_toList, ByteArray.size_data]; exact h
    rw [List.drop_eq_getElem_cons hi]
    have : bs.get! i = bs.data.toList[i] := by
      cases bs with
      | mk d =>
        simp only [ByteArray.get!]
        simp at hi
        simp [hi]
    simp [this]
  | case2 i r h =>
    have hi : bs.data.toList.length ≤ i := by
      rw [Array.length_toList, ByteArray.size_data]; omega
    simp [List.drop_eq_nil_of_le hi]

theorem byteArray_toList (bs : ByteArray) : bs.toList = bs.data.toList := by
  simp [ByteArray.toList, byteArray_toList_loop]

example : Bytes.ofString "and" = [97, 110, 100] := by
  have : "and" = String.ofList ['a', 'n', 'd'] := by decide
  rw [this, Bytes.ofString_ofList]
  decide


theorem utf8EncodeChar_digit (c : Char) (h : c.isDigit = true) :
    String.utf8EncodeChar c = [UInt8.ofNat c.toNat] := by
  have h1 : 48 ≤ c.toNat ∧ c.toNat ≤ 57 := by simpa using Char.isDigit_iff_toNat.mp h
  have hsz : c.utf8Size = 1 := by
    have h2 : c.val.toNat ≤ 57 := h1.2
    simp only [Char.utf8Size]
    have : c.val ≤ 127 := by
      rw [UInt32.le_iff_toNat_le]
      have : (127 : UInt32).toNat = 127 := by decide
      omega
    simp [this]
  rw [String.utf8EncodeChar_eq_singleton hsz]
  rfl

theorem decimalOfNat_eq_natToDec (n : Nat) : decimalOfNat n = natToDec n := by
  have hl : ∀ c ∈ Nat.toDigits 10 n, c.isDigit = true :=
    fun c hc => Nat.isDigit_of_mem_toDigits (by decide) (by decide) hc
  have : decimalOfNat n = Bytes.ofString (String.ofList (Nat.toDigits 10 n)) := rfl
  rw [this, Bytes.ofString_ofList, natToDec]
  generalize Nat.toDigits 10 n = l at hl
  induction l with
  | nil => rfl
  | cons c l ih =>
    simp only [List.flatMap_cons, List.map_cons]
    rw [utf8EncodeChar_digit c (hl c (by simp)), ih (fun d hd => hl d (by simp [hd]))]
    rfl


theorem ofString_and : Bytes.ofString "and" = [97, 110, 100] := by
  have : "and" = String.ofList ['a', 'n', 'd'] := by decide
  rw [this, Bytes.ofString_ofList]; decide
theorem ofString_or : Bytes.ofString "or" = [111, 114] := by
  have : "or" = String.ofList ['o', 'r'] := by decide
  rw [this, Bytes.ofString_ofList]; decide
theorem ofString_in : Bytes.ofString "in" = [105, 110] := by
  have : "in" = String.ofList ['i', 'n'] := by decide
  rw [this, Bytes.ofString_ofList]; decide
theorem ofString_by : Bytes.ofString "by" = [98, 121] := by
  have : "by" = String.ofList ['b', 'y'] := by decide
  rw [this, Bytes.ofString_ofList]; decide

theorem keywordKind_eq (text : Bytes) :
    keywordKind text = (LexSpec.keywords.find? (fun kv => kv.1 == text)).map (·.2) := by
  simp only [keywordKind, Facts.keywords, LexSpec.keywords, List.find?, ofString_and, ofString_or,
    ofString_in, ofString_by]
  by_cases h1 : ([97, 110, 100] : Bytes) = text
  · subst h1; simp [kind_and]
  · by_cases h2 : ([98, 121] : Bytes) = text
    · subst h2; simp [kind_by]
    · by_cases h3 : ([105, 110] : Bytes) = text
      · subst h3; simp [kind_in]
      · by_cases h4 : ([111, 114] : Bytes) = text
        · subst h4; simp [kind_or]
        · have b1 : (([97, 110, 100] : Bytes) == text) = false := by simpa using h1
          have b2 : (([98, 121] : Bytes) == text) = false := by simpa using h2
          have b3 : (([105, 110] : Bytes) == text) = false := by simpa using h3
          have b4 : (([111, 114] : Bytes) == text) = false := by simpa using h4
          simp only [b1, b2, b3, b4, Option.map_none]

theorem normalizeDecimal_eq (s : Bytes) : normalizeDecimal s = normalizeNumber s := by
  have h : ∀ t : Bytes, t.dropWhile (· == 48) = trimLeftZeros t := by
    intro t
    induction t with
    | nil => rfl
    | cons c t ih =>
      simp only [List.dropWhile_cons, trimLeftZeros]
      split <;> simp_all
  simp only [normalizeDecimal, normalizeNumber, h]
  cases trimLeftZeros s <;> rfl

theorem hexDigitVal_eq (c : UInt8) (h : isHexDigit c = true) : hexDigitVal c = hexVal c := by
  rw [isHexDigit_iff] at h
  simp only [Bool.or_eq_true, Bool.and_eq_true, decide_eq_true_eq] at h
  simp only [hexDigitVal, hexVal, Bool.and_eq_true, decide_eq_true_eq]
  repeat' split
  all_goals omega

theorem hexValue_eq_hexToNat (ds : Bytes) (h : ∀ c ∈ ds, isHexDigit c = true) :
    LexSpec.hexValue ds = hexToNat ds := by
  simp only [LexSpec.hexValue, hexToNat]
  generalize 0 = acc
  induction ds generalizing acc with
  | nil => rfl
  | cons c ds ih =>
    simp only [List.foldl_cons]
    rw [hexDigitVal_eq c (h c (by simp))]
    exact ih (fun d hd => h d (by simp [hd])) _

def stepOfPiece : Piece → Step
  | .trivia w => ⟨none, w⟩
  | .tok k v w => ⟨some (k, v), w⟩

theorem identStart_facts (c : UInt8) (h : isIdentStart c = true) :
    c.toNat < 128 ∧ isAsciiSpace c = false ∧ c.toNat ≠ 47 := by
  rw [isIdentStart_iff] at h
  simp only [Bool.or_eq_true, Bool.and_eq_true, decide_eq_true_eq] at h
  refine ⟨by omega, ?_, by omega⟩
  simp only [isAsciiSpace, beq_iff_toNat]; simp; omega

theorem pieceAt_eq_scanOne_ident (c : UInt8) (rest : Bytes) (h : isIdentStart c = true) :
    stepOfPiece (pieceAt (c :: rest)) = scanOne (c :: rest) := by
  obtain ⟨h128, hsp, h47⟩ := identStart_facts c h
  have hge : ¬ (128 ≤ c.toNat) := by omega
  simp only [pieceAt, decodeRune_ascii c rest h128, isSpaceRune_ascii c h128, hsp,
    reComment_longest_none c rest h47, reIdent_longest, h, scanOne, hge, scanIdent, keywordKind_eq]
  simp only [Bool.false_eq_true, if_false, if_true, List.tail_cons, Step.ofLexeme]
  cases List.find? (fun kv => kv.1 == List.take (identLoop rest + 1) (c :: rest)) LexSpec.keywords <;>
    simp [stepOfPiece]

theorem toNat_ne_of_ne {c k : UInt8} (h : c ≠ k) : c.toNat ≠ k.toNat :=
  fun h' => h (UInt8.toNat_inj.mp h')

/-- `beq_iff_toNat` for the tables of operators, which have the byte of the table on the left -/
theorem beq_iff_toNat' (k c : UInt8) : (k == c) = decide (c.toNat = k.toNat) := by
  rw [beq_iff_toNat]; by_cases hk : c.toNat = k.toNat <;> simp [hk] <;> omega

theorem twoCharOps_none (c : UInt8) (o : Option UInt8)
    (h : c.toNat ≠ 61 ∧ c.toNat ≠ 33 ∧ c.toNat ≠ 60 ∧ c.toNat ≠ 62) :
    o.bind (fun d => twoCharOps.find? (fun o => o.1 == c && o.2.1 == d)) = none := by
  cases o with
  | none => rfl
  | some d =>
    simp [twoCharOps, List.find?, beq_iff_toNat', h.1, h.2.1, h.2.2.1, h.2.2.2]

theorem oneCharOps_none (c : UInt8)
    (h : ∀ k ∈ [61, 60, 62, 43, 45, 42, 47, 37, 124, 46, 44, 59, 40, 41, 91, 93], c.toNat ≠ k) :
    oneCharOps.find? (fun o => o.1 == c) = none := by
  simp only [List.mem_cons, List.mem_nil_iff, or_false, forall_eq_or_imp, forall_eq] at h
  simp [oneCharOps, List.find?, beq_iff_toNat', h]

theorem pieceAt_eq_scanOne_space (c : UInt8) (rest : Bytes) (h128 : c.toNat < 128)
    (h : isAsciiSpace c = true) :
    stepOfPiece (pieceAt (c :: rest)) = scanOne (c :: rest) := by
  have hge : ¬ (128 ≤ c.toNat) := by omega
  simp [pieceAt, decodeRune_ascii c rest h128, isSpaceRune_ascii c h128, h, scanOne, hge,
    stepOfPiece, Step.skip]

theorem pieceAt_eq_scanOne_nonAscii (c : UInt8) (rest : Bytes) (h128 : 128 ≤ c.toNat) :
    stepOfPiece (pieceAt (c :: rest)) = scanOne (c :: rest) := by
  have hw := decodeRune_width_pos c rest
  simp only [scanOne, h128, if_true, scanNonAscii]
  by_cases hsp : isSpaceRune (decodeRune (c :: rest)).1 = true
  · simp [pieceAt, hsp, stepOfPiece, Step.skip]
  · have hid : isIdentStart c = false := by
      rw [isIdentStart_iff]; simp; omega
    have hdg : isDigit c = false := by rw [isDigit_iff]; simp; omega
    have hq : (c == 39 || c == 34) = false := by simp [beq_iff_toNat]; omega
    have hb : (c == 96) = false := by simp [beq_iff_toNat]; omega
    have h2 := twoCharOps_none c rest.head? (by omega)
    have h1 := oneCharOps_none c (by simp; omega)
    simp only [pieceAt, hsp, reComment_longest_none c rest (by omega), reIdent_longest, hid,
      reHex_none_of_first c rest (by omega), reHexPrefix_none_of_first c rest (by omega),
      reDecimal_none c rest hdg (by omega), hq, hb, h2, h1]
    simp [stepOfPiece, Step.sym]
    omega

/-- the operator branch of `pieceAt` (for an ASCII byte: its rune width is 1) -/
def opPiece (c : UInt8) (o : Option UInt8) : Piece :=
  match o.bind (fun d => twoCharOps.find? (fun o => o.1 == c && o.2.1 == d)) with
  | some o => .tok o.2.2 [] 2
  | none =>
    match oneCharOps.find? (fun o => o.1 == c) with
    | some o => .tok o.2 [] 1
    | none => .tok .error [] 1

theorem opPiece_single (c : UInt8) (o : Option UInt8) (k : TokKind) :
    singleKind c = some k → opPiece c o = .tok k [] 1 := by
  fun_cases singleKind c
  case case12 => nofun
  all_goals
    intro h
    cases h
    cases eq_of_beq ‹_›
    cases o <;> rfl

theorem singleKind_none (c : UInt8) :
    singleKind c = none → ∀ k ∈ [44, 124, 40, 41, 91, 93, 43, 45, 42, 37, 59], c ≠ k := by
  fun_cases singleKind c
  case case12 => simp_all
  all_goals nofun

theorem opPiece_eq_scanPunct (c : UInt8) (rest : Bytes)
    (hne : ¬ (c = 47 ∧ rest.head? = some 47)) (h46 : c ≠ 46) :
    stepOfPiece (opPiece c rest.head?) = scanPunct c rest := by
  fun_cases scanPunct c rest
  case case1 k hk => rw [opPiece_single c _ k hk]; rfl
  case case12 hc hd => exact absurd ⟨eq_of_beq hc, eq_of_beq hd⟩ hne
  case case14 hk h61 h33 h60 h62 h47 =>
    have hs := singleKind_none c hk
    simp only [List.mem_cons, List.mem_nil_iff, or_false, forall_eq_or_imp, forall_eq] at hs
    simp only [beq_iff_eq] at h61 h33 h60 h62 h47
    have h2 := twoCharOps_none c rest.head?
      ⟨toNat_ne_of_ne h61, toNat_ne_of_ne h33, toNat_ne_of_ne h60, toNat_ne_of_ne h62⟩
    have h1 := oneCharOps_none c (by
      simp only [List.mem_cons, List.mem_nil_iff, or_false, forall_eq_or_imp, forall_eq]
      exact ⟨toNat_ne_of_ne h61, toNat_ne_of_ne h60, toNat_ne_of_ne h62, toNat_ne_of_ne hs.2.2.2.2.2.2.1,
        toNat_ne_of_ne hs.2.2.2.2.2.2.2.1, toNat_ne_of_ne hs.2.2.2.2.2.2.2.2.1, toNat_ne_of_ne h47,
        toNat_ne_of_ne hs.2.2.2.2.2.2.2.2.2.1, toNat_ne_of_ne hs.2.1, toNat_ne_of_ne h46, toNat_ne_of_ne hs.1,
        toNat_ne_of_ne hs.2.2.2.2.2.2.2.2.2.2, toNat_ne_of_ne hs.2.2.1, toNat_ne_of_ne hs.2.2.2.1,
        toNat_ne_of_ne hs.2.2.2.2.1, toNat_ne_of_ne hs.2.2.2.2.2.1⟩)
    simp only [opPiece, h2, h1]; rfl
  -- a two-byte operator: both bytes are known
  case case2 | case5 | case8 | case10 =>
    rename_i hc hd
    cases eq_of_beq hc
    rw [show rest.head? = _ from eq_of_beq hd]
    rfl
  case case3 | case6 =>
    rename_i hc _ hd
    cases eq_of_beq hc
    rw [show rest.head? = _ from eq_of_beq hd]
    rfl
  -- a one-byte operator before a byte that completes no two-byte one
  case case4 | case7 =>
    rename_i hc h1 h2
    cases eq_of_beq hc
    cases rest with
    | nil => rfl
    | cons d t =>
      have h1 : 61 ≠ d := fun e => h1 (by subst e; rfl)
      have h2 : 126 ≠ d := fun e => h2 (by subst e; rfl)
      simp [opPiece, twoCharOps, oneCharOps, stepOfPiece, Step.sym, h1, h2]
  case case9 | case11 =>
    rename_i hc h1
    cases eq_of_beq hc
    cases rest with
    | nil => rfl
    | cons d t =>
      have h1 : 61 ≠ d := fun e => h1 (by subst e; rfl)
      simp [opPiece, twoCharOps, oneCharOps, stepOfPiece, Step.sym, h1]
  case case13 hc _ =>
    cases eq_of_beq hc
    cases rest with
    | nil => rfl
    | cons d t => simp [opPiece, twoCharOps, oneCharOps, stepOfPiece, Step.sym]

theorem pieceAt_ops (c : UInt8) (rest : Bytes) (h128 : c.toNat < 128)
    (hsp : isAsciiSpace c = false) (hid : isIdentStart c = false) (hdg : isDigit c = false)
    (h46 : c ≠ 46) (h34 : c ≠ 34) (h39 : c ≠ 39) (h96 : c ≠ 96)
    (hcom : reComment.longest (c :: rest) = none) :
    pieceAt (c :: rest) = opPiece c rest.head? := by
  have hq : (c == 39 || c == 34) = false := by simp [h34, h39]
  have hb : (c == 96) = false := by simp [h96]
  have n46 : c.toNat ≠ 46 := toNat_ne_of_ne h46
  have n48 : c.toNat ≠ 48 := by
    intro h; rw [isDigit_iff] at hdg; simp [h] at hdg
  simp only [pieceAt, decodeRune_ascii c rest h128, isSpaceRune_ascii c h128, hsp, hcom,
    reIdent_longest, hid, reHex_none_of_first c rest n48, reHexPrefix_none_of_first c rest n48,
    reDecimal_none c rest hdg n46, hq, hb, opPiece]
  simp
  rfl

theorem pieceAt_eq_scanOne_punct (c : UInt8) (rest : Bytes) (h128 : c.toNat < 128)
    (hsp : isAsciiSpace c = false) (hid : isIdentStart c = false) (hdg : isDigit c = false)
    (h46 : c ≠ 46) (h34 : c ≠ 34) (h39 : c ≠ 39) (h96 : c ≠ 96) :
    stepOfPiece (pieceAt (c :: rest)) = scanOne (c :: rest) := by
  have hge : ¬ (128 ≤ c.toNat) := by omega
  have hs : scanOne (c :: rest) = scanPunct c rest := by
    simp [scanOne, hge, hsp, hid, hdg, h46, h34, h39, h96]
  rw [hs]
  by_cases hcc : c = 47 ∧ rest.head? = some 47
  · obtain ⟨h47, hh⟩ := hcc
    subst h47
    cases rest with
    | nil => simp at hh
    | cons d r =>
      simp at hh
      subst hh
      have hcom := reComment_longest_slash 47 (47 :: r) (by decide)
      simp only [UInt8.reduceToNat, if_true] at hcom
      simp [pieceAt, decodeRune_ascii 47 (47 :: r) (by decide), isSpaceRune, hcom, stepOfPiece,
        scanPunct, singleKind, Step.skip]
  · have hcom : reComment.longest (c :: rest) = none := by
      by_cases h47 : c = 47
      · subst h47
        rw [reComment_longest_slash 47 rest (by decide)]
        cases rest with
        | nil => rfl
        | cons d r =>
          have : d ≠ 47 := by
            intro h; subst h; exact hcc ⟨rfl, rfl⟩
          have : d.toNat ≠ 47 := toNat_ne_of_ne this
          simp [this]
      · exact reComment_longest_none c rest (toNat_ne_of_ne h47)
    rw [pieceAt_ops c rest h128 hsp hid hdg h46 h34 h39 h96 hcom]
    exact opPiece_eq_scanPunct c rest hcc h46

theorem pieceAt_eq_scanOne_string (c : UInt8) (rest : Bytes) (hc : c = 34 ∨ c = 39) :
    stepOfPiece (pieceAt (c :: rest)) = scanOne (c :: rest) := by
  have hq : c.toNat = 39 ∨ c.toNat = 34 := by rcases hc with rfl | rfl <;> simp
  have h128 : c.toNat < 128 := by omega
  have hge : ¬ (128 ≤ c.toNat) := by omega
  have hsp : isAsciiSpace c = false := by rcases hc with rfl | rfl <;> decide
  have hid : isIdentStart c = false := by rcases hc with rfl | rfl <;> decide
  have hdg : isDigit c = false := by rcases hc with rfl | rfl <;> decide
  have h46 : (c == 46) = false := by rcases hc with rfl | rfl <;> decide
  have hqq : (c == 39 || c == 34) = true := by rcases hc with rfl | rfl <;> decide
  have hqq' : (c == 34 || c == 39) = true := by rcases hc with rfl | rfl <;> decide
  have hs : scanOne (c :: rest) = .ofLexeme (scanString (c :: rest)) := by
    simp [scanOne, hge, hsp, hid, hdg, h46, hqq']
  rw [hs]
  simp only [pieceAt, decodeRune_ascii c rest h128, isSpaceRune_ascii c h128, hsp,
    reComment_longest_none c rest (by omega), reIdent_longest, hid,
    reHex_none_of_first c rest (by omega), reHexPrefix_none_of_first c rest (by omega),
    reDecimal_none c rest hdg (by omega), hqq, scanString]
  have hl := reString_longest c (by omega) rest
  cases hr : stringLoop c rest with
  | closed v w =>
    simp only [hr] at hl
    obtain ⟨hcl, h1, hv⟩ := hl
    obtain ⟨k, rfl⟩ : ∃ k, w = k + 1 := ⟨w - 1, by omega⟩
    simp only [Nat.add_sub_cancel] at hv
    simp [hcl, stepOfPiece, Step.ofLexeme, hv]
  | bad w =>
    simp only [hr] at hl
    simp [hl.1, hl.2, stepOfPiece, Step.ofLexeme]

theorem pieceAt_eq_scanOne_qident (c : UInt8) (rest : Bytes) (hc : c = 96) :
    stepOfPiece (pieceAt (c :: rest)) = scanOne (c :: rest) := by
  subst hc
  have hs : scanOne (96 :: rest) = .ofLexeme (scanQuotedIdent (96 :: rest)) := by
    simp [scanOne, show isAsciiSpace 96 = false by decide, show isIdentStart 96 = false by decide,
      show isDigit 96 = false by decide]
  rw [hs]
  simp only [pieceAt, decodeRune_ascii 96 rest (by decide), isSpaceRune_ascii 96 (by decide),
    show isAsciiSpace 96 = false by decide,
    reComment_longest_none 96 rest (by decide), reIdent_longest,
    show isIdentStart 96 = false by decide,
    reHex_none_of_first 96 rest (by decide), reHexPrefix_none_of_first 96 rest (by decide),
    reDecimal_none 96 rest (by decide) (by decide), reQidentClosed_longest 96 (by decide) rest,
    reQidentOpen_longest 96 (by decide) rest, scanQuotedIdent, List.tail_cons]
  have hl := qidentLoop_spec rest
  cases hr : qidentLoop rest with
  | closed v w =>
    simp only [hr] at hl
    obtain ⟨h1, h2, h3, h4⟩ := hl
    obtain ⟨k, rfl⟩ : ∃ k, w = k + 1 := ⟨w - 1, by omega⟩
    simp only [Nat.add_sub_cancel] at h4
    have h2' : ¬ rest[k + 1]? = some 96 := by simpa using h2
    have h1' : longestFrom qS0 rest 1 none = some (k + 2) := by rw [h1]; congr 1; omega
    rw [h1']
    simp [stepOfPiece, Step.ofLexeme, h2', h4]
  | bad w =>
    simp only [hr] at hl
    obtain ⟨h1, h2⟩ := hl
    have h2' : longestFrom reQidentBody rest 1 none = some (w + 1) := by rw [h2]; congr 1; omega
    rw [h2']
    rcases h1 1 none with h | ⟨k, h, hk⟩
    · rw [h]
      simp [stepOfPiece, Step.ofLexeme]
    · have h' : longestFrom qS0 rest 1 none = some (k + 1) := by rw [h]; congr 1; omega
      rw [h']
      have hk' : rest[k]? = some 96 := by simpa using hk
      simp [stepOfPiece, Step.ofLexeme, hk']

theorem finW_one (c : UInt8) (rest : Bytes) :
    finW (c :: rest) 1 false =
      1 + mantissaLoop false rest + exponentLen (rest.drop (mantissaLoop false rest)) := by
  simp only [finW, List.drop_succ_cons, List.drop_zero]
  have : ∀ m, List.drop (1 + m) (c :: rest) = List.drop m rest := by
    intro m; rw [Nat.add_comm]; rfl
  rw [this]

theorem finW_two_true (c d : UInt8) (r : Bytes) :
    finW (c :: d :: r) 2 true = 2 + digitsLen r + exponentLen (r.drop (digitsLen r)) := by
  simp only [finW, List.drop_succ_cons, List.drop_zero, mantissaLoop_true]
  have : ∀ m, List.drop (2 + m) (c :: d :: r) = List.drop m r := by
    intro m; rw [Nat.add_comm]; rfl
  rw [this]


theorem digit_facts (c : UInt8) (hd : isDigit c = true) :
    c.toNat < 128 ∧ isAsciiSpace c = false ∧ isIdentStart c = false ∧ c.toNat ≠ 47 ∧
      c.toNat ≠ 46 := by
  rw [isDigit_iff] at hd
  simp only [Bool.and_eq_true, decide_eq_true_eq] at hd
  refine ⟨by omega, ?_, ?_, by omega, by omega⟩
  · simp only [isAsciiSpace, beq_iff_toNat]; simp; omega
  · rw [isIdentStart_iff]; simp; omega

theorem scanOne_number (c : UInt8) (rest : Bytes) (hc : (isDigit c || c == 46) = true) :
    scanOne (c :: rest) = .ofLexeme (scanNumberOrDot (c :: rest)) := by
  have : c.toNat < 128 ∧ isAsciiSpace c = false ∧ isIdentStart c = false := by
    rcases Bool.or_eq_true_iff.mp hc with hd | h46
    · exact ⟨(digit_facts c hd).1, (digit_facts c hd).2.1, (digit_facts c hd).2.2.1⟩
    · cases eq_of_beq h46; decide
  simp only [scanOne, Nat.not_le.mpr this.1, this.2.1, this.2.2, hc, if_true, if_false, Bool.false_eq_true]

theorem pieceAt_eq_scanOne_decimal (c : UInt8) (rest : Bytes) (hd : isDigit c = true)
    (hx : ¬ (c = 48 ∧ (rest.head? = some 120 ∨ rest.head? = some 88))) :
    stepOfPiece (pieceAt (c :: rest)) = scanOne (c :: rest) := by
  obtain ⟨h128, hsp, hid, h47, h46⟩ := digit_facts c hd
  rw [scanOne_number c rest (by simp [hd]), scanNumberOrDot_decimal c rest (fun h => by subst h; exact absurd hd (by decide)) hx,
    finishNumber_eq_finW, finW_one]
  have hhex : reHex.longest (c :: rest) = none ∧ reHexPrefix.longest (c :: rest) = none := by
    by_cases h48 : c.toNat = 48
    · have hc48 : c = 48 := UInt8.toNat_inj.mp (by simpa using h48)
      rw [reHex_zero c rest h48, reHexPrefix_zero c rest h48]
      cases rest with
      | nil => exact ⟨rfl, rfl⟩
      | cons x r =>
        have hxx : ¬ (x.toNat = 120 ∨ x.toNat = 88) := by
          intro h
          apply hx
          refine ⟨hc48, ?_⟩
          rcases h with h | h
          · left; simp; exact UInt8.toNat_inj.mp (by simpa using h)
          · right; simp; exact UInt8.toNat_inj.mp (by simpa using h)
        simp [hxx]
    · exact ⟨reHex_none_of_first c rest h48, reHexPrefix_none_of_first c rest h48⟩
  simp only [pieceAt, decodeRune_ascii c rest h128, isSpaceRune_ascii c h128, hsp,
    reComment_longest_none c rest h47, reIdent_longest, hid, hhex.1, hhex.2,
    reDecimal_digit c rest hd, normalizeDecimal_eq]
  simp [stepOfPiece, Step.ofLexeme]


theorem pieceAt_eq_scanOne_hex (x : UInt8) (r : Bytes) (hx : x = 120 ∨ x = 88) :
    stepOfPiece (pieceAt (48 :: x :: r)) = scanOne (48 :: x :: r) := by
  obtain ⟨h128, hsp, hid, h47, h46⟩ := digit_facts 48 (by decide)
  rw [scanOne_number 48 (x :: r) (by decide), scanNumberOrDot_hex x r hx]
  have hx' : x.toNat = 120 ∨ x.toNat = 88 := by rcases hx with rfl | rfl <;> simp
  have hhex := reHex_zero 48 (x :: r) (by decide)
  have hpre := reHexPrefix_zero 48 (x :: r) (by decide)
  simp only [hx', if_true] at hhex hpre
  simp only [pieceAt, decodeRune_ascii 48 (x :: r) h128, isSpaceRune_ascii 48 h128, hsp,
    reComment_longest_none 48 (x :: r) h47, reIdent_longest, hid, hhex, hpre, hexLexeme,
    beq_iff_eq]
  by_cases hn : hexDigitsLen r = 0
  · simp [hn, stepOfPiece, Step.ofLexeme]
  · have hv : LexSpec.hexValue (((48 :: x :: r).take (hexDigitsLen r + 2)).drop 2) =
        hexToNat (r.take (hexDigitsLen r)) := by
      have : ((48 :: x :: r).take (hexDigitsLen r + 2)).drop 2 = r.take (hexDigitsLen r) := by simp
      rw [this]
      exact hexValue_eq_hexToNat _ (take_hexDigitsLen r)
    simp only [hn, if_false, hv, decimalOfNat_eq_natToDec]
    by_cases hlt : hexToNat (r.take (hexDigitsLen r)) < 18446744073709551616
    · simp [hlt, stepOfPiece, Step.ofLexeme]
    · simp [hlt, stepOfPiece, Step.ofLexeme]


theorem pieceAt_eq_scanOne_dot (rest : Bytes) :
    stepOfPiece (pieceAt (46 :: rest)) = scanOne (46 :: rest) := by
  have h128 : (46 : UInt8).toNat < 128 := by decide
  have hsp : isAsciiSpace 46 = false := by decide
  have hid : isIdentStart 46 = false := by decide
  rw [scanOne_number 46 rest (by decide)]
  have hdec := reDecimal_dot 46 rest (by decide)
  have h2 := twoCharOps_none 46 rest.head? (by decide)
  have h1 : oneCharOps.find? (fun o => o.1 == (46 : UInt8)) = some (46, .dot) := by decide
  simp only [pieceAt, decodeRune_ascii 46 rest h128, isSpaceRune_ascii 46 h128, hsp,
    reComment_longest_none 46 rest (by decide), reIdent_longest, hid,
    reHex_none_of_first 46 rest (by decide), reHexPrefix_none_of_first 46 rest (by decide), hdec,
    show ((46 : UInt8) == 39 || (46 : UInt8) == 34) = false by decide,
    show ((46 : UInt8) == 96) = false by decide]
  cases rest with
  | nil =>
    simp [h1, twoCharOps, stepOfPiece, Step.ofLexeme, scanNumberOrDot]
  | cons d r =>
    by_cases hd : isDigit d = true
    · rw [scanNumberOrDot_dot_digit d r hd, finishNumber_eq_finW, finW_two_true]
      simp [hd, stepOfPiece, Step.ofLexeme, normalizeDecimal_eq]
    · rw [scanNumberOrDot_dot _ (by simpa using hd)]
      simp only [hd, Bool.false_eq_true, if_false, h2, h1]
      simp [stepOfPiece, Step.ofLexeme]

theorem pieceAt_eq_scanOne (c : UInt8) (rest : Bytes) :
    stepOfPiece (pieceAt (c :: rest)) = scanOne (c :: rest) := by
  by_cases h128 : 128 ≤ c.toNat
  · exact pieceAt_eq_scanOne_nonAscii c rest h128
  have h128' : c.toNat < 128 := by omega
  by_cases hsp : isAsciiSpace c = true
  · exact pieceAt_eq_scanOne_space c rest h128' hsp
  by_cases hid : isIdentStart c = true
  · exact pieceAt_eq_scanOne_ident c rest hid
  by_cases hdg : isDigit c = true
  · by_cases hx : c = 48 ∧ (rest.head? = some 120 ∨ rest.head? = some 88)
    · obtain ⟨rfl, hx⟩ := hx
      cases rest with
      | nil => simp at hx
      | cons x r =>
        simp only [List.head?_cons, Option.some.injEq] at hx
        exact pieceAt_eq_scanOne_hex x r hx
    · exact pieceAt_eq_scanOne_decimal c rest hdg hx
  by_cases h46 : c = 46
  · subst h46; exact pieceAt_eq_scanOne_dot rest
  by_cases hq : c = 34 ∨ c = 39
  · exact pieceAt_eq_scanOne_string c rest hq
  by_cases hb : c = 96
  · exact pieceAt_eq_scanOne_qident c rest hb
  exact pieceAt_eq_scanOne_punct c rest h128' (by simpa using hsp) (by simpa using hid)
    (by simpa using hdg) h46 (fun h => hq (Or.inl h)) (fun h => hq (Or.inr h)) hb

theorem stepOfPiece_width (p : Piece) : (stepOfPiece p).width = p.width := by
  cases p <;> rfl

end Pql
