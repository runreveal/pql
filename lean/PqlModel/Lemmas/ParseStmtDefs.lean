/-
C05, syntactic half — definitions shared by the three stages: erasing the structured source of an
intended link (`Intended.SubA`) to the chunks `splitQueries` writes (`Subquery`), and
`substTabular [] t = t` (a program without lets is its own resolution).
-/
import PqlModel.Spec.Intended
import PqlModel.Lemmas.ScopeWriteSub
import PqlModel.Props.C01Syntactic
namespace Pql.C05
open Pql Sql CompileOracle Intended Pql.RT

def eraseSrc (src : Bytes) (scope : List (Bytes × List Chunk)) : SrcA → Except WErr (List Chunk)
  | .table n => .ok [.qid n]
  | .join unique left l r cond => do
    let c ← writeExpr ⟨src, scope, .join⟩ cond
    pure ((if unique then [.txt "(SELECT DISTINCT * FROM "] else []) ++ [Chunk.qid l] ++
      (if unique then [.txt ")"] else []) ++
      [.txt (" AS \"" ++ Facts.leftJoinTableAlias ++ "\""), .txt (if left then " LEFT JOIN " else " JOIN "), .qid r,
       .txt (" AS \"" ++ Facts.rightJoinTableAlias ++ "\" ON ")] ++ c)

def erase (src : Bytes) (scope : List (Bytes × List Chunk)) (a : SubA) : Except WErr Subquery := do
  let s ← eraseSrc src scope a.source
  pure { name := a.name, source := s, op := a.op, sort := a.sort, take := a.take }

structure EraseRel (src : Bytes) (scope : List (Bytes × List Chunk)) (a : SubA) (s : Subquery) : Prop where
  name : s.name = a.name
  source : eraseSrc src scope a.source = .ok s.source
  op : s.op = a.op
  sort : s.sort = a.sort
  take : s.take = a.take

theorem erase_iff {src : Bytes} {scope : List (Bytes × List Chunk)} {a : SubA} {s : Subquery} :
    erase src scope a = .ok s ↔ EraseRel src scope a s := by
  unfold erase
  constructor
  · intro h
    obtain ⟨c, hs, h⟩ := LexRender.bind_ok h
    cases h
    exact ⟨rfl, hs, rfl, rfl, rfl⟩
  · intro h
    obtain ⟨name, source, op, sort, take⟩ := s
    obtain ⟨h1, h2, h3, h4, h5⟩ := h
    simp only at h1 h2 h3 h4 h5
    subst h1 h3 h4 h5
    rw [h2]
    rfl

theorem mapM_ok_iff {α β : Type} (f : α → Except WErr β) (R : α → β → Prop)
    (hR : ∀ a b, f a = .ok b ↔ R a b) : ∀ (as : List α) (bs : List β), as.mapM f = .ok bs ↔ ListRel R as bs
  | [], bs => by
    simp only [List.mapM_nil, pure, Except.pure, Except.ok.injEq]
    constructor
    · intro h; subst h; exact .nil
    · intro h; cases h; rfl
  | a :: as, bs => by
    rw [List.mapM_cons]
    constructor
    · intro h
      obtain ⟨b, ha, h⟩ := LexRender.bind_ok h
      obtain ⟨bs', hs, h⟩ := LexRender.bind_ok h
      cases h
      exact .cons ((hR a b).1 ha) ((mapM_ok_iff f R hR as bs').1 hs)
    · intro h
      cases h with
      | cons hab hrest =>
        rw [(hR _ _).2 hab, (mapM_ok_iff f R hR as _).2 hrest]
        rfl

theorem eraseAll_iff {src : Bytes} {scope : List (Bytes × List Chunk)} (as : List SubA) (ss : List Subquery) :
    as.mapM (erase src scope) = .ok ss ↔ ListRel (EraseRel src scope) as ss :=
  mapM_ok_iff _ _ (fun _ _ => erase_iff) as ss

theorem substColumn_nil (c : Column) : substColumn [] c = c := by
  obtain ⟨name, assign, x⟩ := c
  cases x <;> cases name <;> simp [substColumn, substExpr_nil]

theorem substColumns_nil (cs : List Column) : cs.map (substColumn []) = cs := by
  rw [funext substColumn_nil, List.map_id']

theorem substTerms_nil (ts : List SortTerm) : (ts.map fun t => { t with x := substExpr [] t.x }) = ts := by
  simp [substExpr_nil]

theorem substConds_nil : (es : ExprList) → substConds [] es = es
  | .nil => rfl
  | .cons e es => by
    simp only [substConds, substConds_nil es, substCond, substExpr_nil]
    split <;> rfl

mutual
theorem substTabular_nil : (t : Tabular) → substTabular [] t = t
  | .nil => rfl
  | .mk s ops => by simp only [substTabular, substOps_nil ops]
theorem substOps_nil : (ops : OpList) → substOps [] ops = ops
  | .nil => rfl
  | .cons o os => by simp only [substOps, substOp_nil o, substOps_nil os]
theorem substOp_nil : (o : Op) → substOp [] o = o
  | .where_ p k e => by simp only [substOp, substExpr_nil]
  | .sort p k ts => by simp only [substOp, substTerms_nil]
  | .take p k n => by simp only [substOp, substExpr_nil]
  | .top p k n b c => by
    cases c with
    | none => simp only [substOp, substExpr_nil, Option.map_none]
    | some t => simp only [substOp, substExpr_nil, Option.map_some]
  | .project p k cs => by simp only [substOp, substColumns_nil]
  | .extend p k cs => by simp only [substOp, substColumns_nil]
  | .summarize p k cs b gs => by simp only [substOp, substColumns_nil]
  | .join p k a b c d right e f conds => by simp only [substOp, substTabular_nil right, substConds_nil]
  | .as_ .. => rfl
  | .count .. => rfl
  | .render .. => rfl
end

end Pql.C05
