/-
The algebra of error lists (`Errs`), as far as the parser's invariants need it: when a list is
empty, and when it still carries the not-found flag.  `mkOpaque` clears the flag and keeps the
length; the leaves `errAt`, `nfAt`, `errFuel`, `errNoPos` are singletons, of which only `nfAt`
carries the flag; `endSplit` complains exactly when tokens are left.
-/
import PqlModel.Lemmas.ParseCases
namespace Pql

@[simp] theorem mkOpaque_eq_nil (es : Errs) : mkOpaque es = [] ↔ es = [] := by
  simp [mkOpaque]

theorem mkOpaque_append (a b : Errs) : mkOpaque (a ++ b) = mkOpaque a ++ mkOpaque b := by simp [mkOpaque]

@[simp] theorem endSplit_eq_nil (ts : List Token) : endSplit ts = [] ↔ ts = [] := by
  cases ts <;> simp [endSplit, errAt]

@[simp] theorem errAt_ne_nil (s : Span) : errAt s ≠ [] := by simp [errAt]
@[simp] theorem nfAt_ne_nil (s : Span) : nfAt s ≠ [] := by simp [nfAt]
@[simp] theorem errFuel_ne_nil : errFuel ≠ [] := by simp [errFuel]
@[simp] theorem errNoPos_ne_nil : errNoPos ≠ [] := by simp [errNoPos]
@[simp] theorem nil_ne_errAt (s : Span) : [] ≠ errAt s := by simp [errAt]
@[simp] theorem nil_ne_nfAt (s : Span) : [] ≠ nfAt s := by simp [nfAt]
@[simp] theorem nil_ne_errFuel : [] ≠ errFuel := by simp [errFuel]
@[simp] theorem nil_ne_errNoPos : [] ≠ errNoPos := by simp [errNoPos]
@[simp] theorem errAt_eq_nil (s : Span) : errAt s = [] ↔ False := by simp [errAt]
@[simp] theorem nfAt_eq_nil (s : Span) : nfAt s = [] ↔ False := by simp [nfAt]
@[simp] theorem errFuel_eq_nil : errFuel = [] ↔ False := by simp [errFuel]
@[simp] theorem errNoPos_eq_nil : errNoPos = [] ↔ False := by simp [errNoPos]

@[simp] theorem isNF_nil : isNF [] = false := rfl
@[simp] theorem isNF_append (a b : Errs) : isNF (a ++ b) = (isNF a || isNF b) := by simp [isNF]
@[simp] theorem isNF_mkOpaque (a : Errs) : isNF (mkOpaque a) = false := by
  simp [isNF, mkOpaque]
@[simp] theorem isNF_errAt (s : Span) : isNF (errAt s) = false := by simp [isNF, errAt]
@[simp] theorem isNF_errFuel : isNF errFuel = false := by simp [isNF, errFuel]
@[simp] theorem isNF_errNoPos : isNF errNoPos = false := by simp [isNF, errNoPos]
@[simp] theorem isNF_nfAt (s : Span) : isNF (nfAt s) = true := by simp [isNF, nfAt]
@[simp] theorem isNF_endSplit (ts : List Token) : isNF (endSplit ts) = false := by
  cases ts <;> simp [endSplit]

theorem ne_nil_of_isNF {es : Errs} (h : isNF es = true) : es ≠ [] := by
  intro he; rw [he] at h; cases h

@[simp] theorem isNF_closeSplit (k : TokKind) (d e : Span) (ts : List Token) :
    isNF (closeSplit k d e ts).errs = false := by
  apply closeSplit_cases (motive := fun cl => isNF cl.errs = false)
  · intro _; exact isNF_errAt _
  · intro rp rest _ _; rfl

@[simp] theorem isNF_callArgErrs (ra : PRes ExprList) : isNF (callArgErrs ra) = false := by
  cases h : isNF ra.errs
  · rw [callArgErrs_of_not_nf h, isNF_append, h, isNF_endSplit]; rfl
  · rw [callArgErrs_nf h, isNF_endSplit]


end Pql
