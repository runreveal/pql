/-
The loop `splitOpsA` on join-free operator lists, through its step `C05.placeA`: once the list is longer
than `dstStart`, a step depends neither on the pipeline's source nor on the start index (`placeA_indep`);
the first operator behind a link it takes nothing from reads that link as a source table
(`placeA_first`); a join-free prefix runs first (`run_append`).  `startsPlain ops` (the hypothesis `hpl` of
`C03_chain`): the first operator of `ops` is not a sort / take / top, which would be attached to the link in front.
-/
import PqlModel.Lemmas.SplitARun
import PqlModel.Lemmas.SplitQueriesClauses
import PqlModel.Lemmas.ForwardTab
namespace Pql.JoinSem
open Pql Sql CompileOracle Intended C05

/-- the one operator that is neither a join nor a step: a `top` without column, which fails -/
theorem splitOpsA_stuck (source : Option Ident) (k : Nat) (dst : List SubA) {o : Op} (rest : OpList)
    (hj : SplitQ.isJoin o = false) (ho : SplitQ.steps o = false) :
    splitOpsA source k dst (.cons o rest) = none := by
  cases o with
  | top p kw n b col =>
    cases col with
    | none => unfold splitOpsA; rfl
    | some c => cases ho
  | join => cases hj
  | _ => cases ho

theorem lastOfA_of_lt {dst : List SubA} {ds : Nat} (h : ds < dst.length) : lastOfA dst ds = dst.getLast? := by
  simp [lastOfA, h]

theorem chainA_of_lt {dst : List SubA} {ds : Nat} (source : Option Ident) (h : ds < dst.length) :
    chainA dst ds source =
      { name := subqueryName dst.length,
        source := .table (match dst.getLast? with | some s => s.name | none => []) } := by
  simp only [chainA, h, ↓reduceIte]
  rfl

theorem placeA_indep (s1 s2 : Option Ident) {ds1 ds2 : Nat} {dst : List SubA} (o : Op)
    (h1 : ds1 < dst.length) (h2 : ds2 < dst.length) : placeA s1 ds1 o dst = placeA s2 ds2 o dst := by
  simp only [placeA, lastOfA_of_lt h1, lastOfA_of_lt h2, chainA_of_lt s1 h1, chainA_of_lt s2 h2]

theorem placeA_length (source : Option Ident) (k : Nat) (o : Op) (dst : List SubA) :
    dst.length ≤ (placeA source k o dst).length := by
  rcases placeA_cases source k o dst with h | ⟨init, l, rfl, _, _, h⟩ <;> rw [h] <;> simp

theorem placeA_start_length (source : Option Ident) (o : Op) (dst : List SubA) :
    dst.length < (placeA source dst.length o dst).length := by
  rcases placeA_cases source dst.length o dst with h | ⟨init, l, rfl, hk, _, _⟩
  · rw [h]; simp
  · simp at hk; omega

/-- operators that always start a link of their own -/
def plainOp : Op → Bool
  | .sort .. | .take .. | .top .. | .join .. => false
  | _ => true

def startsPlain : OpList → Bool
  | .nil => true
  | .cons o _ => plainOp o

theorem attachesA_plain {o : Op} (h : plainOp o = true) (l : SubA) : attachesA o l = false := by
  cases o <;> first | rfl | cases h

theorem attachesA_taken (o : Op) {l : SubA} (h : l.take.isSome = true) : attachesA o l = false := by
  have hn : l.take.isNone = false := by cases ht : l.take <;> simp [ht] at h ⊢
  cases o with
  | top p kw n b col => cases col <;> simp [attachesA, hn]
  | _ => simp [attachesA, hn]

theorem placeA_first (T J : Option Ident) {dst : List SubA} {l : SubA} (o : Op)
    (hl : dst.getLast? = some l) (hJ : identName J = l.name) (h : attachesA o l = false) :
    placeA T 0 o dst = placeA J dst.length o dst := by
  have hpos : 0 < dst.length := by
    cases dst with
    | nil => simp at hl
    | cons => simp
  have c2 : chainA dst dst.length J = { name := subqueryName dst.length, source := .table l.name } := by
    simp [chainA, hJ]
  have l2 : lastOfA dst dst.length = none := by simp [lastOfA]
  simp only [placeA, lastOfA_of_lt hpos, chainA_of_lt T hpos, hl, h, c2, l2]

theorem run_append (source : Option Ident) (ds : Nat) (b : OpList) : ∀ (a : OpList) (dst : List SubA),
    SplitQ.joinFree a = true →
    splitOpsA source ds dst (appendOps a b) = (splitOpsA source ds dst a).bind fun d => splitOpsA source ds d b
  | .nil, dst, _ => by simp [appendOps, splitOpsA]
  | .cons o rest, dst, hjf => by
    obtain ⟨hnj, hjf⟩ := SplitQ.joinFree_cons_iff.1 hjf
    simp only [appendOps]
    cases ho : SplitQ.steps o with
    | true => rw [splitOpsA_step _ _ _ ho, splitOpsA_step _ _ _ ho]; exact run_append source ds b rest _ hjf
    | false => rw [splitOpsA_stuck _ _ _ _ hnj ho, splitOpsA_stuck _ _ _ _ hnj ho]; rfl

end Pql.JoinSem
