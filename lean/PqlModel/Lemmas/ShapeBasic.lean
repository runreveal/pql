/-
Content maps (property C04, parametricity half).

A `CMap` replaces the *contents* of a PQL tree: the values of string literals (`fs`), the names
of identifier parts (`fn`), the texts of number literals (`fnum`).  `mapE` applies it to an
expression; `Chunk.mapC` applies it to the writer's output (`.qstr`, `.qid`, `.num` chunks).

`MapCong φ R`: `R` relates two chunk lists that are built alike out of pieces related by the
content map — the abstraction that gives both the exact statement (`R a b := b = a.map g`) and
the statement about shapes (`R a b := a.map shape = b.map shape`) from one induction.  The theorems
about the writers ask for `WCong φ R` only, which leaves the parameter chunks alone; `MapCong` is asked
where the scope of the parameters itself is related (`ScopeRel.map`, `paramScope_rel`, and through
`SplitCong` the compile of a whole program).
-/
import PqlModel.Lemmas.WriterCong
import PqlModel.Lemmas.ScopeEq
namespace Pql

structure CMap where
  fs : Bytes → Bytes
  fn : Bytes → Bytes
  fnum : Bytes → Bytes
  /-- what happens to the source positions recorded in the tree (the writers never look at them,
      except for the text of an unnamed column) -/
  fsp : Span → Span

namespace CMap
def ident (φ : CMap) (p : Ident) : Ident := { p with name := φ.fn p.name, span := φ.fsp p.span }
def fnIdent (φ : CMap) (p : Ident) : Ident := { p with span := φ.fsp p.span }
def lit (φ : CMap) (k : TokKind) (v : Bytes) : Bytes :=
  if k = .string then φ.fs v else if k = .number then φ.fnum v else v
def ofStr (f : Bytes → Bytes) : CMap := ⟨f, id, id, id⟩
def ofName (f : Bytes → Bytes) : CMap := ⟨id, f, id, id⟩
def ofNum (f : Bytes → Bytes) : CMap := ⟨id, id, f, id⟩

@[simp] theorem ident_quoted (φ : CMap) (p : Ident) : (φ.ident p).quoted = p.quoted := rfl
@[simp] theorem ident_name (φ : CMap) (p : Ident) : (φ.ident p).name = φ.fn p.name := rfl
@[simp] theorem fnIdent_name (φ : CMap) (p : Ident) : (φ.fnIdent p).name = p.name := rfl
end CMap

def Chunk.mapC (φ : CMap) : Chunk → Chunk
  | .qstr v => .qstr (φ.fs v)
  | .qid n => .qid (φ.fn n)
  | .num v => .num (φ.fnum v)
  | c => c

mutual
def mapE (φ : CMap) : Expr → Expr
  | .nil => .nil
  | .qident parts => .qident (parts.map φ.ident)
  | .lit sp k v => .lit (φ.fsp sp) k (φ.lit k v)
  | .unary os op x => .unary (φ.fsp os) op (mapE φ x)
  | .binary x os op y => .binary (mapE φ x) (φ.fsp os) op (mapE φ y)
  | .inE x i lp vals rp => .inE (mapE φ x) (φ.fsp i) (φ.fsp lp) (mapL φ vals) (φ.fsp rp)
  | .paren lp x rp => .paren (φ.fsp lp) (mapE φ x) (φ.fsp rp)
  | .call fn lp args rp => .call (φ.fnIdent fn) (φ.fsp lp) (mapL φ args) (φ.fsp rp)
  | .index x lb idx rb => .index (mapE φ x) (φ.fsp lb) (mapE φ idx) (φ.fsp rb)
def mapL (φ : CMap) : ExprList → ExprList
  | .nil => .nil
  | .cons e es => .cons (mapE φ e) (mapL φ es)
end

structure MapCong (φ : CMap) (R : List Chunk → List Chunk → Prop) : Prop where
  nil : R [] []
  single : ∀ c, R [c] [Chunk.mapC φ c]
  append : ∀ {a a' b b'}, R a a' → R b b' → R (a ++ b) (a' ++ b')

/-- What the compiler's parametricity needs of the relation: `MapCong` without the demand on parameter
    chunks (`.raw`), which never come from the compiler itself, only out of the scope.  So a relation that
    changes the stored parameter texts (Lemmas/ScopeRelated.lean) qualifies as well. -/
structure WCong (φ : CMap) (R : List Chunk → List Chunk → Prop) : Prop extends FrameCong R where
  qid : ∀ v, R [.qid v] [.qid (φ.fn v)]
  qstr : ∀ v, R [.qstr v] [.qstr (φ.fs v)]
  num : ∀ v, R [.num v] [.num (φ.fnum v)]

namespace MapCong
variable {φ : CMap} {R : List Chunk → List Chunk → Prop}

theorem toWCong (hR : MapCong φ R) : WCong φ R :=
  ⟨⟨hR.nil, fun s => hR.single (.txt s), fun v => hR.single (.fname v), hR.append⟩,
    fun v => hR.single (.qid v), fun v => hR.single (.qstr v), fun v => hR.single (.num v)⟩

theorem raw (hR : MapCong φ R) (v : Bytes) : R [.raw v] [.raw v] := hR.single (.raw v)

theorem cons_qid (hR : MapCong φ R) (v : Bytes) {a a' : List Chunk} (h : R a a') :
    R (.qid v :: a) (.qid (φ.fn v) :: a') := hR.append (hR.single (.qid v)) h
theorem cons_qstr (hR : MapCong φ R) (v : Bytes) {a a' : List Chunk} (h : R a a') :
    R (.qstr v :: a) (.qstr (φ.fs v) :: a') := hR.append (hR.single (.qstr v)) h

theorem map (hR : MapCong φ R) : (xs : List Chunk) → R xs (xs.map (Chunk.mapC φ))
  | [] => hR.nil
  | c :: xs => hR.append (hR.single c) (map hR xs)

end MapCong

def MapsTo (φ : CMap) (a b : List Chunk) : Prop := b = a.map (Chunk.mapC φ)

theorem MapsTo.cong (φ : CMap) : MapCong φ (MapsTo φ) :=
  ⟨rfl, fun _ => rfl, fun h₁ h₂ => by
    unfold MapsTo at *
    rw [h₁, h₂, List.map_append]⟩

theorem ExRel.mapsTo_eq {φ : CMap} {x y : Except WErr (List Chunk)} (h : ExRel (MapsTo φ) x y) :
    y = x.map (List.map (Chunk.mapC φ)) :=
  h.eq_map _ fun _ _ hab => hab

inductive ChunkShape
  | txt (s : String)
  | qid
  | qstr
  | num
  | fname (v : Bytes)
  | raw (v : Bytes)
  deriving DecidableEq, Repr

def Chunk.shape : Chunk → ChunkShape
  | .txt s => .txt s
  | .qid _ => .qid
  | .qstr _ => .qstr
  | .num _ => .num
  | .fname v => .fname v
  | .raw v => .raw v

theorem Chunk.shape_mapC (φ : CMap) (c : Chunk) : (Chunk.mapC φ c).shape = c.shape := by
  cases c <;> rfl

def SameShape (a b : List Chunk) : Prop := a.map Chunk.shape = b.map Chunk.shape

theorem SameShape.cong (φ : CMap) : MapCong φ SameShape :=
  ⟨rfl, fun c => by simp [SameShape, Chunk.shape_mapC], fun h₁ h₂ => by
    unfold SameShape at *
    rw [List.map_append, List.map_append, h₁, h₂]⟩

theorem ExRel.sameShape_eq {x y : Except WErr (List Chunk)} (h : ExRel SameShape x y) :
    x.map (List.map Chunk.shape) = y.map (List.map Chunk.shape) :=
  h.map_eq

theorem mapL_length (φ : CMap) : (es : ExprList) → (mapL φ es).length = es.length
  | .nil => by simp only [mapL]
  | .cons e es => by simp only [mapL, ExprList.length, mapL_length φ es]

theorem mapL_toList (φ : CMap) : (es : ExprList) → (mapL φ es).toList = es.toList.map (mapE φ)
  | .nil => by simp only [mapL, ExprList.toList, List.map_nil]
  | .cons e es => by simp only [mapL, ExprList.toList, mapL_toList φ es, List.map_cons]

theorem needsWrap_mapE (φ : CMap) : (e : Expr) → needsWrap (mapE φ e) = needsWrap e
  | .paren _ x _ => by
    simp only [mapE, needsWrap]
    exact needsWrap_mapE φ x
  | .nil | .qident _ | .lit .. | .unary .. | .binary .. | .inE .. | .call .. | .index .. => by
    simp only [mapE, needsWrap, exprTypeName, CMap.fnIdent_name]

theorem isSigned_mapE (φ : CMap) : (e : Expr) → isSigned (mapE φ e) = isSigned e
  | .paren _ x _ => by
    simp only [mapE, isSigned]
    exact isSigned_mapE φ x
  | .nil | .qident _ | .lit .. | .unary .. | .binary .. | .inE .. | .call .. | .index .. => by
    simp only [mapE, isSigned]

theorem wrapMaybe_mapE (φ : CMap) (e : Expr) : wrapMaybe (mapE φ e) = wrapMaybe e := by
  funext b
  simp only [wrapMaybe, needsWrap_mapE]

theorem wrapTight_mapE (φ : CMap) (e : Expr) : wrapTight (mapE φ e) = wrapTight e := by
  funext b
  simp only [wrapTight, wrapMaybe, needsWrap_mapE, isSigned_mapE]

namespace MapCong
variable {φ : CMap} {R : List Chunk → List Chunk → Prop}

theorem wrapMaybe (hR : MapCong φ R) (x : Expr) {a a' : List Chunk} (h : R a a') :
    R (wrapMaybe x a) (wrapMaybe (mapE φ x) a') := by
  rw [wrapMaybe_mapE]
  exact hR.toWCong.wrapMaybe x h

theorem wrapTight (hR : MapCong φ R) (x : Expr) {a a' : List Chunk} (h : R a a') :
    R (wrapTight x a) (wrapTight (mapE φ x) a') := by
  rw [wrapTight_mapE]
  exact hR.toWCong.wrapTight x h

end MapCong

end Pql
