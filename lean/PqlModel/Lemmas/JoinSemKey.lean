/-
`$left.k` / `$right.k` in the ON environment, and the bare key.
-/
import PqlModel.Lemmas.JoinSemKinds
import PqlModel.Props.C03
namespace Pql.JoinSem
open Pql Sql CompileOracle Intended

/-- the value of column `k` in a row (first column of that name) -/
def colVal (cols : List Bytes) (row : List Val) (k : Bytes) : Option Val :=
  ((cols.zip row).find? (·.1 == k)).map (·.2)

theorem find_envOfRow_same (a : Bytes) (cols : List Bytes) (row : List Val) (k : Bytes) :
    ((envOfRow a cols row).find? fun e => e.1 == a && e.2.1 == k).map (·.2.2) = colVal cols row k := by
  simp only [envOfRow, colVal, List.find?_map, Option.map_map, Function.comp_def, beq_self_eq_true, Bool.true_and]

theorem find_envOfRow_other (a a' : Bytes) (h : (a == a') = false) (cols : List Bytes) (row : List Val) (k : Bytes) :
    ((envOfRow a cols row).find? fun e => e.1 == a' && e.2.1 == k) = none := by
  simp [envOfRow, h]

theorem leftA_ne_rightA : (leftA == rightA) = false := by decide
theorem rightA_ne_leftA : (rightA == leftA) = false := by decide

theorem lookupCol_left (lcols : List Bytes) (l : List Val) (rcols : List Bytes) (r : List Val) (k : Bytes) :
    lookupCol (onEnv lcols l rcols r) [leftA, k] =
      (colVal lcols l k).getD (.term (Bytes.ofString "?col:" ++ leftA ++ [46] ++ k)) := by
  simp only [lookupCol, onEnv, List.find?_append]
  rw [← find_envOfRow_same leftA lcols l k, find_envOfRow_other rightA leftA rightA_ne_leftA]
  cases List.find? (fun e => e.1 == leftA && e.2.1 == k) (envOfRow leftA lcols l) <;> rfl

theorem lookupCol_right (lcols : List Bytes) (l : List Val) (rcols : List Bytes) (r : List Val) (k : Bytes) :
    lookupCol (onEnv lcols l rcols r) [rightA, k] =
      (colVal rcols r k).getD (.term (Bytes.ofString "?col:" ++ rightA ++ [46] ++ k)) := by
  simp only [lookupCol, onEnv, List.find?_append]
  rw [← find_envOfRow_same rightA rcols r k, find_envOfRow_other leftA rightA leftA_ne_rightA]
  cases List.find? (fun e => e.1 == rightA && e.2.1 == k) (envOfRow rightA rcols r) <;> rfl

theorem leftAlias_eq : leftAlias = leftA := by decide
theorem rightAlias_eq : rightAlias = rightA := by decide

theorem tr_bare_key (name : Bytes) (sp : Span) (h : builtinIdent name = none) :
    tr true (rewriteSimpleJoinCondition (.qident [⟨name, sp, false⟩])) =
      some (.bin "=" (.col [leftA, name]) (.col [rightA, name])) := by
  rw [C03.C03_bare_key_rewrite name sp h]
  have h1 : (hasJoinTerms (.qident [⟨leftA, .zero, false⟩, ⟨name, sp, false⟩])).1 = true := by
    simp [hasJoinTerms, exprIdents, leftAlias_eq]
  have h2 : (hasJoinTerms (.qident [⟨rightA, .zero, false⟩, ⟨name, sp, false⟩])).2 = true := by
    simp [hasJoinTerms, exprIdents, rightAlias_eq]
  simp only [leftAlias_eq, rightAlias_eq]
  simp only [tr, bind, Option.bind, List.map_cons, List.map_nil, h1, h2, Bool.true_or, Bool.or_true, Bool.and_self,
    ↓reduceIte, pure]

theorem evalP_bare_key (name : Bytes) (sp : Span) (h : builtinIdent name = none) (env : Env) :
    Rel.evalP true [] env (rewriteSimpleJoinCondition (.qident [⟨name, sp, false⟩])) =
      binOp "=" (lookupCol env [leftA, name]) (lookupCol env [rightA, name]) := by
  rw [SelSem.evalP_eq true _ _ _ _ (tr_bare_key name sp h)]
  simp only [evalS]

def holds (env : Env) (c : Expr) : Bool := Rel.evalP true [] env c == .bool true

theorem binOp_and_true (a b : Val) : (binOp "AND" a b == .bool true) = ((a == .bool true) && (b == .bool true)) := by
  have : ("AND" == "AND") = true := by decide
  unfold binOp
  simp only [this, ↓reduceIte]
  rw [Bool.eq_iff_iff]
  simp only [beq_iff_eq, Bool.and_eq_true]
  cases a with
  | bool x => cases x <;> cases b with
    | bool y => cases y <;> simp
    | _ => simp
  | _ => cases b with
    | bool y => cases y <;> simp
    | _ => simp

/-- `x and y` holds iff both hold (an untranslatable side never holds) -/
theorem holds_and (env : Env) (x y : Expr) (sp : Span) :
    holds env (.binary x sp .and_ y) = (holds env x && holds env y) := by
  simp only [holds, Rel.evalP, tr, bind, Option.bind]
  cases hx : tr true x with
  | none => simp
  | some a =>
    cases hy : tr true y with
    | none => simp
    | some b =>
      have hne : (TokKind.and_ = TokKind.eq) = False := by simp
      have hne2 : (TokKind.and_ = TokKind.ne) = False := by simp
      have hne3 : (TokKind.and_ = TokKind.cieq) = False := by simp
      have hne4 : (TokKind.and_ = TokKind.cine) = False := by simp
      simp only [hne, hne2, hne3, hne4, ↓reduceIte, plainOp, pure, normS]
      have : ("AND" == "!=") = false := by decide
      simp only [this, Bool.false_eq_true, ↓reduceIte, evalS]
      exact binOp_and_true _ _

theorem holds_go (env : Env) : ∀ (rest : ExprList) (x : Expr),
    holds env (buildJoinCondition.go x rest) =
      (holds env x && rest.toList.all fun c => holds env (rewriteSimpleJoinCondition c))
  | .nil, x => by simp [buildJoinCondition.go, ExprList.toList]
  | .cons y ys, x => by
    rw [buildJoinCondition.go, holds_go env ys, holds_and]
    simp [ExprList.toList, Bool.and_assoc]

/-- **several conditions are AND-ed**: the join condition holds iff every listed condition
    (bare keys rewritten) holds; no condition at all always holds -/
theorem holds_buildJoinCondition (env : Env) (conds : ExprList) :
    holds env (buildJoinCondition conds) = conds.toList.all fun c => holds env (rewriteSimpleJoinCondition c) := by
  cases conds with
  | nil =>
    simp only [buildJoinCondition, ExprList.toList, List.all_nil]
    have : tr true (Expr.qident [{ name := Bytes.ofString "true", span := Span.zero, quoted := false }]) = some (.const "TRUE") := by
      have : isName (Bytes.ofString "true") "true" = true := by decide
      simp [tr, this]
    simp [holds, Rel.evalP, this, normS, evalS]
  | cons c rest =>
    simp only [buildJoinCondition, holds_go, ExprList.toList, List.all_cons]

end Pql.JoinSem
