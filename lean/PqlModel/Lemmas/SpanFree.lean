/-
Where the positions the parser reports come from (property C10, failed parses included).

For `P` that holds of the EOF index and of the tokens, every positioned error leaf of `Parse`
satisfies `P`; for `Q` that holds of `Span.null`, of `Span.zero` (the never-assigned `Rbrack` of a
broken index expression) and of the tokens in the sense of `ToksQ`, every span field of every
tree `Parse` returns, next to errors or not, satisfies `Q` (`parseTokens_spans`).

There is no walk over the productions here.  The parser commutes with every map on positions
(`TokMap.parseTokens_map`, Lemmas/ParseMapTab.lean).  Run it on the tokens themselves and let the
map be the identity exactly where the predicate holds (`fixOn`): the side conditions of the
`TokMap` are the hypotheses above, and the commutation says that the result is a fixed point of
the map, so every position in it satisfies the predicate.
-/
import PqlModel.Lemmas.ParseMapTab
namespace Pql
open Layout

def ErrsIn (P : Span → Prop) (es : Errs) : Prop := ∀ e ∈ es, ∀ sp, e.span = some sp → P sp

def ToksIn (P : Span → Prop) (ts : List Token) : Prop := ∀ t ∈ ts, P t.span

structure ResIn (P : Span → Prop) {α : Type} (r : PRes α) : Prop where
  errs : ErrsIn P r.errs
  rest : ToksIn P r.rest

section
variable {P : Span → Prop}

@[simp] theorem ErrsIn_nil : ErrsIn P [] ↔ True := by simp [ErrsIn]

@[simp] theorem ErrsIn_append (a b : Errs) : ErrsIn P (a ++ b) ↔ ErrsIn P a ∧ ErrsIn P b := by
  simp only [ErrsIn, List.mem_append]
  constructor
  · intro h; exact ⟨fun e he => h e (Or.inl he), fun e he => h e (Or.inr he)⟩
  · rintro ⟨h1, h2⟩ e (he | he)
    · exact h1 e he
    · exact h2 e he

@[simp] theorem ErrsIn_mkOpaque (a : Errs) : ErrsIn P (mkOpaque a) ↔ ErrsIn P a := by
  simp only [ErrsIn, mkOpaque, List.mem_map]
  constructor
  · intro h e he sp hsp
    exact h _ ⟨e, he, rfl⟩ sp hsp
  · rintro h e ⟨e', he', rfl⟩ sp hsp
    exact h e' he' sp hsp

@[simp] theorem ErrsIn_errAt (s : Span) : ErrsIn P (errAt s) ↔ P s := by
  simp [ErrsIn, errAt]

@[simp] theorem ErrsIn_nfAt (s : Span) : ErrsIn P (nfAt s) ↔ P s := by
  simp [ErrsIn, nfAt]

@[simp] theorem ErrsIn_errNoPos : ErrsIn P errNoPos ↔ True := by simp [ErrsIn, errNoPos]

@[simp] theorem ErrsIn_errFuel : ErrsIn P errFuel ↔ True := by simp [ErrsIn, errFuel]

@[simp] theorem ToksIn_nil : ToksIn P [] ↔ True := by simp [ToksIn]

@[simp] theorem ToksIn_cons (t : Token) (ts : List Token) :
    ToksIn P (t :: ts) ↔ P t.span ∧ ToksIn P ts := by
  simp [ToksIn]

theorem ToksIn_append (a b : List Token) : ToksIn P (a ++ b) ↔ ToksIn P a ∧ ToksIn P b := by
  simp only [ToksIn, List.mem_append]
  constructor
  · intro h; exact ⟨fun e he => h e (Or.inl he), fun e he => h e (Or.inr he)⟩
  · rintro ⟨h1, h2⟩ e (he | he)
    · exact h1 e he
    · exact h2 e he

end

/-! `ResIn P` stated production by production.  The statement only: no instance is proved, since
`parseTokens_spans` gets the fact for whole parses without a walk. -/

structure ExprIn (P : Span → Prop) (c : PCtx) (fuel : Nat) : Prop where
  expr : ∀ ts, ToksIn P ts → ResIn P (pExpr c fuel ts)
  trail : ∀ x m acc ts, ErrsIn P acc → ToksIn P ts → ResIn P (pTrail c fuel x m acc ts)
  higher : ∀ y p acc ts, ErrsIn P acc → ToksIn P ts → ResIn P (pHigher c fuel y p acc ts)
  unary : ∀ ts, ToksIn P ts → ResIn P (pUnary c fuel ts)
  primary : ∀ ts, ToksIn P ts → ResIn P (pPrimary c fuel ts)
  inner : ∀ ts, ToksIn P ts → ResIn P (pInner c fuel ts)
  exprList : ∀ ts, ToksIn P ts → ResIn P (pExprList c fuel ts)
  exprListTail : ∀ acc ts, ToksIn P ts → ResIn P (pExprListTail c fuel acc ts)

def OptIn (P : Span → Prop) : Option (PRes Op) → Prop
  | none => True
  | some r => ResIn P r

structure TabIn (P : Span → Prop) (c : PCtx) (fuel : Nat) : Prop where
  tabular : ∀ ts, ToksIn P ts → ResIn P (pTabular c fuel ts)
  ops : ∀ ops acc ts, ErrsIn P acc → ToksIn P ts → ResIn P (pOps c fuel ops acc ts)
  operator : ∀ pipe name ts, P name.span → ToksIn P ts → OptIn P (pOperator c fuel pipe name ts)
  join : ∀ pipe kw ts, ToksIn P ts → ResIn P (pJoin c fuel pipe kw ts)

section
variable {P : Span → Prop}

theorem ResIn.opaque {α : Type} {r : PRes α} (h : ResIn P r) (v : Op) :
    ResIn P (PRes.mk v (mkOpaque r.errs) r.rest) :=
  ⟨(ErrsIn_mkOpaque _).mpr h.errs, h.rest⟩

end

def AllIn {α : Type} (V : α → Prop) (l : List α) : Prop := ∀ x ∈ l, V x

def OptV {α : Type} (V : α → Prop) : Option α → Prop
  | none => True
  | some a => V a

def IdentIn (Q : Span → Prop) (i : Ident) : Prop := Q i.span

mutual
def Expr.SpansIn (Q : Span → Prop) : Expr → Prop
  | .nil => True
  | .qident parts => AllIn (IdentIn Q) parts
  | .lit sp _ _ => Q sp
  | .unary os _ x => Q os ∧ x.SpansIn Q
  | .binary x os _ y => x.SpansIn Q ∧ Q os ∧ y.SpansIn Q
  | .inE x i lp vals rp => x.SpansIn Q ∧ Q i ∧ Q lp ∧ vals.SpansIn Q ∧ Q rp
  | .paren lp x rp => Q lp ∧ x.SpansIn Q ∧ Q rp
  | .call fn lp args rp => IdentIn Q fn ∧ Q lp ∧ args.SpansIn Q ∧ Q rp
  | .index x lb idx rb => x.SpansIn Q ∧ Q lb ∧ idx.SpansIn Q ∧ Q rb
def ExprList.SpansIn (Q : Span → Prop) : ExprList → Prop
  | .nil => True
  | .cons e es => e.SpansIn Q ∧ es.SpansIn Q
end

def SortTerm.SpansIn (Q : Span → Prop) (t : SortTerm) : Prop :=
  t.x.SpansIn Q ∧ Q t.ascDescSpan ∧ Q t.nullsSpan

def Column.SpansIn (Q : Span → Prop) (c : Column) : Prop :=
  OptV (IdentIn Q) c.name ∧ Q c.assign ∧ c.x.SpansIn Q

def RenderProp.SpansIn (Q : Span → Prop) (p : RenderProp) : Prop :=
  OptV (IdentIn Q) p.name ∧ Q p.assign ∧ p.value.SpansIn Q

mutual
def Tabular.SpansIn (Q : Span → Prop) : Tabular → Prop
  | .nil => True
  | .mk src ops => OptV (IdentIn Q) src ∧ ops.SpansIn Q
def Op.SpansIn (Q : Span → Prop) : Op → Prop
  | .count p k => Q p ∧ Q k
  | .where_ p k e => Q p ∧ Q k ∧ e.SpansIn Q
  | .sort p k ts => Q p ∧ Q k ∧ AllIn (SortTerm.SpansIn Q) ts
  | .take p k n => Q p ∧ Q k ∧ n.SpansIn Q
  | .top p k n b col => Q p ∧ Q k ∧ n.SpansIn Q ∧ Q b ∧ OptV (SortTerm.SpansIn Q) col
  | .project p k cs => Q p ∧ Q k ∧ AllIn (Column.SpansIn Q) cs
  | .extend p k cs => Q p ∧ Q k ∧ AllIn (Column.SpansIn Q) cs
  | .summarize p k cs b gs =>
    Q p ∧ Q k ∧ AllIn (Column.SpansIn Q) cs ∧ Q b ∧ AllIn (Column.SpansIn Q) gs
  | .join p k kind ka fl lp right rp on conds =>
    Q p ∧ Q k ∧ Q kind ∧ Q ka ∧ OptV (IdentIn Q) fl ∧ Q lp ∧ right.SpansIn Q ∧ Q rp ∧ Q on ∧
      conds.SpansIn Q
  | .as_ p k n => Q p ∧ Q k ∧ OptV (IdentIn Q) n
  | .render p k ch w lp props rp =>
    Q p ∧ Q k ∧ OptV (IdentIn Q) ch ∧ Q w ∧ Q lp ∧ AllIn (RenderProp.SpansIn Q) props ∧ Q rp
def OpList.SpansIn (Q : Span → Prop) : OpList → Prop
  | .nil => True
  | .cons o os => o.SpansIn Q ∧ os.SpansIn Q
end

def Stmt.SpansIn (Q : Span → Prop) : Stmt → Prop
  | .let_ kw name asg x => Q kw ∧ OptV (IdentIn Q) name ∧ Q asg ∧ x.SpansIn Q
  | .tabular t => t.SpansIn Q

/-- token spans and the extents of ordered pairs of tokens satisfy `Q` -/
def ToksQ (Q : Span → Prop) (ts : List Token) : Prop :=
  (∀ t ∈ ts, Q t.span) ∧ ts.Pairwise (fun a b => Q ⟨a.start, b.stop⟩)

structure ValIn (Q : Span → Prop) {α : Type} (V : α → Prop) (r : PRes α) : Prop where
  val : V r.val
  rest : ToksQ Q r.rest

section
variable {Q : Span → Prop}

@[simp] theorem AllIn_nil {α : Type} (V : α → Prop) : AllIn V [] ↔ True := by simp [AllIn]

@[simp] theorem AllIn_cons {α : Type} (V : α → Prop) (a : α) (l : List α) :
    AllIn V (a :: l) ↔ V a ∧ AllIn V l := by simp [AllIn]

@[simp] theorem AllIn_append {α : Type} (V : α → Prop) (l₁ l₂ : List α) :
    AllIn V (l₁ ++ l₂) ↔ AllIn V l₁ ∧ AllIn V l₂ := by
  simp only [AllIn, List.mem_append]
  constructor
  · intro h; exact ⟨fun e he => h e (Or.inl he), fun e he => h e (Or.inr he)⟩
  · rintro ⟨h1, h2⟩ e (he | he)
    · exact h1 e he
    · exact h2 e he

@[simp] theorem OptV_none {α : Type} (V : α → Prop) : OptV V none ↔ True := Iff.rfl
@[simp] theorem OptV_some {α : Type} (V : α → Prop) (a : α) : OptV V (some a) ↔ V a := Iff.rfl

@[simp] theorem ToksQ_nil : ToksQ Q [] ↔ True := by simp [ToksQ]

@[simp] theorem ToksQ_cons (t : Token) (ts : List Token) :
    ToksQ Q (t :: ts) ↔ Q t.span ∧ (∀ b ∈ ts, Q ⟨t.start, b.stop⟩) ∧ ToksQ Q ts := by
  simp only [ToksQ, List.mem_cons, forall_eq_or_imp, List.pairwise_cons]
  constructor
  · rintro ⟨⟨h1, h2⟩, h3, h4⟩; exact ⟨h1, h3, h2, h4⟩
  · rintro ⟨h1, h3, h2, h4⟩; exact ⟨⟨h1, h2⟩, h3, h4⟩

theorem ExprList.spansIn_snoc : (es : ExprList) → (x : Expr) →
    ((es.snoc x).SpansIn Q ↔ es.SpansIn Q ∧ x.SpansIn Q)
  | .nil, x => by simp [ExprList.snoc, ExprList.SpansIn]
  | .cons e es, x => by
    simp only [ExprList.snoc, ExprList.SpansIn, ExprList.spansIn_snoc es x, and_assoc]

theorem OpList.spansIn_snoc : (os : OpList) → (x : Op) →
    ((os.snoc x).SpansIn Q ↔ os.SpansIn Q ∧ x.SpansIn Q)
  | .nil, x => by simp [OpList.snoc, OpList.SpansIn]
  | .cons o os, x => by
    simp only [OpList.snoc, OpList.SpansIn, OpList.spansIn_snoc os x, and_assoc]

end

/-! `ValIn Q` stated production by production; again the statement only. -/

structure ExprTree (Q : Span → Prop) (c : PCtx) (fuel : Nat) : Prop where
  expr : ∀ ts, ToksQ Q ts → ValIn Q (Expr.SpansIn Q) (pExpr c fuel ts)
  trail : ∀ x m acc ts, x.SpansIn Q → ToksQ Q ts →
    ValIn Q (Expr.SpansIn Q) (pTrail c fuel x m acc ts)
  higher : ∀ y p acc ts, y.SpansIn Q → ToksQ Q ts →
    ValIn Q (Expr.SpansIn Q) (pHigher c fuel y p acc ts)
  unary : ∀ ts, ToksQ Q ts → ValIn Q (Expr.SpansIn Q) (pUnary c fuel ts)
  primary : ∀ ts, ToksQ Q ts → ValIn Q (Expr.SpansIn Q) (pPrimary c fuel ts)
  inner : ∀ ts, ToksQ Q ts → ValIn Q (Expr.SpansIn Q) (pInner c fuel ts)
  exprList : ∀ ts, ToksQ Q ts → ValIn Q (ExprList.SpansIn Q) (pExprList c fuel ts)
  exprListTail : ∀ acc ts, acc.SpansIn Q → ToksQ Q ts →
    ValIn Q (ExprList.SpansIn Q) (pExprListTail c fuel acc ts)

def OptTree (Q : Span → Prop) : Option (PRes Op) → Prop
  | none => True
  | some r => ValIn Q (Op.SpansIn Q) r

structure TabTree (Q : Span → Prop) (c : PCtx) (fuel : Nat) : Prop where
  tabular : ∀ ts, ToksQ Q ts → ValIn Q (Tabular.SpansIn Q) (pTabular c fuel ts)
  ops : ∀ ops acc ts, ops.SpansIn Q → ToksQ Q ts →
    ValIn Q (OpList.SpansIn Q) (pOps c fuel ops acc ts)
  operator : ∀ pipe name ts, Q pipe → ToksQ Q (name :: ts) →
    OptTree Q (pOperator c fuel pipe name ts)
  join : ∀ pipe kw ts, Q pipe → Q kw → ToksQ Q ts →
    ValIn Q (Op.SpansIn Q) (pJoin c fuel pipe kw ts)

def Span.other (s : Span) : Span := ⟨s.start + 1, s.stop⟩

theorem Span.other_ne (s : Span) : s.other ≠ s := by
  intro h
  have := congrArg Span.start h
  simp only [Span.other] at this
  omega

open Classical in
/-- the identity where `P` holds, and nowhere else -/
noncomputable def fixOn (P : Span → Prop) (s : Span) : Span := if P s then s else s.other

theorem fixOn_of {P : Span → Prop} {s : Span} (h : P s) : fixOn P s = s := if_pos h

theorem of_fixOn {P : Span → Prop} {s : Span} (h : fixOn P s = s) : P s :=
  Classical.byContradiction fun hn => s.other_ne (by rwa [fixOn, if_neg hn] at h)

theorem map_eq_self {α : Type} {f : α → α} : ∀ {l : List α}, l.map f = l → ∀ x ∈ l, f x = x
  | [], _, _, hx => nomatch hx
  | a :: l, h, x, hx => by
    rw [List.map_cons, List.cons.injEq] at h
    rcases List.mem_cons.mp hx with rfl | hx
    · exact h.1
    · exact map_eq_self h.2 x hx

theorem errsIn_of_mapErrs {f : Span → Span} {es : Errs} (h : mapErrs f es = es) :
    ErrsIn (fun s => f s = s) es := by
  intro e he sp hsp
  have := congrArg PErr.span (map_eq_self h e he)
  simpa only [mapErr, hsp, Option.map_some, Option.some.injEq] using this

section
variable {Q : Span → Prop}

theorem identIn_of_map {i : Ident} (h : mapIdent (fixOn Q) i = i) : IdentIn Q i :=
  of_fixOn (congrArg Ident.span h)

theorem optIdentIn_of_map : ∀ {i : Option Ident}, i.map (mapIdent (fixOn Q)) = i → OptV (IdentIn Q) i
  | none, _ => trivial
  | some _, h => identIn_of_map (Option.some.inj h)

theorem allIn_of_map {α : Type} {g : α → α} {V : α → Prop} (hg : ∀ a, g a = a → V a) {l : List α}
    (h : l.map g = l) : AllIn V l := fun a ha => hg a (map_eq_self h a ha)

mutual
theorem Expr.spansIn_of_map : ∀ e : Expr, mapExpr (fixOn Q) e = e → e.SpansIn Q
  | .nil, _ => trivial
  | .qident _, h => allIn_of_map (fun _ => identIn_of_map) (Expr.qident.inj h)
  | .lit .., h => of_fixOn (Expr.lit.inj h).1
  | .unary _ _ x, h =>
    have h := Expr.unary.inj h
    ⟨of_fixOn h.1, x.spansIn_of_map h.2.2⟩
  | .binary x _ _ y, h =>
    have h := Expr.binary.inj h
    ⟨x.spansIn_of_map h.1, of_fixOn h.2.1, y.spansIn_of_map h.2.2.2⟩
  | .inE x _ _ vs _, h =>
    have h := Expr.inE.inj h
    ⟨x.spansIn_of_map h.1, of_fixOn h.2.1, of_fixOn h.2.2.1, vs.spansIn_of_map h.2.2.2.1,
      of_fixOn h.2.2.2.2⟩
  | .paren _ x _, h =>
    have h := Expr.paren.inj h
    ⟨of_fixOn h.1, x.spansIn_of_map h.2.1, of_fixOn h.2.2⟩
  | .call _ _ as _, h =>
    have h := Expr.call.inj h
    ⟨identIn_of_map h.1, of_fixOn h.2.1, as.spansIn_of_map h.2.2.1, of_fixOn h.2.2.2⟩
  | .index x _ i _, h =>
    have h := Expr.index.inj h
    ⟨x.spansIn_of_map h.1, of_fixOn h.2.1, i.spansIn_of_map h.2.2.1, of_fixOn h.2.2.2⟩
theorem ExprList.spansIn_of_map : ∀ l : ExprList, mapExprList (fixOn Q) l = l → l.SpansIn Q
  | .nil, _ => trivial
  | .cons e es, h =>
    have h := ExprList.cons.inj h
    ⟨e.spansIn_of_map h.1, es.spansIn_of_map h.2⟩
end

theorem SortTerm.spansIn_of_map (t : SortTerm) (h : mapSortTerm (fixOn Q) t = t) : t.SpansIn Q :=
  have h := SortTerm.mk.inj h
  ⟨t.x.spansIn_of_map h.1, of_fixOn h.2.2.1, of_fixOn h.2.2.2.2⟩

theorem Column.spansIn_of_map (c : Column) (h : mapColumn (fixOn Q) c = c) : c.SpansIn Q :=
  have h := Column.mk.inj h
  ⟨optIdentIn_of_map h.1, of_fixOn h.2.1, c.x.spansIn_of_map h.2.2⟩

theorem RenderProp.spansIn_of_map (p : RenderProp) (h : mapRenderProp (fixOn Q) p = p) :
    p.SpansIn Q :=
  have h := RenderProp.mk.inj h
  ⟨optIdentIn_of_map h.1, of_fixOn h.2.1, p.value.spansIn_of_map h.2.2⟩

mutual
theorem Tabular.spansIn_of_map : ∀ t : Tabular, mapTabular (fixOn Q) t = t → t.SpansIn Q
  | .nil, _ => trivial
  | .mk _ ops, h =>
    have h := Tabular.mk.inj h
    ⟨optIdentIn_of_map h.1, ops.spansIn_of_map h.2⟩
theorem Op.spansIn_of_map : ∀ o : Op, mapOp (fixOn Q) o = o → o.SpansIn Q
  | .count .., h =>
    have h := Op.count.inj h
    ⟨of_fixOn h.1, of_fixOn h.2⟩
  | .where_ _ _ e, h =>
    have h := Op.where_.inj h
    ⟨of_fixOn h.1, of_fixOn h.2.1, e.spansIn_of_map h.2.2⟩
  | .sort .., h =>
    have h := Op.sort.inj h
    ⟨of_fixOn h.1, of_fixOn h.2.1, allIn_of_map SortTerm.spansIn_of_map h.2.2⟩
  | .take _ _ n, h =>
    have h := Op.take.inj h
    ⟨of_fixOn h.1, of_fixOn h.2.1, n.spansIn_of_map h.2.2⟩
  | .top _ _ n _ col, h =>
    have h := Op.top.inj h
    ⟨of_fixOn h.1, of_fixOn h.2.1, n.spansIn_of_map h.2.2.1, of_fixOn h.2.2.2.1,
      match col, h.2.2.2.2 with
      | none, _ => trivial
      | some t, h => t.spansIn_of_map (Option.some.inj h)⟩
  | .project .., h =>
    have h := Op.project.inj h
    ⟨of_fixOn h.1, of_fixOn h.2.1, allIn_of_map Column.spansIn_of_map h.2.2⟩
  | .extend .., h =>
    have h := Op.extend.inj h
    ⟨of_fixOn h.1, of_fixOn h.2.1, allIn_of_map Column.spansIn_of_map h.2.2⟩
  | .summarize .., h =>
    have h := Op.summarize.inj h
    ⟨of_fixOn h.1, of_fixOn h.2.1, allIn_of_map Column.spansIn_of_map h.2.2.1, of_fixOn h.2.2.2.1,
      allIn_of_map Column.spansIn_of_map h.2.2.2.2⟩
  | .join _ _ _ _ _ _ right _ _ conds, h =>
    have h := Op.join.inj h
    ⟨of_fixOn h.1, of_fixOn h.2.1, of_fixOn h.2.2.1, of_fixOn h.2.2.2.1,
      optIdentIn_of_map h.2.2.2.2.1, of_fixOn h.2.2.2.2.2.1, right.spansIn_of_map h.2.2.2.2.2.2.1,
      of_fixOn h.2.2.2.2.2.2.2.1, of_fixOn h.2.2.2.2.2.2.2.2.1,
      conds.spansIn_of_map h.2.2.2.2.2.2.2.2.2⟩
  | .as_ .., h =>
    have h := Op.as_.inj h
    ⟨of_fixOn h.1, of_fixOn h.2.1, optIdentIn_of_map h.2.2⟩
  | .render .., h =>
    have h := Op.render.inj h
    ⟨of_fixOn h.1, of_fixOn h.2.1, optIdentIn_of_map h.2.2.1, of_fixOn h.2.2.2.1,
      of_fixOn h.2.2.2.2.1, allIn_of_map RenderProp.spansIn_of_map h.2.2.2.2.2.1,
      of_fixOn h.2.2.2.2.2.2⟩
theorem OpList.spansIn_of_map : ∀ l : OpList, mapOpList (fixOn Q) l = l → l.SpansIn Q
  | .nil, _ => trivial
  | .cons o os, h =>
    have h := OpList.cons.inj h
    ⟨o.spansIn_of_map h.1, os.spansIn_of_map h.2⟩
end

theorem Stmt.spansIn_of_map : ∀ s : Stmt, mapStmt (fixOn Q) s = s → s.SpansIn Q
  | .let_ _ _ _ x, h =>
    have h := Stmt.let_.inj h
    ⟨of_fixOn h.1, optIdentIn_of_map h.2.1, of_fixOn h.2.2.1, x.spansIn_of_map h.2.2.2⟩
  | .tabular t, h => t.spansIn_of_map (Stmt.tabular.inj h)

end

/-- positions of errors are kept exactly where `P` holds, span fields of trees exactly where `Q`
    holds -/
noncomputable def spanMap (P Q : Span → Prop) (n : Nat) (hP : P (Span.index n)) (hnull : Q .null)
    (hzero : Q .zero) : TokMap where
  tok := id
  sp := fixOn Q
  esp := fixOn P
  src := ⟨n⟩
  dst := ⟨n⟩
  ok := fun t => P t.span ∧ Q t.span
  lt := fun t u => Q ⟨t.start, u.stop⟩
  kind := fun _ => rfl
  value := fun _ => rfl
  span := fun _ h => (fixOn_of h.2).symm
  espan := fun _ h => (fixOn_of h.1).trans (fixOn_of h.2).symm
  span2 := fun _ _ _ _ h => (fixOn_of h).symm
  null := fixOn_of hnull
  zero := fixOn_of hzero
  eof := fixOn_of hP

theorem parseTokens_spans {P Q : Span → Prop} (srcLen : Nat) (ts : List Token)
    (hP : P (Span.index srcLen)) (hnull : Q .null) (hzero : Q .zero) (hp : ToksIn P ts)
    (hq : ToksQ Q ts) :
    ErrsIn P (parseTokens srcLen ts).2 ∧ AllIn (Stmt.SpansIn Q) (parseTokens srcLen ts).1 := by
  have h := (spanMap P Q srcLen hP hnull hzero).parseTokens_map ts
    ⟨fun t ht => ⟨hp t ht, hq.1 t ht⟩, hq.2⟩
  simp only [spanMap, List.map_id] at h
  exact ⟨fun e he sp hsp => of_fixOn (errsIn_of_mapErrs (congrArg Prod.snd h).symm e he sp hsp),
    allIn_of_map Stmt.spansIn_of_map (congrArg Prod.fst h).symm⟩

theorem toksQ_true (ts : List Token) : ToksQ (fun _ => True) ts :=
  ⟨fun _ _ => trivial, List.pairwise_of_forall fun _ _ => trivial⟩

theorem parseTokens_in {P : Span → Prop} (srcLen : Nat) (ts : List Token)
    (hP : P (Span.index srcLen)) (ht : ToksIn P ts) : ErrsIn P (parseTokens srcLen ts).2 :=
  (parseTokens_spans (Q := fun _ => True) srcLen ts hP trivial trivial ht (toksQ_true ts)).1

theorem parseTokens_tree {Q : Span → Prop} (srcLen : Nat) (ts : List Token) (hnull : Q .null)
    (hzero : Q .zero) (ht : ToksQ Q ts) : AllIn (Stmt.SpansIn Q) (parseTokens srcLen ts).1 :=
  (parseTokens_spans (P := fun _ => True) srcLen ts trivial hnull hzero (fun _ _ => trivial) ht).2

end Pql
