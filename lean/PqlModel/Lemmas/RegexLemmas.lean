/-
Facts about the derivative matcher of Spec/Regex.lean and about the concrete regular
expressions of Spec/LexSpec.lean: for every regex of the lexical grammar, the automaton of its
derivatives is computed state by state and `Re.longest` is related to the corresponding byte
loop of the model (Model/Lex.lean).  The matcher is sound for the language of a regular expression
(`Re.Matches`, `longest_matches`); the last section reads the shape of a number and of an identifier
off their regular expressions.
-/
import PqlModel.Spec.LexSpec
import PqlModel.Lemmas.LexNumber
set_option linter.unusedSimpArgs false
namespace Pql
open Re LexSpec

theorem longestFrom_cons (r : Re) (c : UInt8) (rest : Bytes) (n : Nat) (best : Option Nat) :
    longestFrom r (c :: rest) n best =
      if r.deriv c = empty then (if r.nullable then some n else best)
      else longestFrom (r.deriv c) rest (n + 1) (if r.nullable then some n else best) := rfl

theorem longestFrom_nil (r : Re) (n : Nat) (best : Option Nat) :
    longestFrom r [] n best = if r.nullable then some n else best := rfl

theorem longestFrom_eps (s : Bytes) (n : Nat) (best : Option Nat) :
    longestFrom eps s n best = some n := by
  cases s <;> simp [longestFrom_cons, longestFrom_nil, deriv, nullable]

theorem longest_none_of_deriv (r : Re) (c : UInt8) (rest : Bytes) (hn : r.nullable = false)
    (hd : r.deriv c = empty) : r.longest (c :: rest) = none := by
  simp [longest, longestFrom_cons, hn, hd]

theorem longest_cons_of_deriv (r : Re) (c : UInt8) (rest : Bytes) (hn : r.nullable = false)
    (d : Re) (hd : r.deriv c = d) (hne : d ≠ empty) :
    r.longest (c :: rest) = longestFrom d rest 1 none := by
  simp [longest, longestFrom_cons, hn, hd, hne]

/-- The language of a regular expression.  Only soundness of the matcher is used (`longest_matches`): the
    shape of a token's text is read off the regular expression of its rule (`matches_decimal`, `matches_hex`,
    `matches_ident`), not off the scanner's loops, and a match holds no byte outside the classes of its
    regular expression (`longest_stop`). -/
inductive Re.Matches : Re → Bytes → Prop
  | eps : Matches eps []
  | cls {k : ByteClass} {c : UInt8} : k.mem c = true → Matches (cls k) [c]
  | seq {a b : Re} {x y : Bytes} : Matches a x → Matches b y → Matches (seq a b) (x ++ y)
  | altL {a b : Re} {x : Bytes} : Matches a x → Matches (alt a b) x
  | altR {a b : Re} {x : Bytes} : Matches b x → Matches (alt a b) x
  | starNil {a : Re} : Matches (star a) []
  | starCons {a : Re} {x y : Bytes} : Matches a x → Matches (star a) y → Matches (star a) (x ++ y)

theorem Re.Matches.of_nullable : ∀ {r : Re}, r.nullable = true → Matches r []
  | .eps, _ => .eps
  | .seq _ _, h =>
    have h := Bool.and_eq_true_iff.mp h
    .seq (of_nullable h.1) (of_nullable h.2)
  | .alt _ _, h => (Bool.or_eq_true_iff.mp h).elim (fun h => .altL (of_nullable h)) fun h => .altR (of_nullable h)
  | .star _, _ => .starNil

theorem Re.Matches.of_mkSeq {a b : Re} {t : Bytes} (h : Matches (mkSeq a b) t) : Matches (Re.seq a b) t := by
  unfold mkSeq at h
  split at h
  · cases h
  · cases h
  · exact .seq .eps h
  · simpa using Matches.seq h .eps
  · exact h

theorem Re.Matches.of_mkAlt {a b : Re} {t : Bytes} (h : Matches (mkAlt a b) t) : Matches (alt a b) t := by
  unfold mkAlt at h
  split at h
  · exact .altR h
  · exact .altL h
  · split at h
    · exact .altL h
    · exact h

theorem Re.Matches.seq_deriv {a b d : Re} {c : UInt8} {t : Bytes} (ih : ∀ {t}, Matches d t → Matches a (c :: t))
    (h : Matches (mkSeq d b) t) : Matches (Re.seq a b) (c :: t) := by
  cases Matches.of_mkSeq h with
  | seq hx hy => exact .seq (ih hx) hy

theorem Re.Matches.of_deriv {r : Re} {c : UInt8} {t : Bytes} (h : Matches (r.deriv c) t) : Matches r (c :: t) := by
  induction r generalizing t with
  | empty => cases h
  | eps => cases h
  | cls k =>
    simp only [deriv] at h
    split at h
    · cases h; exact .cls ‹_›
    · cases h
  | seq a b iha ihb =>
    simp only [deriv] at h
    split at h
    · cases Matches.of_mkAlt h with
      | altL h => exact Matches.seq_deriv iha h
      | altR h => exact .seq (Matches.of_nullable ‹_›) (ihb h)
    · exact Matches.seq_deriv iha h
  | alt a b iha ihb =>
    cases Matches.of_mkAlt h with
    | altL h => exact .altL (iha h)
    | altR h => exact .altR (ihb h)
  | star a iha =>
    cases Matches.of_mkSeq h with
    | seq hx hy => exact .starCons (iha hx) hy

theorem longestFrom_cases (r : Re) (s : Bytes) (n : Nat) (best : Option Nat) :
    longestFrom r s n best = best ∨
      ∃ w, n ≤ w ∧ w ≤ n + s.length ∧ r.Matches (s.take (w - n)) ∧ longestFrom r s n best = some w := by
  induction s generalizing r n best with
  | nil =>
    rw [longestFrom_nil]
    split
    · exact .inr ⟨n, Nat.le_refl _, Nat.le_add_right _ _, by simpa using Matches.of_nullable ‹_›, rfl⟩
    · exact .inl rfl
  | cons c rest ih =>
    rw [longestFrom_cons]
    have hb : (if r.nullable then some n else best) = best ∨
        ∃ w, n ≤ w ∧ w ≤ n + (c :: rest).length ∧ r.Matches ((c :: rest).take (w - n)) ∧
          (if r.nullable then some n else best) = some w := by
      split
      · exact .inr ⟨n, Nat.le_refl _, Nat.le_add_right _ _, by simpa using Matches.of_nullable ‹_›, rfl⟩
      · exact .inl rfl
    split
    · exact hb
    · rcases ih (r.deriv c) (n + 1) (if r.nullable then some n else best) with h | ⟨w, h1, h2, hm, h3⟩
      · rw [h]; exact hb
      · refine .inr ⟨w, by omega, by simp only [List.length_cons]; omega, ?_, h3⟩
        rw [show w - n = (w - (n + 1)) + 1 by omega]
        exact hm.of_deriv

theorem longest_le (r : Re) (s : Bytes) (w : Nat) (h : r.longest s = some w) : w ≤ s.length := by
  rcases longestFrom_cases r s 0 none with h' | ⟨w', _, h2, _, h3⟩
  · rw [longest, h'] at h; cases h
  · rw [longest, h3] at h; cases h; omega

theorem longest_matches {r : Re} {s : Bytes} {w : Nat} (h : r.longest s = some w) : r.Matches (s.take w) := by
  rcases longestFrom_cases r s 0 none with h' | ⟨w', _, _, hm, h3⟩
  · rw [longest, h'] at h; cases h
  · rw [longest, h3] at h; cases h; exact hm

theorem longestFrom_append (r : Re) (x y : Bytes) (n : Nat) (best : Option Nat)
    (h : ∀ w, longestFrom r (x ++ y) n best = some w → w ≤ n + x.length) :
    longestFrom r x n best = longestFrom r (x ++ y) n best := by
  induction x generalizing r n best with
  | nil =>
    rw [longestFrom_nil, List.nil_append] at *
    cases y with
    | nil => rfl
    | cons c rest =>
      rw [longestFrom_cons] at h ⊢
      generalize (if r.nullable then some n else best) = b at h ⊢
      by_cases hd : r.deriv c = empty
      · rw [if_pos hd]
      · rw [if_neg hd] at h ⊢
        rcases longestFrom_cases (r.deriv c) rest (n + 1) b with h' | ⟨w, h1, _, _, h3⟩
        · rw [h']
        · have := h w h3
          simp at this; omega
  | cons c x ih =>
    rw [List.cons_append, longestFrom_cons] at h
    rw [List.cons_append, longestFrom_cons, longestFrom_cons]
    by_cases hd : r.deriv c = empty
    · rw [if_pos hd, if_pos hd]
    · rw [if_neg hd] at h
      rw [if_neg hd, if_neg hd]
      exact ih _ _ _ fun w hw => by have := h w hw; simp only [List.length_cons] at this; omega

theorem longest_append (r : Re) (x y : Bytes)
    (h : ∀ w, r.longest (x ++ y) = some w → w ≤ x.length) : r.longest x = r.longest (x ++ y) :=
  longestFrom_append r x y 0 none (by simpa [longest] using h)

def Re.avoids (b : UInt8) : Re → Bool
  | empty => true
  | eps => true
  | cls k => !k.mem b
  | seq a c => avoids b a && avoids b c
  | alt a c => avoids b a && avoids b c
  | star a => avoids b a

theorem Re.Matches.not_mem_of_avoids {b : UInt8} {r : Re} {t : Bytes} (h : Matches r t)
    (ha : avoids b r = true) : b ∉ t := by
  induction h with
  | eps | starNil => exact List.not_mem_nil
  | cls hc =>
    intro hb
    obtain rfl := List.mem_singleton.mp hb
    simp [avoids, hc] at ha
  | seq _ _ ih1 ih2 =>
    simp only [avoids, Bool.and_eq_true] at ha
    simp [ih1 ha.1, ih2 ha.2]
  | altL _ ih => exact ih (Bool.and_eq_true_iff.mp ha).1
  | altR _ ih => exact ih (Bool.and_eq_true_iff.mp ha).2
  | starCons _ _ ih1 ih2 => simp [ih1 ha, ih2 ha]

/-- **A byte outside the alphabet of `r` ends every match before it**: a longest match that ran past it would
    hold it, so the match ends inside `x` and is found there. -/
theorem longest_stop (b : UInt8) (r : Re) (h : avoids b r = true) (x y : Bytes) :
    r.longest (x ++ b :: y) = r.longest x := by
  refine (longest_append r x (b :: y) fun w hw => Nat.le_of_not_lt fun hlt => ?_).symm
  refine (longest_matches hw).not_mem_of_avoids h ?_
  obtain ⟨k, rfl⟩ : ∃ k, w = x.length + (k + 1) := ⟨w - x.length - 1, by omega⟩
  simp [List.take_append]

theorem rangeEq (a x : Nat) : (decide (a ≤ x) && decide (x ≤ a)) = decide (x = a) := by
  by_cases h : x = a
  · subst h; simp
  · have : ¬ (a ≤ x ∧ x ≤ a) := by omega
    simpa [h] using this

theorem ByteClass.mem_nil (neg : Bool) (c : UInt8) : ByteClass.mem ⟨[], neg⟩ c = neg := by
  simp [ByteClass.mem]

theorem ByteClass.mem_cons_byte (a : Nat) (rs : List (Nat × Nat)) (neg : Bool) (c : UInt8) :
    ByteClass.mem ⟨(a, a) :: rs, neg⟩ c =
      ((decide (c.toNat = a) || ByteClass.mem ⟨rs, false⟩ c) != neg) := by
  simp only [ByteClass.mem, List.any_cons, rangeEq]
  cases decide (c.toNat = a) <;> simp

theorem mem_D (c : UInt8) : ByteClass.mem ⟨[(48, 57)], false⟩ c = isDigit c := by
  simp [ByteClass.mem, isDigit_iff]

theorem mem_H (c : UInt8) :
    ByteClass.mem ⟨[(48, 57), (97, 102), (65, 70)], false⟩ c = isHexDigit c := by
  simp [ByteClass.mem, isHexDigit_iff, Bool.or_assoc]

theorem isIdentStart_iff (c : UInt8) :
    isIdentStart c = ((decide (97 ≤ c.toNat) && decide (c.toNat ≤ 122)) ||
      (decide (65 ≤ c.toNat) && decide (c.toNat ≤ 90)) || decide (c.toNat = 95) ||
      decide (c.toNat = 36)) := by
  simp [isIdentStart, isAlpha, inRanges, Facts.isAlphaRanges, beq_iff_toNat]

theorem isIdentCont_iff (c : UInt8) :
    isIdentCont c = ((decide (97 ≤ c.toNat) && decide (c.toNat ≤ 122)) ||
      (decide (65 ≤ c.toNat) && decide (c.toNat ≤ 90)) ||
      (decide (48 ≤ c.toNat) && decide (c.toNat ≤ 57)) || decide (c.toNat = 95)) := by
  simp [isIdentCont, isAlpha, isDigit, inRanges, Facts.isAlphaRanges, Facts.isDigitRanges,
    beq_iff_toNat]

theorem mem_identStart (c : UInt8) :
    ByteClass.mem ⟨[(97, 122), (65, 90), (95, 95), (36, 36)], false⟩ c = isIdentStart c := by
  rw [isIdentStart_iff]
  simp only [ByteClass.mem, List.any_cons, List.any_nil, Bool.or_false, rangeEq]
  simp [Bool.or_assoc]

theorem mem_identCont (c : UInt8) :
    ByteClass.mem ⟨[(97, 122), (65, 90), (48, 57), (95, 95)], false⟩ c = isIdentCont c := by
  rw [isIdentCont_iff]
  simp only [ByteClass.mem, List.any_cons, List.any_nil, Bool.or_false, rangeEq]
  simp [Bool.or_assoc]

/- Derivatives of concrete regular expressions are computed by `simp` from the definitions of the
   matcher, the notation helpers and the memberships above. -/
attribute [local simp] deriv nullable mkSeq mkAlt byte range ranges oneOf noneOf opt plus seqs
  ByteClass.mem_nil ByteClass.mem_cons_byte mem_D mem_H mem_identStart mem_identCont

/-- `r` is a one-byte class, that of the bytes with `p`, and the model's loop `len` counts the leading bytes with `p`:
    so `star r` and `plus r` match what `len` counts (`longestFrom_star`, `longestFrom_plus`) -/
structure Counts (r : Re) (p : UInt8 → Bool) (len : Bytes → Nat) : Prop where
  nullable : r.nullable = false
  deriv : ∀ c, r.deriv c = if p c then eps else empty
  nil : len [] = 0
  cons : ∀ c s, len (c :: s) = if p c then len s + 1 else 0

theorem counts_identCont : Counts identCont isIdentCont identLoop :=
  ⟨rfl, fun c => by simp [identCont], rfl, fun _ _ => rfl⟩

theorem counts_H : Counts H isHexDigit hexDigitsLen :=
  ⟨rfl, fun c => by simp [H], rfl, fun _ _ => rfl⟩

theorem counts_D : Counts D isDigit digitsLen :=
  ⟨rfl, fun c => by simp [D], rfl, fun _ _ => rfl⟩

section
variable {r : Re} {p : UInt8 → Bool} {len : Bytes → Nat} (h : Counts r p len)
include h

theorem longestFrom_star (s : Bytes) (n : Nat) (best : Option Nat) :
    longestFrom (star r) s n best = some (n + len s) := by
  induction s generalizing n best with
  | nil => simp [longestFrom_nil, h.nil]
  | cons c rest ih =>
    rw [longestFrom_cons, h.cons]
    by_cases hc : p c = true
    · have hd : (star r).deriv c = star r := by simp [h.deriv, hc]
      rw [hd, ih]
      simp [hc]; omega
    · have hd : (star r).deriv c = empty := by simp [h.deriv, hc]
      rw [hd]
      simp [hc]

theorem longestFrom_plus (s : Bytes) (n : Nat) (best : Option Nat) :
    longestFrom (plus r) s n best = if len s = 0 then best else some (n + len s) := by
  cases s with
  | nil => simp [longestFrom_nil, h.nullable, h.nil]
  | cons c rest =>
    rw [longestFrom_cons, h.cons]
    by_cases hc : p c = true
    · have hd : (plus r).deriv c = star r := by simp [h.nullable, h.deriv, hc]
      rw [hd, longestFrom_star h]
      simp [hc]; omega
    · have hd : (plus r).deriv c = empty := by simp [h.nullable, h.deriv, hc]
      rw [hd]
      simp [h.nullable, hc]

end

theorem reIdent_longest (c : UInt8) (rest : Bytes) :
    reIdent.longest (c :: rest) = if isIdentStart c then some (identLoop rest + 1) else none := by
  by_cases h : isIdentStart c = true
  · have hd : reIdent.deriv c = star identCont := by simp [reIdent, identStart, h]
    rw [longest_cons_of_deriv reIdent c rest (by decide) _ hd (by simp),
      longestFrom_star counts_identCont]
    simp [h, Nat.add_comm]
  · have hd : reIdent.deriv c = empty := by simp [reIdent, identStart, h]
    rw [longest_none_of_deriv reIdent c rest (by decide) hd]
    simp [h]

def commentTail : Re := seq (star (noneOf [10])) (opt (byte 10))

theorem commentTail_deriv (c : UInt8) :
    commentTail.deriv c = if c == 10 then eps else commentTail := by
  simp only [beq_iff_toNat, decide_eq_true_eq, UInt8.reduceToNat]
  split <;> simp [commentTail, *]

theorem longestFrom_commentTail (s : Bytes) (n : Nat) (best : Option Nat) :
    longestFrom commentTail s n best = some (n + commentLen s) := by
  induction s generalizing n best with
  | nil => simp [longestFrom_nil, commentTail, commentLen]
  | cons c rest ih =>
    rw [longestFrom_cons, commentTail_deriv]
    by_cases h : (c == 10) = true
    · simp [h, longestFrom_eps, commentLen]
    · rw [if_neg h, ih]
      simp [commentTail, commentLen, h]; omega

theorem reComment_longest_none (c : UInt8) (rest : Bytes) (h : c.toNat ≠ 47) :
    reComment.longest (c :: rest) = none := by
  apply longest_none_of_deriv _ _ _ (by decide)
  simp [reComment, h]

theorem reComment_longest_slash (c : UInt8) (rest : Bytes) (h : c.toNat = 47) :
    reComment.longest (c :: rest) =
      match rest with
      | [] => none
      | d :: r => if d.toNat = 47 then some (commentLen r + 2) else none := by
  have hd : reComment.deriv c = seq (byte 47) commentTail := by simp [reComment, h, commentTail]
  rw [longest_cons_of_deriv reComment c rest (by decide) _ hd (by simp)]
  cases rest with
  | nil => simp [longestFrom_nil]
  | cons d r =>
    rw [longestFrom_cons]
    by_cases h2 : d.toNat = 47
    · have hd2 : (seq (byte 47) commentTail).deriv d = commentTail := by simp [h2, commentTail]
      rw [hd2, longestFrom_commentTail]
      simp [commentTail, h2]; omega
    · have hd2 : (seq (byte 47) commentTail).deriv d = empty := by simp [h2, commentTail]
      rw [hd2]
      simp [h2]

theorem reComment_longest_some {c : UInt8} {rest : Bytes} {w : Nat}
    (h : reComment.longest (c :: rest) = some w) :
    c = 47 ∧ ∃ t, rest = 47 :: t ∧ w = commentLen t + 2 := by
  by_cases hc : c.toNat = 47
  · rw [reComment_longest_slash c rest hc] at h
    cases rest with
    | nil => cases h
    | cons d t =>
      by_cases hd : d.toNat = 47
      · obtain rfl : d = 47 := UInt8.toNat_inj.mp hd
        exact ⟨UInt8.toNat_inj.mp hc, t, rfl, (Option.some.inj ((if_pos hd).symm.trans h)).symm⟩
      · exact absurd ((if_neg hd).symm.trans h) nofun
  · rw [reComment_longest_none c rest hc] at h; cases h

theorem reHex_none_of_first (c : UInt8) (rest : Bytes) (h : c.toNat ≠ 48) :
    reHex.longest (c :: rest) = none := by
  apply longest_none_of_deriv _ _ _ (by decide)
  simp [reHex, h]

theorem reHexPrefix_none_of_first (c : UInt8) (rest : Bytes) (h : c.toNat ≠ 48) :
    reHexPrefix.longest (c :: rest) = none := by
  apply longest_none_of_deriv _ _ _ (by decide)
  simp [reHexPrefix, h]

theorem reHex_zero (c : UInt8) (rest : Bytes) (h : c.toNat = 48) :
    reHex.longest (c :: rest) =
      match rest with
      | [] => none
      | x :: r =>
        if x.toNat = 120 ∨ x.toNat = 88 then
          (if hexDigitsLen r = 0 then none else some (hexDigitsLen r + 2))
        else none := by
  have hd : reHex.deriv c = seq (oneOf [120, 88]) (plus H) := by simp [reHex, h]
  rw [longest_cons_of_deriv reHex c rest (by decide) _ hd (by simp)]
  cases rest with
  | nil => simp [longestFrom_nil]
  | cons x r =>
    rw [longestFrom_cons]
    by_cases h2 : x.toNat = 120 ∨ x.toNat = 88
    · have hd2 : (seq (oneOf [120, 88]) (plus H)).deriv x = plus H := by simp [h2]
      have hne : plus H ≠ empty := by simp
      rw [hd2, if_neg hne, longestFrom_plus counts_H]
      simp [h2, Nat.add_comm]
    · have hd2 : (seq (oneOf [120, 88]) (plus H)).deriv x = empty := by simp [h2]
      rw [hd2]
      simp [h2]

theorem reHexPrefix_zero (c : UInt8) (rest : Bytes) (h : c.toNat = 48) :
    reHexPrefix.longest (c :: rest) =
      match rest with
      | [] => none
      | x :: _ => if x.toNat = 120 ∨ x.toNat = 88 then some 2 else none := by
  have hd : reHexPrefix.deriv c = oneOf [120, 88] := by simp [reHexPrefix, h]
  rw [longest_cons_of_deriv reHexPrefix c rest (by decide) _ hd (by simp)]
  cases rest with
  | nil => simp [longestFrom_nil]
  | cons x r =>
    rw [longestFrom_cons]
    by_cases h2 : x.toNat = 120 ∨ x.toNat = 88
    · have hd2 : (oneOf [120, 88]).deriv x = eps := by simp [h2]
      rw [hd2, longestFrom_eps]
      simp [h2]
    · have hd2 : (oneOf [120, 88]).deriv x = empty := by simp [h2]
      rw [hd2]
      simp [h2]

theorem reHexPrefix_longest_some {c : UInt8} {rest : Bytes} {w : Nat}
    (h : reHexPrefix.longest (c :: rest) = some w) : w = 2 := by
  by_cases h48 : c.toNat = 48
  · rw [reHexPrefix_zero c rest h48] at h
    cases rest with
    | nil => cases h
    | cons d t =>
      by_cases hd : d.toNat = 120 ∨ d.toNat = 88
      · exact (Option.some.inj ((if_pos hd).symm.trans h)).symm
      · exact absurd ((if_neg hd).symm.trans h) nofun
  · rw [reHexPrefix_none_of_first c rest h48] at h; cases h

/- The states of `reDecimal` behind its first byte: `dS1` in the integer part (digits, a fraction, an exponent may follow),
   `dS2` behind a leading dot (a digit must follow), `dS3` in the fraction, `dS4` behind `e`/`E` (an optional sign, then
   digits must follow); `dF` and `dX` are the optional fraction and the optional exponent. -/
def dX : Re := opt reExp
def dF : Re := opt (seq (byte 46) (star D))
def dS1 : Re := seq (star D) (seq dF dX)
def dS2 : Re := seq (plus D) dX
def dS3 : Re := seq (star D) dX
def dS4 : Re := seq (opt (oneOf [43, 45])) (plus D)

theorem isDigit_not_sign (c : UInt8) (h : c.toNat = 43 ∨ c.toNat = 45) : isDigit c = false := by
  rw [isDigit_iff]; rcases h with h | h <;> simp [h]

theorem isDigit_not_e (c : UInt8) (h : c.toNat = 101 ∨ c.toNat = 69) : isDigit c = false := by
  rw [isDigit_iff]; rcases h with h | h <;> simp [h]

theorem isDigit_not_dot (c : UInt8) (h : c.toNat = 46) : isDigit c = false := by
  rw [isDigit_iff]; simp [h]

/-- after `e`/`E` (at offset `n`, the state before it being nullable) the exponent automaton
    finds exactly what `exponentLen` measures -/
theorem longestFrom_dS4 (e : UInt8) (he : e.toNat = 101 ∨ e.toNat = 69) (s : Bytes) (n : Nat) :
    longestFrom dS4 s (n + 1) (some n) = some (n + exponentLen (e :: s)) := by
  have hee : (e == 101 || e == 69) = true := by
    simp only [beq_iff_toNat]; rcases he with h | h <;> simp [h]
  have hnull : dS4.nullable = false := by decide
  cases s with
  | nil => simp [longestFrom_nil, hnull, exponentLen]
  | cons c rest =>
    rw [longestFrom_cons, hnull]
    simp only [Bool.false_eq_true, if_false]
    by_cases hs : c.toNat = 43 ∨ c.toNat = 45
    · have hd : dS4.deriv c = plus D := by simp [dS4, D, hs, isDigit_not_sign c hs]
      have hne : plus D ≠ empty := by simp
      have hcs : (c == 43 || c == 45) = true := by
        simp only [beq_iff_toNat]; rcases hs with h | h <;> simp [h]
      rw [hd, if_neg hne, longestFrom_plus counts_D]
      cases rest with
      | nil => simp [exponentLen, hee, hcs, digitsLen]
      | cons d r =>
        by_cases hdg : isDigit d = true
        · simp [exponentLen, hee, hcs, hdg, digitsLen]; omega
        · simp [exponentLen, hee, hcs, hdg, digitsLen]
    · have hcs : (c == 43 || c == 45) = false := by
        simp only [beq_iff_toNat]; simpa using hs
      by_cases hdg : isDigit c = true
      · have hd : dS4.deriv c = star D := by simp [dS4, D, hs, hdg]
        rw [hd, longestFrom_star counts_D]
        simp [exponentLen, hee, hcs, hdg]; omega
      · have hd : dS4.deriv c = empty := by simp [dS4, D, hs, hdg]
        rw [hd]
        simp [exponentLen, hee, hcs, hdg]

theorem exponentLen_of_not_e (c : UInt8) (rest : Bytes) (h : ¬ (c.toNat = 101 ∨ c.toNat = 69)) :
    exponentLen (c :: rest) = 0 := by
  have hee : (c == 101 || c == 69) = false := by
    simp only [beq_iff_toNat]; simpa using h
  cases rest <;> simp [exponentLen, hee]

theorem dS3_deriv_digit (c : UInt8) (h : isDigit c = true) : dS3.deriv c = dS3 := by
  have h1 : ¬ (c.toNat = 101 ∨ c.toNat = 69) := by
    intro h'; rw [isDigit_not_e c h'] at h; cases h
  simp [dS3, dX, reExp, D, h, h1]

theorem dS3_deriv_e (c : UInt8) (h : c.toNat = 101 ∨ c.toNat = 69) : dS3.deriv c = dS4 := by
  simp [dS3, dS4, dX, reExp, D, h, isDigit_not_e c h]

theorem dS3_deriv_other (c : UInt8) (h : isDigit c = false) (h1 : ¬ (c.toNat = 101 ∨ c.toNat = 69)) :
    dS3.deriv c = empty := by
  simp [dS3, dX, reExp, D, h, h1]

theorem dS4_ne_empty : dS4 ≠ empty := by simp [dS4]
theorem dS3_ne_empty : dS3 ≠ empty := by simp [dS3]
theorem dS3_nullable : dS3.nullable = true := by decide

theorem longestFrom_dS3 (s : Bytes) (n : Nat) (best : Option Nat) :
    longestFrom dS3 s n best =
      some (n + digitsLen s + exponentLen (s.drop (digitsLen s))) := by
  induction s generalizing n best with
  | nil => simp [longestFrom_nil, dS3_nullable, digitsLen, exponentLen]
  | cons c rest ih =>
    rw [longestFrom_cons, dS3_nullable]
    simp only [if_true]
    by_cases hdg : isDigit c = true
    · rw [dS3_deriv_digit c hdg, if_neg dS3_ne_empty, ih]
      simp [digitsLen, hdg]; omega
    · have hdg' : isDigit c = false := by simpa using hdg
      by_cases he : c.toNat = 101 ∨ c.toNat = 69
      · rw [dS3_deriv_e c he, if_neg dS4_ne_empty, longestFrom_dS4 c he]
        simp [digitsLen, hdg']
      · rw [dS3_deriv_other c hdg' he]
        simp [digitsLen, hdg', exponentLen_of_not_e c rest he]

theorem dS1_nullable : dS1.nullable = true := by decide
theorem dS1_ne_empty : dS1 ≠ empty := by simp [dS1]

theorem dS1_deriv_digit (c : UInt8) (h : isDigit c = true) : dS1.deriv c = dS1 := by
  have h1 : ¬ (c.toNat = 101 ∨ c.toNat = 69) := by
    intro h'; rw [isDigit_not_e c h'] at h; cases h
  have h2 : ¬ c.toNat = 46 := by
    intro h'; rw [isDigit_not_dot c h'] at h; cases h
  simp [dS1, dF, dX, reExp, D, h, h1, h2]

theorem dS1_deriv_dot (c : UInt8) (h : c.toNat = 46) : dS1.deriv c = dS3 := by
  have h1 : ¬ (c.toNat = 101 ∨ c.toNat = 69) := by omega
  simp [dS1, dS3, dF, dX, reExp, D, h, h1, isDigit_not_dot c h]

theorem dS1_deriv_e (c : UInt8) (h : c.toNat = 101 ∨ c.toNat = 69) : dS1.deriv c = dS4 := by
  have h2 : ¬ c.toNat = 46 := by omega
  simp [dS1, dS4, dF, dX, reExp, D, h, h2, isDigit_not_e c h]

theorem dS1_deriv_other (c : UInt8) (h : isDigit c = false) (h1 : ¬ (c.toNat = 101 ∨ c.toNat = 69))
    (h2 : ¬ c.toNat = 46) : dS1.deriv c = empty := by
  simp [dS1, dF, dX, reExp, D, h, h1, h2]

theorem longestFrom_dS1 (s : Bytes) (n : Nat) (best : Option Nat) :
    longestFrom dS1 s n best =
      some (n + mantissaLoop false s + exponentLen (s.drop (mantissaLoop false s))) := by
  induction s generalizing n best with
  | nil => simp [longestFrom_nil, dS1_nullable, mantissaLoop, exponentLen]
  | cons c rest ih =>
    rw [longestFrom_cons, dS1_nullable]
    simp only [if_true]
    by_cases hdot : c.toNat = 46
    · have hc : (c == 46) = true := by simp [beq_iff_toNat, hdot]
      rw [dS1_deriv_dot c hdot, if_neg dS3_ne_empty, longestFrom_dS3]
      simp [mantissaLoop, hc, mantissaLoop_true]; omega
    · have hc : (c == 46) = false := by simp [beq_iff_toNat, hdot]
      by_cases hdg : isDigit c = true
      · rw [dS1_deriv_digit c hdg, if_neg dS1_ne_empty, ih]
        simp [mantissaLoop, hc, hdg]; omega
      · have hdg' : isDigit c = false := by simpa using hdg
        by_cases he : c.toNat = 101 ∨ c.toNat = 69
        · rw [dS1_deriv_e c he, if_neg dS4_ne_empty, longestFrom_dS4 c he]
          simp [mantissaLoop, hc, hdg']
        · rw [dS1_deriv_other c hdg' he hdot]
          simp [mantissaLoop, hc, hdg', exponentLen_of_not_e c rest he]

theorem reDecimal_digit (c : UInt8) (rest : Bytes) (h : isDigit c = true) :
    reDecimal.longest (c :: rest) =
      some (1 + mantissaLoop false rest + exponentLen (rest.drop (mantissaLoop false rest))) := by
  have h2 : ¬ c.toNat = 46 := by
    intro h'; rw [isDigit_not_dot c h'] at h; cases h
  have hd : reDecimal.deriv c = dS1 := by simp [reDecimal, dS1, dF, dX, D, h, h2]
  rw [longest_cons_of_deriv reDecimal c rest (by decide) _ hd dS1_ne_empty, longestFrom_dS1]

theorem reDecimal_dot (c : UInt8) (rest : Bytes) (h : c.toNat = 46) :
    reDecimal.longest (c :: rest) =
      match rest with
      | [] => none
      | d :: r =>
        if isDigit d then some (2 + digitsLen r + exponentLen (r.drop (digitsLen r))) else none := by
  have hd : reDecimal.deriv c = dS2 := by simp [reDecimal, dS2, dX, D, h, isDigit_not_dot c h]
  have hne : dS2 ≠ empty := by simp [dS2]
  have hnull : dS2.nullable = false := by decide
  rw [longest_cons_of_deriv reDecimal c rest (by decide) _ hd hne]
  cases rest with
  | nil => simp [longestFrom_nil, hnull]
  | cons d r =>
    rw [longestFrom_cons, hnull]
    simp only [Bool.false_eq_true, if_false]
    by_cases hdg : isDigit d = true
    · have hd2 : dS2.deriv d = dS3 := by simp [dS2, dS3, dX, D, hdg]
      rw [hd2, if_neg dS3_ne_empty, longestFrom_dS3]
      simp [hdg]
    · have hd2 : dS2.deriv d = empty := by simp [dS2, dX, D, hdg]
      rw [hd2]
      simp [hdg]

theorem reDecimal_none (c : UInt8) (rest : Bytes) (h : isDigit c = false) (h2 : ¬ c.toNat = 46) :
    reDecimal.longest (c :: rest) = none := by
  apply longest_none_of_deriv _ _ _ (by decide)
  simp [reDecimal, D, h, h2]

/- The states behind the opening quote `q`.  Of `reStringClosed`: `sC1` in the body, `sC2` behind a backslash (the escaped
   byte must follow).  Of `reStringOpen`: `sO1` in the body, `sO3` behind a backslash, which may also be the last byte of
   the match (`sO2` is `sO3` without that alternative). -/
def sC1 (q : Nat) : Re := seq (reStringBody q) (byte q)
def sC2 (q : Nat) : Re := seq (seq (noneOf [10]) (reStringBody q)) (byte q)
def sO1 (q : Nat) : Re := seq (reStringBody q) (opt (byte 92))
def sO2 (q : Nat) : Re := seq (seq (noneOf [10]) (reStringBody q)) (opt (byte 92))
def sO3 (q : Nat) : Re := alt (sO2 q) eps

/- The transitions follow the tests of `stringLoop`, in its order.  Of the quote byte they need only that it is
   neither the backslash nor the newline. -/
section
variable (qb : UInt8) (d : UInt8)

theorem sC1_deriv (hq : qb.toNat ≠ 92 ∧ qb.toNat ≠ 10) : (sC1 qb.toNat).deriv d =
    if d == qb then eps else if d == 10 then empty else if d == 92 then sC2 qb.toNat
    else sC1 qb.toNat := by
  simp only [beq_iff_toNat, decide_eq_true_eq, UInt8.reduceToNat]
  repeat' split
  all_goals simp [sC1, sC2, reStringBody, hq.1, hq.2, Ne.symm hq.1, Ne.symm hq.2, *]

theorem sC2_deriv : (sC2 qb.toNat).deriv d = if d == 10 then empty else sC1 qb.toNat := by
  simp only [beq_iff_toNat, decide_eq_true_eq, UInt8.reduceToNat]
  split
  all_goals simp [sC1, sC2, reStringBody, *]

theorem sO1_deriv (hq : qb.toNat ≠ 92 ∧ qb.toNat ≠ 10) : (sO1 qb.toNat).deriv d =
    if d == qb then empty else if d == 10 then empty else if d == 92 then sO3 qb.toNat
    else sO1 qb.toNat := by
  simp only [beq_iff_toNat, decide_eq_true_eq, UInt8.reduceToNat]
  repeat' split
  all_goals simp [sO1, sO2, sO3, reStringBody, hq.1, hq.2, Ne.symm hq.1, Ne.symm hq.2, *]

theorem sO3_deriv : (sO3 qb.toNat).deriv d = if d == 10 then empty else sO1 qb.toNat := by
  simp only [beq_iff_toNat, decide_eq_true_eq, UInt8.reduceToNat]
  split
  all_goals simp [sO1, sO2, sO3, reStringBody, *]

end

theorem sO1_deriv_q (q : Nat) (hq : q = 39 ∨ q = 34) (d : UInt8) (h1 : d.toNat = q) :
    (sO1 q).deriv d = empty := by
  rcases hq with rfl | rfl <;> simp [sO1, reStringBody, h1]

theorem sC1_nullable (q : Nat) : (sC1 q).nullable = false := by simp [sC1]
theorem sC2_nullable (q : Nat) : (sC2 q).nullable = false := by simp [sC2]
theorem sO1_nullable (q : Nat) : (sO1 q).nullable = true := by simp [sO1, reStringBody]
theorem sO3_nullable (q : Nat) : (sO3 q).nullable = true := by simp [sO3]
theorem sC1_ne (q : Nat) : sC1 q ≠ empty := by simp [sC1]
theorem sC2_ne (q : Nat) : sC2 q ≠ empty := by simp [sC2]
theorem sO1_ne (q : Nat) : sO1 q ≠ empty := by simp [sO1]
theorem sO3_ne (q : Nat) : sO3 q ≠ empty := by simp [sO3]

theorem unescape_cons_ne (c : UInt8) (rest : Bytes) (h : c ≠ 92) :
    unescape (c :: rest) = c :: unescape rest := by
  rw [unescape]; exact fun _ _ h' _ => h h'

theorem unescape_bs (e : UInt8) (rest : Bytes) :
    unescape (92 :: e :: rest) = (if e == 110 then 10 else if e == 116 then 9 else e) :: unescape rest := by
  rw [unescape]

theorem undouble_cons_ne (c : UInt8) (rest : Bytes) (h : c ≠ 96) :
    undouble (c :: rest) = c :: undouble rest := by
  rw [undouble]; exact fun _ h' _ => h h'

theorem undouble_qq (rest : Bytes) : undouble (96 :: 96 :: rest) = 96 :: undouble rest := by
  rw [undouble]

/-- **`stringLoop` against the grammar, in one induction**: a closed body is what the closed regex
    finds and its value is the unescaped body; a broken-off body is found by the open regex only. -/
theorem stringLoop_spec (qb : UInt8) (hq : qb.toNat ≠ 92 ∧ qb.toNat ≠ 10) (s : Bytes) :
    match stringLoop qb s with
    | .closed v w => (∀ n best, longestFrom (sC1 qb.toNat) s n best = some (n + w)) ∧
        1 ≤ w ∧ unescape (s.take (w - 1)) = v
    | .bad w => (∀ n best, longestFrom (sC1 qb.toNat) s n best = best) ∧
        (∀ n best, longestFrom (sO1 qb.toNat) s n best = some (n + w)) := by
  fun_induction stringLoop qb s with
  | case1 => exact ⟨fun n best => by simp [longestFrom_nil, sC1_nullable], fun n best => by simp [longestFrom_nil, sO1_nullable]⟩
  | case2 c rest h =>
    refine ⟨fun n best => ?_, Nat.le_refl 1, by simp [unescape]⟩
    rw [longestFrom_cons, sC1_deriv qb _ hq, if_pos h]
    simp [longestFrom_eps]
  | case3 c rest h1 h2 =>
    refine ⟨fun n best => ?_, fun n best => ?_⟩
    · rw [longestFrom_cons, sC1_deriv qb _ hq, if_neg h1, if_pos h2]; simp [sC1_nullable]
    · rw [longestFrom_cons, sO1_deriv qb _ hq, if_neg h1, if_pos h2]; simp [sO1_nullable]
  | case4 c h1 h2 h3 =>
    refine ⟨fun n best => ?_, fun n best => ?_⟩
    · rw [longestFrom_cons, sC1_deriv qb _ hq, if_neg h1, if_neg h2, if_pos h3, if_neg (sC2_ne _)]
      simp [longestFrom_nil, sC1_nullable, sC2_nullable]
    · rw [longestFrom_cons, sO1_deriv qb _ hq, if_neg h1, if_neg h2, if_pos h3, if_neg (sO3_ne _)]
      simp [longestFrom_nil, sO3_nullable]
  | case5 c h1 h2 h3 e rest' h4 =>
    refine ⟨fun n best => ?_, fun n best => ?_⟩
    · rw [longestFrom_cons, sC1_deriv qb _ hq, if_neg h1, if_neg h2, if_pos h3, if_neg (sC2_ne _),
        longestFrom_cons, sC2_deriv qb, if_pos h4]
      simp [sC1_nullable, sC2_nullable]
    · rw [longestFrom_cons, sO1_deriv qb _ hq, if_neg h1, if_neg h2, if_pos h3, if_neg (sO3_ne _),
        longestFrom_cons, sO3_deriv qb, if_pos h4]
      simp [sO3_nullable]
  | case6 c h1 h2 h3 e rest' h4 v ih =>
    have hc : c = 92 := by simpa using h3
    subst hc
    have stepC : ∀ n best, longestFrom (sC1 qb.toNat) (92 :: e :: rest') n best =
        longestFrom (sC1 qb.toNat) rest' (n + 1 + 1) best := fun n best => by
      rw [longestFrom_cons, sC1_deriv qb _ hq, if_neg h1, if_neg h2, if_pos h3, if_neg (sC2_ne _),
        longestFrom_cons, sC2_deriv qb, if_neg h4, if_neg (sC1_ne _)]
      simp [sC1_nullable, sC2_nullable]
    cases hr : stringLoop qb rest' with
    | closed v' w' =>
      rw [hr] at ih
      obtain ⟨i1, i2, i3⟩ := ih
      refine ⟨fun n best => by rw [stepC, i1]; congr 1; omega, by omega, ?_⟩
      rw [show w' + 2 - 1 = (w' - 1) + 2 by omega]
      simp [unescape_bs, i3, v]
    | bad w' =>
      rw [hr] at ih
      obtain ⟨i1, i2⟩ := ih
      refine ⟨fun n best => by rw [stepC, i1], fun n best => ?_⟩
      rw [longestFrom_cons, sO1_deriv qb _ hq, if_neg h1, if_neg h2, if_pos h3, if_neg (sO3_ne _),
        longestFrom_cons, sO3_deriv qb, if_neg h4, if_neg (sO1_ne _), i2]
      simp; omega
  | case7 c rest h1 h2 h3 ih =>
    have stepC : ∀ n best, longestFrom (sC1 qb.toNat) (c :: rest) n best =
        longestFrom (sC1 qb.toNat) rest (n + 1) best := fun n best => by
      rw [longestFrom_cons, sC1_deriv qb _ hq, if_neg h1, if_neg h2, if_neg h3, if_neg (sC1_ne _)]
      simp [sC1_nullable]
    cases hr : stringLoop qb rest with
    | closed v' w' =>
      rw [hr] at ih
      obtain ⟨i1, i2, i3⟩ := ih
      refine ⟨fun n best => by rw [stepC, i1]; congr 1; omega, by omega, ?_⟩
      rw [show w' + 1 - 1 = (w' - 1) + 1 by omega, List.take_succ_cons,
        unescape_cons_ne c _ (by simpa using h3), i3]
    | bad w' =>
      rw [hr] at ih
      obtain ⟨i1, i2⟩ := ih
      refine ⟨fun n best => by rw [stepC, i1], fun n best => ?_⟩
      rw [longestFrom_cons, sO1_deriv qb _ hq, if_neg h1, if_neg h2, if_neg h3, if_neg (sO1_ne _), i2]
      simp; omega

theorem reString_longest (qb : UInt8) (hq : qb.toNat ≠ 92 ∧ qb.toNat ≠ 10) (rest : Bytes) :
    match stringLoop qb rest with
    | .closed v w => (reStringClosed qb.toNat).longest (qb :: rest) = some (w + 1) ∧
        1 ≤ w ∧ unescape (rest.take (w - 1)) = v
    | .bad w => (reStringClosed qb.toNat).longest (qb :: rest) = none ∧
        (reStringOpen qb.toNat).longest (qb :: rest) = some (w + 1) := by
  have hc : (reStringClosed qb.toNat).longest (qb :: rest) = longestFrom (sC1 qb.toNat) rest 1 none :=
    longest_cons_of_deriv _ qb rest (by simp [reStringClosed]) _
      (by simp [reStringClosed, sC1]) (sC1_ne _)
  have ho : (reStringOpen qb.toNat).longest (qb :: rest) = longestFrom (sO1 qb.toNat) rest 1 none :=
    longest_cons_of_deriv _ qb rest (by simp [reStringOpen]) _
      (by simp [reStringOpen, sO1]) (sO1_ne _)
  have := stringLoop_spec qb hq rest
  split <;> rename_i hr <;> rw [hr] at this
  · exact ⟨by rw [hc, this.1, Nat.add_comm], this.2⟩
  · exact ⟨by rw [hc, this.1], by rw [ho, this.2, Nat.add_comm]⟩

/- The states behind the opening back-quote.  Of `reQidentClosed`: `qS0` in the body, `qS1` behind a back-quote, which
   closes the name (`eps`) or is the first of a doubled pair.  Of `reQidentOpen`, whose body is itself a state: `qT` behind a
   back-quote, which can only be the first of a pair. -/
def qS0 : Re := seq reQidentBody (byte 96)
def qS1 : Re := alt (seq (seq (byte 96) reQidentBody) (byte 96)) eps
def qT : Re := seq (byte 96) reQidentBody

/- The transitions follow the tests of `qidentLoop`, in its order. -/

theorem qS0_deriv (d : UInt8) :
    qS0.deriv d = if d == 96 then qS1 else if d == 10 then empty else qS0 := by
  simp only [beq_iff_toNat, decide_eq_true_eq, UInt8.reduceToNat]
  repeat' split
  all_goals simp [qS0, qS1, reQidentBody, *]

theorem qS1_deriv (d : UInt8) : qS1.deriv d = if d == 96 then qS0 else empty := by
  simp only [beq_iff_toNat, decide_eq_true_eq, UInt8.reduceToNat]
  split <;> simp [qS0, qS1, reQidentBody, *]

theorem qB_deriv (d : UInt8) :
    reQidentBody.deriv d = if d == 96 then qT else if d == 10 then empty else reQidentBody := by
  simp only [beq_iff_toNat, decide_eq_true_eq, UInt8.reduceToNat]
  repeat' split
  all_goals simp [qT, reQidentBody, *]

theorem qT_deriv (d : UInt8) : qT.deriv d = if d == 96 then reQidentBody else empty := by
  simp only [beq_iff_toNat, decide_eq_true_eq, UInt8.reduceToNat]
  split <;> simp [qT, reQidentBody, *]

theorem qS0_nullable : qS0.nullable = false := by decide
theorem qS1_nullable : qS1.nullable = true := by decide
theorem qB_nullable : reQidentBody.nullable = true := by decide
theorem qT_nullable : qT.nullable = false := by decide
theorem qS0_ne : qS0 ≠ empty := by simp [qS0]
theorem qS1_ne : qS1 ≠ empty := by simp [qS1]
theorem qB_ne : reQidentBody ≠ empty := by simp [reQidentBody]
theorem qT_ne : qT ≠ empty := by simp [qT]

/-- `qidentLoop` against the grammar.  The loop reads a back-quote behind a back-quote as a doubled one, always; the closed
    regular expression may also close the name at the first of the two.  So where the loop runs into the end (`.bad`), the
    closed rule finds nothing or a match with a back-quote behind it, which is the case `pieceAt` turns into the error token. -/
theorem qidentLoop_spec (s : Bytes) :
    match qidentLoop s with
    | .closed v w => (∀ n best, longestFrom qS0 s n best = some (n + w)) ∧
        (s.drop w).head? ≠ some 96 ∧ 1 ≤ w ∧ undouble (s.take (w - 1)) = v
    | .bad w => (∀ n best, longestFrom qS0 s n best = best ∨
          ∃ k, longestFrom qS0 s n best = some (n + k) ∧ (s.drop k).head? = some 96) ∧
        (∀ n best, longestFrom reQidentBody s n best = some (n + w)) := by
  fun_induction qidentLoop s with
  | case1 =>
    exact ⟨fun n best => .inl (by simp [longestFrom_nil, qS0_nullable]),
      fun n best => by simp [longestFrom_nil, qB_nullable]⟩
  | case2 c hc =>
    refine ⟨fun n best => ?_, by simp, Nat.le_refl 1, by simp [undouble]⟩
    rw [longestFrom_cons, qS0_deriv, if_pos hc, if_neg qS1_ne]
    simp [longestFrom_nil, qS1_nullable]
  | case3 c hc d rest' hd ih =>
    obtain rfl : c = 96 := by simpa using hc
    obtain rfl : d = 96 := by simpa using hd
    have stepC : ∀ n best, longestFrom qS0 (96 :: 96 :: rest') n best =
        longestFrom qS0 rest' (n + 1 + 1) (some (n + 1)) := fun n best => by
      rw [longestFrom_cons, qS0_deriv, if_pos hc, if_neg qS1_ne, longestFrom_cons, qS1_deriv,
        if_pos hd, if_neg qS0_ne]
      simp [qS0_nullable, qS1_nullable]
    cases hr : qidentLoop rest' with
    | closed v' w' =>
      rw [hr] at ih
      obtain ⟨i1, i2, i3, i4⟩ := ih
      refine ⟨fun n best => by rw [stepC, i1]; congr 1; omega, by simpa using i2, by omega, ?_⟩
      rw [show w' + 2 - 1 = (w' - 1) + 2 by omega]
      simp [undouble_qq, i4]
    | bad w' =>
      rw [hr] at ih
      obtain ⟨i1, i2⟩ := ih
      refine ⟨fun n best => ?_, fun n best => ?_⟩
      · rw [stepC]
        rcases i1 (n + 1 + 1) (some (n + 1)) with h1 | ⟨k, h1, h2⟩
        · exact .inr ⟨1, by rw [h1], by simp⟩
        · exact .inr ⟨k + 2, by rw [h1]; congr 1; omega, by simpa using h2⟩
      · rw [longestFrom_cons, qB_deriv, if_pos hc, if_neg qT_ne, longestFrom_cons, qT_deriv,
          if_pos hd, if_neg qB_ne, i2]
        simp; omega
  | case4 c hc d rest' hd =>
    refine ⟨fun n best => ?_, by simpa using hd, Nat.le_refl 1, by simp [undouble]⟩
    rw [longestFrom_cons, qS0_deriv, if_pos hc, if_neg qS1_ne, longestFrom_cons, qS1_deriv, if_neg hd]
    simp [qS1_nullable]
  | case5 c rest hc hn =>
    refine ⟨fun n best => .inl ?_, fun n best => ?_⟩
    · rw [longestFrom_cons, qS0_deriv, if_neg hc, if_pos hn]; simp [qS0_nullable]
    · rw [longestFrom_cons, qB_deriv, if_neg hc, if_pos hn]; simp [qB_nullable]
  | case6 c rest hc hn ih =>
    have stepC : ∀ n best, longestFrom qS0 (c :: rest) n best = longestFrom qS0 rest (n + 1) best :=
      fun n best => by
        rw [longestFrom_cons, qS0_deriv, if_neg hc, if_neg hn, if_neg qS0_ne]; simp [qS0_nullable]
    cases hr : qidentLoop rest with
    | closed v' w' =>
      rw [hr] at ih
      obtain ⟨i1, i2, i3, i4⟩ := ih
      refine ⟨fun n best => by rw [stepC, i1]; congr 1; omega, by simpa using i2, by omega, ?_⟩
      rw [show w' + 1 - 1 = (w' - 1) + 1 by omega, List.take_succ_cons,
        undouble_cons_ne c _ (by simpa using hc), i4]
    | bad w' =>
      rw [hr] at ih
      obtain ⟨i1, i2⟩ := ih
      refine ⟨fun n best => ?_, fun n best => ?_⟩
      · rw [stepC]
        rcases i1 (n + 1) best with h1 | ⟨k, h1, h2⟩
        · exact .inl h1
        · exact .inr ⟨k + 1, by rw [h1]; congr 1; omega, by simpa using h2⟩
      · rw [longestFrom_cons, qB_deriv, if_neg hc, if_neg hn, if_neg qB_ne, i2]
        simp; omega

theorem reQidentClosed_longest (c : UInt8) (h : c.toNat = 96) (rest : Bytes) :
    reQidentClosed.longest (c :: rest) = longestFrom qS0 rest 1 none :=
  longest_cons_of_deriv _ c rest (by decide) _ (by simp [reQidentClosed, qS0, h]) qS0_ne

theorem reQidentOpen_longest (c : UInt8) (h : c.toNat = 96) (rest : Bytes) :
    reQidentOpen.longest (c :: rest) = longestFrom reQidentBody rest 1 none :=
  longest_cons_of_deriv _ c rest (by decide) _ (by simp [reQidentOpen, reQidentBody, h]) qB_ne

theorem matches_eps {t : Bytes} : Matches eps t ↔ t = [] :=
  ⟨fun h => by cases h; rfl, fun h => h ▸ .eps⟩

theorem matches_cls {k : ByteClass} {t : Bytes} : Matches (cls k) t ↔ ∃ c, t = [c] ∧ k.mem c = true :=
  ⟨fun h => by cases h; exact ⟨_, rfl, ‹_›⟩, fun ⟨_, h, hc⟩ => h ▸ .cls hc⟩

theorem matches_seq {a b : Re} {t : Bytes} :
    Matches (seq a b) t ↔ ∃ x y, t = x ++ y ∧ Matches a x ∧ Matches b y :=
  ⟨fun h => by cases h; exact ⟨_, _, rfl, ‹_›, ‹_›⟩, fun ⟨_, _, h, hx, hy⟩ => h ▸ .seq hx hy⟩

theorem matches_alt {a b : Re} {t : Bytes} : Matches (alt a b) t ↔ Matches a t ∨ Matches b t :=
  ⟨fun h => by cases h <;> simp [*], fun h => h.elim .altL .altR⟩

theorem matches_star_cls {k : ByteClass} {t : Bytes} (h : Matches (star (cls k)) t) :
    ∀ c ∈ t, k.mem c = true := by
  generalize hr : star (cls k) = r at h
  induction h with
  | starNil => simp
  | starCons hx _ _ ih =>
    cases hr
    cases hx
    simpa [*] using ih rfl
  | _ => cases hr

theorem matches_digits {t : Bytes} (h : Matches (star D) t) : ∀ c ∈ t, isDigit c = true := by
  simpa [D] using matches_star_cls h

theorem matches_digits1 {t : Bytes} (h : Matches (plus D) t) : t ≠ [] ∧ ∀ c ∈ t, isDigit c = true := by
  simp only [plus, matches_seq] at h
  obtain ⟨x, y, rfl, hx, hy⟩ := h
  simp only [D, range, matches_cls] at hx
  obtain ⟨c, rfl, hc⟩ := hx
  have := matches_digits hy
  simp_all

theorem matches_exp {E : Bytes} (h : Matches (opt reExp) E) : IsExp E := by
  simp only [opt, reExp, seqs, matches_alt, matches_seq, matches_eps] at h
  rcases h with ⟨x, _, rfl, hx, y, ds, rfl, hy, hds⟩ | rfl
  · obtain ⟨hne, hds⟩ := matches_digits1 hds
    simp only [oneOf, List.map, matches_cls] at hx hy
    obtain ⟨e, rfl, he⟩ := hx
    refine .inr ⟨e, ds, ?_, hne, hds, ?_⟩
    · have he : e.toNat = 101 ∨ e.toNat = 69 := by simpa using he
      exact he.imp UInt8.toNat_inj.mp UInt8.toNat_inj.mp
    · rcases hy with ⟨sg, rfl, hsg⟩ | rfl
      · have hsg : sg.toNat = 43 ∨ sg.toNat = 45 := by simpa using hsg
        exact .inr (hsg.imp (fun h => by obtain rfl : sg = 43 := UInt8.toNat_inj.mp h; rfl)
          fun h => by obtain rfl : sg = 45 := UInt8.toNat_inj.mp h; rfl)
      · exact .inl rfl
  · exact .inl rfl

theorem matches_byte {b : UInt8} {t : Bytes} (h : Matches (byte b.toNat) t) : t = [b] := by
  simp only [byte, matches_cls] at h
  obtain ⟨c, rfl, hc⟩ := h
  have hc : c.toNat = b.toNat := by simpa using hc
  rw [UInt8.toNat_inj.mp hc]

theorem matches_decimal {t : Bytes} (h : Matches reDecimal t) : IsDecimal t := by
  simp only [reDecimal, seqs, matches_alt, matches_seq] at h
  rcases h with ⟨ds, _, rfl, hds, fr, E, rfl, hfr, hE⟩ | ⟨_, _, rfl, hdot, fs, E, rfl, hfs, hE⟩
  · obtain ⟨hne, hds⟩ := matches_digits1 hds
    simp only [opt, matches_alt, matches_seq, matches_eps] at hfr
    rcases hfr with ⟨_, fs, rfl, hdot, hfs⟩ | rfl
    · cases matches_byte (b := 46) hdot
      exact ⟨ds, fs, E, hds, matches_digits hfs, matches_exp hE, .inr ⟨.inl hne, by simp⟩⟩
    · exact ⟨ds, [], E, hds, by simp, matches_exp hE, .inl ⟨hne, rfl⟩⟩
  · cases matches_byte (b := 46) hdot
    obtain ⟨hne, hfs⟩ := matches_digits1 hfs
    exact ⟨[], fs, E, by simp, hfs, matches_exp hE, .inr ⟨.inr hne, by simp⟩⟩

theorem matches_hex {t : Bytes} (h : Matches reHex t) :
    ∃ x hs, (x = 120 ∨ x = 88) ∧ hs ≠ [] ∧ (∀ c ∈ hs, isHexDigit c = true) ∧ t = 48 :: x :: hs := by
  simp only [reHex, seqs, plus, matches_seq] at h
  obtain ⟨_, _, rfl, h0, _, _, rfl, hx, _, hs, rfl, hd, hs'⟩ := h
  cases matches_byte (b := 48) h0
  simp only [oneOf, H, ranges, List.map, matches_cls] at hx hd
  obtain ⟨x, rfl, hx⟩ := hx
  obtain ⟨d, rfl, hd⟩ := hd
  have hx : x.toNat = 120 ∨ x.toNat = 88 := by simpa using hx
  have hd : isHexDigit d = true := by simpa using hd
  have hs' : ∀ c ∈ hs, isHexDigit c = true := by simpa using matches_star_cls hs'
  exact ⟨x, d :: hs, hx.imp UInt8.toNat_inj.mp UInt8.toNat_inj.mp, by simp, by simpa [hd] using hs', rfl⟩

theorem matches_ident {t : Bytes} (h : Matches reIdent t) :
    ∃ c w, t = c :: w ∧ isIdentStart c = true ∧ ∀ b ∈ w, isIdentCont b = true := by
  simp only [reIdent, identStart, identCont, ranges, matches_seq, matches_cls] at h
  obtain ⟨_, w, rfl, ⟨c, rfl, hc⟩, hw⟩ := h
  exact ⟨c, w, rfl, by simpa using hc, by simpa using matches_star_cls hw⟩

end Pql
