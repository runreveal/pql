/-
How `unparse` succeeds: `UnparseExprAlg P PL` (for `unparseExpr` / `unparseExprList`) and
`UnparseAlg PT PO PL` (for `unparseTabular` / `unparseOps` / `unparseOp`) have one clause per way,
with the tokens written out and the parts that unparsed as variables; `UnparseExprAlg.expr` /
`.list`, `UnparseAlg.tabular` / `.ops` / `.op` give the predicates of every tree that unparses.
A fact that the tokens of a tree pass on to its parts (span = extent, every expression is a run of
tokens, the token classes, a derivation for what is accounted for, …) is its clauses.
For comma-separated items, columns and statements: `sepList_induct`, `unparseColumn_cases`,
`unparseStmt_cases`.
-/
import PqlModel.Spec.Grammar
namespace Pql
open Grammar

structure UnparseExprAlg (P : Expr → List UTok → Prop) (PL : ExprList → List UTok → Prop) : Prop where
  qident : ∀ (i : Ident) (is : List Ident), P (.qident (i :: is)) (identsDotted (i :: is))
  lit : ∀ (sp : Span) (k : TokKind) (v : Bytes),
    P (.lit sp k v) [{ kind := k, value := v, start := some sp.start, stop := some sp.stop }]
  unary : ∀ (os : Span) (op : TokKind) (x : Expr) (xs : List UTok), P x xs →
    P (.unary os op x) (sym op os :: xs)
  binary : ∀ (x : Expr) (os : Span) (op : TokKind) (y : Expr) (xs ys : List UTok), P x xs → P y ys →
    P (.binary x os op y) (xs ++ sym op os :: ys)
  inE : ∀ (x : Expr) (i lp : Span) (vals : ExprList) (rp : Span) (xs vs : List UTok), P x xs → PL vals vs →
    P (.inE x i lp vals rp) (xs ++ sym .in_ i :: sym .lparen lp :: vs ++ [sym .rparen rp])
  paren : ∀ (lp : Span) (x : Expr) (rp : Span) (xs : List UTok), P x xs →
    P (.paren lp x rp) (sym .lparen lp :: xs ++ [sym .rparen rp])
  call : ∀ (fn : Ident) (lp : Span) (args : ExprList) (rp : Span) (as : List UTok), PL args as →
    P (.call fn lp args rp) (identTok fn :: sym .lparen lp :: as ++ [{ sym .rparen rp with optComma := true }])
  index : ∀ (x : Expr) (lb : Span) (idx : Expr) (rb : Span) (xs is : List UTok), P x xs → P idx is →
    P (.index x lb idx rb) (xs ++ sym .lbracket lb :: is ++ [sym .rbracket rb])
  lnil : PL .nil []
  one : ∀ (e : Expr) (us : List UTok), P e us → PL (.cons e .nil) us
  cons : ∀ (e e' : Expr) (es : ExprList) (a b : List UTok), P e a → PL (.cons e' es) b →
    PL (.cons e (.cons e' es)) (a ++ commaTok :: b)

section
variable {P : Expr → List UTok → Prop} {PL : ExprList → List UTok → Prop} (A : UnparseExprAlg P PL)
include A

mutual
theorem UnparseExprAlg.expr : ∀ (e : Expr) (us : List UTok), unparseExpr e = some us → P e us
  | .nil, _, h => nomatch h
  | .qident [], _, h => nomatch h
  | .qident (i :: is), _, h => Option.some.inj h ▸ A.qident i is
  | .lit sp k v, _, h => Option.some.inj h ▸ A.lit sp k v
  | .unary os op x, _, h => by
    simp only [unparseExpr, Option.bind_eq_bind, Option.pure_def, Option.bind_eq_some_iff, Option.some.injEq] at h
    obtain ⟨xs, hx, rfl⟩ := h
    exact A.unary os op x xs (UnparseExprAlg.expr x xs hx)
  | .binary x os op y, _, h => by
    simp only [unparseExpr, Option.bind_eq_bind, Option.pure_def, Option.bind_eq_some_iff, Option.some.injEq] at h
    obtain ⟨xs, hx, ys, hy, rfl⟩ := h
    exact A.binary x os op y xs ys (UnparseExprAlg.expr x xs hx) (UnparseExprAlg.expr y ys hy)
  | .inE x i lp vals rp, _, h => by
    simp only [unparseExpr, Option.bind_eq_bind, Option.pure_def, Option.bind_eq_some_iff, Option.some.injEq] at h
    obtain ⟨xs, hx, vs, hv, rfl⟩ := h
    exact A.inE x i lp vals rp xs vs (UnparseExprAlg.expr x xs hx) (UnparseExprAlg.list vals vs hv)
  | .paren lp x rp, _, h => by
    simp only [unparseExpr, Option.bind_eq_bind, Option.pure_def, Option.bind_eq_some_iff, Option.some.injEq] at h
    obtain ⟨xs, hx, rfl⟩ := h
    exact A.paren lp x rp xs (UnparseExprAlg.expr x xs hx)
  | .call fn lp args rp, _, h => by
    simp only [unparseExpr, Option.bind_eq_bind, Option.pure_def, Option.bind_eq_some_iff, Option.some.injEq] at h
    obtain ⟨as, ha, rfl⟩ := h
    exact A.call fn lp args rp as (UnparseExprAlg.list args as ha)
  | .index x lb idx rb, _, h => by
    simp only [unparseExpr, Option.bind_eq_bind, Option.pure_def, Option.bind_eq_some_iff, Option.some.injEq] at h
    obtain ⟨xs, hx, is, hi, rfl⟩ := h
    exact A.index x lb idx rb xs is (UnparseExprAlg.expr x xs hx) (UnparseExprAlg.expr idx is hi)
theorem UnparseExprAlg.list : ∀ (l : ExprList) (us : List UTok), unparseExprList l = some us → PL l us
  | .nil, _, h => Option.some.inj h ▸ A.lnil
  | .cons e .nil, us, h => A.one e us (UnparseExprAlg.expr e us (by simpa only [unparseExprList] using h))
  | .cons e (.cons e' es), _, h => by
    simp only [unparseExprList, Option.bind_eq_bind, Option.pure_def, Option.bind_eq_some_iff, Option.some.injEq] at h
    obtain ⟨a, ha, b, hb, rfl⟩ := h
    exact A.cons e e' es a b (UnparseExprAlg.expr e a ha) (UnparseExprAlg.list (.cons e' es) b hb)
end

end

/-- how a list of items unparses: none, one, or an item, a comma and a non-empty rest -/
theorem sepList_induct {α} {f : α → Option (List UTok)} {P : List α → List UTok → Prop}
    (nil : P [] []) (one : ∀ x us, f x = some us → P [x] us)
    (cons : ∀ x y ys us rest, f x = some us → P (y :: ys) rest → P (x :: y :: ys) (us ++ commaTok :: rest)) :
    ∀ (xs : List α) (uss : List (List UTok)), listM f xs = some uss → P xs (sepBy commaTok uss)
  | [], _, h => Option.some.inj h ▸ nil
  | [x], _, h => by
    simp only [listM, Option.bind_eq_bind, Option.pure_def, Option.bind_eq_some_iff, Option.some.injEq] at h
    obtain ⟨u, hx, _, rfl, rfl⟩ := h
    exact one x u hx
  | x :: y :: ys, _, h => by
    rw [listM] at h
    simp only [Option.bind_eq_bind, Option.pure_def, Option.bind_eq_some_iff, Option.some.injEq] at h
    obtain ⟨u, hx, vss, hys, rfl⟩ := h
    have ih := sepList_induct nil one cons (y :: ys) vss hys
    cases vss with
    | nil => simp [listM, Option.bind_eq_some_iff] at hys
    | cons v vss => exact cons x y ys u _ hx ih

structure UnparseAlg (PT : Tabular → List UTok → Prop) (PO : Op → List UTok → Prop)
    (PL : OpList → List UTok → Prop) : Prop where
  tmk : ∀ (s : Ident) (ops : OpList) (os : List UTok), unparseOps ops = some os → PL ops os →
    PT (.mk (some s) ops) (identTok s :: os)
  onil : PL .nil []
  cons : ∀ (o : Op) (os : OpList) (a b : List UTok), unparseOp o = some a → unparseOps os = some b →
    PO o a → PL os b → PL (.cons o os) (a ++ b)
  count : ∀ p k : Span, PO (.count p k) [sym .pipe p, kwTok ["count"] k]
  where_ : ∀ (p k : Span) (e : Expr) (xs : List UTok), unparseExpr e = some xs →
    PO (.where_ p k e) (sym .pipe p :: kwTok ["where", "filter"] k :: xs)
  sort : ∀ (p k : Span) (ts : List SortTerm) (tss : List (List UTok)), ts ≠ [] →
    listM unparseSortTerm ts = some tss →
    PO (.sort p k ts) (sym .pipe p :: { kwPlain ["sort", "order"] with start := some k.start } ::
      { kind := .by_, stop := some k.stop } :: sepBy commaTok tss)
  take : ∀ (p k : Span) (n : Expr) (xs : List UTok), unparseExpr n = some xs →
    PO (.take p k n) (sym .pipe p :: kwTok ["take", "limit"] k :: xs)
  top : ∀ (p k : Span) (n : Expr) (b : Span) (col : SortTerm) (xs cs : List UTok),
    unparseExpr n = some xs → unparseSortTerm col = some cs →
    PO (.top p k n b (some col)) (sym .pipe p :: kwTok ["top"] k :: xs ++ sym .by_ b :: cs)
  project : ∀ (p k : Span) (cs : List Column) (css : List (List UTok)), cs ≠ [] →
    listM (unparseColumn true) cs = some css →
    PO (.project p k cs) (sym .pipe p :: kwTok ["project"] k :: sepBy commaTok css)
  extend : ∀ (p k : Span) (cs : List Column) (css : List (List UTok)), cs ≠ [] →
    listM (unparseColumn false) cs = some css →
    PO (.extend p k cs) (sym .pipe p :: kwTok ["extend"] k :: sepBy commaTok css)
  summarize : ∀ (p k : Span) (cs : List Column) (b : Span) (css : List (List UTok)), cs ≠ [] →
    listM (unparseColumn false) cs = some css → b.isValid = false →
    PO (.summarize p k cs b []) (sym .pipe p :: kwTok ["summarize"] k :: sepBy commaTok css)
  summarizeBy : ∀ (p k : Span) (cs : List Column) (b : Span) (gs : List Column)
    (css gss : List (List UTok)), gs ≠ [] → listM (unparseColumn false) cs = some css →
    listM (unparseColumn false) gs = some gss → b.isValid = true →
    PO (.summarize p k cs b gs) (sym .pipe p :: kwTok ["summarize"] k :: sepBy commaTok css ++
      { sym .by_ b with optComma := !cs.isEmpty } :: sepBy commaTok gss)
  join : ∀ (p k kind ka lp : Span) (right : Tabular) (rp on : Span) (conds : ExprList)
    (r cs : List UTok), unparseTabular right = some r → PT right r →
    unparseExprList conds = some cs → conds ≠ .nil → kind.isValid = false → ka.isValid = false →
    PO (.join p k kind ka none lp right rp on conds)
      (sym .pipe p :: kwTok ["join"] k :: sym .lparen lp :: r ++ sym .rparen rp :: kwTok ["on"] on :: cs)
  joinKind : ∀ (p k kind ka : Span) (f : Ident) (lp : Span) (right : Tabular) (rp on : Span)
    (conds : ExprList) (r cs : List UTok), unparseTabular right = some r → PT right r →
    unparseExprList conds = some cs → conds ≠ .nil →
    PO (.join p k kind ka (some f) lp right rp on conds)
      (sym .pipe p :: kwTok ["join"] k :: kwTok ["kind"] kind :: sym .assign ka :: identTok f ::
        sym .lparen lp :: r ++ sym .rparen rp :: kwTok ["on"] on :: cs)
  as_ : ∀ (p k : Span) (n : Ident), PO (.as_ p k (some n)) [sym .pipe p, kwTok ["as"] k, identTok n]
  render : ∀ (p k : Span) (c : Ident) (w lp rp : Span), w.isValid = false →
    PO (.render p k (some c) w lp [] rp) [sym .pipe p, kwTok ["render"] k, identTok c]
  renderWith : ∀ (p k : Span) (c : Ident) (w lp : Span) (props : List RenderProp) (rp : Span)
    (pss : List (List UTok)), props ≠ [] → listM unparseProp props = some pss → w.isValid = true →
    PO (.render p k (some c) w lp props rp)
      (sym .pipe p :: kwTok ["render"] k :: identTok c :: kwTok ["with"] w :: sym .lparen lp ::
        sepBy commaTok pss ++ [sym .rparen rp])

/-- the three ways a column unparses: `name = x`, a bare name (`project` only), a bare expression
    (`extend` and `summarize` only) -/
theorem unparseColumn_cases {project : Bool} {P : Column → List UTok → Prop}
    (named : ∀ (n : Ident) (asg : Span) (x : Expr) (xs : List UTok), asg.isValid = true →
      unparseExpr x = some xs → P ⟨some n, asg, x⟩ (identTok n :: sym .assign asg :: xs))
    (bare : ∀ (n : Ident) (asg : Span), project = true → asg.isValid = false →
      P ⟨some n, asg, .nil⟩ [identTok n])
    (plain : ∀ (asg : Span) (x : Expr) (xs : List UTok), project = false → asg.isValid = false →
      unparseExpr x = some xs → P ⟨none, asg, x⟩ xs) :
    ∀ (c : Column) (us : List UTok), unparseColumn project c = some us → P c us := by
  rintro ⟨name, asg, x⟩ us h
  cases name with
  | some n =>
    cases hv : asg.isValid
    · cases project
      · simp [unparseColumn, hv] at h
      · cases x <;> simp [unparseColumn, hv] at h
        subst h
        exact bare n asg rfl hv
    · simp only [unparseColumn, hv, if_true, Option.bind_eq_bind, Option.pure_def,
        Option.bind_eq_some_iff, Option.some.injEq] at h
      obtain ⟨xs, hx, rfl⟩ := h
      exact named n asg x xs hv hx
  | none =>
    cases hv : asg.isValid
    · cases project
      · simp only [unparseColumn, hv, Bool.or_self, Bool.false_eq_true, if_false] at h
        exact plain asg x us rfl hv h
      · simp [unparseColumn] at h
    · simp [unparseColumn, hv] at h

theorem unparseOps_cons_inv {o : Op} {os : OpList} {us : List UTok} (h : unparseOps (.cons o os) = some us) :
    ∃ a b, unparseOp o = some a ∧ unparseOps os = some b ∧ us = a ++ b := by
  simp only [unparseOps, Option.bind_eq_bind, Option.pure_def, Option.bind_eq_some_iff, Option.some.injEq] at h
  obtain ⟨a, ha, b, hb, rfl⟩ := h
  exact ⟨a, b, ha, hb, rfl⟩

theorem ne_nil_of_isEmpty {α} {l : List α} (h : ¬ l.isEmpty = true) : l ≠ [] := by
  rintro rfl; exact h rfl

section
variable {PT : Tabular → List UTok → Prop} {PO : Op → List UTok → Prop}
  {PL : OpList → List UTok → Prop} (A : UnparseAlg PT PO PL)
include A

mutual
theorem UnparseAlg.tabular : ∀ (t : Tabular) (us : List UTok), unparseTabular t = some us → PT t us
  | .nil, _, h => by simp [unparseTabular] at h
  | .mk src ops, us, h => by
    simp only [unparseTabular, Option.bind_eq_bind, Option.pure_def, Option.bind_eq_some_iff,
      Option.some.injEq] at h
    obtain ⟨s, rfl, os, ho, rfl⟩ := h
    exact A.tmk s ops os ho (UnparseAlg.ops ops os ho)
theorem UnparseAlg.ops : ∀ (l : OpList) (us : List UTok), unparseOps l = some us → PL l us
  | .nil, us, h => by
    simp only [unparseOps, Option.some.injEq] at h
    subst h; exact A.onil
  | .cons o os, us, h => by
    obtain ⟨a, b, ha, hb, rfl⟩ := unparseOps_cons_inv h
    exact A.cons o os a b ha hb (UnparseAlg.op o a ha) (UnparseAlg.ops os b hb)
theorem UnparseAlg.op : ∀ (o : Op) (us : List UTok), unparseOp o = some us → PO o us
  | .count p k, us, h => by
    simp only [unparseOp, Option.some.injEq] at h
    subst h; exact A.count p k
  | .where_ p k e, us, h => by
    simp only [unparseOp, Option.bind_eq_bind, Option.pure_def, Option.bind_eq_some_iff,
      Option.some.injEq] at h
    obtain ⟨xs, hx, rfl⟩ := h
    exact A.where_ p k e xs hx
  | .take p k n, us, h => by
    simp only [unparseOp, Option.bind_eq_bind, Option.pure_def, Option.bind_eq_some_iff,
      Option.some.injEq] at h
    obtain ⟨xs, hx, rfl⟩ := h
    exact A.take p k n xs hx
  | .top p k n b c, us, h => by
    simp only [unparseOp, Option.bind_eq_bind, Option.pure_def, Option.bind_eq_some_iff,
      Option.some.injEq] at h
    obtain ⟨xs, hx, col, rfl, cs, hcs, rfl⟩ := h
    exact A.top p k n b col xs cs hx hcs
  | .sort p k ts, us, h => by
    simp only [unparseOp, Option.bind_eq_bind, Option.pure_def] at h
    split at h
    · simp at h
    · next hne =>
      simp only [Option.bind_eq_some_iff, Option.some.injEq] at h
      obtain ⟨tss, htss, rfl⟩ := h
      exact A.sort p k ts tss (ne_nil_of_isEmpty hne) htss
  | .project p k cs, us, h => by
    simp only [unparseOp, Option.bind_eq_bind, Option.pure_def] at h
    split at h
    · simp at h
    · next hne =>
      simp only [Option.bind_eq_some_iff, Option.some.injEq] at h
      obtain ⟨css, hcss, rfl⟩ := h
      exact A.project p k cs css (ne_nil_of_isEmpty hne) hcss
  | .extend p k cs, us, h => by
    simp only [unparseOp, Option.bind_eq_bind, Option.pure_def] at h
    split at h
    · simp at h
    · next hne =>
      simp only [Option.bind_eq_some_iff, Option.some.injEq] at h
      obtain ⟨css, hcss, rfl⟩ := h
      exact A.extend p k cs css (ne_nil_of_isEmpty hne) hcss
  | .summarize p k cs b gs, us, h => by
    simp only [unparseOp, Option.bind_eq_bind, Option.pure_def, Option.bind_eq_some_iff] at h
    obtain ⟨css, hcss, gss, hgss, h⟩ := h
    split at h
    · next hb =>
      split at h
      · simp at h
      · next hne =>
        simp only [Option.some.injEq] at h
        subst h
        exact A.summarizeBy p k cs b gs css gss (ne_nil_of_isEmpty hne) hcss hgss hb
    · next hb =>
      split at h
      · simp at h
      · next hg =>
        simp only [Option.some.injEq] at h
        subst h
        simp only [Bool.or_eq_true, Bool.not_eq_true', not_or, Bool.not_eq_true] at hg
        obtain rfl : gs = [] := by simpa using hg.2
        exact A.summarize p k cs b css (ne_nil_of_isEmpty (by simp [hg.1])) hcss (by simpa using hb)
  | .join p k kind ka fl lp right rp on conds, us, h => by
    simp only [unparseOp, Option.bind_eq_bind, Option.pure_def, Option.bind_eq_some_iff] at h
    obtain ⟨r, hr, cs, hcs, h⟩ := h
    split at h
    · simp at h
    · next hlen =>
      have hne : conds ≠ .nil := by rintro rfl; exact hlen rfl
      cases fl with
      | some f =>
        simp only [Option.bind_some, Option.some.injEq] at h
        subst h
        exact A.joinKind p k kind ka f lp right rp on conds r cs hr (UnparseAlg.tabular right r hr) hcs hne
      | none =>
        cases hv : (kind.isValid || ka.isValid)
        · simp only [hv, Bool.false_eq_true, if_false, Option.bind_some, Option.some.injEq] at h
          subst h
          rw [Bool.or_eq_false_iff] at hv
          exact A.join p k kind ka lp right rp on conds r cs hr (UnparseAlg.tabular right r hr) hcs hne
            hv.1 hv.2
        · simp [hv] at h
  | .as_ p k n, us, h => by
    simp only [unparseOp, Option.bind_eq_bind, Option.pure_def, Option.bind_eq_some_iff,
      Option.some.injEq] at h
    obtain ⟨nm, rfl, rfl⟩ := h
    exact A.as_ p k nm
  | .render p k ch w lp props rp, us, h => by
    simp only [unparseOp, Option.bind_eq_bind, Option.pure_def, Option.bind_eq_some_iff] at h
    obtain ⟨c, rfl, pss, hpss, h⟩ := h
    split at h
    · next hw =>
      split at h
      · simp at h
      · next hne =>
        simp only [Option.some.injEq] at h
        subst h
        exact A.renderWith p k c w lp props rp pss (ne_nil_of_isEmpty hne) hpss hw
    · next hw =>
      split at h
      · simp at h
      · next hne =>
        simp only [Option.some.injEq] at h
        subst h
        obtain rfl : props = [] := by simpa using hne
        exact A.render p k c w lp rp (by simpa using hw)
end

end

theorem unparseStmt_cases {P : Stmt → List UTok → Prop}
    (let_ : ∀ (kw : Span) (n : Ident) (asg : Span) (x : Expr) (xs : List UTok), unparseExpr x = some xs →
      P (.let_ kw (some n) asg x) (kwTok ["let"] kw :: identTok n :: sym .assign asg :: xs))
    (tabular : ∀ (t : Tabular) (us : List UTok), unparseTabular t = some us → P (.tabular t) us) :
    ∀ (s : Stmt) (us : List UTok), unparseStmt s = some us → P s us
  | .tabular t, us, h => tabular t us h
  | .let_ kw name asg x, us, h => by
    simp only [unparseStmt, Option.bind_eq_bind, Option.pure_def, Option.bind_eq_some_iff,
      Option.some.injEq] at h
    obtain ⟨n, rfl, xs, hx, rfl⟩ := h
    exact let_ kw n asg x xs hx

end Pql
