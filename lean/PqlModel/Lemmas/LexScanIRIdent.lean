/-
`(*scanner).ident` as translated against the model's `scanIdent`: the continuation loop, the span, the
keyword lookup in the regenerated table.
-/
import PqlModel.Lemmas.LexScanIRCore
import PqlModel.Lemmas.DispatchSub
namespace Pql.ScanIR
open Pql
open Pql.LexIR (IErr M BinOp goPanic stuck irOf)
set_option linter.unusedSimpArgs false
set_option linter.unusedVariables false

def SpecIdent (fuel : Nat) (f : Fn) : Prop := ∀ (pre s : Bytes) (l : Nat) (bs : List (Nat × Bytes)) (c : UInt8) (rest : Bytes),
  s = c :: rest → isIdentStart c = true → s.length < fuel →
  ∃ l', f [.scanner] (hp pre s 0 l bs) = .ok ([tokAt pre.length (scanIdent s)], hp pre s (scanIdent s).width l' bs)

theorem identCont_rune (c : UInt8) (rest : Bytes) (r w : Nat) (hr : decodeRune (c :: rest) = (r, w)) :
    (alphaR r || digitR r || decide (r = 95)) = isIdentCont c := by
  have h1 := alphaR_rune c rest
  have h2 := digitR_rune c rest
  have h3 := LexIR.rune_eq c rest 95 (by omega)
  rw [hr] at h1 h2 h3
  simp only [isIdentCont, h1, h2]
  congr 1
  by_cases h : r = 95
  · have := h3.mp h; subst this; simp [h]
  · have : ¬ c = 95 := fun e => h (h3.mpr e)
    simp [h, this]

theorem isIdentCont_lt (c : UInt8) (h : isIdentCont c = true) : c.toNat < 128 := by
  simp only [isIdentCont, Bool.or_eq_true, beq_iff_eq] at h
  rcases h with (h | h) | h
  · exact isAlpha_lt c h
  · exact LexIR.isDigit_lt c h
  · subst h; decide

section
variable {env : Env} {fuel : Nat} (E : CursorEnv env) (pre s : Bytes) (p0 k l : Nat) (bs : List (Nat × Bytes))
include E

theorem evb_identCont {vars : List (String × Val)} {h : Store} {r : Nat} (hc : getVar vars "c" = .ok (.int r)) :
    EvB env vars h identCont (alphaR r || digitR r || decide (r = 95)) := by
  obtain ⟨fA, hA, sA⟩ := E.isAlpha
  obtain ⟨fD, hD, sD⟩ := E.isDigit
  exact evb_or (evb_or (evb_call "isAlpha" fA alphaR hA sA hc) (evb_call "isDigit" fD digitR hD sD hc)) (evb_cIs 95 hc)

theorem ident_body_end (hlen : s.length ≤ k) :
    execBlock env fuel identLoopBody (startSt p0 (hp pre s k l bs)) =
      .ok (.brk, ⟨("ok", .bool false) :: ("c", .int 0) :: (startSt p0 (hp pre s k l bs)).vars, hp pre s k l bs⟩) := by
  obtain ⟨fN, hN, sN⟩ := E.next
  refine block_step (exec_defNext (by rfl) hN (next_end sN pre s k l bs hlen)) ?_
  exact block_stop (exec_ite_then (evb_not (evb_ok (getVar_ok _ _ _))) (block_last exec_break) rfl) (by simp)

theorem ident_body_cont (c1 : UInt8) (rest : Bytes) (hd : s.drop k = c1 :: rest) (hc : isIdentCont c1 = true) :
    ∃ r, execBlock env fuel identLoopBody (startSt p0 (hp pre s k l bs)) =
      .ok (.next, ⟨("ok", .bool true) :: ("c", .int r) :: (startSt p0 (hp pre s (k + 1) (pre.length + k) bs)).vars,
        hp pre s (k + 1) (pre.length + k) bs⟩) := by
  obtain ⟨r, w, y, hr, -, R⟩ := rune_at hd
  obtain rfl : w = 1 := R.one (isIdentCont_lt c1 hc)
  have hcc := (identCont_rune c1 rest r 1 hr).trans hc
  refine ⟨r, block_nextRune E (by rfl) hd hr (block_last ?_)⟩
  exact exec_ite_skip ((evb_not (evb_identCont E (getVar_c _ _ _))).cast (by rw [hcc]; rfl))

theorem ident_body_other (c1 : UInt8) (rest : Bytes) (hd : s.drop k = c1 :: rest) (hc : isIdentCont c1 = false) :
    ∃ r, execBlock env fuel identLoopBody (startSt p0 (hp pre s k l bs)) =
      .ok (.brk, ⟨("ok", .bool true) :: ("c", .int r) :: (startSt p0 (hp pre s k (pre.length + k) bs)).vars,
        hp pre s k (pre.length + k) bs⟩) := by
  obtain ⟨fP, hP, sP⟩ := E.prev
  obtain ⟨r, w, y, hr, -⟩ := rune_at hd
  have hcc := (identCont_rune c1 rest r w hr).trans hc
  refine ⟨r, block_nextRune E (by rfl) hd hr (block_last ?_)⟩
  exact exec_ite_then ((evb_not (evb_identCont E (getVar_c _ _ _))).cast (by rw [hcc]; rfl))
    (block_step (exec_sPrev (by rfl) hP (prev_hp sP pre s k _ bs)) (block_last exec_break)) rfl

end

theorem ident_loop (env : Env) (fuel : Nat) (E : CursorEnv env) (pre s : Bytes) (p0 : Nat) (bs : List (Nat × Bytes)) :
    ∀ (n k l : Nat), k ≤ s.length → s.length - k < n →
      ∃ l', foreverLoop (execBlock env fuel identLoopBody) n (startSt p0 (hp pre s k l bs)) =
        .ok (.next, startSt p0 (hp pre s (k + identLoop (s.drop k)) l' bs)) := by
  intro n
  induction n with
  | zero => intro k l _ h; omega
  | succ n ih =>
    intro k l hk hn
    cases hd : s.drop k with
    | nil =>
      have hlen : s.length ≤ k := List.drop_eq_nil_iff.mp hd
      refine ⟨l, ?_⟩
      have hb := ident_body_end (fuel := fuel) E pre s p0 k l bs hlen
      simp only [startSt] at hb ⊢
      rw [forever_brk hb, leave_two _ _ _ _ _ _ rfl, identLoop, Nat.add_zero]
    | cons c1 rest =>
      have hlt := LexIR.lt_of_drop_cons hd
      cases hc : isIdentCont c1 with
      | true =>
        obtain ⟨r, hb⟩ := ident_body_cont (fuel := fuel) E pre s p0 k l bs c1 rest hd hc
        obtain ⟨l', e⟩ := ih (k + 1) (pre.length + k) (by omega) (by omega)
        refine ⟨l', ?_⟩
        rw [LexIR.drop_succ_of_cons hd] at e
        have hdl : identLoop (c1 :: rest) = identLoop rest + 1 := by simp [identLoop, hc]
        simp only [startSt] at hb e ⊢
        rw [forever_next hb (Or.inl rfl), leave_two _ _ _ _ _ _ rfl, e, hdl, Nat.add_assoc, Nat.add_comm 1]
      | false =>
        obtain ⟨r, hb⟩ := ident_body_other (fuel := fuel) E pre s p0 k l bs c1 rest hd hc
        have hdl : identLoop (c1 :: rest) = 0 := by simp [identLoop, hc]
        refine ⟨pre.length + k, ?_⟩
        simp only [startSt] at hb ⊢
        rw [forever_brk hb, leave_two _ _ _ _ _ _ rfl, hdl, Nat.add_zero]

theorem isIdentStart_lt (c : UInt8) (h : isIdentStart c = true) : c.toNat < 128 := by
  simp only [isIdentStart, Bool.or_eq_true, beq_iff_eq] at h
  rcases h with (h | h) | h
  · exact isAlpha_lt c h
  · subst h; decide
  · subst h; decide

theorem take_at (pre s : Bytes) (w : Nat) :
    List.take (pre.length + w - pre.length) (List.drop pre.length (pre ++ s)) = s.take w :=
  LexIR.take_drop_pre pre s w

theorem ident_spec (env : Env) (fuel : Nat) (E : CursorEnv env) : SpecIdent fuel (interpFn env fuel identDecl) := by
  intro pre s l bs c rest hs hc hfuel
  obtain ⟨fN, hN, sN⟩ := E.next
  obtain ⟨fA, hA, sA⟩ := E.newSpan
  obtain ⟨fS, hS, sS⟩ := E.spanString
  have hd : s.drop 0 = c :: rest := by simp [hs]
  have nx := next_cons sN pre s 0 l bs c rest c.toNat 1 hd
    (decodeRune_ascii c rest (isIdentStart_lt c hc))
  obtain ⟨l', hl⟩ := ident_loop env fuel E pre s (pre.length + 0) bs fuel (0 + 1) (pre.length + 0)
    (by subst hs; simp) (by omega)
  have hdrop : s.drop (0 + 1) = s.tail := by subst hs; rfl
  rw [hdrop] at hl
  have hle : identLoop s.tail + 1 ≤ s.length := by
    subst hs
    have := identLoop_le rest
    simp; omega
  have hw : 0 + 1 + identLoop s.tail = identLoop s.tail + 1 := by omega
  rw [hw] at hl
  simp only [startSt] at hl
  refine ⟨l', ?_⟩
  have hval := sS (pre ++ s) (pre.length + 0) (pre.length + (identLoop s.tail + 1)) (hp pre s (identLoop s.tail + 1) l' bs)
    (by omega) (by simp; omega)
  have htk : List.take (pre.length + (identLoop s.tail + 1) - (pre.length + 0)) (List.drop (pre.length + 0) (pre ++ s)) =
      s.take (identLoop s.tail + 1) := by simp
  rw [htk] at hval
  have sA' : ∀ a b h, fA [.int a, .int b] h = .ok ([.span a b], h) := sA
  simp only [Nat.add_zero, Nat.zero_add] at nx hl hval
  unfold identDecl identRest scanIdent keywordKind tokAt
  cases hf : Facts.keywords.find? (fun kv => Bytes.ofString kv.1 == List.take (identLoop s.tail + 1) s) with
  | none =>
    ls_simp [hN, nx, hl, hA, sA', hS, hval, kind_ident, ofString_empty, mapGet2, hf]
  | some kv =>
    have hm := List.mem_of_find?_eq_some hf
    have := (List.all_eq_true.mp Dispatch.keyword_kinds_known) kv hm
    cases hk : TokKind.ofGoName kv.2 with
    | none => simp [hk] at this
    | some kd =>
      ls_simp [hN, nx, hl, hA, sA', hS, hval, kind_ident, ofString_empty, mapGet2, hf, hk]

end Pql.ScanIR
