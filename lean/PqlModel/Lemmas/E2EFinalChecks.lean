/-
Programs with lets: Boolean forms of the side conditions of the program theorems (so that
concrete programs can be checked by evaluation): `tabNamedB` ⟹ `tabNamed`, `trueFreeB` ⟹ `TrueFree`,
`splitLets` (a program is lets followed by one query) ⟹ `IsLets`.
-/
import PqlModel.Lemmas.E2EFinalProgram
namespace Pql.E2EFinal
open Pql Sql CompileOracle Intended

def colNamedB (c : Column) : Bool :=
  c.name.isSome && (match c.x with | .nil => false | _ => true)

theorem colNamed_of_B {c : Column} (h : colNamedB c = true) : ColNamed c := by
  simp only [colNamedB, Bool.and_eq_true] at h
  refine ⟨h.1, fun hx => ?_⟩
  rw [hx] at h
  exact absurd h.2 (by simp)

mutual
def tabNamedB : Tabular → Bool
  | .nil => true
  | .mk _ ops => opsNamedB ops
def opsNamedB : OpList → Bool
  | .nil => true
  | .cons o os => opNamedB o && opsNamedB os
def opNamedB : Op → Bool
  | .join _ _ _ _ _ _ right _ _ _ => tabNamedB right
  | .extend _ _ cs => cs.all colNamedB
  | .summarize _ _ cs _ gs => cs.all colNamedB && gs.all colNamedB
  | _ => true
end

mutual
theorem tabNamed_of_B : (t : Tabular) → tabNamedB t = true → tabNamed t
  | .nil, _ => trivial
  | .mk _ ops, h => by
    simp only [tabNamedB] at h
    simp only [tabNamed]
    exact opsNamed_of_B ops h
theorem opsNamed_of_B : (ops : OpList) → opsNamedB ops = true → opsNamed ops
  | .nil, _ => trivial
  | .cons o os, h => by
    simp only [opsNamedB, Bool.and_eq_true] at h
    simp only [opsNamed]
    exact ⟨opNamed_of_B o h.1, opsNamed_of_B os h.2⟩
theorem opNamed_of_B : (o : Op) → opNamedB o = true → opNamed o
  | .join _ _ _ _ _ _ right _ _ _, h => by
    simp only [opNamedB] at h
    simp only [opNamed]
    exact tabNamed_of_B right h
  | .extend _ _ cs, h => by
    simp only [opNamedB, List.all_eq_true] at h
    simp only [opNamed]
    exact fun c hc => colNamed_of_B (h c hc)
  | .summarize _ _ cs _ gs, h => by
    simp only [opNamedB, Bool.and_eq_true, List.all_eq_true] at h
    simp only [opNamed]
    exact ⟨fun c hc => colNamed_of_B (h.1 c hc), fun c hc => colNamed_of_B (h.2 c hc)⟩
  | .where_ .., _ | .sort .., _ | .take .., _ | .top .., _ | .project .., _ | .count .., _ | .as_ .., _
  | .render .., _ => trivial
end

def trueFreeB (env : List (Bytes × Expr)) : Bool :=
  (env.find? (·.1 == Bytes.ofString "true")).isNone

theorem trueFree_of_B {env : List (Bytes × Expr)} (h : trueFreeB env = true) : TrueFree env := by
  unfold TrueFree
  simp only [trueFreeB, Option.isNone_iff_eq_none] at h
  simp only [substExpr, Bool.false_eq_true, if_false]
  rw [h]

def splitLets : List Stmt → Option (List Stmt × Tabular)
  | [.tabular t] => some ([], t)
  | .let_ a b c d :: rest => (splitLets rest).map fun r => (.let_ a b c d :: r.1, r.2)
  | _ => none

theorem splitLets_spec : ∀ (stmts lets : List Stmt) (t : Tabular), splitLets stmts = some (lets, t) →
    stmts = lets ++ [.tabular t] ∧ IsLets lets
  | [], _, _, h => by simp [splitLets] at h
  | [.tabular t'], lets, t, h => by
    simp only [splitLets, Option.some.injEq, Prod.mk.injEq] at h
    obtain ⟨rfl, rfl⟩ := h
    exact ⟨rfl, fun _ hs => by cases hs⟩
  | .tabular _ :: _ :: _, _, _, h => by simp [splitLets] at h
  | .let_ a b c d :: rest, lets, t, h => by
    simp only [splitLets, Option.map_eq_some_iff, Prod.mk.injEq] at h
    obtain ⟨⟨l, t'⟩, hr, rfl, rfl⟩ := h
    obtain ⟨h1, h2⟩ := splitLets_spec rest l t' hr
    refine ⟨by rw [h1]; rfl, fun s hs => ?_⟩
    rcases List.mem_cons.1 hs with rfl | hs
    · exact ⟨_, _, _, _, rfl⟩
    · exact h2 s hs

end Pql.E2EFinal
