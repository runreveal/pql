/-
Notions of the statement-level theorems of C02 / C03: the name the next link of a chain reads (`lastName`, with a
default for the empty chain; the theorems on joins speak of `JoinSem.lastName`, whose default is the empty name), the aggregate side
conditions of a whole operator list (`opsOk`), and the decidable condition on the names chosen with `as`
(`asNamesOk`: pairwise distinct, none looks like a generated `__subquery…`; for lists with joins the two are
`JoinFull.opsOkJ false` and the `as` part of `JoinFull.namesOk`, equal to these on join-free lists:
`JoinFull.opsOkJ_joinFree`, `C02.asNamesO_joinFree`) with the invariant it maintains on
the names of the links (`NamesP`, `NamesQ`).
-/
import PqlModel.Props.C02Semantics
import PqlModel.Props.C05
namespace Pql.SelSem
open Pql Sql CompileOracle Intended SplitQ C02

def lastName (p : Bytes) (l : List SubA) : Bytes :=
  match l.getLast? with | some s => s.name | none => p

theorem lastName_snoc (p : Bytes) (l : List SubA) (s : SubA) : lastName p (l ++ [s]) = s.name := by
  simp [lastName]

theorem lastOfA_nil : lastOfA [] 0 = none := rfl

def opsOk : OpList → Bool
  | .nil => true
  | .cons o rest => opOk o && opsOk rest

def asNames : OpList → List Bytes
  | .nil => []
  | .cons (.as_ _ _ name) rest => identName name :: asNames rest
  | .cons _ rest => asNames rest

def asNamesOk (ops : OpList) : Bool :=
  !hasDup (asNames ops) && (asNames ops).all fun n => !isGeneratedName n

theorem isGeneratedName_subqueryName (i : Nat) : isGeneratedName (subqueryName i) = true := by
  unfold isGeneratedName subqueryName
  simp

theorem hasDup_false_nodup : ∀ (l : List Bytes), hasDup l = false → l.Nodup
  | [], _ => List.nodup_nil
  | x :: xs, h => by
    simp only [hasDup, Bool.or_eq_false_iff] at h
    refine List.nodup_cons.mpr ⟨?_, hasDup_false_nodup xs h.2⟩
    intro hx
    have : xs.contains x = true := List.contains_iff_mem.mpr hx
    rw [this] at h
    exact absurd h.1 (by decide)

/-- names so far: pairwise distinct, and the generated-looking ones are `__subquery{i}`, `i` below the length -/
def NamesP (names : List Bytes) (len : Nat) : Prop :=
  names.Nodup ∧ ∀ n ∈ names, isGeneratedName n = true → ∃ i, i < len ∧ n = subqueryName i

/-- remaining `as` names: pairwise distinct, not generated-looking, not used yet -/
def NamesQ (rest : List Bytes) (names : List Bytes) : Prop :=
  rest.Nodup ∧ ∀ n ∈ rest, isGeneratedName n = false ∧ n ∉ names

theorem namesP_fresh {names : List Bytes} {len : Nat} (h : NamesP names len) :
    NamesP (names ++ [subqueryName len]) (len + 1) := by
  refine ⟨?_, ?_⟩
  · rw [List.nodup_append]
    refine ⟨h.1, by simp, ?_⟩
    intro a ha b hb
    simp only [List.mem_singleton] at hb
    subst hb
    intro hab
    subst hab
    obtain ⟨i, hi, he⟩ := h.2 _ ha (isGeneratedName_subqueryName len)
    have := C05.C05_subqueryName_injective _ _ he
    omega
  · intro n hn hg
    rcases List.mem_append.mp hn with hn | hn
    · obtain ⟨i, hi, he⟩ := h.2 n hn hg
      exact ⟨i, by omega, he⟩
    · simp only [List.mem_singleton] at hn
      exact ⟨len, by omega, hn⟩

end Pql.SelSem
