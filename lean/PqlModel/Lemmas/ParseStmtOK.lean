/-
C05, syntactic half, stage 3: the Bool side condition on a whole pipeline (`tabularOK`) and its
propagation to every link of the chain `splitA` builds.
-/
import PqlModel.Lemmas.ParseStmtOpSpec
import PqlModel.Lemmas.SplitARun
namespace Pql.C05
set_option linter.unusedSimpArgs false
open Pql Sql CompileOracle Intended Pql.RT SplitQ

mutual
/-- every expression of the pipeline (at any nesting) is `exprOK`; the join condition is the
    AND-ed, key-rewritten condition `buildJoinCondition` builds, read in join mode; `project`,
    `sort` and the keys and aggregates of `summarize` taken together are non-empty (SQL needs at least
    one item / term) -/
def tabularOK : Tabular → Bool
  | .nil => true
  | .mk _ ops => opsOK ops
def opsOK : OpList → Bool
  | .nil => true
  | .cons o os => opOK1 o && opsOK os
def opOK1 : Op → Bool
  | .sort _ _ terms => sortOK (some terms)
  | .take _ _ n => exprOK n
  | .top _ _ n _ col => exprOK n && (match col with | some c => exprOK c.x | none => true)
  | .join _ _ _ _ _ _ right _ _ conds => tabularOK right && exprOKin true (buildJoinCondition conds)
  | .as_ p k n => opOK (some (.as_ p k n))
  | .count p k => opOK (some (.count p k))
  | .where_ p k e => opOK (some (.where_ p k e))
  | .project p k cs => opOK (some (.project p k cs))
  | .extend p k cs => opOK (some (.extend p k cs))
  | .summarize p k cs b gs => opOK (some (.summarize p k cs b gs))
  | .render p k c w lp props rp => opOK (some (.render p k c w lp props rp))
end

def AllOK (dst : List SubA) : Prop := ∀ a ∈ dst, subOK a = true

theorem AllOK.snoc {dst : List SubA} {a : SubA} (h : AllOK dst) (ha : subOK a = true) : AllOK (dst ++ [a]) := by
  intro b hb
  rcases List.mem_append.1 hb with hb | hb
  · exact h b hb
  · simp only [List.mem_singleton] at hb; subst hb; exact ha

theorem chainA_ok (dst : List SubA) (ds : Nat) (source : Option Ident) : subOK (chainA dst ds source) = true := rfl

theorem AllOK.close {mid : List SubA} (h : AllOK mid) (ds : Nat) (source : Option Ident) :
    AllOK (closeA mid ds source) := by
  unfold closeA
  split
  · exact h.snoc (chainA_ok _ _ _)
  · exact h

theorem storeA_ok {o : Op} {a : SubA} (ho : steps o = true) (hok : opOK1 o = true) (ha : subOK a = true) :
    subOK (storeA o a) = true := by
  simp only [subOK, Bool.and_eq_true] at ha ⊢
  obtain ⟨⟨⟨h1, h2⟩, h3⟩, h4⟩ := ha
  cases o with
  | join => cases ho
  | sort p k terms => exact ⟨⟨⟨h1, h2⟩, hok⟩, h4⟩
  | take p k n => exact ⟨⟨⟨h1, h2⟩, h3⟩, hok⟩
  | top p k n b col =>
    cases col with
    | none => cases ho
    | some c =>
      simp only [opOK1, Bool.and_eq_true] at hok
      exact ⟨⟨⟨h1, h2⟩, by simp [storeA, sortOK, hok.2]⟩, hok.1⟩
  | _ => exact ⟨⟨⟨h1, hok⟩, h3⟩, h4⟩

theorem RunA.ok {source : Option Ident} {ds : Nat} {dst out : List SubA} {ops : OpList}
    (h : RunA source ds dst ops out) (hok : opsOK ops = true) (hd : AllOK dst) : AllOK out := by
  induction h with
  | nil => exact hd
  | step o ho _ ih =>
    simp only [opsOK, Bool.and_eq_true] at hok
    exact ih hok.2 (placeA_forall hd (chainA_ok _ _ _) fun a => storeA_ok ho hok.1)
  | join p kw kind ka flavor lp rsource rops rp on conds left mid d hl _ hd' _ ihr ih =>
    simp only [opsOK, opOK1, tabularOK, Bool.and_eq_true] at hok
    subst hd'
    exact ih hok.2 (((ihr hok.1.1 hd).close _ _).snoc
      (by simp [subOK, joinLinkA, srcOK, hok.1.2, opOK, sortOK, takeOK]))

theorem splitOpsA_ok : (ops : OpList) → opsOK ops = true → (source : Option Ident) → (ds : Nat) →
    (dst out : List SubA) → AllOK dst → splitOpsA source ds dst ops = some out → AllOK out :=
  fun ops hok source ds dst out hd h => (splitOpsA_run ops source ds dst out h).ok hok hd

theorem splitA_ok (t : Tabular) (hok : tabularOK t = true) (dst out : List SubA) (hd : AllOK dst)
    (h : splitA dst t = some out) : AllOK out := by
  obtain ⟨source, ops, mid, rfl, hrun, rfl⟩ := splitA_run t dst out h
  exact (hrun.ok hok hd).close _ _

def condsOK : ExprList → Bool
  | .nil => true
  | .cons c cs => exprOKin true c && condsOK cs

theorem exprOKin_and {x y : Expr} (hx : exprOKin true x = true) (hy : exprOKin true y = true) :
    exprOKin true (.binary x .zero .and_ y) = true := by
  simp only [exprOKin, Bool.and_eq_true, Option.isSome_iff_exists] at hx hy ⊢
  obtain ⟨⟨hx1, hx2⟩, a, ha⟩ := hx
  obtain ⟨⟨hy1, hy2⟩, b, hb⟩ := hy
  refine ⟨⟨by simp [Expr.lexOK, hx1, hy1], by simp [shapeOK, hx2, hy2]⟩, .bin "AND" a b, ?_⟩
  simp [tr, ha, hb, plainOp]

theorem exprOKin_key (part : Ident) :
    exprOKin true (.binary (.qident [⟨leftAlias, .zero, false⟩, part]) .zero .eq (.qident [⟨rightAlias, .zero, false⟩, part])) = true := by
  simp only [exprOKin, Bool.and_eq_true, Option.isSome_iff_exists]
  refine ⟨⟨by simp [Expr.lexOK], by simp [shapeOK]⟩, ?_⟩
  simp only [tr, Option.bind_eq_bind, Option.bind_some, if_true]
  split <;> exact ⟨_, rfl⟩

theorem condsOK_build (conds : ExprList) (h : condsOK conds = true) : exprOKin true (buildJoinCondition conds) = true :=
  buildJoinCondition_of (P := fun e => exprOKin true e = true) (PL := fun es => condsOK es = true)
    (fun part _ => exprOKin_key part)
    (fun _ _ h => by simpa only [condsOK, Bool.and_eq_true] using h)
    (fun _ _ => exprOKin_and) (by decide) conds h

end Pql.C05
