/-
`sOK e` (decidable, tree level): the structural facts about an expression that the parser
guarantees when it reports no error and that the side conditions `Expr.lexOK`, `RT.shapeOK` and
"translatable" (`tr` defined) need.  Two clauses are facts about the parser, not the tree type: the list
of an `in` test is non-empty (`x in ()` is a parse error), and the function of a call is an unquoted
identifier (the parser accepts a call only after an identifier token, not after a back-quoted one).
-/
import PqlModel.Lemmas.ExactParseExpr
namespace Pql.ParsedOK
open Pql Pql.Exact

mutual
def sOK : Expr → Bool
  | .nil => false
  | .qident parts => !parts.isEmpty
  | .lit _ k _ => k = .number || k = .string
  | .unary _ op x => (op = .plus || op = .minus) && sOK x
  | .binary x _ op y => knownBinOp op && (sOK x && sOK y)
  | .inE x _ _ vals _ => sOK x && (sOKList vals && vals.length != 0)
  | .paren _ x _ => sOK x
  | .call fn _ args _ => !fn.quoted && sOKList args
  | .index x _ idx _ => sOK x && sOK idx
def sOKList : ExprList → Bool
  | .nil => true
  | .cons e es => sOK e && sOKList es
end

theorem sOKList_snoc : ∀ (acc : ExprList) (x : Expr), sOKList (acc.snoc x) = (sOKList acc && sOK x)
  | .nil, x => by simp [ExprList.snoc, sOKList]
  | .cons e es, x => by simp [ExprList.snoc, sOKList, sOKList_snoc es x, Bool.and_assoc]

theorem length_snoc : ∀ (acc : ExprList) (x : Expr), (acc.snoc x).length = acc.length + 1
  | .nil, x => by simp [ExprList.snoc, ExprList.length]
  | .cons e es, x => by simp [ExprList.snoc, ExprList.length, length_snoc es x]

theorem length_ne_zero : ∀ {l : ExprList}, l ≠ .nil → l.length ≠ 0
  | .nil, h => absurd rfl h
  | .cons _ _, _ => by simp [ExprList.length]

theorem sOK_alg : ExprAlg True (sOK · = true) (sOKList · = true) where
  nil := fun h => absurd trivial h
  lit := fun _ hk => by simpa [sOK] using hk
  qident := fun _ h => by simpa [sOK] using h
  unary := fun _ _ hk hx => by simp only [sOK, hx, Bool.and_true]; simpa using hk
  binary := fun _ op _ hp hin hx hy => by
    simp only [sOK, knownBinOp_of_prec op.kind hp hin, hx, hy, Bool.and_self]
  inE := fun _ _ _ _ _ hx hl hn => by
    simp only [sOK, hx, hl, Bool.true_and, bne_iff_ne, ne_eq]; exact length_ne_zero (hn trivial)
  paren := fun _ _ _ hx => by simpa only [sOK] using hx
  call := fun _ _ _ _ _ hl => by simp only [sOK, hl, Bool.not_false, Bool.and_self]
  index := fun _ _ _ _ hx hi => by simp only [sOK, hx, hi, Bool.and_self]
  lnil := rfl
  snoc := fun l x hl hx => by simp only [sOKList_snoc, hl, hx, Bool.and_self]

theorem pExpr_sOK {c : PCtx} {fuel : Nat} {ts : List Token} (h : (pExpr c fuel ts).errs = []) :
    sOK (pExpr c fuel ts).val = true := (exprShapeOk sOK_alg c fuel).1 ts h

theorem pExprList_sOK {c : PCtx} {fuel : Nat} {ts : List Token}
    (h : (pExprList c fuel ts).errs = []) :
    sOKList (pExprList c fuel ts).val = true ∧ (pExprList c fuel ts).val.length ≠ 0 :=
  have g := (exprShapeOk sOK_alg c fuel).2 ts h
  ⟨g.1, length_ne_zero g.2⟩

end Pql.ParsedOK
