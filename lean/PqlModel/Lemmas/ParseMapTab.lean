/-
The tabular block (`tabularExpr`, the operator loop, the operator dispatch, `join`), `let`
statements, one iteration of `Parse`'s loop and the loop itself (as the fold over the groups of
tokens between the semicolon tokens, ParseFold.lean) commute with a map on tokens.
-/
import PqlModel.Lemmas.ParseMapOps
import PqlModel.Lemmas.ParseFold
import PqlModel.Lemmas.TabDispatch
namespace Pql
open Layout

theorem Layout.mapOpList_snoc (f : Span → Span) (x : Op) : (acc : OpList) →
    mapOpList f (acc.snoc x) = (mapOpList f acc).snoc (mapOp f x)
  | .nil => by simp only [OpList.snoc, mapOpList]
  | .cons e es => by simp only [OpList.snoc, mapOpList, mapOpList_snoc f x es]

namespace TokMap
variable (M : TokMap)

/-- the commutation statement for the operator dispatch (`none` = unknown operator name) -/
def CommO (r r' : Option (PRes Op)) : Prop :=
  r' = r.map (M.res (mapOp M.sp)) ∧ ∀ x, r = some x → M.Ok x.rest

theorem CommO.of_comm {r r' : PRes Op} (h : M.Comm (mapOp M.sp) r r') : M.CommO (some r) (some r') :=
  ⟨by rw [h.1]; rfl, fun x hx => by cases hx; exact h.2⟩

variable {M} in
theorem CommO.ite {c : Prop} {d d' : Decidable c} {a b a' b' : Option (PRes Op)}
    (ht : c → M.CommO a a') (hf : ¬c → M.CommO b b') :
    M.CommO (@_root_.ite _ c d a b) (@_root_.ite _ c d' a' b') := by
  by_cases h : c
  · rw [if_pos h, if_pos h]; exact ht h
  · rw [if_neg h, if_neg h]; exact hf h

structure TabComm (fuel : Nat) : Prop where
  tabular : ∀ ts, M.Ok ts →
    M.Comm (mapTabular M.sp) (pTabular M.src fuel ts) (pTabular M.dst fuel (ts.map M.tok))
  ops : ∀ ops acc ts, M.Ok ts →
    M.Comm (mapOpList M.sp) (pOps M.src fuel ops acc ts)
      (pOps M.dst fuel (mapOpList M.sp ops) (mapErrs M.esp acc) (ts.map M.tok))
  operator : ∀ pipe name ts, M.Ok (name :: ts) →
    M.CommO (pOperator M.src fuel pipe name ts)
      (pOperator M.dst fuel (M.sp pipe) (M.tok name) (ts.map M.tok))
  join : ∀ pipe kw ts, M.Ok ts →
    M.Comm (mapOp M.sp) (pJoin M.src fuel pipe kw ts)
      (pJoin M.dst fuel (M.sp pipe) (M.sp kw) (ts.map M.tok))

theorem TabComm.zero : M.TabComm 0 := by
  constructor
  · intro ts h; exact ⟨rfl, h⟩
  · intro ops acc ts h; exact ⟨by simp only [pOps]; res_eq [], h⟩
  · intro pipe name ts h
    rw [pOperator, pOperator]
    exact CommO.of_comm M ⟨by res_eq [M.span name h.head], h.tail⟩
  · intro pipe kw ts h; exact ⟨by simp only [pJoin]; res_eq [], h⟩

variable {M} {fuel : Nat}

theorem pTabular_step (ih : M.TabComm fuel) (ts : List Token) (h : M.Ok ts) :
    M.Comm (mapTabular M.sp) (pTabular M.src (fuel + 1) ts) (pTabular M.dst (fuel + 1) (ts.map M.tok)) := by
  obtain ⟨ei, pi_⟩ := M.pIdent_map ts h
  simp only [pTabular]
  rw [ei, res_errs, res_val, res_rest]
  rcases (pIdent M.src ts).val with _ | name
  · exact ⟨rfl, pi_⟩
  · obtain ⟨e1, p1⟩ := ih.ops .nil [] _ pi_
    simp only [Option.map_some]
    rw [mapOpList, mapErrs_nil] at e1
    rw [e1]
    exact ⟨by res_eq [], p1⟩

theorem pOps_step (ih : M.TabComm fuel) (ops : OpList) (acc : Errs) (ts : List Token) (h : M.Ok ts) :
    M.Comm (mapOpList M.sp) (pOps M.src (fuel + 1) ops acc ts)
      (pOps M.dst (fuel + 1) (mapOpList M.sp ops) (mapErrs M.esp acc) (ts.map M.tok)) := by
  rcases ts with _ | ⟨pipeTok, rest⟩
  · exact ⟨rfl, M.Ok_nil⟩
  · simp only [pOps, List.map_cons, M.kind, M.split_map]
    refine .ite (fun _ => ⟨rfl, h⟩) fun _ => ?_
    · have hs1 := h.tail.split1 (k := .pipe)
      have hs2 := h.tail.split2 (k := .pipe)
      -- every way round the loop continues on `sp.2` with one more error or one more operator
      have next : ∀ t, M.ok t → M.Comm (mapOpList M.sp) (pOps M.src fuel ops (acc ++ errAt t.span) (split .pipe rest).2)
          (pOps M.dst fuel (mapOpList M.sp ops) (mapErrs M.esp acc ++ errAt (M.tok t).span)
            ((split .pipe rest).2.map M.tok)) := by
        intro t ht
        have := ih.ops ops (acc ++ errAt t.span) _ hs2
        rw [mapErrs_append, M.esp_errAt ht] at this
        exact this
      rcases hsp : (split .pipe rest).1 with _ | ⟨name, opToks⟩
      · exact next pipeTok h.head
      · rw [hsp] at hs1
        simp only [List.map_cons, M.kind]
        refine .ite (fun _ => next name hs1.head) fun _ => ?_
        · obtain ⟨eo, po⟩ := ih.operator pipeTok.span name opToks hs1
          rw [← M.span pipeTok h.head] at eo
          rw [eo]
          rcases ho : pOperator M.src fuel pipeTok.span name opToks with _ | r
          · exact next name hs1.head
          · have := ih.ops (ops.snoc r.val) (acc ++ r.errs ++ endSplit r.rest) _ hs2
            rw [mapErrs_append, mapErrs_append, M.esp_endSplit (po r ho), mapOpList_snoc] at this
            exact this

theorem pOperator_step (ih : M.TabComm fuel) (pipe : Span) (name : Token) (ts : List Token)
    (h0 : M.Ok (name :: ts)) :
    M.CommO (pOperator M.src (fuel + 1) pipe name ts)
      (pOperator M.dst (fuel + 1) (M.sp pipe) (M.tok name) (ts.map M.tok)) := by
  have hn := h0.head
  have h := h0.tail
  have hsp := M.span name hn
  unfold pOperator
  dsimp only
  rw [M.value name]
  -- the image of the name has the same spelling: both runs take the same branch
  refine .ite (fun _ => ?count) fun _ => .ite (fun _ => ?where_) fun _ => .ite (fun _ => ?sort) fun _ =>
    .ite (fun _ => ?take) fun _ => .ite (fun _ => ?top) fun _ => .ite (fun _ => ?project) fun _ =>
    .ite (fun _ => ?extend) fun _ => .ite (fun _ => ?summarize) fun _ => .ite (fun _ => ?join) fun _ =>
    .ite (fun _ => ?as_) fun _ => .ite (fun _ => ?render) fun _ => ⟨rfl, nofun⟩
  case count => exact .of_comm M ⟨by res_eq [hsp], h⟩
  case where_ =>
    obtain ⟨e1, p1⟩ := M.pExpr_map fuel ts h
    rw [e1]
    exact .of_comm M ⟨by res_eq [hsp], p1⟩
  case sort =>
    rcases ts with _ | ⟨by_, rest⟩
    · exact .of_comm M ⟨by res_eq [hsp], M.Ok_nil⟩
    · simp only [List.map_cons, M.kind]
      refine .ite
        (fun _ => .of_comm M ⟨by res_eq [hsp, M.span by_ h.head, M.espan by_ h.head], h.tail⟩) fun _ => ?_
      obtain ⟨e1, p1⟩ := M.pSortTerms_map fuel (rest.length + 1) [] rest h.tail
      rw [List.map_nil] at e1
      simp only [List.length_map]
      rw [e1, show (⟨(M.tok name).span.start, ((M.tok by_).stop : Nat)⟩ : Span) =
        M.sp ⟨name.span.start, (by_.stop : Nat)⟩ from
          M.span2 name by_ hn h.head (h0.lt (List.mem_cons_self ..))]
      exact .of_comm M ⟨by res_eq [], p1⟩
  case take =>
    obtain ⟨e1, p1⟩ := M.pRowCount_map fuel ts h
    rw [e1]
    exact .of_comm M ⟨by res_eq [hsp], p1⟩
  case top =>
    obtain ⟨e1, p1⟩ := M.pRowCount_map fuel ts h
    rw [e1, res_errs, res_val, res_rest]
    generalize pRowCount M.src fuel ts = r at p1 ⊢
    simp only [ne_eq, mapErrs_eq_nil]
    refine .ite (fun _ => .of_comm M ⟨by res_eq [hsp], p1⟩) fun _ => ?_
    rcases hr : r.rest with _ | ⟨by_, rest⟩
    · exact .of_comm M ⟨by res_eq [hsp], M.Ok_nil⟩
    · rw [hr] at p1
      simp only [List.map_cons, M.kind]
      refine .ite
        (fun _ => .of_comm M ⟨by res_eq [hsp, hr, M.span by_ p1.head, M.espan by_ p1.head], p1⟩) fun _ => ?_
      obtain ⟨e2, p2⟩ := M.pSortTerm_map fuel rest p1.tail
      rw [e2]
      exact .of_comm M ⟨by res_eq [hsp, M.span by_ p1.head], p2⟩
  case project =>
    obtain ⟨e1, p1⟩ := M.pProjectCols_map fuel (ts.length + 1) [] ts h
    rw [List.map_nil] at e1
    simp only [List.length_map]
    rw [e1]
    exact .of_comm M ⟨by res_eq [hsp], p1⟩
  case extend =>
    obtain ⟨e1, p1⟩ := M.pExtendCols_map fuel (ts.length + 1) [] ts h
    rw [List.map_nil] at e1
    simp only [List.length_map]
    rw [e1]
    exact .of_comm M ⟨by res_eq [hsp], p1⟩
  case summarize => rw [hsp]; exact .of_comm M (M.pSummarize_map fuel pipe name.span ts h)
  case join => rw [hsp]; exact .of_comm M (ih.join pipe name.span ts h)
  case as_ =>
    obtain ⟨e1, p1⟩ := M.pIdent_map ts h
    rw [e1]
    exact .of_comm M ⟨by res_eq [hsp], p1⟩
  case render => rw [hsp]; exact .of_comm M (M.pRender_map fuel pipe name.span (M.espan name hn) ts h)

theorem joinTail_map (ih : M.TabComm fuel) (pipe kw kind ka : Span) (fl : Option Ident)
    (e0 : Errs) (rest : List Token) (h : M.Ok rest) :
    M.Comm (mapOp M.sp) (joinTail M.src fuel pipe kw kind ka fl e0 rest)
      (joinTail M.dst fuel (M.sp pipe) (M.sp kw) (M.sp kind) (M.sp ka)
        (fl.map (mapIdent M.sp)) (mapErrs M.esp e0) (rest.map M.tok)) := by
  rcases rest with _ | ⟨lp, rest1⟩
  · exact ⟨by simp only [joinTail, List.map_nil]; res_eq [], M.Ok_nil⟩
  · have hlp := M.span lp h.head
    simp only [joinTail, List.map_cons, M.kind, M.split_map]
    refine .ite (fun _ => ⟨by res_eq [hlp, M.espan lp h.head], h.tail⟩) fun _ => ?_
    obtain ⟨e1, p1⟩ := ih.tabular _ (h.tail.split1 (k := .rparen))
    rw [e1]
    generalize pTabular M.src fuel (split .rparen rest1).1 = rr at p1 ⊢
    have hs2 := h.tail.split2 (k := .rparen)
    rcases hsp : (split .rparen rest1).2 with _ | ⟨rp, rest2⟩
    · exact ⟨by res_eq [hlp, M.esp_endSplit p1], M.Ok_nil⟩
    · rw [hsp] at hs2
      have hrp := M.span rp hs2.head
      simp only [List.map_cons, M.kind]
      refine .ite
        (fun _ => ⟨by res_eq [hlp, hrp, M.espan rp hs2.head, M.esp_endSplit p1], hs2.tail⟩) fun _ => ?_
      rcases rest2 with _ | ⟨on, rest3⟩
      · exact ⟨by res_eq [hlp, hrp, M.esp_endSplit p1], M.Ok_nil⟩
      · have h6 := hs2.tail
        simp only [List.map_cons, M.isIdentNamed_tok]
        refine .ite (fun _ =>
          ⟨by res_eq [hlp, hrp, M.span on h6.head, M.espan on h6.head, M.esp_endSplit p1], h6.tail⟩)
          fun _ => ?_
        obtain ⟨e2, p2⟩ := M.pExprList_map fuel rest3 h6.tail
        rw [e2]
        exact ⟨by res_eq [hlp, hrp, M.span on h6.head, M.esp_endSplit p1], p2⟩

theorem pJoin_step (ih : M.TabComm fuel) (pipe kw : Span) (ts : List Token) (h : M.Ok ts) :
    M.Comm (mapOp M.sp) (pJoin M.src (fuel + 1) pipe kw ts)
      (pJoin M.dst (fuel + 1) (M.sp pipe) (M.sp kw) (ts.map M.tok)) := by
  rw [pJoin_eq, pJoin_eq]
  rcases ts with _ | ⟨t0, rest0⟩
  · exact ⟨by res_eq [], M.Ok_nil⟩
  · have h0 := M.span t0 h.head
    simp only [List.map_cons, M.isIdentNamed_tok]
    refine .ite (fun _ => ?_) fun _ => ?_
    · rcases rest0 with _ | ⟨asg, rest1⟩
      · exact ⟨by res_eq [h0], M.Ok_nil⟩
      · have h2 := h.tail
        have ha0 := M.span asg h2.head
        simp only [List.map_cons, M.kind]
        refine .ite (fun _ => ⟨by res_eq [h0, ha0, M.espan asg h2.head], h2.tail⟩) fun _ => ?_
        rcases rest1 with _ | ⟨fl, rest2⟩
        · exact ⟨by res_eq [h0, ha0], M.Ok_nil⟩
        · have h4 := h2.tail
          simp only [List.map_cons, M.kind, M.value]
          refine .ite
            (fun _ => ⟨by res_eq [h0, ha0, M.span fl h4.head, M.espan fl h4.head], h4.tail⟩) fun _ => ?_
          have := joinTail_map ih pipe kw t0.span asg.span (some ⟨fl.value, fl.span, false⟩)
            (if isJoinType fl.value = true then [] else errAt fl.span) rest2 h4.tail
          have he : mapErrs M.esp (if isJoinType fl.value = true then [] else errAt fl.span) =
              (if isJoinType fl.value = true then [] else errAt (M.tok fl).span) := by
            split
            · rfl
            · exact M.esp_errAt h4.head
          simp only [he, Option.map_some, mapIdent, ← h0, ← ha0, ← M.span fl h4.head] at this
          exact this
    · have := joinTail_map ih pipe kw .null .null none [] (t0 :: rest0) h
      simp only [M.null, mapErrs_nil, Option.map_none, List.map_cons] at this
      exact this

theorem tabComm : ∀ fuel, M.TabComm fuel
  | 0 => TabComm.zero M
  | fuel + 1 =>
    have ih := tabComm fuel
    ⟨pTabular_step ih, pOps_step ih, pOperator_step ih, pJoin_step ih⟩

variable (M)

theorem pTabular_map (fuel : Nat) (ts : List Token) (h : M.Ok ts) :
    M.Comm (mapTabular M.sp) (pTabular M.src fuel ts) (pTabular M.dst fuel (ts.map M.tok)) :=
  (tabComm fuel).tabular ts h

theorem pLet_map (fuel : Nat) (ts : List Token) (h : M.Ok ts) :
    M.Comm (Option.map (mapStmt M.sp)) (pLet M.src fuel ts) (pLet M.dst fuel (ts.map M.tok)) := by
  rcases ts with _ | ⟨kwd, rest⟩
  · exact ⟨by simp only [pLet, List.map_nil]; res_eq [], M.Ok_nil⟩
  · have hk := M.span kwd h.head
    simp only [pLet, List.map_cons, M.isIdentNamed_tok]
    refine .ite (fun _ => ⟨by res_eq [hk, M.espan kwd h.head], h⟩) fun _ => ?_
    obtain ⟨ei, pi_⟩ := M.pIdent_map rest h.tail
    rw [ei, res_errs, res_val, res_rest]
    generalize pIdent M.src rest = ri at pi_ ⊢
    obtain ⟨v, e, rr⟩ := ri
    rcases v with _ | name
    · exact ⟨by res_eq [hk], pi_⟩
    · rcases rr with _ | ⟨asg, rest2⟩
      · exact ⟨by res_eq [hk], M.Ok_nil⟩
      · simp only [Option.map_some, List.map_cons, M.kind]
        refine .ite
          (fun _ => ⟨by res_eq [hk, M.span asg pi_.head, M.espan asg pi_.head], pi_.tail⟩) fun _ => ?_
        obtain ⟨e1, p1⟩ := M.pExpr_map fuel rest2 pi_.tail
        rw [e1]
        exact ⟨by res_eq [hk, M.span asg pi_.head], p1⟩

/-- one iteration of `Parse`'s loop: the statement and the error leaves are mapped, the flag
    "replaces the accumulated error" is the same -/
theorem pStatement_map (ts : List Token) (h : M.Ok ts) :
    pStatement M.dst (ts.map M.tok) =
      ((pStatement M.src ts).1.map (mapStmt M.sp), mapErrs M.esp (pStatement M.src ts).2.1,
        (pStatement M.src ts).2.2) := by
  obtain ⟨el, pl⟩ := M.pLet_map (fuelFor ts.length) ts h
  obtain ⟨et, pt⟩ := M.pTabular_map (fuelFor ts.length) ts h
  simp only [pStatement, List.length_map]
  rw [el, et]
  generalize pLet M.src (fuelFor ts.length) ts = rl at pl ⊢
  generalize pTabular M.src (fuelFor ts.length) ts = rt at pt ⊢
  obtain ⟨tv, te, tr⟩ := rt
  simp only [res_errs, res_val, res_rest, isNF_mapErrs]
  by_cases hnf : isNF rl.errs = true
  · simp only [hnf, Bool.not_true, Bool.false_eq_true, ↓reduceIte]
    cases tv <;> simp only [mapTabular, isNF_mapErrs] <;>
    · split
      · rcases tr with _ | ⟨t, rest⟩
        · rfl
        · simp only [List.map_cons, mapErrs_append, M.esp_errAt pt.head, Option.map_none]
      · simp only [Option.map_some, Option.map_none, mapStmt, mapTabular, mapErrs_append,
          mkOpaque_mapErrs, M.esp_endSplit pt]
  · simp only [hnf, Bool.not_false, Bool.false_eq_true, ↓reduceIte, res_errs, res_val, res_rest,
      isNF_mapErrs, mapErrs_append, mkOpaque_mapErrs, M.esp_endSplit pl]

theorem semiGroups_map (ts : List Token) :
    semiGroups (ts.map M.tok) = (semiGroups ts).map (List.map M.tok) := by
  induction ts with
  | nil => rfl
  | cons t ts ih =>
    simp only [List.map_cons, semiGroups, M.kind, ih]
    split
    · rfl
    · cases semiGroups ts <;> rfl

theorem stepAcc_map (st : List Stmt × Errs) (r : Option Stmt × Errs × Bool) :
    stepAcc (st.1.map (mapStmt M.sp), mapErrs M.esp st.2)
        (r.1.map (mapStmt M.sp), mapErrs M.esp r.2.1, r.2.2) =
      ((stepAcc st r).1.map (mapStmt M.sp), mapErrs M.esp (stepAcc st r).2) := by
  obtain ⟨_ | s, e, b⟩ := r <;> cases b <;> simp [stepAcc, mapErrs_append]

theorem foldStmts_map : ∀ (gs : List (List Token)) (st : List Stmt × Errs), (∀ g ∈ gs, M.Ok g) →
    foldStmts M.dst (st.1.map (mapStmt M.sp), mapErrs M.esp st.2) (gs.map (List.map M.tok)) =
      ((foldStmts M.src st gs).1.map (mapStmt M.sp), mapErrs M.esp (foldStmts M.src st gs).2)
  | [], _, _ => rfl
  | g :: gs, st, h => by
    rw [List.map_cons, foldStmts_cons, foldStmts_cons, M.pStatement_map g (h g List.mem_cons_self),
      M.stepAcc_map]
    exact foldStmts_map gs _ fun g' hg' => h g' (List.mem_cons_of_mem _ hg')

theorem parseTokens_map (ts : List Token) (h : M.Ok ts) :
    parseTokens M.dst.srcLen (ts.map M.tok) =
      ((parseTokens M.src.srcLen ts).1.map (mapStmt M.sp), mapErrs M.esp (parseTokens M.src.srcLen ts).2) := by
  rw [parseTokens_eq_fold, parseTokens_eq_fold, M.semiGroups_map]
  exact M.foldStmts_map _ ([], []) fun g hg => h.sublist (semiGroups_sublist ts g hg)

end TokMap
end Pql
