/-
C13 exactness, the hypothesis discharged for parsed trees, expressions: every
expression the parser builds — with or without errors — uses only binary operators the
compiler translates (`opsKnown`).
-/
import PqlModel.Lemmas.ExactExpr
import PqlModel.Lemmas.ExprShape
namespace Pql.Exact
open Pql

theorem knownBinOp_of_prec (k : TokKind) (hp : ¬ precOf k < 0) (hin : k ≠ .in_) :
    knownBinOp k = true := by
  have all : ∀ k ∈ TokKind.all, ¬ precOf k < 0 → k ≠ .in_ → knownBinOp k = true := by decide +kernel
  exact all k (tokKind_mem_all k) hp hin

theorem opsKnownList_snoc : ∀ (acc : ExprList) (x : Expr),
    opsKnownList (acc.snoc x) = (opsKnownList acc && opsKnown x)
  | .nil, x => by simp [ExprList.snoc, opsKnownList]
  | .cons e es, x => by simp [ExprList.snoc, opsKnownList, opsKnownList_snoc es x, Bool.and_assoc]

theorem opsKnown_alg : ExprAlg False (opsKnown · = true) (opsKnownList · = true) where
  nil := fun _ => rfl
  lit := fun _ _ => rfl
  qident := fun _ _ => rfl
  unary := fun _ _ _ hx => by simpa only [opsKnown] using hx
  binary := fun _ op _ hp hin hx hy => by
    simp only [opsKnown, knownBinOp_of_prec op.kind hp hin, hx, hy, Bool.and_self]
  inE := fun _ _ _ _ _ hx hl _ => by simp only [opsKnown, hx, hl, Bool.and_self]
  paren := fun _ _ _ hx => by simpa only [opsKnown] using hx
  call := fun _ _ _ _ _ hl => by simpa only [opsKnown] using hl
  index := fun _ _ _ _ hx hi => by simp only [opsKnown, hx, hi, Bool.and_self]
  lnil := rfl
  snoc := fun l x hl hx => by simp only [opsKnownList_snoc, hl, hx, Bool.and_self]

theorem pExpr_opsKnown (c : PCtx) (fuel : Nat) (ts : List Token) :
    opsKnown (pExpr c fuel ts).val = true := (exprShapeAll opsKnown_alg c fuel).1 ts

theorem pExprList_opsKnown (c : PCtx) (fuel : Nat) (ts : List Token) :
    opsKnownList (pExprList c fuel ts).val = true := (exprShapeAll opsKnown_alg c fuel).2 ts

end Pql.Exact
