/-
A let value is written in let mode; the substituted value is written in the mode of the place
where the name is used.  Whenever let mode succeeds, default mode gives the same chunks, and
so does join mode provided the value mentions neither `$left` nor `$right` (otherwise an
equality inside the value could be written without its `coalesce(…, FALSE)` — see the
counterexample in Props/C06Subst).
-/
import PqlModel.Lemmas.ScopeSubst
namespace Pql
open CompileOracle

def IdsFree (a : Bytes) (ids : List Ident) : Prop := ids.any (·.name == a) = false

theorem IdsFree.append {a : Bytes} {xs ys : List Ident} :
    IdsFree a (xs ++ ys) ↔ IdsFree a xs ∧ IdsFree a ys := by
  simp only [IdsFree, List.any_append, Bool.or_eq_false_iff]

/-- the expression mentions neither join alias, at any depth, quoted or not -/
def AliasFree (e : Expr) : Prop := IdsFree leftAlias (exprIdents e) ∧ IdsFree rightAlias (exprIdents e)

def AliasFreeL (es : ExprList) : Prop := IdsFree leftAlias (exprListIdents es) ∧ IdsFree rightAlias (exprListIdents es)

theorem aliasFree_split {m : Mode} {a b : List Ident}
    (h : m = .join → IdsFree leftAlias (a ++ b) ∧ IdsFree rightAlias (a ++ b)) :
    (m = .join → IdsFree leftAlias a ∧ IdsFree rightAlias a) ∧
      (m = .join → IdsFree leftAlias b ∧ IdsFree rightAlias b) :=
  ⟨fun hm => ⟨(IdsFree.append.1 (h hm).1).1, (IdsFree.append.1 (h hm).2).1⟩,
    fun hm => ⟨(IdsFree.append.1 (h hm).1).2, (IdsFree.append.1 (h hm).2).2⟩⟩

theorem AliasFree.hasJoinTerms {e : Expr} (h : AliasFree e) : hasJoinTerms e = (false, false) := by
  unfold Pql.hasJoinTerms
  dsimp only
  rw [h.1, h.2]

/-- the join-mode test of an equality is off in every mode when neither side mentions an alias -/
theorem joinTest_false {c : Ctx} {x y : Expr} (h : c.mode = .join → AliasFree x ∧ AliasFree y) :
    ¬ joinTest c x y := by
  intro ⟨h1, h2, _⟩
  obtain ⟨hx, hy⟩ := h h1
  rw [hx.hasJoinTerms, hy.hasJoinTerms] at h2
  simp at h2

section
variable {src : Bytes} {s : Scope} {m : Mode}

/-- **let mode is the strictest mode.** -/
theorem of_let_alg : ExprTreeAlg
    (fun v => (m = .join → AliasFree v) → OkLe (writeExpr ⟨src, s, .let_⟩ v) (writeExpr ⟨src, s, m⟩ v))
    (fun es => (m = .join → AliasFreeL es) →
      OkLe (writeList ⟨src, s, .let_⟩ es) (writeList ⟨src, s, m⟩ es) ∧
        OkLe (writeListMaybeParen' ⟨src, s, .let_⟩ es) (writeListMaybeParen' ⟨src, s, m⟩ es)) where
  nil := fun _ => OkLe.refl _
  qident := fun parts _ => by
    match parts with
    | [] | _ :: _ :: _ =>
      simp only [writeExpr]
      exact OkLe.of_error _ _
    | [p] =>
      intro b hb
      cases hq : p.quoted with
      | true => simp [writeExpr, hq] at hb
      | false =>
        cases hl : lookupScope s p.name with
        | some sql =>
          simp only [writeExpr, hq, hl] at hb ⊢
          exact hb
        | none =>
          cases hbi : builtinIdent p.name with
          | some sql =>
            simp only [writeExpr, hq, hl, hbi] at hb ⊢
            exact hb
          | none => simp [writeExpr, hq, hl, hbi] at hb
  lit := fun _ _ _ _ => OkLe.refl _
  unary := fun _ _ _ ih h => OkLe.bind (OkLe.map _ (ih h)) fun _ => OkLe.refl _
  binary := fun x _ op y ihx ihy h => by
    obtain ⟨hx, hy⟩ := aliasFree_split h
    have ex0 := ihx hx
    have ey0 := ihy hy
    have ex := OkLe.map (wrapMaybe x) ex0
    have ey := OkLe.map (wrapMaybe y) ey0
    have hj : ¬ joinTest ⟨src, s, m⟩ x y := joinTest_false fun hm => ⟨hx hm, hy hm⟩
    have hjl : ¬ joinTest ⟨src, s, .let_⟩ x y := fun h => by cases h.1
    simp only [writeExpr, if_neg hj, if_neg hjl]
    repeat' apply OkLe.ite
    · exact OkLe.bind ex fun _ => OkLe.bind ey fun _ => OkLe.refl _
    · exact OkLe.bind ex fun _ => OkLe.bind ey fun _ => OkLe.refl _
    · exact OkLe.bind ex0 fun _ => OkLe.bind ey0 fun _ => OkLe.refl _
    · exact OkLe.bind ex0 fun _ => OkLe.bind ey0 fun _ => OkLe.refl _
    · split
      · exact OkLe.bind ex fun _ => OkLe.bind ey fun _ => OkLe.refl _
      · exact OkLe.refl _
  inE := fun _ _ _ _ _ ihx ihl h =>
    OkLe.bind (OkLe.map _ (ihx (aliasFree_split h).1)) fun _ =>
      OkLe.bind (ihl (aliasFree_split h).2).2 fun _ => OkLe.refl _
  paren := fun _ _ _ ih h => ih h
  call := fun fn _ args _ ihl h => by
    simp only [writeExpr]
    split
    · split
      · exact OkLe.refl _
      · exact OkLe.bind (ihl h).1 fun _ => OkLe.refl _
    · exact OkLe.bind (ihl h).1 fun _ => OkLe.refl _
  index := fun _ _ _ _ ihx ihi h =>
    OkLe.bind (OkLe.map _ (ihx (aliasFree_split h).1)) fun _ =>
      OkLe.bind (ihi (aliasFree_split h).2) fun _ => OkLe.refl _
  lnil := fun _ => ⟨OkLe.refl _, OkLe.refl _⟩
  cons := fun _ _ ihe ihl h =>
    ⟨OkLe.bind (ihe (aliasFree_split h).1) fun _ => OkLe.bind (ihl (aliasFree_split h).2).1 fun _ => OkLe.refl _,
      OkLe.bind (OkLe.map _ (ihe (aliasFree_split h).1)) fun _ =>
        OkLe.bind (ihl (aliasFree_split h).2).2 fun _ => OkLe.refl _⟩

end

theorem writeExpr_of_let {src : Bytes} {s : Scope} {m : Mode} :
    (v : Expr) → (m = .join → AliasFree v) → OkLe (writeExpr ⟨src, s, .let_⟩ v) (writeExpr ⟨src, s, m⟩ v) :=
  of_let_alg.expr

theorem writeList_of_let {src : Bytes} {s : Scope} {m : Mode} :
    (es : ExprList) → (m = .join → AliasFreeL es) → OkLe (writeList ⟨src, s, .let_⟩ es) (writeList ⟨src, s, m⟩ es) :=
  fun es h => (of_let_alg.list es h).1

theorem writeListMP_of_let {src : Bytes} {s : Scope} {m : Mode} :
    (es : ExprList) → (m = .join → AliasFreeL es) →
      OkLe (writeListMaybeParen' ⟨src, s, .let_⟩ es) (writeListMaybeParen' ⟨src, s, m⟩ es) :=
  fun es h => (of_let_alg.list es h).2

end Pql
