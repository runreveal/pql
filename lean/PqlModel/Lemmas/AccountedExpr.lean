/-
Property C08, the expression productions.  If a production succeeds without any error, the
tokens it consumed are a sentence (`DExpr`, Lemmas/Derives.lean) for the tree it returns: kinds,
values and exact positions.  One walk over the successful parses (`expr_ok_induct`), every case a
rule of the grammar relation.
-/
import PqlModel.Lemmas.Derives
import PqlModel.Lemmas.ParseInductOk
namespace Pql
open Grammar

theorem TokWF.symVal {t : Token} {k : TokKind} (h : TokWF t) (hk : t.kind = k)
    (hn : k ≠ .ident ∧ k ≠ .qident ∧ k ≠ .number ∧ k ≠ .string := by decide) : t.value = [] :=
  h.val (hk ▸ hn.1) (hk ▸ hn.2.1) (hk ▸ hn.2.2.1) (hk ▸ hn.2.2.2)

theorem TokOK.sym {t : Token} {ts : List Token} {k : TokKind} (h : TokOK (t :: ts)) (hk : t.kind = k)
    (hn : k ≠ .ident ∧ k ≠ .qident ∧ k ≠ .number ∧ k ≠ .string := by decide) :
    tokOk (Grammar.sym k t.span) t = true := tokOk_sym hk (h.head.symVal hk hn)

theorem TokOK.comma {t : Token} {ts : List Token} (h : TokOK (t :: ts)) (hk : t.kind = .comma) :
    tokOk commaTok t = true := tokOk_commaTok hk (h.head.symVal hk)

theorem split_closed {k : TokKind} {ts rest : List Token} {rp : Token} (hok : TokOK ts)
    (hs : (split k ts).2 = rp :: rest) : ts = (split k ts).1 ++ rp :: rest ∧ TokOK (rp :: rest) :=
  ⟨by rw [← hs, split_append], hs ▸ hok.split2⟩

theorem pIdent_some {c : PCtx} {i : Ident} : ∀ ts, (pIdent c ts).val = some i →
    ∃ t rest, ts = t :: rest ∧ (t.kind = .ident ∨ t.kind = .qident) ∧
      i = ⟨t.value, t.span, t.kind = .qident⟩ ∧ pIdent c ts = ⟨some i, [], rest⟩ := by
  apply pIdent_cases c (motive := fun ts r => r.val = some i → ∃ t rest, ts = t :: rest ∧
    (t.kind = .ident ∨ t.kind = .qident) ∧ i = ⟨t.value, t.span, t.kind = .qident⟩ ∧ r = ⟨some i, [], rest⟩)
  case nil => nofun
  case other => intro t rest _; nofun
  case ident => rintro t rest hk ⟨⟩; exact ⟨t, rest, rfl, hk, rfl, rfl⟩

theorem pIdent_acc {c : PCtx} {ts : List Token} {v : Option Ident} {rest : List Token}
    (h : pIdent c ts = ⟨v, [], rest⟩) :
    ∃ t, ts = t :: rest ∧ (t.kind = .ident ∨ t.kind = .qident) ∧
      v = some ⟨t.value, t.span, t.kind = .qident⟩ := by
  revert h
  apply pIdent_cases c (motive := fun ts r => r = ⟨v, [], rest⟩ → ∃ t, ts = t :: rest ∧
    (t.kind = .ident ∨ t.kind = .qident) ∧ v = some ⟨t.value, t.span, t.kind = .qident⟩)
  case nil => intro h; exact absurd (congrArg PRes.errs h) (nfAt_ne_nil _)
  case other => intro t rest0 _ h; exact absurd (congrArg PRes.errs h) (nfAt_ne_nil _)
  case ident => rintro t rest0 hk ⟨⟩; exact ⟨t, rfl, hk, rfl⟩

theorem pQualTail_sound (c : PCtx) (fuel : Nat) : ∀ (parts : List Ident) (ts : List Token)
    (parts' : List Ident) (rest : List Token), TokOK ts →
    pQualTail c fuel parts ts = ⟨parts', [], rest⟩ →
    ∃ more cons, parts' = parts ++ more ∧ ts = cons ++ rest ∧ DQual more cons ∧
      (more = [] → rest = ts) := by
  induction fuel with
  | zero => intro parts ts parts' rest _ h; simp [pQualTail] at h
  | succ f ih =>
    intro parts ts parts' rest
    have stop : ∀ {ts}, (⟨parts, [], ts⟩ : PRes (List Ident)) = ⟨parts', [], rest⟩ →
        ∃ more cons, parts' = parts ++ more ∧ ts = cons ++ rest ∧ DQual more cons ∧
          (more = [] → rest = ts) := by
      rintro _ ⟨⟩; exact ⟨[], [], by simp, rfl, .nil, fun _ => rfl⟩
    revert ts
    apply pQualTail_cases c f parts (motive := fun ts r => TokOK ts → r = ⟨parts', [], rest⟩ →
      ∃ more cons, parts' = parts ++ more ∧ ts = cons ++ rest ∧ DQual more cons ∧
        (more = [] → rest = ts))
    case nil => exact fun _ => stop
    case stop => exact fun _ _ _ _ => stop
    case sel =>
      rintro t rest0 ri sel hdot rfl hsel hok h
      obtain ⟨t2, r2, rfl, hk2, rfl, hri⟩ := pIdent_some _ hsel
      rw [hri] at h
      obtain ⟨more, cons, rfl, rfl, hq, -⟩ := ih _ _ parts' rest hok.tail.tail h
      exact ⟨_ :: more, t :: t2 :: cons, by simp, by simp,
        .cons (tokOk_dot hdot (hok.head.symVal hdot)) (tokOk_identTok hk2) hq, nofun⟩
    case nosel =>
      rintro t rest0 ri hdot rfl hnone _ h
      have he : (pIdent c rest0).errs = [] := (mkOpaque_eq_nil _).1 (congrArg PRes.errs h)
      obtain ⟨t2, -, -, hv⟩ := pIdent_acc (v := (pIdent c rest0).val) (rest := (pIdent c rest0).rest)
        (by rw [← he])
      rw [hnone] at hv; cases hv

/-- The motives of the walk.  `Sound`: what was consumed between `ts` and `rest` is a sentence of
    `e`; `SoundL`: of the non-empty list `l`; `SoundMore`, for the loops that extend a left operand
    `x` (`pTrail`, `pHigher`): put behind any sentence of `x` it is a sentence of `e`. -/
def Sound (ts : List Token) (e : Expr) (rest : List Token) : Prop :=
  ∃ cons, ts = cons ++ rest ∧ DExpr e cons

def SoundL (ts : List Token) (l : ExprList) (rest : List Token) : Prop :=
  l ≠ .nil ∧ ∃ cons, ts = cons ++ rest ∧ DList l cons

def SoundMore (ts : List Token) (x e : Expr) (rest : List Token) : Prop :=
  ∀ tx, DExpr x tx → ∃ cons, ts = cons ++ rest ∧ DExpr e (tx ++ cons)

theorem SoundMore.refl (ts : List Token) (x : Expr) : SoundMore ts x x ts :=
  fun _ hx => ⟨[], rfl, by simpa using hx⟩

theorem qualTail_sound {c : PCtx} {t : Token} {rest : List Token} {b : Bool} {q : PRes (List Ident)}
    (hok : TokOK (t :: rest)) (hid : tokOk (identTok ⟨t.value, t.span, b⟩) t = true)
    (hq : pQualTail c (rest.length + 1) [⟨t.value, t.span, b⟩] rest = q) (he : q.errs = []) :
    Sound (t :: rest) (.qident q.val) q.rest ∧ (q.val.length ≤ 1 → q.rest = rest) := by
  obtain ⟨parts, qe, qrest⟩ := q
  dsimp only at he ⊢
  subst he
  obtain ⟨more, cons, rfl, rfl, hd, hstop⟩ := pQualTail_sound c _ _ _ _ _ hok.tail hq
  refine ⟨⟨t :: cons, rfl, .qident hid hd⟩, fun hl => hstop ?_⟩
  cases more with
  | nil => rfl
  | cons _ _ => simp at hl

/-- **C08, expressions**: all eight productions. -/
theorem sound_all (c : PCtx) : ∀ f, ExprHolds c
    (fun _ ts r => r.errs = [] → TokOK ts → Sound ts r.val r.rest)
    (fun _ x _ acc ts r => r.errs = [] → acc = [] ∧ (TokOK ts → SoundMore ts x r.val r.rest))
    (fun _ y _ acc ts r => r.errs = [] → acc = [] ∧ (TokOK ts → SoundMore ts y r.val r.rest))
    (fun _ ts r => r.errs = [] → TokOK ts → Sound ts r.val r.rest)
    (fun _ ts r => r.errs = [] → TokOK ts → Sound ts r.val r.rest)
    (fun _ ts r => r.errs = [] → TokOK ts → Sound ts r.val r.rest)
    (fun _ ts r => r.errs = [] → TokOK ts → SoundL ts r.val r.rest)
    (fun _ acc ts r => r.errs = [] → TokOK ts → acc ≠ .nil → ∀ ta, DList acc ta →
      r.val ≠ .nil ∧ ∃ cons, ts = cons ++ r.rest ∧ DList r.val (ta ++ cons)) f := by
  apply expr_ok_induct
    (mE := fun _ ts e rest => TokOK ts → Sound ts e rest)
    (mT := fun _ x _ ts e rest => TokOK ts → SoundMore ts x e rest)
    (mH := fun _ y _ ts e rest => TokOK ts → SoundMore ts y e rest)
    (mU := fun _ ts e rest => TokOK ts → Sound ts e rest)
    (mP := fun _ ts e rest => TokOK ts → Sound ts e rest)
    (mI := fun _ ts e rest => TokOK ts → Sound ts e rest)
    (mL := fun _ ts l rest => TokOK ts → SoundL ts l rest)
    (mLT := fun _ acc ts l rest => TokOK ts → acc ≠ .nil → ∀ ta, DList acc ta →
      l ≠ .nil ∧ ∃ cons, ts = cons ++ rest ∧ DList l (ta ++ cons))
  case e_ok =>
    intro f ts v1 rest1 v2 rest2 hU hT hok
    obtain ⟨c1, rfl, h1⟩ := hU hok
    obtain ⟨c2, rfl, h2⟩ := hT hok.right _ h1
    exact ⟨c1 ++ c2, by simp, h2⟩
  case t_nil | h_nil => intro f x m _; exact .refl _ _
  case t_stop | h_stop => intro f x m op rest _ _; exact .refl _ _
  case t_inList =>
    intro f x m op lp rest2 vl rp rest3 v rest hg hin hlp hs hrp hL hT hok tx hx
    obtain ⟨hr2, hok3⟩ := split_closed hok.tail.tail hs
    obtain ⟨-, cl, hcl, hdl⟩ := hL hok.tail.tail.split1
    rw [List.append_nil] at hcl
    obtain ⟨c3, rfl, h3⟩ :=
      hT hok3.tail _ (.inE hx (hok.sym hin) (hok.tail.sym hlp) hdl (hok3.sym hrp))
    exact ⟨op :: lp :: (cl ++ [rp]) ++ c3, by rw [hr2, hcl]; simp, by simpa using h3⟩
  case t_binary =>
    intro f x m op rest vy resty vh resth v r hg _ hU hH hT hok tx hx
    obtain ⟨cy, rfl, hy⟩ := hU hok.tail
    obtain ⟨ch, rfl, hh⟩ := hH hok.tail.right _ hy
    have hop := hok.sym (k := op.kind) rfl (prec_kind fun h => hg (Or.inl h))
    obtain ⟨c3, rfl, h3⟩ := hT hok.tail.right.right _ (.binary hx hop hh)
    exact ⟨op :: (cy ++ ch) ++ c3, by simp, by simpa using h3⟩
  case h_go =>
    intro f y p op rest v1 rest1 v r _ hT hH hok ty hy
    obtain ⟨c1, h1, hd1⟩ := hT hok _ hy
    obtain ⟨c2, rfl, hd2⟩ := hH (hok.of_eq_append h1) _ hd1
    exact ⟨c1 ++ c2, by rw [h1]; simp, by simpa using hd2⟩
  case u_sign =>
    intro f t rest v r hk hP hok
    obtain ⟨cx, rfl, hx⟩ := hP hok.tail
    have ht : tokOk (sym t.kind t.span) t = true := by
      rcases hk with hk | hk <;> exact hok.sym (k := t.kind) rfl (by rw [hk]; decide)
    exact ⟨t :: cx, rfl, .unary ht hx⟩
  case u_plain => intro f t rest v r _ hP hok; exact hP hok
  case p_plain => intro f ts v rest hI _ hok; exact hI hok
  case p_index =>
    intro f ts v t rest vi rb rest2 hI hlb hs hrb hE hok
    obtain ⟨cx, hts, hx⟩ := hI hok
    have hok1 : TokOK (t :: rest) := hok.of_eq_append hts
    obtain ⟨hr, hok2⟩ := split_closed hok1.tail hs
    obtain ⟨ci, hci, hi⟩ := hE hok1.tail.split1
    rw [List.append_nil] at hci
    exact ⟨cx ++ t :: (ci ++ [rb]), by rw [hts, hr, hci]; simp,
      .index hx (hok1.sym hlb) hi (hok2.sym hrb)⟩
  case i_lit => intro f t rest _ _; exact ⟨[t], rfl, .lit tokOk_lit⟩
  case i_ident =>
    intro f t rest q hk hq _ he hok
    exact (qualTail_sound hok (tokOk_identTok_plain hk) hq he).1
  case i_qident =>
    intro f t rest q hk hq he hok
    exact (qualTail_sound hok (by simpa [hk] using tokOk_identTok (t := t) (Or.inr hk)) hq he).1
  case i_paren =>
    intro f t rest vx rp rest2 hlp hs hrp hE hok
    obtain ⟨hr, hok2⟩ := split_closed hok.tail hs
    obtain ⟨cx, hcx, hx⟩ := hE hok.tail.split1
    rw [List.append_nil] at hcx
    exact ⟨t :: (cx ++ [rp]), by rw [hr, hcx]; simp, .paren (hok.sym hlp) hx (hok2.sym hrp)⟩
  case i_call0 =>
    intro f t rest q lp rest2 rp rest3 hk hq hqe hlen hqr hlp h0 hs hrp hok
    have hr0 : lp :: rest2 = rest :=
      hqr.symm.trans ((qualTail_sound hok (tokOk_identTok_plain hk) hq hqe).2 (by omega))
    subst hr0
    obtain ⟨hr, hok3⟩ := split_closed hok.tail.tail hs
    exact ⟨t :: lp :: ([] ++ [] ++ [rp]), by rw [hr, h0]; simp,
      .call (tokOk_identTok_plain hk) (hok.tail.sym hlp) .nil .none
        (tokOk_symOpt hrp (hok3.head.symVal hrp) true)⟩
  case i_call =>
    intro f t rest q lp rest2 vl restA rp rest3 hk hq hqe hlen hqr hlp hL hA hs hrp hok
    -- a single name: the parenthesis is the next token
    have hr0 : lp :: rest2 = rest :=
      hqr.symm.trans ((qualTail_sound hok (tokOk_identTok_plain hk) hq hqe).2 (by omega))
    subst hr0
    obtain ⟨hr, hok3⟩ := split_closed hok.tail.tail hs
    obtain ⟨-, ta, hta, hd⟩ := hL hok.tail.tail.split1
    have hc : OptComma restA := by
      rcases hA with rfl | ⟨cm, rfl, hcm⟩
      · exact .none
      · exact .one hcm
    exact ⟨t :: lp :: (ta ++ restA ++ [rp]), by rw [hr, hta]; simp,
      .call (tokOk_identTok_plain hk) (hok.tail.sym hlp) hd hc
        (tokOk_symOpt hrp (hok3.head.symVal hrp) true)⟩
  case l_tail =>
    intro f ts v rest vl restl hE hLT hok
    obtain ⟨ce, rfl, he⟩ := hE hok
    obtain ⟨hne, cl, rfl, hl⟩ := hLT hok.right (by simp) _ (.one he)
    exact ⟨hne, ce ++ cl, by simp, hl⟩
  case lt_nil => intro f acc _ hne ta ha; exact ⟨hne, [], rfl, by simpa using ha⟩
  case lt_stop => intro f acc t rest _ _ hne ta ha; exact ⟨hne, [], rfl, by simpa using ha⟩
  case lt_back => intro f acc t rest _ _ _ hne ta ha; exact ⟨hne, [], rfl, by simpa using ha⟩
  case lt_more =>
    intro f acc t rest v rest1 vl restl hk hE hLT hok hne ta ha
    obtain ⟨cv, rfl, hv⟩ := hE hok.tail
    rw [pushArg_of_ne hv.ne_nil.1] at hLT
    obtain ⟨hne', cl, rfl, hl⟩ :=
      hLT hok.tail.right (ExprList.snoc_ne_nil _ _) _ (ha.snoc hne (hok.comma hk) hv)
    exact ⟨hne', t :: cv ++ cl, by simp, by simpa using hl⟩

theorem pExpr_sound {c : PCtx} {fuel : Nat} {ts : List Token} {e : Expr} {rest : List Token}
    (hok : TokOK ts) (h : pExpr c fuel ts = ⟨e, [], rest⟩) : Sound ts e rest := by
  have := (sound_all c fuel).expr ts (by rw [h]) hok
  rwa [h] at this

theorem pExprList_sound {c : PCtx} {fuel : Nat} {ts : List Token} {l : ExprList} {rest : List Token}
    (hok : TokOK ts) (h : pExprList c fuel ts = ⟨l, [], rest⟩) : SoundL ts l rest := by
  have := (sound_all c fuel).exprList ts (by rw [h]) hok
  rwa [h] at this

theorem pExpr_acc {c : PCtx} {fuel : Nat} {ts : List Token} {e : Expr} {rest : List Token}
    (hok : TokOK ts) (h : pExpr c fuel ts = ⟨e, [], rest⟩) :
    ∃ us cons, unparseExpr e = some us ∧ ts = cons ++ rest ∧ accounts true us cons = true :=
  let ⟨cons, hts, hd⟩ := pExpr_sound hok h
  let ⟨us, hu, ha⟩ := hd.acc
  ⟨us, cons, hu, hts, ha⟩

theorem pExprList_acc {c : PCtx} {fuel : Nat} {ts : List Token} {l : ExprList} {rest : List Token}
    (hok : TokOK ts) (h : pExprList c fuel ts = ⟨l, [], rest⟩) :
    l ≠ .nil ∧ ∃ us cons, unparseExprList l = some us ∧ ts = cons ++ rest ∧ accounts true us cons = true :=
  let ⟨hne, cons, hts, hd⟩ := pExprList_sound hok h
  let ⟨us, hu, ha⟩ := hd.acc
  ⟨hne, us, cons, hu, hts, ha⟩

end Pql
