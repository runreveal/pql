/-
The fuel of the reference SQL expression parser: whenever `pExprS` returns at some fuel, it returns
the same at every larger fuel (`Pql.RT.pExprS_mono` …, the `k ≤ K` half of `Bnd`) and at every fuel
`≥ 3 * (number of tokens) + 2`; in particular at `fuelOf ts = 4 * ts.length + 16`, the fuel the
statement parser `pSelect` uses (C05, syntactic half).
Every successful call consumes at least one token (trail / postfix / column tail: at least none).
-/
import PqlModel.Spec.Sql.Parse
namespace Pql.C05
set_option linter.unusedSimpArgs false
open Pql Sql

def Fits (k b K : Nat) : Prop := k ≤ K ∨ b ≤ K

/-- a sub-parse runs at one unit less, and on less input or in a production of lower rank -/
theorem Fits.pred {k b b' K : Nat} (h : Fits (k + 1) b (K + 1)) (hb : b' < b) : Fits k b' K :=
  h.imp Nat.le_of_succ_le_succ fun h => Nat.le_of_lt_succ (Nat.lt_of_lt_of_le hb h)

/-- A result at fuel `k` leaves less than it was given and is the result at every fuel `K` with `k ≤ K`
    (more fuel never changes a result) or above a bound linear in the length of the input (that much fuel
    always suffices); conversely take `K = k`.  One clause for both: in a step the sub-parses run on
    shorter inputs at fuel `K - 1`, and either disjunct passes down to them (`Fits.pred`).  Stated as
    equivalences, the clauses rewrite every sub-parse among the hypotheses of a step into its two facts. -/
structure Bnd (k : Nat) : Prop where
  expr : ∀ m ts s r, pExprS k m ts = some (s, r) ↔
    r.length < ts.length ∧ ∀ K, Fits k (3 * ts.length + 2) K → pExprS K m ts = some (s, r)
  trail : ∀ m x ts s r, pTrailS k m x ts = some (s, r) ↔
    r.length ≤ ts.length ∧ ∀ K, Fits k (3 * ts.length + 1) K → pTrailS K m x ts = some (s, r)
  unary : ∀ ts s r, pUnaryS k ts = some (s, r) ↔
    r.length < ts.length ∧ ∀ K, Fits k (3 * ts.length + 1) K → pUnaryS K ts = some (s, r)
  post : ∀ x ts s r, pPostfixS k x ts = some (s, r) ↔
    r.length ≤ ts.length ∧ ∀ K, Fits k (3 * ts.length + 1) K → pPostfixS K x ts = some (s, r)
  atom : ∀ ts s r, pAtomS k ts = some (s, r) ↔
    r.length < ts.length ∧ ∀ K, Fits k (3 * ts.length) K → pAtomS K ts = some (s, r)
  col : ∀ ps ts s r, pColTail k ps ts = some (s, r) ↔
    r.length ≤ ts.length ∧ ∀ K, Fits k (3 * ts.length + 1) K → pColTail K ps ts = some (s, r)
  list : ∀ ts s r, pListS k ts = some (s, r) ↔
    r.length < ts.length ∧ ∀ K, Fits k (3 * ts.length + 3) K → pListS K ts = some (s, r)

/-- how a clause of `Bnd (k + 1)` is proved: the conclusion at `K = k + 1` is the premise, and a step
    shows the conclusion at fuels `K + 1`, which all fitting fuels are when the bound is positive -/
theorem Bnd.clause {α : Type} {f : Nat → Option α} {v : α} {P : Prop} {k b : Nat} (hb : P → 0 < b)
    (h : f (k + 1) = some v → P ∧ ∀ K, Fits (k + 1) b (K + 1) → f (K + 1) = some v) :
    f (k + 1) = some v ↔ P ∧ ∀ K, Fits (k + 1) b K → f K = some v := by
  refine ⟨fun hf => ⟨(h hf).1, fun K hK => ?_⟩, fun h' => h'.2 _ (.inl (Nat.le_refl _))⟩
  obtain ⟨K', rfl⟩ : ∃ K', K = K' + 1 :=
    ⟨K - 1, (Nat.succ_pred_eq_of_pos (hK.elim (Nat.lt_of_lt_of_le (Nat.succ_pos k)) (Nat.lt_of_lt_of_le (hb (h hf).1)))).symm⟩
  exact (h hf).2 K' hK

theorem Bnd.zero : Bnd 0 := by
  constructor <;> intros <;> exact ⟨nofun, fun h => h.2 0 (.inl (Nat.le_refl 0))⟩

/-- A step along one path of a production, `h` and the hypotheses before it being its sub-parses at fuel `k`:
    these become the two facts of `ih : Bnd k` each; the length fact is arithmetic; at fuel `K + 1` the
    production unfolds to the sub-parses at `K`, which those facts rewrite (`Fits.pred`). -/
macro "bnd_step " ih:ident fn:ident : tactic => `(tactic|
  (simp only [Bnd.expr $ih, Bnd.trail $ih, Bnd.unary $ih, Bnd.post $ih, Bnd.atom $ih, Bnd.col $ih, Bnd.list $ih,
     List.length_cons, List.length_nil] at *
   refine ⟨by omega, fun K hK => ?_⟩
   simp (disch := exact Fits.pred hK (by omega)) only [$fn:ident, *, if_true, if_false, reduceCtorEq, Option.map_some,
     Bool.and_false, Bool.and_true, Bool.false_eq_true, Bool.not_true, Bool.not_false]))

-- the closing step without sub-parses; no proof below calls it (each path has a sub-parse and goes through `bnd_step`)
macro "bnd_close " fn:ident : tactic => `(tactic|
  (simp only [List.length_cons, List.length_nil] at *
   refine ⟨by omega, fun K hK => ?_⟩
   obtain ⟨K', rfl⟩ : ∃ K', K = K' + 1 := ⟨K - 1, by omega⟩
   simp (disch := omega) only [$fn:ident, *, if_true, if_false, reduceCtorEq, Option.map_some, Bool.and_false,
     Bool.and_true, Bool.false_eq_true, Bool.not_true, Bool.not_false]))

theorem expr_bstep {k : Nat} (ih : Bnd k) (m : Nat) (ts : List STok) (s : SExpr) (r : List STok)
    (h : pExprS (k + 1) m ts = some (s, r)) :
    r.length < ts.length ∧ ∀ K, Fits (k + 1) (3 * ts.length + 2) (K + 1) → pExprS (K + 1) m ts = some (s, r) := by
  simp only [pExprS] at h
  repeat' split at h
  all_goals try cases h
  all_goals bnd_step ih pExprS

theorem trail_bstep {k : Nat} (ih : Bnd k) (m : Nat) (x : SExpr) (ts : List STok) (s : SExpr) (r : List STok)
    (h : pTrailS (k + 1) m x ts = some (s, r)) :
    r.length ≤ ts.length ∧ ∀ K, Fits (k + 1) (3 * ts.length + 1) (K + 1) → pTrailS (K + 1) m x ts = some (s, r) := by
  simp only [pTrailS] at h
  repeat' split at h
  all_goals try cases h
  all_goals bnd_step ih pTrailS

theorem unary_bstep {k : Nat} (ih : Bnd k) (ts : List STok) (s : SExpr) (r : List STok)
    (h : pUnaryS (k + 1) ts = some (s, r)) :
    r.length < ts.length ∧ ∀ K, Fits (k + 1) (3 * ts.length + 1) (K + 1) → pUnaryS (K + 1) ts = some (s, r) := by
  simp only [pUnaryS] at h
  repeat' split at h
  all_goals try cases h
  all_goals try (obtain ⟨⟨a, b⟩, h, ⟨⟩⟩ := Option.map_eq_some_iff.1 h)
  all_goals bnd_step ih pUnaryS

theorem post_bstep {k : Nat} (ih : Bnd k) (x : SExpr) (ts : List STok) (s : SExpr) (r : List STok)
    (h : pPostfixS (k + 1) x ts = some (s, r)) :
    r.length ≤ ts.length ∧ ∀ K, Fits (k + 1) (3 * ts.length + 1) (K + 1) → pPostfixS (K + 1) x ts = some (s, r) := by
  simp only [pPostfixS] at h
  repeat' split at h
  all_goals try cases h
  all_goals bnd_step ih pPostfixS

theorem col_bstep {k : Nat} (ih : Bnd k) (ps : List Bytes) (ts : List STok) (s : SExpr) (r : List STok)
    (h : pColTail (k + 1) ps ts = some (s, r)) :
    r.length ≤ ts.length ∧ ∀ K, Fits (k + 1) (3 * ts.length + 1) (K + 1) → pColTail (K + 1) ps ts = some (s, r) := by
  simp only [pColTail] at h
  repeat' split at h
  · bnd_step ih pColTail
  · cases h; bnd_step ih pColTail
  · cases h
    exact ⟨Nat.le_refl _, fun K _ => by simp only [pColTail]⟩

theorem list_bstep {k : Nat} (ih : Bnd k) (ts : List STok) (s : SExprList) (r : List STok)
    (h : pListS (k + 1) ts = some (s, r)) :
    r.length < ts.length ∧ ∀ K, Fits (k + 1) (3 * ts.length + 3) (K + 1) → pListS (K + 1) ts = some (s, r) := by
  simp only [pListS] at h
  repeat' split at h
  all_goals try cases h
  all_goals try (obtain ⟨⟨a, b⟩, h, ⟨⟩⟩ := Option.map_eq_some_iff.1 h)
  all_goals bnd_step ih pListS

/-! The word case of `pAtomS` in parts, each with its own step lemma. -/

/-- `CASE` has been read: `WHEN c THEN a ELSE b END` -/
def pCaseS (fuel : Nat) (rest : List STok) : PR SExpr :=
  match rest with
  | wh :: r1 =>
    if !isWord wh "WHEN" then none else
    match pExprS fuel 0 r1 with
    | some (c, r2) =>
      match r2 with
      | th :: r3 =>
        if !isWord th "THEN" then none else
        match pExprS fuel 0 r3 with
        | some (a, r4) =>
          match r4 with
          | el :: r5 =>
            if !isWord el "ELSE" then none else
            match pExprS fuel 0 r5 with
            | some (b, r6) =>
              match r6 with
              | en :: r7 => if isWord en "END" then some (.case_ c a b, r7) else none
              | [] => none
            | none => none
          | [] => none
        | none => none
      | [] => none
    | none => none
  | [] => none

/-- `name (` has been read: `*)`, `)` or `args )` -/
def pArgsS (fuel : Nat) (r1 : List STok) : PR (Bool × SExprList) :=
  match r1 with
  | st :: rp :: r2 =>
    if isSym st "*" && isSym rp ")" then some ((true, .nil), r2)
    else if isSym st ")" then some ((false, .nil), rp :: r2)
    else
      match pListS fuel r1 with
      | some (as, r3) =>
        match r3 with
        | rp :: r4 => if isSym rp ")" then some ((false, as), r4) else none
        | [] => none
      | none => none
  | [st] => if isSym st ")" then some ((false, .nil), []) else none
  | [] => none

/-- `name ( … )` has been read: an optional `FILTER (WHERE c)` -/
def pFilterS (fuel : Nat) (w : Bytes) (star : Bool) (as : SExprList) (r : List STok) : PR SExpr :=
  match r with
  | f :: lp2 :: wh :: r2 =>
    if isWord f "FILTER" && isSym lp2 "(" && isWord wh "WHERE" then
      match pExprS fuel 0 r2 with
      | some (c, r3) =>
        match r3 with
        | rp :: r4 => if isSym rp ")" then some (.call w star as c, r4) else none
        | [] => none
      | none => none
    else some (.call w star as .none_, r)
  | _ => some (.call w star as .none_, r)

def constWord (u : String) (rest : List STok) : Bool :=
  (u == "TRUE" || u == "FALSE" || u == "NULL" || u == "CURRENT_TIMESTAMP") &&
    !(match rest with | t :: _ => isSym t "(" | [] => false)

theorem pAtomS_word (fuel : Nat) (w : Bytes) (rest : List STok) :
    pAtomS (fuel + 1) (.word w :: rest) =
      if constWord (upper w) rest then some (.const (upper w), rest)
      else if upper w == "CASE" then pCaseS fuel rest
      else if operatorWords.contains (upper w) then none
      else
        match rest with
        | lp :: r1 =>
          if !isSym lp "(" then none else
          match pArgsS fuel r1 with
          | some ((star, as), r) => pFilterS fuel w star as r
          | none => none
        | [] => none := rfl

theorem Fits.mono {k b b' K : Nat} (h : Fits k b K) (hb : b' ≤ b) : Fits k b' K := h.imp id (Nat.le_trans hb)

theorem case_bstep {k : Nat} (ih : Bnd k) (ts : List STok) (s : SExpr) (r : List STok)
    (h : pCaseS k ts = some (s, r)) :
    r.length < ts.length ∧ ∀ K, Fits (k + 1) (3 * ts.length + 1) (K + 1) → pCaseS K ts = some (s, r) := by
  simp only [pCaseS] at h
  repeat' split at h
  all_goals try cases h
  all_goals bnd_step ih pCaseS

theorem args_bstep {k : Nat} (ih : Bnd k) (ts : List STok) (v : Bool × SExprList) (r : List STok)
    (h : pArgsS k ts = some (v, r)) :
    r.length < ts.length ∧ ∀ K, Fits (k + 1) (3 * ts.length + 4) (K + 1) → pArgsS K ts = some (v, r) := by
  simp only [pArgsS] at h
  repeat' split at h
  all_goals try cases h
  all_goals bnd_step ih pArgsS

theorem filter_bstep {k : Nat} (ih : Bnd k) (w : Bytes) (star : Bool) (as : SExprList) (ts : List STok) (s : SExpr)
    (r : List STok) (h : pFilterS k w star as ts = some (s, r)) :
    r.length ≤ ts.length ∧ ∀ K, Fits (k + 1) (3 * ts.length + 1) (K + 1) → pFilterS K w star as ts = some (s, r) := by
  rcases ts with _ | ⟨f, _ | ⟨lp, _ | ⟨wh, r2⟩⟩⟩
  iterate 3 cases h; exact ⟨Nat.le_refl _, fun _ _ => rfl⟩
  simp only [pFilterS] at h
  repeat' split at h
  all_goals try cases h
  all_goals bnd_step ih pFilterS

theorem atom_bstep {k : Nat} (ih : Bnd k) (ts : List STok) (s : SExpr) (r : List STok)
    (h : pAtomS (k + 1) ts = some (s, r)) :
    r.length < ts.length ∧ ∀ K, Fits (k + 1) (3 * ts.length) (K + 1) → pAtomS (K + 1) ts = some (s, r) := by
  rcases ts with _ | ⟨t, rest⟩
  · cases h
  cases t with
  | str v => cases h; exact ⟨Nat.lt_succ_self _, fun _ _ => rfl⟩
  | num v => cases h; exact ⟨Nat.lt_succ_self _, fun _ _ => rfl⟩
  | param v => cases h; exact ⟨Nat.lt_succ_self _, fun _ _ => rfl⟩
  | comment => cases h
  | qid n =>
    have hc := (ih.col _ _ _ _).1 h
    exact ⟨Nat.lt_succ_of_le hc.1, fun K hK => hc.2 K (hK.pred (by simp only [List.length_cons]; omega))⟩
  | sym c =>
    simp only [pAtomS] at h
    repeat' split at h
    all_goals try cases h
    all_goals bnd_step ih pAtomS
  | word w =>
    rw [pAtomS_word] at h
    simp only [List.length_cons]
    by_cases hconst : constWord (upper w) rest
    · rw [if_pos hconst] at h
      cases h
      exact ⟨Nat.lt_succ_self _, fun K _ => by rw [pAtomS_word, if_pos hconst]⟩
    rw [if_neg hconst] at h
    by_cases hcase : upper w == "CASE"
    · rw [if_pos hcase] at h
      have ⟨hl, hK⟩ := case_bstep ih _ _ _ h
      exact ⟨Nat.lt_succ_of_lt hl, fun K hK' => by
        rw [pAtomS_word, if_neg hconst, if_pos hcase]; exact hK K (hK'.mono (by omega))⟩
    rw [if_neg hcase] at h
    split at h
    · cases h
    rcases rest with _ | ⟨lp, r1⟩
    · cases h
    simp only at h
    split at h
    · cases h
    cases ha : pArgsS k r1 with
    | none => rw [ha] at h; cases h
    | some v =>
      obtain ⟨⟨star, as⟩, r2⟩ := v
      rw [ha] at h
      have ⟨hl1, hK1⟩ := args_bstep ih _ _ _ ha
      have ⟨hl2, hK2⟩ := filter_bstep ih _ _ _ _ _ _ h
      simp only [List.length_cons]
      refine ⟨by omega, fun K hK => ?_⟩
      rw [pAtomS_word, if_neg hconst, if_neg hcase, if_neg ‹_›]
      simp only [‹¬(!isSym lp "(") = true›, if_false, hK1 K (hK.mono (by omega))]
      exact hK2 K (hK.mono (by omega))

theorem Bnd.succ {k : Nat} (ih : Bnd k) : Bnd (k + 1) where
  expr := fun m ts s r => Bnd.clause (f := fun K => pExprS K m ts) (fun _ => Nat.succ_pos _) (expr_bstep ih m ts s r)
  trail := fun m x ts s r => Bnd.clause (f := fun K => pTrailS K m x ts) (fun _ => Nat.succ_pos _) (trail_bstep ih m x ts s r)
  unary := fun ts s r => Bnd.clause (f := fun K => pUnaryS K ts) (fun _ => Nat.succ_pos _) (unary_bstep ih ts s r)
  post := fun x ts s r => Bnd.clause (f := fun K => pPostfixS K x ts) (fun _ => Nat.succ_pos _) (post_bstep ih x ts s r)
  atom := fun ts s r => Bnd.clause (f := fun K => pAtomS K ts) (fun h => by omega) (atom_bstep ih ts s r)
  col := fun ps ts s r => Bnd.clause (f := fun K => pColTail K ps ts) (fun _ => Nat.succ_pos _) (col_bstep ih ps ts s r)
  list := fun ts s r => Bnd.clause (f := fun K => pListS K ts) (fun _ => Nat.succ_pos _) (list_bstep ih ts s r)

theorem bnd_all : ∀ k : Nat, Bnd k
  | 0 => Bnd.zero
  | k + 1 => (bnd_all k).succ

theorem pExprS_bound {k m : Nat} {ts : List STok} {s : SExpr} {r : List STok} (h : pExprS k m ts = some (s, r))
    {K : Nat} (hK : 3 * ts.length + 2 ≤ K) : pExprS K m ts = some (s, r) :=
  (((bnd_all k).expr m ts s r).1 h).2 K (.inr hK)

theorem pExprS_consumes {k m : Nat} {ts : List STok} {s : SExpr} {r : List STok} (h : pExprS k m ts = some (s, r)) :
    r.length < ts.length := (((bnd_all k).expr m ts s r).1 h).1

theorem pExprS_fuelOf {k m : Nat} {ts : List STok} {s : SExpr} {r : List STok} (h : pExprS k m ts = some (s, r)) :
    pExprS (fuelOf ts) m ts = some (s, r) := pExprS_bound h (by unfold fuelOf; omega)

end Pql.C05

namespace Pql.RT
open Pql Sql

theorem pExprS_mono {k n m : Nat} {ts : List STok} {r : SExpr × List STok} (hkn : k ≤ n)
    (h : pExprS k m ts = some r) : pExprS n m ts = some r := (((C05.bnd_all k).expr m ts r.1 r.2).1 h).2 n (.inl hkn)

theorem pTrailS_mono {k n m : Nat} {x : SExpr} {ts : List STok} {r : SExpr × List STok} (hkn : k ≤ n)
    (h : pTrailS k m x ts = some r) : pTrailS n m x ts = some r := (((C05.bnd_all k).trail m x ts r.1 r.2).1 h).2 n (.inl hkn)

theorem pUnaryS_mono {k n : Nat} {ts : List STok} {r : SExpr × List STok} (hkn : k ≤ n)
    (h : pUnaryS k ts = some r) : pUnaryS n ts = some r := (((C05.bnd_all k).unary ts r.1 r.2).1 h).2 n (.inl hkn)

theorem pPostfixS_mono {k n : Nat} {x : SExpr} {ts : List STok} {r : SExpr × List STok} (hkn : k ≤ n)
    (h : pPostfixS k x ts = some r) : pPostfixS n x ts = some r := (((C05.bnd_all k).post x ts r.1 r.2).1 h).2 n (.inl hkn)

theorem pAtomS_mono {k n : Nat} {ts : List STok} {r : SExpr × List STok} (hkn : k ≤ n)
    (h : pAtomS k ts = some r) : pAtomS n ts = some r := (((C05.bnd_all k).atom ts r.1 r.2).1 h).2 n (.inl hkn)

theorem pColTail_mono {k n : Nat} {ps : List Bytes} {ts : List STok} {r : SExpr × List STok} (hkn : k ≤ n)
    (h : pColTail k ps ts = some r) : pColTail n ps ts = some r := (((C05.bnd_all k).col ps ts r.1 r.2).1 h).2 n (.inl hkn)

theorem pListS_mono {k n : Nat} {ts : List STok} {r : SExprList × List STok} (hkn : k ≤ n)
    (h : pListS k ts = some r) : pListS n ts = some r := (((C05.bnd_all k).list ts r.1 r.2).1 h).2 n (.inl hkn)

end Pql.RT
