/-
ParseRoundtrip under a scope: calls — the forms `known` (the built-in rewrites) and
`passthrough` of `WriterCases` for the motive `RtInv`.
-/
import PqlModel.Lemmas.ScopeRTGood
import PqlModel.Lemmas.JoinSemNorm
namespace Pql.RT
open Pql Sql CompileOracle

section
variable {ctx : Ctx} {env : List (Bytes × Expr)} {fn : Ident} (a b : Span) {args : ExprList} {as : List (List Chunk)}
  {writer : String} {cs : List Chunk}
  (ihv : Args (RtInv ctx env) args as) (hs : shapeOKList args = true) (hl : args.lexOK = true)
  (hak : assembleKnown writer (args.toList.zip as) = .ok cs)
include ihv hs hl hak

/-- what every built-in starts with: the arguments' translations `ws`, paired with the chunks `assembleKnown` was given -/
theorem known_prelude {want : SExpr} {F : SExprList → Option SExpr}
    (h2 : (trList (ctx.mode == .join) (substList env args)).bind F = some want) :
    ∃ ps ws, ArgRel ctx args as ws ps ∧ assembleKnown writer (ps.map fun p => (p.1, p.2.1)) = .ok cs ∧
      F (ofL (ps.map (·.2.2))) = some want := by
  cases hws : trList (ctx.mode == .join) (substList env args) with
  | none => rw [hws] at h2; cases h2
  | some ws =>
    rw [hws] at h2
    obtain ⟨ps, hps⟩ := args_rel ihv hs hl ws hws
    exact ⟨ps, ws, hps, by rw [← zip_rel hps]; exact hak, by rw [← hps.trs]; exact h2⟩

/-- a built-in of one argument (`out` what `assembleKnown` emits, `mk` what `tr` builds); more arguments are dropped by
    `assembleKnown` and refused by `tr`, none is refused by both.  `builtin0` likewise for no argument. -/
theorem builtin1 {P : List STok → SExpr → Prop} {out : Arg → List Chunk} {mk : SExpr → SExpr}
    (htr : ∀ j args, tr j (.call fn a args b) =
      (trList j args).bind fun as => match as.toList with | [x] => some (mk x) | _ => none)
    (hnil : assembleKnown writer [] = .error .panic) (hcons : ∀ p l, assembleKnown writer (p :: l) = .ok (out p))
    (hP : ∀ x c w, ExprP (toksOf c) w → UnitP (toksOf (wrapMaybe x c)) w → P (toksOf (out (x, c))) (mk w))
    {want : SExpr} (h2 : tr (ctx.mode == .join) (substExpr env (.call fn a args b)) = some want) : P (toksOf cs) want := by
  simp only [substExpr] at h2
  rw [htr] at h2
  obtain ⟨ps, ws, hrel, hak, htr⟩ := known_prelude ihv hs hl hak h2
  match ps, hrel, hak, htr with
  | [], _, hak, _ => rw [List.map_nil, hnil] at hak; cases hak
  | [p], hrel, hak, htr =>
    simp only [List.map_cons, List.map_nil, hcons, Except.ok.injEq, toList_ofL, Option.some.injEq] at hak htr
    subst hak htr
    exact hP _ _ _ (hrel.good p (by simp)).1 (hrel.good p (by simp)).2
  | p :: q :: r, _, _, htr => simp at htr

theorem builtin0 {out : List Chunk} {mk : SExpr}
    (htr : ∀ j args, tr j (.call fn a args b) =
      (trList j args).bind fun as => match as.toList with | [] => some mk | _ => none)
    (hout : ∀ l, assembleKnown writer l = .ok out) (hP : AtomP (toksOf out) mk)
    {want : SExpr} (h2 : tr (ctx.mode == .join) (substExpr env (.call fn a args b)) = some want) :
    AtomP (toksOf cs) want := by
  simp only [substExpr] at h2
  rw [htr] at h2
  obtain ⟨ps, ws, hrel, hak, htr⟩ := known_prelude ihv hs hl hak h2
  match ps, hrel, hak, htr with
  | [], hrel, hak, htr =>
    simp only [List.map_nil, hout, Except.ok.injEq, toList_ofL, Option.some.injEq] at hak htr
    subst hak htr
    exact hP
  | p :: r, _, _, htr => simp at htr

theorem builtin_if
    (hw : writer = "writeIfFunction")
    (htr : ∀ j args, tr j (.call fn a args b) = (trList j args).bind fun as =>
      match as.toList with | [c, t, e] => some (.case_ (coalesceFalse c) t e) | _ => none)
    {want : SExpr} (h2 : tr (ctx.mode == .join) (substExpr env (.call fn a args b)) = some want) :
    ExprP (toksOf cs) want := by
  subst hw
  simp only [substExpr] at h2
  rw [htr] at h2
  obtain ⟨ps, ws, hrel, hak, htr⟩ := known_prelude ihv hs hl hak h2
  match ps, hrel, hak, htr with
  | [], _, hak, _ | [p], _, hak, _ | [p, q], _, hak, _ => rw [C01.assembleKnown_if] at hak; cases hak
  | [p, q, r], hrel, hak, htr =>
    simp only [List.map_cons, List.map_nil, ak_if, Except.ok.injEq, toList_ofL, Option.some.injEq] at hak htr
    subst hak htr
    have := (caseP (hrel.good p (by simp)).1 (hrel.good q (by simp)).1 (hrel.good r (by simp)).1).toExpr
    simpa using this
  | p :: q :: r :: s :: t, _, _, htr => simp at htr

theorem builtin_strcat (hw : writer = "writeStrcatFunction") (hn : fn.name = Bytes.ofString "strcat")
    {want : SExpr} (h2 : tr (ctx.mode == .join) (substExpr env (.call fn a args b)) = some want) :
    ExprP (toksOf cs) want := by
  subst hw
  simp only [substExpr] at h2
  rw [tr_strcat _ _ _ _ _ hn] at h2
  obtain ⟨ps, ws, hrel, hak, htr⟩ := known_prelude ihv hs hl hak h2
  match ps, hrel, hak, htr with
  | [], _, hak, _ => rw [List.map_nil, ak_strcat_nil] at hak; cases hak
  | p :: r, hrel, hak, htr =>
    simp only [List.map_cons, ak_strcat, Except.ok.injEq, toList_ofL, Option.some.injEq] at hak htr
    subst hak htr
    have key := strcatP (toksOf (wrapMaybe p.1 p.2.1), p.2.2) (wrapPairs r) (hrel.good p (by simp)).2
      (by
        intro q hq
        simp only [wrapPairs, List.mem_map] at hq
        obtain ⟨q', hq', rfl⟩ := hq
        exact (hrel.good q' (by simp [hq'])).2)
    rw [toksOf_sepChunks]
    have e1 := sepTail_wrap " || " (S "||") tt_concat r
    simp only [List.map_map, Function.comp_def] at e1 ⊢
    rw [e1]
    have e2 : (wrapPairs r).foldl (fun acc b => SExpr.bin "||" acc b.2) p.2.2 =
        (r.map (·.2.2)).foldl (fun acc y => SExpr.bin "||" acc y) p.2.2 := by
      simp [wrapPairs, List.foldl_map]
    rw [← e2]
    exact key

end

/-- The row of `Facts.knownFunctions` that answered gives the name (hence the translation's case), the writer and
    the flag at once. -/
theorem call_known {ctx : Ctx} {env : List (Bytes × Expr)} (fn : Ident) (a : Span) (args : ExprList) (b : Span)
    (writer : String) (np : Bool) (as : List (List Chunk)) (cs : List Chunk)
    (hk : knownFunction fn.name = some (writer, np)) (_ : arityRejects writer args.length = false)
    (ihv : Args (RtInv ctx env) args as) (hak : assembleKnown writer (args.toList.zip as) = .ok cs) :
    RtInv ctx env (.call fn a args b) cs := by
  intro hs hl want h2
  simp only [shapeOK, Expr.lexOK, Bool.and_eq_true] at hs hl
  have hs := hs.2
  have hl := hl.2
  have hw := needsWrap_call (a := a) (b := b) (args := args) hk
  obtain ⟨row, hrow, hn, hwf⟩ := lookup_row hk
  simp only [Facts.knownFunctions, List.mem_cons, List.not_mem_nil, or_false] at hrow
  rcases hrow with rfl | rfl | rfl | rfl | rfl | rfl | rfl | rfl | rfl | rfl | rfl <;> cases hwf
  · exact .ofAtom (builtin0 a b ihv hs hl hak (fun j args => tr_count j fn a b args hn.symm) ak_count
      (by simpa [fnCall] using call0P ws_count) h2)
  · exact .ofAtom (builtin1 a b ihv hs hl hak (fun j args => tr_countif j fn a b args hn.symm) ak_countif_nil ak_countif
      (fun _ _ _ he _ => by simpa using countifP he) h2)
  · exact .ofExpr hw (builtin_if a b ihv hs hl hak rfl (fun j args => tr_iff j fn a b args hn.symm) h2)
  · exact .ofExpr hw (builtin_if a b ihv hs hl hak rfl (fun j args => tr_iif j fn a b args hn.symm) h2)
  · exact .ofExpr hw (builtin1 a b ihv hs hl hak (fun j args => tr_isnotnull j fn a b args hn.symm)
      ak_isnotnull_nil ak_isnotnull (fun _ _ _ _ hu => by simpa using isnotnullP hu) h2)
  · exact .ofExpr hw (builtin1 a b ihv hs hl hak (fun j args => tr_isnull j fn a b args hn.symm)
      ak_isnull_nil ak_isnull (fun _ _ _ _ hu => by simpa using isnullP hu) h2)
  · exact .ofExpr hw (builtin1 a b ihv hs hl hak (fun j args => tr_not j fn a b args hn.symm)
      ak_not_nil ak_not (fun _ _ _ _ hu => by simpa using notP hu) h2)
  · exact .ofAtom (builtin0 a b ihv hs hl hak (fun j args => tr_now j fn a b args hn.symm) ak_now (by simpa using nowP) h2)
  · exact .ofExpr hw (builtin_strcat a b ihv hs hl hak rfl hn.symm h2)
  · exact .ofExpr hw (builtin1 a b ihv hs hl hak (fun j args => tr_tolower j fn a b args hn.symm)
      ak_tolower_nil ak_tolower
      (fun _ _ _ he _ => by simpa [fnCall] using call1NormP ws_LOWER (name' := Bytes.ofString "lower") (by decide) he) h2)
  · exact .ofExpr hw (builtin1 a b ihv hs hl hak (fun j args => tr_toupper j fn a b args hn.symm)
      ak_toupper_nil ak_toupper
      (fun _ _ _ he _ => by simpa [fnCall] using call1NormP ws_UPPER (name' := Bytes.ofString "upper") (by decide) he) h2)

theorem call_pass {ctx : Ctx} {env : List (Bytes × Expr)} (fn : Ident) (a : Span) (args : ExprList) (b : Span)
    (as : List (List Chunk)) (hnone : knownFunction fn.name = none) (ihv : Args (RtInv ctx env) args as) :
    RtInv ctx env (.call fn a args b) (.fname fn.name :: .txt "(" :: sepChunks ", " as ++ [.txt ")"]) := by
  intro hs hl want h2
  simp only [shapeOK, Expr.lexOK, Bool.and_eq_true, hnone, Option.isSome_none, Bool.false_or] at hs hl
  have htr : tr (ctx.mode == .join) (substExpr env (.call fn a args b)) =
      (trList (ctx.mode == .join) (substList env args)).bind fun as => some (.call (lower fn.name) false as .none_) := by
    have hne : ∀ s, (knownFunction (Bytes.ofString s)).isSome = true → fn.name ≠ Bytes.ofString s := by
      intro s hs' e; rw [← e, hnone] at hs'; cases hs'
    simp only [substExpr, tr, isName_false (hne "not" (by decide +kernel)), isName_false (hne "isnull" (by decide +kernel)),
      isName_false (hne "isnotnull" (by decide +kernel)), isName_false (hne "iff" (by decide +kernel)),
      isName_false (hne "iif" (by decide +kernel)), isName_false (hne "strcat" (by decide +kernel)),
      isName_false (hne "tolower" (by decide +kernel)), isName_false (hne "toupper" (by decide +kernel)),
      isName_false (hne "now" (by decide +kernel)), isName_false (hne "count" (by decide +kernel)),
      isName_false (hne "countif" (by decide +kernel)), Bool.false_eq_true, if_false, Bool.or_self]
    rfl
  rw [htr] at h2
  refine .ofAtom ?_
  cases hws : trList (ctx.mode == .join) (substList env args) with
  | none => rw [hws] at h2; cases h2
  | some ws =>
    rw [hws] at h2
    obtain ⟨ps, hps⟩ := args_rel ihv hs.2 hl.2 ws hws
    simp only [Option.bind_some, Option.some.injEq] at h2
    subst h2
    rw [hps.chunks, hps.trs]
    match ps, hps with
    | [], _ =>
      have := call0P hs.1
      refine AtomP.congr (by simpa [sepChunks] using this) ?_
      simp [normS, normL, ofL, JoinSem.lower_idem]
    | p :: r, hps =>
      have key := callNP hs.1 (toksOf p.2.1, p.2.2) (plainPairs r) (hps.good p (by simp)).1
        (by
          intro q hq
          simp only [plainPairs, List.mem_map] at hq
          obtain ⟨q', hq', rfl⟩ := hq
          exact (hps.good q' (by simp [hq'])).1)
      have e1 := sepTail_plain ", " (S ",") tt_comma r
      refine AtomP.congr (w := .call fn.name false (ofL (p.2.2 :: (plainPairs r).map (·.2))) .none_) ?_ ?_
      · simp only [List.map_cons, toksOf_cons, chunkToks_fname, chunkToks_txt, tt_lparen, toksOf_append,
          toksOf_sepChunks, e1, tt_rparen, toksOf_nil, List.append_nil]
        simpa using key
      · simp [normS, JoinSem.lower_idem, plainPairs, Function.comp_def]

end Pql.RT
