/-
C05, syntactic half, stage 3: the WITH list — what `writeCtes` emits under a scope is read by `pCtes`
as the intended common table expressions of the resolved links, in order, under their names.

The whole statement — the chunks the compiler emits for a query
`t` after the statement loop has built the scope from the lets are read by `parseStatement` as the
intended statement of the resolved query `substTabular env t`; without lets, of `t` itself.
-/
import PqlModel.Lemmas.ParseStmtSplit
import PqlModel.Props.C14Order
import PqlModel.Lemmas.ParseStmtOK
import PqlModel.Lemmas.JoinSemEval
namespace Pql.C05
set_option linter.unusedSimpArgs false
open Pql Sql CompileOracle Intended Pql.RT
open Pql.E2EFinal (substSrcA substSubA substSubA_nil)
open Pql.JoinSem (linkSel)

def CteRel (p w : Bytes × Select) : Prop := p.1 = w.1 ∧ SelRel p.2 w.2

theorem pSelect_head {ts : List STok} {x : Select × List STok} (h : pSelect ts = some x) :
    ∃ w tl, ts = .word w :: tl ∧ upper w = "SELECT" := by
  cases ts with
  | nil => simp [pSelect] at h
  | cons t tl =>
    cases t with
    | word w =>
      by_cases hw : upper w = "SELECT"
      · exact ⟨w, tl, rfl, hw⟩
      · simp [pSelect, hw] at h
    | _ => simp [pSelect] at h

def cteToks (name : Bytes) (body : List Chunk) : List STok :=
  .qid name :: RT.W "AS" :: S "(" :: (toksOf body ++ [S ")"])

def CteP (ts : List STok) (w : Bytes × Select) : Prop := ∀ r, ∃ it, pCte (ts ++ r) = some (it, r) ∧ CteRel it w

section
variable {src : Bytes} {scope : Scope} {env : List (Bytes × Expr)} (rt : ExprRT src scope env)
include rt

theorem cte_reads {a : SubA} {s : Subquery} {b : List Chunk} (hab : EraseRel src scope a s)
    (hn : env = [] ∨ optColsNamed a.op) (hok : subOK (substSubA env a) = true)
    (hb : s.write ⟨src, scope, .default⟩ = .ok b) :
    ∃ want, linkSel src (substSubA env a) = some (a.name, want) ∧ CteP (cteToks s.name b) (a.name, want) := by
  obtain ⟨_, want, _, hw, _⟩ := select_parse_under rt a s b [S ")"] hab hn hok hb ⟨[], .inl rfl⟩
  refine ⟨want, by simp only [linkSel, hw, Option.bind_eq_bind, Option.bind_some, Option.pure_def]; rfl, fun r => ?_⟩
  obtain ⟨sel, want', hp, hw', hsr⟩ := select_parse_under rt a s b (S ")" :: r) hab hn hok hb ⟨r, .inl rfl⟩
  rw [hw] at hw'
  cases hw'
  exact ⟨(s.name, sel), by simp [cteToks, pCte, hp], hab.name, hsr⟩

theorem ctes_toks {ctesA : List SubA} {ctes : List Subquery}
    (hrel : ListRel (EraseRel src scope) ctesA ctes) (hn : env = [] ∨ ∀ a ∈ ctesA, optColsNamed a.op)
    (hok : AllOK (ctesA.map (substSubA env))) :
    ∀ c, writeCtes ⟨src, scope, .default⟩ ctes = .ok c →
      ∃ tss wants, toksOf c = sepToks tss ∧ tss.length = ctes.length ∧
        (ctesA.map (substSubA env)).mapM (linkSel src) = some wants ∧ ListRel CteP tss wants := by
  induction hrel with
  | nil =>
    intro c hc
    cases hc
    exact ⟨[], [], rfl, rfl, rfl, .nil⟩
  | @cons a s restA rest hab hrest ih =>
    intro c hc
    have hrestOK : AllOK (restA.map (substSubA env)) := fun b hb => hok b (by
      simp only [List.map_cons]; exact List.mem_cons_of_mem _ hb)
    have hrestN : env = [] ∨ ∀ b ∈ restA, optColsNamed b.op := hn.imp id fun h b hb => h b (List.mem_cons_of_mem _ hb)
    have hcons : ∀ b, s.write ⟨src, scope, .default⟩ = .ok b → ∀ tss wants,
        (restA.map (substSubA env)).mapM (linkSel src) = some wants → ListRel CteP tss wants →
        ∃ wants', ((a :: restA).map (substSubA env)).mapM (linkSel src) = some wants' ∧
          ListRel CteP (cteToks s.name b :: tss) wants' := by
      intro b hb tss wants hwm hP
      obtain ⟨want, hl, hcte⟩ := cte_reads rt hab (hn.imp id (· a (by simp))) (hok _ (by simp)) hb
      exact ⟨(a.name, want) :: wants, by
        simp only [List.map_cons, List.mapM_cons, hl, hwm, Option.bind_eq_bind, Option.bind_some, Option.pure_def],
        .cons hcte hP⟩
    cases hrest with
    | nil =>
      simp only [writeCtes] at hc
      obtain ⟨b, hb, hc⟩ := LexRender.bind_ok hc
      cases hc
      obtain ⟨wants, hwm, hP⟩ := hcons b hb [] [] rfl .nil
      exact ⟨_, wants, by simp [sepToks, cteToks], rfl, hwm, hP⟩
    | @cons a2 s2 restA2 rest2 hab2 hrest2 =>
      simp only [writeCtes] at hc
      obtain ⟨b, hb, hc⟩ := LexRender.bind_ok hc
      obtain ⟨c2, hc2, hc⟩ := LexRender.bind_ok hc
      cases hc
      obtain ⟨tss, wants, htoks, hlen, hwm, hP⟩ := ih hrestN hrestOK c2 hc2
      obtain ⟨wants', hwm', hP'⟩ := hcons b hb tss wants hwm hP
      obtain ⟨y, ys, rfl⟩ : ∃ y ys, tss = y :: ys := by
        cases tss with
        | nil => cases hlen
        | cons y ys => exact ⟨y, ys, rfl⟩
      exact ⟨_, wants', by simp [sepToks, cteToks, htoks], by simp [hlen], hwm', hP'⟩

theorem ctes_parse {ctesA : List SubA} {ctes : List Subquery}
    (hrel : ListRel (EraseRel src scope) ctesA ctes) (hn : env = [] ∨ ∀ a ∈ ctesA, optColsNamed a.op)
    (hok : AllOK (ctesA.map (substSubA env))) (hne : ctes ≠ []) (c : List Chunk)
    (hc : writeCtes ⟨src, scope, .default⟩ ctes = .ok c) (r : List STok) (hr : Ends (fun t => !isSym t ",") r) :
    ∃ parsed wants, pCtes ((toksOf c ++ r).length + 1) (toksOf c ++ r) = some (parsed, r) ∧
      (ctesA.map (substSubA env)).mapM (linkSel src) = some wants ∧ ListRel CteRel parsed wants := by
  obtain ⟨tss, wants, htoks, hlen, hwm, hP⟩ := ctes_toks rt hrel hn hok c hc
  have hne' : tss ≠ [] := fun h => hne (List.length_eq_zero_iff.1 (by rw [← hlen, h]; rfl))
  obtain ⟨parsed, hp, hrl⟩ := SqlCommaLoop.list pCtes_loop rfl (q := fun _ => true) (fun _ _ hw r _ => hw r) rfl hP hne'
    (hr.mono fun _ _ => rfl) hr
  exact ⟨parsed, wants, htoks ▸ hp, hwm, hrl⟩

end

theorem ctes_all {parsed wants : List (Bytes × Select)} (h : ListRel CteRel parsed wants) :
    ((parsed.zip wants).all fun (x, y) => x.1 == y.1 && selectEq (normSel x.2) (normSel y.2)) = true := by
  have := zip_all_of_rel (f := id) (g := id) (p := fun (x, y) => x.1 == y.1 && selectEq (normSel x.2) (normSel y.2))
    (fun x y (hab : CteRel x y) => by simp only [id, hab.1, selectEq_of_rel hab.2, beq_self_eq_true, Bool.and_self]) h
  rwa [List.map_id, List.map_id] at this

theorem statementEq_of_rel {parsed wants : List (Bytes × Select)} {sel wbody : Select}
    (hrl : ListRel CteRel parsed wants) (hsr : SelRel sel wbody) : statementEq ⟨parsed, sel⟩ ⟨wants, wbody⟩ = true := by
  simp [statementEq, hrl.length_eq, ctes_all hrl, selectEq_of_rel hsr]

end Pql.C05

namespace Pql.C05
set_option linter.unusedSimpArgs false
open Pql Sql CompileOracle Intended Pql.RT
open Pql.E2EFinal (substSrcA substSubA substSubA_nil)
open Pql.JoinSem (linkSel)

/-- The statement theorem with all its witnesses: the chain of intended links, the parsed CTEs / body and
    the intended ones of the resolved query, related field by field.  `hsub`: resolving the bindings
    commutes with `splitA` (trivially so without lets; `E2EFinal.splitA_subst` under lets). -/
theorem statement_parse_under {src : Bytes} {scope : Scope} {env : List (Bytes × Expr)} (rt : ExprRT src scope env)
    (t : Tabular) (cs : List Chunk)
    (hsub : ∀ subsA, splitA [] t = some subsA →
      splitA [] (substTabular env t) = some (subsA.map (substSubA env)) ∧ (env = [] ∨ ∀ a ∈ subsA, optColsNamed a.op))
    (hok : tabularOK (substTabular env t) = true) (hc : C14.finishChunks src scope (some t) = .ok cs) :
    ∃ (subs : List Subquery) (ctesA : List SubA) (qA : SubA) (parsed wants : List (Bytes × Select)) (sel wbody : Select),
      splitQueries src scope [] t = .ok subs ∧ splitA [] t = some (ctesA ++ [qA]) ∧
      ListRel (EraseRel src scope) (ctesA ++ [qA]) subs ∧
      parseStatement (toksOf cs) = some ⟨parsed, sel⟩ ∧
      intended src [.tabular (substTabular env t)] = some ⟨wants, wbody⟩ ∧
      (ctesA.map (substSubA env)).mapM (linkSel src) = some wants ∧ selOf src (substSubA env qA) = some wbody ∧
      ListRel CteRel parsed wants ∧ SelRel sel wbody := by
  obtain ⟨ctes, query, body, hsplit, hbody, hcase⟩ := C14.finishChunks_tabular src scope t cs hc
  obtain ⟨subsA, hA, hrel, _⟩ := splitQueries_refines src scope t [] [] .nil _ hsplit
  obtain ⟨hA', hNamed⟩ := hsub subsA hA
  have hAll : AllOK (subsA.map (substSubA env)) := splitA_ok _ hok [] _ (by intro a ha; cases ha) hA'
  obtain ⟨ctesA, qA, rfl, hrelC, hrelQ⟩ := listRel_snoc hrel
  have hqOK : subOK (substSubA env qA) = true := hAll _ (by simp)
  have hcOK : AllOK (ctesA.map (substSubA env)) := fun a ha => hAll a (by
    simp only [List.map_append, List.mem_append]; exact Or.inl ha)
  have hqN : env = [] ∨ optColsNamed qA.op := hNamed.imp id (· qA (by simp))
  have hcN : env = [] ∨ ∀ a ∈ ctesA, optColsNamed a.op := hNamed.imp id fun h a ha => h a (by simp [ha])
  obtain ⟨sel, wbody, hp, hw, hsr⟩ :=
    select_parse_under rt qA query body [S ";"] hrelQ hqN hqOK hbody ⟨[], Or.inr rfl⟩
  have hint : ∀ wants, (ctesA.map (substSubA env)).mapM (linkSel src) = some wants →
      intended src [.tabular (substTabular env t)] = some ⟨wants, wbody⟩ := by
    intro wants hwm
    simp only [intended, resolveLets, substTabular_nil, Option.bind_eq_bind, Option.bind_some, hA', List.map_append,
      List.map_cons, List.map_nil, JoinSem.stmtOf_concat, hwm, hw]
    rfl
  obtain ⟨w, tl, hts, hup⟩ := pSelect_head hp
  rcases hcase with ⟨rfl, rfl⟩ | ⟨hne, c, hwc, rfl⟩
  · cases hrelC
    refine ⟨_, [], qA, [], [], sel, wbody, hsplit, hA, hrel, ?_, hint [] rfl, rfl, hw, .nil, hsr⟩
    have e : toksOf (body ++ [Chunk.txt ";"]) = toksOf body ++ [S ";"] := by simp
    rw [e]
    have hW : isWord (STok.word w) "WITH" = false := by simp [hup]
    unfold parseStatement
    rw [hts] at hp ⊢
    simp only [hW, Bool.false_eq_true, if_false, hp]
    simp
  · have hcomma : Ends (fun t => !isSym t ",") (toksOf body ++ [S ";"]) := by rw [hts]; rfl
    obtain ⟨parsed, wants, hpc, hwm, hrl⟩ := ctes_parse rt hrelC hcN hcOK hne c hwc (toksOf body ++ [S ";"]) hcomma
    refine ⟨_, ctesA, qA, parsed, wants, sel, wbody, hsplit, hA, hrel, ?_, hint wants hwm, hwm, hw, hrl, hsr⟩
    have e : toksOf (Chunk.txt "WITH " :: c ++ body ++ [Chunk.txt ";"]) =
        RT.W "WITH" :: (toksOf c ++ (toksOf body ++ [S ";"])) := by simp
    rw [e]
    unfold parseStatement
    simp only [isWord_word, up_WITH, beq_self_eq_true, if_true, hpc, hp]
    simp

theorem statement_parse (src : Bytes) (t : Tabular) (cs : List Chunk) (hok : tabularOK t = true)
    (hc : compileChunks src [] [.tabular t] = .ok cs) :
    ∃ (subs : List Subquery) (ctesA : List SubA) (qA : SubA) (parsed wants : List (Bytes × Select)) (sel wbody : Select),
      splitQueries src [] [] t = .ok subs ∧ splitA [] t = some (ctesA ++ [qA]) ∧
      ListRel (EraseRel src []) (ctesA ++ [qA]) subs ∧
      parseStatement (toksOf cs) = some ⟨parsed, sel⟩ ∧ intended src [.tabular t] = some ⟨wants, wbody⟩ ∧
      ctesA.mapM (linkSel src) = some wants ∧ selOf src qA = some wbody ∧
      ListRel CteRel parsed wants ∧ SelRel sel wbody := by
  have h := statement_parse_under (ExprRT.nil src) t cs
  simp only [substTabular_nil, substSubA_nil, List.map_id, id] at h
  exact h (fun subsA hA => ⟨hA, .inl trivial⟩) hok hc

end Pql.C05
