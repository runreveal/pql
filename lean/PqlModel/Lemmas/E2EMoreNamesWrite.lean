/-
Implicit column names: the compiler emits THE SAME chunks for a query and for the query with every
unnamed extend / summarize column given its implicit name explicitly (`Rel.nameTabular`: the name the
interpreter of programs fixes before it resolves lets) — whenever it succeeds on the former.

Route: on lists of subqueries related by `Named` (`nameS` on the stored operator) the splitter runs in lock
step (the step lemmas of Lemmas/WriterCongStmt.lean), so it commutes with naming; `Subquery.write` writes a
named subquery like the original one (`columnAlias` slices the same bytes `Rel.colName` does); so do
`writeCtes` and the assembly of the statement, whenever they succeed on the original (`OkLe`: a column
whose span cannot be sliced makes the original fail, and has a name afterwards).
-/
import PqlModel.Lemmas.ParamsBind
import PqlModel.Spec.Rel
import PqlModel.Props.C14Order
namespace Pql.E2EMore
set_option linter.unusedSimpArgs false
open Pql Pql.Params Pql.Rel

def nameS (src : Bytes) (sub : Subquery) : Subquery := { sub with op := sub.op.map (nameOp src) }

abbrev Named (src : Bytes) (a b : Subquery) : Prop := b = nameS src a

theorem opTypeName_name (src : Bytes) (o : Op) : opTypeName (nameOp src o) = opTypeName o := by
  cases o <;> rfl

theorem canAttachSort_name (src : Bytes) (o : Option Op) : canAttachSort (o.map (nameOp src)) = canAttachSort o := by
  cases o with
  | none => rfl
  | some o => simp only [Option.map_some, canAttachSort, opTypeName_name]

section
variable {src : Bytes} {dst dst' : List Subquery}

theorem Named.list (h : ListRel (Named src) dst dst') : dst' = dst.map (nameS src) :=
  ListRel.eq_map _ (fun _ _ hab => hab) h

theorem chain_named (h : ListRel (Named src) dst dst') (ds : Nat) (source : Option Ident) :
    chainSubquery dst' ds source = chainSubquery dst ds source :=
  chainSubquery_rel h (fun _ _ hab => by rw [hab]; rfl) ds source

/-- naming does not change what kind of step an operator is -/
theorem kind_nameOp (o : Op) :
    SplitQ.steps (nameOp src o) = SplitQ.steps o ∧ SplitQ.attaches (nameOp src o) = SplitQ.attaches o := by
  cases o with
  | top p k n b c => cases c <;> exact ⟨rfl, rfl⟩
  | _ => exact ⟨rfl, rfl⟩

theorem store_named (o : Op) (a : Subquery) : SplitQ.store (nameOp src o) (nameS src a) = nameS src (SplitQ.store o a) := by
  cases o with
  | top p k n b c => cases c <;> rfl
  | _ => rfl

end

mutual
theorem splitQueries_named (src : Bytes) (sc : Scope) :
    (t : Tabular) → (dst dst' : List Subquery) → ListRel (Named src) dst dst' →
      ExRel (ListRel (Named src)) (splitQueries src sc dst t) (splitQueries src sc dst' (nameTabular src t))
  | .nil, _, _, _ => by
    simp only [nameTabular, splitQueries]
    exact ExRel.error_error _
  | .mk source ops, dst, dst', h => by
    rw [SplitQ.splitQueries_mk, nameTabular, SplitQ.splitQueries_mk, ← h.length_eq]
    exact (splitOps_named src sc ops source dst.length dst dst' h).bind fun _ _ hd =>
      ExRel.ok_ok (closeBlock_rel hd _ (by rw [chain_named hd]; rfl))

theorem splitOps_named (src : Bytes) (sc : Scope) :
    (ops : OpList) → (source : Option Ident) → (ds : Nat) → (dst dst' : List Subquery) →
      ListRel (Named src) dst dst' →
      ExRel (ListRel (Named src)) (splitOps src sc source ds dst ops)
        (splitOps src sc source ds dst' (nameOps src ops))
  | .nil, source, ds, dst, dst', h => by
    simp only [nameOps, splitOps]
    exact ExRel.pure_pure h
  | .cons o rest, source, ds, dst, dst', h => by
    have ih := fun d d' => splitOps_named src sc rest source ds d d'
    rw [nameOps]
    cases hst : SplitQ.steps o with
    | true =>
      rw [SplitQ.splitOps_step src sc source ds dst hst,
        SplitQ.splitOps_step src sc source ds dst' ((kind_nameOp o).1.trans hst)]
      exact ih _ _ (place_rel h ds (by rw [chain_named h]; rfl) (kind_nameOp o).2
        (fun _ _ hab => by rw [hab]; simp only [attachBits, nameS, canAttachSort_name])
        fun _ _ hab => by rw [hab]; exact store_named o _)
    | false =>
      cases o with
      | join _ _ _ _ flavor _ right _ _ conds =>
        rw [SplitQ.splitOps_join, nameOp, SplitQ.splitOps_join, ← h.length_eq]
        refine ExRel.bind (splitQueries_named src sc right dst dst' h) fun d d' hd => ?_
        refine ExRel.bind (joinSub_alike FrameCong.eq hd (fun _ _ hab => by rw [hab]; rfl) rfl rfl rfl
          (ExRel.refl' (fun _ => rfl) _) (fun _ _ hx => by rw [hx]; rfl) ds dst.length) fun sub sub' hsub => ?_
        exact ih _ _ (hd.append (.single hsub))
      | top _ _ n _ col =>
        cases col with
        | none =>
          simp only [nameOp, splitOps]
          exact ExRel.error_error _
        | some c => cases hst
      | _ => cases hst
end

theorem splitQueries_name (src : Bytes) (sc : Scope) (t : Tabular) (dst : List Subquery) :
    splitQueries src sc (dst.map (nameS src)) (nameTabular src t) =
      (splitQueries src sc dst t).map (List.map (nameS src)) :=
  ExRel.eq_map _ (fun _ _ hd => Named.list hd)
    (splitQueries_named src sc t dst _ (ListRel.of_map _ fun _ _ => rfl))

theorem splitOps_name (src : Bytes) (sc : Scope) :
    (ops : OpList) → (source : Option Ident) → (ds : Nat) → (dst : List Subquery) →
      splitOps src sc source ds (dst.map (nameS src)) (nameOps src ops) =
        (splitOps src sc source ds dst ops).map (List.map (nameS src)) :=
  fun ops source ds dst => ExRel.eq_map _ (fun _ _ hd => Named.list hd)
    (splitOps_named src sc ops source ds dst _ (ListRel.of_map _ fun _ _ => rfl))

theorem nameColumn_x (src : Bytes) (c : Column) : (nameColumn src c).x = c.x := by
  unfold nameColumn; cases c.name <;> rfl

theorem columnAlias_name (ctx : Ctx) (c : Column) :
    OkLe (columnAlias ctx c) (columnAlias ctx (nameColumn ctx.src c)) := by
  intro a h
  unfold nameColumn
  cases hn : c.name with
  | some n => simp only; exact h
  | none =>
    simp only [columnAlias, hn] at h ⊢
    unfold sliceSource at h
    split at h
    · rename_i hr
      simp only [bind, Except.bind, pure, Except.pure, Except.ok.injEq] at h
      subst h
      simp only [colName, hn, hr.1, hr.2.1, and_self, if_true]
    · cases h

theorem writeColumns_name (ctx : Ctx) : ∀ cs : List Column,
    OkLe (writeColumns ctx cs) (writeColumns ctx (cs.map (nameColumn ctx.src)))
  | [] => OkLe.refl _
  | c :: cs => by
    simp only [writeColumns, List.map_cons, nameColumn_x]
    exact (OkLe.refl _).bind fun _ => (columnAlias_name ctx c).bind fun _ =>
      (writeColumns_name ctx cs).bind fun _ => OkLe.refl _

theorem mapM_name (ctx : Ctx) (gs : List Column) :
    (gs.map (nameColumn ctx.src)).mapM (fun (c : Column) => writeExpr ctx c.x) =
      gs.mapM (fun (c : Column) => writeExpr ctx c.x) := by
  rw [List.mapM_map]
  congr 1
  funext c
  simp only [Function.comp, nameColumn_x]

theorem bodyOf_name (ctx : Ctx) (op : Option Op) (source : List Chunk) :
    OkLe (bodyOf ctx op source) (bodyOf ctx (op.map (nameOp ctx.src)) source) := by
  rcases op with _ | o
  · exact OkLe.refl _
  · cases o with
    | extend p k cols =>
      simp only [Option.map_some, nameOp, bodyOf]
      exact (writeColumns_name ctx cols).bind fun _ => OkLe.refl _
    | summarize p k cols by_ gs =>
      simp only [Option.map_some, nameOp, bodyOf, mapM_name, List.isEmpty_map]
      exact (writeColumns_name ctx gs).bind fun _ => (writeColumns_name ctx cols).bind fun _ => OkLe.refl _
    | _ => exact OkLe.refl _

theorem write_name (ctx : Ctx) (s : Subquery) : OkLe (s.write ctx) ((nameS ctx.src s).write ctx) := by
  rw [write_eq, write_eq]
  exact (bodyOf_name ctx s.op s.source).bind fun _ => OkLe.refl _

theorem writeCtes_name (ctx : Ctx) : ∀ subs : List Subquery,
    OkLe (writeCtes ctx subs) (writeCtes ctx (subs.map (nameS ctx.src)))
  | [] => OkLe.refl _
  | [s] => by
    simp only [writeCtes, List.map_cons, List.map_nil]
    exact (write_name ctx s).bind fun _ => OkLe.refl _
  | s :: s2 :: rest => by
    simp only [writeCtes, List.map_cons]
    exact (write_name ctx s).bind fun _ => (writeCtes_name ctx (s2 :: rest)).bind fun _ => OkLe.refl _

theorem finishChunks_name (src : Bytes) (sc : Scope) (t : Tabular) :
    OkLe (C14.finishChunks src sc (some t)) (C14.finishChunks src sc (some (nameTabular src t))) := by
  have hs := splitQueries_name src sc t []
  rw [List.map_nil] at hs
  unfold C14.finishChunks
  simp only [hs]
  rw [exbind_map]
  refine (OkLe.refl _).bind fun subs => ?_
  rw [← List.map_reverse]
  cases subs.reverse with
  | nil => exact OkLe.refl _
  | cons query ctesRev =>
    simp only [List.map_cons, ← List.map_reverse, List.isEmpty_map]
    have hq := write_name ⟨src, sc, .default⟩ query
    split
    · exact (OkLe.refl _).bind fun _ => hq.bind fun _ => OkLe.refl _
    · exact (writeCtes_name ⟨src, sc, .default⟩ _).bind fun _ => (OkLe.refl _).bind fun _ => hq.bind fun _ => OkLe.refl _

end Pql.E2EMore
