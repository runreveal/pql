/-
The pieces of `interp s = some (scanOne s)` (Props/C09Dispatch.lean): what each kind of action does
after an ASCII first byte, for an arbitrary row and suffix; the model's if-chain read as a table
(`modelAction`) and executed; which case an ASCII rune selects (decided over the 128 ASCII runes
against `modelAction`); which case a rune ≥ 0x80 selects (only `unicode.IsSpace` or the default: every
other condition is ASCII).
-/
import PqlModel.Lemmas.DispatchRune
namespace Pql.Dispatch
open Pql
open Pql.Facts (ScanAction)
set_option linter.unusedSimpArgs false

theorem width_of_ascii_rune (d : UInt8) (r : Bytes) (k : Nat) (hk : k < 128)
    (h : (decodeRune (d :: r)).1 = k) : (decodeRune (d :: r)).2 = 1 := by
  have hd := (decodeRune_eq_ascii d r k hk).mp h
  rw [decodeRune_ascii d r (by omega)]

theorem exec_skip_ascii (c : UInt8) (rest : Bytes) (h : c.toNat < 128) :
    exec .skip (c :: rest) = some (.skip 1) := by
  simp only [exec, decodeRune_ascii c rest h]

theorem exec_error_ascii (c : UInt8) (rest : Bytes) (h : c.toNat < 128) :
    exec .error (c :: rest) = some (.sym .error 1) := by
  simp only [exec, decodeRune_ascii c rest h]

theorem exec_single_ascii (k : String) (c : UInt8) (rest : Bytes) (h : c.toNat < 128) :
    exec (.single k) (c :: rest) = (TokKind.ofGoName k).map (Step.sym · 1) := by
  simp only [exec, decodeRune_ascii c rest h]

/-- nothing follows the first rune: `ok` is false, nothing is given back -/
theorem exec_two_eof (secs : List (Nat × String)) (fb : String) (u : Bool) (c : UInt8) (h : c.toNat < 128) :
    exec (.two secs fb u) [c] = (TokKind.ofGoName fb).map (Step.sym · 1) := by
  have hnil : decodeRune ([] : Bytes) = (runeError, 0) := rfl
  simp only [exec, decodeRune_ascii c [] h, List.drop_succ_cons, List.drop_nil, List.isEmpty_nil, ↓reduceIte,
    hnil, Nat.add_zero, ite_self]

theorem find?_rune_ascii {α : Type} (secs : List (Nat × α)) (hs : ∀ p ∈ secs, p.1 < 128) (d : UInt8) (r : Bytes) :
    secs.find? (fun p => p.1 == (decodeRune (d :: r)).1) = secs.find? (fun p => p.1 == d.toNat) := by
  induction secs with
  | nil => rfl
  | cons p ps ih =>
    have hp : (p.1 == (decodeRune (d :: r)).1) = (p.1 == d.toNat) := by
      rw [Bool.eq_iff_iff, beq_iff_eq, beq_iff_eq, eq_comm, decodeRune_eq_ascii d r p.1 (hs p List.mem_cons_self),
        eq_comm]
    rw [List.find?_cons, List.find?_cons, hp, ih fun q hq => hs q (List.mem_cons_of_mem _ hq)]

/-- a second byte follows: a listed (ASCII) second rune gives its kind over both runes, any other byte
    is given back (`s.prev()`) -/
theorem exec_two_next (secs : List (Nat × String)) (hs : ∀ p ∈ secs, p.1 < 128) (fb : String)
    (c d : UInt8) (r : Bytes) (h : c.toNat < 128) :
    exec (.two secs fb true) (c :: d :: r) =
      match secs.find? (fun p => p.1 == d.toNat) with
      | some p => (TokKind.ofGoName p.2).map (Step.sym · 2)
      | none => (TokKind.ofGoName fb).map (Step.sym · 1) := by
  simp only [exec, decodeRune_ascii c _ h, List.drop_succ_cons, List.drop_zero, List.isEmpty_cons,
    Bool.false_eq_true, ↓reduceIte, find?_rune_ascii secs hs d r]
  cases hf : secs.find? (fun p => p.1 == d.toNat) with
  | none => rfl
  | some p =>
    have hd : d.toNat < 128 := by
      have := hs p (List.mem_of_find?_eq_some hf)
      have hp := List.find?_some hf
      rw [beq_iff_eq] at hp
      omega
    simp only [decodeRune_ascii d r hd]

theorem exec_comment_eof (op t : Nat) (ke ko : String) (u : Bool) (c : UInt8) (h : c.toNat < 128) :
    exec (.comment op t ke ko u) [c] = (TokKind.ofGoName ke).map (Step.sym · 1) := by
  simp only [exec, decodeRune_ascii c [] h, List.drop_succ_cons, List.drop_nil, List.isEmpty_nil, ↓reduceIte]

/-- the opener follows: the rune loop up to the newline is the model's byte loop (`runesUntil_newline`) -/
theorem exec_comment_open (op : Nat) (ke ko : String) (u : Bool) (c d : UInt8) (r : Bytes)
    (h : c.toNat < 128) (hop : op < 128) (hd : d.toNat = op) :
    exec (.comment op 10 ke ko u) (c :: d :: r) = some (.skip (commentLen r + 2)) := by
  have hd' := decodeRune_ascii d r (by omega)
  simp only [exec, decodeRune_ascii c _ h, List.drop_succ_cons, List.drop_zero, List.isEmpty_cons,
    Bool.false_eq_true, ↓reduceIte, hd', hd, beq_self_eq_true, runesUntil_newline]
  rw [Nat.add_comm]

theorem exec_comment_other (op t : Nat) (ke ko : String) (c d : UInt8) (r : Bytes)
    (h : c.toNat < 128) (hop : op < 128) (hd : d.toNat ≠ op) :
    exec (.comment op t ke ko true) (c :: d :: r) = (TokKind.ofGoName ko).map (Step.sym · 1) := by
  have hne : ((decodeRune (d :: r)).1 == op) = false :=
    beq_eq_false_iff_ne.mpr fun e => hd ((decodeRune_eq_ascii d r op hop).mp e)
  simp only [exec, decodeRune_ascii c _ h, List.drop_succ_cons, List.drop_zero, List.isEmpty_cons,
    Bool.false_eq_true, ↓reduceIte, hne]

/-- the model's look-ahead chain `if d == some b₁ then sym k₁ 2 else … else sym fb 1` -/
def lookahead (d : Option UInt8) : List (UInt8 × TokKind) → TokKind → Step
  | [], fb => .sym fb 1
  | (b, k) :: more, fb => if d == some b then .sym k 2 else lookahead d more fb

theorem lookahead_none (rows : List (UInt8 × TokKind)) (fb : TokKind) : lookahead none rows fb = .sym fb 1 := by
  induction rows with
  | nil => rfl
  | cons p more ih => simp only [lookahead, ih]; rfl

def twoRow (rows : List (UInt8 × TokKind)) (fb : TokKind) : ScanAction :=
  .two (rows.map fun p => (p.1.toNat, p.2.goName)) fb.goName true

theorem exec_twoRow (rows : List (UInt8 × TokKind)) (hrows : ∀ p ∈ rows, p.1.toNat < 128) (fb : TokKind)
    (c : UInt8) (rest : Bytes) (h : c.toNat < 128) :
    exec (twoRow rows fb) (c :: rest) = some (lookahead rest.head? rows fb) := by
  unfold twoRow
  cases rest with
  | nil => rw [exec_two_eof _ _ _ c h, ofGoName_goName, List.head?_nil, lookahead_none]; rfl
  | cons d r =>
    have hs : ∀ q ∈ rows.map fun p => (p.1.toNat, p.2.goName), q.1 < 128 := by
      intro q hq
      obtain ⟨p, hp, rfl⟩ := List.mem_map.mp hq
      exact hrows p hp
    rw [exec_two_next _ hs _ c d r h, List.head?_cons]
    clear hrows hs
    induction rows with
    | nil => simp only [List.map_nil, List.find?_nil, ofGoName_goName]; rfl
    | cons p more ih =>
      obtain ⟨b, k⟩ := p
      simp only [List.map_cons, List.find?_cons, lookahead, Option.some_beq_some, beq_iff_toNat d b]
      by_cases hd : b.toNat = d.toNat
      · simp only [hd, beq_self_eq_true, decide_true, ↓reduceIte, ofGoName_goName]; rfl
      · simp only [beq_eq_false_iff_ne.mpr hd, Ne.symm hd, decide_false, Bool.false_eq_true, ↓reduceIte]
        exact ih

/-- the action the model takes on an ASCII byte that starts no identifier, number, string or quoted
    identifier (hand-written from Model/Lex.lean `scanPunct`) -/
def punctAction (c : UInt8) : ScanAction :=
  match singleKind c with
  | some k => .single k.goName
  | none =>
    if c == 61 then twoRow [(61, .eq), (126, .cieq)] .assign
    else if c == 33 then twoRow [(61, .ne), (126, .cine)] .error
    else if c == 60 then twoRow [(61, .le)] .lt
    else if c == 62 then twoRow [(61, .ge)] .gt
    else if c == 47 then .comment 47 10 "TokenSlash" "TokenSlash" true
    else .error

/-- the model's main dispatch read as a table: the action `scanOne` takes on an ASCII byte
    (hand-written from Model/Lex.lean `scanOne`; a proof device, see `scanOne_exec_ascii`) -/
def modelAction (c : UInt8) : ScanAction :=
  if isAsciiSpace c then .skip
  else if isIdentStart c then .sub "ident"
  else if isDigit c || c == 46 then .sub "numberOrDot"
  else if c == 34 || c == 39 then .sub "string"
  else if c == 96 then .sub "quotedIdent"
  else punctAction c

theorem exec_punctAction (c : UInt8) (rest : Bytes) (h : c.toNat < 128) :
    exec (punctAction c) (c :: rest) = some (scanPunct c rest) := by
  unfold punctAction scanPunct
  cases singleKind c with
  | some k => exact (exec_single_ascii _ c rest h).trans (congrArg _ (ofGoName_goName k))
  | none =>
    simp only
    by_cases h61 : c = 61
    · subst h61; exact exec_twoRow _ (by decide) _ 61 rest h
    by_cases h33 : c = 33
    · subst h33; exact exec_twoRow _ (by decide) _ 33 rest h
    by_cases h60 : c = 60
    · subst h60; exact exec_twoRow _ (by decide) _ 60 rest h
    by_cases h62 : c = 62
    · subst h62; exact exec_twoRow _ (by decide) _ 62 rest h
    by_cases h47 : c = 47
    · subst h47
      cases rest with
      | nil => exact exec_comment_eof _ _ _ _ _ 47 h
      | cons d r =>
        by_cases hd : d = 47
        · subst hd; exact exec_comment_open 47 _ _ _ 47 47 r h (by decide) rfl
        · refine (exec_comment_other 47 10 _ _ 47 d r h (by decide) fun e => hd (UInt8.toNat_inj.mp e)).trans ?_
          have hne : (some d == some (47 : UInt8)) = false := by
            rw [Option.some_beq_some]; exact beq_eq_false_iff_ne.mpr hd
          show _ = some (if (some d == some 47) = true then _ else _)
          rw [hne]; rfl
    · simp only [beq_iff_eq, h61, h33, h60, h62, h47, ↓reduceIte]
      exact exec_error_ascii c rest h

theorem scanOne_exec_ascii (c : UInt8) (rest : Bytes) (h : c.toNat < 128) :
    exec (modelAction c) (c :: rest) = some (scanOne (c :: rest)) := by
  unfold scanOne modelAction
  simp only [Nat.not_le.mpr h, ↓reduceIte]
  by_cases h1 : isAsciiSpace c = true
  · rw [if_pos h1, if_pos h1]; exact exec_skip_ascii c rest h
  rw [if_neg h1, if_neg h1]
  by_cases h2 : isIdentStart c = true
  · rw [if_pos h2, if_pos h2]; rfl
  rw [if_neg h2, if_neg h2]
  by_cases h3 : (isDigit c || c == 46) = true
  · rw [if_pos h3, if_pos h3]; rfl
  rw [if_neg h3, if_neg h3]
  by_cases h4 : (c == 34 || c == 39) = true
  · rw [if_pos h4, if_pos h4]; rfl
  rw [if_neg h4, if_neg h4]
  by_cases h5 : (c == 96) = true
  · rw [if_pos h5, if_pos h5]; rfl
  rw [if_neg h5, if_neg h5]
  exact exec_punctAction c rest h

/-- on every ASCII rune the regenerated switch selects the case the model takes
    (order of the cases included: a decision over 128 runes × the whole case list) -/
theorem select_ascii : ∀ n, n < 128 →
    select Facts.scanCases Facts.scanDefault n = some (modelAction (UInt8.ofNat n)) := by
  decide +kernel

theorem select_ascii_byte (c : UInt8) (h : c.toNat < 128) :
    select Facts.scanCases Facts.scanDefault c.toNat = some (modelAction c) := by
  have := select_ascii c.toNat h
  rwa [UInt8.ofNat_toNat] at this

def caseAscii (p : List String × List Nat × ScanAction) : Bool :=
  p.1.all (fun n => n = "isAlpha" || n = "isDigit" || n = "isHexDigit") && p.2.1.all (· < 128)

theorem ranges_ascii :
    (Facts.isAlphaRanges ++ Facts.isDigitRanges ++ Facts.isHexDigitRanges).all (fun p => p.2 < 128) = true := by
  decide

theorem inRangesNat_false (rs : List (Nat × Nat)) (h : rs.all (fun p => p.2 < 128) = true) (r : Nat)
    (hr : 128 ≤ r) : inRangesNat rs r = false := by
  unfold inRangesNat
  rw [List.any_eq_false]
  intro p hp
  have := (List.all_eq_true.mp h) p hp
  simp only [decide_eq_true_eq] at this
  simp only [Bool.and_eq_true, decide_eq_true_eq, not_and, Nat.not_le]
  intro _; omega

theorem classesHold_nonascii (cl : List String)
    (h : cl.all (fun n => n = "isAlpha" || n = "isDigit" || n = "isHexDigit") = true) (r : Nat) (hr : 128 ≤ r) :
    classesHold cl r = some false := by
  have hall := ranges_ascii
  simp only [List.all_append, Bool.and_eq_true] at hall
  induction cl with
  | nil => rfl
  | cons n ns ih =>
    simp only [List.all_cons, Bool.and_eq_true, Bool.or_eq_true, decide_eq_true_eq] at h
    have ih' := ih (by simpa using h.2)
    have hn : classHolds n r = some false := by
      rcases h.1 with (rfl | rfl) | rfl
      · simp [classHolds, inRangesNat_false _ hall.1.1 r hr]
      · simp [classHolds, inRangesNat_false _ hall.1.2 r hr]
      · simp [classHolds, inRangesNat_false _ hall.2 r hr]
    simp [classesHold, hn, ih']

theorem condHolds_nonascii (p : List String × List Nat × ScanAction) (hp : caseAscii p = true)
    (r : Nat) (hr : 128 ≤ r) : condHolds p.1 p.2.1 r = some false := by
  simp only [caseAscii, Bool.and_eq_true] at hp
  have hnot : p.2.1.contains r = false := by
    rw [List.contains_eq_mem]
    simp only [decide_eq_false_iff_not]
    intro hm
    have := (List.all_eq_true.mp hp.2) r hm
    simp only [decide_eq_true_eq] at this
    omega
  simp only [condHolds, classesHold_nonascii p.1 hp.1 r hr, hnot, Option.map_some, Bool.or_self]

theorem select_all_ascii (cs : List (List String × List Nat × ScanAction)) (d : ScanAction)
    (h : cs.all caseAscii = true) (r : Nat) (hr : 128 ≤ r) : select cs d r = some d := by
  induction cs with
  | nil => rfl
  | cons p ps ih =>
    simp only [List.all_cons, Bool.and_eq_true] at h
    obtain ⟨cl, rs, a⟩ := p
    have := condHolds_nonascii (cl, rs, a) h.1 r hr
    simp only at this
    simp only [select, this, ih h.2]

theorem select_scanCases (r : Nat) :
    select Facts.scanCases Facts.scanDefault r =
      if isSpaceRune r then some .skip else select Facts.scanCases.tail Facts.scanDefault r := by
  have hsplit : Facts.scanCases = (["unicode.IsSpace"], [], .skip) :: Facts.scanCases.tail := rfl
  conv => lhs; rw [hsplit]
  simp only [select, condHolds, classesHold, classHolds, ↓reduceIte, Bool.or_false, Option.map_some,
    List.contains_nil]
  cases isSpaceRune r <;> rfl

theorem scanCases_tail_ascii : Facts.scanCases.tail.all caseAscii = true := by decide +kernel

theorem select_nonascii (r : Nat) (hr : 128 ≤ r) :
    select Facts.scanCases Facts.scanDefault r = some (if isSpaceRune r then .skip else .error) := by
  rw [select_scanCases, select_all_ascii _ _ scanCases_tail_ascii r hr]
  cases isSpaceRune r <;> rfl

end Pql.Dispatch
