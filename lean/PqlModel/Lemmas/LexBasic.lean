/-
Helper lemmas about the scanner model: what the punctuation and number sub-scanners return, case by
case; the counting loops stay inside their input.  Also the token kind behind each Go constant name (`kind_*`, from
`Dispatch.ofGoName_goName`), which the interpreters of regenerated code look up, and three definitions the later
modules share: `QRes.width`, `finW`, `hexLexeme`.
-/
import PqlModel.Model.Lex
import PqlModel.Base.BytesLemmas
namespace Pql

theorem beq_iff_toNat (c d : UInt8) : (c == d) = decide (c.toNat = d.toNat) := by
  by_cases h : c = d
  · subst h; simp
  · have : c.toNat ≠ d.toNat := fun h' => h (UInt8.toNat_inj.mp h')
    simp [h, this]

/-- on ASCII bytes Go's `unicode.IsSpace` is the scanner's own white-space test -/
theorem isSpaceRune_ascii (c : UInt8) (h : c.toNat < 128) :
    isSpaceRune c.toNat = isAsciiSpace c := by
  simp only [isSpaceRune, isAsciiSpace, beq_iff_toNat]
  have e : ∀ k : Nat, (c.toNat == k) = decide (c.toNat = k) := by
    intro k; by_cases hk : c.toNat = k <;> simp [hk]
  simp only [e]
  have h1 : decide (c.toNat = 0x85) = false := by simp; omega
  have h2 : decide (c.toNat = 0xA0) = false := by simp; omega
  have h3 : decide (c.toNat = 0x1680) = false := by simp; omega
  have h4 : (decide (0x2000 ≤ c.toNat) && decide (c.toNat ≤ 0x200A)) = false := by simp; omega
  have h5 : decide (c.toNat = 0x2028) = false := by simp; omega
  have h6 : decide (c.toNat = 0x2029) = false := by simp; omega
  have h7 : decide (c.toNat = 0x202F) = false := by simp; omega
  have h8 : decide (c.toNat = 0x205F) = false := by simp; omega
  have h9 : decide (c.toNat = 0x3000) = false := by simp; omega
  simp [h1, h2, h3, h4, h5, h6, h7, h8, h9]

theorem identLoop_le (s : Bytes) : identLoop s ≤ s.length := by
  induction s with
  | nil => simp [identLoop]
  | cons c rest ih => simp only [identLoop]; split <;> simp <;> omega

theorem digitsLen_le (s : Bytes) : digitsLen s ≤ s.length := by
  induction s with
  | nil => simp [digitsLen]
  | cons c rest ih => simp only [digitsLen]; split <;> simp <;> omega

theorem hexDigitsLen_le (s : Bytes) : hexDigitsLen s ≤ s.length := by
  induction s with
  | nil => simp [hexDigitsLen]
  | cons c rest ih => simp only [hexDigitsLen]; split <;> simp <;> omega

theorem exponentLen_le (s : Bytes) : exponentLen s ≤ s.length := by
  unfold exponentLen
  split
  · rename_i e c rest
    split
    · split
      · split
        · rename_i d rest'
          split
          · have := digitsLen_le rest'; simp; omega
          · simp
        · simp
      · split
        · have := digitsLen_le rest; simp; omega
        · simp
    · simp
  · simp

def QRes.width : QRes → Nat
  | .closed _ w => w
  | .bad w => w

@[simp] theorem QRes.width_closed (v : Bytes) (w : Nat) : (QRes.closed v w).width = w := rfl
@[simp] theorem QRes.width_bad (w : Nat) : (QRes.bad w).width = w := rfl

@[simp] theorem QRes.width_shift (k : Nat) (c : Option UInt8) (r : QRes) :
    (r.shift k c).width = r.width + k := by
  cases r <;> simp [QRes.shift]

theorem Dispatch.ofGoName_goName (k : TokKind) : TokKind.ofGoName k.goName = some k := by
  have h : ∀ k ∈ TokKind.all, TokKind.ofGoName k.goName = some k := by decide +kernel
  exact h k (by cases k <;> decide)

theorem goName_beq (k k' : TokKind) : (k.goName == k'.goName) = decide (k = k') := by
  by_cases h : k = k'
  · simp [h]
  · have hn : k.goName ≠ k'.goName := fun he => h (Option.some.inj (by rw [← Dispatch.ofGoName_goName k, he, Dispatch.ofGoName_goName]))
    simp [h, hn]

theorem kind_and : TokKind.ofGoName "TokenAnd" = some .and_ := Dispatch.ofGoName_goName .and_
theorem kind_assign : TokKind.ofGoName "TokenAssign" = some .assign := Dispatch.ofGoName_goName .assign
theorem kind_by : TokKind.ofGoName "TokenBy" = some .by_ := Dispatch.ofGoName_goName .by_
theorem kind_comma : TokKind.ofGoName "TokenComma" = some .comma := Dispatch.ofGoName_goName .comma
theorem kind_dot : TokKind.ofGoName "TokenDot" = some .dot := Dispatch.ofGoName_goName .dot
theorem kind_error : TokKind.ofGoName "TokenError" = some .error := Dispatch.ofGoName_goName .error
theorem kind_ident : TokKind.ofGoName "TokenIdentifier" = some .ident := Dispatch.ofGoName_goName .ident
theorem kind_in : TokKind.ofGoName "TokenIn" = some .in_ := Dispatch.ofGoName_goName .in_
theorem kind_lbracket : TokKind.ofGoName "TokenLBracket" = some .lbracket := Dispatch.ofGoName_goName .lbracket
theorem kind_lparen : TokKind.ofGoName "TokenLParen" = some .lparen := Dispatch.ofGoName_goName .lparen
theorem kind_minus : TokKind.ofGoName "TokenMinus" = some .minus := Dispatch.ofGoName_goName .minus
theorem kind_number : TokKind.ofGoName "TokenNumber" = some .number := Dispatch.ofGoName_goName .number
theorem kind_or : TokKind.ofGoName "TokenOr" = some .or_ := Dispatch.ofGoName_goName .or_
theorem kind_pipe : TokKind.ofGoName "TokenPipe" = some .pipe := Dispatch.ofGoName_goName .pipe
theorem kind_plus : TokKind.ofGoName "TokenPlus" = some .plus := Dispatch.ofGoName_goName .plus
theorem kind_qident : TokKind.ofGoName "TokenQuotedIdentifier" = some .qident := Dispatch.ofGoName_goName .qident
theorem kind_rbracket : TokKind.ofGoName "TokenRBracket" = some .rbracket := Dispatch.ofGoName_goName .rbracket
theorem kind_rparen : TokKind.ofGoName "TokenRParen" = some .rparen := Dispatch.ofGoName_goName .rparen
theorem kind_semi : TokKind.ofGoName "TokenSemi" = some .semi := Dispatch.ofGoName_goName .semi
theorem kind_string : TokKind.ofGoName "TokenString" = some .string := Dispatch.ofGoName_goName .string

theorem singleKind_semi (c : UInt8) : singleKind c = some .semi → c = 59 := by
  fun_cases singleKind c
  -- the branches in the order of the `if` chain; the eleventh is `c == 59`
  case case11 h => exact fun _ => eq_of_beq h
  all_goals exact fun h => nomatch h

theorem scanPunct_comment (t : Bytes) : scanPunct 47 (47 :: t) = .skip (commentLen t + 2) := rfl

theorem scanPunct_cases (c : UInt8) (rest : Bytes) :
    (scanPunct c rest = scanPunct c [] ∧ ∃ k, scanPunct c [] = .sym k 1 ∧ (k = .semi → c = 59)) ∨
    (∃ k d t, rest = d :: t ∧ (d = 61 ∨ d = 126) ∧ k ≠ .semi ∧ scanPunct c rest = .sym k 2) ∨
    (c = 47 ∧ ∃ t, rest = 47 :: t ∧ scanPunct c rest = .skip (commentLen t + 2)) := by
  have one : ∀ k, k ≠ .semi → scanPunct c [] = .sym k 1 →
      Step.sym k 1 = scanPunct c [] ∧ ∃ k', scanPunct c [] = .sym k' 1 ∧ (k' = .semi → c = 59) :=
    fun k hk h => ⟨h.symm, k, h, fun e => absurd e hk⟩
  have two : ∀ k d, (rest.head? == some d) = true → d = 61 ∨ d = 126 → k ≠ .semi →
      ∃ k' d t, rest = d :: t ∧ (d = 61 ∨ d = 126) ∧ k' ≠ .semi ∧ Step.sym k 2 = .sym k' 2 :=
    fun k d hd h hk =>
      have ⟨t, ht⟩ := List.head?_eq_some_iff.mp (eq_of_beq hd)
      ⟨k, d, t, ht, h, hk, rfl⟩
  -- the leaves of `scanPunct` in textual order: 1 `singleKind`; 2 `==`, 3 `=~`, 4 `=`; 5 `!=`, 6 `!~`, 7 `!`;
  -- 8 `<=`, 9 `<`; 10 `>=`, 11 `>`; 12 `//`, 13 `/`; 14 any other byte
  fun_cases scanPunct c rest
  case case1 k hk =>
    have h0 : scanPunct c [] = .sym k 1 := by simp only [scanPunct, hk]
    exact .inl ⟨h0.symm, k, h0, fun h => singleKind_semi c (h ▸ hk)⟩
  case case12 hc hd =>
    have ⟨t, ht⟩ := List.head?_eq_some_iff.mp (eq_of_beq hd)
    exact .inr (.inr ⟨eq_of_beq hc, t, ht, by rw [ht]; rfl⟩)
  case case2 | case5 | case8 | case10 => exact .inr (.inl (two _ 61 ‹_› (.inl rfl) nofun))
  case case3 | case6 => exact .inr (.inl (two _ 126 ‹_› (.inr rfl) nofun))
  all_goals exact .inl (one _ nofun (by simp [scanPunct, *, -one, -two]))

def finW (s : Bytes) (k : Nat) (b : Bool) : Nat :=
  k + mantissaLoop b (s.drop k) + exponentLen (s.drop (k + mantissaLoop b (s.drop k)))

theorem finishNumber_eq_finW (s : Bytes) (k : Nat) (b : Bool) :
    finishNumber s k b = ⟨.number, normalizeNumber (s.take (finW s k b)), finW s k b⟩ := rfl

theorem finishNumber_succ (s : Bytes) (k : Nat) (b b' : Bool)
    (h : mantissaLoop b (s.drop k) = mantissaLoop b' (s.drop (k + 1)) + 1) :
    finishNumber s (k + 1) b' = finishNumber s k b := by
  have e : k + (mantissaLoop b' (s.drop (k + 1)) + 1) = k + 1 + mantissaLoop b' (s.drop (k + 1)) := by
    omega
  simp only [finishNumber, h, e]

/-- the `0x…` outcome of `scanNumberOrDot`; `r` is what follows the `x`.  The bound is 2^64, spelt as in Model/Lex.lean
    (`strconv.ParseUint(…, 16, 64)` fails beyond it); Spec/LexSpec.lean writes `2 ^ 64`. -/
def hexLexeme (r : Bytes) : Lexeme :=
  let n := hexDigitsLen r
  if n == 0 then ⟨.error, [], 2⟩
  else
    let v := hexToNat (r.take n)
    if v < 18446744073709551616 then ⟨.number, natToDec v, n + 2⟩ else ⟨.error, [], n + 2⟩

theorem scanNumberOrDot_hex (x : UInt8) (r : Bytes) (hx : x = 120 ∨ x = 88) :
    scanNumberOrDot (48 :: x :: r) = hexLexeme r := by
  rcases hx with rfl | rfl <;> rfl

theorem scanNumberOrDot_dot_digit (d : UInt8) (r : Bytes) (hd : isDigit d = true) :
    scanNumberOrDot (46 :: d :: r) = finishNumber (46 :: d :: r) 2 true := by
  simp [scanNumberOrDot, hd]

theorem scanNumberOrDot_dot (rest : Bytes) (h : ∀ d ∈ rest.head?, isDigit d = false) :
    scanNumberOrDot (46 :: rest) = ⟨.dot, [], 1⟩ := by
  cases rest with
  | nil => rfl
  | cons d r => simp [scanNumberOrDot, h d rfl]

/-- Apart from `0x…` and a leading '.', `scanNumberOrDot` is the mantissa loop and the exponent
    behind the first byte: its branches for `0.`, `0e`, `0` before a digit and a lone `0`
    compute just that. -/
theorem scanNumberOrDot_decimal (c : UInt8) (rest : Bytes) (h46 : c ≠ 46)
    (hx : ¬ (c = 48 ∧ (rest.head? = some 120 ∨ rest.head? = some 88))) :
    scanNumberOrDot (c :: rest) = finishNumber (c :: rest) 1 false := by
  have h46' : (c == 46) = false := by simpa using h46
  by_cases h48 : c = 48
  · subst h48
    cases rest with
    | nil => rfl
    | cons c2 r =>
      have hx' : (c2 == 120 || c2 == 88) = false := by simpa using hx
      simp only [scanNumberOrDot, beq_self_eq_true, if_true, hx', Bool.false_eq_true, if_false]
      split
      · rename_i h; cases eq_of_beq h
        exact finishNumber_succ _ 1 false true (by simp [mantissaLoop])
      · rename_i hdot
        split
        · rename_i he
          have hm : mantissaLoop false (c2 :: r) = 0 := by
            rcases (by simpa using he : c2 = 101 ∨ c2 = 69) with rfl | rfl <;>
              simp [mantissaLoop, show isDigit 101 = false by decide, show isDigit 69 = false by decide]
          simp [finishNumber, hm, Nat.add_comm]
        · split
          · rename_i hd
            exact finishNumber_succ _ 1 false false (by simp [mantissaLoop, hdot, hd])
          · rfl
  · have h48' : (c == 48) = false := by simpa using h48
    simp only [scanNumberOrDot, h48', h46', Bool.false_eq_true, if_false]

theorem scanNumberOrDot_cases (c : UInt8) (rest : Bytes) :
    (∃ k b, 1 ≤ k ∧ k ≤ rest.length + 1 ∧
      scanNumberOrDot (c :: rest) = finishNumber (c :: rest) k b) ∨
    (c = 46 ∧ scanNumberOrDot (c :: rest) = ⟨.dot, [], 1⟩) ∨
    (∃ x r, c = 48 ∧ rest = x :: r ∧ (x = 120 ∨ x = 88) ∧
      scanNumberOrDot (c :: rest) = hexLexeme r) := by
  by_cases h46 : c = 46
  · subst h46
    cases rest with
    | nil => exact .inr (.inl ⟨rfl, rfl⟩)
    | cons d r =>
      by_cases hd : isDigit d = true
      · exact .inl ⟨2, true, by decide, by simp, scanNumberOrDot_dot_digit d r hd⟩
      · exact .inr (.inl ⟨rfl, scanNumberOrDot_dot _ (by simpa using hd)⟩)
  · by_cases hx : c = 48 ∧ (rest.head? = some 120 ∨ rest.head? = some 88)
    · obtain ⟨rfl, hx⟩ := hx
      cases rest with
      | nil => simp at hx
      | cons x r =>
        have hx' : x = 120 ∨ x = 88 := by simpa using hx
        exact .inr (.inr ⟨x, r, rfl, rfl, hx', scanNumberOrDot_hex x r hx'⟩)
    · exact .inl ⟨1, false, Nat.le_refl 1, Nat.le_add_left 1 _, scanNumberOrDot_decimal c rest h46 hx⟩

theorem commentLen_skip (x y : Bytes) (hx : ∀ b ∈ x, b ≠ 10) :
    commentLen (x ++ y) = x.length + commentLen y := by
  induction x with
  | nil => simp
  | cons c x ih =>
    have hc : c ≠ 10 := hx c List.mem_cons_self
    have := ih fun b hb => hx b (List.mem_cons_of_mem _ hb)
    simp only [List.cons_append, commentLen, beq_iff_eq, hc, ↓reduceIte, this, List.length_cons]
    omega

theorem scanOne_semi_head (v : Bytes) : scanOne (59 :: v) = ⟨some (.semi, []), 1⟩ := rfl

theorem scanOne_comment (r : Bytes) : scanOne (47 :: 47 :: r) = ⟨none, commentLen r + 2⟩ := by
  simp [scanOne, isAsciiSpace, isIdentStart, isAlpha, isDigit, inRanges, Facts.isAlphaRanges,
    Facts.isDigitRanges, scanPunct, singleKind, Step.skip]

theorem scanOne_string (q : UInt8) (hq : q = 34 ∨ q = 39) (r : Bytes) :
    (scanOne (q :: r)).width = (stringLoop q r).width + 1 := by
  rcases hq with h | h <;> subst h
  all_goals
    simp only [scanOne, isAsciiSpace, isIdentStart, isAlpha, isDigit, inRanges,
      Facts.isAlphaRanges, Facts.isDigitRanges, Step.ofLexeme, scanString]
    cases stringLoop _ r <;> simp [QRes.width]

theorem scanOne_qident (r : Bytes) :
    (scanOne (96 :: r)).width = (qidentLoop r).width + 1 := by
  simp only [scanOne, isAsciiSpace, isIdentStart, isAlpha, isDigit, inRanges,
    Facts.isAlphaRanges, Facts.isDigitRanges, Step.ofLexeme, scanQuotedIdent, List.tail_cons]
  cases qidentLoop r <;> simp [QRes.width]

end Pql
