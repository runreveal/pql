/-
From the conditions on the program to those on the chain: `namesOk` makes the names of the links pairwise
distinct and different from the source tables (`names_of_namesOk`); the conditions of
`before | join (U | rops) on … | after` from those of its join-free blocks.
-/
import PqlModel.Lemmas.JoinFullGen
import PqlModel.Lemmas.ParseStmtDefs
namespace Pql.JoinFull
open Pql Sql CompileOracle Intended SplitQ SelSem C02

theorem substOps_nil' : ∀ (ops : OpList), substOps [] ops = ops := C05.substOps_nil

theorem names_of_asNames (t : Tabular) (subs : List SubA) (hs : splitA [] t = some subs)
    (hd : hasDup (asNamesT t) = false) (hg : ∀ n ∈ asNamesT t, isGeneratedName n = false) :
    (subs.map (·.name)).Nodup ∧ ∀ n ∈ subs.map (·.name), isGeneratedName n = true ∨ n ∈ asNamesT t := by
  obtain ⟨source, ops, R, rfl, hR, _, r⟩ := gen_tab [] [] t [] subs hs
  simp only [List.nil_append] at hR
  subst hR
  have hq : NamesQ (asNamesO ops ++ []) [] := by
    rw [List.append_nil]
    exact ⟨hasDup_false_nodup _ hd, fun n hn => ⟨hg n hn, by simp⟩⟩
  refine ⟨by simpa using (r.nm [] [] ⟨List.nodup_nil, by simp⟩ hq).1.1, fun n hn => ?_⟩
  simpa [asNamesT] using r.mem n hn

theorem names_of_namesOk (t : Tabular) (subs : List SubA) (hs : splitA [] t = some subs) (hn : namesOk t = true) :
    (subs.map (·.name)).Nodup ∧ C05.hasSources t = true ∧ ∀ n ∈ C05.tablesOf t, n ∉ subs.map (·.name) := by
  simp only [namesOk, Bool.and_eq_true, Bool.not_eq_true', List.all_eq_true] at hn
  obtain ⟨⟨⟨h1, h2⟩, h3⟩, h4⟩ := hn
  obtain ⟨hnd, hmem⟩ := names_of_asNames t subs hs h2 h3
  refine ⟨hnd, h1, fun n hn' hm => ?_⟩
  have h4n := h4 n hn'
  rcases hmem n hm with h | h
  · rw [h] at h4n; cases h4n.1
  · have : (asNamesT t).contains n = true := List.contains_iff_mem.mpr h
    rw [this] at h4n; cases h4n.2

theorem opsHaveSources_append : ∀ (a b : OpList), joinFree a = true →
    C05.opsHaveSources (appendOps a b) = C05.opsHaveSources b
  | .nil, b, _ => rfl
  | .cons o rest, b, h => by
    obtain ⟨hj, h⟩ := joinFree_cons_iff.1 h
    simp only [appendOps]
    rw [opsHaveSources_cons o _ hj]
    exact opsHaveSources_append rest b h

theorem opsTablesOf_append : ∀ (a b : OpList), joinFree a = true →
    C05.opsTablesOf (appendOps a b) = C05.opsTablesOf b
  | .nil, b, _ => rfl
  | .cons o rest, b, h => by
    obtain ⟨hj, h⟩ := joinFree_cons_iff.1 h
    simp only [appendOps]
    rw [opsTablesOf_cons o _ hj]
    exact opsTablesOf_append rest b h

theorem opsOkJ_append : ∀ (a b : OpList), joinFree a = true → opsOk a = true → opsOkJ false b = true →
    opsOkJ false (appendOps a b) = true
  | .nil, b, _, _, hb => hb
  | .cons o rest, b, h, ha, hb => by
    obtain ⟨hj, h⟩ := joinFree_cons_iff.1 h
    simp only [opsOk, Bool.and_eq_true] at ha
    simp only [appendOps, opsOkJ, hj, opOkJ_of_not_join _ o hj, Bool.and_eq_true]
    exact ⟨by simp [ha.1], opsOkJ_append rest b h ha.2 hb⟩

end Pql.JoinFull
