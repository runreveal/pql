/-
The SELECT of one link (`Intended.selOf`), decomposed (`selOf_eq`): FROM / JOIN (`fromOf`), body of the
operator (`partsOf`: select list, WHERE, GROUP BY), ORDER BY, LIMIT; and, for a link reading a named table,
the master lemma: once the body computes the table `T'` of the operator, the whole SELECT computes the
link's clauses in order.
-/
import PqlModel.Lemmas.SelSemPost
import PqlModel.Lemmas.ScopeCompile
namespace Pql.SelSem
open Pql Sql CompileOracle Intended SplitQ

theorem projectItem_eq (c : Column) :
    projectItem c = (tr false (projExpr c)).map fun e => ⟨false, e, some (identName c.name)⟩ := by
  rw [Option.map_eq_bind]
  unfold projectItem projExpr
  cases c.x <;> rfl

def partsOf (src : Bytes) (op : Option Op) : Option (List SelectItem × Option SExpr × List SExpr) :=
  match op with
  | none => pure ([starItem], none, [])
  | some (.as_ ..) => pure ([starItem], none, [])
  | some (.project _ _ cols) => do
    let items ← cols.mapM projectItem
    pure (items, none, [])
  | some (.extend _ _ cols) => do
    let items ← cols.mapM (itemOf src)
    pure (starItem :: items, none, [])
  | some (.summarize _ _ cols _ groupBy) => do
    let gs ← groupBy.mapM (itemOf src)
    let cs ← cols.mapM (itemOf src)
    let gb ← groupBy.mapM fun c => tr false c.x
    pure (gs ++ cs, none, gb)
  | some (.where_ _ _ pred) => do
    let p ← tr false pred
    pure ([starItem], some p, [])
  | some (.count ..) =>
    pure ([⟨false, .call (Bytes.ofString "COUNT") true .nil .none_, some (Bytes.ofString "count()")⟩], none, [])
  | some (.render _ _ chart _ _ props _) =>
    pure (starItem :: ⟨false, .str (identName chart), some (Bytes.ofString "render_type")⟩ ::
            (props.map fun p => ⟨false, .str (renderPropValue p.value), some (Bytes.ofString "render_prop_" ++ identName p.name)⟩),
          none, [])
  | some _ => none

def fromOf : SrcA → Option (TableRef × Option JoinClause)
  | .table n => pure (.named n none, none)
  | .join unique left l r cond => do
    let c ← tr true cond
    pure (if unique then TableRef.distinctOf l (some leftA) else TableRef.named l (some leftA),
          some ⟨left, .named r (some rightA), c⟩)

theorem selOf_eq (src : Bytes) (a : SubA) :
    selOf src a = (do
      let f ← fromOf a.source
      let p ← partsOf src a.op
      let orderBy ← obsOf a.sort
      let limit ← limOf a.take
      pure { items := p.1, source := f.1, join := f.2, where_ := p.2.1, groupBy := p.2.2, orderBy, limit }) := by
  obtain ⟨name, source, op, sort, take⟩ := a
  unfold selOf fromOf partsOf obsOf limOf
  -- a join source first translates its condition; from there on both kinds of source go the same way
  cases source
  case' join u l ln rn cond => dsimp only; cases tr true cond
  case join.none => rfl
  all_goals
    cases sort <;> cases take <;> cases op with
    | none => rfl
    | some o =>
      cases o with
      | where_ p k pred => dsimp only; cases tr false pred <;> rfl
      | project p k cols => dsimp only; cases List.mapM projectItem cols <;> rfl
      | extend p k cols => dsimp only; cases List.mapM (itemOf src) cols <;> rfl
      | summarize p k cols b gs =>
        dsimp only
        cases List.mapM (itemOf src) gs <;> cases List.mapM (itemOf src) cols <;>
          cases List.mapM (fun c : Column => tr false c.x) gs <;> rfl
      | _ => rfl

theorem selOf_inv (src : Bytes) (a : SubA) (sel : Select) (h : selOf src a = some sel) :
    ∃ f items w gb obs lim, fromOf a.source = some f ∧ partsOf src a.op = some (items, w, gb) ∧
      obsOf a.sort = some obs ∧ limOf a.take = some lim ∧
      sel = { items, source := f.1, join := f.2, where_ := w, groupBy := gb, orderBy := obs, limit := lim } := by
  rw [selOf_eq] at h
  simp only [Option.bind_eq_bind, Option.pure_def, Option.bind_eq_some_iff, Option.some.injEq] at h
  obtain ⟨f, hf, ⟨items, w, gb⟩, hp, obs, ho, lim, hl, rfl⟩ := h
  exact ⟨f, items, w, gb, obs, lim, hf, hp, ho, hl, rfl⟩

theorem selOf_of_parts {src : Bytes} {a : SubA} {f : TableRef × Option JoinClause} {items : List SelectItem}
    {w : Option SExpr} {gb : List SExpr} {obs : List OrderTerm} {lim : Option SExpr}
    (h1 : fromOf a.source = some f) (h2 : partsOf src a.op = some (items, w, gb))
    (h3 : obsOf a.sort = some obs) (h4 : limOf a.take = some lim) :
    selOf src a =
      some { items, source := f.1, join := f.2, where_ := w, groupBy := gb, orderBy := obs, limit := lim } := by
  rw [selOf_eq, h1, h2, h3, h4]
  rfl

def mkSel (n : Bytes) (items : List SelectItem) (w : Option SExpr) (gb : List SExpr)
    (obs : List OrderTerm) (lim : Option SExpr) : Select :=
  { items := items, source := .named n none, join := none, where_ := w, groupBy := gb, orderBy := obs, limit := lim }

theorem selOf_parts (src : Bytes) (a : SubA) (n : Bytes) (sel : Select) (hsrc : a.source = .table n)
    (h : selOf src a = some sel) :
    ∃ items w gb obs lim, partsOf src a.op = some (items, w, gb) ∧ obsOf a.sort = some obs ∧ limOf a.take = some lim ∧
      sel = mkSel n items w gb obs lim := by
  obtain ⟨f, items, w, gb, obs, lim, hf, hp, ho, hl, rfl⟩ := selOf_inv src a sel h
  rw [hsrc] at hf
  cases hf
  exact ⟨items, w, gb, obs, lim, hp, ho, hl, rfl⟩

/-- **master lemma**: if the body (select list, WHERE, GROUP BY) of the link computes the table
    `T'` the specification gives the link's operator, and ORDER BY sees the same values with and
    without the source columns behind the output columns (or there is nothing to sort), then
    the SELECT computes the link's clauses in the order body, ORDER BY, LIMIT. -/
theorem sel_core {ρ} (src : Bytes) (db : DB) (ctes : List (Bytes × Table)) (a : SubA) (n : Bytes)
    (items : List SelectItem) (w : Option SExpr) (gb : List SExpr) (obs : List OrderTerm) (lim : Option SExpr)
    (ho : obsOf a.sort = some obs) (hl : limOf a.take = some lim)
    (rows : List ρ) (g : ρ → ORow) (T' : Table)
    (hcols : outColsOf (mkSel n items w gb [] none) (lookupTable db ctes n) = T'.cols)
    (hrows : outRowsOf (mkSel n items w gb [] none) (lookupTable db ctes n) = rows.map g)
    (hT : T'.rows = rows.map fun r => (g r).2.2)
    (hkey : a.sort = none ∨
      (∀ r e, evalS (g r).2.1 (envOfRow [] T'.cols (g r).2.2 ++ (g r).1) e =
              evalS [] (envOfRow [] T'.cols (g r).2.2) e) ∨ rows.length ≤ 1)
    (hop : (opPartA a).foldl (interpClause src db) (lookupTable db ctes n) = T') :
    evalSelect db ctes (mkSel n items w gb obs lim) = subEvalA src db (lookupTable db ctes n) a := by
  rw [evalSelect_table db ctes _ n rfl rfl rfl]
  unfold subEvalA subClausesA
  rw [List.foldl_append, hop]
  have hc : outColsOf (mkSel n items w gb obs lim) (lookupTable db ctes n) = T'.cols := hcols
  have hr : outRowsOf (mkSel n items w gb obs lim) (lookupTable db ctes n) = rows.map g := hrows
  simp only [hc, hr]
  have hTeq : T' = ⟨T'.cols, rows.map fun r => (g r).2.2⟩ := by rw [← hT]
  conv => rhs; rw [hTeq]
  refine (post src db a obs lim ho hl T'.cols rows g ?_).symm
  rcases hkey with hs | hk | hlen
  · cases obsOf_sort_none hs ho
    exact .inl fun _ _ _ ho => nomatch ho
  · exact .inl fun r _ o _ => hk r o.expr
  · exact .inr hlen

end Pql.SelSem

namespace Pql.C02
open Pql Sql CompileOracle Intended SplitQ SelSem

/-- ORDER BY only on a SELECT whose operator `canAttachSort` accepts (`splitA` guarantees that,
    and the same for LIMIT, which is harmless) -/
def sortOkA (a : SubA) : Bool := a.sort.isNone || canAttachSort a.op

/-- the aggregate / non-aggregate side conditions: `project` / `extend` without aggregate calls,
    `summarize` with a key or an aggregate -/
def opOk : Op → Bool
  | .project _ _ cols => cols.all fun c => !Rel.isAggExpr c.x
  | .extend _ _ cols => cols.all fun c => !Rel.isAggExpr c.x
  | .summarize _ _ cols _ keys => !keys.isEmpty || cols.any fun c => Rel.isAggExpr c.x
  | _ => true

theorem sortOkA_false {a : SubA} (h : sortOkA a = true) (hc : canAttachSort a.op = false) :
    a.sort = none := by
  simp only [sortOkA, hc, Bool.or_false, Option.isNone_iff_eq_none] at h
  exact h

end Pql.C02
