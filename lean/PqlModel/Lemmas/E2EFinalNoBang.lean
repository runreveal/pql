/-
The operator `!=` — (P): a statement the reference SQL reader `parseStatement` reads from a token list without
`!=` symbol has no `!=` operator (`noBangStatement`).  The reader commutes with the token map that reads `!=` as
`<>` (Lemmas/SqlTokMapStmt.lean); a token list without `!=` symbol is a fixed point of that map, so the statement
read from it is one too, and the image of the map holds no `!=` operator.

(T): no fixed text the writers emit contains the byte `!` (they write `<>`:
`bangFree` holds of the tables of Lemmas/WriteAllExpr.lean), so the chunk list of a compiled
program is `!`-free (`BF`), and an adjacent list of `!`-free chunks has no `!=` symbol token — a `!`
inside a name or a string is part of that name's / string's token.  No hypothesis on the program
(only: no parameters).
-/
import Lean
import PqlModel.Lemmas.SqlTokMapStmt
import PqlModel.Lemmas.E2ESelect
import PqlModel.Lemmas.LexStmtSemi
namespace Pql.E2EFinal
open Pql Sql JoinSem E2E SqlMap

def unbang (s : String) : String := if s = "!=" then "<>" else s

theorem unbang_ne (s : String) : (unbang s != "!=") = true := by
  unfold unbang
  split
  · decide
  · simpa using ‹¬ s = "!="›

theorem gOk_unbang : GOk unbang := by
  refine ⟨fun x s hs => ?_, fun s => ?_, by decide, by decide⟩
  · by_cases hx : x = "!="
    · subst hx; revert s; decide
    · rw [unbang, if_neg hx]
  · by_cases hs : s = "!="
    · subst hs; decide
    · rw [unbang, if_neg hs]
      cases hi : infixPrec (.sym s) with
      | none => rfl
      | some x => rw [Option.map_some, infixPrec_sym_fst hi, unbang, if_neg hs, ← infixPrec_sym_fst hi]

theorem map_unbang {ts : List STok} (h : STok.sym "!=" ∉ ts) : ts.map (mapTok (fun _ => none) unbang) = ts := by
  refine (List.map_congr_left fun t ht => ?_).trans (List.map_id ts)
  cases t with
  | sym s => simp only [mapTok, unbang, if_neg fun e : s = "!=" => h (e ▸ ht), id]
  | _ => rfl

mutual
theorem noBang_unbang : ∀ x, noBang (mapS (fun _ => none) unbang x) = true
  | .param _ | .col _ | .str _ | .num _ | .const _ | .none_ => rfl
  | .call _ _ args fl => by simp only [mapS, noBang, noBangL_unbang args, noBang_unbang fl, Bool.and_self]
  | .case_ a b c => by simp only [mapS, noBang, noBang_unbang a, noBang_unbang b, noBang_unbang c, Bool.and_self]
  | .neg x | .pos x | .not_ x | .isNull x _ => by simp only [mapS, noBang, noBang_unbang x]
  | .bin op x y => by simp only [mapS, noBang, unbang_ne op, noBang_unbang x, noBang_unbang y, Bool.and_self]
  | .index x y => by simp only [mapS, noBang, noBang_unbang x, noBang_unbang y, Bool.and_self]
  | .inList x vs => by simp only [mapS, noBang, noBang_unbang x, noBangL_unbang vs, Bool.and_self]
theorem noBangL_unbang : ∀ l, noBangL (mapL (fun _ => none) unbang l) = true
  | .nil => rfl
  | .cons e es => by simp only [mapL, noBangL, noBang_unbang e, noBangL_unbang es, Bool.and_self]
end

theorem noBangSel_unbang (s : Select) : noBangSel (mapSelect (fun _ => none) unbang s) = true := by
  obtain ⟨d, items, src, join, wh, gb, ob, lim⟩ := s
  cases join <;> cases wh <;> cases lim <;>
    simp [noBangSel, mapSelect, mapItem, mapJoin, mapOrd, noBang_unbang]

/-- **(P)** the reference SQL reader produces a `!=` operator only from a `!=` symbol token -/
theorem C02_parse_noBang (ts : List STok) (st : Statement) (h : parseStatement ts = some st)
    (hnb : STok.sym "!=" ∉ ts) : noBangStatement st = true := by
  have hm := parseStatement_map (fun _ => none) gOk_unbang ts
  rw [map_unbang hnb, h, Option.map_some, Option.some.injEq] at hm
  rw [hm]
  simp [noBangStatement, mapStatement, noBangSel_unbang]

def NB (ts : List STok) : Prop := ∀ t ∈ ts, t ≠ STok.sym "!="

theorem NB_nil : NB [] := fun _ h => by cases h
theorem NB_cons (t : STok) (ts : List STok) : NB (t :: ts) ↔ t ≠ STok.sym "!=" ∧ NB ts := by
  simp [NB]

/-! The invariant production by production (`NBInv`) and a leaf-closing tactic for it.  `C02_parse_noBang` above does not
    go through them: it is an instance of `parseStatement_map`. -/

def Keeps {α : Type} (good : α → Bool) (p : PR α) : Prop := ∀ a r, p = some (a, r) → good a = true ∧ NB r


/-- the invariant at fuel `k` -/
structure NBInv (k : Nat) : Prop where
  expr : ∀ m ts, NB ts → Keeps noBang (pExprS k m ts)
  trail : ∀ m x ts, noBang x = true → NB ts → Keeps noBang (pTrailS k m x ts)
  unary : ∀ ts, NB ts → Keeps noBang (pUnaryS k ts)
  post : ∀ x ts, noBang x = true → NB ts → Keeps noBang (pPostfixS k x ts)
  atom : ∀ ts, NB ts → Keeps noBang (pAtomS k ts)
  col : ∀ ps ts, NB ts → Keeps noBang (pColTail k ps ts)
  list : ∀ ts, NB ts → Keeps noBangL (pListS k ts)


open Lean Elab Tactic Meta in
/-- `lift_nb ih`: for every hypothesis `pX k … = some (a, b)` add the instance of the invariant -/
elab "lift_nb " ih:ident : tactic => withMainContext do
  let ihE ← elabTerm ih none
  let table : List (Name × Name × Nat) :=
    [(``pExprS, ``NBInv.expr, 5), (``pTrailS, ``NBInv.trail, 6), (``pUnaryS, ``NBInv.unary, 4),
     (``pPostfixS, ``NBInv.post, 5), (``pAtomS, ``NBInv.atom, 4), (``pColTail, ``NBInv.col, 5),
     (``pListS, ``NBInv.list, 4)]
  let lctx ← getLCtx
  let mut g ← getMainGoal
  for d in lctx do
    if d.isImplementationDetail then continue
    let ty ← instantiateMVars d.type
    let some (_, lhs, _) := ty.eq? | continue
    let some fn := lhs.getAppFn.constName? | continue
    let some (_, lemmaName, cnt) := table.find? (·.1 == fn) | continue
    try
      let proj ← mkAppM lemmaName #[ihE]
      let (args, _, concl) ← forallMetaTelescopeReducing (← inferType proj) (some cnt)
      let hArg := args.back!
      if ← isDefEq (← inferType hArg) ty then
        hArg.mvarId!.assign d.toExpr
        let pf ← instantiateMVars (mkAppN proj args)
        let cty ← instantiateMVars concl
        let g' ← g.assert `hnb cty pf
        let (_, g'') ← g'.intro1
        g := g''
    catch _ => pure ()
  replaceMainGoal [g]

/-- closes a leaf of the case analysis of one parser function -/
macro "nb_leaf " ih:ident h:ident : tactic => `(tactic| first
  | contradiction
  | (cases $h:ident; done)
  | (simp only [Option.some.injEq, Prod.mk.injEq] at $h:ident
     obtain ⟨h1, h2⟩ := $h:ident
     subst h1; subst h2
     lift_nb $ih; simp_all [NB_cons, NB_nil, noBang, noBangL]; done)
  | (lift_nb $ih; simp_all [NB_cons, NB_nil, noBang, noBangL]; done)
  | (simp only [Option.map_eq_some_iff] at $h:ident
     obtain ⟨⟨a, b⟩, ha, hh⟩ := $h:ident
     simp only [Prod.mk.injEq] at hh
     obtain ⟨h1, h2⟩ := hh
     subst h1; subst h2
     lift_nb $ih; simp_all [NB_cons, NB_nil, noBang, noBangL]; done))

end Pql.E2EFinal

namespace Pql.E2EFinal
open Pql Sql LexRender Pql.C05 Pql.WriteInv

/-- the chunk contributes no `!=` symbol token: fixed texts without the byte `!`, names, strings,
    numbers and function names (single non-symbol tokens); raw parameter text is not covered -/
def bangFree : Chunk → Bool
  | .txt s => !(Bytes.ofString s).contains 33
  | .raw _ => false
  | _ => true

def BF (cs : List Chunk) : Bool := cs.all bangFree

theorem bangFree_eq : bangFree = noByte 33 := by funext c; cases c <;> rfl

theorem bangFree_emits : Emits bangFree :=
  ⟨by decide +kernel, by decide +kernel, by decide +kernel, by decide +kernel, by decide +kernel,
    fun _ => rfl, fun _ => rfl, fun _ => rfl, fun _ => rfl⟩

theorem bangFree_unhandled : Unhandled bangFree :=
  bangFree_eq ▸ noByte_unhandled (fun k => (goName_no_punct k).2) (by decide +kernel)

theorem BF_nil : BF [] = true := rfl
theorem BF_cons (c : Chunk) (cs : List Chunk) : BF (c :: cs) = (bangFree c && BF cs) := by simp [BF]
theorem BF_append (a b : List Chunk) : BF (a ++ b) = (BF a && BF b) := by simp [BF]

theorem atom_bang : ∀ a : Atom, STok.sym "!=" ∈ a.toks → 33 ∈ a.bytes :=
  atom_sym (by decide) (by decide) (by decide)

theorem toksOf_no_bang {rest : Bytes} {cs : List Chunk} (h : AdjC rest cs = true) (hsf : BF cs = true) :
    STok.sym "!=" ∉ toksOf cs :=
  toksOf_no_sym atom_bang h (bangFree_eq ▸ hsf)

def ScopeBF (scope : List (Bytes × List Chunk)) : Prop := ∀ p ∈ scope, BF p.2 = true

theorem scopeBF_nil : ScopeBF [] := fun _ h => by cases h

theorem writeList_bf (ctx : Ctx) (hscope : ScopeBF ctx.scope) :
    (es : ExprList) → (as : List (List Chunk)) → writeList ctx es = .ok as → ∀ b ∈ as, BF b = true :=
  fun es => writeList_all bangFree_emits ctx hscope es (.inl bangFree_unhandled)

theorem writeListMP_bf (ctx : Ctx) (hscope : ScopeBF ctx.scope) :
    (es : ExprList) → (vs : List (List Chunk)) → writeListMaybeParen' ctx es = .ok vs → ∀ b ∈ vs, BF b = true :=
  fun es => writeListMP_all bangFree_emits ctx hscope es (.inl bangFree_unhandled)

def SrcBF (s : Subquery) : Prop := BF s.source = true

theorem splitOps_srcBF (src : Bytes) (scope : List (Bytes × List Chunk)) (hsc : ScopeBF scope) :
    ∀ (ops : OpList) (source : Option Ident) (dstStart : Nat) (dst out : List Subquery),
      (∀ s ∈ dst, SrcBF s) →
      splitOps src scope source dstStart dst ops = .ok out → ∀ s ∈ out, SrcBF s :=
  fun ops source dstStart dst out hd h s hs =>
    (splitOps_sub bangFree_emits src scope hsc ops source dstStart dst (.inl bangFree_unhandled)
      (fun s hs => ⟨hd s hs, .inl bangFree_unhandled⟩) out h s hs).1

/-- the chunk-level fact behind (T), without any hypothesis on the program: no fixed text of the
    chunks contains the byte `!`, and there is no raw (parameter) chunk -/
theorem C02_compiled_bang_free (src : Bytes) (stmts : List Stmt) (cs : List Chunk)
    (hc : compileChunks src [] stmts = .ok cs) : BF cs = true := by
  rw [C14.compileChunks_eq] at hc
  obtain ⟨init, rfl, h⟩ := program_all_from bangFree_emits src [] scopeBF_nil stmts
    (fun _ _ => .inl bangFree_unhandled) cs hc
  have h : BF init = true := h
  rw [BF_append, h]; decide

/-- **(T)** the tokens of the chunks of a compiled program (no parameters) contain no `!=` symbol.
    `stmtsLexOK` is the side condition under which the emitted text lexes to `toksOf cs`
    (`C05_lexRender_program`); it holds of every K4-free parsed program (`parsed_lexOK_k4`). -/
theorem C02_compiled_no_bang (src : Bytes) (stmts : List Stmt) (cs : List Chunk)
    (hok : stmtsLexOK stmts = true) (hc : compileChunks src [] stmts = .ok cs) :
    STok.sym "!=" ∉ toksOf cs :=
  toksOf_no_bang (program_adj src stmts cs hok hc) (C02_compiled_bang_free src stmts cs hc)

end Pql.E2EFinal
