/-
Every chunk of the compiler's output: the expression writer (`writeExpr_all`, `writeList_all`).
Subqueries, the splitter, the statement loop and the assembly: Lemmas/WriteAllStmt.lean.

A `.txt` chunk the writers emit carries one of finitely many fixed texts (the tables of `Emits`),
or one of the "unhandled" texts written where the Go code has a default case (`Unhandled`); every
other chunk is a name, a string, a number, a function name, or comes from the scope.  So a chunk
predicate `p` that holds of the fixed texts and of names, strings, numbers and function names
(`Emits p`) holds of every chunk written under a scope whose entries satisfy it — provided it holds
of the unhandled texts as well (`Unhandled p`), or the tree has no site where one is written
(`phFree`).  `C05.SF` (no `;`) and `E2EFinal.BF` (no `!`) are instances of the first kind, `CF`
(no `/*`) of the second.

`phFree e` (decidable, tree level) excludes exactly the four placeholder sites of
`writeExpression`: a nil expression, a literal that is neither a number nor a string, a unary
operator that is not a sign, a binary operator the compiler does not translate.
-/
import PqlModel.Lemmas.LexStmtSplit
import PqlModel.Lemmas.ExactWrite
namespace Pql.WriteInv
open Pql Sql LexRender Pql.C05

def Yields {α : Type} (q : α → Prop) (w : Except WErr α) : Prop := ∀ a, w = .ok a → q a

namespace Yields
variable {α β : Type} {q : α → Prop} {r : β → Prop}

theorem ok {a : α} (h : q a) : Yields q (.ok a) := fun _ e => by cases e; exact h
theorem error {e : WErr} : Yields q (.error e) := fun _ h => by cases h
theorem ite {c : Prop} [Decidable c] {v w : Except WErr α} (hv : Yields q v) (hw : Yields q w) :
    Yields q (if c then v else w) := by
  split
  · exact hv
  · exact hw
theorem bind {w : Except WErr α} {k : α → Except WErr β} (hw : Yields q w) (hk : ∀ a, q a → Yields r (k a)) :
    Yields r (w >>= k) := fun b h => by
  obtain ⟨a, ha, hb⟩ := bind_ok h
  exact hk a (hw a ha) b hb
theorem map {w : Except WErr α} {f : α → β} (hw : Yields q w) (hf : ∀ a, q a → r (f a)) :
    Yields r (w.map f) := fun b h => by
  obtain ⟨a, ha, rfl⟩ := map_ok h
  exact hf a (hw a ha)
end Yields

/-- the fixed texts of `writeExpression` (the translated binary operators and the built-in
    constants are those of `binaryOp_mem`, `builtin_mem`).  This table and the two below are copied by hand from
    the writers: what ties them to the model is only that the walks over the writers close (`allCases`,
    `assembleKnown_all`, `bodyOf_all`, `tailOf_all`, `writeCtes_all`, `joinSource_all`: a text the writer emits
    and its table lacks leaves a goal open there); a text too many only costs the instances a check.
    `", "` and `")"` stand in two tables. -/
def exprTexts : List String :=
  ["(", ")", ".", "+", "-", " = ", "coalesce(", ", FALSE)", " <> ", "lower(", ") = lower(", ") <> lower(", " ",
   " IN (", ", ", "[", "]"]

/-- the fixed texts of the function rewrites (`assembleKnown`) -/
def knownTexts : List String :=
  ["NOT ", "CURRENT_TIMESTAMP", " IS NULL", " IS NOT NULL", " || ", "count()", "count() FILTER (WHERE ", ")",
   "CASE WHEN coalesce(", ", FALSE) THEN ", " ELSE ", " END", "LOWER(", "UPPER("]

/-- the fixed texts of `(*subquery).write`, the `WITH` list and the join sources -/
def stmtTexts : List String :=
  [" AS ", " ASC", " DESC", " NULLS FIRST", " NULLS LAST", "SELECT * FROM ", "SELECT ", ", ", " FROM ", "SELECT *",
   " GROUP BY ", " WHERE ", "SELECT COUNT(*) AS \"count()\" FROM ", "SELECT *,\n", "    ", " as \"render_type\"",
   ",\n    ", " as ", "\nFROM ", " ORDER BY ", " LIMIT ", " AS (", ")", "\n", ",\n     ", "WITH ",
   "(SELECT DISTINCT * FROM ", " AS \"" ++ Facts.leftJoinTableAlias ++ "\"", " JOIN ", " LEFT JOIN ",
   " AS \"" ++ Facts.rightJoinTableAlias ++ "\" ON "]

structure Emits (p : Chunk → Bool) : Prop where
  expr : ∀ s ∈ exprTexts, p (.txt s) = true
  binary : ∀ s ∈ ["AND", ">=", ">", "<=", "<", "-", "%", "OR", "+", "/", "*"], p (.txt s) = true
  builtin : ∀ s ∈ ["FALSE", "NULL", "TRUE"], p (.txt s) = true
  known : ∀ s ∈ knownTexts, p (.txt s) = true
  stmt : ∀ s ∈ stmtTexts, p (.txt s) = true
  qid : ∀ v, p (.qid v) = true
  qstr : ∀ v, p (.qstr v) = true
  num : ∀ v, p (.num v) = true
  fname : ∀ v, p (.fname v) = true

/-- the texts of the model's five default cases.  `op` is the model's text: Go prints the operator's type in front
    of `*/` (`%T`, pql.go:497), which the model leaves out (`WriteIR.C05_write_default`); both contain `/*`. -/
structure Unhandled (p : Chunk → Bool) : Prop where
  nil : p (.txt "NULL /* unhandled <nil> expression */") = true
  lit : ∀ k : TokKind, p (.txt ("NULL /* unhandled " ++ k.goName ++ " literal */")) = true
  unary : ∀ k : TokKind, p (.txt ("/* unhandled " ++ k.goName ++ " unary op */ ")) = true
  binary : ∀ k : TokKind, p (.txt ("NULL /* unhandled " ++ k.goName ++ " binary op */ ")) = true
  op : p (.txt "SELECT NULL /* unsupported operator */") = true

/-- a table of `Emits` as a conjunction, for `simp` to rewrite with -/
macro "unfold_texts" h:ident : tactic => `(tactic|
  simp only [exprTexts, knownTexts, stmtTexts, List.forall_mem_cons, List.not_mem_nil, false_imp_iff, implies_true,
    and_true] at $h:ident)

section frames
variable {p : Chunk → Bool}

theorem all_one {c : Chunk} (h : p c = true) : [c].all p = true := by rw [List.all_cons, h]; rfl

theorem all_paren (hp : Emits p) (b : List Chunk) : (parenthesise b).all p = b.all p := by
  simp only [parenthesise, List.all_cons, List.all_append, List.all_nil, hp.expr "(" (by decide),
    hp.expr ")" (by decide), Bool.true_and, Bool.and_true]

theorem all_wrapMaybe (hp : Emits p) (e : Expr) (b : List Chunk) : (wrapMaybe e b).all p = b.all p := by
  unfold wrapMaybe; split
  · exact all_paren hp b
  · rfl

theorem all_wrapTight (hp : Emits p) (e : Expr) (b : List Chunk) : (wrapTight e b).all p = b.all p := by
  unfold wrapTight; split
  · exact all_paren hp b
  · exact all_wrapMaybe hp e b

theorem all_mapTight (hp : Emits p) (e : Expr) {w : W} (hw : Yields (·.all p = true) w) :
    Yields (·.all p = true) (w.map (wrapTight e)) :=
  hw.map fun b hb => (all_wrapTight hp e b).trans hb

theorem all_sepChunks {sep : String} (hs : p (.txt sep) = true) :
    ∀ (vs : List (List Chunk)), (∀ v ∈ vs, v.all p = true) → (sepChunks sep vs).all p = true
  | [], _ => rfl
  | [x], h => by simpa [sepChunks] using h x (by simp)
  | x :: y :: xs, h => by
    rw [sepChunks]
    case x_2 => intro e; cases e
    rw [List.all_append, List.all_cons, h x (by simp), hs,
      all_sepChunks hs (y :: xs) (fun v hv => h v (by simp [hv]))]
    rfl

theorem all_commaSep (hp : Emits p) (vs : List (List Chunk)) (h : ∀ v ∈ vs, v.all p = true) :
    (sepChunks ", " vs).all p = true :=
  all_sepChunks (hp.expr ", " (by decide)) vs h

end frames

/-- closes `(…).all p = true` over a concrete layout, from the facts about its parts and about the
    fixed texts in the context (`hp : Emits p` for the parentheses) -/
macro "all_close" : tactic => `(tactic|
  simp only [List.all_append, List.all_cons, List.all_nil, all_wrapMaybe, all_wrapTight, all_paren, reduceIte,
    Bool.false_eq_true, Bool.and_true, Bool.true_and, Bool.and_self, *])

/-- the binary operators `writeExpression` translates: the four it treats specially and those of
    the regenerated table `binaryOps` (`Exact.knownBinOp`, Lemmas/ExactExpr.lean, is the same function: `rfl`) -/
def binKnown (op : TokKind) : Bool :=
  op == .eq || op == .ne || op == .cieq || op == .cine || (binaryOpText op).isSome

mutual
def phFree : Expr → Bool
  | .nil => false
  | .qident _ => true
  | .lit _ k _ => k = .number || k = .string
  | .unary _ op x => (op = .plus || op = .minus) && phFree x
  | .binary x _ op y => binKnown op && (phFree x && phFree y)
  | .inE x _ _ vals _ => phFree x && phFreeList vals
  | .paren _ x _ => phFree x
  | .call _ _ args _ => phFreeList args
  | .index x _ idx _ => phFree x && phFree idx
def phFreeList : ExprList → Bool
  | .nil => true
  | .cons e es => phFree e && phFreeList es
end

section writer
variable {p : Chunk → Bool} (hp : Emits p)
include hp

theorem assembleKnown_all {writer : String} (args : List (Expr × List Chunk)) (hargs : ∀ a ∈ args, a.2.all p = true) :
    Yields (·.all p = true) (assembleKnown writer args) := by
  have ht := hp.known
  unfold_texts ht
  have firstArg : ∀ {f : Expr × List Chunk → List Chunk}, (∀ a, a.2.all p = true → (f a).all p = true) →
      Yields (·.all p = true) (match args with | a :: _ => Except.ok (f a) | [] => .error .panic) := by
    intro f hf
    cases args with
    | nil => exact .error
    | cons a t => exact .ok (hf a (hargs a (by simp)))
  unfold assembleKnown
  dsimp only
  refine .ite ?not <| .ite (.ok (all_one (hp.known "CURRENT_TIMESTAMP" (by decide)))) <| .ite ?isNull <| .ite ?isNotNull <| .ite ?strcat <|
    .ite (.ok (all_one (hp.known "count()" (by decide)))) <| .ite ?countIf <| .ite ?if_ <| .ite ?lower <| .ite ?upper .error
  case not | isNull | isNotNull | countIf | lower | upper => exact firstArg fun a ha => by all_close
  case strcat =>
    refine firstArg (f := fun _ => sepChunks " || " (args.map fun a => wrapMaybe a.1 a.2)) fun _ _ => ?_
    refine all_sepChunks (hp.known " || " (by decide)) _ fun v hv => ?_
    obtain ⟨x, hx, rfl⟩ := List.mem_map.mp hv
    rw [all_wrapMaybe hp]; exact hargs x hx
  case if_ =>
    rcases args with _ | ⟨a, _ | ⟨b, _ | ⟨c, t⟩⟩⟩
    iterate 3 exact .error
    have ha := hargs a (by simp)
    have hb := hargs b (by simp)
    have hc := hargs c (by simp)
    exact .ok (by all_close)

theorem all_qids (parts : List Ident) : (sepChunks "." (parts.map fun p => [Chunk.qid p.name])).all p = true :=
  all_sepChunks (hp.expr "." (by decide)) _ (by
    intro v hv
    obtain ⟨q, _, rfl⟩ := List.mem_map.mp hv
    exact all_one (hp.qid _))

end writer

variable {p : Chunk → Bool}

abbrev AllInv (p : Chunk → Bool) (e : Expr) (cs : List Chunk) : Prop := Unhandled p ∨ phFree e = true → cs.all p = true

theorem args_all (hp : Emits p) {es : ExprList} {as : List (List Chunk)} (h : Args (AllInv p) es as)
    (hok : Unhandled p ∨ phFreeList es = true) : (∀ b ∈ as, b.all p = true) ∧ ∀ b ∈ wrapArgs es as, b.all p = true := by
  induction h with
  | nil => exact ⟨by simp, by simp [wrapArgs, ExprList.toList]⟩
  | @cons e a es as he _ ih =>
    simp only [phFreeList, Bool.and_eq_true, or_and_left] at hok
    obtain ⟨i1, i2⟩ := ih hok.2
    refine ⟨List.forall_mem_cons.mpr ⟨he hok.1, i1⟩, ?_⟩
    simp only [wrapArgs, ExprList.toList, List.zip_cons_cons, List.map_cons]
    exact List.forall_mem_cons.mpr ⟨(all_wrapMaybe hp e a).trans (he hok.1), i2⟩

theorem allCases (hp : Emits p) (ctx : Ctx) (hscope : ∀ q ∈ ctx.scope, q.2.all p = true) : WriterCases ctx (AllInv p) := by
  have ht := hp.expr
  unfold_texts ht
  have bin : ∀ {x y : Expr} {a : Span} {op : TokKind}, Unhandled p ∨ phFree (.binary x a op y) = true →
      (Unhandled p ∨ phFree x = true) ∧ (Unhandled p ∨ phFree y = true) := by
    intro x y a op hok
    simp only [phFree, Bool.and_eq_true, or_and_left] at hok
    exact ⟨hok.2.1, hok.2.2⟩
  exact {
    nil := fun hok => by
      rcases hok with hu | hok
      · exact all_one hu.nil
      · simp [phFree] at hok
    paren := fun _ x _ cs ih hok => ih (by simpa only [phFree] using hok)
    bound := fun p' sql _ hl _ => by
      obtain ⟨q, hq, _, rfl⟩ := lookupScope_mem hl
      exact hscope q hq
    builtin := fun _ sql _ _ hb _ => all_one (hp.builtin sql (builtin_mem hb))
    cols := fun parts _ _ _ _ => all_qids hp parts
    num := fun _ v _ => all_one (hp.num v)
    str := fun _ v _ => all_one (hp.qstr v)
    litOther := fun _ k _ h1 h2 hok => by
      rcases hok with hu | hok
      · exact all_one (hu.lit k)
      · simp [phFree, h1, h2] at hok
    unary := fun _ op x xs ih hok => by
      simp only [phFree, Bool.and_eq_true, Bool.or_eq_true, decide_eq_true_eq, or_and_left] at hok
      have hxs := ih hok.2
      have hsign : p (.txt (signText op)) = true := by
        unfold signText
        rcases hok.1 with hu | rfl | rfl
        · split
          · exact hp.expr "+" (by decide)
          · split
            · exact hp.expr "-" (by decide)
            · exact hu.unary op
        · exact hp.expr "+" (by decide)
        · exact hp.expr "-" (by decide)
      rw [List.all_cons, hsign, all_wrapTight hp, hxs]; rfl
    eqJoin := fun x _ y xs ys _ ihx ihy hok => by
      have hxs := ihx (bin hok).1
      have hys := ihy (bin hok).2
      all_close
    eq := fun x _ y xs ys _ ihx ihy hok => by
      have hxs := ihx (bin hok).1
      have hys := ihy (bin hok).2
      all_close
    ne := fun x _ y xs ys ihx ihy hok => by
      have hxs := ihx (bin hok).1
      have hys := ihy (bin hok).2
      all_close
    cieq := fun x _ y xs ys ihx ihy hok => by
      have hxs := ihx (bin hok).1
      have hys := ihy (bin hok).2
      all_close
    cine := fun x _ y xs ys ihx ihy hok => by
      have hxs := ihx (bin hok).1
      have hys := ihy (bin hok).2
      all_close
    plain := fun x _ op y sql xs ys _ _ _ _ hb ihx ihy hok => by
      have hxs := ihx (bin hok).1
      have hys := ihy (bin hok).2
      have hsql := hp.binary sql (binaryOp_mem hb)
      all_close
    binOther := fun x _ op y h1 h2 h3 h4 hb hok => by
      simp only [phFree, Bool.and_eq_true, or_and_left] at hok
      rcases hok.1 with hu | hop
      · exact all_one (hu.binary op)
      · simp [binKnown, h1, h2, h3, h4, hb] at hop
    inE := fun x _ _ vals _ xs as ihx ihv hok => by
      simp only [phFree, Bool.and_eq_true, or_and_left] at hok
      have hxs := ihx hok.1
      have hsep := all_commaSep hp _ (args_all hp ihv hok.2).2
      all_close
    index := fun x _ i _ xs is ihx ihi hok => by
      simp only [phFree, Bool.and_eq_true, or_and_left] at hok
      have hxs := ihx hok.1
      have his := ihi hok.2
      all_close
    known := fun _ _ args _ writer _ as cs _ _ ihv hak hok => by
      simp only [phFree] at hok
      exact assembleKnown_all hp _ (fun a ha => (args_all hp ihv hok).1 a.2 (List.of_mem_zip (a := a.1) (b := a.2) ha).2) cs hak
    passthrough := fun fn _ args _ as _ ihv hok => by
      simp only [phFree] at hok
      have hsep := all_commaSep hp as (args_all hp ihv hok).1
      have hf := hp.fname fn.name
      all_close }

theorem writeExpr_all (hp : Emits p) (ctx : Ctx) (hscope : ∀ q ∈ ctx.scope, q.2.all p = true) (e : Expr)
    (hok : Unhandled p ∨ phFree e = true) : Yields (·.all p = true) (writeExpr ctx e) :=
  fun cs h => writeExpr_cases (allCases hp ctx hscope) e cs h hok

theorem writeList_all (hp : Emits p) (ctx : Ctx) (hscope : ∀ q ∈ ctx.scope, q.2.all p = true) (es : ExprList)
    (hok : Unhandled p ∨ phFreeList es = true) : Yields (fun as => ∀ b ∈ as, b.all p = true) (writeList ctx es) :=
  fun as h => (args_all hp (writeList_cases (allCases hp ctx hscope) es as h) hok).1

theorem writeListMP_all (hp : Emits p) (ctx : Ctx) (hscope : ∀ q ∈ ctx.scope, q.2.all p = true) (es : ExprList)
    (hok : Unhandled p ∨ phFreeList es = true) :
    Yields (fun vs => ∀ b ∈ vs, b.all p = true) (writeListMaybeParen' ctx es) := fun vs h => by
  obtain ⟨as, has, rfl⟩ := writeListMP_cases (allCases hp ctx hscope) es vs h
  exact (args_all hp has hok).2

end Pql.WriteInv
