/-
Scope equivalence: two scopes are equivalent when `lookupScope` cannot tell them apart.
The expression writers consult the scope only through `lookupScope`, so they respect it.
-/
import PqlModel.Lemmas.WriterCong
import PqlModel.Lemmas.TreeInduct
namespace Pql

abbrev Scope := List (Bytes × List Chunk)

def ScopeEq (s s' : Scope) : Prop := ∀ n, lookupScope s n = lookupScope s' n

theorem ScopeEq.refl (s : Scope) : ScopeEq s s := fun _ => rfl

theorem ScopeEq.symm {s s' : Scope} (h : ScopeEq s s') : ScopeEq s' s := fun n => (h n).symm

theorem ScopeEq.trans {a b c : Scope} (h₁ : ScopeEq a b) (h₂ : ScopeEq b c) : ScopeEq a c :=
  fun n => (h₁ n).trans (h₂ n)

theorem lookupScope_cons (kv : Bytes × List Chunk) (s : Scope) (n : Bytes) :
    lookupScope (kv :: s) n = if kv.1 == n then some kv.2 else lookupScope s n := by
  unfold lookupScope
  rw [List.find?_cons]
  cases kv.1 == n <;> rfl

mutual
/-- does `e` contain the unquoted single-part identifier `k`? -/
def exprMentions (k : Bytes) : Expr → Bool
  | .nil => false
  | .qident parts =>
    match parts with
    | [p] => !p.quoted && p.name == k
    | _ => false
  | .lit .. => false
  | .unary _ _ x => exprMentions k x
  | .binary x _ _ y => exprMentions k x || exprMentions k y
  | .inE x _ _ vals _ => exprMentions k x || listMentions k vals
  | .paren _ x _ => exprMentions k x
  | .call _ _ args _ => listMentions k args
  | .index x _ idx _ => exprMentions k x || exprMentions k idx
def listMentions (k : Bytes) : ExprList → Bool
  | .nil => false
  | .cons e es => exprMentions k e || listMentions k es
end

def AgreeOn (s s' : Scope) (e : Expr) : Prop := ∀ n, exprMentions n e = true → lookupScope s n = lookupScope s' n

theorem ScopeEq.agreeOn {s s' : Scope} (h : ScopeEq s s') (e : Expr) : AgreeOn s s' e := fun n _ => h n

theorem AgreeOn.cons {s s' : Scope} {e : Expr} (h : AgreeOn s s' e) (kv : Bytes × List Chunk) :
    AgreeOn (kv :: s) (kv :: s') e := by
  intro n hn
  rw [lookupScope_cons, lookupScope_cons, h n hn]

section
variable {src : Bytes} {m : Mode} {s s' : Scope}

theorem mentions_left {a b : Bool} {P : Prop} (h : (a || b) = true → P) (ha : a = true) : P :=
  h (Bool.or_eq_true_iff.2 (.inl ha))

theorem mentions_right {a b : Bool} {P : Prop} (h : (a || b) = true → P) (hb : b = true) : P :=
  h (Bool.or_eq_true_iff.2 (.inr hb))

/-- The writers look up exactly the names the expression mentions: scopes that agree on those give the
    same output.  Only the identifier case looks at the scope. -/
theorem agree_alg : ExprTreeAlg
    (fun e => AgreeOn s s' e → Alike Eq ⟨src, s, m⟩ ⟨src, s', m⟩ e e)
    (fun es => (∀ n, listMentions n es = true → lookupScope s n = lookupScope s' n) →
      AlikeArgs Eq ⟨src, s, m⟩ ⟨src, s', m⟩ es es ∧ AlikeVals Eq ⟨src, s, m⟩ ⟨src, s', m⟩ es es) where
  nil := fun _ => Alike.of_eq .eq (fun _ => rfl) rfl
  qident := fun parts h => by
    refine Alike.of_eq .eq (fun _ => rfl) ?_
    match parts, h with
    | [], _ | _ :: _ :: _, _ => simp only [writeExpr]
    | [p], h =>
      cases hq : p.quoted with
      | true => simp only [writeExpr, hq]; rfl
      | false =>
        simp only [writeExpr,
          h p.name (by simp only [exprMentions, hq, Bool.not_false, Bool.true_and, beq_self_eq_true])]
  lit := fun _ _ _ _ => Alike.of_eq .eq (fun _ => rfl) rfl
  unary := fun _ _ _ ih h => (ih h).unary .eq ..
  binary := fun _ _ _ _ ihx ihy h =>
    (ihx fun n => mentions_left (h n)).binary .eq (ihy fun n => mentions_right (h n)) Iff.rfl ..
  inE := fun _ _ _ _ _ ihx ihl h =>
    (ihx fun n => mentions_left (h n)).inE .eq (ihl fun n => mentions_right (h n)).2 ..
  paren := fun _ _ _ ih h => (ih h).paren ..
  call := fun _ _ _ _ ihl h => Alike.call .eq rfl rfl (ihl h).1 ..
  index := fun _ _ _ _ ihx ihi h =>
    (ihx fun n => mentions_left (h n)).index .eq (ihi fun n => mentions_right (h n)) ..
  lnil := fun _ => ⟨AlikeArgs.nil, AlikeVals.nil⟩
  cons := fun _ _ ihe ihl h =>
    ⟨AlikeArgs.cons (ihe fun n => mentions_left (h n)) (ihl fun n => mentions_right (h n)).1,
      AlikeVals.cons (ihe fun n => mentions_left (h n)) (ihl fun n => mentions_right (h n)).2⟩

theorem writeExpr_agree (e : Expr) (h : AgreeOn s s' e) : writeExpr ⟨src, s, m⟩ e = writeExpr ⟨src, s', m⟩ e :=
  (agree_alg.expr e h).bare.eq

theorem writeList_agree (es : ExprList) (h : ∀ n, listMentions n es = true → lookupScope s n = lookupScope s' n) :
    writeList ⟨src, s, m⟩ es = writeList ⟨src, s', m⟩ es :=
  ((agree_alg.list es h).1.mono fun _ _ hab => hab.1.eq).eq

theorem writeListMP_agree (es : ExprList) (h : ∀ n, listMentions n es = true → lookupScope s n = lookupScope s' n) :
    writeListMaybeParen' ⟨src, s, m⟩ es = writeListMaybeParen' ⟨src, s', m⟩ es :=
  ((agree_alg.list es h).2.mono fun _ _ hab => hab.eq).eq

end

theorem writeExpr_scopeEq {src : Bytes} {m : Mode} {s s' : Scope} (h : ScopeEq s s') (e : Expr) :
    writeExpr ⟨src, s, m⟩ e = writeExpr ⟨src, s', m⟩ e :=
  writeExpr_agree e (h.agreeOn e)

theorem writeList_scopeEq {src : Bytes} {m : Mode} {s s' : Scope} (h : ScopeEq s s') :
    (es : ExprList) → writeList ⟨src, s, m⟩ es = writeList ⟨src, s', m⟩ es :=
  fun es => writeList_agree es fun n _ => h n

theorem writeListMaybeParen_scopeEq {src : Bytes} {m : Mode} {s s' : Scope} (h : ScopeEq s s') :
    (es : ExprList) → writeListMaybeParen' ⟨src, s, m⟩ es = writeListMaybeParen' ⟨src, s', m⟩ es :=
  fun es => writeListMP_agree es fun n _ => h n

end Pql
