/-
Property C15, parse half — vocabulary.

`shSpan d`   : move a span `d` bytes to the right.  The two constant spans the parser writes into
               trees, `Span.null` (-1:-1) and `Span.zero` (0:0, the never-assigned `Rbrack` of a
               broken index expression), are fixed points: a span is moved iff its `stop` is
               positive.  Every valid span other than `Span.zero` is moved (`shSpan_valid`).
`shStmt d`   : `shSpan d` on every span field of a statement (and `shExpr`, `shTabular`, …).
`shESpan`    : what happens to the position of an error leaf when a statement of a source of
               length `n` is parsed inside a source of length `m` at offset `d`: the EOF index `n:n`
               becomes the EOF index `m:m` of the *whole* source, every other position moves by `d`.
`TokP ts`    : every token of `ts` is non-empty (`start < stop`) — what `scan` guarantees.
`Sh`         : the result of a production on the moved tokens is the moved result.

C15's statements are written with these functions, spelt out here; they are instances of the general
ones: `shStmt d = Layout.mapStmt (shSpan d)` (`shStmt_eq` and its kin, Lemmas/PiecewiseTab.lean),
`mapE n m d = mapErrs (shESpan n m d)` (by `rfl`), and `Sh` is `TokMap.Comm` at `shiftMap n m d` (`Sh.of_comm`),
which is how every commutation below is obtained.
-/
import PqlModel.Model.Parse
import PqlModel.Lemmas.LexSplit
import PqlModel.Lemmas.SplitBasic
import PqlModel.Lemmas.AccountedBasic
namespace Pql.Piecewise
open Pql

def shSpan (d : Nat) (s : Span) : Span := if 0 < s.stop then ⟨s.start + d, s.stop + d⟩ else s

@[simp] theorem shSpan_null (d : Nat) : shSpan d .null = .null := by simp [shSpan, Span.null]
@[simp] theorem shSpan_zero (d : Nat) : shSpan d .zero = .zero := by simp [shSpan, Span.zero]

theorem shSpan_valid (d : Nat) (s : Span) (hv : s.isValid = true) (hz : s ≠ .zero) :
    shSpan d s = ⟨s.start + d, s.stop + d⟩ := by
  obtain ⟨a, b⟩ := s
  simp only [Span.isValid, Bool.and_eq_true, decide_eq_true_eq] at hv
  have : 0 < b := by
    by_cases h : 0 < b
    · exact h
    · exfalso; apply hz
      have hb : b = 0 := by omega
      have ha : a = 0 := by omega
      subst ha hb; rfl
  simp [shSpan, this]

theorem shSpan_nonpos (d : Nat) (s : Span) (h : s.stop ≤ 0) :
    shSpan d s = s := by
  simp [shSpan]; omega

@[simp] theorem shSpan_zero_shift (s : Span) : shSpan 0 s = s := by
  simp [shSpan]

def TokP (ts : List Token) : Prop := ∀ t ∈ ts, t.start < t.stop

@[simp] theorem TokP_nil : TokP [] := by simp [TokP]
@[simp] theorem TokP_cons (t : Token) (ts : List Token) :
    TokP (t :: ts) ↔ t.start < t.stop ∧ TokP ts := by simp [TokP]
theorem TokP_append (a b : List Token) : TokP (a ++ b) ↔ TokP a ∧ TokP b := by
  simp only [TokP, List.mem_append]
  exact ⟨fun h => ⟨fun t ht => h t (Or.inl ht), fun t ht => h t (Or.inr ht)⟩,
    fun ⟨h1, h2⟩ t ht => ht.elim (h1 t) (h2 t)⟩

theorem TokP_scan (s : Bytes) : TokP (scan s) := fun t ht => (mem_scan_bounds s t ht).1

theorem span_shift (d : Nat) (t : Token) (h : t.start < t.stop) :
    (t.shift d).span = shSpan d t.span := by
  have : (0 : Int) < (t.stop : Int) := by omega
  show _ = if 0 < (t.stop : Int) then _ else _
  rw [if_pos this]
  simp only [Token.span, Token.shift, Int.natCast_add]

theorem span2_shift (d : Nat) (t t2 : Token) (h : t2.start < t2.stop) :
    (⟨((t.shift d).start : Nat), ((t2.shift d).stop : Nat)⟩ : Span) =
      shSpan d ⟨t.start, t2.stop⟩ := by
  have : (0 : Int) < (t2.stop : Int) := by omega
  show _ = if 0 < (t2.stop : Int) then _ else _
  rw [if_pos this]
  simp only [Token.shift, Int.natCast_add]

@[simp] theorem shift_value (d : Nat) (t : Token) : (t.shift d).value = t.value := rfl
@[simp] theorem isIdentNamed_shift (d : Nat) (t : Token) (s : String) :
    isIdentNamed (t.shift d) s = isIdentNamed t s := rfl

def shESpan (n m d : Nat) (s : Span) : Span :=
  if s = Span.index n then Span.index m else ⟨s.start + d, s.stop + d⟩

def shErr (n m d : Nat) (e : PErr) : PErr := { e with span := e.span.map (shESpan n m d) }

def mapE (n m d : Nat) (es : Errs) : Errs := es.map (shErr n m d)

section
variable (n m d : Nat)

@[simp] theorem mapE_nil : mapE n m d [] = [] := rfl
@[simp] theorem mapE_append (a b : Errs) : mapE n m d (a ++ b) = mapE n m d a ++ mapE n m d b := by
  simp [mapE]
@[simp] theorem mapE_mkOpaque (a : Errs) : mapE n m d (mkOpaque a) = mkOpaque (mapE n m d a) := by
  simp [mapE, mkOpaque, shErr]
@[simp] theorem isNF_mapE (a : Errs) : isNF (mapE n m d a) = isNF a := by
  simp only [mapE, isNF, List.any_map]
  rfl
@[simp] theorem mapE_eq_nil (a : Errs) : mapE n m d a = [] ↔ a = [] := by simp [mapE]
@[simp] theorem mapE_errNoPos : mapE n m d errNoPos = errNoPos := rfl
@[simp] theorem mapE_errFuel : mapE n m d errFuel = errFuel := rfl
theorem mapE_errAt (s : Span) : mapE n m d (errAt s) = errAt (shESpan n m d s) := rfl
theorem mapE_nfAt (s : Span) : mapE n m d (nfAt s) = nfAt (shESpan n m d s) := rfl
@[simp] theorem shESpan_eof : shESpan n m d (PCtx.eof ⟨n⟩) = PCtx.eof ⟨m⟩ := by
  simp [shESpan, PCtx.eof]
theorem shESpan_tok (t : Token) (h : t.start < t.stop) :
    shESpan n m d t.span = (t.shift d).span := by
  have hne : t.span ≠ Span.index n := by
    intro he
    simp only [Token.span, Span.index, Span.mk.injEq] at he
    omega
  rw [shESpan, if_neg hne]
  simp only [Token.span, Token.shift, Int.natCast_add]

end

def shIdent (d : Nat) (i : Ident) : Ident := { i with span := shSpan d i.span }

mutual
def shExpr (d : Nat) : Expr → Expr
  | .nil => .nil
  | .qident parts => .qident (parts.map (shIdent d))
  | .lit sp k v => .lit (shSpan d sp) k v
  | .unary os op x => .unary (shSpan d os) op (shExpr d x)
  | .binary x os op y => .binary (shExpr d x) (shSpan d os) op (shExpr d y)
  | .inE x i lp vals rp =>
    .inE (shExpr d x) (shSpan d i) (shSpan d lp) (shExprList d vals) (shSpan d rp)
  | .paren lp x rp => .paren (shSpan d lp) (shExpr d x) (shSpan d rp)
  | .call fn lp args rp => .call (shIdent d fn) (shSpan d lp) (shExprList d args) (shSpan d rp)
  | .index x lb idx rb => .index (shExpr d x) (shSpan d lb) (shExpr d idx) (shSpan d rb)
def shExprList (d : Nat) : ExprList → ExprList
  | .nil => .nil
  | .cons e es => .cons (shExpr d e) (shExprList d es)
end

def shSortTerm (d : Nat) (t : SortTerm) : SortTerm :=
  ⟨shExpr d t.x, t.asc, shSpan d t.ascDescSpan, t.nullsFirst, shSpan d t.nullsSpan⟩
def shColumn (d : Nat) (c : Column) : Column :=
  ⟨c.name.map (shIdent d), shSpan d c.assign, shExpr d c.x⟩
def shRenderProp (d : Nat) (p : RenderProp) : RenderProp :=
  ⟨p.name.map (shIdent d), shSpan d p.assign, shExpr d p.value⟩

mutual
def shTabular (d : Nat) : Tabular → Tabular
  | .nil => .nil
  | .mk src ops => .mk (src.map (shIdent d)) (shOpList d ops)
def shOp (d : Nat) : Op → Op
  | .count p k => .count (shSpan d p) (shSpan d k)
  | .where_ p k e => .where_ (shSpan d p) (shSpan d k) (shExpr d e)
  | .sort p k ts => .sort (shSpan d p) (shSpan d k) (ts.map (shSortTerm d))
  | .take p k e => .take (shSpan d p) (shSpan d k) (shExpr d e)
  | .top p k e b col =>
    .top (shSpan d p) (shSpan d k) (shExpr d e) (shSpan d b) (col.map (shSortTerm d))
  | .project p k cs => .project (shSpan d p) (shSpan d k) (cs.map (shColumn d))
  | .extend p k cs => .extend (shSpan d p) (shSpan d k) (cs.map (shColumn d))
  | .summarize p k cs b gs =>
    .summarize (shSpan d p) (shSpan d k) (cs.map (shColumn d)) (shSpan d b) (gs.map (shColumn d))
  | .join p k kind ka fl lp right rp on conds =>
    .join (shSpan d p) (shSpan d k) (shSpan d kind) (shSpan d ka) (fl.map (shIdent d)) (shSpan d lp)
      (shTabular d right) (shSpan d rp) (shSpan d on) (shExprList d conds)
  | .as_ p k nm => .as_ (shSpan d p) (shSpan d k) (nm.map (shIdent d))
  | .render p k ch w lp props rp =>
    .render (shSpan d p) (shSpan d k) (ch.map (shIdent d)) (shSpan d w) (shSpan d lp)
      (props.map (shRenderProp d)) (shSpan d rp)
def shOpList (d : Nat) : OpList → OpList
  | .nil => .nil
  | .cons o os => .cons (shOp d o) (shOpList d os)
end

def shStmt (d : Nat) : Stmt → Stmt
  | .let_ kw name asg x => .let_ (shSpan d kw) (name.map (shIdent d)) (shSpan d asg) (shExpr d x)
  | .tabular t => .tabular (shTabular d t)

theorem shExpr_eq_nil (d : Nat) (x : Expr) : shExpr d x = .nil ↔ x = .nil := by
  cases x <;> simp [shExpr]

theorem shTabular_eq_nil (d : Nat) (t : Tabular) : shTabular d t = .nil ↔ t = .nil := by
  cases t <;> simp [shTabular]

@[simp] theorem shIdent_zero (i : Ident) : shIdent 0 i = i := by simp [shIdent]

theorem map_shIdent_zero (l : List Ident) : l.map (shIdent 0) = l := by
  induction l <;> simp_all

theorem optmap_shIdent_zero (o : Option Ident) : o.map (shIdent 0) = o := by
  cases o <;> simp

mutual
theorem shExpr_zero : (x : Expr) → shExpr 0 x = x
  | .nil => rfl
  | .qident parts => by simp [shExpr, map_shIdent_zero]
  | .lit _ _ _ => by simp [shExpr]
  | .unary _ _ x => by simp [shExpr, shExpr_zero x]
  | .binary x _ _ y => by simp [shExpr, shExpr_zero x, shExpr_zero y]
  | .inE x _ _ vals _ => by simp [shExpr, shExpr_zero x, shExprList_zero vals]
  | .paren _ x _ => by simp [shExpr, shExpr_zero x]
  | .call _ _ args _ => by simp [shExpr, shExprList_zero args]
  | .index x _ idx _ => by simp [shExpr, shExpr_zero x, shExpr_zero idx]
theorem shExprList_zero : (es : ExprList) → shExprList 0 es = es
  | .nil => rfl
  | .cons e es => by simp [shExprList, shExpr_zero e, shExprList_zero es]
end

theorem shSortTerm_zero (t : SortTerm) : shSortTerm 0 t = t := by
  simp [shSortTerm, shExpr_zero]
theorem shColumn_zero (c : Column) : shColumn 0 c = c := by
  simp [shColumn, shExpr_zero, optmap_shIdent_zero]
theorem shRenderProp_zero (p : RenderProp) : shRenderProp 0 p = p := by
  simp [shRenderProp, shExpr_zero, optmap_shIdent_zero]

mutual
theorem shTabular_zero : (t : Tabular) → shTabular 0 t = t
  | .nil => rfl
  | .mk src ops => by simp [shTabular, optmap_shIdent_zero, shOpList_zero ops]
theorem shOp_zero : (o : Op) → shOp 0 o = o
  | .count _ _ => by simp [shOp]
  | .where_ _ _ _ => by simp [shOp, shExpr_zero]
  | .sort _ _ ts => by simp [shOp, List.map_id'' shSortTerm_zero]
  | .take _ _ _ => by simp [shOp, shExpr_zero]
  | .top _ _ _ _ col => by cases col <;> simp [shOp, shExpr_zero, shSortTerm_zero]
  | .project _ _ _ => by simp [shOp, List.map_id'' shColumn_zero]
  | .extend _ _ _ => by simp [shOp, List.map_id'' shColumn_zero]
  | .summarize _ _ _ _ _ => by simp [shOp, List.map_id'' shColumn_zero]
  | .join _ _ _ _ _ _ right _ _ _ => by
    simp [shOp, optmap_shIdent_zero, shTabular_zero right, shExprList_zero]
  | .as_ _ _ _ => by simp [shOp, optmap_shIdent_zero]
  | .render _ _ _ _ _ _ _ => by simp [shOp, optmap_shIdent_zero, List.map_id'' shRenderProp_zero]
theorem shOpList_zero : (os : OpList) → shOpList 0 os = os
  | .nil => rfl
  | .cons o os => by simp [shOpList, shOp_zero o, shOpList_zero os]
end

theorem shStmt_zero (s : Stmt) : shStmt 0 s = s := by
  cases s <;> simp [shStmt, shExpr_zero, shTabular_zero, optmap_shIdent_zero]

theorem shESpan_id (n : Nat) (s : Span) : shESpan n n 0 s = s := by
  simp only [shESpan]; split
  · rename_i h; exact h.symm
  · simp

theorem mapE_id (n : Nat) (es : Errs) : mapE n n 0 es = es := by
  simp only [mapE]
  apply List.map_id''
  intro e
  obtain ⟨sp, nf, fu⟩ := e
  cases sp <;> simp [shErr, shESpan_id]

/-- `r'` (the production on the moved tokens, in a source of length `m`) is `r` (the production
    on the tokens, in a source of length `n`) moved by `d`; the remaining tokens are non-empty. -/
def Sh (n m d : Nat) {α β : Type} (f : α → β) (r : PRes α) (r' : PRes β) : Prop :=
  r' = ⟨f r.val, mapE n m d r.errs, r.rest.map (Token.shift d)⟩ ∧ TokP r.rest

end Pql.Piecewise
