import Lean.Meta.Tactic.Simp.RegisterCommand
/-- the equations that run `OpIR.exec` on symbolic data (Lemmas/OpIRRun.lean, "running a body once") -/
register_simp_attr opIR
