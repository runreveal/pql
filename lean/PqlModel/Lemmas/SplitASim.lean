/-
`splitQueries` / `splitOps` (the model) and `splitA` / `splitOpsA` (the intended structured
splitting) run in lock step: one mutual structural induction over `Tabular` / `OpList` proves
the three-way statement (success of the model = success of both, with related results; failure
characterised), `splitQueries_sim` / `splitOps_sim`.  Every operator but `join` is one step of both
loops (`SplitQ.place`, `placeA`), and a step on related lists gives related lists (`place_rel`).
`Forall₂ (SubRel src scope)` is written out: the abbreviation `C05.ListRel` (with `Sim`,
Props/C05SplitRefines.lean) declared here would shadow `Pql.ListRel` in the modules of the syntactic half that
import this one (Lemmas/ParseStmtSplit.lean).
-/
import PqlModel.Lemmas.SplitABasic
import PqlModel.Lemmas.SplitARun
namespace Pql.C05
open Pql SplitQ Intended

def isOk {ε α : Type} : Except ε α → Bool
  | .ok _ => true
  | .error _ => false

def condWritable (src : Bytes) (scope : List (Bytes × List Chunk)) (conds : ExprList) : Bool :=
  isOk (writeExpr ⟨src, scope, .join⟩ (buildJoinCondition conds))

mutual
def tabWritable (src : Bytes) (scope : List (Bytes × List Chunk)) : Tabular → Bool
  | .nil => true
  | .mk _ ops => opsWritable src scope ops
def opsWritable (src : Bytes) (scope : List (Bytes × List Chunk)) : OpList → Bool
  | .nil => true
  | .cons (.join _ _ _ _ _ _ right _ _ conds) os =>
    tabWritable src scope right && condWritable src scope conds && opsWritable src scope os
  | .cons _ os => opsWritable src scope os
end

variable {src : Bytes} {scope : List (Bytes × List Chunk)}

theorem joinRight_rel {dA : List SubA} {d : List Subquery} (h : Forall₂ (SubRel src scope) dA d) :
    joinRightA dA = joinRight d := getLast_name_rel h

theorem joinLeft_rel {dstA dA : List SubA} {dst d : List Subquery} (h : Forall₂ (SubRel src scope) dstA dst)
    (h' : Forall₂ (SubRel src scope) dA d) (hlt : dst.length < d.length) (source : Option Ident) (k : Nat) :
    joinLeft source k dst.length d = [.qid (joinLeftA source k dstA.length dA)] := by
  unfold joinLeft joinLeftA
  rw [h.length_eq]
  split
  · rename_i hk
    have hi : ((dst.length : Int) - 1).toNat < d.length := by omega
    rcases h'.getElem? ((dst.length : Int) - 1).toNat with ⟨_, h2⟩ | ⟨a, b, h1, h2, hab⟩
    · simp at h2; omega
    · rw [h1, h2]; simp [hab.name]
  · rfl

theorem ite_snoc_rel {dstA : List SubA} {dst : List Subquery} (h : Forall₂ (SubRel src scope) dstA dst) (k : Nat)
    (source : Option Ident) (b : Bool) :
    Forall₂ (SubRel src scope) (if b = true then dstA else dstA ++ [chainA dstA k source])
      (if b = true then dst else dst ++ [chainSubquery dst k source]) := by
  cases b
  · exact h.snoc (chain_rel_splita h k source)
  · exact h

/-- one step of the two loops on related lists gives related lists: related subqueries store an
    operator alike and let it attach alike -/
theorem place_rel {dstA : List SubA} {dst : List Subquery} (h : Forall₂ (SubRel src scope) dstA dst)
    (source : Option Ident) (k : Nat) (o : Op) :
    Forall₂ (SubRel src scope) (placeA source k o dstA) (place source k o dst) := by
  have hstore : ∀ a s, SubRel src scope a s → SubRel src scope (storeA o a) (store o s) := by
    intro a s hab
    cases o with
    | top p kw n b col =>
      cases col with
      | none => exact ⟨hab.name, rfl, hab.sort, hab.take, hab.source⟩
      | some c => exact ⟨hab.name, hab.op, rfl, rfl, hab.source⟩
    | as_ => exact ⟨rfl, rfl, hab.sort, hab.take, hab.source⟩
    | sort => exact ⟨hab.name, hab.op, rfl, hab.take, hab.source⟩
    | take => exact ⟨hab.name, hab.op, hab.sort, rfl, hab.source⟩
    | _ => exact ⟨hab.name, rfl, hab.sort, hab.take, hab.source⟩
  have hatt : ∀ a s, SubRel src scope a s → attachesA o a = attaches o s := by
    intro a s hab
    cases o with
    | top p kw n b col => cases col <;> simp only [attachesA, attaches, hab.op, hab.sort, hab.take]
    | _ => simp only [attachesA, attaches, hab.op, hab.sort, hab.take]
  unfold placeA place
  refine setLast_rel_splita ?_ hstore
  rcases lastOf_rel_splita h k with ⟨h1, h2⟩ | ⟨a, s, h1, h2, hab⟩
  · rw [h1, h2]; exact ite_snoc_rel h k source false
  · rw [h1, h2]; simp only [hatt a s hab]; exact ite_snoc_rel h k source _

theorem opsWritable_step {o : Op} (ho : steps o = true) (rest : OpList) :
    opsWritable src scope (.cons o rest) = opsWritable src scope rest := by
  cases o <;> first | rfl | cases ho

mutual
theorem splitQueries_sim (src : Bytes) (scope : List (Bytes × List Chunk)) :
    ∀ (t : Tabular) (dstA : List SubA) (dst : List Subquery), Forall₂ (SubRel src scope) dstA dst →
      match splitQueries src scope dst t with
      | .ok out => tabWritable src scope t = true ∧ ∃ outA, splitA dstA t = some outA ∧ Forall₂ (SubRel src scope) outA out
      | .error _ => splitA dstA t = none ∨ tabWritable src scope t = false
  | .nil, dstA, dst, h => by
    unfold splitQueries splitA
    exact .inl rfl
  | .mk source ops, dstA, dst, h => by
    have ih := splitOps_sim src scope ops source dst.length dstA dst h
    unfold splitQueries splitA tabWritable
    simp only [h.length_eq]
    cases hq : splitOps src scope source dst.length dst ops with
    | error e =>
      rw [hq] at ih
      rcases ih with ih | ih
      · rw [ih]; exact .inl rfl
      · exact .inr ih
    | ok mid =>
      rw [hq] at ih
      obtain ⟨hw, midA, hA, hrel⟩ := ih
      rw [hA]
      simp only [bind, Except.bind, Option.bind, hrel.length_eq]
      by_cases hlen : mid.length = dst.length
      · simp only [hlen, ↓reduceIte, pure, Except.pure]
        exact ⟨hw, _, rfl, by rw [← hlen]; exact hrel.snoc (chain_rel_splita hrel _ _)⟩
      · simp only [hlen, ↓reduceIte, pure, Except.pure]
        exact ⟨hw, _, rfl, hrel⟩
theorem splitOps_sim (src : Bytes) (scope : List (Bytes × List Chunk)) :
    ∀ (ops : OpList) (source : Option Ident) (k : Nat) (dstA : List SubA) (dst : List Subquery),
      Forall₂ (SubRel src scope) dstA dst →
      match splitOps src scope source k dst ops with
      | .ok out => opsWritable src scope ops = true ∧ ∃ outA, splitOpsA source k dstA ops = some outA ∧
          Forall₂ (SubRel src scope) outA out
      | .error _ => splitOpsA source k dstA ops = none ∨ opsWritable src scope ops = false
  | .nil, source, k, dstA, dst, h => by
    unfold splitOps splitOpsA opsWritable
    exact ⟨rfl, dstA, rfl, h⟩
  | .cons o rest, source, k, dstA, dst, h => by
    have next := fun dA d => splitOps_sim src scope rest source k dA d
    by_cases ho : steps o = true
    · rw [splitOps_step _ _ _ _ _ ho, splitOpsA_step _ _ _ ho, opsWritable_step ho]
      exact next _ _ (place_rel h source k o)
    cases o with
    | top p kw n b col =>
      cases col with
      | none => unfold splitOps splitOpsA; exact .inl rfl
      | some c => exact absurd rfl ho
    | join p kw kind ka flavor lp right rp on conds =>
      have ih := splitQueries_sim src scope right dstA dst h
      rw [splitOps_join, splitOpsA_join]
      unfold opsWritable joinSub
      cases hq : splitQueries src scope dst right with
      | error e =>
        rw [hq] at ih
        rcases ih with ih | ih
        · rw [ih]; exact .inl rfl
        · exact .inr (by simp [ih])
      | ok d =>
        rw [hq] at ih
        obtain ⟨hw, dA, hA, hrel⟩ := ih
        rw [hA]
        cases leftOf flavor with
        | none => exact .inl rfl
        | some left =>
          cases hwr : writeExpr ⟨src, scope, .join⟩ (buildJoinCondition conds) with
          | error e => exact .inr (by simp [condWritable, hwr, isOk])
          | ok c =>
            have hcw : condWritable src scope conds = true := by simp [condWritable, hwr, isOk]
            rw [hw, hcw, Bool.true_and, Bool.true_and]
            refine next _ _ (hrel.snoc ⟨?_, rfl, rfl, rfl, ?_⟩)
            · simp [hrel.length_eq]
            · refine ⟨c, hwr, ?_⟩
              show joinSourceOf _ _ _ _ _ = _
              rw [joinLeft_rel h hrel (C05_length_grows src scope right dst d hq).2 source k,
                joinRight_rel hrel]
    | _ => exact absurd rfl ho
end

end Pql.C05
