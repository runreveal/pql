/-
LexRender for the expression writer: `writeExpr_goodS` — every output of the writer for a `lexOK` tree
satisfies `ExprInv`, under the invariant `ScopeAdj ctx.scope`: every chunk list stored in the scope is
adjacent before every separator and does not start with `-`.  One fact per form of output
(`lexCases`, an instance of `WriterCases`); the scope matters in the form `bound` only: a bound name
is replaced by the stored chunks.
-/
import PqlModel.Lemmas.LexRenderWriter
import PqlModel.Lemmas.ScopeEq
namespace Pql.LexRender
open Pql Sql

def ScopeAdj (scope : Scope) : Prop :=
  ∀ name sql, lookupScope scope name = some sql → Good sql ∧ HeadNotMinus sql

theorem scopeAdj_nil : ScopeAdj [] := by
  intro name sql h
  simp [lookupScope] at h

theorem binaryOp_sepOK : ∀ sql ∈ ["AND", ">=", ">", "<=", "<", "-", "%", "OR", "+", "/", "*"], txtSepOK sql = true := by
  decide +kernel

/-- The frame of a binary form.  The side conditions speak of the fixed texts alone, and here as in `lexCases`
    each `by decide` evaluates them on the text the form names, cutting it into atoms (`atomize`): `txtInert s`, `s`
    is cut into well-formed atoms and ends so that anything may follow; `sepTxt s`, `s` starts like a separator. -/
theorem good_frame {pre mid post : String} {xs ys : List Chunk} (hx : Good xs) (hy : Good ys)
    (hpre : txtInert pre = true) (hmid : sepTxt mid = true ∧ txtInert mid = true)
    (hpost : sepTxt post = true ∧ txtInert post = true) :
    Good (Chunk.txt pre :: xs ++ Chunk.txt mid :: ys ++ [Chunk.txt post]) := by
  simp only [List.append_assoc, List.cons_append]
  exact good_cons_inert hpre (good_app hx hmid.1 (good_cons_inert hmid.2
    (good_app hy hpost.1 (good_cons_inert hpost.2 good_nil))))

theorem inv_wrapped {e : Expr} {cs : List Chunk} (hw : needsWrap e = true) (h : Good cs) : ExprInv e cs :=
  ⟨h, fun _ hw' => by rw [hw] at hw'; cases hw'⟩

abbrev LexInv (e : Expr) (cs : List Chunk) : Prop := e.lexOK = true → ExprInv e cs

theorem args_good {es : ExprList} {as : List (List Chunk)} (h : Args LexInv es as) (hok : es.lexOK = true) :
    (∀ b ∈ as, Good b) ∧ ∀ b ∈ wrapArgs es as, Good b := by
  induction h with
  | nil => exact ⟨by simp, by simp [wrapArgs, ExprList.toList]⟩
  | @cons e a es as he _ ih =>
    simp only [ExprList.lexOK, Bool.and_eq_true] at hok
    obtain ⟨i1, i2⟩ := ih hok.2
    have g := (he hok.1).1
    refine ⟨fun b hb => ?_, fun b hb => ?_⟩
    · rcases List.mem_cons.mp hb with rfl | hb
      · exact g
      · exact i1 b hb
    · simp only [wrapArgs, ExprList.toList, List.zip_cons_cons, List.map_cons, List.mem_cons] at hb
      rcases hb with rfl | hb
      · exact good_wrapMaybe e g
      · exact i2 b hb

theorem lexCases (ctx : Ctx) (hscope : ScopeAdj ctx.scope) : WriterCases ctx LexInv where
  nil := fun h => by simp [Expr.lexOK] at h
  paren := fun a x b cs ih hok =>
    have ih := ih (by simpa [Expr.lexOK] using hok)
    ⟨ih.1, fun hs hw => ih.2 (by simpa [isSigned] using hs) (by simpa [needsWrap] using hw)⟩
  bound := fun p sql _ hl _ => ⟨(hscope _ _ hl).1, fun _ _ => (hscope _ _ hl).2⟩
  builtin := fun p sql _ _ hb _ => ⟨(good_builtin (builtin_mem hb)).1, fun _ _ => (good_builtin (builtin_mem hb)).2⟩
  cols := fun parts _ _ _ _ => ⟨fun rest hr => adj_qids parts rest (sepHead_not_dq hr), fun _ _ => head_qids parts⟩
  num := fun sp v hok =>
    have hv : numOK v = true := by simpa [Expr.lexOK] using hok
    ⟨good_num hv, fun _ _ => head_num hv⟩
  str := fun sp v _ => ⟨good_qstr v, fun _ _ => head_qstr v⟩
  litOther := fun sp k v h1 h2 hok => by simp [Expr.lexOK, h1, h2] at hok
  unary := fun a op x xs ih hok => by
    simp only [Expr.lexOK, Bool.and_eq_true, Bool.or_eq_true, decide_eq_true_eq] at hok
    have hg := good_wrapTight x (ih hok.2).1
    have hh := head_wrapTight x (ih hok.2).2
    refine ⟨fun rest hr => ?_, fun hs => by simp [isSigned] at hs⟩
    rcases hok.1 with rfl | rfl
    · exact adj_txt_inert (by decide) (hg rest hr)
    · exact AdjC_cons (adj_minus (hh rest (sepHead_not_minus hr))) (hg rest hr)
  eqJoin := fun x a y xs ys _ ihx ihy hok => by
    simp only [Expr.lexOK, Bool.and_eq_true] at hok
    exact inv_wrapped (C01.C01_needsWrap_binary ..) (good_app (good_wrapMaybe x (ihx hok.1).1) (by decide)
      (good_cons_inert (by decide) (good_wrapMaybe y (ihy hok.2).1)))
  eq := fun x a y xs ys _ ihx ihy hok => by
    simp only [Expr.lexOK, Bool.and_eq_true] at hok
    exact inv_wrapped (C01.C01_needsWrap_binary ..) (good_frame (good_wrapMaybe x (ihx hok.1).1)
      (good_wrapMaybe y (ihy hok.2).1) (by decide) (by decide) (by decide))
  ne := fun x a y xs ys ihx ihy hok => by
    simp only [Expr.lexOK, Bool.and_eq_true] at hok
    exact inv_wrapped (C01.C01_needsWrap_binary ..) (good_frame (good_wrapMaybe x (ihx hok.1).1)
      (good_wrapMaybe y (ihy hok.2).1) (by decide) (by decide) (by decide))
  cieq := fun x a y xs ys ihx ihy hok => by
    simp only [Expr.lexOK, Bool.and_eq_true] at hok
    exact inv_wrapped (C01.C01_needsWrap_binary ..) (good_frame (ihx hok.1).1 (ihy hok.2).1 (by decide) (by decide) (by decide))
  cine := fun x a y xs ys ihx ihy hok => by
    simp only [Expr.lexOK, Bool.and_eq_true] at hok
    exact inv_wrapped (C01.C01_needsWrap_binary ..) (good_frame (ihx hok.1).1 (ihy hok.2).1 (by decide) (by decide) (by decide))
  plain := fun x a op y sql xs ys _ _ _ _ hb ihx ihy hok => by
    simp only [Expr.lexOK, Bool.and_eq_true] at hok
    exact inv_wrapped (C01.C01_needsWrap_binary ..) (good_app (good_wrapMaybe x (ihx hok.1).1) (by decide)
      (good_cons_inert (by decide) (good_cons_sep (binaryOp_sepOK sql (binaryOp_mem hb)) (sepLed_txt _ (by decide))
        (good_cons_inert (by decide) (good_wrapMaybe y (ihy hok.2).1)))))
  binOther := fun x a op y _ _ _ _ _ _ =>
    inv_wrapped (C01.C01_needsWrap_binary ..) (good_cons_inert (good_unhandled_binary op) good_nil)
  inE := fun x a b vals c xs as ihx ihv hok => by
    simp only [Expr.lexOK, Bool.and_eq_true] at hok
    have hvs := good_commaSep _ (args_good ihv hok.2).2
    refine inv_wrapped (C01.C01_needsWrap_in ..) ?_
    simp only [List.append_assoc, List.cons_append]
    exact good_app (good_wrapMaybe x (ihx hok.1).1) (by decide) (good_cons_inert (by decide)
      (good_app hvs (by decide) (good_cons_inert (by decide) good_nil)))
  index := fun x a i b xs is ihx ihi hok => by
    simp only [Expr.lexOK, Bool.and_eq_true] at hok
    refine inv_wrapped (C01.C01_needsWrap_index ..) ?_
    simp only [List.append_assoc, List.cons_append]
    exact good_app (good_wrapTight x (ihx hok.1).1) (by decide) (good_cons_inert (by decide)
      (good_app (ihi hok.2).1 (by decide) (good_cons_inert (by decide) good_nil)))
  known := fun fn a args b writer np as cs hk _ ihv hak hok => by
    simp only [Expr.lexOK, Bool.and_eq_true] at hok
    have := assembleKnown_good (known_mem hk) (args.toList.zip as)
      (fun p hp => (args_good ihv hok.2).1 p.2 (List.of_mem_zip (a := p.1) (b := p.2) hp).2) cs hak
    refine ⟨this.1, fun _ hw => this.2 ?_⟩
    simp only [needsWrap, hk] at hw
    cases np
    · rfl
    · simp at hw
  passthrough := fun fn a args b as hk ihv hok => by
    simp only [Expr.lexOK, Bool.and_eq_true, Bool.or_eq_true, hk, Option.isSome_none, Bool.false_eq_true,
      false_or] at hok
    have has := good_commaSep as (args_good ihv hok.2).1
    refine ⟨fun rest hr => ?_, fun _ _ => head_fname hok.1 _⟩
    exact AdjC_cons (adj_fname hok.1 (fname_follow _ rest))
      (good_cons_inert (by decide) (good_app has (by decide) (good_cons_inert (by decide) good_nil)) rest hr)

theorem writeExpr_goodS (ctx : Ctx) (hscope : ScopeAdj ctx.scope) (e : Expr) (hok : e.lexOK = true)
    (cs : List Chunk) (h : writeExpr ctx e = .ok cs) : ExprInv e cs :=
  writeExpr_cases (lexCases ctx hscope) e cs h hok

theorem writeList_goodS (ctx : Ctx) (hscope : ScopeAdj ctx.scope) :
    (es : ExprList) → es.lexOK = true → (as : List (List Chunk)) → writeList ctx es = .ok as →
      ∀ b ∈ as, Good b :=
  fun es hok as h => (args_good (writeList_cases (lexCases ctx hscope) es as h) hok).1

theorem writeListMP_goodS (ctx : Ctx) (hscope : ScopeAdj ctx.scope) :
    (es : ExprList) → es.lexOK = true → (vs : List (List Chunk)) → writeListMaybeParen' ctx es = .ok vs →
      ∀ b ∈ vs, Good b := fun es hok vs h => by
  obtain ⟨as, has, rfl⟩ := writeListMP_cases (lexCases ctx hscope) es vs h
  exact (args_good has hok).2

theorem writeExpr_good (ctx : Ctx) (hscope : ctx.scope = []) :
    (e : Expr) → e.lexOK = true → (cs : List Chunk) → writeExpr ctx e = .ok cs → ExprInv e cs :=
  writeExpr_goodS ctx (hscope ▸ scopeAdj_nil)

theorem writeList_good (ctx : Ctx) (hscope : ctx.scope = []) :
    (es : ExprList) → es.lexOK = true → (as : List (List Chunk)) → writeList ctx es = .ok as →
      ∀ b ∈ as, Good b :=
  writeList_goodS ctx (hscope ▸ scopeAdj_nil)

theorem writeListMP_good (ctx : Ctx) (hscope : ctx.scope = []) :
    (es : ExprList) → es.lexOK = true → (vs : List (List Chunk)) → writeListMaybeParen' ctx es = .ok vs →
      ∀ b ∈ vs, Good b :=
  writeListMP_goodS ctx (hscope ▸ scopeAdj_nil)

end Pql.LexRender
