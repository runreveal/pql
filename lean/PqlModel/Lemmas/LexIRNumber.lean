/-
`(*scanner).numberOrDot` as translated: the whole function against the model's `scanNumberOrDot`.  On a non-empty
input the body is run once, with what the second `next()` delivers as variables (`next_any`) and every callee's result
given beforehand at the cursor those variables name; the cases of the model then choose a leaf of the tree.
-/
import PqlModel.Lemmas.LexIRHex
namespace Pql.LexIR
open Pql
set_option linter.unusedSimpArgs false

/-- the Go token of a model lexeme at offset `p0`; the value of an error token is its message, which
    the model does not keep (`msg`) -/
def lexTok (p0 : Nat) (lx : Lexeme) (msg : Bytes) : Val :=
  .tok lx.kind p0 (p0 + lx.width) (if lx.kind = .error then msg else lx.value)

theorem m_zero_dot (r : Bytes) : scanNumberOrDot (48 :: 46 :: r) = finishNumber (48 :: 46 :: r) 2 true := rfl

theorem m_zero_e (c2 : UInt8) (r : Bytes) (h : c2 = 101 ∨ c2 = 69) :
    scanNumberOrDot (48 :: c2 :: r) =
      ⟨.number, normalizeNumber ((48 :: c2 :: r).take (1 + exponentLen (c2 :: r))), 1 + exponentLen (c2 :: r)⟩ := by
  rcases h with rfl | rfl <;> simp [scanNumberOrDot, Nat.add_comm]

theorem m_zero_digit (c2 : UInt8) (r : Bytes) (h : isDigit c2 = true) :
    scanNumberOrDot (48 :: c2 :: r) = finishNumber (48 :: c2 :: r) 2 false := by
  have hd := h
  rw [isDigit_iff] at hd
  simp only [Bool.and_eq_true, decide_eq_true_eq] at hd
  have n1 : c2 ≠ 46 := by intro e; subst e; simp at hd
  have n2 : c2 ≠ 101 := by intro e; subst e; simp at hd
  have n3 : c2 ≠ 69 := by intro e; subst e; simp at hd
  have n4 : c2 ≠ 120 := by intro e; subst e; simp at hd
  have n5 : c2 ≠ 88 := by intro e; subst e; simp at hd
  simp [scanNumberOrDot, n1, n2, n3, n4, n5, h]

theorem m_zero_other (c2 : UInt8) (r : Bytes) (h : ¬ isDigit c2 = true) (n1 : c2 ≠ 46) (n2 : ¬ (c2 = 101 ∨ c2 = 69))
    (n3 : ¬ (c2 = 120 ∨ c2 = 88)) :
    scanNumberOrDot (48 :: c2 :: r) = finishNumber (48 :: c2 :: r) 1 false := by
  have a1 : c2 ≠ 101 := fun e => n2 (Or.inl e)
  have a2 : c2 ≠ 69 := fun e => n2 (Or.inr e)
  have a3 : c2 ≠ 120 := fun e => n3 (Or.inl e)
  have a4 : c2 ≠ 88 := fun e => n3 (Or.inr e)
  simp [scanNumberOrDot, n1, a1, a2, a3, a4, h]

theorem m_dot (c2 : UInt8) (r : Bytes) :
    scanNumberOrDot (46 :: c2 :: r) = if isDigit c2 then finishNumber (46 :: c2 :: r) 2 true else ⟨.dot, [], 1⟩ := by
  simp [scanNumberOrDot]

theorem m_digit (c : UInt8) (r : Bytes) (h : isDigit c = true) (n0 : c ≠ 48) :
    scanNumberOrDot (c :: r) = finishNumber (c :: r) 1 false := by
  have hd := h
  rw [isDigit_iff] at hd
  simp only [Bool.and_eq_true, decide_eq_true_eq] at hd
  have n1 : c ≠ 46 := by intro e; subst e; simp at hd
  simp [scanNumberOrDot, n0, n1]

/-- the hexadecimal case of the model is `hexOut` -/
theorem m_zero_x (pre : Bytes) (c2 : UInt8) (r : Bytes) (h : c2 = 120 ∨ c2 = 88) :
    ∃ msg, lexTok pre.length (scanNumberOrDot (48 :: c2 :: r)) msg = (hexOut pre r).1 ∧
      (scanNumberOrDot (48 :: c2 :: r)).width = (hexOut pre r).2 := by
  have hm : scanNumberOrDot (48 :: c2 :: r) =
      (let n := hexDigitsLen r
       if n == 0 then ⟨.error, [], 2⟩
       else
         let v := hexToNat (r.take n)
         if v < 18446744073709551616 then ⟨.number, natToDec v, n + 2⟩ else ⟨.error, [], n + 2⟩) := by
    rcases h with rfl | rfl <;> simp [scanNumberOrDot]
  rw [hm]
  unfold hexOut lexTok
  by_cases hn : hexDigitsLen r = 0
  · exact ⟨Bytes.ofString "invalid hex literal", by simp [hn], by simp [hn]⟩
  · by_cases hv : hexToNat (r.take (hexDigitsLen r)) < 18446744073709551616
    · exact ⟨[], by simp [hn, hv], by simp [hn, hv]⟩
    · exact ⟨[], by simp [hn, hv], by simp [hn, hv]⟩

/-- the loop over the subsequent digits as the last statement of `numberOrDot`: the token of `finishNumber` -/
theorem mant_ret (lib : Lib) (env : Env) (fuel : Nat) (E : NumberEnv lib env fuel) (pre s : Bytes) (c : Nat)
    (hf : s.length < fuel) (k : Nat) (b : Bool) (l : Nat) (hk : k ≤ s.length) :
    ∃ l', retK env fuel [("", "Token")] (foreverLoop (execBlock env fuel mantLoopBody) fuel ⟨mVars b c true pre.length, hp pre s k l, []⟩) =
      .ok ([lexTok pre.length (finishNumber s k b) []], hp pre s (finishNumber s k b).width l') := by
  obtain ⟨vars, l', hl⟩ := mant_loop lib env fuel E pre s c true hf fuel k b l hk (by omega)
  simp only [mSt] at hl
  rw [hl, retK_ret, finishNumber_eq_finW]
  exact ⟨l', rfl⟩

/-- **`numberOrDot` is the model's `scanNumberOrDot`**: started at the beginning of `s` (after any
    prefix `pre`), on a source that is empty or begins with a digit or '.', the translated function
    returns the model's lexeme as a token at that offset and leaves the cursor after it -/
theorem numberOrDot_spec (lib : Lib) (env : Env) (fuel : Nat) (E : NumberEnv lib env fuel) (pre s : Bytes) (l : Nat)
    (hf : s.length < fuel) (hs : ∀ c rest, s = c :: rest → (isDigit c || c == 46) = true) :
    ∃ l' msg, interpFn env fuel numberOrDotDecl [.scanner] (hp pre s 0 l) =
      .ok ([lexTok pre.length (scanNumberOrDot s) msg], hp pre s (scanNumberOrDot s).width l') := by
  obtain ⟨fN, hN, sN⟩ := E.cursor.next
  obtain ⟨fP, hP, sP⟩ := E.cursor.prev
  obtain ⟨fA, hA, sA0⟩ := E.newSpan
  have sA : ∀ a b h, fA [.int a, .int b] h = .ok ([.span a b], h) := sA0
  obtain ⟨fI, hI, sI0⟩ := E.indexSpan
  have sI : ∀ a h, fI [.int a] h = .ok ([.span a a], h) := sI0
  obtain ⟨fX, hX, sX⟩ := E.exponent
  obtain ⟨fD, hD, sD⟩ := E.cursor.digit
  obtain ⟨fE, hE, sE⟩ := E.errTok
  cases s with
  | nil =>
    refine ⟨l, [], ?_⟩
    unfold numberOrDotDecl lexTok
    lx_simp [hN, hI, sI, hE, sE, next_end sN pre [] 0 l (by simp), scanNumberOrDot]
  | cons c rest =>
    have hc := hs c rest rfl
    have hlt0 : c.toNat < 128 := by
      by_cases h : isDigit c = true
      · exact isDigit_lt c h
      · simp only [h, Bool.false_or, beq_iff_eq] at hc
        subst hc; decide
    obtain ⟨r0, _, k0, _, nx0, _, _, _, hat0⟩ := next_any sN pre (c :: rest) 0 l (Nat.zero_le _)
    obtain ⟨rfl, rfl, _, hw0, hq0, hdg0, _⟩ := hat0 c rest rfl
    obtain rfl := hw0 hlt0
    simp only [Nat.add_zero, Nat.zero_add] at nx0
    have loop := mant_ret lib env fuel E pre (c :: rest) r0 hf
    simp only [mVars] at loop
    obtain ⟨r2, ok2, k2, l2, nx1, hk, hk', hend, hat⟩ := next_any sN pre (c :: rest) 1 pre.length (by simp)
    obtain ⟨j2, rfl, hj⟩ : ∃ j, l2 = pre.length + j ∧ j ≤ 1 := by
      cases hd : (c :: rest).drop 1 with
      | nil => exact ⟨0, (hend hd).2.2, Nat.zero_le 1⟩
      | cons a b => exact ⟨1, (hat a b hd).2.1, Nat.le_refl 1⟩
    have hj' : j2 ≤ (c :: rest).length := by simp; omega
    obtain ⟨la, hla⟩ := loop k2 true (pre.length + j2) hk'
    obtain ⟨lb, hlb⟩ := loop k2 false (pre.length + j2) hk'
    obtain ⟨lc, hlc⟩ := loop j2 false (pre.length + j2) hj'
    obtain ⟨ld, hld⟩ := loop 1 false pre.length (by simp)
    obtain ⟨lx, hx⟩ := sX pre (c :: rest) j2 (pre.length + j2) hj' hf
    have hle : j2 + exponentLen ((c :: rest).drop j2) ≤ (c :: rest).length := by
      have := exponentLen_le ((c :: rest).drop j2)
      rw [List.length_drop] at this
      omega
    have hr := ret_normalized lib env fuel E pre (c :: rest) (j2 + exponentLen ((c :: rest).drop j2)) lx hle
      [("ok", .bool ok2), ("c", .int r2), ("hasDecimalPoint", .bool false), ("ok", .bool true), ("c", .int r0),
        ("start", .int pre.length), ("s", .scanner)] [] (by simp) (by simp)
    unfold numberOrDotDecl firstSwitch zeroCase dotCase otherCase
    lx_simp [hN, hP, hX, hA, sA, nx0, nx1, hD, sD, hE, sE, prev_hp sP pre (c :: rest) j2 k2, kind_number, kind_dot, ofString_zero, ofString_empty, hdg0, hx, hr, hla, hlb, hlc, hld]
    clear nx0 nx1 hla hlb hlc hld hx hr loop
    -- the goal is the tree of the paths; a second byte, if there is one, says what `r2`, `ok2`, `k2`, `j2` are
    have at2 : ∀ c2 rest2, rest = c2 :: rest2 → ok2 = true ∧ j2 = 1 ∧
        (∀ n, n < 128 → (r2 = n ↔ c2 = UInt8.ofNat n)) ∧ Dispatch.inRangesNat Facts.isDigitRanges r2 = isDigit c2 ∧
        (c2.toNat < 128 → k2 = 2) := fun c2 rest2 e => by
      obtain ⟨h1, h2, _, hw, hq, hdg, _⟩ := hat c2 rest2 (e ▸ rfl)
      exact ⟨h1, by omega, hq, hdg, hw⟩
    by_cases h48 : c = 48
    · subst h48
      rw [if_pos ((hq0 48 (by omega)).mpr rfl)]
      cases rest with
      | nil =>
        obtain ⟨rfl, rfl, _⟩ := hend rfl
        rw [if_pos rfl]
        exact ⟨_, [], rfl⟩
      | cons c2 rest2 =>
        obtain ⟨rfl, rfl, hq2, hdg2, hw2⟩ := at2 c2 rest2 rfl
        rw [if_neg nofun]
        by_cases c46 : c2 = 46
        · subst c46
          obtain rfl := hw2 (by decide)
          rw [if_pos ((hq2 46 (by omega)).mpr rfl), m_zero_dot]
          exact ⟨la, [], rfl⟩
        · rw [if_neg fun h => c46 ((hq2 46 (by omega)).mp h)]
          by_cases ce : c2 = 101 ∨ c2 = 69
          · rw [if_pos (ce.imp (hq2 101 (by omega)).mpr (hq2 69 (by omega)).mpr), m_zero_e c2 rest2 ce]
            exact ⟨lx, [], rfl⟩
          · rw [if_neg fun h => ce (h.imp (hq2 101 (by omega)).mp (hq2 69 (by omega)).mp)]
            by_cases cx : c2 = 120 ∨ c2 = 88
            · obtain rfl := hw2 (by rcases cx with rfl | rfl <;> decide)
              obtain ⟨X, l', hb⟩ := hex_branch lib env fuel E pre (48 :: c2 :: rest2) (pre.length + 1) (by simp) hf
                [("ok", .bool true), ("c", .int r2), ("hasDecimalPoint", .bool false), ("ok", .bool true), ("c", .int r0),
                  ("start", .int pre.length), ("s", .scanner)] (by simp) (by simp)
              obtain ⟨msg, hm1, hm2⟩ := m_zero_x pre c2 rest2 cx
              refine ⟨l', msg, ?_⟩
              rw [if_pos (cx.imp (hq2 120 (by omega)).mpr (hq2 88 (by omega)).mpr), hm1, hm2, hb]
              rfl
            · rw [if_neg fun h => cx (h.imp (hq2 120 (by omega)).mp (hq2 88 (by omega)).mp), hdg2]
              by_cases hdig : isDigit c2 = true
              · obtain rfl := hw2 (isDigit_lt c2 hdig)
                rw [if_neg (by simp [hdig]), m_zero_digit c2 rest2 hdig]
                exact ⟨lb, [], rfl⟩
              · rw [if_pos (by simpa using hdig), m_zero_other c2 rest2 hdig c46 ce cx]
                exact ⟨lc, [], rfl⟩
    · rw [if_neg fun h => h48 ((hq0 48 (by omega)).mp h)]
      by_cases h46 : c = 46
      · subst h46
        rw [if_pos ((hq0 46 (by omega)).mpr rfl)]
        cases rest with
        | nil =>
          obtain ⟨rfl, rfl, _⟩ := hend rfl
          rw [if_pos rfl]
          exact ⟨_, [], rfl⟩
        | cons c2 rest2 =>
          obtain ⟨rfl, rfl, hq2, hdg2, hw2⟩ := at2 c2 rest2 rfl
          rw [if_neg nofun, hdg2, m_dot]
          by_cases hdig : isDigit c2 = true
          · obtain rfl := hw2 (isDigit_lt c2 hdig)
            rw [if_neg (by simp [hdig]), if_pos hdig]
            exact ⟨la, [], rfl⟩
          · rw [if_pos (by simpa using hdig), if_neg hdig]
            exact ⟨_, [], rfl⟩
      · have hdig : isDigit c = true := by simpa [h46] using hc
        rw [if_neg fun h => h46 ((hq0 46 (by omega)).mp h), if_neg (by simp [hdig]), m_digit c _ hdig h48]
        exact ⟨ld, [], rfl⟩

end Pql.LexIR
