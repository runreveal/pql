/-
ITERATING the interpreted `(*multiReadCloser).Read` (for Props/C16StreamIR.lean).  Under a reading `R objs readers rs` of
heap + reader values as scripts that the primitive steps of `Read` respect (`CliIOIR.ReadInv`, Props/C16IOIR.lean), one
call of the interpreted body is `multiRead rs`, again in `R`; so repeated calls (`drainIR`) are the model's drain of
`multiRead`, by induction over the calls.  `drainSt` is `CliIO.drain` that also hands back the state it stops in: the
readers left are those from the first failing reader on (`pending`), so the readers dropped are exactly those before it
(`nConsumed`).
-/
import PqlModel.Props.C16IOIRMake
import PqlModel.Props.C16IO
namespace Pql.StreamIR
open Pql Pql.CliIO Pql.CliIOIR
set_option linter.unusedSimpArgs false

def drainSt {σ : Type} (read : σ → ReadResult × σ) : Nat → σ → Bytes × Ending × σ
  | 0, s => ([], .outOfFuel, s)
  | fuel + 1, s =>
    match read s with
    | ((chunk, .ok), s') => (chunk ++ (drainSt read fuel s').1, (drainSt read fuel s').2.1, (drainSt read fuel s').2.2)
    | ((chunk, .eof), s') => (chunk, .eof, s')
    | ((chunk, .err), s') => (chunk, .err, s')

theorem drainSt_drain {σ : Type} (read : σ → ReadResult × σ) : ∀ (fuel : Nat) (s : σ),
    ((drainSt read fuel s).1, (drainSt read fuel s).2.1) = drain read fuel s
  | 0, _ => rfl
  | fuel + 1, s => by
    have ih := fun s' => drainSt_drain read fuel s'
    simp only [drainSt, drain]
    rcases read s with ⟨⟨chunk, st⟩, s'⟩
    cases st
    · simp only [← ih s']
    · rfl
    · rfl

/-- the readers from the first failing one on: what is left of the list when the drain ends -/
def pending (rs : List Reader) : List Reader := rs.dropWhile fun r => !(Reader.content r).2

/-- the number of readers before the first failing one: those read to their end -/
def nConsumed (rs : List Reader) : Nat := (rs.takeWhile fun r => !(Reader.content r).2).length

theorem nConsumed_add_pending (rs : List Reader) : nConsumed rs + (pending rs).length = rs.length := by
  unfold nConsumed pending
  rw [← List.length_append, List.takeWhile_append_dropWhile]

theorem pending_skip (r : Reader) (rest : List Reader) (h : (Reader.content r).2 = false) : pending (r :: rest) = pending rest := by
  simp [pending, h, List.dropWhile]

theorem pending_err (c : Bytes) (r' : Reader) (rest : List Reader) :
    pending (((c, .err) :: r') :: rest) = ((c, .err) :: r') :: rest := by
  simp [pending, Reader.content, List.dropWhile]

theorem pending_ok_length (c : Bytes) (r' : Reader) (rest : List Reader) :
    (pending (((c, .ok) :: r') :: rest)).length = (pending (r' :: rest)).length := by
  simp only [pending, List.dropWhile, Reader.content]
  cases (Reader.content r').2 <;> simp

/-- one `Read` keeps the number of readers from the first failing one on; a `Read` that ends the stream leaves exactly
    those -/
theorem multiRead_pending : ∀ rs : List Reader,
    (match (multiRead rs).1.2 with | .ok => pending (multiRead rs).2 | _ => (multiRead rs).2).length = (pending rs).length :=
  multiRead_cases (P := fun rs res => (match res.1.2 with | .ok => pending res.2 | _ => res.2).length = (pending rs).length) rfl
    (fun r rest res hr ih => by rw [pending_skip r rest (by rw [content_of_read_eof hr]), ih])
    (fun c r' rest => (pending_ok_length c r' rest).symm)
    (fun c r' rest => by rw [pending_err]; rfl)
    (fun c r' _ => by rw [pending_skip _ _ rfl]; rfl)
    (fun c r' rest _ _ => by rw [pending_skip _ _ rfl])

theorem drainSt_multiRead_length :
    ∀ (fuel : Nat) (rs : List Reader), totalResults rs + 1 ≤ fuel → (drainSt multiRead fuel rs).2.2.length = (pending rs).length
  | 0, _, hf => by omega
  | fuel + 1, rs, hf => by
    have hp := multiRead_pending rs
    have hl := multiRead_delivers.less rs
    rcases hr : multiRead rs with ⟨⟨c, st⟩, rs'⟩
    rw [hr] at hp hl
    cases st with
    | ok =>
      simp only [drainSt, hr]
      rw [drainSt_multiRead_length fuel rs' (by have := hl rfl; simp only at this; omega)]
      exact hp
    | eof | err => simp only [drainSt, hr]; exact hp

/-- the class of an `error` value as the model's `Status` (the inverse of `GoErr.ofStatus`) -/
def statusOf : GoErr → Status
  | .nil => .ok
  | .eof => .eof
  | .other => .err

theorem statusOf_ofStatus (s : Status) : statusOf (GoErr.ofStatus s) = s := by cases s <;> rfl

/-- ONE call `n, err := mrc.Read(p)` of the regenerated body, read off as the caller sees it: the bytes `p[:n]` and the
    class of `err`; `fuel` bounds the iterations of the `for` loop inside `Read` -/
def readIR (env : Env) (fuel : Nat) (w : State) : M (ReadResult × State) :=
  match runUnit env fuel "multiReadCloser.Read" [.mrcRef, .buf] w with
  | .ok ([.int n, .err e], w') => .ok ((w'.data.take n.toNat, statusOf e), w')
  | .ok _ => stuck
  | .error e => .error e

/-- call `read` until it reports `io.EOF` or another error (at most `k` calls), collecting the chunks: what `bufio.Scanner`
    does with its input (`CliIO.drain` for a `Read` that runs on the heap and may panic / get stuck) -/
def drainM (read : State → M (ReadResult × State)) : Nat → State → M (Bytes × Ending × State)
  | 0, w => .ok ([], .outOfFuel, w)
  | k + 1, w =>
    match read w with
    | .error e => .error e
    | .ok ((chunk, .ok), w') =>
      match drainM read k w' with
      | .ok r => .ok (chunk ++ r.1, r.2.1, r.2.2)
      | .error e => .error e
    | .ok ((chunk, .eof), w') => .ok (chunk, .eof, w')
    | .ok ((chunk, .err), w') => .ok (chunk, .err, w')

/-- `drainM` over the interpreted `Read`: `fuel` bounds the loop inside one `Read`, the next argument the number of calls -/
def drainIR (env : Env) (fuel : Nat) : Nat → State → M (Bytes × Ending × State) := drainM (readIR env fuel)

theorem readIR_of_inv {R : List Reader → List (Option RC) → List Reader → Prop} (hR : ReadInv R)
    (env : Env) (fuel : Nat) (w : State) (rs : List Reader) (h : R w.objs w.readers rs) (hf : w.readers.length < fuel) :
    ∃ w' d, readIR env fuel w = .ok ((multiRead rs).1, w') ∧ R w'.objs w'.readers (multiRead rs).2 ∧
      w.readers = d ++ w'.readers ∧ w'.closed = w.closed ++ fileHandles d ∧ w'.created = w.created ∧
      w'.objs.length = w.objs.length := by
  obtain ⟨w', d, h1, h2, h3, h5, h6, h7, h8⟩ := runRead_of_inv hR env fuel w rs h hf
  exact ⟨w', d, by simp only [readIR, h1, Int.toNat_natCast, statusOf_ofStatus, h2], h3, h5, h6, h7, h8⟩

theorem drainIR_of_inv {R : List Reader → List (Option RC) → List Reader → Prop} (hR : ReadInv R)
    (env : Env) (fuel : Nat) : ∀ (k : Nat) (w : State) (rs : List Reader), R w.objs w.readers rs → w.readers.length < fuel →
    ∃ w' d, drainIR env fuel k w = .ok ((drainSt multiRead k rs).1, (drainSt multiRead k rs).2.1, w') ∧
      R w'.objs w'.readers (drainSt multiRead k rs).2.2 ∧
      w.readers = d ++ w'.readers ∧ w'.closed = w.closed ++ fileHandles d ∧ w'.created = w.created ∧
      w'.objs.length = w.objs.length
  | 0, w, rs, h, _ => ⟨w, [], by simp [drainIR, drainM, drainSt, fileHandles, h]⟩
  | k + 1, w, rs, h, hf => by
    obtain ⟨w1, d1, h1, h2, h3, h4, h5, h6⟩ := readIR_of_inv hR env fuel w rs h hf
    rcases hm : multiRead rs with ⟨⟨chunk, s⟩, rs'⟩
    rw [hm] at h1 h2
    cases s with
    | ok =>
      have hf1 : w1.readers.length < fuel := by
        have := congrArg List.length h3
        simp only [List.length_append] at this
        omega
      obtain ⟨w2, d2, g1, g2, g3, g4, g5, g6⟩ := drainIR_of_inv hR env fuel k w1 rs' h2 hf1
      refine ⟨w2, d1 ++ d2, ?_, ?_, ?_, ?_, ?_, ?_⟩
      · unfold drainIR at g1 ⊢
        simp only [drainM, h1, g1, drainSt, hm]
      · simpa only [drainSt, hm] using g2
      · rw [h3, g3, List.append_assoc]
      · rw [g4, h4, fileHandles_append, List.append_assoc]
      · rw [g5, h5]
      · rw [g6, h6]
    | eof => exact ⟨w1, d1, by simp only [drainIR, drainM, h1, drainSt, hm], by simpa only [drainSt, hm] using h2, h3, h4, h5, h6⟩
    | err => exact ⟨w1, d1, by simp only [drainIR, drainM, h1, drainSt, hm], by simpa only [drainSt, hm] using h2, h3, h4, h5, h6⟩

theorem drainIR_full {R : List Reader → List (Option RC) → List Reader → Prop} (hR : ReadInv R)
    (env : Env) (fuel k : Nat) (w : State) (rs : List Reader) (h : R w.objs w.readers rs) (hf : w.readers.length < fuel)
    (hk : totalResults rs + 1 ≤ k) :
    ∃ w', drainIR env fuel k w = .ok ((inputStream rs).1, (inputStream rs).2, w') ∧
      R w'.objs w'.readers (drainSt multiRead k rs).2.2 ∧
      w'.readers = w.readers.drop (nConsumed rs) ∧
      w'.closed = w.closed ++ fileHandles (w.readers.take (nConsumed rs)) ∧ w'.created = w.created ∧
      w'.objs.length = w.objs.length := by
  obtain ⟨w', d, h1, h2, h3, h4, h5, h6⟩ := drainIR_of_inv hR env fuel k w rs h hf
  have hd := drainSt_drain multiRead k rs
  rw [C16_multi_concat_fuel rs k hk] at hd
  have hlen : d.length = nConsumed rs := by
    have a := hR.len _ _ _ h2
    have b := hR.len _ _ _ h
    have c := drainSt_multiRead_length k rs hk
    have e := nConsumed_add_pending rs
    have g := congrArg List.length h3
    simp only [List.length_append] at g
    omega
  refine ⟨w', ?_, h2, ?_, ?_, h5, h6⟩
  · rw [h1, ← hd]
  · rw [h3, ← hlen, List.drop_left]
  · rw [h4, h3, ← hlen, List.take_left]

theorem drain_then_close {R : List Reader → List (Option RC) → List Reader → Prop} (hR : ReadInv R)
    (env : Env) (fuel k : Nat) (w : State) (rs : List Reader) (h : R w.objs w.readers rs) (hf : w.readers.length < fuel)
    (hk : totalResults rs + 1 ≤ k) :
    ∃ w1 w2, drainIR env fuel k w = .ok ((inputStream rs).1, (inputStream rs).2, w1) ∧
      runUnit env fuel "multiReadCloser.Close" [.mrcRef] w1 = .ok ([.err (firstFail env w1.readers)], w2) ∧
      w2.closed = w.closed ++ fileHandles w.readers ∧ w2.readers = [] ∧ w2.created = w.created ∧
      w2.objs.length = w.objs.length := by
  obtain ⟨w1, h1, h2, h3, h4, h5, h6⟩ := drainIR_full hR env fuel k w rs h hf hk
  obtain ⟨w2, g1, g2⟩ := C16_Close_ir env fuel w1 (hR.nonnil _ _ _ h2)
  simp only [State.world, Prod.mk.injEq] at g2
  obtain ⟨go, gr, gc, gcr, _⟩ := g2
  refine ⟨w1, w2, h1, g1, ?_, gr, by rw [gcr, h5], by rw [go, h6]⟩
  rw [gc, h4, h3, List.append_assoc, ← fileHandles_append, List.take_append_drop]

end Pql.StreamIR
