/-
`ExprParseIR`, `exprBinaryTrail`: the precedence-climbing loop, its `in (…)` form and the inner loop that
resolves operators of higher precedence first.
-/
import PqlModel.Lemmas.ExprParseIRProd
namespace Pql.ExprParseIR
open Pql
set_option linter.unusedSimpArgs false

/-- the body of the inner loop of `exprBinaryTrail` ("resolve any higher precedence operators first") -/
def higherBody : List Stmt :=
  [.assign true [.var "op2", .var "ok"] (.pcall "p" "next" []),
   .ite (.not (.var "ok")) [.brk ""] [],
   .do_ (.pcall "p" "prev" []),
   .assign true [.var "precedence2"] (.e (.call "operatorPrecedence" [.field (.var "op2") "Kind"])),
   .ite (.or (.cmp "lt" (.var "precedence2") (.int 0)) (.cmp "le" (.var "precedence2") (.var "precedence1"))) [.brk ""] [],
   .assign false [.var "y", .var "err"] (.pcall "p" "exprBinaryTrail" [.var "y", .add (.var "precedence1") (.int 1)]),
   .ite (.cmp "ne" (.var "err") (.nil)) [.assign false [.var "finalError"] (.e (.call "joinErrors" [.var "finalError", .call "makeErrorOpaque" [.var "err"]]))] []]

def trailBody : List Stmt :=
  [.assign true [.var "op1", .var "ok"] (.pcall "p" "next" []),
   .ite (.not (.var "ok")) [.ret [.var "x", .var "finalError"]] [],
   .assign true [.var "precedence1"] (.e (.call "operatorPrecedence" [.field (.var "op1") "Kind"])),
   .ite
     (.or (.cmp "lt" (.var "precedence1") (.int 0)) (.cmp "lt" (.var "precedence1") (.var "minPrecedence")))
     [.do_ (.pcall "p" "prev" []), .ret [.var "x", .var "finalError"]]
     [],
   .ite
     (.cmp "eq" (.field (.var "op1") "Kind") (.kind "TokenIn"))
     [.assign true [.var "lparen", .blank] (.pcall "p" "next" []),
      .ite
        (.cmp "ne" (.field (.var "lparen") "Kind") (.kind "TokenLParen"))
        [.assign false [.var "x"] (.e (.new "InExpr" ["X", "In", "Lparen", "Rparen"] [.var "x", .field (.var "op1") "Span", .call "nullSpan" [], .call "nullSpan" []])),
         .assign false [.var "finalError"] (.e (.call "joinErrors" [.var "finalError", .perr false (.field (.var "lparen") "Span")])),
         .ret [.var "x", .var "finalError"]]
        [],
      .assign true [.var "valParser"] (.pcall "p" "split" [.kind "TokenRParen"]),
      .assign true [.var "vals", .var "err"] (.pcall "valParser" "exprList" []),
      .assign false [.var "finalError"] (.e (.call "joinErrors" [.var "finalError", .call "makeErrorOpaque" [.var "err"], .mcall "endSplit" (.var "valParser")])),
      .assign true [.var "rparen", .blank] (.pcall "p" "next" []),
      .ite
        (.cmp "ne" (.field (.var "rparen") "Kind") (.kind "TokenRParen"))
        [.assign
           false
           [.var "x"]
           (.e (.new "InExpr" ["X", "In", "Lparen", "Vals", "Rparen"] [.var "x", .field (.var "op1") "Span", .field (.var "lparen") "Span", .var "vals", .call "nullSpan" []])),
         .assign false [.var "finalError"] (.e (.call "joinErrors" [.var "finalError", .perr false (.field (.var "lparen") "Span")])),
         .ret [.var "x", .var "finalError"]]
        [],
      .assign
        false
        [.var "x"]
        (.e (.new "InExpr" ["X", "In", "Lparen", "Vals", "Rparen"] [.var "x", .field (.var "op1") "Span", .field (.var "lparen") "Span", .var "vals", .field (.var "rparen") "Span"])),
      .cont]
     [],
   .assign true [.var "y", .var "err"] (.pcall "p" "unaryExpr" []),
   .ite (.cmp "ne" (.var "err") (.nil)) [.assign false [.var "finalError"] (.e (.call "joinErrors" [.var "finalError", .call "makeErrorOpaque" [.var "err"]]))] [],
   .loop "" (.bool true) higherBody,
   .assign false [.var "x"] (.e (.new "BinaryExpr" ["X", "OpSpan", "Op", "Y"] [.var "x", .field (.var "op1") "Span", .field (.var "op1") "Kind", .var "y"]))]

theorem trailIR_loop : trailIR = [.decl "finalError" "error", .loop "" (.bool true) trailBody] := rfl
theorem trailBody_notLeaves : leaves trailBody = false := by rfl
theorem higherBody_notLeaves : leaves higherBody = false := by rfl

def trailState (x : Expr) (acc : Errs) (m : Int) (p : PState) : State :=
  ⟨[("finalError", .err acc), ("p", .parser p), ("x", .expr x), ("minPrecedence", .int m)]⟩

def higherState (e : Errs) (y : Expr) (p1 : Int) (op1 : Token) (acc : Errs) (p : PState) (x : Expr) (m : Int) : State :=
  ⟨[("err", .err e), ("y", .expr y), ("precedence1", .int p1), ("ok", .bool true), ("op1", .tok op1),
    ("finalError", .err acc), ("p", .parser p), ("x", .expr x), ("minPrecedence", .int m)]⟩

theorem mkOpaque_nil : mkOpaque [] = [] := rfl

/-- the inner loop is `pHigher`: it ends normally with the model's `y`, accumulated errors and rest (the last `err` and
    what `prev()` could go back to do not matter), or it runs out of budget below `4 * tokens + 2` -/
theorem higherLoop (c : ICtx) (F : Nat) (ih : Below c F) (x : Expr) (m p1 : Int) (op1 : Token)
    (sk : Option TokKind) :
    ∀ (d : Nat), d ≤ F → ∀ (e : Errs) (y : Expr) (acc : Errs) (ts : List Token) (bk : Option (List Token)),
      ∃ e' bk', Agree (4 * ts.length + 2 ≤ d)
        (iter (loopStep c (semAt c F) (.bool true) higherBody) "" d (higherState e y p1 op1 acc ⟨ts, bk, sk⟩ x m))
        (.next (higherState e' (pHigher c.pctx d y p1 acc ts).val p1 op1 (pHigher c.pctx d y p1 acc ts).errs
          ⟨(pHigher c.pctx d y p1 acc ts).rest, bk', sk⟩ x m)) := by
  intro d
  induction d with
  | zero => intro _ e y acc ts bk; exact ⟨e, bk, .inl ⟨by omega, by rw [iter]⟩⟩
  | succ d ihd =>
    intro hd e y acc ts bk
    have hd' : d ≤ F := by omega
    have hmin : min d F = d := Nat.min_eq_left hd'
    obtain ⟨ft, hft, ht⟩ := Agree.eq ((ih d hd').trail y (p1 + 1) ts sk)
    obtain ⟨e1, b1, h1⟩ := ihd hd' (pTrail c.pctx d y (p1 + 1) [] ts).errs (pTrail c.pctx d y (p1 + 1) [] ts).val
      acc (pTrail c.pctx d y (p1 + 1) [] ts).rest none
    obtain ⟨e2, b2, h2⟩ := ihd hd' (pTrail c.pctx d y (p1 + 1) [] ts).errs (pTrail c.pctx d y (p1 + 1) [] ts).val
      (acc ++ mkOpaque (pTrail c.pctx d y (p1 + 1) [] ts).errs) (pTrail c.pctx d y (p1 + 1) [] ts).rest none
    obtain ⟨f1, hf1, h1⟩ := Agree.eq h1
    obtain ⟨f2, hf2, h2⟩ := Agree.eq h2
    rw [iter_succ]
    generalize iter (loopStep c (semAt c F) (.bool true) higherBody) "" d = I at h1 h2
    simp only [higherState] at h1 h2 ⊢
    ir_simp [loopStep, higherBody, semAt, hmin, ht, h1, h2]
    clear ht h1 h2 ihd
    rcases ts with _ | ⟨op2, rest⟩
    · simp [pHigher]
    simp only [pHigher, List.head?_cons, Option.getD_some]
    generalize hp2 : precOf op2.kind = p2
    by_cases hs : p2 < 0 ∨ p2 ≤ p1
    · rcases hs with hs | hs <;> simp [hs]
    have hs1 : ¬ p2 < 0 := fun h => hs (.inl h)
    have hs2 : ¬ p2 ≤ p1 := fun h => hs (.inr h)
    have hprog : d ≠ 0 → (pTrail c.pctx d y (p1 + 1) [] (op2 :: rest)).rest.length ≤ rest.length := fun h0 => by
      obtain ⟨d', rfl⟩ := Nat.exists_eq_succ_of_ne_zero h0
      exact pTrail_progress c.pctx d' y (p1 + 1) [] op2 rest (by rw [hp2]; omega)
    generalize pTrail c.pctx d y (p1 + 1) [] (op2 :: rest) = r at hprog hf1 hf2 ⊢
    obtain ⟨rv, re, rr⟩ := r
    cases ft <;> cases f1 <;> cases f2 <;> cases re <;> simp [hs1, hs2, mkOpaque_nil] <;>
      (simp at hft hf1 hf2 hprog; omega)

theorem trailLoop (c : ICtx) (F : Nat) (ih : Below c F) (m : Int) (sk : Option TokKind) :
    ∀ (b : Nat), b ≤ F + 1 → ∀ (x : Expr) (acc : Errs) (ts : List Token) (bk : Option (List Token)),
      AgreeE (4 * ts.length + 1 ≤ b)
        (((iter (loopStep c (semAt c F) (.bool true) trailBody) "" b
            (trailState x acc m ⟨ts, bk, sk⟩)).bind (finish "p" ["Expr", "error"])).bind asPState)
        (pTrail c.pctx b x m acc ts) sk := by
  intro b
  induction b with
  | zero => intro _ x acc ts bk; left; exact ⟨by omega, by rw [iter]; rfl⟩
  | succ b ihb =>
    intro hb x acc ts bk
    have hb' : b ≤ F := by omega
    have hmin : min b F = b := Nat.min_eq_left hb'
    replace ihb := ihb (by omega)
    rw [iter_succ]
    generalize iter (loopStep c (semAt c F) (.bool true) trailBody) "" b = I at ihb
    rcases ts with _ | ⟨op1, rest⟩
    · ir_simp [pTrail, loopStep, trailBody, trailState, semAt]
    generalize hlp : rest.head?.getD ⟨.error, c.srcLen, c.srcLen, c.eofValue⟩ = lp
    -- the `in (…)` form: the list in its sub-parser, then the loop goes on behind the closing parenthesis
    have hsp := split_ir c ⟨rest.tail, none, sk⟩ .rparen ⟨by decide, by decide⟩
    generalize hspe : split .rparen rest.tail = sp at hsp
    generalize hrp : sp.2.head?.getD ⟨.error, c.srcLen, c.srcLen, c.eofValue⟩ = rp
    obtain ⟨fl, hfl, hl⟩ := Agree.eq ((ih b hb').exprList sp.1 (some .rparen))
    generalize hrle : pExprList c.pctx b sp.1 = rl at hl hfl
    obtain ⟨fi, hfi, hi⟩ := Agree.eq (ihb (.inE x op1.span lp.span rl.val rp.span)
      (acc ++ (mkOpaque rl.errs ++ endSplit rl.rest)) sp.2.tail (some sp.2))
    -- a binary operator: the right operand, the operators that bind tighter, then the loop goes on
    obtain ⟨fu, hfu, hu⟩ := Agree.eq ((ih b hb').unary rest sk)
    generalize hrye : pUnary c.pctx b rest = ry at hu hfu
    obtain ⟨e1, b1, hh1⟩ := higherLoop c F ih x m (precOf op1.kind) op1 sk b hb' ry.errs ry.val acc ry.rest none
    obtain ⟨e2, b2, hh2⟩ := higherLoop c F ih x m (precOf op1.kind) op1 sk b hb' ry.errs ry.val (acc ++ mkOpaque ry.errs)
      ry.rest none
    obtain ⟨fh1, hfh1, hh1⟩ := Agree.eq hh1
    obtain ⟨fh2, hfh2, hh2⟩ := Agree.eq hh2
    generalize hr1e : pHigher c.pctx b ry.val (precOf op1.kind) acc ry.rest = rh1 at hh1
    generalize hr2e : pHigher c.pctx b ry.val (precOf op1.kind) (acc ++ mkOpaque ry.errs) ry.rest = rh2 at hh2
    obtain ⟨fb1, hfb1, hb1⟩ := Agree.eq (ihb (.binary x op1.span op1.kind rh1.val) rh1.errs rh1.rest b1)
    obtain ⟨fb2, hfb2, hb2⟩ := Agree.eq (ihb (.binary x op1.span op1.kind rh2.val) rh2.errs rh2.rest b2)
    simp only [trailState, higherState, semAt, Token.span] at hi hh1 hh2 hb1 hb2
    ir_simp [loopStep, trailBody, trailState, semAt, hmin, hlp, hrp, hsp, hl, hi, hu, endSplitP, higherBody_notLeaves,
      hh1, hh2, hb1, hb2]
    clear hsp hl hi hu hh1 hh2 hb1 hb2 ihb
    have hs1 := split_fst_le .rparen rest.tail
    have hs2 := split_snd_le .rparen rest.tail
    have hlu := (exprLen c.pctx b).unary rest
    have hlh1 := (exprLen c.pctx b).higher ry.val (precOf op1.kind) acc ry.rest
    have hlh2 := (exprLen c.pctx b).higher ry.val (precOf op1.kind) (acc ++ mkOpaque ry.errs) ry.rest
    simp only [pTrail]
    by_cases h0 : precOf op1.kind < 0 <;> by_cases hm : precOf op1.kind < m <;> simp [h0, hm]
    by_cases hin : op1.kind = .in_ <;> simp [hin]
    · rcases rest with _ | ⟨lp', rest2⟩ <;> simp at hlp hspe hs1 hs2 <;> subst hlp
      · simp [PCtx.eof, Span.index, Token.span, pctx_srcLen]
      by_cases hl : lp'.kind = .lparen <;> simp [hl, Token.span]
      subst hspe hrle
      generalize split .rparen rest2 = sp at *
      obtain ⟨s1, _ | ⟨rp', rest3⟩⟩ := sp <;> simp at hrp <;> subst hrp <;> cases fl <;> simp [Token.span] <;>
        try (simp at hfl hs1; omega)
      by_cases hr : rp'.kind = .rparen <;> cases fi <;> simp [hr] <;> (simp at hfi hs2; omega)
    · subst hrye hr1e hr2e
      cases fu <;> simp <;> try (simp at hfu; omega)
      by_cases he : (pUnary c.pctx b rest).errs = [] <;> simp [he, Token.span, mkOpaque_nil]
      · cases fh1 <;> cases fb1 <;> simp <;> (simp [he] at hfh1 hfb1 hlh1; omega)
      · cases fh2 <;> cases fb2 <;> simp <;> (simp at hfh2 hfb2; omega)

theorem trail_step (c : ICtx) (F : Nat) (ih : Below c F) (x : Expr) (m : Int) (ts : List Token)
    (sk : Option TokKind) :
    AgreeE (4 * ts.length + 1 ≤ F + 1) (runUnit c (F + 1) "exprBinaryTrail" [.expr x, .int m] ⟨ts, none, sk⟩)
      (pTrail c.pctx (F + 1) x m [] ts) sk := by
  rw [runUnit_succ]
  simp only [runBody, trailIR_ir, params_trail, results_trail, loopFn_trail, if_true]
  have hl := trailLoop c F ih m sk (F + 1) (Nat.le_refl _) x [] ts none
  simp only [trailState, AgreeE] at hl
  ir_simp [trailIR_loop, trailBody_notLeaves]
  exact hl.imp (And.imp_left fun hk h => hk (by omega)) id

end Pql.ExprParseIR
