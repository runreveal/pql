/-
Facts about the tree the tabular productions build, proved once for all of them.

Every expression position of what `pTabular` / `pOps` / `pOperator` / `pJoin` return holds a
value that `pExpr` / `pExprList` returned (`FromExpr` / `FromList`), and returned without error
if the production reported none; that is the clause `ok`.  `TabAlg ok E EL T O OL` says that
`T` / `O` / `OL` are closed under the constructor applications of these productions, given `E` /
`EL` of the expression positions and what the parser knows besides: a `top` that reports no error
has its column, project columns and render properties have names, an error-free `join` names a
documented flavour or none, an error-free `as` or `render` has its identifier, the parentheses of a `render`
are set only where its `with` field is the span of a token (so not `Span.null`, which is all the clause
records of "behind a `with` token").  `tabShape` gives `T` / `O` /
`OL` of every result, for `E` / `EL` that hold of the values of `pExpr` / `pExprList`.
-/
import PqlModel.Lemmas.ExprShape
import PqlModel.Lemmas.ParseCasesOps
import PqlModel.Lemmas.TabCases
namespace Pql

def FromExpr (c : PCtx) (ok : Prop) (e : Expr) : Prop :=
  ∃ f ts, e = (pExpr c f ts).val ∧ (ok → (pExpr c f ts).errs = [])

def FromList (c : PCtx) (ok : Prop) (l : ExprList) : Prop :=
  ∃ f ts, l = (pExprList c f ts).val ∧ (ok → (pExprList c f ts).errs = [])

theorem pIdent_val_of_errs {c : PCtx} {ts : List Token} (h : (pIdent c ts).errs = []) :
    (pIdent c ts).val ≠ none := by
  revert h
  apply pIdent_cases (motive := fun _ r => r.errs = [] → r.val ≠ none)
  case nil | other => intros; contradiction
  case ident => intros; exact nofun

theorem pQualifiedIdent_val_of_errs {c : PCtx} {ts : List Token}
    (h : (pQualifiedIdent c ts).errs = []) : (pQualifiedIdent c ts).val ≠ none := by
  simp only [pQualifiedIdent] at h ⊢
  have := @pIdent_val_of_errs c ts
  split
  · next hv => simp_all
  · simp

section
variable {c : PCtx} {ok : Prop} {f : Nat}

theorem sortDir_x (term : SortTerm) : ∀ ts, (sortDir term ts).1.x = term.x := by
  apply sortDir_cases (motive := fun _ d => d.1.x = term.x)
  case none => intro ts _; rfl
  case asc => intro t rest _; rfl
  case desc => intro t rest _ _; rfl

theorem mem_append_or {α : Type} {P : α → Prop} {acc l : List α} (hl : ∀ k ∈ l, P k) :
    ∀ k ∈ acc ++ l, k ∈ acc ∨ P k :=
  fun k hk => (List.mem_append.1 hk).imp_right (hl k)

theorem mem_snoc_or {α : Type} {P : α → Prop} {acc : List α} {a : α} (ha : P a) :
    ∀ k ∈ acc ++ [a], k ∈ acc ∨ P k :=
  mem_append_or fun _ hk => List.mem_singleton.1 hk ▸ ha

theorem pRowCount_from {ts : List Token} :
    (ok → (pRowCount c f ts).errs = []) → FromExpr c ok (pRowCount c f ts).val := by
  apply pRowCount_cases (motive := fun r => (ok → r.errs = []) → FromExpr c ok r.val)
  case same => exact fun h => ⟨f, ts, rfl, h⟩
  case notInt => intro r sp k v hr he _ _ _; subst hr; exact ⟨f, ts, rfl, fun _ => he⟩

theorem nullsClause_x (term : SortTerm) :
    ∀ ts, (nullsClause c term ts).val.map (·.x) = some term.x := by
  apply nullsClause_cases (motive := fun _ r => r.val.map (·.x) = some term.x) <;> intros <;> rfl

theorem pSortTerm_some {ts : List Token} :
    (pSortTerm c f ts).errs = [] → (pSortTerm c f ts).val ≠ none := by
  apply pSortTerm_cases (motive := fun r => r.errs = [] → r.val ≠ none)
  case err => intro r _ he h; exact absurd h he
  case ok =>
    intro r d _ _ _ _ hn
    have hx := nullsClause_x (c := c) d.1 d.2
    rw [hn] at hx
    cases hx

theorem pSortTerm_from {ts : List Token} {t : SortTerm} :
    (pSortTerm c f ts).val = some t → FromExpr c ok t.x := by
  apply pSortTerm_cases (motive := fun r => r.val = some t → FromExpr c ok t.x)
  case err => intro r _ _ h; cases h
  case ok =>
    intro r d hr he hd ht
    subst hr
    have hx := nullsClause_x (c := c) d.1 d.2
    rw [ht, ← hd, sortDir_x] at hx
    exact ⟨f, ts, Option.some.inj hx, fun _ => he⟩

theorem pNamedColumn_from : ∀ ts : List Token,
    (ok → (pNamedColumn c f ts).errs = []) → FromExpr c ok (pNamedColumn c f ts).val.x := by
  apply pNamedColumn_cases (motive := fun _ r => (ok → r.errs = []) → FromExpr c ok r.val.x)
  case named => intro t0 t rest r _ _ hr h; subst hr; exact ⟨f, rest, rfl, fun o => (mkOpaque_eq_nil _).1 (h o)⟩
  case plain => intro ts r _ hr h; subst hr; exact ⟨f, ts, rfl, h⟩

theorem pNamedColumn_snoc {acc : List Column} (ts : List Token)
    (h : ok → (pNamedColumn c f ts).errs = []) :
    ∀ k ∈ acc ++ [(pNamedColumn c f ts).val], k ∈ acc ∨ FromExpr c ok k.x :=
  mem_snoc_or (pNamedColumn_from ts h)

/-- The loop of `sort`, `extend` and the `by` clause of `summarize`: what it returns was in the
    accumulator or came from an item, given that for both ways an item is taken in. -/
theorem commaLoop_from {α β : Type} {item : List Token → PRes β} {bad : List α → PRes β → List α}
    {good : List α → β → List α} {Q : α → Prop}
    (hbad : ∀ acc ts, (ok → (item ts).errs = []) → ∀ k ∈ bad acc (item ts), k ∈ acc ∨ Q k)
    (hgood : ∀ acc ts, (item ts).errs = [] → ∀ k ∈ good acc (item ts).val, k ∈ acc ∨ Q k) :
    ∀ n acc ts, (ok → (commaLoop item bad good n acc ts).errs = []) →
      ∀ k ∈ (commaLoop item bad good n acc ts).val, k ∈ acc ∨ Q k := by
  apply commaLoop_induct (motive := fun _ acc _ r => (ok → r.errs = []) → ∀ k ∈ r.val, k ∈ acc ∨ Q k)
  case fuel => exact fun _ _ _ _ hk => Or.inl hk
  case err => rintro n acc ts r rfl _ h; exact hbad acc ts fun o => (mkOpaque_eq_nil _).1 (h o)
  case last => rintro n acc ts r rfl he _ _; exact hgood acc ts he
  case more =>
    rintro n acc ts r t rest res rfl he _ _ ih h k hk
    exact (ih h k hk).elim (hgood acc ts he k) Or.inr

theorem pSortTerms_from (n : Nat) (acc : List SortTerm) (ts : List Token) :
    (ok → (pSortTerms c f n acc ts).errs = []) →
      ∀ t ∈ (pSortTerms c f n acc ts).val, t ∈ acc ∨ FromExpr c ok t.x :=
  have h := fun (acc : List SortTerm) ts =>
    mem_append_or (acc := acc) fun _ ht => pSortTerm_from (c := c) (f := f) (ok := ok) (ts := ts)
      (Option.mem_toList.1 ht)
  pSortTerms_eq_loop n acc ts ▸ commaLoop_from (fun acc ts _ => h acc ts) (fun acc ts _ => h acc ts) n acc ts

theorem pExtendCols_from (n : Nat) (acc : List Column) (ts : List Token) :
    (ok → (pExtendCols c f n acc ts).errs = []) →
      ∀ k ∈ (pExtendCols c f n acc ts).val, k ∈ acc ∨ FromExpr c ok k.x :=
  pExtendCols_eq_loop n acc ts ▸ commaLoop_from (fun _ _ _ _ hk => Or.inl hk)
    (fun _ ts he => pNamedColumn_snoc ts fun _ => he) n acc ts

theorem pGroupByCols_from (n : Nat) (acc : List Column) (ts : List Token) :
    (ok → (pGroupByCols c f n acc ts).errs = []) →
      ∀ k ∈ (pGroupByCols c f n acc ts).val, k ∈ acc ∨ FromExpr c ok k.x :=
  pGroupByCols_eq_loop n acc ts ▸ commaLoop_from
    (fun acc ts he => by
      by_cases hnf : isNF (pNamedColumn c f ts).errs = true
      · rw [if_pos hnf]; exact fun _ hk => Or.inl hk
      · rw [if_neg hnf]; exact pNamedColumn_snoc ts he)
    (fun _ ts he => pNamedColumn_snoc ts fun _ => he) n acc ts

theorem pProjectCols_from : ∀ (n : Nat) (acc : List Column) (ts : List Token),
    (ok → (pProjectCols c f n acc ts).errs = []) →
      ∀ k ∈ (pProjectCols c f n acc ts).val,
        k ∈ acc ∨ (k.name ≠ none ∧ (k.x = .nil ∨ FromExpr c ok k.x)) := by
  have hx : ∀ rest, (ok → (pExpr c f rest).errs = []) → ∀ (acc : List Column) (id : Ident) s,
      ∀ k ∈ acc ++ [Column.mk (some id) s (pExpr c f rest).val],
        k ∈ acc ∨ (k.name ≠ none ∧ (k.x = .nil ∨ FromExpr c ok k.x)) :=
    fun rest h _ _ _ => mem_snoc_or ⟨nofun, Or.inr ⟨f, rest, rfl, h⟩⟩
  have hnil : ∀ (acc : List Column) (id : Ident), ∀ k ∈ acc ++ [Column.mk (some id) .null .nil],
      k ∈ acc ∨ (k.name ≠ none ∧ (k.x = .nil ∨ FromExpr c ok k.x)) :=
    fun _ _ => mem_snoc_or ⟨nofun, Or.inl rfl⟩
  apply pProjectCols_induct (motive := fun _ acc _ r => (ok → r.errs = []) →
    ∀ k ∈ r.val, k ∈ acc ∨ (k.name ≠ none ∧ (k.x = .nil ∨ FromExpr c ok k.x)))
  case fuel => exact fun _ _ _ _ hk => Or.inl hk
  case noIdent => exact fun _ _ _ _ _ _ hk => Or.inl hk
  case bare => exact fun _ _ _ _ _ _ _ => hnil _ _
  case bareMore =>
    intro n acc t0 sep rest res _ _ ih h k hk
    exact (ih h k hk).elim (hnil _ _ k) Or.inr
  case namedErr =>
    rintro n acc t0 sep rest r _ _ rfl _ h
    exact hx rest (fun o => (mkOpaque_eq_nil _).1 (h o)) _ _ _
  case namedLast => rintro n acc t0 sep rest r _ _ rfl he _ _; exact hx rest (fun _ => he) _ _ _
  case namedJunk => rintro n acc t0 sep rest r sep2 rest2 _ _ rfl he _ _ _; exact hx rest (fun _ => he) _ _ _
  case namedMore =>
    rintro n acc t0 sep rest r sep2 rest2 res _ _ rfl he _ _ ih h k hk
    exact (ih h k hk).elim (hx rest (fun _ => he) _ _ _ k) Or.inr

theorem pSummarizeCols_from :
    ∀ (n : Nat) (acc : List Column) (cm : Option Span) (ts : List Token),
    (ok → (pSummarizeCols c f n acc cm ts).errs = []) →
      ∀ k ∈ (pSummarizeCols c f n acc cm ts).val.cols, k ∈ acc ∨ FromExpr c ok k.x := by
  apply pSummarizeCols_induct
    (motive := fun _ acc _ _ r => (ok → r.errs = []) → ∀ k ∈ r.val.cols, k ∈ acc ∨ FromExpr c ok k.x)
  case fuel => exact fun _ _ _ _ _ hk => Or.inl hk
  case none => exact fun _ _ _ _ _ _ _ _ _ hk => Or.inl hk
  case err =>
    rintro n acc cm ts r rfl _ _ h
    exact pNamedColumn_snoc ts fun o => (mkOpaque_eq_nil _).1 (h o)
  case eof => rintro n acc cm ts r rfl he _ _; exact pNamedColumn_snoc ts fun _ => he
  case stop => rintro n acc cm ts r t rest rfl he _ _ _; exact pNamedColumn_snoc ts fun _ => he
  case more =>
    rintro n acc cm ts r t rest res rfl he _ _ ih h k hk
    exact (ih h k hk).elim (pNamedColumn_snoc ts (fun _ => he) k) Or.inr

/-- a column loop that started with no columns: the alternative "was in the accumulator" of its
    `…_from` lemma drops out -/
theorem from_nil {P : Column → Prop} {cs : List Column} (h : ∀ k ∈ cs, k ∈ [] ∨ P k) :
    ∀ k ∈ cs, P k :=
  fun k hk => (h k hk).resolve_left List.not_mem_nil


/-- where the first loop of `summarize` hands over (`done = false`) it reported no error
    (`pSummarizeCols_errs`): its columns are error-free whatever the `by` clause reports -/
theorem pSummarize_from {pipe kw : Span} {ts : List Token} :
    (ok → (pSummarize c f pipe kw ts).errs = []) →
      ∃ p k cs b gs, (pSummarize c f pipe kw ts).val = .summarize p k cs b gs ∧
        (∀ k ∈ cs, FromExpr c ok k.x) ∧ ∀ k ∈ gs, FromExpr c ok k.x := by
  have hnil : ∀ k ∈ ([] : List Column), FromExpr c ok k.x := fun _ hk => nomatch hk
  have h1 : ∀ r1, pSummarizeCols c f (ts.length + 1) [] .none ts = r1 → (ok → r1.errs = []) →
      ∀ k ∈ r1.val.cols, FromExpr c ok k.x := by
    rintro _ rfl h; exact from_nil (pSummarizeCols_from _ _ _ _ h)
  have h2 : ∀ r1, pSummarizeCols c f (ts.length + 1) [] .none ts = r1 → r1.val.done = false →
      ∀ k ∈ r1.val.cols, FromExpr c ok k.x := by
    rintro _ rfl hd; exact h1 _ rfl fun _ => pSummarizeCols_errs c f _ _ _ _ hd
  apply pSummarize_cases (motive := fun r => (ok → r.errs = []) → ∃ p k cs b gs,
    r.val = .summarize p k cs b gs ∧ (∀ k ∈ cs, FromExpr c ok k.x) ∧ ∀ k ∈ gs, FromExpr c ok k.x)
  case done => exact fun r1 hr _ h => ⟨_, _, _, _, _, rfl, h1 r1 hr h, hnil⟩
  case noCols => exact fun r1 hr hd _ _ _ => ⟨_, _, _, _, _, rfl, h2 r1 hr hd, hnil⟩
  case dangling => exact fun r1 _ hr hd _ _ _ _ => ⟨_, _, _, _, _, rfl, h2 r1 hr hd, hnil⟩
  case plain => exact fun r1 hr hd _ _ _ _ => ⟨_, _, _, _, _, rfl, h2 r1 hr hd, hnil⟩
  case by_ =>
    rintro r1 sep rest r2 hr hd _ _ rfl h
    exact ⟨_, _, _, _, _, rfl, h2 r1 hr hd, from_nil (pGroupByCols_from _ _ _ h)⟩

theorem pRenderProp_from : ∀ ts p, (pRenderProp c f ts).val = some p →
    p.name ≠ none ∧ FromExpr c ok p.value := by
  apply pRenderProp_cases
    (motive := fun _ r => ∀ p, r.val = some p → p.name ≠ none ∧ FromExpr c ok p.value)
  case noIdent => exact fun _ _ _ h => nomatch h
  case noAssign => exact fun _ _ _ _ _ h => nomatch h
  case err => exact fun _ _ _ _ _ _ _ _ _ h => nomatch h
  case ok => rintro t0 t rest r _ _ rfl he p ⟨⟩; exact ⟨nofun, _, _, rfl, fun _ => he⟩

theorem pRenderProps_from : ∀ (n : Nat) (acc : List RenderProp) (ts : List Token),
    ∀ p ∈ (pRenderProps c f n acc ts).val.1, p ∈ acc ∨ (p.name ≠ none ∧ FromExpr c ok p.value) := by
  have hsnoc : ∀ (acc : List RenderProp) ts, ∀ p ∈ acc ++ (pRenderProp c f ts).val.toList,
      p ∈ acc ∨ (p.name ≠ none ∧ FromExpr c ok p.value) :=
    fun acc ts => mem_append_or fun p hp => pRenderProp_from ts p (Option.mem_toList.1 hp)
  apply pRenderProps_induct (motive := fun _ acc _ r =>
    ∀ p ∈ r.val.1, p ∈ acc ∨ (p.name ≠ none ∧ FromExpr c ok p.value))
  case fuel => exact fun _ _ _ hp => Or.inl hp
  case err => exact fun _ _ _ _ _ _ _ hp => Or.inl hp
  case junk => rintro n acc ts r rfl _ _; exact hsnoc acc ts
  case close => rintro n acc ts r t rest rfl _ _ _; exact hsnoc acc ts
  case more =>
    rintro n acc ts r t rest res rfl _ _ _ ih p hp
    exact (ih p hp).elim (hsnoc acc ts p) Or.inr

theorem pRender_isRender (c : PCtx) (fuel : Nat) (pipe kw : Span) : ∀ ts : List Token,
    ∃ p k ch w lp props rp, (pRender c fuel pipe kw ts).val = .render p k ch w lp props rp := by
  apply pRender_cases (motive := fun _ r => ∃ p k ch w lp props rp,
    r.val = .render p k ch w lp props rp) <;> intros <;> exact ⟨_, _, _, _, _, _, _, rfl⟩

theorem pRender_from (pipe kw : Span) : ∀ ts p k ch w lp props rp,
    (pRender c f pipe kw ts).val = .render p k ch w lp props rp →
      (∀ q ∈ props, q.name ≠ none ∧ FromExpr c ok q.value) ∧
      ((pRender c f pipe kw ts).errs = [] → ch ≠ none) ∧
      (lp = .null ∧ rp = .null ∨ ∃ t : Token, w = t.span) := by
  apply pRender_cases (motive := fun _ r => ∀ p k ch w lp props rp,
    r.val = .render p k ch w lp props rp →
      (∀ q ∈ props, q.name ≠ none ∧ FromExpr c ok q.value) ∧ (r.errs = [] → ch ≠ none) ∧
      (lp = .null ∧ rp = .null ∨ ∃ t : Token, w = t.span))
  case noIdent =>
    rintro _ _ _ _ _ _ _ _ _ ⟨⟩
    exact ⟨nofun, fun h => absurd h (errAt_ne_nil _), .inl ⟨rfl, rfl⟩⟩
  case plain => rintro _ _ _ _ _ _ _ _ _ _ _ ⟨⟩; exact ⟨nofun, fun _ => nofun, .inl ⟨rfl, rfl⟩⟩
  case noLp => rintro _ _ _ _ _ _ _ _ _ _ _ _ _ ⟨⟩; exact ⟨nofun, fun _ => nofun, .inl ⟨rfl, rfl⟩⟩
  case props =>
    rintro t0 t lp rest2 r _ _ _ rfl _ _ _ _ _ _ _ ⟨⟩
    exact ⟨fun q hq => (pRenderProps_from _ _ _ q hq).resolve_left List.not_mem_nil, fun _ => nofun,
      .inr ⟨t, rfl⟩⟩

theorem JoinHdr.flavor {hd : List Token} {kind ka : Span} {fl : Option Ident} {e0 : Errs}
    (h : JoinHdr hd kind ka fl e0) (he : e0 = []) : ∀ x, fl = some x → isJoinType x.name = true := by
  rcases h with ⟨-, -, -, rfl, -⟩ | ⟨t0, asg, flt, -, -, -, -, -, -, rfl, rfl⟩
  · exact nofun
  · rintro _ ⟨⟩
    by_cases hj : isJoinType flt.value = true
    · exact hj
    · rw [if_neg hj] at he; exact absurd he (errAt_ne_nil _)

end

structure TabAlg (ok : Prop) (E : Expr → Prop) (EL : ExprList → Prop) (T : Tabular → Prop)
    (O : Op → Prop) (OL : OpList → Prop) : Prop where
  tnil : ¬ok → T .nil
  tmk : ∀ (name : Ident) (ops : OpList), OL ops → T (.mk (some name) ops)
  onil : OL .nil
  snoc : ∀ (ops : OpList) (o : Op), OL ops → O o → OL (ops.snoc o)
  count : ∀ p k : Span, O (.count p k)
  where_ : ∀ (p k : Span) (e : Expr), E e → O (.where_ p k e)
  sort : ∀ (p k : Span) (ts : List SortTerm), (∀ t ∈ ts, E t.x) → O (.sort p k ts)
  take : ∀ (p k : Span) (n : Expr), E n → O (.take p k n)
  top : ∀ (p k : Span) (n : Expr) (b : Span) (col : Option SortTerm), E n →
    (∀ t, col = some t → E t.x) → (ok → col ≠ none) → O (.top p k n b col)
  project : ∀ (p k : Span) (cs : List Column),
    (∀ c ∈ cs, c.name ≠ none ∧ (c.x = .nil ∨ E c.x)) → O (.project p k cs)
  extend : ∀ (p k : Span) (cs : List Column), (∀ c ∈ cs, E c.x) → O (.extend p k cs)
  summarize : ∀ (p k : Span) (cs : List Column) (b : Span) (gs : List Column),
    (∀ c ∈ cs, E c.x) → (∀ c ∈ gs, E c.x) → O (.summarize p k cs b gs)
  join : ∀ (p k kind ka : Span) (fl : Option Ident) (lp : Span) (right : Tabular) (rp on : Span)
    (conds : ExprList), (ok → ∀ x, fl = some x → isJoinType x.name = true) → T right → EL conds →
    O (.join p k kind ka fl lp right rp on conds)
  as_ : ∀ (p k : Span) (n : Option Ident), (ok → n ≠ none) → O (.as_ p k n)
  render : ∀ (p k : Span) (ch : Option Ident) (w lp : Span) (props : List RenderProp) (rp : Span),
    (∀ q ∈ props, q.name ≠ none ∧ E q.value) → (ok → ch ≠ none) →
    (lp = .null ∧ rp = .null ∨ ∃ t : Token, w = t.span) → O (.render p k ch w lp props rp)

structure TabShape (ok : Prop) (T : Tabular → Prop) (O : Op → Prop) (OL : OpList → Prop)
    (c : PCtx) (fuel : Nat) : Prop where
  tabular : ∀ ts, (ok → (pTabular c fuel ts).errs = []) → T (pTabular c fuel ts).val
  ops : ∀ ops acc ts, (ok → (pOps c fuel ops acc ts).errs = []) →
    (ok → acc = []) ∧ (OL ops → OL (pOps c fuel ops acc ts).val)
  operator : ∀ pipe name ts r, pOperator c fuel pipe name ts = some r → (ok → r.errs = []) →
    O r.val
  join : ∀ pipe kw ts, (ok → (pJoin c fuel pipe kw ts).errs = []) → O (pJoin c fuel pipe kw ts).val

section
variable {ok : Prop} {E : Expr → Prop} {EL : ExprList → Prop} {T : Tabular → Prop} {O : Op → Prop}
  {OL : OpList → Prop} {c : PCtx} {fuel : Nat}

theorem not_ok {es : Errs} (h : ok → es = []) (hne : es ≠ []) : ¬ok := fun o => hne (h o)

theorem not_ok_app {a : Errs} {s : Span} (h : ok → a ++ errAt s = []) : ¬ok :=
  fun o => errAt_ne_nil s (List.append_eq_nil_iff.1 (h o)).2

theorem all_of_from_nil (hE : ∀ e, FromExpr c ok e → E e) {α : Type} {x : α → Expr} {l : List α}
    (h : ∀ k ∈ l, k ∈ [] ∨ FromExpr c ok (x k)) : ∀ k ∈ l, E (x k) :=
  fun k hk => hE _ ((h k hk).resolve_left List.not_mem_nil)

variable (A : TabAlg ok E EL T O OL)
include A

theorem tabShape_zero : TabShape ok T O OL c 0 where
  tabular := fun ts h => A.tnil (not_ok h errFuel_ne_nil)
  ops := fun ops acc ts h => ⟨fun o => (List.append_eq_nil_iff.1 (h o)).1, id⟩
  operator := by
    intro pipe name ts r h _
    simp only [pOperator, Option.some.injEq] at h
    subst h; exact A.count _ _
  join := fun pipe kw ts _ => A.count _ _

variable (ih : TabShape ok T O OL c fuel)
include ih

theorem tabShape_tabular :
    ∀ ts, (ok → (pTabular c (fuel + 1) ts).errs = []) → T (pTabular c (fuel + 1) ts).val := by
  apply pTabular_cases (motive := fun _ r => (ok → r.errs = []) → T r.val)
  case noIdent => intro ts _ h; exact A.tnil (not_ok h (nfAt_ne_nil _))
  case ops => rintro t0 rest r _ rfl h; exact A.tmk _ _ ((ih.ops _ _ _ h).2 A.onil)

theorem tabShape_ops (ops : OpList) (acc : Errs) (ts : List Token) :
    (ok → (pOps c (fuel + 1) ops acc ts).errs = []) →
      (ok → acc = []) ∧ (OL ops → OL (pOps c (fuel + 1) ops acc ts).val) := by
  refine pOps_cases (motive := fun r => (ok → r.errs = []) → (ok → acc = []) ∧ (OL ops → OL r.val))
    (fun h => ⟨h, id⟩) ?_ ?_
  · intro _ _ _ _ _ _ h
    have h1 := ih.ops _ _ _ h
    exact ⟨fun o => (List.append_eq_nil_iff.1 (h1.1 o)).1, h1.2⟩
  · intro pipeTok rest name opToks r _ _ _ _ hop h
    have h1 := ih.ops _ _ _ h
    have h2 : ok → acc = [] ∧ r.errs = [] := fun o => by
      have := h1.1 o
      simp only [List.append_eq_nil_iff] at this
      exact this.1
    exact ⟨fun o => (h2 o).1, fun ho =>
      h1.2 (A.snoc _ _ ho (ih.operator _ _ _ _ hop fun o => (h2 o).2))⟩

variable (hE : ∀ e, FromExpr c ok e → E e) (hL : ∀ l, FromList c ok l → EL l)
include hE

theorem tabShape_operator (pipe : Span) (name : Token) (ts : List Token) (r : PRes Op) :
    pOperator c (fuel + 1) pipe name ts = some r → (ok → r.errs = []) → O r.val := by
  have opq : ∀ {es : Errs}, (ok → mkOpaque es = []) → ok → es = [] :=
    fun h o => (mkOpaque_eq_nil _).1 (h o)
  refine pOperator_cases (motive := fun o => o = some r → (ok → r.errs = []) → O r.val)
    ?count ?where_ ?sortErr ?sort ?take ?topErr ?topNoBy ?top ?project ?extend ?summarize ?join ?as_
    ?render ?unknown
  case count => rintro _ ⟨⟩ _; exact A.count _ _
  case as_ => rintro _ _ rfl ⟨⟩ h; exact A.as_ _ _ _ fun o => pIdent_val_of_errs (opq h o)
  case where_ => rintro _ _ rfl ⟨⟩ h; exact A.where_ _ _ _ (hE _ ⟨_, _, rfl, opq h⟩)
  case sortErr => rintro _ _ ⟨⟩ _; exact A.sort _ _ _ fun _ ht => nomatch ht
  case sort =>
    rintro _ _ _ _ _ _ rfl ⟨⟩ h; exact A.sort _ _ _ (all_of_from_nil hE (pSortTerms_from _ _ _ h))
  case take => rintro _ _ rfl ⟨⟩ h; exact A.take _ _ _ (hE _ (pRowCount_from (opq h)))
  case topErr =>
    rintro _ _ rfl hne ⟨⟩ h
    exact A.top _ _ _ _ _ (hE _ (pRowCount_from (opq h))) nofun fun o => absurd (opq h o) hne
  case topNoBy =>
    rintro _ _ rfl he _ ⟨⟩ h
    exact A.top _ _ _ _ _ (hE _ (pRowCount_from fun _ => he)) nofun
      fun o => absurd (h o) (errAt_ne_nil _)
  case top =>
    rintro _ _ rfl he _ _ _ _ _ rfl ⟨⟩ h
    exact A.top _ _ _ _ _ (hE _ (pRowCount_from fun _ => he)) (fun t ht => hE _ (pSortTerm_from ht))
      fun o => pSortTerm_some (opq h o)
  case project =>
    rintro _ _ rfl ⟨⟩ h
    exact A.project _ _ _ fun k hk =>
      ((pProjectCols_from _ _ _ h k hk).resolve_left List.not_mem_nil).imp_right
        (Or.imp_right (hE _))
  case extend =>
    rintro _ _ rfl ⟨⟩ h; exact A.extend _ _ _ (all_of_from_nil hE (pExtendCols_from _ _ _ h))
  case summarize =>
    rintro _ ⟨⟩ h
    obtain ⟨p, k, cs, b, gs, hs, h1, h2⟩ := pSummarize_from h
    rw [hs]
    exact A.summarize _ _ _ _ _ (fun k hk => hE _ (h1 k hk)) (fun k hk => hE _ (h2 k hk))
  case join => rintro _ ⟨⟩; exact ih.join _ _ _
  case render =>
    rintro _ ⟨⟩ h
    obtain ⟨p, k, ch, w, lp, props, rp, hs⟩ := pRender_isRender c fuel pipe name.span ts
    have h1 := pRender_from (ok := ok) pipe name.span ts _ _ _ _ _ _ _ hs
    rw [hs]
    exact A.render _ _ _ _ _ _ _ (fun q hq => ⟨(h1.1 q hq).1, hE _ (h1.1 q hq).2⟩)
      (fun o => h1.2.1 (h o)) h1.2.2
  case unknown => exact nofun

omit hE in
include hL in
theorem tabShape_join (pipe kw : Span) (ts : List Token) :
    (ok → (pJoin c (fuel + 1) pipe kw ts).errs = []) → O (pJoin c (fuel + 1) pipe kw ts).val := by
  -- a join without condition list reports an error, so `ok` fails there
  have hnil : ¬ok → EL .nil := fun hn => hL _ ⟨0, [], by simp [pExprList], fun o => absurd o hn⟩
  have hno : ∀ {Q : Prop}, ¬ok → ok → Q := fun hn o => absurd o hn
  refine pJoin_cases (motive := fun r => (ok → r.errs = []) → O r.val) ?_ ?_ ?_ ?_
  · intro _ _ _ _ _ _ _ h
    have hn : ¬ok := fun o => errAt_ne_nil _ (h o)
    exact A.join _ _ _ _ _ _ _ _ _ _ (fun _ => nofun) (A.tnil hn) (hnil hn)
  · intro hd kind ka fl e0 _ post _ _ h
    exact A.join _ _ _ _ _ _ _ _ _ _ (hno (not_ok_app h)) (A.tnil (not_ok_app h))
      (hnil (not_ok_app h))
  · rintro hd kind ka fl e0 _ lp rest1 _ _ rr rfl rp post _ h
    exact A.join _ _ _ _ _ _ _ _ _ _ (hno (not_ok_app h)) (ih.tabular _ (hno (not_ok_app h)))
      (hnil (not_ok_app h))
  · rintro hd kind ka fl e0 hh lp rest1 _ _ rp on rest3 _ _ _ rr rfl rc rfl h
    simp only [List.append_eq_nil_iff, mkOpaque_eq_nil] at h
    exact A.join _ _ _ _ _ _ _ _ _ _ (fun o => hh.flavor (h o).1.1.1)
      (ih.tabular _ fun o => (h o).1.1.2) (hL _ ⟨_, _, rfl, fun o => (h o).2⟩)

omit ih in
include hL in
theorem tabShape : ∀ fuel, TabShape ok T O OL c fuel
  | 0 => tabShape_zero A
  | fuel + 1 =>
    have ih := tabShape fuel
    { tabular := tabShape_tabular A ih
      ops := tabShape_ops A ih
      operator := tabShape_operator A ih hE
      join := tabShape_join A ih hL }

end

theorem tabShapeOk {E : Expr → Prop} {EL : ExprList → Prop} {T : Tabular → Prop} {O : Op → Prop}
    {OL : OpList → Prop} (A : TabAlg True E EL T O OL)
    (hE : ∀ (c : PCtx) (fuel : Nat) (ts : List Token),
      (pExpr c fuel ts).errs = [] → E (pExpr c fuel ts).val)
    (hL : ∀ (c : PCtx) (fuel : Nat) (ts : List Token),
      (pExprList c fuel ts).errs = [] → EL (pExprList c fuel ts).val)
    (c : PCtx) (fuel : Nat) : TabShape True T O OL c fuel :=
  tabShape A (fun _ ⟨f, ts, he, h⟩ => he ▸ hE c f ts (h trivial))
    (fun _ ⟨f, ts, he, h⟩ => he ▸ hL c f ts (h trivial)) fuel

end Pql
