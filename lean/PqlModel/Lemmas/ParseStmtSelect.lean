/-
C05, syntactic half, stage 2: the reference statement parser `pSelect` cut into its clauses
(`joinPart`, `exprClause` for WHERE / LIMIT, `listClause` for GROUP BY / ORDER BY, `pItem`), the token table of the fixed
texts `Subquery.write` / `writeCtes` emit, and the classification of the clause keywords.
-/
import PqlModel.Lemmas.ParseStmtDefs
import PqlModel.Lemmas.ParseStmtFuel
namespace Pql.C05
set_option linter.unusedSimpArgs false
open Pql Sql CompileOracle Intended Pql.RT

def joinPart (r3 : List STok) : PR (Option JoinClause) :=
  match r3 with
  | j :: r4 =>
    let (left, afterKw) : Bool × Option (List STok) :=
      if isWord j "JOIN" then (false, some r4)
      else if isWord j "LEFT" then
        match r4 with
        | j2 :: r5 => if isWord j2 "JOIN" then (true, some r5) else (true, none)
        | [] => (true, none)
      else (false, none)
    match afterKw with
    | some r5 =>
      match pTableRef r5 with
      | some (tr, r6) =>
        match r6 with
        | on :: r7 =>
          if !isWord on "ON" then none else
          match pExprS (fuelOf r7) 0 r7 with
          | some (c, r8) => some (some ⟨left, tr, c⟩, r8)
          | none => none
        | [] => none
      | none => none
    | none => if isWord j "LEFT" then none else some (none, r3)
  | [] => some (none, [])

/-- an optional clause `KW expr` (`WHERE`, `LIMIT`) -/
def exprClause (kw : String) (r : List STok) : PR (Option SExpr) :=
  match r with
  | w :: r' =>
    if isWord w kw then (pExprS (fuelOf r') 0 r').map fun rr => (some rr.1, rr.2) else some (none, r)
  | [] => some (none, [])

/-- an optional clause `KW BY item, …` (`GROUP BY`, `ORDER BY`) -/
def listClause {α : Type} (kw : String) (loop : Nat → List STok → PR (List α)) (r : List STok) : PR (List α) :=
  match r with
  | g :: b :: r' => if isWord g kw && isWord b "BY" then loop (r'.length + 1) r' else some ([], r)
  | _ => some ([], r)

abbrev wherePart : List STok → PR (Option SExpr) := exprClause "WHERE"
abbrev groupPart : List STok → PR (List SExpr) := listClause "GROUP" pExprsComma
abbrev orderPart : List STok → PR (List OrderTerm) := listClause "ORDER" pOrderTerms
abbrev limitPart : List STok → PR (Option SExpr) := exprClause "LIMIT"

/-- `pSelect` (Spec/Sql/Parse) with its five inline clause readers called by the names above; equal by `rfl`
    (`pSelect_eq`), so that a proof can rewrite one clause at a time -/
def pSelect' (ts : List STok) : PR Select :=
  match ts with
  | s :: rest =>
    if !isWord s "SELECT" then none else
    match pItems (rest.length + 1) rest with
    | some (items, r1) =>
      match r1 with
      | f :: r2 =>
        if !isWord f "FROM" then none else
        match pTableRef r2 with
        | some (src, r3) =>
          match joinPart r3 with
          | some (jn, r4) =>
            match wherePart r4 with
            | some (wh, r5) =>
              match groupPart r5 with
              | some (gb, r6) =>
                match orderPart r6 with
                | some (ob, r7) =>
                  match limitPart r7 with
                  | some (lim, r8) => some ({ items, source := src, join := jn, where_ := wh, groupBy := gb, orderBy := ob, limit := lim }, r8)
                  | none => none
                | none => none
              | none => none
            | none => none
          | none => none
        | none => none
      | [] => none
    | none => none
  | [] => none

theorem pSelect_eq (ts : List STok) : pSelect ts = pSelect' ts := rfl

def pItem (ts : List STok) : PR SelectItem :=
  match ts with
  | st :: rest =>
    if isSym st "*" then some (⟨true, .none_, none⟩, rest)
    else
      match pExprS (fuelOf ts) 0 ts with
      | some (e, r) => let a := pAlias r; some (⟨false, e, a.1⟩, a.2)
      | none => none
  | [] => none

theorem pItems_succ (fuel : Nat) (ts : List STok) :
    pItems (fuel + 1) ts =
      match pItem ts with
      | some (it, r) =>
        match r with
        | cm :: r2 => if isSym cm "," then (pItems fuel r2).map fun rr => (it :: rr.1, rr.2) else some ([it], r)
        | [] => some ([it], [])
      | none => none := rfl

@[simp] theorem tt_select_star_from : txtToks "SELECT * FROM " = [RT.W "SELECT", S "*", RT.W "FROM"] := by decide +kernel
@[simp] theorem tt_select : txtToks "SELECT " = [RT.W "SELECT"] := by decide +kernel
@[simp] theorem tt_as : txtToks " AS " = [RT.W "AS"] := by decide +kernel
@[simp] theorem tt_from : txtToks " FROM " = [RT.W "FROM"] := by decide +kernel
@[simp] theorem tt_select_star : txtToks "SELECT *" = [RT.W "SELECT", S "*"] := by decide +kernel
@[simp] theorem tt_group_by : txtToks " GROUP BY " = [RT.W "GROUP", RT.W "BY"] := by decide +kernel
@[simp] theorem tt_where : txtToks " WHERE " = [RT.W "WHERE"] := by decide +kernel
@[simp] theorem tt_count_sel : txtToks "SELECT COUNT(*) AS \"count()\" FROM " =
    [RT.W "SELECT", RT.W "COUNT", S "(", S "*", S ")", RT.W "AS", .qid (Bytes.ofString "count()"), RT.W "FROM"] := by decide +kernel
@[simp] theorem tt_render_head : txtToks "SELECT *,\n" = [RT.W "SELECT", S "*", S ","] := by decide +kernel
@[simp] theorem tt_indent : txtToks "    " = [] := by decide +kernel
@[simp] theorem tt_render_type : txtToks " as \"render_type\"" = [RT.W "as", .qid (Bytes.ofString "render_type")] := by decide +kernel
@[simp] theorem tt_render_sep : txtToks ",\n    " = [S ","] := by decide +kernel
@[simp] theorem tt_as_lower : txtToks " as " = [RT.W "as"] := by decide +kernel
@[simp] theorem tt_nl_from : txtToks "\nFROM " = [RT.W "FROM"] := by decide +kernel
@[simp] theorem tt_order_by : txtToks " ORDER BY " = [RT.W "ORDER", RT.W "BY"] := by decide +kernel
@[simp] theorem tt_asc : txtToks " ASC" = [RT.W "ASC"] := by decide +kernel
@[simp] theorem tt_desc : txtToks " DESC" = [RT.W "DESC"] := by decide +kernel
@[simp] theorem tt_nulls_first : txtToks " NULLS FIRST" = [RT.W "NULLS", RT.W "FIRST"] := by decide +kernel
@[simp] theorem tt_nulls_last : txtToks " NULLS LAST" = [RT.W "NULLS", RT.W "LAST"] := by decide +kernel
@[simp] theorem tt_limit : txtToks " LIMIT " = [RT.W "LIMIT"] := by decide +kernel
@[simp] theorem tt_distinct_open : txtToks "(SELECT DISTINCT * FROM " = [S "(", RT.W "SELECT", RT.W "DISTINCT", S "*", RT.W "FROM"] := by decide +kernel
@[simp] theorem tt_as_left : txtToks (" AS \"" ++ Facts.leftJoinTableAlias ++ "\"") = [RT.W "AS", .qid (Bytes.ofString "$left")] := by decide +kernel
@[simp] theorem tt_as_right_on : txtToks (" AS \"" ++ Facts.rightJoinTableAlias ++ "\" ON ") = [RT.W "AS", .qid (Bytes.ofString "$right"), RT.W "ON"] := by decide +kernel
@[simp] theorem tt_join : txtToks " JOIN " = [RT.W "JOIN"] := by decide +kernel
@[simp] theorem tt_left_join : txtToks " LEFT JOIN " = [RT.W "LEFT", RT.W "JOIN"] := by decide +kernel
@[simp] theorem tt_as_open : txtToks " AS (" = [RT.W "AS", S "("] := by decide +kernel
@[simp] theorem tt_nl : txtToks "\n" = [] := by decide +kernel
@[simp] theorem tt_cte_sep : txtToks ",\n     " = [S ","] := by decide +kernel
@[simp] theorem tt_with : txtToks "WITH " = [RT.W "WITH"] := by decide +kernel
@[simp] theorem tt_semi : txtToks ";" = [S ";"] := by decide +kernel

@[simp] theorem up_SELECT : upper (Bytes.ofString "SELECT") = "SELECT" := by rw [upper_eq]; decide +kernel
@[simp] theorem up_FROM : upper (Bytes.ofString "FROM") = "FROM" := by rw [upper_eq]; decide +kernel
@[simp] theorem up_AS : upper (Bytes.ofString "AS") = "AS" := by rw [upper_eq]; decide +kernel
@[simp] theorem up_as : upper (Bytes.ofString "as") = "AS" := by rw [upper_eq]; decide +kernel
@[simp] theorem up_GROUP : upper (Bytes.ofString "GROUP") = "GROUP" := by rw [upper_eq]; decide +kernel
@[simp] theorem up_BY : upper (Bytes.ofString "BY") = "BY" := by rw [upper_eq]; decide +kernel
@[simp] theorem up_ORDER : upper (Bytes.ofString "ORDER") = "ORDER" := by rw [upper_eq]; decide +kernel
@[simp] theorem up_LIMIT : upper (Bytes.ofString "LIMIT") = "LIMIT" := by rw [upper_eq]; decide +kernel
@[simp] theorem up_ASC : upper (Bytes.ofString "ASC") = "ASC" := by rw [upper_eq]; decide +kernel
@[simp] theorem up_DESC : upper (Bytes.ofString "DESC") = "DESC" := by rw [upper_eq]; decide +kernel
@[simp] theorem up_NULLS : upper (Bytes.ofString "NULLS") = "NULLS" := by rw [upper_eq]; decide +kernel
@[simp] theorem up_FIRST : upper (Bytes.ofString "FIRST") = "FIRST" := by rw [upper_eq]; decide +kernel
@[simp] theorem up_LAST : upper (Bytes.ofString "LAST") = "LAST" := by rw [upper_eq]; decide +kernel
@[simp] theorem up_DISTINCT : upper (Bytes.ofString "DISTINCT") = "DISTINCT" := by rw [upper_eq]; decide +kernel
@[simp] theorem up_JOIN : upper (Bytes.ofString "JOIN") = "JOIN" := by rw [upper_eq]; decide +kernel
@[simp] theorem up_LEFT : upper (Bytes.ofString "LEFT") = "LEFT" := by rw [upper_eq]; decide +kernel
@[simp] theorem up_ON : upper (Bytes.ofString "ON") = "ON" := by rw [upper_eq]; decide +kernel
@[simp] theorem up_WITH : upper (Bytes.ofString "WITH") = "WITH" := by rw [upper_eq]; decide +kernel
@[simp] theorem up_COUNT : upper (Bytes.ofString "COUNT") = "COUNT" := by rw [upper_eq]; decide +kernel

theorem pSelect_build {L r2 r3 r4 r5 r6 r7 r8 : List STok} {items : List SelectItem} {src : TableRef}
    {jn : Option JoinClause} {wh : Option SExpr} {gb : List SExpr} {ob : List OrderTerm} {lim : Option SExpr}
    (h1 : pItems (L.length + 1) L = some (items, RT.W "FROM" :: r2))
    (h2 : pTableRef r2 = some (src, r3))
    (h3 : joinPart r3 = some (jn, r4))
    (h4 : wherePart r4 = some (wh, r5))
    (h5 : groupPart r5 = some (gb, r6))
    (h6 : orderPart r6 = some (ob, r7))
    (h7 : limitPart r7 = some (lim, r8)) :
    pSelect (RT.W "SELECT" :: L) =
      some ({ items, source := src, join := jn, where_ := wh, groupBy := gb, orderBy := ob, limit := lim }, r8) := by
  rw [pSelect_eq]
  simp [pSelect', h1, h2, h3, h4, h5, h6, h7]

def endTok (ks : List String) (t : STok) : Bool :=
  stopTok t && !isSym t "," && ks.all fun k => !isWord t k

theorem endTok_stop {ks : List String} {r : List STok} (h : Ends (endTok ks) r) : Ends stopTok r :=
  h.mono fun t ht => by simp only [endTok, Bool.and_eq_true] at ht; exact ht.1.1

theorem endTok_comma {ks : List String} {t : STok} (h : endTok ks t = true) : isSym t "," = false := by
  simp only [endTok, Bool.and_eq_true, Bool.not_eq_true'] at h; exact h.1.2

theorem endTok_noComma {ks : List String} {r : List STok} (h : Ends (endTok ks) r) : Ends (fun t => !isSym t ",") r :=
  h.mono fun t ht => by rw [endTok_comma ht]; rfl

theorem endTok_word {ks : List String} {t : STok} (h : endTok ks t = true) {k : String} (hk : k ∈ ks) :
    isWord t k = false := by
  simp only [endTok, Bool.and_eq_true, List.all_eq_true, Bool.not_eq_true'] at h
  exact h.2 k hk

theorem endTok_mono {ks ks' : List String} (hs : ∀ k ∈ ks', k ∈ ks) {r : List STok} (h : Ends (endTok ks) r) :
    Ends (endTok ks') r :=
  h.mono fun t ht => by
    simp only [endTok, Bool.and_eq_true, List.all_eq_true] at ht ⊢
    exact ⟨ht.1, fun k hk => ht.2 k (hs k hk)⟩

/-- all clause keywords that can follow the source of a SELECT -/
def allKws : List String := ["AS", "JOIN", "LEFT", "WHERE", "GROUP", "ORDER", "LIMIT"]

def Closer (rest : List STok) : Prop := ∃ tl, rest = S ")" :: tl ∨ rest = S ";" :: tl

theorem Closer.ends {rest : List STok} (h : Closer rest) : Ends (endTok allKws) rest := by
  obtain ⟨tl, rfl | rfl⟩ := h
  · exact (by decide : endTok allKws (S ")") = true)
  · exact (by decide : endTok allKws (S ";") = true)

theorem stop_kw {w : Bytes} (h : upper w ∈ C01.clauseWords) : stopTok (.word w) = true :=
  C01.Stops.clauseWord h []

end Pql.C05
