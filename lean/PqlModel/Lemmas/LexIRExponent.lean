/-
`(*scanner).numberExponent` as translated: the digit loop, and the whole function (the named result `found`, the `defer`
that restores the cursor) against the model's `exponentLen`.
-/
import PqlModel.Lemmas.LexIRCursor
namespace Pql.LexIR
open Pql
set_option linter.unusedSimpArgs false

/-- `s.numberExponent()` at offset `k`: reports whether there is an exponent and leaves the cursor
    after it (where it was, if there is none) -/
def SpecExponent (fuel : Nat) (f : Fn) : Prop := ∀ (pre s : Bytes) (k l : Nat), k ≤ s.length → s.length < fuel →
  ∃ l', f [.scanner] (hp pre s k l) =
    .ok ([.bool (exponentLen (s.drop k) != 0)], hp pre s (k + exponentLen (s.drop k)) l')

variable {lib : Lib} {env : Env} {fuel : Nat}

/-- the variables of `numberExponent` after the first `c, ok := s.next()`; the loop overwrites `c` and `ok` before it
    reads them, so they may hold anything -/
abbrev expVars (p0 : Nat) (c ok : Val) : List (String × Val) :=
  [("ok", ok), ("c", c), ("start", .int p0), ("found", .bool false), ("s", .scanner)]

/-- **the digit loop of the exponent**: one pass run once on what `next()` returns, the rest of the loop a variable -/
theorem exp_loop (E : CursorEnv lib env) (pre s : Bytes) (p0 : Nat) :
    ∀ (n k : Nat) (c ok : Val) (l : Nat), k ≤ s.length → s.length - k < n →
      ∃ c' ok' l', foreverLoop (execBlock env fuel expLoopBody) n ⟨expVars p0 c ok, hp pre s k l, [expDefer]⟩ =
        .ok (.ret [.bool true], ⟨expVars p0 c' ok', hp pre s (k + digitsLen (s.drop k)) l', [expDefer]⟩) := by
  intro n
  induction n with
  | zero => intro k c ok l _ h; omega
  | succ n ih =>
    intro k c ok l hk hn
    obtain ⟨fN, hN, sN⟩ := E.next
    obtain ⟨fP, hP, sP⟩ := E.prev
    -- `prev()` as `SpecPrev` has it: where it puts the cursor back to is known only in the case analysis (`hat`)
    have sP : ∀ h, fP [.scanner] h = .ok ([], { h with pos := h.last }) := sP
    obtain ⟨fD, hD, sD⟩ := E.digit
    obtain ⟨r, ok1, k1, l1, nx, hk1, hk1', hend, hat⟩ := next_any sN pre s k l hk
    rw [foreverLoop_succ]
    generalize foreverLoop (execBlock env fuel expLoopBody) n = loop at ih ⊢
    unfold expLoopBody
    lx_simp [hN, hP, hD, sD, nx, sP]
    cases hd : s.drop k with
    | nil =>
      obtain ⟨rfl, rfl, rfl⟩ := hend hd
      exact ⟨_, _, _, rfl⟩
    | cons c1 rest =>
      obtain ⟨rfl, rfl, hlt, hw, _, hdg, _⟩ := hat c1 rest hd
      rw [if_neg nofun, hdg]
      cases hdig : isDigit c1 with
      | true =>
        obtain rfl := hw (isDigit_lt c1 hdig)
        obtain ⟨c', ok', l', e⟩ := ih (k + 1) (.int r) (.bool true) (pre.length + k) (by omega) (by omega)
        rw [if_neg nofun, e, drop_succ_of_cons hd]
        exact ⟨c', ok', l', by simp [digitsLen, hdig, Nat.add_assoc, Nat.add_comm 1]⟩
      | false =>
        rw [if_pos rfl, show digitsLen (c1 :: rest) = 0 by simp [digitsLen, hdig]]
        exact ⟨_, _, _, rfl⟩

/-- **`numberExponent` is the model's `exponentLen`** (with the cursor restored by the deferred closure when
    there is no exponent).  The whole function is run once: what the three `next()` return are variables, the digit loop
    is given at the two cursors it can start from; the leaves are `return false` after the deferred closure, and the loop. -/
theorem numberExponent_spec (lib : Lib) (env : Env) (fuel : Nat) (E : CursorEnv lib env) :
    SpecExponent fuel (interpFn env fuel numberExponentDecl) := by
  intro pre s k l hk hfuel
  obtain ⟨fN, hN, sN⟩ := E.next
  obtain ⟨fS, hS, sS⟩ := E.setPos
  obtain ⟨fD, hD, sD⟩ := E.digit
  obtain ⟨r1, ok1, k1, l1, nx1, hk1, hk1', hend1, hat1⟩ := next_any sN pre s k l hk
  obtain ⟨r2, ok2, k2, l2, nx2, hk2, hk2', hend2, hat2⟩ := next_any sN pre s k1 l1 hk1'
  obtain ⟨r3, ok3, k3, l3, nx3, hk3, hk3', hend3, hat3⟩ := next_any sN pre s k2 l2 hk2'
  obtain ⟨c2', ok2', l2', lp2⟩ := exp_loop (fuel := fuel) E pre s (pre.length + k) fuel k2 (.int r2) (.bool ok2) l2 hk2' (by omega)
  obtain ⟨c3', ok3', l3', lp3⟩ := exp_loop (fuel := fuel) E pre s (pre.length + k) fuel k3 (.int r3) (.bool ok3) l3 hk3' (by omega)
  unfold expDefer at lp2 lp3
  unfold numberExponentDecl expRest
  lx_simp [hN, hS, hD, sD, nx1, nx2, nx3, lp2, lp3, expDefer, setPos_hp sS pre s k]
  clear nx1 nx2 nx3 lp2 lp3
  cases hd : s.drop k with
  | nil =>
    obtain ⟨rfl, _, _⟩ := hend1 hd
    exact ⟨_, rfl⟩
  | cons e rest1 =>
    obtain ⟨rfl, rfl, _, hw1, hq1, _, _⟩ := hat1 e rest1 hd
    have hr1 := drop_succ_of_cons hd
    rw [if_neg nofun]
    by_cases he : e = 101 ∨ e = 69
    · obtain rfl := hw1 (by rcases he with rfl | rfl <;> decide)
      have he' : (e == 101 || e == 69) = true := by rcases he with rfl | rfl <;> rfl
      rw [if_neg fun h => he.elim (h.1 ∘ (hq1 101 (by omega)).mpr) (h.2 ∘ (hq1 69 (by omega)).mpr)]
      cases rest1 with
      | nil =>
        obtain ⟨rfl, _, _⟩ := hend2 hr1
        exact ⟨_, rfl⟩
      | cons c rest2 =>
        obtain ⟨rfl, rfl, _, hw2, hq2, hdg2, _⟩ := hat2 c rest2 hr1
        have hr2 := drop_succ_of_cons hr1
        rw [if_neg nofun, hdg2]
        by_cases hc : c = 43 ∨ c = 45
        · obtain rfl := hw2 (by rcases hc with rfl | rfl <;> decide)
          have hc' : (c == 43 || c == 45) = true := by rcases hc with rfl | rfl <;> rfl
          rw [if_pos (hc.imp (hq2 43 (by omega)).mpr (hq2 45 (by omega)).mpr)]
          cases rest2 with
          | nil =>
            obtain ⟨rfl, _, _⟩ := hend3 hr2
            rw [show exponentLen [e, c] = 0 by simp [exponentLen, he', hc']]
            exact ⟨_, rfl⟩
          | cons d rest3 =>
            obtain ⟨rfl, rfl, _, hw3, _, hdg3, _⟩ := hat3 d rest3 hr2
            rw [if_neg nofun, hdg3, show exponentLen (e :: c :: d :: rest3) = if isDigit d then digitsLen rest3 + 3 else 0 by
              simp [exponentLen, he', hc']]
            cases hdig : isDigit d with
            | false => exact ⟨_, rfl⟩
            | true =>
              obtain rfl := hw3 (isDigit_lt d hdig)
              rw [if_neg nofun, drop_succ_of_cons hr2, show k + 1 + 1 + 1 + digitsLen rest3 = k + (digitsLen rest3 + 3) by omega]
              exact ⟨_, rfl⟩
        · have c1 : ¬ c = 43 := fun h => hc (Or.inl h)
          have c2 : ¬ c = 45 := fun h => hc (Or.inr h)
          rw [if_neg fun h => hc (h.imp (hq2 43 (by omega)).mp (hq2 45 (by omega)).mp),
            show exponentLen (e :: c :: rest2) = if isDigit c then digitsLen rest2 + 2 else 0 by simp [exponentLen, he', c1, c2]]
          cases hdig : isDigit c with
          | false => exact ⟨_, rfl⟩
          | true =>
            obtain rfl := hw2 (isDigit_lt c hdig)
            rw [if_neg nofun, hr2, show k + 1 + 1 + digitsLen rest2 = k + (digitsLen rest2 + 2) by omega]
            exact ⟨_, rfl⟩
    · have g1 : ¬ e = 101 := fun h => he (Or.inl h)
      have g2 : ¬ e = 69 := fun h => he (Or.inr h)
      rw [if_pos ⟨g1 ∘ (hq1 101 (by omega)).mp, g2 ∘ (hq1 69 (by omega)).mp⟩,
        show exponentLen (e :: rest1) = 0 by cases rest1 <;> simp [exponentLen, g1, g2]]
      exact ⟨_, rfl⟩

end Pql.LexIR
