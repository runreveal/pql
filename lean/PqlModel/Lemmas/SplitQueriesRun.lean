/-
`splitQueries` / `splitOps` as a relation.

The loop unfolded once, for every outcome: an operator other than `join` is one step `place`
(`splitOps_step`), a `join` runs its right-hand pipeline and adds the subquery `joinSub`
(`splitOps_join`), `splitQueries` on a pipeline is the loop followed by `closeBlock`
(`splitQueries_mk`).

`Run src scope source dstStart dst ops out` lists, operator by operator, what a *successful* run of the
operator loop `splitOps src scope source dstStart dst ops = .ok out` does to the list of
subqueries.  It is extracted from the model once (`splitOps_run`, `splitQueries_run`, by mutual
structural induction over `Tabular` / `OpList`, so for every length and nesting); all
invariants of the C02 / C05 split properties are then ordinary inductions over `Run`.
-/
import PqlModel.Spec.Rel
import PqlModel.Lemmas.JoinCondition
namespace Pql.C02
open Pql

theorem setLast_append_singleton (dst : List Subquery) (s : Subquery) (f : Subquery → Subquery) :
    setLast (dst ++ [s]) f = dst ++ [f s] := by
  simp [setLast]

theorem setLast_setLast (d : List Subquery) (f g : Subquery → Subquery) :
    setLast (setLast d f) g = setLast d (fun s => g (f s)) := by
  rcases List.eq_nil_or_concat d with rfl | ⟨init, l, rfl⟩
  · rfl
  · simp only [List.concat_eq_append, setLast_append_singleton]

theorem lastOf_append_singleton (dst : List Subquery) (s : Subquery) (k : Nat) (h : k ≤ dst.length) :
    lastOf (dst ++ [s]) k = some s := by
  simp [lastOf]; omega

end Pql.C02

namespace Pql.C05
open Pql

def uniqueOf (flavor : Option Ident) : Bool := JoinSem.kindOf flavor == Bytes.ofString "innerunique"

/-- `some false`: JOIN, `some true`: LEFT JOIN, `none`: unknown join kind -/
def leftOf (flavor : Option Ident) : Option Bool :=
  if JoinSem.kindOf flavor == Bytes.ofString "inner" || uniqueOf flavor then some false
  else if JoinSem.kindOf flavor == Bytes.ofString "leftouter" then some true
  else none

def joinKwOf (left : Bool) : String := if left then " LEFT JOIN " else " JOIN "

end Pql.C05

namespace Pql.SplitQ
open Pql

/-- the end of `splitQueries`: a pipeline without operators still gets its `SELECT *` -/
def closeBlock (mid : List Subquery) (dstStart : Nat) (source : Option Ident) : List Subquery :=
  if mid.length = dstStart then mid ++ [chainSubquery mid dstStart source] else mid

/-- left side of a join: the subquery in front of the right-hand block (index `n - 1` where `n`
    is the length of the list before the right-hand side was split), or the base table -/
def joinLeft (source : Option Ident) (dstStart n : Nat) (dst' : List Subquery) : List Chunk :=
  if ((n : Int) - 1) ≥ (dstStart : Int) then
    match dst'[((n : Int) - 1).toNat]? with
    | some s => [.qid s.name]
    | none => []
  else [.qid (identName source)]

def joinRight (dst' : List Subquery) : Bytes :=
  match dst'.getLast? with | some s => s.name | none => []

def joinSourceOf (unique : Bool) (kw : String) (left : List Chunk) (right : Bytes) (cond : List Chunk) :
    List Chunk :=
  (if unique then [.txt "(SELECT DISTINCT * FROM "] else []) ++ left ++
  (if unique then [.txt ")"] else []) ++
  [.txt (" AS \"" ++ Facts.leftJoinTableAlias ++ "\""), .txt kw, .qid right,
   .txt (" AS \"" ++ Facts.rightJoinTableAlias ++ "\" ON ")] ++ cond

def store : Op → Subquery → Subquery
  | .sort _ _ terms, s => { s with sort := some terms }
  | .take _ _ n, s => { s with take := some n }
  | .top _ _ n _ (some c), s => { s with sort := some [c], take := some n }
  | .as_ p k name, s => { s with name := identName name, op := some (.as_ p k name) }
  | o, s => { s with op := some o }

def attaches : Op → Subquery → Bool
  | .sort .., l | .top _ _ _ _ (some _), l => canAttachSort l.op && l.sort.isNone && l.take.isNone
  | .take .., l => canAttachSort l.op && l.take.isNone
  | _, _ => false

def steps : Op → Bool
  | .join .. | .top _ _ _ _ none => false
  | _ => true

/-- one step of the loop for an operator with `steps o`: `o` goes into the last subquery of the
    pipeline when that lets it, else into a fresh chained subquery -/
def place (source : Option Ident) (dstStart : Nat) (o : Op) (dst : List Subquery) : List Subquery :=
  setLast
    (if (match lastOf dst dstStart with | some l => attaches o l | none => false) = true then dst
      else dst ++ [chainSubquery dst dstStart source]) (store o)

/-- one successful run of the operator loop: every operator is stored in a fresh subquery chained
    behind the list (`chain`) or in the last subquery of the pipeline (`attach`); a join first
    runs the loop of its right-hand pipeline.  `hk` of `attach` says that the last subquery `l` is one
    of this pipeline's own (`lastOf dst dstStart` is `none` unless `dst` is longer than `dstStart`): the
    loop never stores into a subquery of an enclosing pipeline.  `join` records where the join subquery
    goes, what it reads, that `kw` is one of the two join keywords and that `cond` is the written
    condition; which flavor gave which keyword and `unique` is forgotten -/
inductive Run (src : Bytes) (scope : List (Bytes × List Chunk)) :
    Option Ident → Nat → List Subquery → OpList → List Subquery → Prop
  | nil {source dstStart dst} : Run src scope source dstStart dst .nil dst
  | chain {source dstStart dst rest out} (o : Op) (ho : steps o = true) :
      Run src scope source dstStart (dst ++ [store o (chainSubquery dst dstStart source)]) rest out →
      Run src scope source dstStart dst (.cons o rest) out
  | attach {source dstStart rest out} (o : Op) (init : List Subquery) (l : Subquery)
      (hk : dstStart ≤ init.length) (ha : attaches o l = true) :
      Run src scope source dstStart (init ++ [store o l]) rest out →
      Run src scope source dstStart (init ++ [l]) (.cons o rest) out
  | join {source dstStart dst rest out} (p k kind ka : Span) (flavor : Option Ident) (lp : Span)
      (rsource : Option Ident) (rops : OpList) (rp on : Span) (conds : ExprList)
      (unique : Bool) (kw : String) (cond : List Chunk) (mid dst' : List Subquery)
      (hkw : kw = " JOIN " ∨ kw = " LEFT JOIN ")
      (hcond : writeExpr ⟨src, scope, .join⟩ (buildJoinCondition conds) = .ok cond) :
      Run src scope rsource dst.length dst rops mid →
      dst' = closeBlock mid dst.length rsource →
      Run src scope source dstStart
        (dst' ++ [{ name := subqueryName dst'.length,
                    source := joinSourceOf unique kw (joinLeft source dstStart dst.length dst')
                      (joinRight dst') cond }]) rest out →
      Run src scope source dstStart dst (.cons (.join p k kind ka flavor lp (.mk rsource rops) rp on conds) rest) out

theorem store_source (o : Op) (s : Subquery) : (store o s).source = s.source := by
  unfold store; split <;> rfl

theorem store_of_attaches {o : Op} {l : Subquery} (h : attaches o l = true) :
    (store o l).name = l.name ∧ (store o l).op = l.op ∧ canAttachSort l.op = true := by
  cases o with
  | sort | take => simp only [attaches, Bool.and_eq_true] at h; simp [store, h]
  | top p k n b col =>
    cases col with
    | none => cases h
    | some c => simp only [attaches, Bool.and_eq_true] at h; simp [store, h]
  | _ => cases h

theorem steps_of_attaches {o : Op} {l : Subquery} (h : attaches o l = true) : steps o = true := by
  cases o with
  | top p k n b col => cases col <;> first | rfl | cases h
  | _ => first | rfl | cases h

theorem lastOf_eq_some {dst : List Subquery} {dstStart : Nat} {l : Subquery}
    (h : lastOf dst dstStart = some l) : ∃ init, dst = init ++ [l] ∧ dstStart ≤ init.length := by
  unfold lastOf at h
  split at h
  · rename_i hlen
    obtain ⟨init, hd⟩ := List.getLast?_eq_some_iff.mp h
    subst hd
    refine ⟨init, rfl, ?_⟩
    simp at hlen; omega
  · cases h

theorem place_chain {source : Option Ident} {k : Nat} {o : Op} {dst : List Subquery} {l : Subquery}
    (hl : lastOf dst k = some l) (ha : attaches o l = false) :
    place source k o dst = dst ++ [store o (chainSubquery dst k source)] := by
  simp only [place, hl, ha, Bool.false_eq_true, ↓reduceIte, C02.setLast_append_singleton]

theorem place_attach {source : Option Ident} {k : Nat} {o : Op} {init : List Subquery} {l : Subquery}
    (hk : k ≤ init.length) (ha : attaches o l = true) : place source k o (init ++ [l]) = init ++ [store o l] := by
  simp only [place, C02.lastOf_append_singleton _ _ _ hk, ha, ↓reduceIte, C02.setLast_append_singleton]

theorem place_cases (source : Option Ident) (k : Nat) (o : Op) (dst : List Subquery) :
    place source k o dst = dst ++ [store o (chainSubquery dst k source)] ∨
    ∃ init l, dst = init ++ [l] ∧ k ≤ init.length ∧ attaches o l = true ∧
      place source k o dst = init ++ [store o l] := by
  cases hl : lastOf dst k with
  | none => exact .inl (by simp only [place, hl, Bool.false_eq_true, ↓reduceIte, C02.setLast_append_singleton])
  | some l =>
    cases ha : attaches o l with
    | false => exact .inl (place_chain hl ha)
    | true =>
      obtain ⟨init, rfl, hk⟩ := lastOf_eq_some hl
      exact .inr ⟨init, l, rfl, hk, ha, place_attach hk ha⟩

theorem place_fresh {source : Option Ident} {k : Nat} {o : Op} {dst : List Subquery}
    (h : ∀ l, attaches o l = false) : place source k o dst = dst ++ [store o (chainSubquery dst k source)] := by
  rcases place_cases source k o dst with h' | ⟨_, l, _, _, ha, _⟩
  · exact h'
  · rw [h l] at ha; cases ha

theorem splitOps_step (src : Bytes) (scope : List (Bytes × List Chunk)) (source : Option Ident) (k : Nat)
    (dst : List Subquery) {o : Op} (ho : steps o = true) (rest : OpList) :
    splitOps src scope source k dst (.cons o rest) = splitOps src scope source k (place source k o dst) rest := by
  cases o with
  | join => cases ho
  | top p kw n b col =>
    cases col with
    | none => cases ho
    | some c => conv => lhs; unfold splitOps
                rfl
  | sort | take => conv => lhs; unfold splitOps
                   rfl
  | _ => rw [place_fresh (fun _ => rfl)]; conv => lhs; unfold splitOps
         rfl

/-- the subquery a join operator adds behind the list `d` its right-hand pipeline left; `n` is the length of
    the list before the right-hand side was split -/
def joinSub (src : Bytes) (scope : List (Bytes × List Chunk)) (source : Option Ident) (k n : Nat)
    (flavor : Option Ident) (conds : ExprList) (d : List Subquery) : Except WErr Subquery :=
  match C05.leftOf flavor with
  | none => .error .err
  | some left =>
    writeExpr ⟨src, scope, .join⟩ (buildJoinCondition conds) >>= fun c =>
      .ok { name := subqueryName d.length,
            source := joinSourceOf (C05.uniqueOf flavor) (C05.joinKwOf left) (joinLeft source k n d) (joinRight d) c }

theorem splitOps_join (src : Bytes) (scope : List (Bytes × List Chunk)) (source : Option Ident) (k : Nat)
    (dst : List Subquery) (p kw kind ka : Span) (flavor : Option Ident) (lp : Span) (right : Tabular)
    (rp on : Span) (conds : ExprList) (rest : OpList) :
    splitOps src scope source k dst (.cons (.join p kw kind ka flavor lp right rp on conds) rest) =
      splitQueries src scope dst right >>= fun d =>
        joinSub src scope source k dst.length flavor conds d >>= fun sub =>
          splitOps src scope source k (d ++ [sub]) rest := by
  conv => lhs; unfold splitOps; simp only
  refine congrArg _ (funext fun d => ?_)
  -- the model's keyword, an `Option String` computed from the flavor name, is `joinKwOf` of `leftOf`
  have hu : (Bytes.ofString "innerunique" == Bytes.ofString "innerunique") = true := beq_self_eq_true _
  cases flavor with
  | none =>
    simp only [joinSub, C05.leftOf, C05.uniqueOf, JoinSem.kindOf, hu, Bool.or_true, ↓reduceIte]
    cases writeExpr ⟨src, scope, .join⟩ (buildJoinCondition conds) <;> rfl
  | some f =>
    simp only [joinSub, C05.leftOf, C05.uniqueOf, JoinSem.kindOf]
    by_cases h1 : (f.name == Bytes.ofString "inner" || f.name == Bytes.ofString "innerunique") = true
    · simp only [h1, ↓reduceIte]
      cases writeExpr ⟨src, scope, .join⟩ (buildJoinCondition conds) <;> rfl
    · by_cases h2 : (f.name == Bytes.ofString "leftouter") = true
      · simp only [h1, h2, Bool.false_eq_true, ↓reduceIte]
        cases writeExpr ⟨src, scope, .join⟩ (buildJoinCondition conds) <;> rfl
      · simp only [h1, h2, Bool.false_eq_true, ↓reduceIte]
        rfl

theorem splitQueries_mk (src : Bytes) (scope : List (Bytes × List Chunk)) (source : Option Ident)
    (ops : OpList) (dst : List Subquery) :
    splitQueries src scope dst (.mk source ops) =
      splitOps src scope source dst.length dst ops >>= fun mid => .ok (closeBlock mid dst.length source) := by
  unfold splitQueries closeBlock
  refine congrArg _ (funext fun mid => ?_)
  show (if _ then _ else _) = Except.ok (if _ then _ else _)
  split <;> rfl

mutual
theorem splitQueries_run (src : Bytes) (scope : List (Bytes × List Chunk)) :
    ∀ (t : Tabular) (dst out : List Subquery), splitQueries src scope dst t = .ok out →
      ∃ source ops mid, t = .mk source ops ∧ Run src scope source dst.length dst ops mid ∧
        out = closeBlock mid dst.length source
  | .nil, dst, out, h => by
    unfold splitQueries at h; cases h
  | .mk source ops, dst, out, h => by
    rw [splitQueries_mk] at h
    cases hq : splitOps src scope source dst.length dst ops with
    | error e => rw [hq] at h; cases h
    | ok mid =>
      rw [hq] at h
      exact ⟨source, ops, mid, rfl, splitOps_run src scope ops source dst.length dst mid hq, (Except.ok.inj h).symm⟩
theorem splitOps_run (src : Bytes) (scope : List (Bytes × List Chunk)) :
    ∀ (ops : OpList) (source : Option Ident) (dstStart : Nat) (dst out : List Subquery),
      splitOps src scope source dstStart dst ops = .ok out → Run src scope source dstStart dst ops out
  | .nil, source, dstStart, dst, out, h => by
    unfold splitOps at h
    cases h; exact Run.nil
  | .cons o rest, source, dstStart, dst, out, h => by
    have ih := fun d => splitOps_run src scope rest source dstStart d out
    have step : steps o = true → Run src scope source dstStart dst (.cons o rest) out := fun ho => by
      rw [splitOps_step src scope source dstStart dst ho] at h
      rcases place_cases source dstStart o dst with he | ⟨init, l, rfl, hk, ha, he⟩ <;> rw [he] at h
      · exact Run.chain o ho (ih _ h)
      · exact Run.attach o init l hk ha (ih _ h)
    cases o with
    | top p k n b col =>
      cases col with
      | none => unfold splitOps at h; cases h
      | some c => exact step rfl
    | join p k kind ka flavor lp right rp on conds =>
      rw [splitOps_join] at h
      cases hq : splitQueries src scope dst right with
      | error e => rw [hq] at h; cases h
      | ok dst' =>
        obtain ⟨rsource, rops, mid, rfl, hrun, hd'⟩ := splitQueries_run src scope _ dst dst' hq
        unfold joinSub at h
        cases hl : C05.leftOf flavor with
        | none => rw [hq, hl] at h; cases h
        | some left =>
          cases hw : writeExpr ⟨src, scope, .join⟩ (buildJoinCondition conds) with
          | error e => rw [hq, hl, hw] at h; cases h
          | ok cond =>
            rw [hq, hl, hw] at h
            have hkw : C05.joinKwOf left = " JOIN " ∨ C05.joinKwOf left = " LEFT JOIN " := by
              cases left
              · exact .inl rfl
              · exact .inr rfl
            exact Run.join p k kind ka flavor lp rsource rops rp on conds _ _ cond mid dst' hkw hw hrun hd' (ih _ h)
    | _ => exact step rfl
end

end Pql.SplitQ
