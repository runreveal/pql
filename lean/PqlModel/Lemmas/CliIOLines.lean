/-
What `bufio.Scanner`+`ScanLines` (model: `bufioLines`) followed by the loop's "line, then '\n'"
does to the input bytes: lemmas for `C16_lines_lossless` / `C16_lines_prefix`.
-/
import PqlModel.Spec.CliSpec
namespace Pql.CliIO
open Pql

def ensureNL : Bytes → Bytes
  | [] => []
  | [c] => if c = 10 then [10] else [c, 10]
  | c :: d :: rest => c :: ensureNL (d :: rest)

/-- replace every `\r\n` by `\n` (left to right; of `\r\r\n` only the second `\r` goes) -/
def crlfToLf : Bytes → Bytes
  | [] => []
  | [c] => [c]
  | a :: b :: r => if a = 13 ∧ b = 10 then 10 :: crlfToLf r else a :: crlfToLf (b :: r)

def rawLines (input : Bytes) : List Bytes := splitLines input [] []

theorem ensureNL_cons (c : UInt8) (rest : Bytes) (h : rest ≠ []) :
    ensureNL (c :: rest) = c :: ensureNL rest := by
  cases rest with
  | nil => exact absurd rfl h
  | cons d r => rfl

theorem ensureNL_append (x y : Bytes) (h : y ≠ []) : ensureNL (x ++ y) = x ++ ensureNL y := by
  induction x with
  | nil => rfl
  | cons c x ih =>
    rw [List.cons_append, ensureNL_cons c (x ++ y) (by simp [h]), ih, List.cons_append]

theorem ensureNL_no_nl (x : Bytes) (hx : x ≠ []) (h : (10 : UInt8) ∉ x) :
    ensureNL x = x ++ [10] := by
  induction x with
  | nil => exact absurd rfl hx
  | cons c x ih =>
    cases x with
    | nil =>
      have : c ≠ 10 := fun hc => h (by simp [hc])
      simp [ensureNL, this]
    | cons d r =>
      rw [ensureNL_cons c (d :: r) (by simp), ih (by simp) (fun hm => h (List.mem_cons_of_mem _ hm))]
      rfl

theorem ensureNL_eq (x : Bytes) :
    ensureNL x = if x = [] ∨ x.getLast? = some 10 then x else x ++ [10] := by
  induction x with
  | nil => rfl
  | cons c x ih =>
    cases x with
    | nil => by_cases hc : c = 10 <;> simp [ensureNL, hc]
    | cons d r =>
      rw [ensureNL_cons c (d :: r) (by simp), ih]
      simp only [reduceCtorEq, false_or, List.getLast?_cons_cons]
      split <;> rfl

theorem dropCR_nil : dropCR [] = [] := rfl

theorem dropCR_snoc_cr (l : Bytes) : dropCR (l ++ [13]) = l := by
  simp [dropCR]

theorem dropCR_snoc (l : Bytes) (c : UInt8) (h : c ≠ 13) : dropCR (l ++ [c]) = l ++ [c] := by
  unfold dropCR
  simp only [List.reverse_append, List.reverse_cons, List.reverse_nil, List.nil_append,
    List.singleton_append]
  split
  · rename_i r heq
    simp only [List.cons.injEq] at heq
    exact absurd heq.1 h
  · rfl

theorem dropCR_cons (a : UInt8) (l : Bytes) (h : l ≠ []) : dropCR (a :: l) = a :: dropCR l := by
  obtain ⟨l', c, rfl⟩ : ∃ l' c, l = l' ++ [c] :=
    ⟨l.dropLast, l.getLast h, (List.dropLast_concat_getLast h).symm⟩
  by_cases hc : c = 13
  · subst hc
    rw [← List.cons_append, dropCR_snoc_cr, dropCR_snoc_cr]
  · rw [← List.cons_append, dropCR_snoc _ _ hc, dropCR_snoc _ _ hc]; rfl

theorem dropCR_single (a : UInt8) : dropCR [a] = if a = 13 then [] else [a] := by
  by_cases h : a = 13
  · subst h; rfl
  · have := dropCR_snoc [] a h
    simpa [h] using this

theorem crlfToLf_cons_cons (a b : UInt8) (r : Bytes) :
    crlfToLf (a :: b :: r) = if a = 13 ∧ b = 10 then 10 :: crlfToLf r else a :: crlfToLf (b :: r) := by
  rw [crlfToLf]

theorem crlfToLf_nl (r : Bytes) : crlfToLf (10 :: r) = 10 :: crlfToLf r := by
  cases r with
  | nil => rfl
  | cons b r => rw [crlfToLf_cons_cons]; simp

theorem crlfToLf_line (l : Bytes) (h : (10 : UInt8) ∉ l) (rest : Bytes) :
    crlfToLf (l ++ 10 :: rest) = dropCR l ++ 10 :: crlfToLf rest := by
  induction l with
  | nil => simpa [dropCR_nil] using crlfToLf_nl rest
  | cons a l ih =>
    have ha : a ≠ 10 := fun hc => h (by simp [hc])
    have hl : (10 : UInt8) ∉ l := fun hm => h (List.mem_cons_of_mem _ hm)
    cases l with
    | nil =>
      simp only [List.cons_append, List.nil_append, crlfToLf_cons_cons, dropCR_single]
      by_cases h13 : a = 13
      · simp [h13]
      · simp [h13, crlfToLf_nl]
    | cons b l' =>
      have hb : b ≠ 10 := fun hc => hl (by simp [hc])
      rw [dropCR_cons a (b :: l') (by simp)]
      simp only [List.cons_append, crlfToLf_cons_cons, hb, and_false, if_false]
      rw [← List.cons_append, ih hl]

theorem crlfToLf_lines (ls : List Bytes) (h : ∀ l ∈ ls, (10 : UInt8) ∉ l) (rest : Bytes) :
    crlfToLf (CliSpec.normalise ls ++ rest) = CliSpec.normalise (ls.map dropCR) ++ crlfToLf rest := by
  induction ls with
  | nil => simp [CliSpec.normalise]
  | cons l ls ih =>
    have h1 := h l (by simp)
    have h2 : ∀ l ∈ ls, (10 : UInt8) ∉ l := fun x hx => h x (List.mem_cons_of_mem _ hx)
    simp only [CliSpec.normalise, List.flatMap_cons, List.map_cons, List.append_assoc,
      List.singleton_append] at ih ⊢
    rw [List.cons_append, crlfToLf_line l h1, ih h2]
    simp

theorem crlfToLf_sublist (x : Bytes) : (crlfToLf x).Sublist x := by
  fun_induction crlfToLf x with
  | case1 => exact List.Sublist.refl _
  | case2 c => exact List.Sublist.refl _
  | case3 a b r h ih => obtain ⟨rfl, rfl⟩ := h; exact (ih.cons_cons _).cons _
  | case4 a b r h ih => exact ih.cons_cons _

theorem crlfToLf_filter (x : Bytes) :
    (crlfToLf x).filter (· != 13) = x.filter (· != 13) := by
  fun_induction crlfToLf x with
  | case1 => rfl
  | case2 c => rfl
  | case3 a b r h ih => obtain ⟨rfl, rfl⟩ := h; simp [ih]
  | case4 a b r h ih => simp only [List.filter_cons, ih]

theorem crlfToLf_id (x : Bytes) (h : ∀ u v, x ≠ u ++ 13 :: 10 :: v) : crlfToLf x = x := by
  fun_induction crlfToLf x with
  | case1 => rfl
  | case2 c => rfl
  | case3 a b r hab ih => obtain ⟨rfl, rfl⟩ := hab; exact absurd rfl (h [] r)
  | case4 a b r hab ih =>
    rw [ih (fun u v huv => h (a :: u) v (by rw [huv]; rfl))]

theorem splitLines_acc (input : Bytes) (acc : List Bytes) (cur : Bytes) :
    splitLines input acc cur = acc.reverse ++ splitLines input [] cur := by
  induction input generalizing acc cur with
  | nil =>
    simp only [splitLines]
    split <;> simp
  | cons c rest ih =>
    simp only [splitLines]
    split
    · rw [ih (cur.reverse :: acc), ih [cur.reverse]]; simp
    · exact ih acc (c :: cur)

theorem ensureNL_nl (rest : Bytes) : ensureNL (10 :: rest) = 10 :: ensureNL rest := by
  cases rest <;> rfl

theorem splitLines_spec (input : Bytes) (cur : Bytes) (hc : (10 : UInt8) ∉ cur) :
    (∀ l ∈ splitLines input [] cur, (10 : UInt8) ∉ l) ∧
      CliSpec.normalise (splitLines input [] cur) = ensureNL (cur.reverse ++ input) := by
  induction input generalizing cur with
  | nil =>
    rw [splitLines, List.append_nil]
    cases cur with
    | nil => exact ⟨by simp, rfl⟩
    | cons c cur =>
      have hc' : (10 : UInt8) ∉ (c :: cur).reverse := fun hm => hc (List.mem_reverse.mp hm)
      rw [ensureNL_no_nl _ (by simp) hc']
      exact ⟨by simpa using hc', by simp [CliSpec.normalise]⟩
  | cons c rest ih =>
    rw [splitLines]
    by_cases h10 : c = 10
    · subst h10
      obtain ⟨ih1, ih2⟩ := ih [] (by simp)
      rw [if_pos (by rfl), splitLines_acc, ensureNL_append _ _ (by simp), ensureNL_nl, ← show _ = ensureNL rest from ih2]
      exact ⟨by simpa using ⟨hc, ih1⟩, by simp [CliSpec.normalise]⟩
    · rw [if_neg (by simpa using h10)]
      simpa using ih (c :: cur) (by simpa [eq_comm, h10] using hc)

theorem rawLines_no_nl (input : Bytes) : ∀ l ∈ rawLines input, (10 : UInt8) ∉ l :=
  (splitLines_spec input [] (by simp)).1

theorem rawLines_join (input : Bytes) : CliSpec.normalise (rawLines input) = ensureNL input :=
  (splitLines_spec input [] (by simp)).2

theorem splitLines_line (l : Bytes) (h : (10 : UInt8) ∉ l) (rest cur : Bytes) :
    splitLines (l ++ 10 :: rest) [] cur = (cur.reverse ++ l) :: splitLines rest [] [] := by
  induction l generalizing cur with
  | nil => rw [List.nil_append, splitLines, if_pos (by rfl), splitLines_acc]; simp
  | cons c l ih =>
    have hc : (c == 10) = false := by simpa using fun hc : c = 10 => h (by simp [hc])
    rw [List.cons_append, splitLines, hc, if_neg Bool.false_ne_true, ih (fun hm => h (List.mem_cons_of_mem _ hm))]
    simp

theorem rawLines_normalise (ls : List Bytes) (h : ∀ l ∈ ls, (10 : UInt8) ∉ l) : rawLines (CliSpec.normalise ls) = ls := by
  induction ls with
  | nil => rfl
  | cons l ls ih =>
    have e : CliSpec.normalise (l :: ls) = l ++ 10 :: CliSpec.normalise ls := by simp [CliSpec.normalise]
    rw [e, rawLines, splitLines_line l (h l (by simp)), List.reverse_nil, List.nil_append]
    exact congrArg _ (ih fun x hx => h x (List.mem_cons_of_mem _ hx))

theorem takeWhile_all {α} (p : α → Bool) (l : List α) (h : ∀ x ∈ l, p x = true) :
    l.takeWhile p = l := by
  induction l with
  | nil => rfl
  | cons a l ih =>
    rw [List.takeWhile_cons, h a (by simp), if_pos rfl,
      ih (fun x hx => h x (List.mem_cons_of_mem _ hx))]

theorem takeWhile_split {α} (p : α → Bool) (l : List α) :
    (∀ x ∈ l, p x = true) ∨
      ∃ pre x rest, l = pre ++ x :: rest ∧ l.takeWhile p = pre ∧ (∀ y ∈ pre, p y = true) ∧
        p x = false := by
  have hall : ∀ y ∈ l.takeWhile p, p y = true := List.all_eq_true.mp List.all_takeWhile
  cases hd : l.dropWhile p with
  | nil =>
    rw [← List.takeWhile_append_dropWhile (p := p) (l := l), hd, List.append_nil]
    exact .inl hall
  | cons x rest =>
    have hx := List.head_dropWhile_not p (l := l) (by rw [hd]; exact List.cons_ne_nil _ _)
    simp only [hd, List.head_cons] at hx
    exact .inr ⟨_, x, rest, by rw [← hd, List.takeWhile_append_dropWhile], rfl, hall, hx⟩

theorem bufioLines_go (raw : List Bytes) (acc : List Bytes) :
    bufioLines.go raw acc =
      (acc.reverse ++ (raw.takeWhile fun l => decide (l.length < maxLine)).map dropCR,
        raw.any fun l => decide (maxLine ≤ l.length)) := by
  induction raw generalizing acc with
  | nil => simp [bufioLines.go]
  | cons l ls ih =>
    simp only [bufioLines.go]
    by_cases h : l.length ≥ maxLine
    · have h' : ¬ l.length < maxLine := by omega
      simp [h, h']
    · have h' : l.length < maxLine := by omega
      simp only [h, if_false, ih, List.reverse_cons, List.append_assoc, List.singleton_append,
        List.takeWhile_cons, h', decide_true, if_true, List.map_cons, List.any_cons]
      have : ¬ maxLine ≤ l.length := by omega
      simp

theorem bufioLines_eq (input : Bytes) :
    bufioLines input =
      (((rawLines input).takeWhile fun l => decide (l.length < maxLine)).map dropCR,
        (rawLines input).any fun l => decide (maxLine ≤ l.length)) := by
  unfold bufioLines
  simp only [bufioLines_go]
  rfl

open Pql.CliSpec in
theorem normalise_inj (ls ls' : List Bytes) (h : ∀ l ∈ ls, (10 : UInt8) ∉ l)
    (h' : ∀ l ∈ ls', (10 : UInt8) ∉ l) (he : normalise ls = normalise ls') : ls = ls' := by
  rw [← rawLines_normalise ls h, he, rawLines_normalise ls' h']

open Pql.CliSpec in
theorem rawLines_one_line (x : Bytes) (hx : x ≠ []) (h : (10 : UInt8) ∉ x) : rawLines x = [x] := by
  apply normalise_inj _ _ (rawLines_no_nl x) (by simpa using h)
  rw [rawLines_join, ensureNL_no_nl x hx h]
  simp [normalise]

end Pql.CliIO
