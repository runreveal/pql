/-
The shape of a number token (`IsNumber`): a decimal spelling `digits* ['.' digits*] [exponent]` with its
value normalised by `normalizeNumber`, or a hexadecimal spelling `0x hexdigits+` converted by
`natToDec ∘ hexToNat`; and the digit classes and digit loops of the model.  That the scanner's number
tokens have this shape is `scanOne_number_shape` (Lemmas/LexGrammar.lean); the value semantics lives in
Props/C09b.lean.
-/
import PqlModel.Lemmas.LexBasic
set_option linter.unusedSimpArgs false
namespace Pql

theorem isDigit_iff (c : UInt8) : isDigit c = (decide (48 ≤ c.toNat) && decide (c.toNat ≤ 57)) := by
  simp [isDigit, inRanges, Facts.isDigitRanges]

theorem isHexDigit_iff (c : UInt8) :
    isHexDigit c = ((decide (48 ≤ c.toNat) && decide (c.toNat ≤ 57)) ||
      (decide (97 ≤ c.toNat) && decide (c.toNat ≤ 102)) ||
      (decide (65 ≤ c.toNat) && decide (c.toNat ≤ 70))) := by
  simp [isHexDigit, inRanges, Facts.isHexDigitRanges, Bool.or_assoc]

theorem take_digitsLen (r : Bytes) : ∀ c ∈ r.take (digitsLen r), isDigit c = true := by
  fun_induction digitsLen r <;> simp_all

theorem take_hexDigitsLen (r : Bytes) : ∀ c ∈ r.take (hexDigitsLen r), isHexDigit c = true := by
  fun_induction hexDigitsLen r <;> simp_all

theorem mantissaLoop_true (r : Bytes) : mantissaLoop true r = digitsLen r := by
  induction r with
  | nil => simp [mantissaLoop, digitsLen]
  | cons c r ih => simp [mantissaLoop, digitsLen, ih]

/-- An exponent part: empty, or `(e|E) [+|-] digits+`. -/
def IsExp (E : Bytes) : Prop :=
  E = [] ∨ ∃ e ds, (e = 101 ∨ e = 69) ∧ ds ≠ [] ∧ (∀ c ∈ ds, isDigit c = true) ∧
    (E = e :: ds ∨ E = e :: 43 :: ds ∨ E = e :: 45 :: ds)

theorem isExp_head (E : Bytes) (h : IsExp E) : ∀ c, E.head? = some c → c = 101 ∨ c = 69 := by
  intro c hc
  rcases h with rfl | ⟨e, ds, he, h0, hd, hE⟩
  · simp at hc
  · rcases hE with rfl | rfl | rfl <;> simp at hc <;> subst hc <;> exact he

/-- A decimal spelling: `digits+ [exponent]` or `digits* '.' digits* [exponent]` with at least
    one mantissa digit. -/
def IsDecimal (t : Bytes) : Prop :=
  ∃ ds fs E, (∀ c ∈ ds, isDigit c = true) ∧ (∀ c ∈ fs, isDigit c = true) ∧ IsExp E ∧
    ((ds ≠ [] ∧ t = ds ++ E) ∨ ((ds ≠ [] ∨ fs ≠ []) ∧ t = ds ++ 46 :: fs ++ E))

theorem finishNumber_value (s : Bytes) (k : Nat) (b : Bool) :
    (finishNumber s k b).value = normalizeNumber (s.take (finishNumber s k b).width) ∧
    (finishNumber s k b).kind = .number := by
  simp [finishNumber]

/-- `v` is the value of a number token with text `t`: a decimal spelling normalised, or a hexadecimal one below 2^64
    (the literal of Model/Lex.lean) in decimal -/
def IsNumber (t v : Bytes) : Prop :=
  (IsDecimal t ∧ v = normalizeNumber t) ∨
  ∃ x hs, (x = 120 ∨ x = 88) ∧ hs ≠ [] ∧ (∀ c ∈ hs, isHexDigit c = true) ∧
    t = 48 :: x :: hs ∧ v = natToDec (hexToNat hs) ∧ hexToNat hs < 18446744073709551616

end Pql
