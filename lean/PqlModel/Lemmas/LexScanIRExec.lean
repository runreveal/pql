/-
The interpreter of Model/LexScanIR.lean one construct at a time, over arbitrary variables and stores:
expressions that evaluate without side effect (`Ev`, `EvB`), what each statement form does, how a block
runs statement by statement (`block_step`, `block_stop`), one pass of a `for { }` loop.  The lemmas about
the translated functions compose these instead of unfolding the interpreter.
-/
import PqlModel.Lemmas.LexScanIRDecls
namespace Pql.ScanIR
open Pql
open Pql.LexIR (IErr M BinOp goPanic stuck irOf)

variable {env : Env} {fuel : Nat} {vars : List (String × Val)} {h : Store}

theorem getVar_cons (k v : String) (x : Val) (vars : List (String × Val)) :
    getVar ((k, x) :: vars) v = if k == v then .ok x else getVar vars v := by
  simp only [getVar, List.find?]
  cases k == v <;> rfl

theorem getVar_skip {k v : String} {x : Val} {vars : List (String × Val)} (hne : (k == v) = false) :
    getVar ((k, x) :: vars) v = getVar vars v := by
  rw [getVar_cons, hne]; rfl

theorem getVar_top (v : String) (x : Val) (vars : List (String × Val)) : getVar ((v, x) :: vars) v = .ok x := by
  simp [getVar_cons]

theorem getVar_under (x : String) (o c : Val) (vars : List (String × Val)) (h1 : ("ok" == x) = false) (h2 : ("c" == x) = false) :
    getVar (("ok", o) :: ("c", c) :: vars) x = getVar vars x := by
  rw [getVar_cons, h1, getVar_cons, h2]; rfl

theorem getVar_c (o c : Val) (vars : List (String × Val)) : getVar (("ok", o) :: ("c", c) :: vars) "c" = .ok c := by
  simp [getVar_cons]

theorem getVar_ok (o c : Val) (vars : List (String × Val)) : getVar (("ok", o) :: ("c", c) :: vars) "ok" = .ok o := by
  simp [getVar_cons]

def Ev (env : Env) (vars : List (String × Val)) (h : Store) (e : Expr) (v : Val) : Prop :=
  eval env vars e h = .ok (v, h)

def EvB (env : Env) (vars : List (String × Val)) (h : Store) (e : Expr) (b : Bool) : Prop :=
  eval env vars e h = .ok (.bool b, h)

def EvArgs (env : Env) (vars : List (String × Val)) (h : Store) (es : List Expr) (vs : List Val) : Prop :=
  evalArgs env vars es h = .ok (vs, h)

theorem ev_var {x : String} {v : Val} (hv : getVar vars x = .ok v) : Ev env vars h (.var x) v := by
  simp [Ev, eval, hv, Except.map]

theorem ev_int (n : Nat) : Ev env vars h (.int n) (.int n) := rfl

theorem ev_tt : Ev env vars h .tt (.bool true) := rfl

theorem ev_ff : Ev env vars h .ff (.bool false) := rfl

theorem ev_str (x : String) : Ev env vars h (.str x) (.str (Bytes.ofString x)) := rfl

theorem ev_kind {k : String} {kd : TokKind} (hk : TokKind.ofGoName k = some kd) : Ev env vars h (.kind k) (.kind kd) := by
  simp [Ev, eval, hk]

theorem ev_fld {e : Expr} {f : String} {x y : Val} (he : Ev env vars h e x) (hf : fldOf h x f = .ok y) :
    Ev env vars h (.fld e f) y := by
  unfold Ev at *
  simp [eval, he, hf, bind, Except.bind, pure, Except.pure]

theorem ev_bin {op : BinOp} {a b : Expr} {x y z : Val} (ha : Ev env vars h a x) (hb : Ev env vars h b y)
    (hz : binVal op x y = .ok z) (h1 : op ≠ .and) (h2 : op ≠ .or) : Ev env vars h (.bin op a b) z := by
  unfold Ev at *
  cases op <;> simp [eval, ha, hb, hz, bind, Except.bind, pure, Except.pure] at h1 h2 ⊢

theorem ev_len {e : Expr} {b : Bytes} (he : Ev env vars h e (.str b)) : Ev env vars h (.len e) (.int b.length) := by
  unfold Ev at *
  simp [eval, he, lenVal, bind, Except.bind, pure, Except.pure]

theorem ev_mkSpan {a b : Expr} {m n : Nat} (ha : Ev env vars h a (.int m)) (hb : Ev env vars h b (.int n)) :
    Ev env vars h (.mkSpan a b) (.span m n) := by
  unfold Ev at *
  simp [eval, ha, hb, bind, Except.bind, pure, Except.pure]

theorem ev_mkToken {k sp v : Expr} {kd : TokKind} {a b : Nat} {t : Bytes} (hk : Ev env vars h k (.kind kd))
    (hs : Ev env vars h sp (.span a b)) (hv : Ev env vars h v (.str t)) : Ev env vars h (.mkToken k sp v) (.tok kd a b t) := by
  unfold Ev at *
  simp [eval, hk, hs, hv, bind, Except.bind, pure, Except.pure]

theorem ev_slice {a lo hi : Expr} {s : Bytes} {i j : Nat} (ha : Ev env vars h a (.str s)) (hl : Ev env vars h lo (.int i))
    (hh : Ev env vars h hi (.int j)) (hij : i ≤ j) (hj : j ≤ s.length) :
    Ev env vars h (.slice a lo hi) (.str ((s.drop i).take (j - i))) := by
  unfold Ev at *
  simp [eval, ha, hl, hh, boundOf, sliceVal, hij, hj, bind, Except.bind, pure, Except.pure]

theorem ev_sliceFrom {a lo : Expr} {s : Bytes} {i : Nat} (ha : Ev env vars h a (.str s)) (hl : Ev env vars h lo (.int i))
    (hi : i ≤ s.length) : Ev env vars h (.slice a lo .none) (.str (s.drop i)) := by
  unfold Ev at *
  simp [eval, ha, hl, boundOf, sliceVal, hi, bind, Except.bind, pure, Except.pure]
  exact List.take_of_length_le (by simp)

theorem evArgs_nil : EvArgs env vars h [] [] := rfl

theorem evArgs_cons {e : Expr} {es : List Expr} {v : Val} {vs : List Val} (he : Ev env vars h e v)
    (hes : EvArgs env vars h es vs) : EvArgs env vars h (e :: es) (v :: vs) := by
  unfold Ev EvArgs at *
  simp [evalArgs, he, hes, bind, Except.bind, pure, Except.pure]

theorem ev_call {name : String} {f : Fn} {es : List Expr} {vs : List Val} {v : Val} (hf : env name = some f)
    (hes : EvArgs env vars h es vs) (hv : f vs h = .ok ([v], h)) : Ev env vars h (.call name es) v := by
  unfold Ev EvArgs at *
  simp [eval, hes, hf, hv, single, bind, Except.bind, pure, Except.pure]

theorem evb_or {a b : Expr} {x y : Bool}
    (ha : EvB env vars h a x) (hb : EvB env vars h b y) : EvB env vars h (.bin .or a b) (x || y) := by
  unfold EvB at *
  cases x <;> simp [eval, ha, hb, bind, Except.bind, pure, Except.pure]

theorem evb_and {env : Env} {vars : List (String × Val)} {h : Store} {a b : Expr} {x y : Bool}
    (ha : EvB env vars h a x) (hb : EvB env vars h b y) : EvB env vars h (.bin .and a b) (x && y) := by
  unfold EvB at *
  cases x <;> simp [eval, ha, hb, bind, Except.bind, pure, Except.pure]

theorem evb_not {env : Env} {vars : List (String × Val)} {h : Store} {a : Expr} {x : Bool}
    (ha : EvB env vars h a x) : EvB env vars h (.not a) (!x) := by
  unfold EvB at *
  simp [eval, ha, bind, Except.bind, pure, Except.pure]

theorem EvB.cast {e : Expr} {b b' : Bool} (he : EvB env vars h e b) (hb : b = b') : EvB env vars h e b' := hb ▸ he

theorem evb_eq {a b : Expr} {m n : Nat} (ha : Ev env vars h a (.int m)) (hb : Ev env vars h b (.int n)) :
    EvB env vars h (.bin .eq a b) (decide (m = n)) :=
  ev_bin ha hb rfl (by decide) (by decide)

theorem evb_ne {a b : Expr} {m n : Nat} (ha : Ev env vars h a (.int m)) (hb : Ev env vars h b (.int n)) :
    EvB env vars h (.bin .ne a b) (!decide (m = n)) :=
  ev_bin ha hb rfl (by decide) (by decide)

theorem evb_le {a b : Expr} {m n : Nat} (ha : Ev env vars h a (.int m)) (hb : Ev env vars h b (.int n)) :
    EvB env vars h (.bin .le a b) (decide (m ≤ n)) :=
  ev_bin ha hb rfl (by decide) (by decide)

theorem evb_ge {a b : Expr} {m n : Nat} (ha : Ev env vars h a (.int m)) (hb : Ev env vars h b (.int n)) :
    EvB env vars h (.bin .ge a b) (decide (m ≥ n)) :=
  ev_bin ha hb rfl (by decide) (by decide)

theorem evb_isNil {a : Expr} {p : Option Nat} (ha : Ev env vars h a (.bptr p)) : EvB env vars h (.bin .eq a .nil) p.isNone :=
  ev_bin ha rfl rfl (by decide) (by decide)

theorem evb_notNil {a : Expr} {p : Option Nat} (ha : Ev env vars h a (.bptr p)) : EvB env vars h (.bin .ne a .nil) (!p.isNone) :=
  ev_bin ha rfl rfl (by decide) (by decide)

theorem evb_cIs {r : Nat} (n : Nat) (hc : getVar vars "c" = .ok (.int r)) : EvB env vars h (cIs n) (decide (r = n)) :=
  evb_eq (ev_var hc) (ev_int n)

theorem evb_inRange {r : Nat} (lo hi : Nat) (hc : getVar vars "c" = .ok (.int r)) :
    EvB env vars h (inRange lo hi) (decide (lo ≤ r) && decide (r ≤ hi)) :=
  evb_and (evb_le (ev_int lo) (ev_var hc)) (evb_le (ev_var hc) (ev_int hi))

theorem evb_ok {env : Env} {vars : List (String × Val)} {h : Store} {b : Bool}
    (hc : getVar vars "ok" = .ok (.bool b)) : EvB env vars h eOk b :=
  ev_var hc

theorem evb_call {r : Nat} (name : String) (f : Fn) (p : Nat → Bool)
    (hf : env name = some f) (sf : ∀ r h, f [.int r] h = .ok ([.bool (p r)], h))
    (hc : getVar vars "c" = .ok (.int r)) : EvB env vars h (.call name [eC]) (p r) :=
  ev_call hf (evArgs_cons (ev_var hc) evArgs_nil) (sf r h)

theorem ev_pos (hs : getVar vars "s" = .ok .scanner) : Ev env vars h ePos (.int h.pos) := ev_fld (ev_var hs) rfl
theorem ev_last (hs : getVar vars "s" = .ok .scanner) : Ev env vars h eLast (.int h.last) := ev_fld (ev_var hs) rfl
theorem ev_src (hs : getVar vars "s" = .ok .scanner) : Ev env vars h eSrc (.str h.src) := ev_fld (ev_var hs) rfl

theorem leave_append (extra vars vars' : List (String × Val)) (h h' : Store) (hl : vars'.length = vars.length) :
    State.leave ⟨extra ++ vars, h⟩ ⟨vars', h'⟩ = ⟨vars, h⟩ := by
  simp [State.leave, hl]

theorem leave_two (x y : String × Val) (vars vars' : List (String × Val)) (h h' : Store) (hl : vars'.length = vars.length) :
    State.leave ⟨x :: y :: vars, h⟩ ⟨vars', h'⟩ = ⟨vars, h⟩ :=
  leave_append [x, y] vars vars' h h' hl

theorem leave_same {s1 s : State} (hl : s1.vars.length = s.vars.length) : s1.leave s = s1 := by
  simp [State.leave, hl]

/-- not `SplitIR.inScope` (Lemmas/SplitIRSteps.lean), which is a state -/
def inScope (s : State) (x : M (Flow × State)) : M (Flow × State) :=
  x >>= fun r => pure (r.1, r.2.leave s)

theorem inScope_ok (s : State) (f : Flow) (s1 : State) : inScope s (.ok (f, s1)) = .ok (f, s1.leave s) := rfl

theorem execBlock_single (env : Env) (fuel : Nat) (x : Stmt) (s : State) :
    execBlock env fuel [x] s = exec env fuel x s := by
  simp only [execBlock, bind, Except.bind]
  cases h : exec env fuel x s with
  | error e => rfl
  | ok r =>
    obtain ⟨f, s1⟩ := r
    cases f <;> simp [pure, Except.pure]

theorem exec_var {v ty : String} {z : Val} (hz : zeroVal ty = some z) (hv : (v == "_") = false) :
    exec env fuel (.var_ v ty) ⟨vars, h⟩ = .ok (.next, ⟨(v, z) :: vars, h⟩) := by
  simp [exec, hz, State.declare, hv]

theorem exec_def {v : String} {e : Expr} {x : Val} {h' : Store} (he : eval env vars e h = .ok (x, h'))
    (hv : (v == "_") = false) : exec env fuel (.def_ v e) ⟨vars, h⟩ = .ok (.next, ⟨(v, x) :: vars, h'⟩) := by
  simp [exec, he, State.declare, hv, bind, Except.bind, pure, Except.pure]

theorem exec_set {v : String} {e : Expr} {x : Val} {h' : Store} {vars' : List (String × Val)}
    (he : eval env vars e h = .ok (x, h')) (hv : (v == "_") = false) (ha : assignIn v x vars = some vars') :
    exec env fuel (.set v e) ⟨vars, h⟩ = .ok (.next, ⟨vars', h'⟩) := by
  simp [exec, he, State.assign, hv, ha, bind, Except.bind, pure, Except.pure]

theorem exec_set_top {v : String} {e : Expr} {x z : Val} {h' : Store}
    (he : eval env ((v, z) :: vars) e h = .ok (x, h')) (hv : (v == "_") = false) :
    exec env fuel (.set v e) ⟨(v, z) :: vars, h⟩ = .ok (.next, ⟨(v, x) :: vars, h'⟩) :=
  exec_set he hv (by simp [assignIn])

theorem exec_setPos {r : String} {e : Expr} {n : Nat} (hr : getVar vars r = .ok .scanner) (he : Ev env vars h e (.int n)) :
    exec env fuel (.setFld r "pos" e) ⟨vars, h⟩ = .ok (.next, ⟨vars, { h with pos := n }⟩) := by
  unfold Ev at he
  simp [exec, he, storeFld, hr, bind, Except.bind, pure, Except.pure]

theorem exec_setLast {r : String} {e : Expr} {n : Nat} (hr : getVar vars r = .ok .scanner) (he : Ev env vars h e (.int n)) :
    exec env fuel (.setFld r "last" e) ⟨vars, h⟩ = .ok (.next, ⟨vars, { h with last := n }⟩) := by
  unfold Ev at he
  simp [exec, he, storeFld, hr, bind, Except.bind, pure, Except.pure]

theorem exec_break {s : State} : exec env fuel .break_ s = .ok (.brk, s) := by simp [exec]

theorem exec_continue {s : State} : exec env fuel .continue_ s = .ok (.cont, s) := by simp [exec]

theorem exec_ret {es : List Expr} {vs : List Val} (he : EvArgs env vars h es vs) :
    exec env fuel (.ret es) ⟨vars, h⟩ = .ok (.ret vs, ⟨vars, h⟩) := by
  unfold EvArgs at he
  simp [exec, he, bind, Except.bind, pure, Except.pure]

theorem exec_ret1 {e : Expr} {v : Val} (he : Ev env vars h e v) :
    exec env fuel (.ret [e]) ⟨vars, h⟩ = .ok (.ret [v], ⟨vars, h⟩) :=
  exec_ret (evArgs_cons he evArgs_nil)

theorem exec_ite {c : Expr} {t e : List Stmt} {b : Bool} (hc : EvB env vars h c b) :
    exec env fuel (.ite c t e) ⟨vars, h⟩ = inScope ⟨vars, h⟩ (execBlock env fuel (if b then t else e) ⟨vars, h⟩) := by
  unfold EvB at hc
  cases b <;> simp [exec, hc, inScope, bind, Except.bind, pure, Except.pure]

theorem exec_ite_then {c : Expr} {t e : List Stmt} {f : Flow} {s1 : State} (hc : EvB env vars h c true)
    (ht : execBlock env fuel t ⟨vars, h⟩ = .ok (f, s1)) (hl : s1.vars.length = vars.length) :
    exec env fuel (.ite c t e) ⟨vars, h⟩ = .ok (f, s1) := by
  rw [exec_ite hc, if_pos rfl, ht, inScope_ok, leave_same hl]

theorem exec_ite_else {c : Expr} {t e : List Stmt} {f : Flow} {s1 : State} (hc : EvB env vars h c false)
    (he : execBlock env fuel e ⟨vars, h⟩ = .ok (f, s1)) (hl : s1.vars.length = vars.length) :
    exec env fuel (.ite c t e) ⟨vars, h⟩ = .ok (f, s1) := by
  rw [exec_ite hc, if_neg Bool.false_ne_true, he, inScope_ok, leave_same hl]

theorem exec_ite_then_drop {c : Expr} {t e : List Stmt} {f : Flow} {extra vars' : List (String × Val)} {h1 : Store}
    (hc : EvB env vars h c true) (ht : execBlock env fuel t ⟨vars, h⟩ = .ok (f, ⟨extra ++ vars', h1⟩))
    (hl : vars'.length = vars.length) : exec env fuel (.ite c t e) ⟨vars, h⟩ = .ok (f, ⟨vars', h1⟩) := by
  rw [exec_ite hc, if_pos rfl, ht, inScope_ok, leave_append _ _ _ _ _ hl.symm]

theorem exec_ite_skip {c : Expr} {t : List Stmt} (hc : EvB env vars h c false) :
    exec env fuel (.ite c t []) ⟨vars, h⟩ = .ok (.next, ⟨vars, h⟩) := by
  exact exec_ite_else hc rfl rfl

theorem exec_ite_elif {c : Expr} {t : List Stmt} {x : Stmt} {f : Flow} {s1 : State} (hc : EvB env vars h c false)
    (hx : exec env fuel x ⟨vars, h⟩ = .ok (f, s1)) (hl : s1.vars.length = vars.length) :
    exec env fuel (.ite c t [x]) ⟨vars, h⟩ = .ok (f, s1) := by
  exact exec_ite_else hc ((execBlock_single env fuel x _).trans hx) hl

theorem exec_block {body : List Stmt} {f : Flow} {s s1 : State} (hb : execBlock env fuel body s = .ok (f, s1)) :
    exec env fuel (.block body) s = .ok (f, s1.leave s) := by
  simp [exec, hb, bind, Except.bind, pure, Except.pure]

theorem exec_do {name : String} {f : Fn} {es : List Expr} {vs rs : List Val} {h' : Store} (hf : env name = some f)
    (hes : EvArgs env vars h es vs) (hr : f vs h = .ok (rs, h')) :
    exec env fuel (.do_ (.call name es)) ⟨vars, h⟩ = .ok (.next, ⟨vars, h'⟩) := by
  unfold EvArgs at hes
  simp [exec, evalCall, hes, hf, hr, bind, Except.bind, pure, Except.pure]

theorem exec_def2 {a b name : String} {f : Fn} {es : List Expr} {vs : List Val} {x y : Val} {h' : Store}
    (hf : env name = some f) (hes : EvArgs env vars h es vs) (hr : f vs h = .ok ([x, y], h'))
    (ha : (a == "_") = false) (hb : (b == "_") = false) :
    exec env fuel (.def2 a b (.call name es)) ⟨vars, h⟩ = .ok (.next, ⟨(b, y) :: (a, x) :: vars, h'⟩) := by
  unfold EvArgs at hes
  simp [exec, evalCall, hes, hf, hr, State.declare, ha, hb, bind, Except.bind, pure, Except.pure]

theorem block_step {x : Stmt} {r : List Stmt} {s s1 : State} {res : M (Flow × State)}
    (hx : exec env fuel x s = .ok (.next, s1)) (hr : execBlock env fuel r s1 = res) :
    execBlock env fuel (x :: r) s = res := by
  simp [execBlock, hx, hr, bind, Except.bind]

theorem block_stop {x : Stmt} {r : List Stmt} {s s1 : State} {f : Flow}
    (hx : exec env fuel x s = .ok (f, s1)) (hf : f ≠ .next) :
    execBlock env fuel (x :: r) s = .ok (f, s1) := by
  cases f <;> simp [execBlock, hx, bind, Except.bind, pure, Except.pure] at hf ⊢

theorem block_last {x : Stmt} {s : State} {res : M (Flow × State)} (hx : exec env fuel x s = res) :
    execBlock env fuel [x] s = res :=
  (execBlock_single env fuel x s).trans hx

def pick : List (Expr × List Stmt) → List Bool → List Stmt → List Stmt
  | cb :: r, v :: vs, d => if v then cb.2 else pick r vs d
  | _, _, d => d

def AllEv (env : Env) (vars : List (String × Val)) (h : Store) : List (Expr × List Stmt) → List Bool → Prop
  | [], [] => True
  | cb :: r, b :: bs => EvB env vars h cb.1 b ∧ AllEv env vars h r bs
  | _, _ => False

theorem leave_leave (a s : State) : (a.leave s).leave s = a.leave s := by
  simp only [State.leave, List.length_drop]
  congr 1
  rw [List.drop_drop]
  congr 1
  omega

theorem inScope_idem (s : State) (x : M (Flow × State)) : inScope s (inScope s x) = inScope s x := by
  unfold inScope
  cases x with
  | error e => rfl
  | ok r => simp [bind, Except.bind, pure, Except.pure, leave_leave]

theorem execBlock_mkSwitch (env : Env) (fuel : Nat) (s : State) (d : List Stmt) :
    ∀ (cases : List (Expr × List Stmt)) (bs : List Bool), cases ≠ [] →
      AllEv env s.vars s.st cases bs →
      execBlock env fuel (mkSwitch cases d) s = inScope s (execBlock env fuel (pick cases bs d) s)
  | [], _, h, _ => absurd rfl h
  | (c, b) :: rest, [], _, h => by cases h
  | (c, b) :: rest, v :: vs, _, ⟨h1, h2⟩ => by
    rw [mkSwitch, execBlock_single]
    refine (exec_ite (vars := s.vars) (h := s.st) h1).trans ?_
    cases v with
    | true => rfl
    | false =>
      cases rest with
      | nil => rfl
      | cons cb rest' =>
        -- the `else` branch is the rest of the switch, which has left its scopes already
        rw [if_neg Bool.false_ne_true]
        exact (congrArg (inScope s) (execBlock_mkSwitch env fuel s d (cb :: rest') vs (by simp) h2)).trans (inScope_idem s _)

theorem exec_forever {body : List Stmt} {s : State} :
    exec env fuel (.forever body) s = foreverLoop (execBlock env fuel body) fuel s := by
  simp only [exec]

theorem forever_ret {body : State → M (Flow × State)} {n : Nat} {s s1 : State} {vs : List Val}
    (hb : body s = .ok (.ret vs, s1)) : foreverLoop body (n + 1) s = .ok (.ret vs, s1.leave s) := by
  simp [foreverLoop, hb, bind, Except.bind, pure, Except.pure]

theorem forever_brk {body : State → M (Flow × State)} {n : Nat} {s s1 : State}
    (hb : body s = .ok (.brk, s1)) : foreverLoop body (n + 1) s = .ok (.next, s1.leave s) := by
  simp [foreverLoop, hb, bind, Except.bind, pure, Except.pure]

theorem forever_next {body : State → M (Flow × State)} {n : Nat} {s s1 : State} {f : Flow}
    (hb : body s = .ok (f, s1)) (hf : f = .next ∨ f = .cont) :
    foreverLoop body (n + 1) s = foreverLoop body n (s1.leave s) := by
  rcases hf with rfl | rfl <;> simp [foreverLoop, hb, bind, Except.bind]

theorem interpFn_ret {d : FnDecl} {args vs : List Val} {ps vars1 : List (String × Val)} {h h1 : Store}
    (hp : bindParams (paramList d) args = some ps) (hb : execBlock env fuel d.body ⟨ps.reverse, h⟩ = .ok (.ret vs, ⟨vars1, h1⟩))
    (hr : vs.length = d.results.length) : interpFn env fuel d args h = .ok (vs, h1) := by
  simp [interpFn, hp, hb, hr, bind, Except.bind, pure, Except.pure]

theorem interpFn_next {d : FnDecl} {args : List Val} {ps vars1 : List (String × Val)} {h h1 : Store}
    (hp : bindParams (paramList d) args = some ps) (hb : execBlock env fuel d.body ⟨ps.reverse, h⟩ = .ok (.next, ⟨vars1, h1⟩))
    (hr : d.results.isEmpty = true) : interpFn env fuel d args h = .ok ([], h1) := by
  simp [interpFn, hp, hb, hr, bind, Except.bind, pure, Except.pure]

theorem interpFn_ret1 {d : FnDecl} {args : List Val} {ps : List (String × Val)} {h : Store} {e : Expr} {v : Val}
    (hp : bindParams (paramList d) args = some ps) (hb : d.body = [.ret [e]]) (hr : d.results.length = 1)
    (he : Ev env ps.reverse h e v) : interpFn env fuel d args h = .ok ([v], h) := by
  have hx : execBlock env fuel d.body ⟨ps.reverse, h⟩ = .ok (.ret [v], ⟨ps.reverse, h⟩) := by
    rw [hb, execBlock_single, exec_ret1 he]
  exact interpFn_ret hp hx hr.symm

end Pql.ScanIR
