/-
The loop of `Scan`: induction over its steps (`scanFrom_induct`), step boundaries (`Reaches`) and locality
of `scanFrom` (the scan of `x ++ y` splits at `x.length` whenever that offset is a step boundary), and
where a token of the scan sits (`scanFrom_at`): on a step boundary, between the scan of the text before
it and the scan of the text behind it.
-/
import PqlModel.Lemmas.LexGrammar
namespace Pql

def Step.toks (st : Step) (off : Nat) : List Token :=
  match st.tok with
  | some (k, v) => [⟨k, off, off + st.width, v⟩]
  | none => []

theorem Step.mem_toks {st : Step} {off : Nat} {t : Token} (h : t ∈ st.toks off) :
    st.tok = some (t.kind, t.value) ∧ t.start = off ∧ t.stop = off + st.width := by
  unfold Step.toks at h
  split at h
  · rename_i k v hk
    simp at h
    subst h
    exact ⟨hk, rfl, rfl⟩
  · simp at h

theorem scanOne_width_pos' {s : Bytes} (hs : s ≠ []) : 1 ≤ (scanOne s).width := by
  cases s with
  | nil => exact absurd rfl hs
  | cons c rest => exact scanOne_width_pos c rest

theorem scanFrom_nil (off : Nat) : scanFrom [] off = [] := by
  unfold scanFrom; rfl

theorem scanFrom_step {s : Bytes} (hs : s ≠ []) (off : Nat) :
    scanFrom s off =
      (scanOne s).toks off ++ scanFrom (s.drop (scanOne s).width) (off + (scanOne s).width) := by
  cases s with
  | nil => exact absurd rfl hs
  | cons c rest =>
    rw [scanFrom]
    simp only [Step.toks]
    split <;> simp_all

theorem scanFrom_induct {P : Bytes → Nat → List Token → Prop} (nil : ∀ off, P [] off [])
    (step : ∀ s off tl, s ≠ [] → 1 ≤ (scanOne s).width → (scanOne s).width ≤ s.length →
      tl = scanFrom (s.drop (scanOne s).width) (off + (scanOne s).width) →
      P (s.drop (scanOne s).width) (off + (scanOne s).width) tl → P s off ((scanOne s).toks off ++ tl))
    (s : Bytes) (off : Nat) : P s off (scanFrom s off) := by
  induction hn : s.length using Nat.strongRecOn generalizing s off with
  | _ n ih =>
    subst hn
    by_cases hs : s = []
    · subst hs; rw [scanFrom_nil]; exact nil off
    · have hpos := scanOne_width_pos' hs
      have hlen := List.length_pos_iff.mpr hs
      rw [scanFrom_step hs]
      exact step s off _ hs hpos (scanOne_width_le s) rfl
        (ih _ (by simp only [List.length_drop]; omega) _ _ rfl)

/-- `Reaches s n`: iterating `scanOne` from the start of `s`, offset `n` is a step boundary. -/
inductive Reaches : Bytes → Nat → Prop
  | here (s : Bytes) : Reaches s 0
  | step (s : Bytes) (m : Nat) : s ≠ [] → Reaches (s.drop (scanOne s).width) m →
      Reaches s ((scanOne s).width + m)

theorem Reaches.le {s : Bytes} {n : Nat} (h : Reaches s n) : n ≤ s.length := by
  induction h with
  | here s => exact Nat.zero_le _
  | step s m hs _ ih =>
    have := scanOne_width_le s
    simp only [List.length_drop] at ih
    omega

theorem Reaches.trans {s : Bytes} {n m : Nat} (h : Reaches s n) (h' : Reaches (s.drop n) m) :
    Reaches s (n + m) := by
  induction h with
  | here s => simpa using h'
  | step s k hs _ ih =>
    rw [Nat.add_assoc]
    refine Reaches.step s (k + m) hs (ih ?_)
    rwa [List.drop_drop]

/-- Induction over the steps of `x ++ y` up to a step boundary at the end of `x`: each of them ends inside `x` and
    is therefore a step of `x` alone (`scanOne_append`). -/
theorem Reaches.prefix_induct {y : Bytes} {P : Bytes → Prop} (nil : P [])
    (step : ∀ x, x ≠ [] → scanOne (x ++ y) = scanOne x → P (x.drop (scanOne x).width) → P x) :
    ∀ x, Reaches (x ++ y) x.length → P x := by
  intro x h
  generalize hs : x ++ y = s at h
  generalize hn : x.length = n at h
  induction h generalizing x with
  | here s => rw [List.eq_nil_of_length_eq_zero hn]; exact nil
  | step s m hne _ ih =>
    subst hs
    have hpos := scanOne_width_pos' hne
    have hw : (scanOne (x ++ y)).width ≤ x.length := by omega
    have hx := scanOne_append x y hw
    rw [hx] at hn hw ih hpos
    refine step x (fun h0 => ?_) hx (ih _ (List.drop_append_of_le_length hw).symm ?_)
    · subst h0; simp only [List.length_nil] at hw; omega
    · simp only [List.length_drop]; omega

theorem scanFrom_append (x y : Bytes) (off : Nat) (h : Reaches (x ++ y) x.length) :
    scanFrom (x ++ y) off = scanFrom x off ++ scanFrom y (off + x.length) := by
  revert off
  refine Reaches.prefix_induct (P := fun x => ∀ off, scanFrom (x ++ y) off =
    scanFrom x off ++ scanFrom y (off + x.length)) (fun off => by simp [scanFrom_nil]) ?_ x h
  intro x hne hx ih off
  have hw := scanOne_width_le x
  rw [scanFrom_step (by simp [hne]), scanFrom_step hne, hx, List.drop_append_of_le_length hw, ih,
    List.append_assoc, List.length_drop]
  congr 3
  omega

theorem Reaches.cancel {s : Bytes} {n : Nat} (h : Reaches s n) :
    ∀ m, Reaches s m → n ≤ m → Reaches (s.drop n) (m - n) := by
  induction h with
  | here s => intro m hm _; simpa using hm
  | step s k hs hr ih =>
    intro m hm hle
    have hpos := scanOne_width_pos' hs
    cases hm with
    | here => omega
    | step _ m' _ hr' =>
      have := ih m' hr' (by omega)
      rw [List.drop_drop] at this
      have he : (scanOne s).width + m' - ((scanOne s).width + k) = m' - k := by omega
      rw [he]
      exact this

theorem reaches_append {x y : Bytes} {n : Nat} (h : Reaches (x ++ y) x.length)
    (h2 : Reaches x n) : Reaches (x ++ y) n := by
  refine Reaches.prefix_induct (P := fun x => ∀ n, Reaches x n → Reaches (x ++ y) n) ?_ ?_ x h n h2
  · intro n h2
    rw [Nat.eq_zero_of_le_zero h2.le]
    exact Reaches.here _
  · intro x hne hx ih n h2
    cases h2 with
    | here => exact Reaches.here _
    | step _ m _ hr =>
      have := Reaches.step (x ++ y) m (by simp [hne]) (by
        rw [hx, List.drop_append_of_le_length (scanOne_width_le x)]; exact ih m hr)
      rwa [hx] at this

theorem reaches_semi_succ {u w : Bytes} (h : Reaches (u ++ 59 :: w) u.length) :
    Reaches (u ++ 59 :: w) (u.length + 1) := by
  refine Reaches.trans h ?_
  rw [List.drop_left]
  have := Reaches.step (59 :: w) 0 (by simp) (Reaches.here _)
  rwa [scanOne_semi_head] at this

theorem scanFrom_semi_cons (v : Bytes) (off : Nat) :
    scanFrom (59 :: v) off = ⟨.semi, off, off + 1, []⟩ :: scanFrom v (off + 1) := by
  rw [scanFrom_step (by simp), scanOne_semi_head]
  simp [Step.toks]

theorem scanFrom_semi_split (u v : Bytes) (off : Nat) (h : Reaches (u ++ 59 :: v) u.length) :
    scanFrom (u ++ 59 :: v) off =
      scanFrom u off ++ ⟨.semi, off + u.length, off + u.length + 1, []⟩ ::
        scanFrom v (off + u.length + 1) := by
  rw [scanFrom_append u (59 :: v) off h, scanFrom_semi_cons]

theorem scanFrom_at (s : Bytes) (off : Nat) : ∀ pre t post, scanFrom s off = pre ++ t :: post →
    ∃ n, t.start = off + n ∧ Reaches s n ∧ n < s.length ∧
      (scanOne (s.drop n)).tok = some (t.kind, t.value) ∧
      t.stop = t.start + (scanOne (s.drop n)).width ∧
      pre = scanFrom (s.take n) off ∧ post = scanFrom (s.drop (t.stop - off)) t.stop := by
  refine scanFrom_induct (P := fun s off ts => ∀ pre t post, ts = pre ++ t :: post →
    ∃ n, t.start = off + n ∧ Reaches s n ∧ n < s.length ∧
      (scanOne (s.drop n)).tok = some (t.kind, t.value) ∧
      t.stop = t.start + (scanOne (s.drop n)).width ∧
      pre = scanFrom (s.take n) off ∧ post = scanFrom (s.drop (t.stop - off)) t.stop) ?_ ?_ s off
  · intro off pre t post h; simp at h
  intro s off tl hs hpos hle htl ih pre t post h
  -- `t` is the token of the first step, or a token of the tail with the first step in front of `pre`
  have hcases : ((scanOne s).toks off = [t] ∧ pre = [] ∧ post = tl) ∨
      ∃ pre', pre = (scanOne s).toks off ++ pre' ∧ tl = pre' ++ t :: post := by
    unfold Step.toks at h ⊢
    split at h
    · cases pre with
      | nil => obtain ⟨rfl, rfl⟩ := List.cons.inj h; exact .inl ⟨rfl, rfl, rfl⟩
      | cons p pre' => obtain ⟨rfl, h'⟩ := List.cons.inj h; exact .inr ⟨pre', rfl, h'⟩
    · exact .inr ⟨pre, rfl, h⟩
  rcases hcases with ⟨htk, rfl, rfl⟩ | ⟨pre', rfl, h'⟩
  · obtain ⟨h1, h2, h3⟩ := Step.mem_toks (htk ▸ List.mem_singleton_self t)
    exact ⟨0, h2, Reaches.here s, by omega, h1, by rw [h2, h3]; rfl, (scanFrom_nil off).symm,
      by rw [htl, h3, Nat.add_sub_cancel_left]⟩
  · obtain ⟨m, h1, h2, h3, h4, h5, h6, h7⟩ := ih pre' t post h'
    simp only [List.length_drop, List.drop_drop] at h3 h4 h5 h7
    have hne : s.take ((scanOne s).width + m) ≠ [] := fun h0 =>
      (List.take_eq_nil_iff.mp h0).elim (by omega) hs
    refine ⟨(scanOne s).width + m, by omega, Reaches.step s m hs h2, by omega, h4, h5, ?_, ?_⟩
    · rw [h6, scanFrom_step hne, scanOne_take s _ (Nat.le_add_right _ _), List.drop_take,
        Nat.add_sub_cancel_left]
    · rw [h7]; congr 2; omega

theorem reaches_of_mem (s : Bytes) (off : Nat) (t : Token) (h : t ∈ scanFrom s off) :
    ∃ n, t.start = off + n ∧ Reaches s n ∧ n < s.length ∧
      (scanOne (s.drop n)).tok = some (t.kind, t.value) ∧
      t.stop = t.start + (scanOne (s.drop n)).width := by
  obtain ⟨pre, post, h⟩ := List.append_of_mem h
  obtain ⟨n, h1, h2, h3, h4, h5, -⟩ := scanFrom_at s off pre t post h
  exact ⟨n, h1, h2, h3, h4, h5⟩

theorem scan_number_shape (src : Bytes) (t : Token) (ht : t ∈ scan src) (hk : t.kind = .number) :
    IsNumber (src.extract t.start t.stop) t.value := by
  obtain ⟨n, h1, -, -, h4, h5⟩ := reaches_of_mem src 0 t ht
  rw [hk] at h4
  rw [List.extract, show t.start = n by omega, show t.stop - n = (scanOne (src.drop n)).width by omega]
  exact scanOne_number_shape h4

theorem mem_scanFrom_bounds (s : Bytes) (off : Nat) (t : Token) (h : t ∈ scanFrom s off) :
    off ≤ t.start ∧ t.start < t.stop ∧ t.stop ≤ off + s.length := by
  obtain ⟨n, h1, _, h3, _, h5⟩ := reaches_of_mem s off t h
  have hle := scanOne_width_le (s.drop n)
  have hne : s.drop n ≠ [] := by
    intro h0
    have := congrArg List.length h0
    simp at this; omega
  have hpos := scanOne_width_pos' hne
  simp only [List.length_drop] at hle
  omega

theorem mem_scan_bounds (s : Bytes) (t : Token) (h : t ∈ scan s) :
    t.start < t.stop ∧ t.stop ≤ s.length := by
  have := mem_scanFrom_bounds s 0 t h
  omega

theorem exists_first_semi (s : Bytes) (off : Nat) (h : ∃ t ∈ scanFrom s off, t.kind = .semi) :
    ∃ u v, s = u ++ 59 :: v ∧ Reaches s u.length ∧ ∀ t ∈ scanFrom u off, t.kind ≠ .semi := by
  have cut : ∀ ts : List Token, (∃ t ∈ ts, t.kind = .semi) →
      ∃ pre t post, ts = pre ++ t :: post ∧ t.kind = .semi ∧ ∀ t' ∈ pre, t'.kind ≠ .semi := by
    intro ts
    induction ts with
    | nil => simp
    | cons a ts ih =>
      intro h
      by_cases ha : a.kind = .semi
      · exact ⟨[], a, ts, rfl, ha, by simp⟩
      · obtain ⟨pre, t, post, rfl, ht, hpre⟩ := ih (by simpa [ha] using h)
        exact ⟨a :: pre, t, post, rfl, ht, by simpa [ha] using hpre⟩
  obtain ⟨pre, t, post, hsplit, hk, hpre⟩ := cut _ h
  obtain ⟨n, -, hr, hn, htok, -, rfl, -⟩ := scanFrom_at s off pre t post hsplit
  rw [hk] at htok
  have hlen : (s.take n).length = n := by rw [List.length_take]; omega
  cases hs : s.drop n with
  | nil => simp [hs, scanOne, Step.skip] at htok
  | cons c v =>
    rw [hs] at htok
    obtain rfl := scanOne_semi c v _ htok
    exact ⟨s.take n, v, by rw [← hs, List.take_append_drop], by rwa [hlen], hpre⟩

theorem scan_single (x : Bytes) (k : TokKind) (v : Bytes) (hx : x ≠ [])
    (hw : (scanOne x).width = x.length) (ht : (scanOne x).tok = some (k, v)) :
    scan x = [⟨k, 0, x.length, v⟩] := by
  unfold scan
  rw [scanFrom_step hx, hw, List.drop_length, scanFrom_nil]
  simp [Step.toks, ht, hw]

theorem scanFrom_rescan (s : Bytes) (off : Nat) (t : Token) (h : t ∈ scanFrom s off) :
    scan ((s.drop (t.start - off)).take (t.stop - t.start)) =
      [⟨t.kind, 0, t.stop - t.start, t.value⟩] := by
  obtain ⟨n, h1, _, h3, h4, h5⟩ := reaches_of_mem s off t h
  have hn : t.start - off = n := by omega
  have hw : t.stop - t.start = (scanOne (s.drop n)).width := by omega
  rw [hn, hw]
  have hle := scanOne_width_le (s.drop n)
  have hne : s.drop n ≠ [] := by
    intro h0
    have := congrArg List.length h0
    simp at this; omega
  have hpos := scanOne_width_pos' hne
  have hlen : ((s.drop n).take (scanOne (s.drop n)).width).length = (scanOne (s.drop n)).width := by
    rw [List.length_take]; omega
  have hone := scanOne_take (s.drop n) _ (Nat.le_refl _)
  have := scan_single ((s.drop n).take (scanOne (s.drop n)).width) t.kind t.value
    (by intro h0; rw [h0] at hlen; simp at hlen; omega) (by rw [hone, hlen]) (by rw [hone, h4])
  rw [this, hlen]

theorem reaches_iff_semi_mem (u v : Bytes) (off : Nat) :
    Reaches (u ++ 59 :: v) u.length ↔
      (⟨.semi, off + u.length, off + u.length + 1, []⟩ : Token) ∈ scanFrom (u ++ 59 :: v) off := by
  constructor
  · intro h
    rw [scanFrom_semi_split u v off h]
    simp
  · intro h
    obtain ⟨n, h1, h2, _⟩ := reaches_of_mem _ off _ h
    have : n = u.length := by simp only at h1; omega
    rw [← this]; exact h2

end Pql
