/-
`(*scanner).quotedIdent` as translated against the model's `scanQuotedIdent`: the loop by runes against
the model's loop by bytes, and `strings.ReplaceAll(content, "``", "`")` against the value the model
builds on the way.
-/
import PqlModel.Lemmas.LexScanIRCore
import PqlModel.Lemmas.LexLocal
import PqlModel.Lemmas.RegexLemmas
namespace Pql.ScanIR
open Pql
open Pql.LexIR (IErr M BinOp goPanic stuck irOf)
open Pql.LexSpec (undouble)
set_option linter.unusedSimpArgs false
set_option linter.unusedVariables false

def qClosed : QRes → Bool
  | .closed _ _ => true
  | .bad _ => false

@[simp] theorem qClosed_shift (k : Nat) (c : Option UInt8) (r : QRes) : qClosed (r.shift k c) = qClosed r := by
  cases r <;> rfl

theorem qid_one : qidentLoop [96] = .closed [] 1 := rfl
theorem qid_dbl (r : Bytes) : qidentLoop (96 :: 96 :: r) = (qidentLoop r).shift 2 (some 96) := rfl
theorem qid_close (d : UInt8) (r : Bytes) (h : d ≠ 96) : qidentLoop (96 :: d :: r) = .closed [] 1 := by
  rw [qidentLoop_cons]; simp [h]
theorem qid_nl (r : Bytes) : qidentLoop (10 :: r) = .bad 0 := by rw [qidentLoop_cons]; simp
theorem qid_other (c : UInt8) (r : Bytes) (h1 : c ≠ 96) (h2 : c ≠ 10) :
    qidentLoop (c :: r) = (qidentLoop r).shift 1 (some c) := by
  rw [qidentLoop_cons]; simp [h1, h2]

theorem qidentLoop_skip (x y : Bytes) (hx : ∀ b ∈ x, b ≠ 96 ∧ b ≠ 10) :
    qClosed (qidentLoop (x ++ y)) = qClosed (qidentLoop y) ∧
    (qidentLoop (x ++ y)).width = (qidentLoop y).width + x.length := by
  induction x with
  | nil => simp
  | cons c x ih =>
    have hc := hx c List.mem_cons_self
    have := ih fun b hb => hx b (List.mem_cons_of_mem _ hb)
    rw [List.cons_append, qid_other c _ hc.1 hc.2]
    simp only [qClosed_shift, QRes.width_shift, this, List.length_cons]
    exact ⟨trivial, by omega⟩

def bq2 : Bytes := [96, 96]
def bq1 : Bytes := [96]

theorem ra_nil : replaceAll bq2 bq1 [] = [] := by simp [replaceAll]

theorem ra_pair (x : Bytes) : replaceAll bq2 bq1 (96 :: 96 :: x) = 96 :: replaceAll bq2 bq1 x := by
  rw [replaceAll.eq_2]
  simp [bq2, bq1, List.isPrefixOf]

theorem ra_other (c : UInt8) (x : Bytes) (hc : c ≠ 96) : replaceAll bq2 bq1 (c :: x) = c :: replaceAll bq2 bq1 x := by
  rw [replaceAll.eq_2]
  have : ¬ (96 : UInt8) = c := fun e => hc e.symm
  simp [bq2, List.isPrefixOf, this]

theorem replaceAll_undouble (x : Bytes) : replaceAll bq2 bq1 x = undouble x := by
  induction h : x.length using Nat.strongRecOn generalizing x with
  | _ n ih =>
    subst h
    cases x with
    | nil => rw [ra_nil, undouble]
    | cons c x =>
      by_cases hc : c = 96
      · subst hc
        cases x with
        | nil => rw [replaceAll.eq_2, ra_nil]; rfl
        | cons d x =>
          by_cases hd : d = 96
          · subst hd; rw [ra_pair, undouble_qq, ih _ (by simp; omega) x rfl]
          · have e1 : replaceAll bq2 bq1 (96 :: d :: x) = 96 :: replaceAll bq2 bq1 (d :: x) := by
              rw [replaceAll.eq_2]
              have : ¬ (96 : UInt8) = d := fun e => hd e.symm
              simp [bq2, List.isPrefixOf, this]
            have e2 : undouble (96 :: d :: x) = 96 :: undouble (d :: x) := by
              rw [undouble]; exact fun _ _ h' => hd (List.cons.inj h').1
            rw [e1, e2, ih _ (by simp) (d :: x) rfl]
      · rw [ra_other c x hc, undouble_cons_ne c x hc, ih _ (by simp) x rfl]

theorem qident_value (t v : Bytes) (w : Nat) (h : qidentLoop t = .closed v w) :
    1 ≤ w ∧ replaceAll bq2 bq1 (t.take (w - 1)) = v := by
  have := qidentLoop_spec t
  rw [h] at this
  exact ⟨this.2.2.1, (replaceAll_undouble _).trans this.2.2.2⟩

def SpecQuotedIdent (fuel : Nat) (f : Fn) : Prop := ∀ (pre s : Bytes) (l : Nat) (bs : List (Nat × Bytes)) (rest : Bytes),
  s = 96 :: rest → s.length < fuel →
  ∃ l', f [.scanner] (hp pre s 0 l bs) =
    .ok ([tokAt pre.length (scanQuotedIdent s)], hp pre s (scanQuotedIdent s).width l' bs)

/-- the token the loop returns when the model's loop, started `k` bytes into `s`, ends as `q` -/
def qidTok (pre s : Bytes) (k : Nat) (q : QRes) : Val :=
  if qClosed q then
    .tok .qident pre.length (pre.length + (k + q.width)) (replaceAll bq2 bq1 ((s.drop 1).take (k + q.width - 2)))
  else .tok .error pre.length (pre.length + (k + q.width)) []

theorem evb_notOkOrNot96 {env : Env} {vars : List (String × Val)} {h : Store} (b : Bool) (r : Nat) :
    EvB env (("ok", .bool b) :: ("c", .int r) :: vars) h notOkOrNot96 (!b || !decide (r = 96)) :=
  evb_or (evb_not (evb_ok (getVar_ok _ _ _))) (evb_ne (ev_var (getVar_c _ _ _)) (ev_int 96))

section
variable {env : Env} {fuel : Nat} (E : CursorEnv env) (pre s : Bytes) (k l : Nat) (bs : List (Nat × Bytes))
include E

def qidOut (pre s : Bytes) (k l : Nat) (bs : List (Nat × Bytes)) (c : Nat) (ok : Bool) : State :=
  ⟨("ok", .bool ok) :: ("c", .int c) :: (startSt pre.length (hp pre s k l bs)).vars, hp pre s k l bs⟩

theorem qid_body_end (hlen : s.length ≤ k) :
    execBlock env fuel qidentLoopBody (startSt pre.length (hp pre s k l bs)) =
      .ok (.ret [.tok .error pre.length (pre.length + k) []], qidOut pre s k l bs 0 false) := by
  obtain ⟨fN, hN, sN⟩ := E.next
  refine block_step (exec_defNext (by rfl) hN (next_end sN pre s k l bs hlen)) ?_
  exact block_stop (exec_ite_then (evb_not (evb_ok (getVar_ok _ _ _))) (exec_ret_err E (by rfl) (by rfl) _) rfl) (by simp)

theorem qid_body_nl (rest : Bytes) (hd : s.drop k = 10 :: rest) :
    execBlock env fuel qidentLoopBody (startSt pre.length (hp pre s k l bs)) =
      .ok (.ret [.tok .error pre.length (pre.length + k) []], qidOut pre s k (pre.length + k) bs 10 true) := by
  obtain ⟨fP, hP, sP⟩ := E.prev
  refine block_nextRune E (by rfl) hd (decodeRune_ascii 10 rest (by decide)) (block_last ?_)
  refine exec_ite_elif (evb_cIs 96 (getVar_c _ _ _)) ?_ rfl
  exact exec_ite_then (evb_cIs 10 (getVar_c _ _ _))
    (block_step (exec_sPrev (by rfl) hP (prev_hp sP pre s k (k + 1) bs)) (exec_ret_err E (by rfl) (by rfl) _)) rfl

theorem qid_body_other (c : UInt8) (rest : Bytes) (r w : Nat) (hd : s.drop k = c :: rest) (hr : decodeRune (c :: rest) = (r, w))
    (h1 : ¬ r = 96) (h2 : ¬ r = 10) :
    execBlock env fuel qidentLoopBody (startSt pre.length (hp pre s k l bs)) =
      .ok (.next, qidOut pre s (k + w) (pre.length + k) bs r true) := by
  refine block_nextRune E (by rfl) hd hr (block_last ?_)
  refine exec_ite_elif ((evb_cIs 96 (getVar_c _ _ _)).cast (decide_eq_false h1)) ?_ rfl
  exact exec_ite_skip ((evb_cIs 10 (getVar_c _ _ _)).cast (decide_eq_false h2))

theorem qid_body_dbl (rest : Bytes) (hd : s.drop k = 96 :: 96 :: rest) :
    execBlock env fuel qidentLoopBody (startSt pre.length (hp pre s k l bs)) =
      .ok (.next, qidOut pre s (k + 1 + 1) (pre.length + (k + 1)) bs 96 true) := by
  obtain ⟨fN, hN, sN⟩ := E.next
  refine block_nextRune E (by rfl) hd (decodeRune_ascii 96 _ (by decide)) (block_last ?_)
  refine exec_ite_then (evb_cIs 96 (getVar_c _ _ _)) ?_ rfl
  refine block_step (exec_setNext (by rfl) hN (next_cons sN pre s (k + 1) _ bs 96 rest 96 1
    (LexIR.drop_succ_of_cons hd) (decodeRune_ascii 96 _ (by decide)))) (block_last ?_)
  exact exec_ite_skip (evb_notOkOrNot96 true 96)

theorem qid_ret (hR : HasPrim env "strings.ReplaceAll") {vars : List (String × Val)} (hs : getVar vars "s" = .ok .scanner)
    (hst : getVar vars "start" = .ok (.int pre.length)) (n : Nat) (hn : 2 ≤ n) (hle : n ≤ s.length) :
    execBlock env fuel [.ret [.mkToken (.kind "TokenQuotedIdentifier") spanHere qidentValue]] ⟨vars, hp pre s n l bs⟩ =
      .ok (.ret [.tok .qident pre.length (pre.length + n) (replaceAll bq2 bq1 ((s.drop 1).take (n - 2)))],
        ⟨vars, hp pre s n l bs⟩) := by
  have len1 : (Bytes.ofString "`").length = 1 := by rw [ofString_bq]; rfl
  have lo : Ev env vars (hp pre s n l bs) (.bin .add (.var "start") (.len (.str "`"))) (.int (pre.length + 1)) :=
    ev_bin (ev_var hst) (ev_len (ev_str "`")) (by rw [len1]; rfl) (by decide) (by decide)
  have hi : Ev env vars (hp pre s n l bs) (.bin .sub ePos (.len (.str "`"))) (.int (pre.length + (n - 1))) :=
    ev_bin (ev_pos hs) (ev_len (ev_str "`"))
      (by rw [len1]; exact (if_pos (by show 1 ≤ pre.length + n; omega)).trans (by rw [hp_pos, Nat.add_sub_assoc (by omega)]))
      (by decide) (by decide)
  have sl := ev_slice_hp hs lo hi (by omega) (by omega)
  rw [show n - 1 - 1 = n - 2 by omega] at sl
  have ra : Ev env vars (hp pre s n l bs) qidentValue (.str (replaceAll bq2 bq1 ((s.drop 1).take (n - 2)))) :=
    ev_call (hR.trans rfl) (evArgs_cons sl (evArgs_cons (ev_str "``") (evArgs_cons (ev_str "`") evArgs_nil)))
      (by simp [ofString_bq, ofString_bq2, bq2, bq1])
  exact block_last (exec_ret1 (ev_mkToken (ev_kind kind_qident) (ev_spanHere E hs hst) ra))

theorem qid_body_close_end (hR : HasPrim env "strings.ReplaceAll") (hk1 : 1 ≤ k) (hd : s.drop k = [96]) :
    execBlock env fuel qidentLoopBody (startSt pre.length (hp pre s k l bs)) =
      .ok (.ret [.tok .qident pre.length (pre.length + (k + 1)) (replaceAll bq2 bq1 ((s.drop 1).take (k + 1 - 2)))],
        qidOut pre s (k + 1) (pre.length + k) bs 0 false) := by
  obtain ⟨fN, hN, sN⟩ := E.next
  have hlt := LexIR.lt_of_drop_cons hd
  refine block_nextRune E (by rfl) hd (decodeRune_ascii 96 _ (by decide)) (block_last ?_)
  refine exec_ite_then (evb_cIs 96 (getVar_c _ _ _)) ?_ rfl
  refine block_step (exec_setNext (by rfl) hN (next_end sN pre s (k + 1) _ bs
    (List.drop_eq_nil_iff.mp (LexIR.drop_succ_of_cons hd)))) (block_last ?_)
  refine exec_ite_then (evb_notOkOrNot96 false 0) ?_ rfl
  exact block_step (exec_ite_skip (evb_ok (getVar_ok _ _ _))) (qid_ret E pre s _ bs hR (by rfl) (by rfl) (k + 1) (by omega) (by omega))

theorem qid_body_close (hR : HasPrim env "strings.ReplaceAll") (hk1 : 1 ≤ k) (d : UInt8) (rest : Bytes) (r w : Nat)
    (hd : s.drop k = 96 :: d :: rest) (hr : decodeRune (d :: rest) = (r, w)) (h96 : ¬ r = 96) :
    execBlock env fuel qidentLoopBody (startSt pre.length (hp pre s k l bs)) =
      .ok (.ret [.tok .qident pre.length (pre.length + (k + 1)) (replaceAll bq2 bq1 ((s.drop 1).take (k + 1 - 2)))],
        qidOut pre s (k + 1) (pre.length + (k + 1)) bs r true) := by
  obtain ⟨fN, hN, sN⟩ := E.next
  obtain ⟨fP, hP, sP⟩ := E.prev
  have hlt := LexIR.lt_of_drop_cons hd
  refine block_nextRune E (by rfl) hd (decodeRune_ascii 96 _ (by decide)) (block_last ?_)
  refine exec_ite_then (evb_cIs 96 (getVar_c _ _ _)) ?_ rfl
  refine block_step (exec_setNext (by rfl) hN (next_cons sN pre s (k + 1) _ bs d rest r w (LexIR.drop_succ_of_cons hd) hr))
    (block_last ?_)
  refine exec_ite_then ((evb_notOkOrNot96 true r).cast (by simp [h96])) ?_ rfl
  exact block_step (exec_ite_then (evb_ok (getVar_ok _ _ _)) (block_last (exec_sPrev (by rfl) hP (prev_hp sP pre s (k + 1) _ bs))) rfl)
    (qid_ret E pre s _ bs hR (by rfl) (by rfl) (k + 1) (by omega) (by omega))

end

theorem leave_qidOut (pre s : Bytes) (k l k' l' : Nat) (bs : List (Nat × Bytes)) (c : Nat) (ok : Bool) :
    (qidOut pre s k l bs c ok).leave (startSt pre.length (hp pre s k' l' bs)) = startSt pre.length (hp pre s k l bs) :=
  leave_two _ _ _ _ _ _ rfl

theorem qident_loop (env : Env) (fuel : Nat) (E : CursorEnv env) (hR : HasPrim env "strings.ReplaceAll")
    (pre s : Bytes) (bs : List (Nat × Bytes)) :
    ∀ (n k l : Nat), 1 ≤ k → k ≤ s.length → s.length - k < n →
      ∃ l', foreverLoop (execBlock env fuel qidentLoopBody) n (startSt pre.length (hp pre s k l bs)) =
        .ok (.ret [qidTok pre s k (qidentLoop (s.drop k))],
          startSt pre.length (hp pre s (k + (qidentLoop (s.drop k)).width) l' bs)) := by
  intro n
  induction n with
  | zero => intro k l _ _ h; omega
  | succ n ih =>
    intro k l hk1 hk hn
    cases hd : s.drop k with
    | nil =>
      refine ⟨l, ?_⟩
      rw [forever_ret (qid_body_end E pre s k l bs (List.drop_eq_nil_iff.mp hd)), leave_qidOut]
      simp [qidentLoop, qidTok, qClosed]
    | cons c rest =>
      have hlt := LexIR.lt_of_drop_cons hd
      have hr1 := LexIR.drop_succ_of_cons hd
      obtain ⟨r, w, y, hr, hrest, R⟩ := rune_at hd
      by_cases h96 : c = 96
      · -- a back-quote: look at the next rune
        subst h96
        cases rest with
        | nil =>
          refine ⟨pre.length + k, ?_⟩
          rw [forever_ret (qid_body_close_end E pre s k l bs hR hk1 hd), leave_qidOut, qid_one]
          simp [qidTok, qClosed]
        | cons d rest' =>
          obtain ⟨rd, wd, _, hrd, -, Rd⟩ := rune_at hr1
          by_cases hd96 : d = 96
          · -- doubled back-quote: go on after it
            subst hd96
            obtain ⟨l', e⟩ := ih (k + 1 + 1) (pre.length + (k + 1)) (by omega) (by have := LexIR.lt_of_drop_cons hr1; omega) (by omega)
            rw [LexIR.drop_succ_of_cons hr1] at e
            refine ⟨l', ?_⟩
            rw [forever_next (qid_body_dbl E pre s k l bs rest' hd) (Or.inl rfl), leave_qidOut, e, qid_dbl]
            simp only [qidTok, qClosed_shift, QRes.width_shift]
            have e1 : k + 1 + 1 + (qidentLoop rest').width = k + ((qidentLoop rest').width + 2) := by omega
            rw [e1]
          · -- a single back-quote closes; the rune after it is given back
            have hrd96 : ¬ rd = 96 := fun e => hd96 ((Rd.ascii 96 (by omega)).mp e)
            refine ⟨pre.length + (k + 1), ?_⟩
            rw [forever_ret (qid_body_close E pre s k l bs hR hk1 d rest' rd wd hd hrd hrd96), leave_qidOut, qid_close d rest' hd96]
            simp [qidTok, qClosed]
      · have hr96 : ¬ r = 96 := fun e => h96 ((R.ascii 96 (by omega)).mp e)
        by_cases h10 : c = 10
        · -- end of line: error, the newline is given back
          subst h10
          refine ⟨pre.length + k, ?_⟩
          rw [forever_ret (qid_body_nl E pre s k l bs rest hd), leave_qidOut, qid_nl]
          simp [qidTok, qClosed]
        · -- any other rune: its bytes are content
          have hr10 : ¬ r = 10 := fun e => h10 ((R.ascii 10 (by omega)).mp e)
          have hw := R.width
          obtain ⟨l', e⟩ := ih (k + w) (pre.length + k) (by omega) R.le (by omega)
          refine ⟨l', ?_⟩
          have hskip := qidentLoop_skip (c :: y) (s.drop (k + w)) fun b hb =>
            ⟨R.ne (by decide) h96 b hb, R.ne (by decide) h10 b hb⟩
          rw [List.cons_append, ← hrest, List.length_cons, hw] at hskip
          rw [forever_next (qid_body_other E pre s k l bs c rest r w hd hr hr96 hr10) (Or.inl rfl), leave_qidOut, e]
          simp only [qidTok, hskip.1, hskip.2]
          have e1 : k + w + (qidentLoop (s.drop (k + w))).width = k + ((qidentLoop (s.drop (k + w))).width + w) := by omega
          rw [e1]

theorem quotedIdent_spec (env : Env) (fuel : Nat) (E : CursorEnv env) (hR : HasPrim env "strings.ReplaceAll") :
    SpecQuotedIdent fuel (interpFn env fuel quotedIdentDecl) := by
  intro pre s l bs rest hs hfuel
  obtain ⟨fN, hN, sN⟩ := E.next
  have hd : s.drop 0 = 96 :: rest := by simp [hs]
  have nx := next_cons sN pre s 0 l bs 96 rest 96 1 hd (decodeRune_ascii 96 rest (by decide))
  obtain ⟨l', hl⟩ := qident_loop env fuel E hR pre s bs fuel (0 + 1) (pre.length + 0) (by omega)
    (by subst hs; simp) (by omega)
  have hdrop : s.drop (0 + 1) = s.tail := by subst hs; rfl
  rw [hdrop] at hl
  simp only [Nat.add_zero, Nat.zero_add, startSt] at nx hl
  refine ⟨l', ?_⟩
  have hres : [qidTok pre s 1 (qidentLoop s.tail)] = [tokAt pre.length (scanQuotedIdent s)] ∧
      1 + (qidentLoop s.tail).width = (scanQuotedIdent s).width := by
    unfold scanQuotedIdent qidTok tokAt
    cases hq : qidentLoop s.tail with
    | closed v w =>
      have hv := (qident_value s.tail v w hq).2
      have e : (s.drop 1).take (1 + w - 2) = s.tail.take (w - 1) := by
        subst hs; simp only [List.drop_succ_cons, List.drop_zero, List.tail_cons]; congr 1; omega
      simp only [qClosed, QRes.width_closed, if_true, e, hv]
      constructor
      · congr 2; omega
      · omega
    | bad w =>
      simp only [qClosed, QRes.width_bad]
      constructor
      · simp; omega
      · omega
  rw [hres.1, hres.2] at hl
  refine interpFn_ret (ps := [("s", .scanner)]) (vars1 := [("start", .int pre.length), ("s", .scanner)]) rfl ?_ rfl
  refine block_step (exec_def (ev_pos (by rfl)) (by decide)) ?_
  refine block_step (exec_block (block_step (exec_defNext (by rfl) hN nx) (block_last (exec_ite_skip (evb_notOkOrNot96 true 96))))) ?_
  rw [leave_two _ _ _ _ _ _ rfl]
  exact block_last (exec_forever.trans hl)

end Pql.ScanIR
