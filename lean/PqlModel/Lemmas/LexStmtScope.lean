/-
LexRender for whole statements: the scope invariant `ScopeAdj` (each bound chunk list is
adjacent before every separator and does not start with `-`) that `let` statements establish: a
scope entry is `wrapTight x (writeExpr ⟨src, scope, .let_⟩ x)` for an `Expr.lexOK` value `x`.
It implies the lookup form `LexRender.ScopeAdj` under which Lemmas/ScopeRTLex.lean proves the
writer's outputs adjacent.
-/
import PqlModel.Lemmas.ScopeRTLex
namespace Pql.C05
open Pql Sql LexRender

def ScopeAdj (scope : List (Bytes × List Chunk)) : Prop :=
  ∀ p ∈ scope, Good p.2 ∧ HeadNotMinus p.2

theorem ScopeAdj.lookup {scope : List (Bytes × List Chunk)} (h : ScopeAdj scope) : LexRender.ScopeAdj scope :=
  fun _ _ hl => by obtain ⟨p, hp, _, rfl⟩ := lookupScope_mem hl; exact h p hp

theorem writeExpr_good_scope (ctx : Ctx) (hscope : ScopeAdj ctx.scope) :
    (e : Expr) → e.lexOK = true → (cs : List Chunk) → writeExpr ctx e = .ok cs → ExprInv e cs :=
  writeExpr_goodS ctx hscope.lookup

theorem writeList_good_scope (ctx : Ctx) (hscope : ScopeAdj ctx.scope) :
    (es : ExprList) → es.lexOK = true → (as : List (List Chunk)) → writeList ctx es = .ok as →
      ∀ b ∈ as, Good b :=
  writeList_goodS ctx hscope.lookup

theorem writeListMP_good_scope (ctx : Ctx) (hscope : ScopeAdj ctx.scope) :
    (es : ExprList) → es.lexOK = true → (vs : List (List Chunk)) → writeListMaybeParen' ctx es = .ok vs →
      ∀ b ∈ vs, Good b :=
  writeListMP_goodS ctx hscope.lookup

theorem scopeAdj_nil : ScopeAdj [] := fun _ h => by cases h

theorem scopeAdj_cons {scope : List (Bytes × List Chunk)} (hs : ScopeAdj scope) (src : Bytes) (mode : Mode)
    {x : Expr} (hx : x.lexOK = true) {body : List Chunk} (h : writeExpr ⟨src, scope, mode⟩ x = .ok body)
    (name : Bytes) : ScopeAdj ((name, wrapTight x body) :: scope) := by
  have ih := writeExpr_good_scope ⟨src, scope, mode⟩ hs x hx body h
  intro p hp
  rcases List.mem_cons.mp hp with rfl | hp
  · exact ⟨good_wrapTight x ih.1, head_wrapTight x ih.2⟩
  · exact hs p hp

end Pql.C05
