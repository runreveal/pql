/-
How a translated body is run (the forms `thenK`, `iteK`, … and the tactic `lx_simp`), how an environment built by
`layer` is looked up (`layer_other`, `layer_take`), what a callee is required to do (`HasPrim`, the `Spec…` predicates),
and the symbolic execution of the small translated functions: parser/span.go `newSpan`, `indexSpan`,
`Span.IsValid`, `spanString`, the cursor `next` / `prev` / `setPos`, `normalizeNumberValue`.
Each lemma is about the expected tree (Lemmas/LexIRDecls.lean) interpreted in ANY environment that
has the callees with their specified behaviour; `Spec…` predicates say what a callee does.
A body is run by `simp` (`lx_simp`), once, into the `if`-tree of its paths (`thenK`, `iteK`, … below); the cases of
the model then prune that tree.
-/
import PqlModel.Lemmas.LexIRDecls
import PqlModel.Lemmas.DispatchRune
import PqlModel.Lemmas.LexNumber
namespace Pql.LexIR
open Pql
set_option linter.unusedSimpArgs false

/-! ### running a body once, into the tree of its paths

`execBlock` and `.ite` are binds whose continuation holds the rest of the program: at a condition `simp` cannot
decide the bind is stuck, and `simp` goes on under its binder, on a state it does not know.  With the forms below
the rest is an argument, not looked at before what is in front of it has a value, and it goes into both branches of an
undecided `if` (`thenK_ite`, …).  Each form is the interpreter's own arm with its first `bind` taken out, so the equation
that brings it in (`execBlock_cons`, `exec_iteK`, `eval_bin`, `interpFn_unnamed`, `interpFn_named`) holds by `rfl`.  The
rest is passed as syntax (`List Stmt`, `Expr`), never as `eval env vars b`: `simp` unfolds such a function by its
equations to `fun h => …` and runs `b` on the bound `h`.  What a callee returns is given as an equation, or left standing
in a leaf.  Inside a statement the binds stay as they are: unfolded, they are matches, whose discriminant `simp`
simplifies first. -/

def thenK (env : Env) (fuel : Nat) (r : M (Flow × State)) (rest : List Stmt) : M (Flow × State) := do
  let (f, st1) ← r
  match f with
  | .next => execBlock env fuel rest st1
  | _ => pure (f, st1)

def leaveK (r : M (Flow × State)) (outer : State) : M (Flow × State) := r >>= fun x => pure (x.1, x.2.leave outer)

def iteK (env : Env) (fuel : Nat) (c : M (Val × Heap)) (t e : List Stmt) (st : State) : M (Flow × State) := do
  match ← c with
  | (.bool b, h) =>
    let (f, st1) ← if b then execBlock env fuel t { st with heap := h } else execBlock env fuel e { st with heap := h }
    pure (f, st1.leave st)
  | _ => stuck

theorem thenK_next (env : Env) (fuel : Nat) (st : State) (rest : List Stmt) :
    thenK env fuel (.ok (.next, st)) rest = execBlock env fuel rest st := rfl
theorem thenK_ret (env : Env) (fuel : Nat) (vs : List Val) (st : State) (rest : List Stmt) :
    thenK env fuel (.ok (.ret vs, st)) rest = .ok (.ret vs, st) := rfl
theorem thenK_brk (env : Env) (fuel : Nat) (st : State) (rest : List Stmt) :
    thenK env fuel (.ok (.brk, st)) rest = .ok (.brk, st) := rfl
theorem thenK_error (env : Env) (fuel : Nat) (e : IErr) (rest : List Stmt) : thenK env fuel (.error e) rest = .error e := rfl
theorem leaveK_ok (f : Flow) (st outer : State) : leaveK (.ok (f, st)) outer = .ok (f, st.leave outer) := rfl
theorem leaveK_error (e : IErr) (outer : State) : leaveK (.error e) outer = .error e := rfl
theorem iteK_ok (env : Env) (fuel : Nat) (b : Bool) (h : Heap) (t e : List Stmt) (st : State) :
    iteK env fuel (.ok (.bool b, h)) t e st =
      if b then leaveK (execBlock env fuel t { st with heap := h }) st else leaveK (execBlock env fuel e { st with heap := h }) st := by
  cases b <;> rfl
theorem iteK_error (env : Env) (fuel : Nat) (x : IErr) (t e : List Stmt) (st : State) :
    iteK env fuel (.error x) t e st = .error x := rfl

theorem thenK_ite (env : Env) (fuel : Nat) (c : Prop) [Decidable c] (a b : M (Flow × State)) (rest : List Stmt) :
    thenK env fuel (if c then a else b) rest = if c then thenK env fuel a rest else thenK env fuel b rest := by split <;> rfl
theorem leaveK_ite (c : Prop) [Decidable c] (a b : M (Flow × State)) (st : State) :
    leaveK (if c then a else b) st = if c then leaveK a st else leaveK b st := by split <;> rfl

def binK (env : Env) (vars : List (String × Val)) (op : BinOp) (r : M (Val × Heap)) (b : Expr) : M (Val × Heap) := do
  let (x, h1) ← r
  match op, x with
  | .and, .bool false => pure (.bool false, h1)
  | .or, .bool true => pure (.bool true, h1)
  | .and, .bool true =>
    match ← eval env vars b h1 with
    | (.bool y, h2) => pure (.bool y, h2)
    | _ => stuck
  | .or, .bool false =>
    match ← eval env vars b h1 with
    | (.bool y, h2) => pure (.bool y, h2)
    | _ => stuck
  | .and, _ => stuck
  | .or, _ => stuck
  | _, _ =>
    let (y, h2) ← eval env vars b h1
    let z ← binVal op x y
    pure (z, h2)

theorem eval_bin (env : Env) (vars : List (String × Val)) (op : BinOp) (a b : Expr) (h : Heap) :
    eval env vars (.bin op a b) h = binK env vars op (eval env vars a h) b := by
  rw [eval]
  rfl

theorem eval_or (env : Env) (vars : List (String × Val)) (a b : Expr) (h : Heap) :
    eval env vars (.bin .or a b) h = binK env vars .or (eval env vars a h) b := eval_bin env vars .or a b h
theorem eval_and (env : Env) (vars : List (String × Val)) (a b : Expr) (h : Heap) :
    eval env vars (.bin .and a b) h = binK env vars .and (eval env vars a h) b := eval_bin env vars .and a b h

theorem binK_or (env : Env) (vars : List (String × Val)) (v : Bool) (h : Heap) (b : Expr) :
    binK env vars .or (.ok (.bool v, h)) b = if v then .ok (.bool true, h) else eval env vars b h >>= fun y => match y with
      | (.bool y, h2) => pure (.bool y, h2)
      | _ => stuck := by cases v <;> rfl
theorem binK_and (env : Env) (vars : List (String × Val)) (v : Bool) (h : Heap) (b : Expr) :
    binK env vars .and (.ok (.bool v, h)) b = if v then eval env vars b h >>= fun y => match y with
      | (.bool y, h2) => pure (.bool y, h2)
      | _ => stuck else .ok (.bool false, h) := by cases v <;> rfl
theorem binK_error (env : Env) (vars : List (String × Val)) (op : BinOp) (e : IErr) (b : Expr) :
    binK env vars op (.error e) b = .error e := rfl

/-- when the second operand has no effect either, the two paths of `||`, `&&` are one value again (`simp` then turns
    the `if` between Booleans into `||`, `&&`) -/
theorem ite_ok (p : Prop) [Decidable p] (x y : Bool) (h : Heap) :
    (if p then .ok (.bool x, h) else .ok (.bool y, h) : M (Val × Heap)) = .ok (.bool (if p then x else y), h) := by
  split <;> rfl

theorem execBlock_nil (env : Env) (fuel : Nat) (st : State) : execBlock env fuel [] st = .ok (.next, st) :=
  (interp_smallest env fuel st).2.2.2.1

theorem execBlock_cons (env : Env) (fuel : Nat) (s : Stmt) (r : List Stmt) (st : State) :
    execBlock env fuel (s :: r) st = thenK env fuel (exec env fuel s st) r := by
  rw [execBlock]
  rfl

theorem exec_iteK (env : Env) (fuel : Nat) (c : Expr) (t e : List Stmt) (st : State) :
    exec env fuel (.ite c t e) st = iteK env fuel (eval env st.vars c st.heap) t e st := by
  rw [exec]
  rfl

/-- nothing follows; met where the last statement of a body is a loop, whose result `simp` leaves standing, so that
    none of `thenK_next`, `thenK_ret`, … applies -/
theorem thenK_nil (env : Env) (fuel : Nat) (r : M (Flow × State)) : thenK env fuel r [] = r := by
  cases r with
  | error e => rfl
  | ok x => obtain ⟨f, st⟩ := x; cases f <;> first | rfl | exact execBlock_nil env fuel st

def retK (env : Env) (fuel : Nat) (res : List (String × String)) (r : M (Flow × State)) : M (List Val × Heap) := do
  let (f, st1) ← r
  match f with
  | .ret vs =>
    if vs.length = res.length then do
      let st3 ← runDefers env fuel st1.defers st1
      pure (vs, st3.heap)
    else stuck
  | .next =>
    if res.isEmpty then do
      let st3 ← runDefers env fuel st1.defers st1
      pure ([], st3.heap)
    else stuck
  | .brk => stuck

theorem interpFn_unnamed (env : Env) (fuel : Nat) (d : FnDecl) (args : List Val) (h : Heap) (hn : isNamed d = false) :
    interpFn env fuel d args h = match bindArgs (paramNames d) args with
      | none => stuck
      | some ps => retK env fuel d.results (execBlock env fuel d.body ⟨ps.reverse, h, []⟩) := by
  simp only [interpFn, hn, Bool.false_eq_true, if_false]
  rfl

theorem retK_ret (env : Env) (fuel : Nat) (res : List (String × String)) (vs : List Val) (vars : List (String × Val)) (h : Heap) :
    retK env fuel res (.ok (.ret vs, ⟨vars, h, []⟩)) = if vs.length = res.length then .ok (vs, h) else stuck := by
  simp only [retK, runDefers, bind, Except.bind, pure, Except.pure]
theorem retK_error (env : Env) (fuel : Nat) (res : List (String × String)) (e : IErr) : retK env fuel res (.error e) = .error e := rfl
theorem retK_ite (env : Env) (fuel : Nat) (res : List (String × String)) (c : Prop) [Decidable c] (a b : M (Flow × State)) :
    retK env fuel res (if c then a else b) = if c then retK env fuel res a else retK env fuel res b := by split <;> rfl

def namedK (env : Env) (fuel : Nat) (res : List (String × String)) (r : M (Flow × State)) : M (List Val × Heap) := do
  let (f, st1) ← r
  match f with
  | .ret vs => do
    let st2 ← if vs.isEmpty then pure st1 else storeResults (res.map (·.1)) vs st1
    let st3 ← runDefers env fuel st2.defers st2
    let out ← readResults st3.vars (res.map (·.1))
    pure (out, st3.heap)
  | _ => stuck

theorem interpFn_named (env : Env) (fuel : Nat) (d : FnDecl) (args : List Val) (h : Heap) (hn : isNamed d = true) :
    interpFn env fuel d args h = match bindArgs (paramNames d) args with
      | none => stuck
      | some ps => match zeroResults d.results with
        | none => stuck
        | some zs => namedK env fuel d.results (execBlock env fuel d.body ⟨zs.reverse ++ ps.reverse, h, []⟩) := by
  simp only [interpFn, hn, if_true]
  rfl

theorem namedK_ret (env : Env) (fuel : Nat) (res : List (String × String)) (vs : List Val) (st : State) :
    namedK env fuel res (.ok (.ret vs, st)) = (do
      let st2 ← if vs.isEmpty then pure st else storeResults (res.map (·.1)) vs st
      let st3 ← runDefers env fuel st2.defers st2
      let out ← readResults st3.vars (res.map (·.1))
      pure (out, st3.heap)) := rfl
theorem namedK_error (env : Env) (fuel : Nat) (res : List (String × String)) (e : IErr) : namedK env fuel res (.error e) = .error e := rfl
theorem namedK_ite (env : Env) (fuel : Nat) (res : List (String × String)) (c : Prop) [Decidable c] (a b : M (Flow × State)) :
    namedK env fuel res (if c then a else b) = if c then namedK env fuel res a else namedK env fuel res b := by
  split <;> rfl

def loopK (rest : State → M (Flow × State)) (st : State) (r : M (Flow × State)) : M (Flow × State) :=
  r >>= fun x => match x.1 with
    | .ret vs => pure (.ret vs, x.2.leave st)
    | .brk => pure (.next, x.2.leave st)
    | .next => rest (x.2.leave st)

theorem foreverLoop_succ (body : State → M (Flow × State)) (n : Nat) (st : State) :
    foreverLoop body (n + 1) st = loopK (foreverLoop body n) st (body st) := by
  rw [foreverLoop]
  simp only [loopK, bind, Except.bind]
  cases body st with
  | error e => rfl
  | ok x => obtain ⟨f, st1⟩ := x; cases f <;> rfl

theorem loopK_ret (rest : State → M (Flow × State)) (st st1 : State) (vs : List Val) :
    loopK rest st (.ok (.ret vs, st1)) = .ok (.ret vs, st1.leave st) := rfl
theorem loopK_brk (rest : State → M (Flow × State)) (st st1 : State) :
    loopK rest st (.ok (.brk, st1)) = .ok (.next, st1.leave st) := rfl
theorem loopK_next (rest : State → M (Flow × State)) (st st1 : State) :
    loopK rest st (.ok (.next, st1)) = rest (st1.leave st) := rfl
theorem loopK_ite (rest : State → M (Flow × State)) (st : State) (c : Prop) [Decidable c] (a b : M (Flow × State)) :
    loopK rest st (if c then a else b) = if c then loopK rest st a else loopK rest st b := by split <;> rfl

/-- symbolic execution of the interpreter by `simp` (without unfolding `sliceVal`).  `implicitDefEqProofs := false`:
    otherwise `simp` records no proof for a step that holds by `rfl` (the equations of `exec`, `eval`), and the kernel
    finds the run again by evaluation. -/
syntax "lx_simp_ns" (" [" Lean.Parser.Tactic.simpLemma,* "]")? : tactic
macro_rules
  | `(tactic| lx_simp_ns) => `(tactic| lx_simp_ns [])
  | `(tactic| lx_simp_ns [$ls,*]) =>
    `(tactic| simp (config := { implicitDefEqProofs := false }) [↓interpFn_unnamed, retK_ret, retK_error, retK_ite,
        ↓interpFn_named, namedK_ret, namedK_error, namedK_ite, ↓eval_or, ↓eval_and, binK_or, binK_and, binK_error, ite_ok,
        execBlock_nil, execBlock_cons, thenK_nil, ↓exec_iteK, thenK_next, thenK_ret, thenK_brk, thenK_error, thenK_ite, leaveK_ok, leaveK_error, leaveK_ite, iteK_ok, iteK_error,
        loopK_ret, loopK_brk, loopK_next, loopK_ite,
        paramNames, isNamed, bindArgs, zeroResults, zeroVal, storeResults, runDefers, readResults,
        exec, eval, evalArgs, evalCall, getVar, State.declare, State.assign, State.leave, assignIn,
        fldOf, valEq, binVal, lenVal, boundOf, single, stuck, goPanic, bind, Except.bind, pure, Except.pure,
        Except.map, $ls,*])

syntax "lx_simp" (" [" Lean.Parser.Tactic.simpLemma,* "]")? : tactic
macro_rules
  | `(tactic| lx_simp) => `(tactic| lx_simp_ns [sliceVal])
  | `(tactic| lx_simp [$ls,*]) => `(tactic| lx_simp_ns [sliceVal, $ls,*])

theorem ofString_zero : Bytes.ofString "0" = [48] := by decide
theorem ofString_dotEe : Bytes.ofString ".eE" = [46, 101, 69] := by decide

theorem beq_dec (a b : UInt8) : (a == b) = decide (a = b) := by
  by_cases h : a = b <;> simp [h]

theorem extend_self (env : Env) (k : String) (f : Fn) : extend env k f k = some f := by simp [extend]
theorem extend_other (env : Env) (k n : String) (f : Fn) (h : n ≠ k) : extend env k f n = env n := by
  simp [extend, h]

theorem layer_other (tbl : List (String × List (List String))) (fuel : Nat) (n : String) :
    ∀ (keys : List String) (env : Env), n ∉ keys → layer tbl fuel keys env n = env n
  | [], _, _ => rfl
  | k :: ks, env, h => by
    rw [layer, layer_other tbl fuel n ks _ (fun hm => h (List.mem_cons_of_mem _ hm))]
    exact extend_other _ _ _ _ (fun e => h (e ▸ List.mem_cons_self))

theorem layer_take (tbl : List (String × List (List String))) (fuel : Nat) {k : String} :
    ∀ (keys : List String) (env : Env) (i n : Nat), keys.Nodup → keys[i]? = some k → i < n →
      layer tbl fuel (keys.take n) env k = some (fnOf tbl (layer tbl fuel (keys.take i) env) fuel k)
  | k0 :: ks, env, 0, n + 1, hnd, hk, _ => by
    obtain rfl : k0 = k := by simpa using hk
    rw [List.take_succ_cons, layer, layer_other tbl fuel k0 _ _ fun h => (List.nodup_cons.mp hnd).1 (List.mem_of_mem_take h),
      extend_self]
    rfl
  | k0 :: ks, env, i + 1, n + 1, hnd, hk, hi =>
    layer_take tbl fuel ks _ i n (List.nodup_cons.mp hnd).2 (by simpa using hk) (by omega)

def HasPrim (lib : Lib) (env : Env) (name : String) : Prop := env name = prims lib name

def SpecNewSpan (f : Fn) : Prop := ∀ a b h, f [.int a, .int b] h = .ok ([.span a b], h)
def SpecIndexSpan (f : Fn) : Prop := ∀ a h, f [.int a] h = .ok ([.span a a], h)
def SpecIsValid (f : Fn) : Prop := ∀ a b h, f [.span a b] h = .ok ([.bool (decide (a ≤ b))], h)
def SpecSpanString (f : Fn) : Prop := ∀ s a b h, a ≤ b → b ≤ s.length →
  f [.str s, .span a b] h = .ok ([.str ((s.drop a).take (b - a))], h)
def SpecPrev (f : Fn) : Prop := ∀ h, f [.scanner] h = .ok ([], { h with pos := h.last })
def SpecSetPos (f : Fn) : Prop := ∀ n h, f [.scanner, .int n] h = .ok ([], { h with pos := n, last := n })
def SpecNext (f : Fn) : Prop := ∀ h : Heap,
  f [.scanner] h = .ok (if h.src.length ≤ h.pos then ([.int 0, .bool false], h)
    else ([.int (decodeRune (h.src.drop h.pos)).1, .bool true],
      ⟨h.src, h.pos + (decodeRune (h.src.drop h.pos)).2, h.pos⟩))
def SpecNormalize (f : Fn) : Prop := ∀ s h, f [.str s] h = .ok ([.str (normalizeNumber s)], h)

theorem newSpan_spec (env : Env) (fuel : Nat) : SpecNewSpan (interpFn env fuel newSpanDecl) := fun _ _ _ => rfl

theorem indexSpan_spec (env : Env) (fuel : Nat) : SpecIndexSpan (interpFn env fuel indexSpanDecl) := fun _ _ => rfl

theorem spanIsValid_spec (env : Env) (fuel : Nat) : SpecIsValid (interpFn env fuel spanIsValidDecl) := by
  intro a b h
  unfold spanIsValidDecl
  lx_simp

theorem spanString_spec (env : Env) (fuel : Nat) (fv : Fn) (hv : env "Span.IsValid" = some fv) (sv : SpecIsValid fv) :
    SpecSpanString (interpFn env fuel spanStringDecl) := by
  intro s a b h hab hb
  unfold spanStringDecl
  lx_simp [hv, sv a b h, hab, hb]

theorem spanString_invalid (env : Env) (fuel : Nat) (fv : Fn) (hv : env "Span.IsValid" = some fv) (sv : SpecIsValid fv)
    (s : Bytes) (a b : Nat) (h : Heap) (hab : b < a) :
    interpFn env fuel spanStringDecl [.str s, .span a b] h = .ok ([.str []], h) := by
  unfold spanStringDecl
  have : ¬ a ≤ b := by omega
  lx_simp [hv, sv a b h, this, ofString_empty]

/-- a span that ends after the string makes `spanString` panic (Go: slice bounds out of range) -/
theorem spanString_panics (env : Env) (fuel : Nat) (fv : Fn) (hv : env "Span.IsValid" = some fv) (sv : SpecIsValid fv)
    (s : Bytes) (a b : Nat) (h : Heap) (hab : a ≤ b) (hb : s.length < b) :
    interpFn env fuel spanStringDecl [.str s, .span a b] h = .error .panic := by
  unfold spanStringDecl
  have : ¬ b ≤ s.length := by omega
  lx_simp [hv, sv a b h, hab, this]

theorem prev_spec (env : Env) (fuel : Nat) : SpecPrev (interpFn env fuel prevDecl) := fun _ => rfl

theorem setPos_spec (env : Env) (fuel : Nat) : SpecSetPos (interpFn env fuel setPosDecl) := fun _ _ => rfl

theorem next_spec (lib : Lib) (env : Env) (fuel : Nat) (hd : HasPrim lib env "utf8.DecodeRuneInString") :
    SpecNext (interpFn env fuel nextDecl) := by
  intro h
  unfold nextDecl
  unfold HasPrim at hd
  by_cases hp : h.src.length ≤ h.pos
  · lx_simp [hp]
  · have h2 : h.pos ≤ h.src.length := by omega
    have h3 : List.take (h.src.length - h.pos) (List.drop h.pos h.src) = List.drop h.pos h.src :=
      List.take_of_length_le (by simp)
    lx_simp [hp, hd, prims, h2, h3]

theorem dropWhile_zero (s : Bytes) : s.dropWhile (fun x => decide (x = 48)) = trimLeftZeros s := by
  induction s with
  | nil => rfl
  | cons c s ih =>
    by_cases hc : c = 48
    · subst hc
      simp [List.dropWhile_cons, trimLeftZeros, ih]
    · simp [List.dropWhile_cons, trimLeftZeros, hc]

theorem toNat_eq_iff (c : UInt8) (k : Nat) (hk : k < 256) : (c.toNat = k) ↔ c = UInt8.ofNat k := by
  constructor
  · intro e; apply UInt8.toNat_inj.mp; rw [e]; simp; omega
  · intro e; subst e; simp; omega

theorem normalize_spec (lib : Lib) (env : Env) (fuel : Nat) (hd : HasPrim lib env "strings.TrimLeft") :
    SpecNormalize (interpFn env fuel normalizeDecl) := by
  intro s h
  obtain ⟨f, hf, sf⟩ : ∃ f, env "strings.TrimLeft" = some f ∧
      ∀ h, f [.str s, .str [48]] h = .ok ([.str (trimLeftZeros s)], h) := by
    rw [hd]
    simp [prims, isAsciiSet, dropWhile_zero]
  unfold normalizeDecl s0Is normalizeNumber
  cases ht : trimLeftZeros s with
  | nil => lx_simp [hf, sf, ht, ofString_zero, ofString_empty]
  | cons c rest =>
    lx_simp [hf, sf, ht, ofString_zero, ofString_empty]
    have e46 : (c.toNat = 46) ↔ c = 46 := toNat_eq_iff c 46 (by omega)
    have e101 : (c.toNat = 101) ↔ c = 101 := toNat_eq_iff c 101 (by omega)
    have e69 : (c.toNat = 69) ↔ c = 69 := toNat_eq_iff c 69 (by omega)
    simp only [e46, e101, e69]
    split <;> rfl

end Pql.LexIR
