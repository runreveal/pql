/-
The cases of the expression productions.

Each production of `Model/Parse.lean` at fuel `f + 1` is a tree of `match`/`if` whose leaves
are small.  This file names the leaves: one conditional equation per leaf, from the guard facts
to the result.  The case distinction over the leaves and the induction on fuel through the mutually
recursive productions are done once, in ParseInduct.lean (`expr_induct`): an invariant of the
parser is given there as one fact per leaf, with the results of the sub-parsers as variables.  A
proof about two runs (ParseMapExpr.lean) takes the first run from `expr_induct` and rewrites the
second with the equation of the same leaf.

The four places that close a bracket (call arguments, parenthesis, index, `in` list) share
`closeSplit`; what remains for the caller after a `split` is empty or starts with the closer
(`split_snd`), so the branch "some other token where the closer should be" does not exist.
The treatment of the argument list of a call is `callArgRest` / `callArgErrs`.
-/
import PqlModel.Lemmas.SplitBasic
namespace Pql

theorem head_cases (p : Token → Prop) (l : List Token) :
    (∀ t rest, l = t :: rest → ¬p t) ∨ ∃ t rest, l = t :: rest ∧ p t := by
  cases l with
  | nil => exact Or.inl fun _ _ h => nomatch h
  | cons t rest =>
    by_cases hp : p t
    · exact Or.inr ⟨t, rest, rfl, hp⟩
    · exact Or.inl fun t' rest' h => by cases h; exact hp

theorem head_kind_cases (k : TokKind) (l : List Token) :
    (∀ t rest, l = t :: rest → t.kind ≠ k) ∨ ∃ t rest, l = t :: rest ∧ t.kind = k :=
  head_cases (·.kind = k) l

theorem splitAux_snd (k : TokKind) (stack : List TokKind) (ts : List Token) :
    (splitAux k stack ts).2 = [] ∨
      ∃ rp rest, (splitAux k stack ts).2 = rp :: rest ∧ rp.kind = k := by
  induction ts generalizing stack with
  | nil => exact Or.inl rfl
  | cons t ts ih =>
    rw [splitAux_cons]
    cases h : splitStep k stack t.kind with
    | none => exact Or.inr ⟨t, ts, rfl, splitStep_none h⟩
    | some st => exact ih st

theorem split_snd (k : TokKind) (ts : List Token) :
    (split k ts).2 = [] ∨ ∃ rp rest, (split k ts).2 = rp :: rest ∧ rp.kind = k :=
  splitAux_snd k [] ts

structure Closing where
  span : Span
  errs : Errs
  rest : List Token

/-- the end of a sub-parse on `split k ts`: the closer `k` is consumed, or the input has ended
    and an error is reported at `errSp`.

    The two span parameters follow the Go code place by place.  Parenthesis, call and `in` list
    start their `Rparen` field at `nullSpan()`, so a missing closer leaves `Span.null`; the
    `IndexExpr` literal does not initialise `Rbrack`, so a missing `]` leaves Go's zero value,
    `Span.zero`.  The complaint is at the end of input, except for the `in` list: Go reports
    its missing `)` at the span of the `(`. -/
def closeSplit (k : TokKind) (dflt errSp : Span) (ts : List Token) : Closing :=
  match (split k ts).2 with
  | [] => ⟨dflt, errAt errSp, []⟩
  | rp :: rest => ⟨rp.span, [], rest⟩

theorem closeSplit_eof {k : TokKind} {dflt errSp : Span} {ts : List Token}
    (h : (split k ts).2 = []) : closeSplit k dflt errSp ts = ⟨dflt, errAt errSp, []⟩ := by
  simp only [closeSplit, h]

theorem closeSplit_close {k : TokKind} {dflt errSp : Span} {ts rest : List Token} {rp : Token}
    (h : (split k ts).2 = rp :: rest) : closeSplit k dflt errSp ts = ⟨rp.span, [], rest⟩ := by
  simp only [closeSplit, h]

theorem closeSplit_cases {motive : Closing → Prop} (k : TokKind) (dflt errSp : Span)
    (ts : List Token)
    (eof : (split k ts).2 = [] → motive ⟨dflt, errAt errSp, []⟩)
    (close : ∀ rp rest, (split k ts).2 = rp :: rest → rp.kind = k → motive ⟨rp.span, [], rest⟩) :
    motive (closeSplit k dflt errSp ts) := by
  rcases split_snd k ts with h | ⟨rp, rest, h, hk⟩
  · rw [closeSplit_eof h]; exact eof h
  · rw [closeSplit_close h]; exact close rp rest h hk

/-- what the argument list of a call left over: one trailing comma is allowed -/
def callArgRest (ra : PRes ExprList) : List Token :=
  if ra.errs = [] then
    match ra.rest with
    | cm :: more => if cm.kind = .comma then more else ra.rest
    | [] => []
  else ra.rest

/-- the errors of the argument list of a call: a not-found error means "no arguments" -/
def callArgErrs (ra : PRes ExprList) : Errs :=
  (if isNF ra.errs then [] else ra.errs) ++ endSplit (callArgRest ra)

theorem callArgRest_of_errs {ra : PRes ExprList} (h : ra.errs ≠ []) : callArgRest ra = ra.rest :=
  if_neg h

theorem callArgRest_comma {ra : PRes ExprList} {cm : Token} {more : List Token}
    (h : ra.errs = []) (hr : ra.rest = cm :: more) (hc : cm.kind = .comma) :
    callArgRest ra = more := by
  simp only [callArgRest, h, hr, hc, if_true]

theorem callArgRest_other {ra : PRes ExprList}
    (hc : ∀ cm more, ra.rest = cm :: more → cm.kind ≠ .comma) : callArgRest ra = ra.rest := by
  unfold callArgRest
  split
  · split
    · rename_i cm more hr; rw [if_neg (hc cm more hr)]
    · rename_i hr; exact hr.symm
  · rfl

theorem callArgRest_cases {motive : List Token → Prop} (ra : PRes ExprList)
    (same : motive ra.rest)
    (comma : ∀ cm more, ra.errs = [] → ra.rest = cm :: more → cm.kind = .comma → motive more) :
    motive (callArgRest ra) := by
  by_cases h : ∃ cm more, ra.rest = cm :: more ∧ cm.kind = .comma ∧ ra.errs = []
  · obtain ⟨cm, more, hr, hc, he⟩ := h
    rw [callArgRest_comma he hr hc]; exact comma cm more he hr hc
  · by_cases he : ra.errs = []
    · rw [callArgRest_other fun cm more hr hc => h ⟨cm, more, hr, hc, he⟩]; exact same
    · rw [callArgRest_of_errs he]; exact same

theorem callArgErrs_nf {ra : PRes ExprList} (h : isNF ra.errs = true) :
    callArgErrs ra = endSplit ra.rest := by
  have he : ra.errs ≠ [] := by intro he; rw [he] at h; exact Bool.noConfusion h
  simp only [callArgErrs, h, if_true, List.nil_append, callArgRest_of_errs he]

theorem callArgErrs_of_not_nf {ra : PRes ExprList} (h : isNF ra.errs = false) :
    callArgErrs ra = ra.errs ++ endSplit (callArgRest ra) := by
  simp only [callArgErrs, h, Bool.false_eq_true, if_false]

theorem pIdent_cons {c : PCtx} {t : Token} {rest : List Token}
    (h : t.kind = .ident ∨ t.kind = .qident) :
    pIdent c (t :: rest) = ⟨some ⟨t.value, t.span, t.kind = .qident⟩, [], rest⟩ := by
  simp only [pIdent, h, if_true]

theorem pIdent_other {c : PCtx} {t : Token} {rest : List Token}
    (h : ¬(t.kind = .ident ∨ t.kind = .qident)) :
    pIdent c (t :: rest) = ⟨none, nfAt c.eof, t :: rest⟩ := by
  simp only [pIdent, h, if_false]

theorem pIdent_nil {c : PCtx} : pIdent c [] = ⟨none, nfAt c.eof, []⟩ := rfl

theorem pIdent_none {c : PCtx} {ts : List Token}
    (h : ∀ t rest, ts = t :: rest → ¬(t.kind = .ident ∨ t.kind = .qident)) :
    pIdent c ts = ⟨none, nfAt c.eof, ts⟩ := by
  cases ts with
  | nil => rfl
  | cons t rest => exact pIdent_other (h t rest rfl)

theorem pIdent_cases {motive : List Token → PRes (Option Ident) → Prop} (c : PCtx)
    (nil : motive [] ⟨none, nfAt c.eof, []⟩)
    (ident : ∀ t rest, t.kind = .ident ∨ t.kind = .qident →
      motive (t :: rest) ⟨some ⟨t.value, t.span, t.kind = .qident⟩, [], rest⟩)
    (other : ∀ t rest, ¬(t.kind = .ident ∨ t.kind = .qident) →
      motive (t :: rest) ⟨none, nfAt c.eof, t :: rest⟩) :
    ∀ ts, motive ts (pIdent c ts)
  | [] => nil
  | t :: rest => by
    by_cases h : t.kind = .ident ∨ t.kind = .qident
    · rw [pIdent_cons h]; exact ident t rest h
    · rw [pIdent_other h]; exact other t rest h

theorem pIdent_spec (c : PCtx) (ts : List Token) :
    ((pIdent c ts).val = none ∧ (pIdent c ts).errs ≠ []) ∨ ∃ i, (pIdent c ts).val = some i ∧ (pIdent c ts).errs = [] :=
  pIdent_cases (motive := fun _ r => (r.val = none ∧ r.errs ≠ []) ∨ ∃ i, r.val = some i ∧ r.errs = []) c
    (.inl ⟨rfl, by simp [nfAt]⟩) (fun _ _ _ => .inr ⟨_, rfl, rfl⟩) (fun _ _ _ => .inl ⟨rfl, by simp [nfAt]⟩) ts

theorem pQualifiedIdent_cons {c : PCtx} {t : Token} {rest : List Token}
    (h : t.kind = .ident ∨ t.kind = .qident) :
    pQualifiedIdent c (t :: rest) =
      ⟨some (pQualTail c (rest.length + 1) [⟨t.value, t.span, t.kind = .qident⟩] rest).val,
       (pQualTail c (rest.length + 1) [⟨t.value, t.span, t.kind = .qident⟩] rest).errs,
       (pQualTail c (rest.length + 1) [⟨t.value, t.span, t.kind = .qident⟩] rest).rest⟩ := by
  simp only [pQualifiedIdent, pIdent_cons h]

theorem pQualifiedIdent_none {c : PCtx} {ts : List Token} (h : (pIdent c ts).val = none) :
    pQualifiedIdent c ts = ⟨none, (pIdent c ts).errs, (pIdent c ts).rest⟩ := by
  simp only [pQualifiedIdent, h]

section qualTail
variable {c : PCtx} {f : Nat} {parts : List Ident}

theorem pQualTail_nil : pQualTail c (f + 1) parts [] = ⟨parts, [], []⟩ := rfl

theorem pQualTail_stop {t : Token} {rest : List Token} (h : t.kind ≠ .dot) :
    pQualTail c (f + 1) parts (t :: rest) = ⟨parts, [], t :: rest⟩ := by
  simp only [pQualTail, h, if_false]

theorem pQualTail_sel {t : Token} {rest : List Token} {sel : Ident} (h : t.kind = .dot)
    (hs : (pIdent c rest).val = some sel) :
    pQualTail c (f + 1) parts (t :: rest) = pQualTail c f (parts ++ [sel]) (pIdent c rest).rest := by
  simp only [pQualTail, h, hs, if_true]

theorem pQualTail_nosel {t : Token} {rest : List Token} (h : t.kind = .dot)
    (hs : (pIdent c rest).val = none) :
    pQualTail c (f + 1) parts (t :: rest) =
      ⟨parts, mkOpaque (pIdent c rest).errs, (pIdent c rest).rest⟩ := by
  simp only [pQualTail, h, hs, if_true]

theorem pQualTail_cases {motive : List Token → PRes (List Ident) → Prop} (c : PCtx) (f : Nat)
    (parts : List Ident)
    (nil : motive [] ⟨parts, [], []⟩)
    (stop : ∀ t rest, t.kind ≠ .dot → motive (t :: rest) ⟨parts, [], t :: rest⟩)
    (sel : ∀ t rest ri sel, t.kind = .dot → pIdent c rest = ri → ri.val = some sel →
      motive (t :: rest) (pQualTail c f (parts ++ [sel]) ri.rest))
    (nosel : ∀ t rest ri, t.kind = .dot → pIdent c rest = ri → ri.val = none →
      motive (t :: rest) ⟨parts, mkOpaque ri.errs, ri.rest⟩) :
    ∀ ts, motive ts (pQualTail c (f + 1) parts ts)
  | [] => nil
  | t :: rest => by
    by_cases h : t.kind = .dot
    · cases hs : (pIdent c rest).val with
      | none => rw [pQualTail_nosel h hs]; exact nosel t rest _ h rfl hs
      | some s => rw [pQualTail_sel h hs]; exact sel t rest _ s h rfl hs
    · rw [pQualTail_stop h]; exact stop t rest h

end qualTail

section inner
variable {c : PCtx} {f : Nat} {t : Token} {rest : List Token}

theorem pInner_nil : pInner c (f + 1) [] = ⟨.nil, nfAt c.eof, []⟩ := by
  simp only [pInner]

theorem pInner_lit (h : t.kind = .number ∨ t.kind = .string) :
    pInner c (f + 1) (t :: rest) = ⟨.lit t.span t.kind t.value, [], rest⟩ := by
  simp only [pInner, h, if_true]

/-- what `pInner` asks of the qualified name `q` before it takes the plain-name arm instead of reading a call -/
def NotCall (q : PRes (List Ident)) : Prop :=
  q.errs ≠ [] ∨ q.val.length > 1 ∨ ∀ lp rest2, q.rest = lp :: rest2 → lp.kind ≠ .lparen

theorem notCall_or_call (q : PRes (List Ident)) :
    NotCall q ∨ ∃ lp rest2, q.errs = [] ∧ ¬q.val.length > 1 ∧ q.rest = lp :: rest2 ∧
      lp.kind = .lparen := by
  by_cases he : q.errs = []
  · by_cases hl : q.val.length > 1
    · exact Or.inl (Or.inr (Or.inl hl))
    · rcases head_kind_cases .lparen q.rest with hr | ⟨lp, rest2, hr, hlp⟩
      · exact Or.inl (Or.inr (Or.inr hr))
      · exact Or.inr ⟨lp, rest2, he, hl, hr, hlp⟩
  · exact Or.inl (Or.inl he)

theorem pInner_ident (h : t.kind = .ident)
    (hq : NotCall (pQualTail c (rest.length + 1) [⟨t.value, t.span, false⟩] rest)) :
    pInner c (f + 1) (t :: rest) =
      ⟨.qident (pQualTail c (rest.length + 1) [⟨t.value, t.span, false⟩] rest).val,
       (pQualTail c (rest.length + 1) [⟨t.value, t.span, false⟩] rest).errs,
       (pQualTail c (rest.length + 1) [⟨t.value, t.span, false⟩] rest).rest⟩ := by
  have hk : (t.kind = .ident ∨ t.kind = .qident) := Or.inl h
  simp only [pInner, pQualifiedIdent_cons hk]
  simp only [h, reduceCtorEq, or_self, if_false, if_true, decide_false]
  generalize pQualTail c (rest.length + 1) [⟨t.value, t.span, false⟩] rest = q at hq ⊢
  by_cases he : q.errs = []
  · rw [if_neg (fun hne => hne he)]
    by_cases hl : q.val.length > 1
    · rw [if_pos hl, he]
    · rw [if_neg hl]
      have hq' : ∀ lp rest2, q.rest = lp :: rest2 → lp.kind ≠ .lparen := by
        rcases hq with hq | hq | hq
        · exact absurd he hq
        · exact absurd hq hl
        · exact hq
      split
      · rename_i hr; rw [he, hr]
      · rename_i lp rest2 hr; rw [if_pos (hq' lp rest2 hr), he]
  · rw [if_pos he]

theorem pInner_call {lp : Token} {rest2 : List Token} (h : t.kind = .ident)
    (he : (pQualTail c (rest.length + 1) [⟨t.value, t.span, false⟩] rest).errs = [])
    (hl : ¬(pQualTail c (rest.length + 1) [⟨t.value, t.span, false⟩] rest).val.length > 1)
    (hr : (pQualTail c (rest.length + 1) [⟨t.value, t.span, false⟩] rest).rest = lp :: rest2)
    (hlp : lp.kind = .lparen) :
    pInner c (f + 1) (t :: rest) =
      ⟨.call ⟨t.value, t.span, false⟩ lp.span (pExprList c f (split .rparen rest2).1).val
          (closeSplit .rparen .null c.eof rest2).span,
        callArgErrs (pExprList c f (split .rparen rest2).1) ++
          (closeSplit .rparen .null c.eof rest2).errs,
        (closeSplit .rparen .null c.eof rest2).rest⟩ := by
  have hk : (t.kind = .ident ∨ t.kind = .qident) := Or.inl h
  simp only [pInner, pQualifiedIdent_cons hk]
  simp only [h, reduceCtorEq, or_self, if_false, if_true, decide_false, he, hl, hr, hlp,
    ne_eq, not_true_eq_false]
  rcases split_snd .rparen rest2 with hs | ⟨rp, rest3, hs, hrp⟩
  · simp only [hs, closeSplit_eof hs, callArgErrs, callArgRest]; rfl
  · simp only [hs, closeSplit_close hs, callArgErrs, callArgRest, hrp, if_true, List.append_nil]
    rfl

theorem pInner_qident (h : t.kind = .qident) :
    pInner c (f + 1) (t :: rest) =
      ⟨.qident (pQualTail c (rest.length + 1) [⟨t.value, t.span, true⟩] rest).val,
       (pQualTail c (rest.length + 1) [⟨t.value, t.span, true⟩] rest).errs,
       (pQualTail c (rest.length + 1) [⟨t.value, t.span, true⟩] rest).rest⟩ := by
  have hk : (t.kind = .ident ∨ t.kind = .qident) := Or.inr h
  simp only [pInner, pQualifiedIdent_cons hk]
  simp only [h, reduceCtorEq, or_self, if_false, if_true, decide_true]

theorem pInner_paren (h : t.kind = .lparen) :
    pInner c (f + 1) (t :: rest) =
      ⟨.paren t.span (pExpr c f (split .rparen rest).1).val
          (closeSplit .rparen .null c.eof rest).span,
        mkOpaque (pExpr c f (split .rparen rest).1).errs ++
          endSplit (pExpr c f (split .rparen rest).1).rest ++
          (closeSplit .rparen .null c.eof rest).errs,
        (closeSplit .rparen .null c.eof rest).rest⟩ := by
  simp only [pInner, h, reduceCtorEq, or_self, if_false, if_true]
  rcases split_snd .rparen rest with hs | ⟨rp, rest3, hs, hrp⟩
  · simp only [hs, closeSplit_eof hs]
  · simp only [hs, closeSplit_close hs, hrp, if_true, List.append_nil]

theorem pInner_other (h1 : ¬(t.kind = .number ∨ t.kind = .string)) (h2 : t.kind ≠ .ident)
    (h3 : t.kind ≠ .qident) (h4 : t.kind ≠ .lparen) :
    pInner c (f + 1) (t :: rest) = ⟨.nil, nfAt t.span, t :: rest⟩ := by
  simp only [pInner, h1, h2, h3, h4, if_false]

end inner

section primary
variable {c : PCtx} {f : Nat} {ts : List Token}

theorem pPrimary_err (h : (pInner c f ts).errs ≠ []) : pPrimary c (f + 1) ts = pInner c f ts := by
  simp only [pPrimary, h, ne_eq, not_false_eq_true, if_true]

theorem pPrimary_plain (h : (pInner c f ts).errs = [])
    (hr : ∀ t rest, (pInner c f ts).rest = t :: rest → t.kind ≠ .lbracket) :
    pPrimary c (f + 1) ts = ⟨(pInner c f ts).val, [], (pInner c f ts).rest⟩ := by
  simp only [pPrimary, h, ne_eq, not_true_eq_false, if_false]
  split
  · rename_i h0; rw [h0]
  · rename_i t rest h0; rw [if_neg (hr t rest h0)]

theorem pPrimary_index {t : Token} {rest : List Token} (h : (pInner c f ts).errs = [])
    (hr : (pInner c f ts).rest = t :: rest) (hk : t.kind = .lbracket) :
    pPrimary c (f + 1) ts =
      ⟨.index (pInner c f ts).val t.span (pExpr c f (split .rbracket rest).1).val
          (closeSplit .rbracket .zero c.eof rest).span,
        mkOpaque (pExpr c f (split .rbracket rest).1).errs ++
          endSplit (pExpr c f (split .rbracket rest).1).rest ++
          (closeSplit .rbracket .zero c.eof rest).errs,
        (closeSplit .rbracket .zero c.eof rest).rest⟩ := by
  simp only [pPrimary, h, hr, hk, ne_eq, not_true_eq_false, if_false, if_true]
  rcases split_snd .rbracket rest with hs | ⟨rb, rest2, hs, hrb⟩
  · simp only [hs, closeSplit_eof hs]
  · simp only [hs, closeSplit_close hs, hrb, if_true, List.append_nil]

end primary

section unary
variable {c : PCtx} {f : Nat} {t : Token} {rest : List Token}

theorem pUnary_nil : pUnary c (f + 1) [] = ⟨.nil, nfAt c.eof, []⟩ := by
  simp only [pUnary]

theorem pUnary_sign (h : t.kind = .plus ∨ t.kind = .minus) :
    pUnary c (f + 1) (t :: rest) =
      ⟨.unary t.span t.kind (pPrimary c f rest).val, mkOpaque (pPrimary c f rest).errs,
        (pPrimary c f rest).rest⟩ := by
  simp only [pUnary, h, if_true]

theorem pUnary_plain (h : ¬(t.kind = .plus ∨ t.kind = .minus)) :
    pUnary c (f + 1) (t :: rest) = pPrimary c f (t :: rest) := by
  simp only [pUnary, h, if_false]

end unary

section expr
variable {c : PCtx} {f : Nat} {ts : List Token}

theorem pExpr_nf (h : isNF (pUnary c f ts).errs = true) : pExpr c (f + 1) ts = pUnary c f ts := by
  simp only [pExpr, h, if_true]

theorem pExpr_trail (h : isNF (pUnary c f ts).errs = false) :
    pExpr c (f + 1) ts =
      ⟨(pTrail c f (pUnary c f ts).val 0 [] (pUnary c f ts).rest).val,
        (pUnary c f ts).errs ++ (pTrail c f (pUnary c f ts).val 0 [] (pUnary c f ts).rest).errs,
        (pTrail c f (pUnary c f ts).val 0 [] (pUnary c f ts).rest).rest⟩ := by
  simp only [pExpr, h, Bool.false_eq_true, if_false]

end expr

section trail
variable {c : PCtx} {f : Nat} {x : Expr} {m : Int} {acc : Errs} {op : Token} {rest : List Token}

theorem pTrail_nil : pTrail c (f + 1) x m acc [] = ⟨x, acc, []⟩ := by
  simp only [pTrail]

theorem pTrail_stop (h : precOf op.kind < 0 ∨ precOf op.kind < m) :
    pTrail c (f + 1) x m acc (op :: rest) = ⟨x, acc, op :: rest⟩ := by
  simp only [pTrail, h, if_true]

theorem pTrail_in_eof (h : ¬(precOf op.kind < 0 ∨ precOf op.kind < m)) (hk : op.kind = .in_) :
    pTrail c (f + 1) x m acc [op] =
      ⟨.inE x op.span .null .nil .null, acc ++ errAt c.eof, []⟩ := by
  simp only [pTrail, h, if_false]
  simp only [hk, if_true]

theorem pTrail_in_noparen {lp : Token} {rest2 : List Token}
    (h : ¬(precOf op.kind < 0 ∨ precOf op.kind < m)) (hk : op.kind = .in_)
    (hl : lp.kind ≠ .lparen) :
    pTrail c (f + 1) x m acc (op :: lp :: rest2) =
      ⟨.inE x op.span .null .nil .null, acc ++ errAt lp.span, rest2⟩ := by
  simp only [pTrail, h, if_false]
  simp only [hk, hl, ne_eq, not_false_eq_true, if_true]

theorem pTrail_in_open {lp : Token} {rest2 : List Token}
    (h : ¬(precOf op.kind < 0 ∨ precOf op.kind < m)) (hk : op.kind = .in_)
    (hl : lp.kind = .lparen) (hs : (split .rparen rest2).2 = []) :
    pTrail c (f + 1) x m acc (op :: lp :: rest2) =
      ⟨.inE x op.span lp.span (pExprList c f (split .rparen rest2).1).val
          (closeSplit .rparen .null lp.span rest2).span,
        acc ++ mkOpaque (pExprList c f (split .rparen rest2).1).errs ++
          endSplit (pExprList c f (split .rparen rest2).1).rest ++
          (closeSplit .rparen .null lp.span rest2).errs,
        (closeSplit .rparen .null lp.span rest2).rest⟩ := by
  simp only [pTrail, h, if_false]
  simp only [hk, hl, hs, closeSplit_eof hs, ne_eq, not_true_eq_false, if_false, if_true]

theorem pTrail_in_list {lp : Token} {rest2 : List Token}
    (h : ¬(precOf op.kind < 0 ∨ precOf op.kind < m)) (hk : op.kind = .in_)
    (hl : lp.kind = .lparen) (hs : (split .rparen rest2).2 ≠ []) :
    pTrail c (f + 1) x m acc (op :: lp :: rest2) =
      pTrail c f
        (.inE x op.span lp.span (pExprList c f (split .rparen rest2).1).val
          (closeSplit .rparen .null lp.span rest2).span) m
        (acc ++ mkOpaque (pExprList c f (split .rparen rest2).1).errs ++
          endSplit (pExprList c f (split .rparen rest2).1).rest)
        (closeSplit .rparen .null lp.span rest2).rest := by
  rcases split_snd .rparen rest2 with hs' | ⟨rp, rest3, hs', hrp⟩
  · exact absurd hs' hs
  · simp only [pTrail, h, if_false]
    simp only [hk, hl, hs', hrp, closeSplit_close hs', ne_eq, not_true_eq_false, if_false,
      if_true]

theorem pTrail_binary (h : ¬(precOf op.kind < 0 ∨ precOf op.kind < m)) (hk : op.kind ≠ .in_) :
    pTrail c (f + 1) x m acc (op :: rest) =
      pTrail c f
        (.binary x op.span op.kind
          (pHigher c f (pUnary c f rest).val (precOf op.kind)
            (acc ++ mkOpaque (pUnary c f rest).errs) (pUnary c f rest).rest).val) m
        (pHigher c f (pUnary c f rest).val (precOf op.kind)
          (acc ++ mkOpaque (pUnary c f rest).errs) (pUnary c f rest).rest).errs
        (pHigher c f (pUnary c f rest).val (precOf op.kind)
          (acc ++ mkOpaque (pUnary c f rest).errs) (pUnary c f rest).rest).rest := by
  simp only [pTrail, h, hk, if_false]

end trail

section higher
variable {c : PCtx} {f : Nat} {y : Expr} {p : Int} {acc : Errs} {op : Token} {rest : List Token}

theorem pHigher_nil : pHigher c (f + 1) y p acc [] = ⟨y, acc, []⟩ := by
  simp only [pHigher]

theorem pHigher_stop (h : precOf op.kind < 0 ∨ precOf op.kind ≤ p) :
    pHigher c (f + 1) y p acc (op :: rest) = ⟨y, acc, op :: rest⟩ := by
  simp only [pHigher, h, if_true]

theorem pHigher_go (h : ¬(precOf op.kind < 0 ∨ precOf op.kind ≤ p)) :
    pHigher c (f + 1) y p acc (op :: rest) =
      pHigher c f (pTrail c f y (p + 1) [] (op :: rest)).val p
        (acc ++ mkOpaque (pTrail c f y (p + 1) [] (op :: rest)).errs)
        (pTrail c f y (p + 1) [] (op :: rest)).rest := by
  simp only [pHigher, h, if_false]

end higher

theorem ExprList.snoc_ne_nil : ∀ (l : ExprList) (x : Expr), l.snoc x ≠ .nil
  | .nil, _ => by simp [ExprList.snoc]
  | .cons _ _, _ => by simp [ExprList.snoc]

/-- the accumulator step of `pExprListTail`, there an anonymous `match r.val with | .nil => acc | x => acc.snoc x`:
    an item that produced no tree is not appended -/
def pushArg (acc : ExprList) (x : Expr) : ExprList :=
  match x with
  | .nil => acc
  | x => acc.snoc x

theorem pushArg_nil (acc : ExprList) : pushArg acc .nil = acc := rfl

theorem pushArg_of_ne {acc : ExprList} {x : Expr} (h : x ≠ .nil) : pushArg acc x = acc.snoc x := by
  cases x <;> first | rfl | exact absurd rfl h

theorem pushArg_cases {motive : ExprList → Prop} (acc : ExprList) (x : Expr)
    (nil : x = .nil → motive acc) (snoc : x ≠ .nil → motive (acc.snoc x)) :
    motive (pushArg acc x) := by
  by_cases h : x = .nil
  · rw [h]; exact nil h
  · rw [pushArg_of_ne h]; exact snoc h

section exprList
variable {c : PCtx} {f : Nat}

theorem pExprList_err {ts : List Token} (h : (pExpr c f ts).errs ≠ []) :
    pExprList c (f + 1) ts = ⟨.nil, (pExpr c f ts).errs, (pExpr c f ts).rest⟩ := by
  simp only [pExprList, h, ne_eq, not_false_eq_true, if_true]

theorem pExprList_tail {ts : List Token} (h : (pExpr c f ts).errs = []) :
    pExprList c (f + 1) ts =
      pExprListTail c f (.cons (pExpr c f ts).val .nil) (pExpr c f ts).rest := by
  simp only [pExprList, h, ne_eq, not_true_eq_false, if_false]

variable {acc : ExprList} {t : Token} {rest : List Token}

theorem pExprListTail_nil : pExprListTail c (f + 1) acc [] = ⟨acc, [], []⟩ := by
  simp only [pExprListTail]

theorem pExprListTail_stop (h : t.kind ≠ .comma) :
    pExprListTail c (f + 1) acc (t :: rest) = ⟨acc, [], t :: rest⟩ := by
  simp only [pExprListTail, h, ne_eq, not_false_eq_true, if_true]

theorem pExprListTail_back (h : t.kind = .comma) (hn : isNF (pExpr c f rest).errs = true) :
    pExprListTail c (f + 1) acc (t :: rest) = ⟨acc, [], t :: rest⟩ := by
  simp only [pExprListTail, h, hn, ne_eq, not_true_eq_false, if_false, if_true]

theorem pExprListTail_err (h : t.kind = .comma) (hn : isNF (pExpr c f rest).errs = false)
    (he : (pExpr c f rest).errs ≠ []) :
    pExprListTail c (f + 1) acc (t :: rest) =
      ⟨pushArg acc (pExpr c f rest).val, mkOpaque (pExpr c f rest).errs, (pExpr c f rest).rest⟩ := by
  simp only [pExprListTail, h, hn, he, ne_eq, not_true_eq_false, not_false_eq_true,
    Bool.false_eq_true, if_false, if_true]
  rfl

theorem pExprListTail_more (h : t.kind = .comma) (he : (pExpr c f rest).errs = []) :
    pExprListTail c (f + 1) acc (t :: rest) =
      pExprListTail c f (pushArg acc (pExpr c f rest).val) (pExpr c f rest).rest := by
  simp only [pExprListTail, h, he, ne_eq, not_true_eq_false, if_false]
  rfl

end exprList

end Pql
