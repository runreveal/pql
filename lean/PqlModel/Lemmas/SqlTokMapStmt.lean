/-
The statement level of "the reference SQL reader commutes with token maps" (Lemmas/SqlTokMap.lean): `mapSelect` /
`mapStatement`, the commutation for `pAlias`, `pTableRef`, `pItems`, `pExprsComma`, `pOrderTerms`, the clauses of
`pSelect`, `pCtes`, and `parseStatement_map`.  A token map never makes a `.qid` token of another token, and the
reader looks for `.qid` tokens at the places where a table name or an alias may stand (`pAlias_nq`, `pTableRef_nq`,
`distinctRef_nq`, `pCtes_nq`).
-/
import PqlModel.Lemmas.SqlTokMap
import PqlModel.Lemmas.ParseStmtClauses
namespace Pql.SqlMap
set_option linter.unusedSimpArgs false
open Pql Sql Pql.C05 E2EMore

def mapItem (ρ : Bytes → Option PVal) (g : String → String) (it : SelectItem) : SelectItem := { it with expr := mapS ρ g it.expr }
def mapOrd (ρ : Bytes → Option PVal) (g : String → String) (o : OrderTerm) : OrderTerm := { o with expr := mapS ρ g o.expr }
def mapJoin (ρ : Bytes → Option PVal) (g : String → String) (j : JoinClause) : JoinClause := { j with on := mapS ρ g j.on }

def mapSelect (ρ : Bytes → Option PVal) (g : String → String) (s : Select) : Select :=
  { s with
    items := s.items.map (mapItem ρ g)
    join := s.join.map (mapJoin ρ g)
    where_ := s.where_.map (mapS ρ g)
    groupBy := s.groupBy.map (mapS ρ g)
    orderBy := s.orderBy.map (mapOrd ρ g)
    limit := s.limit.map (mapS ρ g) }

def mapStatement (ρ : Bytes → Option PVal) (g : String → String) (st : Statement) : Statement :=
  ⟨st.ctes.map fun c => (c.1, mapSelect ρ g c.2), mapSelect ρ g st.body⟩

theorem pAlias_nq (a t : STok) (rest : List STok) (h : ∀ n, t ≠ .qid n) :
    pAlias (a :: t :: rest) = (none, a :: t :: rest) := by
  cases t with
  | qid m => exact absurd rfl (h m)
  | _ => rfl

/-- `(SELECT DISTINCT * FROM "n") [AS "a"]` after the `(` -/
def distinctRef (lp : STok) (rest : List STok) : PR TableRef :=
  match rest with
  | s :: d :: st :: f :: .qid n :: rp :: rest =>
    if isSym lp "(" && isWord s "SELECT" && isWord d "DISTINCT" && isSym st "*" && isWord f "FROM" && isSym rp ")" then
      let a := pAlias rest; some (.distinctOf n a.1, a.2)
    else none
  | _ => none

theorem pTableRef_nq (t : STok) (rest : List STok) (h : ∀ n, t ≠ .qid n) :
    pTableRef (t :: rest) = distinctRef t rest := by
  cases t with
  | qid m => exact absurd rfl (h m)
  | _ =>
    rcases rest with _ | ⟨s, _ | ⟨d, _ | ⟨st, _ | ⟨f, _ | ⟨q, _ | ⟨rp, rest⟩⟩⟩⟩⟩⟩ <;> try rfl
    all_goals (cases q <;> rfl)

theorem distinctRef_nq (lp s d st f q : STok) (rest : List STok) (h : ∀ n, q ≠ .qid n) :
    distinctRef lp (s :: d :: st :: f :: q :: rest) = none := by
  cases q with
  | qid m => exact absurd rfl (h m)
  | _ => cases rest <;> rfl

/-- the part of `joinPart` after the `JOIN` keyword -/
def joinRest (left : Bool) (r5 : List STok) : PR (Option JoinClause) :=
  match pTableRef r5 with
  | some (tr, r6) =>
    match r6 with
    | on :: r7 =>
      if !isWord on "ON" then none else
      match pExprS (fuelOf r7) 0 r7 with
      | some (c, r8) => some (some ⟨left, tr, c⟩, r8)
      | none => none
    | [] => none
  | none => none

theorem joinPart_eq (r3 : List STok) :
    joinPart r3 =
      match r3 with
      | j :: r4 =>
        if isWord j "JOIN" then joinRest false r4
        else if isWord j "LEFT" then
          match r4 with
          | j2 :: r5 => if isWord j2 "JOIN" then joinRest true r5 else none
          | [] => none
        else some (none, r3)
      | [] => some (none, []) := by
  cases r3 with
  | nil => rfl
  | cons j r4 =>
    simp only [joinPart]
    by_cases hj : isWord j "JOIN" = true
    · simp only [hj, if_true]; rfl
    · simp only [hj, if_false, Bool.false_eq_true]
      by_cases hl : isWord j "LEFT" = true
      · simp only [hl, if_true]
        cases r4 with
        | nil => rfl
        | cons j2 r5 =>
          by_cases hj2 : isWord j2 "JOIN" = true
          · simp only [hj2, if_true]; rfl
          · simp only [hj2, if_false, Bool.false_eq_true, hl, if_true]
      · simp only [hl, if_false, Bool.false_eq_true]

theorem pCtes_nq (fuel : Nat) (t : STok) (rest : List STok) (h : ∀ n, t ≠ .qid n) :
    pCtes (fuel + 1) (t :: rest) = none := by
  cases t with
  | qid m => exact absurd rfl (h m)
  | _ => rcases rest with _ | ⟨a, _ | ⟨b, r⟩⟩ <;> rfl

section
variable (ρ : Bytes → Option PVal) (g : String → String)

def restM {α : Type} (r : α × List STok) : α × List STok := (r.1, r.2.map (mapTok ρ g))

theorem fuelOf_mapTok (ts : List STok) : fuelOf (ts.map (mapTok ρ g)) = fuelOf ts := by simp [fuelOf]

variable {g} (hg : GOk g)
include hg

omit hg in
theorem pAlias_c (ts : List STok) : pAlias (ts.map (mapTok ρ g)) = restM ρ g (pAlias ts) := by
  rcases ts with _ | ⟨a, _ | ⟨q, rest⟩⟩
  · rfl
  · rfl
  · by_cases hq : ∃ n, q = .qid n
    · obtain ⟨n, rfl⟩ := hq
      simp only [List.map_cons, mapTok_qid, pAlias, isWord_map ρ]
      split <;> simp [restM, mapTok_qid]
    · have hq' : ∀ n, q ≠ .qid n := fun n e => hq ⟨n, e⟩
      rw [List.map_cons, List.map_cons, pAlias_nq _ _ _ (mapTok_not_qid ρ hq'), pAlias_nq _ _ _ hq']
      rfl

theorem distinctRef_c (lp : STok) (rest : List STok) :
    distinctRef (mapTok ρ g lp) (rest.map (mapTok ρ g)) = (distinctRef lp rest).map (restM ρ g) := by
  rcases rest with _ | ⟨s, _ | ⟨d, _ | ⟨st, _ | ⟨f, _ | ⟨q, rest⟩⟩⟩⟩⟩
  · rfl
  · rfl
  · rfl
  · rfl
  · rfl
  · by_cases hq : ∃ n, q = .qid n
    · obtain ⟨n, rfl⟩ := hq
      rcases rest with _ | ⟨rp, rest⟩
      · rfl
      · simp only [List.map_cons, mapTok_qid, distinctRef, isWord_map ρ, isSym_maps ρ hg, pAlias_c ρ]
        split <;> simp [restM]
    · have hq' : ∀ n, q ≠ .qid n := fun n e => hq ⟨n, e⟩
      simp only [List.map_cons]
      rw [distinctRef_nq _ _ _ _ _ _ _ (mapTok_not_qid ρ hq'), distinctRef_nq _ _ _ _ _ _ _ hq']
      rfl

theorem pTableRef_c (ts : List STok) : pTableRef (ts.map (mapTok ρ g)) = (pTableRef ts).map (restM ρ g) := by
  cases ts with
  | nil => rfl
  | cons t rest =>
    by_cases hq : ∃ n, t = .qid n
    · obtain ⟨n, rfl⟩ := hq
      simp [pTableRef, mapTok_qid, pAlias_c ρ, restM]
    · have hq' : ∀ n, t ≠ .qid n := fun n e => hq ⟨n, e⟩
      rw [List.map_cons, pTableRef_nq _ _ (mapTok_not_qid ρ hq'), pTableRef_nq _ _ hq']
      exact distinctRef_c ρ hg t rest

theorem pItem_c (ts : List STok) :
    pItem (ts.map (mapTok ρ g)) = (pItem ts).map (fun r => (mapItem ρ g r.1, r.2.map (mapTok ρ g))) := by
  cases ts with
  | nil => rfl
  | cons st rest =>
    simp only [List.map_cons, pItem, isSym_maps ρ hg]
    split
    · simp [mapItem, mapS]
    · rw [← List.map_cons, fuelOf_mapTok, pExprS_map ρ hg]
      cases pExprS (fuelOf (st :: rest)) 0 (st :: rest) with
      | none => rfl
      | some er => simp [mapR, pAlias_c ρ, restM, mapItem]

theorem pItems_c : ∀ (fuel : Nat) (ts : List STok),
    pItems fuel (ts.map (mapTok ρ g)) =
      (pItems fuel ts).map (fun r => (r.1.map (mapItem ρ g), r.2.map (mapTok ρ g))) :=
  pItems_loop.map (fun _ => rfl) (isSym_map ρ hg · (by decide)) (pItem_c ρ hg)

theorem pExprsComma_c : ∀ (fuel : Nat) (ts : List STok),
    pExprsComma fuel (ts.map (mapTok ρ g)) =
      (pExprsComma fuel ts).map (fun r => (r.1.map (mapS ρ g), r.2.map (mapTok ρ g))) :=
  pExprsComma_loop.map (fun _ => rfl) (isSym_map ρ hg · (by decide)) fun ts => by
    rw [fuelOf_mapTok, pExprS_map ρ hg]; rfl

theorem pOrderTerm_c (ts : List STok) :
    pOrderTerm (ts.map (mapTok ρ g)) = (pOrderTerm ts).map (fun r => (mapOrd ρ g r.1, r.2.map (mapTok ρ g))) := by
  simp only [pOrderTerm, fuelOf_mapTok, pExprS_map ρ hg]
  rcases pExprS (fuelOf ts) 0 ts with _ | ⟨e, _ | ⟨d, _ | ⟨n, _ | ⟨fl, r2⟩⟩⟩⟩
  iterate 4 rfl
  simp only [Option.map_some, mapR, List.map_cons, isWord_map ρ]
  split <;> rfl

theorem pOrderTerms_c : ∀ (fuel : Nat) (ts : List STok),
    pOrderTerms fuel (ts.map (mapTok ρ g)) =
      (pOrderTerms fuel ts).map (fun r => (r.1.map (mapOrd ρ g), r.2.map (mapTok ρ g))) :=
  pOrderTerms_loop.map (fun _ => rfl) (isSym_map ρ hg · (by decide)) (pOrderTerm_c ρ hg)


theorem joinRest_c (left : Bool) (r5 : List STok) :
    joinRest left (r5.map (mapTok ρ g)) =
      (joinRest left r5).map (fun r => (r.1.map (mapJoin ρ g), r.2.map (mapTok ρ g))) := by
  simp only [joinRest, pTableRef_c ρ hg]
  cases pTableRef r5 with
  | none => rfl
  | some tr =>
    obtain ⟨tr, r6⟩ := tr
    cases r6 with
    | nil => rfl
    | cons on r7 =>
      simp only [Option.map_some, restM, List.map_cons, isWord_map ρ]
      refine ite_map (fun _ => rfl) fun _ => ?_
      rw [fuelOf_mapTok, pExprS_map ρ hg]
      cases pExprS (fuelOf r7) 0 r7 <;> simp [mapR, mapJoin]

theorem joinPart_c (ts : List STok) :
    joinPart (ts.map (mapTok ρ g)) =
      (joinPart ts).map (fun r => (r.1.map (mapJoin ρ g), r.2.map (mapTok ρ g))) := by
  rw [joinPart_eq, joinPart_eq]
  cases ts with
  | nil => rfl
  | cons j r4 =>
    simp only [List.map_cons, isWord_map ρ]
    refine ite_map (fun _ => joinRest_c ρ hg _ _) fun _ => ite_map (fun _ => ?_) fun _ => by simp
    cases r4 with
    | nil => rfl
    | cons j2 r5 =>
      simp only [List.map_cons, isWord_map ρ]
      exact ite_map (fun _ => joinRest_c ρ hg _ _) fun _ => rfl

theorem exprClause_c (kw : String) (ts : List STok) :
    exprClause kw (ts.map (mapTok ρ g)) =
      (exprClause kw ts).map (fun r => (r.1.map (mapS ρ g), r.2.map (mapTok ρ g))) := by
  cases ts with
  | nil => rfl
  | cons w r5 =>
    simp only [List.map_cons, exprClause, isWord_map ρ]
    refine ite_map (fun _ => ?_) fun _ => by simp
    rw [fuelOf_mapTok, pExprS_map ρ hg]
    cases pExprS (fuelOf r5) 0 r5 <;> simp [mapR]

omit hg in
theorem listClause_c {α : Type} (kw : String) {loop : Nat → List STok → PR (List α)} {f : α → α}
    (hl : ∀ fuel ts, loop fuel (ts.map (mapTok ρ g)) = (loop fuel ts).map (fun r => (r.1.map f, r.2.map (mapTok ρ g))))
    (ts : List STok) :
    listClause kw loop (ts.map (mapTok ρ g)) =
      (listClause kw loop ts).map (fun r => (r.1.map f, r.2.map (mapTok ρ g))) := by
  rcases ts with _ | ⟨g, _ | ⟨b, r6⟩⟩
  · rfl
  · rfl
  · simp only [List.map_cons, listClause, isWord_map ρ, List.length_map]
    exact ite_map (fun _ => hl _ _) fun _ => by simp

theorem pSelect_c (ts : List STok) :
    pSelect (ts.map (mapTok ρ g)) = (pSelect ts).map (fun r => (mapSelect ρ g r.1, r.2.map (mapTok ρ g))) := by
  rw [pSelect_eq, pSelect_eq]
  cases ts with
  | nil => rfl
  | cons s rest =>
  simp only [List.map_cons, pSelect', wherePart, groupPart, orderPart, limitPart, isWord_map ρ, List.length_map]
  refine ite_map (fun _ => rfl) fun _ => ?_
  rw [pItems_c ρ hg]
  rcases pItems (rest.length + 1) rest with _ | ⟨items, _ | ⟨f, r2⟩⟩
  · rfl
  · rfl
  simp only [Option.map_some, List.map_cons, isWord_map ρ]
  refine ite_map (fun _ => rfl) fun _ => ?_
  rw [pTableRef_c ρ hg]
  rcases pTableRef r2 with _ | ⟨src, r3⟩
  · rfl
  simp only [Option.map_some, restM, joinPart_c ρ hg]
  rcases joinPart r3 with _ | ⟨jn, r4⟩
  · rfl
  simp only [Option.map_some, exprClause_c ρ hg]
  rcases exprClause "WHERE" r4 with _ | ⟨wh, r5⟩
  · rfl
  simp only [Option.map_some, listClause_c ρ "GROUP" (pExprsComma_c ρ hg)]
  rcases listClause "GROUP" pExprsComma r5 with _ | ⟨gb, r6⟩
  · rfl
  simp only [Option.map_some, listClause_c ρ "ORDER" (pOrderTerms_c ρ hg)]
  rcases listClause "ORDER" pOrderTerms r6 with _ | ⟨ob, r7⟩
  · rfl
  simp only [Option.map_some, exprClause_c ρ hg]
  rcases exprClause "LIMIT" r7 with _ | ⟨lim, r8⟩
  · rfl
  simp only [Option.map_some, mapSelect]

theorem pCte_c (ts : List STok) :
    pCte (ts.map (mapTok ρ g)) = (pCte ts).map (fun r => ((r.1.1, mapSelect ρ g r.1.2), r.2.map (mapTok ρ g))) := by
  rcases ts with _ | ⟨t, rest⟩
  · rfl
  by_cases hq : ∃ n, t = .qid n
  · obtain ⟨n, rfl⟩ := hq
    rcases rest with _ | ⟨a, _ | ⟨lp, rest⟩⟩
    · rfl
    · rfl
    · simp only [List.map_cons, mapTok_qid, pCte, isWord_map ρ, isSym_maps ρ hg, pSelect_c ρ hg]
      split
      · rcases pSelect rest with _ | ⟨sel, _ | ⟨rp, r2⟩⟩
        · rfl
        · rfl
        · simp only [Option.map_some, List.map_cons, isSym_maps ρ hg]
          split <;> rfl
      · rfl
  · have hq' : ∀ n, t ≠ .qid n := fun n e => hq ⟨n, e⟩
    rw [List.map_cons, pCte_nq (mapTok_not_qid ρ hq'), pCte_nq hq']
    rfl

theorem pCtes_c : ∀ (fuel : Nat) (ts : List STok),
    pCtes fuel (ts.map (mapTok ρ g)) =
      (pCtes fuel ts).map (fun r => (r.1.map (fun c => (c.1, mapSelect ρ g c.2)), r.2.map (mapTok ρ g))) :=
  pCtes_loop.map (fun _ => rfl) (isSym_map ρ hg · (by decide)) (pCte_c ρ hg)

theorem parseStatement_map (ts : List STok) :
    parseStatement (ts.map (mapTok ρ g)) = (parseStatement ts).map (mapStatement ρ g) := by
  unfold parseStatement
  cases ts with
  | nil => rfl
  | cons w rest =>
    have key : ∀ (wp : PR (List (Bytes × Select))),
        (match wp.map (fun r => (r.1.map (fun c => (c.1, mapSelect ρ g c.2)), r.2.map (mapTok ρ g))) with
          | some (ctes, r) =>
            match pSelect r with
            | some (body, r2) =>
              match r2 with
              | [semi] => if isSym semi ";" then some (⟨ctes, body⟩ : Statement) else none
              | _ => none
            | none => none
          | none => none) =
        (match wp with
          | some (ctes, r) =>
            match pSelect r with
            | some (body, r2) =>
              match r2 with
              | [semi] => if isSym semi ";" then some (⟨ctes, body⟩ : Statement) else none
              | _ => none
            | none => none
          | none => none).map (mapStatement ρ g) := by
      intro wp
      cases wp with
      | none => rfl
      | some cr =>
        obtain ⟨ctes, r⟩ := cr
        simp only [Option.map_some, pSelect_c ρ hg]
        cases pSelect r with
        | none => rfl
        | some br =>
          obtain ⟨body, r2⟩ := br
          rcases r2 with _ | ⟨semi, _ | ⟨x, r3⟩⟩
          · rfl
          · simp only [Option.map_some, List.map_cons, List.map_nil, isSym_maps ρ hg]
            split <;> simp [mapStatement]
          · rfl
    simp only [List.map_cons, isWord_map ρ, List.length_map]
    by_cases hw : isWord w "WITH" = true
    · simp only [hw, if_true]
      rw [pCtes_c ρ hg]; exact key _
    · simp only [hw, if_false, Bool.false_eq_true]
      exact key (some ([], w :: rest))


end
end Pql.SqlMap
