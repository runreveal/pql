/-
`SplitStatements` described recursively over the scan (`splitStatements_cases`: no semicolon token, or
`u ++ ';' :: v` with the ';' on a step boundary and `u` free of semicolon tokens) and the induction over its pieces
that this gives (`splitStatements_induct`).  The offset argument of `scanFrom` only shifts the spans
(`scanFrom_shift`), so the tokens behind the ';' are those of `scan v`, moved.

`Token.shift` (a token moved by an offset) is defined here.  Pieces of `SplitStatements` against the token
stream: the start offset of every piece and the tokens of the whole scan that lie inside a piece.
`pieceStarts` and `tokensWithin` are used in the statement of `C15_piece_tokens_at`.
-/
import PqlModel.Lemmas.LexReach
namespace Pql

theorem splitAtSemis_ne_nil (src : Bytes) (ts : List Token) (start : Nat) :
    splitAtSemis src ts start ≠ [] := by
  induction ts generalizing start with
  | nil => simp [splitAtSemis]
  | cons t ts ih => simp only [splitAtSemis]; split <;> simp [ih]

theorem splitStatements_ne_nil (x : Bytes) : splitStatements x ≠ [] :=
  splitAtSemis_ne_nil _ _ _

def Token.shift (d : Nat) (t : Token) : Token := ⟨t.kind, t.start + d, t.stop + d, t.value⟩

@[simp] theorem Token.shift_kind (d : Nat) (t : Token) : (t.shift d).kind = t.kind := rfl
@[simp] theorem Token.shift_start (d : Nat) (t : Token) : (t.shift d).start = t.start + d := rfl
@[simp] theorem Token.shift_stop (d : Nat) (t : Token) : (t.shift d).stop = t.stop + d := rfl
@[simp] theorem Token.shift_zero (t : Token) : t.shift 0 = t := rfl

theorem Token.shift_shift (a b : Nat) (t : Token) : (t.shift a).shift b = t.shift (a + b) := by
  simp [Token.shift, Nat.add_assoc]

theorem Step.toks_shift (st : Step) (a b : Nat) :
    st.toks (a + b) = (st.toks a).map (Token.shift b) := by
  unfold Step.toks
  split <;> simp [Token.shift]; omega

theorem scanFrom_shift (s : Bytes) (a b : Nat) :
    scanFrom s (a + b) = (scanFrom s a).map (Token.shift b) := by
  refine scanFrom_induct (P := fun s a ts => scanFrom s (a + b) = ts.map (Token.shift b)) ?_ ?_ s a
  · exact fun a => scanFrom_nil _
  intro s a tl hs _ _ _ ih
  rw [scanFrom_step hs, List.map_append, Step.toks_shift, Nat.add_right_comm, ih]

theorem scanFrom_eq_map_scan (s : Bytes) (off : Nat) :
    scanFrom s off = (scan s).map (Token.shift off) := by
  have := scanFrom_shift s 0 off
  simpa [scan] using this

theorem scan_semi_split (u v : Bytes) (hr : Reaches (u ++ 59 :: v) u.length) :
    scan (u ++ 59 :: v) = scan u ++ ⟨.semi, u.length, u.length + 1, []⟩ ::
      (scan v).map (Token.shift (u.length + 1)) := by
  have := scanFrom_semi_split u v 0 hr
  rw [scanFrom_eq_map_scan v] at this
  simpa [scan] using this

theorem splitAtSemis_shift (pre s : Bytes) (ts : List Token) (k : Nat) :
    splitAtSemis (pre ++ s) (ts.map (Token.shift pre.length)) (pre.length + k) =
      splitAtSemis s ts k := by
  induction ts generalizing k with
  | nil => simp [splitAtSemis, List.drop_append]
  | cons t ts ih =>
    simp only [List.map_cons, splitAtSemis, Token.shift_kind]
    by_cases hk : t.kind = .semi
    · simp only [hk, if_true]
      have := ih t.stop
      rw [Nat.add_comm] at this
      simp only [Token.shift]
      rw [this]
      congr 1
      have h1 : t.start + pre.length - (pre.length + k) = t.start - k := by omega
      rw [h1]
      congr 1
      simp [List.drop_append]
    · simp only [hk, if_false]
      exact ih k

theorem splitAtSemis_append_nosemi (src : Bytes) (as bs : List Token) (k : Nat)
    (h : ∀ t ∈ as, t.kind ≠ .semi) :
    splitAtSemis src (as ++ bs) k = splitAtSemis src bs k := by
  induction as with
  | nil => rfl
  | cons t as ih =>
    simp only [List.cons_append, splitAtSemis]
    rw [if_neg (h t (by simp))]
    exact ih (fun t' ht' => h t' (by simp [ht']))

theorem splitAtSemis_nosemi (src : Bytes) (ts : List Token) (k : Nat)
    (h : ∀ t ∈ ts, t.kind ≠ .semi) : splitAtSemis src ts k = [src.drop k] := by
  have := splitAtSemis_append_nosemi src ts [] k h
  simpa [splitAtSemis] using this

theorem splitStatements_nosemi (s : Bytes) (h : ∀ t ∈ scan s, t.kind ≠ .semi) :
    splitStatements s = [s] := by
  simp [splitStatements, splitAtSemis_nosemi s (scan s) 0 h]

theorem splitStatements_semi (u v : Bytes) (hr : Reaches (u ++ 59 :: v) u.length)
    (h : ∀ t ∈ scan u, t.kind ≠ .semi) :
    splitStatements (u ++ 59 :: v) = u :: splitStatements v := by
  unfold splitStatements
  rw [scan_semi_split u v hr, splitAtSemis_append_nosemi _ _ _ _ h]
  simp only [splitAtSemis, if_true, List.drop_zero, Nat.sub_zero]
  congr 1
  · simp
  · have := splitAtSemis_shift (u ++ [59]) v (scan v) 0
    simp only [List.length_append, List.length_cons, List.length_nil, Nat.add_zero,
      List.append_assoc, List.cons_append, List.nil_append] at this
    exact this

theorem splitStatements_cases (s : Bytes) :
    ((∀ t ∈ scan s, t.kind ≠ .semi) ∧ splitStatements s = [s]) ∨
    ∃ u v, s = u ++ 59 :: v ∧ Reaches s u.length ∧ (∀ t ∈ scan u, t.kind ≠ .semi) ∧
      splitStatements s = u :: splitStatements v := by
  by_cases h : ∃ t ∈ scanFrom s 0, t.kind = .semi
  · obtain ⟨u, v, h1, h2, h3⟩ := exists_first_semi s 0 h
    right
    refine ⟨u, v, h1, h2, h3, ?_⟩
    subst h1
    exact splitStatements_semi u v h2 h3
  · left
    have h' : ∀ t ∈ scan s, t.kind ≠ .semi := fun t ht hk => h ⟨t, ht, hk⟩
    exact ⟨h', splitStatements_nosemi s h'⟩


theorem splitStatements_induct {P : Bytes → List Bytes → Prop}
    (last : ∀ s, (∀ t ∈ scan s, t.kind ≠ .semi) → P s [s])
    (cons : ∀ u v, Reaches (u ++ 59 :: v) u.length → (∀ t ∈ scan u, t.kind ≠ .semi) →
      P v (splitStatements v) → P (u ++ 59 :: v) (u :: splitStatements v))
    (s : Bytes) : P s (splitStatements s) := by
  induction hn : s.length using Nat.strongRecOn generalizing s with
  | _ n ih =>
    subst hn
    rcases splitStatements_cases s with ⟨h1, h2⟩ | ⟨u, v, rfl, h2, h3, h4⟩
    · rw [h2]; exact last s h1
    · rw [h4]; exact cons u v h2 h3 (ih v.length (by simp; omega) v rfl)

end Pql

namespace Pql

/-- absolute start offsets of the pieces: 0, and one past every semicolon token -/
def pieceStarts (src : Bytes) : List Nat :=
  0 :: ((scan src).filter (·.kind = .semi)).map (·.stop)

theorem pieceStarts_nosemi (s : Bytes) (h : ∀ t ∈ scan s, t.kind ≠ .semi) : pieceStarts s = [0] := by
  unfold pieceStarts
  rw [List.filter_eq_nil_iff.mpr (by simpa using h)]
  rfl

theorem pieceStarts_semi (u v : Bytes) (hr : Reaches (u ++ 59 :: v) u.length)
    (h : ∀ t ∈ scan u, t.kind ≠ .semi) :
    pieceStarts (u ++ 59 :: v) = 0 :: (pieceStarts v).map (· + (u.length + 1)) := by
  unfold pieceStarts
  rw [scan_semi_split u v hr, List.filter_append, List.filter_eq_nil_iff.mpr (by simpa using h)]
  simp only [List.filter_map, Function.comp_def, List.filter_cons, List.map_cons, List.map_map, List.nil_append, Token.shift_kind, Token.shift_stop, decide_true, if_true, Nat.zero_add]
  rfl


theorem map_shift_zero (ts : List Token) : ts.map (Token.shift 0) = ts := by
  have : Token.shift 0 = id := rfl
  rw [this, List.map_id]

def tokensWithin (ts : List Token) (o len : Nat) : List Token :=
  ts.filter fun t => o ≤ t.start ∧ t.stop ≤ o + len

theorem tokensWithin_self (s : Bytes) : tokensWithin (scan s) 0 s.length = scan s := by
  unfold tokensWithin
  rw [List.filter_eq_self]
  intro t ht
  have := mem_scan_bounds s t ht
  simp; omega

theorem tokensWithin_map_shift (ts : List Token) (o len d : Nat) :
    tokensWithin (ts.map (Token.shift d)) (o + d) len = (tokensWithin ts o len).map (Token.shift d) := by
  unfold tokensWithin
  rw [List.filter_map]
  congr 1
  apply List.filter_congr
  intro t _
  simp only [Function.comp, Token.shift_start, Token.shift_stop]
  apply decide_eq_decide.mpr
  omega

theorem tokensWithin_append (as bs : List Token) (o len : Nat) :
    tokensWithin (as ++ bs) o len = tokensWithin as o len ++ tokensWithin bs o len := by
  simp [tokensWithin]

theorem tokensWithin_eq_nil (ts : List Token) (o len : Nat)
    (h : ∀ t ∈ ts, ¬(o ≤ t.start ∧ t.stop ≤ o + len)) : tokensWithin ts o len = [] := by
  unfold tokensWithin
  rw [List.filter_eq_nil_iff]
  intro t ht
  simpa using h t ht

theorem drop_semi_append (u v : Bytes) (o : Nat) :
    (u ++ 59 :: v).drop (o + (u.length + 1)) = v.drop o := by
  have : u ++ 59 :: v = (u ++ [59]) ++ v := by simp
  rw [this, List.drop_append]
  simp

end Pql
