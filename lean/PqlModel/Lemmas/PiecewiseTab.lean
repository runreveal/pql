/-
Property C15, parse half — moving the tokens of a statement `d` bytes to the right, into a source
of another length, is a token map (`shiftMap`): every production commutes with it
(`Lemmas/ParseMapTab`).
-/
import PqlModel.Lemmas.PiecewiseDefs
import PqlModel.Lemmas.ParseMapTab
namespace Pql.Piecewise
open Pql Pql.Layout

theorem shIdent_eq (d : Nat) : shIdent d = mapIdent (shSpan d) := rfl

mutual
theorem shExpr_map (d : Nat) : (x : Expr) → shExpr d x = mapExpr (shSpan d) x
  | .nil => rfl
  | .qident _ => rfl
  | .lit _ _ _ => rfl
  | .unary _ _ x => by rw [shExpr, mapExpr, shExpr_map d x]
  | .binary x _ _ y => by rw [shExpr, mapExpr, shExpr_map d x, shExpr_map d y]
  | .inE x _ _ vals _ => by rw [shExpr, mapExpr, shExpr_map d x, shExprList_map d vals]
  | .paren _ x _ => by rw [shExpr, mapExpr, shExpr_map d x]
  | .call _ _ args _ => by rw [shExpr, mapExpr, shExprList_map d args, shIdent_eq]
  | .index x _ idx _ => by rw [shExpr, mapExpr, shExpr_map d x, shExpr_map d idx]
theorem shExprList_map (d : Nat) : (es : ExprList) → shExprList d es = mapExprList (shSpan d) es
  | .nil => rfl
  | .cons e es => by rw [shExprList, mapExprList, shExpr_map d e, shExprList_map d es]
end

theorem shExpr_eq (d : Nat) : shExpr d = mapExpr (shSpan d) := funext (shExpr_map d)
theorem shExprList_eq (d : Nat) : shExprList d = mapExprList (shSpan d) := funext (shExprList_map d)
theorem shSortTerm_eq (d : Nat) : shSortTerm d = mapSortTerm (shSpan d) := by
  funext t; rw [shSortTerm, mapSortTerm, shExpr_eq]
theorem shColumn_eq (d : Nat) : shColumn d = mapColumn (shSpan d) := by
  funext c; rw [shColumn, mapColumn, shExpr_eq, shIdent_eq]
theorem shRenderProp_eq (d : Nat) : shRenderProp d = mapRenderProp (shSpan d) := by
  funext p; rw [shRenderProp, mapRenderProp, shExpr_eq, shIdent_eq]

mutual
theorem shTabular_map (d : Nat) : (t : Tabular) → shTabular d t = mapTabular (shSpan d) t
  | .nil => rfl
  | .mk _ ops => by rw [shTabular, mapTabular, shOpList_map d ops, shIdent_eq]
theorem shOp_map (d : Nat) : (o : Op) → shOp d o = mapOp (shSpan d) o
  | .count _ _ => rfl
  | .where_ _ _ _ => by rw [shOp, mapOp, shExpr_eq]
  | .sort _ _ _ => by rw [shOp, mapOp, shSortTerm_eq]
  | .take _ _ _ => by rw [shOp, mapOp, shExpr_eq]
  | .top _ _ _ _ _ => by rw [shOp, mapOp, shExpr_eq, shSortTerm_eq]
  | .project _ _ _ => by rw [shOp, mapOp, shColumn_eq]
  | .extend _ _ _ => by rw [shOp, mapOp, shColumn_eq]
  | .summarize _ _ _ _ _ => by rw [shOp, mapOp, shColumn_eq]
  | .join _ _ _ _ _ _ right _ _ _ => by
    rw [shOp, mapOp, shTabular_map d right, shExprList_eq, shIdent_eq]
  | .as_ _ _ _ => by rw [shOp, mapOp, shIdent_eq]
  | .render _ _ _ _ _ _ _ => by rw [shOp, mapOp, shRenderProp_eq, shIdent_eq]
theorem shOpList_map (d : Nat) : (os : OpList) → shOpList d os = mapOpList (shSpan d) os
  | .nil => rfl
  | .cons o os => by rw [shOpList, mapOpList, shOp_map d o, shOpList_map d os]
end

theorem shTabular_eq (d : Nat) : shTabular d = mapTabular (shSpan d) := funext (shTabular_map d)
theorem shOp_eq (d : Nat) : shOp d = mapOp (shSpan d) := funext (shOp_map d)
theorem shOpList_eq (d : Nat) : shOpList d = mapOpList (shSpan d) := funext (shOpList_map d)
theorem shStmt_eq (d : Nat) : shStmt d = mapStmt (shSpan d) := by
  funext s; cases s <;> rw [shStmt, mapStmt]
  · rw [shExpr_eq, shIdent_eq]
  · rw [shTabular_eq]

/-- a statement of a source of length `n` inside a source of length `m`, at offset `d`; acts on
    non-empty tokens, whose spans are neither `Span.zero` nor the end of input `n:n` -/
def shiftMap (n m d : Nat) : TokMap where
  tok := Token.shift d
  sp := shSpan d
  esp := shESpan n m d
  src := ⟨n⟩
  dst := ⟨m⟩
  ok := fun t => t.start < t.stop
  lt := fun _ _ => True
  kind := fun _ => rfl
  value := fun _ => rfl
  span := span_shift d
  espan := fun t h => (shESpan_tok n m d t h).trans (span_shift d t h)
  span2 := fun t u _ hu _ => span2_shift d t u hu
  null := shSpan_null d
  zero := shSpan_zero d
  eof := shESpan_eof n m d

variable {n m d : Nat}

theorem Sh.of_comm {α β : Type} {f : α → β} {r : PRes α} {r' : PRes β}
    (h : (shiftMap n m d).Comm f r r') : Sh n m d f r r' := ⟨h.1, h.2.1⟩

theorem ok_of_tokP {ts : List Token} (h : TokP ts) : (shiftMap n m d).Ok ts :=
  ⟨h, List.pairwise_of_forall fun _ _ => trivial⟩

structure ExprSh (n m d fuel : Nat) : Prop where
  expr : ∀ ts, TokP ts →
    Sh n m d (shExpr d) (pExpr ⟨n⟩ fuel ts) (pExpr ⟨m⟩ fuel (ts.map (Token.shift d)))
  trail : ∀ x mp acc ts, TokP ts →
    Sh n m d (shExpr d) (pTrail ⟨n⟩ fuel x mp acc ts)
      (pTrail ⟨m⟩ fuel (shExpr d x) mp (mapE n m d acc) (ts.map (Token.shift d)))
  higher : ∀ y p1 acc ts, TokP ts →
    Sh n m d (shExpr d) (pHigher ⟨n⟩ fuel y p1 acc ts)
      (pHigher ⟨m⟩ fuel (shExpr d y) p1 (mapE n m d acc) (ts.map (Token.shift d)))
  unary : ∀ ts, TokP ts →
    Sh n m d (shExpr d) (pUnary ⟨n⟩ fuel ts) (pUnary ⟨m⟩ fuel (ts.map (Token.shift d)))
  primary : ∀ ts, TokP ts →
    Sh n m d (shExpr d) (pPrimary ⟨n⟩ fuel ts) (pPrimary ⟨m⟩ fuel (ts.map (Token.shift d)))
  inner : ∀ ts, TokP ts →
    Sh n m d (shExpr d) (pInner ⟨n⟩ fuel ts) (pInner ⟨m⟩ fuel (ts.map (Token.shift d)))
  exprList : ∀ ts, TokP ts →
    Sh n m d (shExprList d) (pExprList ⟨n⟩ fuel ts) (pExprList ⟨m⟩ fuel (ts.map (Token.shift d)))
  exprListTail : ∀ acc ts, TokP ts →
    Sh n m d (shExprList d) (pExprListTail ⟨n⟩ fuel acc ts)
      (pExprListTail ⟨m⟩ fuel (shExprList d acc) (ts.map (Token.shift d)))


theorem exprSh (fuel : Nat) : ExprSh n m d fuel := by
  have h := (shiftMap n m d).exprComm fuel
  constructor
  · intro ts ht; rw [shExpr_eq]; exact Sh.of_comm (h.expr ts (ok_of_tokP ht))
  · intro x mp acc ts ht; rw [shExpr_eq]; exact Sh.of_comm (h.trail x mp acc ts (ok_of_tokP ht))
  · intro y p1 acc ts ht; rw [shExpr_eq]; exact Sh.of_comm (h.higher y p1 acc ts (ok_of_tokP ht))
  · intro ts ht; rw [shExpr_eq]; exact Sh.of_comm (h.unary ts (ok_of_tokP ht))
  · intro ts ht; rw [shExpr_eq]; exact Sh.of_comm (h.primary ts (ok_of_tokP ht))
  · intro ts ht; rw [shExpr_eq]; exact Sh.of_comm (h.inner ts (ok_of_tokP ht))
  · intro ts ht; rw [shExprList_eq]; exact Sh.of_comm (h.exprList ts (ok_of_tokP ht))
  · intro acc ts ht; rw [shExprList_eq]; exact Sh.of_comm (h.exprListTail acc ts (ok_of_tokP ht))

/-- `TokMap.CommO` at `shiftMap n m d`, written with the `sh…` functions -/
def ShO (n m d : Nat) (r : Option (PRes Op)) (r' : Option (PRes Op)) : Prop :=
  r' = r.map (fun r => ⟨shOp d r.val, mapE n m d r.errs, r.rest.map (Token.shift d)⟩) ∧
    ∀ x, r = some x → TokP x.rest


structure TabSh (n m d fuel : Nat) : Prop where
  tabular : ∀ ts, TokP ts →
    Sh n m d (shTabular d) (pTabular ⟨n⟩ fuel ts) (pTabular ⟨m⟩ fuel (ts.map (Token.shift d)))
  ops : ∀ ops acc ts, TokP ts →
    Sh n m d (shOpList d) (pOps ⟨n⟩ fuel ops acc ts)
      (pOps ⟨m⟩ fuel (shOpList d ops) (mapE n m d acc) (ts.map (Token.shift d)))
  operator : ∀ pipe name ts, name.start < name.stop → TokP ts →
    ShO n m d (pOperator ⟨n⟩ fuel pipe name ts)
      (pOperator ⟨m⟩ fuel (shSpan d pipe) (name.shift d) (ts.map (Token.shift d)))
  join : ∀ pipe kw ts, TokP ts →
    Sh n m d (shOp d) (pJoin ⟨n⟩ fuel pipe kw ts)
      (pJoin ⟨m⟩ fuel (shSpan d pipe) (shSpan d kw) (ts.map (Token.shift d)))


theorem tabSh (fuel : Nat) : TabSh n m d fuel := by
  have h := (shiftMap n m d).tabComm fuel
  constructor
  · intro ts ht; rw [shTabular_eq]; exact Sh.of_comm (h.tabular ts (ok_of_tokP ht))
  · intro ops acc ts ht; rw [shOpList_eq]; exact Sh.of_comm (h.ops ops acc ts (ok_of_tokP ht))
  · intro pipe name ts hn ht; unfold ShO; rw [shOp_eq]
    have := h.operator pipe name ts (ok_of_tokP (ts := name :: ts) ((TokP_cons _ _).mpr ⟨hn, ht⟩))
    exact ⟨this.1, fun x hx => (this.2 x hx).1⟩
  · intro pipe kw ts ht; rw [shOp_eq]; exact Sh.of_comm (h.join pipe kw ts (ok_of_tokP ht))

/-- **One iteration of `Parse`'s loop commutes with moving the statement's tokens.**  The tokens
    `ts` of a statement (all non-empty), parsed in a source of length `n`, against the same tokens
    moved `d` bytes to the right, parsed in a source of length `m`: the statement is the same with
    every span moved by `d`; the error leaves are the same with positions moved by `d`, except that
    the end-of-input position `n:n` becomes `m:m`; the "replaces the accumulated error" flag is
    the same. -/
theorem pStatement_sh (ts : List Token) (h : TokP ts) :
    pStatement ⟨m⟩ (ts.map (Token.shift d)) =
      ((pStatement ⟨n⟩ ts).1.map (shStmt d), mapE n m d (pStatement ⟨n⟩ ts).2.1,
        (pStatement ⟨n⟩ ts).2.2) := by
  rw [shStmt_eq]
  exact (shiftMap n m d).pStatement_map ts (ok_of_tokP h)

end Pql.Piecewise
