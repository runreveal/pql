/-
The regenerated units of `Facts.exprParseIR` (harness/extract_exprparse.go), decoded: the expected statement tree
of every unit and the fact that the regenerated IR decodes to it.  A changed Go statement changes the
regenerated IR and the `…_ir` fact of that unit stops being true; the semantic theorems of
Lemmas/ExprParseIRCursor.lean (`next`, `prev`), ExprParseIRLeaves, ExprParseIRSplit, ExprParseIRInner,
ExprParseIRTrail and ExprParseIRProd (the productions) are about these trees.
(The trees are literal text; nothing in this file is regenerated.)
In this file `xIR_ir` is the decode fact "the regenerated unit is the tree `xIR`"; in the files that import it, and in
Props/C07ExprIR.lean, `x_ir` says "the model's function = the interpretation of `xIR`".
-/
import PqlModel.Model.ExprParseIR
import PqlModel.Lemmas.ExprParseIRSimp
namespace Pql.ExprParseIR
open Pql

def nextIR : List Stmt :=
  [.ite
   (.cmp "ge" (.field (.var "p") "pos") (.len (.field (.var "p") "tokens")))
   [.assign false [.field "p" "pos"] (.e (.add (.len (.field (.var "p") "tokens")) (.int 1))),
    .ret [.struct "Token" ["Kind", "Span", "Value"] [.kind "TokenError", .call "indexSpan" [.len (.field (.var "p") "source")], .str "EOF"], .bool false]]
   [],
 .assign true [.var "tok"] (.e (.index (.field (.var "p") "tokens") (.field (.var "p") "pos"))),
 .assign false [.field "p" "pos"] (.e (.add (.field (.var "p") "pos") (.int 1))),
 .ret [.var "tok", .bool true]]

set_option maxRecDepth 100000 in
theorem nextIR_ir : decode (irOf "next") = some nextIR := by rfl

def prevIR : List Stmt :=
  [.ite
   (.and (.cmp "gt" (.field (.var "p") "pos") (.int 0)) (.cmp "le" (.field (.var "p") "pos") (.len (.field (.var "p") "tokens"))))
   [.assign false [.field "p" "pos"] (.e (.sub (.field (.var "p") "pos") (.int 1)))]
   []]

set_option maxRecDepth 100000 in
theorem prevIR_ir : decode (irOf "prev") = some prevIR := by rfl

def endSplitIR : List Stmt :=
  [.ite (.cmp "eq" (.field (.var "p") "splitKind") (.int 0)) [.ret [.errnopos]] [],
 .ite
   (.cmp "lt" (.field (.var "p") "pos") (.len (.field (.var "p") "tokens")))
   [.decl "s" "string",
    .ite
      (.cmp "eq" (.field (.var "p") "splitKind") (.kind "TokenPipe"))
      [.assign false [.var "s"] (.e (.str "'|'"))]
      [.ite
         (.cmp "eq" (.field (.var "p") "splitKind") (.kind "TokenRParen"))
         [.assign false [.var "s"] (.e (.str "')'"))]
         [.ite
            (.cmp "eq" (.field (.var "p") "splitKind") (.kind "TokenRBracket"))
            [.assign false [.var "s"] (.e (.str "']'"))]
            [.assign false [.var "s"] (.e (.mcall "String" (.field (.var "p") "splitKind")))]]],
    .assign true [.var "tok"] (.e (.index (.field (.var "p") "tokens") (.field (.var "p") "pos"))),
    .ret [.perr false (.field (.var "tok") "Span")]]
   [],
 .ret [.nil]]

set_option maxRecDepth 100000 in
theorem endSplitIR_ir : decode (irOf "endSplit") = some endSplitIR := by rfl

def splitIR : List Stmt :=
  [.decl "stack" "[]TokenKind",
 .assign true [.var "start"] (.e (.field (.var "p") "pos")),
 .loop
   "loop"
   (.bool true)
   [.assign true [.var "tok", .var "ok"] (.pcall "p" "next" []),
    .ite
      (.not (.var "ok"))
      [.ret [.new "parser" ["source", "tokens", "splitKind"] [.field (.var "p") "source", .slice (.field (.var "p") "tokens") (.var "start") (.none), .var "search"]]]
      [],
    .ite
      (.or (.cmp "eq" (.field (.var "tok") "Kind") (.kind "TokenLParen")) (.cmp "eq" (.field (.var "tok") "Kind") (.kind "TokenLBracket")))
      [.ite (.cmp "eq" (.var "search") (.field (.var "tok") "Kind")) [.do_ (.pcall "p" "prev" []), .brk "loop"] [],
       .ite
         (.cmp "eq" (.field (.var "tok") "Kind") (.kind "TokenLParen"))
         [.assign false [.var "stack"] (.e (.append (.var "stack") (.kind "TokenRParen")))]
         [.ite
            (.cmp "eq" (.field (.var "tok") "Kind") (.kind "TokenLBracket"))
            [.assign false [.var "stack"] (.e (.append (.var "stack") (.kind "TokenRBracket")))]
            [.panic]]]
      [.ite
         (.or (.cmp "eq" (.field (.var "tok") "Kind") (.kind "TokenRParen")) (.cmp "eq" (.field (.var "tok") "Kind") (.kind "TokenRBracket")))
         [.ite
            (.cmp "gt" (.len (.var "stack")) (.int 0))
            [.loop
               ""
               (.cmp "gt" (.len (.var "stack")) (.int 0))
               [.assign true [.var "k"] (.e (.index (.var "stack") (.sub (.len (.var "stack")) (.int 1)))),
                .assign false [.var "stack"] (.e (.slice (.var "stack") (.none) (.sub (.len (.var "stack")) (.int 1)))),
                .ite (.cmp "eq" (.var "k") (.field (.var "tok") "Kind")) [.brk ""] []]]
            [.ite (.cmp "eq" (.var "search") (.field (.var "tok") "Kind")) [.do_ (.pcall "p" "prev" []), .brk "loop"] []]]
         [.ite
            (.cmp "eq" (.field (.var "tok") "Kind") (.var "search"))
            [.ite (.cmp "eq" (.len (.var "stack")) (.int 0)) [.do_ (.pcall "p" "prev" []), .brk "loop"] []]
            []]]],
 .ret [.new "parser" ["source", "tokens", "splitKind"] [.field (.var "p") "source", .slice (.field (.var "p") "tokens") (.var "start") (.field (.var "p") "pos"), .var "search"]]]

set_option maxRecDepth 100000 in
theorem splitIR_ir : decode (irOf "split") = some splitIR := by rfl

def identIR : List Stmt :=
  [.assign true [.var "tok", .blank] (.pcall "p" "next" []),
 .ite
   (.and (.cmp "ne" (.field (.var "tok") "Kind") (.kind "TokenIdentifier")) (.cmp "ne" (.field (.var "tok") "Kind") (.kind "TokenQuotedIdentifier")))
   [.do_ (.pcall "p" "prev" []), .ret [.nil, .perr true (.call "indexSpan" [.len (.field (.var "p") "source")])]]
   [],
 .ret
   [.new "Ident" ["Name", "NameSpan", "Quoted"] [.field (.var "tok") "Value", .field (.var "tok") "Span", .cmp "eq" (.field (.var "tok") "Kind") (.kind "TokenQuotedIdentifier")], .nil]]

set_option maxRecDepth 100000 in
theorem identIR_ir : decode (irOf "ident") = some identIR := by rfl

def qualifiedIdentIR : List Stmt :=
  [.assign true [.var "id", .var "err"] (.pcall "p" "ident" []),
 .ite (.cmp "ne" (.var "err") (.nil)) [.ret [.nil, .var "err"]] [],
 .assign true [.var "qid"] (.e (.mcall "AsQualified" (.var "id"))),
 .loop
   ""
   (.bool true)
   [.assign true [.var "tok", .blank] (.pcall "p" "next" []),
    .ite (.cmp "ne" (.field (.var "tok") "Kind") (.kind "TokenDot")) [.do_ (.pcall "p" "prev" []), .ret [.var "qid", .nil]] [],
    .assign true [.var "sel", .var "err"] (.pcall "p" "ident" []),
    .ite (.cmp "ne" (.var "err") (.nil)) [.ret [.var "qid", .call "makeErrorOpaque" [.var "err"]]] [],
    .assign false [.field "qid" "Parts"] (.e (.append (.field (.var "qid") "Parts") (.var "sel")))]]

set_option maxRecDepth 100000 in
theorem qualifiedIdentIR_ir : decode (irOf "qualifiedIdent") = some qualifiedIdentIR := by rfl

def innerIR : List Stmt :=
  [.assign true [.var "tok", .var "ok"] (.pcall "p" "next" []),
 .ite (.not (.var "ok")) [.ret [.nil, .perr true (.call "indexSpan" [.len (.field (.var "p") "source")])]] [],
 .ite
   (.or (.cmp "eq" (.field (.var "tok") "Kind") (.kind "TokenNumber")) (.cmp "eq" (.field (.var "tok") "Kind") (.kind "TokenString")))
   [.ret [.new "BasicLit" ["ValueSpan", "Kind", "Value"] [.field (.var "tok") "Span", .field (.var "tok") "Kind", .field (.var "tok") "Value"], .nil]]
   [.ite
      (.cmp "eq" (.field (.var "tok") "Kind") (.kind "TokenIdentifier"))
      [.do_ (.pcall "p" "prev" []),
       .assign true [.var "id", .var "err"] (.pcall "p" "qualifiedIdent" []),
       .ite (.cmp "ne" (.var "err") (.nil)) [.ret [.var "id", .var "err"]] [],
       .ite (.cmp "gt" (.len (.field (.var "id") "Parts")) (.int 1)) [.ret [.var "id", .nil]] [],
       .assign true [.var "nextTok", .blank] (.pcall "p" "next" []),
       .ite (.cmp "ne" (.field (.var "nextTok") "Kind") (.kind "TokenLParen")) [.do_ (.pcall "p" "prev" []), .ret [.var "id", .nil]] [],
       .assign true [.var "argParser"] (.pcall "p" "split" [.kind "TokenRParen"]),
       .assign true [.var "args", .var "err"] (.pcall "argParser" "exprList" []),
       -- a not-found error means "no arguments", otherwise one trailing comma is allowed
       .ite
         (.call "isNotFound" [.var "err"])
         [.assign false [.var "err"] (.e (.nil))]
         [.ite
            (.cmp "eq" (.var "err") (.nil))
            [.block
               [.assign true [.var "tok", .blank] (.pcall "argParser" "next" []),
                .ite (.cmp "ne" (.field (.var "tok") "Kind") (.kind "TokenComma")) [.do_ (.pcall "argParser" "prev" [])] []]]
            []],
       .assign false [.var "err"] (.e (.call "joinErrors" [.var "err", .mcall "endSplit" (.var "argParser")])),
       .assign true [.var "rparen"] (.e (.call "nullSpan" [])),
       .block
         [.assign true [.var "finalTok", .blank] (.pcall "p" "next" []),
          .ite
            (.cmp "eq" (.field (.var "finalTok") "Kind") (.kind "TokenRParen"))
            [.assign false [.var "rparen"] (.e (.field (.var "finalTok") "Span"))]
            [.do_ (.pcall "p" "prev" []), .assign false [.var "err"] (.e (.call "joinErrors" [.var "err", .perr false (.field (.var "finalTok") "Span")]))]],
       .ret
         [.new
            "CallExpr"
            ["Func", "Lparen", "Args", "Rparen"]
            [.new "Ident" ["Name", "NameSpan"] [.field (.var "tok") "Value", .field (.var "tok") "Span"], .field (.var "nextTok") "Span", .var "args", .var "rparen"],
          .var "err"]]
      [.ite
         (.cmp "eq" (.field (.var "tok") "Kind") (.kind "TokenQuotedIdentifier"))
         [.do_ (.pcall "p" "prev" []), .retCall (.pcall "p" "qualifiedIdent" [])]
         [.ite
            (.cmp "eq" (.field (.var "tok") "Kind") (.kind "TokenLParen"))
            [.assign true [.var "exprParser"] (.pcall "p" "split" [.kind "TokenRParen"]),
             .assign true [.var "x", .var "err"] (.pcall "exprParser" "expr" []),
             .assign false [.var "err"] (.e (.call "makeErrorOpaque" [.var "err"])),
             .assign false [.var "err"] (.e (.call "joinErrors" [.var "err", .mcall "endSplit" (.var "exprParser")])),
             .assign true [.var "endTok", .blank] (.pcall "p" "next" []),
             .ite
               (.cmp "ne" (.field (.var "endTok") "Kind") (.kind "TokenRParen"))
               [.assign false [.var "err"] (.e (.call "joinErrors" [.var "err", .perr false (.field (.var "endTok") "Span")])),
                .ret [.new "ParenExpr" ["Lparen", "X", "Rparen"] [.field (.var "tok") "Span", .var "x", .call "nullSpan" []], .var "err"]]
               [],
             .ret [.new "ParenExpr" ["Lparen", "X", "Rparen"] [.field (.var "tok") "Span", .var "x", .field (.var "endTok") "Span"], .var "err"]]
            [.do_ (.pcall "p" "prev" []), .ret [.nil, .perr true (.field (.var "tok") "Span")]]]]]]

set_option maxRecDepth 100000 in
theorem innerIR_ir : decode (irOf "innerPrimaryExpr") = some innerIR := by rfl

def primaryIR : List Stmt :=
  [.assign true [.var "x", .var "err"] (.pcall "p" "innerPrimaryExpr" []),
 .ite (.cmp "ne" (.var "err") (.nil)) [.ret [.var "x", .var "err"]] [],
 .loop
   ""
   (.bool true)
   [.assign true [.var "tok", .var "ok"] (.pcall "p" "next" []),
    .ite (.not (.var "ok")) [.ret [.var "x", .nil]] [],
    .ite
      (.cmp "eq" (.field (.var "tok") "Kind") (.kind "TokenLBracket"))
      [.assign true [.var "idx"] (.e (.new "IndexExpr" ["X", "Lbrack"] [.var "x", .field (.var "tok") "Span"])),
       .assign true [.var "indexParser"] (.pcall "p" "split" [.kind "TokenRBracket"]),
       .decl "err" "error",
       .assign false [.field "idx" "Index", .var "err"] (.pcall "indexParser" "expr" []),
       .assign false [.var "err"] (.e (.call "makeErrorOpaque" [.var "err"])),
       .assign false [.var "err"] (.e (.call "joinErrors" [.var "err", .mcall "endSplit" (.var "indexParser")])),
       .block
         [.assign true [.var "tok", .blank] (.pcall "p" "next" []),
          .ite
            (.cmp "eq" (.field (.var "tok") "Kind") (.kind "TokenRBracket"))
            [.assign false [.field "idx" "Rbrack"] (.e (.field (.var "tok") "Span"))]
            [.assign false [.var "err"] (.e (.call "joinErrors" [.var "err", .perr false (.field (.var "tok") "Span")]))]],
       .ret [.var "idx", .var "err"]]
      [.do_ (.pcall "p" "prev" []), .ret [.var "x", .nil]]]]

set_option maxRecDepth 100000 in
theorem primaryIR_ir : decode (irOf "primaryExpr") = some primaryIR := by rfl

def unaryIR : List Stmt :=
  [.assign true [.var "tok", .var "ok"] (.pcall "p" "next" []),
 .ite (.not (.var "ok")) [.ret [.nil, .perr true (.call "indexSpan" [.len (.field (.var "p") "source")])]] [],
 .ite
   (.or (.cmp "eq" (.field (.var "tok") "Kind") (.kind "TokenPlus")) (.cmp "eq" (.field (.var "tok") "Kind") (.kind "TokenMinus")))
   [.assign true [.var "x", .var "err"] (.pcall "p" "primaryExpr" []),
    .assign false [.var "err"] (.e (.call "makeErrorOpaque" [.var "err"])),
    .ret [.new "UnaryExpr" ["OpSpan", "Op", "X"] [.field (.var "tok") "Span", .field (.var "tok") "Kind", .var "x"], .var "err"]]
   [.do_ (.pcall "p" "prev" []), .retCall (.pcall "p" "primaryExpr" [])]]

set_option maxRecDepth 100000 in
theorem unaryIR_ir : decode (irOf "unaryExpr") = some unaryIR := by rfl

def trailIR : List Stmt :=
  [.decl "finalError" "error",
 .loop
   ""
   (.bool true)
   [.assign true [.var "op1", .var "ok"] (.pcall "p" "next" []),
    .ite (.not (.var "ok")) [.ret [.var "x", .var "finalError"]] [],
    .assign true [.var "precedence1"] (.e (.call "operatorPrecedence" [.field (.var "op1") "Kind"])),
    .ite
      (.or (.cmp "lt" (.var "precedence1") (.int 0)) (.cmp "lt" (.var "precedence1") (.var "minPrecedence")))
      [.do_ (.pcall "p" "prev" []), .ret [.var "x", .var "finalError"]]
      [],
    .ite
      (.cmp "eq" (.field (.var "op1") "Kind") (.kind "TokenIn"))
      [.assign true [.var "lparen", .blank] (.pcall "p" "next" []),
       .ite
         (.cmp "ne" (.field (.var "lparen") "Kind") (.kind "TokenLParen"))
         [.assign false [.var "x"] (.e (.new "InExpr" ["X", "In", "Lparen", "Rparen"] [.var "x", .field (.var "op1") "Span", .call "nullSpan" [], .call "nullSpan" []])),
          .assign false [.var "finalError"] (.e (.call "joinErrors" [.var "finalError", .perr false (.field (.var "lparen") "Span")])),
          .ret [.var "x", .var "finalError"]]
         [],
       .assign true [.var "valParser"] (.pcall "p" "split" [.kind "TokenRParen"]),
       .assign true [.var "vals", .var "err"] (.pcall "valParser" "exprList" []),
       .assign false [.var "finalError"] (.e (.call "joinErrors" [.var "finalError", .call "makeErrorOpaque" [.var "err"], .mcall "endSplit" (.var "valParser")])),
       .assign true [.var "rparen", .blank] (.pcall "p" "next" []),
       .ite
         (.cmp "ne" (.field (.var "rparen") "Kind") (.kind "TokenRParen"))
         [.assign
            false
            [.var "x"]
            (.e (.new "InExpr" ["X", "In", "Lparen", "Vals", "Rparen"] [.var "x", .field (.var "op1") "Span", .field (.var "lparen") "Span", .var "vals", .call "nullSpan" []])),
          .assign false [.var "finalError"] (.e (.call "joinErrors" [.var "finalError", .perr false (.field (.var "lparen") "Span")])),
          .ret [.var "x", .var "finalError"]]
         [],
       .assign
         false
         [.var "x"]
         (.e (.new "InExpr" ["X", "In", "Lparen", "Vals", "Rparen"] [.var "x", .field (.var "op1") "Span", .field (.var "lparen") "Span", .var "vals", .field (.var "rparen") "Span"])),
       .cont]
      [],
    .assign true [.var "y", .var "err"] (.pcall "p" "unaryExpr" []),
    .ite (.cmp "ne" (.var "err") (.nil)) [.assign false [.var "finalError"] (.e (.call "joinErrors" [.var "finalError", .call "makeErrorOpaque" [.var "err"]]))] [],
    .loop
      ""
      (.bool true)
      [.assign true [.var "op2", .var "ok"] (.pcall "p" "next" []),
       .ite (.not (.var "ok")) [.brk ""] [],
       .do_ (.pcall "p" "prev" []),
       .assign true [.var "precedence2"] (.e (.call "operatorPrecedence" [.field (.var "op2") "Kind"])),
       .ite (.or (.cmp "lt" (.var "precedence2") (.int 0)) (.cmp "le" (.var "precedence2") (.var "precedence1"))) [.brk ""] [],
       .assign false [.var "y", .var "err"] (.pcall "p" "exprBinaryTrail" [.var "y", .add (.var "precedence1") (.int 1)]),
       .ite (.cmp "ne" (.var "err") (.nil)) [.assign false [.var "finalError"] (.e (.call "joinErrors" [.var "finalError", .call "makeErrorOpaque" [.var "err"]]))] []],
    .assign false [.var "x"] (.e (.new "BinaryExpr" ["X", "OpSpan", "Op", "Y"] [.var "x", .field (.var "op1") "Span", .field (.var "op1") "Kind", .var "y"]))]]

set_option maxRecDepth 100000 in
theorem trailIR_ir : decode (irOf "exprBinaryTrail") = some trailIR := by rfl

def exprIR : List Stmt :=
  [.assign true [.var "x", .var "err1"] (.pcall "p" "unaryExpr" []),
 .ite (.call "isNotFound" [.var "err1"]) [.ret [.var "x", .var "err1"]] [],
 .assign true [.var "x", .var "err2"] (.pcall "p" "exprBinaryTrail" [.var "x", .int 0]),
 .ret [.var "x", .call "joinErrors" [.var "err1", .var "err2"]]]

set_option maxRecDepth 100000 in
theorem exprIR_ir : decode (irOf "expr") = some exprIR := by rfl

def exprListIR : List Stmt :=
  [.assign true [.var "first", .var "err"] (.pcall "p" "expr" []),
 .ite (.cmp "ne" (.var "err") (.nil)) [.ret [.nil, .var "err"]] [],
 .assign true [.var "result"] (.e (.list [.var "first"])),
 .loop
   ""
   (.bool true)
   [.assign true [.var "restorePos"] (.e (.field (.var "p") "pos")),
    .assign true [.var "tok", .var "ok"] (.pcall "p" "next" []),
    .ite (.not (.var "ok")) [.ret [.var "result", .nil]] [],
    .ite (.cmp "ne" (.field (.var "tok") "Kind") (.kind "TokenComma")) [.do_ (.pcall "p" "prev" []), .ret [.var "result", .nil]] [],
    .assign true [.var "x", .var "err"] (.pcall "p" "expr" []),
    .ite (.call "isNotFound" [.var "err"]) [.assign false [.field "p" "pos"] (.e (.var "restorePos")), .ret [.var "result", .nil]] [],
    .ite (.cmp "ne" (.var "x") (.nil)) [.assign false [.var "result"] (.e (.append (.var "result") (.var "x")))] [],
    .ite (.cmp "ne" (.var "err") (.nil)) [.ret [.var "result", .call "makeErrorOpaque" [.var "err"]]] []]]

set_option maxRecDepth 100000 in
theorem exprListIR_ir : decode (irOf "exprList") = some exprListIR := by rfl

end Pql.ExprParseIR
