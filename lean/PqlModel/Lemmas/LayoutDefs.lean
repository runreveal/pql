/-
Layout independence of the parser (property C07, last sentence): definitions.

* `mapStmt f` (and `mapExpr`, `mapTabular`, `mapOp`, …) apply `f : Span → Span` to every `Span` field
  of a tree; `eraseSpansStmt` etc. are the instances `f = fun _ => Span.zero`.
  They and `mapErrs f` are not special to C07: every token map (`TokMap`, Lemmas/ParseMapBasic.lean; used for
  C04, C10, C15, C16 as well) maps trees and error lists with them.
* `sameTokens ts us`: same length, pairwise same `kind` and `value`.
* `np` ("no position") puts a token at position 0; `keepNull` keeps the "absent" span `Span.null`
  and sends every other span to `Span.zero`.  Every production of `Model/Parse.lean` run on
  `ts.map np` with `srcLen = 0` returns exactly the `keepNull`-image of what it returns on `ts`
  (`LayoutTop`, an instance of `ParseMapTab`) — an *equation*, from which the statement modulo
  `eraseSpans` follows by composing maps.

All definitions here are specification-level definitions (namespace `Pql.Layout`).
Below them the first lemmas: tokens at position 0, `keepNull`, and span maps on error lists.
-/
import PqlModel.Model.Parse
namespace Pql.Layout
open Pql

def mapIdent (f : Span → Span) (i : Ident) : Ident := { i with span := f i.span }

mutual
def mapExpr (f : Span → Span) : Expr → Expr
  | .nil => .nil
  | .qident parts => .qident (parts.map (mapIdent f))
  | .lit sp k v => .lit (f sp) k v
  | .unary os op x => .unary (f os) op (mapExpr f x)
  | .binary x os op y => .binary (mapExpr f x) (f os) op (mapExpr f y)
  | .inE x i lp vals rp => .inE (mapExpr f x) (f i) (f lp) (mapExprList f vals) (f rp)
  | .paren lp x rp => .paren (f lp) (mapExpr f x) (f rp)
  | .call fn lp args rp => .call (mapIdent f fn) (f lp) (mapExprList f args) (f rp)
  | .index x lb idx rb => .index (mapExpr f x) (f lb) (mapExpr f idx) (f rb)
def mapExprList (f : Span → Span) : ExprList → ExprList
  | .nil => .nil
  | .cons e es => .cons (mapExpr f e) (mapExprList f es)
end

def mapSortTerm (f : Span → Span) (t : SortTerm) : SortTerm :=
  ⟨mapExpr f t.x, t.asc, f t.ascDescSpan, t.nullsFirst, f t.nullsSpan⟩

def mapColumn (f : Span → Span) (c : Column) : Column :=
  ⟨c.name.map (mapIdent f), f c.assign, mapExpr f c.x⟩

def mapRenderProp (f : Span → Span) (p : RenderProp) : RenderProp :=
  ⟨p.name.map (mapIdent f), f p.assign, mapExpr f p.value⟩

mutual
def mapTabular (f : Span → Span) : Tabular → Tabular
  | .nil => .nil
  | .mk src ops => .mk (src.map (mapIdent f)) (mapOpList f ops)
def mapOp (f : Span → Span) : Op → Op
  | .count p k => .count (f p) (f k)
  | .where_ p k e => .where_ (f p) (f k) (mapExpr f e)
  | .sort p k ts => .sort (f p) (f k) (ts.map (mapSortTerm f))
  | .take p k n => .take (f p) (f k) (mapExpr f n)
  | .top p k n b c => .top (f p) (f k) (mapExpr f n) (f b) (c.map (mapSortTerm f))
  | .project p k cs => .project (f p) (f k) (cs.map (mapColumn f))
  | .extend p k cs => .extend (f p) (f k) (cs.map (mapColumn f))
  | .summarize p k cs b gs => .summarize (f p) (f k) (cs.map (mapColumn f)) (f b) (gs.map (mapColumn f))
  | .join p k kind ka fl lp right rp on conds =>
    .join (f p) (f k) (f kind) (f ka) (fl.map (mapIdent f)) (f lp) (mapTabular f right) (f rp) (f on)
      (mapExprList f conds)
  | .as_ p k n => .as_ (f p) (f k) (n.map (mapIdent f))
  | .render p k ch w lp props rp =>
    .render (f p) (f k) (ch.map (mapIdent f)) (f w) (f lp) (props.map (mapRenderProp f)) (f rp)
def mapOpList (f : Span → Span) : OpList → OpList
  | .nil => .nil
  | .cons o os => .cons (mapOp f o) (mapOpList f os)
end

def mapStmt (f : Span → Span) : Stmt → Stmt
  | .let_ kw name asg x => .let_ (f kw) (name.map (mapIdent f)) (f asg) (mapExpr f x)
  | .tabular t => .tabular (mapTabular f t)

def mapErr (f : Span → Span) (e : PErr) : PErr := { e with span := e.span.map f }
def mapErrs (f : Span → Span) (es : Errs) : Errs := es.map (mapErr f)

def toZero : Span → Span := fun _ => Span.zero

def eraseSpansIdent : Ident → Ident := mapIdent toZero
def eraseSpansExpr : Expr → Expr := mapExpr toZero
def eraseSpansExprList : ExprList → ExprList := mapExprList toZero
def eraseSpansSortTerm : SortTerm → SortTerm := mapSortTerm toZero
def eraseSpansColumn : Column → Column := mapColumn toZero
def eraseSpansRenderProp : RenderProp → RenderProp := mapRenderProp toZero
def eraseSpansTabular : Tabular → Tabular := mapTabular toZero
def eraseSpansOp : Op → Op := mapOp toZero
def eraseSpansOpList : OpList → OpList := mapOpList toZero
def eraseSpansStmt : Stmt → Stmt := mapStmt toZero
/-- errors with their positions forgotten: what remains is, per error, whether it has a position,
    the `notFound` flag and the `fuel` flag -/
def eraseSpansErrs : Errs → Errs := mapErrs toZero

def sameTokens (ts us : List Token) : Prop :=
  ts.length = us.length ∧ ∀ i (h : i < ts.length) (h' : i < us.length),
    ts[i].kind = us[i].kind ∧ ts[i].value = us[i].value

def np (t : Token) : Token := { t with start := 0, stop := 0 }

def keepNull (s : Span) : Span := if s = Span.null then Span.null else Span.zero

/-- the context of an empty source: the EOF position is 0 -/
def c0 : PCtx := ⟨0⟩

theorem sameTokens_iff_map_np (ts us : List Token) : sameTokens ts us ↔ ts.map np = us.map np := by
  constructor
  · intro ⟨hl, h⟩
    apply List.ext_getElem
    · simpa using hl
    · intro i h1 h2
      simp only [List.length_map] at h1 h2
      have := h i h1 h2
      simp only [List.getElem_map, np]
      cases hx : ts[i]; cases hy : us[i]
      rw [hx, hy] at this
      simp_all
  · intro h
    have hl : ts.length = us.length := by simpa using congrArg List.length h
    refine ⟨hl, fun i h1 h2 => ?_⟩
    have : (ts.map np)[i]'(by simpa using h1) = (us.map np)[i]'(by simpa using h2) := by
      simp only [h]
    simp only [List.getElem_map, np] at this
    cases hx : ts[i]; cases hy : us[i]
    rw [hx, hy] at this
    simp_all

instance (ts us : List Token) : Decidable (sameTokens ts us) :=
  decidable_of_iff _ (sameTokens_iff_map_np ts us).symm

theorem sameTokens.refl (ts : List Token) : sameTokens ts ts := (sameTokens_iff_map_np _ _).2 rfl
theorem sameTokens.symm {ts us : List Token} (h : sameTokens ts us) : sameTokens us ts :=
  (sameTokens_iff_map_np _ _).2 ((sameTokens_iff_map_np _ _).1 h).symm
theorem sameTokens.trans {ts us vs : List Token} (h : sameTokens ts us) (h' : sameTokens us vs) :
    sameTokens ts vs :=
  (sameTokens_iff_map_np _ _).2 (((sameTokens_iff_map_np _ _).1 h).trans ((sameTokens_iff_map_np _ _).1 h'))

theorem sameTokens.append {a a' b b' : List Token} (h : sameTokens a a') (h' : sameTokens b b') :
    sameTokens (a ++ b) (a' ++ b') := by
  rw [sameTokens_iff_map_np] at *
  rw [List.map_append, List.map_append, h, h']

theorem mapIdent_comp (g f : Span → Span) (i : Ident) : mapIdent g (mapIdent f i) = mapIdent (g ∘ f) i := rfl

theorem map_mapIdent_comp (g f : Span → Span) (l : List Ident) :
    (l.map (mapIdent f)).map (mapIdent g) = l.map (mapIdent (g ∘ f)) := by
  rw [List.map_map]; rfl

theorem optMap_mapIdent_comp (g f : Span → Span) (o : Option Ident) :
    (o.map (mapIdent f)).map (mapIdent g) = o.map (mapIdent (g ∘ f)) := by
  cases o <;> rfl

mutual
theorem mapExpr_comp (g f : Span → Span) : (e : Expr) → mapExpr g (mapExpr f e) = mapExpr (g ∘ f) e
  | .nil => by simp only [mapExpr]
  | .qident parts => by simp only [mapExpr, map_mapIdent_comp]
  | .lit .. => by simp only [mapExpr, Function.comp]
  | .unary _ _ x => by simp only [mapExpr, Function.comp, mapExpr_comp g f x]
  | .binary x _ _ y => by simp only [mapExpr, Function.comp, mapExpr_comp g f x, mapExpr_comp g f y]
  | .inE x _ _ vals _ => by
    simp only [mapExpr, Function.comp, mapExpr_comp g f x, mapExprList_comp g f vals]
  | .paren _ x _ => by simp only [mapExpr, Function.comp, mapExpr_comp g f x]
  | .call fn _ args _ => by
    simp only [mapExpr, Function.comp, mapIdent_comp, mapExprList_comp g f args]
  | .index x _ idx _ => by
    simp only [mapExpr, Function.comp, mapExpr_comp g f x, mapExpr_comp g f idx]
theorem mapExprList_comp (g f : Span → Span) : (es : ExprList) →
    mapExprList g (mapExprList f es) = mapExprList (g ∘ f) es
  | .nil => by simp only [mapExprList]
  | .cons e es => by simp only [mapExprList, mapExpr_comp g f e, mapExprList_comp g f es]
end

theorem mapSortTerm_comp (g f : Span → Span) (t : SortTerm) :
    mapSortTerm g (mapSortTerm f t) = mapSortTerm (g ∘ f) t := by
  simp only [mapSortTerm, mapExpr_comp, Function.comp]

theorem mapColumn_comp (g f : Span → Span) (c : Column) :
    mapColumn g (mapColumn f c) = mapColumn (g ∘ f) c := by
  simp only [mapColumn, mapExpr_comp, optMap_mapIdent_comp, Function.comp]

theorem mapRenderProp_comp (g f : Span → Span) (c : RenderProp) :
    mapRenderProp g (mapRenderProp f c) = mapRenderProp (g ∘ f) c := by
  simp only [mapRenderProp, mapExpr_comp, optMap_mapIdent_comp, Function.comp]

theorem map_comp_of {α} (F : (Span → Span) → α → α) (h : ∀ g f x, F g (F f x) = F (g ∘ f) x)
    (g f : Span → Span) (l : List α) : (l.map (F f)).map (F g) = l.map (F (g ∘ f)) := by
  rw [List.map_map]
  exact List.map_congr_left fun x _ => h g f x

theorem optMap_comp_of {α} (F : (Span → Span) → α → α) (h : ∀ g f x, F g (F f x) = F (g ∘ f) x)
    (g f : Span → Span) (o : Option α) : (o.map (F f)).map (F g) = o.map (F (g ∘ f)) := by
  cases o with
  | none => rfl
  | some x => simp only [Option.map_some, h]

mutual
theorem mapTabular_comp (g f : Span → Span) : (t : Tabular) →
    mapTabular g (mapTabular f t) = mapTabular (g ∘ f) t
  | .nil => by simp only [mapTabular]
  | .mk src ops => by simp only [mapTabular, optMap_mapIdent_comp, mapOpList_comp g f ops]
theorem mapOp_comp (g f : Span → Span) : (o : Op) → mapOp g (mapOp f o) = mapOp (g ∘ f) o
  | .count .. => by simp only [mapOp, Function.comp]
  | .where_ .. => by simp only [mapOp, Function.comp, mapExpr_comp]
  | .sort .. => by simp only [mapOp, Function.comp, map_comp_of mapSortTerm mapSortTerm_comp]
  | .take .. => by simp only [mapOp, Function.comp, mapExpr_comp]
  | .top .. => by
    simp only [mapOp, Function.comp, mapExpr_comp, optMap_comp_of mapSortTerm mapSortTerm_comp]
  | .project .. => by simp only [mapOp, Function.comp, map_comp_of mapColumn mapColumn_comp]
  | .extend .. => by simp only [mapOp, Function.comp, map_comp_of mapColumn mapColumn_comp]
  | .summarize .. => by simp only [mapOp, Function.comp, map_comp_of mapColumn mapColumn_comp]
  | .join _ _ _ _ _ _ right _ _ _ => by
    simp only [mapOp, Function.comp, optMap_mapIdent_comp, mapExprList_comp, mapTabular_comp g f right]
  | .as_ .. => by simp only [mapOp, Function.comp, optMap_mapIdent_comp]
  | .render .. => by
    simp only [mapOp, Function.comp, optMap_mapIdent_comp, map_comp_of mapRenderProp mapRenderProp_comp]
theorem mapOpList_comp (g f : Span → Span) : (os : OpList) →
    mapOpList g (mapOpList f os) = mapOpList (g ∘ f) os
  | .nil => by simp only [mapOpList]
  | .cons o os => by simp only [mapOpList, mapOp_comp g f o, mapOpList_comp g f os]
end

theorem mapStmt_comp (g f : Span → Span) (s : Stmt) : mapStmt g (mapStmt f s) = mapStmt (g ∘ f) s := by
  cases s with
  | let_ => simp only [mapStmt, Function.comp, optMap_mapIdent_comp, mapExpr_comp]
  | tabular t => simp only [mapStmt, mapTabular_comp]

theorem mapErrs_comp (g f : Span → Span) (es : Errs) : mapErrs g (mapErrs f es) = mapErrs (g ∘ f) es := by
  simp only [mapErrs, List.map_map]
  apply List.map_congr_left
  intro e _
  simp only [Function.comp, mapErr, Option.map_map]

theorem toZero_comp (f : Span → Span) : toZero ∘ f = toZero := rfl

theorem eraseSpansStmt_keepNull (s : Stmt) : eraseSpansStmt (mapStmt keepNull s) = eraseSpansStmt s := by
  simp only [eraseSpansStmt, mapStmt_comp, toZero_comp]

theorem eraseSpansErrs_keepNull (es : Errs) : eraseSpansErrs (mapErrs keepNull es) = eraseSpansErrs es := by
  simp only [eraseSpansErrs, mapErrs_comp, toZero_comp]

end Pql.Layout

section
set_option linter.unusedSimpArgs false
namespace Pql.Layout
open Pql

/-- the image of a production's result: value mapped by `g`, error positions by `keepNull`,
    remaining tokens moved to position 0 (`TokMap.res`, Lemmas/ParseMapBasic.lean, at `npMap c`) -/
def mp {α β} (g : α → β) (r : PRes α) : PRes β := ⟨g r.val, mapErrs keepNull r.errs, r.rest.map np⟩

@[simp] theorem mp_val {α β} (g : α → β) (r : PRes α) : (mp g r).val = g r.val := rfl
@[simp] theorem mp_errs {α β} (g : α → β) (r : PRes α) : (mp g r).errs = mapErrs keepNull r.errs := rfl
@[simp] theorem mp_rest {α β} (g : α → β) (r : PRes α) : (mp g r).rest = r.rest.map np := rfl
theorem mp_mk {α β} (g : α → β) (v : α) (e : Errs) (r : List Token) :
    mp g ⟨v, e, r⟩ = ⟨g v, mapErrs keepNull e, r.map np⟩ := rfl

@[simp] theorem np_kind (t : Token) : (np t).kind = t.kind := rfl
@[simp] theorem np_value (t : Token) : (np t).value = t.value := rfl
@[simp] theorem np_start (t : Token) : (np t).start = 0 := rfl
@[simp] theorem np_stop (t : Token) : (np t).stop = 0 := rfl
@[simp] theorem np_span (t : Token) : (np t).span = Span.zero := rfl
@[simp] theorem np_np (t : Token) : np (np t) = np t := rfl

theorem keepNull_nat (a b : Nat) : keepNull ⟨(a : Int), (b : Int)⟩ = Span.zero := by
  have : (⟨(a : Int), (b : Int)⟩ : Span) ≠ Span.null := by
    intro h
    have := congrArg Span.start h
    simp only [Span.null] at this
    omega
  simp only [keepNull, this, if_false]

@[simp] theorem keepNull_span (t : Token) : keepNull t.span = Span.zero := keepNull_nat _ _
@[simp] theorem keepNull_null : keepNull Span.null = Span.null := rfl
@[simp] theorem keepNull_zero : keepNull Span.zero = Span.zero := rfl
@[simp] theorem keepNull_eof (c : PCtx) : keepNull c.eof = Span.zero := keepNull_nat _ _
@[simp] theorem c0_eof : c0.eof = Span.zero := rfl
-- two spellings of `Span.zero` that `simp` leaves where it has unfolded the span of an `np` token
@[simp] theorem zero_startstop : (⟨((0 : Nat) : Int), ((0 : Nat) : Int)⟩ : Span) = Span.zero := rfl
@[simp] theorem zero_spanstart : (⟨Span.zero.start, ((0 : Nat) : Int)⟩ : Span) = Span.zero := rfl

@[simp] theorem isIdentNamed_np (t : Token) (s : String) : isIdentNamed (np t) s = isIdentNamed t s := rfl

@[simp] theorem mapErrs_nil (f : Span → Span) : mapErrs f [] = [] := rfl
@[simp] theorem mapErrs_append (f : Span → Span) (a b : Errs) :
    mapErrs f (a ++ b) = mapErrs f a ++ mapErrs f b := List.map_append
@[simp] theorem mapErrs_errAt (f : Span → Span) (s : Span) : mapErrs f (errAt s) = errAt (f s) := rfl
@[simp] theorem mapErrs_nfAt (f : Span → Span) (s : Span) : mapErrs f (nfAt s) = nfAt (f s) := rfl
@[simp] theorem mapErrs_errNoPos (f : Span → Span) : mapErrs f errNoPos = errNoPos := rfl
@[simp] theorem mapErrs_errFuel (f : Span → Span) : mapErrs f errFuel = errFuel := rfl

@[simp] theorem mapErrs_eq_nil (f : Span → Span) (es : Errs) : mapErrs f es = [] ↔ es = [] := by
  simp only [mapErrs, List.map_eq_nil_iff]

@[simp] theorem mkOpaque_mapErrs (f : Span → Span) (es : Errs) :
    mkOpaque (mapErrs f es) = mapErrs f (mkOpaque es) := by
  simp only [mkOpaque, mapErrs, List.map_map]
  rfl

@[simp] theorem isNF_mapErrs (f : Span → Span) (es : Errs) : isNF (mapErrs f es) = isNF es := by
  simp only [isNF, mapErrs, List.any_map]
  rfl

@[simp] theorem endSplit_nil : endSplit [] = [] := rfl
@[simp] theorem endSplit_cons (t : Token) (ts : List Token) : endSplit (t :: ts) = errAt t.span := rfl

theorem mapErrs_length (f : Span → Span) (es : Errs) : (mapErrs f es).length = es.length := List.length_map _

end Pql.Layout
end
