/-
Invariants of the intended structured splitting `splitA` / `splitOpsA`, proved directly (no
reference to the model, hence without any writability side condition), by induction over a run
(`RunA`, Lemmas/SplitARun.lean):

  * every link reads only names of EARLIER links or source tables of the pipeline (`ReadsOk`),
  * the link at index `i` is named `__subquery{i}` unless it is an `as` link (`NamesOkA`),
  * the list only grows (`splitA` adds at least one link).
-/
import PqlModel.Lemmas.SplitABasic
import PqlModel.Lemmas.SplitARun
namespace Pql.C05
open Pql SplitQ Intended

mutual
/-- the source-table names of a pipeline, right-hand pipelines of joins included.  Differs from
    `CompileOracle.tabularTables` only for a pipeline without source (`Tabular.mk none _`), whose
    links read the table `identName none = ""`: that name is listed here.  (Go has no such run:
    `dataSourceSQL` dereferences the nil `Table`, pql.go:536, as `SplitImp.dataSourceSQLI none` says; no
    parsed pipeline lacks its source, `ParsedOK.parsed_hasSources`.) -/
def tablesOf : Tabular → List Bytes
  | .nil => []
  | .mk src ops => identName src :: opsTablesOf ops
def opsTablesOf : OpList → List Bytes
  | .nil => []
  | .cons (.join _ _ _ _ _ _ right _ _ _) os => tablesOf right ++ opsTablesOf os
  | .cons _ os => opsTablesOf os
end

mutual
def hasSources : Tabular → Bool
  | .nil => true
  | .mk src ops => src.isSome && opsHaveSources ops
def opsHaveSources : OpList → Bool
  | .nil => true
  | .cons (.join _ _ _ _ _ _ right _ _ _) os => hasSources right && opsHaveSources os
  | .cons _ os => opsHaveSources os
end

mutual
theorem tablesOf_eq_tabularTables : ∀ (t : Tabular), hasSources t = true →
    tablesOf t = CompileOracle.tabularTables t
  | .nil, _ => by unfold tablesOf CompileOracle.tabularTables; rfl
  | .mk src ops, h => by
    unfold hasSources at h
    simp only [Bool.and_eq_true] at h
    unfold tablesOf CompileOracle.tabularTables
    rw [opsTablesOf_eq_opsTables ops h.2]
    cases src with
    | none => simp at h
    | some i => rfl
theorem opsTablesOf_eq_opsTables : ∀ (ops : OpList), opsHaveSources ops = true →
    opsTablesOf ops = CompileOracle.opsTables ops
  | .nil, _ => by unfold opsTablesOf CompileOracle.opsTables; rfl
  | .cons o os, h => by
    cases o with
    | join p kw kind ka flavor lp right rp on conds =>
      unfold opsHaveSources at h
      simp only [Bool.and_eq_true] at h
      unfold opsTablesOf CompileOracle.opsTables
      rw [tablesOf_eq_tabularTables right h.1, opsTablesOf_eq_opsTables os h.2]
    | _ =>
      unfold opsHaveSources at h
      unfold opsTablesOf CompileOracle.opsTables
      exact opsTablesOf_eq_opsTables os h
end

def okAt (T : List Bytes) (prev : List SubA) (s : SubA) : Prop :=
  ∀ n ∈ srcNames s.source, n ∈ prev.map (·.name) ∨ n ∈ T

def ReadsOk (T : List Bytes) (l : List SubA) : Prop :=
  ∀ (i : Nat) (hi : i < l.length), okAt T (l.take i) l[i]

def NameOkA (i : Nat) (s : SubA) : Prop :=
  s.name = subqueryName i ∨ ∃ p k n, s.op = some (.as_ p k n) ∧ s.name = identName n

def NamesOkA (l : List SubA) : Prop := ∀ (i : Nat) (hi : i < l.length), NameOkA i l[i]

structure InvA (T : List Bytes) (l : List SubA) : Prop where
  reads : ReadsOk T l
  names : NamesOkA l

theorem InvA.nil (T : List Bytes) : InvA T [] :=
  ⟨fun i hi => by simp at hi, fun i hi => by simp at hi⟩

theorem InvA.snoc {T : List Bytes} {l : List SubA} {s : SubA} (h : InvA T l) (hs : okAt T l s)
    (hn : NameOkA l.length s) : InvA T (l ++ [s]) := by
  constructor
  · intro i hi
    by_cases hlt : i < l.length
    · rw [List.getElem_append_left hlt, List.take_append_of_le_length (Nat.le_of_lt hlt)]
      exact h.reads i hlt
    · have : i = l.length := by simp at hi; omega
      subst this
      simpa using hs
  · intro i hi
    by_cases hlt : i < l.length
    · rw [List.getElem_append_left hlt]; exact h.names i hlt
    · have : i = l.length := by simp at hi; omega
      subst this
      simpa using hn

theorem InvA.init {T : List Bytes} {init : List SubA} {s : SubA} (h : InvA T (init ++ [s])) :
    InvA T init ∧ okAt T init s ∧ NameOkA init.length s := by
  refine ⟨⟨?_, ?_⟩, ?_, ?_⟩
  · intro i hi
    have := h.reads i (by simp; omega)
    rwa [List.getElem_append_left hi, List.take_append_of_le_length (Nat.le_of_lt hi)] at this
  · intro i hi
    have := h.names i (by simp; omega)
    rwa [List.getElem_append_left hi] at this
  · have := h.reads init.length (by simp)
    simpa using this
  · have := h.names init.length (by simp)
    simpa using this

theorem okAt_chain {T : List Bytes} (l : List SubA) (k : Nat) (source : Option Ident)
    (hT : identName source ∈ T) : okAt T l (chainA l k source) := by
  intro n hn
  simp only [chainA, srcNames, List.mem_singleton] at hn
  split at hn
  · rename_i hk
    rcases List.eq_nil_or_concat l with rfl | ⟨init, s, rfl⟩
    · simp at hk
    · left; subst hn; simp
  · right; rw [hn]; exact hT

theorem mem_map_name_of_getElem? {l : List SubA} {i : Nat} {s : SubA} (h : l[i]? = some s) :
    s.name ∈ l.map (·.name) :=
  List.mem_map.mpr ⟨s, List.mem_of_getElem? h, rfl⟩

theorem okAt_join {T : List Bytes} (source : Option Ident) (k n : Nat) (d : List SubA) (hlt : n < d.length)
    (hT : identName source ∈ T) (name : Bytes) (u l : Bool) (cond : Expr) :
    okAt T d { name := name, source := .join u l (joinLeftA source k n d) (joinRightA d) cond } := by
  intro x hx
  simp only [srcNames, List.mem_cons, List.not_mem_nil, or_false] at hx
  rcases hx with rfl | rfl
  · unfold joinLeftA
    split
    · have hi : ((n : Int) - 1).toNat < d.length := by omega
      rw [List.getElem?_eq_getElem hi]
      left; exact mem_map_name_of_getElem? (List.getElem?_eq_getElem hi)
    · right; exact hT
  · unfold joinRightA
    rcases List.eq_nil_or_concat d with rfl | ⟨init, s, rfl⟩
    · simp at hlt
    · left; simp

theorem InvA.close {T : List Bytes} {mid : List SubA} (h : InvA T mid) (k : Nat) (source : Option Ident)
    (hT : identName source ∈ T) : InvA T (closeA mid k source) := by
  unfold closeA
  split
  · exact h.snoc (okAt_chain _ _ _ hT) (.inl rfl)
  · exact h

/-- a step keeps the invariant: a stored operator leaves the source alone; a fresh link carries its
    generated name unless the operator is `as`, and an attached operator changes neither name nor body -/
theorem InvA.place {T : List Bytes} {l : List SubA} (h : InvA T l) (k : Nat) (source : Option Ident)
    (hT : identName source ∈ T) (o : Op) : InvA T (placeA source k o l) ∧ l.length ≤ (placeA source k o l).length := by
  rcases placeA_cases source k o l with he | ⟨init, s, rfl, _, ha, he⟩ <;> rw [he]
  · refine ⟨h.snoc (fun n hn => okAt_chain l k source hT n (storeA_source o _ ▸ hn)) ?_, by simp⟩
    cases o with
    | as_ p kw name => exact .inr ⟨p, kw, name, rfl, rfl⟩
    | top p kw n b col => cases col <;> exact .inl rfl
    | _ => exact .inl rfl
  · obtain ⟨hi, hs, hn⟩ := h.init
    obtain ⟨h1, h2⟩ := storeA_of_attaches ha
    refine ⟨hi.snoc (fun n hnm => hs n (storeA_source o s ▸ hnm)) ?_, by simp⟩
    unfold NameOkA
    rw [h1, h2]
    exact hn

theorem RunA.inv {T : List Bytes} {source : Option Ident} {k : Nat} {dstA out : List SubA} {ops : OpList}
    (h : RunA source k dstA ops out) (hinv : InvA T dstA) (hS : identName source ∈ T)
    (hT : ∀ n ∈ opsTablesOf ops, n ∈ T) : InvA T out ∧ dstA.length ≤ out.length := by
  induction h with
  | nil => exact ⟨hinv, Nat.le_refl _⟩
  | @step source k dst rest _ o ho _ ih =>
    have hp := hinv.place k source hS o
    have hT' : ∀ n ∈ opsTablesOf rest, n ∈ T := fun n hn => hT n (by
      cases o <;> first | exact hn | cases ho)
    exact (ih hp.1 hS hT').imp_right (Nat.le_trans hp.2)
  | join p kw kind ka flavor lp rsource rops rp on conds left mid d hl _ hd _ ihr ih =>
    unfold opsTablesOf tablesOf at hT
    have ih1 := ihr hinv (hT _ (by simp)) (fun n hn => hT n (by simp [hn]))
    have hlt := hd ▸ closeA_length_lt rsource ih1.2
    have hdI : InvA T d := hd ▸ ih1.1.close _ _ (hT _ (by simp))
    exact (ih (hdI.snoc (okAt_join _ _ _ d hlt hS _ _ _ _) (.inl rfl)) hS (fun n hn => hT n (by simp [hn]))).imp_right
      (Nat.le_trans (by simp; omega))

theorem inv_tab (t : Tabular) (T : List Bytes) (dstA out : List SubA) (h : splitA dstA t = some out)
    (hinv : InvA T dstA) (hT : ∀ n ∈ tablesOf t, n ∈ T) : InvA T out ∧ dstA.length < out.length := by
  obtain ⟨source, ops, mid, rfl, hrun, rfl⟩ := splitA_run t dstA out h
  unfold tablesOf at hT
  have ih := hrun.inv hinv (hT _ (by simp)) (fun n hn => hT n (by simp [hn]))
  exact ⟨ih.1.close _ _ (hT _ (by simp)), closeA_length_lt source ih.2⟩

theorem inv_ops : ∀ (ops : OpList) (source : Option Ident) (k : Nat) (T : List Bytes) (dstA out : List SubA),
    splitOpsA source k dstA ops = some out → InvA T dstA → identName source ∈ T →
    (∀ n ∈ opsTablesOf ops, n ∈ T) → InvA T out ∧ dstA.length ≤ out.length :=
  fun ops source k _ dstA out h => (splitOpsA_run ops source k dstA out h).inv

end Pql.C05
