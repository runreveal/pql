/-
Parameters: the compiler commutes with filling holes — the expression writer, the subquery splitter (a
subquery's `source` can hold parameter chunks, the join condition being part of it: `bindS`), the statement
loop and the final assembly (`compileFrom_bindScope`) — and the special case of mapping the parameter texts
(`Chunk.mapRaw`).  All of it is `compileFrom_srel` and the theorems behind it (Lemmas/ScopeRelated.lean) at
the relation "the second list is the first with its holes filled".
-/
import PqlModel.Lemmas.ScopeRelated
import PqlModel.Lemmas.ParamsBind
import PqlModel.Props.C14Order
namespace Pql.Params
open Pql

/-- the second chunk list is the first with its holes filled -/
def Filled (σ : Bytes → List Chunk) (a b : List Chunk) : Prop := b = bindRaw σ a

section
variable (σ : Bytes → List Chunk)

theorem Filled.cong : WCong CMap.idMap (Filled σ) :=
  ⟨⟨rfl, fun _ => rfl, fun _ => rfl, fun h₁ h₂ => by
    unfold Filled at *
    rw [h₁, h₂, bindRaw_append]⟩, fun _ => rfl, fun _ => rfl, fun _ => rfl⟩

theorem bindScope_rel (sc : Scope) : ScopeRel (Filled σ) sc (bindScope σ sc) := by
  intro n
  rw [lookupScope_bind]
  cases lookupScope sc n with
  | none => exact .none
  | some v => exact .some rfl

theorem writeExpr_bind (src : Bytes) (m : Mode) (sc : Scope) (e : Expr) :
    writeExpr ⟨src, bindScope σ sc, m⟩ e = (writeExpr ⟨src, sc, m⟩ e).map (bindRaw σ) :=
  (writeExpr_srel (Filled.cong σ) (bindScope_rel σ sc) e).eq_map _ fun _ _ h => h

end

theorem writeList_bind (σ : Bytes → List Chunk) (src : Bytes) (m : Mode) (sc : Scope) :
    (es : ExprList) → writeList ⟨src, bindScope σ sc, m⟩ es = (writeList ⟨src, sc, m⟩ es).map (List.map (bindRaw σ)) := by
  intro es
  have h := ((mapE_alg (src := src) (src' := src) (m := m) (Filled.cong σ) (bindScope_rel σ sc)).list es
    (inertL_of_fn_id (fun _ => rfl) sc m es)).1
  rw [mapL_id] at h
  exact ExRel.eq_map _ (fun _ _ hab => hab.1.eq_map _ fun _ _ h => h) h

theorem writeListMP_bind (σ : Bytes → List Chunk) (src : Bytes) (m : Mode) (sc : Scope) :
    (es : ExprList) →
      writeListMaybeParen' ⟨src, bindScope σ sc, m⟩ es = (writeListMaybeParen' ⟨src, sc, m⟩ es).map (List.map (bindRaw σ)) := by
  intro es
  have h := ((mapE_alg (src := src) (src' := src) (m := m) (Filled.cong σ) (bindScope_rel σ sc)).list es
    (inertL_of_fn_id (fun _ => rfl) sc m es)).2
  rw [mapL_id] at h
  exact ExRel.eq_map _ (fun _ _ hab => hab.eq_map _ fun _ _ h => h) h

/-- fill the holes in a subquery's source -/
def bindS (σ : Bytes → List Chunk) (sub : Subquery) : Subquery := { sub with source := bindRaw σ sub.source }

section
variable (σ : Bytes → List Chunk)

/-- the `attach` decisions look at `op`, `sort`, `take` of the last subquery only -/
theorem attach_bind (last : Option Subquery) (k : Subquery → Bool) (hk : ∀ s, k (bindS σ s) = k s) :
    (match last.map (bindS σ) with | some l => k l | none => false) =
      (match last with | some l => k l | none => false) := by
  cases last with
  | none => rfl
  | some l => exact hk l

/-- at the identity map and `Filled σ`, the relation of content parametricity between the subqueries of two
    splits is the graph of `bindS σ`: this direction and `bindS_of_rel` -/
theorem bindS_rel (src : Bytes) (sc : Scope) (sub : Subquery) :
    WSubRel CMap.idMap (Filled σ) src src sc sub (bindS σ sub) := by
  refine ⟨⟨rfl, rfl, ?_, ?_, ?_⟩, inertSub_of_fn_id (fun _ => rfl) sc .default sub, ?_⟩
  · exact (optMap_id_of mapOp_id sub.op).symm
  · exact (optMap_id_of (List.map_id'' mapSortTerm_id) sub.sort).symm
  · exact (optMap_id_of mapE_id sub.take).symm
  · unfold SubOK
    cases sub.op with
    | none => trivial
    | some o => exact idMap_opOK (Filled.cong σ) src o

theorem bindS_of_rel {src : Bytes} {sc : Scope} {a b : Subquery}
    (h : WSubRel CMap.idMap (Filled σ) src src sc a b) : b = bindS σ a := by
  obtain ⟨name, source, op, sort, take⟩ := a
  obtain ⟨name', source', op', sort', take'⟩ := b
  obtain ⟨⟨hn, hs, ho, hso, ht⟩, _, _⟩ := h
  dsimp only at hn hs ho hso ht
  have hn' : [Chunk.qid name'] = [Chunk.qid name] := hn
  injection hn' with hn' _
  injection hn' with hn'
  rw [hn', ho, hso, ht, show source' = _ from hs, optMap_id_of mapOp_id, optMap_id_of (List.map_id'' mapSortTerm_id),
    optMap_id_of mapE_id]
  rfl

end

theorem splitOps_bind (σ : Bytes → List Chunk) (src : Bytes) (sc : Scope) :
    (ops : OpList) → (source : Option Ident) → (ds : Nat) → (dst : List Subquery) →
      splitOps src (bindScope σ sc) source ds (dst.map (bindS σ)) ops =
        (splitOps src sc source ds dst ops).map (List.map (bindS σ)) := by
  intro ops source ds dst
  have h := msplitOps_wrel (src := src) (src' := src) (idMap_wsplit (Filled.cong σ)) (bindScope_rel σ sc) ops
    (inertOps_of_fn_id (fun _ => rfl) sc ops) (idMap_tabOK (Filled.cong σ) src (.mk none ops)) source ds dst _
    (ListRel.of_map _ fun sub _ => bindS_rel σ src sc sub)
  rw [mapOps_id, optMap_id_of idMap_ident] at h
  exact ExRel.eq_map _ (fun _ _ hab => hab.eq_map (bindS σ) fun _ _ h => bindS_of_rel σ h) h

theorem bindRaw_mapRaw (f : Bytes → Bytes) (cs : List Chunk) :
    bindRaw (fun v => [Chunk.raw (f v)]) cs = cs.map (Chunk.mapRaw f) := by
  induction cs with
  | nil => rfl
  | cons c cs ih => cases c <;> simp [ih, Chunk.mapRaw]

theorem paramScope_bind (σ : Bytes → List Chunk) (params : List (Bytes × Bytes)) :
    bindScope σ (paramScope params) = params.map fun kv => (kv.1, σ kv.2) := by
  simp [bindScope, paramScope, bindRaw, bindC]

theorem paramScope_map (f : Bytes → Bytes) (params : List (Bytes × Bytes)) :
    paramScope (params.map fun kv => (kv.1, f kv.2)) = bindScope (fun v => [Chunk.raw (f v)]) (paramScope params) := by
  rw [paramScope_bind]
  simp [paramScope]

/-- `compileChunks` started from an arbitrary initial scope -/
def compileFrom (src : Bytes) (sc : Scope) (stmts : List Stmt) : W :=
  compileStmts src stmts sc none >>= fun r => C14.finishChunks src r.1 r.2

theorem compileChunks_eq_from (src : Bytes) (params : List (Bytes × Bytes)) (stmts : List Stmt) :
    compileChunks src params stmts = compileFrom src (paramScope params) stmts :=
  C14.compileChunks_eq src params stmts

/-- compilation from an initial scope with filled holes = filling the holes of the compilation -/
theorem compileFrom_bindScope (σ : Bytes → List Chunk) (src : Bytes) (sc : Scope) (stmts : List Stmt) :
    compileFrom src (bindScope σ sc) stmts = (compileFrom src sc stmts).map (bindRaw σ) :=
  (compileFrom_srel (Filled.cong σ) (bindScope_rel σ sc) stmts).eq_map _ fun _ _ h => h

end Pql.Params
