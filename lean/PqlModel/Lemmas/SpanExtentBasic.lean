/-
Span arithmetic for property C10 ("a node's span is the extent of its tokens").  `ext ts` is the extent of a
token list: from the start of its first to the end of its last token (`Span.null` for the empty list).  On a
token list as `scan` produces it (`TokOK`), `Span.union` of the extents of two consecutive segments is the
extent of their concatenation, also when tokens lie between two non-empty segments; hence `Span.unions` of the
spans of consecutive runs of tokens is computed run by run.
-/
import PqlModel.Lemmas.AccountedBasic
import PqlModel.Props.C10
namespace Pql
open C10

def ext : List Token → Span
  | [] => .null
  | t :: ts => ⟨t.start, (ts.getLastD t).stop⟩

@[simp] theorem ext_nil : ext [] = .null := rfl
@[simp] theorem ext_single (t : Token) : ext [t] = t.span := rfl
theorem ext_pair (t t2 : Token) : ext [t, t2] = ⟨t.start, t2.stop⟩ := rfl

theorem ext_eq_head_getLast {ts : List Token} (h : ts ≠ []) :
    ext ts = ⟨(ts.head h).start, (ts.getLast h).stop⟩ := by
  cases ts with
  | nil => exact absurd rfl h
  | cons t ts => rw [List.getLast_eq_getLastD]; rfl

theorem getLastD_append_cons {α} (l : List α) (s : α) (b : List α) (t : α) :
    (l ++ s :: b).getLastD t = b.getLastD s := by
  induction l generalizing t with
  | nil => rw [List.nil_append, List.getLastD_cons]
  | cons x l ih => rw [List.cons_append, List.getLastD_cons, ih]

theorem ext_append_cons (t : Token) (a m : List Token) (s : Token) (b : List Token) :
    ext ((t :: a) ++ m ++ s :: b) = ⟨t.start, (b.getLastD s).stop⟩ := by
  have : (t :: a) ++ m ++ s :: b = t :: ((a ++ m) ++ s :: b) := by simp
  rw [this]
  simp only [ext, getLastD_append_cons]

theorem TokOK.mem_le {ts : List Token} (h : TokOK ts) {x : Token} (hx : x ∈ ts) : x.start ≤ x.stop :=
  (h.1 x hx).le

theorem TokOK.start_le_last {t : Token} {ts : List Token} (h : TokOK (t :: ts)) :
    t.start ≤ (ts.getLastD t).stop := by
  cases ts with
  | nil => exact h.head.le
  | cons y ys =>
    have hmem : (y :: ys).getLastD t ∈ y :: ys := by
      rw [List.getLastD_cons]; exact List.getLastD_mem_cons
    have h1 := h.head.le
    have h2 := h.tail.mem_le hmem
    have h3 : t.stop ≤ ((y :: ys).getLastD t).start := by
      have := h.2
      rw [List.pairwise_cons] at this
      exact this.1 _ hmem
    omega

theorem TokOK.cross {a b : List Token} (h : TokOK (a ++ b)) {x y : Token} (hx : x ∈ a) (hy : y ∈ b) :
    x.stop ≤ y.start := by
  have := h.2
  rw [List.pairwise_append] at this
  exact this.2.2 x hx y hy

theorem ext_valid {ts : List Token} (h : TokOK ts) (hne : ts ≠ []) : (ext ts).isValid = true := by
  cases ts with
  | nil => exact absurd rfl hne
  | cons t ts =>
    have := h.start_le_last
    simp only [ext, isValid_iff]
    omega

theorem ext_valid_iff {ts : List Token} (h : TokOK ts) : (ext ts).isValid = true ↔ ts ≠ [] := by
  constructor
  · intro hv hn; subst hn; simp at hv
  · exact ext_valid h

theorem union_invalid_right {u s : Span} (hs : s.isValid = false) : Span.union u s = u := by
  simp [Span.union, hs]

@[simp] theorem union_null_right (u : Span) : Span.union u .null = u :=
  union_invalid_right (by decide)

theorem union_invalid_left {u s : Span} (hu : u.isValid = false) (hs : s.isValid = true) :
    Span.union u s = s := by
  simp [Span.union, hs, hu]

theorem union_of_valid {u s : Span} (hu : u.isValid = true) (hs : s.isValid = true) :
    Span.union u s = ⟨min u.start s.start, max u.stop s.stop⟩ := by
  simp [Span.union, hs, hu]

theorem union_assoc (u s w : Span) : Span.union (Span.union u s) w = Span.union u (Span.union s w) := by
  cases hw : w.isValid
  · rw [union_invalid_right hw, union_invalid_right hw]
  · cases hs : s.isValid
    · rw [union_invalid_right hs, union_invalid_left hs hw]
    · cases hu : u.isValid
      · rw [union_invalid_left hu hs, union_invalid_left hu (union_valid_of_left hs)]
      · rw [union_of_valid (union_valid_of_left hu) hw, union_of_valid hu (union_valid_of_left hs),
          union_of_valid hu hs, union_of_valid hs hw]
        simp only [Span.mk.injEq]
        omega

theorem ext_union_gap {a m b : List Token} (h : TokOK (a ++ m ++ b)) (ha : a ≠ []) (hb : b ≠ []) :
    Span.union (ext a) (ext b) = ext (a ++ m ++ b) := by
  cases a with
  | nil => exact absurd rfl ha
  | cons t a =>
    cases b with
    | nil => exact absurd rfl hb
    | cons s b =>
      have hA : TokOK (t :: a) := h.left.left
      have hB : TokOK (s :: b) := h.right
      rw [union_of_valid (ext_valid hA (by simp)) (ext_valid hB (by simp)), ext_append_cons]
      have h1 := hA.start_le_last
      have h2 := hB.start_le_last
      have hla : a.getLastD t ∈ (t :: a) ++ m := List.mem_append_left _ List.getLastD_mem_cons
      have h3 : t.stop ≤ s.start := h.cross (List.mem_append_left _ (by simp)) (by simp)
      have h5 : (a.getLastD t).stop ≤ s.start := h.cross hla (by simp)
      have h6 := hA.head.le
      have h7 := hB.head.le
      simp only [ext, Span.mk.injEq]
      omega

theorem ext_union {a b : List Token} (h : TokOK (a ++ b)) : Span.union (ext a) (ext b) = ext (a ++ b) := by
  cases a with
  | nil =>
    cases b with
    | nil => rfl
    | cons s b =>
      rw [List.nil_append] at h ⊢
      exact union_invalid_left (by simp) (ext_valid h (by simp))
  | cons t a =>
    cases b with
    | nil => simp
    | cons s b =>
      have := ext_union_gap (a := t :: a) (m := []) (b := s :: b) (by simpa using h) (by simp) (by simp)
      simpa using this

theorem union_null_ext {a : List Token} (h : TokOK a) : Span.union .null (ext a) = ext a := by
  have := ext_union (a := []) (b := a) (by simpa using h)
  simpa using this

theorem foldl_union_filter (ss : List Span) : ∀ (u : Span),
    (ss.filter Span.isValid).foldl Span.union u = ss.foldl Span.union u := by
  induction ss with
  | nil => intro u; rfl
  | cons s ss ih =>
    intro u
    rw [List.filter_cons]
    cases hs : s.isValid
    · simp only [Bool.false_eq_true, if_false, List.foldl_cons, union_invalid_right hs]
      exact ih u
    · simp only [if_true, List.foldl_cons]
      exact ih _

/-- `nodeSliceSpan` is the plain union: invalid spans do not contribute anyway -/
theorem sliceSpan_eq_unions (ss : List Span) : sliceSpan ss = Span.unions ss :=
  foldl_union_filter ss _

theorem foldl_union_eq (ss : List Span) : ∀ (u : Span),
    ss.foldl Span.union u = Span.union u (Span.unions ss) := by
  induction ss with
  | nil => intro u; simp [Span.unions]
  | cons s ss ih =>
    intro u
    simp only [Span.unions, List.foldl_cons]
    rw [ih (Span.union u s), ih (Span.union Span.null s), ← union_assoc, ← union_assoc, union_null_right]

theorem unions_cons (s : Span) (ss : List Span) :
    Span.unions (s :: ss) = Span.union (Span.union .null s) (Span.unions ss) := by
  simp only [Span.unions, List.foldl_cons]
  exact foldl_union_eq ss _

theorem unions_cons_ext {a : List Token} (h : TokOK a) (ss : List Span) :
    Span.unions (ext a :: ss) = Span.union (ext a) (Span.unions ss) := by
  rw [unions_cons, union_null_ext h]

theorem ext_cons {ta tb : List Token} {s : Span} {ss : List Span} (hok : TokOK (ta ++ tb))
    (h1 : s = ext ta) (h2 : Span.unions ss = ext tb) : Span.unions (s :: ss) = ext (ta ++ tb) := by
  rw [h1, unions_cons_ext hok.left, h2]
  exact ext_union hok

theorem unions_append (a b : List Span) :
    Span.unions (a ++ b) = Span.union (Span.unions a) (Span.unions b) := by
  simp only [Span.unions, List.foldl_append]
  exact foldl_union_eq b _

theorem unions_cons_gap {ta tb : List Token} {tc : Token} {ss : List Span} (h : TokOK (ta ++ tc :: tb))
    (ha : ta ≠ []) (hb : tb ≠ []) (hss : Span.unions ss = ext tb) :
    Span.unions (ext ta :: ss) = ext (ta ++ tc :: tb) := by
  rw [unions_cons_ext h.left, hss]
  have := ext_union_gap (a := ta) (m := [tc]) (b := tb) (by simpa using h) ha hb
  simpa using this

end Pql
