/-
Lemmas for the "gaps are trivia" part of property C09: the shape of a comment body (`commentLen_spec`) and
the decoding of a rune from its own bytes.  What is scanned behind a token: `scanFrom_at` (Lemmas/LexReach.lean).
-/
import PqlModel.Lemmas.LexReach
namespace Pql

theorem commentLen_spec (t : Bytes) :
    ∃ body, (∀ b ∈ body, b ≠ 10) ∧
      ((t.take (commentLen t) = body ++ [10]) ∨
       (t.take (commentLen t) = body ∧ t.drop (commentLen t) = [])) := by
  induction t with
  | nil => exact ⟨[], by simp, Or.inr ⟨by simp [commentLen], by simp [commentLen]⟩⟩
  | cons c rest ih =>
    by_cases hc : (c == 10) = true
    · refine ⟨[], by simp, Or.inl ?_⟩
      have : c = 10 := by simpa using hc
      simp [commentLen, this]
    · obtain ⟨body, hb, hor⟩ := ih
      have hne : c ≠ 10 := by simpa using hc
      refine ⟨c :: body, ?_, ?_⟩
      · intro b hbm
        rcases List.mem_cons.mp hbm with rfl | hbm
        · exact hne
        · exact hb b hbm
      · simp only [commentLen, hc, Bool.false_eq_true, if_false, List.take_succ_cons,
          List.drop_succ_cons, List.cons_append]
        rcases hor with h | ⟨h1, h2⟩
        · exact Or.inl (by rw [h])
        · exact Or.inr ⟨by rw [h1], h2⟩

theorem isSpaceRune_of_isAsciiSpace (c : UInt8) (h : isAsciiSpace c = true) :
    isSpaceRune c.toNat = true := by
  simp only [isAsciiSpace, Bool.or_eq_true, beq_iff_eq] at h
  rcases h with ((((h | h) | h) | h) | h) | h <;> subst h <;> decide

theorem decodeRune_take_self (s : Bytes) :
    decodeRune (s.take (decodeRune s).2) = decodeRune s := by
  have hle := decodeRune_width_le s
  have := decodeRune_append (s.take (decodeRune s).2) (s.drop (decodeRune s).2)
  rw [List.take_append_drop] at this
  exact (this (by rw [List.length_take]; omega)).symm

end Pql
