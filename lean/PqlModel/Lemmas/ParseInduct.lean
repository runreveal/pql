/-
One induction principle for the expression block `pExpr … pExprListTail`.

A motive per production, on (fuel, arguments, tokens, result).  One premise per leaf of a
production: the guard facts, every sub-parse as a variable `r` with its equation and its
induction hypothesis, and the result of the leaf written with those variables.  The conclusion
holds for every fuel.  A family of facts about the parser is then: eight motives and the leaf
facts; the induction on fuel and the distribution over the productions are done here, once.
-/
import PqlModel.Lemmas.ParseCases
namespace Pql

structure ExprHolds (c : PCtx)
    (mE : Nat → List Token → PRes Expr → Prop)
    (mT mH : Nat → Expr → Int → Errs → List Token → PRes Expr → Prop)
    (mU mP mI : Nat → List Token → PRes Expr → Prop)
    (mL : Nat → List Token → PRes ExprList → Prop)
    (mLT : Nat → ExprList → List Token → PRes ExprList → Prop) (f : Nat) : Prop where
  expr : ∀ ts, mE f ts (pExpr c f ts)
  trail : ∀ x m acc ts, mT f x m acc ts (pTrail c f x m acc ts)
  higher : ∀ y p acc ts, mH f y p acc ts (pHigher c f y p acc ts)
  unary : ∀ ts, mU f ts (pUnary c f ts)
  primary : ∀ ts, mP f ts (pPrimary c f ts)
  inner : ∀ ts, mI f ts (pInner c f ts)
  exprList : ∀ ts, mL f ts (pExprList c f ts)
  exprListTail : ∀ acc ts, mLT f acc ts (pExprListTail c f acc ts)

theorem expr_induct {c : PCtx}
    {mE : Nat → List Token → PRes Expr → Prop}
    {mT mH : Nat → Expr → Int → Errs → List Token → PRes Expr → Prop}
    {mU mP mI : Nat → List Token → PRes Expr → Prop}
    {mL : Nat → List Token → PRes ExprList → Prop}
    {mLT : Nat → ExprList → List Token → PRes ExprList → Prop}
    (e_fuel : ∀ (ts : List Token), mE 0 ts ⟨.nil, errFuel, ts⟩)
    (t_fuel : ∀ (x : Expr) (m : Int) (acc : Errs) (ts : List Token), mT 0 x m acc ts ⟨x, acc ++ errFuel, ts⟩)
    (h_fuel : ∀ (y : Expr) (p : Int) (acc : Errs) (ts : List Token), mH 0 y p acc ts ⟨y, acc ++ errFuel, ts⟩)
    (u_fuel : ∀ (ts : List Token), mU 0 ts ⟨.nil, errFuel, ts⟩)
    (p_fuel : ∀ (ts : List Token), mP 0 ts ⟨.nil, errFuel, ts⟩)
    (i_fuel : ∀ (ts : List Token), mI 0 ts ⟨.nil, errFuel, ts⟩)
    (l_fuel : ∀ (ts : List Token), mL 0 ts ⟨.nil, errFuel, ts⟩)
    (lt_fuel : ∀ (acc : ExprList) (ts : List Token), mLT 0 acc ts ⟨acc, errFuel, ts⟩)
    (e_nf : ∀ (f : Nat) (ts : List Token) (r1 : PRes Expr), pUnary c f ts = r1 → mU f ts r1 → isNF r1.errs = true → mE (f + 1) ts r1)
    (e_trail : ∀ (f : Nat) (ts : List Token) (r1 : PRes Expr) (r2 : PRes Expr), pUnary c f ts = r1 → mU f ts r1 → isNF r1.errs = false →
      pTrail c f r1.val 0 [] r1.rest = r2 → mT f r1.val 0 [] r1.rest r2 →
      mE (f + 1) ts ⟨r2.val, r1.errs ++ r2.errs, r2.rest⟩)
    (t_nil : ∀ (f : Nat) (x : Expr) (m : Int) (acc : Errs), mT (f + 1) x m acc [] ⟨x, acc, []⟩)
    (t_stop : ∀ (f : Nat) (x : Expr) (m : Int) (acc : Errs) (op : Token) (rest : List Token), precOf op.kind < 0 ∨ precOf op.kind < m →
      mT (f + 1) x m acc (op :: rest) ⟨x, acc, op :: rest⟩)
    (t_inEof : ∀ (f : Nat) (x : Expr) (m : Int) (acc : Errs) (op : Token), ¬(precOf op.kind < 0 ∨ precOf op.kind < m) → op.kind = .in_ →
      mT (f + 1) x m acc [op] ⟨.inE x op.span .null .nil .null, acc ++ errAt c.eof, []⟩)
    (t_inNoParen : ∀ (f : Nat) (x : Expr) (m : Int) (acc : Errs) (op : Token) (lp : Token) (rest2 : List Token), ¬(precOf op.kind < 0 ∨ precOf op.kind < m) →
      op.kind = .in_ → lp.kind ≠ .lparen →
      mT (f + 1) x m acc (op :: lp :: rest2)
        ⟨.inE x op.span .null .nil .null, acc ++ errAt lp.span, rest2⟩)
    (t_inOpen : ∀ (f : Nat) (x : Expr) (m : Int) (acc : Errs) (op : Token) (lp : Token) (rest2 : List Token) (rl : PRes ExprList) (cl : Closing), ¬(precOf op.kind < 0 ∨ precOf op.kind < m) →
      op.kind = .in_ → lp.kind = .lparen → (split .rparen rest2).2 = [] →
      pExprList c f (split .rparen rest2).1 = rl → mL f (split .rparen rest2).1 rl →
      closeSplit .rparen .null lp.span rest2 = cl →
      mT (f + 1) x m acc (op :: lp :: rest2)
        ⟨.inE x op.span lp.span rl.val cl.span,
          acc ++ mkOpaque rl.errs ++ endSplit rl.rest ++ cl.errs, cl.rest⟩)
    (t_inList : ∀ (f : Nat) (x : Expr) (m : Int) (acc : Errs) (op : Token) (lp : Token) (rest2 : List Token) (rl : PRes ExprList) (cl : Closing) (res : PRes Expr), ¬(precOf op.kind < 0 ∨ precOf op.kind < m) →
      op.kind = .in_ → lp.kind = .lparen → (split .rparen rest2).2 ≠ [] →
      pExprList c f (split .rparen rest2).1 = rl → mL f (split .rparen rest2).1 rl →
      closeSplit .rparen .null lp.span rest2 = cl →
      pTrail c f (.inE x op.span lp.span rl.val cl.span) m
        (acc ++ mkOpaque rl.errs ++ endSplit rl.rest) cl.rest = res →
      mT f (.inE x op.span lp.span rl.val cl.span) m
        (acc ++ mkOpaque rl.errs ++ endSplit rl.rest) cl.rest res →
      mT (f + 1) x m acc (op :: lp :: rest2) res)
    (t_binary : ∀ (f : Nat) (x : Expr) (m : Int) (acc : Errs) (op : Token) (rest : List Token) (ry : PRes Expr) (rh : PRes Expr) (res : PRes Expr), ¬(precOf op.kind < 0 ∨ precOf op.kind < m) →
      op.kind ≠ .in_ → pUnary c f rest = ry → mU f rest ry →
      pHigher c f ry.val (precOf op.kind) (acc ++ mkOpaque ry.errs) ry.rest = rh →
      mH f ry.val (precOf op.kind) (acc ++ mkOpaque ry.errs) ry.rest rh →
      pTrail c f (.binary x op.span op.kind rh.val) m rh.errs rh.rest = res →
      mT f (.binary x op.span op.kind rh.val) m rh.errs rh.rest res →
      mT (f + 1) x m acc (op :: rest) res)
    (h_nil : ∀ (f : Nat) (y : Expr) (p : Int) (acc : Errs), mH (f + 1) y p acc [] ⟨y, acc, []⟩)
    (h_stop : ∀ (f : Nat) (y : Expr) (p : Int) (acc : Errs) (op : Token) (rest : List Token), precOf op.kind < 0 ∨ precOf op.kind ≤ p →
      mH (f + 1) y p acc (op :: rest) ⟨y, acc, op :: rest⟩)
    (h_go : ∀ (f : Nat) (y : Expr) (p : Int) (acc : Errs) (op : Token) (rest : List Token) (r : PRes Expr) (res : PRes Expr), ¬(precOf op.kind < 0 ∨ precOf op.kind ≤ p) →
      pTrail c f y (p + 1) [] (op :: rest) = r → mT f y (p + 1) [] (op :: rest) r →
      pHigher c f r.val p (acc ++ mkOpaque r.errs) r.rest = res →
      mH f r.val p (acc ++ mkOpaque r.errs) r.rest res →
      mH (f + 1) y p acc (op :: rest) res)
    (u_nil : ∀ (f : Nat), mU (f + 1) [] ⟨.nil, nfAt c.eof, []⟩)
    (u_sign : ∀ (f : Nat) (t : Token) (rest : List Token) (r : PRes Expr), t.kind = .plus ∨ t.kind = .minus → pPrimary c f rest = r →
      mP f rest r → mU (f + 1) (t :: rest) ⟨.unary t.span t.kind r.val, mkOpaque r.errs, r.rest⟩)
    (u_plain : ∀ (f : Nat) (t : Token) (rest : List Token) (r : PRes Expr), ¬(t.kind = .plus ∨ t.kind = .minus) → pPrimary c f (t :: rest) = r →
      mP f (t :: rest) r → mU (f + 1) (t :: rest) r)
    (p_err : ∀ (f : Nat) (ts : List Token) (r : PRes Expr), pInner c f ts = r → mI f ts r → r.errs ≠ [] → mP (f + 1) ts r)
    (p_plain : ∀ (f : Nat) (ts : List Token) (r : PRes Expr), pInner c f ts = r → mI f ts r → r.errs = [] →
      (∀ t rest, r.rest = t :: rest → t.kind ≠ .lbracket) → mP (f + 1) ts ⟨r.val, [], r.rest⟩)
    (p_index : ∀ (f : Nat) (ts : List Token) (r : PRes Expr) (t : Token) (rest : List Token) (ri : PRes Expr) (cl : Closing), pInner c f ts = r → mI f ts r → r.errs = [] →
      r.rest = t :: rest → t.kind = .lbracket →
      pExpr c f (split .rbracket rest).1 = ri → mE f (split .rbracket rest).1 ri →
      closeSplit .rbracket .zero c.eof rest = cl →
      mP (f + 1) ts ⟨.index r.val t.span ri.val cl.span,
        mkOpaque ri.errs ++ endSplit ri.rest ++ cl.errs, cl.rest⟩)
    (i_nil : ∀ (f : Nat), mI (f + 1) [] ⟨.nil, nfAt c.eof, []⟩)
    (i_lit : ∀ (f : Nat) (t : Token) (rest : List Token), t.kind = .number ∨ t.kind = .string →
      mI (f + 1) (t :: rest) ⟨.lit t.span t.kind t.value, [], rest⟩)
    (i_ident : ∀ (f : Nat) (t : Token) (rest : List Token) (q : PRes (List Ident)), t.kind = .ident →
      pQualTail c (rest.length + 1) [⟨t.value, t.span, false⟩] rest = q → NotCall q →
      mI (f + 1) (t :: rest) ⟨.qident q.val, q.errs, q.rest⟩)
    (i_call : ∀ (f : Nat) (t : Token) (rest : List Token) (q : PRes (List Ident)) (lp : Token) (rest2 : List Token) (ra : PRes ExprList) (cl : Closing), t.kind = .ident →
      pQualTail c (rest.length + 1) [⟨t.value, t.span, false⟩] rest = q →
      q.errs = [] → ¬q.val.length > 1 → q.rest = lp :: rest2 → lp.kind = .lparen →
      pExprList c f (split .rparen rest2).1 = ra → mL f (split .rparen rest2).1 ra →
      closeSplit .rparen .null c.eof rest2 = cl →
      mI (f + 1) (t :: rest)
        ⟨.call ⟨t.value, t.span, false⟩ lp.span ra.val cl.span, callArgErrs ra ++ cl.errs, cl.rest⟩)
    (i_qident : ∀ (f : Nat) (t : Token) (rest : List Token) (q : PRes (List Ident)), t.kind = .qident →
      pQualTail c (rest.length + 1) [⟨t.value, t.span, true⟩] rest = q →
      mI (f + 1) (t :: rest) ⟨.qident q.val, q.errs, q.rest⟩)
    (i_paren : ∀ (f : Nat) (t : Token) (rest : List Token) (rx : PRes Expr) (cl : Closing), t.kind = .lparen →
      pExpr c f (split .rparen rest).1 = rx → mE f (split .rparen rest).1 rx →
      closeSplit .rparen .null c.eof rest = cl →
      mI (f + 1) (t :: rest)
        ⟨.paren t.span rx.val cl.span, mkOpaque rx.errs ++ endSplit rx.rest ++ cl.errs, cl.rest⟩)
    (i_other : ∀ (f : Nat) (t : Token) (rest : List Token), ¬(t.kind = .number ∨ t.kind = .string) → t.kind ≠ .ident →
      t.kind ≠ .qident → t.kind ≠ .lparen → mI (f + 1) (t :: rest) ⟨.nil, nfAt t.span, t :: rest⟩)
    (l_err : ∀ (f : Nat) (ts : List Token) (r : PRes Expr), pExpr c f ts = r → mE f ts r → r.errs ≠ [] →
      mL (f + 1) ts ⟨.nil, r.errs, r.rest⟩)
    (l_tail : ∀ (f : Nat) (ts : List Token) (r : PRes Expr) (res : PRes ExprList), pExpr c f ts = r → mE f ts r → r.errs = [] →
      pExprListTail c f (.cons r.val .nil) r.rest = res → mLT f (.cons r.val .nil) r.rest res →
      mL (f + 1) ts res)
    (lt_nil : ∀ (f : Nat) (acc : ExprList), mLT (f + 1) acc [] ⟨acc, [], []⟩)
    (lt_stop : ∀ (f : Nat) (acc : ExprList) (t : Token) (rest : List Token), t.kind ≠ .comma → mLT (f + 1) acc (t :: rest) ⟨acc, [], t :: rest⟩)
    (lt_back : ∀ (f : Nat) (acc : ExprList) (t : Token) (rest : List Token) (r : PRes Expr), t.kind = .comma → pExpr c f rest = r → mE f rest r →
      isNF r.errs = true → mLT (f + 1) acc (t :: rest) ⟨acc, [], t :: rest⟩)
    (lt_err : ∀ (f : Nat) (acc : ExprList) (t : Token) (rest : List Token) (r : PRes Expr), t.kind = .comma → pExpr c f rest = r → mE f rest r →
      isNF r.errs = false → r.errs ≠ [] →
      mLT (f + 1) acc (t :: rest) ⟨pushArg acc r.val, mkOpaque r.errs, r.rest⟩)
    (lt_more : ∀ (f : Nat) (acc : ExprList) (t : Token) (rest : List Token) (r : PRes Expr) (res : PRes ExprList), t.kind = .comma → pExpr c f rest = r → mE f rest r →
      r.errs = [] → pExprListTail c f (pushArg acc r.val) r.rest = res →
      mLT f (pushArg acc r.val) r.rest res → mLT (f + 1) acc (t :: rest) res) :
    ∀ f, ExprHolds c mE mT mH mU mP mI mL mLT f := by
  intro f
  induction f with
  | zero =>
    exact ⟨fun ts => by simp only [pExpr]; exact e_fuel ts,
      fun x m acc ts => by simp only [pTrail]; exact t_fuel x m acc ts,
      fun y p acc ts => by simp only [pHigher]; exact h_fuel y p acc ts,
      fun ts => by simp only [pUnary]; exact u_fuel ts,
      fun ts => by simp only [pPrimary]; exact p_fuel ts,
      fun ts => by simp only [pInner]; exact i_fuel ts,
      fun ts => by simp only [pExprList]; exact l_fuel ts,
      fun acc ts => by simp only [pExprListTail]; exact lt_fuel acc ts⟩
  | succ f ih =>
    refine ⟨?_, ?_, ?_, ?_, ?_, ?_, ?_, ?_⟩
    · intro ts
      cases h : isNF (pUnary c f ts).errs
      · rw [pExpr_trail h]; exact e_trail f ts _ _ rfl (ih.unary ts) h rfl (ih.trail _ _ _ _)
      · rw [pExpr_nf h]; exact e_nf f ts _ rfl (ih.unary ts) h
    · intro x m acc ts
      match ts with
      | [] => rw [pTrail_nil]; exact t_nil f x m acc
      | op :: rest =>
        by_cases h : precOf op.kind < 0 ∨ precOf op.kind < m
        · rw [pTrail_stop h]; exact t_stop f x m acc op rest h
        by_cases hk : op.kind = .in_
        · match rest with
          | [] => rw [pTrail_in_eof h hk]; exact t_inEof f x m acc op h hk
          | lp :: rest2 =>
            by_cases hl : lp.kind = .lparen
            · by_cases hs : (split .rparen rest2).2 = []
              · rw [pTrail_in_open h hk hl hs]
                exact t_inOpen f x m acc op lp rest2 _ _ h hk hl hs rfl (ih.exprList _) rfl
              · rw [pTrail_in_list h hk hl hs]
                exact t_inList f x m acc op lp rest2 _ _ _ h hk hl hs rfl (ih.exprList _) rfl rfl
                  (ih.trail _ _ _ _)
            · rw [pTrail_in_noparen h hk hl]; exact t_inNoParen f x m acc op lp rest2 h hk hl
        · rw [pTrail_binary h hk]
          exact t_binary f x m acc op rest _ _ _ h hk rfl (ih.unary _) rfl (ih.higher _ _ _ _) rfl
            (ih.trail _ _ _ _)
    · intro y p acc ts
      match ts with
      | [] => rw [pHigher_nil]; exact h_nil f y p acc
      | op :: rest =>
        by_cases h : precOf op.kind < 0 ∨ precOf op.kind ≤ p
        · rw [pHigher_stop h]; exact h_stop f y p acc op rest h
        · rw [pHigher_go h]
          exact h_go f y p acc op rest _ _ h rfl (ih.trail _ _ _ _) rfl (ih.higher _ _ _ _)
    · intro ts
      match ts with
      | [] => rw [pUnary_nil]; exact u_nil f
      | t :: rest =>
        by_cases h : t.kind = .plus ∨ t.kind = .minus
        · rw [pUnary_sign h]; exact u_sign f t rest _ h rfl (ih.primary _)
        · rw [pUnary_plain h]; exact u_plain f t rest _ h rfl (ih.primary _)
    · intro ts
      by_cases h : (pInner c f ts).errs = []
      · rcases head_kind_cases .lbracket (pInner c f ts).rest with hr | ⟨t, rest, hr, hk⟩
        · rw [pPrimary_plain h hr]; exact p_plain f ts _ rfl (ih.inner ts) h hr
        · rw [pPrimary_index h hr hk]
          exact p_index f ts _ t rest _ _ rfl (ih.inner ts) h hr hk rfl (ih.expr _) rfl
      · rw [pPrimary_err h]; exact p_err f ts _ rfl (ih.inner ts) h
    · intro ts
      match ts with
      | [] => rw [pInner_nil]; exact i_nil f
      | t :: rest =>
        by_cases h1 : t.kind = .number ∨ t.kind = .string
        · rw [pInner_lit h1]; exact i_lit f t rest h1
        by_cases h2 : t.kind = .ident
        · rcases notCall_or_call (pQualTail c (rest.length + 1) [⟨t.value, t.span, false⟩] rest) with
            hq | ⟨lp, rest2, he, hl, hr, hlp⟩
          · rw [pInner_ident h2 hq]; exact i_ident f t rest _ h2 rfl hq
          · rw [pInner_call h2 he hl hr hlp]
            exact i_call f t rest _ lp rest2 _ _ h2 rfl he hl hr hlp rfl (ih.exprList _) rfl
        by_cases h3 : t.kind = .qident
        · rw [pInner_qident h3]; exact i_qident f t rest _ h3 rfl
        by_cases h4 : t.kind = .lparen
        · rw [pInner_paren h4]; exact i_paren f t rest _ _ h4 rfl (ih.expr _) rfl
        · rw [pInner_other h1 h2 h3 h4]; exact i_other f t rest h1 h2 h3 h4
    · intro ts
      by_cases h : (pExpr c f ts).errs = []
      · rw [pExprList_tail h]; exact l_tail f ts _ _ rfl (ih.expr ts) h rfl (ih.exprListTail _ _)
      · rw [pExprList_err h]; exact l_err f ts _ rfl (ih.expr ts) h
    · intro acc ts
      match ts with
      | [] => rw [pExprListTail_nil]; exact lt_nil f acc
      | t :: rest =>
        by_cases h : t.kind = .comma
        · by_cases he : (pExpr c f rest).errs = []
          · rw [pExprListTail_more h he]
            exact lt_more f acc t rest _ _ h rfl (ih.expr _) he rfl (ih.exprListTail _ _)
          · cases hn : isNF (pExpr c f rest).errs
            · rw [pExprListTail_err h hn he]; exact lt_err f acc t rest _ h rfl (ih.expr _) hn he
            · rw [pExprListTail_back h hn]; exact lt_back f acc t rest _ h rfl (ih.expr _) hn
        · rw [pExprListTail_stop h]; exact lt_stop f acc t rest h

end Pql
