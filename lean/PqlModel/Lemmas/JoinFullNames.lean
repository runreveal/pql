/-
The decidable condition on the names of a tabular
expression (`namesOk`: no name capture, finding K3), and how one step of the splitting keeps the
names of the links pairwise distinct (`SelSem.NamesP` / `NamesQ`, threaded through nested pipelines).
-/
import PqlModel.Lemmas.JoinFullStep
namespace Pql.JoinFull
open Pql Sql CompileOracle Intended SplitQ SelSem C02

mutual
/-- the names chosen with `as`, in the order the links are laid out (right-hand pipelines where the
    join stands); `as` without a name counts as the empty name -/
def asNamesT : Tabular → List Bytes
  | .nil => []
  | .mk _ ops => asNamesO ops
def asNamesO : OpList → List Bytes
  | .nil => []
  | .cons (.join _ _ _ _ _ _ right _ _ _) os => asNamesT right ++ asNamesO os
  | .cons (.as_ _ _ n) os => identName n :: asNamesO os
  | .cons _ os => asNamesO os
end

/-- **no name capture** (the decidable side condition excluding finding K3): every pipeline has a source
    table; the names chosen with `as` are pairwise distinct and none looks like a generated name
    (`__subquery…`); no source table looks like a generated name or is also chosen with `as` -/
def namesOk (t : Tabular) : Bool :=
  C05.hasSources t && !hasDup (asNamesT t) && (asNamesT t).all (fun n => !isGeneratedName n) &&
  (C05.tablesOf t).all (fun n => !isGeneratedName n && !(asNamesT t).contains n)

theorem asNamesO_cons (o : Op) (rest : OpList) (hj : isJoin o = false) :
    asNamesO (.cons o rest) = asNamesO rest ∨
    ∃ p kw nm, o = .as_ p kw nm ∧ asNamesO (.cons o rest) = identName nm :: asNamesO rest := by
  cases o with
  | join => simp [isJoin] at hj
  | as_ p kw nm => right; exact ⟨p, kw, nm, rfl, by simp only [asNamesO]⟩
  | _ => left; simp only [asNamesO]

theorem asNamesO_cons_mem (o : Op) (rest : OpList) (n : Bytes) (h : n ∈ asNamesO rest) :
    n ∈ asNamesO (.cons o rest) := by
  cases o with
  | join p kw kind ka flavor lp right rp on conds => simp only [asNamesO]; exact List.mem_append_right _ h
  | as_ p kw nm => simp only [asNamesO]; exact List.mem_cons_of_mem _ h
  | _ => simp only [asNamesO]; exact h

theorem NamesQ.tail {a : Bytes} {rest names : List Bytes} (h : NamesQ (a :: rest) names) : NamesQ rest names :=
  ⟨(List.nodup_cons.mp h.1).2, fun n hn => h.2 n (List.mem_cons_of_mem _ hn)⟩

theorem NamesQ.drop {pre rest names : List Bytes} (h : NamesQ (pre ++ rest) names) : NamesQ rest names :=
  ⟨(List.nodup_append.mp h.1).2.1, fun n hn => h.2 n (List.mem_append_right _ hn)⟩

theorem NamesQ.fresh {rest names : List Bytes} (h : NamesQ rest names) (i : Nat) :
    NamesQ rest (names ++ [subqueryName i]) := by
  refine ⟨h.1, fun n hn => ⟨(h.2 n hn).1, fun hmem => ?_⟩⟩
  rcases List.mem_append.mp hmem with hm | hm
  · exact (h.2 n hn).2 hm
  · simp only [List.mem_singleton] at hm
    have := (h.2 n hn).1
    rw [hm, isGeneratedName_subqueryName] at this
    cases this

theorem names_as {a : Bytes} {rest names : List Bytes} {len : Nat} (hp : NamesP names len)
    (hq : NamesQ (a :: rest) names) : NamesP (names ++ [a]) (len + 1) ∧ NamesQ rest (names ++ [a]) := by
  have hx := hq.2 a (List.mem_cons_self ..)
  refine ⟨⟨?_, ?_⟩, ⟨(List.nodup_cons.mp hq.1).2, ?_⟩⟩
  · rw [List.nodup_append]
    refine ⟨hp.1, by simp, ?_⟩
    intro x hx' b hb
    simp only [List.mem_singleton] at hb
    subst hb
    intro hab; subst hab
    exact hx.2 hx'
  · intro n hn hg
    rcases List.mem_append.mp hn with hn | hn
    · obtain ⟨i, hi, he⟩ := hp.2 n hn hg
      exact ⟨i, by omega, he⟩
    · simp only [List.mem_singleton] at hn
      subst hn
      rw [hx.1] at hg; cases hg
  · intro n hn
    have := hq.2 n (List.mem_cons_of_mem _ hn)
    refine ⟨this.1, fun hmem => ?_⟩
    rcases List.mem_append.mp hmem with hm | hm
    · exact this.2 hm
    · simp only [List.mem_singleton] at hm
      subst hm
      exact (List.nodup_cons.mp hq.1).1 hn

theorem step_names {src : Bytes} {db : DB} {source : Option Ident} {k : Nat} {N N1 : List SubA} {o : Op}
    (s : StepRes src db source k N N1 o) (hj : isJoin o = false) (rest : OpList)
    (base later : List Bytes)
    (hp : NamesP (base ++ N.map (·.name)) (k + N.length))
    (hq : NamesQ (asNamesO (.cons o rest) ++ later) (base ++ N.map (·.name))) :
    NamesP (base ++ N1.map (·.name)) (k + N1.length) ∧ NamesQ (asNamesO rest ++ later) (base ++ N1.map (·.name)) := by
  obtain ⟨extra, hn, hcase⟩ := s.names
  have hlen : N1.length = N.length + extra.length := by
    have := congrArg List.length hn
    simpa using this
  have hq' : NamesQ (asNamesO rest ++ later) (base ++ N.map (·.name)) := by
    rcases asNamesO_cons o rest hj with h | ⟨p, kw, nm, _, h⟩
    · rw [h] at hq; exact hq
    · rw [h] at hq; exact NamesQ.tail hq
  rw [hn, ← List.append_assoc]
  rcases hcase with rfl | rfl | ⟨p, kw, nm, rfl, rfl⟩
  · simp only [List.append_nil, List.length_nil, Nat.add_zero] at hlen ⊢
    rw [hlen]; exact ⟨hp, hq'⟩
  · simp only [List.length_cons, List.length_nil] at hlen
    rw [hlen, ← Nat.add_assoc]
    exact ⟨namesP_fresh hp, NamesQ.fresh hq' _⟩
  · simp only [List.length_cons, List.length_nil] at hlen
    rw [hlen, ← Nat.add_assoc]
    simp only [asNamesO, List.cons_append] at hq
    exact names_as hp hq

theorem step_names_mem {src : Bytes} {db : DB} {source : Option Ident} {k : Nat} {N N1 : List SubA} {o : Op}
    (s : StepRes src db source k N N1 o) (rest : OpList) :
    ∀ n ∈ N1.map (·.name), n ∈ N.map (·.name) ∨ isGeneratedName n = true ∨ n ∈ asNamesO (.cons o rest) := by
  obtain ⟨extra, hn, hcase⟩ := s.names
  intro n hmem
  rw [hn] at hmem
  rcases List.mem_append.mp hmem with h | h
  · exact .inl h
  · rcases hcase with rfl | rfl | ⟨p, kw, nm, rfl, rfl⟩
    · cases h
    · simp only [List.mem_singleton] at h
      subst h
      exact .inr (.inl (isGeneratedName_subqueryName _))
    · simp only [List.mem_singleton] at h
      subst h
      exact .inr (.inr (by simp only [asNamesO]; exact List.mem_cons_self ..))

end Pql.JoinFull
