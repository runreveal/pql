/-
C05, syntactic half, stage 2: the operator part of one SELECT — the select items and the
WHERE / GROUP BY clauses `bodyOf` writes for each operator under a scope are read back as `SelSem.partsOf`
prescribes for the operator with the bindings resolved.  Extend / summarize columns must then be
`name = expr` (`ColNamed`: an implicit name is sliced from the source text, which the resolved program
does not have).
-/
import PqlModel.Lemmas.ParseStmtParts
namespace Pql.C05
set_option linter.unusedSimpArgs false
open Pql Sql CompileOracle Intended Pql.RT
open Pql.E2EFinal (substSrcA substSubA)

theorem mapM_spec {α α' β β' γ : Type} {f : α → Except WErr β} {g : α' → Option γ} {σ : α → α'} {τ : β → β'}
    {R : β' → γ → Prop} {P : α → Prop} (h1 : ∀ a b, P a → f a = .ok b → ∃ c, g (σ a) = some c ∧ R (τ b) c) :
    ∀ (as : List α) (bs : List β), (∀ a ∈ as, P a) → as.mapM f = .ok bs →
      ∃ cs, (as.map σ).mapM g = some cs ∧ ListRel R (bs.map τ) cs
  | [], bs, _, h => by
    simp only [List.mapM_nil, pure, Except.pure, Except.ok.injEq] at h
    subst h
    exact ⟨[], rfl, .nil⟩
  | a :: as, bs, hP, h => by
    rw [List.mapM_cons] at h
    obtain ⟨b, ha, h⟩ := LexRender.bind_ok h
    obtain ⟨bs', hs, h⟩ := LexRender.bind_ok h
    cases h
    obtain ⟨c, hc, hr⟩ := h1 a b (hP a (by simp)) ha
    obtain ⟨cs, hcs, hrel⟩ := mapM_spec h1 as bs' (fun x hx => hP x (by simp [hx])) hs
    exact ⟨c :: cs, by simp [List.mapM_cons, hc, hcs], .cons hr hrel⟩

def MidP (mid : List STok) (wwh : Option SExpr) (wgb : List SExpr) : Prop :=
  (∀ r, Ends (endTok midKws) r → Ends (endTok srcKws) (mid ++ r)) ∧
  ∀ r, Ends (endTok midKws) r → ∃ wh gb r5, wherePart (mid ++ r) = some (wh, r5) ∧ groupPart r5 = some (gb, r) ∧
    OptRel NormEq wh wwh ∧ ListRel NormEq gb wgb

theorem midP_nil : MidP [] none [] :=
  ⟨fun r hr => endTok_mono (by simp [srcKws, midKws]) hr, fun r hr =>
    ⟨none, [], r, exprClause_none (endTok_mono (by simp [midKws]) hr), listClause_none (endTok_mono (by simp [midKws]) hr),
      .none, .nil⟩⟩

theorem midP_where {ts : List STok} {w : SExpr} (h : ExprP ts w) : MidP (RT.W "WHERE" :: ts) (some w) [] := by
  refine ⟨fun r hr => endTok_sub end_WHERE (by simp [srcKws]), fun r hr => ?_⟩
  obtain ⟨s, hs, hp⟩ := exprClause_some (kw := "WHERE") (by decide +kernel) h (endTok_stop hr) (r := r)
  exact ⟨some s, [], r, by simpa using hp, listClause_none (endTok_mono (by simp [midKws]) hr), .some hs, .nil⟩

theorem midP_group {tss : List (List STok)} {wants : List SExpr} (h : ListRel ExprP tss wants) (hne : tss ≠ []) :
    MidP (RT.W "GROUP" :: RT.W "BY" :: sepToks tss) none wants := by
  refine ⟨fun r hr => endTok_sub end_GROUP (by simp [srcKws]), fun r hr => ?_⟩
  obtain ⟨es, hes, hrel⟩ := groupPart_some h hne (r := r) (endTok_mono (by simp) hr)
  refine ⟨none, es, _, exprClause_none ?_, by simpa using hes, .none, hrel⟩
  exact endTok_sub end_GROUP (by simp)

theorem tr_single (n : Ident) : ∃ want, tr false (.qident [n]) = some want := by
  simp only [tr]
  repeat' split
  all_goals exact ⟨_, rfl⟩

theorem exprOK_projExpr {c : Column} (h : projColOK c = true) : exprOK (projExpr c) = true := by
  obtain ⟨name, assign, x⟩ := c
  cases x with
  | nil =>
    obtain ⟨n, rfl⟩ := Option.isSome_iff_exists.1 (show name.isSome = true from h)
    obtain ⟨w, hw⟩ := tr_single n
    simp [projExpr, exprOKin, Expr.lexOK, shapeOK, hw]
  | _ => exact h

theorem columnAlias_spec (ctx : Ctx) (c : Column) (a : List Chunk)
    (h : columnAlias ctx c = .ok a) : a = [.txt " AS ", .qid (aliasOf ctx.src c)] := by
  unfold columnAlias at h
  unfold aliasOf
  cases hn : c.name with
  | some n =>
    rw [hn] at h
    simp only [Except.ok.injEq] at h
    exact h.symm
  | none =>
    rw [hn] at h
    simp only [sliceSource] at h
    split at h
    · next hc =>
      simp only [bind, Except.bind, pure, Except.pure, Except.ok.injEq] at h
      simp only [hc.1, hc.2.1, and_self, if_true]
      exact h.symm
    · simp only [bind, Except.bind] at h
      cases h

theorem substColumn_keeps (src : Bytes) {env : List (Bytes × Expr)} {c : Column} (hn : env = [] ∨ ColNamed c) :
    (substColumn env c).x = substExpr env c.x ∧ aliasOf src (substColumn env c) = aliasOf src c := by
  rcases hn with rfl | hn
  · rw [substColumn_nil, substExpr_nil]
    exact ⟨rfl, rfl⟩
  · rw [substColumn_of_ne_nil c hn.2]
    obtain ⟨n, hnm⟩ := Option.isSome_iff_exists.1 hn.1
    refine ⟨rfl, ?_⟩
    unfold aliasOf
    rw [hnm]

section
variable {src : Bytes} {scope : Scope} {env : List (Bytes × Expr)} (rt : ExprRT src scope env)
include rt

theorem projCol_spec (c : Column) (x : List Chunk) (hok : projColOK (substColumn env c) = true)
    (h : projCol ⟨src, scope, .default⟩ c = .ok x) :
    ∃ w, projectItem (substColumn env c) = some w ∧ ItemP (toksOf x) w := by
  rw [projCol_eq] at h
  obtain ⟨he, hname⟩ := projExpr_substColumn (env := env) c
  have heok : exprOK (substExpr env (projExpr c)) = true := he ▸ exprOK_projExpr hok
  obtain ⟨y, hy, h⟩ := LexRender.bind_ok h
  cases h
  obtain ⟨want, ht, hP⟩ := rt.default heok hy
  refine ⟨⟨false, want, some (identName c.name)⟩, ?_, by simpa using itemP_alias hP up_AS (identName c.name)⟩
  rw [SelSem.projectItem_eq, he, hname, ht]
  rfl

theorem column_spec (c : Column) (hn : env = [] ∨ ColNamed c) (x : List Chunk) (hok : colOK (substColumn env c) = true)
    (h : colW ⟨src, scope, .default⟩ c = .ok x) : ∃ w, itemOf src (substColumn env c) = some w ∧ ItemP (toksOf x) w := by
  obtain ⟨h1, halias⟩ := substColumn_keeps src hn
  obtain ⟨y, hy, h⟩ := LexRender.bind_ok h
  obtain ⟨a, ha, h⟩ := LexRender.bind_ok h
  cases h
  rw [columnAlias_spec _ c a ha]
  simp only [colOK, h1] at hok
  obtain ⟨want, ht, hP⟩ := rt.default hok hy
  refine ⟨⟨false, want, some (aliasOf src c)⟩, ?_, by simpa using itemP_alias hP up_AS (aliasOf src c)⟩
  simp only [itemOf, h1, ht, halias, Option.bind_eq_bind, Option.bind_some, Option.pure_def]

theorem writeColumns_spec (cols : List Column) (hn : env = [] ∨ ∀ c ∈ cols, ColNamed c) (cs : List (List Chunk))
    (hok : (cols.map (substColumn env)).all colOK = true)
    (h : writeColumns ⟨src, scope, .default⟩ cols = .ok cs) :
    ∃ witems, (cols.map (substColumn env)).mapM (itemOf src) = some witems ∧ ListRel ItemP (cs.map toksOf) witems := by
  rw [writeColumns_eq] at h
  simp only [List.all_map, List.all_eq_true, Function.comp] at hok
  exact mapM_spec (P := fun c => (env = [] ∨ ColNamed c) ∧ colOK (substColumn env c) = true)
    (fun c b hc hb => column_spec rt c hc.1 b hc.2 hb) cols cs (fun c hc => ⟨hn.imp id (· c hc), hok c hc⟩) h

theorem groupExprs_spec (cols : List Column) (hn : env = [] ∨ ∀ c ∈ cols, ColNamed c) (cs : List (List Chunk))
    (hok : (cols.map (substColumn env)).all colOK = true)
    (h : cols.mapM (fun c : Column => writeExpr ⟨src, scope, .default⟩ c.x) = .ok cs) :
    ∃ w, (cols.map (substColumn env)).mapM (fun c => tr false c.x) = some w ∧ ListRel ExprP (cs.map toksOf) w := by
  simp only [List.all_map, List.all_eq_true, Function.comp] at hok
  exact mapM_spec (P := fun c => (env = [] ∨ ColNamed c) ∧ colOK (substColumn env c) = true)
    (fun c b hc hb => by
      have h1 := (substColumn_keeps src hc.1).1
      have := hc.2
      simp only [colOK, h1] at this
      rw [h1]
      exact rt.default this hb) cols cs (fun c hc => ⟨hn.imp id (· c hc), hok c hc⟩) h

theorem projCols_spec (cols : List Column) (cs : List (List Chunk))
    (hok : (cols.map (substColumn env)).all projColOK = true)
    (h : cols.mapM (projCol ⟨src, scope, .default⟩) = .ok cs) :
    ∃ witems, (cols.map (substColumn env)).mapM projectItem = some witems ∧ ListRel ItemP (cs.map toksOf) witems := by
  simp only [List.all_map, List.all_eq_true, Function.comp] at hok
  exact mapM_spec (P := fun c => projColOK (substColumn env c) = true)
    (fun c b hc hb => projCol_spec rt c b hc hb) cols cs hok h

end

theorem countStarP : AtomP [RT.W "COUNT", S "(", S "*", S ")"] (.call (Bytes.ofString "COUNT") true .nil .none_) := by
  intro rest hr
  refine ⟨_, rfl, 1, fun n hn => ?_⟩
  obtain ⟨k, rfl, _⟩ := succ_of_le hn
  match rest, hr with
  | [], _ => simp [pAtomS, operatorWords]
  | [a], hr => simp [pAtomS, operatorWords]
  | [a, b], hr => simp [pAtomS, operatorWords]
  | a :: b :: c :: r', hr =>
    have := atomEnd_filter hr
    simp [pAtomS, operatorWords, this]

end Pql.C05
