/-
Behind every newline there is a step boundary of the scanner.  Newline is a byte that continues no
token and ends strings and quoted names (`stopByte`, `quoteStop`, Lemmas/LexGrammar.lean); only a `//`
comment runs over it, and ends just behind it.
-/
import PqlModel.Lemmas.LexReach
namespace Pql

theorem commentLen_nl (x y : Bytes) : commentLen (x ++ 10 :: y) ≤ x.length + 1 := by
  induction x with
  | nil => simp [commentLen]
  | cons c x ih =>
    simp only [List.cons_append, commentLen, List.length_cons]
    split <;> omega

theorem scanOne_nl_strict (c : UInt8) (x y : Bytes) :
    (scanOne (c :: x ++ 10 :: y)).width ≤ x.length + 1 ∨ (c = 47 ∧ x.head? = some 47) := by
  rcases scanOne_stop stopByte_nl.1 c x y with h | ⟨-, h⟩ | h
  · exact .inl h
  · exact absurd (stopByte_nl.2.symm.trans h) nofun
  · exact .inr h

theorem scanOne_nl (x y : Bytes) : (scanOne (x ++ 10 :: y)).width ≤ x.length + 1 := by
  cases x with
  | nil => simp [scanOne, isAsciiSpace, Step.skip]
  | cons c x =>
    rcases scanOne_nl_strict c x y with h | ⟨rfl, h⟩
    · exact Nat.le_succ_of_le h
    · cases x with
      | nil => simp at h
      | cons d x =>
        obtain rfl : d = 47 := by simpa using h
        have := commentLen_nl x y
        simp only [List.cons_append, scanOne_comment, List.length_cons]
        omega

theorem reaches_after_newline (a b : Bytes) : Reaches ((a ++ [10]) ++ b) (a.length + 1) := by
  induction hn : a.length using Nat.strongRecOn generalizing a with
  | _ n ih =>
    subst hn
    have hs : (a ++ [10]) ++ b = a ++ 10 :: b := by simp
    rw [hs]
    have hne : a ++ 10 :: b ≠ [] := by simp
    have hpos := scanOne_width_pos' hne
    have hle := scanOne_nl a b
    by_cases hw : (scanOne (a ++ 10 :: b)).width = a.length + 1
    · have := Reaches.step (a ++ 10 :: b) 0 hne (Reaches.here _)
      rwa [hw] at this
    · have hw' : (scanOne (a ++ 10 :: b)).width ≤ a.length := by omega
      have h1 := ih (a.drop (scanOne (a ++ 10 :: b)).width).length
        (by simp only [List.length_drop]; omega) (a.drop (scanOne (a ++ 10 :: b)).width) rfl
      have hd : (a ++ 10 :: b).drop (scanOne (a ++ 10 :: b)).width =
          (a.drop (scanOne (a ++ 10 :: b)).width ++ [10]) ++ b := by
        rw [List.drop_append_of_le_length hw']; simp
      rw [← hd] at h1
      have := Reaches.step (a ++ 10 :: b) _ hne h1
      simp only [List.length_drop] at this
      have he : (scanOne (a ++ 10 :: b)).width + (a.length - (scanOne (a ++ 10 :: b)).width + 1) =
          a.length + 1 := by omega
      rwa [he] at this

end Pql
