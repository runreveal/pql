/-
The regenerated tables of `(*scanner).ident` and `(*scanner).string` read as the model's byte tests:
the continuation class, the keyword kinds, the two `switch`es of the string loop.
-/
import PqlModel.Lemmas.DispatchRune
namespace Pql.Dispatch
open Pql
open Pql.Facts (StrAction)
set_option linter.unusedSimpArgs false

theorem identCont_all : ∀ n, n < 256 →
    condHolds Facts.identCont.1 Facts.identCont.2 n = some (isIdentCont (UInt8.ofNat n)) := by
  decide +kernel

theorem identContByte_eq (c : UInt8) : identContByte c = some (isIdentCont c) := by
  have := identCont_all c.toNat (UInt8.toNat_lt c)
  rwa [UInt8.ofNat_toNat] at this

theorem identLoopI_eq (s : Bytes) : identLoopI s = some (identLoop s) := by
  induction s with
  | nil => rfl
  | cons c rest ih =>
    simp only [identLoopI, identContByte_eq, identLoop, ih]
    cases isIdentCont c <;> simp

theorem keyword_kinds_known :
    Facts.keywords.all (fun kv => (TokKind.ofGoName kv.2).isSome) = true := by
  simp [Facts.keywords, kind_and, kind_by, kind_in, kind_or]

theorem identKind_eq : TokKind.ofGoName Facts.identKind = some .ident := by decide

theorem strSelect_outer (q c : UInt8) :
    strSelect Facts.stringCases Facts.stringDefault q.toNat c.toNat =
      if c == q then .close else if c == 10 then .bad true else if c == 92 then .escape else .copy := by
  have e10 : ((10 : Nat) == c.toNat) = (c == 10) := by rw [beq_iff_toNat]; exact Bool.beq_comm
  have e92 : ((92 : Nat) == c.toNat) = (c == 92) := by rw [beq_iff_toNat]; exact Bool.beq_comm
  have eq : (q.toNat == c.toNat) = (c == q) := by rw [beq_iff_toNat c q]; exact Bool.beq_comm
  simp only [strSelect, Facts.stringCases, Facts.stringDefault, List.find?_cons, Option.getD_none,
    Option.getD_some, eq, e10, e92, List.find?_nil]
  cases c == q <;> cases c == 10 <;> cases c == 92 <;> rfl

theorem strSelect_escape (q e : UInt8) :
    strSelect Facts.stringEscapes Facts.stringEscapeDefault q.toNat e.toNat =
      if e == 10 then .bad true else if e == 110 then .rune 10 else if e == 116 then .rune 9 else .copy := by
  have e10 : ((10 : Nat) == e.toNat) = (e == 10) := by rw [beq_iff_toNat]; exact Bool.beq_comm
  have e110 : ((110 : Nat) == e.toNat) = (e == 110) := by rw [beq_iff_toNat]; exact Bool.beq_comm
  have e116 : ((116 : Nat) == e.toNat) = (e == 116) := by rw [beq_iff_toNat]; exact Bool.beq_comm
  simp only [strSelect, Facts.stringEscapes, Facts.stringEscapeDefault, List.find?_cons,
    Option.getD_some, e10, e110, e116, List.find?_nil]
  cases e == 10 <;> cases e == 110 <;> cases e == 116 <;> rfl

end Pql.Dispatch
