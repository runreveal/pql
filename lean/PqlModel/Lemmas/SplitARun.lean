/-
`Intended.splitA` / `splitOpsA` as a relation, the counterpart of `SplitQ.Run` for the intended
splitting.  Every operator but `join` (and a `top` without column, which fails) is ONE step of the
loop, `placeA`: the operator is stored (`storeA`) in the last link of the pipeline when that link lets
it (`attachesA`), else in a fresh chained link.  `RunA` lists what a successful run does, step by step;
`splitOpsA_run` / `splitA_run` extract it once (mutual structural induction over `Tabular` / `OpList`),
and the invariants of the intended splitting are inductions over `RunA` with three cases.
-/
import PqlModel.Lemmas.SplitQueriesRun
import PqlModel.Spec.Intended
namespace Pql.C05
open Pql SplitQ Intended


def joinLeftA (source : Option Ident) (dstStart n : Nat) (dst' : List SubA) : Bytes :=
  if ((n : Int) - 1) ≥ (dstStart : Int) then
    match dst'[((n : Int) - 1).toNat]? with
    | some s => s.name
    | none => []
  else identName source

def joinRightA (dst' : List SubA) : Bytes :=
  match dst'.getLast? with | some s => s.name | none => []

theorem splitOpsA_join (source : Option Ident) (k : Nat) (dstA : List SubA) (p kw kind ka : Span)
    (flavor : Option Ident) (lp : Span) (right : Tabular) (rp on : Span) (conds : ExprList) (rest : OpList) :
    splitOpsA source k dstA (.cons (.join p kw kind ka flavor lp right rp on conds) rest) =
      match splitA dstA right with
      | none => none
      | some d =>
        match leftOf flavor with
        | none => none
        | some left =>
          splitOpsA source k
            (d ++ [{ name := subqueryName d.length,
                     source := .join (uniqueOf flavor) left (joinLeftA source k dstA.length d) (joinRightA d)
                       (buildJoinCondition conds) }]) rest := by
  conv => lhs; unfold splitOpsA; simp only
  cases splitA dstA right with
  | none => rfl
  | some d => rfl

/-- `SplitQ.store` for links -/
def storeA : Op → SubA → SubA
  | .sort _ _ terms, s => { s with sort := some terms }
  | .take _ _ n, s => { s with take := some n }
  | .top _ _ n _ (some c), s => { s with sort := some [c], take := some n }
  | .as_ p k name, s => { s with name := identName name, op := some (.as_ p k name) }
  | o, s => { s with op := some o }

/-- `SplitQ.attaches` for links -/
def attachesA : Op → SubA → Bool
  | .sort .., l | .top _ _ _ _ (some _), l => canAttachSort l.op && l.sort.isNone && l.take.isNone
  | .take .., l => canAttachSort l.op && l.take.isNone
  | _, _ => false

def placeA (source : Option Ident) (dstStart : Nat) (o : Op) (dst : List SubA) : List SubA :=
  setLastA
    (if (match lastOfA dst dstStart with | some l => attachesA o l | none => false) = true then dst
      else dst ++ [chainA dst dstStart source]) (storeA o)

theorem setLastA_snoc (init : List SubA) (s : SubA) (f : SubA → SubA) :
    setLastA (init ++ [s]) f = init ++ [f s] := by simp [setLastA]

theorem lastOfA_cases (dst : List SubA) (k : Nat) :
    (∃ init l, lastOfA dst k = some l ∧ dst = init ++ [l] ∧ k ≤ init.length) ∨ lastOfA dst k = none := by
  unfold lastOfA
  split
  · rename_i hlen
    rcases List.eq_nil_or_concat dst with rfl | ⟨init, l, rfl⟩
    · simp at hlen
    · left; refine ⟨init, l, by simp, by simp, ?_⟩
      simp at hlen; omega
  · right; rfl

theorem placeA_cases (source : Option Ident) (k : Nat) (o : Op) (dst : List SubA) :
    placeA source k o dst = dst ++ [storeA o (chainA dst k source)] ∨
    ∃ init l, dst = init ++ [l] ∧ k ≤ init.length ∧ attachesA o l = true ∧
      placeA source k o dst = init ++ [storeA o l] := by
  unfold placeA
  rcases lastOfA_cases dst k with ⟨init, l, hl, rfl, hk⟩ | hl
  · rw [hl]
    cases ha : attachesA o l with
    | false => exact .inl (by simp only [ha, Bool.false_eq_true, ↓reduceIte, setLastA_snoc])
    | true => exact .inr ⟨init, l, rfl, hk, ha, by simp only [ha, ↓reduceIte, setLastA_snoc]⟩
  · rw [hl]
    exact .inl (by simp only [Bool.false_eq_true, ↓reduceIte, setLastA_snoc])

theorem placeA_of_not_attaches {source : Option Ident} {k : Nat} {o : Op} {dst : List SubA}
    (h : ∀ l, attachesA o l = false) : placeA source k o dst = dst ++ [storeA o (chainA dst k source)] := by
  rcases placeA_cases source k o dst with h' | ⟨_, l, _, _, ha, _⟩
  · exact h'
  · rw [h l] at ha; cases ha

theorem splitOpsA_step (source : Option Ident) (k : Nat) (dst : List SubA) {o : Op} (ho : steps o = true)
    (rest : OpList) :
    splitOpsA source k dst (.cons o rest) = splitOpsA source k (placeA source k o dst) rest := by
  cases o with
  | join => cases ho
  | top p kw n b col =>
    cases col with
    | none => cases ho
    | some c => conv => lhs; unfold splitOpsA
                rfl
  | sort | take => conv => lhs; unfold splitOpsA
                   rfl
  | _ => rw [placeA_of_not_attaches (fun _ => rfl)]; conv => lhs; unfold splitOpsA
         rfl

theorem storeA_source (o : Op) (s : SubA) : (storeA o s).source = s.source := by
  unfold storeA; split <;> rfl

theorem storeA_of_attaches {o : Op} {l : SubA} (h : attachesA o l = true) :
    (storeA o l).name = l.name ∧ (storeA o l).op = l.op := by
  cases o with
  | sort | take => exact ⟨rfl, rfl⟩
  | top p k n b col => cases col <;> first | exact ⟨rfl, rfl⟩ | cases h
  | _ => cases h

theorem placeA_forall {p : SubA → Prop} {source : Option Ident} {k : Nat} {o : Op} {dst : List SubA}
    (hd : ∀ a ∈ dst, p a) (hc : p (chainA dst k source)) (hs : ∀ a, p a → p (storeA o a)) :
    ∀ a ∈ placeA source k o dst, p a := by
  intro a ha
  rcases placeA_cases source k o dst with h | ⟨init, l, rfl, _, _, h⟩ <;> rw [h] at ha <;>
    rcases List.mem_append.1 ha with ha | ha
  · exact hd a ha
  · rw [List.mem_singleton.1 ha]; exact hs _ hc
  · exact hd a (List.mem_append_left _ ha)
  · rw [List.mem_singleton.1 ha]; exact hs _ (hd l (by simp))

/-- the end of `splitA`: a pipeline without operators still gets its link -/
def closeA (mid : List SubA) (dstStart : Nat) (source : Option Ident) : List SubA :=
  if mid.length = dstStart then mid ++ [chainA mid dstStart source] else mid

theorem splitA_mk (dst : List SubA) (source : Option Ident) (ops : OpList) :
    splitA dst (.mk source ops) = (splitOpsA source dst.length dst ops).map (closeA · dst.length source) := by
  unfold splitA closeA
  cases hq : splitOpsA source dst.length dst ops with
  | none => simp only [hq]; rfl
  | some d => simp only [hq, Option.bind_eq_bind, Option.bind_some, Option.map_some]; split <;> rfl

theorem closeA_length_lt {dst mid : List SubA} (source : Option Ident) (h : dst.length ≤ mid.length) :
    dst.length < (closeA mid dst.length source).length := by
  unfold closeA
  split
  · simp; omega
  · omega

/-- the link a join adds behind the block `d` of its right-hand pipeline; `n` is the length of the
    list in front of that block -/
def joinLinkA (source : Option Ident) (k n : Nat) (d : List SubA) (flavor : Option Ident) (left : Bool)
    (conds : ExprList) : SubA :=
  { name := subqueryName d.length,
    source := .join (uniqueOf flavor) left (joinLeftA source k n d) (joinRightA d) (buildJoinCondition conds) }

inductive RunA : Option Ident → Nat → List SubA → OpList → List SubA → Prop
  | nil {source k dst} : RunA source k dst .nil dst
  | step {source k dst rest out} (o : Op) (ho : steps o = true) :
      RunA source k (placeA source k o dst) rest out → RunA source k dst (.cons o rest) out
  | join {source k dst rest out} (p kw kind ka : Span) (flavor : Option Ident) (lp : Span)
      (rsource : Option Ident) (rops : OpList) (rp on : Span) (conds : ExprList) (left : Bool)
      (mid d : List SubA) (hl : leftOf flavor = some left) :
      RunA rsource dst.length dst rops mid → d = closeA mid dst.length rsource →
      RunA source k (d ++ [joinLinkA source k dst.length d flavor left conds]) rest out →
      RunA source k dst (.cons (.join p kw kind ka flavor lp (.mk rsource rops) rp on conds) rest) out

mutual
theorem splitA_run : ∀ (t : Tabular) (dst out : List SubA), splitA dst t = some out →
    ∃ source ops mid, t = .mk source ops ∧ RunA source dst.length dst ops mid ∧
      out = closeA mid dst.length source
  | .nil, dst, out, h => by unfold splitA at h; cases h
  | .mk source ops, dst, out, h => by
    rw [splitA_mk] at h
    cases hq : splitOpsA source dst.length dst ops with
    | none => rw [hq] at h; cases h
    | some mid =>
      rw [hq] at h
      cases h
      exact ⟨source, ops, mid, rfl, splitOpsA_run ops source dst.length dst mid hq, rfl⟩
theorem splitOpsA_run : ∀ (ops : OpList) (source : Option Ident) (k : Nat) (dst out : List SubA),
    splitOpsA source k dst ops = some out → RunA source k dst ops out
  | .nil, source, k, dst, out, h => by unfold splitOpsA at h; cases h; exact .nil
  | .cons o rest, source, k, dst, out, h => by
    have step : steps o = true → RunA source k dst (.cons o rest) out := fun ho =>
      .step o ho (splitOpsA_run rest source k _ out (splitOpsA_step source k dst ho rest ▸ h))
    cases o with
    | join p kw kind ka flavor lp right rp on conds =>
      rw [splitOpsA_join] at h
      cases hq : splitA dst right with
      | none => rw [hq] at h; cases h
      | some d =>
        rw [hq] at h
        obtain ⟨rsource, rops, mid, rfl, hrun, hd⟩ := splitA_run right dst d hq
        cases hl : leftOf flavor with
        | none => rw [hl] at h; cases h
        | some left =>
          rw [hl] at h
          exact .join p kw kind ka flavor lp rsource rops rp on conds left mid d hl hrun hd
            (splitOpsA_run rest source k _ out h)
    | top p kw n b col =>
      cases col with
      | none => unfold splitOpsA at h; cases h
      | some c => exact step rfl
    | _ => exact step rfl
end

end Pql.C05
