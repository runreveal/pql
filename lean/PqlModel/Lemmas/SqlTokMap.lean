/-
The reference SQL reader commutes with token maps: for a map `mapTok ρ g` that gives `.param` tokens values
(`ρ`) and renames operator symbols (`g`, which fixes the symbols the reader tests and respects `infixPrec`:
`GOk`), all seven mutually recursive functions of the expression reader (Spec/Sql/Parse.lean) satisfy, by
induction on the fuel,

    pX k … (ts.map (mapTok ρ g)) = (pX k … ts).map (mapS ρ g on the result, map (mapTok ρ g) on the rest)

(`CInv`, `pExprS_map`).  The statement level is Lemmas/SqlTokMapStmt.lean.  Two maps are used: placeholders
(`g = id`, Lemmas/E2EMoreInstTop.lean) and "read `!=` as `<>`" (`ρ` nowhere defined), whose fixed points are
the token lists and trees without `!=` (Lemmas/E2EFinalNoBang.lean).
-/
import PqlModel.Lemmas.E2EMoreInst
import PqlModel.Lemmas.ParseStmtFuel
namespace Pql.SqlMap
set_option linter.unusedSimpArgs false
open Pql Sql Pql.C05 E2EMore

/-- the symbols the reader compares a token with: every `s` of an `isSym t s` test in Spec/Sql/Parse.lean
    (a test on a symbol outside this list would make the `_c` lemmas below fail there, not silently pass) -/
def tested : List String := ["(", ")", "*", "+", ",", "-", ".", ";", "[", "]"]

theorem infixPrec_sym_fst {s : String} {x : String × Nat} (h : infixPrec (.sym s) = some x) : x.1 = s := by
  simp only [infixPrec] at h
  split at h
  · cases h; rfl
  · split at h
    · cases h; rfl
    · split at h
      · cases h; rfl
      · split at h <;> cases h; rfl

structure GOk (g : String → String) : Prop where
  test : ∀ x s, s ∈ tested → (g x == s) = (x == s)
  infx : ∀ s, infixPrec (.sym (g s)) = (infixPrec (.sym s)).map fun x => (g x.1, x.2)
  or_ : g "OR" = "OR"
  and_ : g "AND" = "AND"

def mapTok (ρ : Bytes → Option PVal) (g : String → String) : STok → STok
  | .param p => match ρ p with | some v => v.tok | none => .param p
  | .sym s => .sym (g s)
  | t => t

mutual
def mapS (ρ : Bytes → Option PVal) (g : String → String) : SExpr → SExpr
  | .param p => match ρ p with | some v => v.sexpr | none => .param p
  | .col ps => .col ps
  | .str v => .str v
  | .num v => .num v
  | .const w => .const w
  | .call fn star args filter => .call fn star (mapL ρ g args) (mapS ρ g filter)
  | .case_ c t e => .case_ (mapS ρ g c) (mapS ρ g t) (mapS ρ g e)
  | .neg x => .neg (mapS ρ g x)
  | .pos x => .pos (mapS ρ g x)
  | .not_ x => .not_ (mapS ρ g x)
  | .bin op x y => .bin (g op) (mapS ρ g x) (mapS ρ g y)
  | .isNull x n => .isNull (mapS ρ g x) n
  | .inList x vs => .inList (mapS ρ g x) (mapL ρ g vs)
  | .index x i => .index (mapS ρ g x) (mapS ρ g i)
  | .none_ => .none_
def mapL (ρ : Bytes → Option PVal) (g : String → String) : SExprList → SExprList
  | .nil => .nil
  | .cons e es => .cons (mapS ρ g e) (mapL ρ g es)
end

def mapR (ρ : Bytes → Option PVal) (g : String → String) (r : SExpr × List STok) : SExpr × List STok :=
  (mapS ρ g r.1, r.2.map (mapTok ρ g))
def mapRL (ρ : Bytes → Option PVal) (g : String → String) (r : SExprList × List STok) : SExprList × List STok :=
  (mapL ρ g r.1, r.2.map (mapTok ρ g))

structure CInv (ρ : Bytes → Option PVal) (g : String → String) (k : Nat) : Prop where
  expr : ∀ m ts, pExprS k m (ts.map (mapTok ρ g)) = (pExprS k m ts).map (mapR ρ g)
  trail : ∀ m x ts, pTrailS k m (mapS ρ g x) (ts.map (mapTok ρ g)) = (pTrailS k m x ts).map (mapR ρ g)
  unary : ∀ ts, pUnaryS k (ts.map (mapTok ρ g)) = (pUnaryS k ts).map (mapR ρ g)
  post : ∀ x ts, pPostfixS k (mapS ρ g x) (ts.map (mapTok ρ g)) = (pPostfixS k x ts).map (mapR ρ g)
  atom : ∀ ts, pAtomS k (ts.map (mapTok ρ g)) = (pAtomS k ts).map (mapR ρ g)
  col : ∀ ps ts, pColTail k ps (ts.map (mapTok ρ g)) = (pColTail k ps ts).map (mapR ρ g)
  list : ∀ ts, pListS k (ts.map (mapTok ρ g)) = (pListS k ts).map (mapRL ρ g)

/-- the reader makes the same tests on a token and on its image: once the test on the image is
    rewritten to the test on the token, the commutation goes into both branches at once -/
theorem ite_map {α β : Type} {F : α → β} {c : Prop} {d d' : Decidable c} {a b : Option α}
    {a' b' : Option β} (ht : c → a' = a.map F) (hf : ¬c → b' = b.map F) :
    @ite _ c d' a' b' = (@ite _ c d a b).map F := by
  by_cases h : c
  · rw [if_pos h, if_pos h]; exact ht h
  · rw [if_neg h, if_neg h]; exact hf h

section
variable (ρ : Bytes → Option PVal) {g : String → String}

theorem CInv.zero : CInv ρ g 0 := by
  constructor <;> intros <;> simp [pExprS, pTrailS, pUnaryS, pPostfixS, pAtomS, pColTail, pListS]

@[simp] theorem mapR_mk (x : SExpr) (r : List STok) : mapR ρ g (x, r) = (mapS ρ g x, r.map (mapTok ρ g)) := rfl
@[simp] theorem mapRL_mk (x : SExprList) (r : List STok) : mapRL ρ g (x, r) = (mapL ρ g x, r.map (mapTok ρ g)) := rfl

theorem mapTok_qid (n : Bytes) : mapTok ρ g (.qid n) = .qid n := rfl

theorem mapTok_not_qid {t : STok} (h : ∀ n, t ≠ .qid n) : ∀ n, mapTok ρ g t ≠ .qid n := by
  intro n
  cases t with
  | qid m => exact absurd rfl (h m)
  | param p => rcases hρ : ρ p with _ | (v | v) <;> simp [mapTok, hρ, PVal.tok]
  | _ => simp [mapTok]

theorem isWord_map (t : STok) (kw : String) : isWord (mapTok ρ g t) kw = isWord t kw := by
  cases t <;> first | rfl | (simp only [mapTok]; split <;> first | rfl | exact PVal.tok_isWord _ _)

variable (hg : GOk g)
include hg

theorem isSym_map (t : STok) {s : String} (hs : s ∈ tested) : isSym (mapTok ρ g t) s = isSym t s := by
  cases t <;> first | rfl | exact hg.test _ _ hs | (simp only [mapTok]; split <;> first | rfl | exact PVal.tok_isSym _ _)

/-- `isSym_map` for each tested symbol, in the form `simp` uses -/
theorem isSym_maps :
    (∀ t, isSym (mapTok ρ g t) "(" = isSym t "(") ∧ (∀ t, isSym (mapTok ρ g t) ")" = isSym t ")") ∧
    (∀ t, isSym (mapTok ρ g t) "*" = isSym t "*") ∧ (∀ t, isSym (mapTok ρ g t) "+" = isSym t "+") ∧
    (∀ t, isSym (mapTok ρ g t) "," = isSym t ",") ∧ (∀ t, isSym (mapTok ρ g t) "-" = isSym t "-") ∧
    (∀ t, isSym (mapTok ρ g t) "." = isSym t ".") ∧ (∀ t, isSym (mapTok ρ g t) ";" = isSym t ";") ∧
    (∀ t, isSym (mapTok ρ g t) "[" = isSym t "[") ∧ (∀ t, isSym (mapTok ρ g t) "]" = isSym t "]") := by
  refine ⟨?_, ?_, ?_, ?_, ?_, ?_, ?_, ?_, ?_, ?_⟩ <;> intro t <;> exact isSym_map ρ hg t (by decide)

theorem infixPrec_map (t : STok) :
    infixPrec (mapTok ρ g t) = (infixPrec t).map fun x => (g x.1, x.2) := by
  cases t with
  | sym s => exact hg.infx s
  | word w =>
    simp only [mapTok, infixPrec]
    split
    · simp [hg.or_]
    · split <;> simp [hg.and_]
  | param p => simp only [mapTok]; split <;> first | rfl | exact PVal.tok_infix _
  | _ => rfl

omit hg in
theorem expr_c {k : Nat} (ih : CInv ρ g k) (m : Nat) (ts : List STok) :
    pExprS (k + 1) m (ts.map (mapTok ρ g)) = (pExprS (k + 1) m ts).map (mapR ρ g) := by
  cases ts with
  | nil => simp [pExprS]
  | cons t rest =>
    simp only [List.map_cons, pExprS, isWord_map ρ]
    refine ite_map (fun _ => ?_) fun _ => ?_
    · rw [ih.expr]
      cases pExprS k 3 rest with
      | none => rfl
      | some xr => simp only [Option.map_some, mapR, ← ih.trail, mapS]
    · rw [← List.map_cons, ih.unary]
      cases pUnaryS k (t :: rest) with
      | none => rfl
      | some xr => simp only [Option.map_some, mapR, ← ih.trail]

theorem unary_c {k : Nat} (ih : CInv ρ g k) (ts : List STok) :
    pUnaryS (k + 1) (ts.map (mapTok ρ g)) = (pUnaryS (k + 1) ts).map (mapR ρ g) := by
  cases ts with
  | nil => simp [pUnaryS]
  | cons t rest =>
    simp only [List.map_cons, pUnaryS, isSym_maps ρ hg]
    refine ite_map (fun _ => ?_) fun _ => ite_map (fun _ => ?_) fun _ => ?_
    · rw [ih.unary]; cases pUnaryS k rest <;> simp [mapR, mapS]
    · rw [ih.unary]; cases pUnaryS k rest <;> simp [mapR, mapS]
    · rw [← List.map_cons, ih.atom]
      cases pAtomS k (t :: rest) with
      | none => rfl
      | some xr => simp only [Option.map_some, mapR, ← ih.post]

theorem post_c {k : Nat} (ih : CInv ρ g k) (x : SExpr) (ts : List STok) :
    pPostfixS (k + 1) (mapS ρ g x) (ts.map (mapTok ρ g)) = (pPostfixS (k + 1) x ts).map (mapR ρ g) := by
  cases ts with
  | nil => simp [pPostfixS]
  | cons t rest =>
    simp only [List.map_cons, pPostfixS, isSym_maps ρ hg]
    refine ite_map (fun _ => ?_) fun _ => by simp [mapR]
    rw [ih.expr]
    rcases pExprS k 0 rest with _ | ⟨i, _ | ⟨rb, r2⟩⟩
    · rfl
    · rfl
    · simp only [Option.map_some, mapR, List.map_cons, isSym_maps ρ hg]
      exact ite_map (fun _ => by rw [← ih.post]; simp only [mapS]) fun _ => rfl

theorem col_c {k : Nat} (ih : CInv ρ g k) (ps : List Bytes) (ts : List STok) :
    pColTail (k + 1) ps (ts.map (mapTok ρ g)) = (pColTail (k + 1) ps ts).map (mapR ρ g) := by
  rcases ts with _ | ⟨dot, _ | ⟨q, rest⟩⟩
  · simp [pColTail, mapS]
  · simp [pColTail, mapS]
  · cases q with
    | qid n =>
      simp only [List.map_cons, mapTok_qid, pColTail, isSym_maps ρ hg]
      exact ite_map (fun _ => ih.col _ _) fun _ => by simp [mapS, mapTok_qid]
    | param p =>
      rcases hρ : ρ p with _ | (v | v) <;> simp [pColTail, mapS, mapTok, hρ, PVal.tok]
    | _ => simp [pColTail, mapS, mapTok]

theorem list_c {k : Nat} (ih : CInv ρ g k) (ts : List STok) :
    pListS (k + 1) (ts.map (mapTok ρ g)) = (pListS (k + 1) ts).map (mapRL ρ g) := by
  simp only [pListS, ih.expr]
  rcases pExprS k 0 ts with _ | ⟨x, _ | ⟨cm, r2⟩⟩
  · rfl
  · simp [mapR, mapL]
  · simp only [Option.map_some, mapR, List.map_cons, isSym_maps ρ hg]
    exact ite_map (fun _ => by rw [ih.list]; cases pListS k r2 <;> simp [mapRL, mapL]) fun _ => by
      simp [mapL]

theorem trail_c {k : Nat} (ih : CInv ρ g k) (m : Nat) (x : SExpr) (ts : List STok) :
    pTrailS (k + 1) m (mapS ρ g x) (ts.map (mapTok ρ g)) = (pTrailS (k + 1) m x ts).map (mapR ρ g) := by
  cases ts with
  | nil => simp [pTrailS]
  | cons t rest =>
    simp only [List.map_cons, pTrailS, isWord_map ρ, infixPrec_map ρ hg]
    refine ite_map (fun _ => ?is) fun _ => ite_map (fun _ => ?in_) fun _ => ?_
    case is =>
      rcases rest with _ | ⟨t1, r1⟩
      · rfl
      · simp only [List.map_cons, isWord_map ρ]
        refine ite_map (fun _ => by rw [← ih.trail]; simp only [mapS]) fun _ =>
          ite_map (fun _ => ?_) fun _ => rfl
        rcases r1 with _ | ⟨t2, r2⟩
        · rfl
        · simp only [List.map_cons, isWord_map ρ]
          exact ite_map (fun _ => by rw [← ih.trail]; simp only [mapS]) fun _ => rfl
    case in_ =>
      rcases rest with _ | ⟨lp, r1⟩
      · rfl
      · simp only [List.map_cons, isSym_maps ρ hg]
        refine ite_map (fun _ => ?_) fun _ => rfl
        rw [ih.list]
        rcases pListS k r1 with _ | ⟨vs, _ | ⟨rp, r3⟩⟩
        · rfl
        · rfl
        · simp only [Option.map_some, mapRL, List.map_cons, isSym_maps ρ hg]
          exact ite_map (fun _ => by rw [← ih.trail]; simp only [mapS]) fun _ => rfl
    cases infixPrec t with
    | none => simp [mapR]
    | some op =>
      obtain ⟨op, p⟩ := op
      simp only [Option.map_some]
      refine ite_map (fun _ => by simp [mapR]) fun _ => ?_
      rw [ih.expr]
      cases pExprS k (p + 1) rest with
      | none => rfl
      | some yr => simp only [Option.map_some, mapR, ← ih.trail, mapS]

theorem pFilterS_c {k : Nat} (ih : CInv ρ g k) (w : Bytes) (star : Bool) (as : SExprList) (r : List STok) :
    pFilterS k w star (mapL ρ g as) (r.map (mapTok ρ g)) = (pFilterS k w star as r).map (mapR ρ g) := by
  rcases r with _ | ⟨f, _ | ⟨lp2, _ | ⟨wh, r2⟩⟩⟩
  · simp [pFilterS, mapR, mapS]
  · simp [pFilterS, mapR, mapS]
  · simp [pFilterS, mapR, mapS]
  · simp only [List.map_cons, pFilterS, isWord_map ρ, isSym_maps ρ hg]
    refine ite_map (fun _ => ?_) fun _ => by simp [mapR, mapS]
    rw [ih.expr]
    rcases pExprS k 0 r2 with _ | ⟨c, _ | ⟨rp, r4⟩⟩
    · rfl
    · rfl
    · simp only [Option.map_some, mapR, List.map_cons, isSym_maps ρ hg]
      exact ite_map (fun _ => by simp [mapS]) fun _ => rfl

theorem pArgsS_c {k : Nat} (ih : CInv ρ g k) (r1 : List STok) :
    pArgsS k (r1.map (mapTok ρ g)) =
      (pArgsS k r1).map (fun r => ((r.1.1, mapL ρ g r.1.2), r.2.map (mapTok ρ g))) := by
  rcases r1 with _ | ⟨st, _ | ⟨rp, r2⟩⟩
  · rfl
  · simp only [List.map_cons, List.map_nil, pArgsS, isSym_maps ρ hg]
    exact ite_map (fun _ => by simp [mapL]) fun _ => by simp [mapL]
  · simp only [List.map_cons, pArgsS, isSym_maps ρ hg]
    refine ite_map (fun _ => by simp [mapL]) fun _ => ite_map (fun _ => by simp [mapL]) fun _ => ?_
    rw [← List.map_cons, ← List.map_cons, ih.list]
    rcases pListS k (st :: rp :: r2) with _ | ⟨as, _ | ⟨rp', r4⟩⟩
    · rfl
    · rfl
    · simp only [Option.map_some, mapRL, List.map_cons, isSym_maps ρ hg]
      exact ite_map (fun _ => by simp) fun _ => by simp

omit hg in
theorem pCaseS_c {k : Nat} (ih : CInv ρ g k) (rest : List STok) :
    pCaseS k (rest.map (mapTok ρ g)) = (pCaseS k rest).map (mapR ρ g) := by
  rcases rest with _ | ⟨wh, r1⟩
  · rfl
  simp only [List.map_cons, pCaseS, isWord_map ρ]
  refine ite_map (fun _ => rfl) fun _ => ?_
  rw [ih.expr]
  rcases pExprS k 0 r1 with _ | ⟨c, _ | ⟨th, r3⟩⟩
  · rfl
  · rfl
  simp only [Option.map_some, mapR, List.map_cons, isWord_map ρ]
  refine ite_map (fun _ => rfl) fun _ => ?_
  rw [ih.expr]
  rcases pExprS k 0 r3 with _ | ⟨a, _ | ⟨el, r5⟩⟩
  · rfl
  · rfl
  simp only [Option.map_some, mapR, List.map_cons, isWord_map ρ]
  refine ite_map (fun _ => rfl) fun _ => ?_
  rw [ih.expr]
  rcases pExprS k 0 r5 with _ | ⟨b, _ | ⟨en, r7⟩⟩
  · rfl
  · rfl
  simp only [Option.map_some, mapR, List.map_cons, isWord_map ρ]
  exact ite_map (fun _ => by simp [mapS]) fun _ => rfl

theorem atom_c {k : Nat} (ih : CInv ρ g k) (ts : List STok) :
    pAtomS (k + 1) (ts.map (mapTok ρ g)) = (pAtomS (k + 1) ts).map (mapR ρ g) := by
  cases ts with
  | nil => simp [pAtomS]
  | cons t rest =>
    cases t with
    | str v => simp [pAtomS, mapTok, mapS]
    | num v => simp [pAtomS, mapTok, mapS]
    | param p =>
      rcases hρ : ρ p with _ | (v | v) <;> simp [pAtomS, mapTok, mapS, hρ, PVal.tok, PVal.sexpr]
    | qid n =>
      simp only [List.map_cons, mapTok_qid, pAtomS]
      exact ih.col _ _
    | comment => simp [pAtomS, mapTok]
    | sym s =>
      have hs : mapTok ρ g (.sym s) = .sym (g s) := rfl
      simp only [List.map_cons, hs, pAtomS, hg.test s "(" (by decide)]
      refine ite_map (fun _ => ?_) fun _ => rfl
      rw [ih.expr]
      rcases pExprS k 0 rest with _ | ⟨x, _ | ⟨rp, r2⟩⟩
      · rfl
      · rfl
      · simp only [Option.map_some, mapR, List.map_cons, isSym_maps ρ hg]
        exact ite_map (fun _ => by simp) fun _ => by simp
    | word w =>
      have hw : mapTok ρ g (.word w) = .word w := rfl
      have hcw : constWord (upper w) (rest.map (mapTok ρ g)) = constWord (upper w) rest := by
        cases rest <;> simp only [constWord, List.map_cons, List.map_nil, isSym_maps ρ hg]
      rw [List.map_cons, hw, pAtomS_word, pAtomS_word, hcw]
      refine ite_map (fun _ => by simp [mapR, mapS]) fun _ => ite_map (fun _ => pCaseS_c ρ ih _) fun _ =>
        ite_map (fun _ => rfl) fun _ => ?_
      cases rest with
      | nil => rfl
      | cons lp r1 =>
        simp only [List.map_cons, isSym_maps ρ hg]
        refine ite_map (fun _ => rfl) fun _ => ?_
        rw [pArgsS_c ρ hg ih]
        cases pArgsS k r1 with
        | none => rfl
        | some ar =>
          obtain ⟨⟨star, as⟩, r⟩ := ar
          simp only [Option.map_some]
          exact pFilterS_c ρ hg ih w star as r

theorem CInv.succ {k : Nat} (ih : CInv ρ g k) : CInv ρ g (k + 1) :=
  ⟨expr_c ρ ih, trail_c ρ hg ih, unary_c ρ hg ih, post_c ρ hg ih, atom_c ρ hg ih, col_c ρ hg ih, list_c ρ hg ih⟩

theorem cInv : ∀ k, CInv ρ g k
  | 0 => CInv.zero ρ
  | k + 1 => (cInv k).succ ρ hg


theorem pExprS_map (k m : Nat) (ts : List STok) :
    pExprS k m (ts.map (mapTok ρ g)) = (pExprS k m ts).map (mapR ρ g) :=
  (cInv ρ hg k).expr m ts

end
end Pql.SqlMap
