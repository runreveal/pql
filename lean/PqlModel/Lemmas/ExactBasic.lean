/-
C13 exactness, basics: the relation `Agrees r b` between a result of the compiler model and a
verdict of the misuse specification ("ok exactly when not bad, a compile error exactly when
bad, never a panic"), its compositional rules for the `Except` monad, and the table facts
(built-in constants, aliases, arities for every argument count).
-/
import PqlModel.Model.Compile
import PqlModel.Spec.Misuse
namespace Pql.Exact
open Pql

def Agrees {α : Type} (r : Except WErr α) (b : Bool) : Prop :=
  match r with
  | .ok _ => b = false
  | .error .err => b = true
  | .error .panic => False

theorem Agrees.ok {α : Type} (x : α) : Agrees (Except.ok x : Except WErr α) false := rfl
theorem Agrees.pure {α : Type} (x : α) : Agrees (Pure.pure x : Except WErr α) false := rfl
theorem Agrees.err {α : Type} : Agrees (Except.error .err : Except WErr α) true := rfl

theorem Agrees.elim {α : Type} {r : Except WErr α} {b : Bool} (h : Agrees r b) :
    (∃ x, r = .ok x ∧ b = false) ∨ (r = .error .err ∧ b = true) :=
  match r, h with
  | .ok x, h => .inl ⟨x, rfl, h⟩
  | .error .err, h => .inr ⟨rfl, h⟩

theorem Agrees.ok_iff {α : Type} {r : Except WErr α} {b : Bool} (h : Agrees r b) :
    (∃ x, r = .ok x) ↔ b = false := by
  rcases h.elim with ⟨x, rfl, rfl⟩ | ⟨rfl, rfl⟩
  · exact ⟨fun _ => rfl, fun _ => ⟨x, rfl⟩⟩
  · exact ⟨fun ⟨_, hx⟩ => (nomatch hx), nofun⟩

theorem Agrees.err_iff {α : Type} {r : Except WErr α} {b : Bool} (h : Agrees r b) :
    r = .error .err ↔ b = true := by
  rcases h.elim with ⟨x, rfl, rfl⟩ | ⟨rfl, rfl⟩
  · exact ⟨nofun, nofun⟩
  · exact ⟨fun _ => rfl, fun _ => rfl⟩

theorem Agrees.ne_panic {α : Type} {r : Except WErr α} {b : Bool} (h : Agrees r b) :
    r ≠ .error .panic := by
  rcases h.elim with ⟨x, rfl, -⟩ | ⟨rfl, -⟩ <;> nofun

theorem Agrees.of_eq {α : Type} {r : Except WErr α} {b b' : Bool} (h : Agrees r b) (hb : b = b') :
    Agrees r b' := hb ▸ h

theorem Agrees.bind' {α β : Type} {r : Except WErr α} {f : α → Except WErr β} {b1 b2 : Bool}
    (h1 : Agrees r b1) (h2 : ∀ x, r = .ok x → Agrees (f x) b2) : Agrees (r >>= f) (b1 || b2) := by
  rcases h1.elim with ⟨x, rfl, rfl⟩ | ⟨rfl, rfl⟩
  · exact h2 x rfl
  · exact rfl

theorem Agrees.bind {α β : Type} {r : Except WErr α} {f : α → Except WErr β} {b1 b2 : Bool}
    (h1 : Agrees r b1) (h2 : ∀ x, Agrees (f x) b2) : Agrees (r >>= f) (b1 || b2) :=
  h1.bind' fun x _ => h2 x

theorem Agrees.bind_pure {α β : Type} {r : Except WErr α} {b : Bool} (f : α → β) (h : Agrees r b) :
    Agrees (r >>= fun x => Pure.pure (f x)) b :=
  (h.bind fun x => Agrees.pure (f x)).of_eq (Bool.or_false b)

theorem Agrees.map {α β : Type} {r : Except WErr α} {b : Bool} (f : α → β) (h : Agrees r b) :
    Agrees (r.map f) b := h.bind_pure f

theorem beq_comm_bytes (a b : Bytes) : (a == b) = (b == a) := BEq.comm

def names (scope : List (Bytes × List Chunk)) : List Bytes := scope.map (·.1)

theorem lookupScope_isSome (scope : List (Bytes × List Chunk)) (name : Bytes) :
    (lookupScope scope name).isSome = (names scope).contains name := by
  induction scope with
  | nil => rfl
  | cons kv rest ih =>
    unfold lookupScope names at *
    rw [List.find?_cons, List.map_cons, List.contains_cons]
    by_cases h : kv.1 == name
    · have h' : (name == kv.1) = true := by rw [beq_iff_eq] at h ⊢; exact h.symm
      simp [h, h']
    · have h' : (name == kv.1) = false := by
        rw [Bool.not_eq_true] at h
        rw [beq_eq_false_iff_ne] at h ⊢
        exact fun e => h e.symm
      simp only [h, h', Bool.false_or]
      exact ih

theorem builtinIdent_isSome (name : Bytes) :
    (builtinIdent name).isSome = Misuse.isBuiltinConst name := by
  unfold builtinIdent Misuse.isBuiltinConst Misuse.bytesEq Facts.builtinIdentifiers
  have e1 : (Bytes.ofString "false" == name) = (name == Bytes.ofString "false") := beq_comm_bytes _ _
  have e2 : (Bytes.ofString "null" == name) = (name == Bytes.ofString "null") := beq_comm_bytes _ _
  have e3 : (Bytes.ofString "true" == name) = (name == Bytes.ofString "true") := beq_comm_bytes _ _
  simp only [List.find?_cons, List.find?_nil, e1, e2, e3]
  generalize Bytes.ofString "false" = s1
  generalize Bytes.ofString "null" = s2
  generalize Bytes.ofString "true" = s3
  cases name == s1 <;> cases name == s2 <;> cases name == s3 <;> rfl

theorem isAlias_eq (name : Bytes) :
    Misuse.isAlias name = (name == leftAlias || name == rightAlias) := rfl

/-- a row of the writers' guard table and a documented arity that reject the same argument
    counts: `!= k` against "exactly `k`", `== 0` against "at least 1" -/
def sameArity : Option (String × String × Nat) → Option (String × Bool × Nat) → Bool
  | some (_, op, k), some (_, exact, k') =>
    if op == "!=" then exact && k == k' else op == "==" && (k == 0 && (!exact && k' == 1))
  | _, _ => false

theorem sameArity_table : ∀ row ∈ Facts.knownFunctions,
    sameArity (Facts.writerArityGuard.find? (·.1 == row.2.1))
      (Misuse.arities.find? fun a => Misuse.bytesEq (Bytes.ofString row.1) a.1) = true := by
  decide +kernel

theorem arity_agrees_all :
    ∀ row ∈ Facts.knownFunctions, ∀ n : Nat,
      arityRejects row.2.1 n = Misuse.wrongArity (Bytes.ofString row.1) n := by
  intro row hrow n
  have h := sameArity_table row hrow
  unfold arityRejects Misuse.wrongArity
  generalize Facts.writerArityGuard.find? _ = g at h ⊢
  generalize Misuse.arities.find? _ = a at h ⊢
  match g, a, h with
  | some (_, op, k), some (_, exact, k'), h =>
    simp only [sameArity] at h ⊢
    by_cases hop : (op == "!=") = true
    · rw [if_pos hop, Bool.and_eq_true, beq_iff_eq] at h
      rw [if_pos hop, h.1, h.2, if_pos rfl]
    · rw [if_neg hop] at h ⊢
      simp only [Bool.and_eq_true, beq_iff_eq, Bool.not_eq_true'] at h
      obtain ⟨rfl, rfl, rfl, rfl⟩ := h
      cases n <;> simp

theorem arities_names : ∀ a ∈ Misuse.arities, ∃ row ∈ Facts.knownFunctions, row.1 = a.1 := by decide

theorem wrongArity_of_unknown {name : Bytes} (h : knownFunction name = none) (n : Nat) :
    Misuse.wrongArity name n = false := by
  unfold knownFunction at h
  rw [Option.map_eq_none_iff, List.find?_eq_none] at h
  have hnone : Misuse.arities.find? (fun a => Misuse.bytesEq name a.1) = none := by
    rw [List.find?_eq_none]
    intro a ha
    obtain ⟨row, hrow, hname⟩ := arities_names a ha
    have := h row hrow
    unfold Misuse.bytesEq
    rw [← hname, beq_comm_bytes]
    exact this
  unfold Misuse.wrongArity
  rw [hnone]

end Pql.Exact
