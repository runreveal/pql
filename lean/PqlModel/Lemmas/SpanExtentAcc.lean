/-
What `accounts true` says of a leading token with claimed positions: the token whose span it is.
A token that allows a comma before it (`optComma`) takes the comma into its segment.
`ExtOf us s`, the rules by which span = extent is read off a node's `unparse`, rests on that.
-/
import PqlModel.Lemmas.SpanExtentBasic
namespace Pql
open Grammar

theorem accounts_ne_nil {pos : Bool} {us : List UTok} {ts : List Token} (hne : us ≠ [])
    (h : accounts pos us ts = true) : ts ≠ [] := by
  intro hn; subst hn
  cases us with
  | nil => exact hne rfl
  | cons u us => simp [accounts] at h

theorem tokOk_pos {u : UTok} {t : Token} (h : tokOk u t = true) : posMatches u t = true := by
  simp only [tokOk, Bool.and_eq_true] at h; exact h.2

theorem posMatches_start {u : UTok} {t : Token} {a : Int} (hu : u.start = some a)
    (h : posMatches u t = true) : a = t.start := by
  simp only [posMatches, hu, Bool.and_eq_true, beq_iff_eq] at h
  exact h.1

theorem posMatches_stop {u : UTok} {t : Token} {a : Int} (hu : u.stop = some a)
    (h : posMatches u t = true) : a = t.stop := by
  simp only [posMatches, hu, Bool.and_eq_true, beq_iff_eq] at h
  exact h.2

theorem posMatches_span {u : UTok} {t : Token} {sp : Span} (hs : u.start = some sp.start)
    (he : u.stop = some sp.stop) (h : posMatches u t = true) : sp = t.span := by
  have h1 := posMatches_start hs h
  have h2 := posMatches_stop he h
  cases sp
  simp only [Token.span, Span.mk.injEq]
  exact ⟨h1, h2⟩

theorem accounts_span_cons {u : UTok} {us : List UTok} {ts : List Token} (sp : Span)
    (hs : u.start = some sp.start) (he : u.stop = some sp.stop) (ho : u.optComma = false)
    (h : accounts true (u :: us) ts = true) :
    ∃ t ts', ts = t :: ts' ∧ sp = t.span ∧ accounts true us ts' = true := by
  obtain ⟨t, ts', rfl, hp, hr⟩ := accounts_cons_inv ho h
  exact ⟨t, ts', rfl, posMatches_span hs he (tokOk_pos hp), hr⟩

theorem accounts_span_cons_opt {u : UTok} {us : List UTok} {ts : List Token} (sp : Span)
    (hs : u.start = some sp.start) (he : u.stop = some sp.stop)
    (h : accounts true (u :: us) ts = true) :
    ∃ m t ts', ts = m ++ t :: ts' ∧ sp = t.span ∧ accounts true us ts' = true ∧
      (m ≠ [] → u.optComma = true) := by
  rcases accounts_cons_inv_opt h with ⟨t, ts', rfl, hp, hr⟩ | ⟨cm, t, ts', rfl, -, hp, hr, ho⟩
  · exact ⟨[], t, ts', rfl, posMatches_span hs he (tokOk_pos hp), hr, fun h => absurd rfl h⟩
  · exact ⟨[cm], t, ts', rfl, posMatches_span hs he (tokOk_pos hp), hr, fun _ => ho⟩

/-- two leading tokens that share one span field (`sort by`, `nulls first`) -/
theorem accounts_span2_cons {u1 u2 : UTok} {us : List UTok} {ts : List Token} (sp : Span)
    (hs : u1.start = some sp.start) (he : u2.stop = some sp.stop) (ho1 : u1.optComma = false)
    (ho2 : u2.optComma = false) (h : accounts true (u1 :: u2 :: us) ts = true) :
    ∃ t1 t2 ts', ts = t1 :: t2 :: ts' ∧ sp = ext [t1, t2] ∧ accounts true us ts' = true := by
  obtain ⟨t1, ts1, rfl, hp1, hr1⟩ := accounts_cons_inv ho1 h
  obtain ⟨t2, ts2, rfl, hp2, hr2⟩ := accounts_cons_inv ho2 hr1
  refine ⟨t1, t2, ts2, rfl, ?_, hr2⟩
  have h1 := posMatches_start hs (tokOk_pos hp1)
  have h2 := posMatches_stop he (tokOk_pos hp2)
  cases sp
  simp only [ext_pair, Span.mk.injEq]
  exact ⟨h1, h2⟩

/-- a leading token without claimed positions (comma, dot) -/
theorem accounts_plain_cons {pos : Bool} {u : UTok} {us : List UTok} {ts : List Token} (ho : u.optComma = false)
    (h : accounts pos (u :: us) ts = true) : ∃ t ts', ts = t :: ts' ∧ accounts pos us ts' = true := by
  rcases accounts_cons_cases h with ⟨t, ts', rfl, -, -, hr⟩ | ⟨_, _, _, _, _, ho', _⟩
  · exact ⟨t, ts', rfl, hr⟩
  · rw [ho] at ho'; cases ho'

theorem accounts_span_single {u : UTok} {ts : List Token} (sp : Span)
    (hs : u.start = some sp.start) (he : u.stop = some sp.stop) (ho : u.optComma = false)
    (h : accounts true [u] ts = true) : ∃ t, ts = [t] ∧ sp = t.span := by
  obtain ⟨t, ts', rfl, hsp, hr⟩ := accounts_span_cons sp hs he ho h
  rw [accounts_nil_left hr]
  exact ⟨t, rfl, hsp⟩

/-- however the run `us` of unparse tokens is accounted for, `s` is the extent of its tokens.  A
    node's `unparse` lists its tokens and its `Span()` unites its span fields in the same order, so
    span = extent is read off clause by clause with the rules below. -/
def ExtOf (us : List UTok) (s : Span) : Prop :=
  ∀ ts, TokOK ts → accounts true us ts = true → s = ext ts

theorem ExtOf.tok {u : UTok} (s : Span) (hs : u.start = some s.start) (he : u.stop = some s.stop)
    (ho : u.optComma = false) : ExtOf [u] s := by
  intro ts _ ha
  obtain ⟨t, rfl, hsp⟩ := accounts_span_single s hs he ho ha
  exact hsp

theorem ExtOf.tok2 {u1 u2 : UTok} (s : Span) (hs : u1.start = some s.start)
    (he : u2.stop = some s.stop) (ho1 : u1.optComma = false) (ho2 : u2.optComma = false) :
    ExtOf [u1, u2] s := by
  intro ts _ ha
  obtain ⟨t1, t2, ts', rfl, hsp, hr⟩ := accounts_span2_cons s hs he ho1 ho2 ha
  rw [accounts_nil_left hr]
  exact hsp

theorem ExtOf.nil : ExtOf [] (Span.unions []) := by
  intro ts _ ha
  rw [accounts_nil_left ha]
  rfl

theorem ExtOf.skip {us : List UTok} {s : Span} {ss : List Span} (hs : s.isValid = false)
    (h : ExtOf us (Span.unions ss)) : ExtOf us (Span.unions (s :: ss)) := by
  intro ts hok ha
  rw [unions_cons, union_invalid_right hs, h ts hok ha]
  exact union_null_ext hok

theorem ExtOf.cons {us1 us2 : List UTok} {s : Span} {ss : List Span} (h1 : ExtOf us1 s)
    (h2 : ExtOf us2 (Span.unions ss)) : ExtOf (us1 ++ us2) (Span.unions (s :: ss)) := by
  intro ts hok ha
  obtain ⟨ta, tb, rfl, haa, hab⟩ := accounts_append_split ha
  exact ext_cons hok (h1 ta hok.left haa) (h2 tb hok.right hab)

theorem ExtOf.trail {us : List UTok} {s : Span} {ss : List Span} (h1 : ExtOf us s)
    (h2 : ExtOf [] (Span.unions ss)) : ExtOf us (Span.unions (s :: ss)) :=
  List.append_nil us ▸ h1.cons h2

theorem ExtOf.last {us : List UTok} {s : Span} (h : ExtOf us s) : ExtOf us (Span.unions [s]) :=
  h.trail ExtOf.nil

/-- a separator without position (comma, dot) between two runs that are not empty lies inside -/
theorem ExtOf.sep {us1 us2 : List UTok} {u : UTok} {s : Span} {ss : List Span} (h1 : ExtOf us1 s)
    (hne1 : us1 ≠ []) (ho : u.optComma = false) (h2 : ExtOf us2 (Span.unions ss)) (hne2 : us2 ≠ []) :
    ExtOf (us1 ++ u :: us2) (Span.unions (s :: ss)) := by
  intro ts hok ha
  obtain ⟨ta, r, rfl, haa, har⟩ := accounts_append_split ha
  obtain ⟨tc, tb, rfl, hab⟩ := accounts_plain_cons ho har
  rw [h1 ta hok.left haa]
  exact unions_cons_gap hok (accounts_ne_nil hne1 haa) (accounts_ne_nil hne2 hab)
    (h2 tb hok.right.tail hab)

/-- a run that is there exactly when its span is set (`asc`, `nulls first`) -/
theorem ExtOf.opt {us1 us2 : List UTok} {s : Span} {ss : List Span} (h1 : ExtOf us1 s)
    (h2 : ExtOf us2 (Span.unions ss)) :
    ExtOf ((if s.isValid then us1 else []) ++ us2) (Span.unions (s :: ss)) := by
  cases hv : s.isValid
  · exact h2.skip hv
  · exact h1.cons h2

/-- a token that may have a comma before it (`by` after the aggregates of `summarize`, the `)` of a
    call): the comma lies between the run in front, which is then not empty, and the token -/
theorem ExtOf.gap {us1 us2 : List UTok} {u : UTok} {ss1 : List Span} (sb : Span) {ss : List Span}
    (h1 : ExtOf us1 (Span.unions ss1)) (hs : u.start = some sb.start) (he : u.stop = some sb.stop)
    (ho : u.optComma = true → us1 ≠ []) (h2 : ExtOf us2 (Span.unions ss)) :
    ExtOf (us1 ++ u :: us2) (Span.unions (ss1 ++ sb :: ss)) := by
  intro ts hok ha
  obtain ⟨ta, tb, rfl, haa, hab⟩ := accounts_append_split ha
  obtain ⟨m, t, ts', rfl, rfl, hr, hm⟩ := accounts_span_cons_opt sb hs he hab
  have hok' : TokOK (t :: ts') := hok.right.right
  have h2' : Span.unions (t.span :: ss) = ext (t :: ts') :=
    ext_cons (ta := [t]) hok' rfl (h2 ts' hok'.tail hr)
  rw [unions_append, h1 ta hok.left haa, h2']
  by_cases hta : ta = []
  · subst hta
    have : m = [] := Classical.byContradiction fun hne => accounts_ne_nil (ho (hm hne)) haa rfl
    subst this
    exact union_null_ext hok'
  · simpa using ext_union_gap (a := ta) (m := m) (b := t :: ts') (by simpa using hok) hta (by simp)

end Pql
