/-
Helper lemmas for `Props/C11Compile.lean`: the identifier nodes in the pre-order of a tree
(`allNodes`, WalkLemmas) and the events they produce.  At the end, in `Pql.NoPanic`: `Expr.Good`
survives `rewriteSimpleJoinCondition` and `buildJoinCondition`.
-/
import PqlModel.Lemmas.WalkLemmas
import PqlModel.Lemmas.JoinCondition
namespace Pql.Glue
open Pql

/-- what Go's `n.(*parser.Ident)` type assertion yields in the visitor of `hasJoinTerms`
    (a nil `*Ident` also passes the assertion in Go, and `n.Name` then panics; such nodes do
    not occur below an expression: `Node.children` of a `QualifiedIdent` pushes `some i` only) -/
def identOf : Node → Option Ident
  | .ident (some i) => some i
  | _ => none

def isIdentEvent : WalkEvent → Bool
  | .visit ty _ => ty == "Ident"
  | _ => false

/-- what the recording visitor notes for an identifier -/
def identEvent (i : Ident) : WalkEvent := .visit "Ident" i.span

theorem allNodes_of_none {n : Node} (hc : n.children = none) : allNodes n = [n] := by
  rw [allNodes]
  split
  · next kids' h' => rw [hc] at h'; cases h'
  · rfl

theorem allNodesList_append (a b : List Node) :
    allNodesList (a ++ b) = allNodesList a ++ allNodesList b := by
  simp [allNodesList_eq_flatMap]

theorem allNodes_ident (i : Option Ident) : allNodes (.ident i) = [.ident i] := by
  rw [allNodes_eq (kids := []) rfl]; simp

theorem allNodesList_idents (parts : List Ident) :
    allNodesList (parts.map fun i => Node.ident (some i)) = parts.map fun i => Node.ident (some i) := by
  induction parts with
  | nil => simp
  | cons p ps ih => simp [allNodesList_cons, allNodes_ident, ih]

theorem filterMap_identOf_idents (parts : List Ident) :
    (parts.map fun i => Node.ident (some i)).filterMap identOf = parts := by
  induction parts with
  | nil => rfl
  | cons p ps ih => simp [identOf, ih]

theorem eventOf_ident (i : Ident) : eventOf (.ident (some i)) = identEvent i := rfl

theorem isIdentEvent_eventOf (n : Node) :
    isIdentEvent (eventOf n) = (identOf n).isSome := by
  cases n with
  | ident i => cases i <;> rfl
  | expr e => cases e <;> simp [eventOf, Node.label, isIdentEvent, identOf]
  | tabular t => simp [eventOf, Node.label, isIdentEvent, identOf]
  | tableRef t => simp [eventOf, Node.label, isIdentEvent, identOf]
  | op o => cases o <;> simp [eventOf, Node.label, isIdentEvent, identOf]
  | sortTerm t => cases t <;> simp [eventOf, Node.label, isIdentEvent, identOf]
  | column k c => cases k <;> simp [eventOf, Node.label, isIdentEvent, identOf]
  | letStmt kw nm a x => simp [eventOf, Node.label, isIdentEvent, identOf]

theorem eventOf_of_identOf {n : Node} {i : Ident} (h : identOf n = some i) :
    eventOf n = identEvent i := by
  cases n with
  | ident j =>
    cases j with
    | none => simp [identOf] at h
    | some j => simp [identOf] at h; subst h; rfl
  | _ => simp [identOf] at h

theorem filter_identEvents (l : List Node) :
    (l.map eventOf).filter isIdentEvent = (l.filterMap identOf).map identEvent := by
  induction l with
  | nil => rfl
  | cons n l ih =>
    have h1 := isIdentEvent_eventOf n
    cases hn : identOf n with
    | none =>
      rw [hn] at h1
      simp only [List.map_cons, List.filter_cons, h1, List.filterMap_cons, hn, ih]
      simp
    | some i =>
      have h2 : isIdentEvent (identEvent i) = true := rfl
      simp only [List.map_cons, List.filter_cons, List.filterMap_cons, hn, ih,
        eventOf_of_identOf hn, h2]
      simp

end Pql.Glue

namespace Pql.NoPanic
open Pql

theorem good_key (part : Ident) (_ : (Expr.qident [part]).Good) :
    (Expr.binary (.qident [⟨leftAlias, .zero, false⟩, part]) .zero .eq
      (.qident [⟨rightAlias, .zero, false⟩, part])).Good := ⟨trivial, trivial⟩

theorem good_rewriteSimple {c : Expr} (h : c.Good) : (rewriteSimpleJoinCondition c).Good :=
  rewriteSimpleJoinCondition_of good_key h

theorem good_buildJoinCondition (conds : ExprList) (h : conds.Good) : (buildJoinCondition conds).Good :=
  buildJoinCondition_of good_key (PL := ExprList.Good) (fun _ _ h => h) (fun _ _ hx hy => ⟨hx, hy⟩)
    trivial conds h

end Pql.NoPanic
