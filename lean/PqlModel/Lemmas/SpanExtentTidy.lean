/-
The parser only builds `tidy` trees (PqlModel/Lemmas/SpanExtentOps.lean): a `render` operator
whose `With` span is not set has neither `Lparen` nor `Rparen` set — whatever errors it reports.
Two facts about every parse give it: the parentheses of a `render` are set only where its `With`
field is the span of a token (the `render` clause of `TabAlg`), and every span field of a parse of well-formed tokens is
`Span.null` or valid (`parseTokens_tree`); the span of a token is not `Span.null`.
-/
import PqlModel.Lemmas.SpanExtentOps
import PqlModel.Lemmas.AccountedStmt
import PqlModel.Lemmas.SpanFree
namespace Pql
open Grammar

theorem opList_tidy_snoc : ∀ (ops : OpList) (o : Op), (ops.snoc o).tidy = (ops.tidy && o.tidy)
  | .nil, o => by simp [OpList.snoc, OpList.tidy]
  | .cons a as, o => by
    simp only [OpList.snoc, OpList.tidy, opList_tidy_snoc as o, Bool.and_assoc]

/-- what every span field of a parse of `TokOK` tokens is -/
def NullOrValid (s : Span) : Prop := s = .null ∨ s.isValid = true

theorem TokOK.toksQ {ts : List Token} (hok : TokOK ts) : ToksQ NullOrValid ts :=
  ⟨fun t ht => .inr (span_isValid (hok.1 t ht).le),
    hok.2.imp_of_mem fun {a b} ha hb hab => .inr (span2_isValid (by
      have := (hok.1 a ha).le
      have := (hok.1 b hb).le
      omega))⟩

theorem Token.span_ne_null (t : Token) : t.span ≠ .null := by
  intro h
  have := congrArg Span.start h
  simp only [Token.span, Span.null] at this
  omega

/-- given that its span fields are `Span.null` or valid, what the tabular productions build is tidy -/
theorem tidy_alg (ok : Prop) : TabAlg ok (fun _ => True) (fun _ => True)
    (fun t => t.SpansIn NullOrValid → t.tidy = true) (fun o => o.SpansIn NullOrValid → o.tidy = true)
    (fun l => l.SpansIn NullOrValid → l.tidy = true) where
  tnil := fun _ _ => rfl
  tmk := fun _ _ h hs => h hs.2
  onil := fun _ => rfl
  snoc := fun ops o h ho hs => by
    have hs := (OpList.spansIn_snoc ops o).1 hs
    rw [opList_tidy_snoc, h hs.1, ho hs.2]; rfl
  count := fun _ _ _ => rfl
  where_ := fun _ _ _ _ _ => rfl
  sort := fun _ _ _ _ _ => rfl
  take := fun _ _ _ _ _ => rfl
  top := fun _ _ _ _ _ _ _ _ _ => rfl
  project := fun _ _ _ _ _ => rfl
  extend := fun _ _ _ _ _ => rfl
  summarize := fun _ _ _ _ _ _ _ _ => rfl
  join := fun _ _ _ _ _ _ _ _ _ _ _ h _ hs => h hs.2.2.2.2.2.2.1
  as_ := fun _ _ _ _ _ => rfl
  render := fun _ _ _ w _ _ _ _ _ hw hs => by
    rcases hw with ⟨rfl, rfl⟩ | ⟨t, rfl⟩
    · simp [Op.tidy]
    · simp [Op.tidy, hs.2.2.2.1.resolve_left t.span_ne_null]

theorem pTabular_tidy (c : PCtx) (fuel : Nat) (ts : List Token)
    (h : (pTabular c fuel ts).val.SpansIn NullOrValid) : (pTabular c fuel ts).val.tidy = true :=
  (tabShape (tidy_alg False) (fun _ _ => trivial) (fun _ _ => trivial) fuel).tabular ts nofun h

theorem pLet_tidy (c : PCtx) (fuel : Nat) :
    ∀ ts s, (pLet c fuel ts).val = some s → s.tidy = true := by
  apply pLet_cases (motive := fun _ r => ∀ s, r.val = some s → s.tidy = true)
  case notLet => rintro ts _ s ⟨⟩
  case noName => rintro kwd rest _ _ s ⟨⟩; rfl
  case noAssign => rintro kwd t0 rest _ _ _ s ⟨⟩; rfl
  case full => rintro kwd t0 asg rest2 r _ _ _ _ s ⟨⟩; rfl

theorem pStatement_tidy (c : PCtx) (ts : List Token) :
    ∀ s, (pStatement c ts).1 = some s → s.SpansIn NullOrValid → s.tidy = true := by
  apply pStatement_cases
    (motive := fun r => ∀ s, r.1 = some s → s.SpansIn NullOrValid → s.tidy = true)
  case let_ => intro rl hl _ s hs _; subst hl; exact pLet_tidy _ _ _ s hs
  case empty => rintro rl rt _ _ _ _ _ s ⟨⟩
  case tab => rintro rl rt name ops _ _ rfl _ _ s ⟨⟩ h; exact pTabular_tidy c _ ts h
  case junk => rintro rl rt t rest _ _ _ _ _ s ⟨⟩

theorem parseTokens_tidy (srcLen : Nat) (ts : List Token) (hok : TokOK ts) :
    ∀ s ∈ (parseTokens srcLen ts).1, s.tidy = true := by
  intro s hs
  obtain ⟨g, -, h, -⟩ := parseTokens_mem srcLen ts hs
  exact pStatement_tidy _ g s h
    (parseTokens_tree srcLen ts (.inl rfl) (.inr rfl) hok.toksQ s hs)

end Pql
