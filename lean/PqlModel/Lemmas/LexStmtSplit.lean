/-
LexRender for whole statements: every subquery `splitQueries` produces from a
`Tabular.lexOK` tree (under a `ScopeAdj` scope) satisfies `SubOK`: its source is a quoted name or the join
source built in `splitOps` (both adjacent before every separator), and the expressions it
carries are `Expr.lexOK`.

The statement loop (`let` statements establish
`ScopeAdj`) and the final assembly `WITH … AS (…),\n     … AS (…)\n<body>;`.
-/
import PqlModel.Lemmas.LexStmtWrite
import PqlModel.Lemmas.SplitQueriesInv
import PqlModel.Props.C14Order
namespace Pql.C05
open Pql Sql LexRender SplitQ

theorem rewrite_lexOK_eq (c : Expr) : (rewriteSimpleJoinCondition c).lexOK = c.lexOK := by
  unfold rewriteSimpleJoinCondition
  split
  · split
    · rfl
    · simp [Expr.lexOK]
  · rfl

theorem go_lexOK_eq : ∀ (ys : ExprList) (x : Expr),
    (buildJoinCondition.go x ys).lexOK = (x.lexOK && ys.lexOK)
  | .nil, x => by rw [buildJoinCondition.go]; simp [ExprList.lexOK]
  | .cons y ys, x => by
    rw [buildJoinCondition.go, go_lexOK_eq ys]
    simp only [Expr.lexOK, ExprList.lexOK, rewrite_lexOK_eq, Bool.and_assoc]

theorem buildJoin_lexOK_eq (conds : ExprList) : (buildJoinCondition conds).lexOK = conds.lexOK := by
  cases conds with
  | nil => simp [buildJoinCondition, Expr.lexOK, ExprList.lexOK]
  | cons c rest =>
    rw [buildJoinCondition, go_lexOK_eq, rewrite_lexOK_eq]
    simp only [ExprList.lexOK]

theorem chain_subOK (dst : List Subquery) (k : Nat) (source : Option Ident) :
    SubOK (chainSubquery dst k source) := by
  refine ⟨?_, fun o h => by simp [chainSubquery] at h, fun o h => by simp [chainSubquery] at h,
    fun o h => by simp [chainSubquery] at h⟩
  unfold chainSubquery
  dsimp only
  split
  · split
    · exact good_qid _
    · exact good_nil
  · exact good_qid _

theorem store_subOK (o : Op) (ho : o.lexOK = true) {s : Subquery} (hs : SubOK s) : SubOK (store o s) := by
  cases o with
  | sort p k terms => exact ⟨hs.source, hs.op, fun ts hts => by cases hts; exact ho, hs.take⟩
  | take p k n => exact ⟨hs.source, hs.op, hs.sort, fun m hm => by cases hm; exact ho⟩
  | top p k n b col =>
    cases col with
    | none => exact ⟨hs.source, fun o' h => by cases h; exact ho, hs.sort, hs.take⟩
    | some c =>
      rw [Op.lexOK, Bool.and_eq_true] at ho
      exact ⟨hs.source, hs.op, fun ts hts => by cases hts; simpa using ho.2, fun m hm => by cases hm; exact ho.1⟩
  | _ => exact ⟨hs.source, fun o' h => by cases h; exact ho, hs.sort, hs.take⟩

/-- the join source: `(SELECT DISTINCT * FROM "l") AS "$left" JOIN "r" AS "$right" ON cond` -/
theorem joinSource_good (unique : Bool) {leftSrc cond : List Chunk} (hl : Good leftSrc) (hc : Good cond)
    {kw : String} (hkw : kw = " JOIN " ∨ kw = " LEFT JOIN ") (rightName : Bytes) :
    Good (joinSourceOf unique kw leftSrc rightName cond) := by
  unfold joinSourceOf
  have hkwI : txtInert kw = true := by rcases hkw with rfl | rfl <;> decide
  have hkwS : sepTxt kw = true := by rcases hkw with rfl | rfl <;> decide
  have tail : Good ([Chunk.txt (" AS \"" ++ Facts.leftJoinTableAlias ++ "\""), .txt kw, .qid rightName,
       .txt (" AS \"" ++ Facts.rightJoinTableAlias ++ "\" ON ")] ++ cond) := by
    simp only [List.cons_append, List.nil_append]
    refine good_cons_sep (by decide) (sepLed_txt _ hkwS) (good_cons_inert hkwI ?_)
    exact good_app (xs := [Chunk.qid rightName]) (good_qid _) (by decide)
      (good_cons_inert (by decide) hc)
  have tailL : SepLed ([Chunk.txt (" AS \"" ++ Facts.leftJoinTableAlias ++ "\""), .txt kw, .qid rightName,
       .txt (" AS \"" ++ Facts.rightJoinTableAlias ++ "\" ON ")] ++ cond) := sepLed_txt _ (by decide)
  cases unique
  · simp only [Bool.false_eq_true, if_false, List.nil_append, List.append_nil, List.append_assoc]
    exact good_append hl tailL tail
  · simp only [if_true, List.cons_append, List.nil_append, List.append_assoc]
    exact good_cons_inert (by decide) (good_app hl (by decide)
      (good_cons_inert (by decide) tail))

theorem run_subOK {src : Bytes} {scope : List (Bytes × List Chunk)} (hsc : ScopeAdj scope)
    {source : Option Ident} {dstStart : Nat} {dst out : List Subquery} {ops : OpList}
    (h : Run src scope source dstStart dst ops out) :
    ops.lexOK = true → (∀ s ∈ dst, SubOK s) → ∀ s ∈ out, SubOK s :=
  Run.forall_mem (Q := fun ops => ops.lexOK = true) (Qo := fun o => o.lexOK = true)
    (Qc := fun c => c.lexOK = true)
    (fun o rest h => by rwa [OpList.lexOK, Bool.and_eq_true] at h)
    (fun _ _ _ _ _ _ _ _ _ _ _ h => by rwa [Op.lexOK, Bool.and_eq_true, Tabular.lexOK] at h)
    chain_subOK
    (fun o _ _ _ _ ho => store_subOK o ho (chain_subOK ..))
    (fun o _ _ ho hl => store_subOK o ho hl)
    (fun conds unique kw l r cond n hc hkw hl hw =>
      ⟨joinSource_good unique (leftSrc := l) (hl.elim (· ▸ good_nil) fun ⟨m, hm⟩ => hm ▸ good_qid m)
        (writeExpr_Good ⟨src, scope, .join⟩ hsc ((buildJoin_lexOK_eq conds).trans hc) hw) hkw r,
       fun _ h => (nomatch h), fun _ h => (nomatch h), fun _ h => (nomatch h)⟩) h 0

theorem splitOps_subOK (src : Bytes) (scope : List (Bytes × List Chunk)) (hsc : ScopeAdj scope) :
    ∀ (ops : OpList) (source : Option Ident) (dstStart : Nat) (dst out : List Subquery),
      ops.lexOK = true → (∀ s ∈ dst, SubOK s) →
      splitOps src scope source dstStart dst ops = .ok out → ∀ s ∈ out, SubOK s :=
  fun ops source dstStart dst out hok hd h => run_subOK hsc (splitOps_run src scope ops source dstStart dst out h) hok hd

theorem splitQueries_subOK (src : Bytes) (scope : List (Bytes × List Chunk)) (hsc : ScopeAdj scope)
    (t : Tabular) (dst out : List Subquery) (hok : t.lexOK = true) (hd : ∀ s ∈ dst, SubOK s)
    (h : splitQueries src scope dst t = .ok out) : ∀ s ∈ out, SubOK s := by
  obtain ⟨source, ops, mid, rfl, hrun, rfl⟩ := splitQueries_run src scope t dst out h
  exact forall_closeBlock (run_subOK hsc hrun (by rwa [Tabular.lexOK] at hok) hd) (chain_subOK ..)

end Pql.C05

namespace Pql

/-- the side condition on a program: the value of every `let` before the query is `Expr.lexOK`,
    and the query is `Tabular.lexOK` (statements after the query are not compiled: further `let`s
    are skipped, a second query is an error) -/
def stmtsLexOK : List Stmt → Bool
  | [] => true
  | .tabular t :: _ => t.lexOK
  | .let_ _ _ _ x :: rest => x.lexOK && stmtsLexOK rest

end Pql

namespace Pql.C05
open Pql Sql LexRender

theorem compileStmts_inv (src : Bytes) {stmts : List Stmt} {scope : List (Bytes × List Chunk)}
    {r : List (Bytes × List Chunk) × Option Tabular} (hs : ScopeAdj scope) (hok : stmtsLexOK stmts = true)
    (h : compileStmts src stmts scope none = .ok r) : ScopeAdj r.1 ∧ ∀ t, r.2 = some t → t.lexOK = true :=
  compileStmts_induct src
    (motive := fun stmts scope r => ScopeAdj scope → stmtsLexOK stmts = true →
      ScopeAdj r.1 ∧ ∀ t, r.2 = some t → t.lexOK = true)
    (fun _ hs _ => ⟨hs, fun _ e => nomatch e⟩)
    (fun _ _ hs hok => ⟨hs, fun _ e => Option.some.inj e ▸ hok⟩)
    (fun _ n _ _ _ hw ih hs hok => by
      rw [stmtsLexOK, Bool.and_eq_true] at hok
      exact ih (scopeAdj_cons hs src .let_ hok.1 hw n.name) hok.2)
    h hs hok

theorem good_semicolon {body : List Chunk} (hb : Good body) (pre : List Chunk)
    (hpre : ∀ rest, AdjC rest pre = true) : Adj (pre ++ body ++ [Chunk.txt ";"]) = true := by
  have hsemi : AdjC [] [Chunk.txt ";"] = true := adj_txt_inert (by decide) (AdjC_nil _)
  unfold Adj
  rw [List.append_assoc]
  exact AdjC_append (hpre _) (good_app_txt hb (by decide) hsemi)

theorem finish_adj (src : Bytes) (scope : List (Bytes × List Chunk)) (hsc : ScopeAdj scope) (t : Tabular)
    (ht : t.lexOK = true) (cs : List Chunk) (hc : C14.finishChunks src scope (some t) = .ok cs) :
    Adj cs = true := by
  obtain ⟨ctes, query, body, hs, hb, hcase⟩ := C14.finishChunks_tabular src scope t cs hc
  have hall := splitQueries_subOK src scope hsc t [] _ ht (by simp) hs
  have hq := write_good ⟨src, scope, .default⟩ hsc (hall query (by simp)) hb
  rcases hcase with ⟨_, rfl⟩ | ⟨_, c, hcte, rfl⟩
  · exact good_semicolon hq [] fun rest => AdjC_nil _
  · exact good_semicolon hq _ fun rest => adj_txt_inert (by decide)
      (writeCtes_adj ⟨src, scope, .default⟩ hsc ctes (fun s h => hall s (List.mem_append_left _ h)) c hcte rest)

/-- **the chunks of a program compiled from any adjacent initial scope are adjacent** (the
    initial scope is what the parameters provide) -/
theorem program_adj_from (src : Bytes) (scope0 : List (Bytes × List Chunk)) (hs0 : ScopeAdj scope0)
    (stmts : List Stmt) (cs : List Chunk) (hok : stmtsLexOK stmts = true)
    (hc : (compileStmts src stmts scope0 none >>= fun r => C14.finishChunks src r.1 r.2) = .ok cs) :
    Adj cs = true := by
  obtain ⟨⟨scope, q⟩, hx, hc⟩ := bind_ok hc
  obtain ⟨hsc, hq⟩ := compileStmts_inv src hs0 hok hx
  dsimp only at hc
  cases q with
  | none => simp only [C14.finishChunks] at hc; cases hc
  | some t => exact finish_adj src scope hsc t (hq t rfl) cs hc

theorem program_adj (src : Bytes) (stmts : List Stmt) (cs : List Chunk)
    (hok : stmtsLexOK stmts = true)
    (hc : compileChunks src [] stmts = .ok cs) : Adj cs = true := by
  rw [C14.compileChunks_eq] at hc
  exact program_adj_from src [] scopeAdj_nil stmts cs hok hc

end Pql.C05
