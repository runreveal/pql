/-
Decidable sufficient conditions for the side facts `TabOK`, and inertness of programs under
content maps that rename nothing.

Content maps that keep the positions keep every `Span()`; so against the *same* source text the
alias of an unnamed column is the same text, and the slice condition `sliceOp` holds trivially.
-/
import PqlModel.Lemmas.ShapeCompile
namespace Pql

mutual
def TabAll (P : Op → Bool) : Tabular → Bool
  | .nil => true
  | .mk _ ops => OpsAll P ops
def OpsAll (P : Op → Bool) : OpList → Bool
  | .nil => true
  | .cons o os => OpAll P o && OpsAll P os
def OpAll (P : Op → Bool) : Op → Bool
  | .join _ _ _ _ _ _ right _ _ _ => TabAll P right
  | o => P o
end

section
variable {φ : CMap} {R : List Chunk → List Chunk → Prop} {src src' : Bytes} {P : Op → Bool}

mutual
theorem TabOK_of_all (hP : ∀ o, P o = true → OpOK φ R src src' o) :
    (t : Tabular) → TabAll P t = true → TabOK φ R src src' t
  | .nil, _ => by simp only [TabOK]
  | .mk _ ops, h => by
    simp only [TabAll] at h
    simp only [TabOK]
    exact OpsOK_of_all hP ops h
theorem OpsOK_of_all (hP : ∀ o, P o = true → OpOK φ R src src' o) :
    (ops : OpList) → OpsAll P ops = true → OpsOK φ R src src' ops
  | .nil, _ => by simp only [OpsOK]
  | .cons o os, h => by
    simp only [OpsAll, Bool.and_eq_true] at h
    simp only [OpsOK]
    refine ⟨?_, OpsOK_of_all hP os h.2⟩
    cases o with
    | join p k kind ka fl lp right rp on conds =>
      simp only [OpAll] at h
      simp only [OpOKJ]
      exact TabOK_of_all hP right h.1
    | _ => exact hP _ h.1
end

end

theorem SubOK_of_all {φ : CMap} {R : List Chunk → List Chunk → Prop} {src src' : Bytes} {P : Op → Bool}
    (hP : ∀ o, P o = true → OpOK φ R src src' o) {sub : Subquery}
    (h : (match sub.op with | some o => P o | none => true) = true) : SubOK φ R src src' sub := by
  unfold SubOK
  cases hop : sub.op with
  | none => trivial
  | some o =>
    rw [hop] at h
    exact hP o h

theorem sliceSource_error {src : Bytes} {sp : Span} {e : WErr} (h : sliceSource src sp = .error e) : e = .panic := by
  unfold sliceSource at h
  split at h
  · cases h
  · cases h; rfl

/-- the alias of every unnamed column can be cut from the old source iff it can be cut from the new -/
def sliceCols (φ : CMap) (src src' : Bytes) (cs : List Column) : Bool :=
  cs.all fun c => c.name.isSome || ((sliceSource src c.x.spanOf).isOk == (sliceSource src' (mapE φ c.x).spanOf).isOk)

def sliceOp (φ : CMap) (src src' : Bytes) : Op → Bool
  | .extend _ _ cs => sliceCols φ src src' cs
  | .summarize _ _ cs _ gs => sliceCols φ src src' cs && sliceCols φ src src' gs
  | _ => true

theorem aliasRel_of_sliceCols {φ : CMap} {src src' : Bytes} {cs : List Column} (h : sliceCols φ src src' cs = true) :
    ∀ c ∈ cs, AliasRel φ SameShape src src' c := by
  intro c hc hn
  simp only [sliceCols, List.all_eq_true] at h
  have := h c hc
  simp only [hn, Option.isSome_none, Bool.false_or, beq_iff_eq] at this
  revert this
  cases h1 : sliceSource src c.x.spanOf with
  | error e =>
    cases h2 : sliceSource src' (mapE φ c.x).spanOf with
    | error e' =>
      intro _
      rw [sliceSource_error h1, sliceSource_error h2]
      exact ExRel.error_error _
    | ok _ => intro h; cases h
  | ok t =>
    cases h2 : sliceSource src' (mapE φ c.x).spanOf with
    | error e' => intro h; cases h
    | ok t' => intro _; exact (rfl : SameShape [.qid t] [.qid t'])

theorem opOK_shape {φ : CMap} {src src' : Bytes} (o : Op) (h : sliceOp φ src src' o = true) :
    OpOK φ SameShape src src' o := by
  cases o with
  | extend p k cs =>
    simp only [sliceOp] at h
    simp only [OpOK]
    exact aliasRel_of_sliceCols h
  | summarize p k cs b gs =>
    simp only [sliceOp, Bool.and_eq_true] at h
    simp only [OpOK]
    exact ⟨aliasRel_of_sliceCols h.1, aliasRel_of_sliceCols h.2⟩
  | project p k cs =>
    simp only [OpOK]
    exact fun _ _ _ => rfl
  | render p k ch w lp props rp =>
    simp only [OpOK]
    exact ⟨rfl, fun _ _ => ⟨rfl, rfl⟩⟩
  | _ => simp only [OpOK]

theorem SameShape.splitCong (φ : CMap) : SplitCong φ SameShape := ⟨SameShape.cong φ, fun _ => rfl, rfl⟩

def colsNamedB (cs : List Column) : Bool := cs.all fun c => c.name.isSome

def exactOp : Op → Bool
  | .extend _ _ cs => colsNamedB cs
  | .summarize _ _ cs _ gs => colsNamedB cs && colsNamedB gs
  | .render .. => false
  | _ => true

theorem aliasRel_of_named {φ : CMap} {R : List Chunk → List Chunk → Prop} {src src' : Bytes} {cs : List Column}
    (h : colsNamedB cs = true) : ∀ c ∈ cs, AliasRel φ R src src' c := by
  intro c hc hn
  simp only [colsNamedB, List.all_eq_true] at h
  have := h c hc
  rw [hn] at this
  cases this

theorem opOK_exact {φ : CMap} {src src' : Bytes} (hnil : φ.fn [] = []) (o : Op) (h : exactOp o = true) :
    OpOK φ (MapsTo φ) src src' o := by
  cases o with
  | extend p k cs =>
    simp only [exactOp] at h
    simp only [OpOK]
    exact aliasRel_of_named h
  | summarize p k cs b gs =>
    simp only [exactOp, Bool.and_eq_true] at h
    simp only [OpOK]
    exact ⟨aliasRel_of_named h.1, aliasRel_of_named h.2⟩
  | project p k cs =>
    simp only [OpOK]
    intro _ _ _
    show [Chunk.qid []] = [Chunk.qid (φ.fn [])]
    rw [hnil]
  | render p k ch w lp props rp => simp only [exactOp] at h; cases h
  | _ => simp only [OpOK]

theorem MapsTo.splitCong (φ : CMap) (hgen : ∀ i, φ.fn (subqueryName i) = subqueryName i) (hnil : φ.fn [] = []) :
    SplitCong φ (MapsTo φ) :=
  ⟨MapsTo.cong φ, fun i => by show [Chunk.qid _] = [Chunk.qid (φ.fn _)]; rw [hgen],
    by show [Chunk.qid []] = [Chunk.qid (φ.fn [])]; rw [hnil]⟩

section
variable {φ : CMap} (hn : ∀ n, φ.fn n = n)
include hn

theorem inertTerms_of_fn_id (s : Scope) (m : Mode) (ts : List SortTerm) : inertTerms s m φ ts = true := by
  simp only [inertTerms, List.all_eq_true]
  exact fun t _ => inertE_of_fn_id hn s m t.x

theorem inertCols_of_fn_id (s : Scope) (m : Mode) (cs : List Column) : inertCols s m φ cs = true := by
  simp only [inertCols, List.all_eq_true]
  exact fun c _ => inertE_of_fn_id hn s m c.x

theorem inertOp_of_fn_id (s : Scope) (m : Mode) (o : Op) : inertOp s m φ o = true := by
  cases o <;> simp only [inertOp, inertE_of_fn_id hn, inertCols_of_fn_id hn, Bool.and_self, List.all_eq_true,
    implies_true]

theorem inertSub_of_fn_id (s : Scope) (m : Mode) (sub : Subquery) : inertSub s m φ sub = true := by
  simp only [inertSub, Bool.and_eq_true]
  refine ⟨⟨?_, ?_⟩, ?_⟩
  · cases sub.op with
    | none => rfl
    | some o => exact inertOp_of_fn_id hn s m o
  · cases sub.sort with
    | none => rfl
    | some ts => exact inertTerms_of_fn_id hn s m ts
  · cases sub.take with
    | none => rfl
    | some n => exact inertE_of_fn_id hn s m n

theorem fixesAliases_of_fn_id : fixesAliases φ = true := by
  simp only [fixesAliases, hn, beq_self_eq_true, Bool.and_self]

mutual
theorem inertT_of_fn_id (s : Scope) : (t : Tabular) → inertT s φ t = true
  | .nil => by simp only [inertT]
  | .mk _ ops => by simp only [inertT, inertOps_of_fn_id s ops]
theorem inertOps_of_fn_id (s : Scope) : (ops : OpList) → inertOps s φ ops = true
  | .nil => by simp only [inertOps]
  | .cons o os => by
    simp only [inertOps, inertOps_of_fn_id s os, Bool.and_true]
    cases o with
    | join p k kind ka fl lp right rp on conds =>
      simp only [inertO, inertT_of_fn_id s right, inertL_of_fn_id hn, fixesAliases_of_fn_id hn, Bool.and_self]
    | sort p k ts => simp only [inertO, inertTerms_of_fn_id hn]
    | take p k n => simp only [inertO, inertE_of_fn_id hn]
    | top p k n b c =>
      cases c <;> simp only [inertO, inertTermOpt, inertE_of_fn_id hn, Bool.and_self]
    | _ => simp only [inertO, inertOp_of_fn_id hn]
end

theorem inertProg_of_fn_id (src : Bytes) : (stmts : List Stmt) → (scope : Scope) → (q : Option Tabular) →
    inertProg src φ stmts scope q = true
  | [], scope, q => by
    cases q <;> simp only [inertProg, inertT_of_fn_id hn]
  | .tabular t :: rest, scope, q => by
    cases q with
    | some _ => simp only [inertProg]
    | none =>
      simp only [inertProg]
      exact inertProg_of_fn_id src rest scope (some t)
  | .let_ _ name _ x :: rest, scope, q => by
    cases q with
    | some t =>
      simp only [inertProg]
      exact inertProg_of_fn_id src rest scope (some t)
    | none =>
      simp only [inertProg, inertE_of_fn_id hn, Bool.true_and]
      split
      · exact inertProg_of_fn_id src rest _ none
      · rfl

end

section
variable {φ : CMap} (hsp : ∀ sp, φ.fsp sp = sp)
include hsp

mutual
theorem spanOf_mapE : (e : Expr) → (mapE φ e).spanOf = e.spanOf
  | .nil => by simp only [mapE]
  | .qident parts => by
    simp only [mapE, Expr.spanOf, List.map_map]
    congr 2
    funext p
    simp only [Function.comp, CMap.ident, hsp]
  | .lit sp k v => by simp only [mapE, Expr.spanOf, hsp]
  | .unary os op x | .paren os x op => by simp only [mapE, Expr.spanOf, hsp, spanOf_mapE x]
  | .binary x os op y | .index x os y op => by simp only [mapE, Expr.spanOf, hsp, spanOf_mapE x, spanOf_mapE y]
  | .inE x i lp vals rp => by simp only [mapE, Expr.spanOf, hsp, spanOf_mapE x, spansOf_mapL vals]
  | .call fn lp args rp => by simp only [mapE, Expr.spanOf, hsp, CMap.fnIdent, spansOf_mapL args]
theorem spansOf_mapL : (es : ExprList) → (mapL φ es).spansOf = es.spansOf
  | .nil => by simp only [mapL]
  | .cons e es => by simp only [mapL, ExprList.spansOf, spanOf_mapE e, spansOf_mapL es]
end

theorem sliceCols_self (src : Bytes) (cs : List Column) : sliceCols φ src src cs = true := by
  simp only [sliceCols, List.all_eq_true, spanOf_mapE hsp, beq_self_eq_true, Bool.or_true, implies_true]

theorem sliceOp_self (src : Bytes) (o : Op) : sliceOp φ src src o = true := by
  cases o <;> simp only [sliceOp, sliceCols_self hsp, Bool.and_self]

end

mutual
theorem TabAll_of_forall {P : Op → Bool} (h : ∀ o, P o = true) : (t : Tabular) → TabAll P t = true
  | .nil => by simp only [TabAll]
  | .mk _ ops => by simp only [TabAll, OpsAll_of_forall h ops]
theorem OpsAll_of_forall {P : Op → Bool} (h : ∀ o, P o = true) : (ops : OpList) → OpsAll P ops = true
  | .nil => by simp only [OpsAll]
  | .cons o os => by
    simp only [OpsAll, OpsAll_of_forall h os, Bool.and_true]
    cases o with
    | join p k kind ka fl lp right rp on conds => simp only [OpAll, TabAll_of_forall h right]
    | _ => simp only [OpAll, h]
end

end Pql
