/-
Who reads whom (C05, clause 4): the block structure of the subquery list `splitQueries`
produces, by induction over `Run` (Lemmas/SplitQueriesRun.lean).
-/
import PqlModel.Lemmas.SplitQueriesClauses
import PqlModel.Lemmas.SplitQueriesInv
namespace Pql.SplitQ
open Pql

def prevName (source : Option Ident) (blk : List Subquery) : Bytes :=
  match blk.getLast? with
  | some s => s.name
  | none => identName source

/-- The block of subqueries one pipeline (`source | ops`) contributes.
    * `chain`: a subquery reading the previous subquery of the same block (the base table for
      the first one);
    * `join`: the complete block `rblk` of the right-hand pipeline (it has its own base table
      `rsource`), followed by the join subquery, whose left side is what a chained subquery
      would have read (the subquery in front of the right-hand block, or the base table) and
      whose right side is the last subquery of the right-hand block.
    `joins = false` describes join-free pipelines. -/
inductive Block (joins : Bool) : Option Ident → List Subquery → Prop
  | nil {source} : Block joins source []
  | chain {source blk} (s : Subquery) :
      Block joins source blk → s.source = [.qid (prevName source blk)] → Block joins source (blk ++ [s])
  | join {source blk} (rsource : Option Ident) (rblk : List Subquery) (r s : Subquery)
      (unique : Bool) (kw : String) (cond : List Chunk) :
      joins = true →
      Block joins source blk → Block joins rsource rblk → rblk.getLast? = some r →
      s.source = joinSourceOf unique kw [.qid (prevName source blk)] r.name cond →
      Block joins source (blk ++ rblk ++ [s])

theorem snoc_inj {α : Type} {a b : List α} {x y : α} (h : a ++ [x] = b ++ [y]) : a = b ∧ x = y := by
  have := List.append_inj' h rfl
  exact ⟨this.1, by simpa using this.2⟩

theorem Block.congr_last {joins : Bool} {source : Option Ident} {blk : List Subquery} {s s' : Subquery}
    (h : Block joins source (blk ++ [s])) (hsrc : s'.source = s.source) :
    Block joins source (blk ++ [s']) := by
  generalize hL : blk ++ [s] = L at h
  cases h with
  | nil => simp at hL
  | chain s0 hb hs0 =>
    obtain ⟨rfl, rfl⟩ := snoc_inj hL
    exact Block.chain s' hb (hsrc.trans hs0)
  | join rsource rblk r s0 unique kw cond hj hb hr hlast hs0 =>
    obtain ⟨rfl, rfl⟩ := snoc_inj hL
    exact Block.join rsource rblk r s' unique kw cond hj hb hr hlast (hsrc.trans hs0)

theorem chain_source (pre blk : List Subquery) (source : Option Ident) :
    (chainSubquery (pre ++ blk) pre.length source).source = [.qid (prevName source blk)] := by
  unfold chainSubquery prevName
  cases hb : blk.getLast? with
  | none =>
    have : blk = [] := by simpa using hb
    subst this; simp
  | some l =>
    obtain ⟨b0, rfl⟩ := List.getLast?_eq_some_iff.mp hb
    simp [← List.append_assoc]
    intro h; omega

/-- `dst[leftSubquery]` for `leftSubquery = len(pre ++ blk) - 1`, read after the block `rblk` of the right-hand
    side was appended: `leftSubquery ≥ len(pre)` exactly when `blk` has a last element, and that is what is read -/
theorem left_index {α : Type} (pre blk rblk : List α) :
    match blk.getLast? with
    | none => ¬ (((pre ++ blk).length : Int) - 1 ≥ (pre.length : Int))
    | some l => (((pre ++ blk).length : Int) - 1 ≥ (pre.length : Int)) ∧
        (pre ++ blk ++ rblk)[(((pre ++ blk).length : Int) - 1).toNat]? = some l := by
  cases hb : blk.getLast? with
  | none =>
    have : blk = [] := by simpa using hb
    subst this
    simp; omega
  | some l =>
    obtain ⟨b0, rfl⟩ := List.getLast?_eq_some_iff.mp hb
    have h2 : ((((pre ++ (b0 ++ [l])).length : Nat) : Int) - 1).toNat = (pre ++ b0).length := by
      simp; omega
    refine ⟨by simp; omega, ?_⟩
    have : pre ++ (b0 ++ [l]) ++ rblk = (pre ++ b0) ++ l :: rblk := by simp
    rw [h2, this, List.getElem?_append_right (Nat.le_refl _)]
    simp

theorem joinLeft_eq (pre blk rblk : List Subquery) (source : Option Ident) :
    joinLeft source pre.length (pre ++ blk).length (pre ++ blk ++ rblk) = [.qid (prevName source blk)] := by
  have h := left_index pre blk rblk
  unfold joinLeft prevName
  cases hb : blk.getLast? with
  | none => rw [hb] at h; rw [if_neg h]
  | some l => rw [hb] at h; rw [if_pos h.1, h.2]

theorem split_last {α : Type} {pre blk init : List α} {l : α} (h : init ++ [l] = pre ++ blk)
    (hk : pre.length ≤ init.length) : ∃ b0, blk = b0 ++ [l] ∧ init = pre ++ b0 := by
  rcases List.eq_nil_or_concat blk with rfl | ⟨b0, x, rfl⟩
  · have := congrArg List.length h
    simp at this; omega
  · rw [List.concat_eq_append, ← List.append_assoc] at h
    obtain ⟨h1, rfl⟩ := snoc_inj h
    exact ⟨b0, by simp, h1⟩

theorem block_closeBlock {joins : Bool} {dst rblk0 : List Subquery} {rsource : Option Ident}
    (hb : Block joins rsource rblk0) :
    ∃ rblk r, closeBlock (dst ++ rblk0) dst.length rsource = dst ++ rblk ∧ Block joins rsource rblk ∧
      rblk.getLast? = some r := by
  unfold closeBlock
  by_cases hlen : (dst ++ rblk0).length = dst.length
  · have : rblk0 = [] := by simpa using hlen
    subst this
    refine ⟨[chainSubquery (dst ++ []) dst.length rsource], _, by simp, ?_, rfl⟩
    have := Block.chain (chainSubquery (dst ++ []) dst.length rsource) hb (chain_source dst [] rsource)
    simpa using this
  · simp only [hlen, ↓reduceIte]
    rcases List.eq_nil_or_concat rblk0 with rfl | ⟨b0, x, rfl⟩
    · simp at hlen
    · exact ⟨_, x, rfl, hb, by simp⟩

theorem joinFree_tail {joins : Bool} {o : Op} {rest : OpList}
    (h : joinFree (.cons o rest) = true ∨ joins = true) : joinFree rest = true ∨ joins = true := by
  rw [joinFree_cons, Bool.and_eq_true] at h
  exact h.imp_left And.right

theorem run_block {joins : Bool} {src : Bytes} {scope : List (Bytes × List Chunk)} {source : Option Ident} {dstStart : Nat} {dst out : List Subquery} {ops : OpList}
    (h : Run src scope source dstStart dst ops out) :
    (joinFree ops = true ∨ joins = true) →
    ∀ pre blk, dst = pre ++ blk → pre.length = dstStart → Block joins source blk →
      ∃ blk', out = pre ++ blk' ∧ Block joins source blk' := by
  induction h with
  | nil => intro _ pre blk hd _ hb; exact ⟨blk, hd, hb⟩
  | chain o ho _ ih =>
    intro hj pre blk hd hp hb; subst hd; subst hp
    exact ih (joinFree_tail hj) pre (blk ++ [_]) (List.append_assoc _ _ _) rfl
      (Block.chain _ hb ((store_source ..).trans (chain_source pre blk _)))
  | attach o init l hk ha _ ih =>
    intro hj pre blk hd hp hb; subst hp
    obtain ⟨b0, rfl, rfl⟩ := split_last hd hk
    exact ih (joinFree_tail hj) pre (b0 ++ [_]) (List.append_assoc _ _ _) rfl (hb.congr_last (store_source ..))
  | @join source dstStart dst rest out p k kind ka flavor lp rsource rops rp on conds unique kw cond mid dst' hkw hcond _ hd' _ ih1 ih2 =>
    intro hj pre blk hd hp hb
    have hjt : joins = true := by
      rcases hj with hj | hj
      · simp [joinFree] at hj
      · exact hj
    obtain ⟨rblk0, hmid, hrb0⟩ := ih1 (.inr hjt) dst [] (by simp) rfl Block.nil
    subst hmid
    obtain ⟨rblk, r, hcb, hrb, hlast⟩ := block_closeBlock (dst := dst) hrb0
    rw [hcb] at hd'
    subst hd'; subst hd; subst hp
    have key : ∀ x : Subquery, pre ++ blk ++ rblk ++ [x] = pre ++ (blk ++ rblk ++ [x]) := fun x => by simp
    refine ih2 (joinFree_tail hj) pre (blk ++ rblk ++ [_]) (key _) rfl
      (Block.join rsource rblk r _ unique kw cond hjt hb hrb hlast ?_)
    show joinSourceOf _ _ _ _ _ = _
    rw [joinLeft_eq]
    have : joinRight (pre ++ blk ++ rblk) = r.name := by
      unfold joinRight
      obtain ⟨b0, rfl⟩ := List.getLast?_eq_some_iff.mp hlast
      simp [← List.append_assoc]
    rw [this]

theorem Block.reads_prev {source : Option Ident} {blk : List Subquery} (h : Block false source blk) :
    ∀ (i : Nat) (hi : i < blk.length), blk[i].source = [.qid (prevName source (blk.take i))] := by
  induction h with
  | nil => intro i hi; simp at hi
  | @chain source blk s hb hs ih =>
    intro i hi
    by_cases hlt : i < blk.length
    · rw [List.getElem_append_left hlt, List.take_append_of_le_length (Nat.le_of_lt hlt)]
      exact ih i hlt
    · have : i = blk.length := by simp at hi; omega
      subst this
      simpa using hs
  | join rsource rblk r s unique kw cond hj => cases hj

theorem prevName_take_zero (source : Option Ident) (blk : List Subquery) :
    prevName source (blk.take 0) = identName source := by simp [prevName]

theorem prevName_take_succ (source : Option Ident) (blk : List Subquery) (i : Nat) (hi : i < blk.length) :
    prevName source (blk.take (i + 1)) = blk[i].name := by
  unfold prevName
  have : blk.take (i + 1) = blk.take i ++ [blk[i]] := by simp
  rw [this, List.getLast?_concat]

theorem Block.mono {source : Option Ident} {blk : List Subquery} (h : Block false source blk) :
    Block true source blk := by
  induction h with
  | nil => exact Block.nil
  | chain s _ hs ih => exact Block.chain s ih hs
  | join rsource rblk r s unique kw cond hj => cases hj

end Pql.SplitQ
