/-
LexRender: chunks.  `atomize` cuts a fixed piece of SQL text into atoms (it is only a
proposal: `chunkOK` checks that the atoms render to exactly the text, so nothing has to be proved
about `atomize` itself); `AdjC rest cs` is the adjacency predicate on chunk lists and
`lexRender_of_adj` the compositional lexing lemma of the chunk level.
-/
import PqlModel.Lemmas.LexRenderAtoms
import PqlModel.Lemmas.SqlRoundtripToks
namespace Pql.LexRender
open Pql Sql

/-- body of a block comment before the first `*/`, and the text after it -/
def splitBlock : Bytes → Option (Bytes × Bytes)
  | [] => none
  | [_] => none
  | a :: b :: r =>
    if a == 42 && b == 47 then some ([], r)
    else (splitBlock (b :: r)).map fun p => (a :: p.1, p.2)

def atomizeAux : Nat → Bytes → List Atom
  | 0, _ => []
  | _ + 1, [] => []
  | f + 1, c :: rest =>
    if isSpaceB c then .sp c :: atomizeAux f rest
    else if isWordStart c then
      .word (c :: (spanWhile isWordCont rest).1) :: atomizeAux f (spanWhile isWordCont rest).2
    else if c == 47 && rest.head? == some 42 then
      match splitBlock rest.tail with
      | some (b, r) => .cmt b :: atomizeAux f r
      | none => []
    else if c == 34 then
      match lexQuoted .standard 34 rest with
      | some (v, r) => .qid v :: atomizeAux f r
      | none => []
    else if c == 39 then
      match lexQuoted .standard 39 rest with
      | some (v, r) => .str v :: atomizeAux f r
      | none => []
    else
      match rest with
      | d :: r =>
        if (twoCharSyms.find? (fun o => o.1 == c && o.2.1 == d)).isSome then .sym2 c d :: atomizeAux f r
        else .sym1 c :: atomizeAux f rest
      | [] => [.sym1 c]

def atomize (b : Bytes) : List Atom := atomizeAux (b.length + 1) b

def chunkAtoms : Chunk → List Atom
  | .txt s => atomize (Bytes.ofString s)
  | .qid n => [.qid n]
  | .qstr v => [.str v]
  | .num v => [.num v]
  | .fname v => [.word v]
  | .raw _ => []

/-- the atoms are a faithful cutting of the chunk's bytes (parameters' raw SQL is not covered) -/
def chunkOK : Chunk → Bool
  | .txt s => renderAtoms (atomize (Bytes.ofString s)) == Bytes.ofString s
  | .raw _ => false
  | _ => true

def atomsOf (cs : List Chunk) : List Atom := cs.flatMap chunkAtoms

def rawToksOf (cs : List Chunk) : List STok := rawToks (atomsOf cs)
def steps (cs : List Chunk) : Nat := (atomsOf cs).length

/-- **adjacency of a chunk list followed by `rest`**: every chunk is cut faithfully into atoms,
    every atom is well formed (`numOK` numbers, word-shaped function names, known symbols,
    terminated comments) and no atom is directly followed — inside its chunk, across a chunk
    boundary, or by `rest` — by a byte that would change its reading -/
def AdjC (rest : Bytes) (cs : List Chunk) : Bool := cs.all chunkOK && AdjBefore rest (atomsOf cs)

def Adj (cs : List Chunk) : Bool := AdjC [] cs

theorem atomsOf_cons (c : Chunk) (cs : List Chunk) : atomsOf (c :: cs) = chunkAtoms c ++ atomsOf cs := by
  simp [atomsOf]
theorem atomsOf_append (a b : List Chunk) : atomsOf (a ++ b) = atomsOf a ++ atomsOf b := by
  simp [atomsOf]
theorem renderChunks_cons (c : Chunk) (cs : List Chunk) : renderChunks (c :: cs) = c.bytes ++ renderChunks cs := by
  simp [renderChunks]
theorem renderChunks_append (a b : List Chunk) : renderChunks (a ++ b) = renderChunks a ++ renderChunks b := by
  simp [renderChunks]

theorem chunk_render {c : Chunk} (h : chunkOK c = true) : renderAtoms (chunkAtoms c) = c.bytes := by
  cases c with
  | txt s => simpa [chunkOK, chunkAtoms, Chunk.bytes] using h
  | raw v => simp [chunkOK] at h
  | _ => simp [chunkAtoms, renderAtoms, Atom.bytes, Chunk.bytes]

theorem render_atomsOf {cs : List Chunk} (h : cs.all chunkOK = true) :
    renderAtoms (atomsOf cs) = renderChunks cs := by
  induction cs with
  | nil => rfl
  | cons c r ih =>
    simp only [List.all_cons, Bool.and_eq_true] at h
    rw [atomsOf_cons, renderAtoms_append, renderChunks_cons, chunk_render h.1, ih h.2]

theorem AdjC_elim {rest : Bytes} {cs : List Chunk} (h : AdjC rest cs = true) :
    cs.all chunkOK = true ∧ AdjBefore rest (atomsOf cs) = true := by
  simpa [AdjC] using h

theorem AdjC_nil (rest : Bytes) : AdjC rest [] = true := rfl

theorem AdjC_append {rest : Bytes} {a b : List Chunk} (ha : AdjC (renderChunks b ++ rest) a = true)
    (hb : AdjC rest b = true) : AdjC rest (a ++ b) = true := by
  obtain ⟨ha1, ha2⟩ := AdjC_elim ha
  obtain ⟨hb1, hb2⟩ := AdjC_elim hb
  simp only [AdjC, List.all_append, ha1, hb1, Bool.and_self, atomsOf_append,
    AdjBefore_append, render_atomsOf hb1, ha2, hb2]

theorem AdjC_cons {rest : Bytes} {c : Chunk} {b : List Chunk} (ha : AdjC (renderChunks b ++ rest) [c] = true)
    (hb : AdjC rest b = true) : AdjC rest (c :: b) = true :=
  AdjC_append (a := [c]) ha hb

theorem AdjC_split {rest : Bytes} {a b : List Chunk} (h : AdjC rest (a ++ b) = true) :
    AdjC (renderChunks b ++ rest) a = true ∧ AdjC rest b = true := by
  obtain ⟨h1, h2⟩ := AdjC_elim h
  simp only [List.all_append, Bool.and_eq_true] at h1
  simp only [atomsOf_append, AdjBefore_append, Bool.and_eq_true, render_atomsOf h1.2] at h2
  simp [AdjC, h1.1, h1.2, h2.1, h2.2]

theorem chunkToks_eq {c : Chunk} (hok : chunkOK c = true) (hadj : AdjBefore [] (chunkAtoms c) = true) :
    (rawToks (chunkAtoms c)).filter (· != .comment) = chunkToks c := by
  cases c with
  | txt s =>
    have := lex_atoms _ hadj
    rw [chunk_render hok] at this
    simp only [Chunk.bytes] at this
    simp only [chunkToks, txtToks, this, Option.getD_some]
  | raw v => simp [chunkOK] at hok
  | _ => simp [chunkAtoms, rawToks, Atom.toks, chunkToks]

theorem toksOf_eq {rest : Bytes} {cs : List Chunk} (h : AdjC rest cs = true) :
    (rawToksOf cs).filter (· != .comment) = toksOf cs := by
  induction cs generalizing rest with
  | nil => rfl
  | cons c r ih =>
    have hs := AdjC_split (a := [c]) (b := r) h
    obtain ⟨h1, h2⟩ := AdjC_elim hs.1
    simp only [List.all_cons, List.all_nil, Bool.and_true] at h1
    have h2' : AdjBefore (renderChunks r ++ rest) (chunkAtoms c) = true := by
      simpa [atomsOf] using h2
    rw [rawToksOf, atomsOf_cons, rawToks_append, List.filter_append, RT.toksOf_cons,
      chunkToks_eq h1 (AdjBefore_nil_of h2')]
    congr 1
    exact ih hs.2

theorem lexRender_of_adj_raw (cs : List Chunk) (rest : Bytes) (fuel : Nat) (h : AdjC rest cs = true) :
    lexAux .standard (fuel + steps cs) (renderChunks cs ++ rest) =
      (lexAux .standard fuel rest).map (rawToksOf cs ++ ·) := by
  obtain ⟨h1, h2⟩ := AdjC_elim h
  rw [← render_atomsOf h1]
  exact lexAux_atoms _ fuel rest h2

theorem lexRender_of_adj (cs : List Chunk) (rest : Bytes) (fuel : Nat) (h : AdjC rest cs = true) :
    (lexAux .standard (fuel + steps cs) (renderChunks cs ++ rest)).map (·.filter (· != .comment)) =
      (lexAux .standard fuel rest).map (fun ts => toksOf cs ++ ts.filter (· != .comment)) := by
  rw [lexRender_of_adj_raw cs rest fuel h, ← toksOf_eq h]
  cases lexAux .standard fuel rest <;> simp

/-- `steps cs` never exceeds the fuel `Sql.lex` supplies -/
theorem steps_le {rest : Bytes} {cs : List Chunk} (h : AdjC rest cs = true) :
    steps cs ≤ (renderChunks cs).length := by
  obtain ⟨h1, h2⟩ := AdjC_elim h
  rw [← render_atomsOf h1]; exact adj_length_le h2

theorem lexRender_of_adj_top (cs : List Chunk) (h : Adj cs = true) :
    lex .standard (renderChunks cs) = some (toksOf cs) := by
  obtain ⟨h1, h2⟩ := AdjC_elim h
  rw [← render_atomsOf h1, lex_atoms _ h2]
  exact congrArg some (toksOf_eq h)

end Pql.LexRender
