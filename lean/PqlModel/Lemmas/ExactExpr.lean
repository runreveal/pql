/-
C13 exactness, expressions: `writeExpr` agrees with `Misuse.badExpr` on every
expression whose binary operators are ones the compiler translates (`opsKnown`; the parser
produces no others).  Nil sub-expressions need no exclusion here: both sides accept them.
-/
import PqlModel.Lemmas.ExactBasic
import PqlModel.Props.C01
import PqlModel.Lemmas.WriterCases
namespace Pql.Exact
open Pql

theorem arityRejects_ne {w : String} {k n : Nat}
    (h1 : Facts.writerArityGuard.find? (·.1 == w) = some (w, "!=", k))
    (h : arityRejects w n = false) : n = k := by
  unfold arityRejects at h
  rw [h1] at h
  simpa using h

theorem arityRejects_eq0 {w : String} {n : Nat}
    (h1 : Facts.writerArityGuard.find? (·.1 == w) = some (w, "==", 0))
    (h : arityRejects w n = false) : n ≠ 0 := by
  unfold arityRejects at h
  rw [h1] at h
  simpa using h

theorem assembleKnown_ok :
    ∀ row ∈ Facts.knownFunctions, ∀ l : List (Expr × List Chunk),
      arityRejects row.2.1 l.length = false → ∃ cs, assembleKnown row.2.1 l = .ok cs := by
  intro row hrow l h
  simp only [Facts.knownFunctions, List.mem_cons, List.not_mem_nil, or_false] at hrow
  -- one bullet per row, in the order of the regenerated table `Facts.knownFunctions` (sorted by name)
  rcases hrow with hr | hr | hr | hr | hr | hr | hr | hr | hr | hr | hr <;> subst hr
  · exact ⟨_, C01.assembleKnown_count l⟩
  · have := arityRejects_ne (k := 1) (by decide) h
    match l, this with
    | [a], _ => exact ⟨_, C01.assembleKnown_countif _⟩
  · have := arityRejects_ne (k := 3) (by decide) h
    match l, this with
    | [a, b, c], _ => exact ⟨_, C01.assembleKnown_if _⟩
  · have := arityRejects_ne (k := 3) (by decide) h
    match l, this with
    | [a, b, c], _ => exact ⟨_, C01.assembleKnown_if _⟩
  · have := arityRejects_ne (k := 1) (by decide) h
    match l, this with
    | [a], _ => exact ⟨_, C01.assembleKnown_isnotnull _⟩
  · have := arityRejects_ne (k := 1) (by decide) h
    match l, this with
    | [a], _ => exact ⟨_, C01.assembleKnown_isnull _⟩
  · have := arityRejects_ne (k := 1) (by decide) h
    match l, this with
    | [a], _ => exact ⟨_, C01.assembleKnown_not _⟩
  · exact ⟨_, C01.assembleKnown_now l⟩
  · have := arityRejects_eq0 (by decide) h
    match l, this with
    | a :: l', _ => exact ⟨_, C01.assembleKnown_strcat _⟩
  · have := arityRejects_ne (k := 1) (by decide) h
    match l, this with
    | [a], _ => exact ⟨_, C01.assembleKnown_tolower _⟩
  · have := arityRejects_ne (k := 1) (by decide) h
    match l, this with
    | [a], _ => exact ⟨_, C01.assembleKnown_toupper _⟩

theorem tokKind_mem_all (k : TokKind) : k ∈ TokKind.all := by cases k <;> decide

/-- the binary operators `writeExpression` translates (all the parser produces) -/
def knownBinOp (op : TokKind) : Bool :=
  op == .eq || op == .ne || op == .cieq || op == .cine || (binaryOpText op).isSome

/-- the four operators `writeExpression` treats itself and the rows of the regenerated table
    `binaryOps`, listed -/
theorem knownBinOp_iff (op : TokKind) : knownBinOp op = true ↔
    op ∈ [.eq, .ne, .cieq, .cine, .and_, .or_, .plus, .minus, .star, .slash, .mod, .lt, .le, .gt, .ge] := by
  have all : ∀ k ∈ TokKind.all, (knownBinOp k = true ↔
      k ∈ [.eq, .ne, .cieq, .cine, .and_, .or_, .plus, .minus, .star, .slash, .mod, .lt, .le, .gt, .ge]) := by
    decide +kernel
  exact all op (tokKind_mem_all op)

mutual
def opsKnown : Expr → Bool
  | .nil => true
  | .qident _ => true
  | .lit .. => true
  | .unary _ _ x => opsKnown x
  | .binary x _ op y => knownBinOp op && (opsKnown x && opsKnown y)
  | .inE x _ _ vals _ => opsKnown x && opsKnownList vals
  | .paren _ x _ => opsKnown x
  | .call _ _ args _ => opsKnownList args
  | .index x _ idx _ => opsKnown x && opsKnown idx
def opsKnownList : ExprList → Bool
  | .nil => true
  | .cons e es => opsKnown e && opsKnownList es
end

def posOf : Mode → Misuse.Pos
  | .default => .plain
  | .join => .join
  | .let_ => .letValue

theorem posOf_letValue (m : Mode) : (posOf m == Misuse.Pos.letValue) = decide (m = .let_) := by
  cases m <;> rfl

theorem posOf_ne_join (m : Mode) : (posOf m != Misuse.Pos.join) = decide (m ≠ .join) := by
  cases m <;> rfl

theorem writeList_length (ctx : Ctx) : ∀ (es : ExprList) (as : List (List Chunk)),
    writeList ctx es = .ok as → as.length = es.length
  | .nil, as, h => by
    rw [writeList] at h
    cases h; rfl
  | .cons e es, as, h => by
    rw [writeList] at h
    obtain ⟨x, -, h⟩ := LexRender.bind_ok h
    obtain ⟨xs, hxs, h⟩ := LexRender.bind_ok h
    cases h
    simp only [List.length_cons, ExprList.length, writeList_length ctx es xs hxs]

theorem toList_length : ∀ es : ExprList, es.toList.length = es.length
  | .nil => rfl
  | .cons e es => by simp only [ExprList.toList, ExprList.length, List.length_cons, toList_length es]

theorem Agrees.ite_err {α : Type} (c : Bool) (x : α) :
    Agrees (if c = true then (Except.error .err : Except WErr α) else .ok x) c := by
  cases c
  · exact Agrees.ok _
  · exact Agrees.err

theorem Agrees.guard {α : Type} {c : Prop} [Decidable c] {r : Except WErr α} {b : Bool} (h : Agrees r b) :
    Agrees (if c then .error .err else r) (if decide c = true then true else b) := by
  by_cases hc : c
  · rw [if_pos hc, decide_eq_true hc]; exact Agrees.err
  · rw [if_neg hc, decide_eq_false hc]; exact h

theorem aliasErr_eq (m : Mode) (p : Ident) :
    aliasErr m p = (!p.quoted && Misuse.isAlias p.name && (posOf m != Misuse.Pos.join)) := by
  rw [posOf_ne_join, isAlias_eq]; rfl

theorem any_aliasErr (m : Mode) (parts : List Ident) :
    parts.any (aliasErr m) =
      ((parts.any fun p => !p.quoted && Misuse.isAlias p.name) && posOf m != Misuse.Pos.join) := by
  rw [funext (aliasErr_eq m)]
  cases posOf m != Misuse.Pos.join
  · simp only [Bool.and_false, List.any_eq_false, Bool.false_eq_true, not_false_eq_true, implies_true]
  · simp only [Bool.and_true]

/-- the writer's tests on a name, in the order in which it makes them, are the specification's -/
theorem writeQident_agrees (ctx : Ctx) (parts : List Ident) :
    Agrees (writeExpr ctx (.qident parts))
      (Misuse.badExpr (posOf ctx.mode) (names ctx.scope) (.qident parts)) := by
  by_cases h : parts.length = 1
  · match parts, h with
    | [p], _ =>
      rw [writeExpr_qident_single, Misuse.badExpr, ← lookupScope_isSome, ← builtinIdent_isSome, posOf_letValue,
        aliasErr_eq]
      cases p.quoted
      · cases lookupScope ctx.scope p.name with
        | some sql => exact Agrees.ok _
        | none =>
          cases builtinIdent p.name with
          | some sql => exact Agrees.ok _
          | none => exact Agrees.guard (Agrees.ite_err _ _)
      · exact Agrees.guard (Agrees.ok _)
  · rw [writeExpr_qident_multi _ _ h, Misuse.badExpr, posOf_letValue, any_aliasErr]
    · exact Agrees.guard (Agrees.ite_err _ _)
    all_goals exact fun p hp => h (by rw [hp]; rfl)

theorem binaryOpText_eq_none_of (op : TokKind) (h : knownBinOp op = true)
    (h1 : op ≠ .eq) (h2 : op ≠ .ne) (h3 : op ≠ .cieq) (h4 : op ≠ .cine) :
    ∃ sql, binaryOpText op = some sql := by
  unfold knownBinOp at h
  simp only [Bool.or_eq_true, beq_iff_eq, h1, h2, h3, h4, false_or] at h
  exact Option.isSome_iff_exists.1 h

mutual
theorem writeExpr_agrees (ctx : Ctx) : ∀ e : Expr, opsKnown e = true →
    Agrees (writeExpr ctx e) (Misuse.badExpr (posOf ctx.mode) (names ctx.scope) e)
  | .nil, _ => by rw [writeExpr, Misuse.badExpr]; exact Agrees.ok _
  | .qident parts, _ => writeQident_agrees ctx parts
  | .lit _ k v, _ => by
    rw [writeExpr, Misuse.badExpr]
    split
    · exact Agrees.ok _
    · split <;> exact Agrees.ok _
  | .paren _ x _, h => by
    rw [writeExpr, Misuse.badExpr]
    rw [opsKnown] at h
    exact writeExpr_agrees ctx x h
  | .unary _ op x, h => by
    rw [writeExpr, Misuse.badExpr]
    rw [opsKnown] at h
    exact Agrees.bind_pure _ (Agrees.map _ (writeExpr_agrees ctx x h))
  | .binary x _ op y, h => by
    rw [opsKnown, Bool.and_eq_true, Bool.and_eq_true] at h
    have ihx := writeExpr_agrees ctx x h.2.1
    have ihy := writeExpr_agrees ctx y h.2.2
    rw [writeExpr, Misuse.badExpr]
    split
    · dsimp only
      split <;> exact Agrees.bind (Agrees.map _ ihx) (fun xs => Agrees.bind_pure _ (Agrees.map _ ihy))
    · next h1 =>
      split
      · exact Agrees.bind (Agrees.map _ ihx) (fun xs => Agrees.bind_pure _ (Agrees.map _ ihy))
      · next h2 =>
        split
        · exact Agrees.bind ihx (fun xs => Agrees.bind_pure _ ihy)
        · next h3 =>
          split
          · exact Agrees.bind ihx (fun xs => Agrees.bind_pure _ ihy)
          · next h4 =>
            obtain ⟨sql, hs⟩ := binaryOpText_eq_none_of op h.1 h1 h2 h3 h4
            rw [hs]
            exact Agrees.bind (Agrees.map _ ihx) (fun xs => Agrees.bind_pure _ (Agrees.map _ ihy))
  | .inE x _ _ vals _, h => by
    rw [opsKnown, Bool.and_eq_true] at h
    rw [writeExpr, Misuse.badExpr]
    exact Agrees.bind (Agrees.map _ (writeExpr_agrees ctx x h.1))
      (fun xs => Agrees.bind_pure _ (writeListMaybeParen_agrees ctx vals h.2))
  | .index x _ idx _, h => by
    rw [opsKnown, Bool.and_eq_true] at h
    rw [writeExpr, Misuse.badExpr]
    exact Agrees.bind (Agrees.map _ (writeExpr_agrees ctx x h.1))
      (fun xs => Agrees.bind_pure _ (writeExpr_agrees ctx idx h.2))
  | .call fn _ args _, h => by
    rw [opsKnown] at h
    have ih := writeList_agrees ctx args h
    rw [writeExpr, Misuse.badExpr]
    cases hk : knownFunction fn.name with
    | none =>
      rw [wrongArity_of_unknown hk, Bool.false_or]
      exact Agrees.bind_pure _ ih
    | some wn =>
      obtain ⟨writer, np⟩ := wn
      obtain ⟨row, hrow, hname, hw⟩ := lookup_row hk
      replace hw : row.2.1 = writer := congrArg Prod.fst hw
      have har := arity_agrees_all row hrow args.length
      rw [hw, hname] at har
      rw [← har]
      simp only []
      cases hrej : arityRejects writer args.length with
      | true => simp only [if_true, Bool.true_or]; exact Agrees.err
      | false =>
        simp only [Bool.false_eq_true, if_false, Bool.false_or]
        refine (Agrees.bind' ih (b2 := false) ?_).of_eq (Bool.or_false _)
        intro as has
        have hlen : (args.toList.zip as).length = args.length := by
          rw [List.length_zip, toList_length, writeList_length ctx args as has, Nat.min_self]
        rw [← hlen, ← hw] at hrej
        obtain ⟨cs, hcs⟩ := assembleKnown_ok row hrow _ hrej
        rw [← hw, hcs]
        exact Agrees.ok _
theorem writeList_agrees (ctx : Ctx) : ∀ es : ExprList, opsKnownList es = true →
    Agrees (writeList ctx es) (Misuse.badList (posOf ctx.mode) (names ctx.scope) es)
  | .nil, _ => by rw [writeList, Misuse.badList]; exact Agrees.ok _
  | .cons e es, h => by
    rw [opsKnownList, Bool.and_eq_true] at h
    rw [writeList, Misuse.badList]
    exact Agrees.bind (writeExpr_agrees ctx e h.1) (fun x => Agrees.bind_pure _ (writeList_agrees ctx es h.2))
theorem writeListMaybeParen_agrees (ctx : Ctx) : ∀ es : ExprList, opsKnownList es = true →
    Agrees (writeListMaybeParen' ctx es) (Misuse.badList (posOf ctx.mode) (names ctx.scope) es)
  | .nil, _ => by rw [writeListMaybeParen', Misuse.badList]; exact Agrees.ok _
  | .cons e es, h => by
    rw [opsKnownList, Bool.and_eq_true] at h
    rw [writeListMaybeParen', Misuse.badList]
    exact Agrees.bind (Agrees.map _ (writeExpr_agrees ctx e h.1))
      (fun x => Agrees.bind_pure _ (writeListMaybeParen_agrees ctx es h.2))
end
end Pql.Exact
