/-
Property C10 for operators, tabular expressions and statements.

`unparseOp` of a `render` without `with (…)` does not mention the `Lparen` / `Rparen` fields, so
the statement needs the (parser-guaranteed, see SpanExtentTidy.lean) hypothesis that those fields
are not set in that case: `Op.tidy`.
-/
import PqlModel.Lemmas.SpanExtentExpr
import PqlModel.Lemmas.AccountedTab
namespace Pql
open Grammar

mutual
def Tabular.tidy : Tabular → Bool
  | .nil => true
  | .mk _ ops => ops.tidy
def Op.tidy : Op → Bool
  | .count _ _ => true
  | .where_ _ _ _ => true
  | .sort _ _ _ => true
  | .take _ _ _ => true
  | .top _ _ _ _ _ => true
  | .project _ _ _ => true
  | .extend _ _ _ => true
  | .summarize _ _ _ _ _ => true
  | .join _ _ _ _ _ _ right _ _ _ => right.tidy
  | .as_ _ _ _ => true
  | .render _ _ _ w lp _ rp => w.isValid || (!lp.isValid && !rp.isValid)
def OpList.tidy : OpList → Bool
  | .nil => true
  | .cons o os => o.tidy && os.tidy
end

def Stmt.tidy : Stmt → Bool
  | .let_ _ _ _ _ => true
  | .tabular t => t.tidy

/-- `exprExtAlg` (Lemmas/SpanExtentExpr.lean) continued to pipelines and operators; for these the
    span is the extent only of `tidy` trees -/
theorem extAlg : UnparseAlg (fun t us => us ≠ [] ∧ (t.tidy = true → ExtOf us t.spanOf))
    (fun o us => us ≠ [] ∧ (o.tidy = true → ExtOf us o.spanOf))
    (fun l us => l.tidy = true → ExtOf us (Span.unions l.spansOf)) where
  tmk := fun s ops os _ ih => ⟨List.cons_ne_nil _ _, fun ht => by
    rw [Tabular.spanOf, sliceSpan_eq_unions]
    exact (ExtOf.tok s.span rfl rfl rfl).cons (ih ht).last⟩
  onil := fun _ => ExtOf.nil
  cons := fun o os a b _ _ iho ihl ht => by
    rw [OpList.tidy, Bool.and_eq_true] at ht
    rw [OpList.spansOf]
    exact (iho.2 ht.1).cons (ihl ht.2)
  count := fun p k => ⟨List.cons_ne_nil _ _, fun _ =>
    (ExtOf.tok p rfl rfl rfl).cons (ExtOf.tok k rfl rfl rfl).last⟩
  where_ := fun p k e xs hx => ⟨List.cons_ne_nil _ _, fun _ =>
    (ExtOf.tok p rfl rfl rfl).cons ((ExtOf.tok k rfl rfl rfl).cons
      (ExtOf.last (expr_ext hx)))⟩
  take := fun p k e xs hx => ⟨List.cons_ne_nil _ _, fun _ =>
    (ExtOf.tok p rfl rfl rfl).cons ((ExtOf.tok k rfl rfl rfl).cons
      (ExtOf.last (expr_ext hx)))⟩
  sort := fun p k ts tss _ hl => ⟨List.cons_ne_nil _ _, fun _ =>
    (ExtOf.tok p rfl rfl rfl).cons ((ExtOf.tok2 k rfl rfl rfl rfl).cons
      (ExtOf.last (sepBy_ext sortTerm_extSpec hl)))⟩
  top := fun p k n b col xs cs hx hc => ⟨List.cons_ne_nil _ _, fun _ =>
    (ExtOf.tok p rfl rfl rfl).cons ((ExtOf.tok k rfl rfl rfl).cons
      (ExtOf.cons (expr_ext hx) ((ExtOf.tok b rfl rfl rfl).cons
        (ExtOf.last (sortTerm_extSpec col cs hc).2))))⟩
  project := fun p k cs css _ hl => ⟨List.cons_ne_nil _ _, fun _ =>
    (ExtOf.tok p rfl rfl rfl).cons ((ExtOf.tok k rfl rfl rfl).cons
      (ExtOf.last (sepBy_ext (column_extSpec true) hl)))⟩
  extend := fun p k cs css _ hl => ⟨List.cons_ne_nil _ _, fun _ =>
    (ExtOf.tok p rfl rfl rfl).cons ((ExtOf.tok k rfl rfl rfl).cons
      (ExtOf.last (sepBy_ext (column_extSpec false) hl)))⟩
  summarize := fun p k cs b css _ hl hb => ⟨List.cons_ne_nil _ _, fun _ =>
    (ExtOf.tok p rfl rfl rfl).cons ((ExtOf.tok k rfl rfl rfl).cons
      (ExtOf.trail (sepBy_ext (column_extSpec false) hl) (ExtOf.skip hb (ExtOf.skip rfl ExtOf.nil))))⟩
  summarizeBy := fun p k cs b gs css gss _ hl hg _ => ⟨List.cons_ne_nil _ _, fun _ =>
    -- the comma before `by` is allowed only behind aggregates
    (ExtOf.tok p rfl rfl rfl).cons ((ExtOf.tok k rfl rfl rfl).cons
      (ExtOf.gap (ss1 := [_]) b (sepBy_ext (column_extSpec false) hl).last rfl rfl
        (fun ho => sepBy_ne_nil (column_extSpec false) hl (by simpa using ho))
        (ExtOf.last (sepBy_ext (column_extSpec false) hg))))⟩
  join := fun p k kind ka lp right rp on conds r cs hr ih hc _ hkv hkav => ⟨List.cons_ne_nil _ _, fun ht =>
    (ExtOf.tok p rfl rfl rfl).cons ((ExtOf.tok k rfl rfl rfl).cons
      (ExtOf.skip hkv (ExtOf.skip hkav (ExtOf.skip rfl
        ((ExtOf.tok lp rfl rfl rfl).cons (ExtOf.cons (ih.2 ht)
          ((ExtOf.tok rp rfl rfl rfl).cons ((ExtOf.tok on rfl rfl rfl).cons
            (ExtOf.last (exprList_ext hc))))))))))⟩
  joinKind := fun p k kind ka f lp right rp on conds r cs hr ih hc _ => ⟨List.cons_ne_nil _ _, fun ht =>
    (ExtOf.tok p rfl rfl rfl).cons ((ExtOf.tok k rfl rfl rfl).cons
      ((ExtOf.tok kind rfl rfl rfl).cons ((ExtOf.tok ka rfl rfl rfl).cons
        ((ExtOf.tok f.span rfl rfl rfl).cons ((ExtOf.tok lp rfl rfl rfl).cons
          (ExtOf.cons (ih.2 ht) ((ExtOf.tok rp rfl rfl rfl).cons
            ((ExtOf.tok on rfl rfl rfl).cons
              (ExtOf.last (exprList_ext hc))))))))))⟩
  as_ := fun p k n => ⟨List.cons_ne_nil _ _, fun _ =>
    (ExtOf.tok p rfl rfl rfl).cons ((ExtOf.tok k rfl rfl rfl).cons
      (ExtOf.tok n.span rfl rfl rfl).last)⟩
  render := fun p k c w lp rp hw => ⟨List.cons_ne_nil _ _, fun ht => by
    simp only [Op.tidy, hw, Bool.false_or, Bool.and_eq_true, Bool.not_eq_true'] at ht
    exact (ExtOf.tok p rfl rfl rfl).cons ((ExtOf.tok k rfl rfl rfl).cons
      ((ExtOf.tok c.span rfl rfl rfl).cons (ExtOf.skip hw (ExtOf.skip ht.1
        (ExtOf.skip (by decide) (ExtOf.skip ht.2 ExtOf.nil))))))⟩
  renderWith := fun p k c w lp props rp pss _ hl _ => ⟨List.cons_ne_nil _ _, fun _ =>
    (ExtOf.tok p rfl rfl rfl).cons ((ExtOf.tok k rfl rfl rfl).cons
      ((ExtOf.tok c.span rfl rfl rfl).cons ((ExtOf.tok w rfl rfl rfl).cons
        ((ExtOf.tok lp rfl rfl rfl).cons (ExtOf.cons (sepBy_ext prop_extSpec hl)
          (ExtOf.tok rp rfl rfl rfl).last)))))⟩

theorem unparseOp_head {o : Op} {us : List UTok} (h : unparseOp o = some us) : us ≠ [] :=
  (extAlg.op o us h).1

theorem unparseTabular_ne_nil {t : Tabular} {us : List UTok} (h : unparseTabular t = some us) : us ≠ [] :=
  (extAlg.tabular t us h).1

theorem tabular_ext (t : Tabular) (us : List UTok) (ts : List Token) (htidy : t.tidy = true)
    (h : unparseTabular t = some us) (hok : TokOK ts) (ha : accounts true us ts = true) :
    t.spanOf = ext ts :=
  (extAlg.tabular t us h).2 htidy ts hok ha

theorem ops_ext : ∀ (l : OpList) (us : List UTok) (ts : List Token), l.tidy = true →
    unparseOps l = some us → TokOK ts → accounts true us ts = true → sliceSpan l.spansOf = ext ts :=
  fun l us ts htidy h hok ha => sliceSpan_eq_unions _ ▸ extAlg.ops l us h htidy ts hok ha

theorem op_ext (o : Op) (us : List UTok) (ts : List Token) (htidy : o.tidy = true)
    (h : unparseOp o = some us) (hok : TokOK ts) (ha : accounts true us ts = true) :
    o.spanOf = ext ts :=
  (extAlg.op o us h).2 htidy ts hok ha

theorem stmt_ext (s : Stmt) (us : List UTok) (ts : List Token) (htidy : s.tidy = true)
    (h : unparseStmt s = some us) (hok : TokOK ts) (ha : accounts true us ts = true) : s.spanOf = ext ts :=
  unparseStmt_cases (P := fun s us => s.tidy = true → ExtOf us s.spanOf)
    (fun kw n asg _ _ hx _ => (ExtOf.tok kw rfl rfl rfl).cons ((ExtOf.tok n.span rfl rfl rfl).cons
      ((ExtOf.tok asg rfl rfl rfl).cons (ExtOf.last (expr_ext hx)))))
    (fun t us h ht => (extAlg.tabular t us h).2 ht) s us h htidy ts hok ha

end Pql
