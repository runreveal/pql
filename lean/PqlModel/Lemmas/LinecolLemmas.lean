/-
Lemmas about `linecolRunes` (the loop of `linecol`, Model/Parse.lean) and the UTF-8 decoder:

* a multi-byte rune accepted by `decodeRune` consists of bytes ≥ 0x80 only, so a newline byte
  (or any ASCII byte) is never swallowed by a rune step;
* the line component of `linecolRunes` counts newline *bytes*;
* the column component stays ≥ 1.
-/
import PqlModel.Model.Parse
namespace Pql

theorem decodeRune_tail_ge (c : UInt8) (rest : Bytes) :
    ∀ x ∈ rest.take ((decodeRune (c :: rest)).2 - 1), 0x80 ≤ x.toNat := by
  rw [decodeRune_cons]
  split
  · simp
  · cases h : decodeMulti c.toNat rest with
    | none => simp
    | some rw =>
      obtain ⟨r, w⟩ := rw
      exact decodeMulti_bytes_ge h

theorem decodeRune_ascii_width (c : UInt8) (rest : Bytes) (h : c.toNat < 0x80) :
    (decodeRune (c :: rest)).2 = 1 := by
  rw [decodeRune_cons, if_pos h]

/-- the rune at the head as a block of bytes: the lead byte, then `y` (one byte fewer than the width, all ≥ 0x80),
    then what the rune step leaves -/
theorem decodeRune_block (c : UInt8) (rest : Bytes) :
    ∃ y, rest = y ++ (c :: rest).drop (decodeRune (c :: rest)).2 ∧ y.length + 1 = (decodeRune (c :: rest)).2 ∧
      ∀ b ∈ y, 0x80 ≤ b.toNat := by
  obtain ⟨j, hj⟩ : ∃ j, (decodeRune (c :: rest)).2 = j + 1 := ⟨_, (Nat.sub_add_cancel (decodeRune_width_pos c rest)).symm⟩
  have hle := decodeRune_width_le (c :: rest)
  have ht := decodeRune_tail_ge c rest
  rw [hj] at hle ht ⊢
  exact ⟨rest.take j, by rw [List.drop_succ_cons, List.take_append_drop],
    by rw [List.length_take, Nat.min_eq_left (by simpa using hle)], ht⟩

/-- newline bytes of a non-empty suffix: the head byte, and those after the first rune (a rune step never skips a
    newline byte) -/
theorem count_newline_step (c : UInt8) (rest : Bytes) :
    (c :: rest).count 10 =
      (if c == 10 then 1 else 0) + ((c :: rest).drop (decodeRune (c :: rest)).2).count 10 := by
  obtain ⟨y, hy, -, hge⟩ := decodeRune_block c rest
  have h0 : y.count 10 = 0 := List.count_eq_zero.mpr fun hm => by simpa using hge 10 hm
  rw [List.count_cons]
  conv => lhs; rw [hy, List.count_append, h0]
  omega

theorem linecolRunes_nil (fuel line col : Nat) : linecolRunes fuel [] line col = (line, col) := by
  cases fuel <;> rfl

theorem linecolRunes_cons (fuel : Nat) (c : UInt8) (rest : Bytes) (line col : Nat) :
    linecolRunes (fuel + 1) (c :: rest) line col =
      if c == 10 then
        linecolRunes fuel ((c :: rest).drop (decodeRune (c :: rest)).2) (line + 1) 1
      else if c == 9 then
        linecolRunes fuel ((c :: rest).drop (decodeRune (c :: rest)).2) line (col + (8 - (col - 1) % 8))
      else linecolRunes fuel ((c :: rest).drop (decodeRune (c :: rest)).2) line (col + 1) := rfl

theorem linecolRunes_line (fuel : Nat) (s : Bytes) (line col : Nat) (h : s.length < fuel) :
    (linecolRunes fuel s line col).1 = line + s.count 10 := by
  fun_induction linecolRunes fuel s line col with
  | case1 => omega
  | case2 => simp
  | case3 fuel c rest line col w rest' h10 ih | case4 fuel c rest line col w rest' h10 h9 ih
  | case5 fuel c rest line col w rest' h10 h9 ih =>
    have := decodeRune_width_pos c rest
    rw [ih (by simp only [rest', w, List.length_drop, List.length_cons] at h ⊢; omega), count_newline_step c rest]
    simp only [h10, Bool.false_eq_true, ↓reduceIte, rest', w]; omega

theorem linecolRunes_col_pos (fuel : Nat) (s : Bytes) (line col : Nat) (h : 1 ≤ col) :
    1 ≤ (linecolRunes fuel s line col).2 := by
  fun_induction linecolRunes fuel s line col with
  | case1 | case2 => exact h
  | case3 _ _ _ _ _ _ _ _ ih => exact ih (Nat.le_refl 1)
  | case4 _ _ _ _ _ _ _ _ _ ih | case5 _ _ _ _ _ _ _ _ _ ih => exact ih (by omega)

end Pql
