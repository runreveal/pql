/-
Helpers for Props/IRHeadlines*.lean: the headline properties restated on the INTERPRETATIONS of the
translated (regenerated) Go code.

Transport lemmas: "the interpretation returned X" ⇔ "the model function returned X", obtained from
the `…_ir` theorems (`C07_Parse_ir`, `C06_compile_ir`, `C01_writeExpression_ir`, `C15_split_ir`,
`C09_dispatch_interp`).  Besides: with distinct keys the translated `Compile` does not depend on the order in which the
parameter map is iterated (`compile_ir_any_order`, from `ExprIR.interpCompile_eq`); a `lexOK` expression is `Good`
(`good_of_lexOK`).

`Scan`'s `for` loop in the headlines is `scanLoopIR`, a hand-written loop with the interpretation of the regenerated
switch (`Dispatch.interp`) as its body and an explicit budget.  The loop as regenerated from lex.go is
`ScanIR.interpScan` (Model/LexScanIR.lean; `ScanIR.C09_Scan_ir`, Props/C09ScanIR.lean: it returns `scan src`); no
headline is stated over it.
-/
import PqlModel.Props.C12NoPanicIR
import PqlModel.Props.C14Order
import PqlModel.Lemmas.TreeInduct
namespace Pql.IRHead
open Pql
set_option linter.unusedSimpArgs false

/-- `parser.Parse(src)` as interpreted from the regenerated body -/
scoped notation "ParseIR(" src ")" => OpIR.runParse (List.length src) (scan src) (OpIR.bodyOf "Parse")
/-- `(*CompileOptions).Compile(src)` as interpreted from the regenerated front part and assembly.  `List.reverse` as
    the order of `range opts.Parameters` is the list order: the interpretation binds the entries it visits one in front
    of the other, so that it is `compile (ord ps).reverse src` (`ExprIR.interpCompile_eq`) -/
scoped notation "CompileIR(" opts ", " src ")" => ExprIR.interpCompile List.reverse opts src

theorem parse_ir_iff (src : Bytes) (r : List Stmt × Errs) :
    OpIR.runParse src.length (scan src) (OpIR.bodyOf "Parse") = .ok r ↔ parse src = r := by
  rw [OpIR.C07_Parse_ir]
  constructor
  · intro h; injection h
  · intro h; rw [h]

theorem parse_ir_tokens_iff (n : Nat) (ts : List Token) (r : List Stmt × Errs) :
    OpIR.runParse n ts (OpIR.bodyOf "Parse") = .ok r ↔ parseTokens n ts = r := by
  rw [OpIR.C07_Parse_tokens_ir]
  constructor
  · intro h; injection h
  · intro h; rw [h]

theorem parse_ir_ok (src : Bytes) :
    ∃ r, OpIR.runParse src.length (scan src) (OpIR.bodyOf "Parse") = .ok r ∧ r = parse src :=
  ⟨_, OpIR.C07_Parse_ir src, rfl⟩

theorem resultM_ok_iff (r : CompileResult) (sql : Bytes) : ExprIR.resultM r = .ok sql ↔ r = .ok sql := by
  cases r <;> simp [ExprIR.resultM]

theorem resultM_err_iff (r : CompileResult) : ExprIR.resultM r = .error (.go .err) ↔ r = .error := by
  cases r <;> simp [ExprIR.resultM]

theorem resultM_panic_iff (r : CompileResult) : ExprIR.resultM r = .error (.go .panic) ↔ r = .panic := by
  cases r <;> simp [ExprIR.resultM]

theorem compile_ir_ok_iff (opts : Option (List (Bytes × Bytes))) (src sql : Bytes) :
    ExprIR.interpCompile List.reverse opts src = .ok sql ↔ compile (opts.getD []) src = .ok sql := by
  rw [ExprIR.C06_compile_ir, resultM_ok_iff]

theorem compile_ir_err_iff (opts : Option (List (Bytes × Bytes))) (src : Bytes) :
    ExprIR.interpCompile List.reverse opts src = .error (.go .err) ↔ compile (opts.getD []) src = .error := by
  rw [ExprIR.C06_compile_ir, resultM_err_iff]

theorem compile_ir_parse_error (ord : List (Bytes × Bytes) → List (Bytes × Bytes))
    (opts : Option (List (Bytes × Bytes))) (src : Bytes) (h : (parse src).2 ≠ []) :
    ExprIR.interpCompile ord opts src = .error (.go .err) := by
  have hpe : (parse src).2.isEmpty = false := by
    cases he : (parse src).2 with
    | nil => exact absurd he h
    | cons _ _ => rfl
  unfold ExprIR.interpCompile
  rw [ExprIR.pre_parse_error ord opts src hpe]
  rfl

theorem compile_ir_any_order (ord : List (Bytes × Bytes) → List (Bytes × Bytes))
    (ps : List (Bytes × Bytes)) (src : Bytes) (hord : (ord ps).Perm ps) (hd : (ps.map (·.1)).Nodup) :
    ExprIR.interpCompile ord (some ps) src = ExprIR.interpCompile List.reverse (some ps) src := by
  rw [ExprIR.interpCompile_eq, ExprIR.C06_compile_ir]
  have hp : ((ord ps).reverse).Perm ps := (List.reverse_perm _).trans hord
  have hd' : (((ord ps).reverse).map (·.1)).Nodup := (hp.map _).nodup_iff.2 hd
  show ExprIR.resultM (compile (ord ps).reverse src) = ExprIR.resultM (compile ps src)
  rw [C14.C14_compile_param_order_irrelevant src _ _ hp hd']

theorem good_lexOK_alg : ExprTreeAlg (fun e => e.lexOK = true → e.Good)
    (fun es => es.lexOK = true → es.Good) where
  nil := fun h => nomatch h
  qident := fun _ _ => trivial
  lit := fun _ _ _ _ => trivial
  unary := fun _ _ _ ih h => ih (and_true_of h).2
  binary := fun _ _ _ _ ihx ihy h => ⟨ihx (and_true_of h).1, ihy (and_true_of h).2⟩
  inE := fun _ _ _ _ _ ihx ihl h => ⟨ihx (and_true_of h).1, ihl (and_true_of h).2⟩
  paren := fun _ _ _ ih => ih
  call := fun _ _ _ _ ihl h => ihl (and_true_of h).2
  index := fun _ _ _ _ ihx ihy h => ⟨ihx (and_true_of h).1, ihy (and_true_of h).2⟩
  lnil := fun _ => trivial
  cons := fun _ _ ihe ihl h => ⟨ihe (and_true_of h).1, ihl (and_true_of h).2⟩

/-- a `lexOK` expression has no nil sub-expression (the side condition of `C01_writeExpression_ir` in join mode) -/
theorem good_of_lexOK : (e : Expr) → e.lexOK = true → e.Good := good_lexOK_alg.expr

theorem goodList_of_lexOK : (es : ExprList) → es.lexOK = true → es.Good := good_lexOK_alg.list

theorem liftW_ok_iff {α : Type} (x : Except WErr α) (a : α) : WriteIR.liftW x = .ok a ↔ x = .ok a := by
  cases x with
  | ok b => simp [WriteIR.liftW]
  | error e => cases e <;> simp [WriteIR.liftW]

theorem writeExpr_ir_ok_iff (c : Ctx) (e : Expr) (hok : e.lexOK = true) (cs : List Chunk) :
    ExprIR.interpWriteExpression c e = .ok cs ↔ writeExpr c e = .ok cs := by
  rw [ExprIR.C01_writeExpression_ir c e (fun _ => good_of_lexOK e hok), liftW_ok_iff]

/-- the loop of `Scan` with an explicit budget: while bytes remain, one step of the regenerated switch
    (`Dispatch.interp`); `none` = the switch has no meaning here, makes no progress, or the budget is
    exhausted -/
def scanLoopIR : Nat → Bytes → Nat → Option (List Token)
  | 0, _, _ => none
  | fuel + 1, s, off =>
    if s = [] then some []
    else (Dispatch.interp s).bind fun st =>
      if st.width = 0 then none
      else (scanLoopIR fuel (s.drop st.width) (off + st.width)).map (st.toks off ++ ·)

theorem scanLoopIR_eq (fuel : Nat) : ∀ (s : Bytes) (off : Nat), s.length < fuel →
    scanLoopIR fuel s off = some (scanFrom s off) := by
  induction fuel with
  | zero =>
    intro s off h
    omega
  | succ fuel ih =>
    intro s off h
    by_cases hs : s = []
    · subst hs
      simp only [scanLoopIR, if_true, scanFrom_nil]
    · have hpos := scanOne_width_pos' hs
      have hle := scanOne_width_le s
      have hne : (scanOne s).width ≠ 0 := by omega
      simp only [scanLoopIR, hs, if_false, Dispatch.C09_dispatch_interp, Option.bind_some, hne]
      rw [ih _ _ (by simp only [List.length_drop]; omega), scanFrom_step hs off]
      rfl

/-- `Scan(src)`: the loop with budget `len(src) + 1` -/
def scanIR (s : Bytes) : Option (List Token) := scanLoopIR (s.length + 1) s 0

theorem scanIR_eq (s : Bytes) : scanIR s = some (scan s) := scanLoopIR_eq _ s 0 (Nat.lt_succ_self _)

/-- `Scan` as a total function (`[]` where `scanIR` is `none`: nowhere, by `scanIR_eq`) -/
def scanFn (s : Bytes) : List Token := (scanIR s).getD []

theorem scanFn_eq : scanFn = scan := by
  funext s
  simp [scanFn, scanIR_eq]

/-- the primitives of the lexer interpreters: `Scan` = the loop around the interpreted switch.  `f64ToU64`
    (`uint64(lit.Float64())`, opaque in the model) is an arbitrary constant: `SplitStatements` and `numberOrDot`, the
    functions run with `lexLib`, do not call it -/
def lexLib : LexIR.Lib := ⟨scanFn, fun _ _ => 0⟩

theorem lexLib_scan : lexLib.scan = scan := scanFn_eq

def emptyHeap : LexIR.Heap := ⟨[], 0, 0⟩

/-- `SplitStatements` as a function, read off the interpretation of its regenerated body -/
def splitIR (src : Bytes) : List Bytes :=
  match LexIR.interpSplit lexLib [.str src] emptyHeap with
  | .ok ([.strs ps], _) => ps
  | _ => []

theorem splitIR_eq : splitIR = splitStatements := by
  funext src
  unfold splitIR
  rw [LexIR.C15_split_ir lexLib lexLib_scan src emptyHeap]

theorem split_ir_iff (lib : LexIR.Lib) (hs : lib.scan = scan) (src : Bytes) (h : LexIR.Heap)
    (r : List LexIR.Val × LexIR.Heap) :
    LexIR.interpSplit lib [.str src] h = .ok r ↔ r = ([.strs (splitStatements src)], h) := by
  rw [LexIR.C15_split_ir lib hs src h]
  constructor
  · intro e; injection e with e; exact e.symm
  · intro e; rw [e]

/-- the library `run` of cmd/pql is interpreted with: `SplitStatements` and `Compile` interpretations of their regenerated
    bodies, `Scan` the hand-written loop `scanLoopIR` around the interpreted switch -/
def irLib : CliIR.Lib := ⟨splitIR, scanFn, NoPanic.compileIR⟩

theorem irLib_eq : irLib = CliIR.modelLib CliSem.compileCli := by
  unfold irLib CliIR.modelLib
  rw [splitIR_eq, scanFn_eq, NoPanic.compileIR_eq]

end Pql.IRHead
