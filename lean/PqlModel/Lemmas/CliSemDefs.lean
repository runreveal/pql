/-
Property C16, semantic half — vocabulary (namespace `Pql.CliSem`).

Specification-level definitions:
`goodSp s`      : the span of a real token: `0 ≤ start < stop`;
`goodE x`       : every span field of the expression `x` is `goodSp`;
`colsGood t`    : every extend / summarize column expression of the pipeline `t` (at any depth,
                  also inside join operands) is `goodE` — the spans the compiler slices the
                  source text with (the name of an unnamed column);
`SemiEnds l`    : the scanner, run on `l ++ ";"`, has a step boundary at the end of `l` (no string,
                  quoted name or comment that starts in `l` swallows the ';');
`preludeOf ls`  : `l1 ++ ";\n" ++ … ++ lk ++ ";\n"` — the text cmd/pql keeps for the accepted lets;
`letsAt off ls` : the statements of `parse l1`, … `parse lk`, each moved to the offset its text has
                  in `preludeOf ls` (placed at `off`).
-/
import PqlModel.Lemmas.PiecewiseDefs
import PqlModel.Lemmas.ShapeAll
import PqlModel.Lemmas.LexReach
namespace Pql.CliSem
open Pql Pql.Piecewise

def goodSp (s : Span) : Bool := decide (0 ≤ s.start) && decide (s.start < s.stop)

def goodIdent (i : Ident) : Bool := goodSp i.span

mutual
def goodE : Expr → Bool
  | .nil => true
  | .qident parts => parts.all goodIdent
  | .lit sp _ _ => goodSp sp
  | .unary os _ x => goodSp os && goodE x
  | .binary x os _ y => goodE x && goodSp os && goodE y
  | .inE x i lp vals rp => goodE x && goodSp i && goodSp lp && goodL vals && goodSp rp
  | .paren lp x rp => goodSp lp && goodE x && goodSp rp
  | .call fn lp args rp => goodIdent fn && goodSp lp && goodL args && goodSp rp
  | .index x lb idx rb => goodE x && goodSp lb && goodE idx && goodSp rb
def goodL : ExprList → Bool
  | .nil => true
  | .cons e es => goodE e && goodL es
end

def goodCols (cs : List Column) : Bool := cs.all fun c => goodE c.x

/-- the operators whose writer slices the source text -/
def goodOp : Op → Bool
  | .extend _ _ cs => goodCols cs
  | .summarize _ _ cs _ gs => goodCols cs && goodCols gs
  | _ => true

/-- every sliced column expression of the pipeline, at any depth, has token spans only -/
def colsGood (t : Tabular) : Bool := TabAll goodOp t

def colsGoodStmt : Stmt → Bool
  | .tabular t => colsGood t
  | .let_ .. => true

/-- the ';' that follows `l` is a token of its own -/
def SemiEnds (l : Bytes) : Prop := Reaches (l ++ [59]) l.length

def sep : Bytes := [59, 10]

/-- the prelude text of cmd/pql: every accepted let text followed by ";\n" -/
def preludeOf (ls : List Bytes) : Bytes := ls.flatMap (· ++ sep)

/-- the statements of the let texts, each parsed on its own and moved to its offset -/
def letsAt : Nat → List Bytes → List Stmt
  | _, [] => []
  | off, l :: ls => (parse l).1.map (shStmt off) ++ letsAt (off + l.length + 2) ls

/-- the statements of the let texts, each parsed on its own (positions relative to its own text) -/
def letsOf (ls : List Bytes) : List Stmt := ls.flatMap fun l => (parse l).1

end Pql.CliSem
