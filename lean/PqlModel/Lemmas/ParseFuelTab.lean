/-
Fuel sufficiency for the tabular block (`pTabular` / `pOps` / `pOperator` / `pJoin`).  Ranks:
`pTabular`, `pOps`, `pJoin` need `4 * tokens + 1`; `pOperator` needs `4 * tokens + 6` (it hands
`fuel - 1` to `pExpr` and the column loops, which need `4 * tokens + 4`; one unit is to spare).  `pOps` strips the
pipe and the operator name before calling `pOperator` (pays 8), `pJoin` strips the opening
parenthesis before calling `pTabular` (pays 4).

Fuel sufficiency at the entry points: `pStatement` (which supplies `fuelFor n = 8 * n + 32` where
`4 * n + 4` would do) and the statement loop (a fold over the groups of tokens between the
semicolon tokens, `parseTokens_eq_fold`).
-/
import PqlModel.Lemmas.ParseFuelOps
import PqlModel.Lemmas.TabCases
import PqlModel.Lemmas.ParseFold
namespace Pql

def OptNF : Option (PRes Op) → Prop
  | none => True
  | some r => NoFuel r.errs

structure TabNF (c : PCtx) (fuel : Nat) : Prop where
  tabular : ∀ ts, 4 * ts.length + 1 ≤ fuel → NoFuel (pTabular c fuel ts).errs
  ops : ∀ ops acc ts, 4 * ts.length + 1 ≤ fuel → NoFuel acc → NoFuel (pOps c fuel ops acc ts).errs
  operator : ∀ pipe name ts, 4 * ts.length + 6 ≤ fuel → OptNF (pOperator c fuel pipe name ts)
  join : ∀ pipe kw ts, 4 * ts.length + 1 ≤ fuel → NoFuel (pJoin c fuel pipe kw ts).errs

theorem TabNF.zero (c : PCtx) : TabNF c 0 := by
  constructor <;> intros <;> omega

theorem pTabular_nf_step (c : PCtx) (fuel : Nat) (ih : TabNF c fuel) :
    ∀ ts, 4 * ts.length + 1 ≤ fuel + 1 → NoFuel (pTabular c (fuel + 1) ts).errs := by
  apply pTabular_cases (motive := fun ts r => 4 * ts.length + 1 ≤ fuel + 1 → NoFuel r.errs)
  case noIdent => intros; exact NoFuel.nfAt _
  case ops =>
    intro t0 rest r _ hr hf
    subst hr
    simp only [List.length_cons] at hf
    exact ih.ops _ _ _ (by omega) NoFuel.nil

theorem pOps_nf_step (c : PCtx) (fuel : Nat) (ih : TabNF c fuel) (ops : OpList) (acc : Errs)
    (ts : List Token) (hf : 4 * ts.length + 1 ≤ fuel + 1) (hacc : NoFuel acc) :
    NoFuel (pOps c (fuel + 1) ops acc ts).errs := by
  apply pOps_cases (motive := fun r => NoFuel r.errs)
  case stop => exact hacc
  case skip =>
    intro pipeTok rest s hts _ _
    subst hts
    have hs := split_snd_le .pipe rest
    simp only [List.length_cons] at hf
    exact ih.ops _ _ _ (by omega) (NoFuel.append hacc (NoFuel.errAt _))
  case op =>
    intro pipeTok rest name opToks r hts _ hsp _ hr
    subst hts
    have hs := split_length .pipe rest
    rw [hsp] at hs
    simp only [List.length_cons] at hf hs
    have hop := ih.operator pipeTok.span name opToks (by omega)
    rw [hr] at hop
    exact ih.ops _ _ _ (by omega) (NoFuel.append (NoFuel.append hacc hop) (NoFuel.endSplit _))

theorem pOperator_nf_step (c : PCtx) (fuel : Nat) (ih : TabNF c fuel) (pipe : Span) (name : Token)
    (ts : List Token) (hf : 4 * ts.length + 6 ≤ fuel + 1) :
    OptNF (pOperator c (fuel + 1) pipe name ts) := by
  apply pOperator_cases (motive := OptNF)
  case count => intro _; exact NoFuel.nil
  case where_ => intro _ r hr; subst hr; exact (pExpr_noFuel c fuel ts (by omega)).mkOpaque
  case sortErr | topNoBy => intros; exact NoFuel.errAt _
  case sort =>
    intro _ by_ rest hts _ r hr
    subst hts hr
    simp only [List.length_cons] at hf
    exact pSortTerms_noFuel c fuel _ _ _ (by omega) (Nat.le_refl _)
  case take => intro _ r hr; subst hr; exact (pRowCount_noFuel c fuel ts (by omega)).mkOpaque
  case topErr => intro _ r hr _; subst hr; exact (pRowCount_noFuel c fuel ts (by omega)).mkOpaque
  case top =>
    intro _ r hr _ by_ rest hrest _ rt hrt
    subst hr hrt
    have hl := (pRowCount_rest_suffix c fuel ts).length_le
    rw [hrest, List.length_cons] at hl
    exact (pSortTerm_noFuel c fuel rest (by omega)).mkOpaque
  case project =>
    intro _ r hr; subst hr; exact pProjectCols_noFuel c fuel _ _ _ (by omega) (Nat.le_refl _)
  case extend =>
    intro _ r hr; subst hr; exact pExtendCols_noFuel c fuel _ _ _ (by omega) (Nat.le_refl _)
  case summarize => intro _; exact pSummarize_noFuel c fuel pipe name.span ts (by omega)
  case join => intro _; exact ih.join pipe name.span ts (by omega)
  case as_ => intro _ r hr; subst hr; exact (pIdent_noFuel c ts).mkOpaque
  case render => intro _; exact pRender_noFuel c fuel pipe name.span ts (by omega)
  case unknown => trivial

theorem JoinHdr.noFuel {hd : List Token} {kind ka : Span} {fl : Option Ident} {e0 : Errs}
    (h : JoinHdr hd kind ka fl e0) : NoFuel e0 := by
  rcases h with ⟨-, -, -, -, rfl⟩ | ⟨t0, asg, flt, -, -, -, -, -, -, -, rfl⟩
  · exact NoFuel.nil
  · split
    · exact NoFuel.nil
    · exact NoFuel.errAt _

theorem pJoin_nf_step (c : PCtx) (fuel : Nat) (ih : TabNF c fuel) (pipe kw : Span)
    (ts : List Token) (hf : 4 * ts.length + 1 ≤ fuel + 1) :
    NoFuel (pJoin c (fuel + 1) pipe kw ts).errs := by
  -- the right-hand side is parsed on a prefix of what follows the parenthesis
  have hrr : ∀ hd lp rest1, ts = hd ++ lp :: rest1 →
      NoFuel (pTabular c fuel (split .rparen rest1).1).errs := by
    intro hd lp rest1 hts
    have hs := split_fst_le .rparen rest1
    have hl := congrArg List.length hts
    simp only [List.length_append, List.length_cons] at hl
    exact ih.tabular _ (by omega)
  refine pJoin_cases (motive := fun r => NoFuel r.errs) ?_ ?_ ?_ ?_
  · intro kind ka pre post _ _ _; exact NoFuel.errAt _
  · intro hd kind ka fl e0 hh post _ _; exact NoFuel.append hh.noFuel (NoFuel.errAt _)
  · intro hd kind ka fl e0 hh lp rest1 hts _ rr hr rp post _
    subst hr
    exact NoFuel.append (NoFuel.append (NoFuel.append hh.noFuel (hrr hd lp rest1 hts).mkOpaque)
      (NoFuel.endSplit _)) (NoFuel.errAt _)
  · intro hd kind ka fl e0 hh lp rest1 hts _ rp on rest3 hs2 _ _ rr hr rc hc
    subst hr hc
    have hs := split_snd_le .rparen rest1
    rw [hs2] at hs
    have hl := congrArg List.length hts
    simp only [List.length_append, List.length_cons] at hl hs
    exact NoFuel.append (NoFuel.append (NoFuel.append hh.noFuel (hrr hd lp rest1 hts).mkOpaque)
      (NoFuel.endSplit _)) (pExprList_noFuel c fuel rest3 (by omega)).mkOpaque

theorem tabNF (c : PCtx) (fuel : Nat) : TabNF c fuel := by
  induction fuel with
  | zero => exact TabNF.zero c
  | succ fuel ih =>
    exact
      { tabular := pTabular_nf_step c fuel ih
        ops := pOps_nf_step c fuel ih
        operator := pOperator_nf_step c fuel ih
        join := pJoin_nf_step c fuel ih }

theorem pTabular_noFuel (c : PCtx) (fuel : Nat) (ts : List Token) (hf : 4 * ts.length + 1 ≤ fuel) :
    NoFuel (pTabular c fuel ts).errs := (tabNF c fuel).tabular ts hf

end Pql

namespace Pql

/-- what `pStatement` needs from its fuel: both alternatives (`let` statement, tabular statement)
    are free of out-of-fuel leaves as soon as `4 * tokens + 4 ≤ fuel` -/
theorem statement_fuel_bound (c : PCtx) (fuel : Nat) (ts : List Token) (hf : 4 * ts.length + 4 ≤ fuel) :
    NoFuel (pLet c fuel ts).errs ∧ NoFuel (pTabular c fuel ts).errs :=
  ⟨pLet_noFuel c fuel ts hf, pTabular_noFuel c fuel ts (by omega)⟩

theorem fuelFor_ge (n : Nat) : 4 * n + 4 ≤ fuelFor n := by unfold fuelFor; omega

theorem pStatement_noFuel (c : PCtx) (ts : List Token) : NoFuel (pStatement c ts).2.1 := by
  obtain ⟨hl, ht⟩ := statement_fuel_bound c (fuelFor ts.length) ts (fuelFor_ge _)
  apply pStatement_cases (motive := fun r => NoFuel r.2.1)
  case let_ => intro rl h _; subst h; exact NoFuel.append hl.mkOpaque (NoFuel.endSplit _)
  case tab =>
    intro rl rt name ops _ _ h _ _; subst h; exact NoFuel.append ht.mkOpaque (NoFuel.endSplit _)
  case empty => intros; exact NoFuel.nil
  case junk => intro rl rt t rest _ _ h _ _; subst h; exact NoFuel.append ht (NoFuel.errAt _)

theorem parseTokens_noFuel (n : Nat) (ts : List Token) : NoFuel (parseTokens n ts).2 := by
  rw [parseTokens_eq_fold]
  refine List.foldlRecOn (motive := fun st : List Stmt × Errs => NoFuel st.2) _ _ NoFuel.nil fun st h g _ => ?_
  simp only [stepAcc]
  split
  · exact pStatement_noFuel _ g
  · exact NoFuel.append h (pStatement_noFuel _ g)

end Pql
