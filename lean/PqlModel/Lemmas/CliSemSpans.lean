/-
Property C16, semantic half — the spans of sliced columns are token spans.

`colsGood_of_parse`: every tabular statement an error-free `parse` returns has `goodSp` spans
(`0 ≤ start < stop`) in every span field of every extend / summarize column expression, at any
depth.  Route: `C08_accounted_parse` (every claimed position of the tree's `unparse` equals the
position of a scanned token) + every scanned token is non-empty (`TokP_scan`).
-/
import PqlModel.Lemmas.CliSemDefs
import PqlModel.Lemmas.SpanExtentTidy
import PqlModel.Props.C08Full
import PqlModel.Lemmas.UnparseInduct
import PqlModel.Lemmas.ParsedOKLeaves
import PqlModel.Lemmas.TreeInduct
namespace Pql.CliSem
open Pql Pql.Grammar Pql.Piecewise

/-- where `u` claims both ends it is non-empty (`ParsedOK.UOK`, of the same short name, is about kinds and values instead) -/
def UOK (u : UTok) : Prop := ∀ a b, u.start = some a → u.stop = some b → 0 ≤ a ∧ a < b

def AllOK (us : List UTok) : Prop := ∀ u ∈ us, UOK u

theorem AllOK_nil : AllOK [] := fun _ h => by cases h

theorem AllOK_cons {u : UTok} {us : List UTok} : AllOK (u :: us) ↔ UOK u ∧ AllOK us := by
  simp only [AllOK, List.mem_cons, forall_eq_or_imp]

theorem AllOK_append {a b : List UTok} : AllOK (a ++ b) ↔ AllOK a ∧ AllOK b := by
  simp only [AllOK, List.mem_append]
  exact ⟨fun h => ⟨fun u hu => h u (Or.inl hu), fun u hu => h u (Or.inr hu)⟩,
    fun h u hu => hu.elim (h.1 u) (h.2 u)⟩

theorem uok_of_posMatches {u : UTok} {t : Token} (hp : posMatches u t = true) (ht : t.start < t.stop) :
    UOK u := by
  intro a b ha hb
  simp only [posMatches, ha, hb, Bool.and_eq_true, beq_iff_eq] at hp
  omega

theorem accounts_uok (us : List UTok) (ts : List Token) (h : accounts true us ts = true) :
    TokP ts → AllOK us := by
  refine accounts_elim (P := fun us ts => TokP ts → AllOK us) (fun _ => AllOK_nil) ?_ ?_ h
  · intro u us t ts _ hp _ ih htp
    rw [TokP_cons] at htp
    exact AllOK_cons.2 ⟨uok_of_posMatches (hp rfl) htp.1, ih htp.2⟩
  · intro u us c t ts _ _ _ _ hp _ ih htp
    rw [TokP_cons, TokP_cons] at htp
    exact AllOK_cons.2 ⟨uok_of_posMatches (hp rfl) htp.2.1, ih htp.2.2⟩

theorem goodSp_of_uok {u : UTok} {sp : Span} (h : UOK u) (h1 : u.start = some sp.start)
    (h2 : u.stop = some sp.stop) : goodSp sp = true := by
  have := h _ _ h1 h2
  simp only [goodSp, Bool.and_eq_true, decide_eq_true_eq]
  exact this

theorem sym_good {k : TokKind} {sp : Span} (h : UOK (sym k sp)) : goodSp sp = true :=
  goodSp_of_uok h rfl rfl

theorem symOpt_good {k : TokKind} {sp : Span} {b : Bool} (h : UOK { sym k sp with optComma := b }) :
    goodSp sp = true :=
  goodSp_of_uok h rfl rfl

theorem ident_good {i : Ident} (h : UOK (identTok i)) : goodIdent i = true :=
  goodSp_of_uok h rfl rfl

theorem identsDotted_good : ∀ (parts : List Ident), AllOK (identsDotted parts) → parts.all goodIdent = true
  | [], _ => rfl
  | [i], h => by
    simp only [identsDotted, AllOK_cons] at h
    simp only [List.all_cons, List.all_nil, Bool.and_true]
    exact ident_good h.1
  | i :: j :: is, h => by
    simp only [identsDotted, AllOK_cons] at h
    have ih := identsDotted_good (j :: is) (by simpa only [identsDotted, AllOK_cons] using h.2.2)
    rw [List.all_cons, ih, ident_good h.1]
    rfl

theorem goodE_alg : UnparseExprAlg (fun e us => AllOK us → goodE e = true)
    (fun es us => AllOK us → goodL es = true) where
  qident := fun i is => identsDotted_good (i :: is)
  lit := fun _ _ _ hu => goodSp_of_uok (AllOK_cons.1 hu).1 rfl rfl
  unary := fun _ _ _ _ ih hu => and_true' (sym_good (AllOK_cons.1 hu).1) (ih (AllOK_cons.1 hu).2)
  binary := fun _ _ _ _ _ _ ihx ihy hu => by
    simp only [AllOK_append, AllOK_cons] at hu
    exact and_true' (and_true' (ihx hu.1) (sym_good hu.2.1)) (ihy hu.2.2)
  inE := fun _ _ _ _ _ _ _ ihx ihv hu => by
    simp only [AllOK_append, AllOK_cons, and_assoc] at hu
    exact and_true' (and_true' (and_true' (and_true' (ihx hu.1) (sym_good hu.2.1)) (sym_good hu.2.2.1))
      (ihv hu.2.2.2.1)) (sym_good hu.2.2.2.2.1)
  paren := fun _ _ _ _ ih hu => by
    simp only [AllOK_append, AllOK_cons, and_assoc] at hu
    exact and_true' (and_true' (sym_good hu.1) (ih hu.2.1)) (sym_good hu.2.2.1)
  call := fun _ _ _ _ _ iha hu => by
    simp only [AllOK_append, AllOK_cons, and_assoc] at hu
    exact and_true' (and_true' (and_true' (ident_good hu.1) (sym_good hu.2.1)) (iha hu.2.2.1))
      (symOpt_good hu.2.2.2.1)
  index := fun _ _ _ _ _ _ ihx ihi hu => by
    simp only [AllOK_append, AllOK_cons, and_assoc] at hu
    exact and_true' (and_true' (and_true' (ihx hu.1) (sym_good hu.2.1)) (ihi hu.2.2.1)) (sym_good hu.2.2.2.1)
  lnil := fun _ => rfl
  one := fun _ _ ih hu => and_true' (ih hu) rfl
  cons := fun _ _ _ _ _ ihe ihl hu => by
    simp only [AllOK_append, AllOK_cons] at hu
    exact and_true' (ihe hu.1) (ihl hu.2.2)

theorem goodE_of_unparse : (e : Expr) → (us : List UTok) → unparseExpr e = some us → AllOK us →
    goodE e = true := goodE_alg.expr

theorem goodL_of_unparse : (es : ExprList) → (us : List UTok) → unparseExprList es = some us → AllOK us →
    goodL es = true := goodE_alg.list

/-! Every expression position of a tree that unparses does so itself, to part of the tokens
(`ParsedOK.unparse_alg`); so token spans in the tokens are token spans in the sliced columns. -/

theorem AllOK.subClosed : ParsedOK.SubClosed AllOK :=
  fun _ _ _ h => (AllOK_append.1 (AllOK_append.1 h).1).2

theorem goodCols_of {cs : List Column} (h : ∀ c ∈ cs, ParsedOK.USeg AllOK c.x) : goodCols cs = true :=
  List.all_eq_true.2 fun c hc => let ⟨us, hx, hu⟩ := h c hc; goodE_of_unparse c.x us hx hu

theorem goodOp_alg {EL : ExprList → Prop} : TreeAlg
    (fun t => ParsedOK.TabAll (ParsedOK.USeg AllOK) EL t → TabAll goodOp t = true)
    (fun o => ParsedOK.OpAll (ParsedOK.USeg AllOK) EL o → OpAll goodOp o = true)
    (fun ops => ParsedOK.OpsAll (ParsedOK.USeg AllOK) EL ops → OpsAll goodOp ops = true) where
  tnil := fun _ => rfl
  tmk := fun _ _ ih => ih
  onil := fun _ => rfl
  cons := fun _ _ iho ihl h => and_true' (iho h.1) (ihl h.2)
  count := fun _ _ _ => rfl
  where_ := fun _ _ _ _ => rfl
  sort := fun _ _ _ _ => rfl
  take := fun _ _ _ _ => rfl
  top := fun _ _ _ _ _ _ => rfl
  project := fun _ _ _ _ => rfl
  extend := fun _ _ _ => goodCols_of
  summarize := fun _ _ _ _ _ h => and_true' (goodCols_of h.1) (goodCols_of h.2)
  join := fun _ _ _ _ _ _ _ _ _ _ ih h => ih h.1
  as_ := fun _ _ _ _ => rfl
  render := fun _ _ _ _ _ _ _ _ => rfl

theorem opsAll_of_unparse : (ops : OpList) → (us : List UTok) → unparseOps ops = some us → AllOK us →
    OpsAll goodOp ops = true :=
  fun ops us h hu => goodOp_alg.ops ops ((ParsedOK.unparse_alg AllOK.subClosed).ops ops us h hu)

theorem colsGoodStmt_of_unparse (st : Stmt) (us : List UTok) (h : unparseStmt st = some us) (hu : AllOK us) :
    colsGoodStmt st = true :=
  match st, h with
  | .let_ .., _ => rfl
  | .tabular t, h => goodOp_alg.tabular t ((ParsedOK.unparse_alg AllOK.subClosed).tabular t us h hu)

theorem colsGood_of_parse (src : Bytes) (stmts : List Stmt) (h : parse src = (stmts, [])) :
    ∀ st ∈ stmts, colsGoodStmt st = true := by
  intro st hst
  obtain ⟨g, hg, us, hus, hacc⟩ := (C08.C08_accounted_parse src stmts h).exists_mem st hst
  exact colsGoodStmt_of_unparse _ us hus (accounts_uok us g hacc fun t ht =>
    TokP_scan src t ((splitStatementsToks_sublist _ g hg).subset ht))

end Pql.CliSem
