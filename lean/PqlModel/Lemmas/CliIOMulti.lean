/-
`multiReadCloser.Read` is a logical concatenation: lemmas for `C16_multi_concat`.

Why a drain yields the content is said once, for any stream (`Delivers`, `Delivers.drain`): every `Read` hands over the
next part of what is left.  A single reader and the multi-reader are the two instances.  What one call of the multi-reader
does, by the shape of the scripts (`0, io.EOF`, `0, nil` or data, an error, data with `io.EOF`), is `multiRead_cases`; every fact
about `multiRead` is read off it.
-/
import PqlModel.Lemmas.CliIOModel
namespace Pql.CliIO
open Pql

def toEnding : Bytes × Bool → Bytes × Ending
  | (b, true) => (b, .err)
  | (b, false) => (b, .eof)

theorem toEnding_fst (p : Bytes × Bool) : (toEnding p).1 = p.1 := by
  obtain ⟨b, f⟩ := p; cases f <;> rfl

theorem toEnding_snd (p : Bytes × Bool) : (toEnding p).2 = if p.2 then .err else .eof := by
  obtain ⟨b, f⟩ := p; cases f <;> rfl

theorem multiRead_nil_reader (rest : List Reader) : multiRead ([] :: rest) = multiRead rest := by
  simp [multiRead, Reader.read]

theorem multiRead_ok (c : Bytes) (r' : Reader) (rest : List Reader) :
    multiRead (((c, .ok) :: r') :: rest) = ((c, .ok), r' :: rest) := by
  simp [multiRead, Reader.read]

theorem multiRead_err (c : Bytes) (r' : Reader) (rest : List Reader) :
    multiRead (((c, .err) :: r') :: rest) = ((c, .err), r' :: rest) := by
  simp [multiRead, Reader.read]

theorem multiRead_eof_empty (r' : Reader) (rest : List Reader) :
    multiRead ((([], .eof) :: r') :: rest) = multiRead rest := by
  simp [multiRead, Reader.read]

theorem multiRead_eof_data (c : Bytes) (hc : c ≠ []) (r' : Reader) (rest : List Reader) :
    multiRead (((c, .eof) :: r') :: rest) = ((c, if rest ≠ [] then .ok else .eof), rest) := by
  simp [multiRead, Reader.read, hc]

theorem totalResults_cons (r : Reader) (rest : List Reader) :
    totalResults (r :: rest) = r.length + totalResults rest := by
  simp [totalResults]

theorem toEnding_append (c : Bytes) (p : Bytes × Bool) :
    (c ++ (toEnding p).1, (toEnding p).2) = toEnding (c ++ p.1, p.2) := by
  obtain ⟨b, f⟩ := p
  cases f <;> rfl

theorem concatContents_cons_nil (rest : List Reader) :
    concatContents ([] :: rest) = concatContents rest := by
  simp [concatContents, Reader.content]

theorem content_of_read_eof {r : Reader} (h : (Reader.read r).1 = ([], .eof)) : r.content = ([], false) := by
  rcases r with _ | ⟨x, r'⟩
  · rfl
  · obtain rfl : x = ([], .eof) := h
    rfl

/-- **One `Read` of the multi-reader, by the shape of the scripts**: readers that answer `0, io.EOF` are skipped within the
    call; the first other reader answers it — with `nil` or an error (it stays at the head), or with data and `io.EOF` (it is
    dropped, and the `io.EOF` is passed on only if it was the last). -/
theorem multiRead_cases {P : List Reader → ReadResult × List Reader → Prop}
    (nil : P [] (([], .eof), []))
    (skip : ∀ r rest res, (Reader.read r).1 = ([], .eof) → P rest res → P (r :: rest) res)
    (ok : ∀ c r' rest, P (((c, .ok) :: r') :: rest) ((c, .ok), r' :: rest))
    (err : ∀ c r' rest, P (((c, .err) :: r') :: rest) ((c, .err), r' :: rest))
    (last : ∀ c r', c ≠ [] → P [(c, .eof) :: r'] ((c, .eof), []))
    (more : ∀ c r' rest, c ≠ [] → rest ≠ [] → P (((c, .eof) :: r') :: rest) ((c, .ok), rest)) :
    ∀ rs, P rs (multiRead rs)
  | [] => nil
  | [] :: rest => by rw [multiRead_nil_reader]; exact skip _ _ _ rfl (multiRead_cases nil skip ok err last more rest)
  | ((c, .ok) :: r') :: rest => by rw [multiRead_ok]; exact ok c r' rest
  | ((c, .err) :: r') :: rest => by rw [multiRead_err]; exact err c r' rest
  | ((c, .eof) :: r') :: rest => by
    by_cases hc : c = []
    · subst hc
      rw [multiRead_eof_empty]; exact skip _ _ _ rfl (multiRead_cases nil skip ok err last more rest)
    · rw [multiRead_eof_data c hc]
      by_cases hrest : rest = []
      · subst hrest; exact last c r' hc
      · rw [if_pos hrest]; exact more c r' rest hc hrest

def ReadResult.andThen (x : ReadResult) (p : Bytes × Bool) : Bytes × Bool :=
  match x.2 with
  | .ok => (x.1 ++ p.1, p.2)
  | .eof => (x.1, false)
  | .err => (x.1, true)

/-- `read` DELIVERS `content`: what is left in a state is the next result followed by what is left after it, and a
    result that does not end the stream uses up some of `size`. -/
structure Delivers {σ : Type} (read : σ → ReadResult × σ) (content : σ → Bytes × Bool) (size : σ → Nat) : Prop where
  next : ∀ s, content s = (read s).1.andThen (content (read s).2)
  less : ∀ s, (read s).1.2 = .ok → size (read s).2 < size s

theorem Delivers.drain {σ : Type} {read : σ → ReadResult × σ} {content : σ → Bytes × Bool} {size : σ → Nat}
    (h : Delivers read content size) :
    ∀ (fuel : Nat) (s : σ), size s + 1 ≤ fuel → drain read fuel s = toEnding (content s)
  | 0, _, hf => by omega
  | fuel + 1, s, hf => by
    have hn := h.next s
    have hl := h.less s
    rcases hr : read s with ⟨⟨c, st⟩, s'⟩
    rw [hr] at hn hl
    rw [hn]
    cases st with
    | ok =>
      have ih := h.drain fuel s' (by have := hl rfl; simp only at this; omega)
      simp only [CliIO.drain, hr, ih]
      exact toEnding_append c _
    | eof => simp only [CliIO.drain, hr]; rfl
    | err => simp only [CliIO.drain, hr]; rfl

theorem reader_delivers : Delivers Reader.read Reader.content List.length where
  next := fun r => by
    rcases r with _ | ⟨⟨c, st⟩, r'⟩
    · rfl
    · cases st <;> rfl
  less := fun r h => by
    rcases r with _ | ⟨x, r'⟩
    · cases h
    · exact Nat.lt_succ_self _

theorem concatContents_single (r : Reader) : concatContents [r] = r.content := by
  simp only [concatContents]
  cases h : r.content with
  | mk b f => cases f <;> simp

theorem concatContents_map (rs : List Reader) :
    concatContents rs =
      (rs.map Reader.content).foldr (fun p q => if p.2 then (p.1, true) else (p.1 ++ q.1, q.2)) ([], false) := by
  induction rs with
  | nil => rfl
  | cons r rs ih => simp only [concatContents, List.map_cons, List.foldr_cons, ← ih]

def noErr (rs : List Reader) : Bool := rs.all fun r => r.all fun x => x.2 != .err

theorem content_noErr (r : Reader) (h : (r.all fun x => x.2 != .err) = true) :
    r.content.2 = false := by
  induction r with
  | nil => rfl
  | cons x r' ih =>
    obtain ⟨c, st⟩ := x
    simp only [List.all_cons, Bool.and_eq_true] at h
    cases st with
    | ok => simp only [Reader.content]; exact ih h.2
    | eof => rfl
    | err => simp at h

theorem concatContents_noErr (rs : List Reader) (h : noErr rs = true) :
    concatContents rs = ((rs.map fun r => r.content.1).flatten, false) := by
  induction rs with
  | nil => rfl
  | cons r rest ih =>
    simp only [noErr, List.all_cons, Bool.and_eq_true] at h
    have h1 := content_noErr r h.1
    have h2 := ih (by simpa [noErr] using h.2)
    simp only [concatContents, h2]
    cases hr : r.content with
    | mk b f =>
      rw [hr] at h1
      simp only at h1
      subst h1
      simp [hr]

theorem multiRead_progress (rs : List Reader) :
    totalResults (multiRead rs).2 < totalResults rs ∨
      (totalResults rs = 0 ∧ multiRead rs = (([], .eof), [])) := by
  refine multiRead_cases (P := fun rs res => totalResults res.2 < totalResults rs ∨ (totalResults rs = 0 ∧ res = (([], .eof), [])))
    (.inr ⟨rfl, rfl⟩) ?_ ?_ ?_ ?_ ?_ rs
  · intro r rest res _ ih
    rw [totalResults_cons]
    rcases ih with h | ⟨h, rfl⟩
    · exact .inl (by omega)
    · rcases Nat.eq_zero_or_pos r.length with h0 | h0
      · exact .inr ⟨by omega, rfl⟩
      · exact .inl (by simp only [totalResults, List.map_nil, List.sum_nil]; omega)
  all_goals intros; left; simp only [totalResults_cons, List.length_cons]; omega

theorem multiRead_delivers : Delivers multiRead concatContents totalResults where
  next := multiRead_cases (P := fun rs res => concatContents rs = res.1.andThen (concatContents res.2)) rfl
    (fun r rest res hr ih => by simp only [concatContents, content_of_read_eof hr]; simpa using ih)
    (fun c r' rest => by
      cases h : Reader.content r' with
      | mk b f => cases f <;> simp [concatContents, Reader.content, h, ReadResult.andThen])
    (fun c r' rest => by simp [concatContents, Reader.content, ReadResult.andThen])
    (fun c r' _ => by simp [concatContents, Reader.content, ReadResult.andThen])
    (fun c r' rest _ _ => by simp [concatContents, Reader.content, ReadResult.andThen])
  less := fun rs h => (multiRead_progress rs).resolve_right fun ⟨_, e⟩ => by rw [e] at h; cases h

/-- **No invented `0, nil`.**  `multiReadCloser.Read` returns `0, nil` only by handing through a
    `0, nil` of an underlying reader: the readers before it had all just answered `0, io.EOF`
    (and were dropped), and it is that reader's own next result. -/
theorem multiRead_zero_nil (rs rs' : List Reader) (h : multiRead rs = (([], .ok), rs')) :
    ∃ dropped r' rest, rs = dropped ++ (([], .ok) :: r') :: rest ∧ rs' = r' :: rest ∧
      ∀ d ∈ dropped, (Reader.read d).1 = (([], Status.eof) : ReadResult) := by
  revert rs' h
  refine multiRead_cases (P := fun rs res => ∀ rs', res = (([], .ok), rs') →
    ∃ dropped r' rest, rs = dropped ++ (([], .ok) :: r') :: rest ∧ rs' = r' :: rest ∧
      ∀ d ∈ dropped, (Reader.read d).1 = (([], Status.eof) : ReadResult)) ?_ ?_ ?_ ?_ ?_ ?_ rs
  · intro _ h; cases h
  · intro r rest res hr ih rs' h
    obtain ⟨d, r', rest', h1, h2, h3⟩ := ih rs' h
    exact ⟨r :: d, r', rest', by rw [h1]; rfl, h2, List.forall_mem_cons.mpr ⟨hr, h3⟩⟩
  · intro c r' rest rs' h
    obtain ⟨⟨rfl, -⟩, rfl⟩ := Prod.mk.inj h |>.imp Prod.mk.inj id
    exact ⟨[], r', rest, rfl, rfl, by simp⟩
  · intro _ _ _ _ h; cases h
  · intro _ _ _ _ h; cases h
  · intro c _ _ hc _ _ h; exact absurd (Prod.mk.inj (Prod.mk.inj h).1).1 hc

end Pql.CliIO
