/-
LexRender for whole statements (C05, lexical half): the side condition on trees
(`Tabular.lexOK`: every expression occurring in an operator is `Expr.lexOK`), and the column /
sort-term writers: their outputs are `Good` (adjacent before every separator or the end of the text).
-/
import PqlModel.Lemmas.LexStmtScope
import PqlModel.Lemmas.ScopeWriteSub
namespace Pql
open Sql

/-- a project column: the expression may be absent (`project a`), see `Subquery.write` -/
def Column.projOK (c : Column) : Bool :=
  match c.x with
  | .nil => true
  | x => x.lexOK

mutual
/-- every expression that occurs in an operator of the pipeline (recursively in the right-hand
    sides of joins) is `Expr.lexOK`; names, strings and render values are unconstrained -/
def Tabular.lexOK : Tabular → Bool
  | .nil => true
  | .mk _ ops => ops.lexOK
def Op.lexOK : Op → Bool
  | .count .. => true
  | .where_ _ _ pred => pred.lexOK
  | .sort _ _ terms => terms.all fun t => t.x.lexOK
  | .take _ _ n => n.lexOK
  | .top _ _ n _ col => n.lexOK && (match col with | some t => t.x.lexOK | none => true)
  | .project _ _ cols => cols.all Column.projOK
  | .extend _ _ cols => cols.all fun c => c.x.lexOK
  | .summarize _ _ cols _ groupBy => (cols.all fun c => c.x.lexOK) && (groupBy.all fun c => c.x.lexOK)
  | .join _ _ _ _ _ _ right _ _ conds => right.lexOK && conds.lexOK
  | .as_ .. => true
  | .render .. => true
def OpList.lexOK : OpList → Bool
  | .nil => true
  | .cons o os => o.lexOK && os.lexOK
end

end Pql

namespace Pql.C05
open Pql Sql LexRender

theorem mapM_forall {α β : Type} {P : β → Prop} {f : α → Except WErr β} :
    ∀ (l : List α), (∀ a ∈ l, ∀ b, f a = .ok b → P b) → ∀ bs, l.mapM f = .ok bs → ∀ b ∈ bs, P b
  | [], _, bs, h => by
    rw [List.mapM_nil] at h; cases h; simp
  | a :: l, hf, bs, h => by
    rw [List.mapM_cons] at h
    obtain ⟨b, hb, h⟩ := bind_ok h
    obtain ⟨bs', hbs, h⟩ := bind_ok h
    cases h
    intro x hx
    rcases List.mem_cons.mp hx with rfl | hx
    · exact hf a List.mem_cons_self _ hb
    · exact mapM_forall l (fun a' ha' => hf a' (List.mem_cons_of_mem _ ha')) bs' hbs x hx

theorem lexOK_qident (parts : List Ident) : (Expr.qident parts).lexOK = true := by
  simp [Expr.lexOK]

section
variable (ctx : Ctx) (hscope : ScopeAdj ctx.scope)
include hscope

theorem writeExpr_Good {e : Expr} (hok : e.lexOK = true) {cs : List Chunk} (h : writeExpr ctx e = .ok cs) :
    Good cs := (writeExpr_good_scope ctx hscope e hok cs h).1

theorem projCol_good {c : Column} (hc : c.projOK = true) {cs : List Chunk} (h : projCol ctx c = .ok cs) :
    Good cs := by
  have hok : (projExpr c).lexOK = true := by
    unfold Column.projOK at hc
    unfold projExpr
    cases hx : c.x with
    | nil => exact lexOK_qident _
    | _ => simpa only [hx] using hc
  rw [projCol_eq] at h
  obtain ⟨x, hx, h⟩ := bind_ok h
  cases h
  exact good_app (writeExpr_Good ctx hscope hok hx) (by decide) (good_cons_inert (by decide) (good_qid _))

omit hscope in
theorem columnAlias_good {c : Column} {a : List Chunk} (h : columnAlias ctx c = .ok a) :
    Good a ∧ SepLed a := by
  unfold columnAlias at h
  split at h
  · cases h
    exact ⟨good_cons_inert (by decide) (good_qid _), sepLed_txt _ (by decide)⟩
  · obtain ⟨t, _, h⟩ := bind_ok h
    cases h
    exact ⟨good_cons_inert (by decide) (good_qid _), sepLed_txt _ (by decide)⟩

theorem writeColumns_good : ∀ (cols : List Column), (cols.all fun c => c.x.lexOK) = true →
    ∀ cs, writeColumns ctx cols = .ok cs → ∀ c ∈ cs, Good c
  | [], _, cs, h => by
    rw [writeColumns] at h; cases h; simp
  | c :: cols, hok, cs, h => by
    rw [writeColumns] at h
    simp only [List.all_cons, Bool.and_eq_true] at hok
    obtain ⟨x, hx, h⟩ := bind_ok h
    obtain ⟨a, ha, h⟩ := bind_ok h
    obtain ⟨r, hr, h⟩ := bind_ok h
    cases h
    intro y hy
    rcases List.mem_cons.mp hy with rfl | hy
    · have := columnAlias_good ctx ha
      exact good_append (writeExpr_Good ctx hscope hok.1 hx) this.2 this.1
    · exact writeColumns_good cols hok.2 r hr y hy

theorem writeSortTerms_good : ∀ (ts : List SortTerm), (ts.all fun t => t.x.lexOK) = true →
    ∀ cs, writeSortTerms ctx ts = .ok cs → ∀ c ∈ cs, Good c
  | [], _, cs, h => by
    rw [writeSortTerms] at h; cases h; simp
  | t :: ts, hok, cs, h => by
    rw [writeSortTerms] at h
    simp only [List.all_cons, Bool.and_eq_true] at hok
    obtain ⟨x, hx, h⟩ := bind_ok h
    obtain ⟨r, hr, h⟩ := bind_ok h
    cases h
    intro y hy
    rcases List.mem_cons.mp hy with rfl | hy
    · refine good_append (writeExpr_Good ctx hscope hok.1 hx) ?_ ?_
      · cases t.asc <;> exact sepLed_txt _ (by decide)
      · have h2 : Good [Chunk.txt (if t.nullsFirst = true then " NULLS FIRST" else " NULLS LAST")] := by
          cases t.nullsFirst <;> exact good_txt_sep (by decide)
        have l2 : SepLed [Chunk.txt (if t.nullsFirst = true then " NULLS FIRST" else " NULLS LAST")] := by
          cases t.nullsFirst <;> exact sepLed_txt _ (by decide)
        cases t.asc <;> exact good_cons_sep (by decide) l2 h2
    · exact writeSortTerms_good ts hok.2 r hr y hy

theorem groupBy_good (cols : List Column) (hok : (cols.all fun c => c.x.lexOK) = true)
    (gb : List (List Chunk)) (h : cols.mapM (fun (c : Column) => writeExpr ctx c.x) = .ok gb) :
    ∀ g ∈ gb, Good g :=
  mapM_forall cols (fun c hc b hb =>
    writeExpr_Good ctx hscope (by simpa using List.all_eq_true.mp hok c hc) hb) gb h

end

end Pql.C05
