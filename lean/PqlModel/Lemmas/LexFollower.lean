/-
Exchanging what follows a step boundary of the scanner.

If the scan of `x ++ c :: y` has a step boundary at the end of `x`, so has the scan of `x ++ b :: z`,
for a byte `b` that continues no token (`stopByte`) and that either ends strings and quoted names as
well (newline: the weakest follower) or is `c` itself (';': the boundary before a ';' does not
depend on what follows the ';').  A step that starts before `b` ends before it (`scanOne_stop`)
unless it is a string literal, a back-quoted identifier or a `//` comment; those three stop at a
definite byte of `x` if they stop inside `x` at all.
-/
import PqlModel.Lemmas.LexNewline
namespace Pql

theorem commentLen_indep (x y r : Bytes) (c : UInt8)
    (h : commentLen (x ++ c :: y) ≤ x.length) : commentLen (x ++ r) = commentLen x := by
  induction x with
  | nil =>
    simp only [List.nil_append, commentLen, List.length_nil] at h
    split at h <;> omega
  | cons d x ih =>
    simp only [List.cons_append, commentLen, List.length_cons] at h ⊢
    split
    · rfl
    · rename_i hd
      simp only [hd] at h
      rw [ih (by simpa using h)]

theorem commentLen_follower (x y r : Bytes) (c : UInt8)
    (h : commentLen (x ++ c :: y) ≤ x.length) : commentLen (x ++ r) ≤ x.length := by
  rw [commentLen_indep x y r c h, ← commentLen_indep x y (c :: y) c h]
  exact h

theorem stringLoop_follower (q b : UInt8) (x y z : Bytes)
    (h : (stringLoop q (x ++ b :: y)).width ≤ x.length) :
    (stringLoop q (x ++ b :: z)).width ≤ x.length := by
  fun_induction stringLoop q x with
  | case1 =>
    -- only `b = '\n'` stops a string right at `b`, and then whatever follows
    simp only [List.nil_append, List.length_nil, stringLoop_cons] at h ⊢
    by_cases h1 : (b == q) = true
    · simp [h1, QRes.width] at h
    · by_cases h2 : (b == 10) = true
      · simp [h1, h2, QRes.width]
      · exfalso
        rw [if_neg h1, if_neg h2] at h
        split at h
        · split at h
          · simp [QRes.width] at h
          · split at h
            · simp [QRes.width] at h
            · simp at h
        · simp at h
  | case2 c rest hc => simp [stringLoop_cons, hc]
  | case3 c rest hc hc' => simp [stringLoop_cons, hc, hc']
  | case4 c hc hc' hc'' =>
    simp only [List.cons_append, List.nil_append, List.length_cons, List.length_nil,
      stringLoop_cons, hc, hc', hc'', Bool.false_eq_true, ↓reduceIte] at h ⊢
    split at h <;> simp_all [QRes.width_shift]
  | case5 c hc hc' hc'' e rest' he => simp [stringLoop_cons, hc, hc', hc'', he]
  | case6 c hc hc' hc'' e rest' he v ih =>
    simp only [List.cons_append, List.length_cons, stringLoop_cons, hc, hc', hc'', he,
      Bool.false_eq_true, ↓reduceIte, QRes.width_shift] at h ⊢
    have := ih (by omega)
    omega
  | case7 c rest hc hc' hc'' ih =>
    simp only [List.cons_append, List.length_cons, stringLoop_cons, hc, hc', hc'',
      Bool.false_eq_true, ↓reduceIte, QRes.width_shift] at h ⊢
    have := ih (by omega)
    omega

theorem qidentLoop_follower (b : UInt8) (x y z : Bytes)
    (h : (qidentLoop (x ++ b :: y)).width ≤ x.length) :
    (qidentLoop (x ++ b :: z)).width ≤ x.length := by
  fun_induction qidentLoop x with
  | case1 =>
    simp only [List.nil_append, List.length_nil, qidentLoop_cons] at h ⊢
    repeat' split at h
    all_goals simp_all [QRes.width_shift]
  | case2 c hc =>
    simp only [List.cons_append, List.nil_append, List.length_cons, List.length_nil, qidentLoop,
      hc, if_true] at h ⊢
    split at h <;> simp_all [QRes.width_shift]
  | case3 c hc d rest' hd ih =>
    simp only [List.cons_append, List.length_cons, qidentLoop, hc, hd, if_true,
      QRes.width_shift] at h ⊢
    have := ih (by omega)
    omega
  | case4 c hc d rest' hd =>
    simp [qidentLoop, hc, hd]
  | case5 c rest hc hc' =>
    simp [qidentLoop_cons, hc, hc']
  | case6 c rest hc hc' ih =>
    simp only [List.cons_append, List.length_cons, qidentLoop_cons, hc, hc', Bool.false_eq_true,
      ↓reduceIte, QRes.width_shift] at h ⊢
    have := ih (by omega)
    omega

theorem scanOne_follower {b c : UInt8} (hb : stopByte b = true) (hq : quoteStop b = true ∨ c = b)
    (x y z : Bytes) (h : (scanOne (x ++ c :: y)).width ≤ x.length) :
    (scanOne (x ++ b :: z)).width ≤ x.length := by
  cases x with
  | nil =>
    have := scanOne_width_pos c y
    simp at h; omega
  | cons d x =>
    rcases scanOne_stop hb d x z with h1 | ⟨hd, hnq⟩ | ⟨rfl, h2⟩
    · simpa using h1
    · -- quoted text that `b` does not end: then `b` is the old follower
      obtain rfl : c = b := hq.resolve_left (by rw [hnq]; nofun)
      rcases hd with rfl | rfl | rfl
      · simp only [List.cons_append, scanOne_string 34 (Or.inl rfl), List.length_cons] at h ⊢
        have := stringLoop_follower 34 c x y z (by omega)
        omega
      · simp only [List.cons_append, scanOne_string 39 (Or.inr rfl), List.length_cons] at h ⊢
        have := stringLoop_follower 39 c x y z (by omega)
        omega
      · simp only [List.cons_append, scanOne_qident, List.length_cons] at h ⊢
        have := qidentLoop_follower c x y z (by omega)
        omega
    · cases x with
      | nil => simp at h2
      | cons e x =>
        obtain rfl : e = 47 := by simpa using h2
        simp only [List.cons_append, scanOne_comment, List.length_cons] at h ⊢
        have := commentLen_follower x y (b :: z) c (by omega)
        omega

theorem reaches_follower {c b : UInt8}
    (H : ∀ x y z, (scanOne (x ++ c :: y)).width ≤ x.length →
      (scanOne (x ++ b :: z)).width ≤ x.length)
    (x y z : Bytes) (h : Reaches (x ++ c :: y) x.length) : Reaches (x ++ b :: z) x.length := by
  refine Reaches.prefix_induct (P := fun x => Reaches (x ++ b :: z) x.length) (Reaches.here _) ?_ x h
  intro x hne hx ih
  have hw := scanOne_width_le x
  have hx2 := scanOne_append x (b :: z) (H x y z (hx ▸ hw))
  have := Reaches.step (x ++ b :: z) _ (by simp) (by
    rw [hx2, List.drop_append_of_le_length hw]; exact ih)
  rw [hx2, List.length_drop] at this
  have he : (scanOne x).width + (x.length - (scanOne x).width) = x.length := by omega
  rwa [he] at this

theorem reaches_newline_of_other (x y z : Bytes) (c : UInt8)
    (h : Reaches (x ++ c :: y) x.length) : Reaches (x ++ 10 :: z) x.length :=
  reaches_follower (scanOne_follower stopByte_nl.1 (.inl stopByte_nl.2)) x y z h

theorem reaches_semi_indep (x y z : Bytes) (h : Reaches (x ++ 59 :: y) x.length) :
    Reaches (x ++ 59 :: z) x.length :=
  reaches_follower (scanOne_follower stopByte_semi (.inr rfl)) x y z h

end Pql
