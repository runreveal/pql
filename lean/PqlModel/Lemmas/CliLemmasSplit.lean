/-
`splitStatements` of `x ++ y` when `x.length` is a step boundary of the scan of `x ++ y`:
all pieces of `x` but the last, then the pieces of (last piece of `x`) ++ `y`.
-/
import PqlModel.Lemmas.LexSplit
import PqlModel.Lemmas.LexNewline
namespace Pql

/-- the statement still open at the end of `x`: the text behind its last ';' token (`C16.openStatement` is this of the
    normalised lines) -/
def lastPiece (x : Bytes) : Bytes := (splitStatements x).getLast?.getD []

theorem getLast?_append_ne {α} (a b : List α) (h : b ≠ []) : (a ++ b).getLast? = b.getLast? := by
  rw [List.getLast?_append]
  cases hb : b.getLast? with
  | none => exact absurd (List.getLast?_eq_none_iff.mp hb) h
  | some x => rfl

theorem splitStatements_append_aux (x y : Bytes) (h : Reaches (x ++ y) x.length) :
    splitStatements (x ++ y) =
        (splitStatements x).dropLast ++ splitStatements (lastPiece x ++ y) ∧
      Reaches (lastPiece x ++ y) (lastPiece x).length := by
  unfold lastPiece
  revert h
  refine splitStatements_induct (P := fun s ps => Reaches (s ++ y) s.length →
    splitStatements (s ++ y) = ps.dropLast ++ splitStatements (ps.getLast?.getD [] ++ y) ∧
      Reaches (ps.getLast?.getD [] ++ y) (ps.getLast?.getD []).length)
    (fun s _ h => ⟨by simp, h⟩) ?_ x
  intro u v h2 h3 ih h
  have hxy : (u ++ 59 :: v) ++ y = u ++ 59 :: (v ++ y) := by simp
  have hr' : Reaches (u ++ 59 :: (v ++ y)) u.length := by
    rw [← hxy]; exact reaches_append h h2
  have hv : Reaches (v ++ y) v.length := by
    have h6 := (reaches_semi_succ hr').cancel (u ++ 59 :: v).length (by rw [← hxy]; exact h) (by simp)
    have hd : (u ++ 59 :: (v ++ y)).drop (u.length + 1) = v ++ y := by
      have : u ++ 59 :: (v ++ y) = (u ++ [59]) ++ (v ++ y) := by simp
      rw [this, List.drop_left' (by simp)]
    rw [hd] at h6
    have he : (u ++ 59 :: v).length - (u.length + 1) = v.length := by
      simp only [List.length_append, List.length_cons]; omega
    rwa [he] at h6
  have hne := splitStatements_ne_nil v
  rw [List.getLast?_cons_of_ne_nil hne, hxy, splitStatements_semi u (v ++ y) hr' h3,
    List.dropLast_cons_of_ne_nil hne, (ih hv).1]
  exact ⟨by simp, (ih hv).2⟩

theorem splitStatements_append (x y : Bytes) (h : Reaches (x ++ y) x.length) :
    splitStatements (x ++ y) =
      (splitStatements x).dropLast ++ splitStatements (lastPiece x ++ y) :=
  (splitStatements_append_aux x y h).1

/-- No step of the scan straddles the end of `x`, whatever follows.  True behind a newline (`closed_newline`), which ends
    every comment and cuts every string.  `CliSem.SemiClosed` asks it of the followers that start with ';' only. -/
def Closed (x : Bytes) : Prop := ∀ y, Reaches (x ++ y) x.length

theorem closed_nil : Closed [] := fun _ => Reaches.here _

theorem closed_newline (a : Bytes) : Closed (a ++ [10]) := by
  intro y
  have := reaches_after_newline a y
  simpa using this

theorem closed_lastPiece {x : Bytes} (h : Closed x) : Closed (lastPiece x) :=
  fun y => (splitStatements_append_aux x y (h y)).2

theorem lastPiece_mem (x : Bytes) : lastPiece x ∈ splitStatements x := by
  unfold lastPiece
  cases hl : (splitStatements x).getLast? with
  | none => exact absurd (List.getLast?_eq_none_iff.mp hl) (splitStatements_ne_nil x)
  | some p => exact List.mem_of_getLast? hl

end Pql
