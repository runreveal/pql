/-
ParseRoundtrip under a scope: the invariant.  `GoodS ctx env e`: what the writer emits for `e`
under the scope `ctx.scope` is read as the intended translation of `substExpr env e` (the tree in
which the let-bound names are replaced by their values), as an expression, and, when
`writeExpressionMaybeParen` leaves it bare, as a unit / an atom (`Trip`).  `Good ctx e` is the case
`env = []`.  `RtInv` is the same as a motive for `WriterCases`; the facts shared by its forms —
operands written by `writeExpressionMaybeParen` / `writeExpressionTight`, the two operands of a binary
node, argument lists — are here.  The scope enters through `ScopeRT` (Lemmas/ScopeRTAll.lean) and,
in join conditions, through `JoinOK`: the writer decides "is this an equality between the two sides"
on the tree with the names, the translation on the tree with the values.
-/
import PqlModel.Lemmas.SqlRoundtripCalls
import PqlModel.Lemmas.ScopeLets
namespace Pql.RT
open Pql Sql CompileOracle

def GoodS (ctx : Ctx) (env : List (Bytes × Expr)) (e : Expr) : Prop :=
  ∀ cs want, writeExpr ctx e = .ok cs → tr (ctx.mode == .join) (substExpr env e) = some want →
    ExprP (toksOf cs) want ∧
    (needsWrap e = false → UnitP (toksOf cs) want) ∧
    (needsWrap e = false → isSigned e = false → AtomP (toksOf cs) want)

/-- the conclusion of `GoodS` for one token list: `ts` reads as `w` as an expression, as a unit if `wrapMaybe` leaves
    `e` bare, as an atom if `wrapTight` does -/
def Trip (e : Expr) (ts : List STok) (w : SExpr) : Prop :=
  ExprP ts w ∧ (needsWrap e = false → UnitP ts w) ∧ (needsWrap e = false → isSigned e = false → AtomP ts w)

section
variable {e x : Expr} {ts : List STok} {w : SExpr} {body : List Chunk}

theorem Trip.ofExpr (hw : needsWrap e = true) (h : ExprP ts w) : Trip e ts w :=
  ⟨h, ⟨fun h' => (by rw [hw] at h'; cases h'), fun h' => (by rw [hw] at h'; cases h')⟩⟩

theorem Trip.ofUnit (hs : isSigned e = true) (h : UnitP ts w) : Trip e ts w :=
  ⟨h.toExpr, ⟨fun _ => h, fun _ h' => by rw [hs] at h'; cases h'⟩⟩

theorem Trip.ofAtom (h : AtomP ts w) : Trip e ts w :=
  ⟨h.toExpr, ⟨fun _ => h.toUnit, fun _ _ => h⟩⟩

theorem toksOf_paren (body : List Chunk) : toksOf (parenthesise body) = S "(" :: (toksOf body ++ [S ")"]) := by
  simp [parenthesise]

theorem Trip.unit (g : Trip x (toksOf body) w) : UnitP (toksOf (wrapMaybe x body)) w := by
  unfold wrapMaybe
  cases hn : needsWrap x with
  | true => simp only [if_true, toksOf_paren]; exact g.1.paren.toUnit
  | false => simpa using g.2.1 hn

theorem Trip.tight (g : Trip x (toksOf body) w) : AtomP (toksOf (wrapTight x body)) w := by
  unfold wrapTight wrapMaybe
  cases hs : isSigned x with
  | true => simp only [if_true, toksOf_paren]; exact g.1.paren
  | false =>
    cases hn : needsWrap x with
    | true => simp only [Bool.false_eq_true, if_false, if_true, toksOf_paren]; exact g.1.paren
    | false => simpa using g.2.2 hn hs

end

section
variable {ctx : Ctx} {env : List (Bytes × Expr)} {x : Expr} {body : List Chunk} {w : SExpr}

theorem GoodS.unit (g : GoodS ctx env x) (h1 : writeExpr ctx x = .ok body)
    (h2 : tr (ctx.mode == .join) (substExpr env x) = some w) : UnitP (toksOf (wrapMaybe x body)) w :=
  Trip.unit (g body w h1 h2)

theorem GoodS.tight (g : GoodS ctx env x) (h1 : writeExpr ctx x = .ok body)
    (h2 : tr (ctx.mode == .join) (substExpr env x) = some w) : AtomP (toksOf (wrapTight x body)) w :=
  Trip.tight (g body w h1 h2)

theorem GoodS.expr (g : GoodS ctx env x) (h1 : writeExpr ctx x = .ok body)
    (h2 : tr (ctx.mode == .join) (substExpr env x) = some w) : ExprP (toksOf body) w :=
  (g body w h1 h2).1

theorem goodS_nil {e : Expr} : GoodS ctx [] e ↔ Good ctx e := by
  unfold GoodS Good; rw [substExpr_nil]

theorem Good.unit (g : Good ctx x) (h1 : writeExpr ctx x = .ok body) (h2 : tr (ctx.mode == .join) x = some w) :
    UnitP (toksOf (wrapMaybe x body)) w :=
  (goodS_nil.mpr g).unit h1 (by rwa [substExpr_nil])

theorem Good.expr (g : Good ctx x) (h1 : writeExpr ctx x = .ok body) (h2 : tr (ctx.mode == .join) x = some w) :
    ExprP (toksOf body) w :=
  (g body w h1 h2).1

end

def JoinOK (ctx : Ctx) (env : List (Bytes × Expr)) : Prop :=
  ctx.mode = .join → ∀ x, hasJoinTerms (substExpr env x) = hasJoinTerms x

abbrev RtInv (ctx : Ctx) (env : List (Bytes × Expr)) (e : Expr) (cs : List Chunk) : Prop :=
  shapeOK e = true → e.lexOK = true → ∀ want, tr (ctx.mode == .join) (substExpr env e) = some want →
    Trip e (toksOf cs) want

section
variable {ctx : Ctx} {env : List (Bytes × Expr)}

theorem joinTest_subst {x y : Expr} (hJ : JoinOK ctx env) :
    (ctx.mode == Mode.join && ((hasJoinTerms (substExpr env x)).fst || (hasJoinTerms (substExpr env y)).fst) &&
        ((hasJoinTerms (substExpr env x)).snd || (hasJoinTerms (substExpr env y)).snd)) = true ↔ Pql.joinTest ctx x y := by
  by_cases hm : ctx.mode = .join
  · rw [hJ hm x, hJ hm y]
    simp only [Pql.joinTest, Bool.and_eq_true, beq_iff_eq, and_assoc]
  · have : (ctx.mode == Mode.join) = false := by simpa using hm
    simp only [this, Bool.false_and, Bool.false_eq_true, Pql.joinTest, hm, false_and]

/-- the two operands of a binary node: the translation binds `x` then `y` and goes on with `k`; each operand gets its `Trip` -/
theorem two {x y : Expr} {a : Span} {op : TokKind} {xs ys : List Chunk} (ihx : RtInv ctx env x xs)
    (ihy : RtInv ctx env y ys) (hs : shapeOK (.binary x a op y) = true) (hl : (Expr.binary x a op y).lexOK = true)
    {k : SExpr → SExpr → Option SExpr} {want : SExpr}
    (h : (do let p ← tr (ctx.mode == .join) (substExpr env x); let q ← tr (ctx.mode == .join) (substExpr env y); k p q)
      = some want) :
    ∃ wx wy, Trip x (toksOf xs) wx ∧ Trip y (toksOf ys) wy ∧ k wx wy = some want := by
  simp only [shapeOK, Expr.lexOK, Bool.and_eq_true] at hs hl
  obtain ⟨wx, hwx, h⟩ := obind_some h
  obtain ⟨wy, hwy, h⟩ := obind_some h
  exact ⟨wx, wy, ihx hs.1 hl.1 wx hwx, ihy hs.2 hl.2 wy hwy, h⟩

theorem args_rel {es : ExprList} {as : List (List Chunk)} (h : Args (RtInv ctx env) es as) :
    shapeOKList es = true → es.lexOK = true → ∀ ws, trList (ctx.mode == .join) (substList env es) = some ws →
    ∃ ps, ArgRel ctx es as ws ps := by
  induction h with
  | nil =>
    intro _ _ ws h2
    simp only [substList, trList, Option.some.injEq] at h2
    subst h2
    exact ⟨[], rfl, rfl, rfl, by simp⟩
  | @cons e c es cs he _ ih =>
    intro hs hl ws h2
    simp only [shapeOKList, ExprList.lexOK, Bool.and_eq_true] at hs hl
    simp only [substList, trList] at h2
    obtain ⟨w, hw, h2⟩ := obind_some h2
    obtain ⟨ws', hws, h2⟩ := obind_some h2
    simp only [pure, Option.some.injEq] at h2
    subst h2
    obtain ⟨ps, hps⟩ := ih hs.2 hl.2 ws' hws
    have ge := he hs.1 hl.1 w hw
    refine ⟨(e, c, w) :: ps, ?_, ?_, ?_, ?_⟩
    · simp [ExprList.toList, hps.exprs]
    · simp [hps.chunks]
    · simp [ofL, hps.trs]
    · intro p hp
      rcases List.mem_cons.mp hp with rfl | hp
      · exact ⟨ge.1, ge.unit⟩
      · exact hps.good p hp

end

end Pql.RT
