/-
What `splitQueries` stores as a subquery's operator: nothing, or an operator of the tree that `Exact.storedOp`
accepts — a pointwise invariant of the split (`SplitQ.Run.forall_mem`).  Hence every subquery it builds satisfies
`WriteIR.irOK` when the `project` / `extend` / `render` operators of the tree (at any nesting depth of joins)
satisfy `irQ`; every tree with a token reading does (`unparseTabular t = some _`, which an error-free parse
guarantees: `parseTokens_acc`).
-/
import PqlModel.Lemmas.SplitQueriesInv
import PqlModel.Lemmas.AccountedStmt
import PqlModel.Lemmas.AccountedScan
import PqlModel.Lemmas.ParsedOKLeaves
import PqlModel.Props.C05WriteIRAll
import PqlModel.Lemmas.StmtLoop
namespace Pql.WriteInv
open Pql Pql.SplitQ Pql.Grammar

mutual
/-- `q` holds of every operator of the tree other than the joins themselves, at any nesting depth -/
def tabOpsAll (q : Op → Bool) : Tabular → Bool
  | .nil => true
  | .mk _ ops => opsOpsAll q ops
def opOpsAll (q : Op → Bool) : Op → Bool
  | .join _ _ _ _ _ _ right _ _ _ => tabOpsAll q right
  | .count p k => q (.count p k)
  | .where_ p k e => q (.where_ p k e)
  | .sort p k ts => q (.sort p k ts)
  | .take p k n => q (.take p k n)
  | .top p k n b c => q (.top p k n b c)
  | .project p k cs => q (.project p k cs)
  | .extend p k cs => q (.extend p k cs)
  | .summarize p k cs b gs => q (.summarize p k cs b gs)
  | .as_ p k n => q (.as_ p k n)
  | .render p k ch w lp props rp => q (.render p k ch w lp props rp)
def opsOpsAll (q : Op → Bool) : OpList → Bool
  | .nil => true
  | .cons o os => opOpsAll q o && opsOpsAll q os
end

theorem store_chain_op (q : Op → Bool) (o : Op) (ho : steps o = true) (dst : List Subquery) (k : Nat)
    (source : Option Ident) :
    (store o (chainSubquery dst k source)).op = none ∨
      (store o (chainSubquery dst k source)).op = some o ∧ Exact.storedOp o = true ∧ opOpsAll q o = q o := by
  cases o with
  | sort | take => exact .inl rfl
  | top p kw n b col => cases col <;> first | exact .inl rfl | cases ho
  | join => cases ho
  | _ => exact .inr ⟨rfl, rfl, rfl⟩

mutual
theorem tabOpsAll_true : ∀ t : Tabular, tabOpsAll (fun _ => true) t = true
  | .nil => rfl
  | .mk _ ops => by rw [tabOpsAll]; exact opsOpsAll_true ops
theorem opOpsAll_true : ∀ o : Op, opOpsAll (fun _ => true) o = true
  | .join _ _ _ _ _ _ right _ _ _ => by rw [opOpsAll]; exact tabOpsAll_true right
  | .count .. | .where_ .. | .sort .. | .take .. | .top .. | .project .. | .extend .. | .summarize ..
  | .as_ .. | .render .. => rfl
theorem opsOpsAll_true : ∀ ops : OpList, opsOpsAll (fun _ => true) ops = true
  | .nil => rfl
  | .cons o os => by rw [opsOpsAll, opOpsAll_true o, opsOpsAll_true os]; rfl
end

/-- **what `splitQueries` stores**: the list it returns extends `dst`, and `P` holds of the operator of every
    subquery it added when it holds of "no operator" and of every stored operator of the tree
    (`Run.forall_mem` from index `dst.length` on: sort / take / top only set the `sort` / `take` fields, a join
    only builds a `source`) -/
theorem splitQueries_new (P : Option Op → Prop) (q : Op → Bool) (hnone : P none)
    (hq : ∀ o, Exact.storedOp o = true → q o = true → P (some o))
    (src : Bytes) (scope : List (Bytes × List Chunk)) (dst subs : List Subquery) (t : Tabular)
    (ht : tabOpsAll q t = true) (h : splitQueries src scope dst t = .ok subs) :
    dst <+: subs ∧ ∀ s ∈ subs.drop dst.length, P s.op := by
  obtain ⟨source, ops, mid, rfl, hrun, rfl⟩ := splitQueries_run src scope t dst subs h
  rw [tabOpsAll] at ht
  have hpre : dst <+: mid := by
    have := (run_grows hrun).1
    rwa [List.take_length] at this
  refine ⟨hpre.trans (closeBlock_prefix _ _ _), forall_drop_closeBlock ?_ hnone⟩
  exact Run.forall_mem (P := fun s => P s.op) (Q := fun ops => opsOpsAll q ops = true)
    (Qo := fun o => opOpsAll q o = true) (Qc := fun _ => True)
    (fun _ _ h => by rwa [opsOpsAll, Bool.and_eq_true] at h)
    (fun _ _ _ _ _ _ _ _ _ _ _ h => ⟨by rwa [opOpsAll, tabOpsAll] at h, trivial⟩)
    (fun _ _ _ => hnone)
    (fun o _ _ _ ho hqo => (store_chain_op q o ho _ _ _).elim (· ▸ hnone) fun ⟨h, hs, he⟩ => h ▸ hq o hs (he ▸ hqo))
    (fun _ _ ha _ hl => (store_of_attaches ha).2.1 ▸ hl)
    (fun _ _ _ _ _ _ _ _ _ _ _ => hnone) hrun dst.length ht (by simp)

/-- the operator is absent or one of the kinds with a case of their own in the type switch of
    `(*subquery).write` -/
def storedSub (s : Subquery) : Bool :=
  match s.op with
  | none => true
  | some o => Exact.storedOp o

theorem stored_ops (src : Bytes) (scope : List (Bytes × List Chunk)) (dst subs : List Subquery) (t : Tabular)
    (h : splitQueries src scope dst t = .ok subs) :
    dst <+: subs ∧
    ∀ s ∈ subs.drop dst.length, s.op = none ∨ ∃ o, s.op = some o ∧ Exact.storedOp o = true :=
  splitQueries_new (fun op => op = none ∨ ∃ o, op = some o ∧ Exact.storedOp o = true) (fun _ => true)
    (.inl rfl) (fun o ho _ => .inr ⟨o, rfl, ho⟩) src scope dst subs t (tabOpsAll_true t) h

theorem stored_ops_all (src : Bytes) (scope : List (Bytes × List Chunk)) (subs : List Subquery) (t : Tabular)
    (h : splitQueries src scope [] t = .ok subs) : ∀ s ∈ subs, storedSub s = true := by
  intro s hs
  rcases (stored_ops src scope [] subs t h).2 s (by simpa using hs) with h1 | ⟨o, h1, h2⟩
  · simp [storedSub, h1]
  · simp [storedSub, h1, h2]

/-- what `WriteIR.irOK` asks of a stored operator -/
def irQ : Op → Bool
  | .project _ _ cols => cols.all fun c => c.name.isSome
  | .extend _ _ cols => cols.all fun c => !Exact.isNilExpr c.x
  | .render _ _ chart _ _ props _ => chart.isSome && props.all WriteIR.propOK
  | _ => true

theorem irOK_op (s : Subquery) : WriteIR.irOK s = WriteIR.irOK { name := [], source := [], op := s.op } := rfl

theorem irOK_of_irQ (o : Op) (hs : Exact.storedOp o = true) (hq : irQ o = true) :
    WriteIR.irOK { name := [], source := [], op := some o } = true := by
  cases o <;> first | exact hq | exact hs

theorem splitQueries_irOK (src : Bytes) (scope : List (Bytes × List Chunk)) (dst subs : List Subquery)
    (t : Tabular) (ht : tabOpsAll irQ t = true) (h : splitQueries src scope dst t = .ok subs) :
    ∀ s ∈ subs.drop dst.length, WriteIR.irOK s = true := by
  intro s hs
  rw [irOK_op]
  exact (splitQueries_new (fun op => WriteIR.irOK { name := [], source := [], op := op } = true) irQ rfl
    irOK_of_irQ src scope dst subs t ht h).2 s hs

theorem projCol_named (c : Column) (us : List UTok) (h : unparseColumn true c = some us) :
    c.name.isSome = true := by
  unfold unparseColumn at h
  split at h
  · next n hn => rw [hn]; rfl
  · simp at h

theorem unparseExpr_not_nil {e : Expr} {us : List UTok} (h : unparseExpr e = some us) :
    Exact.isNilExpr e = false := by
  cases e <;> first | rfl | simp [unparseExpr] at h

theorem extCol_expr (c : Column) (us : List UTok) (h : unparseColumn false c = some us) :
    (!Exact.isNilExpr c.x) = true :=
  unparseColumn_cases (project := false) (P := fun c _ => (!Exact.isNilExpr c.x) = true)
    (fun _ _ _ _ _ hx => by rw [unparseExpr_not_nil hx]; rfl) (fun _ _ hp => nomatch hp)
    (fun _ _ _ _ _ hx => by rw [unparseExpr_not_nil hx]; rfl) c us h

theorem prop_ok (p : RenderProp) (us : List UTok) (h : unparseProp p = some us) : WriteIR.propOK p = true := by
  simp only [unparseProp, Option.bind_eq_bind, Option.pure_def, Option.bind_eq_some_iff, Option.some.injEq] at h
  obtain ⟨n, hn, vs, hv, _⟩ := h
  simp only [WriteIR.propOK, hn, Option.isSome_some, Bool.true_and, Bool.not_eq_true']
  cases hval : p.value with
  | qident parts =>
    cases parts with
    | nil => rw [hval] at hv; simp [unparseExpr] at hv
    | cons a as => rfl
  | _ => rfl

theorem irQAlg : UnparseAlg (fun t _ => tabOpsAll irQ t = true) (fun o _ => opOpsAll irQ o = true)
    (fun l _ => opsOpsAll irQ l = true) where
  tmk := fun _ _ _ _ ih => ih
  onil := rfl
  cons := fun _ _ _ _ _ _ iho ihl => by rw [opsOpsAll, iho, ihl]; rfl
  count := fun _ _ => rfl
  where_ := fun _ _ _ _ _ => rfl
  sort := fun _ _ _ _ _ _ => rfl
  take := fun _ _ _ _ _ => rfl
  top := fun _ _ _ _ _ _ _ _ _ => rfl
  project := fun _ _ cs css _ hl => by
    simp only [opOpsAll, irQ, List.all_eq_true]
    intro c hc
    obtain ⟨y, _, hy⟩ := ParsedOK.listM_mem _ cs css hl c hc
    exact projCol_named c y hy
  extend := fun _ _ cs css _ hl => by
    simp only [opOpsAll, irQ, List.all_eq_true]
    intro c hc
    obtain ⟨y, _, hy⟩ := ParsedOK.listM_mem _ cs css hl c hc
    exact extCol_expr c y hy
  summarize := fun _ _ _ _ _ _ _ _ => rfl
  summarizeBy := fun _ _ _ _ _ _ _ _ _ _ _ => rfl
  join := fun _ _ _ _ _ _ _ _ _ _ _ _ ih _ _ _ _ => ih
  joinKind := fun _ _ _ _ _ _ _ _ _ _ _ _ _ ih _ _ => ih
  as_ := fun _ _ _ => rfl
  render := fun _ _ _ _ _ _ _ => rfl
  renderWith := fun _ _ _ _ _ props _ pss _ hl _ => by
    simp only [opOpsAll, irQ, Option.isSome_some, Bool.true_and, List.all_eq_true]
    intro pr hpr
    obtain ⟨y, _, hy⟩ := ParsedOK.listM_mem _ props pss hl pr hpr
    exact prop_ok pr y hy

theorem unparse_irQ (t : Tabular) (us : List UTok) (h : unparseTabular t = some us) :
    tabOpsAll irQ t = true :=
  irQAlg.tabular t us h

theorem unparseOps_irQ : ∀ (ops : OpList) (us : List UTok), unparseOps ops = some us → opsOpsAll irQ ops = true :=
  irQAlg.ops

theorem unparseOp_irQ : ∀ (o : Op) (us : List UTok), unparseOp o = some us → opOpsAll irQ o = true :=
  irQAlg.op

theorem parsed_irQ (src : Bytes) (stmts : List Stmt) (h : parse src = (stmts, [])) :
    ∀ t, Stmt.tabular t ∈ stmts → tabOpsAll irQ t = true := by
  intro t ht
  have hp : parseTokens src.length (scan src) = (stmts, []) := h
  obtain ⟨g, _, us, hus, _⟩ := (parseTokens_acc src.length (scan src) stmts (scan_tokOK src) hp).exists_mem _ ht
  exact unparse_irQ t us hus

theorem compileStmts_query_mem (src : Bytes) {stmts : List Stmt} {scope scope' : List (Bytes × List Chunk)}
    {t : Tabular} (h : compileStmts src stmts scope none = .ok (scope', some t)) : Stmt.tabular t ∈ stmts :=
  compileStmts_induct src (motive := fun stmts _ r => ∀ t, r.2 = some t → Stmt.tabular t ∈ stmts)
    (fun _ _ e => nomatch e) (fun _ _ _ e => Option.some.inj e ▸ List.mem_cons_self)
    (fun _ _ _ _ _ _ ih t e => List.mem_cons_of_mem _ (ih t e)) h t rfl

end Pql.WriteInv
