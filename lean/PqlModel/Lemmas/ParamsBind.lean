/-
Parameters (definitions): the compiler never looks inside a chunk list stored in the
scope.  `bindRaw σ cs` replaces every `.raw v` chunk of `cs` by the chunk list `σ v` (filling
holes); `bindScope σ` does so in every stored chunk list.  The special case `σ v = [.raw (f v)]`
is `List.map (Chunk.mapRaw f)` (parametricity in the parameter texts).  These are
specification-level definitions: `Chunk.mapRaw`, `bindC`, `bindRaw`, `bindScope`.

Here also: the scope lookup commutes with filling (`lookupScope_bind`), and `Except.map` against `bind`.
That the compiler commutes with filling: Lemmas/ParamsBindTop.lean.
-/
import PqlModel.Lemmas.ScopeCompile
namespace Pql.Params
open Pql

/-- apply `f` to the text of a parameter chunk; every other chunk is left alone -/
def _root_.Pql.Chunk.mapRaw (f : Bytes → Bytes) : Chunk → Chunk
  | .raw v => .raw (f v)
  | c => c

/-- fill a hole: a parameter chunk `.raw v` becomes the chunk list `σ v` -/
def bindC (σ : Bytes → List Chunk) : Chunk → List Chunk
  | .raw v => σ v
  | c => [c]

def bindRaw (σ : Bytes → List Chunk) (cs : List Chunk) : List Chunk := cs.flatMap (bindC σ)

def bindScope (σ : Bytes → List Chunk) (sc : Scope) : Scope := sc.map fun kv => (kv.1, bindRaw σ kv.2)

section
variable (σ : Bytes → List Chunk)

@[simp] theorem bindRaw_nil : bindRaw σ [] = [] := rfl
@[simp] theorem bindRaw_append (a b : List Chunk) : bindRaw σ (a ++ b) = bindRaw σ a ++ bindRaw σ b := by
  simp only [bindRaw, List.flatMap_append]
@[simp] theorem bindRaw_txt (s : String) (cs : List Chunk) : bindRaw σ (.txt s :: cs) = .txt s :: bindRaw σ cs := rfl
@[simp] theorem bindRaw_qid (s : Bytes) (cs : List Chunk) : bindRaw σ (.qid s :: cs) = .qid s :: bindRaw σ cs := rfl
@[simp] theorem bindRaw_qstr (s : Bytes) (cs : List Chunk) : bindRaw σ (.qstr s :: cs) = .qstr s :: bindRaw σ cs := rfl
@[simp] theorem bindRaw_num (s : Bytes) (cs : List Chunk) : bindRaw σ (.num s :: cs) = .num s :: bindRaw σ cs := rfl
@[simp] theorem bindRaw_fname (s : Bytes) (cs : List Chunk) : bindRaw σ (.fname s :: cs) = .fname s :: bindRaw σ cs := rfl
@[simp] theorem bindRaw_raw (v : Bytes) (cs : List Chunk) : bindRaw σ (.raw v :: cs) = σ v ++ bindRaw σ cs := rfl

theorem lookupScope_bind (sc : Scope) (n : Bytes) :
    lookupScope (bindScope σ sc) n = (lookupScope sc n).map (bindRaw σ) := by
  induction sc with
  | nil => rfl
  | cons kv sc ih =>
    have : bindScope σ (kv :: sc) = (kv.1, bindRaw σ kv.2) :: bindScope σ sc := rfl
    rw [this, lookupScope_cons, lookupScope_cons, ih]
    dsimp only
    split <;> rfl

end

theorem exmap_ok {α β : Type} (f : α → β) (a : α) : Except.map f (Except.ok a : Except WErr α) = .ok (f a) := rfl
theorem exmap_error {α β : Type} (f : α → β) (e : WErr) : Except.map f (Except.error e : Except WErr α) = .error e := rfl

theorem exmap_map {α β γ : Type} (f : α → β) (g : β → γ) (r : Except WErr α) :
    (r.map f).map g = r.map (g ∘ f) := by cases r <;> rfl

theorem exbind_map {α β γ : Type} (f : α → β) (r : Except WErr α) (k : β → Except WErr γ) :
    (r.map f >>= k) = (r >>= fun a => k (f a)) := by cases r <;> rfl

end Pql.Params
