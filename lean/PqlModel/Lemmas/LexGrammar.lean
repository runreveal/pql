/-
One step of the scanner, read off the grammar.  `scanOne` is `LexSpec.pieceAt` (`pieceAt_eq_scanOne`),
and every piece but a white-space rune, an operator of the two tables and the one-rune error token is the
longest match of one of eleven regular expressions (`reComment`, `wordRes`, `quoteRes`).  So what a step can be is said once (`Found`,
`scanOne_found`), and its bound, its kind and the bytes that end it follow from facts about the matcher
(`longest_le`, `longest_stop`) and about the regular expressions as data (`Re.avoids`, decided by evaluation).  The text of a number or
identifier token is in the language of its rule (`longest_matches`), which gives its shape
(`scanOne_number_shape`, `scanOne_ident_shape`).  Locality of a step (`scanOne_append`) is `longest_append`,
rule by rule.
-/
import PqlModel.Lemmas.LexRefines
import PqlModel.Lemmas.LexLocal
set_option linter.unusedSimpArgs false
namespace Pql
open Re LexSpec

def wordRes : List Re := [reIdent, reHex, reHexPrefix, reDecimal]

def quoteRes : List Re :=
  [reStringClosed 34, reStringOpen 34, reStringClosed 39, reStringOpen 39, reQidentClosed, reQidentOpen]

/-- only identifiers, quoted names, numbers and strings carry a value (`Found.kind`) -/
def ValOK (k : TokKind) (v : Bytes) : Prop :=
  k = .ident ∨ k = .qident ∨ k = .number ∨ k = .string ∨ v = []

/-- the token a word rule makes of the text `t` it matched -/
inductive WordTok : Re → Bytes → TokKind → Bytes → Prop
  | keyword {t t' : Bytes} {k : TokKind} : (t', k) ∈ keywords → WordTok reIdent t k []
  | ident {t : Bytes} : WordTok reIdent t .ident t
  | hex {t : Bytes} : LexSpec.hexValue (t.drop 2) < 2 ^ 64 →
      WordTok reHex t .number (decimalOfNat (LexSpec.hexValue (t.drop 2)))
  | error {r : Re} {t : Bytes} : WordTok r t .error []
  | decimal {t : Bytes} : WordTok reDecimal t .number (normalizeDecimal t)

/-- How the grammar finds a piece at the head of `c :: rest`: the rule, what its regular expression
    matched and the token made of it.  (The priority among the rules is left out.) -/
inductive Found (c : UInt8) (rest : Bytes) : Piece → Prop
  | space : isSpaceRune (decodeRune (c :: rest)).1 = true →
      Found c rest (.trivia (decodeRune (c :: rest)).2)
  | comment {w : Nat} : reComment.longest (c :: rest) = some w → Found c rest (.trivia w)
  | word {r : Re} {w : Nat} {k : TokKind} {v : Bytes} : r ∈ wordRes →
      r.longest (c :: rest) = some w → WordTok r ((c :: rest).take w) k v → Found c rest (.tok k v w)
  -- the width is spelt as `pieceAt` spells that of an unterminated token (`getD 1`), so that one constructor serves
  -- the closed and the open rules; of the value only what `ValOK` needs is kept: no lemma reads a string's contents
  | quoted {r : Re} {k : TokKind} {v : Bytes} : c = 34 ∨ c = 39 ∨ c = 96 → r ∈ quoteRes →
      k = .string ∨ k = .qident ∨ k = .error ∧ v = [] →
      Found c rest (.tok k v ((r.longest (c :: rest)).getD 1))
  | op2 {k : TokKind} {d : UInt8} {t : Bytes} : rest = d :: t → (c, d, k) ∈ twoCharOps →
      Found c rest (.tok k [] 2)
  | op1 {k : TokKind} : (c, k) ∈ oneCharOps → Found c rest (.tok k [] 1)
  | other : Found c rest (.tok .error [] (max (decodeRune (c :: rest)).2 1))

theorem pieceAt_found (c : UInt8) (rest : Bytes) : Found c rest (pieceAt (c :: rest)) := by
  have quoted : ∀ {r : Re} {w : Nat} {k : TokKind} {v : Bytes}, c = 34 ∨ c = 39 ∨ c = 96 →
      r ∈ quoteRes → r.longest (c :: rest) = some w → k = .string ∨ k = .qident ∨ k = .error ∧ v = [] →
      Found c rest (.tok k v w) :=
    fun {r _ k v} hc hr h hk => by
      have := Found.quoted (rest := rest) (r := r) (k := k) (v := v) hc hr hk
      rw [h] at this
      exact this
  simp only [pieceAt]
  split
  · exact .space ‹_›
  split
  · exact .comment ‹_›
  split
  · split
    · exact .word (r := reIdent) (by simp [wordRes]) ‹_› (.keyword (List.mem_of_find?_eq_some ‹_›))
    · exact .word (r := reIdent) (by simp [wordRes]) ‹_› .ident
  split
  · split
    · exact .word (r := reHex) (by simp [wordRes]) ‹_› (.hex ‹_›)
    · exact .word (r := reHex) (by simp [wordRes]) ‹_› .error
  split
  · rename_i hp
    obtain ⟨w, hw⟩ := Option.isSome_iff_exists.mp hp
    rw [reHexPrefix_longest_some hw] at hw
    exact .word (r := reHexPrefix) (by simp [wordRes]) hw .error
  split
  · exact .word (r := reDecimal) (by simp [wordRes]) ‹_› .decimal
  split
  · rename_i hq
    have hc : c = 39 ∨ c = 34 := by simpa using hq
    have hc' : c = 34 ∨ c = 39 ∨ c = 96 := by rcases hc with h | h <;> simp [h]
    split
    · refine quoted (r := reStringClosed c.toNat) hc' ?_ ‹_› (.inl rfl)
      rcases hc with rfl | rfl <;> simp [quoteRes]
    · refine .quoted (r := reStringOpen c.toNat) hc' ?_ (.inr (.inr ⟨rfl, rfl⟩))
      rcases hc with rfl | rfl <;> simp [quoteRes]
  split
  · rename_i hq
    have hc' : c = 34 ∨ c = 39 ∨ c = 96 := .inr (.inr (by simpa using hq))
    split
    · split
      · exact .quoted (r := reQidentOpen) hc' (by simp [quoteRes]) (.inr (.inr ⟨rfl, rfl⟩))
      · exact quoted (r := reQidentClosed) hc' (by simp [quoteRes]) ‹_› (.inr (.inl rfl))
    · exact .quoted (r := reQidentOpen) hc' (by simp [quoteRes]) (.inr (.inr ⟨rfl, rfl⟩))
  split
  · rename_i o ho
    cases rest with
    | nil => cases ho
    | cons d t =>
      have ho : twoCharOps.find? (fun o => o.1 == c && o.2.1 == d) = some o := ho
      have hd := List.find?_some ho
      simp only [Bool.and_eq_true, beq_iff_eq] at hd
      exact .op2 rfl (hd.1 ▸ hd.2 ▸ List.mem_of_find?_eq_some ho)
  split
  · rename_i o ho
    have hc := List.find?_some ho
    simp only [beq_iff_eq] at hc
    exact .op1 (hc ▸ List.mem_of_find?_eq_some ho)
  · exact .other

theorem Found.kind {c : UInt8} {rest : Bytes} {k : TokKind} {v : Bytes} {w : Nat}
    (h : Found c rest (.tok k v w)) : (k = .semi → c = 59 ∧ w = 1 ∧ v = []) ∧ ValOK k v := by
  have kw : ∀ p ∈ keywords, p.2 ≠ .semi := by decide
  have o2 : ∀ o ∈ twoCharOps, o.2.2 ≠ .semi := by decide
  have o1 : ∀ o ∈ oneCharOps, o.2 = .semi → o.1 = 59 := by decide
  have nil : ∀ {k}, ValOK k [] := .inr (.inr (.inr (.inr rfl)))
  cases h with
  | word _ _ ht =>
    cases ht with
    | keyword hm => exact ⟨fun e => absurd e (kw _ hm), nil⟩
    | _ => exact ⟨nofun, by simp [ValOK]⟩
  | quoted _ _ hk => rcases hk with rfl | rfl | ⟨rfl, rfl⟩ <;> exact ⟨nofun, by simp [ValOK]⟩
  | op2 _ hm => exact ⟨fun e => absurd e (o2 _ hm), nil⟩
  | op1 hm => exact ⟨fun e => ⟨o1 _ hm e, rfl, rfl⟩, nil⟩
  | other => exact ⟨nofun, nil⟩

theorem Found.word_tok {c : UInt8} {rest : Bytes} {k : TokKind} {v : Bytes} {w : Nat}
    (h : Found c rest (.tok k v w)) (hk : k = .number ∨ k = .ident) :
    ∃ r, r.longest (c :: rest) = some w ∧ WordTok r ((c :: rest).take w) k v := by
  have o2 : ∀ o ∈ twoCharOps, o.2.2 ≠ .number ∧ o.2.2 ≠ .ident := by decide
  have o1 : ∀ o ∈ oneCharOps, o.2 ≠ .number ∧ o.2 ≠ .ident := by decide
  cases h with
  | word _ hw ht => exact ⟨_, hw, ht⟩
  | quoted _ _ hq => rcases hq with rfl | rfl | ⟨rfl, -⟩ <;> rcases hk with h | h <;> cases h
  | op2 _ hm => exact absurd hk (not_or.mpr (o2 _ hm))
  | op1 hm => exact absurd hk (not_or.mpr (o1 _ hm))
  | other => rcases hk with h | h <;> cases h

/-- **A step of the scanner is a piece the grammar finds.**  Every fact below about `scanOne` is read off
    `Found` through this. -/
theorem scanOne_found (c : UInt8) (rest : Bytes) :
    ∃ p, Found c rest p ∧ scanOne (c :: rest) = stepOfPiece p :=
  ⟨_, pieceAt_found c rest, (pieceAt_eq_scanOne c rest).symm⟩

theorem Found.width_le {c : UInt8} {rest : Bytes} {p : Piece} (h : Found c rest p) :
    p.width ≤ rest.length + 1 := by
  have le : ∀ {r : Re} {w : Nat}, r.longest (c :: rest) = some w → w ≤ rest.length + 1 :=
    fun h => by simpa using longest_le _ _ _ h
  have hr := decodeRune_width_le (c :: rest)
  simp only [List.length_cons] at hr
  cases h with
  | space _ => exact hr
  | comment h => exact le h
  | word _ h _ => exact le h
  | @quoted r _ _ _ _ _ =>
    cases h : r.longest (c :: rest) with
    | none => simp [Piece.width]
    | some w => exact le h
  | op2 h _ => subst h; simp [Piece.width]
  | op1 _ => simp [Piece.width]
  | other => simp only [Piece.width]; omega

theorem scanOne_width_le (s : Bytes) : (scanOne s).width ≤ s.length := by
  cases s with
  | nil => exact Nat.le_refl 0
  | cons c rest =>
    obtain ⟨p, hf, hs⟩ := scanOne_found c rest
    rw [hs, stepOfPiece_width]
    exact hf.width_le

theorem scanOne_skip (c : UInt8) (rest : Bytes) (h : (scanOne (c :: rest)).tok = none) :
    (isSpaceRune (decodeRune (c :: rest)).1 = true ∧
        (scanOne (c :: rest)).width = (decodeRune (c :: rest)).2) ∨
    (c = 47 ∧ ∃ t, rest = 47 :: t ∧ (scanOne (c :: rest)).width = commentLen t + 2) := by
  obtain ⟨p, hf, hs⟩ := scanOne_found c rest
  rw [hs] at h ⊢
  cases hf with
  | space hsp => exact .inl ⟨hsp, rfl⟩
  | comment hw => exact .inr (reComment_longest_some hw)
  | _ => cases h

theorem scanOne_semi_width (c : UInt8) (rest v : Bytes)
    (h : (scanOne (c :: rest)).tok = some (.semi, v)) :
    c = 59 ∧ (scanOne (c :: rest)).width = 1 ∧ v = [] := by
  obtain ⟨p, hf, hs⟩ := scanOne_found c rest
  rw [hs] at h ⊢
  cases p with
  | trivia w => cases h
  | tok k v' w =>
    obtain ⟨rfl, rfl⟩ : k = .semi ∧ v' = v := by simpa [stepOfPiece] using h
    exact hf.kind.1 rfl

theorem scanOne_semi (c : UInt8) (rest v : Bytes) (h : (scanOne (c :: rest)).tok = some (.semi, v)) :
    c = 59 :=
  (scanOne_semi_width c rest v h).1

theorem scanOne_tok_found {s : Bytes} {k : TokKind} {v : Bytes} (h : (scanOne s).tok = some (k, v)) :
    ∃ c rest, s = c :: rest ∧ Found c rest (.tok k v (scanOne s).width) := by
  cases s with
  | nil => cases h
  | cons c rest =>
    obtain ⟨p, hf, hs⟩ := scanOne_found c rest
    rw [hs] at h ⊢
    cases p with
    | trivia w => cases h
    | tok k' v' w => cases h; exact ⟨c, rest, rfl, hf⟩

theorem scanOne_number_shape {s v : Bytes} (h : (scanOne s).tok = some (.number, v)) :
    IsNumber (s.take (scanOne s).width) v := by
  obtain ⟨c, rest, rfl, hf⟩ := scanOne_tok_found h
  obtain ⟨r, hw, ht⟩ := hf.word_tok (.inl rfl)
  generalize hk : TokKind.number = k at ht
  cases ht with
  | keyword hm => exact absurd hk.symm ((by decide : ∀ p ∈ keywords, p.2 ≠ .number) _ hm)
  | hex hlt =>
    obtain ⟨x, hs, hx, hne, hd, ht⟩ := matches_hex (longest_matches hw)
    rw [ht, List.drop_succ_cons, List.drop_succ_cons, List.drop_zero, hexValue_eq_hexToNat hs hd] at hlt ⊢
    exact .inr ⟨x, hs, hx, hne, hd, rfl, decimalOfNat_eq_natToDec _, hlt⟩
  | decimal => exact .inl ⟨matches_decimal (longest_matches hw), normalizeDecimal_eq _⟩
  | ident | error => cases hk

theorem scanNumberOrDot_shape (c : UInt8) (rest v : Bytes) (w : Nat)
    (hc : (isDigit c || c == 46) = true) (h : scanNumberOrDot (c :: rest) = ⟨.number, v, w⟩) :
    IsNumber ((c :: rest).take w) v := by
  have hs : scanOne (c :: rest) = ⟨some (.number, v), w⟩ := by rw [scanOne_number c rest hc, h]; rfl
  simpa only [hs] using scanOne_number_shape (s := c :: rest) (v := v) (by rw [hs])

theorem scanOne_ident_shape {s v : Bytes} (h : (scanOne s).tok = some (.ident, v)) :
    ∃ c w, v = c :: w ∧ isIdentStart c = true ∧ ∀ b ∈ w, isIdentCont b = true := by
  obtain ⟨c, rest, rfl, hf⟩ := scanOne_tok_found h
  obtain ⟨r, hw, ht⟩ := hf.word_tok (.inr rfl)
  generalize hk : TokKind.ident = k at ht
  cases ht with
  | keyword hm => exact absurd hk.symm ((by decide : ∀ p ∈ keywords, p.2 ≠ .ident) _ hm)
  | ident => exact matches_ident (longest_matches hw)
  | hex | decimal | error => cases hk

/-- `b` continues no identifier, number or operator: it is ASCII, outside the alphabets of `wordRes`
    and not the second byte of a two-byte operator or of `//`.  Newline and ';' are such bytes. -/
def stopByte (b : UInt8) : Bool :=
  decide (b.toNat < 0x80) && wordRes.all (avoids b) && b != 61 && b != 126 && b != 47

/-- `b` ends strings and quoted names as well.  Newline does, ';' does not. -/
def quoteStop (b : UInt8) : Bool := quoteRes.all (avoids b)

theorem stopByte_nl : stopByte 10 = true ∧ quoteStop 10 = true := by decide

theorem stopByte_semi : stopByte 59 = true := by decide

theorem Found.stop {b c : UInt8} {x y : Bytes} {p : Piece} (hb : stopByte b = true)
    (h : Found c (x ++ b :: y) p) :
    p.width ≤ x.length + 1 ∨ ((c = 34 ∨ c = 39 ∨ c = 96) ∧ quoteStop b = false) ∨
      (c = 47 ∧ x.head? = some 47) := by
  simp only [stopByte, Bool.and_eq_true, decide_eq_true_eq, bne_iff_ne, ne_eq,
    List.all_eq_true] at hb
  obtain ⟨⟨⟨⟨h128, hw⟩, h61⟩, h126⟩, h47⟩ := hb
  have le : ∀ {r : Re}, avoids b r = true → ∀ {w : Nat},
      r.longest (c :: (x ++ b :: y)) = some w → w ≤ x.length + 1 := fun ha _ h => by
    rw [← List.cons_append, longest_stop b _ ha] at h
    simpa using longest_le _ _ _ h
  have hrune := decodeRune_stop h128 c x y
  rw [List.cons_append] at hrune
  cases h with
  | space _ => exact .inl hrune
  | comment hc =>
    obtain ⟨h47', t, ht, -⟩ := reComment_longest_some hc
    cases x with
    | nil => exact absurd (List.cons.inj ht).1 h47
    | cons d x => exact .inr (.inr ⟨h47', by rw [(List.cons.inj ht).1]; rfl⟩)
  | word hr h _ => exact .inl (le (hw _ hr) h)
  | @quoted r _ _ hc hr _ =>
    by_cases hq : quoteStop b = true
    · left
      have ha := List.all_eq_true.mp hq _ hr
      cases h : r.longest (c :: (x ++ b :: y)) with
      | none => simp [Piece.width]
      | some w => exact le ha h
    · exact .inr (.inl ⟨hc, by simpa using hq⟩)
  | op2 h hm =>
    left
    cases x with
    | nil =>
      obtain ⟨rfl, -⟩ := List.cons.inj h
      rcases (by decide : ∀ o ∈ twoCharOps, o.2.1 = 61 ∨ o.2.1 = 126) _ hm with rfl | rfl
      · exact absurd rfl h61
      · exact absurd rfl h126
    | cons _ _ => simp [Piece.width]
  | op1 _ => exact .inl (by simp [Piece.width])
  | other => left; simp only [Piece.width]; omega

theorem scanOne_stop {b : UInt8} (hb : stopByte b = true) (c : UInt8) (x y : Bytes) :
    (scanOne (c :: x ++ b :: y)).width ≤ x.length + 1 ∨
      ((c = 34 ∨ c = 39 ∨ c = 96) ∧ quoteStop b = false) ∨ (c = 47 ∧ x.head? = some 47) := by
  obtain ⟨p, hf, hs⟩ := scanOne_found c (x ++ b :: y)
  rw [List.cons_append, hs, stepOfPiece_width]
  exact hf.stop hb

/-- Not for a back-quote: the quoted-name rule also looks at the byte behind its match (a second back-quote there makes
    the token an error), so its piece is not a function of the matches; `scanOne_append` takes that case through
    `scanQuotedIdent_append`. -/
theorem pieceAt_append (c : UInt8) (x y : Bytes) (h128 : c.toNat < 128) (h96 : c ≠ 96)
    (h : (pieceAt (c :: (x ++ y))).width ≤ x.length + 1) :
    pieceAt (c :: x) = pieceAt (c :: (x ++ y)) := by
  have key : ∀ r : Re, (∀ w, r.longest (c :: (x ++ y)) = some w → w ≤ x.length + 1) →
      r.longest (c :: x) = r.longest (c :: (x ++ y)) :=
    fun r hr => longest_append r (c :: x) y (by simpa using hr)
  have nn : ∀ r : Re, r.longest (c :: (x ++ y)) = none → r.longest (c :: x) = none :=
    fun r hr => by rw [key r (by simp [hr]), hr]
  have sm : ∀ (r : Re) w, r.longest (c :: (x ++ y)) = some w → w ≤ x.length + 1 →
      r.longest (c :: x) = some w :=
    fun r w hr hw => by rw [key r (by rw [hr]; intro w' e; cases e; exact hw), hr]
  have tk : ∀ w, w ≤ x.length + 1 → (c :: (x ++ y)).take w = (c :: x).take w := fun w hw => by
    rw [← List.cons_append, List.take_append_of_le_length (by simpa using hw)]
  have h96' : (c == 96) = false := by simpa using h96
  have opt : ∀ o : Option Nat, o = none ∨ ∃ w, o = some w := fun o => by cases o <;> simp
  -- rule by rule, in the order of `pieceAt`: a rule that finds nothing on `c :: (x ++ y)` finds nothing on
  -- `c :: x` (`nn`); the first that finds something finds the same (`sm`) and cuts out the same text (`tk`)
  simp only [pieceAt, decodeRune_ascii c _ h128] at h ⊢
  by_cases hsp : isSpaceRune c.toNat = true
  · simp only [hsp, if_true]
  simp only [hsp, Bool.false_eq_true, if_false] at h ⊢
  rcases opt (reComment.longest (c :: (x ++ y))) with hcom | ⟨w, hcom⟩
  rotate_left
  · simp only [hcom, Piece.width] at h
    simp only [hcom, sm _ _ hcom h]
  simp only [hcom, nn _ hcom] at h ⊢
  rcases opt (reIdent.longest (c :: (x ++ y))) with hid | ⟨w, hid⟩
  rotate_left
  · have hw : w ≤ x.length + 1 := by
      simp only [hid] at h; split at h <;> exact h
    simp only [hid, sm _ _ hid hw, tk w hw]
  simp only [hid, nn _ hid] at h ⊢
  rcases opt (reHex.longest (c :: (x ++ y))) with hhex | ⟨w, hhex⟩
  rotate_left
  · have hw : w ≤ x.length + 1 := by
      simp only [hhex] at h; split at h <;> exact h
    simp only [hhex, sm _ _ hhex hw, tk w hw]
  simp only [hhex, nn _ hhex] at h ⊢
  rcases opt (reHexPrefix.longest (c :: (x ++ y))) with hpre | ⟨w, hpre⟩
  rotate_left
  · have hw := reHexPrefix_longest_some hpre
    subst hw
    simp only [hpre, Option.isSome_some, if_true, Piece.width] at h
    simp only [hpre, sm _ _ hpre h, Option.isSome_some, if_true]
  simp only [hpre, nn _ hpre, Option.isSome_none, Bool.false_eq_true, if_false] at h ⊢
  rcases opt (reDecimal.longest (c :: (x ++ y))) with hdec | ⟨w, hdec⟩
  rotate_left
  · simp only [hdec, Piece.width] at h
    simp only [hdec, sm _ _ hdec h, tk w h]
  simp only [hdec, nn _ hdec] at h ⊢
  by_cases hq : (c == 39 || c == 34) = true
  · simp only [hq, if_true] at h ⊢
    rcases opt ((reStringClosed c.toNat).longest (c :: (x ++ y))) with hcl | ⟨w, hcl⟩
    · rcases opt ((reStringOpen c.toNat).longest (c :: (x ++ y))) with hop | ⟨w, hop⟩
      · simp only [hcl, nn _ hcl, hop, nn _ hop]
      · simp only [hcl, hop, Option.getD_some, Piece.width] at h
        simp only [hcl, nn _ hcl, hop, sm _ _ hop h]
    · simp only [hcl, Piece.width] at h
      simp only [hcl, sm _ _ hcl h, tk (w - 1) (by omega)]
  simp only [hq, h96', Bool.false_eq_true, if_false] at h ⊢
  -- operators: the second byte is looked at only by a two-byte operator
  cases x with
  | cons d x => rfl
  | nil =>
    simp only [List.nil_append, List.length_nil] at h ⊢
    cases htwo : (y.head?.bind fun d => twoCharOps.find? fun o => o.1 == c && o.2.1 == d) with
    | none => simp only [List.head?_nil, Option.bind_none]
    | some o => simp only [htwo, Piece.width] at h; omega

theorem scanOne_append (x y : Bytes) (h : (scanOne (x ++ y)).width ≤ x.length) :
    scanOne (x ++ y) = scanOne x := by
  cases x with
  | nil =>
    cases y with
    | nil => rfl
    | cons c y => have := scanOne_width_pos c y; simp at h; omega
  | cons c x =>
    rw [List.cons_append] at h ⊢
    by_cases h128 : 128 ≤ c.toNat
    · simp only [scanOne, h128, if_true] at h ⊢
      exact scanNonAscii_append (c :: x) y h
    by_cases h96 : c = 96
    · subst h96
      have e : ∀ r, scanOne (96 :: r) = .ofLexeme (scanQuotedIdent (96 :: r)) := fun r => by
        simp [scanOne, show isAsciiSpace 96 = false by decide, show isIdentStart 96 = false by decide,
          show isDigit 96 = false by decide]
      rw [e] at h ⊢
      rw [e, ← List.cons_append, scanQuotedIdent_append 96 x y h]
    · rw [← pieceAt_eq_scanOne, stepOfPiece_width] at h
      rw [← pieceAt_eq_scanOne, ← pieceAt_eq_scanOne, pieceAt_append c x y (by omega) h96 h]

theorem scanOne_take (s : Bytes) (k : Nat) (h : (scanOne s).width ≤ k) :
    scanOne (s.take k) = scanOne s := by
  have := scanOne_append (s.take k) (s.drop k)
  rw [List.take_append_drop] at this
  have hle := scanOne_width_le s
  exact (this (by rw [List.length_take]; omega)).symm

end Pql
