/-
Structural consequences of "a node's span is the extent of its tokens": the children of a node
occupy disjoint segments of the node's tokens, in order (`Placed`), hence their spans lie within
the node's span and precede those of their right siblings.
-/
import PqlModel.Lemmas.SpanExtentOps
import PqlModel.Lemmas.Derives
namespace Pql
open Grammar C10

theorem within_refl (s : Span) : Span.within s s := ⟨Int.le_refl _, Int.le_refl _⟩

theorem within_trans {a b c : Span} (h1 : Span.within a b) (h2 : Span.within b c) : Span.within a c :=
  ⟨Int.le_trans h2.1 h1.1, Int.le_trans h1.2 h2.2⟩

theorem ext_within_left {a b : List Token} (h : TokOK (a ++ b)) (ha : a ≠ []) :
    Span.within (ext a) (ext (a ++ b)) := by
  rw [← ext_union h]
  exact union_contains_left (ext_valid h.left ha)

theorem ext_within_right {a b : List Token} (h : TokOK (a ++ b)) (hb : b ≠ []) :
    Span.within (ext b) (ext (a ++ b)) := by
  rw [← ext_union h]
  exact union_contains_right (ext_valid h.right hb)

theorem ext_within_infix {p a q : List Token} (h : TokOK (p ++ a ++ q)) (ha : a ≠ []) :
    Span.within (ext a) (ext (p ++ a ++ q)) :=
  within_trans (ext_within_right h.left ha) (ext_within_left h (by simp [ha]))

theorem ext_stop_le_start {a m b : List Token} (h : TokOK (a ++ m ++ b)) (ha : a ≠ []) (hb : b ≠ []) :
    (ext a).stop ≤ (ext b).start := by
  cases a with
  | nil => exact absurd rfl ha
  | cons t a =>
    cases b with
    | nil => exact absurd rfl hb
    | cons s b =>
      have hla : a.getLastD t ∈ (t :: a) ++ m := List.mem_append_left _ List.getLastD_mem_cons
      have := h.cross hla (List.mem_cons_self (a := s) (l := b))
      simp only [ext]
      omega

inductive Placed {α : Type} (f : α → Option (List UTok)) : List α → List Token → Prop
  | nil (g : List Token) : Placed f [] g
  | cons {c : α} {cs : List α} {us : List UTok} {g seg rest ts : List Token} :
      ts = g ++ seg ++ rest → f c = some us → accounts true us seg = true → Placed f cs rest →
      Placed f (c :: cs) ts

theorem Placed.prepend {α : Type} {f : α → Option (List UTok)} {cs : List α} {ts : List Token}
    (g : List Token) (h : Placed f cs ts) : Placed f cs (g ++ ts) := by
  cases h with
  | nil _ => exact .nil _
  | @cons c cs us g0 seg rest ts he hu ha hr =>
    refine .cons (g := g ++ g0) ?_ hu ha hr
    rw [he]; simp

theorem Placed.append {α : Type} {f : α → Option (List UTok)} {cs : List α} {ts : List Token}
    (g : List Token) (h : Placed f cs ts) : Placed f cs (ts ++ g) := by
  induction h with
  | nil _ => exact .nil _
  | @cons c cs us g0 seg rest ts he hu ha _ ih =>
    refine .cons (g := g0) ?_ hu ha ih
    rw [he]; simp

theorem Placed.single {α : Type} {f : α → Option (List UTok)} {c : α} {us : List UTok} {ts : List Token}
    (hu : f c = some us) (ha : accounts true us ts = true) : Placed f [c] ts :=
  .cons (g := []) (rest := []) (by simp) hu ha (.nil _)

theorem Placed.acc {α : Type} {f : α → Option (List UTok)} {cs : List α} {ts : List Token}
    (h : Placed f cs ts) : ∀ c ∈ cs, ∃ p seg q us, ts = p ++ seg ++ q ∧ f c = some us ∧
      accounts true us seg = true := by
  induction h with
  | nil _ => intro c hc; cases hc
  | @cons c cs us g seg rest ts he hu ha _ ih =>
    subst he
    intro c' hc'
    rcases List.mem_cons.mp hc' with rfl | hin
    · exact ⟨g, seg, rest, us, rfl, hu, ha⟩
    · obtain ⟨p, s, q, us', hr, hu', ha'⟩ := ih c' hin
      exact ⟨g ++ seg ++ p, s, q, us', by rw [hr]; simp, hu', ha'⟩

theorem Placed.infix {α : Type} {f : α → Option (List UTok)} {sp : α → Span} (hf : ExtSpec f sp)
    {cs : List α} {ts : List Token} (h : Placed f cs ts) (hok : TokOK ts) :
    ∀ c ∈ cs, ∃ p seg q, ts = p ++ seg ++ q ∧ seg ≠ [] ∧ sp c = ext seg := by
  intro c hc
  obtain ⟨p, seg, q, us, rfl, hu, ha⟩ := h.acc c hc
  exact ⟨p, seg, q, rfl, accounts_ne_nil (hf _ _ hu).1 ha, (hf _ _ hu).2 seg hok.left.right ha⟩

theorem Placed.within {α : Type} {f : α → Option (List UTok)} {sp : α → Span} (hf : ExtSpec f sp)
    {cs : List α} {ts : List Token} (h : Placed f cs ts) (hok : TokOK ts) :
    ∀ c ∈ cs, (sp c).isValid = true ∧ Span.within (sp c) (ext ts) := by
  intro c hc
  obtain ⟨p, seg, q, rfl, hne, hsp⟩ := h.infix hf hok c hc
  rw [hsp]
  exact ⟨ext_valid hok.left.right hne, ext_within_infix hok hne⟩

theorem Placed.pairwise {α : Type} {f : α → Option (List UTok)} {sp : α → Span} (hf : ExtSpec f sp)
    {cs : List α} {ts : List Token} (h : Placed f cs ts) (hok : TokOK ts) :
    (cs.map sp).Pairwise (fun a b => a.stop ≤ b.start) := by
  induction h with
  | nil _ => exact List.Pairwise.nil
  | @cons c cs us g seg rest ts he hu ha hr ih =>
    subst he
    rw [List.map_cons, List.pairwise_cons]
    refine ⟨?_, ih hok.right⟩
    intro s hs
    obtain ⟨c', hc', rfl⟩ := List.mem_map.mp hs
    obtain ⟨p, seg', q, rfl, hne', hsp'⟩ := hr.infix hf hok.right c' hc'
    rw [(hf _ _ hu).2 seg hok.left.right ha, hsp']
    have hne := accounts_ne_nil (hf _ _ hu).1 ha
    have hok' : TokOK (seg ++ p ++ seg') := by
      have h2 : TokOK (seg ++ (p ++ seg' ++ q)) := by
        have := hok; rw [List.append_assoc] at this; exact this.right
      have h3 : seg ++ (p ++ seg' ++ q) = (seg ++ p ++ seg') ++ q := by simp
      rw [h3] at h2
      exact h2.left
    exact ext_stop_le_start hok' hne hne'

def Expr.children : Expr → List Expr
  | .nil => []
  | .qident _ => []
  | .lit _ _ _ => []
  | .unary _ _ x => [x]
  | .binary x _ _ y => [x, y]
  | .inE x _ _ vals _ => x :: vals.toList
  | .paren _ x _ => [x]
  | .call _ _ args _ => args.toList
  | .index x _ idx _ => [x, idx]

theorem DExpr.placed_one {c : Expr} {ts : List Token} (h : DExpr c ts) : Placed unparseExpr [c] ts :=
  let ⟨_, hu, ha⟩ := h.acc
  Placed.single hu ha

theorem DExpr.placed_cons {c : Expr} {cs : List Expr} {seg rest : List Token} (h : DExpr c seg)
    (hr : Placed unparseExpr cs rest) : Placed unparseExpr (c :: cs) (seg ++ rest) :=
  let ⟨_, hu, ha⟩ := h.acc
  .cons (g := []) rfl hu ha hr

theorem DList.placed : ∀ {l : ExprList} {ts : List Token}, DList l ts → Placed unparseExpr l.toList ts
  | _, _, .nil => .nil _
  | _, _, .one he => he.placed_one
  | _, _, .cons (cm := cm) he _ hl => he.placed_cons (hl.placed.prepend [cm])

theorem DExpr.placed : ∀ {e : Expr} {ts : List Token}, DExpr e ts → Placed unparseExpr e.children ts
  | _, _, .qident .. | _, _, .lit .. => .nil _
  | _, _, .unary (t := t) _ hx => hx.placed_one.prepend [t]
  | _, _, .binary (t := t) hx _ hy => hx.placed_cons (hy.placed_one.prepend [t])
  | _, _, .inE (ti := ti) (tl := tl) (tr := tr) hx _ _ hv _ =>
    hx.placed_cons ((hv.placed.append [tr]).prepend [ti, tl])
  | _, _, .paren (tl := tl) (tr := tr) _ hx _ => (hx.placed_one.append [tr]).prepend [tl]
  | _, _, .call (tf := tf) (tl := tl) (tr := tr) (tc := tc) _ _ ha _ _ =>
    ((ha.placed.append tc).append [tr]).prepend [tf, tl]
  | _, _, .index (tl := tl) (tr := tr) hx _ hi _ =>
    hx.placed_cons ((hi.placed_one.append [tr]).prepend [tl])

theorem exprList_placed (l : ExprList) (us : List UTok) (ts : List Token) (h : unparseExprList l = some us)
    (ha : accounts true us ts = true) : Placed unparseExpr l.toList ts :=
  (dlist_of_acc l h ha).placed

theorem expr_placed (e : Expr) (us : List UTok) (ts : List Token) (h : unparseExpr e = some us)
    (ha : accounts true us ts = true) : Placed unparseExpr e.children ts :=
  (dexpr_of_acc e h ha).placed

inductive Expr.Sub : Expr → Expr → Prop
  | refl (e : Expr) : Expr.Sub e e
  | step {d c e : Expr} : Expr.Sub d c → c ∈ e.children → Expr.Sub d e

theorem expr_sub_acc {d e : Expr} (hs : Expr.Sub d e) : ∀ (us : List UTok) (ts : List Token),
    unparseExpr e = some us → accounts true us ts = true →
    ∃ p seg q us', ts = p ++ seg ++ q ∧ unparseExpr d = some us' ∧ accounts true us' seg = true := by
  induction hs with
  | refl => intro us ts hu ha; exact ⟨[], ts, [], us, by simp, hu, ha⟩
  | @step c e _ hc ih =>
    intro us ts hu ha
    obtain ⟨p, seg, q, us', rfl, hu', ha'⟩ := (expr_placed e us ts hu ha).acc c hc
    obtain ⟨p', seg', q', us'', rfl, hu'', ha''⟩ := ih us' seg hu' ha'
    exact ⟨p ++ p', seg', q' ++ q, us'', by simp, hu'', ha''⟩

theorem sepBy_placed {α : Type} {f : α → Option (List UTok)} (cs : List α) (css : List (List UTok))
    (ts : List Token) (h : listM f cs = some css) : accounts true (sepBy commaTok css) ts = true → Placed f cs ts :=
  sepList_induct (P := fun cs us => ∀ ts, accounts true us ts = true → Placed f cs ts)
    (fun _ _ => .nil _) (fun _ _ hy _ ha => Placed.single hy ha)
    (fun _ _ _ _ _ hy ih _ ha => by
      obtain ⟨ta, r, rfl, haa, har⟩ := accounts_append_split ha
      obtain ⟨tc, tb, rfl, hab⟩ := accounts_plain_cons (u := commaTok) rfl har
      exact .cons (g := []) (by simp) hy haa ((ih tb hab).prepend [tc])) cs css h ts

/-- `unparseOp` cut down to `tidy` operators: `ExtSpec` has no place for a side condition, and the
    span of an untidy `render` is not the extent of its tokens -/
def unparseOpT (o : Op) : Option (List UTok) := if o.tidy then unparseOp o else none

theorem op_extSpec : ExtSpec unparseOpT Op.spanOf := by
  intro o us h
  unfold unparseOpT at h
  split at h
  · rename_i ht
    exact ⟨unparseOp_head h, fun ts hok ha => op_ext o us ts ht h hok ha⟩
  · simp at h

theorem ops_placed : ∀ (l : OpList) (us : List UTok) (ts : List Token), l.tidy = true →
    unparseOps l = some us → accounts true us ts = true → Placed unparseOpT l.toList ts
  | .nil, _, _, _, _, _ => .nil _
  | .cons o os, us, ts, htidy, h, ha => by
    obtain ⟨a, b, hoa, hob, rfl⟩ := unparseOps_cons_inv h
    obtain ⟨ta, tb, rfl, haa, hab⟩ := accounts_append_split ha
    simp only [OpList.tidy, Bool.and_eq_true] at htidy
    have ih := ops_placed os b tb htidy.2 hob hab
    refine .cons (g := []) (by simp) ?_ haa ih
    simp [unparseOpT, htidy.1, hoa]

end Pql
