/-
The decoded units of the regenerated IR of `splitQueries` / `chainSubquery`
(`Facts.splitIR`), the monad lemmas used to evaluate them, and `chainSubquery`:
the interpretation of its regenerated body is `SplitImp.chainSubqueryI` of the heap machine
(Lemmas/SplitImpMachine.lean).
-/
import PqlModel.Model.SplitIR
namespace Pql.SplitIR
open Pql

/-! ### the regenerated units, decoded (a changed Go statement changes one of these) -/

/-- the call `chainSubquery(dst, dstStart, expr.Source)` with its error check -/
def callChain : Stmt := .tryCall "lastSubquery" "chainSubquery" [⟨"dst", ""⟩, ⟨"dstStart", ""⟩, ⟨"expr", "Source"⟩]

/-- `var err error; lastSubquery, err = chainSubquery(…); if err != nil { return nil, err };
    dst = append(dst, lastSubquery)` -/
def chainBlock : List Stmt := [.varErr, callChain, .append "dst" "lastSubquery"]

def chainIR : List Stmt :=
  [.new "sub" true [("name", .subqueryName (.len "dst"))],
   .newBuilder "sb",
   .ite (.intCmp "gt" (.len "dst") (.var "dstStart"))
     [.qidIdx "sb" "dst" "name" (.lenm1 "dst")]
     [.tryDataSource "sb" ⟨"src", ""⟩],
   .setField "sub" "sourceSQL" (.string "sb"),
   .ret "sub"]

def preIR : List Stmt := [.defInt "dstStart" (.len "dst"), .varPtr "lastSubquery"]

def postIR : List Stmt :=
  [.ite (.intCmp "eq" (.len "dst") (.var "dstStart")) chainBlock [], .ret "dst"]

def asIR : List Stmt :=
  [.varErr, callChain,
   .setField "lastSubquery" "name" (.path ⟨"op", "Name.Name"⟩),
   .setField "lastSubquery" "op" (.var "op"),
   .append "dst" "lastSubquery"]

def defaultIR : List Stmt :=
  [.varErr, callChain, .setField "lastSubquery" "op" (.var "op"), .append "dst" "lastSubquery"]

/-- `lastSubquery == nil || !canAttachSort(lastSubquery.op) || lastSubquery.sort != nil || lastSubquery.take != nil` -/
def sortGuard : Cond :=
  .or (.or (.or (.isNil ⟨"lastSubquery", ""⟩) (.notCan ⟨"lastSubquery", "op"⟩)) (.notNil ⟨"lastSubquery", "sort"⟩))
    (.notNil ⟨"lastSubquery", "take"⟩)

/-- `lastSubquery == nil || !canAttachSort(lastSubquery.op) || lastSubquery.take != nil` -/
def takeGuard : Cond :=
  .or (.or (.isNil ⟨"lastSubquery", ""⟩) (.notCan ⟨"lastSubquery", "op"⟩)) (.notNil ⟨"lastSubquery", "take"⟩)

def sortIR : List Stmt :=
  [.ite sortGuard chainBlock [], .setField "lastSubquery" "sort" (.var "op")]

def takeIR : List Stmt :=
  [.ite takeGuard chainBlock [], .setField "lastSubquery" "take" (.var "op")]

def topIR : List Stmt :=
  [.ite sortGuard chainBlock [],
   .setField "lastSubquery" "sort" (.newNode "SortOperator"
     [⟨"Pipe", "path", "op", "Pipe"⟩, ⟨"Keyword", "path", "op", "Keyword"⟩, ⟨"Terms", "list1", "op", "Col"⟩]),
   .setField "lastSubquery" "take" (.newNode "TakeOperator"
     [⟨"Pipe", "path", "op", "Pipe"⟩, ⟨"Keyword", "path", "op", "Keyword"⟩, ⟨"RowCount", "path", "op", "RowCount"⟩])]

/-- the join case up to and including the recursive call -/
def joinHeadIR : List Stmt :=
  [.defInt "leftSubquery" (.lenm1 "dst"),
   .varErr,
   .tryCall "dst" "splitQueries" [⟨"dst", ""⟩, ⟨"source", ""⟩, ⟨"scope", ""⟩, ⟨"op", "Right"⟩]]

/-- the join case after the recursive call -/
def joinTailIR : List Stmt :=
  [.setIdx "lastSubquery" "dst" (.lenm1 "dst"),
   .declStr "flavorName" "innerunique",
   .ite (.notNil ⟨"op", "Flavor"⟩) [.setStr "flavorName" ⟨"op", "Flavor.Name"⟩] [],
   .newBuilder "joinSource",
   .ite (.strEq "flavorName" "innerunique") [.lit "joinSource" "(SELECT DISTINCT * FROM "] [],
   .ite (.intCmp "ge" (.var "leftSubquery") (.var "dstStart"))
     [.qidIdx "joinSource" "dst" "name" (.var "leftSubquery")]
     [.tryDataSource "joinSource" ⟨"expr", "Source"⟩],
   .ite (.strEq "flavorName" "innerunique") [.lit "joinSource" ")"] [],
   .litCat "joinSource" " AS \"" "leftJoinTableAlias" "\"",
   .ite (.or (.strEq "flavorName" "inner") (.strEq "flavorName" "innerunique"))
     [.lit "joinSource" " JOIN "]
     [.ite (.strEq "flavorName" "leftouter") [.lit "joinSource" " LEFT JOIN "] [.retErr]],
   .qidPtr "joinSource" "lastSubquery" "name",
   .litCat "joinSource" " AS \"" "rightJoinTableAlias" "\" ON ",
   .ctx "joinCtx" "source" "scope" "joinExprMode",
   .tryExprJoin "joinCtx" "joinSource" ⟨"op", "Conditions"⟩,
   .new "lastSubquery" false [("name", .subqueryName (.len "dst")), ("sourceSQL", .string "joinSource")],
   .append "dst" "lastSubquery"]

theorem chain_ir : decode (irOf "chainSubquery") = some chainIR := by rfl
theorem pre_ir : decode (irOf "splitQueries:pre") = some preIR := by rfl
theorem post_ir : decode (irOf "splitQueries:post") = some postIR := by rfl
theorem as_ir : decode (irOf "splitQueries:case:AsOperator") = some asIR := by rfl
theorem default_ir : decode (irOf "splitQueries:case:default") = some defaultIR := by rfl
theorem sort_ir : decode (irOf "splitQueries:case:SortOperator") = some sortIR := by rfl
theorem take_ir : decode (irOf "splitQueries:case:TakeOperator") = some takeIR := by rfl
theorem top_ir : decode (irOf "splitQueries:case:TopOperator") = some topIR := by rfl
set_option maxRecDepth 4000 in
theorem join_ir : decode (irOf "splitQueries:case:JoinOperator") = some (joinHeadIR ++ joinTailIR) := by rfl

theorem bind_ok {ε α β : Type} (a : α) (f : α → Except ε β) : (Except.ok a : Except ε α) >>= f = f a := rfl
theorem bind_error {ε α β : Type} (e : ε) (f : α → Except ε β) : (Except.error e : Except ε α) >>= f = .error e := rfl
theorem pure_ok {ε α : Type} (a : α) : (pure a : Except ε α) = .ok a := rfl

theorem liftW_bind {α β : Type} (x : Except WErr α) (f : α → Except WErr β) :
    liftW (x >>= f) = liftW x >>= fun a => liftW (f a) := by
  cases x <;> rfl
theorem liftW_ok {α : Type} (a : α) : liftW (Except.ok a : Except WErr α) = .ok a := rfl
theorem liftW_error {α : Type} (e : WErr) : liftW (Except.error e : Except WErr α) = .error (.go e) := rfl
theorem liftW_ite {α : Type} (c : Prop) [Decidable c] (x y : Except WErr α) :
    liftW (if c then x else y) = if c then liftW x else liftW y := by
  split <;> rfl

theorem execBlock_append (sem : Sem) (a b : List Stmt) (st : State) :
    execBlock sem (a ++ b) st = execBlock sem a st >>= execBlock sem b := by
  induction a generalizing st with
  | nil => rfl
  | cons s r ih =>
    simp only [List.cons_append, execBlock]
    cases exec sem s st with
    | error e => rfl
    | ok st1 => simp only [bind_ok, ih]

section
variable {α β γ : Type} {sem : Sem} {s : Stmt} {r : List Stmt} {S : State} {K : State → IM γ}

/-- a statement that cannot fail, then the rest of the block -/
theorem execBlock_step {S' : State} {R : IM γ} (hs : exec sem s S = .ok S') (hr : execBlock sem r S' >>= K = R) :
    execBlock sem (s :: r) S >>= K = R := by
  rw [execBlock, hs]
  exact hr

/-- a statement that does what the machine's `w` does, then the rest of the block on its result -/
theorem execBlock_bind {w : Except WErr α} {mid : α → State} {m : α → Except WErr β} {K' : β → IM γ}
    (hs : exec sem s S = liftW w >>= fun a => .ok (mid a))
    (hr : ∀ a, execBlock sem r (mid a) >>= K = liftW (m a) >>= K') :
    execBlock sem (s :: r) S >>= K = liftW (w >>= m) >>= K' := by
  rw [execBlock, hs]
  cases w with
  | error e => rfl
  | ok a => exact hr a

/-- the same when the machine takes two steps for the one statement -/
theorem execBlock_bind₂ {α' : Type} {w1 : Except WErr α'} {w2 : α' → Except WErr α} {mid : α → State}
    {m : α → Except WErr β} {K' : β → IM γ}
    (hs : exec sem s S = liftW (w1 >>= w2) >>= fun a => .ok (mid a))
    (hr : ∀ a, execBlock sem r (mid a) >>= K = liftW (m a) >>= K') :
    execBlock sem (s :: r) S >>= K = liftW (w1 >>= fun a' => w2 a' >>= m) >>= K' := by
  cases w1 with
  | error e => rw [execBlock, hs]; rfl
  | ok a' => exact execBlock_bind (w := w2 a') hs hr

theorem execBlock_last {w : Except WErr α} {mid : α → State} {K' : α → IM γ}
    (hs : exec sem s S = liftW w >>= fun a => .ok (mid a)) (hk : ∀ a, K (mid a) = K' a) :
    execBlock sem [s] S >>= K = liftW w >>= K' := by
  rw [execBlock, hs]
  cases w with
  | error e => rfl
  | ok a => exact hk a

end

/-- the frame of `chainSubquery` once `sub` and `sb` are declared -/
def chainFrame (h : SplitImp.Heap) (a : SplitImp.Addr) (dst : List SplitImp.Addr) (k : Nat) (s : Option Ident)
    (sb : List Chunk) : State :=
  ⟨h, [("sb", .builder sb), ("sub", .ptr (some a)), ("dst", .slice dst), ("dstStart", .int k), ("src", .src s)]⟩

/-- `if len(dst) > dstStart { quoteIdentifier(sb, dst[len(dst)-1].name) } else { … dataSourceSQL(sb, src) … }` -/
theorem exec_chainSource (h : SplitImp.Heap) (a : SplitImp.Addr) (dst : List SplitImp.Addr) (k : Nat) (s : Option Ident) :
    exec noCalls (.ite (.intCmp "gt" (.len "dst") (.var "dstStart")) [.qidIdx "sb" "dst" "name" (.lenm1 "dst")]
        [.tryDataSource "sb" ⟨"src", ""⟩]) (chainFrame h a dst k s []) =
      liftW (if dst.length > k then SplitImp.index dst ((dst.length : Int) - 1) >>= fun p =>
          SplitImp.load h p >>= fun l => .ok [Chunk.qid l.name] else SplitImp.dataSourceSQLI s) >>= fun sb =>
        .ok (chainFrame h a dst k s sb) := by
  have hc : evalCond (chainFrame h a dst k s []) (.intCmp "gt" (.len "dst") (.var "dstStart")) =
      .ok (decide ((dst.length : Int) > (k : Int))) := rfl
  have hq : exec noCalls (.qidIdx "sb" "dst" "name" (.lenm1 "dst")) (chainFrame h a dst k s []) =
      liftW (SplitImp.index dst ((dst.length : Int) - 1) >>= SplitImp.load h) >>= fun l =>
        .ok (chainFrame h a dst k s [.qid l.name]) := rfl
  rw [exec, hc]
  by_cases hgt : dst.length > k
  · have hgt' : (dst.length : Int) > (k : Int) := by omega
    simp only [hgt, hgt', decide_true, ↓reduceIte, bind_ok, execBlock, hq]
    cases SplitImp.index dst ((dst.length : Int) - 1) with
    | error e => rfl
    | ok p => cases hl : SplitImp.load h p <;> simp only [bind_ok, hl] <;> rfl
  · have hgt' : ¬ (dst.length : Int) > (k : Int) := by omega
    simp only [hgt, hgt', decide_false, Bool.false_eq_true, ↓reduceIte, bind_ok]
    cases s <;> rfl

/-- **`chainSubquery`**: interpreting the regenerated body on a fresh frame is the machine's
    `chainSubqueryI` (same heap, same pointer, same panic) -/
theorem interpChain_eq (h : SplitImp.Heap) (dst : List SplitImp.Addr) (k : Nat) (s : Option Ident) :
    interpChain h [.slice dst, .int k, .src s] =
      liftW (SplitImp.chainSubqueryI h dst k s) >>= fun r => .ok (r.1, .ptr (some r.2)) := by
  have hb : bindParams "chainSubquery" [.slice dst, .int k, .src s] =
      .ok [("dst", .slice dst), ("dstStart", .int k), ("src", .src s)] := rfl
  unfold interpChain interpUnit SplitImp.chainSubqueryI
  rw [chain_ir, hb]
  -- `sub := &subquery{…}` allocates at `h.size`; `sb := new(strings.Builder)`
  refine execBlock_step (S' := ⟨h.push { name := subqueryName dst.length, source := [] },
    [("sub", .ptr (some h.size)), ("dst", .slice dst), ("dstStart", .int k), ("src", .src s)]⟩) ?_ ?_
  · simp [exec, mkSub, evalInt, sliceOf, State.get, State.declare, SplitImp.alloc, bind_ok, pure_ok]
  refine execBlock_step (S' := chainFrame (h.push { name := subqueryName dst.length, source := [] }) h.size dst k s [])
    rfl ?_
  have hsrc := exec_chainSource (h.push { name := subqueryName dst.length, source := [] }) h.size dst k s
  have hset : ∀ sb, exec noCalls (.setField "sub" "sourceSQL" (.string "sb"))
      (chainFrame (h.push { name := subqueryName dst.length, source := [] }) h.size dst k s sb) =
      liftW (SplitImp.store (h.push { name := subqueryName dst.length, source := [] }) h.size
        fun q => { q with source := sb }) >>= fun h' => .ok (chainFrame h' h.size dst k s sb) :=
    fun _ => rfl
  -- the machine's text joins the two branches only after them
  by_cases hgt : dst.length > k
  · rw [if_pos hgt] at hsrc
    simp only [hgt, ↓reduceIte]
    rw [execBlock, hsrc]
    cases SplitImp.index dst ((dst.length : Int) - 1) with
    | error e => rfl
    | ok p =>
      cases hl : SplitImp.load (h.push { name := subqueryName dst.length, source := [] }) p with
      | error e => simp only [SplitImp.alloc, bind_ok, hl]; rfl
      | ok l =>
        simp only [SplitImp.alloc, pure_ok, bind_ok, hl, liftW_ok]
        exact execBlock_bind (hset [Chunk.qid l.name]) fun _ => rfl
  · rw [if_neg hgt] at hsrc
    simp only [hgt, ↓reduceIte]
    exact execBlock_bind hsrc fun sb => execBlock_bind (hset sb) fun _ => rfl

end Pql.SplitIR
