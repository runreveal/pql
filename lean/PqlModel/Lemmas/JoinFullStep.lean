/-
One step of `splitOpsA` (`C05.placeA`), whatever the block looks like: names, side conditions and
meaning (`StepRes`).  What depends on the operator is said of `storeA` once: what it leaves in a fresh
link (`storeA_fresh`) and in a link it is attached to (`storeA_attached`).
-/
import PqlModel.Lemmas.JoinFullSem
namespace Pql.JoinFull
open Pql Sql CompileOracle Intended SplitQ SelSem C02 C05

/-- what one operator does to the block `N` (standing behind `k` earlier links, so that a new link is
    `__subquery{k + |N|}`) of `source | …`: `open_`: the last link is not a join link that a sort or take could
    still be attached to (`openJoinL`); `ok`: the links keep their side conditions; `tbl`: no join link comes
    in; `sem`: the value of the last link, under fresh names in front of it -/
structure StepRes (src : Bytes) (db : DB) (source : Option Ident) (k : Nat) (N N1 : List SubA) (o : Op) : Prop where
  ne : N1 ≠ []
  names : ∃ extra, N1.map (·.name) = N.map (·.name) ++ extra ∧
      (extra = [] ∨ extra = [subqueryName (k + N.length)] ∨ ∃ p kw nm, o = .as_ p kw nm ∧ extra = [identName nm])
  open_ : openJoinL N1 = false
  ok : (∀ a ∈ N, linkOk a = true) → opOkJ (openJoinL N) o = true → ∀ a ∈ N1, linkOk a = true
  tbl : (∀ a ∈ N, isJoinSrc a.source = false) → ∀ a ∈ N1, isJoinSrc a.source = false
  sem : ∀ E : List (Bytes × Table), FreshNames E (N1.dropLast.map (·.name)) →
      val src db E source N1 = Rel.interpOp src db (val src db E source N) o

theorem mem_snoc_cases {α} {P : α → Prop} {N : List α} {a : α} (hN : ∀ x ∈ N, P x) (ha : P a) :
    ∀ x ∈ N ++ [a], P x :=
  List.forall_mem_append.2 ⟨hN, List.forall_mem_singleton.2 ha⟩

theorem push_res (src : Bytes) (db : DB) (source : Option Ident) (pre N : List SubA) (o : Op) (a : SubA)
    (hj : isJoin o = false)
    (hsrc : a.source = (chainA (pre ++ N) pre.length source).source)
    (hname : a.name = subqueryName (pre ++ N).length ∨ ∃ p kw nm, o = .as_ p kw nm ∧ a.name = identName nm)
    (hcl : subClausesA a = opClauses o)
    (hlink : opOk o = true → linkOk a = true) :
    StepRes src db source pre.length N (N ++ [a]) o := by
  have hsrc' : a.source = .table (C05.prevNameA source N) := hsrc.trans (C05.chainA_source pre N source)
  refine ⟨by simp, ?_, ?_, ?_, ?_, ?_⟩
  · refine ⟨[a.name], by simp, ?_⟩
    rcases hname with h | ⟨p, kw, nm, h1, h2⟩
    · right; left; rw [h]; simp
    · right; right; exact ⟨p, kw, nm, h1, by rw [h2]⟩
  · rw [openJoinL_snoc, hsrc']; rfl
  · intro hN ho
    rw [opOkJ_of_not_join _ o hj, Bool.and_eq_true] at ho
    exact mem_snoc_cases hN (hlink ho.1)
  · intro hN
    exact mem_snoc_cases hN (by rw [hsrc']; rfl)
  · intro E hnd
    rw [List.dropLast_concat] at hnd
    rw [push_sem src db E source N a hsrc' hnd, subEvalA_of_clauses src db _ a o hj hcl]

theorem attach_linkOk (l l' : SubA) (o : Op) (hj : isJoin o = false)
    (hop : l'.op = l.op) (hsrc : l'.source = l.source) (hcan : canAttachSort l.op = true)
    (hsort : l'.sort = l.sort ∨ (l'.sort = some (sortTermsOf o) ∧ l.sort = none ∧ l.take = none))
    (hl : linkOk l = true) (ho : opOkJ (isJoinSrc l.source && l.sort.isNone && l.take.isNone) o = true) :
    linkOk l' = true := by
  rw [opOkJ_of_not_join _ o hj] at ho
  simp only [linkOk, sortOkA, hop, hsrc, hcan, Bool.or_true, Bool.true_and, Bool.and_eq_true] at hl ⊢
  refine ⟨hl.1, ?_⟩
  cases hjs : isJoinSrc l.source with
  | false => simp
  | true =>
    simp only [hjs, Bool.not_true, Bool.false_or, Bool.and_eq_true] at hl ⊢
    refine ⟨hl.2.1, ?_⟩
    rcases hsort with h | ⟨h1, h2, h3⟩
    · rw [h]; exact hl.2.2
    · rw [h1]
      simp only [hjs, h2, h3, Option.isNone_none, Bool.and_self, Bool.not_true, Bool.false_or, Bool.and_eq_true] at ho
      exact ho.2

theorem attach_res (src : Bytes) (db : DB) (source : Option Ident) (k : Nat) (N0 : List SubA) (l l' : SubA) (o : Op)
    (hj : isJoin o = false)
    (hname : l'.name = l.name) (hsrc : l'.source = l.source) (hop : l'.op = l.op)
    (hcl : subClausesA l' = subClausesA l ++ opClauses o)
    (hset : (l'.sort.isNone && l'.take.isNone) = false)
    (hcan : canAttachSort l.op = true)
    (hsort : l'.sort = l.sort ∨ (l'.sort = some (sortTermsOf o) ∧ l.sort = none ∧ l.take = none)) :
    StepRes src db source k (N0 ++ [l]) (N0 ++ [l']) o := by
  refine ⟨by simp, ⟨[], by simp [hname], .inl rfl⟩, ?_, ?_, ?_, ?_⟩
  · rw [openJoinL_snoc, Bool.and_assoc, hset, Bool.and_false]
  · intro hN ho
    rw [openJoinL_snoc] at ho
    exact mem_snoc_cases (fun x hx => hN x (List.mem_append_left _ hx))
      (attach_linkOk l l' o hj hop hsrc hcan hsort (hN l (by simp)) ho)
  · intro hN
    exact mem_snoc_cases (fun x hx => hN x (List.mem_append_left _ hx)) (by rw [hsrc]; exact hN l (by simp))
  · intro E _
    rw [attach_sem src db E source N0 l l' (opClauses o) hsrc hcl, ← interpOp_eq_clauses src db _ o hj]

theorem linkOk_fresh (a : SubA) (hop : a.op = none) (hs : ∃ n, a.source = .table n) : linkOk a = true := by
  obtain ⟨n, hs⟩ := hs
  simp [linkOk, sortOkA, hop, hs, isJoinSrc, canAttachSort]

theorem linkOk_chainA (dst : List SubA) (k : Nat) (source : Option Ident) : linkOk (chainA dst k source) = true :=
  linkOk_fresh _ rfl ⟨_, rfl⟩

theorem steps_not_join {o : Op} (ho : steps o = true) : isJoin o = false := by
  cases o <;> first | rfl | cases ho

theorem storeA_name (o : Op) (s : SubA) :
    (storeA o s).name = s.name ∨ ∃ p kw nm, o = .as_ p kw nm ∧ (storeA o s).name = identName nm := by
  cases o with
  | as_ p kw nm => exact .inr ⟨p, kw, nm, rfl, rfl⟩
  | top p kw n b col => cases col <;> exact .inl rfl
  | _ => exact .inl rfl

theorem storeA_fresh {o : Op} (ho : steps o = true) {s : SubA} (h1 : s.op = none) (h2 : s.sort = none)
    (h3 : s.take = none) (hs : ∃ n, s.source = .table n) :
    subClausesA (storeA o s) = opClauses o ∧ (opOk o = true → linkOk (storeA o s) = true) := by
  obtain ⟨n, hs⟩ := hs
  cases o with
  | join => cases ho
  | sort p kw ts =>
    exact ⟨by simp [storeA, subClausesA, opPartA, sortTakeA, h1, h3, opClauses], fun _ => linkOk_fresh _ h1 ⟨n, hs⟩⟩
  | take p kw m =>
    exact ⟨by simp [storeA, subClausesA, opPartA, sortTakeA, h1, h2, opClauses], fun _ => linkOk_fresh _ h1 ⟨n, hs⟩⟩
  | top p kw m b col =>
    cases col with
    | none => cases ho
    | some c =>
      exact ⟨by simp [storeA, subClausesA, opPartA, sortTakeA, h1, opClauses], fun _ => linkOk_fresh _ h1 ⟨n, hs⟩⟩
  | _ =>
    refine ⟨by simp [storeA, subClausesA, opPartA, sortTakeA, h2, h3, opClauses], fun hok => ?_⟩
    simp [linkOk, sortOkA, storeA, hs, isJoinSrc, h2, isJoin, hok]

theorem storeA_attached {o : Op} {l : SubA} (h : attachesA o l = true) :
    subClausesA (storeA o l) = subClausesA l ++ opClauses o ∧
    ((storeA o l).sort.isNone && (storeA o l).take.isNone) = false ∧ canAttachSort l.op = true ∧
    ((storeA o l).sort = l.sort ∨ ((storeA o l).sort = some (sortTermsOf o) ∧ l.sort = none ∧ l.take = none)) := by
  cases o with
  | sort p kw ts =>
    simp only [attachesA, Bool.and_eq_true, Option.isNone_iff_eq_none] at h
    exact ⟨by simp [storeA, subClausesA, sortTakeA, h.1.2, h.2, opClauses, opPartA], by simp [storeA], h.1.1,
      .inr ⟨rfl, h.1.2, h.2⟩⟩
  | take p kw m =>
    simp only [attachesA, Bool.and_eq_true, Option.isNone_iff_eq_none] at h
    exact ⟨by simp [storeA, subClausesA, sortTakeA, h.2, opClauses, opPartA], by simp [storeA], h.1, .inl rfl⟩
  | top p kw m b col =>
    cases col with
    | none => cases h
    | some c =>
      simp only [attachesA, Bool.and_eq_true, Option.isNone_iff_eq_none] at h
      exact ⟨by simp [storeA, subClausesA, sortTakeA, h.1.2, h.2, opClauses, opPartA], by simp [storeA], h.1.1,
        .inr ⟨rfl, h.1.2, h.2⟩⟩
  | _ => cases h

theorem place_res (src : Bytes) (db : DB) (source : Option Ident) (pre N : List SubA) {o : Op}
    (ho : steps o = true) :
    ∃ N1, placeA source pre.length o (pre ++ N) = pre ++ N1 ∧ StepRes src db source pre.length N N1 o := by
  have hj := steps_not_join ho
  rcases C05.placeA_cases source pre.length o (pre ++ N) with h | ⟨init, l, hd, hk, ha, h⟩
  · have hsrc := C05.storeA_source o (chainA (pre ++ N) pre.length source)
    obtain ⟨hcl, hok⟩ := storeA_fresh ho (s := chainA (pre ++ N) pre.length source) rfl rfl rfl
      ⟨_, C05.chainA_source pre N source⟩
    exact ⟨_, h.trans (List.append_assoc ..), push_res src db source pre N o _ hj hsrc (storeA_name o _) hcl hok⟩
  · obtain ⟨N0, rfl, rfl⟩ := split_last hd.symm hk
    obtain ⟨hname, hop⟩ := C05.storeA_of_attaches ha
    obtain ⟨hcl, hset, hcan, hsort⟩ := storeA_attached ha
    exact ⟨_, h.trans (List.append_assoc ..), attach_res src db source pre.length N0 l _ o hj hname
      (C05.storeA_source o l) hop hcl hset hcan hsort⟩

end Pql.JoinFull
