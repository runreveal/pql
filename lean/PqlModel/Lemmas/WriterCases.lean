/-
What one successful run of the expression writer can be: `WriterCases ctx P` lists, once, every
form of output `writeExpr` has (one field per form, with `P` for the sub-expressions written on the
way), and `writeExpr_cases` says that a property closed under them holds of every output.  The
invariants of the writer (lexical adjacency, the syntactic round trip, fixed texts, free names) are
instances: a motive and one fact per form, with no recursion over `Expr` and no inversion of the
writer's binds of their own.
-/
import PqlModel.Model.Compile
namespace Pql

/-- the text `writeExpr` puts in front of the operand of a unary operator -/
def signText (op : TokKind) : String :=
  if op = .plus then "+" else if op = .minus then "-" else "/* unhandled " ++ op.goName ++ " unary op */ "

/-- the test of `writeExpr` for "an equality between the two sides of the join" -/
abbrev joinTest (c : Ctx) (x y : Expr) : Prop :=
  c.mode = .join ∧ ((hasJoinTerms x).1 || (hasJoinTerms y).1) = true ∧
    ((hasJoinTerms x).2 || (hasJoinTerms y).2) = true

/-- the arguments `as` of `es` as `writeListMaybeParen'` returns them: each wrapped as an operand of its own tree -/
def wrapArgs (es : ExprList) (as : List (List Chunk)) : List (List Chunk) :=
  (es.toList.zip as).map fun a => wrapMaybe a.1 a.2

theorem sepChunks_cons (sep : String) (x : List Chunk) (xs : List (List Chunk)) :
    sepChunks sep (x :: xs) = x ++ xs.flatMap fun c => .txt sep :: c := by
  induction xs generalizing x with
  | nil => simp [sepChunks]
  | cons y ys ih => simp [sepChunks, ih]

/-- `==` on strings as a propositional equality, which `simp` refutes at the first character that differs
    (`String.reduceBEq` would leave the comparison of two literals to the kernel, which encodes both) -/
theorem sbeq (a b : String) : (a == b) = decide (a = b) := rfl

/-- The scope and the regenerated tables (`builtinIdent`, `binaryOpText`, `knownFunction`) are all looked up
    this way: an answer is the value of a row with that key. -/
theorem lookup_row {α β κ : Type} [BEq κ] [LawfulBEq κ] {t : List α} {key : α → κ} {val : α → β} {k : κ} {v : β}
    (h : (t.find? fun r => key r == k).map val = some v) : ∃ r ∈ t, key r = k ∧ val r = v := by
  obtain ⟨r, hr, rfl⟩ := Option.map_eq_some_iff.mp h
  have hp := List.find?_some hr
  exact ⟨r, List.mem_of_find?_eq_some hr, eq_of_beq hp, rfl⟩

theorem lookupScope_mem {scope : List (Bytes × List Chunk)} {name : Bytes} {sql : List Chunk}
    (h : lookupScope scope name = some sql) : ∃ kv ∈ scope, kv.1 = name ∧ kv.2 = sql :=
  lookup_row h

/-- the test of `writeExpr` on every part of a name: an unquoted `$left` / `$right` outside a join condition is an error -/
def aliasErr (m : Mode) (p : Ident) : Bool :=
  !p.quoted && (p.name == leftAlias || p.name == rightAlias) && decide (m ≠ .join)

theorem writeExpr_qident_single (ctx : Ctx) (p : Ident) : writeExpr ctx (.qident [p]) =
    if p.quoted then (if ctx.mode = .let_ then .error .err else .ok [.qid p.name])
    else match lookupScope ctx.scope p.name with
      | some sql => .ok sql
      | none => match builtinIdent p.name with
        | some sql => .ok [.txt sql]
        | none => if ctx.mode = .let_ then .error .err
          else if aliasErr ctx.mode p then .error .err else .ok [.qid p.name] := by
  obtain ⟨n, sp, q⟩ := p
  simp only [writeExpr, List.any_cons, List.any_nil, Bool.or_false, List.map_cons, List.map_nil, sepChunks, aliasErr]
  cases q with
  | true =>
    simp only [Bool.not_true, Bool.false_eq_true, if_false, Bool.false_and, if_true]
    by_cases hm : ctx.mode = .let_ <;> simp only [hm, if_true, if_false]
  | false =>
    simp only [Bool.not_false, if_true, Bool.true_and, Bool.false_eq_true, if_false]
    cases lookupScope ctx.scope n with
    | some sql => rfl
    | none =>
      dsimp only
      cases builtinIdent n with
      | some sql => rfl
      | none =>
        dsimp only
        by_cases hm : ctx.mode = .let_ <;> simp only [hm, if_true, if_false]

theorem writeExpr_qident_multi (ctx : Ctx) (parts : List Ident) (h : parts.length ≠ 1) : writeExpr ctx (.qident parts) =
    if ctx.mode = .let_ then .error .err
    else if parts.any (aliasErr ctx.mode) then .error .err
    else .ok (sepChunks "." (parts.map fun p => [.qid p.name])) := by
  match parts, h with
  | [], _ =>
    simp only [writeExpr]
    by_cases hm : ctx.mode = .let_ <;> simp only [hm, if_true, if_false] <;> rfl
  | _ :: _ :: _, _ =>
    simp only [writeExpr]
    by_cases hm : ctx.mode = .let_ <;> simp only [hm, if_true, if_false] <;> rfl
  | [p], h => simp at h

/-- `P` holds of every element of the list and the chunks written for it (`writeList`'s result, before any wrapping) -/
inductive Args (P : Expr → List Chunk → Prop) : ExprList → List (List Chunk) → Prop
  | nil : Args P .nil []
  | cons {e : Expr} {a : List Chunk} {es : ExprList} {as : List (List Chunk)} :
      P e a → Args P es as → Args P (.cons e es) (a :: as)

structure WriterCases (ctx : Ctx) (P : Expr → List Chunk → Prop) : Prop where
  nil : P .nil [.txt "NULL /* unhandled <nil> expression */"]
  paren : ∀ a x b cs, P x cs → P (.paren a x b) cs
  bound : ∀ p sql, p.quoted = false → lookupScope ctx.scope p.name = some sql → P (.qident [p]) sql
  builtin : ∀ p sql, p.quoted = false → lookupScope ctx.scope p.name = none → builtinIdent p.name = some sql →
    P (.qident [p]) [.txt sql]
  cols : ∀ parts, (∀ p, parts = [p] → p.quoted = false →
      lookupScope ctx.scope p.name = none ∧ builtinIdent p.name = none) → ctx.mode ≠ .let_ →
    parts.any (aliasErr ctx.mode) = false →
    P (.qident parts) (sepChunks "." (parts.map fun p => [.qid p.name]))
  num : ∀ sp v, P (.lit sp .number v) [.num v]
  str : ∀ sp v, P (.lit sp .string v) [.qstr v]
  litOther : ∀ sp k v, k ≠ .number → k ≠ .string →
    P (.lit sp k v) [.txt ("NULL /* unhandled " ++ k.goName ++ " literal */")]
  unary : ∀ a op x xs, P x xs → P (.unary a op x) (.txt (signText op) :: wrapTight x xs)
  eqJoin : ∀ x a y xs ys, joinTest ctx x y → P x xs → P y ys →
    P (.binary x a .eq y) (wrapMaybe x xs ++ .txt " = " :: wrapMaybe y ys)
  eq : ∀ x a y xs ys, ¬ joinTest ctx x y → P x xs → P y ys →
    P (.binary x a .eq y) (.txt "coalesce(" :: wrapMaybe x xs ++ .txt " = " :: wrapMaybe y ys ++ [.txt ", FALSE)"])
  ne : ∀ x a y xs ys, P x xs → P y ys →
    P (.binary x a .ne y) (.txt "coalesce(" :: wrapMaybe x xs ++ .txt " <> " :: wrapMaybe y ys ++ [.txt ", FALSE)"])
  cieq : ∀ x a y xs ys, P x xs → P y ys →
    P (.binary x a .cieq y) (.txt "lower(" :: xs ++ .txt ") = lower(" :: ys ++ [.txt ")"])
  cine : ∀ x a y xs ys, P x xs → P y ys →
    P (.binary x a .cine y) (.txt "lower(" :: xs ++ .txt ") <> lower(" :: ys ++ [.txt ")"])
  plain : ∀ x a op y sql xs ys, op ≠ .eq → op ≠ .ne → op ≠ .cieq → op ≠ .cine → binaryOpText op = some sql →
    P x xs → P y ys → P (.binary x a op y) (wrapMaybe x xs ++ .txt " " :: .txt sql :: .txt " " :: wrapMaybe y ys)
  binOther : ∀ x a op y, op ≠ .eq → op ≠ .ne → op ≠ .cieq → op ≠ .cine → binaryOpText op = none →
    P (.binary x a op y) [.txt ("NULL /* unhandled " ++ op.goName ++ " binary op */ ")]
  inE : ∀ x a b vals c xs as, P x xs → Args P vals as →
    P (.inE x a b vals c) (wrapMaybe x xs ++ .txt " IN (" :: sepChunks ", " (wrapArgs vals as) ++ [.txt ")"])
  index : ∀ x a i b xs is, P x xs → P i is → P (.index x a i b) (wrapTight x xs ++ .txt "[" :: is ++ [.txt "]"])
  known : ∀ fn a args b writer np as cs, knownFunction fn.name = some (writer, np) →
    arityRejects writer args.length = false → Args P args as →
    assembleKnown writer (args.toList.zip as) = .ok cs → P (.call fn a args b) cs
  passthrough : ∀ fn a args b as, knownFunction fn.name = none → Args P args as →
    P (.call fn a args b) (.fname fn.name :: .txt "(" :: sepChunks ", " as ++ [.txt ")"])

namespace LexRender

/-- inversion of a successful bind (the `bind_ok` of the IR files is the computation rule; this one goes the other way) -/
theorem bind_ok {α β : Type} {r : Except WErr α} {k : α → Except WErr β} {b : β}
    (h : (r >>= k) = .ok b) : ∃ a, r = .ok a ∧ k a = .ok b := by
  cases r with
  | error e => cases h
  | ok a => exact ⟨a, rfl, h⟩

theorem map_ok {α β : Type} {r : Except WErr α} {f : α → β} {b : β}
    (h : Except.map f r = .ok b) : ∃ a, r = .ok a ∧ b = f a := by
  cases r with
  | error e => cases h
  | ok a => simp only [Except.map, Except.ok.injEq] at h; exact ⟨a, rfl, h.symm⟩

end LexRender

namespace WriterCases
open LexRender

theorem two_inv {f g : List Chunk → List Chunk} {rx ry : W} {k : List Chunk → List Chunk → List Chunk}
    {cs : List Chunk}
    (h : (do let xs ← rx.map f; let ys ← ry.map g; pure (k xs ys) : W) = .ok cs) :
    ∃ xs ys, rx = .ok xs ∧ ry = .ok ys ∧ cs = k (f xs) (g ys) := by
  obtain ⟨xs', hx', h⟩ := bind_ok h
  obtain ⟨ys', hy', h⟩ := bind_ok h
  obtain ⟨xs, hx, rfl⟩ := map_ok hx'
  obtain ⟨ys, hy, rfl⟩ := map_ok hy'
  cases h
  exact ⟨xs, ys, hx, hy, rfl⟩

theorem two_inv' {rx ry : W} {k : List Chunk → List Chunk → List Chunk} {cs : List Chunk}
    (h : (do let xs ← rx; let ys ← ry; pure (k xs ys) : W) = .ok cs) :
    ∃ xs ys, rx = .ok xs ∧ ry = .ok ys ∧ cs = k xs ys := by
  obtain ⟨xs, hx, h⟩ := bind_ok h
  obtain ⟨ys, hy, h⟩ := bind_ok h
  cases h
  exact ⟨xs, ys, hx, hy, rfl⟩

end WriterCases

open WriterCases LexRender

section
variable {ctx : Ctx} {P : Expr → List Chunk → Prop}

theorem WriterCases.qident (H : WriterCases ctx P) (parts : List Ident) (cs : List Chunk) (h : writeExpr ctx (.qident parts) = .ok cs) :
    P (.qident parts) cs := by
  by_cases h1 : parts.length = 1
  · obtain ⟨p, rfl⟩ := List.length_eq_one_iff.mp h1
    rw [writeExpr_qident_single] at h
    cases hq : p.quoted with
    | true =>
      simp only [hq, if_true] at h
      split at h
      · cases h
      · cases h
        exact H.cols [p] (fun p' hp hq' => by cases hp; rw [hq] at hq'; cases hq') ‹_› (by simp [aliasErr, hq])
    | false =>
      simp only [hq, Bool.false_eq_true, if_false] at h
      split at h
      · rename_i sql hl; cases h; exact H.bound p _ hq hl
      · rename_i hl
        split at h
        · rename_i sql hb; cases h; exact H.builtin p sql hq hl hb
        · rename_i hb
          split at h
          · cases h
          · split at h
            · cases h
            · cases h
              exact H.cols [p] (fun p' hp _ => by cases hp; exact ⟨hl, hb⟩) ‹_›
                (by simpa only [List.any_cons, List.any_nil, Bool.or_false] using Bool.eq_false_iff.mpr ‹¬ _›)
  · rw [writeExpr_qident_multi ctx parts h1] at h
    split at h
    · cases h
    · split at h
      · cases h
      · cases h
        exact H.cols parts (fun p hp => by subst hp; simp at h1) ‹_› (Bool.eq_false_iff.mpr ‹¬ _›)

mutual

theorem writeExpr_cases (H : WriterCases ctx P) : (e : Expr) → (cs : List Chunk) → writeExpr ctx e = .ok cs → P e cs
  | .nil, cs, h => by
    simp only [writeExpr] at h; cases h; exact H.nil
  | .paren a x b, cs, h => by
    simp only [writeExpr] at h
    exact H.paren a x b cs (writeExpr_cases H x cs h)
  | .qident parts, cs, h => H.qident parts cs h
  | .lit sp k v, cs, h => by
    simp only [writeExpr] at h
    by_cases h1 : k = .number
    · subst h1; rw [if_pos rfl] at h; cases h; exact H.num sp v
    rw [if_neg h1] at h
    by_cases h2 : k = .string
    · subst h2; rw [if_pos rfl] at h; cases h; exact H.str sp v
    rw [if_neg h2] at h; cases h
    exact H.litOther sp k v h1 h2
  | .unary a op x, cs, h => by
    simp only [writeExpr] at h
    obtain ⟨xs', hx', h⟩ := bind_ok h
    obtain ⟨xs, hx, rfl⟩ := map_ok hx'
    cases h
    exact H.unary a op x xs (writeExpr_cases H x xs hx)
  | .binary x a op y, cs, h => by
    simp only [writeExpr] at h
    by_cases h1 : op = .eq
    · subst h1
      rw [if_pos rfl] at h
      by_cases hj : joinTest ctx x y
      · rw [if_pos (show _ ∧ _ ∧ _ from hj)] at h
        obtain ⟨xs, ys, hx, hy, rfl⟩ := two_inv (k := fun xs ys => xs ++ Chunk.txt " = " :: ys) h
        exact H.eqJoin x a y xs ys hj (writeExpr_cases H x xs hx) (writeExpr_cases H y ys hy)
      · rw [if_neg (show ¬ (_ ∧ _ ∧ _) from hj)] at h
        obtain ⟨xs, ys, hx, hy, rfl⟩ := two_inv
          (k := fun xs ys => Chunk.txt "coalesce(" :: xs ++ Chunk.txt " = " :: ys ++ [Chunk.txt ", FALSE)"]) h
        exact H.eq x a y xs ys hj (writeExpr_cases H x xs hx) (writeExpr_cases H y ys hy)
    rw [if_neg h1] at h
    by_cases h2 : op = .ne
    · subst h2
      rw [if_pos rfl] at h
      obtain ⟨xs, ys, hx, hy, rfl⟩ := two_inv
        (k := fun xs ys => Chunk.txt "coalesce(" :: xs ++ Chunk.txt " <> " :: ys ++ [Chunk.txt ", FALSE)"]) h
      exact H.ne x a y xs ys (writeExpr_cases H x xs hx) (writeExpr_cases H y ys hy)
    rw [if_neg h2] at h
    by_cases h3 : op = .cieq
    · subst h3
      rw [if_pos rfl] at h
      obtain ⟨xs, ys, hx, hy, rfl⟩ := two_inv'
        (k := fun xs ys => Chunk.txt "lower(" :: xs ++ Chunk.txt ") = lower(" :: ys ++ [Chunk.txt ")"]) h
      exact H.cieq x a y xs ys (writeExpr_cases H x xs hx) (writeExpr_cases H y ys hy)
    rw [if_neg h3] at h
    by_cases h4 : op = .cine
    · subst h4
      rw [if_pos rfl] at h
      obtain ⟨xs, ys, hx, hy, rfl⟩ := two_inv'
        (k := fun xs ys => Chunk.txt "lower(" :: xs ++ Chunk.txt ") <> lower(" :: ys ++ [Chunk.txt ")"]) h
      exact H.cine x a y xs ys (writeExpr_cases H x xs hx) (writeExpr_cases H y ys hy)
    rw [if_neg h4] at h
    cases hb : binaryOpText op with
    | none => rw [hb] at h; cases h; exact H.binOther x a op y h1 h2 h3 h4 hb
    | some sql =>
      rw [hb] at h
      obtain ⟨xs, ys, hx, hy, rfl⟩ := two_inv
        (k := fun xs ys => xs ++ Chunk.txt " " :: Chunk.txt sql :: Chunk.txt " " :: ys) h
      exact H.plain x a op y sql xs ys h1 h2 h3 h4 hb (writeExpr_cases H x xs hx) (writeExpr_cases H y ys hy)
  | .inE x a b vals c, cs, h => by
    simp only [writeExpr] at h
    obtain ⟨xs', hx', h⟩ := bind_ok h
    obtain ⟨vs, hv, h⟩ := bind_ok h
    obtain ⟨xs, hx, rfl⟩ := map_ok hx'
    cases h
    obtain ⟨as, has, rfl⟩ := writeListMP_cases H vals vs hv
    exact H.inE x a b vals c xs as (writeExpr_cases H x xs hx) has
  | .index x a i b, cs, h => by
    simp only [writeExpr] at h
    obtain ⟨xs', hx', h⟩ := bind_ok h
    obtain ⟨is, hi, h⟩ := bind_ok h
    obtain ⟨xs, hx, rfl⟩ := map_ok hx'
    cases h
    exact H.index x a i b xs is (writeExpr_cases H x xs hx) (writeExpr_cases H i is hi)
  | .call fn a args b, cs, h => by
    simp only [writeExpr] at h
    cases hk : knownFunction fn.name with
    | some wf =>
      obtain ⟨writer, np⟩ := wf
      rw [hk] at h
      dsimp only at h
      by_cases hr : arityRejects writer args.length = true
      · rw [if_pos hr] at h; cases h
      · rw [if_neg hr] at h
        obtain ⟨as, has, h⟩ := bind_ok h
        exact H.known fn a args b writer np as cs hk (by simpa using hr) (writeList_cases H args as has) h
    | none =>
      rw [hk] at h
      dsimp only at h
      obtain ⟨as, has, h⟩ := bind_ok h
      cases h
      exact H.passthrough fn a args b as hk (writeList_cases H args as has)

theorem writeList_cases (H : WriterCases ctx P) : (es : ExprList) → (as : List (List Chunk)) → writeList ctx es = .ok as →
    Args P es as
  | .nil, as, h => by
    simp only [writeList] at h; cases h; exact .nil
  | .cons e es, as, h => by
    simp only [writeList] at h
    obtain ⟨x, hx, h⟩ := bind_ok h
    obtain ⟨xs, hxs, h⟩ := bind_ok h
    cases h
    exact .cons (writeExpr_cases H e x hx) (writeList_cases H es xs hxs)

theorem writeListMP_cases (H : WriterCases ctx P) : (es : ExprList) → (vs : List (List Chunk)) → writeListMaybeParen' ctx es = .ok vs →
    ∃ as, Args P es as ∧ vs = wrapArgs es as
  | .nil, vs, h => by
    simp only [writeListMaybeParen'] at h; cases h; exact ⟨[], .nil, rfl⟩
  | .cons e es, vs, h => by
    simp only [writeListMaybeParen'] at h
    obtain ⟨x', hx', h⟩ := bind_ok h
    obtain ⟨xs, hxs, h⟩ := bind_ok h
    obtain ⟨x, hx, rfl⟩ := map_ok hx'
    cases h
    obtain ⟨as, has, rfl⟩ := writeListMP_cases H es xs hxs
    exact ⟨x :: as, .cons (writeExpr_cases H e x hx) has, by simp [wrapArgs, ExprList.toList]⟩

end

end

end Pql
