/-
End to end on source bytes: programs with `let` statements, by two routes.  `end_to_end_program_source_partial`
goes through `C06_subst_program`, which relates the text of the program to the text of the resolved program up
to parentheses.  `C05_parse_statement_program` and `end_to_end_program` read the tokens of the chunks compiled
for the program itself as the intended statement, through `statement_parse_s`: the chunks the compiler emits
for a query `t` AFTER the statement loop has built the scope from the lets are read by `parseStatement` as the
intended statement of the RESOLVED query `substTabular env t` (`C05.statement_parse_under`, the statement-level
lemma of Lemmas/ParseStmt*.lean, with the expression bridge `exprP_s` of Lemmas/E2EFinalScopedParts.lean and
`splitA_subst`; the suffix `_s`: under a scope built from lets).
-/
import PqlModel.Props.C02EndToEnd
import PqlModel.Props.C05Parsed
import PqlModel.Lemmas.E2EFinalNoBang
import PqlModel.Lemmas.E2EFinalScopedParts
import PqlModel.Lemmas.E2EFinalSplitSubst
namespace Pql.E2EFinal
open Pql Sql CompileOracle Intended Pql.RT Pql.C05 Pql.C06

theorem statement_parse_s (src : Bytes) (scope : Scope) (env : List (Bytes × Expr))
    (hsc : ScopeLetsEnv src scope env) (hjs : envJoinSafe env = true)
    (t : Tabular) (hJ : TrueFree env ∨ ParsedOK.TabNE t = true) (hN : tabNamed t) (cs : List Chunk) (hok : tabularOK (substTabular env t) = true)
    (hc : C14.finishChunks src scope (some t) = .ok cs) :
    ∃ st want, parseStatement (toksOf cs) = some st ∧
      intended src [.tabular (substTabular env t)] = some want ∧ statementEq st want = true := by
  obtain ⟨_, _, _, parsed, wants, sel, wbody, _, _, _, hp, hi, _, _, hrl, hsr⟩ :=
    statement_parse_under (exprP_s hsc hjs) t cs (fun subsA hA => by
      obtain ⟨h1, h2⟩ := splitA_subst t hJ hN [] subsA (by intro a ha; cases ha) hA
      exact ⟨h1, .inr h2⟩) hok hc
  exact ⟨_, _, hp, hi, statementEq_of_rel hrl hsr⟩

end Pql.E2EFinal

namespace Pql.E2EFinal
open Pql Sql CompileOracle Intended JoinFull Pql.ParsedOK Pql.E2E Pql.RT

theorem chunks_of_compile (src sql : Bytes) (stmts : List Stmt) (hp : parse src = (stmts, []))
    (hc : compile [] src = .ok sql) : ∃ cs, compileChunks src [] stmts = .ok cs ∧ sql = renderChunks cs :=
  compile_ok_chunks src sql stmts hp hc

/-- (T) + (P): what `readSql` reads from the text of a compiled program has no `!=` operator -/
theorem C02_readSql_noBang (src : Bytes) (stmts : List Stmt) (cs : List Chunk) (st : Statement)
    (hok : stmtsLexOK stmts = true) (hc : compileChunks src [] stmts = .ok cs)
    (hr : readSql (renderChunks cs) = some st) : noBangStatement st = true := by
  rw [readSql_of_lex (C05.C05_lexRender_program src stmts cs hok hc)] at hr
  exact C02_parse_noBang _ st hr (C02_compiled_no_bang src stmts cs hok hc)

theorem parsed_letValues (src sql : Bytes) (lets rest : List Stmt) (hl : IsLets lets)
    (hp : parse src = (lets ++ rest, [])) (hc : compile [] src = .ok sql)
    (hk : k4Free (lets ++ rest) = true) : LetValuesOK lets := by
  intro st hst kw n a x hx
  subst hx
  have := parsed_letValuesOK src sql lets rest hl hp hc hk kw n a x hst
  simp only [C05.exprOKin, Bool.and_eq_true] at this
  exact ⟨this.1.1, this.1.2⟩

theorem parsed_program (src sql : Bytes) (lets : List Stmt) (t : Tabular)
    (hp : parse src = (lets ++ [.tabular t], [])) (hc : compile [] src = .ok sql)
    (hk : k4Free (lets ++ [.tabular t]) = true) (hl : IsLets lets) :
    ∃ cs, compileChunks src [] (lets ++ [.tabular t]) = .ok cs ∧ sql = renderChunks cs ∧ LetValuesOK lets ∧
      TabNE t = true ∧ stmtsLexOK (lets ++ [.tabular t]) = true ∧
      C05.tabularOK (substTabular (letsEnv lets []) t) = true := by
  obtain ⟨cs, hcs, hsql⟩ := compile_ok_chunks src sql _ hp hc
  exact ⟨cs, hcs, hsql, parsed_letValues src _ lets _ hl hp hc hk,
    (parsed_facts src _ hp (.tabular t) (by simp)).2.2 t rfl, parsed_lexOK_k4 src _ hp hk,
    parsed_resolved_tabularOK src _ _ hp hc hk _ (resolveLets_of_compile src lets t cs hl hcs)⟩

/-- **C02 (end to end, source bytes, programs with lets) — the route through the resolved program.**
    For a source that parses without error to `lets ++ [query t]`, compiles to `sql` and is K4-free, under the
    side conditions of `C06_subst_program` (`LetsJoinSafe`, `TrueFree`, `tabNamed`) and `namesOk` / `tabOpsOk` of
    the resolved query `t' = substTabular (letsEnv lets []) t` — NO `lexOK` / `tabularOK` hypothesis:
    (1) the program's meaning `Rel.interpProgram` is `Rel.interp … t'`;
    (2) `sql` is the rendering of the chunks `cs` of the program and LEXES to `toksOf cs`, which contain
        no `!=` symbol;
    (3) the resolved program `[t']` compiles to chunks `cs'` equal to `cs` up to parentheses;
    (4) the text of `cs'` is read back as a statement `st` without `!=` operator, equal up to `normS` to
        the intended statement of the PROGRAM, and `st` (as read, and in normal form) and the intended
        statement evaluate to `Rel.interp src db t'` on every rectangular database.
    That `cs` itself is read as that statement is `C05_parse_statement_program`; with it
    `C02_end_to_end_program_bytes_detail` (Props/C02EndToEndSource.lean) evaluates what is read from `sql`. -/
theorem end_to_end_program_source_partial (src sql : Bytes) (lets : List Stmt) (t : Tabular)
    (hp : parse src = (lets ++ [.tabular t], [])) (hc : compile [] src = .ok sql)
    (hk : k4Free (lets ++ [.tabular t]) = true)
    (hl : IsLets lets) (hjoin : LetsJoinSafe .join lets) (hT : TrueFree (letsEnv lets []))
    (hN : tabNamed t)
    (hnames : namesOk (substTabular (letsEnv lets []) t) = true)
    (hops : tabOpsOk (substTabular (letsEnv lets []) t) = true) :
    resolveLets (lets ++ [.tabular t]) [] = some (substTabular (letsEnv lets []) t) ∧
    C05.tabularOK (substTabular (letsEnv lets []) t) = true ∧
    (∀ db, Rel.interpProgram src db (lets ++ [.tabular t]) =
      some (Rel.interp src db (substTabular (letsEnv lets []) t))) ∧
    ∃ cs, compileChunks src [] (lets ++ [.tabular t]) = .ok cs ∧ sql = renderChunks cs ∧
      Sql.lex .standard sql = some (toksOf cs) ∧ STok.sym "!=" ∉ toksOf cs ∧
      ∃ cs' st want, compileChunks src [] [.tabular (substTabular (letsEnv lets []) t)] = .ok cs' ∧
        EqUpToParens cs cs' ∧
        readSql (renderChunks cs') = some st ∧ noBangStatement st = true ∧
        intended src (lets ++ [.tabular t]) = some want ∧ statementEq st want = true ∧
        ∀ db, RectDB db →
          evalStatement db st = Rel.interp src db (substTabular (letsEnv lets []) t) ∧
          evalStatement db (normStatement st) = Rel.interp src db (substTabular (letsEnv lets []) t) ∧
          evalStatement db want = Rel.interp src db (substTabular (letsEnv lets []) t) := by
  obtain ⟨cs, hcs, rfl, _, _, hlex, hok⟩ := parsed_program src sql lets t hp hc hk hl
  have hres := resolveLets_of_compile src lets t cs hl hcs
  obtain ⟨_, h2, h3, cs', st, want, h4, h5, h6, h7, h8, h9⟩ :=
    C02_end_to_end_program_partial src lets t cs hcs hl hjoin hT hN hlex hok hnames hops
  have hlex' : stmtsLexOK [.tabular (substTabular (letsEnv lets []) t)] = true := by
    simp only [stmtsLexOK]; exact tabularOK_lexOK _ hok
  have hnb := C02_readSql_noBang src _ cs' st hlex' h4 h6
  refine ⟨hres, hok, h2, cs, hcs, rfl, h3, C02_compiled_no_bang src _ cs hlex hcs, cs', st, want, h4, h5, h6, hnb,
    h7, h8, fun db hdb => ?_⟩
  obtain ⟨ha, hb⟩ := h9 db hdb
  exact ⟨by rw [← evalStatement_normStatement db st hnb]; exact ha, ha, hb⟩

/-- **C05 (ParseStatement), programs with lets.**  The tokens of the chunks compiled for `lets ++ [query t]`
    are read by the reference SQL parser as the intended statement of the program (= of the resolved query),
    up to `normS`.  Hypotheses: `LetValuesOK` (the let values are `lexOK`
    and `shapeOK`: true of parsed K4-free programs, `parsed_letValues`); `envJoinSafe` (needed:
    `C06.C06_join_name_counterexample`, `Cex.envJoinSafe_needed`); `TrueFree` OR every join has a non-empty
    `on` list (`ParsedOK.TabNE`, true of parsed programs; needed: `Cex.trueFree_needed`); `tabNamed`
    (`Cex.tabNamed_needed`); `tabularOK` of the RESOLVED query (true of parsed programs:
    `parsed_resolved_tabularOK`). -/
theorem C05_parse_statement_program (src : Bytes) (lets : List Stmt) (t : Tabular) (cs : List Chunk)
    (hc : compileChunks src [] (lets ++ [.tabular t]) = .ok cs)
    (hl : IsLets lets) (hv : LetValuesOK lets) (hjs : envJoinSafe (letsEnv lets []) = true)
    (hJ : TrueFree (letsEnv lets []) ∨ TabNE t = true) (hN : tabNamed t)
    (hok : C05.tabularOK (substTabular (letsEnv lets []) t) = true) :
    ∃ st want, parseStatement (toksOf cs) = some st ∧ intended src (lets ++ [.tabular t]) = some want ∧
      statementEq st want = true := by
  obtain ⟨sc, q, hrun⟩ := lets_run_of_compile src lets t cs hl hc
  have hres := resolveLets_of_compile src lets t cs hl hc
  have hsc : ScopeLetsEnv src sc (letsEnv lets []) := C06.C06_compileStmts_scope src lets sc q hv hrun
  have hfin : C14.finishChunks src sc (some t) = .ok cs := by
    rw [← C06.C06_lets_then_query src [] lets t hl sc q hrun]; exact hc
  obtain ⟨st, want, h1, h2, h3⟩ := statement_parse_s src sc _ hsc hjs t hJ hN cs hok hfin
  exact ⟨st, want, h1, by rw [intended_of_resolveLets src _ _ hres]; exact h2, h3⟩

/-- **C02 (end to end, programs with lets, tree level).**  The SQL text emitted for `lets ++ [query t]`,
    read back by the reference reader and evaluated as read by the reference evaluator, is the meaning of
    the program: `Rel.interp` of the resolved query, which is `Rel.interpProgram` of the program. -/
theorem end_to_end_program (src : Bytes) (lets : List Stmt) (t : Tabular) (cs : List Chunk)
    (hc : compileChunks src [] (lets ++ [.tabular t]) = .ok cs)
    (hl : IsLets lets) (hv : LetValuesOK lets) (hjs : envJoinSafe (letsEnv lets []) = true)
    (hJ : TrueFree (letsEnv lets []) ∨ TabNE t = true) (hN : tabNamed t)
    (hlexP : stmtsLexOK (lets ++ [.tabular t]) = true)
    (hok : C05.tabularOK (substTabular (letsEnv lets []) t) = true)
    (hnames : namesOk (substTabular (letsEnv lets []) t) = true)
    (hops : tabOpsOk (substTabular (letsEnv lets []) t) = true) :
    ∃ st want, readSql (renderChunks cs) = some st ∧ noBangStatement st = true ∧
      intended src (lets ++ [.tabular t]) = some want ∧ statementEq st want = true ∧
      ∀ db, RectDB db →
        evalStatement db st = Rel.interp src db (substTabular (letsEnv lets []) t) ∧
        evalStatement db want = Rel.interp src db (substTabular (letsEnv lets []) t) ∧
        Rel.interpProgram src db (lets ++ [.tabular t]) =
          some (Rel.interp src db (substTabular (letsEnv lets []) t)) := by
  have hres := resolveLets_of_compile src lets t cs hl hc
  obtain ⟨st, want, h1, h2, h3⟩ := C05_parse_statement_program src lets t cs hc hl hv hjs hJ hN hok
  have hr : readSql (renderChunks cs) = some st := by
    rw [readSql_of_lex (C05.C05_lexRender_program src _ cs hlexP hc), h1]
  have hnb := C02_readSql_noBang src _ cs st hlexP hc hr
  refine ⟨st, want, hr, hnb, h2, h3, fun db hdb => ?_⟩
  have hi : intended src [.tabular (substTabular (letsEnv lets []) t)] = some want := by
    rw [← intended_of_resolveLets src _ _ hres]; exact h2
  have hsem := C03.C03_intended_semantics src db _ want hi hnames hops hdb
  refine ⟨?_, hsem, interpProgram_lets src db lets t _ hl hN hres⟩
  rw [← evalStatement_normStatement db st hnb, evalStatement_of_statementEq db h3 (intended_noBang src _ want h2), hsem]

end Pql.E2EFinal
