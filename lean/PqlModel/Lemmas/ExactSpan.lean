/-
C13 exactness, spans: `SpansInside src stmts` holds for every error-free parse of `src`
(`parse_spansInside`).

Every expression position of an error-free parse stands for a non-empty sublist of the tokens of the
scan (`Glue.parsed_segs`) and its span is the extent of that sublist (`C10_span_extent_expr`), so it lies
inside the source: nothing about the parser is needed beyond C08 and C10.

The first half of the file is the vocabulary in which the same fact can be put tree by tree:
`SpB N` (a span is invalid or ends at most at `N`), `EB N` (every span stored below an expression
is `SpB N`: this is `Expr.SpansIn (SpB N)`), `NV` (nil, or with a valid span), `psTab` (both, for
the columns the compiler may have to name), and `spansTab_of`: these give `spansTabular`.
`parse_spansInside` does not go that way (`STabInv` states the invariant of the tabular
productions in this vocabulary; no instance of it is proved): it needs only the second half.
-/
import PqlModel.Lemmas.GlueAcc
import PqlModel.Lemmas.ExactParse
namespace Pql.Exact
open Pql ParsedOK

def SpB (N : Nat) (sp : Span) : Prop := sp.isValid = true → sp.stop ≤ (N : Int)

theorem SpB.null (N : Nat) : SpB N Span.null := by
  intro h; exact absurd h (by decide)

theorem SpB.zero (N : Nat) : SpB N Span.zero := by
  intro _; show (0 : Int) ≤ N; omega

def TB (N : Nat) (t : Token) : Prop := t.start ≤ t.stop ∧ t.stop ≤ N

def TBs (N : Nat) (ts : List Token) : Prop := ∀ t ∈ ts, TB N t

theorem SpB.union {N : Nat} {u s : Span} (hu : SpB N u) (hs : SpB N s) : SpB N (Span.union u s) := by
  unfold Span.union
  cases hsv : s.isValid
  · simpa using hu
  · cases huv : u.isValid
    · simpa using hs
    · simp only [Bool.not_true, Bool.false_eq_true, if_false, if_true]
      intro _
      have h1 := hu huv
      have h2 := hs hsv
      simp only
      omega

theorem SpB.foldl {N : Nat} : ∀ (ss : List Span) (u : Span), SpB N u → (∀ s ∈ ss, SpB N s) →
    SpB N (ss.foldl Span.union u)
  | [], u, hu, _ => hu
  | s :: ss, u, hu, h => by
    rw [List.foldl_cons]
    exact SpB.foldl ss _ (hu.union (h s (List.mem_cons_self ..)))
      (fun x hx => h x (List.mem_cons_of_mem _ hx))

theorem SpB.unions {N : Nat} (ss : List Span) (h : ∀ s ∈ ss, SpB N s) : SpB N (Span.unions ss) :=
  SpB.foldl ss _ (SpB.null N) h

theorem SpB.sliceSpan {N : Nat} (ss : List Span) (h : ∀ s ∈ ss, SpB N s) : SpB N (sliceSpan ss) :=
  SpB.unions _ (fun s hs => h s (List.mem_filter.1 hs).1)

theorem foldl_valid_of_mem : ∀ (ss : List Span) (u : Span) (s : Span), s ∈ ss → s.isValid = true →
    (ss.foldl Span.union u).isValid = true
  | a :: ss, u, s, hmem, hs => by
    rw [List.foldl_cons]
    rcases List.mem_cons.1 hmem with rfl | hin
    · exact (C10.foldl_union_contains_acc ss _ (C10.union_valid_of_right hs)).2
    · exact foldl_valid_of_mem ss _ s hin hs

theorem unions_valid_of_mem {ss : List Span} {s : Span} (hmem : s ∈ ss) (hs : s.isValid = true) :
    (Span.unions ss).isValid = true := foldl_valid_of_mem ss _ s hmem hs

theorem sliceSpan_valid_of_mem {ss : List Span} {s : Span} (hmem : s ∈ ss) (hs : s.isValid = true) :
    (sliceSpan ss).isValid = true :=
  unions_valid_of_mem (List.mem_filter.2 ⟨hmem, hs⟩) hs

mutual
def EB (N : Nat) : Expr → Prop
  | .nil => True
  | .qident parts => ∀ p ∈ parts, SpB N p.span
  | .lit sp _ _ => SpB N sp
  | .unary os _ x => SpB N os ∧ EB N x
  | .binary x os _ y => EB N x ∧ SpB N os ∧ EB N y
  | .inE x i lp vals rp => EB N x ∧ SpB N i ∧ SpB N lp ∧ EBL N vals ∧ SpB N rp
  | .paren lp x rp => SpB N lp ∧ EB N x ∧ SpB N rp
  | .call fn lp args rp => SpB N fn.span ∧ SpB N lp ∧ EBL N args ∧ SpB N rp
  | .index x lb idx rb => EB N x ∧ SpB N lb ∧ EB N idx ∧ SpB N rb
def EBL (N : Nat) : ExprList → Prop
  | .nil => True
  | .cons e es => EB N e ∧ EBL N es
end

theorem EB.span_alg (N : Nat) : ExprTreeAlg (fun e => EB N e → SpB N e.spanOf)
    (fun es => EBL N es → ∀ s ∈ es.spansOf, SpB N s) where
  nil := fun _ => SpB.null N
  qident := fun _ h => SpB.sliceSpan _ (List.forall_mem_map.2 h)
  lit := fun _ _ _ h => h
  unary := fun _ _ _ ih h => SpB.unions _ (all_cons h.1 (all_cons (ih h.2) all_nil))
  binary := fun _ _ _ _ ihx ihy h =>
    SpB.unions _ (all_cons (ihx h.1) (all_cons h.2.1 (all_cons (ihy h.2.2) all_nil)))
  inE := fun _ _ _ _ _ ihx ihl h =>
    SpB.unions _ (all_cons (ihx h.1) (all_cons h.2.1 (all_cons h.2.2.1
      (all_cons (SpB.sliceSpan _ (ihl h.2.2.2.1)) (all_cons h.2.2.2.2 all_nil)))))
  paren := fun _ _ _ ih h => SpB.unions _ (all_cons h.1 (all_cons (ih h.2.1) (all_cons h.2.2 all_nil)))
  call := fun _ _ _ _ ihl h =>
    SpB.unions _ (all_cons h.1 (all_cons h.2.1 (all_cons (SpB.sliceSpan _ (ihl h.2.2.1))
      (all_cons h.2.2.2 all_nil))))
  index := fun _ _ _ _ ihx ihy h =>
    SpB.unions _ (all_cons (ihx h.1) (all_cons h.2.1 (all_cons (ihy h.2.2.1) (all_cons h.2.2.2 all_nil))))
  lnil := fun _ => all_nil
  cons := fun _ _ ihe ihl h => all_cons (ihe h.1) (ihl h.2)

theorem EB.spanOf {N : Nat} : ∀ e : Expr, EB N e → SpB N e.spanOf := (EB.span_alg N).expr

theorem EBL.spansOf {N : Nat} : ∀ es : ExprList, EBL N es → ∀ s ∈ es.spansOf, SpB N s :=
  (EB.span_alg N).list

def NV (e : Expr) : Prop := e = .nil ∨ e.spanOf.isValid = true

theorem NV.nil : NV .nil := Or.inl rfl

theorem NV.lit {sp : Span} {k : TokKind} {v : Bytes} (h : sp.isValid = true) : NV (.lit sp k v) :=
  Or.inr h

theorem NV.unary {os : Span} {op : TokKind} {x : Expr} (h : os.isValid = true) : NV (.unary os op x) :=
  Or.inr (by rw [Expr.spanOf]; exact unions_valid_of_mem (s := os) (by simp) h)

theorem NV.binary {x y : Expr} {os : Span} {op : TokKind} (h : os.isValid = true) : NV (.binary x os op y) :=
  Or.inr (by rw [Expr.spanOf]; exact unions_valid_of_mem (s := os) (by simp) h)

theorem NV.inE {x : Expr} {i lp rp : Span} {vals : ExprList} (h : i.isValid = true) :
    NV (.inE x i lp vals rp) :=
  Or.inr (by rw [Expr.spanOf]; exact unions_valid_of_mem (s := i) (by simp) h)

theorem NV.paren {x : Expr} {lp rp : Span} (h : lp.isValid = true) : NV (.paren lp x rp) :=
  Or.inr (by rw [Expr.spanOf]; exact unions_valid_of_mem (s := lp) (by simp) h)

theorem NV.call {fn : Ident} {lp rp : Span} {args : ExprList} (h : fn.span.isValid = true) :
    NV (.call fn lp args rp) :=
  Or.inr (by rw [Expr.spanOf]; exact unions_valid_of_mem (s := fn.span) (by simp) h)

theorem NV.index {x idx : Expr} {lb rb : Span} (h : lb.isValid = true) : NV (.index x lb idx rb) :=
  Or.inr (by rw [Expr.spanOf]; exact unions_valid_of_mem (s := lb) (by simp) h)

theorem NV.qident {parts : List Ident} {p : Ident} (hp : p ∈ parts) (h : p.span.isValid = true) :
    NV (.qident parts) :=
  Or.inr (by
    rw [Expr.spanOf]
    exact sliceSpan_valid_of_mem (s := p.span) (List.mem_map.2 ⟨p, hp, rfl⟩) h)

theorem EBL.snoc {N : Nat} : ∀ (acc : ExprList) (x : Expr), EBL N acc → EB N x → EBL N (acc.snoc x)
  | .nil, x, _, hx => by simp only [ExprList.snoc, EBL, hx, and_self]
  | .cons e es, x, ha, hx => by
    rw [EBL] at ha
    simp only [ExprList.snoc, EBL]
    exact ⟨ha.1, EBL.snoc es x ha.2 hx⟩

def colsSp (N : Nat) (cs : List Column) : Prop := ∀ c ∈ cs, EB N c.x ∧ NV c.x

mutual
def psTab (N : Nat) : Tabular → Prop
  | .nil => True
  | .mk _ ops => psOps N ops
def psOp (N : Nat) : Op → Prop
  | .extend _ _ cs => colsSp N cs
  | .summarize _ _ cs _ gs => colsSp N cs ∧ colsSp N gs
  | .join _ _ _ _ _ _ right _ _ _ => psTab N right
  | .count .. => True
  | .where_ .. => True
  | .sort .. => True
  | .take .. => True
  | .top .. => True
  | .project .. => True
  | .as_ .. => True
  | .render .. => True
def psOps (N : Nat) : OpList → Prop
  | .nil => True
  | .cons o os => psOp N o ∧ psOps N os
end

theorem psOps_snoc {N : Nat} : ∀ (ops : OpList) (o : Op), psOps N ops → psOp N o → psOps N (ops.snoc o)
  | .nil, o, _, ho => by simp only [OpList.snoc, psOps]; exact ⟨ho, trivial⟩
  | .cons p ps, o, h, ho => by
    rw [psOps] at h
    simp only [OpList.snoc, psOps]
    exact ⟨h.1, psOps_snoc ps o h.2 ho⟩

structure STabInv (N : Nat) (c : PCtx) (fuel : Nat) : Prop where
  tabular : ∀ ts, TBs N ts → psTab N (pTabular c fuel ts).val
  ops : ∀ ops acc ts, TBs N ts → psOps N ops → psOps N (pOps c fuel ops acc ts).val
  operator : ∀ pipe name ts r, TBs N ts → pOperator c fuel pipe name ts = some r → psOp N r.val
  join : ∀ pipe kw ts, TBs N ts → psOp N (pJoin c fuel pipe kw ts).val

theorem spanInside_of {src : Bytes} {e : Expr} (hb : EB src.length e) (hv : NV e)
    (hn : isNilExpr e = false) : spanInside src e.spanOf = true := by
  have hvalid : e.spanOf.isValid = true := by
    rcases hv with rfl | hv
    · cases hn
    · exact hv
  have hbound := EB.spanOf e hb hvalid
  rw [C10.isValid_iff] at hvalid
  unfold spanInside
  exact decide_eq_true ⟨hvalid.1, hvalid.2.2, hbound⟩

theorem colsSpan_of {src : Bytes} (cs : List Column) (hs : colsSp src.length cs)
    (hn : ∀ c ∈ cs, isNilExpr c.x = false) : cs.all (colSpanOK src) = true := by
  rw [List.all_eq_true]
  intro c hc
  unfold colSpanOK
  rw [spanInside_of (hs c hc).1 (hs c hc).2 (hn c hc), Bool.or_true]

theorem spans_alg (src : Bytes) : TreeAlg
    (fun t => t.Good → pcTab t = true → psTab src.length t → spansTabular src t = true)
    (fun o => o.Good → pcOp o = true → psOp src.length o → spansOp src o = true)
    (fun ops => ops.Good → pcOps ops = true → psOps src.length ops → spansOps src ops = true) where
  tnil := fun _ _ _ => rfl
  tmk := fun _ _ ih hg => ih hg.2
  onil := fun _ _ _ => rfl
  cons := fun _ _ iho ihl hg hc hs =>
    and_true' (iho hg.1 (and_true_of hc).1 hs.1) (ihl hg.2 (and_true_of hc).2 hs.2)
  count := fun _ _ _ _ _ => rfl
  where_ := fun _ _ _ _ _ _ => rfl
  sort := fun _ _ _ _ _ _ => rfl
  take := fun _ _ _ _ _ _ => rfl
  top := fun _ _ _ _ _ _ _ _ => rfl
  project := fun _ _ _ _ _ _ => rfl
  extend := fun _ _ cs _ hc hs =>
    colsSpan_of cs hs (fun c hcm => by simpa using List.all_eq_true.1 hc c hcm)
  summarize := fun _ _ cs _ gs hg _ hs =>
    and_true' (colsSpan_of cs hs.1 (fun c hcm => isNil_of_good (hg.1 c hcm)))
      (colsSpan_of gs hs.2 (fun c hcm => isNil_of_good (hg.2 c hcm)))
  join := fun _ _ _ _ _ _ _ _ _ _ ih hg hc hs => ih hg.1 (and_true_of hc).2 hs
  as_ := fun _ _ _ _ _ _ => rfl
  render := fun _ _ _ _ _ _ _ _ _ _ => rfl

theorem spansTab_of (src : Bytes) : ∀ t : Tabular, t.Good → pcTab t = true → psTab src.length t →
    spansTabular src t = true := (spans_alg src).tabular

theorem spansOps_of (src : Bytes) : ∀ ops : OpList, ops.Good → pcOps ops = true → psOps src.length ops →
    spansOps src ops = true := (spans_alg src).ops

theorem spansOp_of (src : Bytes) : ∀ o : Op, o.Good → pcOp o = true → psOp src.length o →
    spansOp src o = true := (spans_alg src).op

theorem spanInside_of_seg {src : Bytes} {e : Expr} (h : Glue.ESeg (scan src) e) :
    spanInside src e.spanOf = true := by
  obtain ⟨us, hu, seg, hsub, ha⟩ := h
  obtain ⟨hne, hsp⟩ := C10.C10_span_extent_expr e us seg hu ((scan_tokOK src).sublist hsub) ha
  obtain ⟨h1, h2⟩ := Glue.seg_extent_bounds hsub hne
  rw [hsp]
  exact decide_eq_true ⟨by simp only; omega, by simp only; omega, by simp only; omega⟩

theorem colsSpan_of_seg {src : Bytes} {cs : List Column}
    (h : ∀ c ∈ cs, Glue.ESeg (scan src) c.x) : cs.all (colSpanOK src) = true :=
  List.all_eq_true.2 fun c hc => by
    unfold colSpanOK; rw [spanInside_of_seg (h c hc), Bool.or_true]

theorem spansTab_of_all {src : Bytes} {EL : ExprList → Prop} : ∀ t : Tabular,
    TabAll (Glue.ESeg (scan src)) EL t → spansTabular src t = true :=
  TreeAlg.tabular (O := fun o => OpAll (Glue.ESeg (scan src)) EL o → spansOp src o = true)
    (OL := fun ops => OpsAll (Glue.ESeg (scan src)) EL ops → spansOps src ops = true)
    { tnil := fun _ => rfl
      tmk := fun _ _ ih => ih
      onil := fun _ => rfl
      cons := fun _ _ iho ihl h => and_true' (iho h.1) (ihl h.2)
      count := fun _ _ _ => rfl
      where_ := fun _ _ _ _ => rfl
      sort := fun _ _ _ _ => rfl
      take := fun _ _ _ _ => rfl
      top := fun _ _ _ _ _ _ => rfl
      project := fun _ _ _ _ => rfl
      extend := fun _ _ _ h => colsSpan_of_seg h
      summarize := fun _ _ _ _ _ h => and_true' (colsSpan_of_seg h.1) (colsSpan_of_seg h.2)
      join := fun _ _ _ _ _ _ _ _ _ _ ih h => ih h.1
      as_ := fun _ _ _ _ => rfl
      render := fun _ _ _ _ _ _ _ _ => rfl }

theorem parse_spansInside {src : Bytes} {stmts : List Stmt} (h : parse src = (stmts, [])) :
    SpansInside src stmts = true := by
  unfold SpansInside
  rw [List.all_eq_true]
  intro s hs
  have := Glue.parsed_segs src stmts h s hs
  cases s with
  | let_ kw name asg x => rfl
  | tabular t => exact spansTab_of_all t this

end Pql.Exact
