/-
The join case of the type switch in the loop of `splitQueries`.  The regenerated unit
is cut into the part up to the recursive call (`joinHeadIR`) and the part after it (`joinTailIR`);
executing them on the frame of an activation is `leftSubquery := len(dst) - 1`, the recursive call,
and the machine's `SplitImp.joinTailI`: statement by statement, each statement of the unit being one
line of the machine.
-/
import PqlModel.Lemmas.SplitIRSteps
namespace Pql.SplitIR
open Pql

variable {self : SplitImp.Heap → List Val → IM (SplitImp.Heap × Val)} {A : Activation}
variable {loc : List (String × Val)}

/-- leaving the case of the switch: its locals go, the frame stays -/
theorem leave_frame (st st' : SplitImp.St) :
    (inScope A loc st').leave (frameState A.src A.scope A.source A.ops A.k st) =
      frameState A.src A.scope A.source A.ops A.k st' := by
  simp [State.leave, inScope, frameState, frameVars]

theorem exec_setIdx_last (hp : fresh loc = true) (st : SplitImp.St) :
    exec (callWith self) (.setIdx "lastSubquery" "dst" (.lenm1 "dst")) (inScope A loc st) =
      liftW (SplitImp.index st.dst ((st.dst.length : Int) - 1)) >>= fun a =>
        .ok (inScope A loc { st with last := some a }) := by
  simp only [exec, evalInt, sliceOf, get_dst hp, bind_ok, pure_ok]
  cases SplitImp.index st.dst ((st.dst.length : Int) - 1) with
  | error e => rfl
  | ok a => exact set_last hp st (some a)

section
variable {b : String} {js : List Chunk} {st : SplitImp.St}

theorem writeTo_top (cs : List Chunk) :
    writeTo (inScope A ((b, .builder js) :: loc) st) b cs = .ok (inScope A ((b, .builder (js ++ cs)) :: loc) st) := by
  simp [writeTo, builderOf, State.get, State.set, assignIn, inScope, bind_ok, pure_ok]

theorem exec_litCat {c name : String} (hc : constOf c = .ok name) (pre suf : String) :
    exec (callWith self) (.litCat b pre c suf) (inScope A ((b, .builder js) :: loc) st) =
      .ok (inScope A ((b, .builder (js ++ [.txt (pre ++ name ++ suf)])) :: loc) st) := by
  simp only [exec, hc, bind_ok, writeTo_top]

/-- `if flavorName == "t" { joinSource.WriteString("s") }` -/
theorem exec_litIf (fn : Bytes) (t s : String) :
    exec (callWith self) (.ite (.strEq "flavorName" t) [.lit "joinSource" s] [])
        (inScope A (("joinSource", .builder js) :: ("flavorName", .str fn) :: loc) st) =
      .ok (inScope A (("joinSource", .builder (if fn == Bytes.ofString t then js ++ [.txt s] else js)) ::
        ("flavorName", .str fn) :: loc) st) := by
  have hc : evalCond (inScope A (("joinSource", .builder js) :: ("flavorName", .str fn) :: loc) st)
      (.strEq "flavorName" t) = .ok (fn == Bytes.ofString t) := rfl
  simp only [exec, hc, bind_ok, execBlock, writeTo_top, pure_ok]
  cases fn == Bytes.ofString t <;> exact congrArg Except.ok (leave_inScope _ _ rfl)

end

section
variable (self A) (o : Op) (left : Int) (fn : Bytes)

/-- the locals of the join case while `joinSource` is being written -/
def joinLocals (js : List Chunk) : List (String × Val) :=
  [("joinSource", .builder js), ("flavorName", .str fn), ("leftSubquery", .int left), ("op", .op o)]

/-- … and once `joinCtx` is declared -/
def joinLocals2 (js : List Chunk) : List (String × Val) :=
  ("joinCtx", .ctx ⟨A.src, A.scope, .join⟩) :: joinLocals o left fn js

variable (js : List Chunk) (st : SplitImp.St)

/-- no local of the join case hides a variable of the frame: evaluated here, not at each lookup (24 comparisons of names) -/
theorem fresh_joinLocals : fresh (joinLocals o left fn js) = true := rfl

theorem writeTo_join (cs : List Chunk) :
    writeTo (inScope A (joinLocals o left fn js) st) "joinSource" cs =
      .ok (inScope A (joinLocals o left fn (js ++ cs)) st) :=
  writeTo_top cs

theorem leave_join (js' : List Chunk) :
    (inScope A (joinLocals o left fn js') st).leave (inScope A (joinLocals o left fn js) st) =
      inScope A (joinLocals o left fn js') st :=
  leave_inScope _ _ rfl

theorem exec_joinLeft :
    exec (callWith self) (.ite (.intCmp "ge" (.var "leftSubquery") (.var "dstStart"))
        [.qidIdx "joinSource" "dst" "name" (.var "leftSubquery")] [.tryDataSource "joinSource" ⟨"expr", "Source"⟩])
        (inScope A (joinLocals o left fn js) st) =
      liftW (SplitImp.joinLeftI A.source A.k left st) >>= fun l =>
        .ok (inScope A (joinLocals o left fn (js ++ l)) st) := by
  have hl : (inScope A (joinLocals o left fn js) st).get "leftSubquery" = .ok (.int left) := rfl
  simp only [exec, evalCond, evalInt, intOf, sliceOf, srcAt, valAt, hl, get_dstStart (fresh_joinLocals o left fn js),
    get_dst (fresh_joinLocals o left fn js), get_expr (fresh_joinLocals o left fn js), bind_ok, pure_ok,
    String.reduceBEq, Bool.false_eq_true, ↓reduceIte, execBlock, SplitImp.joinLeftI]
  by_cases hge : left ≥ (A.k : Int)
  · simp only [hge, decide_true, ↓reduceIte, inScope_heap]
    cases SplitImp.index st.dst left with
    | error e => rfl
    | ok q =>
      simp only [bind_ok]
      cases SplitImp.load st.heap q with
      | error e => rfl
      | ok l => simp only [liftW_ok, bind_ok, writeTo_join, leave_join]
  · simp only [hge, decide_false, Bool.false_eq_true, ↓reduceIte]
    cases SplitImp.dataSourceSQLI A.source with
    | error e => rfl
    | ok cs => simp only [liftW_ok, bind_ok, writeTo_join, leave_join]

/-- `switch flavorName { case "inner", "innerunique": … case "leftouter": … default: return nil, err }` -/
theorem exec_joinKw :
    exec (callWith self) (.ite (.or (.strEq "flavorName" "inner") (.strEq "flavorName" "innerunique"))
        [.lit "joinSource" " JOIN "]
        [.ite (.strEq "flavorName" "leftouter") [.lit "joinSource" " LEFT JOIN "] [.retErr]])
        (inScope A (joinLocals o left fn js) st) =
      liftW (SplitImp.joinKwI fn) >>= fun kw => .ok (inScope A (joinLocals o left fn (js ++ kw)) st) := by
  have hg : (inScope A (joinLocals o left fn js) st).get "flavorName" = .ok (.str fn) := rfl
  simp only [exec, evalCond, hg, bind_ok, pure_ok, execBlock, writeTo_join, leave_join, SplitImp.joinKwI]
  cases fn == Bytes.ofString "inner" <;> cases fn == Bytes.ofString "innerunique" <;>
    cases fn == Bytes.ofString "leftouter" <;> rfl

theorem exec_qidLast :
    exec (callWith self) (.qidPtr "joinSource" "lastSubquery" "name") (inScope A (joinLocals o left fn js) st) =
      liftW (SplitImp.deref st.last >>= SplitImp.load st.heap) >>= fun r =>
        .ok (inScope A (joinLocals o left fn (js ++ [.qid r.name])) st) := by
  simp only [exec, loadPtr, ptrOf, get_last (fresh_joinLocals o left fn js), bind_ok, pure_ok, inScope_heap,
    String.reduceBEq, ↓reduceIte, writeTo_join]

theorem exec_joinCtx :
    exec (callWith self) (.ctx "joinCtx" "source" "scope" "joinExprMode") (inScope A (joinLocals o left fn js) st) =
      .ok (inScope A (joinLocals2 A o left fn js) st) := by
  simp only [exec, get_source (fresh_joinLocals o left fn js), get_scope (fresh_joinLocals o left fn js),
    bind_ok, pure_ok]
  rfl

theorem exec_newLast :
    exec (callWith self)
        (.new "lastSubquery" false [("name", .subqueryName (.len "dst")), ("sourceSQL", .string "joinSource")])
        (inScope A (joinLocals2 A o left fn js) st) =
      .ok (inScope A (joinLocals2 A o left fn js)
        { st with heap := (SplitImp.alloc st.heap { name := subqueryName st.dst.length, source := js }).1,
                  last := some (SplitImp.alloc st.heap { name := subqueryName st.dst.length, source := js }).2 }) := by
  rfl

end

section
variable (self : SplitImp.Heap → List Val → IM (SplitImp.Heap × Val)) (A : Activation)
variable {γ : Type} (K : State → IM γ)
variable (p kw kind ka : Span) (flavor : Option Ident) (lp : Span) (right : Tabular) (rp on : Span) (conds : ExprList)

/-- `flavorName := "innerunique"; if op.Flavor != nil { flavorName = op.Flavor.Name }`, second half -/
theorem exec_flavorName (left : Int) (st : SplitImp.St) :
    exec (callWith self) (.ite (.notNil ⟨"op", "Flavor"⟩) [.setStr "flavorName" ⟨"op", "Flavor.Name"⟩] [])
        (inScope A [("flavorName", .str (Bytes.ofString "innerunique")), ("leftSubquery", .int left),
          ("op", .op (.join p kw kind ka flavor lp right rp on conds))] st) =
      .ok (inScope A (joinLocals (.join p kw kind ka flavor lp right rp on conds) left (SplitImp.flavorNameI flavor)
        []).tail st) := by
  cases flavor <;> rfl

theorem exec_joinConds (left : Int) (fn : Bytes) (js : List Chunk) (st : SplitImp.St) :
    exec (callWith self) (.tryExprJoin "joinCtx" "joinSource" ⟨"op", "Conditions"⟩)
        (inScope A (joinLocals2 A (.join p kw kind ka flavor lp right rp on conds) left fn js) st) =
      liftW (writeExpr ⟨A.src, A.scope, .join⟩ (buildJoinCondition conds)) >>= fun c =>
        .ok (inScope A (joinLocals2 A (.join p kw kind ka flavor lp right rp on conds) left fn (js ++ c)) st) := by
  rfl

/-- **the join case after the recursive call** is the machine's `joinTailI` (and then the case is left).  `st0` is the
    state in which the iteration began: leaving the case looks only at how many variables its frame has -/
theorem exec_joinTail (left : Int) (st st0 : SplitImp.St) :
    (execBlock (callWith self) joinTailIR
        (inScope A [("leftSubquery", .int left), ("op", .op (.join p kw kind ka flavor lp right rp on conds))] st)
        >>= fun s => K (s.leave (frameState A.src A.scope A.source A.ops A.k st0))) =
      liftW (SplitImp.joinTailI A.src A.scope A.source A.k left flavor conds st) >>= fun st' =>
        K (frameState A.src A.scope A.source A.ops A.k st') := by
  refine execBlock_bind (exec_setIdx_last rfl st) fun a => ?_
  refine execBlock_step (S' := inScope A [("flavorName", .str (Bytes.ofString "innerunique")),
    ("leftSubquery", .int left), ("op", .op (.join p kw kind ka flavor lp right rp on conds))]
    { st with last := some a }) rfl ?_
  refine execBlock_step (exec_flavorName ..) ?_
  refine execBlock_step (S' := inScope A (joinLocals _ left (SplitImp.flavorNameI flavor) [])
    { st with last := some a }) rfl ?_
  refine execBlock_step (exec_litIf ..) ?_
  refine execBlock_bind (exec_joinLeft ..) fun l => ?_
  refine execBlock_step (exec_litIf ..) ?_
  refine execBlock_step (exec_litCat rfl ..) ?_
  refine execBlock_bind (exec_joinKw ..) fun kw => ?_
  refine execBlock_bind₂ (exec_qidLast ..) fun r => ?_
  refine execBlock_step (exec_litCat rfl ..) ?_
  refine execBlock_step (exec_joinCtx ..) ?_
  refine execBlock_bind (exec_joinConds ..) fun c => ?_
  refine execBlock_step (exec_newLast ..) ?_
  refine execBlock_last (sim_append rfl _) fun st' => ?_
  exact congrArg K (leave_frame ..)

/-- **the join case up to the recursive call**, given that the callee `self` behaves like the
    machine on the right-hand side -/
theorem exec_joinHead
    (hself : ∀ h d, self h [.slice d, .str A.src, .scope A.scope, .tab right] =
      liftW (SplitImp.splitQueriesI A.src A.scope h d right) >>= fun r => .ok (r.1, Val.slice r.2))
    (st : SplitImp.St) :
    (execBlock (callWith self) joinHeadIR
        (inScope A [("op", .op (.join p kw kind ka flavor lp right rp on conds))] st) >>= K) =
      liftW (SplitImp.splitQueriesI A.src A.scope st.heap st.dst right) >>= fun r =>
        K (inScope A [("leftSubquery", .int ((st.dst.length : Int) - 1)),
          ("op", .op (.join p kw kind ka flavor lp right rp on conds))] { st with heap := r.1, dst := r.2 }) := by
  refine execBlock_step (S' := inScope A [("leftSubquery", .int ((st.dst.length : Int) - 1)),
    ("op", .op (.join p kw kind ka flavor lp right rp on conds))] st) rfl ?_
  refine execBlock_step (S' := inScope A [("leftSubquery", .int ((st.dst.length : Int) - 1)),
    ("op", .op (.join p kw kind ka flavor lp right rp on conds))] st) rfl ?_
  refine execBlock_last (mid := fun r => inScope A [("leftSubquery", .int ((st.dst.length : Int) - 1)),
    ("op", .op (.join p kw kind ka flavor lp right rp on conds))] { st with heap := r.1, dst := r.2 }) ?_ fun r => rfl
  have hargs : ([⟨"dst", ""⟩, ⟨"source", ""⟩, ⟨"scope", ""⟩, ⟨"op", "Right"⟩] : List Path).mapM (fun q =>
      (inScope A [("leftSubquery", .int ((st.dst.length : Int) - 1)),
        ("op", .op (.join p kw kind ka flavor lp right rp on conds))] st).get q.root >>= (valAt · q.fields)) =
      .ok [.slice st.dst, .str A.src, .scope A.scope, .tab right] := rfl
  simp only [exec, hargs, bind_ok, callWith_split, hself, inScope_heap]
  cases SplitImp.splitQueriesI A.src A.scope st.heap st.dst right <;> rfl

end

end Pql.SplitIR
