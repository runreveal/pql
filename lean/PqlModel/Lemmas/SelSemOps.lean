/-
The body of each operator's SELECT computes the table the specification gives the operator.  A select list
that does not aggregate — `SELECT [*,] e₁ AS a₁, … [WHERE p]`: no operator, as, where, render, extend,
project — is one lemma (`sel_flat`); count and summarize (`SELECT keys, aggregates … GROUP BY keys`) group.
-/
import PqlModel.Lemmas.SelSemBody
namespace Pql.SelSem
open Pql Sql CompileOracle Intended SplitQ

theorem flatMap_nostar {β} (its : List SelectItem) (hns : ∀ it ∈ its, it.star = false) (x : List β)
    (f : SelectItem → β) : its.flatMap (fun it => if it.star then x else [f it]) = its.map f := by
  rw [List.map_eq_flatMap]
  apply flatMap_congr'
  intro it hit
  simp [hns it hit]

/-- the table `SELECT [*,] its FROM t [WHERE w]` denotes when no item aggregates -/
def flatTable (star : Bool) (its : List SelectItem) (w : Option SExpr) (t : Table) : Table :=
  ⟨(if star then t.cols else []) ++ its.map fun it => it.alias.getD (Bytes.ofString "?"),
   List.map (fun r => (if star then r else []) ++ its.map fun it => evalS [] (envOfRow [] t.cols r) it.expr)
     (match w with
      | some p => t.rows.filter fun r => evalS [] (envOfRow [] t.cols r) p == .bool true
      | none => t.rows)⟩

/-- a SELECT whose list does not aggregate computes the link's clauses when `flatTable` is the operator's
    table.  ORDER BY also sees the source columns behind the output columns: with `*` in front they are
    output columns already, without it there must be no ORDER BY. -/
theorem sel_flat (src : Bytes) (db : DB) (ctes : List (Bytes × Table)) (a : SubA) (n : Bytes) (star : Bool)
    (its : List SelectItem) (w : Option SExpr) (obs : List OrderTerm) (lim : Option SExpr)
    (hns : ∀ it ∈ its, it.star = false) (hna : ∀ it ∈ its, hasAgg it.expr = false)
    (ho : obsOf a.sort = some obs) (hl : limOf a.take = some lim) (hsort : star = true ∨ a.sort = none)
    (hop : (opPartA a).foldl (interpClause src db) (lookupTable db ctes n) =
      flatTable star its w (lookupTable db ctes n)) :
    evalSelect db ctes (mkSel n ((if star then [starItem] else []) ++ its) w [] obs lim) =
      subEvalA src db (lookupTable db ctes n) a := by
  have hq : isAggQ (mkSel n ((if star then [starItem] else []) ++ its) w [] [] none) = false := by
    simp only [isAggQ, mkSel, List.isEmpty_nil, Bool.not_true, Bool.false_or, List.any_append, Bool.or_eq_false_iff,
      List.any_eq_false]
    refine ⟨fun it hit => ?_, fun it hit => by simp [hna it hit]⟩
    cases star <;> simp only [↓reduceIte, Bool.false_eq_true, List.not_mem_nil, List.mem_singleton] at hit
    subst hit; simp [starItem]
  apply sel_core src db ctes a n _ _ _ obs lim ho hl
    (match w with
      | some p => (lookupTable db ctes n).rows.filter fun r =>
          evalS [] (envOfRow [] (lookupTable db ctes n).cols r) p == .bool true
      | none => (lookupTable db ctes n).rows)
    (fun r => ((envOfRow [] (lookupTable db ctes n).cols r, [],
      (if star then r else []) ++ its.map fun it => evalS [] (envOfRow [] (lookupTable db ctes n).cols r) it.expr) : ORow))
    (flatTable star its w (lookupTable db ctes n)) ?_ ?_ ?_ ?_ hop
  · simp only [outColsOf, mkSel, List.flatMap_append, flatTable, flatMap_nostar its hns]
    cases star <;> simp [starItem]
  · unfold outRowsOf
    rw [hq]
    simp only [Bool.false_eq_true, ↓reduceIte, whereRows, mkSel, srcRowsOf, List.flatMap_append, flatMap_nostar its hns]
    cases w <;> cases star <;> simp [List.filter_map, Function.comp_def, starItem]
  · rfl
  · rcases hsort with rfl | hs
    · exact .inr (.inl fun r e => evalS_append_subset [] _ _ (envOfRow_subset _ _ _ _) e)
    · exact .inl hs

theorem hasAgg_COUNT : hasAgg (.call (Bytes.ofString "COUNT") true .nil .none_) = true := by
  have : isAggName (Bytes.ofString "COUNT") = true := by decide
  simp [hasAgg, this]

theorem evalS_COUNT (genv : List Env) (env : Env) :
    evalS genv env (.call (Bytes.ofString "COUNT") true .nil .none_) = .int genv.length := by
  have h1 : isAggName (Bytes.ofString "COUNT") = true := by decide
  have h2 : (lowerB (Bytes.ofString "COUNT") == Bytes.ofString "count") = true := by decide
  have h3 : List.filter (fun _ => true) genv = genv := List.filter_eq_self.mpr (fun _ _ => rfl)
  simp [evalS, h1, h2, h3]

end Pql.SelSem

namespace Pql.C02
open Pql Sql CompileOracle Intended SplitQ SelSem

/-- **C02 (`where`)**, also with ORDER BY and / or LIMIT attached. -/
theorem C02_sel_where (src : Bytes) (db : DB) (ctes : List (Bytes × Table)) (a : SubA) (n : Bytes) (sel : Select)
    (p k : Span) (pred : Expr)
    (hsrc : a.source = .table n) (hop : a.op = some (.where_ p k pred)) (hsel : selOf src a = some sel) :
    evalSelect db ctes sel = subEvalA src db (lookupTable db ctes n) a := by
  obtain ⟨items, w, gb, obs, lim, hp, ho, hl, rfl⟩ := selOf_parts src a n sel hsrc hsel
  rw [hop] at hp
  simp only [partsOf, bind, Option.bind, pure] at hp
  cases htr : tr false pred with
  | none => simp [htr] at hp
  | some e =>
    simp only [htr, Option.some.injEq, Prod.mk.injEq] at hp
    obtain ⟨rfl, rfl, rfl⟩ := hp
    exact sel_flat src db ctes a n true [] (some e) obs lim (by simp) (by simp) ho hl (.inl rfl)
      (by simp [opPartA, hop, interpClause, flatTable, Rel.interpOp, Rel.rowEnv, evalP_eq false _ _ pred e htr])

/-- **C02 (`count`)**, also with ORDER BY and / or LIMIT attached (one row: nothing to sort). -/
theorem C02_sel_count (src : Bytes) (db : DB) (ctes : List (Bytes × Table)) (a : SubA) (n : Bytes) (sel : Select)
    (p k : Span)
    (hsrc : a.source = .table n) (hop : a.op = some (.count p k)) (hsel : selOf src a = some sel) :
    evalSelect db ctes sel = subEvalA src db (lookupTable db ctes n) a := by
  obtain ⟨items, w, gb, obs, lim, hp, ho, hl, rfl⟩ := selOf_parts src a n sel hsrc hsel
  rw [hop] at hp
  simp only [partsOf, pure, Option.some.injEq, Prod.mk.injEq] at hp
  obtain ⟨rfl, rfl, rfl⟩ := hp
  apply sel_core src db ctes a n _ _ _ obs lim ho hl [()]
    (fun _ => (((((lookupTable db ctes n).rows.map fun r => envOfRow [] (lookupTable db ctes n).cols r).head?).getD [],
      (lookupTable db ctes n).rows.map fun r => envOfRow [] (lookupTable db ctes n).cols r,
      [.int (lookupTable db ctes n).rows.length]) : ORow))
    (Rel.interpOp src db (lookupTable db ctes n) (.count p k))
  · simp [outColsOf, mkSel, Rel.interpOp]
  · simp [outRowsOf, isAggQ, mkSel, hasAgg_COUNT, evalS_COUNT, whereRows, srcRowsOf, Function.comp_def]
  · simp [Rel.interpOp]
  · right; right; simp
  · simp [opPartA, hop, interpClause]

end Pql.C02

namespace Pql.SelSem
open Pql Sql CompileOracle Intended SplitQ

def renderItems (chart : Option Ident) (props : List RenderProp) : List SelectItem :=
  ⟨false, .str (identName chart), some (Bytes.ofString "render_type")⟩ ::
    (props.map fun p => ⟨false, .str (renderPropValue p.value), some (Bytes.ofString "render_prop_" ++ identName p.name)⟩)

theorem itemOf_eq (src : Bytes) (c : Column) :
    itemOf src c = (tr false c.x).map fun e => ⟨false, e, some (aliasOf src c)⟩ := by
  unfold itemOf
  cases tr false c.x <;> rfl

def sumItem (src : Bytes) (c : Column) : SelectItem := ⟨false, trD c.x, some (aliasOf src c)⟩

theorem mapM_itemOf (src : Bytes) (cols : List Column) (its : List SelectItem)
    (h : cols.mapM (itemOf src) = some its) :
    its = cols.map (sumItem src) ∧ ∀ c ∈ cols, tr false c.x = some (trD c.x) :=
  mapM_tr (·.x) (fun c e => ⟨false, e, some (aliasOf src c)⟩) (itemOf src) (itemOf_eq src) cols its h

theorem colName_eq_aliasOf (src : Bytes) (c : Column) : Rel.colName src c = aliasOf src c := rfl

end Pql.SelSem

namespace Pql.C02
open Pql Sql CompileOracle Intended SplitQ SelSem

/-- **C02 (`render`)**: the data plus the constant render columns. -/
theorem C02_sel_render (src : Bytes) (db : DB) (ctes : List (Bytes × Table)) (a : SubA) (n : Bytes) (sel : Select)
    (p k : Span) (chart : Option Ident) (w lp : Span) (props : List RenderProp) (rp : Span)
    (hsrc : a.source = .table n) (hop : a.op = some (.render p k chart w lp props rp))
    (hsel : selOf src a = some sel) :
    evalSelect db ctes sel = subEvalA src db (lookupTable db ctes n) a := by
  obtain ⟨items, w', gb, obs, lim, hp, ho, hl, rfl⟩ := selOf_parts src a n sel hsrc hsel
  rw [hop] at hp
  simp only [partsOf, pure, Option.some.injEq, Prod.mk.injEq] at hp
  obtain ⟨rfl, rfl, rfl⟩ := hp
  apply sel_flat src db ctes a n true (renderItems chart props) none obs lim ?_ ?_ ho hl (.inl rfl)
  · simp [opPartA, hop, interpClause, Rel.interpOp, flatTable, renderItems, evalS, Function.comp_def]
  · intro it hit
    simp only [renderItems, List.mem_cons, List.mem_map] at hit
    rcases hit with rfl | ⟨p, _, rfl⟩ <;> rfl
  · intro it hit
    simp only [renderItems, List.mem_cons, List.mem_map] at hit
    rcases hit with rfl | ⟨p, _, rfl⟩ <;> simp [hasAgg]

/-- **C02 (`extend`)**, also with ORDER BY and / or LIMIT attached; the new columns are not
    aggregate calls (`Cex.C02_extend_agg_differs`). -/
theorem C02_sel_extend (src : Bytes) (db : DB) (ctes : List (Bytes × Table)) (a : SubA) (n : Bytes) (sel : Select)
    (p k : Span) (cols : List Column)
    (hsrc : a.source = .table n) (hop : a.op = some (.extend p k cols)) (hsel : selOf src a = some sel)
    (hna : opOk (.extend p k cols) = true) :
    evalSelect db ctes sel = subEvalA src db (lookupTable db ctes n) a := by
  obtain ⟨items, w, gb, obs, lim, hp, ho, hl, rfl⟩ := selOf_parts src a n sel hsrc hsel
  rw [hop] at hp
  simp only [partsOf, bind, Option.bind, pure] at hp
  cases hits : cols.mapM (itemOf src) with
  | none => simp [hits] at hp
  | some its =>
    simp only [hits, Option.some.injEq, Prod.mk.injEq] at hp
    obtain ⟨rfl, rfl, rfl⟩ := hp
    simp only [opOk, List.all_eq_true, Bool.not_eq_true'] at hna
    obtain ⟨hi, htr⟩ := mapM_itemOf src cols its hits
    subst hi
    apply sel_flat src db ctes a n true _ none obs lim ?_ ?_ ho hl (.inl rfl)
    · simp only [opPartA, hop, List.foldl_cons, List.foldl_nil, interpClause, Rel.interpOp, flatTable, ↓reduceIte,
        List.map_map, Table.mk.injEq, Rel.rowEnv]
      refine ⟨by congr 1, List.map_congr_left fun r _ => ?_⟩
      congr 1
      exact List.map_congr_left fun c hc => evalP_trD _ _ _ (htr c hc)
    · intro it hit
      obtain ⟨c, _, rfl⟩ := List.mem_map.mp hit; rfl
    · intro it hit
      obtain ⟨c, hc, rfl⟩ := List.mem_map.mp hit
      exact (isAggExpr_trD _ (htr c hc)).symm.trans (hna c hc)

end Pql.C02

namespace Pql.SelSem
open Pql Sql CompileOracle Intended SplitQ

theorem mapM_projectItem (cols : List Column) (its : List SelectItem)
    (h : cols.mapM projectItem = some its) :
    its = cols.map (fun c => ⟨false, trD (projExpr c), some (identName c.name)⟩) ∧
      ∀ c ∈ cols, tr false (projExpr c) = some (trD (projExpr c)) :=
  mapM_tr projExpr (fun c e => ⟨false, e, some (identName c.name)⟩) projectItem projectItem_eq cols its h

theorem outCols_items (n : Bytes) (its : List SelectItem) (gb : List SExpr) (t : Table)
    (hns : ∀ it ∈ its, it.star = false) :
    outColsOf (mkSel n its none gb [] none) t = its.map fun it => it.alias.getD (Bytes.ofString "?") :=
  flatMap_nostar its hns _ _

theorem hasAgg_projExpr (c : Column) (h : Rel.isAggExpr c.x = false)
    (htr : tr false (projExpr c) = some (trD (projExpr c))) : hasAgg (trD (projExpr c)) = false := by
  cases hx : c.x with
  | nil =>
    have hp : projExpr c = .qident (match c.name with | some n => [n] | none => []) := by
      unfold projExpr; rw [hx]; rfl
    rw [hp]
    cases c.name with
    | none => simp [trD, tr, hasAgg]
    | some i =>
      simp only [trD, tr]
      split
      · simp [hasAgg]
      · split
        · simp [hasAgg]
        · split <;> simp [hasAgg]
  | _ =>
    have hp : projExpr c = c.x := by
      unfold projExpr; rw [hx]
    rw [hp] at htr ⊢
    rw [← isAggExpr_trD _ htr]
    exact h

end Pql.SelSem

namespace Pql.C02
open Pql Sql CompileOracle Intended SplitQ SelSem

/-- **C02 (`project`)**, also with LIMIT attached: no ORDER BY on this SELECT (`sortOkA`; needed, see
    `Cex.C02_project_sort_differs`), the columns are not aggregate calls (`Cex.C02_project_agg_differs`). -/
theorem C02_sel_project (src : Bytes) (db : DB) (ctes : List (Bytes × Table)) (a : SubA) (n : Bytes) (sel : Select)
    (p k : Span) (cols : List Column)
    (hsrc : a.source = .table n) (hop : a.op = some (.project p k cols)) (hsel : selOf src a = some sel)
    (hsort : sortOkA a = true) (hna : opOk (.project p k cols) = true) :
    evalSelect db ctes sel = subEvalA src db (lookupTable db ctes n) a := by
  obtain ⟨items, w, gb, obs, lim, hp, ho, hl, rfl⟩ := selOf_parts src a n sel hsrc hsel
  rw [hop] at hp
  simp only [partsOf, bind, Option.bind, pure] at hp
  cases hits : cols.mapM projectItem with
  | none => simp [hits] at hp
  | some its =>
    simp only [hits, Option.some.injEq, Prod.mk.injEq] at hp
    obtain ⟨rfl, rfl, rfl⟩ := hp
    simp only [opOk, List.all_eq_true, Bool.not_eq_true'] at hna
    obtain ⟨hi, htr⟩ := mapM_projectItem cols its hits
    subst hi
    apply sel_flat src db ctes a n false _ none obs lim ?_ ?_ ho hl (.inr (sortOkA_false hsort (by rw [hop]; rfl)))
    · simp only [opPartA, hop, List.foldl_cons, List.foldl_nil, interpClause, Rel.interpOp, flatTable,
        Bool.false_eq_true, ↓reduceIte, List.nil_append, List.map_map, Table.mk.injEq]
      refine ⟨List.map_congr_left fun c _ => ?_, List.map_congr_left fun r _ => List.map_congr_left fun c hc => ?_⟩
      · show (c.name.map (·.name)).getD [] = identName c.name
        cases c.name <;> rfl
      · show _ = evalS [] (envOfRow [] (lookupTable db ctes n).cols r) (trD (projExpr c))
        rw [← evalP_trD _ _ _ (htr c hc)]
        unfold projExpr
        cases hx : c.x <;> simp only [Rel.rowEnv]
        cases c.name <;> rfl
    · intro it hit
      obtain ⟨c, _, rfl⟩ := List.mem_map.mp hit; rfl
    · intro it hit
      obtain ⟨c, hc, rfl⟩ := List.mem_map.mp hit
      exact hasAgg_projExpr c (hna c hc) (htr c hc)

end Pql.C02

namespace Pql.SelSem
open Pql Sql CompileOracle Intended SplitQ

/-- the groups `Rel.interpOp` forms for `summarize … by keys` -/
def relGroups (t : Table) (keys : List Column) : List (List Val × List (List Val)) :=
  if keys.isEmpty then [([], t.rows)]
  else Sql.groupBy (fun r => keys.map fun g => Rel.evalP false [] (Rel.rowEnv t r) g.x) t.rows

def sumRow (t : Table) (keys cols : List Column) (gm : List Val × List (List Val)) : ORow :=
  let genv := gm.2.map (Rel.rowEnv t)
  let env := genv.head?.getD []
  (env, genv, (keys.map fun g => evalS genv env (trD g.x)) ++ (cols.map fun c => evalS genv env (trD c.x)))

theorem sumItems_vals (src : Bytes) (genv : List Env) (env : Env) (hd : List Val) (l : List Column) :
    (l.map (sumItem src)).flatMap (fun it => if it.star then hd else [evalS genv env it.expr]) =
      l.map fun c => evalS genv env (trD c.x) := by
  rw [flatMap_nostar _ (fun it hit => by obtain ⟨c, _, rfl⟩ := List.mem_map.mp hit; rfl), List.map_map]
  rfl

theorem outRows_summarize (src : Bytes) (s : Select) (t : Table) (keys cols : List Column)
    (hi : s.items = keys.map (sumItem src) ++ cols.map (sumItem src))
    (hg : s.groupBy = keys.map fun c => trD c.x) (hw : s.where_ = none)
    (hk : ∀ c ∈ keys, tr false c.x = some (trD c.x))
    (hagg : (!keys.isEmpty || cols.any (fun c => hasAgg (trD c.x))) = true) :
    outRowsOf s t = (relGroups t keys).map (sumRow t keys cols) := by
  have hq : isAggQ s = true := by
    simp only [isAggQ, hi, hg, List.isEmpty_map, List.any_append, List.any_map, Function.comp_def, sumItem,
      Bool.not_false, Bool.true_and]
    simp only [Bool.or_eq_true] at hagg ⊢
    rcases hagg with h | h
    · exact .inl h
    · exact .inr (.inr h)
  have hgroups : (if (keys.map fun c => trD c.x).isEmpty then [([], srcRowsOf t)]
      else Sql.groupBy (fun r => (keys.map fun c => trD c.x).map fun g => evalS [] r.1 g) (srcRowsOf t)) =
      (relGroups t keys).map fun gm => (gm.1, gm.2.map fun r => (envOfRow [] t.cols r, r)) := by
    unfold relGroups
    rw [List.isEmpty_map]
    split
    · rfl
    · unfold srcRowsOf
      rw [groupBy_map]
      congr 2
      funext r
      rw [List.map_map]
      apply List.map_congr_left
      intro c hc
      simp [Rel.rowEnv, evalP_trD _ _ _ (hk c hc)]
  unfold outRowsOf
  rw [hq]
  simp only [↓reduceIte, whereRows]
  rw [hi, hg, hw]
  simp only []
  rw [hgroups, List.map_map]
  apply List.map_congr_left
  intro gm _
  simp only [Function.comp_def, sumRow, List.map_map, List.flatMap_append, sumItems_vals]
  rfl

theorem any_congr' {α} {f g : α → Bool} : ∀ (l : List α), (∀ x ∈ l, f x = g x) → l.any f = l.any g
  | [], _ => rfl
  | x :: xs, h => by
    simp only [List.any_cons]
    rw [h x (List.mem_cons_self ..), any_congr' xs (fun y hy => h y (List.mem_cons_of_mem _ hy))]

end Pql.SelSem

namespace Pql.C02
open Pql Sql CompileOracle Intended SplitQ SelSem

/-- **C02 (`summarize`)**, also with LIMIT attached: no ORDER BY on this SELECT
    (`Cex.C02_summarize_sort_differs`), and there is a key or an aggregate
    (`Cex.C02_summarize_plain_differs`). -/
theorem C02_sel_summarize (src : Bytes) (db : DB) (ctes : List (Bytes × Table)) (a : SubA) (n : Bytes) (sel : Select)
    (p k : Span) (cols : List Column) (b : Span) (keys : List Column)
    (hsrc : a.source = .table n) (hop : a.op = some (.summarize p k cols b keys)) (hsel : selOf src a = some sel)
    (hsort : sortOkA a = true) (hagg : opOk (.summarize p k cols b keys) = true) :
    evalSelect db ctes sel = subEvalA src db (lookupTable db ctes n) a := by
  obtain ⟨items, w, gb, obs, lim, hp, ho, hl, rfl⟩ := selOf_parts src a n sel hsrc hsel
  rw [hop] at hp
  simp only [partsOf, bind, Option.bind, pure] at hp
  cases hgs : keys.mapM (itemOf src) with
  | none => simp [hgs] at hp
  | some gs =>
    cases hcs : cols.mapM (itemOf src) with
    | none => simp [hgs, hcs] at hp
    | some cs =>
      cases hgb : keys.mapM (fun c => tr false c.x) with
      | none => simp [hgs, hcs, hgb] at hp
      | some gb' =>
        simp only [hgs, hcs, hgb, Option.some.injEq, Prod.mk.injEq] at hp
        obtain ⟨rfl, rfl, rfl⟩ := hp
        obtain ⟨hg1, hktr⟩ := mapM_itemOf src keys gs hgs
        obtain ⟨hc1, hctr⟩ := mapM_itemOf src cols cs hcs
        obtain ⟨hgb1, _⟩ := mapM_tr (·.x) (fun _ e => e) (fun c : Column => tr false c.x)
          (fun _ => Option.map_id'.symm) keys gb' hgb
        subst hg1; subst hc1; subst hgb1
        have hagg' : (!keys.isEmpty || cols.any (fun c => hasAgg (trD c.x))) = true := by
          rw [← hagg]
          congr 1
          exact any_congr' cols (fun c hc => (isAggExpr_trD _ (hctr c hc)).symm)
        apply sel_core src db ctes a n _ _ _ obs lim ho hl (relGroups (lookupTable db ctes n) keys)
          (sumRow (lookupTable db ctes n) keys cols)
          (Rel.interpOp src db (lookupTable db ctes n) (.summarize p k cols b keys))
        · rw [outCols_items]
          · simp only [Rel.interpOp, List.map_append, List.map_map]
            rfl
          · intro it hit
            simp only [List.mem_append, List.mem_map] at hit
            rcases hit with ⟨c, _, rfl⟩ | ⟨c, _, rfl⟩ <;> rfl
        · exact outRows_summarize src _ _ keys cols rfl rfl rfl hktr hagg'
        · simp only [Rel.interpOp, relGroups, sumRow]
          apply List.map_congr_left
          intro gm _
          congr 1
          · apply List.map_congr_left
            intro c hc
            exact evalP_trD _ _ _ (hktr c hc)
          · apply List.map_congr_left
            intro c hc
            exact evalP_trD _ _ _ (hctr c hc)
        · left; exact sortOkA_false hsort (by rw [hop]; rfl)
        · simp [opPartA, hop, interpClause]

end Pql.C02
