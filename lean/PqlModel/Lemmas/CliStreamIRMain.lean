/-
The pieces of `RunE` (cmd/pql/main.go lines 33-52) put together, for Props/C16StreamIR.lean.  What glues them is a
hand-written Lean function, not interpreted IR: `bindInput`, `readInput`, `closeInput` (the value `makeInput` returned, used
as `input` by `run` — `input.Read` — and by `RunE` — `input.Close()`: a `*multiReadCloser` dispatches to the regenerated
`Read` / `Close`, a plain reader — `*os.File`, `nopReadCloser{os.Stdin}` — to the object itself), `drainM`
(Lemmas/CliStreamIR.lean; `bufio.Scanner`'s reading: `Read` until `io.EOF` or an error) and `runE` (the closure `RunE`,
statement by statement).
-/
import PqlModel.Lemmas.CliStreamIRDen
import PqlModel.Props.C16RunIR
namespace Pql.StreamIR
open Pql Pql.CliIO Pql.CliIOIR
set_option linter.unusedSimpArgs false

/-- `input, err := makeInput(args)`: the value bound to `input`.  A fresh `&multiReadCloser{l}` becomes THE receiver object
    of the interpreter (its field `readers` is `State.readers`). -/
def bindInput : Val → State → Option (Val × State)
  | .mrcNew l, w => some (.mrcRef, { w with readers := l })
  | .rc (some rc), w => some (.rc (some rc), w)
  | _, _ => none

/-- `input.Read(p)`, dynamic dispatch -/
def readInput (env : Env) (fuel : Nat) : Val → State → M (ReadResult × State)
  | .rc x, w => readObj w x
  | .mrcRef, w => readIR env fuel w
  | _, _ => stuck

/-- `input.Close()`, dynamic dispatch (the error it returns is discarded by `RunE`) -/
def closeInput (env : Env) (fuel : Nat) : Val → State → M State
  | .rc x, w => (closeObj env w x).map (·.2)
  | .mrcRef, w => (runUnit env fuel "multiReadCloser.Close" [.mrcRef] w).map (·.2)
  | _, _ => stuck

/-- the interpreter of `run` (Model/CliIR.lean) has its own error type -/
def liftRun {α : Type} : CliIR.M α → M α
  | .ok a => .ok a
  | .error .panic => goPanic
  | .error .stuck => stuck

/-- `RunE` from `output, err := makeOutput(*outputPath)` on (cmd/pql/main.go lines 38-51) -/
def runRest (compile : Bytes → Option Bytes) (env : Env) (fuel k : Nat) (outArg : String) (input : Val) (w1 : State) :
    M (Option CliResult × State) := do
  let (vo, w2) ← runUnit env fuel "makeOutput" [.str outArg] w1
  match vo with
  | [.wc (some _), .err .nil] =>
    -- `run(ctx, output, input, logError)`: the scanner reads `input` …
    let (bytes, ending, w3) ← drainM (readInput env fuel input) k w2
    -- … and the regenerated body of `run` works through the lines it delivers; a scanner that has not seen `io.EOF`,
    -- whether `Read` reported an error or the `k` calls were used up (`outOfFuel`), has a read error
    let o ← liftRun (CliIR.interpRun (CliIR.modelLib compile) (bufioLines bytes).1 ((bufioLines bytes).2 || ending != .eof))
    let w4 ← closeInput env fuel input w3
    pure (some o.result, w4)
  | [_, .err .other] => do
    let w3 ← closeInput env fuel input w2
    pure (none, w3)
  | _ => stuck

/-- **`RunE`** (cmd/pql/main.go lines 33-52), with the regenerated `makeInput`, `makeOutput`, `Read`, `Close` and `run`
    interpreted and `bufio.Scanner` modelled (`drainM` + `bufioLines`).  Result: what `run` did (`none`: `RunE` returned an
    error before calling it — nothing is printed, exit status 1), and the world (files opened / closed / created).
    `fuel` bounds the `for` loop inside one `Read`, `k` the number of `Read` calls of the scanner.
    Not modelled: the error of `output.Close()` (taken to be nil), the context, the terminal nudge on standard error. -/
def runE (compile : Bytes → Option Bytes) (env : Env) (fuel k : Nat) (args : List String) (outArg : String) (stdin : Reader) :
    M (Option CliResult × State) := do
  let (vi, w1) ← runUnit env fuel "makeInput" [.strs args] (world0 stdin)
  match vi with
  | [v, .err .nil] =>
    match bindInput v w1 with
    | none => stuck
    | some (input, w1') => runRest compile env fuel k outArg input w1'
  | [_, .err .other] => pure (none, w1)
  | _ => stuck

theorem drainM_obj (env : Env) (fuel : Nat) (x : RC) : ∀ (k : Nat) (w : State) (r : Reader), w.objs[x.h]? = some r →
    ∃ w', drainM (readInput env fuel (.rc (some x))) k w = .ok ((drain Reader.read k r).1, (drain Reader.read k r).2, w') ∧
      w'.readers = w.readers ∧ w'.closed = w.closed ∧ w'.created = w.created ∧ w'.objs.length = w.objs.length
  | 0, w, r, _ => ⟨w, by simp [drainM, drain]⟩
  | k + 1, w, r, ho => by
    obtain ⟨h, nop⟩ := x
    simp only at ho
    have hlt : h < w.objs.length := by
      rcases Nat.lt_or_ge h w.objs.length with h1 | h1
      · exact h1
      · simp [List.getElem?_eq_none h1] at ho
    rcases hr : Reader.read r with ⟨⟨chunk, s⟩, r'⟩
    have ih := drainM_obj env fuel ⟨h, nop⟩ k { w with objs := w.objs.set h r', data := chunk } r'
      (by simp [List.getElem?_set_self hlt])
    obtain ⟨w', g1, g2, g3, g4, g5⟩ := ih
    cases s with
    | ok => exact ⟨w', by simp [drainM, readInput, readObj, ho, hr, g1, drain], g2, g3, g4, by simpa using g5⟩
    | eof | err => exact ⟨{ w with objs := w.objs.set h r', data := chunk }, by simp [drainM, readInput, readObj, ho, hr, drain], rfl, rfl, rfl, by simp⟩

theorem makeInput_phase (env : Env) (fuel : Nat) (args : List String) (stdin : Reader) :
    ∃ vars, runUnit env fuel "makeInput" [.strs args] (world0 stdin) =
      .ok ((miSpec env args (world0 stdin)).1, { (miSpec env args (world0 stdin)).2 with vars := vars }) := by
  obtain ⟨vars, hr⟩ := of_world (makeInput_run env fuel args (world0 stdin))
  exact ⟨vars, by simp only [runUnit, makeInput_ir]; exact hr⟩

def outputFails (env : Env) (outArg : String) : Bool := !(decide (outArg = "" ∨ outArg = "-")) && env.createFails outArg

def createdBy (env : Env) (outArg : String) : List String :=
  if outArg = "" ∨ outArg = "-" then [] else if env.createFails outArg then [] else [outArg]

theorem makeOutput_spec (env : Env) (fuel : Nat) (outArg : String) (w : State) :
    ∃ vars, runUnit env fuel "makeOutput" [.str outArg] w =
      .ok (if outputFails env outArg then [.wc none, .err .other]
           else [.wc (some (if outArg = "" ∨ outArg = "-" then .stdoutNop else .file outArg)), .err .nil],
           { w with vars := vars, created := w.created ++ createdBy env outArg }) := by
  have h := C16_makeOutput_ir env fuel outArg w
  by_cases h1 : outArg = "" ∨ outArg = "-"
  · rw [if_pos h1] at h
    obtain ⟨vars, hr⟩ := of_world (st' := w) h
    exact ⟨vars, by simpa [outputFails, createdBy, h1] using hr⟩
  · rw [if_neg h1] at h
    cases hc : env.createFails outArg with
    | true =>
      rw [hc, if_pos rfl] at h
      obtain ⟨vars, hr⟩ := of_world (st' := w) h
      exact ⟨vars, by simpa [outputFails, createdBy, h1, hc] using hr⟩
    | false =>
      rw [hc, if_neg (by simp)] at h
      obtain ⟨vars, hr⟩ := of_world (st' := ({ w with created := w.created ++ [outArg] } : State)) h
      exact ⟨vars, by simpa [outputFails, createdBy, h1, hc] using hr⟩

/-- the variable `input` of `RunE` holds readers that read as the scripts `rs`: the receiver `*multiReadCloser` whose
    field is the list `l` (in the reading `RDen`), or one plain reader (`l` = that reader alone) -/
def InputOK (fuel : Nat) (input : Val) (w : State) (l : List (Option RC)) (rs : List Reader) : Prop :=
  (input = .mrcRef ∧ w.readers = l ∧ RDen w.objs l rs ∧ l.length < fuel) ∨
  (∃ rc r, input = .rc (some rc) ∧ l = [some rc] ∧ w.objs[rc.h]? = some r ∧ rs = [r])

theorem input_close (env : Env) (fuel : Nat) (input : Val) (w : State) (l : List (Option RC)) (rs : List Reader)
    (h : InputOK fuel input w l rs) :
    ∃ w2, closeInput env fuel input w = .ok w2 ∧ w2.closed = w.closed ++ fileHandles l ∧ w2.created = w.created ∧
      w2.objs.length = w.objs.length := by
  rcases h with ⟨rfl, hl, hR, _⟩ | ⟨⟨h, nop⟩, r, rfl, rfl, _, _⟩
  · obtain ⟨w2, g1, g2⟩ := C16_Close_ir env fuel w (by rw [hl]; exact hR.2.1.nonnil)
    simp only [State.world, Prod.mk.injEq] at g2
    exact ⟨w2, by simp [closeInput, g1, Except.map], by rw [g2.2.2.1, hl], g2.2.2.2.1, by rw [g2.1]⟩
  · cases nop
    · exact ⟨{ w with closed := w.closed ++ [h] }, by simp [closeInput, closeObj, Except.map], by simp [fileHandles], rfl, rfl⟩
    · exact ⟨w, by simp [closeInput, closeObj, Except.map], by simp [fileHandles], rfl, rfl⟩

theorem input_drain_close (env : Env) (fuel k : Nat) (input : Val) (w : State) (l : List (Option RC)) (rs : List Reader)
    (h : InputOK fuel input w l rs) (hk : totalResults rs + 1 ≤ k) :
    ∃ w1 w2, drainM (readInput env fuel input) k w = .ok ((inputStream rs).1, (inputStream rs).2, w1) ∧
      closeInput env fuel input w1 = .ok w2 ∧ w2.closed = w.closed ++ fileHandles l ∧ w2.created = w.created ∧
      w2.objs.length = w.objs.length := by
  rcases h with ⟨rfl, hl, hR, hf⟩ | ⟨⟨h, nop⟩, r, rfl, rfl, ho, rfl⟩
  · obtain ⟨w1, w2, g1, g2, g3, _, g5, g6⟩ := drain_then_close inv_den env fuel k w rs (hl ▸ hR) (hl ▸ hf) hk
    refine ⟨w1, w2, ?_, by simp [closeInput, g2, Except.map], hl ▸ g3, g5, g6⟩
    have : readInput env fuel .mrcRef = readIR env fuel := by funext s; rfl
    rw [this]
    exact g1
  · obtain ⟨w1, g1, _, g3, g4, g5⟩ := drainM_obj env fuel ⟨h, nop⟩ k w r ho
    have hk' : r.length + 1 ≤ k := by simpa [totalResults] using hk
    rw [C16_reader_alone r k hk'] at g1
    have hlt1 : h < w1.objs.length := by
      rw [g5]
      rcases Nat.lt_or_ge h w.objs.length with h1 | h1
      · exact h1
      · simp [List.getElem?_eq_none h1] at ho
    obtain ⟨w2, c1, c2, c3, c4⟩ := input_close env fuel (.rc (some ⟨h, nop⟩)) w1 [some ⟨h, nop⟩] [w1.objs[h]]
      (Or.inr ⟨⟨h, nop⟩, w1.objs[h], rfl, rfl, List.getElem?_eq_getElem hlt1, rfl⟩)
    refine ⟨w1, w2, ?_, c1, by rw [c2, g3], by rw [c3, g4], by rw [c4, g5]⟩
    rw [C16_multi_concat, concatContents_single]
    exact g1

theorem InputOK.congr {fuel : Nat} {input : Val} {w w2 : State} {l : List (Option RC)} {rs : List Reader}
    (h : InputOK fuel input w l rs) (ho : w2.objs = w.objs) (hr : w2.readers = w.readers) : InputOK fuel input w2 l rs := by
  unfold InputOK at h ⊢
  rw [ho, hr]; exact h

theorem liftRun_interp (compile : Bytes → Option Bytes) (lines : List Bytes) (readErr : Bool) :
    ∃ o, liftRun (CliIR.interpRun (CliIR.modelLib compile) lines readErr) = .ok o ∧ o.result = cliRun compile lines readErr :=
  ⟨_, by rw [CliIR.interpRun_eq]; rfl, CliIR.runOutcome_result compile lines readErr⟩

theorem runRest_eq (compile : Bytes → Option Bytes) (env : Env) (fuel k : Nat) (outArg : String) (input : Val) (w1 : State)
    (l : List (Option RC)) (rs : List Reader) (h : InputOK fuel input w1 l rs) (hk : totalResults rs + 1 ≤ k) :
    ∃ w, runRest compile env fuel k outArg input w1 =
        .ok (if outputFails env outArg then none else some (cliFiles compile rs), w) ∧
      w.closed = w1.closed ++ fileHandles l ∧ w.created = w1.created ++ createdBy env outArg ∧
      w.objs.length = w1.objs.length := by
  obtain ⟨vars, hrun⟩ := makeOutput_spec env fuel outArg w1
  have h2 := h.congr (w2 := { w1 with vars := vars, created := w1.created ++ createdBy env outArg }) rfl rfl
  cases hof : outputFails env outArg with
  | true =>
    rw [hof, if_pos rfl] at hrun
    obtain ⟨w3, g1, g2, g3, g4⟩ := input_close env fuel input _ l rs h2
    exact ⟨w3, by simp [runRest, hrun, g1, bind, Except.bind, pure, Except.pure], g2, g3, g4⟩
  | false =>
    rw [hof, if_neg (by simp)] at hrun
    obtain ⟨w3, w4, g1, g2, g3, g4, g5⟩ := input_drain_close env fuel k input _ l rs h2 hk
    obtain ⟨o, i1, i2⟩ := liftRun_interp compile (bufioLines (inputStream rs).1).1
      ((bufioLines (inputStream rs).1).2 || (inputStream rs).2 != .eof)
    refine ⟨w4, ?_, g3, g4, g5⟩
    simp only [runRest, hrun, g1, i1, g2, bind, Except.bind, pure, Except.pure, i2]
    rfl

end Pql.StreamIR
