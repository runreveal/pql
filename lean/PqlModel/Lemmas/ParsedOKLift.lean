/-
Side conditions discharged for parsed trees: a generic lifting lemma.

Every *translated* expression position of a parsed statement — `where`, sort terms, `take` / `top`
counts, columns of `project` (when present) / `extend` / `summarize`, join conditions (as a list),
at any nesting depth of joins, and `let` values — holds a value that `pExpr` / `pExprList` returned
without error if the parse reported none.  (Render properties are not translated and not
covered; `Reject.StmtAll`, Lemmas/RejectOps.lean, is the same family with a render clause.)  `TabAll E EL` says so of a pipeline; it is closed under what the tabular productions
build (`tabAll_alg`), so `parseTokens_all` gives `StmtAll E EL` of every statement of an
error-free parse for predicates `E`, `EL` that hold of everything `pExpr` / `pExprList` return
without error.
-/
import PqlModel.Lemmas.TabShape
import PqlModel.Lemmas.ParseFold
import PqlModel.Lemmas.SplitBasic
import PqlModel.Lemmas.TreeInduct
namespace Pql.ParsedOK
open Pql

section
variable (E : Expr → Prop) (EL : ExprList → Prop)

mutual
def TabAll : Tabular → Prop
  | .nil => True
  | .mk _ ops => OpsAll ops
def OpAll : Op → Prop
  | .where_ _ _ e => E e
  | .sort _ _ ts => ∀ t ∈ ts, E t.x
  | .take _ _ n => E n
  | .top _ _ n _ c => E n ∧ ∀ t, c = some t → E t.x
  | .project _ _ cs => ∀ c ∈ cs, c.x = .nil ∨ E c.x
  | .extend _ _ cs => ∀ c ∈ cs, E c.x
  | .summarize _ _ cs _ gs => (∀ c ∈ cs, E c.x) ∧ (∀ c ∈ gs, E c.x)
  | .join _ _ _ _ _ _ right _ _ conds => TabAll right ∧ EL conds
  | .count .. => True
  | .as_ .. => True
  | .render .. => True
def OpsAll : OpList → Prop
  | .nil => True
  | .cons o os => OpAll o ∧ OpsAll os
end

def StmtAll : Stmt → Prop
  | .let_ _ _ _ x => E x
  | .tabular t => TabAll E EL t

theorem OpsAll_snoc : (ops : OpList) → (o : Op) →
    (OpsAll E EL (ops.snoc o) ↔ OpsAll E EL ops ∧ OpAll E EL o)
  | .nil, o => by simp [OpList.snoc, OpsAll]
  | .cons p ps, o => by simp [OpList.snoc, OpsAll, OpsAll_snoc ps o, and_assoc]

end

section
variable {E E' : Expr → Prop} {EL EL' : ExprList → Prop}

/-- `TabAll` is monotone in two arguments at once: `imp` is the case where both are the same, `and`
    the case `And.intro`. -/
theorem imp2_alg {E'' : Expr → Prop} {EL'' : ExprList → Prop} (hE : ∀ e, E e → E' e → E'' e)
    (hL : ∀ l, EL l → EL' l → EL'' l) : TreeAlg
    (fun t => TabAll E EL t → TabAll E' EL' t → TabAll E'' EL'' t)
    (fun o => OpAll E EL o → OpAll E' EL' o → OpAll E'' EL'' o)
    (fun ops => OpsAll E EL ops → OpsAll E' EL' ops → OpsAll E'' EL'' ops) where
  tnil := fun _ _ => trivial
  tmk := fun _ _ ih => ih
  onil := fun _ _ => trivial
  cons := fun _ _ iho ihl h h' => ⟨iho h.1 h'.1, ihl h.2 h'.2⟩
  count := fun _ _ _ _ => trivial
  where_ := fun _ _ e h h' => hE e h h'
  sort := fun _ _ _ h h' t ht => hE _ (h t ht) (h' t ht)
  take := fun _ _ e h h' => hE e h h'
  top := fun _ _ n _ _ h h' => ⟨hE n h.1 h'.1, fun t ht => hE _ (h.2 t ht) (h'.2 t ht)⟩
  project := fun _ _ _ h h' c hc =>
    (h c hc).elim Or.inl fun h1 => (h' c hc).elim Or.inl fun h2 => Or.inr (hE _ h1 h2)
  extend := fun _ _ _ h h' c hc => hE _ (h c hc) (h' c hc)
  summarize := fun _ _ _ _ _ h h' =>
    ⟨fun c hc => hE _ (h.1 c hc) (h'.1 c hc), fun c hc => hE _ (h.2 c hc) (h'.2 c hc)⟩
  join := fun _ _ _ _ _ _ _ _ _ conds ih h h' => ⟨ih h.1 h'.1, hL conds h.2 h'.2⟩
  as_ := fun _ _ _ _ _ => trivial
  render := fun _ _ _ _ _ _ _ _ _ => trivial

theorem TabAll.imp (hE : ∀ e, E e → E' e) (hL : ∀ l, EL l → EL' l) : ∀ t : Tabular,
    TabAll E EL t → TabAll E' EL' t :=
  fun t h => (imp2_alg (fun e h _ => hE e h) (fun l h _ => hL l h)).tabular t h h

theorem OpsAll.imp (hE : ∀ e, E e → E' e) (hL : ∀ l, EL l → EL' l) : ∀ ops : OpList,
    OpsAll E EL ops → OpsAll E' EL' ops :=
  fun ops h => (imp2_alg (fun e h _ => hE e h) (fun l h _ => hL l h)).ops ops h h

theorem OpAll.imp (hE : ∀ e, E e → E' e) (hL : ∀ l, EL l → EL' l) : ∀ o : Op,
    OpAll E EL o → OpAll E' EL' o :=
  fun o h => (imp2_alg (fun e h _ => hE e h) (fun l h _ => hL l h)).op o h h

theorem TabAll.and : ∀ t : Tabular, TabAll E EL t → TabAll E' EL' t →
    TabAll (fun e => E e ∧ E' e) (fun l => EL l ∧ EL' l) t :=
  (imp2_alg (fun _ => And.intro) (fun _ => And.intro)).tabular

theorem OpsAll.and : ∀ ops : OpList, OpsAll E EL ops → OpsAll E' EL' ops →
    OpsAll (fun e => E e ∧ E' e) (fun l => EL l ∧ EL' l) ops :=
  (imp2_alg (fun _ => And.intro) (fun _ => And.intro)).ops

theorem OpAll.and : ∀ o : Op, OpAll E EL o → OpAll E' EL' o →
    OpAll (fun e => E e ∧ E' e) (fun l => EL l ∧ EL' l) o :=
  (imp2_alg (fun _ => And.intro) (fun _ => And.intro)).op

theorem StmtAll.imp (hE : ∀ e, E e → E' e) (hL : ∀ l, EL l → EL' l) : ∀ s : Stmt,
    StmtAll E EL s → StmtAll E' EL' s
  | .let_ _ _ _ _, h => hE _ h
  | .tabular t, h => TabAll.imp hE hL t h

end

theorem tabAll_alg (ok : Prop) (E : Expr → Prop) (EL : ExprList → Prop) :
    TabAlg ok E EL (TabAll E EL) (OpAll E EL) (OpsAll E EL) where
  tnil := fun _ => trivial
  tmk := fun _ _ h => h
  onil := trivial
  snoc := fun ops o ho h => (OpsAll_snoc E EL ops o).2 ⟨ho, h⟩
  count := fun _ _ => trivial
  where_ := fun _ _ _ h => h
  sort := fun _ _ _ h => h
  take := fun _ _ _ h => h
  top := fun _ _ _ _ _ h1 h2 _ => ⟨h1, h2⟩
  project := fun _ _ _ h k hk => (h k hk).2
  extend := fun _ _ _ h => h
  summarize := fun _ _ _ _ _ h1 h2 => ⟨h1, h2⟩
  join := fun _ _ _ _ _ _ _ _ _ _ _ h1 h2 => ⟨h1, h2⟩
  as_ := fun _ _ _ _ => trivial
  render := fun _ _ _ _ _ _ _ _ _ _ => trivial

section
variable {E : Expr → Prop} {EL : ExprList → Prop}
variable (hE : ∀ (c : PCtx) (fuel : Nat) (ts : List Token),
  (pExpr c fuel ts).errs = [] → E (pExpr c fuel ts).val)
variable (hL : ∀ (c : PCtx) (fuel : Nat) (ts : List Token),
  (pExprList c fuel ts).errs = [] → EL (pExprList c fuel ts).val)
include hE

include hL

/-- an error-free tabular production returns a tree all of whose translated expression positions
    satisfy `E` / `EL` -/
structure TabAllInv (E : Expr → Prop) (EL : ExprList → Prop) (c : PCtx) (fuel : Nat) : Prop where
  tabular : ∀ ts, (pTabular c fuel ts).errs = [] → TabAll E EL (pTabular c fuel ts).val
  ops : ∀ ops acc ts, (pOps c fuel ops acc ts).errs = [] →
    OpsAll E EL ops → OpsAll E EL (pOps c fuel ops acc ts).val
  operator : ∀ pipe name ts r, pOperator c fuel pipe name ts = some r → r.errs = [] → OpAll E EL r.val
  join : ∀ pipe kw ts, (pJoin c fuel pipe kw ts).errs = [] → OpAll E EL (pJoin c fuel pipe kw ts).val

theorem tabAllInv (c : PCtx) (fuel : Nat) : TabAllInv E EL c fuel :=
  have g := tabShapeOk (tabAll_alg True E EL) hE hL c fuel
  { tabular := fun ts h => g.tabular ts fun _ => h
    ops := fun ops acc ts h => (g.ops ops acc ts fun _ => h).2
    operator := fun pipe name ts r hr h => g.operator pipe name ts r hr fun _ => h
    join := fun pipe kw ts h => g.join pipe kw ts fun _ => h }

theorem pTabular_all {c : PCtx} {fuel : Nat} {ts : List Token}
    (h : (pTabular c fuel ts).errs = []) : TabAll E EL (pTabular c fuel ts).val :=
  (tabAllInv hE hL c fuel).tabular ts h

end

section
variable {S : Stmt → Prop} {c : PCtx}

theorem pLet_ok {fuel : Nat} : ∀ ts, (pLet c fuel ts).errs = [] → ∀ s, (pLet c fuel ts).val = some s →
    ∃ kw name asg ts', s = .let_ kw (some name) asg (pExpr c fuel ts').val ∧ (pExpr c fuel ts').errs = [] := by
  apply pLet_cases (motive := fun _ r => r.errs = [] → ∀ s, r.val = some s →
    ∃ kw name asg ts', s = .let_ kw (some name) asg (pExpr c fuel ts').val ∧ (pExpr c fuel ts').errs = [])
  case notLet => exact fun _ _ _ _ h => nomatch h
  case noName => exact fun _ _ _ _ h => absurd ((mkOpaque_eq_nil _).1 h) (nfAt_ne_nil _)
  case noAssign => exact fun _ _ _ _ _ _ h => absurd h (errAt_ne_nil _)
  case full =>
    rintro kwd t0 asg rest2 r _ _ _ rfl h s ⟨⟩
    exact ⟨_, _, _, _, rfl, (mkOpaque_eq_nil _).1 h⟩

variable (hlet : ∀ kw name asg f ts, (pExpr c f ts).errs = [] → S (.let_ kw (some name) asg (pExpr c f ts).val))
include hlet

theorem pStatement_ok {ts : List Token}
    (htab : ∀ f, (pTabular c f ts).errs = [] → S (.tabular (pTabular c f ts).val)) :
    (pStatement c ts).2.1 = [] → ∀ s, (pStatement c ts).1 = some s → S s := by
  apply pStatement_cases c ts (motive := fun r => r.2.1 = [] → ∀ s, r.1 = some s → S s)
  case let_ =>
    rintro rl rfl _ h s hs
    obtain ⟨kw, name, asg, ts', rfl, he⟩ :=
      pLet_ok _ ((mkOpaque_eq_nil _).1 (List.append_eq_nil_iff.1 h).1) s hs
    exact hlet _ _ _ _ _ he
  case tab =>
    rintro rl rt name ops _ _ rfl _ _ h s ⟨⟩
    exact htab _ ((mkOpaque_eq_nil _).1 (List.append_eq_nil_iff.1 h).1)
  case empty => exact fun _ _ _ _ _ _ _ _ _ h => nomatch h
  case junk => exact fun _ _ _ _ _ _ _ _ _ _ _ h => nomatch h

end

/-- The statements of an error-free parse: a `let` whose value `pExpr` returned without error,
    or a pipeline that `pTabular` returned without error on tokens of the input. -/
theorem parseTokens_stmts {srcLen : Nat} {ts : List Token} {stmts : List Stmt} {S : Stmt → Prop}
    (hlet : ∀ kw name asg f ts', (pExpr ⟨srcLen⟩ f ts').errs = [] →
      S (.let_ kw (some name) asg (pExpr ⟨srcLen⟩ f ts').val))
    (htab : ∀ f ts', (∀ t ∈ ts', t ∈ ts) → (pTabular ⟨srcLen⟩ f ts').errs = [] →
      S (.tabular (pTabular ⟨srcLen⟩ f ts').val))
    (h : parseTokens srcLen ts = (stmts, [])) : ∀ s ∈ stmts, S s := by
  intro s hs
  obtain ⟨g, hg, h1, h2⟩ := parseTokens_mem srcLen ts (s := s) (by rw [h]; exact hs)
  exact pStatement_ok hlet (fun f => htab f g fun t ht => hg.subset ht) (h2 (by rw [h])) s h1

/-- Every translated expression position of every statement of an error-free
    parse satisfies whatever holds of all error-free results of `pExpr` / `pExprList`. -/
theorem parseTokens_all {E : Expr → Prop} {EL : ExprList → Prop}
    (hE : ∀ (c : PCtx) (fuel : Nat) (ts : List Token),
      (pExpr c fuel ts).errs = [] → E (pExpr c fuel ts).val)
    (hL : ∀ (c : PCtx) (fuel : Nat) (ts : List Token),
      (pExprList c fuel ts).errs = [] → EL (pExprList c fuel ts).val)
    {srcLen : Nat} {ts : List Token} {stmts : List Stmt}
    (h : parseTokens srcLen ts = (stmts, [])) : ∀ s ∈ stmts, StmtAll E EL s :=
  parseTokens_stmts (S := StmtAll E EL) (fun _ _ _ _ _ he => hE _ _ _ he)
    (fun _ _ _ he => pTabular_all hE hL he) h

end Pql.ParsedOK
