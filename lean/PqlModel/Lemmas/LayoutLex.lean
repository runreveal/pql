/-
Layout independence, lexer side: inserting trivia at a step boundary of the scanner does not change
the kinds and values of the tokens.

`TriviaBefore w y` : `w`, followed by `y`, is a concatenation of trivia steps of C09
(`Pql.C09.IsTriviaStep`: one white-space rune, or a `//` comment up to and including its newline,
or — only when nothing at all follows — a `//` comment running to the end of the input).
-/
import PqlModel.Props.C09Gaps
import PqlModel.Lemmas.LexSplit
import PqlModel.Lemmas.LayoutDefs
namespace Pql.Layout
open Pql Pql.C09

inductive TriviaBefore : Bytes → Bytes → Prop
  | nil (y : Bytes) : TriviaBefore [] y
  | step (x w y : Bytes) : IsTriviaStep x (w ++ y) → TriviaBefore w y → TriviaBefore (x ++ w) y

theorem np_shift (d : Nat) (t : Token) : np (t.shift d) = np t := rfl

theorem map_np_scanFrom (s : Bytes) (off : Nat) : (scanFrom s off).map np = (scan s).map np := by
  rw [scanFrom_eq_map_scan, List.map_map]
  exact List.map_congr_left fun t _ => np_shift off t

theorem sameTokens_scanFrom (s : Bytes) (a b : Nat) : sameTokens (scanFrom s a) (scanFrom s b) := by
  rw [sameTokens_iff_map_np, map_np_scanFrom, map_np_scanFrom]

theorem scanFrom_trivia {w y : Bytes} (h : TriviaBefore w y) :
    ∀ off, scanFrom (w ++ y) off = scanFrom y (off + w.length) := by
  induction h with
  | nil y => intro off; simp
  | step x w y hx _ ih =>
    intro off
    have hne : x ++ w ++ y ≠ [] := by
      have := triviaStep_ne_nil hx
      cases x with
      | nil => exact absurd rfl this
      | cons => simp
    have hst := scanOne_trivia x (w ++ y) hx
    rw [scanFrom_step hne, List.append_assoc, hst]
    simp only [Step.toks, List.nil_append, List.drop_left, ih, List.length_append]
    congr 1
    omega

theorem reaches_trivia {w y : Bytes} (h : TriviaBefore w y) : Reaches (w ++ y) w.length := by
  induction h with
  | nil y => exact Reaches.here _
  | step x w y hx _ ih =>
    have hne : x ++ w ++ y ≠ [] := by
      have := triviaStep_ne_nil hx
      cases x with
      | nil => exact absurd rfl this
      | cons => simp
    have hst := scanOne_trivia x (w ++ y) hx
    have := Reaches.step (x ++ w ++ y) w.length hne
      (by rw [List.append_assoc, hst]; simpa using ih)
    rw [List.append_assoc, hst] at this
    simpa [List.length_append] using this

theorem sameTokens_insert (x w y : Bytes) (h1 : Reaches (x ++ y) x.length)
    (h2 : Reaches (x ++ (w ++ y)) x.length) (hw : TriviaBefore w y) :
    sameTokens (scan (x ++ (w ++ y))) (scan (x ++ y)) := by
  unfold scan
  rw [scanFrom_append x y 0 h1, scanFrom_append x (w ++ y) 0 h2, scanFrom_trivia hw]
  exact (sameTokens.refl _).append (sameTokens_scanFrom _ _ _)

/-! ### evaluation by `decide`: fuel versions of `scanFrom` and `Reaches`

`scanFrom` is defined by well-founded recursion, which the elaborator does not unfold; these structurally
recursive copies make concrete instances (non-vacuity, counterexamples) provable by `decide` and `rfl`.
The kernel unfolds `scanFrom` itself: `decide +kernel` needs no copy. -/

def scanFuel : Nat → Bytes → Nat → List Token
  | 0, _, _ => []
  | _ + 1, [], _ => []
  | n + 1, c :: rest, off =>
    (scanOne (c :: rest)).toks off ++
      scanFuel n ((c :: rest).drop (scanOne (c :: rest)).width) (off + (scanOne (c :: rest)).width)

theorem scanFuel_eq (n : Nat) : ∀ (s : Bytes) (off : Nat), s.length ≤ n → scanFuel n s off = scanFrom s off := by
  induction n with
  | zero =>
    intro s off h
    have : s = [] := List.eq_nil_of_length_eq_zero (by omega)
    subst this
    simp [scanFuel, scanFrom_nil]
  | succ n ih =>
    intro s off h
    cases s with
    | nil => simp [scanFuel, scanFrom_nil]
    | cons c rest =>
      have hpos := scanOne_width_pos c rest
      rw [scanFuel, scanFrom_step (by simp), ih]
      simp only [List.length_drop, List.length_cons] at h ⊢
      omega

theorem scan_eq_scanFuel (s : Bytes) : scan s = scanFuel s.length s 0 :=
  (scanFuel_eq s.length s 0 (Nat.le_refl _)).symm

def reachesFuel : Nat → Bytes → Nat → Bool
  | _, _, 0 => true
  | 0, _, _ + 1 => false
  | _ + 1, [], _ + 1 => false
  | f + 1, c :: rest, n + 1 =>
    decide ((scanOne (c :: rest)).width ≤ n + 1) &&
      reachesFuel f ((c :: rest).drop (scanOne (c :: rest)).width) (n + 1 - (scanOne (c :: rest)).width)

theorem reaches_of_fuel (f : Nat) : ∀ (s : Bytes) (n : Nat), reachesFuel f s n = true → Reaches s n := by
  induction f with
  | zero =>
    intro s n h
    cases n with
    | zero => exact Reaches.here s
    | succ n => simp [reachesFuel] at h
  | succ f ih =>
    intro s n h
    cases n with
    | zero => exact Reaches.here s
    | succ n =>
      cases s with
      | nil => simp [reachesFuel] at h
      | cons c rest =>
        simp only [reachesFuel, Bool.and_eq_true, decide_eq_true_eq] at h
        have := Reaches.step (c :: rest) _ (by simp) (ih _ _ h.2)
        have e : (scanOne (c :: rest)).width + (n + 1 - (scanOne (c :: rest)).width) = n + 1 := by omega
        rwa [e] at this

end Pql.Layout
