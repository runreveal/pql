/-
C13 exactness, the hypothesis discharged for parsed trees: every statement of an
error-free parse is well-formed in the sense of `wfStmt`.

`wfStmt` follows from three facts about the parser:
* `Stmt.Good` (ParseGood: no nil in a required position, when no error is reported);
* `pxStmt`: every expression below the statement uses known binary operators — of a pipeline
  whether or not errors were reported (`XTabInv`);
* `pcStmt`: extend columns have an expression and join flavours are the documented ones —
  when no error is reported.
-/
import PqlModel.Lemmas.ExactParseExpr
import PqlModel.Lemmas.ExactWrite
import PqlModel.Lemmas.ParseGood
import PqlModel.Lemmas.TreeInduct
namespace Pql.Exact
open Pql

def colsKnown (cs : List Column) : Bool := cs.all fun c => opsKnown c.x

mutual
def pxTab : Tabular → Bool
  | .nil => true
  | .mk _ ops => pxOps ops
def pxOp : Op → Bool
  | .where_ _ _ e => opsKnown e
  | .sort _ _ ts => sortTermsWf ts
  | .take _ _ n => opsKnown n
  | .top _ _ n _ c => opsKnown n && (match c with | some t => opsKnown t.x | none => true)
  | .project _ _ cs => colsKnown cs
  | .extend _ _ cs => colsKnown cs
  | .summarize _ _ cs _ gs => colsKnown cs && colsKnown gs
  | .join _ _ _ _ _ _ right _ _ conds => pxTab right && opsKnownList conds
  | _ => true
def pxOps : OpList → Bool
  | .nil => true
  | .cons o os => pxOp o && pxOps os
end

def pxStmt : Stmt → Bool
  | .let_ _ _ _ x => opsKnown x
  | .tabular t => pxTab t

mutual
def pcTab : Tabular → Bool
  | .nil => true
  | .mk _ ops => pcOps ops
def pcOp : Op → Bool
  | .extend _ _ cs => cs.all fun c => !isNilExpr c.x
  | .join _ _ _ _ fl _ right _ _ _ => flavorOK fl && pcTab right
  | _ => true
def pcOps : OpList → Bool
  | .nil => true
  | .cons o os => pcOp o && pcOps os
end

def pcStmt : Stmt → Bool
  | .let_ .. => true
  | .tabular t => pcTab t

theorem isNil_of_good {e : Expr} (h : e.Good) : isNilExpr e = false := by
  cases e <;> first | rfl | exact absurd h (by simp [Expr.Good])

theorem colWf_all_of_nonnil (cs : List Column) (hk : colsKnown cs = true)
    (hn : (cs.all fun c => !isNilExpr c.x) = true) : cs.all colWf = true := by
  rw [List.all_eq_true] at hn ⊢
  intro c hc
  unfold colsKnown at hk
  rw [List.all_eq_true] at hk
  unfold colWf
  rw [hk c hc, hn c hc]
  rfl

theorem colWf_all_of_good (cs : List Column) (hk : colsKnown cs = true) (hg : ∀ c ∈ cs, c.x.Good) :
    cs.all colWf = true :=
  colWf_all_of_nonnil cs hk (List.all_eq_true.2 fun c hc => by rw [isNil_of_good (hg c hc)]; rfl)

theorem wf_alg : TreeAlg (fun t => t.Good → pxTab t = true → pcTab t = true → wfTabular t = true)
    (fun o => o.Good → pxOp o = true → pcOp o = true → wfOp o = true)
    (fun ops => ops.Good → pxOps ops = true → pcOps ops = true → wfOps ops = true) where
  tnil := fun hg => hg.elim
  tmk := fun _ _ ih hg => ih hg.2
  onil := fun _ _ _ => rfl
  cons := fun _ _ iho ihl hg hx hc =>
    and_true' (iho hg.1 (and_true_of hx).1 (and_true_of hc).1) (ihl hg.2 (and_true_of hx).2 (and_true_of hc).2)
  count := fun _ _ _ _ _ => rfl
  where_ := fun _ _ _ _ hx _ => hx
  sort := fun _ _ _ _ hx _ => hx
  take := fun _ _ _ _ hx _ => hx
  top := fun _ _ _ _ _ hg hx _ => by
    obtain ⟨_, t, rfl, _⟩ := hg
    exact hx
  project := fun _ _ _ _ hx _ => hx
  extend := fun _ _ cs _ hx hc => colWf_all_of_nonnil cs hx hc
  summarize := fun _ _ cs _ gs hg hx _ =>
    and_true' (colWf_all_of_good cs (and_true_of hx).1 hg.1) (colWf_all_of_good gs (and_true_of hx).2 hg.2)
  join := fun _ _ _ _ _ _ _ _ _ _ ih hg hx hc =>
    and_true' (and_true_of hc).1 (and_true' (ih hg.1 (and_true_of hx).1 (and_true_of hc).2) (and_true_of hx).2)
  as_ := fun _ _ _ _ _ _ => rfl
  render := fun _ _ _ _ _ _ _ _ _ _ => rfl

theorem wfTab_of : ∀ t : Tabular, t.Good → pxTab t = true → pcTab t = true → wfTabular t = true :=
  wf_alg.tabular

theorem wfOps_of : ∀ ops : OpList, ops.Good → pxOps ops = true → pcOps ops = true → wfOps ops = true :=
  wf_alg.ops

theorem wfOp_of : ∀ o : Op, o.Good → pxOp o = true → pcOp o = true → wfOp o = true := wf_alg.op

theorem wfStmt_of (s : Stmt) (hg : s.Good) (hx : pxStmt s = true) (hc : pcStmt s = true) :
    wfStmt s = true := by
  cases s with
  | let_ kw name asg x =>
    rw [Stmt.Good] at hg
    rw [pxStmt] at hx
    rw [wfStmt, Bool.and_eq_true]
    exact ⟨Option.isSome_iff_ne_none.2 hg.1, hx⟩
  | tabular t =>
    rw [Stmt.Good] at hg
    rw [pxStmt] at hx
    rw [pcStmt] at hc
    rw [wfStmt]
    exact wfTab_of t hg hx hc


theorem pxOps_snoc : ∀ (ops : OpList) (o : Op), pxOps (ops.snoc o) = (pxOps ops && pxOp o)
  | .nil, o => by simp [OpList.snoc, pxOps]
  | .cons p ps, o => by simp [OpList.snoc, pxOps, pxOps_snoc ps o, Bool.and_assoc]

theorem px_alg : TabAlg False (opsKnown · = true) (opsKnownList · = true) (pxTab · = true)
    (pxOp · = true) (pxOps · = true) where
  tnil := fun _ => rfl
  tmk := fun _ _ h => h
  onil := rfl
  snoc := fun ops o ho h => by rw [pxOps_snoc, ho, h]; rfl
  count := fun _ _ => rfl
  where_ := fun _ _ _ h => h
  sort := fun _ _ ts h => by simpa [pxOp, sortTermsWf] using h
  take := fun _ _ _ h => h
  top := fun _ _ _ _ col h1 h2 _ => by cases col <;> simp_all [pxOp]
  project := fun _ _ cs h => by
    simp only [pxOp, colsKnown, List.all_eq_true]
    exact fun k hk => (h k hk).2.elim (fun hn => by rw [hn]; rfl) id
  extend := fun _ _ cs h => by simpa [pxOp, colsKnown] using h
  summarize := fun _ _ _ _ _ h1 h2 => by
    simp only [pxOp, colsKnown, Bool.and_eq_true, List.all_eq_true]; exact ⟨h1, h2⟩
  join := fun _ _ _ _ _ _ _ _ _ _ _ h1 h2 => by simp only [pxOp, h1, h2, Bool.and_self]
  as_ := fun _ _ _ _ => rfl
  render := fun _ _ _ _ _ _ _ _ _ _ => rfl

structure XTabInv (c : PCtx) (fuel : Nat) : Prop where
  tabular : ∀ ts, pxTab (pTabular c fuel ts).val = true
  ops : ∀ ops acc ts, pxOps ops = true → pxOps (pOps c fuel ops acc ts).val = true
  operator : ∀ pipe name ts r, pOperator c fuel pipe name ts = some r → pxOp r.val = true
  join : ∀ pipe kw ts, pxOp (pJoin c fuel pipe kw ts).val = true

theorem xTabInv (c : PCtx) (fuel : Nat) : XTabInv c fuel :=
  have g := tabShape (c := c) px_alg (fun _ ⟨f, ts, he, _⟩ => he ▸ pExpr_opsKnown c f ts)
    (fun _ ⟨f, ts, he, _⟩ => he ▸ pExprList_opsKnown c f ts) fuel
  { tabular := fun ts => g.tabular ts nofun
    ops := fun ops acc ts => (g.ops ops acc ts nofun).2
    operator := fun pipe name ts r hr => g.operator pipe name ts r hr nofun
    join := fun pipe kw ts => g.join pipe kw ts nofun }

theorem pTabular_known (c : PCtx) (fuel : Nat) (ts : List Token) :
    pxTab (pTabular c fuel ts).val = true := (xTabInv c fuel).tabular ts

theorem pcOps_snoc : ∀ (ops : OpList) (o : Op), pcOps (ops.snoc o) = (pcOps ops && pcOp o)
  | .nil, o => by simp [OpList.snoc, pcOps]
  | .cons p ps, o => by simp [OpList.snoc, pcOps, pcOps_snoc ps o, Bool.and_assoc]

theorem pc_alg : TabAlg True Expr.Good ExprList.Good (pcTab · = true) (pcOp · = true)
    (pcOps · = true) where
  tnil := fun _ => rfl
  tmk := fun _ _ h => h
  onil := rfl
  snoc := fun ops o ho h => by rw [pcOps_snoc, ho, h]; rfl
  count := fun _ _ => rfl
  where_ := fun _ _ _ _ => rfl
  sort := fun _ _ _ _ => rfl
  take := fun _ _ _ _ => rfl
  top := fun _ _ _ _ _ _ _ _ => rfl
  project := fun _ _ _ _ => rfl
  extend := fun _ _ cs h => by
    simp only [pcOp, List.all_eq_true]
    intro k hk; rw [isNil_of_good (h k hk)]; rfl
  summarize := fun _ _ _ _ _ _ _ => rfl
  join := fun _ _ _ _ fl _ _ _ _ _ hf h1 _ => by
    have : flavorOK fl = true := by
      cases fl with
      | none => rfl
      | some x => exact hf trivial x rfl
    simp only [pcOp, this, h1, Bool.and_self]
  as_ := fun _ _ _ _ => rfl
  render := fun _ _ _ _ _ _ _ _ _ _ => rfl

structure CTabInv (c : PCtx) (fuel : Nat) : Prop where
  tabular : ∀ ts, (pTabular c fuel ts).errs = [] → pcTab (pTabular c fuel ts).val = true
  ops : ∀ ops acc ts, (pOps c fuel ops acc ts).errs = [] → pcOps ops = true →
    pcOps (pOps c fuel ops acc ts).val = true
  operator : ∀ pipe name ts r, pOperator c fuel pipe name ts = some r → r.errs = [] → pcOp r.val = true
  join : ∀ pipe kw ts, (pJoin c fuel pipe kw ts).errs = [] → pcOp (pJoin c fuel pipe kw ts).val = true

theorem cTabInv (c : PCtx) (fuel : Nat) : CTabInv c fuel :=
  have g := tabShapeOk pc_alg (fun _ _ _ => pExpr_good) (fun _ _ _ => pExprList_good) c fuel
  { tabular := fun ts h => g.tabular ts fun _ => h
    ops := fun ops acc ts h => (g.ops ops acc ts fun _ => h).2
    operator := fun pipe name ts r hr h => g.operator pipe name ts r hr fun _ => h
    join := fun pipe kw ts h => g.join pipe kw ts fun _ => h }

theorem pTabular_pc {c : PCtx} {fuel : Nat} {ts : List Token}
    (h : (pTabular c fuel ts).errs = []) : pcTab (pTabular c fuel ts).val = true :=
  (cTabInv c fuel).tabular ts h

theorem parseTokens_pc {srcLen : Nat} {ts : List Token} {stmts : List Stmt}
    (h : parseTokens srcLen ts = (stmts, [])) : ∀ s ∈ stmts, pcStmt s = true :=
  ParsedOK.parseTokens_stmts (S := (pcStmt · = true)) (fun _ _ _ _ _ _ => rfl)
    (fun _ _ _ he => pTabular_pc he) h

/-- **Every statement of an error-free parse is well-formed** (the hypothesis of `C13_exact`). -/
theorem parseTokens_wf {srcLen : Nat} {ts : List Token} {stmts : List Stmt}
    (h : parseTokens srcLen ts = (stmts, [])) : ∀ s ∈ stmts, wfStmt s = true := by
  intro s hs
  have hg := parseTokens_good h s hs
  have hx : pxStmt s = true :=
    ParsedOK.parseTokens_stmts (S := (pxStmt · = true)) (fun _ _ _ _ _ _ => pExpr_opsKnown ..)
      (fun _ _ _ _ => pTabular_known ..) h s hs
  have hc := parseTokens_pc h s hs
  exact wfStmt_of s hg hx hc
end Pql.Exact
