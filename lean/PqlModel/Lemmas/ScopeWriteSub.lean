/-
`Subquery.write` commutes with substitution (up to parentheses), given that `writeExpr` does in default
mode: what `substOp` / `substTerm` / `substExpr` make of a subquery is written like the subquery itself
(`SubAlike`, Lemmas/WriterCongStmt.lean).
-/
import PqlModel.Lemmas.ScopeProgram
namespace Pql
open CompileOracle

section
variable {src : Bytes} {sc s0 : Scope} {env : List (Bytes × Expr)}

theorem substColumn_of_ne_nil (c : Column) (h : c.x ≠ .nil) :
    substColumn env c = { c with x := substExpr env c.x } := by
  obtain ⟨nm, asg, x⟩ := c
  cases x with
  | nil => exact absurd rfl h
  | _ => rfl

/-- `project name` under substitution: the shorthand is resolved like the name itself -/
theorem projExpr_substColumn (c : Column) :
    projExpr (substColumn env c) = substExpr env (projExpr c) ∧ (substColumn env c).name = c.name := by
  obtain ⟨nm, asg, x⟩ := c
  cases x with
  | nil =>
    cases nm with
    | none => exact ⟨by simp only [substColumn, substExpr, projExpr], rfl⟩
    | some n =>
      cases hf : List.find? (fun x => x.fst == n.name) env with
      | none =>
        cases hq : n.quoted <;> simp [substColumn, projExpr, substExpr, hf, hq]
      | some kv =>
        obtain ⟨k, v⟩ := kv
        cases hq : n.quoted <;> simp [substColumn, projExpr, substExpr, hf, hq]
  | qident parts =>
    refine ⟨?_, rfl⟩
    show projExpr { name := nm, assign := asg, x := substExpr env (.qident parts) } = substExpr env (.qident parts)
    match parts with
    | [] | _ :: _ :: _ => simp only [substExpr, projExpr]
    | [p] =>
      simp only [substExpr]
      split
      · rfl
      · split <;> rfl
  | lit | unary | binary | inE | paren | call | index =>
    exact ⟨by simp only [substColumn, substExpr, projExpr], rfl⟩

theorem projCol_rel (HD : WriteRel src sc s0 env .default) (c : Column) :
    ExRel EqUpToParens (projCol ⟨src, sc, .default⟩ c) (projCol ⟨src, s0, .default⟩ (substColumn env c)) := by
  rw [projCol_eq, projCol_eq, (projExpr_substColumn c).1, (projExpr_substColumn c).2]
  exact ExRel.bind (HD _) fun a b hab => ExRel.pure_pure (EqUpToParens.append hab (.refl _))

theorem columnAlias_named (ctx ctx' : Ctx) (c c' : Column) (hn : c.name.isSome = true) (hc : c'.name = c.name) :
    columnAlias ctx' c' = columnAlias ctx c := by
  unfold columnAlias
  rw [hc]
  cases hnm : c.name with
  | none => rw [hnm] at hn; cases hn
  | some n => rfl

theorem colAlike_subst (HD : WriteRel src sc s0 env .default) (c : Column) (hc : ColNamed c) :
    ColAlike EqUpToParens ⟨src, sc, .default⟩ ⟨src, s0, .default⟩ c (substColumn env c) := by
  rw [substColumn_of_ne_nil c hc.2]
  refine ⟨HD c.x, ?_⟩
  rw [columnAlias_named ⟨src, sc, .default⟩ ⟨src, s0, .default⟩ c { c with x := substExpr env c.x } hc.1 rfl]
  exact ExRel.refl' EqUpToParens.refl _

theorem substOp_alike (HD : WriteRel src sc s0 env .default) (o : Op) (hn : colsNamed o) :
    OpAlike EqUpToParens ⟨src, sc, .default⟩ ⟨src, s0, .default⟩ o (substOp env o) := by
  cases o with
  | where_ p k e => exact .where_ (HD e)
  | project p k cs => exact .project (ListRel.of_map _ fun c _ => projCol_rel HD c)
  | extend p k cs => exact .extend (ListRel.of_map _ fun c hc => colAlike_subst HD c (hn c hc))
  | summarize p k cs b gs =>
    exact .summarize (ListRel.of_map _ fun c hc => colAlike_subst HD c (hn.1 c hc))
      (ListRel.of_map _ fun c hc => colAlike_subst HD c (hn.2 c hc))
  | render => exact .render (.refl _) (.refl _)
  | count => exact .count
  | as_ => exact .as_
  | sort | take | top | join => exact .other rfl rfl

theorem Subquery_write_rel (HD : WriteRel src sc s0 env .default) {a b : Subquery} (h : SubRel env a b) :
    ExRel EqUpToParens (a.write ⟨src, sc, .default⟩) (b.write ⟨src, s0, .default⟩) :=
  have hF := EqUpToParens.cong.frame
  Subquery.write_alike hF (.of_map hF h.source h.op h.sort h.take
    (fun o ho => substOp_alike HD o (by have hn := h.named; rwa [ho] at hn))
    (fun _ _ t _ => ⟨HD t.x, rfl, rfl⟩) fun n _ => HD n)

theorem subRel_alike (HD : WriteRel src sc s0 env .default) (a b : Subquery) (h : SubRel env a b) :
    EqUpToParens [.qid a.name] [.qid b.name] ∧
      ExRel EqUpToParens (a.write ⟨src, sc, .default⟩) (b.write ⟨src, s0, .default⟩) :=
  ⟨by rw [h.name]; exact .refl _, Subquery_write_rel HD h⟩

end

end Pql
