/-
Programs with lets: the documented splitting `Intended.splitA` commutes with the resolution of
lets — the chain of the resolved pipeline `substTabular env t` is the chain of `t` with every link
resolved (`substSubA env`).  (The specification-level counterpart of `Pql.splitQueries_rel`.)
Alongside: every extend / summarize operator of the chain has named columns if the pipeline has
(`tabNamed`).
-/
import PqlModel.Lemmas.E2EFinalScopedParts
import PqlModel.Lemmas.ParsedOKLeaves
import PqlModel.Lemmas.SplitARun
namespace Pql.E2EFinal
set_option linter.unusedSimpArgs false
open Pql Sql CompileOracle Intended Pql.ParsedOK Pql.C05

/-- the join condition commutes with the resolution of lets: no let is called `true`, or the condition
    list is not empty (as in every parsed program) -/
theorem buildJoin_subst' {env : List (Bytes × Expr)} {conds : ExprList}
    (h : TrueFree env ∨ (conds.length != 0) = true) :
    buildJoinCondition (substConds env conds) = substExpr env (buildJoinCondition conds) := by
  cases conds with
  | nil =>
    rcases h with h | h
    · exact buildJoin_subst env h .nil
    · simp [ExprList.length] at h
  | cons c cs =>
    simp only [substConds, buildJoinCondition, rewriteSimple_subst]
    exact buildJoinGo_subst env cs _

theorem opsNE_tail {env : List (Bytes × Expr)} {o : Op} {os : OpList} (h : TrueFree env ∨ OpsNE (.cons o os) = true) :
    TrueFree env ∨ OpsNE os = true :=
  h.imp id fun h => by simp only [OpsNE, Bool.and_eq_true] at h; exact h.2

theorem joinNE_right {env : List (Bytes × Expr)} {p k kind ka : Span} {fl : Option Ident} {lp : Span} {right : Tabular}
    {rp on : Span} {conds : ExprList} {os : OpList}
    (h : TrueFree env ∨ OpsNE (.cons (.join p k kind ka fl lp right rp on conds) os) = true) :
    TrueFree env ∨ TabNE right = true :=
  h.imp id fun h => by simp only [OpsNE, OpNE, Bool.and_eq_true] at h; exact h.1.1

theorem joinNE_conds {env : List (Bytes × Expr)} {p k kind ka : Span} {fl : Option Ident} {lp : Span} {right : Tabular}
    {rp on : Span} {conds : ExprList} {os : OpList}
    (h : TrueFree env ∨ OpsNE (.cons (.join p k kind ka fl lp right rp on conds) os) = true) :
    TrueFree env ∨ (conds.length != 0) = true :=
  h.imp id fun h => by simp only [OpsNE, OpNE, Bool.and_eq_true] at h; exact h.1.2

section
variable (env : List (Bytes × Expr))

local notation "σ" => substSubA env

def NamedAll (dst : List SubA) : Prop := ∀ a ∈ dst, optColsNamed a.op

theorem NamedAll.snoc {dst : List SubA} {a : SubA} (h : NamedAll dst) (ha : optColsNamed a.op) :
    NamedAll (dst ++ [a]) :=
  List.forall_mem_append.2 ⟨h, List.forall_mem_singleton.2 ha⟩

theorem getLast_name (dst : List SubA) :
    (match (dst.map σ).getLast? with | some s => s.name | none => []) =
    (match dst.getLast? with | some s => s.name | none => []) := by
  rw [List.getLast?_map]
  cases dst.getLast? <;> rfl

theorem getElem_name (dst : List SubA) (i : Nat) :
    (match (dst.map σ)[i]? with | some s => s.name | none => []) =
    (match dst[i]? with | some s => s.name | none => []) := by
  rw [List.getElem?_map]
  cases dst[i]? <;> rfl

theorem chainA_subst (dst : List SubA) (ds : Nat) (source : Option Ident) :
    chainA (dst.map σ) ds source = σ (chainA dst ds source) := by
  unfold chainA
  simp only [List.length_map, substSubA, substSrcA, Option.map_none]
  congr 2
  split
  · exact getLast_name env dst
  · rfl

theorem lastOfA_subst (dst : List SubA) (ds : Nat) : lastOfA (dst.map σ) ds = (lastOfA dst ds).map σ := by
  unfold lastOfA
  simp only [List.length_map, List.getLast?_map]
  split <;> rfl

theorem setLastA_subst (dst : List SubA) (f g : SubA → SubA) (hfg : ∀ s, g (σ s) = σ (f s)) :
    setLastA (dst.map σ) g = (setLastA dst f).map σ := by
  unfold setLastA
  rw [← List.map_reverse]
  cases dst.reverse with
  | nil => rfl
  | cons s rest =>
    simp only [List.map_cons, hfg, ← List.map_reverse, List.reverse_cons, List.map_append, List.map_nil]

theorem attach_subst (c : Bool) (dst : List SubA) (ds : Nat) (source : Option Ident) :
    (if c = true then dst.map σ else dst.map σ ++ [chainA (dst.map σ) ds source]) =
      (if c = true then dst else dst ++ [chainA dst ds source]).map σ := by
  cases c
  · simp only [Bool.false_eq_true, if_false, List.map_append, chainA_subst, List.map_cons, List.map_nil]
  · rfl

theorem attach3_subst (l : Option SubA) :
    (match l.map σ with
      | some l => canAttachSort l.op && l.sort.isNone && l.take.isNone
      | none => false) =
    (match l with
      | some l => canAttachSort l.op && l.sort.isNone && l.take.isNone
      | none => false) := by
  cases l with
  | none => rfl
  | some l => simp only [Option.map_some, substSubA, canAttachSort_subst, Option.isNone_map]

theorem attach2_subst (l : Option SubA) :
    (match l.map σ with
      | some l => canAttachSort l.op && l.take.isNone
      | none => false) =
    (match l with
      | some l => canAttachSort l.op && l.take.isNone
      | none => false) := by
  cases l with
  | none => rfl
  | some l => simp only [Option.map_some, substSubA, canAttachSort_subst, Option.isNone_map]

theorem storeA_subst (o : Op) (s : SubA) : storeA (substOp env o) (σ s) = σ (storeA o s) := by
  cases o with
  | top p k n b col => cases col <;> rfl
  | _ => rfl

theorem attachesA_subst (o : Op) (l : SubA) : attachesA (substOp env o) (σ l) = attachesA o l := by
  cases o with
  | top p k n b col =>
    cases col <;> simp only [substOp, attachesA, substSubA, canAttachSort_subst, Option.isNone_map, Option.map_none,
      Option.map_some]
  | sort | take => simp only [substOp, attachesA, substSubA, canAttachSort_subst, Option.isNone_map]
  | _ => rfl

theorem placeA_subst (source : Option Ident) (ds : Nat) (o : Op) (dst : List SubA) :
    placeA source ds (substOp env o) (dst.map σ) = (placeA source ds o dst).map σ := by
  unfold placeA
  rw [lastOfA_subst]
  cases lastOfA dst ds <;>
    simp only [Option.map_none, Option.map_some, attachesA_subst, attach_subst,
      setLastA_subst env _ (storeA o) _ (storeA_subst env o)]

theorem steps_subst {o : Op} (h : SplitQ.steps o = true) : SplitQ.steps (substOp env o) = true :=
  (kind_substOp o).1.trans h

theorem closeA_subst (mid : List SubA) (ds : Nat) (source : Option Ident) :
    closeA (mid.map σ) ds source = (closeA mid ds source).map σ := by
  unfold closeA
  rw [List.length_map]
  split
  · rw [List.map_append, chainA_subst]; rfl
  · rfl

theorem joinLinkA_subst (source : Option Ident) (ds n : Nat) (d : List SubA) (flavor : Option Ident) (left : Bool)
    {conds : ExprList} (h : TrueFree env ∨ (conds.length != 0) = true) :
    joinLinkA source ds n (d.map σ) flavor left (substConds env conds) = σ (joinLinkA source ds n d flavor left conds) := by
  simp only [joinLinkA, joinLeftA, joinRightA, buildJoin_subst' h, List.length_map, List.getLast?_map,
    List.getElem?_map, substSubA, substSrcA, Option.map_none]
  cases d.getLast? <;> cases d[((n : Int) - 1).toNat]? <;> rfl

variable {env}

theorem storeA_named {o : Op} {a : SubA} (ho : SplitQ.steps o = true) (hN : opNamed o) (ha : optColsNamed a.op) :
    optColsNamed (storeA o a).op := by
  cases o with
  | join => cases ho
  | top p k n b col => cases col <;> first | exact ha | cases ho
  | sort | take => exact ha
  | extend | summarize => exact hN
  | _ => trivial

theorem _root_.Pql.C05.RunA.subst {source : Option Ident} {ds : Nat} {dst out : List SubA} {ops : OpList}
    (h : RunA source ds dst ops out) (hJ : TrueFree env ∨ OpsNE ops = true) (hN : opsNamed ops) (hd : NamedAll dst) :
    splitOpsA source ds (dst.map σ) (substOps env ops) = some (out.map σ) ∧ NamedAll out := by
  induction h with
  | nil => exact ⟨by simp only [substOps, splitOpsA], hd⟩
  | @step source ds dst rest out o ho _ ih =>
    simp only [opsNamed] at hN
    simp only [substOps]
    rw [splitOpsA_step _ _ _ (steps_subst env ho), placeA_subst]
    exact ih (opsNE_tail hJ) hN.2 (placeA_forall hd trivial fun a => storeA_named ho hN.1)
  | @join source ds dst rest out p kw kind ka flavor lp rsource rops rp on conds left mid d hl _ hd' _ ihr ih =>
    simp only [opsNamed, opNamed, tabNamed] at hN
    obtain ⟨ihr1, ihrN⟩ := ihr ((joinNE_right hJ).imp id fun h => by simpa only [TabNE] using h) hN.1 hd
    have hdN : NamedAll d := by
      rw [hd']; unfold closeA; split
      · exact ihrN.snoc trivial
      · exact ihrN
    obtain ⟨ih1, ihN⟩ := ih (opsNE_tail hJ) hN.2 (hdN.snoc trivial)
    refine ⟨?_, ihN⟩
    simp only [substOps, substOp, substTabular]
    rw [splitOpsA_join, splitA_mk, List.length_map, ihr1, hl]
    rw [List.map_append, List.map_cons, List.map_nil, ← joinLinkA_subst env _ _ _ _ _ _ (joinNE_conds hJ), hd',
      ← closeA_subst] at ih1
    exact ih1

theorem splitOpsA_subst : (ops : OpList) → (TrueFree env ∨ OpsNE ops = true) → opsNamed ops → (source : Option Ident) → (ds : Nat) →
    (dst out : List SubA) → NamedAll dst → splitOpsA source ds dst ops = some out →
    splitOpsA source ds (dst.map σ) (substOps env ops) = some (out.map σ) ∧ NamedAll out :=
  fun ops hJ hN source ds dst out hd h => (splitOpsA_run ops source ds dst out h).subst hJ hN hd

theorem splitA_subst (t : Tabular) (hJ : TrueFree env ∨ TabNE t = true) (hN : tabNamed t) (dst out : List SubA)
    (hd : NamedAll dst) (h : splitA dst t = some out) :
    splitA (dst.map σ) (substTabular env t) = some (out.map σ) ∧ NamedAll out := by
  obtain ⟨source, ops, mid, rfl, hrun, rfl⟩ := splitA_run t dst out h
  obtain ⟨h1, h2⟩ := hrun.subst (hJ.imp id fun h => by simpa only [TabNE] using h) hN hd
  simp only [substTabular]
  rw [splitA_mk, List.length_map, h1, Option.map_some, closeA_subst]
  refine ⟨rfl, ?_⟩
  unfold closeA
  split
  · exact h2.snoc trivial
  · exact h2

end

end Pql.E2EFinal
