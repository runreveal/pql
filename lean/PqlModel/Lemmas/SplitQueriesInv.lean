/-
Invariants of the operator loop of `splitQueries`, by induction over `Run`
(Lemmas/SplitQueriesRun.lean): ORDER BY / LIMIT only where `canAttachSort` allows (clause 1),
the list only grows (clause 5), names by index (clause 3); and `Run.forall_mem`: a property of single
subqueries holds of the whole result when it holds of everything a step can put into the list.
The clauses are numbered as the theorems of Props/C02Split.lean number them: 1 sort placement, 2 the pipeline
reading (Lemmas/SplitQueriesClauses.lean), 3 names by index, 4 who reads whom (Lemmas/SplitQueriesBlock.lean),
5 the list only grows; 1 and 2 belong to property C02, 3 to 5 to C05.
-/
import PqlModel.Lemmas.SplitQueriesRun
namespace Pql.SplitQ
open Pql

def SortOk (s : Subquery) : Prop := (s.sort.isSome ∨ s.take.isSome) → canAttachSort s.op = true

/-! Pointwise properties are stated of the subqueries from an index `k` on (`k = 0`: of all). -/

theorem forall_drop_snoc {P : Subquery → Prop} {dst : List Subquery} {k : Nat} {x : Subquery}
    (h : ∀ s ∈ dst.drop k, P s) (hx : P x) : ∀ s ∈ (dst ++ [x]).drop k, P s := by
  intro s hs
  rw [List.drop_append, List.mem_append] at hs
  rcases hs with hs | hs
  · exact h s hs
  · rw [List.mem_singleton.mp (List.mem_of_mem_drop hs)]; exact hx

theorem forall_drop_last {P : Subquery → Prop} {init : List Subquery} {k : Nat} {l l' : Subquery}
    (h : ∀ s ∈ (init ++ [l]).drop k, P s) (hl : P l → P l') : ∀ s ∈ (init ++ [l']).drop k, P s := by
  intro s hs
  rw [List.drop_append, List.mem_append] at hs
  rcases hs with hs | hs
  · exact h s (by rw [List.drop_append]; exact List.mem_append_left _ hs)
  · cases hm : k - init.length with
    | zero =>
      rw [hm, List.drop_zero, List.mem_singleton] at hs
      exact hs ▸ hl (h l (by rw [List.drop_append, hm]; exact List.mem_append_right _ (List.mem_singleton_self l)))
    | succ m => rw [hm, List.drop_succ_cons, List.drop_nil] at hs; cases hs

theorem forall_drop_closeBlock {P : Subquery → Prop} {mid : List Subquery} {k n : Nat} {source : Option Ident}
    (h : ∀ s ∈ mid.drop n, P s) (hx : P (chainSubquery mid k source)) :
    ∀ s ∈ (closeBlock mid k source).drop n, P s := by
  unfold closeBlock
  split
  · exact forall_drop_snoc h hx
  · exact h

theorem forall_closeBlock {P : Subquery → Prop} {mid : List Subquery} {k : Nat} {source : Option Ident}
    (h : ∀ s ∈ mid, P s) (hx : P (chainSubquery mid k source)) : ∀ s ∈ closeBlock mid k source, P s :=
  forall_drop_closeBlock (n := 0) h hx

/-- a fresh subquery: `sort` / `take` / `top` find no operator in it, the others set neither field -/
theorem sortOk_store_chain (o : Op) (dst : List Subquery) (k : Nat) (source : Option Ident) :
    SortOk (store o (chainSubquery dst k source)) := by
  unfold store; split <;> simp [SortOk, chainSubquery, canAttachSort]

theorem joinLeft_cases (source : Option Ident) (dstStart n : Nat) (dst' : List Subquery) :
    joinLeft source dstStart n dst' = [] ∨ ∃ m, joinLeft source dstStart n dst' = [.qid m] := by
  unfold joinLeft
  split
  · split
    · exact .inr ⟨_, rfl⟩
    · exact .inl rfl
  · exact .inr ⟨_, rfl⟩

/-- **Pointwise invariants of the split.**  `P` holds of every subquery of the result from index `k` on when
    it holds of those the run starts from and of everything a step can put into the list: a fresh chained
    subquery (`hchain`, also the one `closeBlock` adds), an operator stored in a fresh subquery (`hfresh`)
    or attached to the last one (`hattach`), and a join subquery (`hjoin`).  `Q` / `Qo` / `Qc` is the side
    condition on the tree, in whatever form the caller has it: it only has to split along `cons` and to
    enter the right-hand pipeline of a join. -/
theorem Run.forall_mem {src : Bytes} {scope : List (Bytes × List Chunk)}
    {P : Subquery → Prop} {Q : OpList → Prop} {Qo : Op → Prop} {Qc : ExprList → Prop}
    (hcons : ∀ o rest, Q (.cons o rest) → Qo o ∧ Q rest)
    (hright : ∀ p k kind ka flavor lp rsource rops rp on conds,
      Qo (.join p k kind ka flavor lp (.mk rsource rops) rp on conds) → Q rops ∧ Qc conds)
    (hchain : ∀ dst k source, P (chainSubquery dst k source))
    (hfresh : ∀ o dst k source, steps o = true → Qo o → P (store o (chainSubquery dst k source)))
    (hattach : ∀ o l, attaches o l = true → Qo o → P l → P (store o l))
    (hjoin : ∀ conds unique kw l r cond n, Qc conds → (kw = " JOIN " ∨ kw = " LEFT JOIN ") →
      (l = [] ∨ ∃ m, l = [.qid m]) → writeExpr ⟨src, scope, .join⟩ (buildJoinCondition conds) = .ok cond →
      P { name := n, source := joinSourceOf unique kw l r cond })
    {source : Option Ident} {dstStart : Nat} {dst out : List Subquery} {ops : OpList}
    (h : Run src scope source dstStart dst ops out) (k : Nat) :
    Q ops → (∀ s ∈ dst.drop k, P s) → ∀ s ∈ out.drop k, P s := by
  induction h with
  | nil => exact fun _ hd => hd
  | chain o ho _ ih =>
    exact fun hq hd => ih (hcons _ _ hq).2 (forall_drop_snoc hd (hfresh o _ _ _ ho (hcons _ _ hq).1))
  | attach o init l hk ha _ ih =>
    exact fun hq hd => ih (hcons _ _ hq).2 (forall_drop_last hd (hattach o l ha (hcons _ _ hq).1))
  | join p k kind ka flavor lp rsource rops rp on conds unique kw cond mid dst' hkw hcond _ hd' _ ih1 ih2 =>
    intro hq hd; subst hd'
    have hr := hright _ _ _ _ _ _ _ _ _ _ _ (hcons _ _ hq).1
    exact ih2 (hcons _ _ hq).2 (forall_drop_snoc (forall_drop_closeBlock (ih1 hr.1 hd) (hchain _ _ _))
      (hjoin conds unique kw _ _ cond _ hr.2 hkw (joinLeft_cases ..) hcond))

theorem run_sortOk {src : Bytes} {scope : List (Bytes × List Chunk)} {source : Option Ident} {dstStart : Nat}
    {dst out : List Subquery} {ops : OpList}
    (h : Run src scope source dstStart dst ops out) : (∀ s ∈ dst, SortOk s) → ∀ s ∈ out, SortOk s :=
  Run.forall_mem (Q := fun _ => True) (Qo := fun _ => True) (Qc := fun _ => True)
    (fun _ _ _ => ⟨trivial, trivial⟩) (fun _ _ _ _ _ _ _ _ _ _ _ _ => ⟨trivial, trivial⟩)
    (fun _ _ _ => by simp [SortOk, chainSubquery]) (fun o _ _ _ _ _ => sortOk_store_chain o _ _ _)
    (fun _ _ ha _ _ _ => (store_of_attaches ha).2.1 ▸ (store_of_attaches ha).2.2)
    (fun _ _ _ _ _ _ _ _ _ _ _ => by simp [SortOk]) h 0 trivial

theorem take_prefix_append (l m : List Subquery) (n : Nat) : l.take n <+: (l ++ m).take n := by
  rw [List.take_append]
  exact List.prefix_append _ _

theorem take_prefix_of_prefix {l m : List Subquery} (h : l <+: m) (n : Nat) : l.take n <+: m.take n := by
  obtain ⟨t, rfl⟩ := h
  exact take_prefix_append l t n

theorem closeBlock_prefix (mid : List Subquery) (k : Nat) (source : Option Ident) :
    mid <+: closeBlock mid k source := by
  unfold closeBlock; split
  · exact List.prefix_append _ _
  · exact List.prefix_refl _

theorem run_grows {src : Bytes} {scope : List (Bytes × List Chunk)} {source : Option Ident} {dstStart : Nat} {dst out : List Subquery} {ops : OpList}
    (h : Run src scope source dstStart dst ops out) : dst.take dstStart <+: out ∧ dst.length ≤ out.length := by
  induction h with
  | nil => exact ⟨List.take_prefix _ _, Nat.le_refl _⟩
  | chain o ho _ ih =>
    exact ⟨(take_prefix_append _ _ _).trans ih.1, by have := ih.2; simp at this; omega⟩
  | attach o init l hk ha _ ih =>
    refine ⟨?_, by simpa using ih.2⟩
    rw [List.take_append_of_le_length hk, ← List.take_append_of_le_length (l₂ := [store o l]) hk]
    exact ih.1
  | @join source dstStart dst rest out p k kind ka flavor lp rsource rops rp on conds unique kw cond mid dst' hkw hcond _ hd' _ ih1 ih2 =>
    subst hd'
    have hpre : dst <+: closeBlock mid dst.length rsource := by
      have := ih1.1
      rw [List.take_length] at this
      exact this.trans (closeBlock_prefix _ _ _)
    have hpre' : ∀ x : Subquery, dst <+: closeBlock mid dst.length rsource ++ [x] :=
      fun x => hpre.trans (List.prefix_append _ [x])
    exact ⟨(take_prefix_of_prefix (hpre' _) _).trans ih2.1, Nat.le_trans (hpre' _).length_le ih2.2⟩

def NameOk (i : Nat) (s : Subquery) : Prop :=
  s.name = subqueryName i ∨ ∃ p k n, s.op = some (.as_ p k n) ∧ s.name = identName n

def NamesOk (dst : List Subquery) : Prop := ∀ (i : Nat) (h : i < dst.length), NameOk i dst[i]

theorem namesOk_snoc {dst : List Subquery} {s : Subquery} (h : NamesOk dst) (hs : NameOk dst.length s) :
    NamesOk (dst ++ [s]) := by
  intro i hi
  by_cases hlt : i < dst.length
  · rw [List.getElem_append_left hlt]; exact h i hlt
  · have : i = dst.length := by simp at hi; omega
    subst this
    simpa using hs

theorem namesOk_init {init : List Subquery} {l : Subquery} (h : NamesOk (init ++ [l])) :
    NamesOk init ∧ NameOk init.length l := by
  constructor
  · intro i hi
    have := h i (by simp; omega)
    rwa [List.getElem_append_left hi] at this
  · have := h init.length (by simp)
    simpa using this

theorem namesOk_closeBlock {mid : List Subquery} {k : Nat} {source : Option Ident} (h : NamesOk mid) :
    NamesOk (closeBlock mid k source) := by
  unfold closeBlock; split
  · exact namesOk_snoc h (.inl rfl)
  · exact h

theorem nameOk_store_chain (o : Op) (dst : List Subquery) (k : Nat) (source : Option Ident) :
    NameOk dst.length (store o (chainSubquery dst k source)) := by
  cases o with
  | as_ p k name => exact .inr ⟨p, k, name, rfl, rfl⟩
  | top p k n b col => cases col <;> exact .inl rfl
  | _ => exact .inl rfl

theorem run_namesOk {src : Bytes} {scope : List (Bytes × List Chunk)} {source : Option Ident} {dstStart : Nat} {dst out : List Subquery} {ops : OpList}
    (h : Run src scope source dstStart dst ops out) : NamesOk dst → NamesOk out := by
  induction h with
  | nil => exact id
  | chain o ho _ ih => exact fun hd => ih (namesOk_snoc hd (nameOk_store_chain o _ _ _))
  | attach o init l hk ha _ ih =>
    intro hd
    have hl := store_of_attaches ha
    refine ih (namesOk_snoc (namesOk_init hd).1 ?_)
    unfold NameOk; rw [hl.1, hl.2.1]; exact (namesOk_init hd).2
  | join p k kind ka flavor lp rsource rops rp on conds unique kw cond mid dst' hkw hcond _ hd' _ ih1 ih2 =>
    intro hd; subst hd'
    exact ih2 (namesOk_snoc (namesOk_closeBlock (ih1 hd)) (.inl rfl))

end Pql.SplitQ
