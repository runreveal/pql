/-
`split` on a token list that begins with the tokens of a tree: the tree's tokens are
bracket-balanced, so the split point is never inside them.

`PassesAt search stack ts` : scanning for `search` with `stack` as the pending closers runs
through all of `ts` and continues behind it with the same stack.

Every token of a (well-grouped) expression has an expression kind: no `=`, `|`, `;`, `by`, and no
error token.
-/
import PqlModel.Lemmas.ForwardBasic
namespace Pql
open Grammar

def PassesAt (search : TokKind) (stack : List TokKind) (ts : List Token) : Prop :=
  ∀ rest, splitAux search stack (ts ++ rest) =
    (ts ++ (splitAux search stack rest).1, (splitAux search stack rest).2)

theorem passesAt_nil (search : TokKind) (stack : List TokKind) : PassesAt search stack [] := by
  intro rest; simp

theorem passesAt_append {search : TokKind} {stack : List TokKind} {a b : List Token}
    (ha : PassesAt search stack a) (hb : PassesAt search stack b) : PassesAt search stack (a ++ b) := by
  intro rest
  rw [List.append_assoc, ha, hb]
  simp

theorem passesAt_single {search : TokKind} {stack : List TokKind} {t : Token}
    (h1 : t.kind ≠ .lparen) (h2 : t.kind ≠ .lbracket) (h3 : t.kind ≠ .rparen) (h4 : t.kind ≠ .rbracket)
    (h5 : t.kind ≠ search) : PassesAt search stack [t] := by
  intro rest
  simp only [List.cons_append, List.nil_append]
  rw [splitAux]
  simp [h1, h2, h3, h4, h5]

theorem passesAt_cons {search : TokKind} {stack : List TokKind} {t : Token} {ts : List Token}
    (h1 : t.kind ≠ .lparen) (h2 : t.kind ≠ .lbracket) (h3 : t.kind ≠ .rparen) (h4 : t.kind ≠ .rbracket)
    (h5 : t.kind ≠ search) (h : PassesAt search stack ts) : PassesAt search stack (t :: ts) :=
  passesAt_append (a := [t]) (passesAt_single h1 h2 h3 h4 h5) h

theorem passesAt_paren {search : TokKind} {stack : List TokKind} {lp rp : Token} {ts : List Token}
    (hl : lp.kind = .lparen) (hr : rp.kind = .rparen) (h : PassesAt search (.rparen :: stack) ts) :
    PassesAt search stack (lp :: (ts ++ [rp])) := by
  intro rest
  simp only [List.cons_append, List.append_assoc, List.nil_append]
  rw [splitAux]
  simp only [hl, if_true]
  rw [h]
  simp only
  rw [splitAux]
  simp [hr, popTo]

theorem passesAt_bracket {search : TokKind} {stack : List TokKind} {lb rb : Token} {ts : List Token}
    (hl : lb.kind = .lbracket) (hr : rb.kind = .rbracket) (h : PassesAt search (.rbracket :: stack) ts) :
    PassesAt search stack (lb :: (ts ++ [rb])) := by
  intro rest
  simp only [List.cons_append, List.append_assoc, List.nil_append]
  rw [splitAux]
  simp only [hl, if_true]
  rw [h]
  simp only
  rw [splitAux]
  simp [hr, popTo]

/-- the kinds `split` is called with on ranges that hold expressions -/
def ExprSearch (k : TokKind) : Prop := k = .rparen ∨ k = .rbracket ∨ k = .pipe

def Passes (ts : List Token) : Prop :=
  ∀ search stack, ExprSearch search → PassesAt search stack ts

theorem passes_nil : Passes [] := fun s st _ => passesAt_nil s st

theorem passes_append {a b : List Token} (ha : Passes a) (hb : Passes b) : Passes (a ++ b) :=
  fun s st hs => passesAt_append (ha s st hs) (hb s st hs)

theorem passes_single {t : Token} (h1 : t.kind ≠ .lparen) (h2 : t.kind ≠ .lbracket) (h3 : t.kind ≠ .rparen)
    (h4 : t.kind ≠ .rbracket) (h5 : t.kind ≠ .pipe) : Passes [t] := by
  intro s st hs
  refine passesAt_single h1 h2 h3 h4 ?_
  rcases hs with rfl | rfl | rfl <;> assumption

theorem passes_cons {t : Token} {ts : List Token} (h1 : t.kind ≠ .lparen) (h2 : t.kind ≠ .lbracket)
    (h3 : t.kind ≠ .rparen) (h4 : t.kind ≠ .rbracket) (h5 : t.kind ≠ .pipe) (h : Passes ts) :
    Passes (t :: ts) :=
  passes_append (a := [t]) (passes_single h1 h2 h3 h4 h5) h

theorem passes_paren {lp rp : Token} {ts : List Token} (hl : lp.kind = .lparen) (hr : rp.kind = .rparen)
    (h : Passes ts) : Passes (lp :: (ts ++ [rp])) :=
  fun s _ hs => passesAt_paren hl hr (h s _ hs)

theorem passes_bracket {lb rb : Token} {ts : List Token} (hl : lb.kind = .lbracket)
    (hr : rb.kind = .rbracket) (h : Passes ts) : Passes (lb :: (ts ++ [rb])) :=
  fun s _ hs => passesAt_bracket hl hr (h s _ hs)

theorem passes_kind {t : Token} {k : TokKind} (hk : t.kind = k)
    (h : k ≠ .lparen ∧ k ≠ .lbracket ∧ k ≠ .rparen ∧ k ≠ .rbracket ∧ k ≠ .pipe := by decide) : Passes [t] :=
  passes_single (hk ▸ h.1) (hk ▸ h.2.1) (hk ▸ h.2.2.1) (hk ▸ h.2.2.2.1) (hk ▸ h.2.2.2.2)

theorem split_at {k : TokKind} {ts rest : List Token} {cl : Token} (hs : ExprSearch k) (hk : cl.kind = k)
    (h : PassesAt k [] ts) : split k (ts ++ cl :: rest) = (ts, cl :: rest) := by
  unfold split
  rw [h, splitAux]
  rcases hs with rfl | rfl | rfl <;> simp [hk]

theorem split_end {k : TokKind} {ts : List Token} (h : PassesAt k [] ts) : split k ts = (ts, []) := by
  have := h []
  simp only [List.append_nil] at this
  unfold split
  rw [this]
  simp [splitAux]

theorem split_at_end {k : TokKind} {ts : List Token} (hs : ExprSearch k) (h : Passes ts) :
    split k ts = (ts, []) := split_end (h k [] hs)

/-! ### what holds of the tokens of every well-grouped tree

Bracket balance (`Passes`) and "no `=`, `|`, `;`, `by`, error token inside" (`AllExprKind`, below) are
the same walk over a derivation with the same inversions of `okSpine`; they differ in a predicate
that is closed under append, holds of the tokens outside brackets and survives bracket wrapping. -/

def leafKind (k : TokKind) : Bool :=
  k != .lparen && k != .rparen && k != .lbracket && k != .rbracket &&
    k != .assign && k != .pipe && k != .semi && k != .by_ && k != .error

structure Sentential (P : List Token → Prop) : Prop where
  nil : P []
  app : ∀ {a b}, P a → P b → P (a ++ b)
  tok : ∀ {t : Token}, leafKind t.kind = true → P [t]
  paren : ∀ {lp rp : Token} {ts}, lp.kind = .lparen → rp.kind = .rparen → P ts → P (lp :: (ts ++ [rp]))
  brack : ∀ {lb rb : Token} {ts}, lb.kind = .lbracket → rb.kind = .rbracket → P ts → P (lb :: (ts ++ [rb]))

theorem isBinaryOp_leafKind {k : TokKind} (h : isBinaryOp k = true) : leafKind k = true := by
  unfold isBinaryOp at h
  rw [C07.C07_spec_prec_eq_model, C07.precOf_eq] at h
  revert h
  cases k <;> decide

namespace Sentential
variable {P : List Token → Prop} (hP : Sentential P)
include hP

theorem kind {t : Token} {k : TokKind} (hk : t.kind = k) (h : leafKind k = true := by decide) : P [t] :=
  hP.tok (hk ▸ h)

theorem cons {t : Token} {k : TokKind} {ts : List Token} (hk : t.kind = k) (h : P ts)
    (hl : leafKind k = true := by decide) : P (t :: ts) := hP.app (a := [t]) (hP.kind hk hl) h

theorem ident {i : Ident} {t : Token} (h : IsIdentTok i t) : P [t] := by
  rcases h.1 with hk | hk
  · exact hP.kind hk
  · exact hP.kind hk

theorem qual : ∀ {is : List Ident} {ts : List Token}, DQual is ts → P ts
  | _, _, .nil => hP.nil
  | _, _, .cons hd ht h =>
    hP.cons (tokOk_dot_inv hd) (hP.app (hP.ident (tokOk_identTok_inv ht)) (qual h))

mutual
theorem expr : ∀ {e : Expr} {ts : List Token} (m : Int), (okSpine m e).isSome = true → DExpr e ts → P ts
  | _, _, _, _, .qident ht hq => hP.app (hP.ident (tokOk_identTok_inv ht)) (hP.qual hq)
  | _, _, _, hok, .lit ht => by
    obtain ⟨hk, -⟩ := tokOk_lit_inv (by rcases okSpine_lit hok with rfl | rfl <;> decide) ht
    rcases okSpine_lit hok with rfl | rfl
    · exact hP.kind hk
    · exact hP.kind hk
  | _, _, _, hok, .unary ht hx => by
    obtain ⟨hop, -, hox⟩ := okSpine_unary hok
    refine hP.app (a := [_]) ?_ (expr 0 hox hx)
    rcases hop with rfl | rfl
    · exact hP.kind (tokOk_sym_inv ht).1
    · exact hP.kind (tokOk_sym_inv ht).1
  | _, _, m, hok, .binary hx ht hy => by
    obtain ⟨cap, hcap⟩ := Option.isSome_iff_exists.1 hok
    obtain ⟨capx, hox, hop, -, -, hoy, -⟩ := okSpine_binary hcap
    exact hP.app (expr m (by rw [hox]; rfl) hx)
      (hP.cons (tokOk_sym_inv ht).1 (expr _ hoy hy) (isBinaryOp_leafKind hop))
  | _, _, m, hok, .inE hx hi hl hv hr => by
    obtain ⟨cap, hcap⟩ := Option.isSome_iff_exists.1 hok
    obtain ⟨capx, hox, -, -, -, hvl, -⟩ := okSpine_inE hcap
    exact hP.app (expr m (by rw [hox]; rfl) hx) (hP.cons (tokOk_sym_inv hi).1
      (hP.paren (tokOk_sym_inv hl).1 (tokOk_sym_inv hr).1 (list hvl hv)))
  | _, _, _, hok, .paren hl hx hr =>
    hP.paren (tokOk_sym_inv hl).1 (tokOk_sym_inv hr).1 (expr 0 (okSpine_paren hok) hx)
  | _, _, _, hok, .call hf hl ha hc hr => by
    refine hP.app (hP.ident (tokOk_identTok_inv hf)) (hP.paren (tokOk_sym_inv hl).1
      (tokOk_symOpt_inv hr).1 (hP.app (list (okSpine_call hok).2 ha) ?_))
    cases hc with
    | none => exact hP.nil
    | one hcm => exact hP.kind hcm
  | _, _, _, hok, .index hx hl hi hr => by
    obtain ⟨-, hox, hoi⟩ := okSpine_index hok
    exact hP.app (expr 0 hox hx) (hP.brack (tokOk_sym_inv hl).1 (tokOk_sym_inv hr).1 (expr 0 hoi hi))
theorem list : ∀ {l : ExprList} {ts : List Token}, okList l = true → DList l ts → P ts
  | _, _, _, .nil => hP.nil
  | _, _, hok, .one he => expr 0 (okList_cons hok).1 he
  | _, _, hok, .cons he hcm hl =>
    hP.app (expr 0 (okList_cons hok).1 he) (hP.cons (tokOk_commaTok_inv hcm) (list (okList_cons hok).2 hl))
end

theorem listTail : ∀ (l : ExprList) (ts : List Token), okList l = true → ListTailReal l ts → P ts
  | .nil, _, _, h => h ▸ hP.nil
  | .cons e es, _, hok, ⟨cm, te, tl, hts, hcm, he, hl⟩ =>
    hts ▸ hP.cons hcm (hP.app (hP.expr 0 (okList_cons hok).1 (real_iff.1 he).1)
      (listTail es tl (okList_cons hok).2 hl))

end Sentential

theorem sentential_passes : Sentential Passes where
  nil := passes_nil
  app := passes_append
  tok h := by
    refine passes_single ?_ ?_ ?_ ?_ ?_ <;> (intro hk; rw [hk] at h; cases h)
  paren := passes_paren
  brack := passes_bracket

theorem real_passes (e : Expr) (m : Int) (ts : List Token) (hok : (okSpine m e).isSome = true)
    (h : Real e ts) : Passes ts := sentential_passes.expr m hok (real_iff.1 h).1

theorem realL_passes (l : ExprList) (ts : List Token) (hok : okList l = true) (h : RealL l ts) :
    Passes ts := sentential_passes.list hok (realL_iff.1 h).1

theorem listTail_passes : (l : ExprList) → (ts : List Token) → okList l = true → ListTailReal l ts → Passes ts :=
  sentential_passes.listTail

end Pql

namespace Pql
open Grammar

def exprKind (k : TokKind) : Bool :=
  k != .assign && k != .pipe && k != .semi && k != .by_ && k != .error

def AllExprKind (ts : List Token) : Prop := ∀ t ∈ ts, exprKind t.kind = true

theorem allExprKind_nil : AllExprKind [] := by intro t ht; cases ht

theorem allExprKind_append {a b : List Token} (ha : AllExprKind a) (hb : AllExprKind b) :
    AllExprKind (a ++ b) := by
  intro t ht
  rcases List.mem_append.1 ht with h | h
  · exact ha t h
  · exact hb t h

theorem allExprKind_single {t : Token} (h : exprKind t.kind = true) : AllExprKind [t] := by
  intro t' ht'
  simp only [List.mem_singleton] at ht'
  subst ht'; exact h

theorem allExprKind_kind {t : Token} {k : TokKind} (hk : t.kind = k) (h : exprKind k = true := by decide) :
    AllExprKind [t] := allExprKind_single (hk ▸ h)

theorem sentential_kinds : Sentential AllExprKind where
  nil := allExprKind_nil
  app := allExprKind_append
  tok h := allExprKind_single (by revert h; generalize Token.kind _ = k; cases k <;> decide)
  paren hl hr h := allExprKind_append (a := [_]) (allExprKind_kind hl)
    (allExprKind_append h (allExprKind_kind hr))
  brack hl hr h := allExprKind_append (a := [_]) (allExprKind_kind hl)
    (allExprKind_append h (allExprKind_kind hr))

theorem real_kinds (e : Expr) (m : Int) (ts : List Token) (hok : (okSpine m e).isSome = true)
    (h : Real e ts) : AllExprKind ts := sentential_kinds.expr m hok (real_iff.1 h).1

theorem realL_kinds : (l : ExprList) → (ts : List Token) → okList l = true → RealL l ts → AllExprKind ts :=
  fun _ _ hok h => sentential_kinds.list hok (realL_iff.1 h).1

theorem listTail_kinds : (l : ExprList) → (ts : List Token) → okList l = true → ListTailReal l ts →
    AllExprKind ts := sentential_kinds.listTail

end Pql
