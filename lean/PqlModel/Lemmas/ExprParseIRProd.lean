/-
`ExprParseIR`, the productions: the agreement relation between the interpretation of a regenerated unit and
the model's production at the same fuel, the induction hypothesis (`Level`), the straight-line
productions `unaryExpr`, `expr`, `primaryExpr`, and `exprList`: the comma loop with its restore of the position on a not-found expression.
-/
import PqlModel.Lemmas.ExprParseIRLeaves
import PqlModel.Lemmas.ExprParseIRSplit
import PqlModel.Lemmas.ParseFuelLen
import PqlModel.Lemmas.ParseCases
namespace Pql.ExprParseIR
open Pql
set_option linter.unusedSimpArgs false

/-- the interpretation of a unit agrees with a model production: it returns the model's value and
    errors and leaves the model's rest (nothing to go back to, sub-parser kind unchanged) — or it runs out
    of budget, and then the budget was below `bound` (`4 * tokens + rank`, the very bound under which the
    model's own fuel suffices, Lemmas/ParseFuelExpr.lean) -/
def AgreeE (bound : Prop) (o : Out (List Val × PState)) (r : PRes Expr) (sk : Option TokKind) : Prop :=
  (¬ bound ∧ o = .fuel) ∨ o = .ok ([.expr r.val, .err r.errs], ⟨r.rest, none, sk⟩)

def AgreeL (bound : Prop) (o : Out (List Val × PState)) (r : PRes ExprList) (sk : Option TokKind) : Prop :=
  (¬ bound ∧ o = .fuel) ∨ o = .ok ([.exprs r.val, .err r.errs], ⟨r.rest, none, sk⟩)

def Agree {α : Type} (bound : Prop) (o : Out α) (v : α) : Prop :=
  (¬ bound ∧ o = .fuel) ∨ o = .ok v

section
variable {α : Type} {bound : Prop} {o : Out α} {v : α}

theorem agreeE_def {o : Out (List Val × PState)} {r : PRes Expr} {sk : Option TokKind} :
    AgreeE bound o r sk ↔ Agree bound o ([.expr r.val, .err r.errs], ⟨r.rest, none, sk⟩) := Iff.rfl
theorem agreeL_def {o : Out (List Val × PState)} {r : PRes ExprList} {sk : Option TokKind} :
    AgreeL bound o r sk ↔ Agree bound o ([.exprs r.val, .err r.errs], ⟨r.rest, none, sk⟩) := Iff.rfl

theorem agree_ite {p : Prop} [Decidable p] {x y : Out α} :
    Agree bound (if p then x else y) v ↔ if p then Agree bound x v else Agree bound y v := by split <;> rfl
theorem agree_fuel : Agree bound (.fuel : Out α) v ↔ ¬ bound := by simp [Agree]
theorem agree_ok {w : α} : Agree bound (.ok w) v ↔ w = v := by simp [Agree]

/-- an agreement as an equation: whether the budget ran out is a flag, so that a body runs through the call -/
theorem Agree.eq (h : Agree bound o v) : ∃ d : Bool, (d = true → ¬ bound) ∧ o = if d then .fuel else .ok v := by
  rcases h with ⟨hb, h⟩ | h
  · exact ⟨true, fun _ => hb, h⟩
  · exact ⟨false, nofun, h⟩
end

/-- the induction hypothesis of the whole family: at fuel `F` every production's unit agrees with the model's
    production; the bounds `4 * tokens + rank` are those of Lemmas/ParseFuelExpr.lean -/
structure Level (c : ICtx) (F : Nat) : Prop where
  inner : ∀ ts sk, AgreeE (4 * ts.length + 1 ≤ F) (runUnit c F "innerPrimaryExpr" [] ⟨ts, none, sk⟩) (pInner c.pctx F ts) sk
  primary : ∀ ts sk, AgreeE (4 * ts.length + 2 ≤ F) (runUnit c F "primaryExpr" [] ⟨ts, none, sk⟩) (pPrimary c.pctx F ts) sk
  unary : ∀ ts sk, AgreeE (4 * ts.length + 3 ≤ F) (runUnit c F "unaryExpr" [] ⟨ts, none, sk⟩) (pUnary c.pctx F ts) sk
  trail : ∀ x m ts sk,
    AgreeE (4 * ts.length + 1 ≤ F) (runUnit c F "exprBinaryTrail" [.expr x, .int m] ⟨ts, none, sk⟩)
      (pTrail c.pctx F x m [] ts) sk
  expr : ∀ ts sk, AgreeE (4 * ts.length + 4 ≤ F) (runUnit c F "expr" [] ⟨ts, none, sk⟩) (pExpr c.pctx F ts) sk
  exprList : ∀ ts sk, AgreeL (4 * ts.length + 5 ≤ F) (runUnit c F "exprList" [] ⟨ts, none, sk⟩) (pExprList c.pctx F ts) sk

theorem runUnit_zero (c : ICtx) (fn : String) (args : List Val) (p : PState) : runUnit c 0 fn args p = .fuel := by
  rw [runUnit]

theorem level_zero (c : ICtx) : Level c 0 := by
  constructor <;> intros <;> exact Or.inl ⟨by omega, runUnit_zero _ _ _ _⟩

/-- every level up to `F`: inside a loop (`exprBinaryTrail`, `exprList`) a callee runs with what is left of the loop's
    budget, `min b F` (`semAt`), so the loop lemmas need the hypothesis at every `b ≤ F` -/
def Below (c : ICtx) (F : Nat) : Prop := ∀ F', F' ≤ F → Level c F'

/-- the callee semantics of a production running with fuel `F + 1` -/
def semAt (c : ICtx) (F : Nat) : Sem := prodSem c fun b m a q => runUnit c (min b F) m a q

theorem runUnit_succ (c : ICtx) (F : Nat) (fn : String) (args : List Val) (p : PState) :
    runUnit c (F + 1) fn args p =
      (runBody c (semAt c F) fn (fun body => if loopFn body then F + 1 else F) (.parser p) args).bind asPState := by
  rw [runUnit]; rfl

section
variable (c : ICtx) (self : Nat → String → List Val → PState → Out (List Val × PState)) (b : Nat) (p : PState)

theorem call_ident : (prodSem c self).call b "ident" [] p = runIdent c p := by simp [prodSem, isProduction]
theorem call_qualifiedIdent : (prodSem c self).call b "qualifiedIdent" [] p = runQualifiedIdent c p := by simp [prodSem, isProduction]
theorem call_split (k : TokKind) : (prodSem c self).call b "split" [.kind k] p = runSplit c p k := by simp [prodSem, isProduction]
theorem call_inner (a : List Val) : (prodSem c self).call b "innerPrimaryExpr" a p = self b "innerPrimaryExpr" a p := by simp [prodSem, isProduction]
theorem call_primary (a : List Val) : (prodSem c self).call b "primaryExpr" a p = self b "primaryExpr" a p := by simp [prodSem, isProduction]
theorem call_unary (a : List Val) : (prodSem c self).call b "unaryExpr" a p = self b "unaryExpr" a p := by simp [prodSem, isProduction]
theorem call_trail (a : List Val) : (prodSem c self).call b "exprBinaryTrail" a p = self b "exprBinaryTrail" a p := by simp [prodSem, isProduction]
theorem call_expr (a : List Val) : (prodSem c self).call b "expr" a p = self b "expr" a p := by simp [prodSem, isProduction]
theorem call_exprList (a : List Val) : (prodSem c self).call b "exprList" a p = self b "exprList" a p := by simp [prodSem, isProduction]
end

theorem loopFn_unary : loopFn unaryIR = false := by rfl
theorem loopFn_expr : loopFn exprIR = false := by rfl
theorem loopFn_primary : loopFn primaryIR = false := by rfl
theorem loopFn_inner : loopFn innerIR = false := by rfl
theorem loopFn_exprList : loopFn exprListIR = false := by rfl
theorem loopFn_trail : loopFn trailIR = true := by rfl

/- from here on a run also resolves the callees of a production and states its result as an agreement -/
attribute [eparseIR] call_ident call_qualifiedIdent call_split call_inner call_primary call_unary call_trail call_expr
  call_exprList Nat.min_self pctx_srcLen PCtx.eof Span.index Token.span agreeE_def agreeL_def agree_ite agree_fuel agree_ok

theorem unary_step (c : ICtx) (F : Nat) (ih : Level c F) (ts : List Token) (sk : Option TokKind) :
    AgreeE (4 * ts.length + 3 ≤ F + 1) (runUnit c (F + 1) "unaryExpr" [] ⟨ts, none, sk⟩) (pUnary c.pctx (F + 1) ts) sk := by
  rw [runUnit]
  simp only [runBody, unaryIR_ir, params_unary, results_unary, loopFn_unary, Bool.false_eq_true, if_false]
  obtain ⟨d1, hd1, h1⟩ := Agree.eq (ih.primary ts.tail sk)
  obtain ⟨d2, hd2, h2⟩ := Agree.eq (ih.primary ts sk)
  ir_simp [unaryIR, h1, h2]
  rcases ts with _ | ⟨t, rest⟩
  · simp [pUnary, PCtx.eof, Span.index, pctx_srcLen]
  · by_cases hp : t.kind = .plus <;> by_cases hm : t.kind = .minus <;> cases d1 <;> cases d2 <;>
      simp [pUnary, hp, hm, Token.span] <;> (simp at hd1 hd2; omega)

theorem expr_step (c : ICtx) (F : Nat) (ih : Level c F) (ts : List Token) (sk : Option TokKind) :
    AgreeE (4 * ts.length + 4 ≤ F + 1) (runUnit c (F + 1) "expr" [] ⟨ts, none, sk⟩) (pExpr c.pctx (F + 1) ts) sk := by
  rw [runUnit]
  simp only [runBody, exprIR_ir, params_expr, results_expr, loopFn_expr, Bool.false_eq_true, if_false]
  have hl := (exprLen c.pctx F).unary ts
  obtain ⟨d1, hd1, h1⟩ := Agree.eq (ih.unary ts sk)
  obtain ⟨d2, hd2, h2⟩ := Agree.eq (ih.trail (pUnary c.pctx F ts).val 0 (pUnary c.pctx F ts).rest sk)
  ir_simp [exprIR, h1, h2, pExpr]
  cases d1 <;> cases d2 <;> by_cases hnf : isNF (pUnary c.pctx F ts).errs = true <;> simp [hnf] <;>
    (simp at hd1 hd2; omega)

def primaryLoopBody : List Stmt :=
  [.assign true [.var "tok", .var "ok"] (.pcall "p" "next" []),
   .ite (.not (.var "ok")) [.ret [.var "x", .nil]] [],
   .ite
     (.cmp "eq" (.field (.var "tok") "Kind") (.kind "TokenLBracket"))
     [.assign true [.var "idx"] (.e (.new "IndexExpr" ["X", "Lbrack"] [.var "x", .field (.var "tok") "Span"])),
      .assign true [.var "indexParser"] (.pcall "p" "split" [.kind "TokenRBracket"]),
      .decl "err" "error",
      .assign false [.field "idx" "Index", .var "err"] (.pcall "indexParser" "expr" []),
      .assign false [.var "err"] (.e (.call "makeErrorOpaque" [.var "err"])),
      .assign false [.var "err"] (.e (.call "joinErrors" [.var "err", .mcall "endSplit" (.var "indexParser")])),
      .block
        [.assign true [.var "tok", .blank] (.pcall "p" "next" []),
         .ite
           (.cmp "eq" (.field (.var "tok") "Kind") (.kind "TokenRBracket"))
           [.assign false [.field "idx" "Rbrack"] (.e (.field (.var "tok") "Span"))]
           [.assign false [.var "err"] (.e (.call "joinErrors" [.var "err", .perr false (.field (.var "tok") "Span")]))]],
      .ret [.var "idx", .var "err"]]
     [.do_ (.pcall "p" "prev" []), .ret [.var "x", .nil]]]

theorem primaryIR_loop :
    primaryIR =
      [.assign true [.var "x", .var "err"] (.pcall "p" "innerPrimaryExpr" []),
       .ite (.cmp "ne" (.var "err") (.nil)) [.ret [.var "x", .var "err"]] [],
       .loop "" (.bool true) primaryLoopBody] := rfl

/-- the `for` of `primaryExpr` never iterates: every path through its body leaves it -/
theorem primaryLoop_leaves : leaves primaryLoopBody = true := by rfl

theorem primary_step (c : ICtx) (F : Nat) (ih : Level c F) (ts : List Token) (sk : Option TokKind) :
    AgreeE (4 * ts.length + 2 ≤ F + 1) (runUnit c (F + 1) "primaryExpr" [] ⟨ts, none, sk⟩) (pPrimary c.pctx (F + 1) ts) sk := by
  rw [runUnit]
  simp only [runBody, primaryIR_ir, params_primary, results_primary, loopFn_primary, Bool.false_eq_true, if_false]
  have hl := (exprLen c.pctx F).inner ts
  obtain ⟨d1, hd1, h1⟩ := Agree.eq (ih.inner ts sk)
  have hsp := split_ir c ⟨(pInner c.pctx F ts).rest.tail, none, sk⟩ .rbracket ⟨by decide, by decide⟩
  have hs := split_fst_le .rbracket (pInner c.pctx F ts).rest.tail
  obtain ⟨d2, hd2, h2⟩ := Agree.eq (ih.expr (split .rbracket (pInner c.pctx F ts).rest.tail).1 (some .rbracket))
  have hlv := primaryLoop_leaves
  unfold primaryLoopBody at hlv
  ir_simp [primaryIR_loop, primaryLoopBody, hlv, h1, hsp, h2, endSplitP]
  clear h1 hsp h2 hlv
  simp only [pPrimary]
  generalize pInner c.pctx F ts = r at hl hd1 hd2 hs ⊢
  obtain ⟨rv, re, rr⟩ := r
  rcases re with _ | _ <;> rcases rr with _ | ⟨t, rest⟩ <;> cases d1 <;> simp <;> try (simp at hd1; omega)
  by_cases hb : t.kind = .lbracket <;> simp [hb]
  simp only [List.tail_cons] at hs hd2
  generalize split .rbracket rest = sp at hs hd2 ⊢
  obtain ⟨s1, _ | ⟨rb, rest2⟩⟩ := sp <;> cases d2 <;>
    simp [PCtx.eof, Span.index, Token.span, Span.zero, pctx_srcLen] <;> try (simp at hd2 hs hl; omega)
  by_cases hr : rb.kind = .rbracket <;> simp [hr]

def exprListLoopBody : List Stmt :=
  [.assign true [.var "restorePos"] (.e (.field (.var "p") "pos")),
   .assign true [.var "tok", .var "ok"] (.pcall "p" "next" []),
   .ite (.not (.var "ok")) [.ret [.var "result", .nil]] [],
   .ite (.cmp "ne" (.field (.var "tok") "Kind") (.kind "TokenComma")) [.do_ (.pcall "p" "prev" []), .ret [.var "result", .nil]] [],
   .assign true [.var "x", .var "err"] (.pcall "p" "expr" []),
   .ite (.call "isNotFound" [.var "err"]) [.assign false [.field "p" "pos"] (.e (.var "restorePos")), .ret [.var "result", .nil]] [],
   .ite (.cmp "ne" (.var "x") (.nil)) [.assign false [.var "result"] (.e (.append (.var "result") (.var "x")))] [],
   .ite (.cmp "ne" (.var "err") (.nil)) [.ret [.var "result", .call "makeErrorOpaque" [.var "err"]]] []]

theorem exprListIR_loop :
    exprListIR =
      [.assign true [.var "first", .var "err"] (.pcall "p" "expr" []),
       .ite (.cmp "ne" (.var "err") (.nil)) [.ret [.nil, .var "err"]] [],
       .assign true [.var "result"] (.e (.list [.var "first"])),
       .loop "" (.bool true) exprListLoopBody] := rfl

theorem exprListLoop_notLeaves : leaves exprListLoopBody = false := by rfl

def listState (acc : ExprList) (first : Expr) (p : PState) : State :=
  ⟨[("result", .exprs acc), ("err", .err []), ("first", .expr first), ("p", .parser p)]⟩

theorem listLoop (c : ICtx) (F : Nat) (ih : Below c F) (first : Expr) (sk : Option TokKind) :
    ∀ (b : Nat), b ≤ F → ∀ (acc : ExprList) (ts : List Token),
      AgreeL (4 * ts.length + 1 ≤ b)
        (((iter (loopStep c (semAt c F) (.bool true) exprListLoopBody) "" b
            (listState acc first ⟨ts, none, sk⟩)).bind (finish "p" ["[]Expr", "error"])).bind asPState)
        (pExprListTail c.pctx b acc ts) sk := by
  intro b
  induction b with
  | zero => intro _ acc ts; left; exact ⟨by omega, by rw [iter]; rfl⟩
  | succ b ihb =>
    intro hb acc ts
    have hmin : min b F = b := Nat.min_eq_left (by omega)
    replace ihb := ihb (by omega)
    rw [iter_succ]
    generalize iter (loopStep c (semAt c F) (.bool true) exprListLoopBody) "" b = I at ihb
    have hlr := pExpr_rest_le c.pctx b ts.tail
    obtain ⟨d, hd, hx⟩ := Agree.eq ((ih b (by omega)).expr ts.tail sk)
    obtain ⟨d1, hd1, h1⟩ := Agree.eq (ihb acc (pExpr c.pctx b ts.tail).rest)
    obtain ⟨d2, hd2, h2⟩ := Agree.eq (ihb (acc.snoc (pExpr c.pctx b ts.tail).val) (pExpr c.pctx b ts.tail).rest)
    simp only [listState] at h1 h2
    ir_simp [loopStep, exprListLoopBody, listState, semAt, hmin, hx, h1, h2]
    clear hx h1 h2 ihb
    rcases ts with _ | ⟨t, rest⟩
    · simp [pExprListTail]
    by_cases hc : t.kind = .comma <;> simp [pExprListTail, hc]
    simp only [List.tail_cons] at hlr hd hd1 hd2
    generalize pExpr c.pctx b rest = r at hlr hd hd1 hd2 ⊢
    obtain ⟨v, re, rr⟩ := r
    cases d <;> simp <;> try (simp at hd; omega)
    by_cases hnf : isNF re = true <;> simp [hnf]
    cases re <;> cases v <;> cases d1 <;> cases d2 <;> simp <;> (simp at hd1 hd2 hlr; omega)

theorem exprList_step (c : ICtx) (F : Nat) (ih : Below c F) (ts : List Token) (sk : Option TokKind) :
    AgreeL (4 * ts.length + 5 ≤ F + 1) (runUnit c (F + 1) "exprList" [] ⟨ts, none, sk⟩) (pExprList c.pctx (F + 1) ts) sk := by
  rw [runUnit_succ]
  simp only [runBody, exprListIR_ir, params_exprList, results_exprList, loopFn_exprList, Bool.false_eq_true, if_false]
  have hlr := pExpr_rest_le c.pctx F ts
  obtain ⟨d, hd, hx⟩ := Agree.eq ((ih F (Nat.le_refl F)).expr ts sk)
  obtain ⟨d1, hd1, h1⟩ := Agree.eq
    (listLoop c F ih (pExpr c.pctx F ts).val sk F (Nat.le_refl F) (.cons (pExpr c.pctx F ts).val .nil) (pExpr c.pctx F ts).rest)
  simp only [listState, semAt] at h1
  ir_simp [exprListIR_loop, semAt, hx, exprListLoop_notLeaves, pExprList]
  cases d <;> cases d1 <;> by_cases he : (pExpr c.pctx F ts).errs = [] <;>
    simp [he, h1, agree_fuel, agree_ok] <;> (simp at hd hd1; omega)
end Pql.ExprParseIR
