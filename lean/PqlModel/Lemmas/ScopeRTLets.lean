/-
ParseRoundtrip / LexRender under a scope: join conditions, and the scopes the statement loop builds.

A let value is written (and translated) in let mode; a reference to it inside a join condition is
translated in join mode.  The two agree when no binding is called `$left` / `$right` and no (resolved)
value mentions them: `envJoinSafe`.

`ScopeLetsEnv src scope env`: `scope` was built from let statements, oldest last: every entry is
`(n, wrapTight x cs)` where `x` is `lexOK` and `shapeOK` and `writeExpr ⟨src, scope', .let_⟩ x = .ok cs`
under the scope `scope'` that precedes it; `env` is the environment `resolveLets` builds for the same
lets (every value resolved in the environment before it).
-/
import PqlModel.Lemmas.LexStmtScope
import PqlModel.Lemmas.ScopeRTAll
namespace Pql.RT
open Pql Sql CompileOracle

def envJoinSafe (env : List (Bytes × Expr)) : Bool :=
  env.all fun kv =>
    !(kv.1 == leftAlias) && !(kv.1 == rightAlias) &&
    !((exprIdents kv.2).any (·.name == leftAlias)) && !((exprIdents kv.2).any (·.name == rightAlias))

theorem envJoinSafe_elim {env : List (Bytes × Expr)} (h : envJoinSafe env = true) :
    (∀ kv ∈ env, (kv.1 == leftAlias) = false ∧ IdsFree leftAlias (exprIdents kv.2)) ∧
    (∀ kv ∈ env, (kv.1 == rightAlias) = false ∧ IdsFree rightAlias (exprIdents kv.2)) := by
  simp only [envJoinSafe, List.all_eq_true, Bool.and_eq_true, Bool.not_eq_true'] at h
  exact ⟨fun kv hkv => ⟨(h kv hkv).1.1.1, (h kv hkv).1.2⟩, fun kv hkv => ⟨(h kv hkv).1.1.2, (h kv hkv).2⟩⟩

theorem hasJoinTerms_substEnv {env : List (Bytes × Expr)} (h : envJoinSafe env = true) (x : Expr) :
    hasJoinTerms (substExpr env x) = hasJoinTerms x := by
  obtain ⟨hl, hr⟩ := envJoinSafe_elim h
  unfold hasJoinTerms
  dsimp only
  rw [idents_substEnv_any leftAlias env hl x, idents_substEnv_any rightAlias env hr x]

theorem joinOK_of_safe {ctx : Ctx} {env : List (Bytes × Expr)} (h : ctx.mode = .join → envJoinSafe env = true) :
    JoinOK ctx env := fun hm x => hasJoinTerms_substEnv (h hm) x

mutual
theorem tr_join_irrelevant : (v : Expr) → AliasFree v → tr true v = tr false v
  | .nil, _ => by simp only [tr]
  | .paren _ x _, h => by
    simp only [tr]
    exact tr_join_irrelevant x (by simpa only [AliasFree, exprIdents] using h)
  | .qident _, _ => by simp only [tr]
  | .lit .., _ => by simp only [tr]
  | .unary _ _ x, h => by
    simp only [tr]
    rw [tr_join_irrelevant x (by simpa only [AliasFree, exprIdents] using h)]
  | .binary x _ op y, h => by
    simp only [AliasFree, exprIdents, IdsFree.append] at h
    have hx : AliasFree x := ⟨h.1.1, h.2.1⟩
    have hy : AliasFree y := ⟨h.1.2, h.2.2⟩
    simp only [tr]
    rw [tr_join_irrelevant x hx, tr_join_irrelevant y hy, hx.hasJoinTerms, hy.hasJoinTerms]
    simp
  | .inE x _ _ vals _, h => by
    simp only [AliasFree, exprIdents, IdsFree.append] at h
    simp only [tr]
    rw [tr_join_irrelevant x ⟨h.1.1, h.2.1⟩, trList_join_irrelevant vals ⟨h.1.2, h.2.2⟩]
  | .index x _ idx _, h => by
    simp only [AliasFree, exprIdents, IdsFree.append] at h
    simp only [tr]
    rw [tr_join_irrelevant x ⟨h.1.1, h.2.1⟩, tr_join_irrelevant idx ⟨h.1.2, h.2.2⟩]
  | .call _ _ args _, h => by
    simp only [tr]
    simp only [AliasFree, exprIdents] at h
    rw [trList_join_irrelevant args h]
theorem trList_join_irrelevant : (es : ExprList) → AliasFreeL es → trList true es = trList false es
  | .nil, _ => by simp only [trList]
  | .cons e es, h => by
    simp only [AliasFreeL, exprListIdents, IdsFree.append] at h
    simp only [trList]
    rw [tr_join_irrelevant e ⟨h.1.1, h.2.1⟩, trList_join_irrelevant es ⟨h.1.2, h.2.2⟩]
end

theorem aliasFree_of_safe {env : List (Bytes × Expr)} (h : envJoinSafe env = true) {kv : Bytes × Expr}
    (hkv : kv ∈ env) : AliasFree kv.2 := by
  obtain ⟨hl, hr⟩ := envJoinSafe_elim h
  exact ⟨(hl kv hkv).2, (hr kv hkv).2⟩

theorem scopeRT_join {scope : Scope} {env : List (Bytes × Expr)} (hS : ScopeRT false scope env)
    (j : Bool) (hj : j = true → envJoinSafe env = true) : ScopeRT j scope env := by
  cases j with
  | false => exact hS
  | true =>
    refine ⟨fun name sql hl => ?_, hS.free⟩
    obtain ⟨n, v, hf, hv⟩ := hS.bound name sql hl
    refine ⟨n, v, hf, fun want hw => hv want ?_⟩
    have := aliasFree_of_safe (hj rfl) (List.mem_of_find?_eq_some hf)
    rw [← tr_join_irrelevant v this]
    exact hw

inductive ScopeLetsEnv (src : Bytes) : Scope → List (Bytes × Expr) → Prop
  | nil : ScopeLetsEnv src [] []
  | cons {scope : Scope} {env : List (Bytes × Expr)} (n : Bytes) (x : Expr) (cs : List Chunk) :
      ScopeLetsEnv src scope env → x.lexOK = true → shapeOK x = true →
      writeExpr ⟨src, scope, .let_⟩ x = .ok cs →
      ScopeLetsEnv src ((n, wrapTight x cs) :: scope) ((n, substExpr env x) :: env)

def ScopeLets (src : Bytes) (scope : Scope) : Prop := ∃ env, ScopeLetsEnv src scope env

theorem joinOK_let (src : Bytes) (scope : Scope) (env : List (Bytes × Expr)) : JoinOK ⟨src, scope, .let_⟩ env :=
  fun h => by cases h

theorem scopeRT_cons {scope : Scope} {env : List (Bytes × Expr)} (ih : ScopeRT false scope env)
    (n : Bytes) (sql : List Chunk) (v : Expr) (hv : ∀ want, tr false v = some want → AtomP (toksOf sql) want) :
    ScopeRT false ((n, sql) :: scope) ((n, v) :: env) := by
  constructor
  · intro name sql' hl
    rw [lookupScope_cons] at hl
    rw [List.find?_cons]
    dsimp only at hl ⊢
    cases hn : n == name with
    | true =>
      rw [hn] at hl
      simp only [if_true, Option.some.injEq] at hl
      subst hl
      exact ⟨n, _, rfl, hv⟩
    | false =>
      rw [hn] at hl
      simp only [Bool.false_eq_true, if_false] at hl
      exact ih.bound name sql' hl
  · intro name hl
    rw [lookupScope_cons] at hl
    rw [List.find?_cons]
    dsimp only at hl ⊢
    cases hn : n == name with
    | true => rw [hn] at hl; simp at hl
    | false =>
      rw [hn] at hl
      simp only [Bool.false_eq_true, if_false] at hl
      exact ih.free name hl

/-- the step of the statement loop: what it stores for `let n = x` is read as an atom, the resolved value of `x` -/
theorem scopeRT_let {src : Bytes} {scope : Scope} {env : List (Bytes × Expr)} (ih : ScopeRT false scope env)
    (n : Bytes) {x : Expr} {cs : List Chunk} (hok : x.lexOK = true) (hshape : shapeOK x = true)
    (hw : writeExpr ⟨src, scope, .let_⟩ x = .ok cs) :
    ScopeRT false ((n, wrapTight x cs) :: scope) ((n, substExpr env x) :: env) :=
  have g : GoodS ⟨src, scope, .let_⟩ env x := goodS_all ⟨src, scope, .let_⟩ env ih (joinOK_let src scope env) x hshape hok
  scopeRT_cons ih n _ _ fun want hwant => g.tight hw hwant

theorem scopeRT_of_lets {src : Bytes} {scope : Scope} {env : List (Bytes × Expr)} (h : ScopeLetsEnv src scope env) :
    ScopeRT false scope env := by
  induction h with
  | nil => exact scopeRT_nil false
  | cons n x cs _ hok hshape hw ih => exact scopeRT_let ih n hok hshape hw

/-- the round trip under any scope whose entries are read as atoms (`ScopeRT` outside join conditions) -/
theorem goodS_of_scopeRT (ctx : Ctx) (env : List (Bytes × Expr)) (hS : ScopeRT false ctx.scope env)
    (hjoin : ctx.mode = .join → envJoinSafe env = true) (e : Expr) (hok : e.lexOK = true)
    (hshape : shapeOK e = true) : GoodS ctx env e :=
  goodS_all ctx env (scopeRT_join hS (ctx.mode == .join) (fun hj => hjoin (by simpa using hj)))
    (joinOK_of_safe hjoin) e hshape hok

theorem scopeAdj_of_lets {src : Bytes} {scope : Scope} {env : List (Bytes × Expr)} (h : ScopeLetsEnv src scope env) :
    LexRender.ScopeAdj scope := by
  refine C05.ScopeAdj.lookup ?_
  induction h with
  | nil => exact C05.scopeAdj_nil
  | cons n x cs _ hok _ hw ih => exact C05.scopeAdj_cons ih src .let_ hok hw n

def LetValuesOK (stmts : List Stmt) : Prop :=
  ∀ st ∈ stmts, ∀ kw n a x, st = Stmt.let_ kw n a x → x.lexOK = true ∧ shapeOK x = true

theorem compileStmts_keeps (src : Bytes) {I : Scope → List (Bytes × Expr) → Prop}
    (step : ∀ scope env n x cs, I scope env → x.lexOK = true → shapeOK x = true →
      writeExpr ⟨src, scope, .let_⟩ x = .ok cs → I ((n, wrapTight x cs) :: scope) ((n, substExpr env x) :: env)) :
    (stmts : List Stmt) → (scope : Scope) → (env : List (Bytes × Expr)) →
    I scope env → LetValuesOK stmts → (scope' : Scope) → (q' : Option Tabular) →
    compileStmts src stmts scope none = .ok (scope', q') → I scope' (letsEnv stmts env) :=
  fun _ _ env hs hv _ _ h =>
  compileStmts_induct src
    (motive := fun stmts scope r => ∀ env, I scope env → LetValuesOK stmts → I r.1 (letsEnv stmts env))
    (fun _ _ hs _ => hs) (fun _ _ _ hs _ => hs)
    (fun kw n a x cs hw ih _ hs hv =>
      have hx := hv _ List.mem_cons_self kw (some n) a x rfl
      ih _ (step _ _ n.name x cs hs hx.1 hx.2 hw) fun st hst => hv st (List.mem_cons_of_mem _ hst))
    h env hs hv

theorem compileStmts_scopeLets (src : Bytes) (stmts : List Stmt) (scope : Scope) (env : List (Bytes × Expr)) :
    ScopeLetsEnv src scope env → LetValuesOK stmts → (scope' : Scope) → (q' : Option Tabular) →
    compileStmts src stmts scope none = .ok (scope', q') → ScopeLetsEnv src scope' (letsEnv stmts env) :=
  compileStmts_keeps src (fun _ _ n x cs hs => .cons n x cs hs) stmts scope env

end Pql.RT
