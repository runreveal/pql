/-
One iteration of the loop of the machine of Lemmas/SplitImpMachine.lean against the functional model:
`stepI` on the state is `SplitQ.place` on the list the state denotes (`stepI_place`), the tail of the join
case, `joinTailI`, allocates the model's `SplitQ.joinSub` (`joinTailI_ok`).
-/
import PqlModel.Lemmas.SplitImpStep
import PqlModel.Lemmas.SplitASim
namespace Pql.SplitImp
open Pql SplitQ

theorem Post.trans {n0 k : Nat} {st st1 st2 : St} {o1 o2 : List Subquery}
    (a : Post n0 k st st1 o1) (b : Post n0 k st1 st2 o2) : Post n0 k st st2 o2 :=
  ⟨b.abs_eq, b.inv, a.frame.trans b.frame, by
    obtain ⟨n1, h1, g1⟩ := a.ext
    obtain ⟨n2, h2, g2⟩ := b.ext
    refine ⟨n1 ++ n2, by rw [h2, h1, List.append_assoc], fun x hx => ?_⟩
    rcases List.mem_append.mp hx with hx | hx
    · exact g1 x hx
    · exact Nat.le_trans a.frame.1 (g2 x hx)⟩

theorem loopI_cons (src : Bytes) (scope : List (Bytes × List Chunk)) (source : Option Ident) (k : Nat)
    (st : St) (o : Op) (rest : OpList) (hj : isJoin o = false) :
    loopI src scope source k st (.cons o rest) =
      stepI source k o st >>= fun st1 => loopI src scope source k st1 rest := by
  cases o with
  | join => cases hj
  | _ => simp only [loopI]

theorem loopI_join (src : Bytes) (scope : List (Bytes × List Chunk)) (source : Option Ident) (k : Nat)
    (st : St) (p kw kind ka : Span) (flavor : Option Ident) (lp : Span) (right : Tabular) (rp on : Span)
    (conds : ExprList) (rest : OpList) :
    loopI src scope source k st (.cons (.join p kw kind ka flavor lp right rp on conds) rest) =
      splitQueriesI src scope st.heap st.dst right >>= fun r =>
        joinTailI src scope source k ((st.dst.length : Int) - 1) flavor conds ⟨r.1, r.2, st.last⟩ >>= fun st2 =>
          loopI src scope source k st2 rest := by
  rw [loopI]

/-- `if <guard> { chainBlock }; lastSubquery.f = v`: the statement group of `sort` and `take`, and of
    `top` up to its first assignment -/
theorem stAttach_inv {n0 k : Nat} {st : St} (inv : Inv n0 k st) (source : Option Ident)
    (hs : source.isSome = true) (g g' : Subquery → Bool) (hg : ∀ l, g' l = !g l) (f : Subquery → Subquery) :
    ∃ st' p, (stChainIf g source k st >>= stAssign f) = .ok st' ∧ st'.last = some p ∧
      Post n0 k st st'
        (setLast
          (if (match lastOf (abs st.heap st.dst) k with | some l => g' l | none => false) = true
            then abs st.heap st.dst
            else abs st.heap st.dst ++ [chainSubquery (abs st.heap st.dst) k source]) f) := by
  obtain ⟨st1, q, h1, hl1, post1⟩ := stChainIf_inv inv source hs g g' hg
  obtain ⟨st2, h2, hl2, post2⟩ := stAssign_inv post1.inv hl1 f
  refine ⟨st2, q, ?_, hl2, ?_⟩
  · rw [h1]
    exact h2
  · have post := post1.trans post2
    rw [post1.abs_eq] at post
    exact post

theorem opsOk_tail {o : Op} {rest : OpList} (hg : opsOk (.cons o rest) = true) : opsOk rest = true := by
  cases o with
  | as_ | join => exact (Bool.and_eq_true _ _ ▸ hg).2
  | _ => exact hg

theorem sortGuard_eq (l : Subquery) : (canAttachSort l.op && l.sort.isNone && l.take.isNone) =
    !(!canAttachSort l.op || l.sort.isSome || l.take.isSome) := by
  cases canAttachSort l.op <;> cases l.sort <;> cases l.take <;> rfl

/-- **One iteration on an operator the loop handles in one step** (`steps o`: every operator but `join` and
    a `top` without column): the machine's step succeeds, in a state that denotes the functional model's
    `place` of the list it started from.  The guard of `sort` / `take` / `top` is the negation of `attaches`,
    what they assign is `store`. -/
theorem stepI_place {n0 k : Nat} {st : St} (inv : Inv n0 k st) (source : Option Ident)
    (hs : source.isSome = true) {o : Op} (ho : steps o = true) {rest : OpList}
    (hg : opsOk (.cons o rest) = true) :
    ∃ st', stepI source k o st = .ok st' ∧ Post n0 k st st' (place source k o (abs st.heap st.dst)) := by
  cases o with
  | join => cases ho
  | as_ p kw name =>
    obtain ⟨i, rfl⟩ := Option.isSome_iff_exists.mp (Bool.and_eq_true _ _ ▸ hg).1
    rw [place_fresh (fun _ => rfl)]
    refine ⟨_, ?_, post_fresh inv _⟩
    simp only [stepI, nameOf, bind, Except.bind, stChain_ok source k st inv.valid (fun _ => hs),
      stAssign_fresh, stAppend_some]
    rfl
  | sort p kw terms =>
    obtain ⟨st', _, h, _, post⟩ := stAttach_inv inv source hs _ _ sortGuard_eq fun s => { s with sort := some terms }
    exact ⟨st', h, post⟩
  | take p kw n =>
    obtain ⟨st', _, h, _, post⟩ := stAttach_inv inv source hs
      (fun l => !canAttachSort l.op || l.take.isSome) (fun l => canAttachSort l.op && l.take.isNone)
      (fun l => by cases canAttachSort l.op <;> cases l.take <;> rfl) fun s => { s with take := some n }
    exact ⟨st', h, post⟩
  | top p kw n b col =>
    cases col with
    | none => cases ho
    | some c =>
      -- two writes through the same pointer
      obtain ⟨st2, q, h2, hl2, post2⟩ := stAttach_inv inv source hs _ _ sortGuard_eq fun s => { s with sort := some [c] }
      obtain ⟨st3, h3, _, post3⟩ := stAssign_inv post2.inv hl2 fun s => { s with take := some n }
      refine ⟨st3, ?_, ?_⟩
      · rw [stepI, ← bind_assoc, h2]
        exact h3
      · have := post2.trans post3
        rw [post2.abs_eq, C02.setLast_setLast] at this
        exact this
  | _ =>
    -- `default:` — one fresh subquery carrying the operator
    rw [place_fresh (fun _ => rfl)]
    refine ⟨_, ?_, post_fresh inv _⟩
    simp only [stepI, bind, Except.bind, stChain_ok source k st inv.valid (fun _ => hs),
      stAssign_fresh, stAppend_some]
    rfl

/-- `top` without a column (see the header of SplitImpMachine.lean): the machine panics where the functional
    model does -/
theorem stepI_top_none {n0 k : Nat} {st : St} (inv : Inv n0 k st) (source : Option Ident)
    (hs : source.isSome = true) (p kw : Span) (n : Expr) (b : Span) :
    stepI source k (.top p kw n b none) st = .error .panic := by
  obtain ⟨st1, _, h1, _, _⟩ := stChainIf_inv inv source hs _ _ sortGuard_eq
  simp only [stepI, bind, Except.bind, h1]

/-- The tail of the join case, run on the state the recursive call left behind: `dst'` extends the
    `n` pointers the activation had before the call (`leftSubquery = n - 1`).  It allocates the subquery
    the functional model adds (`SplitQ.joinSub`) and appends the pointer to it. -/
theorem joinTailI_ok (src : Bytes) (scope : List (Bytes × List Chunk)) (source : Option Ident)
    (hs : source.isSome = true) (k n : Nat) (flavor : Option Ident) (conds : ExprList)
    (h' : Heap) (dst' : List Addr) (l0 : Option Addr)
    (hv : ∀ a ∈ dst', a < h'.size) (hlt : n < dst'.length) :
    joinTailI src scope source k ((n : Int) - 1) flavor conds ⟨h', dst', l0⟩ =
      joinSub src scope source k n flavor conds (abs h' dst') >>= fun J =>
        .ok ⟨h'.push J, dst' ++ [h'.size], some h'.size⟩ := by
  have hne : dst' ≠ [] := by intro e; rw [e] at hlt; simp at hlt
  obtain ⟨pre, p, hd⟩ : ∃ pre p, dst' = pre ++ [p] :=
    ⟨dst'.dropLast, dst'.getLast hne, (List.dropLast_concat_getLast hne).symm⟩
  have hp : p < h'.size := hv p (by rw [hd]; simp)
  have hidx : index dst' ((dst'.length : Int) - 1) = .ok p := by rw [hd]; exact index_last pre p
  have hright : joinRight (abs h' dst') = (cell h' p).name := by
    unfold joinRight; rw [hd, abs_getLast?]
  have hleft : joinLeftI source k ((n : Int) - 1) ⟨h', dst', some p⟩ =
      .ok (joinLeft source k n (abs h' dst')) := by
    unfold joinLeftI joinLeft
    by_cases hk : ((n : Int) - 1) ≥ (k : Int)
    · rw [if_pos hk, if_pos hk]
      have hn1 : 1 ≤ n := by omega
      have hcast : ((n : Int) - 1) = ((n - 1 : Nat) : Int) := by omega
      have hi : n - 1 < dst'.length := by omega
      rw [hcast, index_nat dst' (n - 1) hi]
      simp only [bind, Except.bind, pure, Except.pure, Int.toNat_natCast]
      rw [load_ok h' (hv _ (List.getElem_mem hi))]
      have : (abs h' dst')[n - 1]? = some (cell h' dst'[n - 1]) := by
        simp [abs, hi]
      rw [this]
    · rw [if_neg hk, if_neg hk]
      obtain ⟨i, rfl⟩ := Option.isSome_iff_exists.mp hs
      rfl
  have hkw : joinKwI (flavorNameI flavor) =
      match C05.leftOf flavor with
      | none => .error .err
      | some left => .ok [Chunk.txt (C05.joinKwOf left)] := by
    unfold joinKwI C05.leftOf C05.uniqueOf
    have : flavorNameI flavor = JoinSem.kindOf flavor := by cases flavor <;> rfl
    rw [this]
    split
    · rfl
    · split <;> rfl
  have hu : (flavorNameI flavor == Bytes.ofString "innerunique") = C05.uniqueOf flavor := by
    cases flavor <;> rfl
  unfold joinTailI joinSub
  simp only [hidx, bind, Except.bind, hleft, hkw, hu, abs_length]
  cases C05.leftOf flavor with
  | none => rfl
  | some left =>
    simp only [deref, load_ok h' hp]
    cases writeExpr ⟨src, scope, .join⟩ (buildJoinCondition conds) with
    | error e => rfl
    | ok c =>
      simp only [alloc, stAppend, deref, bind, Except.bind, pure, Except.pure, hright, joinSourceOf]
      cases C05.uniqueOf flavor <;> simp

end Pql.SplitImp
