/-
`(*scanner).string` as translated against the model's `scanString`: the loop by runes against the model's
loop by bytes; the value is the source slice while no escape has been met (`valueBuilder == nil`) and the
content of the `strings.Builder` afterwards — both are "what has been accumulated so far" (`VB.acc`).
-/
import PqlModel.Lemmas.LexScanIRQuoted
namespace Pql.ScanIR
open Pql
open Pql.LexIR (IErr M BinOp goPanic stuck irOf)
set_option linter.unusedSimpArgs false
set_option linter.unusedVariables false

def shiftV (x : Bytes) : QRes → QRes
  | .closed v w => .closed (x ++ v) (w + x.length)
  | .bad w => .bad (w + x.length)

theorem shiftV_nil (r : QRes) : shiftV [] r = r := by cases r <;> simp [shiftV]

theorem shift_shiftV (c : UInt8) (x : Bytes) (r : QRes) : (shiftV x r).shift 1 (some c) = shiftV (c :: x) r := by
  cases r <;> simp [shiftV, QRes.shift] <;> omega

theorem stringLoop_skip (q : UInt8) (x y : Bytes) (hx : ∀ b ∈ x, b ≠ q ∧ b ≠ 10 ∧ b ≠ 92) :
    stringLoop q (x ++ y) = shiftV x (stringLoop q y) := by
  induction x with
  | nil => simp [shiftV_nil]
  | cons c x ih =>
    have hc := hx c List.mem_cons_self
    have := ih fun b hb => hx b (List.mem_cons_of_mem _ hb)
    rw [List.cons_append, stringLoop_cons]
    simp only [beq_iff_eq, hc.1, hc.2.1, hc.2.2, ↓reduceIte, this, shift_shiftV]

/-- the token of `string` when the model's loop, started `k` bytes into `s` with `acc` accumulated, ends as `r` -/
def strTok (pre : Bytes) (k : Nat) (acc : Bytes) : QRes → Val
  | .closed v w => .tok .string pre.length (pre.length + (k + w)) (acc ++ v)
  | .bad w => .tok .error pre.length (pre.length + (k + w)) []

theorem strTok_shiftV (pre : Bytes) (k : Nat) (acc x : Bytes) (r : QRes) :
    strTok pre k acc (shiftV x r) = strTok pre (k + x.length) (acc ++ x) r := by
  cases r <;> simp [strTok, shiftV] <;> omega

theorem strTok_shift2 (pre : Bytes) (k : Nat) (acc : Bytes) (e : UInt8) (r : QRes) :
    strTok pre k acc (r.shift 2 (some e)) = strTok pre (k + 2) (acc ++ [e]) r := by
  cases r <;> simp [strTok, QRes.shift] <;> omega

theorem width_shiftV (x : Bytes) (r : QRes) : (shiftV x r).width = r.width + x.length := by
  cases r <;> simp [shiftV]

/-- `valueBuilder`: nil, or a builder at `addr` with content `acc` (the newest object of the store) -/
inductive VB
  | none
  | some (addr : Nat) (acc : Bytes)

def VB.val : VB → Val
  | .none => .bptr Option.none
  | .some a _ => .bptr (Option.some a)

def VB.blds (bs0 : List (Nat × Bytes)) : VB → List (Nat × Bytes)
  | .none => bs0
  | .some a acc => (a, acc) :: bs0

def VB.acc (s : Bytes) (k : Nat) : VB → Bytes
  | .none => (s.drop 1).take (k - 1)
  | .some _ acc => acc

def strSt (q p0 : Nat) (vb : Val) (h : Store) : State :=
  ⟨[("valueBuilder", vb), ("valueStart", .int (p0 + 1)), ("ok", .bool true), ("quoteChar", .int q), ("start", .int p0),
    ("s", .scanner)], h⟩

theorem leave_strSt (q p0 : Nat) (vb vb' : Val) (h h' : Store) (x y : String × Val) :
    (State.leave ⟨x :: y :: (strSt q p0 vb h).vars, h⟩ (strSt q p0 vb' h')) = strSt q p0 vb h := by
  simp [State.leave, strSt]

theorem take_extend (s : Bytes) (k w : Nat) (hk : 1 ≤ k) :
    (s.drop 1).take (k - 1) ++ (s.drop k).take w = (s.drop 1).take (k + w - 1) := by
  obtain ⟨j, rfl⟩ : ∃ j, k = j + 1 := ⟨k - 1, by omega⟩
  have e : s.drop (j + 1) = (s.drop 1).drop j := by rw [List.drop_drop]; congr 1; omega
  rw [e]
  have e2 : j + 1 + w - 1 = j + w := by omega
  simp only [Nat.add_one_sub_one, e2]
  exact (List.take_add).symm

structure StrEnv (env : Env) : Prop where
  cur : CursorEnv env
  write : HasPrim env "strings.Builder.WriteString"
  rune : HasPrim env "strings.Builder.WriteRune"
  str : HasPrim env "strings.Builder.String"

/-- `valueBuilder` after `if valueBuilder == nil { valueBuilder = new(strings.Builder); valueBuilder.WriteString(…) }` -/
def VB.force (s : Bytes) (k : Nat) (bs0 : List (Nat × Bytes)) : VB → VB
  | .none => .some bs0.length ((s.drop 1).take (k - 1))
  | .some a acc => .some a acc

theorem VB.force_acc (s : Bytes) (k : Nat) (bs0 : List (Nat × Bytes)) (vb : VB) :
    (vb.force s k bs0).acc s k = vb.acc s k := by cases vb <;> rfl

theorem VB.force_some (s : Bytes) (k : Nat) (bs0 : List (Nat × Bytes)) (vb : VB) : ∃ a acc, vb.force s k bs0 = .some a acc := by
  cases vb with
  | none => exact ⟨_, _, rfl⟩
  | some a acc => exact ⟨a, acc, rfl⟩

def VB.write (x : Bytes) : VB → VB
  | .none => .none
  | .some a acc => .some a (acc ++ x)

def sSt (pre s : Bytes) (q : UInt8) (bs0 : List (Nat × Bytes)) (vb : VB) (k l : Nat) : State :=
  strSt q.toNat pre.length vb.val (hp pre s k l (vb.blds bs0))

def sOut (pre s : Bytes) (q : UInt8) (bs0 : List (Nat × Bytes)) (vb : VB) (k l : Nat) (c : Nat) (ok : Bool) : State :=
  ⟨("ok", .bool ok) :: ("c", .int c) :: (sSt pre s q bs0 vb k l).vars, hp pre s k l (vb.blds bs0)⟩

theorem leave_sOut (pre s : Bytes) (q : UInt8) (bs0 : List (Nat × Bytes)) (vb vb' : VB) (k l k' l' c : Nat) (ok : Bool) :
    (sOut pre s q bs0 vb k l c ok).leave (sSt pre s q bs0 vb' k' l') = sSt pre s q bs0 vb k l := by
  simp [State.leave, sOut, sSt, strSt]

theorem mk_hp (pre s : Bytes) (k l : Nat) (bs : List (Nat × Bytes)) :
    (Store.mk (pre ++ s) (pre.length + k) l bs) = hp pre s k l bs := rfl

def strVars (q p0 : Nat) (vb : Val) : List (String × Val) :=
  [("valueBuilder", vb), ("valueStart", .int (p0 + 1)), ("ok", .bool true), ("quoteChar", .int q), ("start", .int p0),
    ("s", .scanner)]

section
variable (q p0 : Nat) (vb o c : Val)

theorem str_s0 : getVar (strVars q p0 vb) "s" = .ok .scanner := by simp [strVars, getVar_cons]
theorem str_s : getVar (("ok", o) :: ("c", c) :: strVars q p0 vb) "s" = .ok .scanner := by simp [strVars, getVar_cons]
theorem str_start : getVar (("ok", o) :: ("c", c) :: strVars q p0 vb) "start" = .ok (.int p0) := by
  simp [strVars, getVar_cons]
theorem str_quote : getVar (("ok", o) :: ("c", c) :: strVars q p0 vb) "quoteChar" = .ok (.int q) := by
  simp [strVars, getVar_cons]
theorem str_vb : getVar (("ok", o) :: ("c", c) :: strVars q p0 vb) "valueBuilder" = .ok vb := by
  simp [strVars, getVar_cons]
theorem str_s2 (o2 c2 : Val) : getVar (("ok", o2) :: ("c", c2) :: ("ok", o) :: ("c", c) :: strVars q p0 vb) "s" = .ok .scanner :=
  (getVar_under "s" _ _ _ (by decide) (by decide)).trans (str_s q p0 vb o c)
theorem str_start2 (o2 c2 : Val) :
    getVar (("ok", o2) :: ("c", c2) :: ("ok", o) :: ("c", c) :: strVars q p0 vb) "start" = .ok (.int p0) :=
  (getVar_under "start" _ _ _ (by decide) (by decide)).trans (str_start q p0 vb o c)
theorem str_vb2 (o2 c2 : Val) :
    getVar (("ok", o2) :: ("c", c2) :: ("ok", o) :: ("c", c) :: strVars q p0 vb) "valueBuilder" = .ok vb :=
  (getVar_under "valueBuilder" _ _ _ (by decide) (by decide)).trans (str_vb q p0 vb o c)
theorem str_vstart : getVar (("ok", o) :: ("c", c) :: strVars q p0 vb) "valueStart" = .ok (.int (p0 + 1)) := by
  simp [strVars, getVar_cons]

end

section
variable {env : Env} {fuel : Nat} {vars : List (String × Val)} {src : Bytes} {pos last a : Nat} {acc : Bytes} {bs : List (Nat × Bytes)}

theorem prim_builderString (hS : HasPrim env "strings.Builder.String") :
    ∃ f, env "strings.Builder.String" = some f ∧
      f [.bptr (some a)] ⟨src, pos, last, (a, acc) :: bs⟩ = .ok ([.str acc], ⟨src, pos, last, (a, acc) :: bs⟩) :=
  ⟨_, hS.trans rfl, by simp [bldGet]⟩

theorem exec_vbWrite {e : Expr} {x : Bytes} (hW : HasPrim env "strings.Builder.WriteString")
    (hv : getVar vars "valueBuilder" = .ok (.bptr (some a))) (he : Ev env vars ⟨src, pos, last, (a, acc) :: bs⟩ e (.str x)) :
    exec env fuel (vbWrite e) ⟨vars, ⟨src, pos, last, (a, acc) :: bs⟩⟩ =
      .ok (.next, ⟨vars, ⟨src, pos, last, (a, acc ++ x) :: bs⟩⟩) :=
  exec_do (rs := [.int x.length, .nil]) hW (evArgs_cons (ev_var hv) (evArgs_cons he evArgs_nil))
    (by simp [bldWrite, bldGet, bldSet])

theorem exec_vbRune {n : Nat} (hR : HasPrim env "strings.Builder.WriteRune")
    (hv : getVar vars "valueBuilder" = .ok (.bptr (some a))) (hn : n < 128) :
    exec env fuel (vbRune n) ⟨vars, ⟨src, pos, last, (a, acc) :: bs⟩⟩ =
      .ok (.next, ⟨vars, ⟨src, pos, last, (a, acc ++ [UInt8.ofNat n]) :: bs⟩⟩) :=
  exec_do (rs := [.int 1, .nil]) hR (evArgs_cons (ev_var hv) (evArgs_cons (ev_int n) evArgs_nil))
    (by simp [hn, bldWrite, bldGet, bldSet])

end

section
variable {env : Env} {fuel : Nat} {vars : List (String × Val)} (pre s : Bytes)

theorem ev_soFar (k k' : Nat) (bs : List (Nat × Bytes)) (hs : getVar vars "s" = .ok .scanner)
    (hv : getVar vars "valueStart" = .ok (.int (pre.length + 1))) (hk : 1 ≤ k) (hk' : k ≤ s.length) :
    Ev env vars (hp pre s k' (pre.length + k) bs) (srcSlice (.var "valueStart") eLast) (.str ((s.drop 1).take (k - 1))) :=
  ev_slice_hp hs (ev_var hv) (ev_last hs) hk hk'

theorem ev_runeBytes (k w : Nat) (bs : List (Nat × Bytes)) (hs : getVar vars "s" = .ok .scanner) (hkw : k + w ≤ s.length) :
    Ev env vars (hp pre s (k + w) (pre.length + k) bs) (srcSlice eLast ePos) (.str ((s.drop k).take w)) := by
  have := ev_slice_hp (env := env) (pre := pre) (k := k + w) (l := pre.length + k) (bs := bs) hs (ev_last hs) (ev_pos hs)
    (Nat.le_add_right k w) hkw
  rwa [Nat.add_sub_cancel_left] at this

end

section
variable {env : Env} {fuel : Nat} (E : StrEnv env) (pre s : Bytes) (q : UInt8) (bs0 : List (Nat × Bytes))
include E

theorem str_unterminated (vb o c : Val) (h : Store) :
    execBlock env fuel unterminated ⟨("ok", o) :: ("c", c) :: strVars q.toNat pre.length vb, h⟩ =
      .ok (.ret [.tok .error pre.length h.pos []], ⟨("ok", o) :: ("c", c) :: strVars q.toNat pre.length vb, h⟩) :=
  exec_ret_err E.cur (str_s _ _ _ _ _) (str_start _ _ _ _ _) _

theorem str_close (vb : VB) (o c : Val) (k k' : Nat) (hk : 1 ≤ k) (hk' : k ≤ s.length) :
    execBlock env fuel strClose ⟨("ok", o) :: ("c", c) :: strVars q.toNat pre.length vb.val, hp pre s k' (pre.length + k) (vb.blds bs0)⟩ =
      .ok (.ret [.tok .string pre.length (pre.length + k') (vb.acc s k)],
        ⟨[("value", .str (vb.acc s k))] ++ ("ok", o) :: ("c", c) :: strVars q.toNat pre.length vb.val,
          hp pre s k' (pre.length + k) (vb.blds bs0)⟩) := by
  refine block_step (exec_var (z := .str []) rfl (by decide)) ?_
  have hs := fun z => (getVar_skip (k := "value") (x := z) (by decide)).trans (str_s q.toNat pre.length vb.val o c)
  have hst := fun z => (getVar_skip (k := "value") (x := z) (by decide)).trans (str_start q.toNat pre.length vb.val o c)
  have hvb := fun z => (getVar_skip (k := "value") (x := z) (by decide)).trans (str_vb q.toNat pre.length vb.val o c)
  have hvs := fun z => (getVar_skip (k := "value") (x := z) (by decide)).trans (str_vstart q.toNat pre.length vb.val o c)
  have fin : ∀ h : Store, execBlock env fuel [.ret [.mkToken (.kind "TokenString") spanHere (.var "value")]]
      ⟨("value", .str (vb.acc s k)) :: ("ok", o) :: ("c", c) :: strVars q.toNat pre.length vb.val, h⟩ =
      .ok (.ret [.tok .string pre.length h.pos (vb.acc s k)],
        ⟨("value", .str (vb.acc s k)) :: ("ok", o) :: ("c", c) :: strVars q.toNat pre.length vb.val, h⟩) := fun h =>
    block_last (exec_ret1 (ev_mkToken (ev_kind kind_string) (ev_spanHere E.cur (hs _) (hst _)) (ev_var (getVar_top _ _ _))))
  cases vb with
  | none =>
    exact block_step (exec_ite_then (evb_isNil (ev_var (hvb _)))
      (block_last (exec_set_top (ev_soFar pre s k k' _ (hs _) (hvs _) hk hk') (by decide))) rfl) (fin _)
  | some a acc =>
    obtain ⟨fS, hS, sS⟩ := prim_builderString (src := pre ++ s) (pos := pre.length + k') (last := pre.length + k) (a := a) (acc := acc)
      (bs := bs0) E.str
    exact block_step (exec_ite_else (evb_isNil (ev_var (hvb _)))
      (block_last (exec_set_top (ev_call hS (evArgs_cons (ev_var (hvb _)) evArgs_nil) sS) (by decide))) rfl) (fin _)

theorem str_force (vb : VB) (o c : Val) (k k' : Nat) (hk : 1 ≤ k) (hk' : k ≤ s.length) :
    exec env fuel (.ite (.bin .eq eVB .nil) [.set "valueBuilder" .newBuilder, vbWrite (srcSlice (.var "valueStart") eLast)] [])
        ⟨("ok", o) :: ("c", c) :: strVars q.toNat pre.length vb.val, hp pre s k' (pre.length + k) (vb.blds bs0)⟩ =
      .ok (.next, ⟨("ok", o) :: ("c", c) :: strVars q.toNat pre.length (vb.force s k bs0).val,
        hp pre s k' (pre.length + k) ((vb.force s k bs0).blds bs0)⟩) := by
  cases vb with
  | some a acc => exact exec_ite_skip (evb_isNil (ev_var (str_vb _ _ _ _ _)))
  | none =>
    refine exec_ite_then (evb_isNil (ev_var (str_vb _ _ _ _ _))) ?_ rfl
    refine block_step (exec_set (x := .bptr (some bs0.length)) (h' := hp pre s k' (pre.length + k) ((bs0.length, []) :: bs0))
      rfl (by decide) (vars' := ("ok", o) :: ("c", c) :: strVars q.toNat pre.length (.bptr (some bs0.length)))
      (by simp [assignIn, strVars])) ?_
    exact block_last (exec_vbWrite E.write (str_vb _ _ _ _ _)
      (ev_soFar pre s k k' _ (str_s _ _ _ _ _) (str_vstart _ _ _ _ _) hk hk'))

theorem str_body_end (vb : VB) (k l : Nat) (hlen : s.length ≤ k) :
    execBlock env fuel strLoopBody (sSt pre s q bs0 vb k l) =
      .ok (.ret [.tok .error pre.length (pre.length + k) []], sOut pre s q bs0 vb k l 0 false) := by
  obtain ⟨fN, hN, sN⟩ := E.cur.next
  refine block_step (exec_defNext (str_s0 _ _ _) hN (next_end sN pre s k l _ hlen)) ?_
  exact block_stop (exec_ite_then (evb_not (evb_ok (getVar_ok _ _ _))) (str_unterminated E pre q _ _ _ _) rfl) (by simp)

theorem str_body_close (vb : VB) (k l : Nat) (rest : Bytes) (hk : 1 ≤ k) (hd : s.drop k = q :: rest) (hq : q.toNat < 128) :
    execBlock env fuel strLoopBody (sSt pre s q bs0 vb k l) =
      .ok (.ret [.tok .string pre.length (pre.length + (k + 1)) (vb.acc s k)],
        sOut pre s q bs0 vb (k + 1) (pre.length + k) q.toNat true) := by
  have hlt := LexIR.lt_of_drop_cons hd
  refine block_nextRune E.cur (str_s0 _ _ _) hd (decodeRune_ascii q rest hq) (block_last ?_)
  exact exec_ite_then_drop ((evb_eq (ev_var (getVar_c _ _ _)) (ev_var (str_quote _ _ _ _ _))).cast (decide_eq_true rfl))
    (str_close E pre s q bs0 vb _ _ k (k + 1) hk (by omega)) rfl

theorem str_body_nl (vb : VB) (k l : Nat) (rest : Bytes) (hd : s.drop k = 10 :: rest) (hq : q ≠ 10) :
    execBlock env fuel strLoopBody (sSt pre s q bs0 vb k l) =
      .ok (.ret [.tok .error pre.length (pre.length + k) []], sOut pre s q bs0 vb k (pre.length + k) 10 true) := by
  obtain ⟨fP, hP, sP⟩ := E.cur.prev
  have hne : ¬ (10 : Nat) = q.toNat := fun e => hq (UInt8.toNat_inj.mp (by rw [← e]; rfl))
  refine block_nextRune E.cur (str_s0 _ _ _) hd (decodeRune_ascii 10 rest (by decide)) (block_last ?_)
  refine exec_ite_elif ((evb_eq (ev_var (getVar_c _ _ _)) (ev_var (str_quote _ _ _ _ _))).cast (decide_eq_false hne)) ?_ rfl
  exact exec_ite_then (evb_cIs 10 (getVar_c _ _ _))
    (block_step (exec_sPrev (str_s _ _ _ _ _) hP (prev_hp sP pre s k (k + 1) _)) (str_unterminated E pre q _ _ _ _)) rfl

theorem str_copy (vb : VB) (o c : Val) (k w : Nat) (hkw : k + w ≤ s.length) :
    exec env fuel (.ite (.bin .ne eVB .nil) [vbWrite (srcSlice eLast ePos)] [])
        ⟨("ok", o) :: ("c", c) :: strVars q.toNat pre.length vb.val, hp pre s (k + w) (pre.length + k) (vb.blds bs0)⟩ =
      .ok (.next, ⟨("ok", o) :: ("c", c) :: strVars q.toNat pre.length (vb.write ((s.drop k).take w)).val,
        hp pre s (k + w) (pre.length + k) ((vb.write ((s.drop k).take w)).blds bs0)⟩) := by
  cases vb with
  | none => exact exec_ite_skip (evb_notNil (ev_var (str_vb _ _ _ _ _)))
  | some a acc =>
    exact exec_ite_then (evb_notNil (ev_var (str_vb _ _ _ _ _)))
      (block_last (exec_vbWrite E.write (str_vb _ _ _ _ _) (ev_runeBytes pre s k w _ (str_s _ _ _ _ _) hkw))) rfl

theorem str_body_other (vb : VB) (k l : Nat) (c : UInt8) (rest : Bytes) (r w : Nat) (hd : s.drop k = c :: rest)
    (hr : decodeRune (c :: rest) = (r, w)) (h1 : ¬ r = q.toNat) (h2 : ¬ r = 10) (h3 : ¬ r = 92) (hkw : k + w ≤ s.length) :
    execBlock env fuel strLoopBody (sSt pre s q bs0 vb k l) =
      .ok (.next, sOut pre s q bs0 (vb.write ((s.drop k).take w)) (k + w) (pre.length + k) r true) := by
  refine block_nextRune E.cur (str_s0 _ _ _) hd hr (block_last ?_)
  refine exec_ite_elif ((evb_eq (ev_var (getVar_c _ _ _)) (ev_var (str_quote _ _ _ _ _))).cast (decide_eq_false h1)) ?_ rfl
  refine exec_ite_elif ((evb_cIs 10 (getVar_c _ _ _)).cast (decide_eq_false h2)) ?_ rfl
  refine exec_ite_elif ((evb_cIs 92 (getVar_c _ _ _)).cast (decide_eq_false h3)) ?_ rfl
  exact str_copy E pre s q bs0 vb _ _ k w hkw

theorem str_body_esc (vb : VB) (k l : Nat) (rest : Bytes) (hd : s.drop k = 92 :: rest) (hq : q ≠ 92) {f : Flow}
    {extra : List (String × Val)} {vb' : Val} {h1 : Store}
    (hesc : execBlock env fuel strEscape ⟨("ok", .bool true) :: ("c", .int 92) :: strVars q.toNat pre.length vb.val,
        hp pre s (k + 1) (pre.length + k) (vb.blds bs0)⟩ =
      .ok (f, ⟨extra ++ ("ok", .bool true) :: ("c", .int 92) :: strVars q.toNat pre.length vb', h1⟩)) :
    execBlock env fuel strLoopBody (sSt pre s q bs0 vb k l) =
      .ok (f, ⟨("ok", .bool true) :: ("c", .int 92) :: strVars q.toNat pre.length vb', h1⟩) := by
  have hne : ¬ (92 : Nat) = q.toNat := fun e => hq (UInt8.toNat_inj.mp (by rw [← e]; rfl))
  refine block_nextRune E.cur (str_s0 _ _ _) hd (decodeRune_ascii 92 rest (by decide)) (block_last ?_)
  refine exec_ite_elif ((evb_eq (ev_var (getVar_c _ _ _)) (ev_var (str_quote _ _ _ _ _))).cast (decide_eq_false hne)) ?_ rfl
  refine exec_ite_elif (evb_cIs 10 (getVar_c _ _ _)) ?_ rfl
  exact exec_ite_then_drop (evb_cIs 92 (getVar_c _ _ _)) hesc rfl

theorem str_body_esc_end (vb : VB) (k l : Nat) (hk : 1 ≤ k) (hd : s.drop k = [92]) (hq : q ≠ 92) :
    execBlock env fuel strLoopBody (sSt pre s q bs0 vb k l) =
      .ok (.ret [.tok .error pre.length (pre.length + (k + 1)) []],
        sOut pre s q bs0 (vb.force s k bs0) (k + 1) (pre.length + k) 92 true) := by
  obtain ⟨fN, hN, sN⟩ := E.cur.next
  have hlt := LexIR.lt_of_drop_cons hd
  have hlen : s.length ≤ k + 1 := List.drop_eq_nil_iff.mp (LexIR.drop_succ_of_cons hd)
  refine str_body_esc E pre s q bs0 vb k l [] hd hq (extra := [("ok", .bool false), ("c", .int 0)]) ?_
  refine block_step (str_force E pre s q bs0 vb _ _ k (k + 1) hk (by omega)) ?_
  refine block_step (exec_defNext (str_s _ _ _ _ _) hN (next_end sN pre s (k + 1) _ _ hlen)) ?_
  exact block_stop (exec_ite_then (evb_not (evb_ok (getVar_ok _ _ _)))
    (exec_ret_err E.cur (str_s2 _ _ _ _ _ _ _) (str_start2 _ _ _ _ _ _ _) _) rfl) (by simp)

theorem str_body_esc_nl (vb : VB) (k l : Nat) (rest : Bytes) (hk : 1 ≤ k) (hd : s.drop k = 92 :: 10 :: rest) (hq : q ≠ 92) :
    execBlock env fuel strLoopBody (sSt pre s q bs0 vb k l) =
      .ok (.ret [.tok .error pre.length (pre.length + (k + 1)) []],
        sOut pre s q bs0 (vb.force s k bs0) (k + 1) (pre.length + (k + 1)) 92 true) := by
  obtain ⟨fP, hP, sP⟩ := E.cur.prev
  have hlt := LexIR.lt_of_drop_cons hd
  refine str_body_esc E pre s q bs0 vb k l _ hd hq (extra := [("ok", .bool true), ("c", .int 10)]) ?_
  refine block_step (str_force E pre s q bs0 vb _ _ k (k + 1) hk (by omega)) ?_
  refine block_nextRune E.cur (str_s _ _ _ _ _) (LexIR.drop_succ_of_cons hd) (decodeRune_ascii 10 _ (by decide)) (block_last ?_)
  exact exec_ite_then (evb_cIs 10 (getVar_c _ _ _))
    (block_step (exec_sPrev (str_s2 _ _ _ _ _ _ _) hP (prev_hp sP pre s (k + 1) (k + 1 + 1) _))
      (exec_ret_err E.cur (str_s2 _ _ _ _ _ _ _) (str_start2 _ _ _ _ _ _ _) _)) rfl

theorem str_body_esc_rune (vb : VB) (k l : Nat) (e : UInt8) (v : Nat) (rest : Bytes) (hk : 1 ≤ k)
    (hd : s.drop k = 92 :: e :: rest) (hq : q ≠ 92) (he : (e = 110 ∧ v = 10) ∨ (e = 116 ∧ v = 9)) :
    execBlock env fuel strLoopBody (sSt pre s q bs0 vb k l) =
      .ok (.next, sOut pre s q bs0 ((vb.force s k bs0).write [UInt8.ofNat v]) (k + 1 + 1) (pre.length + (k + 1)) 92 true) := by
  have hlt := LexIR.lt_of_drop_cons hd
  have het : e.toNat < 128 := by rcases he with ⟨rfl, _⟩ | ⟨rfl, _⟩ <;> decide
  refine str_body_esc E pre s q bs0 vb k l _ hd hq (extra := [("ok", .bool true), ("c", .int e.toNat)]) ?_
  refine block_step (str_force E pre s q bs0 vb _ _ k (k + 1) hk (by omega)) ?_
  obtain ⟨a, acc, hf⟩ := VB.force_some s k bs0 vb
  rw [hf]
  refine block_nextRune E.cur (str_s _ _ _ _ _) (LexIR.drop_succ_of_cons hd) (decodeRune_ascii e _ het) (block_last ?_)
  rcases he with ⟨rfl, rfl⟩ | ⟨rfl, rfl⟩
  · refine exec_ite_elif (evb_cIs 10 (getVar_c _ _ _)) ?_ rfl
    exact exec_ite_then (evb_cIs 110 (getVar_c _ _ _)) (block_last (exec_vbRune E.rune (str_vb2 _ _ _ _ _ _ _) (by decide))) rfl
  · refine exec_ite_elif (evb_cIs 10 (getVar_c _ _ _)) ?_ rfl
    refine exec_ite_elif (evb_cIs 110 (getVar_c _ _ _)) ?_ rfl
    exact exec_ite_then (evb_cIs 116 (getVar_c _ _ _)) (block_last (exec_vbRune E.rune (str_vb2 _ _ _ _ _ _ _) (by decide))) rfl

theorem str_body_esc_other (vb : VB) (k l : Nat) (e : UInt8) (rest : Bytes) (re we : Nat) (hk : 1 ≤ k)
    (hd : s.drop k = 92 :: e :: rest) (hq : q ≠ 92) (hr : decodeRune (e :: rest) = (re, we))
    (h1 : ¬ re = 10) (h2 : ¬ re = 110) (h3 : ¬ re = 116) (hkw : k + 1 + we ≤ s.length) :
    execBlock env fuel strLoopBody (sSt pre s q bs0 vb k l) =
      .ok (.next, sOut pre s q bs0 ((vb.force s k bs0).write ((s.drop (k + 1)).take we)) (k + 1 + we)
        (pre.length + (k + 1)) 92 true) := by
  have hlt := LexIR.lt_of_drop_cons hd
  refine str_body_esc E pre s q bs0 vb k l _ hd hq (extra := [("ok", .bool true), ("c", .int re)]) ?_
  refine block_step (str_force E pre s q bs0 vb _ _ k (k + 1) hk (by omega)) ?_
  obtain ⟨a, acc, hf⟩ := VB.force_some s k bs0 vb
  rw [hf]
  refine block_nextRune E.cur (str_s _ _ _ _ _) (LexIR.drop_succ_of_cons hd) hr (block_last ?_)
  refine exec_ite_elif ((evb_cIs 10 (getVar_c _ _ _)).cast (decide_eq_false h1)) ?_ rfl
  refine exec_ite_elif ((evb_cIs 110 (getVar_c _ _ _)).cast (decide_eq_false h2)) ?_ rfl
  exact exec_ite_else ((evb_cIs 116 (getVar_c _ _ _)).cast (decide_eq_false h3))
    (block_last (exec_vbWrite E.write (str_vb2 _ _ _ _ _ _ _) (ev_runeBytes pre s (k + 1) we _ (str_s2 _ _ _ _ _ _ _) hkw))) rfl

end

theorem VB.write_acc (s : Bytes) (k w : Nat) (hk : 1 ≤ k) (vb : VB) :
    (vb.write ((s.drop k).take w)).acc s (k + w) = vb.acc s k ++ (s.drop k).take w := by
  cases vb with
  | none => exact (take_extend s k w hk).symm
  | some a acc => rfl

theorem VB.force_write_acc (s : Bytes) (k k' : Nat) (bs0 : List (Nat × Bytes)) (x : Bytes) (vb : VB) :
    ((vb.force s k bs0).write x).acc s k' = vb.acc s k ++ x := by
  cases vb <;> rfl

theorem ne_of_ge (b q : UInt8) (hq : q.toNat < 128) (hb : 128 ≤ b.toNat) : b ≠ q ∧ b ≠ 10 ∧ b ≠ 92 := by
  refine ⟨?_, ?_, ?_⟩ <;> (intro e; subst e; first | omega | (simp at hb))

def SpecString (fuel : Nat) (f : Fn) : Prop := ∀ (pre s : Bytes) (l : Nat) (bs : List (Nat × Bytes)) (q : UInt8) (rest : Bytes),
  s = q :: rest → (q = 34 ∨ q = 39) → s.length < fuel →
  ∃ l' bs', f [.scanner] (hp pre s 0 l bs) = .ok ([tokAt pre.length (scanString s)], hp pre s (scanString s).width l' bs')

theorem str_loop (env : Env) (fuel : Nat) (E : StrEnv env) (pre s : Bytes) (q : UInt8) (hq : q = 34 ∨ q = 39)
    (bs0 : List (Nat × Bytes)) :
    ∀ (n k l : Nat) (vb : VB), 1 ≤ k → k ≤ s.length → s.length - k < n →
      ∃ l' vb', foreverLoop (execBlock env fuel strLoopBody) n (sSt pre s q bs0 vb k l) =
        .ok (.ret [strTok pre k (vb.acc s k) (stringLoop q (s.drop k))],
          sSt pre s q bs0 vb' (k + (stringLoop q (s.drop k)).width) l') := by
  have hq128 : q.toNat < 128 := by rcases hq with rfl | rfl <;> decide
  have hq10 : q ≠ 10 := by rcases hq with rfl | rfl <;> decide
  have hq92 : q ≠ 92 := by rcases hq with rfl | rfl <;> decide
  intro n
  induction n with
  | zero => intro k l vb _ _ h; omega
  | succ n ih =>
    intro k l vb hk1 hk hn
    cases hd : s.drop k with
    | nil =>
      have hlen : s.length ≤ k := List.drop_eq_nil_iff.mp hd
      refine ⟨l, vb, ?_⟩
      simp only [forever_ret (str_body_end E pre s q bs0 vb k l hlen),
        leave_sOut, stringLoop, strTok, QRes.width_bad, Nat.add_zero]
    | cons c rest =>
      have hlt := LexIR.lt_of_drop_cons hd
      have hr1 := LexIR.drop_succ_of_cons hd
      obtain ⟨r, w, y, hr, hrest, R⟩ := rune_at hd
      have hqr := R.ascii
      have hw := R.width
      by_cases hcq : c = q
      · -- the closing quote
        subst hcq
        refine ⟨pre.length + k, vb, ?_⟩
        have hm : stringLoop c (c :: rest) = .closed [] 1 := by rw [stringLoop_cons]; simp
        simp only [forever_ret (str_body_close E pre s c bs0 vb k l rest hk1 hd hq128), leave_sOut, hm, strTok, QRes.width_closed, List.append_nil]
      · have hrq : ¬ r = q.toNat := fun e => hcq (((hqr q.toNat hq128).mp e).trans (UInt8.ofNat_toNat))
        by_cases h10 : c = 10
        · -- end of line
          subst h10
          refine ⟨pre.length + k, vb, ?_⟩
          have hm : stringLoop q (10 :: rest) = .bad 0 := by rw [stringLoop_cons]; simp [hcq]
          simp only [forever_ret (str_body_nl E pre s q bs0 vb k l rest hd hq10), leave_sOut, hm, strTok, QRes.width_bad, Nat.add_zero]
        · have hr10 : ¬ r = 10 := fun e => h10 ((hqr 10 (by omega)).mp e)
          by_cases h92 : c = 92
          · -- an escape
            subst h92
            cases rest with
            | nil =>
              refine ⟨pre.length + k, vb.force s k bs0, ?_⟩
              have hm : stringLoop q [92] = .bad 1 := by rw [stringLoop_cons]; simp [hcq]
              simp only [forever_ret (str_body_esc_end E pre s q bs0 vb k l hk1 hd hq92), leave_sOut, hm, strTok, QRes.width_bad]
            | cons e rest' =>
              have hr2 := LexIR.drop_succ_of_cons hr1
              have hlt2 := LexIR.lt_of_drop_cons hr1
              obtain ⟨re, we, ye, hre, hreste, Re⟩ := rune_at hr1
              have hqe := Re.ascii
              have hwe := Re.width
              by_cases he10 : e = 10
              · subst he10
                refine ⟨pre.length + (k + 1), vb.force s k bs0, ?_⟩
                have hm : stringLoop q (92 :: 10 :: rest') = .bad 1 := by rw [stringLoop_cons]; simp [hcq]
                simp only [forever_ret (str_body_esc_nl E pre s q bs0 vb k l rest' hk1 hd hq92), leave_sOut, hm, strTok, QRes.width_bad]
              · have hre10 : ¬ re = 10 := fun x => he10 ((hqe 10 (by omega)).mp x)
                by_cases hnt : e = 110 ∨ e = 116
                · -- \n, \t
                  obtain ⟨v, hv, hvv⟩ : ∃ v : Nat, ((e = 110 ∧ v = 10) ∨ (e = 116 ∧ v = 9)) ∧
                      (if e == 110 then (10 : UInt8) else if e == 116 then 9 else e) = UInt8.ofNat v := by
                    rcases hnt with rfl | rfl
                    · exact ⟨10, Or.inl ⟨rfl, rfl⟩, rfl⟩
                    · exact ⟨9, Or.inr ⟨rfl, rfl⟩, rfl⟩
                  obtain ⟨l', vb', e1⟩ := ih (k + 1 + 1) (pre.length + (k + 1))
                    ((vb.force s k bs0).write [UInt8.ofNat v]) (by omega) (by omega) (by omega)
                  rw [hr2] at e1
                  refine ⟨l', vb', ?_⟩
                  have hm : stringLoop q (92 :: e :: rest') = (stringLoop q rest').shift 2 (some (UInt8.ofNat v)) := by
                    rw [stringLoop_cons]; simp [hcq, he10, ← hvv]
                  simp only [forever_next (str_body_esc_rune E pre s q bs0 vb k l e v rest' hk1 hd hq92 hv) (Or.inl rfl), leave_sOut, e1, hm, strTok_shift2, VB.force_write_acc, QRes.width_shift]
                  have a1 : k + 1 + 1 = k + 2 := by omega
                  have a2 : k + 2 + (stringLoop q rest').width = k + ((stringLoop q rest').width + 2) := by omega
                  rw [a1, a2]
                · -- any other rune after the backslash
                  have hn110 : ¬ e = 110 := fun x => hnt (Or.inl x)
                  have hn116 : ¬ e = 116 := fun x => hnt (Or.inr x)
                  have hre110 : ¬ re = 110 := fun x => hn110 ((hqe 110 (by omega)).mp x)
                  have hre116 : ¬ re = 116 := fun x => hn116 ((hqe 116 (by omega)).mp x)
                  obtain ⟨l', vb', e1⟩ := ih (k + 1 + we) (pre.length + (k + 1))
                    ((vb.force s k bs0).write ((s.drop (k + 1)).take we)) (by omega) Re.le (by omega)
                  refine ⟨l', vb', ?_⟩
                  -- the model takes the byte `e` for the escaped one and copies the other bytes of the rune one by one
                  have hskip := stringLoop_skip q ye (s.drop (k + 1 + we)) fun b hb => ne_of_ge b q hq128 (Re.tail b hb)
                  rw [← hreste] at hskip
                  have hm : stringLoop q (92 :: e :: rest') = (shiftV ye (stringLoop q (s.drop (k + 1 + we)))).shift 2 (some e) := by
                    rw [stringLoop_cons]; simp [hcq, he10, hn110, hn116, hskip]
                  simp only [forever_next (str_body_esc_other E pre s q bs0 vb k l e rest' re we hk1 hd hq92 hre hre10 hre110
                    hre116 Re.le) (Or.inl rfl), leave_sOut, hm, strTok_shift2, strTok_shiftV, VB.force_write_acc,
                    QRes.width_shift, width_shiftV, Re.take]
                  rw [Re.take, VB.force_write_acc] at e1
                  have a1 : k + 2 + ye.length = k + 1 + we := by omega
                  have a2 : k + 1 + we + (stringLoop q (s.drop (k + 1 + we))).width =
                      k + ((stringLoop q (s.drop (k + 1 + we))).width + ye.length + 2) := by omega
                  have a3 : vb.acc s k ++ [e] ++ ye = vb.acc s k ++ e :: ye := by simp
                  rw [a1, e1, a2, a3]
          · -- any other rune: content
            have hr92 : ¬ r = 92 := fun e => h92 ((hqr 92 (by omega)).mp e)
            obtain ⟨l', vb', e1⟩ := ih (k + w) (pre.length + k) (vb.write ((s.drop k).take w)) (by omega) R.le (by omega)
            refine ⟨l', vb', ?_⟩
            have hskip := stringLoop_skip q (c :: y) (s.drop (k + w)) fun b hb =>
              ⟨R.ne hq128 hcq b hb, R.ne (by decide) h10 b hb, R.ne (by decide) h92 b hb⟩
            rw [List.cons_append, ← hrest] at hskip
            have hacc := VB.write_acc s k w hk1 vb
            rw [R.take] at hacc e1
            simp only [forever_next (str_body_other E pre s q bs0 vb k l c rest r w hd hr hrq hr10 hr92 R.le) (Or.inl rfl), leave_sOut, e1, hskip, strTok_shiftV, width_shiftV, R.take, hacc, List.length_cons, hw]
            have a2 : k + w + (stringLoop q (s.drop (k + w))).width = k + ((stringLoop q (s.drop (k + w))).width + w) := by omega
            rw [a2]

theorem string_spec (env : Env) (fuel : Nat) (E : StrEnv env) : SpecString fuel (interpFn env fuel stringDecl) := by
  intro pre s l bs q rest hs hq hfuel
  obtain ⟨fN, hN, sN⟩ := E.cur.next
  have hq128 : q.toNat < 128 := by rcases hq with rfl | rfl <;> decide
  have hd : s.drop 0 = q :: rest := by simp [hs]
  have nx := next_cons sN pre s 0 l bs q rest q.toNat 1 hd (decodeRune_ascii q rest hq128)
  obtain ⟨l', vb', hl⟩ := str_loop env fuel E pre s q hq bs fuel (0 + 1) (pre.length + 0) .none (by omega)
    (by subst hs; simp) (by omega)
  have hdrop : s.drop (0 + 1) = rest := by subst hs; rfl
  rw [hdrop] at hl
  simp only [Nat.add_zero, Nat.zero_add, sSt, strSt, VB.val, VB.blds, VB.acc, Nat.sub_self, List.take_zero] at nx hl
  refine ⟨l', vb'.blds bs, ?_⟩
  have hres : [strTok pre 1 [] (stringLoop q rest)] = [tokAt pre.length (scanString s)] ∧
      1 + (stringLoop q rest).width = (scanString s).width := by
    subst hs
    simp only [scanString, strTok, tokAt]
    cases hm : stringLoop q rest with
    | closed v w => exact ⟨by simp; omega, by simp; omega⟩
    | bad w => exact ⟨by simp; omega, by simp; omega⟩
  rw [hres.1, hres.2] at hl
  have hqc : ∀ x y : Val, getVar (("ok", x) :: ("quoteChar", .int q.toNat) :: ("start", y) :: [("s", Val.scanner)]) "quoteChar" =
      .ok (.int q.toNat) := fun _ _ => rfl
  refine interpFn_ret (ps := [("s", .scanner)]) (vars1 := (strSt q.toNat pre.length vb'.val (hp pre s 0 0 [])).vars) rfl ?_ rfl
  refine block_step (exec_def (ev_pos (by rfl)) (by decide)) ?_
  refine block_step (exec_def2 hN (evArgs_recv (by rfl)) nx (by decide) (by decide)) ?_
  refine block_step (exec_ite_skip (evb_not (evb_ok (getVar_top _ _ _)))) ?_
  refine block_step (exec_ite_skip ((evb_and (evb_ne (ev_var (hqc _ _)) (ev_int 39)) (evb_ne (ev_var (hqc _ _)) (ev_int 34))).cast
    (by rcases hq with rfl | rfl <;> rfl))) ?_
  refine block_step (exec_def (ev_pos (by rfl)) (by decide)) ?_
  exact block_step (exec_var (z := .bptr none) rfl (by decide)) (block_last (exec_forever.trans hl))

end Pql.ScanIR
