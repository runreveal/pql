/-
The parser commutes with a map on tokens.

A `TokMap` changes the positions of tokens (`tok`), and says what that does to the spans the
parser writes into trees (`sp`), to the positions of error leaves (`esp`) and to the end-of-input
position (`src`, `dst`).  Kinds and values — all the parser ever tests — are untouched.  Every
production run on the mapped tokens then returns the mapped result (`Comm`); moving a statement to
its offset in a longer source (`Piecewise.shiftMap`), forgetting positions altogether
(`Layout.npMap`) and the identity exactly where a predicate holds (`spanMap`, SpanFree.lean) are the
instances.  The expression block goes by `expr_induct` on the run on the tokens, the run on the
images being rewritten with the same case equation (ParseMapExpr); for the productions around the
operators the proofs follow the text of the production: the two runs make the same tests, so a
conditional is a congruence for `Comm` (`Comm.ite`), and a sub-run on the images is the image of
the sub-run.

`ok` restricts the tokens for which `tok` and `sp` have to agree: a right shift leaves the
constant span `Span.zero` alone, so it agrees with moving the token only on non-empty tokens.
`lt` restricts the pairs of tokens whose extent `sp` has to respect (`span2`) to a token and a
later one of the same list, the only pairs the parser takes an extent of: a map need not know what
to do with the extent of two tokens in the wrong order.
-/
import PqlModel.Lemmas.LayoutDefs
import PqlModel.Lemmas.SplitBasic
import PqlModel.Lemmas.ParseCases
namespace Pql
open Layout

theorem splitAux_fst_length_congr (search : TokKind) : ∀ (a b : List Token) (st : List TokKind),
    a.map Token.kind = b.map Token.kind →
    (splitAux search st a).1.length = (splitAux search st b).1.length := by
  intro a
  induction a with
  | nil =>
    intro b st h
    cases b with
    | nil => rfl
    | cons _ _ => exact nomatch h
  | cons t a ih =>
    intro b st h
    cases b with
    | nil => exact nomatch h
    | cons u b =>
      rw [List.map_cons, List.map_cons, List.cons.injEq] at h
      rw [splitAux_cons, splitAux_cons, ← h.1]
      cases splitStep search st t.kind with
      | none => rfl
      | some st' => exact congrArg (· + 1) (ih b st' h.2)

theorem split_of_kinds (search : TokKind) (ts a' b' : List Token)
    (hk : (a' ++ b').map Token.kind = ts.map Token.kind)
    (hl : a'.length = (split search ts).1.length) : split search (a' ++ b') = (a', b') := by
  have h1 := split_append search (a' ++ b')
  have h2 : (split search (a' ++ b')).1.length = a'.length := by
    rw [hl]; exact splitAux_fst_length_congr search _ _ [] hk
  obtain ⟨e1, e2⟩ := List.append_inj h1 h2
  exact Prod.ext e1 e2

structure TokMap where
  tok : Token → Token
  sp : Span → Span
  /-- on the positions of error leaves.  Separate from `sp` because an error leaf can point to the
      end of input: when a statement of a source of length `n` is moved by `d` into a source of
      length `m`, the position `n:n` has to become `m:m`, not `n+d:n+d`, while a tree never holds
      that position.  So `esp` is asked to agree with `sp` on the spans of tokens only (`espan`)
      and to send one end of input to the other (`eof`). -/
  esp : Span → Span
  src : PCtx
  dst : PCtx
  ok : Token → Prop
  lt : Token → Token → Prop
  kind : ∀ t, (tok t).kind = t.kind
  value : ∀ t, (tok t).value = t.value
  span : ∀ t, ok t → (tok t).span = sp t.span
  espan : ∀ t, ok t → esp t.span = sp t.span
  /-- the span from the start of one token to the end of another (`nulls first`, `sort by`) -/
  span2 : ∀ t u, ok t → ok u → lt t u → (⟨(tok t).start, (tok u).stop⟩ : Span) = sp ⟨t.start, u.stop⟩
  null : sp .null = .null
  zero : sp .zero = .zero
  eof : esp src.eof = dst.eof

namespace TokMap
variable (M : TokMap)

theorem isIdentNamed_tok (t : Token) (s : String) : isIdentNamed (M.tok t) s = isIdentNamed t s := by
  simp only [isIdentNamed, M.kind, M.value]

def Ok (ts : List Token) : Prop := (∀ t ∈ ts, M.ok t) ∧ ts.Pairwise M.lt

theorem Ok_nil : M.Ok [] := ⟨fun _ h => (nomatch h), List.Pairwise.nil⟩

variable {M}

theorem Ok.sublist {a b : List Token} (hs : a.Sublist b) (h : M.Ok b) : M.Ok a :=
  ⟨fun t ht => h.1 t (hs.subset ht), h.2.sublist hs⟩

theorem Ok.tail {t : Token} {ts : List Token} (h : M.Ok (t :: ts)) : M.Ok ts :=
  h.sublist (List.sublist_cons_self _ _)
theorem Ok.head {t : Token} {ts : List Token} (h : M.Ok (t :: ts)) : M.ok t :=
  h.1 t (List.mem_cons_self ..)
theorem Ok.lt {t u : Token} {ts : List Token} (h : M.Ok (t :: ts)) (hu : u ∈ ts) : M.lt t u :=
  (List.pairwise_cons.mp h.2).1 u hu

theorem Ok.split1 {k : TokKind} {ts : List Token} (h : M.Ok ts) : M.Ok (split k ts).1 := by
  rw [← split_append k ts] at h; exact h.sublist (List.sublist_append_left _ _)
theorem Ok.split2 {k : TokKind} {ts : List Token} (h : M.Ok ts) : M.Ok (split k ts).2 := by
  rw [← split_append k ts] at h; exact h.sublist (List.sublist_append_right _ _)

variable (M)

def res {α β} (f : α → β) (r : PRes α) : PRes β := ⟨f r.val, mapErrs M.esp r.errs, r.rest.map M.tok⟩

theorem res_mk {α β} (f : α → β) (v : α) (e : Errs) (r : List Token) :
    M.res f ⟨v, e, r⟩ = ⟨f v, mapErrs M.esp e, r.map M.tok⟩ := rfl
theorem res_val {α β} (f : α → β) (r : PRes α) : (M.res f r).val = f r.val := rfl
theorem res_errs {α β} (f : α → β) (r : PRes α) : (M.res f r).errs = mapErrs M.esp r.errs := rfl
theorem res_rest {α β} (f : α → β) (r : PRes α) : (M.res f r).rest = r.rest.map M.tok := rfl

def Comm {α β} (f : α → β) (r : PRes α) (r' : PRes β) : Prop := r' = M.res f r ∧ M.Ok r.rest

variable {M} in
/-- kinds and values are kept, and an image has an error iff the original has one: once the test of
    the run on the images is rewritten to that of the run on the tokens, the commutation goes into
    both branches at once -/
theorem Comm.ite {α β} {f : α → β} {c : Prop} {d d' : Decidable c} {a b : PRes α}
    {a' b' : PRes β} (ht : c → M.Comm f a a') (hf : ¬c → M.Comm f b b') :
    M.Comm f (@_root_.ite _ c d a b) (@_root_.ite _ c d' a' b') := by
  by_cases h : c
  · rw [if_pos h, if_pos h]; exact ht h
  · rw [if_neg h, if_neg h]; exact hf h

theorem esp_errAt {t : Token} (h : M.ok t) : mapErrs M.esp (errAt t.span) = errAt (M.tok t).span := by
  rw [mapErrs_errAt, M.espan t h, M.span t h]
theorem esp_nfAt_eof : mapErrs M.esp (nfAt M.src.eof) = nfAt M.dst.eof := by
  rw [mapErrs_nfAt, M.eof]

theorem esp_endSplit {ts : List Token} (h : M.Ok ts) :
    mapErrs M.esp (endSplit ts) = endSplit (ts.map M.tok) := by
  cases ts with
  | nil => rfl
  | cons t ts => exact M.esp_errAt h.head

theorem split_map (k : TokKind) (ts : List Token) :
    split k (ts.map M.tok) = ((split k ts).1.map M.tok, (split k ts).2.map M.tok) := by
  have h := split_of_kinds k ts ((split k ts).1.map M.tok) ((split k ts).2.map M.tok)
    (by rw [← List.map_append, split_append, List.map_map]; exact List.map_congr_left fun t _ => M.kind t)
    (List.length_map _)
  rwa [← List.map_append, split_append] at h

theorem split_map_fst (k : TokKind) (ts : List Token) :
    (split k (ts.map M.tok)).1 = (split k ts).1.map M.tok := by rw [split_map]
theorem split_map_snd (k : TokKind) (ts : List Token) :
    (split k (ts.map M.tok)).2 = (split k ts).2.map M.tok := by rw [split_map]

/-- closing a bracket: `dflt` is one of the constant spans, `errSp` the end of input or the span
    of the opening token -/
theorem closeSplit_map (k : TokKind) {dflt errSp errSp' : Span} {ts : List Token} (h : M.Ok ts)
    (hd : M.sp dflt = dflt) (he : M.esp errSp = errSp') :
    closeSplit k dflt errSp' (ts.map M.tok) =
      ⟨M.sp (closeSplit k dflt errSp ts).span, mapErrs M.esp (closeSplit k dflt errSp ts).errs,
        (closeSplit k dflt errSp ts).rest.map M.tok⟩ ∧ M.Ok (closeSplit k dflt errSp ts).rest := by
  rcases split_snd k ts with hs | ⟨rp, rest, hs, _⟩
  · have hs' : (split k (ts.map M.tok)).2 = [] := by rw [split_map_snd, hs]; rfl
    rw [closeSplit_eof hs, closeSplit_eof hs']
    exact ⟨by rw [hd, mapErrs_errAt, he]; rfl, M.Ok_nil⟩
  · have hs' : (split k (ts.map M.tok)).2 = M.tok rp :: rest.map M.tok := by rw [split_map_snd, hs]; rfl
    have h2 := h.split2 (k := k)
    rw [hs] at h2
    rw [closeSplit_close hs, closeSplit_close hs']
    exact ⟨by rw [M.span rp h2.head]; rfl, h2.tail⟩

theorem pIdent_map (ts : List Token) (h : M.Ok ts) :
    M.Comm (Option.map (mapIdent M.sp)) (pIdent M.src ts) (pIdent M.dst (ts.map M.tok)) := by
  cases ts with
  | nil => exact ⟨by simp only [pIdent, List.map_nil, res_mk, esp_nfAt_eof]; rfl, M.Ok_nil⟩
  | cons t rest =>
    simp only [pIdent, List.map_cons, M.kind]
    exact .ite (fun _ => ⟨by rw [res_mk, M.span t h.head, M.value]; rfl, h.tail⟩) fun _ =>
      ⟨by rw [res_mk, esp_nfAt_eof]; rfl, h⟩

theorem pQualTail_map : ∀ (fuel : Nat) (parts : List Ident) (ts : List Token), M.Ok ts →
    M.Comm (List.map (mapIdent M.sp)) (pQualTail M.src fuel parts ts)
      (pQualTail M.dst fuel (parts.map (mapIdent M.sp)) (ts.map M.tok)) := by
  intro fuel
  induction fuel with
  | zero => intro parts ts h; exact ⟨rfl, h⟩
  | succ fuel ih =>
    intro parts ts h
    cases ts with
    | nil => exact ⟨rfl, M.Ok_nil⟩
    | cons t rest =>
      simp only [pQualTail, List.map_cons, M.kind]
      refine .ite (fun _ => ?_) fun _ => ⟨rfl, h⟩
      obtain ⟨e, p⟩ := M.pIdent_map rest h.tail
      rw [e, res_val, res_errs, res_rest]
      rcases (pIdent M.src rest).val with _ | sel
      · exact ⟨by rw [res_mk, mkOpaque_mapErrs]; rfl, p⟩
      · have := ih (parts ++ [sel]) _ p
        rw [List.map_append] at this
        exact this

theorem pQualifiedIdent_map (ts : List Token) (h : M.Ok ts) :
    M.Comm (Option.map (List.map (mapIdent M.sp))) (pQualifiedIdent M.src ts)
      (pQualifiedIdent M.dst (ts.map M.tok)) := by
  obtain ⟨e, p⟩ := M.pIdent_map ts h
  simp only [pQualifiedIdent]
  rw [e, res_val, res_errs, res_rest]
  rcases (pIdent M.src ts).val with _ | id
  · exact ⟨rfl, p⟩
  · obtain ⟨e2, p2⟩ := M.pQualTail_map ((pIdent M.src ts).rest.length + 1) [id] _ p
    simp only [Option.map_some, List.length_map]
    rw [← List.map_singleton, e2]
    exact ⟨rfl, p2⟩

theorem qualHead_map (b : Bool) {t : Token} {rest : List Token} (h : M.Ok (t :: rest)) :
    M.Comm (List.map (mapIdent M.sp)) (pQualTail M.src (rest.length + 1) [⟨t.value, t.span, b⟩] rest)
      (pQualTail M.dst ((rest.map M.tok).length + 1) [⟨(M.tok t).value, (M.tok t).span, b⟩]
        (rest.map M.tok)) := by
  have e : [(⟨(M.tok t).value, (M.tok t).span, b⟩ : Ident)] =
      [(⟨t.value, t.span, b⟩ : Ident)].map (mapIdent M.sp) := by
    rw [M.value, M.span t h.head]; rfl
  rw [e, List.length_map]
  exact M.pQualTail_map (rest.length + 1) _ rest h.tail

theorem head_kind_map {k : TokKind} {l : List Token} (h : ∀ t rest, l = t :: rest → t.kind ≠ k) :
    ∀ t rest, l.map M.tok = t :: rest → t.kind ≠ k := by
  intro t rest hr
  cases l with
  | nil => cases hr
  | cons a b =>
    rw [List.map_cons, List.cons.injEq] at hr
    rw [← hr.1, M.kind]
    exact h a b rfl

theorem notCall_res {q : PRes (List Ident)} (h : NotCall q) : NotCall (M.res (List.map (mapIdent M.sp)) q) := by
  rcases h with h | h | h
  · exact Or.inl fun he => h ((mapErrs_eq_nil _ _).mp he)
  · exact Or.inr (Or.inl (by rw [res_val, List.length_map]; exact h))
  · exact Or.inr (Or.inr (M.head_kind_map h))

theorem callArgRest_res (f : ExprList → ExprList) (ra : PRes ExprList) :
    callArgRest (M.res f ra) = (callArgRest ra).map M.tok := by
  simp only [callArgRest, res_errs, res_rest, mapErrs_eq_nil]
  split
  · rcases ra.rest with _ | ⟨cm, more⟩
    · rfl
    · simp only [List.map_cons, M.kind]
      split <;> rfl
  · rfl

theorem callArgErrs_res (f : ExprList → ExprList) {ra : PRes ExprList} (h : M.Ok ra.rest) :
    callArgErrs (M.res f ra) = mapErrs M.esp (callArgErrs ra) := by
  have hok : M.Ok (callArgRest ra) :=
    callArgRest_cases (motive := M.Ok) ra h fun cm more _ hr _ => by rw [hr] at h; exact h.tail
  simp only [callArgErrs, callArgRest_res, res_errs, isNF_mapErrs, mapErrs_append, M.esp_endSplit hok]
  split <;> rfl

end TokMap
end Pql
