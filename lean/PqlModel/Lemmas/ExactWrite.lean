/-
C13 exactness, join conditions: `writeExpr` in join mode on `buildJoinCondition conds`
agrees with `Misuse.badConds`.

The specification's verdict on the condition the compiler builds is `badConds` of the conditions
written (`bad_build`: a bare key becomes `$left.k == $right.k`, which breaks no rule in a join, and is
not an expression to check in the specification) — a fact about `Spec/Misuse.lean` and
`buildJoinCondition` alone.  The writer comes in once, through `writeExpr_agrees` on the built condition.

C13 exactness: the well-formedness and span predicates on tabular expressions, and
`Subquery.write` against the misuse verdict of what the subquery stores (operator, sort terms,
row count).
-/
import PqlModel.Lemmas.ScopeCompile
import PqlModel.Lemmas.ExactExpr
namespace Pql.Exact
open Pql

section
variable (bound : List Bytes)

theorem bad_rewrite (c : Expr) :
    Misuse.badExpr .join bound (rewriteSimpleJoinCondition c) =
      (!Misuse.isBareKey c && Misuse.badExpr .join bound c) := by
  unfold rewriteSimpleJoinCondition Misuse.isBareKey
  split
  · next part =>
    simp only []
    rw [← builtinIdent_isSome]
    cases part.quoted <;> cases (builtinIdent part.name).isSome <;> simp [Misuse.badExpr]
  · next hne =>
    split
    · next p => exact absurd rfl (hne p)
    · rfl

theorem bad_go : ∀ (ys : ExprList) (x : Expr),
    Misuse.badExpr .join bound (buildJoinCondition.go x ys) =
      (Misuse.badExpr .join bound x || Misuse.badConds bound ys)
  | .nil, x => by rw [buildJoinCondition.go, Misuse.badConds, Bool.or_false]
  | .cons y ys, x => by
    rw [buildJoinCondition.go, bad_go ys, Misuse.badExpr, bad_rewrite, Misuse.badConds, Bool.or_assoc]

theorem bad_build (conds : ExprList) :
    Misuse.badExpr .join bound (buildJoinCondition conds) = Misuse.badConds bound conds := by
  cases conds with
  | nil =>
    have ht : Misuse.isBuiltinConst (Bytes.ofString "true") = true := by decide
    simp only [buildJoinCondition, Misuse.badConds, Misuse.badExpr, ht, Bool.or_true, Bool.not_false,
      Bool.and_self, if_true]
  | cons c rest => rw [buildJoinCondition, bad_go, bad_rewrite, Misuse.badConds]

end

theorem opsKnown_build (conds : ExprList) (h : opsKnownList conds = true) :
    opsKnown (buildJoinCondition conds) = true :=
  buildJoinCondition_of (P := (opsKnown · = true)) (PL := (opsKnownList · = true)) (fun _ _ => rfl)
    (fun c rest h => by rwa [opsKnownList, Bool.and_eq_true] at h)
    (fun x y hx hy => by rw [opsKnown, hx, hy]; rfl) rfl conds h

theorem buildJoin_agrees (src : Bytes) (scope : List (Bytes × List Chunk)) (conds : ExprList)
    (h : opsKnownList conds = true) :
    Agrees (writeExpr ⟨src, scope, .join⟩ (buildJoinCondition conds))
      (Misuse.badConds (names scope) conds) :=
  (writeExpr_agrees ⟨src, scope, .join⟩ _ (opsKnown_build conds h)).of_eq (bad_build _ conds)

end Pql.Exact

namespace Pql.Exact
open Pql

def isNilExpr : Expr → Bool
  | .nil => true
  | _ => false

def colWf (c : Column) : Bool := opsKnown c.x && !isNilExpr c.x

def sortTermsWf (ts : List SortTerm) : Bool := ts.all fun t => opsKnown t.x

/-- the join flavour is absent or one of the documented three (the parser reports any other) -/
def flavorOK : Option Ident → Bool
  | none => true
  | some f => isJoinType f.name

/- What the compiler needs of a tree in order to agree with `Spec/Misuse`.  A `project` column may
    lack its expression (`T | project a`: `Subquery.write` then writes the name, pql.go:375); an
    `extend` / `summarize` column may not (`colWf`), and `top` needs its column. -/
mutual
def wfTabular : Tabular → Bool
  | .nil => false
  | .mk _ ops => wfOps ops
def wfOp : Op → Bool
  | .count .. => true
  | .where_ _ _ e => opsKnown e
  | .sort _ _ ts => sortTermsWf ts
  | .take _ _ n => opsKnown n
  | .top _ _ n _ c => opsKnown n && (match c with | some t => opsKnown t.x | none => false)
  | .project _ _ cs => cs.all fun c => opsKnown c.x
  | .extend _ _ cs => cs.all colWf
  | .summarize _ _ cs _ gs => cs.all colWf && gs.all colWf
  | .join _ _ _ _ fl _ right _ _ conds => flavorOK fl && (wfTabular right && opsKnownList conds)
  | .as_ .. => true
  | .render .. => true
def wfOps : OpList → Bool
  | .nil => true
  | .cons o os => wfOp o && wfOps os
end

def wfStmt : Stmt → Bool
  | .let_ _ name _ x => name.isSome && opsKnown x
  | .tabular t => wfTabular t

/-- `sliceSource` does not panic on this span -/
def spanInside (src : Bytes) (sp : Span) : Bool :=
  decide (0 ≤ sp.start ∧ sp.start ≤ sp.stop ∧ sp.stop ≤ (src.length : Int))

/-- an unnamed extend / summarize column takes its name from the source text of its expression -/
def colSpanOK (src : Bytes) (c : Column) : Bool := c.name.isSome || spanInside src c.x.spanOf

mutual
def spansTabular (src : Bytes) : Tabular → Bool
  | .nil => true
  | .mk _ ops => spansOps src ops
def spansOp (src : Bytes) : Op → Bool
  | .extend _ _ cs => cs.all (colSpanOK src)
  | .summarize _ _ cs _ gs => cs.all (colSpanOK src) && gs.all (colSpanOK src)
  | .join _ _ _ _ _ _ right _ _ _ => spansTabular src right
  | _ => true
def spansOps (src : Bytes) : OpList → Bool
  | .nil => true
  | .cons o os => spansOp src o && spansOps src os
end

def SpansInside (src : Bytes) (stmts : List Stmt) : Bool :=
  stmts.all fun s => match s with
    | .tabular t => spansTabular src t
    | .let_ .. => true

theorem writeExpr_plain (src : Bytes) (scope : List (Bytes × List Chunk)) (e : Expr) (h : opsKnown e = true) :
    Agrees (writeExpr ⟨src, scope, .default⟩ e) (Misuse.badExpr .plain (names scope) e) :=
  writeExpr_agrees ⟨src, scope, .default⟩ e h

theorem Agrees.mapM {α β : Type} {f : α → Except WErr β} {g : α → Bool} :
    ∀ (l : List α), (∀ a ∈ l, Agrees (f a) (g a)) → Agrees (l.mapM f) (l.any g)
  | [], _ => by rw [List.mapM_nil, List.any_nil]; exact Agrees.pure _
  | a :: l, h => by
    rw [List.mapM_cons, List.any_cons]
    exact Agrees.bind (h a (List.mem_cons_self ..))
      (fun x => Agrees.bind_pure _ (Agrees.mapM l (fun a' ha' => h a' (List.mem_cons_of_mem _ ha'))))

theorem sliceSource_ok (src : Bytes) (sp : Span) (h : spanInside src sp = true) :
    ∃ b, sliceSource src sp = .ok b := by
  unfold spanInside at h
  unfold sliceSource
  rw [if_pos (of_decide_eq_true h)]
  exact ⟨_, rfl⟩

theorem columnAlias_agrees (src : Bytes) (scope : List (Bytes × List Chunk)) (m : Mode) (c : Column)
    (h : colSpanOK src c = true) : Agrees (columnAlias ⟨src, scope, m⟩ c) false := by
  unfold columnAlias
  unfold colSpanOK at h
  cases hn : c.name with
  | some n => exact Agrees.ok _
  | none =>
    rw [hn] at h
    obtain ⟨b, hb⟩ := sliceSource_ok src _ (by simpa using h)
    simp only [hb]
    exact Agrees.ok _

theorem badColumn_of_nonnil (bound : List Bytes) (c : Column) (h : isNilExpr c.x = false) :
    Misuse.badColumn bound c = Misuse.badExpr .plain bound c.x := by
  unfold Misuse.badColumn
  split
  · next hx => rw [hx] at h; cases h
  · rfl

theorem writeColumns_agrees (src : Bytes) (scope : List (Bytes × List Chunk)) :
    ∀ cs : List Column, cs.all colWf = true → cs.all (colSpanOK src) = true →
      Agrees (writeColumns ⟨src, scope, .default⟩ cs) (cs.any (Misuse.badColumn (names scope)))
  | [], _, _ => by rw [writeColumns, List.any_nil]; exact Agrees.ok _
  | c :: cs, hw, hs => by
    rw [List.all_cons, Bool.and_eq_true] at hw hs
    have hc := hw.1
    unfold colWf at hc
    rw [Bool.and_eq_true, Bool.not_eq_true'] at hc
    rw [writeColumns, List.any_cons, badColumn_of_nonnil _ _ hc.2]
    refine Agrees.bind (writeExpr_plain src scope c.x hc.1) (fun x => ?_)
    refine (Agrees.bind (columnAlias_agrees src scope .default c hs.1) (fun a => ?_)).of_eq (Bool.false_or _)
    exact Agrees.bind_pure _ (writeColumns_agrees src scope cs hw.2 hs.2)

def badSortTerms (bound : List Bytes) (ts : List SortTerm) : Bool :=
  ts.any fun t => Misuse.badExpr .plain bound t.x

theorem writeSortTerms_agrees (src : Bytes) (scope : List (Bytes × List Chunk)) :
    ∀ ts : List SortTerm, sortTermsWf ts = true →
      Agrees (writeSortTerms ⟨src, scope, .default⟩ ts) (badSortTerms (names scope) ts)
  | [], _ => by rw [writeSortTerms]; exact Agrees.ok _
  | t :: ts, h => by
    unfold sortTermsWf at h
    rw [List.all_cons, Bool.and_eq_true] at h
    unfold badSortTerms
    rw [writeSortTerms, List.any_cons]
    exact Agrees.bind (writeExpr_plain src scope t.x h.1)
      (fun x => Agrees.bind_pure _ (writeSortTerms_agrees src scope ts h.2))


def projCol (ctx : Ctx) (c : Column) : W :=
  (match c.x with
    | .nil => writeExpr ctx (.qident (match c.name with | some n => [n] | none => []))
    | x => writeExpr ctx x) >>= fun x =>
  pure (x ++ [.txt " AS ", .qid (identName c.name)])

theorem projCol_eq (ctx : Ctx) :
    (fun (c : Column) => do
        let x ← match c.x with
          | .nil => writeExpr ctx (.qident (match c.name with | some n => [n] | none => []))
          | x => writeExpr ctx x
        (pure (x ++ [.txt " AS ", .qid (identName c.name)]) : W)) = projCol ctx := by
  funext c
  unfold projCol
  cases c.x <;> rfl

/-- the invariant of the subqueries `splitQueries` builds from well-formed trees -/
def subOK (src : Bytes) (s : Subquery) : Bool :=
  (match s.op with
   | none => true
   | some o => storedOp o && (wfOp o && spansOp src o)) &&
  ((match s.sort with | none => true | some ts => sortTermsWf ts) &&
   (match s.take with | none => true | some n => opsKnown n))

def badOptOp (bound : List Bytes) : Option Op → Bool
  | none => false
  | some o => Misuse.badOp bound o
def badOptSort (bound : List Bytes) : Option (List SortTerm) → Bool
  | none => false
  | some ts => badSortTerms bound ts
def badOptTake (bound : List Bytes) : Option Expr → Bool
  | none => false
  | some n => Misuse.badExpr .plain bound n

def badSub (bound : List Bytes) (s : Subquery) : Bool :=
  badOptOp bound s.op || (badOptSort bound s.sort || badOptTake bound s.take)

theorem tailOf_agrees (src : Bytes) (scope : List (Bytes × List Chunk)) (sort : Option (List SortTerm))
    (take : Option Expr) (body : List Chunk)
    (hs : (match sort with | none => true | some ts => sortTermsWf ts) = true)
    (ht : (match take with | none => true | some n => opsKnown n) = true) :
    Agrees (tailOf ⟨src, scope, .default⟩ sort take (some body))
      (badOptSort (names scope) sort || badOptTake (names scope) take) := by
  rw [tailOf_some]
  refine Agrees.bind (b1 := badOptSort (names scope) sort) ?_ (fun sp => Agrees.bind_pure _ ?_)
  · rcases sort with _ | ts
    · exact Agrees.pure _
    · exact Agrees.bind_pure _ (writeSortTerms_agrees src scope ts hs)
  · rcases take with _ | n
    · exact Agrees.pure _
    · exact Agrees.bind_pure _ (writeExpr_plain src scope n ht)

theorem projectCol_agrees (src : Bytes) (scope : List (Bytes × List Chunk)) (c : Column) (h : opsKnown c.x = true) :
    Agrees (Pql.projCol ⟨src, scope, .default⟩ c) (Misuse.badColumn (names scope) c) := by
  rw [Pql.projCol_eq]
  refine Agrees.bind_pure _ ?_
  unfold Misuse.badColumn projExpr
  cases hx : c.x
  case nil =>
    simp only []
    cases hn : c.name with
    | none => exact writeExpr_plain src scope (.qident []) rfl
    | some n => exact writeExpr_plain src scope (.qident [n]) rfl
  all_goals
    simp only []
    rw [hx] at h
    exact writeExpr_plain src scope _ h

theorem any_badColumn_of_wf (bound : List Bytes) (cs : List Column) (h : cs.all colWf = true) :
    cs.any (Misuse.badColumn bound) = cs.any (fun c => Misuse.badExpr .plain bound c.x) := by
  induction cs with
  | nil => rfl
  | cons c cs ih =>
    rw [List.all_cons, Bool.and_eq_true] at h
    have hc := h.1
    unfold colWf at hc
    rw [Bool.and_eq_true, Bool.not_eq_true'] at hc
    rw [List.any_cons, List.any_cons, ih h.2, badColumn_of_nonnil _ _ hc.2]

theorem bodyOf_agrees (src : Bytes) (scope : List (Bytes × List Chunk)) (sub : Subquery)
    (h : (match sub.op with
      | none => true
      | some o => storedOp o && (wfOp o && spansOp src o)) = true) :
    Agrees (bodyOf ⟨src, scope, .default⟩ sub.op sub.source) (badOptOp (names scope) sub.op) := by
  unfold bodyOf
  cases hop : sub.op with
  | none => exact Agrees.pure _
  | some o =>
    rw [hop] at h
    simp only [Bool.and_eq_true] at h
    obtain ⟨hst, hwf, hsp⟩ := h
    cases o with
    | as_ | count | render => exact Agrees.pure _
    | where_ p k e =>
      rw [wfOp] at hwf
      exact Agrees.bind_pure _ (writeExpr_plain src scope e hwf)
    | project p k cols =>
      rw [wfOp, List.all_eq_true] at hwf
      refine Agrees.bind_pure _ ?_
      exact Agrees.mapM cols (fun c hc => projectCol_agrees src scope c (hwf c hc))
    | extend p k cols =>
      rw [wfOp] at hwf
      rw [spansOp] at hsp
      exact Agrees.bind_pure _ (writeColumns_agrees src scope cols hwf hsp)
    | summarize p k cols b gs =>
      rw [wfOp, Bool.and_eq_true] at hwf
      rw [spansOp, Bool.and_eq_true] at hsp
      have hg := writeColumns_agrees src scope gs hwf.2 hsp.2
      have hc := writeColumns_agrees src scope cols hwf.1 hsp.1
      have hgb : Agrees (gs.mapM fun (c : Column) => writeExpr ⟨src, scope, .default⟩ c.x)
          (gs.any (Misuse.badColumn (names scope))) := by
        rw [any_badColumn_of_wf _ _ hwf.2]
        refine Agrees.mapM gs (fun c hc => ?_)
        have hw := List.all_eq_true.1 hwf.2 c hc
        unfold colWf at hw
        rw [Bool.and_eq_true] at hw
        exact writeExpr_plain src scope c.x hw.1
      refine (Agrees.bind hg (fun _ => Agrees.bind hc (fun _ => Agrees.bind_pure _ hgb))).of_eq ?_
      show _ = Misuse.badOp _ _
      rw [Misuse.badOp]
      cases gs.any (Misuse.badColumn (names scope)) <;> cases cols.any (Misuse.badColumn (names scope)) <;> rfl
    | sort | take | top | join => cases hst

theorem write_agrees (src : Bytes) (scope : List (Bytes × List Chunk)) (sub : Subquery)
    (h : subOK src sub = true) :
    Agrees (sub.write ⟨src, scope, .default⟩) (badSub (names scope) sub) := by
  unfold subOK at h
  rw [Bool.and_eq_true, Bool.and_eq_true] at h
  obtain ⟨hop, hsort, htake⟩ := h
  rw [write_eq]
  unfold badSub
  refine Agrees.bind' (bodyOf_agrees src scope sub hop) (fun body hbody => ?_)
  cases body with
  | none =>
    have := bodyOf_isSome hbody
    cases ho : sub.op with
    | none => rw [ho] at this; cases this
    | some o => rw [ho, Bool.and_eq_true] at hop; rw [ho, Option.all_some, hop.1] at this; cases this
  | some body => exact tailOf_agrees src scope sub.sort sub.take body hsort htake

theorem writeCtes_agrees (src : Bytes) (scope : List (Bytes × List Chunk)) :
    ∀ subs : List Subquery, (∀ s ∈ subs, subOK src s = true) →
      Agrees (writeCtes ⟨src, scope, .default⟩ subs) (subs.any (badSub (names scope)))
  | [], _ => by rw [writeCtes]; exact Agrees.ok _
  | [s], h => by
    rw [writeCtes, List.any_cons, List.any_nil, Bool.or_false]
    exact Agrees.bind_pure _ (write_agrees src scope s (h s (List.mem_cons_self ..)))
  | s :: t :: rest, h => by
    rw [writeCtes, List.any_cons]
    · exact Agrees.bind (write_agrees src scope s (h s (List.mem_cons_self ..)))
        (fun b => Agrees.bind_pure _ (writeCtes_agrees src scope (t :: rest)
          (fun s' hs' => h s' (List.mem_cons_of_mem _ hs'))))
    · intro hh; cases hh
end Pql.Exact
