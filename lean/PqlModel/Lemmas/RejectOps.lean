/-
C08, second sentence: a generic lifting lemma that also covers render properties.

`ParsedOK.StmtAll` (Lemmas/ParsedOKLift.lean) lifts a predicate on expressions that holds of every
error-free `pExpr` result to every *translated* expression position of an error-free parse; render
properties are not translated and not covered by it.  For statements about the token sequence
(brackets, last token, adjacent tokens) every expression position matters: `Reject.StmtAll` has the
render clause as well; it too is closed under what the tabular productions build (`tabAll_alg`).

The token classes of `unparseStmt`: sort terms, columns and render
properties, then every way an operator or a pipeline unparses (`good_alg`, an instance of
`UnparseAlg`), then statements.
-/
import PqlModel.Lemmas.RejectExpr
import PqlModel.Lemmas.UnparseInduct
namespace Pql.Reject
open Pql

section
variable (E : Expr → Prop) (EL : ExprList → Prop)

mutual
def TabAll : Tabular → Prop
  | .nil => True
  | .mk _ ops => OpsAll ops
def OpAll : Op → Prop
  | .where_ _ _ e => E e
  | .sort _ _ ts => ∀ t ∈ ts, E t.x
  | .take _ _ n => E n
  | .top _ _ n _ c => E n ∧ ∀ t, c = some t → E t.x
  | .project _ _ cs => ∀ c ∈ cs, c.x = .nil ∨ E c.x
  | .extend _ _ cs => ∀ c ∈ cs, E c.x
  | .summarize _ _ cs _ gs => (∀ c ∈ cs, E c.x) ∧ (∀ c ∈ gs, E c.x)
  | .join _ _ _ _ _ _ right _ _ conds => TabAll right ∧ EL conds
  | .count .. => True
  | .as_ .. => True
  | .render _ _ _ _ _ props _ => ∀ p ∈ props, E p.value
def OpsAll : OpList → Prop
  | .nil => True
  | .cons o os => OpAll o ∧ OpsAll os
end

def StmtAll : Stmt → Prop
  | .let_ _ _ _ x => E x
  | .tabular t => TabAll E EL t

theorem OpsAll_snoc : (ops : OpList) → (o : Op) →
    (OpsAll E EL (ops.snoc o) ↔ OpsAll E EL ops ∧ OpAll E EL o)
  | .nil, o => by simp [OpList.snoc, OpsAll]
  | .cons p ps, o => by simp [OpList.snoc, OpsAll, OpsAll_snoc ps o, and_assoc]

theorem tabAll_alg : TabAlg True E EL (TabAll E EL) (OpAll E EL) (OpsAll E EL) where
  tnil := fun _ => trivial
  tmk := fun _ _ h => h
  onil := trivial
  snoc := fun ops o ho h => (OpsAll_snoc E EL ops o).2 ⟨ho, h⟩
  count := fun _ _ => trivial
  where_ := fun _ _ _ h => h
  sort := fun _ _ _ h => h
  take := fun _ _ _ h => h
  top := fun _ _ _ _ _ h1 h2 _ => ⟨h1, h2⟩
  project := fun _ _ _ h k hk => (h k hk).2
  extend := fun _ _ _ h => h
  summarize := fun _ _ _ _ _ h1 h2 => ⟨h1, h2⟩
  join := fun _ _ _ _ _ _ _ _ _ _ _ h1 h2 => ⟨h1, h2⟩
  as_ := fun _ _ _ _ => trivial
  render := fun _ _ _ _ _ _ _ h _ _ q hq => (h q hq).2

variable {E EL}
variable (hE : ∀ (c : PCtx) (fuel : Nat) (ts : List Token),
  (pExpr c fuel ts).errs = [] → E (pExpr c fuel ts).val)
variable (hL : ∀ (c : PCtx) (fuel : Nat) (ts : List Token),
  (pExprList c fuel ts).errs = [] → EL (pExprList c fuel ts).val)
include hE hL

structure TabAllInv (E : Expr → Prop) (EL : ExprList → Prop) (c : PCtx) (fuel : Nat) : Prop where
  tabular : ∀ ts, (pTabular c fuel ts).errs = [] → TabAll E EL (pTabular c fuel ts).val
  ops : ∀ ops acc ts, (pOps c fuel ops acc ts).errs = [] →
    OpsAll E EL ops → OpsAll E EL (pOps c fuel ops acc ts).val
  operator : ∀ pipe name ts r, pOperator c fuel pipe name ts = some r → r.errs = [] → OpAll E EL r.val
  join : ∀ pipe kw ts, (pJoin c fuel pipe kw ts).errs = [] → OpAll E EL (pJoin c fuel pipe kw ts).val

theorem tabAllInv (c : PCtx) (fuel : Nat) : TabAllInv E EL c fuel :=
  have g := tabShapeOk (tabAll_alg E EL) hE hL c fuel
  { tabular := fun ts h => g.tabular ts fun _ => h
    ops := fun ops acc ts h => (g.ops ops acc ts fun _ => h).2
    operator := fun pipe name ts r hr h => g.operator pipe name ts r hr fun _ => h
    join := fun pipe kw ts h => g.join pipe kw ts fun _ => h }

theorem pTabular_all {c : PCtx} {fuel : Nat} {ts : List Token}
    (h : (pTabular c fuel ts).errs = []) : TabAll E EL (pTabular c fuel ts).val :=
  (tabAllInv hE hL c fuel).tabular ts h

theorem parseTokens_all {srcLen : Nat} {ts : List Token} {stmts : List Stmt}
    (h : parseTokens srcLen ts = (stmts, [])) : ∀ s ∈ stmts, StmtAll E EL s :=
  ParsedOK.parseTokens_stmts (S := StmtAll E EL) (fun _ _ _ _ _ he => hE _ _ _ he)
    (fun _ _ _ he => pTabular_all hE hL he) h

end

end Pql.Reject

namespace Pql.Reject
open Pql Pql.Grammar
open Pql.ParsedOK (sOK sOKList)

/-- last classes of a sort term -/
def LS : List Cl := [.nm, .lit, .s .rparen, .s .rbracket, .kDir, .kNF]
/-- last classes of an operator, a pipeline, a statement -/
def LO : List Cl := [.nm, .lit, .s .rparen, .s .rbracket, .kCount, .kDir, .kNF]

abbrev EOK : Expr → Prop := fun e => sOK e = true
abbrev LOK : ExprList → Prop := fun l => sOKList l = true ∧ l.length ≠ 0

theorem cl_dir (a : Bool) (sp : Span) : cl (kwTok [if a then "asc" else "desc"] sp) = .kDir := by
  cases a <;> rfl
theorem cl_nulls (s : Option Int) : cl { kwPlain ["nulls"] with start := s } = .kw :=
  cl_of_alts rfl (by simp only [kwPlain, List.map, otherAlts, b, List.mem_cons, true_or, or_true])
theorem cl_nf (a : Bool) (s : Option Int) :
    cl { kwPlain [if a then "first" else "last"] with stop := s } = .kNF := by
  cases a <;> rfl
theorem cl_by (s : Option Int) : cl { kind := .by_, stop := s } = .s .by_ := rfl
theorem cl_sortKw (s : Option Int) : cl { kwPlain ["sort", "order"] with start := s } = .kw :=
  cl_of_alts rfl (by simp only [kwPlain, List.map, otherAlts, b, List.mem_cons, true_or, or_true])

theorem opHead {F L : List Cl} {body : List UTok} (p : Span) (kwu : UTok) (hkw : cl kwu = .kw)
    (hb : Good F L body) (h : ∀ y ∈ F, okPair .kw y = true) (hL : ∀ a ∈ L, a ∈ LO) :
    Good [.s .pipe] LO (sym .pipe p :: kwu :: body) :=
  ((hb.cons kwu .kw hkw rfl h).cons (sym .pipe p) (.s .pipe) rfl rfl (by decide)).mono (fun _ h => h) hL

theorem sepList_good {α : Type} {F L : List Cl} (f : α → Option (List UTok))
    (hL : ∀ x ∈ L, okPair x (.s .comma) = true) (hF : ∀ y ∈ F, okPair (.s .comma) y = true)
    (xs : List α) (tss : List (List UTok)) (h : listM f xs = some tss) :
    (∀ x ∈ xs, ∀ us, f x = some us → Good F L us) → xs ≠ [] → Good F L (sepBy commaTok tss) :=
  sepList_induct
    (P := fun xs us => (∀ x ∈ xs, ∀ us, f x = some us → Good F L us) → xs ≠ [] → Good F L us)
    (fun _ h => absurd rfl h) (fun x us hx hp _ => hp x List.mem_cons_self us hx)
    (fun x _ _ us _ hx ih hp _ =>
      (hp x List.mem_cons_self us hx).app
        ((ih (fun x' hx' => hp x' (List.mem_cons_of_mem _ hx')) (List.cons_ne_nil _ _)).cons commaTok
          (.s .comma) rfl rfl hF)
        (by intro a ha c hc; rw [List.mem_singleton.1 hc]; exact hL a ha)) xs tss h

theorem sortTerm_good (t : SortTerm) (us : List UTok) (hs : sOK t.x = true)
    (h : unparseSortTerm t = some us) : Good FE LS us := by
  simp only [unparseSortTerm, Option.bind_eq_bind, Option.pure_def, Option.bind_eq_some_iff,
    Option.some.injEq] at h
  obtain ⟨xs, hx, rfl⟩ := h
  have hg := expr_good t.x xs hs hx
  have hn : Good [.kw] [.kNF]
      [{ kwPlain ["nulls"] with start := some t.nullsSpan.start },
       { kwPlain [if t.nullsFirst then "first" else "last"] with stop := some t.nullsSpan.stop }] :=
    by
      have h0 := Good.one { kwPlain [if t.nullsFirst then "first" else "last"] with stop := some t.nullsSpan.stop }
        (by rw [cl_nf]; rfl)
      rw [cl_nf] at h0
      exact h0.cons _ .kw (cl_nulls _) rfl (by decide)
  have hd : Good [.kDir] [.kDir] [kwTok [if t.asc then "asc" else "desc"] t.ascDescSpan] := by
    have := Good.one (kwTok [if t.asc then "asc" else "desc"] t.ascDescSpan) (by rw [cl_dir]; rfl)
    rwa [cl_dir] at this
  by_cases h1 : t.ascDescSpan.isValid = true <;> by_cases h2 : t.nullsSpan.isValid = true <;>
    simp only [h1, h2, ↓reduceIte, Bool.false_eq_true, List.append_nil]
  · exact ((hg.app hd (by decide)).app hn (by decide)).mono (L' := LS) (fun _ h => h) (by decide)
  · exact (hg.app hd (by decide)).mono (L' := LS) (fun _ h => h) (by decide)
  · exact (hg.app hn (by decide)).mono (L' := LS) (fun _ h => h) (by decide)
  · exact hg.mono (L' := LS) (fun _ h => h) (by decide)

theorem ident_good (n : Ident) : Good [.nm] [.nm] [identTok n] := by
  have := Good.one (identTok n) (by simp [Cl.br])
  rwa [cl_identTok] at this

theorem named_good (n : Ident) (asg : Span) {xs : List UTok} (hg : Good FE LE xs) :
    Good FE LE (identTok n :: sym .assign asg :: xs) :=
  ((hg.cons (sym .assign asg) (.s .assign) rfl rfl (by decide)).cons (identTok n) .nm (by simp) rfl
    (by decide)).mono (by decide) (fun _ h => h)

theorem column_good (project : Bool) (c : Column) (us : List UTok) (hs : c.x = .nil ∨ sOK c.x = true)
    (h : unparseColumn project c = some us) : Good FE LE us := by
  have hx : ∀ {x : Expr} {xs : List UTok}, x = .nil ∨ sOK x = true → unparseExpr x = some xs →
      Good FE LE xs := by
    rintro x xs (rfl | hs) hx
    · simp [unparseExpr] at hx
    · exact expr_good x xs hs hx
  revert hs
  refine unparseColumn_cases (P := fun c us => c.x = .nil ∨ sOK c.x = true → Good FE LE us)
    ?_ ?_ ?_ c us h
  · exact fun n asg x xs _ hu hs => named_good n asg (hx hs hu)
  · exact fun n asg _ _ _ => (ident_good n).mono (by decide) (by decide)
  · exact fun asg x xs _ _ hu hs => hx hs hu

theorem prop_good (p : RenderProp) (us : List UTok) (hs : sOK p.value = true)
    (h : unparseProp p = some us) : Good FE LE us := by
  simp only [unparseProp, Option.bind_eq_bind, Option.pure_def, Option.bind_eq_some_iff,
    Option.some.injEq] at h
  obtain ⟨n, _, vs, hv, rfl⟩ := h
  exact named_good n _ (expr_good p.value vs hs hv)

theorem cols_good (project : Bool) (cs : List Column) (css : List (List UTok))
    (h : listM (unparseColumn project) cs = some css) (hs : ∀ c ∈ cs, c.x = .nil ∨ sOK c.x = true)
    (hne : cs ≠ []) : Good FE LE (sepBy commaTok css) :=
  sepList_good (unparseColumn project) (by decide) (by decide) cs css h
    (fun c hc us hu => column_good project c us (hs c hc) hu) hne

theorem joinBody_good {conds : ExprList} {r cs : List UTok} (lp rp on : Span)
    (hr : Good [.nm] LO r) (hcs : unparseExprList conds = some cs) (hc : sOKList conds = true)
    (hne : conds ≠ .nil) :
    Good [.s .lparen] LE (sym .lparen lp :: (r ++ sym .rparen rp :: kwTok ["on"] on :: cs)) := by
  have hcg : Good FE LE cs := by
    rcases list_good conds cs hc hcs with ⟨hn, _⟩ | ⟨_, hg⟩
    · exact absurd hn hne
    · exact hg
  exact Good.parenRest (sym .lparen lp) (sym .rparen rp) rfl rfl hr
    (hcg.cons (kwTok ["on"] on) .kw cl_kwTok rfl (by decide)) (by decide) (by decide) (by decide)

theorem good_alg : UnparseAlg (fun t us => TabAll EOK LOK t → Good [.nm] LO us)
    (fun o us => OpAll EOK LOK o → Good [.s .pipe] LO us)
    (fun ops us => OpsAll EOK LOK ops → us = [] ∨ Good [.s .pipe] LO us) where
  tmk := fun s ops os _ ih ha => by
    simp only [TabAll] at ha
    rcases ih ha with rfl | hg
    · exact (ident_good s).mono (fun _ h => h) (by decide)
    · exact hg.cons (identTok s) .nm (by simp) rfl (by decide)
  onil := fun _ => Or.inl rfl
  cons := fun o os a b _ _ iho ihs ha => by
    simp only [OpsAll] at ha
    rcases ihs ha.2 with rfl | hg
    · rw [List.append_nil]; exact Or.inr (iho ha.1)
    · exact Or.inr ((iho ha.1).app hg (by decide))
  count := fun p k _ => by
    have h1 : Good [.kCount] [.kCount] [kwTok ["count"] k] := Good.one (kwTok ["count"] k) (by rfl)
    exact (h1.cons (sym .pipe p) (.s .pipe) rfl rfl (by decide)).mono (fun _ h => h) (by decide)
  where_ := fun p k e xs hx ha => by
    simp only [OpAll] at ha
    exact opHead p (kwTok _ k) cl_kwTok (expr_good e xs ha hx) (by decide) (by decide)
  take := fun p k e xs hx ha => by
    simp only [OpAll] at ha
    exact opHead p (kwTok _ k) cl_kwTok (expr_good e xs ha hx) (by decide) (by decide)
  top := fun p k n b col xs cs hx hcs ha => by
    simp only [OpAll] at ha
    have h1 := sortTerm_good col cs (ha.2 col rfl) hcs
    have h2 := (expr_good n xs ha.1 hx).app (h1.cons (sym .by_ b) (.s .by_) rfl rfl (by decide)) (by decide)
    exact opHead p (kwTok ["top"] k) cl_kwTok h2 (by decide) (by decide)
  sort := fun p k ts tss hne htss ha => by
    simp only [OpAll] at ha
    have h1 : Good FE LS (sepBy commaTok tss) :=
      sepList_good unparseSortTerm (by decide) (by decide) ts tss htss
        (fun t ht us hu => sortTerm_good t us (ha t ht) hu) hne
    have h2 := h1.cons { kind := .by_, stop := some k.stop } (.s .by_) (cl_by _) rfl (by decide)
    exact opHead p _ (cl_sortKw _) h2 (by decide) (by decide)
  project := fun p k cs css hne hcss ha => by
    simp only [OpAll] at ha
    exact opHead p (kwTok ["project"] k) cl_kwTok (cols_good true cs css hcss ha hne) (by decide)
      (by decide)
  extend := fun p k cs css hne hcss ha => by
    simp only [OpAll] at ha
    exact opHead p (kwTok ["extend"] k) cl_kwTok
      (cols_good false cs css hcss (fun c hc => Or.inr (ha c hc)) hne) (by decide) (by decide)
  summarize := fun p k cs b css hne hcss _ ha => by
    simp only [OpAll] at ha
    exact opHead p (kwTok ["summarize"] k) cl_kwTok
      (cols_good false cs css hcss (fun c hc => Or.inr (ha.1 c hc)) hne) (by decide) (by decide)
  summarizeBy := fun p k cs b gs css gss hne hcss hgss _ ha => by
    simp only [OpAll] at ha
    have hby : Good [.s .by_] LE ({ sym .by_ b with optComma := !cs.isEmpty } :: sepBy commaTok gss) :=
      (cols_good false gs gss hgss (fun c hc => Or.inr (ha.2 c hc)) hne).cons _ (.s .by_) rfl rfl
        (by decide)
    by_cases hc : cs = []
    · subst hc
      simp only [listM, Option.some.injEq] at hcss
      subst hcss
      exact opHead p (kwTok ["summarize"] k) cl_kwTok hby (by decide) (by decide)
    · exact opHead p (kwTok ["summarize"] k) cl_kwTok
        ((cols_good false cs css hcss (fun c hc => Or.inr (ha.1 c hc)) hc).app hby (by decide))
        (by decide) (by decide)
  join := fun p k kind ka lp right rp on conds r cs _ ihr hcs hne _ _ ha => by
    simp only [OpAll] at ha
    exact opHead p (kwTok ["join"] k) cl_kwTok (joinBody_good lp rp on (ihr ha.1) hcs ha.2.1 hne)
      (by decide) (by decide)
  joinKind := fun p k kind ka f lp right rp on conds r cs _ ihr hcs hne ha => by
    simp only [OpAll] at ha
    have hh := (((joinBody_good lp rp on (ihr ha.1) hcs ha.2.1 hne).cons (identTok f) .nm (by simp) rfl
      (by decide)).cons (sym .assign ka) (.s .assign) rfl rfl (by decide)).cons (kwTok ["kind"] kind) .kw
      cl_kwTok rfl (by decide)
    exact opHead p (kwTok ["join"] k) cl_kwTok hh (by decide) (by decide)
  as_ := fun p k n _ => opHead p (kwTok ["as"] k) cl_kwTok (ident_good n) (by decide) (by decide)
  render := fun p k c w lp rp _ _ =>
    opHead p (kwTok ["render"] k) cl_kwTok (ident_good c) (by decide) (by decide)
  renderWith := fun p k c w lp props rp pss hne hpss _ ha => by
    simp only [OpAll] at ha
    have hp : Good FE LE (sepBy commaTok pss) :=
      sepList_good unparseProp (by decide) (by decide) props pss hpss
        (fun q hq us hu => prop_good q us (ha q hq) hu) hne
    have hb := (Good.paren (sym .lparen lp) (sym .rparen rp) rfl rfl hp (by decide) (by decide)).cons
      (kwTok ["with"] w) .kw cl_kwTok rfl (by decide)
    exact opHead p (kwTok ["render"] k) cl_kwTok (hb.cons (identTok c) .nm (by simp) rfl (by decide))
      (by decide) (by decide)

theorem tab_good : ∀ (t : Tabular) (us : List UTok), TabAll EOK LOK t → unparseTabular t = some us →
    Good [.nm] LO us :=
  fun t us ha h => good_alg.tabular t us h ha

theorem ops_good : ∀ (ops : OpList) (us : List UTok), OpsAll EOK LOK ops → unparseOps ops = some us →
    us = [] ∨ Good [.s .pipe] LO us :=
  fun ops us ha h => good_alg.ops ops us h ha

theorem op_good : ∀ (o : Op) (us : List UTok), OpAll EOK LOK o → unparseOp o = some us →
    Good [.s .pipe] LO us :=
  fun o us ha h => good_alg.op o us h ha

/-- first classes of a statement: a name (table) or the keyword `let` -/
def FS : List Cl := [.nm, .kw]

/-- **the token classes of a statement's `unparse`**: non-empty, begins with a name or `let`, ends
    with an operand end or one of the keywords `count asc desc first last`, only allowed
    neighbours, brackets balanced -/
theorem stmt_good (s : Stmt) (us : List UTok) (ha : StmtAll EOK LOK s) (h : unparseStmt s = some us) :
    Good FS LO us := by
  revert ha
  refine unparseStmt_cases (P := fun s us => StmtAll EOK LOK s → Good FS LO us) ?_ ?_ s us h
  · intro kw n asg x xs hx ha
    exact ((named_good n asg (expr_good x xs ha hx)).cons (kwTok ["let"] kw) .kw cl_kwTok rfl
      (by decide)).mono (by decide) (by decide)
  · exact fun t us h ha => (tab_good t us ha h).mono (by decide) (fun _ h => h)

end Pql.Reject
