/-
C13 exactness: the statement loop (`compileStmts`) against `Misuse.misuseStmts`, and
the rest of `compileChunks` (split, write the CTEs and the query).
-/
import PqlModel.Lemmas.ExactSplit
import PqlModel.Lemmas.StmtLoop
namespace Pql.Exact
open Pql

/-- what `compileChunks` does after the statement loop -/
def finishW (src : Bytes) (sq : List (Bytes × List Chunk) × Option Tabular) : W :=
  match sq with
  | (scope, q) =>
  match q with
  | none => .error .err
  | some t => do
    let subs ← splitQueries src scope [] t
    let ctx : Ctx := ⟨src, scope, .default⟩
    match subs.reverse with
    | [] => .error .panic
    | query :: ctesRev =>
      let ctes := ctesRev.reverse
      let withPart ← if ctes.isEmpty then pure [] else do
        let c ← writeCtes ctx ctes
        pure (.txt "WITH " :: c)
      let body ← query.write ctx
      pure (withPart ++ body ++ [.txt ";"])

theorem compileChunks_eq (src : Bytes) (params : List (Bytes × Bytes)) (stmts : List Stmt) :
    compileChunks src params stmts =
      (compileStmts src stmts (params.map fun kv => (kv.1, [Chunk.raw kv.2])) none >>= finishW src) := rfl

theorem finish_agrees (src : Bytes) (scope : List (Bytes × List Chunk)) (t : Tabular)
    (hw : wfTabular t = true) (hs : spansTabular src t = true) :
    Agrees (finishW src (scope, some t)) (Misuse.badTabular (names scope) t) := by
  unfold finishW
  refine (splitQueries_spec src scope t [] hw hs (fun s hs => by cases hs)).bindW fun subs hok hlen => ?_
  -- the last subquery is the query, those before it the `WITH` list
  rcases List.eq_nil_or_concat subs with rfl | ⟨ctes, query, rfl⟩
  · exact absurd hlen (by decide)
  simp only [List.concat_eq_append, List.reverse_append, List.reverse_singleton, List.singleton_append,
    List.reverse_reverse, any_append_singleton] at hok ⊢
  have hq := write_agrees src scope query (hok query (by simp))
  by_cases he : ctes.isEmpty = true
  · rw [if_pos he]
    rw [List.isEmpty_iff] at he
    rw [he, List.any_nil]
    exact Agrees.bind (Agrees.pure _) (fun wp => Agrees.bind_pure _ hq)
  · rw [if_neg he]
    exact Agrees.bind (writeCtes_agrees src scope _ fun s hs => hok s (List.mem_append_left _ hs))
      (fun c => (Agrees.bind (Agrees.pure _) (fun wp => Agrees.bind_pure _ hq)).of_eq (Bool.false_or _))

/-- the specification verdict for the statements still to come, given the query seen so far -/
def restBad (stmts : List Stmt) (bound : List Bytes) : Option Tabular → Bool
  | none => Misuse.misuseStmts stmts bound 0
  | some t => Misuse.badTabular bound t || Misuse.misuseStmts stmts bound 1

theorem compileStmts_agrees (src : Bytes) :
    ∀ (stmts : List Stmt) (scope : List (Bytes × List Chunk)) (q : Option Tabular),
      (∀ s ∈ stmts, wfStmt s = true) → SpansInside src stmts = true →
      (∀ t, q = some t → wfTabular t = true ∧ spansTabular src t = true) →
      Agrees (compileStmts src stmts scope q >>= finishW src) (restBad stmts (names scope) q)
  | [], scope, q, _, _, hq => by
    rw [compileStmts]
    show Agrees (finishW src (scope, q)) _
    cases q with
    | none => exact Agrees.err
    | some t =>
      refine (finish_agrees src scope t (hq t rfl).1 (hq t rfl).2).of_eq ?_
      show _ = (_ || Misuse.misuseStmts [] _ 1)
      rw [Misuse.misuseStmts]
      exact (Bool.or_false _).symm
  | .tabular t' :: rest, scope, q, hw, hs, hq => by
    unfold SpansInside at hs
    rw [List.all_cons, Bool.and_eq_true] at hs
    cases q with
    | some t =>
      rw [compileStmts]
      refine Agrees.err.of_eq ?_
      show true = (_ || Misuse.misuseStmts (.tabular t' :: rest) _ 1)
      rw [Misuse.misuseStmts, if_pos (by decide), Bool.or_true]
    | none =>
      rw [compileStmts]
      have ih := compileStmts_agrees src rest scope (some t')
        (fun s hs' => hw s (List.mem_cons_of_mem _ hs')) hs.2
        (fun t ht => by
          cases ht
          exact ⟨hw (.tabular t') (List.mem_cons_self ..), hs.1⟩)
      refine ih.of_eq ?_
      show (_ || _) = Misuse.misuseStmts (.tabular t' :: rest) _ 0
      rw [Misuse.misuseStmts, if_neg (by decide)]
  | .let_ kw name asg x :: rest, scope, q, hw, hs, hq => by
    unfold SpansInside at hs
    rw [List.all_cons, Bool.and_eq_true] at hs
    have hwrest : ∀ s ∈ rest, wfStmt s = true := fun s hs' => hw s (List.mem_cons_of_mem _ hs')
    cases q with
    | some t =>
      rw [compileStmts]
      refine (compileStmts_agrees src rest scope (some t) hwrest hs.2 hq).of_eq ?_
      show (_ || _) = (_ || Misuse.misuseStmts (.let_ kw name asg x :: rest) _ 1)
      cases name <;> rw [Misuse.misuseStmts, if_pos (by decide)]
    | none =>
      have hwx := hw (.let_ kw name asg x) (List.mem_cons_self ..)
      rw [wfStmt, Bool.and_eq_true] at hwx
      cases name with
      | none => cases hwx.1
      | some n =>
        rw [compileStmts_let, bind_assoc]
        refine (Agrees.bind (b2 := Misuse.misuseStmts rest (n.name :: names scope) 0)
          (Agrees.map _ (writeExpr_agrees ⟨src, scope, .let_⟩ x hwx.2)) fun sql =>
          compileStmts_agrees src rest ((n.name, sql) :: scope) none hwrest hs.2 (fun _ ht => nomatch ht)).of_eq ?_
        show _ = Misuse.misuseStmts (.let_ kw (some n) asg x :: rest) _ 0
        rw [Misuse.misuseStmts, if_neg (by decide)]
        rfl

theorem compileChunks_agrees (src : Bytes) (params : List (Bytes × Bytes)) (stmts : List Stmt)
    (hwf : ∀ s ∈ stmts, wfStmt s = true) (hspans : SpansInside src stmts = true) :
    Agrees (compileChunks src params stmts) (Misuse.misuse (params.map (·.1)) stmts) := by
  rw [compileChunks_eq]
  have h := compileStmts_agrees src stmts (params.map fun kv => (kv.1, [Chunk.raw kv.2])) none hwf hspans
    (fun t ht => by cases ht)
  refine h.of_eq ?_
  show Misuse.misuseStmts stmts _ 0 = Misuse.misuseStmts stmts _ 0
  unfold names
  rw [List.map_map]
  rfl

end Pql.Exact
