/-
The (non-recursive) tabular operator productions commute with a map on tokens: `pRowCount`,
`pSortTerm(s)`, `pNamedColumn`, the column loops, `pSummarize`, `pRenderProp(s)`, `pRender`.
-/
import PqlModel.Lemmas.ParseMapExpr
import PqlModel.Lemmas.ParseCasesOps
namespace Pql
open Layout

theorem map_snoc {α β : Type} (f : α → β) (l : List α) (a : α) : l.map f ++ [f a] = (l ++ [a]).map f := by
  rw [List.map_append, List.map_singleton]

namespace TokMap
variable (M : TokMap)

theorem sortDir_map (term : SortTerm) (l : List Token) (h : M.Ok l) :
    sortDir (mapSortTerm M.sp term) (l.map M.tok) =
      (mapSortTerm M.sp (sortDir term l).1, (sortDir term l).2.map M.tok) ∧ M.Ok (sortDir term l).2 := by
  rcases l with _ | ⟨t, rest⟩
  · exact ⟨rfl, M.Ok_nil⟩
  · simp only [sortDir, List.map_cons, M.isIdentNamed_tok]
    split
    · exact ⟨by simp only [mapSortTerm, M.span t h.head], h.tail⟩
    · split
      · exact ⟨by simp only [mapSortTerm, M.span t h.head], h.tail⟩
      · exact ⟨rfl, h⟩

theorem nullsClause_map (term : SortTerm) (l : List Token) (h : M.Ok l) :
    M.Comm (Option.map (mapSortTerm M.sp)) (nullsClause M.src term l)
      (nullsClause M.dst (mapSortTerm M.sp term) (l.map M.tok)) := by
  rcases l with _ | ⟨t, rest⟩
  · exact ⟨rfl, M.Ok_nil⟩
  · simp only [nullsClause, List.map_cons, M.isIdentNamed_tok]
    refine .ite (fun _ => ?_) fun _ => ⟨rfl, h⟩
    rcases rest with _ | ⟨t2, rest2⟩
    · exact ⟨by res_eq [], M.Ok_nil⟩
    · have h2 := M.span2 t t2 h.head h.tail.head (h.lt (List.mem_cons_self ..))
      simp only [List.map_cons, M.isIdentNamed_tok]
      exact .ite (fun _ => ⟨by res_eq [mapSortTerm, h2], h.tail.tail⟩) fun _ =>
        .ite (fun _ => ⟨by res_eq [mapSortTerm, h2], h.tail.tail⟩) fun _ =>
          ⟨by res_eq [M.span t2 h.tail.head, M.espan t2 h.tail.head], h.tail⟩

theorem pSortTerm_map (fuel : Nat) (ts : List Token) (h : M.Ok ts) :
    M.Comm (Option.map (mapSortTerm M.sp)) (pSortTerm M.src fuel ts)
      (pSortTerm M.dst fuel (ts.map M.tok)) := by
  obtain ⟨e1, p1⟩ := M.pExpr_map fuel ts h
  by_cases he : (pExpr M.src fuel ts).errs = []
  · have he' : (pExpr M.dst fuel (ts.map M.tok)).errs = [] := by rw [e1, res_errs, he]; rfl
    rw [pSortTerm_ok he, pSortTerm_ok he', e1, res_val, res_rest]
    have hterm : (⟨mapExpr M.sp (pExpr M.src fuel ts).val, false, .null, false, .null⟩ : SortTerm) =
        mapSortTerm M.sp ⟨(pExpr M.src fuel ts).val, false, .null, false, .null⟩ := by
      rw [mapSortTerm, M.null]
    obtain ⟨e2, p2⟩ := M.sortDir_map ⟨(pExpr M.src fuel ts).val, false, .null, false, .null⟩ _ p1
    rw [hterm, e2]
    exact M.nullsClause_map _ _ p2
  · have he' : (pExpr M.dst fuel (ts.map M.tok)).errs ≠ [] := by
      rw [e1, res_errs]; exact fun hn => he ((mapErrs_eq_nil _ _).mp hn)
    rw [pSortTerm_err he, pSortTerm_err he', e1]
    exact ⟨rfl, p1⟩

theorem pRowCount_map (fuel : Nat) (ts : List Token) (h : M.Ok ts) :
    M.Comm (mapExpr M.sp) (pRowCount M.src fuel ts) (pRowCount M.dst fuel (ts.map M.tok)) := by
  obtain ⟨e1, p1⟩ := M.pExpr_map fuel ts h
  simp only [pRowCount]
  rw [e1, res_errs, res_val]
  simp only [ne_eq, mapErrs_eq_nil]
  refine .ite (fun _ => ⟨rfl, p1⟩) fun _ => ?_
  rcases hv : (pExpr M.src fuel ts).val <;> simp only [mapExpr]
  all_goals first | exact ⟨rfl, p1⟩ | skip
  exact .ite (fun _ => ⟨rfl, p1⟩) fun _ => ⟨by res_eq [hv], p1⟩

/-- The loop of `sort`, `extend` and the `by` clause of `summarize`, for an item parser that
    commutes and two ways of taking an item in (`bad`, `good`) that do. -/
theorem commaLoop_map {α β : Type} {fa : α → α} {fb : β → β} {item item' : List Token → PRes β}
    {bad bad' : List α → PRes β → List α} {good good' : List α → β → List α}
    (hitem : ∀ ts, M.Ok ts → M.Comm fb (item ts) (item' (ts.map M.tok)))
    (hbad : ∀ acc r, bad' (acc.map fa) (M.res fb r) = (bad acc r).map fa)
    (hgood : ∀ acc v, good' (acc.map fa) (fb v) = (good acc v).map fa) :
    ∀ (k : Nat) (acc : List α) (ts : List Token), M.Ok ts →
      M.Comm (List.map fa) (commaLoop item bad good k acc ts)
        (commaLoop item' bad' good' k (acc.map fa) (ts.map M.tok)) := by
  intro k
  induction k with
  | zero => intro acc ts h; exact ⟨rfl, h⟩
  | succ k ih =>
    intro acc ts h
    obtain ⟨e1, p1⟩ := hitem ts h
    simp only [commaLoop]
    rw [e1, hbad, res_errs, res_val, res_rest, hgood]
    simp only [ne_eq, mapErrs_eq_nil]
    refine .ite (fun _ => ⟨by res_eq [], p1⟩) fun _ => ?_
    rcases hr : (item ts).rest with _ | ⟨t, rest⟩
    · exact ⟨rfl, M.Ok_nil⟩
    · rw [hr] at p1
      simp only [List.map_cons, M.kind]
      exact .ite (fun _ => ih _ rest p1.tail) fun _ => ⟨by res_eq [hr], p1⟩

theorem pSortTerms_map (fuel : Nat) (k : Nat) (acc : List SortTerm) (ts : List Token) (h : M.Ok ts) :
    M.Comm (List.map (mapSortTerm M.sp)) (pSortTerms M.src fuel k acc ts)
      (pSortTerms M.dst fuel k (acc.map (mapSortTerm M.sp)) (ts.map M.tok)) := by
  have happ : ∀ (acc : List SortTerm) (v : Option SortTerm),
      acc.map (mapSortTerm M.sp) ++ (v.map (mapSortTerm M.sp)).toList =
        (acc ++ v.toList).map (mapSortTerm M.sp) := by
    intro acc v; cases v <;> simp only [Option.map_some, Option.map_none, Option.toList_some,
      Option.toList_none, List.map_append, List.map_cons, List.map_nil]
  rw [pSortTerms_eq_loop, pSortTerms_eq_loop]
  exact M.commaLoop_map (M.pSortTerm_map fuel) (fun acc r => happ acc r.val) happ k acc ts h

theorem pNamedColumn_map (fuel : Nat) (ts : List Token) (h : M.Ok ts) :
    M.Comm (mapColumn M.sp) (pNamedColumn M.src fuel ts) (pNamedColumn M.dst fuel (ts.map M.tok)) := by
  obtain ⟨ei, pi_⟩ := M.pIdent_map ts h
  obtain ⟨e0, p0⟩ := M.pExpr_map fuel ts h
  simp only [pNamedColumn]
  rw [ei, e0, res_val, res_rest]
  generalize pIdent M.src ts = ri at pi_ ⊢
  obtain ⟨v, e, rr⟩ := ri
  rcases v with _ | id
  · exact ⟨by res_eq [], p0⟩
  · rcases rr with _ | ⟨t, rest⟩
    · exact ⟨by res_eq [], p0⟩
    · simp only [Option.map_some, List.map_cons, M.kind]
      by_cases hk : t.kind = TokKind.assign
      · obtain ⟨e1, p1⟩ := M.pExpr_map fuel rest pi_.tail
        simp only [if_pos hk]
        rw [e1]
        exact ⟨by res_eq [M.span t pi_.head], p1⟩
      · simp only [if_neg hk]
        exact ⟨by res_eq [], p0⟩

theorem pExtendCols_map (fuel : Nat) (k : Nat) (acc : List Column) (ts : List Token) (h : M.Ok ts) :
    M.Comm (List.map (mapColumn M.sp)) (pExtendCols M.src fuel k acc ts)
      (pExtendCols M.dst fuel k (acc.map (mapColumn M.sp)) (ts.map M.tok)) := by
  rw [pExtendCols_eq_loop, pExtendCols_eq_loop]
  exact M.commaLoop_map (M.pNamedColumn_map fuel) (fun _ _ => rfl)
    (fun _ _ => map_snoc ..) k acc ts h

theorem pProjectCols_map (fuel : Nat) : ∀ (k : Nat) (acc : List Column) (ts : List Token), M.Ok ts →
    M.Comm (List.map (mapColumn M.sp)) (pProjectCols M.src fuel k acc ts)
      (pProjectCols M.dst fuel k (acc.map (mapColumn M.sp)) (ts.map M.tok)) := by
  intro k
  induction k with
  | zero => intro acc ts h; exact ⟨rfl, h⟩
  | succ k ih =>
    intro acc ts h
    obtain ⟨ei, pi_⟩ := M.pIdent_map ts h
    simp only [pProjectCols]
    rw [ei, res_errs, res_val, res_rest]
    generalize pIdent M.src ts = ri at pi_ ⊢
    obtain ⟨v, e, rr⟩ := ri
    rcases v with _ | id
    · exact ⟨by res_eq [], pi_⟩
    · rcases rr with _ | ⟨sep, rest⟩
      · exact ⟨by res_eq [], M.Ok_nil⟩
      · simp only [Option.map_some, List.map_cons, M.kind]
        refine .ite (fun _ => ?_) fun _ => .ite (fun _ => ?_) fun _ => ⟨by res_eq [], pi_⟩
        · have := ih (acc ++ [⟨some id, .null, .nil⟩]) rest pi_.tail
          simp only [List.map_append, List.map_cons, List.map_nil, mapColumn, Option.map_some,
            M.null, mapExpr] at this
          exact this
        · obtain ⟨e1, p1⟩ := M.pExpr_map fuel rest pi_.tail
          rw [e1, res_errs, res_val, res_rest]
          generalize pExpr M.src fuel rest = r at p1 ⊢
          simp only [ne_eq, mapErrs_eq_nil]
          refine .ite (fun _ => ⟨by res_eq [M.span sep pi_.head], p1⟩) fun _ => ?_
          rcases hr2 : r.rest with _ | ⟨sep2, rest2⟩
          · exact ⟨by res_eq [M.span sep pi_.head], M.Ok_nil⟩
          · rw [hr2] at p1
            simp only [List.map_cons, M.kind]
            refine .ite (fun _ => ?_) fun _ => ⟨by res_eq [M.span sep pi_.head], p1.tail⟩
            have := ih (acc ++ [⟨some id, sep.span, r.val⟩]) rest2 p1.tail
            simp only [List.map_append, List.map_cons, List.map_nil, mapColumn, Option.map_some,
              ← M.span sep pi_.head] at this
            exact this

def sumCols (s : SumCols) : SumCols := ⟨s.cols.map (mapColumn M.sp), s.done, s.comma.map M.sp⟩

def SpanOk (s : Span) : Prop := M.esp s = M.sp s

/-- the comma span remembered by the column loop of `summarize` is the span of a token -/
theorem pSummarizeCols_comma (fuel : Nat) : ∀ (k : Nat) (acc : List Column) (cm : Option Span)
    (ts : List Token), M.Ok ts → (∀ s, cm = some s → M.SpanOk s) →
    ∀ s, (pSummarizeCols M.src fuel k acc cm ts).val.comma = some s → M.SpanOk s := by
  apply pSummarizeCols_induct (motive := fun _ _ cm ts r => M.Ok ts →
    (∀ s, cm = some s → M.SpanOk s) → ∀ s, r.val.comma = some s → M.SpanOk s)
  case fuel => exact fun _ _ _ _ hc => hc
  case none => exact fun _ _ _ _ _ _ _ _ hc => hc
  case err | eof | stop => intros; contradiction
  case more =>
    intro n acc cm ts r t rest res hr _ hrest _ ih h _
    have p1 := (M.pNamedColumn_map fuel ts h).2
    rw [hr, hrest] at p1
    exact ih p1.tail fun s hs => by cases hs; exact M.espan t p1.head

theorem pSummarizeCols_map (fuel : Nat) : ∀ (k : Nat) (acc : List Column) (cm : Option Span)
    (ts : List Token), M.Ok ts →
    M.Comm M.sumCols (pSummarizeCols M.src fuel k acc cm ts)
      (pSummarizeCols M.dst fuel k (acc.map (mapColumn M.sp)) (cm.map M.sp) (ts.map M.tok)) := by
  intro k
  induction k with
  | zero => intro acc cm ts h; exact ⟨rfl, h⟩
  | succ k ih =>
    intro acc cm ts h
    obtain ⟨e1, p1⟩ := M.pNamedColumn_map fuel ts h
    simp only [pSummarizeCols]
    rw [e1, res_errs, res_val, res_rest]
    generalize pNamedColumn M.src fuel ts = r at p1 ⊢
    simp only [isNF_mapErrs, ne_eq, mapErrs_eq_nil]
    refine .ite (fun _ => ⟨rfl, h⟩) fun _ => .ite (fun _ => ⟨by res_eq [sumCols], p1⟩) fun _ => ?_
    rcases hr : r.rest with _ | ⟨t, rest⟩
    · exact ⟨by res_eq [sumCols], M.Ok_nil⟩
    · rw [hr] at p1
      simp only [List.map_cons, M.kind]
      refine .ite (fun _ => ?_) fun _ => ⟨by res_eq [sumCols, hr], p1⟩
      have := ih (acc ++ [r.val]) (some t.span) rest p1.tail
      simp only [List.map_append, List.map_cons, List.map_nil, Option.map_some,
        ← M.span t p1.head] at this
      exact this

theorem pGroupByCols_map (fuel : Nat) (k : Nat) (acc : List Column) (ts : List Token) (h : M.Ok ts) :
    M.Comm (List.map (mapColumn M.sp)) (pGroupByCols M.src fuel k acc ts)
      (pGroupByCols M.dst fuel k (acc.map (mapColumn M.sp)) (ts.map M.tok)) := by
  rw [pGroupByCols_eq_loop, pGroupByCols_eq_loop]
  refine M.commaLoop_map (M.pNamedColumn_map fuel) (fun acc r => ?_)
    (fun _ _ => map_snoc ..) k acc ts h
  rw [res_errs, isNF_mapErrs]
  split
  · rfl
  · exact map_snoc ..

theorem pSummarize_map (fuel : Nat) (pipe kw : Span) (ts : List Token) (h : M.Ok ts) :
    M.Comm (mapOp M.sp) (pSummarize M.src fuel pipe kw ts)
      (pSummarize M.dst fuel (M.sp pipe) (M.sp kw) (ts.map M.tok)) := by
  obtain ⟨e1, p1⟩ := M.pSummarizeCols_map fuel (ts.length + 1) [] none ts h
  have hcm := M.pSummarizeCols_comma fuel (ts.length + 1) [] none ts h (fun _ hs => nomatch hs)
  simp only [pSummarize, List.length_map]
  rw [List.map_nil, Option.map_none] at e1
  rw [e1, res_errs, res_val, res_rest]
  generalize pSummarizeCols M.src fuel (ts.length + 1) [] none ts = r at p1 hcm ⊢
  obtain ⟨⟨cols, done, cm⟩, e, rr⟩ := r
  simp only [sumCols, List.isEmpty_map]
  refine .ite (fun _ => ⟨by res_eq [], p1⟩) fun _ => ?_
  rcases rr with _ | ⟨sep, rest⟩
  · refine .ite (fun _ => ⟨by res_eq [], M.Ok_nil⟩) fun _ => ?_
    rcases cm with _ | cm
    · exact ⟨by res_eq [], M.Ok_nil⟩
    · exact ⟨by res_eq [show M.esp cm = M.sp cm from hcm cm rfl], M.Ok_nil⟩
  · simp only [List.map_cons, M.kind]
    refine .ite (fun _ => .ite (fun _ => ⟨by res_eq [M.span sep p1.head, M.espan sep p1.head], p1⟩)
      fun _ => ?_) fun _ => ?_
    · rcases cm with _ | cm
      · exact ⟨by res_eq [], p1⟩
      · exact ⟨by res_eq [show M.esp cm = M.sp cm from hcm cm rfl], p1⟩
    · obtain ⟨e2, p2⟩ := M.pGroupByCols_map fuel (rest.length + 1) [] rest p1.tail
      rw [List.map_nil] at e2
      simp only [List.length_map]
      rw [e2]
      exact ⟨by res_eq [M.span sep p1.head], p2⟩

theorem pRenderProp_map (fuel : Nat) (ts : List Token) (h : M.Ok ts) :
    M.Comm (Option.map (mapRenderProp M.sp)) (pRenderProp M.src fuel ts)
      (pRenderProp M.dst fuel (ts.map M.tok)) := by
  obtain ⟨ei, pi_⟩ := M.pIdent_map ts h
  simp only [pRenderProp]
  rw [ei, res_errs, res_val, res_rest]
  generalize pIdent M.src ts = ri at pi_ ⊢
  obtain ⟨v, e, rr⟩ := ri
  rcases v with _ | id
  · exact ⟨rfl, pi_⟩
  · rcases rr with _ | ⟨t, rest⟩
    · exact ⟨by res_eq [], M.Ok_nil⟩
    · simp only [Option.map_some, List.map_cons, M.kind]
      refine .ite (fun _ => ⟨by res_eq [M.span t pi_.head, M.espan t pi_.head], pi_.tail⟩) fun _ => ?_
      obtain ⟨e1, p1⟩ := M.pExpr_map fuel rest pi_.tail
      rw [e1, res_errs, res_val, res_rest]
      simp only [ne_eq, mapErrs_eq_nil]
      exact .ite (fun _ => ⟨rfl, p1⟩) fun _ => ⟨by res_eq [M.span t pi_.head], p1⟩

theorem pRenderProps_map (fuel : Nat) : ∀ (k : Nat) (acc : List RenderProp) (ts : List Token), M.Ok ts →
    M.Comm (fun v => (v.1.map (mapRenderProp M.sp), M.sp v.2)) (pRenderProps M.src fuel k acc ts)
      (pRenderProps M.dst fuel k (acc.map (mapRenderProp M.sp)) (ts.map M.tok)) := by
  intro k
  induction k with
  | zero => intro acc ts h; exact ⟨by simp only [pRenderProps]; res_eq [], h⟩
  | succ k ih =>
    intro acc ts h
    obtain ⟨e1, p1⟩ := M.pRenderProp_map fuel ts h
    simp only [pRenderProps]
    rw [e1, res_errs, res_val, res_rest]
    generalize pRenderProp M.src fuel ts = r at p1 ⊢
    obtain ⟨v, e, rr⟩ := r
    simp only [ne_eq, mapErrs_eq_nil]
    refine .ite (fun _ => ⟨by res_eq [], p1⟩) fun _ => ?_
    cases v with
    | none =>
      simp only [Option.map_none]
      rcases rr with _ | ⟨t, rest⟩
      · exact ⟨by res_eq [], M.Ok_nil⟩
      · simp only [List.map_cons, M.kind]
        exact .ite (fun _ => ⟨by res_eq [M.span t p1.head], p1.tail⟩) fun _ =>
          .ite (fun _ => ⟨by res_eq [M.span t p1.head, M.espan t p1.head], p1.tail⟩) fun _ =>
            ih _ rest p1.tail
    | some prop =>
      -- the property just parsed is appended on both sides
      simp only [Option.map_some]
      rcases rr with _ | ⟨t, rest⟩
      · exact ⟨by res_eq [], M.Ok_nil⟩
      · simp only [List.map_cons, M.kind]
        refine .ite (fun _ => ⟨by res_eq [M.span t p1.head], p1.tail⟩) fun _ =>
          .ite (fun _ => ⟨by res_eq [M.span t p1.head, M.espan t p1.head], p1.tail⟩) fun _ => ?_
        rw [← List.map_singleton (f := mapRenderProp M.sp), ← List.map_append]
        exact ih _ rest p1.tail

theorem pRender_map (fuel : Nat) (pipe kw : Span) (hkw : M.SpanOk kw) (ts : List Token) (h : M.Ok ts) :
    M.Comm (mapOp M.sp) (pRender M.src fuel pipe kw ts)
      (pRender M.dst fuel (M.sp pipe) (M.sp kw) (ts.map M.tok)) := by
  obtain ⟨ei, pi_⟩ := M.pIdent_map ts h
  simp only [pRender]
  rw [ei, res_val, res_rest]
  generalize pIdent M.src ts = ri at pi_ ⊢
  obtain ⟨v, e, rr⟩ := ri
  rcases v with _ | chart
  · exact ⟨by res_eq [show M.esp kw = M.sp kw from hkw], pi_⟩
  · rcases rr with _ | ⟨t, rest⟩
    · exact ⟨by res_eq [], M.Ok_nil⟩
    · simp only [Option.map_some, List.map_cons, M.isIdentNamed_tok]
      refine .ite (fun _ => ⟨by res_eq [], pi_⟩) fun _ => ?_
      rcases rest with _ | ⟨lp, rest2⟩
      · exact ⟨by res_eq [M.span t pi_.head], M.Ok_nil⟩
      · have h2 := pi_.tail
        simp only [List.map_cons, M.kind]
        refine .ite
          (fun _ => ⟨by res_eq [M.span t pi_.head, M.span lp h2.head, M.espan lp h2.head], h2.tail⟩)
          fun _ => ?_
        obtain ⟨e1, p1⟩ := M.pRenderProps_map fuel (rest2.length + 1) [] rest2 h2.tail
        rw [List.map_nil] at e1
        simp only [List.length_map]
        rw [e1]
        exact ⟨by res_eq [M.span t pi_.head, M.span lp h2.head], p1⟩

end TokMap
end Pql
