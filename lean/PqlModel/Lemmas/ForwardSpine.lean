/-
The left spine of an expression tree, as the parser sees it: a head (what `unaryExpr` parses)
followed by segments — `op y` for a binary operator, `in ( vals )` for a membership test —
that `exprBinaryTrail` folds onto the head from left to right.

`okSegs` is `Grammar.okSpine` restated on the segment list; `StopsAt m rest` says that `rest` does
not continue an expression at minimum precedence `m`.
-/
import PqlModel.Lemmas.ForwardSplit
namespace Pql
open Grammar

inductive Seg
  | bin (os : Span) (op : TokKind) (y : Expr)
  | inn (i lp : Span) (vals : ExprList) (rp : Span)

def Seg.apply (x : Expr) : Seg → Expr
  | .bin os op y => .binary x os op y
  | .inn i lp vals rp => .inE x i lp vals rp

def foldSegs (x : Expr) : List Seg → Expr
  | [] => x
  | s :: tl => foldSegs (s.apply x) tl

def spineHead : Expr → Expr
  | .binary x _ _ _ => spineHead x
  | .inE x _ _ _ _ => spineHead x
  | e => e

def spineSegs : Expr → List Seg
  | .binary x os op y => spineSegs x ++ [.bin os op y]
  | .inE x i lp vals rp => spineSegs x ++ [.inn i lp vals rp]
  | _ => []

def isHeadE : Expr → Bool
  | .binary .. | .inE .. => false
  | _ => true

theorem foldSegs_append (x : Expr) (a b : List Seg) : foldSegs x (a ++ b) = foldSegs (foldSegs x a) b := by
  induction a generalizing x with
  | nil => rfl
  | cons s tl ih => simp only [List.cons_append, foldSegs, ih]

theorem fold_spine : (e : Expr) → foldSegs (spineHead e) (spineSegs e) = e
  | .binary x os op y => by
    simp only [spineHead, spineSegs, foldSegs_append, fold_spine x, foldSegs, Seg.apply]
  | .inE x i lp vals rp => by
    simp only [spineHead, spineSegs, foldSegs_append, fold_spine x, foldSegs, Seg.apply]
  | .nil => rfl
  | .qident _ => rfl
  | .lit .. => rfl
  | .unary .. => rfl
  | .paren .. => rfl
  | .call .. => rfl
  | .index .. => rfl

/-- one segment in a context of minimum precedence `m` behind a spine of cap `cap`; the result is
    the cap for what follows -/
def okSeg (m cap : Int) : Seg → Option Int
  | .bin _ op y =>
    if isBinaryOp op && decide (m ≤ Pql.precOf op) && decide (Pql.precOf op ≤ cap) &&
        (okSpine (Pql.precOf op + 1) y).isSome then some (Pql.precOf op) else none
  | .inn _ _ vals _ =>
    if decide (m ≤ 2) && decide (2 ≤ cap) && decide (vals.length > 0) && okList vals then some inf else none

def okSegs (m : Int) : Int → List Seg → Option Int
  | cap, [] => some cap
  | cap, s :: tl =>
    match okSeg m cap s with
    | some c => okSegs m c tl
    | none => none

theorem okSegs_snoc {m cap c c' : Int} {a : List Seg} {s : Seg} (ha : okSegs m cap a = some c)
    (hs : okSeg m c s = some c') : okSegs m cap (a ++ [s]) = some c' := by
  induction a generalizing cap with
  | nil =>
    simp only [okSegs, Option.some.injEq] at ha
    subst ha
    simp [okSegs, hs]
  | cons s0 tl ih =>
    simp only [okSegs] at ha
    split at ha
    · rename_i c0 h0
      simp only [List.cons_append, okSegs, h0]
      exact ih ha
    · simp at ha

theorem okSpine_head {m cap : Int} : ∀ {h : Expr}, isHeadE h = true → okSpine m h = some cap →
    cap = inf ∧ (okSpine 0 h).isSome = true
  | .nil, _, h => by simp [okSpine] at h
  | .qident parts, _, h => by
    simp only [okSpine] at h ⊢
    split at h <;> simp_all
  | .lit _ k _, _, h => by
    simp only [okSpine] at h ⊢
    split at h <;> simp_all
  | .unary _ op x, _, h => by
    simp only [okSpine] at h ⊢
    split at h <;> simp_all
  | .paren _ x _, _, h => by
    simp only [okSpine] at h ⊢
    split at h <;> simp_all
  | .call fn _ args _, _, h => by
    simp only [okSpine] at h ⊢
    split at h <;> simp_all
  | .index x _ idx _, _, h => by
    simp only [okSpine] at h ⊢
    split at h <;> simp_all
  | .binary .., hh, _ => by simp [isHeadE] at hh
  | .inE .., hh, _ => by simp [isHeadE] at hh

theorem spineHead_head {h : Expr} (hh : isHeadE h = true) : spineHead h = h ∧ spineSegs h = [] := by
  cases h <;> simp_all [isHeadE, spineHead, spineSegs]

def SegReal : Seg → List Token → Prop
  | .bin os op y, ts => ∃ t ty, ts = t :: ty ∧ t.kind = op ∧ t.span = os ∧ Real y ty
  | .inn i lp vals rp, ts => ∃ ti tl tv tr, ts = ti :: tl :: (tv ++ [tr]) ∧ ti.kind = .in_ ∧ ti.span = i ∧
      tl.kind = .lparen ∧ tl.span = lp ∧ RealL vals tv ∧ tr.kind = .rparen ∧ tr.span = rp

def SegsReal : List Seg → List Token → Prop
  | [], ts => ts = []
  | s :: tl, ts => ∃ a b, ts = a ++ b ∧ SegReal s a ∧ SegsReal tl b

theorem segsReal_snoc {a : List Seg} {s : Seg} {ta ts : List Token} (ha : SegsReal a ta)
    (hs : SegReal s ts) : SegsReal (a ++ [s]) (ta ++ ts) := by
  induction a generalizing ta with
  | nil =>
    have : ta = [] := ha
    subst this
    exact ⟨ts, [], by simp, hs, rfl⟩
  | cons s0 tl ih =>
    obtain ⟨x, y, rfl, h1, h2⟩ := ha
    exact ⟨x, y ++ ts, by simp, h1, ih h2⟩

/-- the tokens of `e` cut at its left spine: those of the head, then those of the segments -/
def SpineCut (m cap : Int) (e : Expr) (ts : List Token) : Prop :=
  ∃ th sg, ts = th ++ sg ∧ isHeadE (spineHead e) = true ∧ (okSpine 0 (spineHead e)).isSome = true ∧
    Real (spineHead e) th ∧ okSegs m inf (spineSegs e) = some cap ∧ SegsReal (spineSegs e) sg

theorem spineCut_head {m cap : Int} {h : Expr} {ts : List Token} (hh : isHeadE h = true)
    (hok : okSpine m h = some cap) (hr : Real h ts) : SpineCut m cap h ts := by
  obtain ⟨rfl, h0⟩ := okSpine_head hh hok
  obtain ⟨e1, e2⟩ := spineHead_head hh
  rw [SpineCut, e1, e2]
  exact ⟨ts, [], by simp, hh, h0, hr, rfl, rfl⟩

theorem spine_cut : (e : Expr) → (m cap : Int) → (ts : List Token) → okSpine m e = some cap → Real e ts →
    SpineCut m cap e ts
  | .binary x os op y, m, cap, ts, h, hr => by
    obtain ⟨capx, hx, hop, hm, hc, hy, rfl⟩ := okSpine_binary h
    obtain ⟨tx, t, ty, rfl, hrx, hk, hs, hry⟩ := real_binary hr
    obtain ⟨th, sg, rfl, h1, h2, h3, h4, h5⟩ := spine_cut x m capx tx hx hrx
    exact ⟨th, sg ++ t :: ty, by simp, h1, h2, h3, okSegs_snoc h4 (by simp [okSeg, hop, hm, hc, hy]),
      segsReal_snoc h5 ⟨t, ty, rfl, hk, hs, hry⟩⟩
  | .inE x i lp vals rp, m, cap, ts, h, hr => by
    obtain ⟨capx, hx, hm, hc, hl, hv, rfl⟩ := okSpine_inE h
    obtain ⟨tx, ti, tl, tv, tr, rfl, hrx, h3, h4, h5, h6, h7, h8, h9⟩ := real_inE hr
    obtain ⟨th, sg, rfl, g1, g2, g3, g4, g5⟩ := spine_cut x m capx tx hx hrx
    exact ⟨th, sg ++ ti :: tl :: (tv ++ [tr]), by simp, g1, g2, g3,
      okSegs_snoc g4 (by simp [okSeg, hm, hc, hl, hv]),
      segsReal_snoc g5 ⟨ti, tl, tv, tr, rfl, h3, h4, h5, h6, h7, h8, h9⟩⟩
  | .nil, _, _, _, h, _ => by simp [okSpine] at h
  | .qident _, _, _, _, h, hr => spineCut_head rfl h hr
  | .lit .., _, _, _, h, hr => spineCut_head rfl h hr
  | .unary .., _, _, _, h, hr => spineCut_head rfl h hr
  | .paren .., _, _, _, h, hr => spineCut_head rfl h hr
  | .call .., _, _, _, h, hr => spineCut_head rfl h hr
  | .index .., _, _, _, h, hr => spineCut_head rfl h hr

def kindStops (m : Int) (k : TokKind) : Bool :=
  if Pql.precOf k < 0 then (k != .dot && k != .lparen && k != .lbracket) else decide (Pql.precOf k < m)

/-- The "what may follow" conditions, each on the first token of the rest, under which a production
    ends where the tree says.  Behind an expression parsed at minimum precedence `m`: no binary
    operator of precedence `≥ m` and no `.` `(` `[` (`StopsAt m`); behind a head: no `.` `(` `[`
    (`HeadStops`); behind an inner primary: no `.` `(` (`InnerStops`); behind a qualified name: no `.`
    (`NotDot`; these two in Lemmas/ForwardExpr.lean; each implies the next).  On top of `StopsAt 0`:
    behind an expression list no comma unless it is the last token (`ListStops`), behind a sort term
    none of `asc desc nulls` (`SortStops`), behind a column no `=` (`ColStops`, Lemmas/ForwardOps.lean). -/
def StopsAt (m : Int) : List Token → Bool
  | [] => true
  | t :: _ => kindStops m t.kind

def HeadStops : List Token → Bool
  | [] => true
  | t :: _ => t.kind != .dot && t.kind != .lparen && t.kind != .lbracket

theorem prec_nonneg_kind {k : TokKind} (h : 0 ≤ Pql.precOf k) :
    k ≠ .dot ∧ k ≠ .lparen ∧ k ≠ .lbracket ∧ k ≠ .comma ∧ Pql.precOf k ≤ 4 := by
  revert h
  rw [C07.precOf_eq]
  cases k <;> decide

theorem kindStops_mono {m m' : Int} {k : TokKind} (hm : m ≤ m') (h : kindStops m k = true) :
    kindStops m' k = true := by
  unfold kindStops at h ⊢
  split
  · rename_i hp; rw [if_pos hp] at h; exact h
  · rename_i hp; rw [if_neg hp] at h
    simp only [decide_eq_true_eq] at h ⊢
    omega

theorem stopsAt_mono {m m' : Int} {rest : List Token} (hm : m ≤ m') (h : StopsAt m rest = true) :
    StopsAt m' rest = true := by
  cases rest with
  | nil => rfl
  | cons t r => exact kindStops_mono hm h

theorem stopsAt_headStops {m : Int} {rest : List Token} (h : StopsAt m rest = true) :
    HeadStops rest = true := by
  cases rest with
  | nil => rfl
  | cons t r =>
    simp only [StopsAt, kindStops] at h
    simp only [HeadStops]
    split at h
    · exact h
    · rename_i hp
      have := prec_nonneg_kind (k := t.kind) (by omega)
      simp [this.1, this.2.1, this.2.2.1]

theorem stopsAt_comma {m : Int} {t : Token} {r : List Token} (h : t.kind = .comma) :
    StopsAt m (t :: r) = true := by
  simp only [StopsAt, kindStops, h, C07.precOf_eq]
  rfl

/-- the exit test of `exprBinaryTrail` -/
theorem stopsAt_trail {m : Int} {t : Token} {r : List Token} (h : StopsAt m (t :: r) = true) :
    Pql.precOf t.kind < 0 ∨ Pql.precOf t.kind < m := by
  simp only [StopsAt, kindStops] at h
  split at h
  · rename_i hp; exact Or.inl hp
  · exact Or.inr (by simpa using h)

theorem stopsAt_op {m : Int} {t : Token} {r : List Token} (h0 : 0 ≤ Pql.precOf t.kind)
    (h : Pql.precOf t.kind < m) : StopsAt m (t :: r) = true := by
  simp only [StopsAt, kindStops]
  rw [if_neg (by omega)]
  simpa using h

theorem headStops_op {t : Token} {r : List Token} (h0 : 0 ≤ Pql.precOf t.kind) :
    HeadStops (t :: r) = true := by
  have := prec_nonneg_kind h0
  simp [HeadStops, this.1, this.2.1, this.2.2.1]

theorem okSeg_bin {m cap c0 : Int} {os : Span} {op : TokKind} {y : Expr}
    (h : okSeg m cap (.bin os op y) = some c0) :
    isBinaryOp op = true ∧ m ≤ Pql.precOf op ∧ Pql.precOf op ≤ cap ∧
      (okSpine (Pql.precOf op + 1) y).isSome = true ∧ c0 = Pql.precOf op := by
  simp only [okSeg] at h
  split at h
  · rename_i hc
    simp only [Bool.and_eq_true, decide_eq_true_eq] at hc
    simp only [Option.some.injEq] at h
    exact ⟨hc.1.1.1, hc.1.1.2, hc.1.2, hc.2, h.symm⟩
  · simp at h

theorem okSeg_inn {m cap c0 : Int} {i lp rp : Span} {vals : ExprList}
    (h : okSeg m cap (.inn i lp vals rp) = some c0) :
    m ≤ 2 ∧ 2 ≤ cap ∧ vals.length > 0 ∧ okList vals = true ∧ c0 = inf := by
  simp only [okSeg] at h
  split at h
  · rename_i hc
    simp only [Bool.and_eq_true, decide_eq_true_eq] at hc
    simp only [Option.some.injEq] at h
    exact ⟨hc.1.1.1, hc.1.1.2, hc.1.2, hc.2, h.symm⟩
  · simp at h

theorem segs_first {m cap c : Int} {s : Seg} {tl : List Seg} {sg : List Token}
    (hok : okSegs m cap (s :: tl) = some c) (hr : SegsReal (s :: tl) sg) :
    ∃ t r, sg = t :: r ∧ 0 ≤ Pql.precOf t.kind ∧ m ≤ Pql.precOf t.kind ∧ Pql.precOf t.kind ≤ cap := by
  obtain ⟨a, b, rfl, ha, -⟩ := hr
  simp only [okSegs] at hok
  split at hok
  · rename_i c0 h0
    cases s with
    | bin os op y =>
      obtain ⟨t, ty, rfl, hk, -, -⟩ := ha
      obtain ⟨hop, hm, hc, -, -⟩ := okSeg_bin h0
      subst hk
      exact ⟨t, ty ++ b, by simp, (isBinaryOp_kind hop).2, hm, hc⟩
    | inn i lp vals rp =>
      obtain ⟨ti, tl', tv, tr, rfl, hk, -⟩ := ha
      obtain ⟨hm, hc, -, -, -⟩ := okSeg_inn h0
      have hp : Pql.precOf ti.kind = 2 := by rw [hk, C07.precOf_eq]
      exact ⟨ti, tl' :: (tv ++ [tr]) ++ b, by simp, by omega, by omega, by omega⟩
  · simp at hok

theorem headStops_segs {m m' cap c : Int} {segs : List Seg} {sg rest : List Token}
    (hok : okSegs m cap segs = some c) (hr : SegsReal segs sg) (hs : StopsAt m' rest = true) :
    HeadStops (sg ++ rest) = true := by
  cases segs with
  | nil =>
    have : sg = [] := hr
    subst this
    exact stopsAt_headStops hs
  | cons s tl =>
    obtain ⟨t, r, rfl, h0, -, -⟩ := segs_first hok hr
    exact headStops_op h0

/-- Why a right operand ends where the tree says.  The segments `tl` behind an operator of
    precedence `p` pass `okSegs m p`, so the first of them begins with an operator of precedence at
    most the cap `p` (`segs_first`): the operand, parsed at minimum precedence `p + 1`, stops in
    front of it. -/
theorem stopsAt_after {m p c : Int} {tl : List Seg} {tt rest : List Token}
    (hok : okSegs m p tl = some c) (hr : SegsReal tl tt) (hs : StopsAt m rest = true) (hm : m ≤ p) :
    StopsAt (p + 1) (tt ++ rest) = true := by
  cases tl with
  | nil =>
    have : tt = [] := hr
    subst this
    exact stopsAt_mono (by omega) hs
  | cons s tl' =>
    obtain ⟨t, r, rfl, h0, -, h2⟩ := segs_first hok hr
    exact stopsAt_op h0 (by omega)

end Pql
