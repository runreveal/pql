/-
The dispatch of `pOperator` on the operator name: one equation per keyword.  The keywords are
literals, so with the name's spelling put in, the chain of tests in `pOperator` evaluates.
`sortBody` and `topBody` are the two productions the model writes inline
(`(*parser).sortOperator`, `(*parser).topOperator`); `pJoin_eq` is `pJoin` in terms of
`joinTail`, what it does behind its optional `kind = flavor` clause.
-/
import PqlModel.Lemmas.TabCases
namespace Pql

def sortBody (c : PCtx) (f : Nat) (pipe kw : Span) : List Token → PRes Op
  | [] => ⟨.sort pipe kw [], errAt c.eof, []⟩
  | by_ :: rest =>
    if by_.kind ≠ .by_ then ⟨.sort pipe kw [], errAt by_.span, rest⟩
    else
      let r := pSortTerms c f (rest.length + 1) [] rest
      ⟨.sort pipe ⟨kw.start, by_.stop⟩ r.val, r.errs, r.rest⟩

def topBody (c : PCtx) (f : Nat) (pipe kw : Span) (ts : List Token) : PRes Op :=
  let r := pRowCount c f ts
  if r.errs ≠ [] then ⟨.top pipe kw r.val .null none, mkOpaque r.errs, r.rest⟩
  else
    match r.rest with
    | [] => ⟨.top pipe kw r.val .null none, errAt c.eof, []⟩
    | by_ :: rest =>
      if by_.kind ≠ .by_ then ⟨.top pipe kw r.val .null none, errAt by_.span, r.rest⟩
      else
        let rt := pSortTerm c f rest
        ⟨.top pipe kw r.val by_.span rt.val, mkOpaque rt.errs, rt.rest⟩

/-- the operator names, in the order `pOperator` tests them -/
def opKeywords : List String :=
  ["count", "where", "filter", "sort", "order", "take", "limit", "top", "project", "extend", "summarize",
    "join", "as", "render"]

section
variable (c : PCtx) (f : Nat) (pipe : Span) (name : Token) (ts : List Token)

theorem pOperator_count (hv : name.value = Bytes.ofString "count") :
    pOperator c (f + 1) pipe name ts = some ⟨.count pipe name.span, [], ts⟩ := by
  unfold pOperator
  rw [hv]
  rfl

theorem pOperator_where
    (hv : name.value = Bytes.ofString "where" ∨ name.value = Bytes.ofString "filter") :
    pOperator c (f + 1) pipe name ts =
      some ⟨.where_ pipe name.span (pExpr c f ts).val, mkOpaque (pExpr c f ts).errs, (pExpr c f ts).rest⟩ := by
  unfold pOperator
  rcases hv with hv | hv <;> (rw [hv]; rfl)

theorem pOperator_sort
    (hv : name.value = Bytes.ofString "sort" ∨ name.value = Bytes.ofString "order") :
    pOperator c (f + 1) pipe name ts = some (sortBody c f pipe name.span ts) := by
  unfold pOperator sortBody
  rcases hv with hv | hv <;> rw [hv] <;> dsimp only <;>
    rw [if_neg (by decide), if_neg (by decide), if_pos (by decide)] <;> cases ts
  · rfl
  · dsimp only; split <;> rfl
  · rfl
  · dsimp only; split <;> rfl

theorem pOperator_take
    (hv : name.value = Bytes.ofString "take" ∨ name.value = Bytes.ofString "limit") :
    pOperator c (f + 1) pipe name ts =
      some ⟨.take pipe name.span (pRowCount c f ts).val, mkOpaque (pRowCount c f ts).errs,
        (pRowCount c f ts).rest⟩ := by
  unfold pOperator
  rcases hv with hv | hv <;> (rw [hv]; rfl)

theorem pOperator_top (hv : name.value = Bytes.ofString "top") :
    pOperator c (f + 1) pipe name ts = some (topBody c f pipe name.span ts) := by
  unfold pOperator topBody
  rw [hv]
  dsimp only
  rw [if_neg (by decide), if_neg (by decide), if_neg (by decide), if_neg (by decide), if_pos (by decide)]
  generalize pRowCount c f ts = r
  obtain ⟨n, errs, rest⟩ := r
  cases errs with
  | cons e es => rfl
  | nil =>
    cases rest with
    | nil => rfl
    | cons b rest => by_cases hk : b.kind = .by_ <;> simp [hk]

theorem pOperator_project (hv : name.value = Bytes.ofString "project") :
    pOperator c (f + 1) pipe name ts =
      some ⟨.project pipe name.span (pProjectCols c f (ts.length + 1) [] ts).val,
        (pProjectCols c f (ts.length + 1) [] ts).errs, (pProjectCols c f (ts.length + 1) [] ts).rest⟩ := by
  unfold pOperator
  rw [hv]
  rfl

theorem pOperator_extend (hv : name.value = Bytes.ofString "extend") :
    pOperator c (f + 1) pipe name ts =
      some ⟨.extend pipe name.span (pExtendCols c f (ts.length + 1) [] ts).val,
        (pExtendCols c f (ts.length + 1) [] ts).errs, (pExtendCols c f (ts.length + 1) [] ts).rest⟩ := by
  unfold pOperator
  rw [hv]
  rfl

theorem pOperator_summarize (hv : name.value = Bytes.ofString "summarize") :
    pOperator c (f + 1) pipe name ts = some (pSummarize c f pipe name.span ts) := by
  unfold pOperator
  rw [hv]
  rfl

theorem pOperator_join (hv : name.value = Bytes.ofString "join") :
    pOperator c (f + 1) pipe name ts = some (pJoin c f pipe name.span ts) := by
  unfold pOperator
  rw [hv]
  rfl

theorem pOperator_as (hv : name.value = Bytes.ofString "as") :
    pOperator c (f + 1) pipe name ts =
      some ⟨.as_ pipe name.span (pIdent c ts).val, mkOpaque (pIdent c ts).errs, (pIdent c ts).rest⟩ := by
  unfold pOperator
  rw [hv]
  rfl

theorem pOperator_render (hv : name.value = Bytes.ofString "render") :
    pOperator c (f + 1) pipe name ts = some (pRender c f pipe name.span ts) := by
  unfold pOperator
  rw [hv]
  rfl

theorem pOperator_unknown (h : ∀ kw ∈ opKeywords, name.value ≠ Bytes.ofString kw) :
    pOperator c (f + 1) pipe name ts = none := by
  have hk : ∀ kw ∈ opKeywords, (name.value == Bytes.ofString kw) = false :=
    fun kw hkw => beq_eq_false_iff_ne.2 (h kw hkw)
  simp only [opKeywords, List.forall_mem_cons, List.not_mem_nil, false_imp_iff, implies_true, and_true] at hk
  simp only [pOperator, hk, Bool.or_false, Bool.false_eq_true, if_false]

end

theorem pJoin_eq (c : PCtx) (f : Nat) (pipe kw : Span) (ts : List Token) :
    pJoin c (f + 1) pipe kw ts =
      match ts with
      | [] => ⟨.join pipe kw .null .null none .null .nil .null .null .nil, errAt c.eof, []⟩
      | t0 :: rest0 =>
        if isIdentNamed t0 "kind" then
          match rest0 with
          | [] => ⟨.join pipe kw t0.span .null none .null .nil .null .null .nil, errAt c.eof, []⟩
          | asg :: rest1 =>
            if asg.kind ≠ .assign then ⟨.join pipe kw t0.span .null none .null .nil .null .null .nil, errAt asg.span, rest1⟩
            else
              match rest1 with
              | [] => ⟨.join pipe kw t0.span asg.span none .null .nil .null .null .nil, errAt c.eof, []⟩
              | fl :: rest2 =>
                if fl.kind ≠ .ident then
                  ⟨.join pipe kw t0.span asg.span none .null .nil .null .null .nil, errAt fl.span, rest2⟩
                else
                  joinTail c f pipe kw t0.span asg.span (some ⟨fl.value, fl.span, false⟩)
                    (if isJoinType fl.value then [] else errAt fl.span) rest2
        else joinTail c f pipe kw .null .null none [] (t0 :: rest0) := by
  unfold pJoin joinTail
  rcases ts with _ | ⟨t0, rest0⟩
  · rfl
  · by_cases hk : isIdentNamed t0 "kind" = true
    · rcases rest0 with _ | ⟨asg, rest1⟩
      · simp [hk]
      · by_cases ha : asg.kind = .assign
        · rcases rest1 with _ | ⟨fl, rest2⟩
          · simp [hk, ha]
          · by_cases hf : fl.kind = .ident
            · simp only [hk, ha, hf, ne_eq, not_true_eq_false, if_true, if_false]
              rcases rest2 with _ | ⟨lp, r1⟩
              · rfl
              · rfl
            · simp [hk, ha, hf]
        · simp [hk, ha]
    · simp only [hk, Bool.false_eq_true, if_false]
      rcases rest0 with _ | ⟨lp, r1⟩ <;> rfl

end Pql
