/-
`tr join e` (the intended translation, Spec/CompileOracle.lean) is defined for every expression
that is structurally OK (`sOK`: what the parser builds without error) and in which every
built-in is called with a documented number of arguments (`arOK`).  The latter follows from
`Misuse.badExpr … = false`, i.e. (C13) from successful compilation.
-/
import PqlModel.Lemmas.ParsedOKExpr
import PqlModel.Lemmas.ExactBasic
import PqlModel.Spec.CompileOracle
import PqlModel.Lemmas.TreeInduct
namespace Pql.ParsedOK
open Pql Pql.Exact CompileOracle Sql

mutual
def arOK : Expr → Bool
  | .call fn _ args _ => !Misuse.wrongArity fn.name args.length && arOKL args
  | .unary _ _ x => arOK x
  | .paren _ x _ => arOK x
  | .binary x _ _ y => arOK x && arOK y
  | .index x _ y _ => arOK x && arOK y
  | .inE x _ _ vs _ => arOK x && arOKL vs
  | .nil => true
  | .qident _ => true
  | .lit .. => true
def arOKL : ExprList → Bool
  | .nil => true
  | .cons e es => arOK e && arOKL es
end

theorem arOK_alg (pos : Misuse.Pos) (bound : List Bytes) : ExprTreeAlg
    (fun e => Misuse.badExpr pos bound e = false → arOK e = true)
    (fun l => Misuse.badList pos bound l = false → arOKL l = true) where
  nil := fun _ => rfl
  qident := fun _ _ => rfl
  lit := fun _ _ _ _ => rfl
  unary := fun _ _ _ ih => ih
  binary := fun _ _ _ _ ihx ihy h => and_true' (ihx (or_false_of h).1) (ihy (or_false_of h).2)
  inE := fun _ _ _ _ _ ihx ihl h => and_true' (ihx (or_false_of h).1) (ihl (or_false_of h).2)
  paren := fun _ _ _ ih => ih
  call := fun _ _ _ _ ihl h =>
    and_true' (by rw [(or_false_of h).1]; rfl) (ihl (or_false_of h).2)
  index := fun _ _ _ _ ihx ihy h => and_true' (ihx (or_false_of h).1) (ihy (or_false_of h).2)
  lnil := fun _ => rfl
  cons := fun _ _ ihe ihl h => and_true' (ihe (or_false_of h).1) (ihl (or_false_of h).2)

theorem arOK_of_notBad (pos : Misuse.Pos) (bound : List Bytes) : ∀ e : Expr,
    Misuse.badExpr pos bound e = false → arOK e = true := (arOK_alg pos bound).expr

theorem arOKL_of_notBad (pos : Misuse.Pos) (bound : List Bytes) : ∀ l : ExprList,
    Misuse.badList pos bound l = false → arOKL l = true := (arOK_alg pos bound).list

/-- no name occurs twice in the table: looking up a row's name finds that row -/
theorem arities_find : ∀ row ∈ Misuse.arities,
    Misuse.arities.find? (fun a => Misuse.bytesEq (Bytes.ofString row.1) a.1) = some row := by decide

theorem isName_eq {b : Bytes} {s : String} (h : isName b s = true) : b = Bytes.ofString s := by
  simpa [isName] using h

theorem arity_of_row {n : Bytes} {len : Nat} (s : String) (exact : Bool) (k : Nat)
    (hrow : (s, exact, k) ∈ Misuse.arities) (hn : isName n s = true)
    (hw : Misuse.wrongArity n len = false) : if exact then len = k else k ≤ len := by
  rw [isName_eq hn, Misuse.wrongArity, arities_find _ hrow] at hw
  cases exact <;> simpa using hw

theorem len3 {α : Type} {l : List α} (h : l.length = 3) : ∃ a b c, l = [a, b, c] := by
  match l, h with
  | [a, b, c], _ => exact ⟨a, b, c, rfl⟩

theorem trList_length (join : Bool) : ∀ (l : ExprList) (as : SExprList), trList join l = some as →
    as.toList.length = l.length
  | .nil, as, h => by
    simp only [trList, Option.some.injEq] at h
    subst h; rfl
  | .cons e es, as, h => by
    simp only [trList, Option.bind_eq_bind, Option.pure_def, Option.bind_eq_some_iff,
      Option.some.injEq] at h
    obtain ⟨a, _, as', has, rfl⟩ := h
    simp [SExprList.toList, ExprList.length, trList_length join es as' has]

/-- the call case of `tr`, given the translated arguments: in the branch of each built-in the
    table row of that name fixes the shape of the argument list the branch matches on -/
theorem tr_call_isSome (join : Bool) (fn : Ident) (lp rp : Span) (args : ExprList) (as : SExprList)
    (has : trList join args = some as)
    (hw : Misuse.wrongArity fn.name args.length = false) :
    (tr join (.call fn lp args rp)).isSome = true := by
  rw [← trList_length join args as has] at hw
  simp only [tr, has, Option.bind_eq_bind, Option.bind_some, Option.pure_def]
  generalize as.toList = l at hw ⊢
  generalize fn.name = n at hw ⊢
  have ex : ∀ s k, (s, true, k) ∈ Misuse.arities → isName n s = true → l.length = k :=
    fun s k hrow hn => arity_of_row s true k hrow hn hw
  by_cases h : isName n "not" = true
  · obtain ⟨a, rfl⟩ := List.length_eq_one_iff.mp (ex "not" 1 (by decide) h)
    rw [if_pos h]; rfl
  rw [if_neg h]
  by_cases h : isName n "isnull" = true
  · obtain ⟨a, rfl⟩ := List.length_eq_one_iff.mp (ex "isnull" 1 (by decide) h)
    rw [if_pos h]; rfl
  rw [if_neg h]
  by_cases h : isName n "isnotnull" = true
  · obtain ⟨a, rfl⟩ := List.length_eq_one_iff.mp (ex "isnotnull" 1 (by decide) h)
    rw [if_pos h]; rfl
  rw [if_neg h]
  by_cases h : (isName n "iff" || isName n "iif") = true
  · have : l.length = 3 := by
      rcases Bool.or_eq_true_iff.1 h with h | h
      · exact ex "iff" 3 (by decide) h
      · exact ex "iif" 3 (by decide) h
    obtain ⟨a, b, c, rfl⟩ := len3 this
    rw [if_pos h]; rfl
  rw [if_neg h]
  by_cases h : isName n "strcat" = true
  · have : 1 ≤ l.length := arity_of_row "strcat" false 1 (by decide) h hw
    rw [if_pos h]
    cases l with
    | nil => simp at this
    | cons a rest => rfl
  rw [if_neg h]
  by_cases h : isName n "tolower" = true
  · obtain ⟨a, rfl⟩ := List.length_eq_one_iff.mp (ex "tolower" 1 (by decide) h)
    rw [if_pos h]; rfl
  rw [if_neg h]
  by_cases h : isName n "toupper" = true
  · obtain ⟨a, rfl⟩ := List.length_eq_one_iff.mp (ex "toupper" 1 (by decide) h)
    rw [if_pos h]; rfl
  rw [if_neg h]
  by_cases h : isName n "now" = true
  · obtain rfl := List.eq_nil_of_length_eq_zero (ex "now" 0 (by decide) h)
    rw [if_pos h]; rfl
  rw [if_neg h]
  by_cases h : isName n "count" = true
  · obtain rfl := List.eq_nil_of_length_eq_zero (ex "count" 0 (by decide) h)
    rw [if_pos h]; rfl
  rw [if_neg h]
  by_cases h : isName n "countif" = true
  · obtain ⟨a, rfl⟩ := List.length_eq_one_iff.mp (ex "countif" 1 (by decide) h)
    rw [if_pos h]; rfl
  rw [if_neg h]; rfl

/-- every operator the compiler translates outside its four special cases is one the intended
    translation passes through: the two tables compared operator by operator -/
theorem plainOp_of_known (op : TokKind) (hk : knownBinOp op = true) :
    op = .eq ∨ op = .ne ∨ op = .cieq ∨ op = .cine ∨ (plainOp op).isSome = true := by
  rw [knownBinOp_iff] at hk
  cases op <;> revert hk <;> decide

theorem tr_binary_isSome (join : Bool) (x y : Expr) (os : Span) (op : TokKind) (a b : SExpr)
    (hx : tr join x = some a) (hy : tr join y = some b) (hk : knownBinOp op = true) :
    (tr join (.binary x os op y)).isSome = true := by
  simp only [tr, hx, hy, Option.bind_eq_bind, Option.bind_some, Option.pure_def]
  by_cases h1 : op = .eq
  · rw [if_pos h1]; split <;> rfl
  rw [if_neg h1]
  by_cases h2 : op = .ne
  · rw [if_pos h2]; rfl
  rw [if_neg h2]
  by_cases h3 : op = .cieq
  · rw [if_pos h3]; rfl
  rw [if_neg h3]
  by_cases h4 : op = .cine
  · rw [if_pos h4]; rfl
  rw [if_neg h4]
  have hp : (plainOp op).isSome = true := by
    have := plainOp_of_known op hk
    simp only [h1, h2, h3, h4, false_or] at this
    exact this
  obtain ⟨s, hs⟩ := Option.isSome_iff_exists.1 hp
  rw [hs]; rfl

theorem tr_alg (join : Bool) : ExprTreeAlg
    (fun e => sOK e = true → arOK e = true → (tr join e).isSome = true)
    (fun l => sOKList l = true → arOKL l = true → (trList join l).isSome = true) where
  nil := fun h => nomatch h
  qident := fun parts _ _ => by
    simp only [tr]
    split
    · split
      · rfl
      · split
        · rfl
        · split <;> rfl
    · rfl
  lit := fun _ k v h _ => by
    simp only [sOK, Bool.or_eq_true, decide_eq_true_eq] at h
    rcases h with rfl | rfl <;> simp [tr]
  unary := fun _ op x ih h ha => by
    simp only [sOK, Bool.and_eq_true, Bool.or_eq_true, decide_eq_true_eq] at h
    obtain ⟨a, hx⟩ := Option.isSome_iff_exists.1 (ih h.2 ha)
    simp only [tr, hx, Option.bind_eq_bind, Option.bind_some, Option.pure_def]
    rcases h.1 with rfl | rfl <;> simp
  binary := fun x os op y ihx ihy h ha => by
    obtain ⟨a, hx⟩ := Option.isSome_iff_exists.1
      (ihx (and_true_of (and_true_of h).2).1 (and_true_of ha).1)
    obtain ⟨b, hy⟩ := Option.isSome_iff_exists.1
      (ihy (and_true_of (and_true_of h).2).2 (and_true_of ha).2)
    exact tr_binary_isSome join x y os op a b hx hy (and_true_of h).1
  inE := fun _ _ _ _ _ ihx ihl h ha => by
    obtain ⟨a, hx⟩ := Option.isSome_iff_exists.1 (ihx (and_true_of h).1 (and_true_of ha).1)
    obtain ⟨b, hy⟩ := Option.isSome_iff_exists.1
      (ihl (and_true_of (and_true_of h).2).1 (and_true_of ha).2)
    simp [tr, hx, hy]
  paren := fun _ _ _ ih => ih
  call := fun fn lp args rp ihl h ha => by
    obtain ⟨as, has⟩ := Option.isSome_iff_exists.1 (ihl (and_true_of h).2 (and_true_of ha).2)
    exact tr_call_isSome join fn lp rp args as has (by simpa using (and_true_of ha).1)
  index := fun _ _ _ _ ihx ihy h ha => by
    obtain ⟨a, hx⟩ := Option.isSome_iff_exists.1 (ihx (and_true_of h).1 (and_true_of ha).1)
    obtain ⟨b, hy⟩ := Option.isSome_iff_exists.1 (ihy (and_true_of h).2 (and_true_of ha).2)
    simp [tr, hx, hy]
  lnil := fun _ _ => rfl
  cons := fun _ _ ihe ihl h ha => by
    obtain ⟨a, hx⟩ := Option.isSome_iff_exists.1 (ihe (and_true_of h).1 (and_true_of ha).1)
    obtain ⟨b, hy⟩ := Option.isSome_iff_exists.1 (ihl (and_true_of h).2 (and_true_of ha).2)
    simp [trList, hx, hy]

theorem tr_isSome (join : Bool) : ∀ e : Expr, sOK e = true → arOK e = true → (tr join e).isSome = true :=
  (tr_alg join).expr

theorem trList_isSome (join : Bool) : ∀ l : ExprList, sOKList l = true → arOKL l = true →
    (trList join l).isSome = true := (tr_alg join).list

end Pql.ParsedOK
