/-
`(*scanner).numberOrDot` as translated: what the function calls (`NumberEnv`), the
common tail `span := newSpan(start, s.pos); return Token{…normalizeNumberValue(spanString(…))}`, and
the loop over the subsequent decimal digits against the model's `mantissaLoop` / `finishNumber`.
-/
import PqlModel.Lemmas.LexIRExponent
namespace Pql.LexIR
open Pql

/-- what `numberOrDot` calls -/
structure NumberEnv (lib : Lib) (env : Env) (fuel : Nat) : Prop where
  cursor : CursorEnv lib env
  newSpan : ∃ f, env "newSpan" = some f ∧ SpecNewSpan f
  indexSpan : ∃ f, env "indexSpan" = some f ∧ SpecIndexSpan f
  spanString : ∃ f, env "spanString" = some f ∧ SpecSpanString f
  normalize : ∃ f, env "normalizeNumberValue" = some f ∧ SpecNormalize f
  exponent : ∃ f, env "scanner.numberExponent" = some f ∧ SpecExponent fuel f
  errorToken : HasPrim lib env "errorToken"
  parseUint : HasPrim lib env "strconv.ParseUint"
  formatUint : HasPrim lib env "strconv.FormatUint"

theorem NumberEnv.errTok {lib : Lib} {env : Env} {fuel : Nat} (E : NumberEnv lib env fuel) : ∃ f, env "errorToken" = some f ∧
    ∀ a b m rest h, f (.span a b :: .str m :: rest) h = .ok ([.tok .error a b []], h) := by
  rw [E.errorToken]
  simp [prims]

/-- the variables of `numberOrDot` in scope in the digit loop -/
def mVars (b : Bool) (c : Nat) (ok : Bool) (p0 : Nat) : List (String × Val) :=
  [("hasDecimalPoint", .bool b), ("ok", .bool ok), ("c", .int c), ("start", .int p0), ("s", .scanner)]

/-- the number token that ends `w` bytes into `s` -/
def numVal (pre s : Bytes) (w : Nat) : Val :=
  .tok .number pre.length (pre.length + w) (normalizeNumber (s.take w))

/-- the common tail, in any scope that has `start` and `s` -/
theorem ret_normalized (lib : Lib) (env : Env) (fuel : Nat) (E : NumberEnv lib env fuel) (pre s : Bytes) (w l : Nat)
    (hw : w ≤ s.length) (V : List (String × Val)) (D : List (List Stmt))
    (h1 : V.find? (fun x => x.fst == "start") = some ("start", .int pre.length))
    (h2 : V.find? (fun x => x.fst == "s") = some ("s", .scanner)) :
    execBlock env fuel retNormalized ⟨V, hp pre s w l, D⟩ =
      .ok (.ret [numVal pre s w], ⟨("span", .span pre.length (pre.length + w)) :: V, hp pre s w l, D⟩) := by
  obtain ⟨fA, hA, sA⟩ := E.newSpan
  obtain ⟨fB, hB, sB⟩ := E.spanString
  obtain ⟨fC, hC, sC⟩ := E.normalize
  have sA : ∀ a b h, fA [.int a, .int b] h = .ok ([.span a b], h) := sA
  have sC : ∀ s h, fC [.str s] h = .ok ([.str (normalizeNumber s)], h) := sC
  have e1 := sB (pre ++ s) pre.length (pre.length + w) (hp pre s w l) (by omega) (by simp; omega)
  rw [take_drop_pre] at e1
  unfold retNormalized numVal
  lx_simp [h1, h2, hA, sA, hB, e1, hC, sC, kind_number]

def mSt (b : Bool) (c : Nat) (ok : Bool) (p0 : Nat) (h : Heap) : State := ⟨mVars b c ok p0, h, []⟩

theorem leave_mSt3 (b b' : Bool) (c : Nat) (ok : Bool) (p0 : Nat) (h h' : Heap) (x y z : String × Val) :
    State.leave ⟨x :: y :: z :: mVars b c ok p0, h, []⟩ (mSt b' c ok p0 h') = mSt b c ok p0 h := by
  simp [State.leave, mSt, mVars]

/-! `finW s k b` (Lemmas/LexBasic.lean) is the width of the number whose mantissa has been read up to offset `k` of `s`,
`b` saying whether a decimal point was among it: `finishNumber s k b` is the number token of that width
(`finishNumber_eq_finW`). -/

theorem finW_nil (s : Bytes) (k : Nat) (b : Bool) (hd : s.drop k = []) : finW s k b = k := by
  simp [finW, hd, mantissaLoop, exponentLen]

theorem finW_step (s : Bytes) (k : Nat) (b b' : Bool) (c1 : UInt8) (rest : Bytes) (hd : s.drop k = c1 :: rest)
    (hm : mantissaLoop b (c1 :: rest) = mantissaLoop b' rest + 1) : finW s k b = finW s (k + 1) b' := by
  have hr := drop_succ_of_cons hd
  unfold finW
  rw [hd, hr, hm]
  have : k + (mantissaLoop b' rest + 1) = k + 1 + mantissaLoop b' rest := by omega
  rw [this]

theorem finW_stop (s : Bytes) (k : Nat) (b : Bool) (c1 : UInt8) (rest : Bytes) (hd : s.drop k = c1 :: rest)
    (hm : mantissaLoop b (c1 :: rest) = 0) : finW s k b = k + exponentLen (s.drop k) := by
  unfold finW
  rw [hd, hm]
  simp [hd]

/-- **the loop over the subsequent decimal digits** computes the model's `finishNumber`.  At a byte one pass is run once
    (`foreverLoop_succ`), the rest of the loop a variable: a tree of three leaves, two of them the induction hypothesis. -/
theorem mant_loop (lib : Lib) (env : Env) (fuel : Nat) (E : NumberEnv lib env fuel) (pre s : Bytes) (c : Nat) (ok : Bool)
    (hf : s.length < fuel) :
    ∀ (n k : Nat) (b : Bool) (l : Nat), k ≤ s.length → s.length - k < n →
      ∃ vars l', foreverLoop (execBlock env fuel mantLoopBody) n (mSt b c ok pre.length (hp pre s k l)) =
        .ok (.ret [numVal pre s (finW s k b)], ⟨vars, hp pre s (finW s k b) l', []⟩) := by
  intro n
  induction n with
  | zero => intro k b l _ h; omega
  | succ n ih =>
    intro k b l hk hn
    obtain ⟨fN, hN, sN⟩ := E.cursor.next
    obtain ⟨fP, hP, sP⟩ := E.cursor.prev
    obtain ⟨fX, hX, sX⟩ := E.exponent
    obtain ⟨fD, hD, sD⟩ := E.cursor.digit
    obtain ⟨r, ok1, k1, l1, nx, _, hk1, hend, hat⟩ := next_any sN pre s k l hk
    rw [foreverLoop_succ]
    generalize foreverLoop (execBlock env fuel mantLoopBody) n = loop at ih ⊢
    simp only [mSt, mVars] at ih
    cases hd : s.drop k with
    | nil =>
      obtain ⟨rfl, rfl, rfl⟩ := hend hd
      have hr := ret_normalized lib env fuel E pre s k1 l1 hk1
        (("ok", .bool false) :: ("c", .int r) :: mVars b c ok pre.length) [] (by simp [mVars]) (by simp [mVars])
      unfold mVars at hr
      unfold mantLoopBody mSt mVars
      rw [finW_nil s k1 b hd]
      refine ⟨mVars b c ok pre.length, l1, ?_⟩
      lx_simp [hN, nx, hr, mVars]
    | cons c1 rest =>
      obtain ⟨rfl, rfl, hlt, hw, hq, hdg, _⟩ := hat c1 rest hd
      obtain ⟨lx, hx⟩ := sX pre s k (pre.length + k) hk hf
      have hle : k + exponentLen (s.drop k) ≤ s.length := by
        have := exponentLen_le (s.drop k)
        rw [List.length_drop] at this
        omega
      have hr := ret_normalized lib env fuel E pre s (k + exponentLen (s.drop k)) lx hle
        (("ok", .bool true) :: ("c", .int r) :: mVars b c ok pre.length) [] (by simp [mVars]) (by simp [mVars])
      unfold mVars at hr
      unfold mantLoopBody mSt mVars
      lx_simp [hN, hP, hX, hD, sD, nx, hx, hr, hdg, prev_hp sP pre s k k1]
      by_cases hdot : c1 = 46 ∧ b = false
      · obtain ⟨rfl, rfl⟩ := hdot
        obtain rfl := hw (by decide)
        obtain ⟨vars, l', e⟩ := ih (k + 1) true (pre.length + k) (by omega) (by omega)
        rw [if_pos ⟨(hq 46 (by omega)).mpr rfl, rfl⟩, e, finW_step s k false true 46 rest hd (by simp [mantissaLoop])]
        exact ⟨vars, l', rfl⟩
      · have hm : (c1 == 46 && !b) = false := by
          cases b with
          | true => simp
          | false => simp [show c1 ≠ 46 from fun h => hdot ⟨h, rfl⟩]
        rw [if_neg fun h => hdot ⟨(hq 46 (by omega)).mp h.1, h.2⟩]
        by_cases hdig : isDigit c1 = true
        · obtain rfl := hw (isDigit_lt c1 hdig)
          obtain ⟨vars, l', e⟩ := ih (k + 1) b (pre.length + k) (by omega) (by omega)
          rw [if_neg (by simp [hdig]), e, finW_step s k b b c1 rest hd (by simp [mantissaLoop, hm, hdig])]
          exact ⟨vars, l', rfl⟩
        · rw [if_pos (by simpa using hdig), finW_stop s k b c1 rest hd (by simp [mantissaLoop, hm, hdig])]
          exact ⟨_, lx, rfl⟩

end Pql.LexIR
