/-
`(*scanner).numberOrDot` as translated: the hexadecimal branch (`0x…`): the digit
loop against the model's `hexDigitsLen`, `strconv.ParseUint(…, 16, 64)` against `hexToNat` with the
2^64 bound, `strconv.FormatUint(…, 10)` against `natToDec`.
-/
import PqlModel.Lemmas.LexIRMantissa
namespace Pql.LexIR
open Pql
set_option linter.unusedSimpArgs false

theorem leave_two (x y : String × Val) (V : List (String × Val)) (h h' : Heap) (D D' : List (List Stmt)) :
    State.leave ⟨x :: y :: V, h, D⟩ ⟨V, h', D'⟩ = ⟨V, h, D⟩ := by
  have : (x :: y :: V).length - V.length = 2 := by simp; omega
  simp only [State.leave, this]
  rfl

/-- **the hexadecimal-digit loop** consumes exactly the model's `hexDigitsLen`: one pass run once on what `next()`
    returns, the rest of the loop a variable -/
theorem hex_loop (lib : Lib) (env : Env) (fuel : Nat) (E : CursorEnv lib env) (pre s : Bytes)
    (V : List (String × Val)) (hV : V.find? (fun x => x.fst == "s") = some ("s", .scanner)) :
    ∀ (n k l : Nat), k ≤ s.length → s.length - k < n →
      ∃ l', foreverLoop (execBlock env fuel hexLoopBody) n ⟨V, hp pre s k l, []⟩ =
        .ok (.next, ⟨V, hp pre s (k + hexDigitsLen (s.drop k)) l', []⟩) := by
  intro n
  induction n with
  | zero => intro k l _ h; omega
  | succ n ih =>
    intro k l hk hn
    obtain ⟨fN, hN, sN⟩ := E.next
    obtain ⟨fP, hP, sP⟩ := E.prev
    -- `prev()` as `SpecPrev` has it: where it puts the cursor back to is known only in the case analysis (`hat`)
    have sP : ∀ h, fP [.scanner] h = .ok ([], { h with pos := h.last }) := sP
    obtain ⟨fD, hD, sD⟩ := E.hex
    obtain ⟨r, ok, k1, l1, nx, _, hk1, hend, hat⟩ := next_any sN pre s k l hk
    rw [foreverLoop_succ]
    generalize foreverLoop (execBlock env fuel hexLoopBody) n = loop at ih ⊢
    unfold hexLoopBody
    lx_simp [hV, hN, hP, hD, sD, nx, sP, ↓leave_two]
    cases hd : s.drop k with
    | nil =>
      obtain ⟨rfl, rfl, rfl⟩ := hend hd
      exact ⟨l1, rfl⟩
    | cons c1 rest =>
      obtain ⟨rfl, rfl, hlt, hw, _, _, hdg⟩ := hat c1 rest hd
      rw [if_neg nofun, hdg]
      cases hdig : isHexDigit c1 with
      | true =>
        obtain rfl := hw (isHexDigit_lt c1 hdig)
        obtain ⟨l', e⟩ := ih (k + 1) (pre.length + k) (by omega) (by omega)
        rw [if_neg nofun, e, drop_succ_of_cons hd, show hexDigitsLen (c1 :: rest) = hexDigitsLen rest + 1 by simp [hexDigitsLen, hdig],
          show k + 1 + hexDigitsLen rest = k + (hexDigitsLen rest + 1) by omega]
        exact ⟨l', rfl⟩
      | false =>
        rw [if_pos rfl, show hexDigitsLen (c1 :: rest) = 0 by simp [hexDigitsLen, hdig]]
        exact ⟨_, rfl⟩

theorem slice_hp (pre s : Bytes) (a b : Nat) (hab : a ≤ b) (hb : b ≤ s.length) :
    sliceVal (pre ++ s) (pre.length + a) (pre.length + b) = .ok (.str ((s.drop a).take (b - a))) := by
  have h1 : pre.length + a ≤ pre.length + b ∧ pre.length + b ≤ (pre ++ s).length := by simp; omega
  have h2 : pre.length + b - (pre.length + a) = b - a := by omega
  simp only [sliceVal, h1, and_self, if_true, drop_hp, h2]

/-- what the hexadecimal branch returns, as the model says it (18446744073709551616 = 2^64, where
    `strconv.ParseUint(…, 16, 64)` begins to fail) -/
def hexOut (pre rest2 : Bytes) : Val × Nat :=
  let n := hexDigitsLen rest2
  if n = 0 then (.tok .error pre.length (pre.length + 2) (Bytes.ofString "invalid hex literal"), 2)
  else if hexToNat (rest2.take n) < 18446744073709551616 then
    (.tok .number pre.length (pre.length + (n + 2)) (natToDec (hexToNat (rest2.take n))), n + 2)
  else (.tok .error pre.length (pre.length + (n + 2)) [], n + 2)

/-- `strconv.ParseUint(t, 16, 64)` returns something; on hexadecimal digits, their value if it is below 2^64, else an error -/
theorem parseUint_hex (t : Bytes) : ∃ v e, parseUint 16 64 t = some (v, e) ∧
    (t.isEmpty = false → t.all isHexDigit = true →
      e = !decide (hexToNat t < 18446744073709551616) ∧ (e = false → v = hexToNat t)) := by
  unfold parseUint
  by_cases h : (t.isEmpty || !t.all isHexDigit) = true
  · exact ⟨0, true, by simp [h], fun h1 h2 => by simp [h1, h2] at h⟩
  · by_cases hv : hexToNat t < 18446744073709551616
    · exact ⟨hexToNat t, false, by simp [h, hv], fun _ _ => ⟨by simp [hv], fun _ => rfl⟩⟩
    · exact ⟨2 ^ 64 - 1, true, by simp [h, hv], fun _ _ => ⟨by simp [hv], nofun⟩⟩

/-- **the hexadecimal branch** returns `hexOut`.  The body is run once: what `next()` and `strconv.ParseUint` return are
    variables (`next_any`, `parseUint_hex`), the digit loop starts wherever the cursor then is; the cases of `hexOut`
    say what the variables are and choose a leaf. -/
theorem hex_branch (lib : Lib) (env : Env) (fuel : Nat) (E : NumberEnv lib env fuel) (pre s : Bytes) (l : Nat)
    (h2 : 2 ≤ s.length) (hf : s.length < fuel)
    (V : List (String × Val))
    (hV1 : V.find? (fun x => x.fst == "start") = some ("start", .int pre.length))
    (hV2 : V.find? (fun x => x.fst == "s") = some ("s", .scanner)) :
    ∃ vars l', execBlock env fuel hexBranch ⟨V, hp pre s 2 l, []⟩ =
      .ok (.ret [(hexOut pre (s.drop 2)).1], ⟨vars, hp pre s (hexOut pre (s.drop 2)).2 l', []⟩) := by
  obtain ⟨fN, hN, sN⟩ := E.cursor.next
  obtain ⟨fS, hS, sS⟩ := E.cursor.setPos
  obtain ⟨fA, hA, sA0⟩ := E.newSpan
  have sA : ∀ a b h, fA [.int a, .int b] h = .ok ([.span a b], h) := sA0
  obtain ⟨fE, hE, sE⟩ := E.errTok
  have hU := E.parseUint
  have hF := E.formatUint
  unfold HasPrim at hU hF
  obtain ⟨r, ok, k1, l1, nx, hk, hk', hend, hat⟩ := next_any sN pre s 2 l h2
  obtain ⟨fH, hH, sH⟩ := E.cursor.hex
  obtain ⟨l2, hl⟩ := hex_loop lib env fuel E.cursor pre s
    (("ok", .bool ok) :: ("c", .int r) :: ("hexDigitStart", .int (pre.length + 2)) :: V) (by simpa using hV2)
    fuel k1 l1 hk' (by omega)
  have hle : k1 + hexDigitsLen (s.drop k1) ≤ s.length := by
    have := hexDigitsLen_le (s.drop k1)
    rw [List.length_drop] at this
    omega
  have hsl := slice_hp pre s 2 (k1 + hexDigitsLen (s.drop k1)) (by omega) hle
  obtain ⟨v, e, hpu, hve⟩ := parseUint_hex ((s.drop 2).take (k1 + hexDigitsLen (s.drop k1) - 2))
  unfold hexBranch
  lx_simp_ns [hV1, hV2, hN, hS, hA, sA, nx, hH, sH, hE, sE, hU, hF, prims, kind_number, kind_error, hl, hsl, setPos_hp sS pre s 2,
    hpu]
  clear hl hsl hpu nx
  unfold hexOut
  cases hd : s.drop 2 with
  | nil =>
    obtain ⟨rfl, rfl, _⟩ := hend hd
    rw [if_pos (.inl rfl)]
    exact ⟨_, _, rfl⟩
  | cons c1 rest =>
    obtain ⟨rfl, rfl, _, hw, _, _, hr⟩ := hat c1 rest hd
    cases hdig : isHexDigit c1 with
    | false =>
      have hdl : hexDigitsLen (c1 :: rest) = 0 := by simp [hexDigitsLen, hdig]
      rw [if_pos (.inr (hr.trans hdig)), hdl]
      exact ⟨_, _, rfl⟩
    | true =>
      obtain rfl := hw (isHexDigit_lt c1 hdig)
      have hdl : hexDigitsLen (c1 :: rest) = hexDigitsLen rest + 1 := by simp [hexDigitsLen, hdig]
      rw [drop_succ_of_cons hd, hd, show 3 + hexDigitsLen rest - 2 = hexDigitsLen rest + 1 by omega, ← hdl] at hve
      obtain ⟨he, hv⟩ := hve (by simp [hdl]) (List.all_eq_true.mpr (take_hexDigitsLen (c1 :: rest)))
      rw [if_neg (by simp [hr, hdig]), drop_succ_of_cons hd, hdl, if_neg (Nat.succ_ne_zero _)]
      rw [hdl] at he hv
      generalize (c1 :: rest).take (hexDigitsLen rest + 1) = t at *
      subst he
      by_cases hlt : hexToNat t < 18446744073709551616
      · rw [if_neg (by simp [hlt]), if_pos hlt, hv (by simp [hlt])]
        exact ⟨_, _, by rw [show 3 + hexDigitsLen rest = hexDigitsLen rest + 1 + 2 by omega]⟩
      · rw [if_pos (by simp [hlt]), if_neg hlt]
        exact ⟨_, _, by rw [show 3 + hexDigitsLen rest = hexDigitsLen rest + 1 + 2 by omega]⟩

end Pql.LexIR
