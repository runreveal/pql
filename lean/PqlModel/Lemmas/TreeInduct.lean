/-
Induction over trees: `TreeAlg T O OL` has one clause per constructor of `Tabular` / `Op` /
`OpList`, with the predicate of the parts that are pipelines themselves (the operator list, the
right-hand side of a `join`); `TreeAlg.tabular` / `.op` / `.ops` give the predicates of every tree.
`ExprTreeAlg P PL` is the same for `Expr` / `ExprList`.
A fact that relates two recursive definitions over trees is its clauses, most of them the
unfolding of the two definitions.
-/
import PqlModel.Model.Ast
namespace Pql

theorem and_true' {a b : Bool} (ha : a = true) (hb : b = true) : (a && b) = true := by
  rw [ha, hb]; rfl

theorem and_true_of {a b : Bool} (h : (a && b) = true) : a = true ∧ b = true :=
  Bool.and_eq_true_iff.1 h

theorem or_false_of {a b : Bool} (h : (a || b) = false) : a = false ∧ b = false :=
  Bool.or_eq_false_iff.1 h

theorem or_false' {a b : Bool} (ha : a = false) (hb : b = false) : (a || b) = false := by
  rw [ha, hb]; rfl

theorem all_imp {α : Type} {p q : α → Bool} (hpq : ∀ a, p a = true → q a = true) {l : List α}
    (h : l.all p = true) : l.all q = true :=
  List.all_eq_true.2 fun a ha => hpq a (List.all_eq_true.1 h a ha)

/-- a fact about each member of a list written out (the parts of a `Span()`), member by member -/
theorem all_cons {α : Type} {P : α → Prop} {a : α} {l : List α} (h : P a) (t : ∀ x ∈ l, P x) :
    ∀ x ∈ a :: l, P x := List.forall_mem_cons.2 ⟨h, t⟩

theorem all_nil {α : Type} {P : α → Prop} : ∀ x ∈ ([] : List α), P x := fun _ h => nomatch h

structure ExprTreeAlg (P : Expr → Prop) (PL : ExprList → Prop) : Prop where
  nil : P .nil
  qident : ∀ parts : List Ident, P (.qident parts)
  lit : ∀ (sp : Span) (k : TokKind) (v : Bytes), P (.lit sp k v)
  unary : ∀ (a : Span) (op : TokKind) (x : Expr), P x → P (.unary a op x)
  binary : ∀ (x : Expr) (a : Span) (op : TokKind) (y : Expr), P x → P y → P (.binary x a op y)
  inE : ∀ (x : Expr) (a b : Span) (vs : ExprList) (c : Span), P x → PL vs → P (.inE x a b vs c)
  paren : ∀ (a : Span) (x : Expr) (b : Span), P x → P (.paren a x b)
  call : ∀ (fn : Ident) (a : Span) (args : ExprList) (b : Span), PL args → P (.call fn a args b)
  index : ∀ (x : Expr) (a : Span) (i : Expr) (b : Span), P x → P i → P (.index x a i b)
  lnil : PL .nil
  cons : ∀ (e : Expr) (es : ExprList), P e → PL es → PL (.cons e es)

section
variable {P : Expr → Prop} {PL : ExprList → Prop} (A : ExprTreeAlg P PL)
include A

mutual
theorem ExprTreeAlg.expr : ∀ e : Expr, P e
  | .nil => A.nil
  | .qident parts => A.qident parts
  | .lit sp k v => A.lit sp k v
  | .unary a op x => A.unary a op x (ExprTreeAlg.expr x)
  | .binary x a op y => A.binary x a op y (ExprTreeAlg.expr x) (ExprTreeAlg.expr y)
  | .inE x a b vs c => A.inE x a b vs c (ExprTreeAlg.expr x) (ExprTreeAlg.list vs)
  | .paren a x b => A.paren a x b (ExprTreeAlg.expr x)
  | .call fn a args b => A.call fn a args b (ExprTreeAlg.list args)
  | .index x a i b => A.index x a i b (ExprTreeAlg.expr x) (ExprTreeAlg.expr i)
theorem ExprTreeAlg.list : ∀ l : ExprList, PL l
  | .nil => A.lnil
  | .cons e es => A.cons e es (ExprTreeAlg.expr e) (ExprTreeAlg.list es)
end

end

structure TreeAlg (T : Tabular → Prop) (O : Op → Prop) (OL : OpList → Prop) : Prop where
  tnil : T .nil
  tmk : ∀ (s : Option Ident) (ops : OpList), OL ops → T (.mk s ops)
  onil : OL .nil
  cons : ∀ (o : Op) (os : OpList), O o → OL os → OL (.cons o os)
  count : ∀ p k : Span, O (.count p k)
  where_ : ∀ (p k : Span) (e : Expr), O (.where_ p k e)
  sort : ∀ (p k : Span) (ts : List SortTerm), O (.sort p k ts)
  take : ∀ (p k : Span) (n : Expr), O (.take p k n)
  top : ∀ (p k : Span) (n : Expr) (b : Span) (c : Option SortTerm), O (.top p k n b c)
  project : ∀ (p k : Span) (cs : List Column), O (.project p k cs)
  extend : ∀ (p k : Span) (cs : List Column), O (.extend p k cs)
  summarize : ∀ (p k : Span) (cs : List Column) (b : Span) (gs : List Column), O (.summarize p k cs b gs)
  join : ∀ (p k kind ka : Span) (fl : Option Ident) (lp : Span) (right : Tabular) (rp on : Span)
    (conds : ExprList), T right → O (.join p k kind ka fl lp right rp on conds)
  as_ : ∀ (p k : Span) (n : Option Ident), O (.as_ p k n)
  render : ∀ (p k : Span) (c : Option Ident) (w lp : Span) (props : List RenderProp) (rp : Span),
    O (.render p k c w lp props rp)

section
variable {T : Tabular → Prop} {O : Op → Prop} {OL : OpList → Prop} (A : TreeAlg T O OL)
include A

mutual
theorem TreeAlg.tabular : ∀ t : Tabular, T t
  | .nil => A.tnil
  | .mk s ops => A.tmk s ops (TreeAlg.ops ops)
theorem TreeAlg.ops : ∀ ops : OpList, OL ops
  | .nil => A.onil
  | .cons o os => A.cons o os (TreeAlg.op o) (TreeAlg.ops os)
theorem TreeAlg.op : ∀ o : Op, O o
  | .count p k => A.count p k
  | .where_ p k e => A.where_ p k e
  | .sort p k ts => A.sort p k ts
  | .take p k n => A.take p k n
  | .top p k n b c => A.top p k n b c
  | .project p k cs => A.project p k cs
  | .extend p k cs => A.extend p k cs
  | .summarize p k cs b gs => A.summarize p k cs b gs
  | .join p k kind ka fl lp right rp on conds =>
    A.join p k kind ka fl lp right rp on conds (TreeAlg.tabular right)
  | .as_ p k n => A.as_ p k n
  | .render p k c w lp props rp => A.render p k c w lp props rp
end

end

end Pql
