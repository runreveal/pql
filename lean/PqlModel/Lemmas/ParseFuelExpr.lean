/-
Fuel sufficiency for the expression block: with `4 * (remaining tokens) + rank` units of fuel no
production of the block can reach its out-of-fuel branch.  The ranks are

  pInner 1, pExprListTail 1, pTrail 1, pPrimary 2, pHigher 2, pUnary 3, pExpr 4, pExprList 5.

Every recursive call passes `fuel - 1`; a call on the same token list goes to a production of
strictly smaller rank, every other call is on a list that is at least one token shorter (which
pays 4).  The only place where "shorter" is not syntactically evident is the loop of `pHigher`,
which relies on the progress of `pTrail` (`pTrail_progress`).
-/
import PqlModel.Lemmas.ParseFuelLen
import PqlModel.Lemmas.ParseInduct
namespace Pql

structure ExprNF (c : PCtx) (fuel : Nat) : Prop where
  expr : ∀ ts, 4 * ts.length + 4 ≤ fuel → NoFuel (pExpr c fuel ts).errs
  trail : ∀ x m acc ts, 4 * ts.length + 1 ≤ fuel → NoFuel acc → NoFuel (pTrail c fuel x m acc ts).errs
  higher : ∀ y p acc ts, 4 * ts.length + 2 ≤ fuel → NoFuel acc → NoFuel (pHigher c fuel y p acc ts).errs
  unary : ∀ ts, 4 * ts.length + 3 ≤ fuel → NoFuel (pUnary c fuel ts).errs
  primary : ∀ ts, 4 * ts.length + 2 ≤ fuel → NoFuel (pPrimary c fuel ts).errs
  inner : ∀ ts, 4 * ts.length + 1 ≤ fuel → NoFuel (pInner c fuel ts).errs
  exprList : ∀ ts, 4 * ts.length + 5 ≤ fuel → NoFuel (pExprList c fuel ts).errs
  exprListTail : ∀ acc ts, 4 * ts.length + 1 ≤ fuel → NoFuel (pExprListTail c fuel acc ts).errs

theorem exprNF (c : PCtx) (fuel : Nat) : ExprNF c fuel := by
  have len := exprLen c
  suffices h : ExprHolds c
      (fun f ts r => 4 * ts.length + 4 ≤ f → NoFuel r.errs)
      (fun f _ _ acc ts r => 4 * ts.length + 1 ≤ f → NoFuel acc → NoFuel r.errs)
      (fun f _ _ acc ts r => 4 * ts.length + 2 ≤ f → NoFuel acc → NoFuel r.errs)
      (fun f ts r => 4 * ts.length + 3 ≤ f → NoFuel r.errs)
      (fun f ts r => 4 * ts.length + 2 ≤ f → NoFuel r.errs)
      (fun f ts r => 4 * ts.length + 1 ≤ f → NoFuel r.errs)
      (fun f ts r => 4 * ts.length + 5 ≤ f → NoFuel r.errs)
      (fun f _ ts r => 4 * ts.length + 1 ≤ f → NoFuel r.errs) fuel from
    ⟨h.expr, h.trail, h.higher, h.unary, h.primary, h.inner, h.exprList, h.exprListTail⟩
  apply expr_induct
  case e_fuel | u_fuel | p_fuel | i_fuel | l_fuel => intro ts hf; omega
  case t_fuel | h_fuel => intro _ _ _ ts hf; omega
  case lt_fuel => intro _ ts hf; omega
  case e_nf => intro f ts r1 _ h1 _ hf; exact h1 (by omega)
  case e_trail =>
    intro f ts r1 r2 hr1 h1 _ _ h2 hf
    have hl := hr1 ▸ (len f).unary ts
    exact NoFuel.append (h1 (by omega)) (h2 (by omega) NoFuel.nil)
  case t_nil | h_nil => intro _ _ _ _ _ hacc; exact hacc
  case t_stop | h_stop => intro _ _ _ _ _ _ _ _ hacc; exact hacc
  case t_inEof => intro _ _ _ _ _ _ _ _ hacc; exact NoFuel.append hacc (NoFuel.errAt _)
  case t_inNoParen => intro _ _ _ _ _ _ _ _ _ _ _ hacc; exact NoFuel.append hacc (NoFuel.errAt _)
  case t_inOpen =>
    intro f x m acc op lp rest2 rl cl _ _ _ _ _ hl hcl hf hacc
    subst hcl
    simp only [List.length_cons] at hf
    have hs := split_fst_le .rparen rest2
    exact NoFuel.append (NoFuel.append (NoFuel.append hacc (hl (by omega)).mkOpaque)
      (NoFuel.endSplit _)) (closeSplit_noFuel _ _ _ _)
  case t_inList =>
    intro f x m acc op lp rest2 rl cl res _ _ _ _ _ hl hcl _ ih hf hacc
    subst hcl
    simp only [List.length_cons] at hf
    have hs := split_fst_le .rparen rest2
    have hc := closeSplit_rest_le .rparen .null lp.span rest2
    exact ih (by omega) (NoFuel.append (NoFuel.append hacc (hl (by omega)).mkOpaque) (NoFuel.endSplit _))
  case t_binary =>
    intro f x m acc op rest ry rh res _ _ hry hu hrh hh _ ih hf hacc
    simp only [List.length_cons] at hf
    have hul := hry ▸ (len f).unary rest
    have hhl := hrh ▸ (len f).higher ry.val (precOf op.kind) (acc ++ mkOpaque ry.errs) ry.rest
    exact ih (by omega) (hh (by omega) (NoFuel.append hacc (hu (by omega)).mkOpaque))
  case h_go =>
    intro f y p acc op rest r res hp hr ht _ ih hf hacc
    simp only [List.length_cons] at hf
    -- the loop goes on with fewer tokens: `pTrail` consumed the operator it accepted
    have hprog : r.rest.length ≤ rest.length := by
      cases f with
      | zero => omega
      | succ f => exact hr ▸ pTrail_progress c f y (p + 1) [] op rest (by omega)
    exact ih (by omega)
      (NoFuel.append hacc (ht (by simp only [List.length_cons]; omega) NoFuel.nil).mkOpaque)
  case u_nil | i_nil => intro _ _; exact NoFuel.nfAt _
  case u_sign =>
    intro f t rest r _ _ h1 hf
    simp only [List.length_cons] at hf
    exact (h1 (by omega)).mkOpaque
  case u_plain => intro f t rest r _ _ h1 hf; exact h1 (by omega)
  case p_err => intro f ts r _ h1 _ hf; exact h1 (by omega)
  case p_plain => intros; exact NoFuel.nil
  case p_index =>
    intro f ts r t rest ri cl hr _ _ hrest _ _ hi hcl hf
    subst hcl
    have hl := hr ▸ (len f).inner ts
    rw [hrest] at hl
    simp only [List.length_cons] at hl
    have hs := split_fst_le .rbracket rest
    exact NoFuel.append (NoFuel.append (hi (by omega)).mkOpaque (NoFuel.endSplit _))
      (closeSplit_noFuel _ _ _ _)
  case i_lit => intros; exact NoFuel.nil
  case i_ident => intro f t rest q _ hq _ _; exact hq ▸ pQualTail_noFuel c _ _ _ (Nat.le_refl _)
  case i_qident => intro f t rest q _ hq _; exact hq ▸ pQualTail_noFuel c _ _ _ (Nat.le_refl _)
  case i_call =>
    intro f t rest q lp rest2 ra cl _ hq _ _ hr _ _ ha hcl hf
    subst hcl
    have hql := pQualTail_rest_le c (rest.length + 1) [⟨t.value, t.span, false⟩] rest
    rw [hq, hr] at hql
    simp only [List.length_cons] at hf hql
    have hs := split_fst_le .rparen rest2
    exact NoFuel.append (ha (by omega)).callArgErrs (closeSplit_noFuel _ _ _ _)
  case i_paren =>
    intro f t rest rx cl _ _ hx hcl hf
    subst hcl
    simp only [List.length_cons] at hf
    have hs := split_fst_le .rparen rest
    exact NoFuel.append (NoFuel.append (hx (by omega)).mkOpaque (NoFuel.endSplit _))
      (closeSplit_noFuel _ _ _ _)
  case i_other => intros; exact NoFuel.nfAt _
  case l_err => intro f ts r _ h1 _ hf; exact h1 (by omega)
  case l_tail =>
    intro f ts r res hr h1 _ _ ih hf
    have hl := hr ▸ (len f).expr ts
    exact ih (by omega)
  case lt_nil | lt_stop | lt_back => intros; exact NoFuel.nil
  case lt_err =>
    intro f acc t rest r _ _ h1 _ _ hf
    simp only [List.length_cons] at hf
    exact (h1 (by omega)).mkOpaque
  case lt_more =>
    intro f acc t rest r res _ hr _ _ _ ih hf
    simp only [List.length_cons] at hf
    have hl := hr ▸ (len f).expr rest
    exact ih (by omega)

theorem pExpr_noFuel (c : PCtx) (fuel : Nat) (ts : List Token) (hf : 4 * ts.length + 4 ≤ fuel) :
    NoFuel (pExpr c fuel ts).errs := (exprNF c fuel).expr ts hf

theorem pExprList_noFuel (c : PCtx) (fuel : Nat) (ts : List Token) (hf : 4 * ts.length + 5 ≤ fuel) :
    NoFuel (pExprList c fuel ts).errs := (exprNF c fuel).exprList ts hf

end Pql
