/-
ParseRoundtrip: the shapes of SQL the writer emits, at token level.  `ExprP ts w`:
the token list `ts`, followed by anything that cannot continue an expression, is read by
`pExprS · 0` as `w` (up to `normS`); `UnitP` / `AtomP`: the same for `pUnaryS` / `pAtomS`, i.e.
`ts` is a *unit* that every operator context reads as one operand.
-/
import PqlModel.Lemmas.SqlRoundtripComb
namespace Pql.RT
open Pql Sql CompileOracle

def ExprP (ts : List STok) (w : SExpr) : Prop :=
  ∀ rest, Ends stopTok rest → ∃ s, normS s = normS w ∧ PE 0 (ts ++ rest) s rest
def UnitP (ts : List STok) (w : SExpr) : Prop :=
  ∀ rest, Ends unaryEndTok rest → ∃ s, normS s = normS w ∧ PU (ts ++ rest) s rest
def AtomP (ts : List STok) (w : SExpr) : Prop :=
  ∀ rest, Ends atomEndTok rest → ∃ s, normS s = normS w ∧ PA (ts ++ rest) s rest

theorem AtomP.toUnit {ts : List STok} {w : SExpr} (h : AtomP ts w) : UnitP ts w := fun rest hr => by
  obtain ⟨s, hs, ha⟩ := h rest (unaryEnd_atomEnd hr)
  exact ⟨s, hs, U_atom ha (P_stop hr)⟩

/-- a unit is an expression at every level `m`: the trail after it is empty -/
theorem UnitP.atLevel {ts : List STok} {w : SExpr} (h : UnitP ts w) (m : Nat) (rest : List STok)
    (hr : Ends stopTok rest) : ∃ s, normS s = normS w ∧ PE m (ts ++ rest) s rest := by
  obtain ⟨s, hs, hu⟩ := h rest (stop_unaryEnd hr)
  exact ⟨s, hs, E_unary hu (T_stop hr)⟩

theorem UnitP.toExpr {ts : List STok} {w : SExpr} (h : UnitP ts w) : ExprP ts w := h.atLevel 0

theorem AtomP.toExpr {ts : List STok} {w : SExpr} (h : AtomP ts w) : ExprP ts w := h.toUnit.toExpr

theorem AtomP.congr {ts : List STok} {w w' : SExpr} (h : AtomP ts w) (he : normS w = normS w') : AtomP ts w' :=
  fun rest hr => by
    obtain ⟨s, hs, hp⟩ := h rest hr
    exact ⟨s, hs.trans he, hp⟩

theorem ExprP.head {ts : List STok} {w : SExpr} (h : ExprP ts w) : ∃ t tl, ts = t :: tl ∧ startTok t = true := by
  obtain ⟨s, _, hp⟩ := h [] trivial
  rw [List.append_nil] at hp
  exact PE_head hp

theorem stop_rparen : stopTok (S ")") = true := by decide
theorem stop_rbrack : stopTok (S "]") = true := by decide
theorem stop_comma : stopTok (S ",") = true := by decide
theorem stop_THEN : stopTok (W "THEN") = true := by simp [stopTok, unaryEndTok, atomEndTok, infixPrec]
theorem stop_ELSE : stopTok (W "ELSE") = true := by simp [stopTok, unaryEndTok, atomEndTok, infixPrec]
theorem stop_END : stopTok (W "END") = true := by simp [stopTok, unaryEndTok, atomEndTok, infixPrec]

theorem ExprP.paren {ts : List STok} {w : SExpr} (h : ExprP ts w) : AtomP (S "(" :: (ts ++ [S ")"])) w :=
  fun rest _ => by
    obtain ⟨s, hs, hp⟩ := h (S ")" :: rest) stop_rparen
    refine ⟨s, hs, ?_⟩
    have := A_paren hp
    simpa using this

theorem UnitP.neg {ts : List STok} {w : SExpr} (h : UnitP ts w) : UnitP (S "-" :: ts) (.neg w) := fun rest hr => by
  obtain ⟨s, hs, hu⟩ := h rest hr
  exact ⟨.neg s, by simp [normS, hs], U_neg hu⟩

theorem UnitP.pos {ts : List STok} {w : SExpr} (h : UnitP ts w) : UnitP (S "+" :: ts) (.pos w) := fun rest hr => by
  obtain ⟨s, hs, hu⟩ := h rest hr
  exact ⟨.pos s, by simp [normS, hs], U_pos hu⟩

theorem numP (v : Bytes) : AtomP [.num v] (.num v) := fun _ _ => ⟨.num v, rfl, A_num⟩
theorem strP (v : Bytes) : AtomP [.str v] (.str v) := fun _ _ => ⟨.str v, rfl, A_str⟩

theorem constP {w : Bytes} {c : String}
    (hw : (upper w == "TRUE" || upper w == "FALSE" || upper w == "NULL" || upper w == "CURRENT_TIMESTAMP") = true)
    (hc : upper w = c) : AtomP [.word w] (.const c) := fun rest hr => by
  subst hc
  exact ⟨_, rfl, A_const hw hr⟩

def colTailToks (ns : List Bytes) : List STok := ns.flatMap fun n => [S ".", .qid n]

theorem colTailP (ns acc : List Bytes) (rest : List STok) (hr : Ends atomEndTok rest) :
    PC acc (colTailToks ns ++ rest) (.col (acc ++ ns)) rest := by
  induction ns generalizing acc with
  | nil => simpa [colTailToks] using C_stop hr
  | cons n ns ih =>
    have := C_step (ih (acc ++ [n]))
    simpa [colTailToks] using this

theorem colP (n : Bytes) (ns : List Bytes) : AtomP (.qid n :: colTailToks ns) (.col (n :: ns)) := fun rest hr => by
  refine ⟨_, rfl, ?_⟩
  have := A_col (colTailP ns [n] rest hr)
  simpa using this

structure InfixTok (t : STok) (op : String) (p : Nat) : Prop where
  prec : infixPrec t = some (op, p)
  notIs : isWord t "IS" = false
  notIn : isWord t "IN" = false
  unaryEnd : unaryEndTok t = true

theorem infix_sym {s : String} {p : Nat} (h : infixPrec (S s) = some (s, p))
    (h1 : (s == ".") = false) (h2 : (s == "[") = false) (h3 : (s == "(") = false) : InfixTok (S s) s p :=
  ⟨h, rfl, rfl, by simp [unaryEndTok, atomEndTok, h1, h2, h3]⟩

theorem infix_eq : InfixTok (S "=") "=" 4 := infix_sym (by decide) (by decide) (by decide) (by decide)
theorem infix_ne : InfixTok (S "<>") "<>" 4 := infix_sym (by decide) (by decide) (by decide) (by decide)
theorem infix_lt : InfixTok (S "<") "<" 4 := infix_sym (by decide) (by decide) (by decide) (by decide)
theorem infix_le : InfixTok (S "<=") "<=" 4 := infix_sym (by decide) (by decide) (by decide) (by decide)
theorem infix_gt : InfixTok (S ">") ">" 4 := infix_sym (by decide) (by decide) (by decide) (by decide)
theorem infix_ge : InfixTok (S ">=") ">=" 4 := infix_sym (by decide) (by decide) (by decide) (by decide)
theorem infix_concat : InfixTok (S "||") "||" 5 := infix_sym (by decide) (by decide) (by decide) (by decide)
theorem infix_plus : InfixTok (S "+") "+" 6 := infix_sym (by decide) (by decide) (by decide) (by decide)
theorem infix_minus : InfixTok (S "-") "-" 6 := infix_sym (by decide) (by decide) (by decide) (by decide)
theorem infix_star : InfixTok (S "*") "*" 7 := infix_sym (by decide) (by decide) (by decide) (by decide)
theorem infix_slash : InfixTok (S "/") "/" 7 := infix_sym (by decide) (by decide) (by decide) (by decide)
theorem infix_mod : InfixTok (S "%") "%" 7 := infix_sym (by decide) (by decide) (by decide) (by decide)
theorem infix_AND : InfixTok (W "AND") "AND" 2 :=
  ⟨by simp [infixPrec], by simp, by simp, by simp [unaryEndTok, atomEndTok]⟩
theorem infix_OR : InfixTok (W "OR") "OR" 1 :=
  ⟨by simp [infixPrec], by simp, by simp, by simp [unaryEndTok, atomEndTok]⟩

theorem binP {tx ty : List STok} {wx wy : SExpr} {t : STok} {op : String} {p : Nat} (ht : InfixTok t op p)
    (hx : UnitP tx wx) (hy : UnitP ty wy) : ExprP (tx ++ t :: ty) (.bin op wx wy) := fun rest hr => by
  obtain ⟨sy, hsy, hy⟩ := hy.atLevel (p + 1) rest hr
  obtain ⟨sx, hsx, hx⟩ := hx (t :: (ty ++ rest)) ht.unaryEnd
  refine ⟨.bin op sx sy, by simp [normS, hsx, hsy], ?_⟩
  have := E_unary hx (T_bin ht.prec ht.notIs ht.notIn (Nat.zero_le p) hy (T_stop hr))
  simpa using this

theorem ws_coalesce : wordSafe (Bytes.ofString "coalesce") = true := by simp [wordSafe, operatorWords]
theorem ws_lower : wordSafe (Bytes.ofString "lower") = true := by simp [wordSafe, operatorWords]
theorem ws_LOWER : wordSafe (Bytes.ofString "LOWER") = true := by simp [wordSafe, operatorWords]
theorem ws_UPPER : wordSafe (Bytes.ofString "UPPER") = true := by simp [wordSafe, operatorWords]
theorem ws_count : wordSafe (Bytes.ofString "count") = true := by simp [wordSafe, operatorWords]

theorem falseP : ExprP [W "FALSE"] (.const "FALSE") := (constP (by simp) (by simp)).toExpr

theorem call1P {name : Bytes} {ts : List STok} {w : SExpr} (hn : wordSafe name = true) (h : ExprP ts w) :
    AtomP (.word name :: S "(" :: (ts ++ [S ")"])) (.call name false (.cons w .nil) .none_) := fun rest hr => by
  obtain ⟨t, tl, rfl, ht⟩ := h.head
  obtain ⟨s, hs, hp⟩ := h (S ")" :: rest) stop_rparen
  refine ⟨.call name false (.cons s .nil) .none_, by simp [normS, normL, hs], ?_⟩
  have hl : PL (t :: tl ++ S ")" :: rest) (.cons s .nil) (S ")" :: rest) := L_one hp (by simp [Ends])
  have := A_call_args hn ht (by simp) hl hr
  simpa using this

theorem call1NormP {name name' : Bytes} {ts : List STok} {w : SExpr} (hn : wordSafe name = true)
    (hl : lower name = lower name') (h : ExprP ts w) :
    ExprP (.word name :: S "(" :: (ts ++ [S ")"])) (.call name' false (.cons w .nil) .none_) :=
  ((call1P hn h).congr (by simp only [normS, hl])).toExpr

theorem coalesceP {ts : List STok} {w : SExpr} (h : ExprP ts w) :
    AtomP (W "coalesce" :: S "(" :: (ts ++ [S ",", W "FALSE", S ")"])) (coalesceFalse w) := fun rest hr => by
  obtain ⟨t, tl, rfl, ht⟩ := h.head
  obtain ⟨s, hs, hp⟩ := h (S "," :: W "FALSE" :: S ")" :: rest) stop_comma
  obtain ⟨sf, hsf, hf⟩ := falseP (S ")" :: rest) stop_rparen
  refine ⟨.call (Bytes.ofString "coalesce") false (.cons s (.cons sf .nil)) .none_, ?_, ?_⟩
  · simp [coalesceFalse, fnCall, normS, normL, hs, hsf]
  · have hl : PL (t :: tl ++ S "," :: W "FALSE" :: S ")" :: rest) (.cons s (.cons sf .nil)) (S ")" :: rest) :=
      L_cons hp (L_one hf (by simp [Ends]))
    have := A_call_args ws_coalesce ht (by simp) hl hr
    simpa using this

def ofL (l : List SExpr) : SExprList := l.foldr SExprList.cons .nil

def sepTail (sep : STok) (bs : List (List STok × SExpr)) : List STok := bs.flatMap fun b => sep :: b.1

theorem commaP (bs : List (List STok × SExpr)) : ∀ (a : List STok × SExpr), ExprP a.1 a.2 →
    (∀ b ∈ bs, ExprP b.1 b.2) → ∀ rest, ∃ vs, normL vs = normL (ofL (a.2 :: bs.map (·.2))) ∧
      PL (a.1 ++ sepTail (S ",") bs ++ S ")" :: rest) vs (S ")" :: rest) := by
  induction bs with
  | nil =>
    intro a ha _ rest
    obtain ⟨s, hs, hp⟩ := ha (S ")" :: rest) stop_rparen
    exact ⟨.cons s .nil, by simp [ofL, normL, hs], by simpa [sepTail] using L_one hp (by simp [Ends])⟩
  | cons b bs ih =>
    intro a ha hbs rest
    obtain ⟨vs, hvs, hl⟩ := ih b (hbs b (by simp)) (fun c hc => hbs c (by simp [hc])) rest
    obtain ⟨s, hs, hp⟩ := ha (S "," :: (b.1 ++ sepTail (S ",") bs ++ S ")" :: rest)) stop_comma
    refine ⟨.cons s vs, ?_, ?_⟩
    · simp only [ofL, List.map_cons, List.foldr_cons, normL] at hvs ⊢
      rw [hs, hvs]
    · have := L_cons hp hl
      simpa [sepTail] using this

theorem callNP {name : Bytes} (hn : wordSafe name = true) (a : List STok × SExpr) (bs : List (List STok × SExpr))
    (ha : ExprP a.1 a.2) (hbs : ∀ b ∈ bs, ExprP b.1 b.2) :
    AtomP (.word name :: S "(" :: (a.1 ++ sepTail (S ",") bs ++ [S ")"]))
      (.call name false (ofL (a.2 :: bs.map (·.2))) .none_) := fun rest hr => by
  obtain ⟨vs, hvs, hl⟩ := commaP bs a ha hbs rest
  obtain ⟨t, tl, hta, ht⟩ := ha.head
  refine ⟨.call name false vs .none_, by simp [normS, hvs], ?_⟩
  rw [hta] at hl
  have := A_call_args hn ht (by simp) hl hr
  rw [hta]
  simpa using this

theorem call0P {name : Bytes} (hn : wordSafe name = true) :
    AtomP [.word name, S "(", S ")"] (.call name false .nil .none_) := fun rest hr =>
  ⟨_, rfl, by simpa using A_call_empty hn hr⟩

theorem countifP {ts : List STok} {w : SExpr} (h : ExprP ts w) :
    AtomP ([W "count", S "(", S ")", W "FILTER", S "(", W "WHERE"] ++ (ts ++ [S ")"]))
      (.call (Bytes.ofString "count") false .nil w) := fun rest _ => by
  obtain ⟨s, hs, hp⟩ := h (S ")" :: rest) stop_rparen
  refine ⟨.call (Bytes.ofString "count") false .nil s, by simp [normS, normL, hs], ?_⟩
  have := A_call_filter ws_count hp
  simpa using this

theorem caseP {tc ta tb : List STok} {wc wa wb : SExpr} (hc : ExprP tc wc) (ha : ExprP ta wa) (hb : ExprP tb wb) :
    AtomP (W "CASE" :: W "WHEN" :: W "coalesce" :: S "(" ::
        (tc ++ [S ",", W "FALSE", S ")", W "THEN"] ++ ta ++ [W "ELSE"] ++ tb ++ [W "END"]))
      (.case_ (coalesceFalse wc) wa wb) := fun rest _ => by
  obtain ⟨sb, hsb, hpb⟩ := hb (W "END" :: rest) stop_END
  obtain ⟨sa, hsa, hpa⟩ := ha (W "ELSE" :: (tb ++ W "END" :: rest)) stop_ELSE
  obtain ⟨sc, hsc, hpc⟩ := (coalesceP hc).toExpr (W "THEN" :: (ta ++ W "ELSE" :: (tb ++ W "END" :: rest))) stop_THEN
  refine ⟨.case_ sc sa sb, by simp [normS, hsc, hsa, hsb], ?_⟩
  have := A_case hpc hpa hpb
  simpa using this

theorem concat_unaryEnd : unaryEndTok (S "||") = true := by decide

theorem strcatTailP (bs : List (List STok × SExpr)) : ∀ (acc sacc : SExpr), normS sacc = normS acc →
    (∀ b ∈ bs, UnitP b.1 b.2) → ∀ rest, Ends stopTok rest →
    ∃ s, normS s = normS (bs.foldl (fun acc b => .bin "||" acc b.2) acc) ∧
      PT 0 sacc (sepTail (S "||") bs ++ rest) s rest := by
  induction bs with
  | nil => intro acc sacc h _ rest hr; exact ⟨sacc, h, by simpa [sepTail] using T_stop hr⟩
  | cons b bs ih =>
    intro acc sacc h hbs rest hr
    -- the operand `b` is read at level 6 and stops before the next `||` (level 5) or at `rest`
    have hb : ∃ sb, normS sb = normS b.2 ∧
        PE 6 (b.1 ++ (sepTail (S "||") bs ++ rest)) sb (sepTail (S "||") bs ++ rest) := by
      cases bs with
      | nil => simpa [sepTail] using (hbs b (by simp)).atLevel 6 rest hr
      | cons c cs =>
        obtain ⟨sb, hsb, hu⟩ := hbs b (by simp) (S "||" :: (c.1 ++ (sepTail (S "||") cs ++ rest))) concat_unaryEnd
        refine ⟨sb, hsb, ?_⟩
        have := E_unary hu (T_low (m := 6) infix_concat.prec infix_concat.notIs infix_concat.notIn (by omega))
        simpa [sepTail] using this
    obtain ⟨sb, hsb, hpb⟩ := hb
    obtain ⟨s, hs, ht⟩ := ih (.bin "||" acc b.2) (.bin "||" sacc sb) (by simp [normS, h, hsb])
      (fun c hc => hbs c (by simp [hc])) rest hr
    refine ⟨s, by simpa using hs, ?_⟩
    have := T_bin (x := sacc) infix_concat.prec infix_concat.notIs infix_concat.notIn (Nat.zero_le 5) hpb ht
    simpa [sepTail] using this

theorem strcatP (a : List STok × SExpr) (bs : List (List STok × SExpr)) (ha : UnitP a.1 a.2)
    (hbs : ∀ b ∈ bs, UnitP b.1 b.2) :
    ExprP (a.1 ++ sepTail (S "||") bs) (bs.foldl (fun acc b => .bin "||" acc b.2) a.2) := fun rest hr => by
  have hend : Ends unaryEndTok (sepTail (S "||") bs ++ rest) := by
    cases bs with
    | nil => simpa [sepTail] using stop_unaryEnd hr
    | cons b bs => simp [sepTail, Ends, concat_unaryEnd]
  obtain ⟨sa, hsa, hu⟩ := ha _ hend
  obtain ⟨s, hs, ht⟩ := strcatTailP bs a.2 sa hsa hbs rest hr
  exact ⟨s, hs, by simpa using E_unary hu ht⟩

theorem inP {tx : List STok} {wx : SExpr} (hx : UnitP tx wx) (a : List STok × SExpr)
    (bs : List (List STok × SExpr)) (ha : ExprP a.1 a.2) (hbs : ∀ b ∈ bs, ExprP b.1 b.2) :
    ExprP (tx ++ W "IN" :: S "(" :: (a.1 ++ sepTail (S ",") bs ++ [S ")"]))
      (.inList wx (ofL (a.2 :: bs.map (·.2)))) := fun rest hr => by
  obtain ⟨vs, hvs, hl⟩ := commaP bs a ha hbs rest
  obtain ⟨sx, hsx, hu⟩ := hx (W "IN" :: S "(" :: (a.1 ++ sepTail (S ",") bs ++ S ")" :: rest))
    (by simp [Ends, unaryEndTok, atomEndTok])
  refine ⟨.inList sx vs, by simp [normS, hsx, hvs], ?_⟩
  have := E_unary hu (T_in (Nat.zero_le 4) hl (T_stop hr))
  simpa using this

theorem indexP {tx ti : List STok} {wx wi : SExpr} (hx : AtomP tx wx) (hi : ExprP ti wi) :
    UnitP (tx ++ S "[" :: (ti ++ [S "]"])) (.index wx wi) := fun rest hr => by
  obtain ⟨si, hsi, hpi⟩ := hi (S "]" :: rest) stop_rbrack
  obtain ⟨sx, hsx, hpx⟩ := hx (S "[" :: (ti ++ S "]" :: rest)) (show atomEndTok (S "[") = true by decide)
  refine ⟨.index sx si, by simp [normS, hsx, hsi], ?_⟩
  have := U_atom hpx (P_index hpi (P_stop hr))
  simpa using this

theorem isnullP {tx : List STok} {wx : SExpr} (hx : UnitP tx wx) :
    ExprP (tx ++ [W "IS", W "NULL"]) (.isNull wx false) := fun rest hr => by
  obtain ⟨sx, hsx, hu⟩ := hx (W "IS" :: W "NULL" :: rest) (by simp [Ends, unaryEndTok, atomEndTok])
  refine ⟨.isNull sx false, by simp [normS, hsx], ?_⟩
  have := E_unary hu (T_isnull (Nat.zero_le 4) (T_stop hr))
  simpa using this

theorem isnotnullP {tx : List STok} {wx : SExpr} (hx : UnitP tx wx) :
    ExprP (tx ++ [W "IS", W "NOT", W "NULL"]) (.isNull wx true) := fun rest hr => by
  obtain ⟨sx, hsx, hu⟩ := hx (W "IS" :: W "NOT" :: W "NULL" :: rest) (by simp [Ends, unaryEndTok, atomEndTok])
  refine ⟨.isNull sx true, by simp [normS, hsx], ?_⟩
  have := E_unary hu (T_isnotnull (Nat.zero_le 4) (T_stop hr))
  simpa using this

theorem notP {tx : List STok} {wx : SExpr} (hx : UnitP tx wx) : ExprP (W "NOT" :: tx) (.not_ wx) := fun rest hr => by
  obtain ⟨sx, hsx, hp⟩ := hx.atLevel 3 rest hr
  refine ⟨.not_ sx, by simp [normS, hsx], ?_⟩
  have := E_not (Nat.zero_le 3) hp (T_stop hr)
  simpa using this

theorem nowP : AtomP [W "CURRENT_TIMESTAMP"] (.const "CURRENT_TIMESTAMP") := constP (by simp) (by simp)

end Pql.RT
