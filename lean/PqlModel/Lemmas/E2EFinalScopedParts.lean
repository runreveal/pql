/-
Programs with lets: the expression-level bridge under a let-built scope.

`exprP_s`: if the RESOLVED expression `substExpr env e` is `exprOKin` (lexable, `shapeOK`,
translatable), then what the writer emits for `e` itself under the scope is read by the SQL expression
parser as the translation of the resolved expression — the hypothesis `C05.ExprRT` of the
statement-level lemmas, from `C06.goodS_of_lets`.  The side conditions on the raw `e` that C06 asks for follow from those
of the resolved expression (`lexOK_of_subst`, `shapeOK_of_subst`).
-/
import PqlModel.Props.C06Operand
import PqlModel.Lemmas.ParseStmtWrite
import PqlModel.Lemmas.TreeInduct
namespace Pql.E2EFinal
set_option linter.unusedSimpArgs false
open Pql Sql CompileOracle Intended Pql.RT Pql.C05 Pql.C06

theorem lexOK_subst_alg (env : List (Bytes × Expr)) :
    ExprTreeAlg (fun e => (substExpr env e).lexOK = true → e.lexOK = true)
      (fun l => (substList env l).lexOK = true → l.lexOK = true) where
  nil := id
  qident := fun _ _ => rfl
  lit := fun _ _ _ => id
  unary := fun _ _ _ ih h => and_true' (and_true_of h).1 (ih (and_true_of h).2)
  binary := fun _ _ _ _ ihx ihy h => and_true' (ihx (and_true_of h).1) (ihy (and_true_of h).2)
  inE := fun _ _ _ _ _ ihx ihl h => and_true' (ihx (and_true_of h).1) (ihl (and_true_of h).2)
  paren := fun _ _ _ ih => ih
  call := fun _ _ _ _ ihl h => and_true' (and_true_of h).1 (ihl (and_true_of h).2)
  index := fun _ _ _ _ ihx ihy h => and_true' (ihx (and_true_of h).1) (ihy (and_true_of h).2)
  lnil := id
  cons := fun _ _ ihe ihl h => and_true' (ihe (and_true_of h).1) (ihl (and_true_of h).2)

theorem lexOK_of_subst (env : List (Bytes × Expr)) :
    ∀ e : Expr, (substExpr env e).lexOK = true → e.lexOK = true := (lexOK_subst_alg env).expr

theorem lexOKL_of_subst (env : List (Bytes × Expr)) :
    ∀ l : ExprList, (substList env l).lexOK = true → l.lexOK = true := (lexOK_subst_alg env).list

theorem shapeOK_subst_alg (env : List (Bytes × Expr)) :
    ExprTreeAlg (fun e => shapeOK (substExpr env e) = true → shapeOK e = true)
      (fun l => shapeOKList (substList env l) = true → shapeOKList l = true) where
  nil := id
  qident := fun
    | [] => id
    | [_] => fun _ => rfl
    | _ :: _ :: _ => id
  lit := fun _ _ _ => id
  unary := fun _ _ _ ih => ih
  binary := fun _ _ _ _ ihx ihy h => and_true' (ihx (and_true_of h).1) (ihy (and_true_of h).2)
  inE := fun _ _ _ vs _ ihx ihl h =>
    and_true' (and_true' (ihx (and_true_of (and_true_of h).1).1) (ihl (and_true_of (and_true_of h).1).2))
      (substList_length env vs ▸ (and_true_of h).2)
  paren := fun _ _ _ ih => ih
  call := fun _ _ _ _ ihl h => and_true' (and_true_of h).1 (ihl (and_true_of h).2)
  index := fun _ _ _ _ ihx ihy h => and_true' (ihx (and_true_of h).1) (ihy (and_true_of h).2)
  lnil := id
  cons := fun _ _ ihe ihl h => and_true' (ihe (and_true_of h).1) (ihl (and_true_of h).2)

theorem shapeOK_of_subst (env : List (Bytes × Expr)) :
    ∀ e : Expr, shapeOK (substExpr env e) = true → shapeOK e = true := (shapeOK_subst_alg env).expr

theorem shapeOKL_of_subst (env : List (Bytes × Expr)) :
    ∀ l : ExprList, shapeOKList (substList env l) = true → shapeOKList l = true := (shapeOK_subst_alg env).list

theorem exprP_s {src : Bytes} {scope : Scope} {env : List (Bytes × Expr)} (hsc : ScopeLetsEnv src scope env)
    (hjs : envJoinSafe env = true) : ExprRT src scope env := fun m e cs hok hw => by
  simp only [exprOKin, Bool.and_eq_true, Option.isSome_iff_exists] at hok
  obtain ⟨⟨hl, hs⟩, want, ht⟩ := hok
  exact ⟨want, ht, (C06.goodS_of_lets ⟨src, scope, m⟩ env hsc (fun _ => hjs) e (lexOK_of_subst env e hl)
    (shapeOK_of_subst env e hs) cs want hw ht).1⟩

end Pql.E2EFinal
