/-
`ExprParseIR`, the leaves: the units `endSplit`, `ident`, `qualifiedIdent` interpreted on the abstract
reading of a parser equal the model's `endSplit`, `pIdent`, `pQualifiedIdent`.
-/
import PqlModel.Lemmas.ExprParseIRCursor
namespace Pql.ExprParseIR
open Pql
set_option linter.unusedSimpArgs false

/-- **`endSplit`, translated.**  On a parser made by `split` (`splitKind` set) it is the model's
    `endSplit` of what is left; on any other parser it is the positionless "internal error".
    The receiver is unchanged. -/
theorem endSplit_ir (c : ICtx) (p : PState) :
    runEndSplit c p = .ok ([.err (endSplitP p)], { p with back := none }) := by
  obtain ⟨rest, back, sk⟩ := p
  have hk : ∀ k, (kindValue k).map (· == 0) = some false := kindValue_ne_zero
  -- the message part `s` depends on the kind, the error does not
  rcases sk with _ | k
  · ir_simp [runEndSplit, endSplitIR_ir, endSplitIR, params_endSplit, results_endSplit, endSplitP]
  · rcases rest with _ | ⟨t, ts⟩ <;>
      ir_simp [runEndSplit, endSplitIR_ir, endSplitIR, params_endSplit, results_endSplit, endSplitP, endSplit, hk]

theorem ident_ir (c : ICtx) (p : PState) :
    runIdent c p =
      .ok ([.ident (pIdent c.pctx p.rest).val, .err (pIdent c.pctx p.rest).errs],
           { p with rest := (pIdent c.pctx p.rest).rest, back := none }) := by
  obtain ⟨rest, back, sk⟩ := p
  ir_simp [runIdent, identIR_ir, identIR, params_ident, results_ident]
  rcases rest with _ | ⟨t, ts⟩
  · simp [pIdent, PCtx.eof, Span.index, pctx_srcLen]
  · by_cases h1 : t.kind = .ident <;> by_cases h2 : t.kind = .qident <;>
      simp [pIdent, h1, h2, PCtx.eof, Span.index, pctx_srcLen, Token.span]

def qualLoopBody : List Stmt :=
  [.assign true [.var "tok", .blank] (.pcall "p" "next" []),
   .ite (.cmp "ne" (.field (.var "tok") "Kind") (.kind "TokenDot")) [.do_ (.pcall "p" "prev" []), .ret [.var "qid", .nil]] [],
   .assign true [.var "sel", .var "err"] (.pcall "p" "ident" []),
   .ite (.cmp "ne" (.var "err") (.nil)) [.ret [.var "qid", .call "makeErrorOpaque" [.var "err"]]] [],
   .assign false [.field "qid" "Parts"] (.e (.append (.field (.var "qid") "Parts") (.var "sel")))]

theorem qualifiedIdentIR_loop :
    qualifiedIdentIR =
      [.assign true [.var "id", .var "err"] (.pcall "p" "ident" []),
       .ite (.cmp "ne" (.var "err") (.nil)) [.ret [.nil, .var "err"]] [],
       .assign true [.var "qid"] (.e (.mcall "AsQualified" (.var "id"))),
       .loop "" (.bool true) qualLoopBody] := rfl

theorem qualLoop_notLeaves : leaves qualLoopBody = false := by rfl

theorem identSem_ident (c : ICtx) (b : Nat) (p : PState) : (identSem c).call b "ident" [] p = runIdent c p := by
  simp [identSem]

theorem qualLoop (c : ICtx) (id0 : Ident) (sk : Option TokKind) :
    ∀ (b : Nat) (parts : List Ident) (ts : List Token), ts.length < b →
      (iter (loopStep c (identSem c) (.bool true) qualLoopBody) "" b
          ⟨[("qid", .qid (some parts)), ("err", .err []), ("id", .ident (some id0)),
            ("p", .parser ⟨ts, none, sk⟩)]⟩).bind (finish "p" ["*QualifiedIdent", "error"]) =
        .ok ([.qid (some (pQualTail c.pctx b parts ts).val), .err (pQualTail c.pctx b parts ts).errs],
             .parser ⟨(pQualTail c.pctx b parts ts).rest, none, sk⟩) := by
  intro b
  induction b with
  | zero => intro parts ts h; omega
  | succ b ih =>
    intro parts ts h
    rw [iter_succ]
    generalize iter (loopStep c (identSem c) (.bool true) qualLoopBody) "" b = I at ih
    ir_simp [loopStep, qualLoopBody, identSem_ident, ident_ir]
    rcases ts with _ | ⟨t, _ | ⟨u, more⟩⟩
    · simp [pQualTail]
    · by_cases hd : t.kind = .dot <;> simp [pQualTail, pIdent, hd, mkOpaque, nfAt, PCtx.eof, Span.index, pctx_srcLen]
    · by_cases hd : t.kind = .dot <;> by_cases hu : u.kind = .ident ∨ u.kind = .qident <;>
        simp [pQualTail, pIdent, hd, hu, mkOpaque, nfAt, PCtx.eof, Span.index, pctx_srcLen]
      -- the selector is an identifier: append it (stuck until now on the unknown `*Ident`) and go on
      ir_simp [ih _ more (by simp at h; omega), Token.span]

theorem qualifiedIdent_ir (c : ICtx) (p : PState) :
    runQualifiedIdent c p =
      .ok ([.qid (pQualifiedIdent c.pctx p.rest).val, .err (pQualifiedIdent c.pctx p.rest).errs],
           { p with rest := (pQualifiedIdent c.pctx p.rest).rest, back := none }) := by
  obtain ⟨ts, back, sk⟩ := p
  have hi := ident_ir c ⟨ts, none, sk⟩
  cases ts with
  | nil =>
    ir_simp [runQualifiedIdent, qualifiedIdentIR_ir, qualifiedIdentIR_loop, params_qualifiedIdent,
      results_qualifiedIdent, identSem_ident, hi, pQualifiedIdent, pIdent, nfAt]
  | cons t rest =>
    by_cases ht : t.kind = .ident ∨ t.kind = .qident
    · have hl := qualLoop c ⟨t.value, t.span, t.kind = .qident⟩ sk (rest.length + 1)
        [⟨t.value, t.span, t.kind = .qident⟩] rest (by omega)
      ir_simp [runQualifiedIdent, qualifiedIdentIR_ir, qualifiedIdentIR_loop, params_qualifiedIdent,
        results_qualifiedIdent, identSem_ident, hi, pQualifiedIdent, pIdent, ht, exec_loop, qualLoop_notLeaves]
      ir_simp [hl]
    · ir_simp [runQualifiedIdent, qualifiedIdentIR_ir, qualifiedIdentIR_loop, params_qualifiedIdent,
        results_qualifiedIdent, identSem_ident, hi, pQualifiedIdent, pIdent, ht, nfAt]

end Pql.ExprParseIR
