/-
`writeExpr` is a congruence.

`Alike R c c' x x'`: `x` written under `c` and `x'` written under `c'` give `R`-related chunks, or the
same error, in each of the three positions an operand can stand in (bare, `wrapMaybe`, `wrapTight`).
Every constructor of `Expr` preserves this, for any `R` closed under the frames the writers build
(`FrameCong`).  So a statement "the expression writer respects …" — a substitution, a content map, two
scopes that agree — is an induction with one line per compound constructor; what is particular to it
sits in the leaves.
-/
import PqlModel.Lemmas.ScopeParen
import PqlModel.Lemmas.WriterCases
namespace Pql

structure Alike (R : List Chunk → List Chunk → Prop) (c c' : Ctx) (x x' : Expr) : Prop where
  bare : ExRel R (writeExpr c x) (writeExpr c' x')
  maybe : ExRel R ((writeExpr c x).map (wrapMaybe x)) ((writeExpr c' x').map (wrapMaybe x'))
  tight : ExRel R ((writeExpr c x).map (wrapTight x)) ((writeExpr c' x').map (wrapTight x'))

section
variable {R : List Chunk → List Chunk → Prop} {c c' : Ctx}

/-- the usual case: both sides are wrapped alike -/
theorem Alike.of_shape (hR : FrameCong R) {x x' : Expr} (h : ExRel R (writeExpr c x) (writeExpr c' x'))
    (hw : needsWrap x' = needsWrap x) (hs : isSigned x' = isSigned x) : Alike R c c' x x' := by
  refine ⟨h, h.map fun a b hab => ?_, h.map fun a b hab => ?_⟩
  · simp only [wrapMaybe, hw]
    split
    · exact hR.parenthesise hab
    · exact hab
  · simp only [wrapTight, wrapMaybe, hw, hs]
    split
    · exact hR.parenthesise hab
    · split
      · exact hR.parenthesise hab
      · exact hab

theorem Alike.of_eq (hR : FrameCong R) (hrefl : ∀ a, R a a) {x : Expr} (h : writeExpr c x = writeExpr c' x) :
    Alike R c c' x x :=
  Alike.of_shape hR (by rw [h]; exact ExRel.refl' hrefl _) rfl rfl

theorem wrapMaybe_paren (a b : Span) (x : Expr) : wrapMaybe (.paren a x b) = wrapMaybe x := by
  funext l
  simp only [wrapMaybe, needsWrap]
  rfl

theorem wrapTight_paren (a b : Span) (x : Expr) : wrapTight (.paren a x b) = wrapTight x := by
  funext l
  simp only [wrapTight, wrapMaybe, needsWrap, isSigned]
  rfl

theorem Alike.paren {x x' : Expr} (h : Alike R c c' x x') (a b a' b' : Span) :
    Alike R c c' (.paren a x b) (.paren a' x' b') := by
  obtain ⟨h1, h2, h3⟩ := h
  refine ⟨?_, ?_, ?_⟩ <;> simp only [writeExpr, wrapMaybe_paren, wrapTight_paren] <;> assumption

theorem Alike.unary (hR : FrameCong R) {x x' : Expr} (h : Alike R c c' x x') (a a' : Span) (op : TokKind) :
    Alike R c c' (.unary a op x) (.unary a' op x') := by
  refine Alike.of_shape hR ?_ (by simp only [needsWrap, exprTypeName]) (by simp only [isSigned])
  simp only [writeExpr]
  exact ExRel.bind h.tight fun _ _ ha => ExRel.pure_pure (hR.cons_txt _ ha)

theorem Alike.index (hR : FrameCong R) {x x' i i' : Expr} (hx : Alike R c c' x x') (hi : Alike R c c' i i')
    (a b a' b' : Span) : Alike R c c' (.index x a i b) (.index x' a' i' b') := by
  refine Alike.of_shape hR ?_ (by simp only [needsWrap, exprTypeName]) (by simp only [isSigned])
  simp only [writeExpr]
  refine ExRel.bind hx.tight fun _ _ ha => ExRel.bind hi.bare fun _ _ hb => ExRel.pure_pure ?_
  chunk_frame hR

theorem Alike.binary (hR : FrameCong R) {x x' y y' : Expr} (hx : Alike R c c' x x') (hy : Alike R c c' y y')
    (hj : joinTest c x y ↔ joinTest c' x' y') (a a' : Span) (op : TokKind) :
    Alike R c c' (.binary x a op y) (.binary x' a' op y') := by
  refine Alike.of_shape hR ?_ (by simp only [needsWrap, exprTypeName]) (by simp only [isSigned])
  simp only [writeExpr, hj]
  repeat' apply ExRel.ite
  · refine ExRel.bind hx.maybe fun _ _ ha => ExRel.bind hy.maybe fun _ _ hb => ExRel.pure_pure ?_
    chunk_frame hR
  · refine ExRel.bind hx.maybe fun _ _ ha => ExRel.bind hy.maybe fun _ _ hb => ExRel.pure_pure ?_
    chunk_frame hR
  · refine ExRel.bind hx.maybe fun _ _ ha => ExRel.bind hy.maybe fun _ _ hb => ExRel.pure_pure ?_
    chunk_frame hR
  · refine ExRel.bind hx.bare fun _ _ ha => ExRel.bind hy.bare fun _ _ hb => ExRel.pure_pure ?_
    chunk_frame hR
  · refine ExRel.bind hx.bare fun _ _ ha => ExRel.bind hy.bare fun _ _ hb => ExRel.pure_pure ?_
    chunk_frame hR
  · split
    · refine ExRel.bind hx.maybe fun _ _ ha => ExRel.bind hy.maybe fun _ _ hb => ExRel.pure_pure ?_
      chunk_frame hR
    · exact hR.txt _

/-- an argument of a known function: its plain output, and its output in operand position -/
def ArgRel (R : List Chunk → List Chunk → Prop) (p p' : Expr × List Chunk) : Prop :=
  R p.2 p'.2 ∧ R (wrapMaybe p.1 p.2) (wrapMaybe p'.1 p'.2)

def ArgsRel (R : List Chunk → List Chunk → Prop) (es es' : ExprList) (as as' : List (List Chunk)) : Prop :=
  ListRel R as as' ∧ ListRel (ArgRel R) (es.toList.zip as) (es'.toList.zip as')

def AlikeArgs (R : List Chunk → List Chunk → Prop) (c c' : Ctx) (es es' : ExprList) : Prop :=
  ExRel (ArgsRel R es es') (writeList c es) (writeList c' es')

def AlikeVals (R : List Chunk → List Chunk → Prop) (c c' : Ctx) (es es' : ExprList) : Prop :=
  ExRel (ListRel R) (writeListMaybeParen' c es) (writeListMaybeParen' c' es')

theorem AlikeArgs.nil : AlikeArgs R c c' .nil .nil := by
  simp only [AlikeArgs, writeList]
  exact ⟨.nil, .nil⟩

theorem AlikeArgs.cons {e e' : Expr} {es es' : ExprList} (he : Alike R c c' e e') (hes : AlikeArgs R c c' es es') :
    AlikeArgs R c c' (.cons e es) (.cons e' es') := by
  have hm := he.maybe
  simp only [AlikeArgs, writeList]
  refine ExRel.bind' he.bare fun a a' ha ha' haa => ?_
  rw [ha, ha'] at hm
  have hm' : R (wrapMaybe e a) (wrapMaybe e' a') := hm
  exact ExRel.bind hes fun b b' hb => ExRel.pure_pure ⟨.cons haa hb.1, .cons ⟨haa, hm'⟩ hb.2⟩

theorem AlikeVals.nil : AlikeVals R c c' .nil .nil := by
  simp only [AlikeVals, writeListMaybeParen']
  exact .nil

theorem AlikeVals.cons {e e' : Expr} {es es' : ExprList} (he : Alike R c c' e e') (hes : AlikeVals R c c' es es') :
    AlikeVals R c c' (.cons e es) (.cons e' es') := by
  simp only [AlikeVals, writeListMaybeParen']
  exact ExRel.bind he.maybe fun _ _ ha => ExRel.bind hes fun _ _ hb => ExRel.pure_pure (.cons ha hb)

theorem Alike.inE (hR : FrameCong R) {x x' : Expr} {vs vs' : ExprList} (hx : Alike R c c' x x')
    (hvs : AlikeVals R c c' vs vs') (a b d a' b' d' : Span) :
    Alike R c c' (.inE x a b vs d) (.inE x' a' b' vs' d') := by
  refine Alike.of_shape hR ?_ (by simp only [needsWrap, exprTypeName]) (by simp only [isSigned])
  simp only [writeExpr]
  refine ExRel.bind hx.maybe fun _ _ ha => ExRel.bind hvs fun _ _ hb => ExRel.pure_pure ?_
  have := hR.sepChunks ", " hb
  chunk_frame hR

theorem assembleKnown_alike (hR : FrameCong R) (w : String) {l l' : List (Expr × List Chunk)}
    (h : ListRel (ArgRel R) l l') : ExRel R (assembleKnown w l) (assembleKnown w l') := by
  have hmp : ListRel R (l.map fun a => wrapMaybe a.1 a.2) (l'.map fun a => wrapMaybe a.1 a.2) :=
    h.map fun _ _ hab => hab.2
  unfold assembleKnown
  dsimp only
  -- the writers in the order of the dispatch: not, now, isnull, isnotnull, strcat, count, countif, iff,
  -- tolower, toupper, unknown
  cases h with
  | nil =>
    repeat' apply ExRel.ite
    all_goals first | exact ExRel.error_error _ | exact hR.txt _
  | cons ha t =>
    have hfn (s₁ s₂ : String) : R (.txt s₁ :: _ ++ [.txt s₂]) (.txt s₁ :: _ ++ [.txt s₂]) :=
      hR.cons_txt _ (hR.append ha.1 (hR.txt _))
    repeat' apply ExRel.ite
    · exact hR.cons_txt _ ha.2
    · exact hR.txt _
    · exact hR.append ha.2 (hR.txt _)
    · exact hR.append ha.2 (hR.txt _)
    · exact hR.sepChunks _ hmp
    · exact hR.txt _
    · exact hfn _ _
    · cases t with
      | nil => exact ExRel.error_error _
      | cons hb t =>
        cases t with
        | nil => exact ExRel.error_error _
        | cons hc _ =>
          have h1 := ha.1
          have h2 := hb.1
          have h3 := hc.1
          show R _ _
          chunk_frame hR
    · exact hfn _ _
    · exact hfn _ _
    · exact ExRel.error_error _

theorem Alike.call (hR : FrameCong R) {fn fn' : Ident} {args args' : ExprList} (hfn : fn'.name = fn.name)
    (hl : args'.length = args.length) (h : AlikeArgs R c c' args args') (a b a' b' : Span) :
    Alike R c c' (.call fn a args b) (.call fn' a' args' b') := by
  refine Alike.of_shape hR ?_ (by simp only [needsWrap, hfn]) (by simp only [isSigned])
  simp only [writeExpr, hfn, hl]
  split
  · split
    · exact ExRel.error_error _
    · exact ExRel.bind h fun _ _ ha => assembleKnown_alike hR _ ha.2
  · refine ExRel.bind h fun _ _ ha => ExRel.pure_pure ?_
    have := hR.sepChunks ", " ha.1
    chunk_frame hR

end

end Pql
