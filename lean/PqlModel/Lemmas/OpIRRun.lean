/-
How the `_ir` theorems of the statement and operator level (Props/C07OperatorIR*.lean) run `OpIR.exec`
(Model/ParseIR.lean) on a regenerated body: the records `&T{}` allocates and the token kinds the bodies name, what
`result` reads off a finished run, the continuation forms of the block-structured statements, one iteration of a loop,
and the simp set `opIR` that `ir_simp` runs a body with.
-/
import PqlModel.Model.ParseIR
import PqlModel.Lemmas.OpIRSimp
import PqlModel.Lemmas.LexBasic
namespace Pql.OpIR
open Pql

theorem newRec_count : newRec "CountOperator" = some ⟨"CountOperator", [("Pipe", .span .zero), ("Keyword", .span .zero)]⟩ := by rfl
theorem newRec_where : newRec "WhereOperator" =
    some ⟨"WhereOperator", [("Pipe", .span .zero), ("Keyword", .span .zero), ("Predicate", .expr .nil)]⟩ := by rfl
theorem newRec_take : newRec "TakeOperator" =
    some ⟨"TakeOperator", [("Pipe", .span .zero), ("Keyword", .span .zero), ("RowCount", .expr .nil)]⟩ := by rfl
theorem newRec_as : newRec "AsOperator" =
    some ⟨"AsOperator", [("Pipe", .span .zero), ("Keyword", .span .zero), ("Name", .ident none)]⟩ := by rfl
theorem newRec_top : newRec "TopOperator" =
    some ⟨"TopOperator", [("Pipe", .span .zero), ("Keyword", .span .zero), ("RowCount", .expr .nil), ("By", .span .zero),
      ("Col", .sterm none)]⟩ := by rfl
theorem newRec_sort : newRec "SortOperator" =
    some ⟨"SortOperator", [("Pipe", .span .zero), ("Keyword", .span .zero), ("Terms", .list [])]⟩ := by rfl
theorem newRec_sortTerm : newRec "SortTerm" =
    some ⟨"SortTerm", [("X", .expr .nil), ("Asc", .bool false), ("AscDescSpan", .span .zero), ("NullsFirst", .bool false),
      ("NullsSpan", .span .zero)]⟩ := by rfl
theorem newRec_project : newRec "ProjectOperator" =
    some ⟨"ProjectOperator", [("Pipe", .span .zero), ("Keyword", .span .zero), ("Cols", .list [])]⟩ := by rfl
theorem newRec_projectColumn : newRec "ProjectColumn" =
    some ⟨"ProjectColumn", [("Name", .ident none), ("Assign", .span .zero), ("X", .expr .nil)]⟩ := by rfl
theorem newRec_extend : newRec "ExtendOperator" =
    some ⟨"ExtendOperator", [("Pipe", .span .zero), ("Keyword", .span .zero), ("Cols", .list [])]⟩ := by rfl
theorem newRec_extendColumn : newRec "ExtendColumn" =
    some ⟨"ExtendColumn", [("Name", .ident none), ("Assign", .span .zero), ("X", .expr .nil)]⟩ := by rfl
theorem newRec_summarize : newRec "SummarizeOperator" =
    some ⟨"SummarizeOperator", [("Pipe", .span .zero), ("Keyword", .span .zero), ("Cols", .list []), ("By", .span .zero),
      ("GroupBy", .list [])]⟩ := by rfl
theorem newRec_summarizeColumn : newRec "SummarizeColumn" =
    some ⟨"SummarizeColumn", [("Name", .ident none), ("Assign", .span .zero), ("X", .expr .nil)]⟩ := by rfl
theorem newRec_render : newRec "RenderOperator" =
    some ⟨"RenderOperator", [("Pipe", .span .zero), ("Keyword", .span .zero), ("ChartType", .ident none), ("With", .span .zero),
      ("Lparen", .span .zero), ("Props", .list []), ("Rparen", .span .zero)]⟩ := by rfl
theorem newRec_renderProperty : newRec "RenderProperty" =
    some ⟨"RenderProperty", [("Name", .ident none), ("Assign", .span .zero), ("Value", .expr .nil)]⟩ := by rfl
theorem newRec_join : newRec "JoinOperator" =
    some ⟨"JoinOperator", [("Pipe", .span .zero), ("Keyword", .span .zero), ("Kind", .span .zero), ("KindAssign", .span .zero),
      ("Flavor", .ident none), ("Lparen", .span .zero), ("Right", .tab .nil), ("Rparen", .span .zero), ("On", .span .zero),
      ("Conditions", .exprs .nil)]⟩ := by rfl
theorem newRec_ident : newRec "Ident" =
    some ⟨"Ident", [("Name", .str []), ("NameSpan", .span .zero), ("Quoted", .bool false)]⟩ := by rfl
theorem newRec_let : newRec "LetStatement" =
    some ⟨"LetStatement", [("Keyword", .span .zero), ("Name", .ident none), ("Assign", .span .zero), ("X", .expr .nil)]⟩ := by rfl
theorem newRec_tabular : newRec "TabularExpr" = some ⟨"TabularExpr", [("Source", .nil), ("Operators", .list [])]⟩ := by rfl
theorem newRec_tableRef : newRec "TableRef" = some ⟨"TableRef", [("Table", .ident none)]⟩ := by rfl

theorem result_ret {α : Type} (conv : List Rec → Val → Option α) (nv : String) (ev : Option String) (v e : Val) (st : St) :
    result conv nv ev (.ok (.ret [v, e], st)) =
      (st.parser "p" >>= fun p => optM (conv st.heap v) >>= fun x => asErrs e >>= fun es => pure ⟨x, es, p.1⟩) := by
  simp only [result, bind, Except.bind, pure, Except.pure]

theorem result_fuel {α : Type} (conv : List Rec → Val → Option α) (nv : String) (ev : Option String) (st : St) :
    result conv nv ev (.ok (.fuel, st)) =
      (st.parser "p" >>= fun p => (match ev with | some e => st.get e >>= asErrs | none => pure []) >>= fun acc =>
        st.get nv >>= fun v => optM (conv st.heap v) >>= fun x => pure ⟨x, acc ++ errFuel, p.1⟩) := by
  cases ev with
  | none => simp only [result, bind, Except.bind, pure, Except.pure]
  | some e =>
    simp only [result, bind, Except.bind, pure, Except.pure]
    cases st.parser "p" with
    | error x => rfl
    | ok p => cases st.get e <;> rfl

theorem result_ite {α : Type} (conv : List Rec → Val → Option α) (nv : String) (ev : Option String) (c : Prop) [Decidable c]
    (a b : M (Flow × St)) :
    result conv nv ev (if c then a else b) = if c then result conv nv ev a else result conv nv ev b := by
  split <;> rfl

/-! ### running a body once, into the tree of its paths

`execBlock` and the block-structured statements are binds whose continuation holds the rest of the program; `simp`
would run that rest on a state it does not know yet.  Stated with the combinators below the rest is an argument that is
not looked at before the statement in front of it has run.  A conditional whose condition `simp` cannot decide does not
stop the run: the continuation goes into both branches (`thenK_ite`, …), and `next()` is a total function of the
remaining tokens (`callMethod_next`).  So one `ir_simp` on a body — the callees' results left as they are — yields the
`if`-tree of everything the body can do; the case distinctions that compare it with the model come afterwards and
prune two trees without running anything. -/

def thenK (r : M (Flow × St)) (g : St → M (Flow × St)) : M (Flow × St) :=
  r >>= fun x => match x.1 with | .next => g x.2 | _ => pure x

def leaveK (r : M (Flow × St)) (outer : St) : M (Flow × St) := r >>= fun x => pure (x.1, x.2.leave outer)

def iteK (b : M (Bool × St)) (t e : St → M (Flow × St)) : M (Flow × St) := b >>= fun x => if x.1 then t x.2 else e x.2

/-- what consumes the outcome of a loop's iteration -/
def bindK {β : Type} (r : M (Flow × St)) (g : Flow × St → M β) : M β := r >>= g

theorem thenK_next (st : St) (g : St → M (Flow × St)) : thenK (.ok (.next, st)) g = g st := rfl
theorem thenK_ret (vs : List Val) (st : St) (g : St → M (Flow × St)) : thenK (.ok (.ret vs, st)) g = .ok (.ret vs, st) := rfl
theorem thenK_brk (st : St) (g : St → M (Flow × St)) : thenK (.ok (.brk, st)) g = .ok (.brk, st) := rfl
theorem thenK_cont (st : St) (g : St → M (Flow × St)) : thenK (.ok (.cont, st)) g = .ok (.cont, st) := rfl
theorem thenK_fuel (st : St) (g : St → M (Flow × St)) : thenK (.ok (.fuel, st)) g = .ok (.fuel, st) := rfl
theorem thenK_error (e : IErr) (g : St → M (Flow × St)) : thenK (.error e) g = .error e := rfl
theorem leaveK_ok (f : Flow) (st outer : St) : leaveK (.ok (f, st)) outer = .ok (f, st.leave outer) := rfl
theorem leaveK_error (e : IErr) (outer : St) : leaveK (.error e) outer = .error e := rfl
theorem iteK_ok (b : Bool) (st : St) (t e : St → M (Flow × St)) : iteK (.ok (b, st)) t e = if b then t st else e st := rfl
theorem iteK_error (x : IErr) (t e : St → M (Flow × St)) : iteK (.error x) t e = .error x := rfl
theorem bindK_ok {β : Type} (x : Flow × St) (g : Flow × St → M β) : bindK (.ok x) g = g x := rfl
theorem bindK_error {β : Type} (e : IErr) (g : Flow × St → M β) : bindK (.error e) g = .error e := rfl

theorem thenK_ite (c : Prop) [Decidable c] (a b : M (Flow × St)) (g : St → M (Flow × St)) :
    thenK (if c then a else b) g = if c then thenK a g else thenK b g := by split <;> rfl
theorem leaveK_ite (c : Prop) [Decidable c] (a b : M (Flow × St)) (st : St) :
    leaveK (if c then a else b) st = if c then leaveK a st else leaveK b st := by split <;> rfl
theorem iteK_ite (c : Prop) [Decidable c] (a b : M (Bool × St)) (t e : St → M (Flow × St)) :
    iteK (if c then a else b) t e = if c then iteK a t e else iteK b t e := by split <;> rfl
theorem bindK_ite {β : Type} (c : Prop) [Decidable c] (a b : M (Flow × St)) (g : Flow × St → M β) :
    bindK (if c then a else b) g = if c then bindK a g else bindK b g := by split <;> rfl

theorem execBlock_nil (env : Env) (k : Nat) (st : St) : execBlock env [] k st = .ok (.next, st) := by simp only [execBlock]

theorem execBlock_cons (env : Env) (s : IStmt) (r : List IStmt) (k : Nat) (st : St) :
    execBlock env (s :: r) k st = thenK (exec env s k st) (execBlock env r k) := by
  rw [execBlock]
  rfl

/-- a body cut in two (at a point where several paths join, so that what follows is run once) -/
theorem execBlock_append (env : Env) : ∀ (xs ys : List IStmt) (k : Nat) (st : St),
    execBlock env (xs ++ ys) k st = thenK (execBlock env xs k st) (execBlock env ys k)
  | [], ys, k, st => by rw [List.nil_append, execBlock_nil, thenK_next]
  | x :: xs, ys, k, st => by
    rw [List.cons_append, execBlock_cons, execBlock_cons]
    cases exec env x k st with
    | error e => rfl
    | ok r =>
      obtain ⟨f, st1⟩ := r
      cases f <;> first | exact execBlock_append env xs ys k st1 | rfl

/-- a loop that ends a body -/
theorem thenK_nil (env : Env) (k : Nat) (r : M (Flow × St)) : thenK r (execBlock env [] k) = r := by
  cases r with
  | error e => rfl
  | ok x => obtain ⟨f, st⟩ := x; cases f <;> first | rfl | exact execBlock_nil env k st

theorem exec_ite (env : Env) (c : ICond) (t e : List IStmt) (k : Nat) (st : St) :
    exec env (.ite c t e) k st = leaveK (iteK (evalCond env c st) (execBlock env t k) (execBlock env e k)) st := by
  rw [exec]
  simp only [iteK, leaveK, bind, Except.bind]
  cases evalCond env c st with
  | error x => rfl
  | ok x =>
    obtain ⟨b, st0⟩ := x
    cases b <;> rfl

theorem exec_scope (env : Env) (body : List IStmt) (k : Nat) (st : St) :
    exec env (.scope body) k st = leaveK (execBlock env body k st) st := by
  rw [exec]
  rfl

theorem callMethod_next (env : Env) (k : Nat) (rest : List Token) :
    callMethod env k "next" [] rest =
      .ok ([.tok (rest.head?.getD (eofTok env.c)), .bool !rest.isEmpty], .parser rest.tail (some rest)) := by
  cases rest <;> rfl

/-- the body of the `for` that is statement `i` of `body`.  The trees of Props/C07OperatorIRTrees*.lean are literal text, not
    built from named pieces, so a loop lemma names its loop by position (`loopAt sortOperatorBody 3`: the one `for` of
    `sortOperator`, after `next`, the `if` and the allocation) and what follows the loop by `body.drop (i + 1)`. -/
def loopAt (body : List IStmt) (i : Nat) : List IStmt :=
  match body[i]? with
  | some (.loop b) => b
  | _ => []

def loopK (dec : Bool) (body : Nat → St → M (Flow × St)) (n k : Nat) (st : St) (x : Flow × St) : M (Flow × St) :=
  match x.1 with
  | .next | .cont => runLoop dec body n k (x.2.leave st)
  | .brk => pure (.next, x.2.leave st)
  | f => pure (f, x.2.leave st)

/-- one iteration of a loop, then `f` of the rest: with the body a variable, `ir_simp` spells out this iteration only.
    A loop lemma therefore starts `generalize hb : execBlock env (loopAt …) = body at ih ⊢` (the induction hypothesis keeps
    the variable), rewrites with this lemma, and puts the literal body back for the one iteration by
    `congrFun (congrFun hb.symm fuel)`. -/
theorem runLoop_succ {β : Type} (f : M (Flow × St) → M β) (hf : ∀ e, f (.error e) = .error e)
    (body : Nat → St → M (Flow × St)) (n k : Nat) (st : St) :
    f (runLoop false body (n + 1) k st) = bindK (body k st) fun x => f (loopK false body n k st x) := by
  rw [runLoop]
  simp only [bindK, bind, Except.bind, Bool.false_eq_true, if_false]
  cases body k st with
  | error e => exact hf e
  | ok x => obtain ⟨fl, st1⟩ := x; cases fl <;> rfl

/-- the same for a loop whose iterations run one level deeper each -/
theorem runLoop_succ_dec {β : Type} (f : M (Flow × St) → M β) (hf : ∀ e, f (.error e) = .error e)
    (body : Nat → St → M (Flow × St)) (n k : Nat) (st : St) :
    f (runLoop true body (n + 1) k st) = bindK (body n st) fun x => f (loopK true body n k st x) := by
  rw [runLoop]
  simp only [bindK, bind, Except.bind, if_true]
  cases body n st with
  | error e => exact hf e
  | ok x => obtain ⟨fl, st1⟩ := x; cases fl <;> rfl

/- A variable (and a field of a record) is looked up by comparing names from the first one on; stated with `List.find?`, every
name that is passed costs `simp` two side goals (`find?_cons_of_pos` fails, `find?_cons_of_neg` succeeds). -/
theorem get_nil (h : List Rec) (v : String) : St.get ⟨[], h⟩ v = stuck := rfl
theorem get_cons (w v : String) (x : Val) (vs : List (String × Val)) (h : List Rec) :
    St.get ⟨(w, x) :: vs, h⟩ v = if w == v then .ok x else St.get ⟨vs, h⟩ v := by
  simp only [St.get, List.find?_cons]
  cases w == v <;> rfl

theorem getField_nil (f : String) : getField f [] = none := rfl
theorem getField_cons (g f : String) (x : Val) (fs : List (String × Val)) :
    getField f ((g, x) :: fs) = if g == f then some x else getField f fs := by
  simp only [getField, List.find?_cons]
  cases g == f <;> rfl

/- `toIdent` by the form of the value, so that it stays closed on a value that is not known yet -/
theorem toIdent_ident (h : List Rec) (i : Option Ident) : toIdent h (.ident i) = some i := rfl
theorem toIdent_nil (h : List Rec) : toIdent h .nil = some none := rfl
theorem toIdent_ref (h : List Rec) (a : Nat) : toIdent h (.ref a) =
    match h[a]? with
    | some ⟨ty, [(_, .str n), (_, .span s), (_, .bool q)]⟩ => if ty == "Ident" then some (some ⟨n, s, q⟩) else none
    | _ => none := rfl

/- Lean makes the equation lemmas of a definition in the module that first unfolds it, and there again for every proof
that does; a module that imports that one finds them made.  The attribute makes those of the interpreter here, ahead of
the modules that run it. -/
attribute [opIR] result_ret result_fuel result_ite run entry execBlock_nil execBlock_cons thenK_nil thenK_next thenK_ret
  thenK_brk thenK_cont thenK_fuel thenK_error leaveK_ok leaveK_error iteK_ok iteK_error bindK_ok bindK_error thenK_ite leaveK_ite
  iteK_ite bindK_ite loopK exec eval evalCond evalAll assignTo assignAll callMethod get_nil get_cons St.declare St.assign St.leave
  St.parser St.setFld assignIn setField getField_nil getField_cons fieldOf tokField valEq isNilVal asErrs asSpan asInt asBool appendVal lenVal
  zeroVar optM toOp recToOp toExpr toIdent_ident toIdent_nil toIdent_ref toSterm listOf stuck goPanic bind Except.bind pure Except.pure Except.map
  newRec_count newRec_where newRec_take newRec_as newRec_top newRec_sort newRec_sortTerm newRec_project newRec_projectColumn
  newRec_extend newRec_extendColumn newRec_summarize newRec_summarizeColumn newRec_render newRec_renderProperty newRec_join
  newRec_ident newRec_let newRec_tabular newRec_tableRef kind_by kind_comma kind_assign kind_ident kind_lparen kind_rparen
  kind_pipe kind_error

attribute [opIR ↓] exec_ite exec_scope callMethod_next

end Pql.OpIR
