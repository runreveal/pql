/-
The intended translation `tr` is already in the normal form of `normS` (lower-case function
names, `<>` for `!=`), so `Rel.evalP` (which normalises) evaluates the translation itself.
Hence `tr` never produces the operator `!=`: it is a fixed point of `normS` (`SelSem.tr_normS`), and
no normal form contains `!=`, the one operator `normS` rewrites.
-/
import PqlModel.Lemmas.JoinSemNorm
namespace Pql.SelSem
open Pql Sql CompileOracle

theorem normS_bin (o : String) (ho : (o == "!=") = false) (a b : SExpr) (ha : normS a = a) (hb : normS b = b) :
    normS (.bin o a b) = .bin o a b := by
  simp [normS, ho, ha, hb]

theorem normL_foldr : ∀ args : List SExpr, (∀ a ∈ args, normS a = a) →
    normL (args.foldr SExprList.cons .nil) = args.foldr SExprList.cons .nil
  | [], _ => by simp [normL]
  | a :: rest, h => by
    simp [normL, h a (List.mem_cons_self ..), normL_foldr rest (fun b hb => h b (List.mem_cons_of_mem _ hb))]

theorem normS_fnCall (name : String) (hn : lower (Bytes.ofString name) = Bytes.ofString name)
    (args : List SExpr) (h : ∀ a ∈ args, normS a = a) : normS (fnCall name args) = fnCall name args := by
  simp [fnCall, normS, hn, normL_foldr args h]

theorem normS_coalesceFalse (x : SExpr) (h : normS x = x) : normS (coalesceFalse x) = coalesceFalse x := by
  apply normS_fnCall "coalesce" (by decide)
  intro a ha
  simp only [List.mem_cons, List.not_mem_nil, or_false] at ha
  rcases ha with rfl | rfl
  · exact h
  · simp [normS]

theorem normS_lower (x : SExpr) (h : normS x = x) : normS (fnCall "lower" [x]) = fnCall "lower" [x] :=
  normS_fnCall "lower" (by decide) [x] (by simpa using h)

theorem normS_strcat : ∀ (rest : List SExpr) (a : SExpr), normS a = a → (∀ b ∈ rest, normS b = b) →
    normS (rest.foldl (fun acc b => .bin "||" acc b) a) = rest.foldl (fun acc b => .bin "||" acc b) a
  | [], a, ha, _ => ha
  | b :: rest, a, ha, hr =>
    normS_strcat rest _ (normS_bin "||" (by decide) a b ha (hr b (List.mem_cons_self ..)))
      (fun c hc => hr c (List.mem_cons_of_mem _ hc))

theorem normL_toList : ∀ (as : SExprList), normL as = as → ∀ b ∈ as.toList, normS b = b
  | .nil, _, b, hb => by simp [SExprList.toList] at hb
  | .cons a as, h, b, hb => by
    simp only [normL, SExprList.cons.injEq] at h
    simp only [SExprList.toList, List.mem_cons] at hb
    rcases hb with rfl | hb
    · exact h.1
    · exact normL_toList as h.2 b hb

theorem plainOp_ne (op : TokKind) (s : String) (h : plainOp op = some s) : (s == "!=") = false := by
  cases op <;> simp [plainOp] at h <;> subst h <;> decide

/-- A computed option that is `some` is `some` of its `getD`; with `decide +kernel` for `h` the
    elaborator need not evaluate `o`. -/
theorem eq_some_getD {α} {o : Option α} (d : α) (h : o.isSome = true) : o = some (o.getD d) := by
  cases o with
  | none => cases h
  | some a => rfl

/-- Case analysis on an equation `(if c then x else y) = some s` that forgets the condition: for what
    is shown below about `tr` only the possible results matter, not when each arises. -/
theorem of_ite_some {α : Type} {c : Prop} [Decidable c] {x y : Option α} {s : α} {P : Prop}
    (hx : x = some s → P) (hy : y = some s → P) : (if c then x else y) = some s → P := by
  intro h
  split at h
  · exact hx h
  · exact hy h

theorem tr_unary_normS {j : Bool} {p : Span} {op : TokKind} {x : Expr} {s : SExpr}
    (h : tr j (.unary p op x) = some s) (ih : ∀ a, tr j x = some a → normS a = a) : normS s = s := by
  simp only [tr, bind, Option.bind] at h
  cases hx : tr j x with
  | none => simp [hx] at h
  | some a =>
    have ha := ih a hx
    simp only [hx] at h
    revert h
    refine of_ite_some (fun h => ?_) (of_ite_some (fun h => ?_) (fun h => ?_)) <;> cases h
    · simp [normS, ha]
    · simp [normS, ha]

theorem tr_binary_normS {j : Bool} {p : Span} {op : TokKind} {x y : Expr} {s : SExpr}
    (h : tr j (.binary x p op y) = some s) (ihx : ∀ a, tr j x = some a → normS a = a)
    (ihy : ∀ b, tr j y = some b → normS b = b) : normS s = s := by
  simp only [tr, bind, Option.bind] at h
  cases hx : tr j x with
  | none => simp [hx] at h
  | some a =>
    cases hy : tr j y with
    | none => simp [hx, hy] at h
    | some b =>
      have ha := ihx a hx
      have hb := ihy b hy
      have hbin (o : String) (ho : (o == "!=") = false) := normS_bin o ho a b ha hb
      simp only [hx, hy] at h
      revert h; refine of_ite_some (fun h => ?_) (fun h => ?_)
      · revert h; refine of_ite_some (fun h => ?_) (fun h => ?_) <;> cases h
        · exact hbin "=" (by decide)
        · exact normS_coalesceFalse _ (hbin "=" (by decide))
      revert h; refine of_ite_some (fun h => ?_) (fun h => ?_)
      · cases h
        exact normS_coalesceFalse _ (hbin "<>" (by decide))
      revert h; refine of_ite_some (fun h => ?_) (fun h => ?_)
      · cases h
        exact normS_bin "=" (by decide) _ _ (normS_lower a ha) (normS_lower b hb)
      revert h; refine of_ite_some (fun h => ?_) (fun h => ?_)
      · cases h
        exact normS_bin "<>" (by decide) _ _ (normS_lower a ha) (normS_lower b hb)
      split at h
      · rename_i o ho
        cases h
        exact hbin o (plainOp_ne _ _ ho)
      · cases h

theorem tr_call_normS {j : Bool} {fn : Ident} {p q : Span} {args : ExprList} {s : SExpr}
    (h : tr j (.call fn p args q) = some s) (ih : ∀ as, trList j args = some as → normL as = as) :
    normS s = s := by
  simp only [tr, bind, Option.bind] at h
  cases has : trList j args with
  | none => simp [has] at h
  | some as =>
    have ihl := normL_toList as (ih as has)
    simp only [has] at h
    generalize as.toList = l at h ihl
    -- `not`, `isnull`, `isnotnull`
    revert h; refine of_ite_some (fun h => ?_) (fun h => ?_)
    · split at h <;> cases h
      simp [normS, ihl]
    revert h; refine of_ite_some (fun h => ?_) (fun h => ?_)
    · split at h <;> cases h
      simp [normS, ihl]
    revert h; refine of_ite_some (fun h => ?_) (fun h => ?_)
    · split at h <;> cases h
      simp [normS, ihl]
    -- `iff`
    revert h; refine of_ite_some (fun h => ?_) (fun h => ?_)
    · split at h <;> cases h
      simp [normS, ihl, normS_coalesceFalse]
    -- `strcat`
    revert h; refine of_ite_some (fun h => ?_) (fun h => ?_)
    · split at h <;> cases h
      rename_i _ a rest
      exact normS_strcat rest a (ihl a (by simp)) (fun b hb => ihl b (by simp [hb]))
    -- `tolower`, `toupper`
    revert h; refine of_ite_some (fun h => ?_) (fun h => ?_)
    · split at h <;> cases h
      exact normS_lower _ (ihl _ (by simp))
    revert h; refine of_ite_some (fun h => ?_) (fun h => ?_)
    · split at h <;> cases h
      exact normS_fnCall "upper" (by decide) _ (by simpa using ihl)
    -- `now`, `count`, `countif`
    revert h; refine of_ite_some (fun h => ?_) (fun h => ?_)
    · split at h <;> cases h
      simp [normS]
    revert h; refine of_ite_some (fun h => ?_) (fun h => ?_)
    · split at h <;> cases h
      exact normS_fnCall "count" (by decide) [] (by simp)
    have hcnt : lower (Bytes.ofString "count") = Bytes.ofString "count" := by decide
    revert h; refine of_ite_some (fun h => ?_) (fun h => ?_)
    · split at h <;> cases h
      simp [normS, hcnt, normL, ihl]
    cases h
    simp [normS, JoinSem.lower_idem, ih as has]

mutual
theorem tr_normS (j : Bool) : ∀ (e : Expr) (s : SExpr), tr j e = some s → normS s = s
  | .nil, s, h => by simp [tr] at h
  | .paren _ x _, s, h => by rw [tr] at h; exact tr_normS j x s h
  | .qident parts, s, h => by
    simp only [tr] at h
    split at h
    · split at h
      · cases h; simp [normS]
      · split at h
        · cases h; simp [normS]
        · split at h <;> cases h <;> simp [normS]
    · cases h; simp [normS]
  | .lit _ k v, s, h => by
    simp only [tr] at h
    split at h
    · cases h; simp [normS]
    · split at h
      · cases h; simp [normS]
      · cases h
  | .unary _ op x, s, h => tr_unary_normS h (tr_normS j x)
  | .binary x _ op y, s, h => tr_binary_normS h (tr_normS j x) (tr_normS j y)
  | .inE x _ _ vals _, s, h => by
    simp only [tr, bind, Option.bind] at h
    cases hx : tr j x with
    | none => simp [hx] at h
    | some a =>
      cases hv : trList j vals with
      | none => simp [hx, hv] at h
      | some vs =>
        simp only [hx, hv, pure, Option.some.injEq] at h
        subst h
        simp [normS, tr_normS j x a hx, trList_normL j vals vs hv]
  | .index x _ idx _, s, h => by
    simp only [tr, bind, Option.bind] at h
    cases hx : tr j x with
    | none => simp [hx] at h
    | some a =>
      cases hi : tr j idx with
      | none => simp [hx, hi] at h
      | some i =>
        simp only [hx, hi, pure, Option.some.injEq] at h
        subst h
        simp [normS, tr_normS j x a hx, tr_normS j idx i hi]
  | .call fn _ args _, s, h => tr_call_normS h (trList_normL j args)
theorem trList_normL (j : Bool) : ∀ (es : ExprList) (ss : SExprList), trList j es = some ss → normL ss = ss
  | .nil, ss, h => by simp only [trList, Option.some.injEq] at h; subst h; simp [normL]
  | .cons e es, ss, h => by
    simp only [trList, bind, Option.bind] at h
    cases he : tr j e with
    | none => simp [he] at h
    | some a =>
      cases hes : trList j es with
      | none => simp [he, hes] at h
      | some as =>
        simp only [he, hes, pure, Option.some.injEq] at h
        subst h
        simp [normL, tr_normS j e a he, trList_normL j es as hes]
end

theorem evalP_eq (j : Bool) (g : List Env) (env : Env) (e : Expr) (s : SExpr) (h : tr j e = some s) :
    Rel.evalP j g env e = evalS g env s := by
  simp only [Rel.evalP, h, tr_normS j e s h]

end Pql.SelSem

namespace Pql.JoinSem
open Pql Sql CompileOracle

mutual
theorem noBang_normS : (s : SExpr) → noBang (normS s) = true
  | .col _ | .str _ | .num _ | .param _ | .const _ | .none_ => rfl
  | .call _ _ args fl => by simp only [normS, noBang, noBangL_normL args, noBang_normS fl, Bool.and_self]
  | .case_ a b c => by simp only [normS, noBang, noBang_normS a, noBang_normS b, noBang_normS c, Bool.and_self]
  | .neg x | .pos x | .not_ x | .isNull x _ => by simp only [normS, noBang, noBang_normS x]
  | .bin op x y => by
    have hop : ((if op == "!=" then "<>" else op) != "!=") = true := by
      split
      · decide
      · simpa using ‹¬ (op == "!=") = true›
    simp only [normS, noBang, hop, noBang_normS x, noBang_normS y, Bool.and_self]
  | .inList x vs => by simp only [normS, noBang, noBang_normS x, noBangL_normL vs, Bool.and_self]
  | .index x i => by simp only [normS, noBang, noBang_normS x, noBang_normS i, Bool.and_self]
theorem noBangL_normL : (l : SExprList) → noBangL (normL l) = true
  | .nil => rfl
  | .cons e es => by simp only [normL, noBangL, noBang_normS e, noBangL_normL es, Bool.and_self]
end

theorem tr_noBang (j : Bool) : (e : Expr) → (s : SExpr) → tr j e = some s → noBang s = true :=
  fun e s h => SelSem.tr_normS j e s h ▸ noBang_normS s

theorem trList_noBang (j : Bool) : (l : ExprList) → (s : SExprList) → trList j l = some s → noBangL s = true :=
  fun l s h => SelSem.trList_normL j l s h ▸ noBangL_normL s

end Pql.JoinSem
