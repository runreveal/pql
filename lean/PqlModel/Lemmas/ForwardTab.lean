/-
Property C07 (forward direction): operators and tabular expressions.

`canonTabular` / `canonOp` : the span fields of *absent* optional parts are the null span (the
tokens do not determine them: `unparse` only asks whether they are valid):
sort terms without `asc`/`desc` or without `nulls …`; unnamed columns and plain `project`
columns (`assign`); `summarize` without `by`; `join` without `kind = …` (`kind`, `kindAssign`);
`render` without `with (…)` (`with`, `lparen`, `rparen`).

The statements are proved by induction over the way the tree unparses (`tabAlg`, an `UnparseAlg`);
`TabFwd c f` collects them at one amount of fuel.
-/
import PqlModel.Lemmas.ForwardOps
import PqlModel.Lemmas.TabDispatch
namespace Pql
open Grammar

mutual
def canonTabular : Tabular → Bool
  | .nil => true
  | .mk _ ops => canonOps ops
def canonOps : OpList → Bool
  | .nil => true
  | .cons o os => canonOp o && canonOps os
def canonOp : Op → Bool
  | .count _ _ => true
  | .where_ _ _ _ => true
  | .sort _ _ ts => ts.all canonSortTerm
  | .take _ _ _ => true
  | .top _ _ _ _ col => (match col with | some t => canonSortTerm t | none => true)
  | .project _ _ cs => cs.all canonColumn
  | .extend _ _ cs => cs.all canonColumn
  | .summarize _ _ cs b gs => cs.all canonColumn && gs.all canonColumn && canonSpan b
  | .join _ _ kind ka fl _ right _ _ _ =>
    canonTabular right && (fl.isSome || (kind == Span.null && ka == Span.null))
  | .as_ _ _ _ => true
  | .render _ _ _ w lp _ rp => w.isValid || (w == Span.null && lp == Span.null && rp == Span.null)
end

def canonStmt : Stmt → Bool
  | .let_ .. => true
  | .tabular t => canonTabular t

/-- passed over when searching `)` (any nesting) or `|` (any nesting): the tokens of one operator
    behind its `|` (the operator's name included or not: `opPasses_cons`) -/
def OpPasses (ts : List Token) : Prop :=
  (∀ st, PassesAt .rparen st ts) ∧ (∀ st, PassesAt .pipe st ts)

/-- passed over when searching `)` (any nesting) or `|` inside brackets: a tabular expression -/
def TabPasses (ts : List Token) : Prop :=
  (∀ st, PassesAt .rparen st ts) ∧ (∀ st, st ≠ [] → PassesAt .pipe st ts)

theorem opPasses_of_passes {ts : List Token} (h : Passes ts) : OpPasses ts :=
  ⟨fun st => h _ st (Or.inl rfl), fun st => h _ st (Or.inr (Or.inr rfl))⟩

theorem opPasses_nil : OpPasses [] := opPasses_of_passes passes_nil

theorem opPasses_append {a b : List Token} (ha : OpPasses a) (hb : OpPasses b) : OpPasses (a ++ b) :=
  ⟨fun st => passesAt_append (ha.1 st) (hb.1 st), fun st => passesAt_append (ha.2 st) (hb.2 st)⟩

theorem opPasses_kind {t : Token} {k : TokKind} (hk : t.kind = k)
    (h : k ≠ .lparen ∧ k ≠ .lbracket ∧ k ≠ .rparen ∧ k ≠ .rbracket ∧ k ≠ .pipe := by decide) :
    OpPasses [t] := opPasses_of_passes (passes_kind hk h)

theorem opPasses_cons {t : Token} {ts : List Token} {k : TokKind} (hk : t.kind = k) (h : OpPasses ts)
    (hh : k ≠ .lparen ∧ k ≠ .lbracket ∧ k ≠ .rparen ∧ k ≠ .rbracket ∧ k ≠ .pipe := by decide) :
    OpPasses (t :: ts) := opPasses_append (a := [t]) (opPasses_kind hk hh) h

theorem opPasses_ident {i : Ident} {t : Token} (h : IsIdentTok i t) : OpPasses [t] :=
  opPasses_of_passes (sentential_passes.ident h)

theorem opPasses_named {t : Token} {a : String} (h : isIdentNamed t a = true) : OpPasses [t] :=
  opPasses_kind (isIdentNamed_kind h)

theorem opPasses_tab {ts : List Token} (h : OpPasses ts) : TabPasses ts := ⟨h.1, fun st _ => h.2 st⟩

theorem opPasses_paren {tl tr : Token} {ts : List Token} (hl : tl.kind = .lparen) (hr : tr.kind = .rparen)
    (h : TabPasses ts) : OpPasses (tl :: (ts ++ [tr])) :=
  ⟨fun st => passesAt_paren hl hr (h.1 _), fun st => passesAt_paren hl hr (h.2 _ (by simp))⟩

theorem tabPasses_nil : TabPasses [] := opPasses_tab opPasses_nil

theorem tabPasses_append {a b : List Token} (ha : TabPasses a) (hb : TabPasses b) : TabPasses (a ++ b) :=
  ⟨fun st => passesAt_append (ha.1 st) (hb.1 st), fun st hs => passesAt_append (ha.2 st hs) (hb.2 st hs)⟩

theorem tabPasses_pipe {t : Token} (hk : t.kind = .pipe) : TabPasses [t] := by
  refine ⟨fun st => passesAt_single (by rw [hk]; decide) (by rw [hk]; decide) (by rw [hk]; decide)
    (by rw [hk]; decide) (by rw [hk]; decide), fun st hs => ?_⟩
  intro rest
  simp only [List.cons_append, List.nil_append]
  rw [splitAux]
  simp [hk, hs]

theorem sortTerm_passes {t : SortTerm} {ts : List Token} (hwf : wfSortTerm t = true)
    (h : RealBy unparseSortTerm t ts) : OpPasses ts := by
  obtain ⟨tx, td, tn, rfl, hx, hd, hnl⟩ := sortTerm_real h
  simp only [wfSortTerm, Bool.and_eq_true] at hwf
  refine opPasses_append (opPasses_of_passes (real_passes _ 0 tx hwf.1.1 hx)) (opPasses_append ?_ ?_)
  · rcases hd with ⟨-, rfl⟩ | ⟨-, d, rfl, hdn, -⟩
    · exact opPasses_nil
    · exact opPasses_named hdn
  · rcases hnl with ⟨-, rfl⟩ | ⟨-, n1, n2, rfl, hn1, hn2, -⟩
    · exact opPasses_nil
    · exact opPasses_append (a := [n1]) (opPasses_named hn1) (opPasses_named hn2)

theorem col_passes {b : Bool} {col : Column} {ts : List Token} (hwf : wfColumn col = true)
    (hcan : canonColumn col = true) (h : RealBy (unparseColumn b) col ts) : OpPasses ts := by
  rcases col_real h hwf hcan with ⟨n, tn, ta, tx, -, rfl, htn, hk, -, hx, hok⟩ | ⟨-, n, tn, -, rfl, htn⟩ |
    ⟨-, -, -, hx, hok⟩
  · exact opPasses_append (a := [tn]) (opPasses_ident htn)
      (opPasses_cons hk (opPasses_of_passes (real_passes _ 0 tx hok hx)))
  · exact opPasses_ident htn
  · exact opPasses_of_passes (real_passes _ 0 ts hok hx)

theorem prop_passes {p : RenderProp} {ts : List Token} (hok : okExpr p.value = true)
    (h : RealBy unparseProp p ts) : OpPasses ts := by
  obtain ⟨n, tn, ta, tv, -, rfl, htn, hk, -, hv⟩ := prop_real h
  exact opPasses_append (a := [tn]) (opPasses_ident htn)
    (opPasses_cons hk (opPasses_of_passes (real_passes _ 0 tv hok hv)))

theorem items_passes {α : Type} {R : α → List Token → Prop} {P : α → Prop}
    (hR : ∀ x ts, P x → R x ts → OpPasses ts) : ∀ {xs : List α} {ts : List Token},
    (∀ x ∈ xs, P x) → Items R xs ts → OpPasses ts
  | [], _, _, h => h.elim
  | [x], ts, hp, h => hR x ts (hp x List.mem_cons_self) h
  | x :: y :: ys, _, hp, ⟨tx, cm, tr, hts, hcm, hx, hr⟩ => by
    subst hts
    exact opPasses_append (hR x tx (hp x List.mem_cons_self) hx)
      (opPasses_cons hcm (items_passes hR (fun z hz => hp z (List.mem_cons_of_mem _ hz)) hr))

def OpParsed (c : PCtx) (f : Nat) (o : Op) (to : List Token) : Prop :=
  ∃ pipeTok name optoks, to = pipeTok :: name :: optoks ∧ pipeTok.kind = .pipe ∧ name.kind = .ident ∧
    pOperator c f pipeTok.span name optoks = some ⟨o, [], []⟩ ∧ OpPasses optoks

def appendOps : OpList → OpList → OpList
  | .nil, l => l
  | .cons o os, l => .cons o (appendOps os l)

theorem appendOps_snoc : ∀ (a : OpList) (o : Op) (l : OpList), appendOps (a.snoc o) l = appendOps a (.cons o l)
  | .nil, _, _ => rfl
  | .cons x xs, o, l => by simp only [OpList.snoc, appendOps, appendOps_snoc xs o l]

theorem appendOps_nil : ∀ (a : OpList), appendOps a .nil = a
  | .nil => rfl
  | .cons x xs => by simp only [appendOps, appendOps_nil xs]

def joinHdr (fl : Option Ident) (kind ka : Span) : Option (List UTok) :=
  match fl with
  | some f => some [kwTok ["kind"] kind, sym .assign ka, identTok f]
  | none => if kind.isValid || ka.isValid then none else some []

/-! ### the induction over the unparsed form

`pTabular`, `pOps`, `pOperator` and `pJoin` call one another along the tree, so the statement is
proved for a tabular expression, an operator list and an operator by induction over the way the
tree unparses (`UnparseAlg`), for every amount of fuel that is enough for the tokens.  Each
statement also yields that the tokens are passed over by the `split`s of the enclosing productions
(`TabPasses`, `OpPasses`), which the enclosing step needs before it can use the sub-parser's
result; an operator list also that it is empty or starts with a pipe, which is where the `split`
of the operator before it stops.

The fuel bounds have the slope 4 of the expression parser (`pExpr_real` asks for
`4 * length + 4`).  The constants `+ 1`, `+ 2`, `+ 8` are bookkeeping: every call inside the block
takes one unit of fuel, every token passed over on the way gives back four, and what is left when
an item parser of Lemmas/ForwardOps.lean is reached must still be `4 * length + 4`. -/

def TabStep (c : PCtx) (t : Tabular) (us : List UTok) : Prop :=
  ∀ f ts, wfTabular t = true → canonTabular t = true → accounts true us ts = true →
    NoLparenComma ts = true → 4 * ts.length + 1 ≤ f → pTabular c f ts = ⟨t, [], []⟩ ∧ TabPasses ts

def OpsStep (c : PCtx) (ops : OpList) (us : List UTok) : Prop :=
  ∀ f ops0 acc ts, wfOps ops = true → canonOps ops = true → accounts true us ts = true →
    NoLparenComma ts = true → 4 * ts.length + 2 ≤ f →
    (pOps c f ops0 acc ts = ⟨appendOps ops0 ops, acc, []⟩ ∧ TabPasses ts) ∧
      (ts = [] ∨ ∃ t r, ts = t :: r ∧ t.kind = .pipe)

def OpStep (c : PCtx) (o : Op) (us : List UTok) : Prop :=
  ∀ f to, wfOp o = true → canonOp o = true → accounts true us to = true → NoLparenComma to = true →
    4 * to.length + 1 ≤ f → OpParsed c f o to

/-- behind `| name` it is enough to run the production the name selects on the remaining tokens -/
theorem OpStep.of_body {c : PCtx} {o : Op} {p k : Span} {a : String} {as : List String} {us : List UTok}
    (h : wfOp o = true → canonOp o = true → ∀ (f : Nat) (pipeTok name : Token) (optoks : List Token),
      pipeTok.span = p → name.span = k → name.value ∈ (a :: as).map Bytes.ofString →
      accounts true us optoks = true → NoLparenComma optoks = true → 4 * optoks.length + 8 ≤ f →
      pOperator c (f + 1) pipeTok.span name optoks = some ⟨o, [], []⟩ ∧ OpPasses optoks) :
    OpStep c o (sym .pipe p :: kwTok (a :: as) k :: us) := by
  intro f to hwf hcan ha hn hf
  obtain ⟨pipeTok, t2, rfl, hp, h2⟩ := accounts_cons_inv rfl ha
  obtain ⟨name, optoks, rfl, hnm, h3⟩ := accounts_cons_inv rfl h2
  obtain ⟨hnk, hnv, hns⟩ := tokOk_kwTok_inv hnm
  simp only [List.length_cons] at hf
  obtain ⟨f, rfl⟩ : ∃ f', f = f' + 1 := ⟨f - 1, by omega⟩
  obtain ⟨hO, hpass⟩ := h hwf hcan f pipeTok name optoks (tokOk_sym_inv hp).2 hns hnv h3 (nlc_tail (nlc_tail hn))
    (by omega)
  exact ⟨pipeTok, name, optoks, rfl, (tokOk_sym_inv hp).1, hnk, hO, hpass⟩

theorem tokOk_sortKw_inv {s : Int} {t : Token}
    (h : tokOk { kwPlain ["sort", "order"] with start := some s } t = true) :
    t.kind = .ident ∧ (t.value = Bytes.ofString "sort" ∨ t.value = Bytes.ofString "order") ∧
      s = (t.start : Int) := by
  simp only [tokOk, tokMatches, posMatches, kwPlain, List.map_cons, List.map_nil, List.isEmpty_cons,
    Bool.false_eq_true, if_false, Bool.and_eq_true, beq_iff_eq, List.contains_eq_mem, decide_eq_true_eq,
    List.mem_cons, List.mem_nil_iff, or_false, and_true] at h
  exact ⟨h.1.1.symm, h.1.2, h.2⟩

theorem tokOk_byStop_inv {s : Int} {t : Token}
    (h : tokOk { kind := .by_, stop := some s } t = true) : t.kind = .by_ ∧ s = (t.stop : Int) := by
  simp only [tokOk, tokMatches, posMatches, Bool.and_eq_true, beq_iff_eq, true_and] at h
  exact ⟨h.1.1.symm, h.2⟩

theorem cols_passes {xs : List Column} {ts : List Token}
    (hP : ∀ y ∈ xs, wfColumn y = true ∧ canonColumn y = true)
    (hI : Items (RealBy (unparseColumn false)) xs ts) : OpPasses ts :=
  items_passes (fun _ _ h => col_passes h.1 h.2) hP hI

theorem pJoin_fwd (c : PCtx) (f : Nat) {right : Tabular} {r : List UTok} (hT : TabStep c right r)
    (pipe kw kind ka : Span) (fl : Option Ident) (lp rp on : Span) (conds : ExprList) (hdr cs : List UTok)
    (ts : List Token) (hwf : wfOp (.join pipe kw kind ka fl lp right rp on conds) = true)
    (hcan : canonOp (.join pipe kw kind ka fl lp right rp on conds) = true)
    (hhdr : joinHdr fl kind ka = some hdr) (hcs : unparseExprList conds = some cs) (hlen : conds.length ≠ 0)
    (ha : accounts true (hdr ++ sym .lparen lp :: (r ++ sym .rparen rp :: kwTok ["on"] on :: cs)) ts = true)
    (hn : NoLparenComma ts = true) (hf : 4 * ts.length + 1 ≤ f) :
    pJoin c f pipe kw ts = ⟨.join pipe kw kind ka fl lp right rp on conds, [], []⟩ ∧ OpPasses ts := by
  obtain ⟨f, rfl⟩ : ∃ f', f = f' + 1 := ⟨f - 1, by omega⟩
  simp only [wfOp, Bool.and_eq_true] at hwf
  simp only [canonOp, Bool.and_eq_true] at hcan
  obtain ⟨⟨hwr, hwc⟩, hwfl⟩ := hwf
  obtain ⟨thdr, t2, rfl, hah, h2⟩ := accounts_append_split ha
  obtain ⟨tlp, t3, rfl, htlp, h3⟩ := accounts_cons_inv rfl h2
  obtain ⟨tright, t4, rfl, h4, h5⟩ := accounts_append_split h3
  obtain ⟨trp, t5, rfl, htrp, h6⟩ := accounts_cons_inv rfl h5
  obtain ⟨ton, tconds, rfl, hton, h7⟩ := accounts_cons_inv rfl h6
  obtain ⟨hlk, hls⟩ := tokOk_sym_inv htlp
  obtain ⟨hrk, hrs⟩ := tokOk_sym_inv htrp
  obtain ⟨honn, hons⟩ := tokOk_kwTok1_inv hton
  subst hls hrs hons
  simp only [List.length_append, List.length_cons] at hf
  have hnr : NoLparenComma (tlp :: (tright ++ trp :: ton :: tconds)) = true := nlc_right hn
  obtain ⟨hT, hpr⟩ := hT f tright hwr hcan.1 h4 (nlc_left (nlc_tail hnr)) (by omega)
  have hsplit : split .rparen (tright ++ trp :: ton :: tconds) = (tright, trp :: ton :: tconds) :=
    split_at (Or.inl rfl) hrk (hpr.1 [])
  have hrc : RealL conds tconds := ⟨cs, hcs, h7, nlc_tail (nlc_tail (nlc_right (nlc_tail hnr)))⟩
  have hL : pExprList c f tconds = ⟨conds, [], []⟩ := by
    cases conds with
    | nil => simp [ExprList.length] at hlen
    | cons e es =>
      have := (fwd_all c f).exprList e es tconds [] hwc hrc rfl (by simp only [List.append_nil]; omega)
      simpa using this
  have hpassTail : OpPasses (tlp :: (tright ++ [trp]) ++ ton :: tconds) :=
    opPasses_append (opPasses_paren hlk hrk hpr)
      (opPasses_cons (isIdentNamed_kind honn) (opPasses_of_passes (realL_passes conds tconds hwc hrc)))
  have hlistTail : tlp :: (tright ++ trp :: ton :: tconds) = tlp :: (tright ++ [trp]) ++ ton :: tconds := by
    simp
  cases fl with
  | none =>
    have hnull : kind = Span.null ∧ ka = Span.null := by simpa using hcan.2
    obtain ⟨rfl, rfl⟩ := hnull
    simp only [joinHdr, null_isValid, Bool.or_self, Bool.false_eq_true, if_false, Option.some.injEq] at hhdr
    subst hhdr
    have := accounts_nil_left hah
    subst this
    simp only [List.nil_append]
    refine ⟨?_, by rw [hlistTail]; exact hpassTail⟩
    have hnk : isIdentNamed tlp "kind" = false := by simp [isIdentNamed, hlk]
    simp [pJoin, hnk, hlk, hsplit, hT, hrk, honn, hL, mkOpaque, endSplit]
  | some fid =>
    simp only [joinHdr, Option.some.injEq] at hhdr
    subst hhdr
    obtain ⟨tk, t6, rfl, htk, h8⟩ := accounts_cons_inv rfl hah
    obtain ⟨tasg, t7, rfl, htasg, h9⟩ := accounts_cons_inv rfl h8
    obtain ⟨tf, t8, rfl, htf, h10⟩ := accounts_cons_inv (by simp [identTok]) h9
    have := accounts_nil_left h10
    subst this
    obtain ⟨hkn, hks⟩ := tokOk_kwTok1_inv htk
    obtain ⟨hak, has⟩ := tokOk_sym_inv htasg
    have hfid := tokOk_identTok_inv htf
    subst hks has
    simp only [Bool.and_eq_true, Bool.not_eq_true'] at hwfl
    obtain ⟨hfk, rfl⟩ := IsIdentTok.plain hfid hwfl.1
    have hjt : isJoinType tf.value = true := by
      simpa [isJoinType] using hwfl.2
    refine ⟨?_, ?_⟩
    · simp [pJoin, hkn, hak, hfk, hjt, hlk, hsplit, hT, hrk, honn, hL, mkOpaque, endSplit]
    · have : [tk, tasg, tf] ++ tlp :: (tright ++ trp :: ton :: tconds) =
          [tk] ++ ([tasg] ++ ([tf] ++ (tlp :: (tright ++ [trp]) ++ ton :: tconds))) := by simp
      rw [this]
      exact opPasses_append (opPasses_named hkn) (opPasses_append (opPasses_kind hak)
        (opPasses_append (opPasses_kind hfk) hpassTail))

/-! ### all productions

One clause per way `unparseTabular`, `unparseOps` and `unparseOp` succeed: the tokens are cut as the
unparsed form says, the sub-parsers run on the pieces, and for an operator the dispatch equation of
its keyword puts the results together. -/

theorem tabAlg (c : PCtx) : UnparseAlg (TabStep c) (OpStep c) (OpsStep c) where
  tmk s ops os _ hL := by
    intro f ts hwf hcan ha hn hf
    obtain ⟨tsrc, tos, rfl, hsrc, h2⟩ := accounts_cons_inv (by simp [identTok]) ha
    have hid := tokOk_identTok_inv hsrc
    simp only [wfTabular, Option.isSome_some, Bool.true_and] at hwf
    simp only [canonTabular] at hcan
    simp only [List.length_cons] at hf
    obtain ⟨f, rfl⟩ : ∃ f', f = f' + 1 := ⟨f - 1, by omega⟩
    obtain ⟨⟨hO, hp⟩, -⟩ := hL f .nil [] tos hwf hcan h2 (nlc_tail hn) (by omega)
    refine ⟨?_, tabPasses_append (a := [tsrc]) (opPasses_tab (opPasses_ident hid)) hp⟩
    simp only [pTabular, pIdent_real hid, hO, appendOps]
  onil := by
    intro f ops0 acc ts _ _ ha _ hf
    have := accounts_nil_left ha
    subst this
    obtain ⟨f, rfl⟩ : ∃ f', f = f' + 1 := ⟨f - 1, by omega⟩
    exact ⟨⟨by simp [pOps, appendOps_nil], tabPasses_nil⟩, Or.inl rfl⟩
  cons o os a b _ _ hO hL := by
    intro f ops0 acc ts hwf hcan ha hn hf
    obtain ⟨to, tos, rfl, h1, h2⟩ := accounts_append_split ha
    simp only [wfOps, Bool.and_eq_true] at hwf
    simp only [canonOps, Bool.and_eq_true] at hcan
    simp only [List.length_append] at hf
    obtain ⟨f, rfl⟩ : ∃ f', f = f' + 1 := ⟨f - 1, by omega⟩
    obtain ⟨pipeTok, name, optoks, rfl, hpk, hnk, hO, hpass⟩ := hO f to hwf.1 hcan.1 h1 (nlc_left hn) (by omega)
    simp only [List.length_cons] at hf
    -- what follows this operator is the next operator's pipe, or nothing
    obtain ⟨⟨hOps, hpt⟩, htos⟩ := hL f (ops0.snoc o) acc tos hwf.2 hcan.2 h2 (nlc_right hn) (by omega)
    have hsplit : split .pipe (name :: optoks ++ tos) = (name :: optoks, tos) := by
      rcases htos with rfl | ⟨t, r, rfl, hk⟩
      · rw [List.append_nil]
        exact split_end ((opPasses_cons hnk hpass).2 [])
      · exact split_at (Or.inr (Or.inr rfl)) hk ((opPasses_cons hnk hpass).2 [])
    refine ⟨⟨?_, tabPasses_append (a := [pipeTok]) (tabPasses_pipe hpk)
      (tabPasses_append (opPasses_tab (opPasses_cons hnk hpass)) hpt)⟩, Or.inr ⟨pipeTok, _, rfl, hpk⟩⟩
    have hlist : pipeTok :: name :: optoks ++ tos = pipeTok :: (name :: optoks ++ tos) := by simp
    rw [hlist]
    simp only [pOps, hpk, ne_eq, not_true_eq_false, if_false, hsplit, hnk, hO, List.append_nil, endSplit,
      hOps, appendOps_snoc]
  count p k := .of_body fun _ _ f pipeTok name optoks hp hk hv ha _ _ => by
    subst hp hk
    have := accounts_nil_left ha
    subst this
    exact ⟨pOperator_count c f _ _ _ (by simpa using hv), opPasses_nil⟩
  where_ p k e xs hx := .of_body fun hwf _ f pipeTok name optoks hp hk hv ha hn hf => by
    subst hp hk
    simp only [wfOp] at hwf
    have hrx : Real e optoks := ⟨xs, hx, ha, hn⟩
    have hE := pExpr_real c f [] hwf hrx rfl (by simp only [List.append_nil]; omega)
    simp only [List.append_nil] at hE
    refine ⟨?_, opPasses_of_passes (real_passes e 0 optoks hwf hrx)⟩
    rw [pOperator_where c f _ _ _ (by simpa using hv), hE]
    rfl
  take p k e xs hx := .of_body fun hwf _ f pipeTok name optoks hp hk hv ha hn hf => by
    subst hp hk
    simp only [wfOp, Bool.and_eq_true] at hwf
    have hrx : Real e optoks := ⟨xs, hx, ha, hn⟩
    have hE := pRowCount_fwd c f e optoks [] hwf.1 hwf.2 hrx rfl (by simp only [List.append_nil]; omega)
    simp only [List.append_nil] at hE
    refine ⟨?_, opPasses_of_passes (real_passes e 0 optoks hwf.1 hrx)⟩
    rw [pOperator_take c f _ _ _ (by simpa using hv), hE]
    rfl
  as_ p k n := .of_body fun _ _ f pipeTok name optoks hp hk hv ha _ _ => by
    subst hp hk
    obtain ⟨tn, r, rfl, htn, hr'⟩ := accounts_cons_inv (by simp [identTok]) ha
    have := accounts_nil_left hr'
    subst this
    have hid := tokOk_identTok_inv htn
    refine ⟨?_, opPasses_ident hid⟩
    rw [pOperator_as c f _ _ _ (by simpa using hv), pIdent_real hid]
    rfl
  sort p k ts tss hne hl := by
    intro f to hwf hcan ha hn hf
    obtain ⟨f, rfl⟩ : ∃ f', f = f' + 1 := ⟨f - 1, by omega⟩
    obtain ⟨pipeTok, t2, rfl, hp, h2⟩ := accounts_cons_inv rfl ha
    obtain ⟨name, t3, rfl, hnm, h3⟩ := accounts_cons_inv rfl h2
    obtain ⟨tb, terms, rfl, htb, h4⟩ := accounts_cons_inv rfl h3
    obtain ⟨hpk, hps⟩ := tokOk_sym_inv hp
    obtain ⟨hnk, hnv, hns⟩ := tokOk_sortKw_inv hnm
    obtain ⟨hbk, hbs⟩ := tokOk_byStop_inv htb
    have hI := items_real hne hl h4 (nlc_tail (nlc_tail (nlc_tail hn)))
    have hlen := items_length hI
    simp only [wfOp] at hwf
    simp only [canonOp] at hcan
    simp only [List.length_cons] at hf
    have hk : k = ⟨name.span.start, tb.stop⟩ := by
      cases k; simp only [Token.span] at *; simp [hns, hbs]
    subst hps hk
    refine ⟨pipeTok, name, tb :: terms, rfl, hpk, hnk, ?_,
      opPasses_cons hbk (items_passes (fun _ _ h => sortTerm_passes h.1) (all_and hwf hcan) hI)⟩
    rw [pOperator_sort c f _ _ _ hnv, sortBody, if_neg (not_not_intro hbk),
      pSortTerms_fwd c f (all_and hwf hcan) hI (by omega) (by omega)]
    rfl
  top p k n b t xs cs hx hcs := .of_body fun hwf hcan f pipeTok name optoks hp hk hv ha hn hf => by
    subst hp hk
    simp only [wfOp, Bool.and_eq_true] at hwf
    simp only [canonOp] at hcan
    obtain ⟨tn, t2, rfl, h1, h2⟩ := accounts_append_split ha
    obtain ⟨tb, tcol, rfl, htb, h3⟩ := accounts_cons_inv rfl h2
    obtain ⟨hbk, hbs⟩ := tokOk_sym_inv htb
    subst hbs
    have hrn : Real n tn := ⟨xs, hx, h1, nlc_left hn⟩
    have hrc : RealBy unparseSortTerm t tcol := ⟨cs, hcs, h3, nlc_tail (nlc_right hn)⟩
    simp only [List.length_cons, List.length_append] at hf
    have hR := pRowCount_fwd c f n tn (tb :: tcol) hwf.1.1 hwf.1.2 hrn (stopsAt_kind hbk)
      (by simp only [List.length_append, List.length_cons]; omega)
    have hT := pSortTerm_fwd c f t tcol [] hwf.2 hcan hrc rfl (by simp only [List.append_nil]; omega)
    simp only [List.append_nil] at hT
    refine ⟨?_, opPasses_append (opPasses_of_passes (real_passes n 0 tn hwf.1.1 hrn))
      (opPasses_cons hbk (sortTerm_passes hwf.2 hrc))⟩
    rw [pOperator_top c f _ _ _ (by simpa using hv)]
    simp [topBody, hR, hbk, hT]
  project p k cs css hne hl := .of_body fun hwf hcan f pipeTok name optoks hp hk hv ha hn hf => by
    subst hp hk
    have hI := items_real hne hl ha hn
    have hlen := items_length hI
    simp only [wfOp] at hwf
    simp only [canonOp] at hcan
    refine ⟨?_, items_passes (fun _ _ h => col_passes h.1 h.2) (all_and hwf hcan) hI⟩
    rw [pOperator_project c f _ _ _ (by simpa using hv),
      pProjectCols_fwd c f (all_and hwf hcan) hI (by omega) (by omega)]
    rfl
  extend p k cs css hne hl := .of_body fun hwf hcan f pipeTok name optoks hp hk hv ha hn hf => by
    subst hp hk
    have hI := items_real hne hl ha hn
    have hlen := items_length hI
    simp only [wfOp] at hwf
    simp only [canonOp] at hcan
    refine ⟨?_, cols_passes (all_and hwf hcan) hI⟩
    rw [pOperator_extend c f _ _ _ (by simpa using hv),
      pExtendCols_fwd c f (all_and hwf hcan) hI (by omega) (by omega)]
    rfl
  summarize p k cs b css hne hl hb := .of_body fun hwf hcan f pipeTok name optoks hp hk hv ha hn hf => by
    subst hp hk
    simp only [wfOp, Bool.and_eq_true] at hwf
    simp only [canonOp, Bool.and_eq_true] at hcan
    obtain rfl := canonSpan_invalid hcan.2 hb
    have hPc := all_and hwf.1 hcan.1.1
    have hI := items_real hne hl ha hn
    refine ⟨?_, cols_passes hPc hI⟩
    rw [pOperator_summarize c f _ _ _ (by simpa using hv), pSummarize_plain c f _ _ hPc hI (by omega)]
  summarizeBy p k cs b gs css gss hgne hlc hlg _ :=
    .of_body fun hwf hcan f pipeTok name optoks hp hk hv ha hn hf => by
    subst hp hk
    simp only [wfOp, Bool.and_eq_true] at hwf
    simp only [canonOp, Bool.and_eq_true] at hcan
    have hPc := all_and hwf.1 hcan.1.1
    have hPg := all_and hwf.2 hcan.1.2
    obtain ⟨tcols, t2, rfl, h1, h2⟩ := accounts_append_split ha
    have hby : ∃ tc tb tg cm, t2 = tc ++ tb :: tg ∧ OptCommaReal tc cm ∧ tb.kind = .by_ ∧ tb.span = b ∧
        accounts true (sepBy commaTok gss) tg = true ∧ (tc ≠ [] → cs ≠ []) := by
      rcases accounts_cons_inv_opt h2 with ⟨tb, tg, rfl, htb, h3⟩ | ⟨cm, tb, tg, rfl, hcm, htb, h3, hopt⟩
      · obtain ⟨hbk, hbs⟩ := tokOk_symOpt_inv htb
        exact ⟨[], tb, tg, none, rfl, Or.inl ⟨rfl, rfl⟩, hbk, hbs, h3, fun h => absurd rfl h⟩
      · obtain ⟨hbk, hbs⟩ := tokOk_symOpt_inv htb
        refine ⟨[cm], tb, tg, some cm.span, rfl, Or.inr ⟨cm, rfl, hcm, rfl⟩, hbk, hbs, h3, fun _ => ?_⟩
        rintro rfl
        simp at hopt
    obtain ⟨tc, tb, tg, cm, rfl, hoc, hbk, hbs, h3, hne⟩ := hby
    subst hbs
    have hG := items_real hgne hlg h3 (nlc_tail (nlc_right (nlc_right hn)))
    have hpg : OpPasses (tb :: tg) := opPasses_cons hbk (cols_passes hPg hG)
    simp only [List.length_cons, List.length_append] at hf
    cases cs with
    | nil =>
      simp only [listM, Option.some.injEq] at hlc
      subst hlc
      have : tcols = [] := accounts_nil_left h1
      subst this
      have : tc = [] := by
        cases tc with
        | nil => rfl
        | cons a as => exact absurd rfl (hne (by simp))
      subst this
      simp only [List.nil_append, List.length_nil] at hf ⊢
      refine ⟨?_, hpg⟩
      rw [pOperator_summarize c f _ _ _ (by simpa using hv),
        pSummarize_byOnly c f _ _ hPg hbk hG (by simp only [List.length_cons]; omega)]
    | cons x xs =>
      have hI := items_real (by simp) hlc h1 (nlc_left hn)
      refine ⟨?_, opPasses_append (cols_passes hPc hI) (opPasses_append ?_ hpg)⟩
      · rw [pOperator_summarize c f _ _ _ (by simpa using hv), pSummarize_by c f _ _ hPc hPg hI hoc hbk hG
          (by simp only [List.length_cons, List.length_append]; omega)]
      · rcases hoc with ⟨rfl, -⟩ | ⟨t, rfl, ht, -⟩
        · exact opPasses_nil
        · exact opPasses_kind ht
  join p k kind ka lp right rp on conds r cs _ hT hcs hne hk1 hk2 :=
    .of_body fun hwf hcan f pipeTok name optoks hp hk hv ha hn hf => by
    subst hp hk
    obtain ⟨hJ, hpass⟩ := pJoin_fwd c f hT _ _ kind ka none lp rp on conds [] cs optoks hwf hcan
      (by simp [joinHdr, hk1, hk2]) hcs (exprList_length_ne hne) ha hn (by omega)
    exact ⟨by rw [pOperator_join c f _ _ _ (by simpa using hv), hJ], hpass⟩
  joinKind p k kind ka fl lp right rp on conds r cs _ hT hcs hne :=
    .of_body fun hwf hcan f pipeTok name optoks hp hk hv ha hn hf => by
    subst hp hk
    obtain ⟨hJ, hpass⟩ := pJoin_fwd c f hT _ _ kind ka (some fl) lp rp on conds _ cs optoks hwf hcan
      rfl hcs (exprList_length_ne hne) ha hn (by omega)
    exact ⟨by rw [pOperator_join c f _ _ _ (by simpa using hv), hJ], hpass⟩
  render p k chart w lp rp hw := .of_body fun _ hcan f pipeTok name optoks hp hk hv ha _ _ => by
    subst hp hk
    have hnull : (w = Span.null ∧ lp = Span.null) ∧ rp = Span.null := by
      simpa [canonOp, hw] using hcan
    obtain ⟨⟨rfl, rfl⟩, rfl⟩ := hnull
    obtain ⟨tch, t2, rfl, htch, h2⟩ := accounts_cons_inv (by simp [identTok]) ha
    have := accounts_nil_left h2
    subst this
    have hch := tokOk_identTok_inv htch
    refine ⟨?_, opPasses_ident hch⟩
    rw [pOperator_render c f _ _ _ (by simpa using hv), pRender_plain c f _ _ chart tch hch]
  renderWith p k chart w lp props rp pss hpne hl _ :=
    .of_body fun hwf _ f pipeTok name optoks hp hk hv ha hn hf => by
    subst hp hk
    simp only [wfOp] at hwf
    obtain ⟨tch, t2, rfl, htch, h2⟩ := accounts_cons_inv (by simp [identTok]) ha
    obtain ⟨tw, t3, rfl, htw, h3⟩ := accounts_cons_inv rfl h2
    obtain ⟨tlp, t4, rfl, htlp, h4⟩ := accounts_cons_inv rfl h3
    obtain ⟨tprops, t5, rfl, h5, h6⟩ := accounts_append_split h4
    obtain ⟨trp, t6, rfl, htrp, h7⟩ := accounts_cons_inv rfl h6
    have := accounts_nil_left h7
    subst this
    have hch := tokOk_identTok_inv htch
    obtain ⟨hwn, hws⟩ := tokOk_kwTok1_inv htw
    obtain ⟨hlk, hls⟩ := tokOk_sym_inv htlp
    obtain ⟨hrk, hrs⟩ := tokOk_sym_inv htrp
    subst hws hls hrs
    have hI := items_real hpne hl h5 (nlc_left (nlc_tail (nlc_tail (nlc_tail hn))))
    simp only [List.length_cons, List.length_append, List.length_nil] at hf
    refine ⟨?_, opPasses_append (a := [tch]) (opPasses_ident hch)
      (opPasses_append (a := [tw]) (opPasses_named hwn) (opPasses_paren hlk hrk (opPasses_tab
        (items_passes (fun _ _ => prop_passes) (List.all_eq_true.1 hwf) hI))))⟩
    rw [pOperator_render c f _ _ _ (by simpa using hv),
      pRender_with c f _ _ hch hwn hlk (List.all_eq_true.1 hwf) hI hrk
        (by simp only [List.length_cons, List.length_append, List.length_nil]; omega)]

structure TabFwd (c : PCtx) (f : Nat) : Prop where
  tab : ∀ (t : Tabular) (ts : List Token), wfTabular t = true → canonTabular t = true →
    RealBy unparseTabular t ts → 4 * ts.length + 1 ≤ f → pTabular c f ts = ⟨t, [], []⟩ ∧ TabPasses ts
  ops : ∀ (ops0 ops : OpList) (acc : Errs) (ts : List Token), wfOps ops = true → canonOps ops = true →
    RealBy unparseOps ops ts → 4 * ts.length + 2 ≤ f →
    pOps c f ops0 acc ts = ⟨appendOps ops0 ops, acc, []⟩ ∧ TabPasses ts
  operator : ∀ (o : Op) (to : List Token), wfOp o = true → canonOp o = true → RealBy unparseOp o to →
    4 * to.length + 1 ≤ f → OpParsed c f o to
  join : ∀ (pipe kw kind ka : Span) (fl : Option Ident) (lp : Span) (right : Tabular) (rp on : Span)
    (conds : ExprList) (hdr r cs : List UTok) (ts : List Token),
    wfOp (.join pipe kw kind ka fl lp right rp on conds) = true →
    canonOp (.join pipe kw kind ka fl lp right rp on conds) = true →
    joinHdr fl kind ka = some hdr → unparseTabular right = some r → unparseExprList conds = some cs →
    conds.length ≠ 0 →
    accounts true (hdr ++ sym .lparen lp :: (r ++ sym .rparen rp :: kwTok ["on"] on :: cs)) ts = true →
    NoLparenComma ts = true → 4 * ts.length + 1 ≤ f →
    pJoin c f pipe kw ts = ⟨.join pipe kw kind ka fl lp right rp on conds, [], []⟩ ∧ OpPasses ts

theorem tabFwd_all (c : PCtx) (fuel : Nat) : TabFwd c fuel where
  tab t ts hwf hcan := fun ⟨us, hu, ha, hn⟩ => (tabAlg c).tabular t us hu fuel ts hwf hcan ha hn
  ops ops0 ops acc ts hwf hcan := fun ⟨us, hu, ha, hn⟩ hf =>
    ((tabAlg c).ops ops us hu fuel ops0 acc ts hwf hcan ha hn hf).1
  operator o to hwf hcan := fun ⟨us, hu, ha, hn⟩ => (tabAlg c).op o us hu fuel to hwf hcan ha hn
  join pipe kw kind ka fl lp right rp on conds hdr r cs ts hwf hcan hhdr hr :=
    pJoin_fwd c fuel ((tabAlg c).tabular right r hr) pipe kw kind ka fl lp rp on conds hdr cs ts hwf hcan hhdr

end Pql
