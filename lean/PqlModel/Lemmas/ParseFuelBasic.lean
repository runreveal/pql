/-
Basic vocabulary for the "fuel is never exhausted" proof (C12, termination half):
`NoFuel` error lists, length facts about `split` / `splitSemi`, and the non-recursive
identifier productions (no out-of-fuel leaf; what they leave is a suffix of the input, the base
cases of Lemmas/ParseFuelLen.lean).
-/
import PqlModel.Lemmas.SplitBasic
import PqlModel.Lemmas.ParseCases
namespace Pql

def NoFuel (es : Errs) : Prop := ∀ e ∈ es, e.fuel = false

theorem NoFuel.nil : NoFuel [] := by intro e he; cases he

theorem NoFuel.append {a b : Errs} (ha : NoFuel a) (hb : NoFuel b) : NoFuel (a ++ b) := by
  intro e he
  rcases List.mem_append.1 he with h | h
  · exact ha e h
  · exact hb e h

theorem NoFuel.of_append_left {a b : Errs} (h : NoFuel (a ++ b)) : NoFuel a :=
  fun e he => h e (List.mem_append.2 (Or.inl he))

theorem NoFuel.of_append_right {a b : Errs} (h : NoFuel (a ++ b)) : NoFuel b :=
  fun e he => h e (List.mem_append.2 (Or.inr he))

theorem NoFuel.mkOpaque {a : Errs} (ha : NoFuel a) : NoFuel (mkOpaque a) := by
  intro e he
  simp only [Pql.mkOpaque, List.mem_map] at he
  obtain ⟨e', he', rfl⟩ := he
  exact ha e' he'

theorem NoFuel.errAt (s : Span) : NoFuel (errAt s) := by
  intro e he
  simp only [Pql.errAt, List.mem_singleton] at he
  subst he; rfl

theorem NoFuel.nfAt (s : Span) : NoFuel (nfAt s) := by
  intro e he
  simp only [Pql.nfAt, List.mem_singleton] at he
  subst he; rfl

theorem NoFuel.errNoPos : NoFuel errNoPos := by
  intro e he
  simp only [Pql.errNoPos, List.mem_singleton] at he
  subst he; rfl

theorem NoFuel.endSplit (ts : List Token) : NoFuel (endSplit ts) := by
  cases ts with
  | nil => exact NoFuel.nil
  | cons t _ => exact NoFuel.errAt t.span

theorem closeSplit_noFuel (k : TokKind) (d e : Span) (ts : List Token) :
    NoFuel (closeSplit k d e ts).errs := by
  apply closeSplit_cases (motive := fun cl => NoFuel cl.errs)
  case eof => intro _; exact NoFuel.errAt e
  case close => intro _ _ _ _; exact NoFuel.nil

theorem NoFuel.callArgErrs {ra : PRes ExprList} (h : NoFuel ra.errs) : NoFuel (callArgErrs ra) := by
  refine NoFuel.append ?_ (NoFuel.endSplit _)
  split
  · exact NoFuel.nil
  · exact h

theorem split_length (k : TokKind) (ts : List Token) :
    (split k ts).1.length + (split k ts).2.length = ts.length := by
  have h := congrArg List.length (split_append k ts)
  simpa only [List.length_append] using h

theorem split_fst_le (k : TokKind) (ts : List Token) : (split k ts).1.length ≤ ts.length := by
  have := split_length k ts; omega

theorem split_snd_le (k : TokKind) (ts : List Token) : (split k ts).2.length ≤ ts.length := by
  have := split_length k ts; omega

theorem closeSplit_rest_suffix (k : TokKind) (d e : Span) (ts : List Token) :
    (closeSplit k d e ts).rest <:+ ts := by
  apply closeSplit_cases (motive := fun cl => cl.rest <:+ ts)
  case eof => intro _; exact List.nil_suffix
  case close =>
    intro rp rest hs _
    have h : (split k ts).2 <:+ ts := ⟨_, split_append k ts⟩
    rw [hs] at h
    exact (List.suffix_cons rp rest).trans h

theorem closeSplit_rest_le (k : TokKind) (d e : Span) (ts : List Token) :
    (closeSplit k d e ts).rest.length ≤ ts.length := (closeSplit_rest_suffix k d e ts).length_le

theorem splitSemi_length (ts : List Token) :
    (splitSemi ts).1.length + (splitSemi ts).2.length = ts.length := by
  have h := congrArg List.length (splitSemi_append ts)
  simpa only [List.length_append] using h

theorem pIdent_rest_suffix (c : PCtx) (ts : List Token) : (pIdent c ts).rest <:+ ts := by
  apply pIdent_cases (motive := fun ts r => r.rest <:+ ts)
  case nil => exact List.suffix_refl _
  case ident => intro t rest _; exact List.suffix_cons _ _
  case other => intro t rest _; exact List.suffix_refl _

theorem pIdent_rest_le (c : PCtx) (ts : List Token) : (pIdent c ts).rest.length ≤ ts.length :=
  (pIdent_rest_suffix c ts).length_le

theorem pIdent_some_rest (c : PCtx) (ts : List Token) (id : Ident) (h : (pIdent c ts).val = some id) :
    (pIdent c ts).rest.length + 1 = ts.length := by
  revert h
  apply pIdent_cases (motive := fun ts r => r.val = some id → r.rest.length + 1 = ts.length)
  case nil | other => intros; contradiction
  case ident => intros; rfl

theorem pIdent_noFuel (c : PCtx) (ts : List Token) : NoFuel (pIdent c ts).errs := by
  apply pIdent_cases (motive := fun _ r => NoFuel r.errs)
  case nil | other => intros; exact NoFuel.nfAt _
  case ident => intros; exact NoFuel.nil

theorem pQualTail_rest_suffix (c : PCtx) : ∀ (fuel : Nat) (parts : List Ident) (ts : List Token),
    (pQualTail c fuel parts ts).rest <:+ ts
  | 0, _, _ => List.suffix_refl _
  | fuel + 1, parts, ts => by
    revert ts
    apply pQualTail_cases (motive := fun ts r => r.rest <:+ ts)
    case nil => exact List.suffix_refl _
    case stop => intro _ _ _; exact List.suffix_refl _
    case sel =>
      rintro t rest ri sel _ rfl _
      exact ((pQualTail_rest_suffix c fuel _ _).trans (pIdent_rest_suffix c rest)).trans
        (List.suffix_cons _ _)
    case nosel =>
      rintro t rest ri _ rfl _
      exact (pIdent_rest_suffix c rest).trans (List.suffix_cons _ _)

theorem pQualTail_rest_le (c : PCtx) (fuel : Nat) (parts : List Ident) (ts : List Token) :
    (pQualTail c fuel parts ts).rest.length ≤ ts.length :=
  (pQualTail_rest_suffix c fuel parts ts).length_le

/-- the `.ident (.ident)*` loop never runs out of fuel when given one unit per remaining token
    (plus one) -/
theorem pQualTail_noFuel (c : PCtx) (fuel : Nat) : ∀ (parts : List Ident) (ts : List Token),
    ts.length + 1 ≤ fuel → NoFuel (pQualTail c fuel parts ts).errs := by
  induction fuel with
  | zero => intro parts ts h; omega
  | succ fuel ih =>
    intro parts
    apply pQualTail_cases (motive := fun ts r => ts.length + 1 ≤ fuel + 1 → NoFuel r.errs)
    case nil | stop => intros; exact NoFuel.nil
    case sel =>
      rintro t rest ri sel _ rfl _ hf
      have h1 := pIdent_rest_le c rest
      simp only [List.length_cons] at hf
      exact ih _ _ (by omega)
    case nosel => rintro t rest ri _ rfl _ _; exact NoFuel.mkOpaque (pIdent_noFuel c rest)

theorem pQualifiedIdent_rest_le (c : PCtx) (ts : List Token) :
    (pQualifiedIdent c ts).rest.length ≤ ts.length := by
  simp only [pQualifiedIdent]
  have h1 := pIdent_rest_le c ts
  split
  · exact h1
  · have h2 := pQualTail_rest_le c ((pIdent c ts).rest.length + 1) [‹Ident›] (pIdent c ts).rest
    simp only; omega

theorem pQualifiedIdent_some_rest (c : PCtx) (ts : List Token) (parts : List Ident)
    (h : (pQualifiedIdent c ts).val = some parts) :
    (pQualifiedIdent c ts).rest.length + 1 ≤ ts.length := by
  simp only [pQualifiedIdent] at h ⊢
  split
  · rename_i h'; simp [h'] at h
  · rename_i id h'
    have h1 := pIdent_some_rest c ts id h'
    have h2 := pQualTail_rest_le c ((pIdent c ts).rest.length + 1) [id] (pIdent c ts).rest
    simp only; omega

theorem pQualifiedIdent_noFuel (c : PCtx) (ts : List Token) : NoFuel (pQualifiedIdent c ts).errs := by
  simp only [pQualifiedIdent]
  split
  · exact pIdent_noFuel c ts
  · exact pQualTail_noFuel c _ _ _ (Nat.le_refl _)

end Pql
