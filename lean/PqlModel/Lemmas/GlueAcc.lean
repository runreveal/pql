/-
Glue, shared part: every expression position of a statement of an error-free parse stands for
tokens of the scan, WITH positions: a sublist `seg` of the scan that its `unparse` accounts for
(`Inf us ts`: `seg.Sublist ts`, in order but not stated to be contiguous).

C08 (`parseTokens_acc`) says that the `unparse` of every statement accounts, with positions,
for its token group.  Here that is pushed down through operators, columns, sort terms, join
sub-pipelines, to every top-level expression (`ESeg`) and expression list (`LSeg`) of the
statement (`StmtAll`), and further to every sub-expression at any depth (`ESeg.sub`, by
`expr_sub_acc` of Lemmas/SpanExtentParts.lean).
Consequences: the span of every such expression is the extent of its tokens (`ESeg.extent`),
a literal node is one token of the scan with that span and kind and
(unless the kind is `error`) that value (`ESeg.lit`).
-/
import PqlModel.Lemmas.ParsedOKLeaves
import PqlModel.Lemmas.SpanExtentParts
import PqlModel.Props.C10Extent
namespace Pql.Glue
open Pql Grammar ParsedOK

def Inf (us : List UTok) (ts : List Token) : Prop :=
  ∃ seg, seg.Sublist ts ∧ accounts true us seg = true

theorem Inf.subClosed (ts : List Token) : SubClosed (Inf · ts) := by
  rintro a m b ⟨seg, hs, ha⟩
  obtain ⟨s12, s3, rfl, h12, _⟩ := accounts_append_split ha
  obtain ⟨s1, s2, rfl, _, h2⟩ := accounts_append_split h12
  exact ⟨s2, ((List.sublist_append_right s1 s2).trans (List.sublist_append_left _ s3)).trans hs, h2⟩

theorem Inf.left {a b : List UTok} {ts : List Token} (h : Inf (a ++ b) ts) : Inf a ts :=
  (Inf.subClosed ts).left h

theorem Inf.right {a b : List UTok} {ts : List Token} (h : Inf (a ++ b) ts) : Inf b ts :=
  (Inf.subClosed ts).right h

theorem Inf.tail {u : UTok} {us : List UTok} {ts : List Token} (h : Inf (u :: us) ts) : Inf us ts :=
  (Inf.subClosed ts).tail h

theorem Inf.head {u : UTok} {us : List UTok} {ts : List Token} (h : Inf (u :: us) ts) : Inf [u] ts :=
  h.left (a := [u])

theorem Inf.mono {us : List UTok} {ts ts' : List Token} (h : Inf us ts) (hs : ts.Sublist ts') :
    Inf us ts' := by
  obtain ⟨seg, h1, h2⟩ := h
  exact ⟨seg, h1.trans hs, h2⟩

def ESeg (ts : List Token) (e : Expr) : Prop := ∃ us, unparseExpr e = some us ∧ Inf us ts
def LSeg (ts : List Token) (l : ExprList) : Prop := ∃ us, unparseExprList l = some us ∧ Inf us ts

theorem ESeg.mono {ts ts' : List Token} {e : Expr} (h : ESeg ts e) (hs : ts.Sublist ts') : ESeg ts' e := by
  obtain ⟨us, h1, h2⟩ := h; exact ⟨us, h1, h2.mono hs⟩

theorem LSeg.mono {ts ts' : List Token} {l : ExprList} (h : LSeg ts l) (hs : ts.Sublist ts') : LSeg ts' l := by
  obtain ⟨us, h1, h2⟩ := h; exact ⟨us, h1, h2.mono hs⟩

section
variable (ts : List Token)

theorem ops_seg : ∀ (ops : OpList) (us : List UTok), unparseOps ops = some us → Inf us ts →
    OpsAll (ESeg ts) (LSeg ts) ops := (unparse_alg (Inf.subClosed ts)).ops

theorem op_seg : ∀ (o : Op) (us : List UTok), unparseOp o = some us → Inf us ts →
    OpAll (ESeg ts) (LSeg ts) o := (unparse_alg (Inf.subClosed ts)).op

end

theorem parsed_segs (src : Bytes) (stmts : List Stmt) (h : parse src = (stmts, [])) :
    ∀ s ∈ stmts, StmtAll (ESeg (scan src)) (LSeg (scan src)) s := by
  intro s hs
  obtain ⟨g, us, hg, hus, ha, -⟩ := C10.parsed_group src stmts h s hs
  exact stmt_unparse (Inf.subClosed (scan src)) s us hus ⟨g, hg, ha⟩

theorem ESeg.sub {ts : List Token} {d e : Expr} (h : ESeg ts e) (hs : Expr.Sub d e) : ESeg ts d := by
  obtain ⟨us, hu, seg, hsub, ha⟩ := h
  obtain ⟨p, seg', q, us', rfl, hu', ha'⟩ := expr_sub_acc hs us seg hu ha
  exact ⟨us', hu', seg', ((List.sublist_append_right p seg').trans (List.sublist_append_left _ q)).trans hsub, ha'⟩

theorem LSeg.mem {ts : List Token} {l : ExprList} (h : LSeg ts l) : ∀ e ∈ l.toList, ESeg ts e := by
  obtain ⟨us, hu, seg, hsub, ha⟩ := h
  intro e he
  obtain ⟨p, s, q, us', rfl, hu', ha'⟩ := (exprList_placed l us seg hu ha).acc e he
  exact ⟨us', hu', s, ((List.sublist_append_right p s).trans (List.sublist_append_left _ q)).trans hsub, ha'⟩

theorem ESeg.extent {ts : List Token} {e : Expr} (h : ESeg ts e) (hok : TokOK ts) :
    ∃ seg : List Token, seg.Sublist ts ∧ ∃ hne : seg ≠ [],
      e.spanOf = ⟨(seg.head hne).start, (seg.getLast hne).stop⟩ := by
  obtain ⟨us, hu, seg, hsub, ha⟩ := h
  exact ⟨seg, hsub, C10.C10_span_extent_expr e us seg hu (hok.sublist hsub) ha⟩

theorem seg_extent_bounds {src : Bytes} {seg : List Token} (hsub : seg.Sublist (scan src))
    (hne : seg ≠ []) :
    (seg.head hne).start < (seg.getLast hne).stop ∧ (seg.getLast hne).stop ≤ src.length := by
  have hb : ∀ t ∈ seg, t.start < t.stop ∧ t.stop ≤ src.length :=
    fun t ht => mem_scan_bounds src t (hsub.subset ht)
  have hok : TokOK seg := (scan_tokOK src).sublist hsub
  refine ⟨?_, (hb _ (List.getLast_mem hne)).2⟩
  cases seg with
  | nil => exact absurd rfl hne
  | cons t rest =>
    simp only [List.head_cons]
    cases rest with
    | nil => simpa using (hb t (by simp)).1
    | cons t2 rest2 =>
      have hl : (t :: t2 :: rest2).getLast hne ∈ t2 :: rest2 := by
        rw [List.getLast_cons (by simp)]; exact List.getLast_mem _
      have h1 := (hb t (by simp)).1
      have h2 := (hb _ (List.getLast_mem hne)).1
      have h3 := (List.pairwise_cons.mp hok.2).1 _ hl
      omega

theorem ESeg.lit {ts : List Token} {sp : Span} {k : TokKind} {v : Bytes} (h : ESeg ts (.lit sp k v)) :
    ∃ t ∈ ts, sp = t.span ∧ t.kind = k ∧ (k ≠ .error → t.value = v) := by
  obtain ⟨us, hu, seg, hsub, ha⟩ := h
  cases dexpr_of_acc _ hu ha with
  | lit ht =>
    refine ⟨_, hsub.subset (by simp), tokOk_span ht, ?_⟩
    simp only [tokOk, tokMatches, List.isEmpty_nil, if_true, Bool.and_eq_true, beq_iff_eq,
      Bool.or_eq_true] at ht
    exact ⟨ht.1.1.symm, fun hk => (ht.1.2.resolve_left hk).symm⟩

end Pql.Glue
