/-
C05, syntactic half, stage 2: the source part (table / join) and the tail part (ORDER BY,
LIMIT) of one SELECT: what `eraseSrc` / `tailOf` write under a scope is read back as `fromOf` /
`obsOf`, `limOf` of the link with the bindings resolved (`substSubA env`).
-/
import PqlModel.Lemmas.ParseStmtWrite
namespace Pql.C05
set_option linter.unusedSimpArgs false
open Pql Sql CompileOracle Intended Pql.RT
open Pql.E2EFinal (substSrcA substSubA)
open Pql.SelSem (fromOf obsOf limOf)

theorem ne_nil_of_rel {α β : Type} {R : α → β → Prop} {as : List α} {bs : List β} (h : ListRel R as bs)
    (hb : bs ≠ []) : as ≠ [] := by
  cases h with
  | nil => exact absurd rfl hb
  | cons _ _ => simp

theorem mapM_length {α β : Type} {g : α → Option β} : ∀ {as : List α} {bs : List β}, as.mapM g = some bs → bs.length = as.length
  | [], bs, h => by simp at h; subst h; rfl
  | a :: as, bs, h => by
    simp only [List.mapM_cons, Option.bind_eq_bind, Option.pure_def] at h
    cases ha : g a with
    | none => simp [ha] at h
    | some b =>
      cases hs : as.mapM g with
      | none => simp [ha, hs] at h
      | some bs' =>
        simp [ha, hs] at h
        subst h
        simp [mapM_length hs]

theorem ends_prefix {p : STok → Bool} {pre r : List STok} (h : ∀ t tl, pre = t :: tl → p t = true) (hr : Ends p r) :
    Ends p (pre ++ r) := by
  cases pre with
  | nil => exact hr
  | cons t tl => exact h t tl rfl

/-- the keywords that would continue the source clause, and those that would continue it or the `WHERE` / `GROUP BY`
    part: `Ends (endTok ·)` of a remainder says that the clause reader stops in front of it -/
def srcKws : List String := ["AS", "JOIN", "LEFT"]
def midKws : List String := ["AS", "JOIN", "LEFT", "WHERE", "GROUP"]

-- each clause keyword stops every reader that looks for the others (the lists are cut down with `endTok_sub`)
theorem end_WHERE : endTok ["AS", "JOIN", "LEFT", "GROUP", "ORDER", "LIMIT"] (RT.W "WHERE") = true := by
  simp [endTok, stopTok, unaryEndTok, atomEndTok, infixPrec]
theorem end_GROUP : endTok ["AS", "JOIN", "LEFT", "WHERE", "ORDER", "LIMIT"] (RT.W "GROUP") = true := by
  simp [endTok, stopTok, unaryEndTok, atomEndTok, infixPrec]
theorem end_ORDER : endTok ["AS", "JOIN", "LEFT", "WHERE", "GROUP", "LIMIT"] (RT.W "ORDER") = true := by
  simp [endTok, stopTok, unaryEndTok, atomEndTok, infixPrec]
theorem end_LIMIT : endTok ["AS", "JOIN", "LEFT", "WHERE", "GROUP", "ORDER"] (RT.W "LIMIT") = true := by
  simp [endTok, stopTok, unaryEndTok, atomEndTok, infixPrec]

theorem endTok_sub {ks ks' : List String} {t : STok} (h : endTok ks t = true) (hs : ∀ k ∈ ks', k ∈ ks) :
    endTok ks' t = true := by
  have := endTok_mono (r := [t]) hs h
  exact this

theorem toksOf_join (unique left : Bool) (l r : Bytes) (c : List Chunk) :
    toksOf ((if unique then [.txt "(SELECT DISTINCT * FROM "] else []) ++ [Chunk.qid l] ++
      (if unique then [.txt ")"] else []) ++
      [.txt (" AS \"" ++ Facts.leftJoinTableAlias ++ "\""), .txt (if left then " LEFT JOIN " else " JOIN "), .qid r,
       .txt (" AS \"" ++ Facts.rightJoinTableAlias ++ "\" ON ")] ++ c) = joinToks unique left l r (toksOf c) := by
  cases unique <;> cases left <;> simp [joinToks]

section
variable {src : Bytes} {scope : Scope} {env : List (Bytes × Expr)} (rt : ExprRT src scope env)
include rt

theorem src_spec (s : SrcA) (hok : srcOK (substSrcA env s) = true) (srcC : List Chunk)
    (he : eraseSrc src scope s = .ok srcC) :
    ∃ wsrc wjn, fromOf (substSrcA env s) = some (wsrc, wjn) ∧
      ∀ r, Ends (endTok srcKws) r →
        ∃ jn r3, pTableRef (toksOf srcC ++ r) = some (wsrc, r3) ∧ joinPart r3 = some (jn, r) ∧ OptRel JoinRel jn wjn := by
  cases s with
  | table n =>
    simp only [eraseSrc, Except.ok.injEq] at he
    subst he
    refine ⟨.named n none, none, rfl, fun r hr => ⟨none, r, ?_, ?_, .none⟩⟩
    · simpa using pTableRef_named n (endTok_mono (by simp [srcKws]) hr)
    · exact joinPart_none (endTok_mono (by simp [srcKws]) hr)
  | join unique left l r cond =>
    simp only [substSrcA, srcOK] at hok
    simp only [eraseSrc] at he
    obtain ⟨c, hc, he⟩ := LexRender.bind_ok he
    cases he
    obtain ⟨want, ht, hP⟩ := rt.join hok hc
    refine ⟨_, _, by simp only [substSrcA, fromOf, ht, Option.bind_eq_bind, Option.bind_some]; rfl, fun rest hr => ?_⟩
    obtain ⟨c', hc', r3, h1, h2⟩ := join_parse unique left l r hP (endTok_stop hr) (rest := rest)
    rw [toksOf_join]
    refine ⟨_, r3, ?_, h2, .some ⟨rfl, rfl, hc'⟩⟩
    rw [h1]
    rfl

theorem sortTerms_spec : ∀ (terms : List SortTerm) (ts : List (List Chunk)),
    ((terms.map (substTerm env)).all fun t => exprOK t.x) = true → writeSortTerms ⟨src, scope, .default⟩ terms = .ok ts →
    ∃ wob, (terms.map (substTerm env)).mapM orderOf = some wob ∧ ListRel OrdP (ts.map toksOf) wob
  | [], ts, _, h => by
    simp only [writeSortTerms, Except.ok.injEq] at h
    subst h
    exact ⟨[], rfl, .nil⟩
  | t :: terms, ts, hok, h => by
    simp only [List.map_cons, List.all_cons, Bool.and_eq_true] at hok
    simp only [writeSortTerms] at h
    obtain ⟨x, hx, h⟩ := LexRender.bind_ok h
    obtain ⟨rest, hr, h⟩ := LexRender.bind_ok h
    cases h
    obtain ⟨want, ht, hP⟩ := rt.default (e := t.x) hok.1 hx
    obtain ⟨wob, hwob, hrel⟩ := sortTerms_spec terms rest hok.2 hr
    refine ⟨⟨want, t.asc, t.nullsFirst⟩ :: wob, ?_, .cons ⟨toksOf x, ?_, hP⟩ hrel⟩
    · simp only [List.map_cons, List.mapM_cons, orderOf, substTerm, ht, hwob, Option.bind_eq_bind, Option.bind_some,
        Option.pure_def]
    · cases t.asc <;> cases t.nullsFirst <;> simp [ordToks]

theorem take_spec (take : Option Expr) (ht : takeOK (take.map (substExpr env)) = true) (takePart : List Chunk)
    (htp : takePartOf ⟨src, scope, .default⟩ take = .ok takePart) :
    ∃ wlim, limOf (take.map (substExpr env)) = some wlim ∧
      (∀ t tl', toksOf takePart = t :: tl' → t = RT.W "LIMIT") ∧
      ∀ r, Closer r → ∃ lim, limitPart (toksOf takePart ++ r) = some (lim, r) ∧ OptRel NormEq lim wlim := by
  cases take with
  | none =>
    simp only [takePartOf, pure, Except.pure, Except.ok.injEq] at htp
    subst htp
    refine ⟨none, rfl, by simp, fun r hr => ⟨none, ?_, .none⟩⟩
    simpa using exprClause_none (kw := "LIMIT") (endTok_mono (by simp [allKws]) hr.ends)
  | some n =>
    simp only [Option.map_some, takeOK] at ht
    simp only [takePartOf] at htp
    obtain ⟨x, hx, htp⟩ := LexRender.bind_ok htp
    cases htp
    obtain ⟨want, htr, hP⟩ := rt.default ht hx
    refine ⟨some want, by simp [limOf, htr], by simp, fun r hr => ?_⟩
    obtain ⟨s, hs, hp⟩ := exprClause_some (kw := "LIMIT") (by decide +kernel) hP (endTok_stop hr.ends) (r := r)
    exact ⟨some s, by simpa using hp, .some hs⟩

theorem tail_spec (sort : Option (List SortTerm)) (take : Option Expr)
    (hs : sortOK (sort.map (·.map (substTerm env))) = true) (ht : takeOK (take.map (substExpr env)) = true)
    (body cs : List Chunk)
    (h : tailOf ⟨src, scope, .default⟩ sort take (some body) = .ok cs) :
    ∃ tl wob wlim, toksOf cs = toksOf body ++ tl ∧ obsOf (sort.map (·.map (substTerm env))) = some wob ∧
      limOf (take.map (substExpr env)) = some wlim ∧
      (∀ r, Closer r → Ends (endTok midKws) (tl ++ r)) ∧
      ∀ r, Closer r → ∃ ob lim r7, orderPart (tl ++ r) = some (ob, r7) ∧ limitPart r7 = some (lim, r) ∧
        ListRel OrdRel ob wob ∧ OptRel NormEq lim wlim := by
  rw [tailOf_some] at h
  obtain ⟨sp, hsp, h⟩ := LexRender.bind_ok h
  obtain ⟨takePart, htp, h⟩ := LexRender.bind_ok h
  cases h
  obtain ⟨wlim, hwl, hhead, hparse⟩ := take_spec rt take ht takePart htp
  have hends : ∀ r, Closer r → Ends (endTok ["AS", "JOIN", "LEFT", "WHERE", "GROUP", "ORDER"]) (toksOf takePart ++ r) :=
    fun r hr => ends_prefix (fun t tl' e => by rw [hhead t tl' e]; exact end_LIMIT)
      (endTok_mono (by simp [allKws]) hr.ends)
  cases sort with
  | none =>
    simp only [sortPartOf, pure, Except.pure, Except.ok.injEq] at hsp
    subst hsp
    refine ⟨toksOf takePart, [], wlim, by simp, rfl, hwl, fun r hr => endTok_mono (by simp [midKws]) (hends r hr),
      fun r hr => ?_⟩
    obtain ⟨lim, hl, hrel⟩ := hparse r hr
    exact ⟨[], lim, _, listClause_none (endTok_mono (by simp) (hends r hr)), hl, .nil, hrel⟩
  | some terms =>
    simp only [Option.map_some, sortOK, Bool.and_eq_true, Bool.not_eq_true', List.isEmpty_eq_false_iff] at hs
    simp only [sortPartOf] at hsp
    obtain ⟨ts, hts, hsp⟩ := LexRender.bind_ok hsp
    cases hsp
    obtain ⟨wob, hwob, hrel⟩ := sortTerms_spec rt terms ts hs.2 hts
    have hne : ts.map toksOf ≠ [] := ne_nil_of_rel hrel (by
      intro he
      have := mapM_length hwob
      rw [he] at this
      exact hs.1 (List.length_eq_zero_iff.1 this.symm))
    refine ⟨RT.W "ORDER" :: RT.W "BY" :: (sepToks (ts.map toksOf) ++ toksOf takePart), wob, wlim,
      by simp [toksOf_sepChunks], by simpa [obsOf] using hwob, hwl, fun r hr => endTok_sub end_ORDER (by simp [midKws]),
      fun r hr => ?_⟩
    obtain ⟨lim, hl, hrl⟩ := hparse r hr
    obtain ⟨ob, hob, hro⟩ := orderPart_some hrel hne (r := toksOf takePart ++ r) (endTok_mono (by simp) (hends r hr))
    exact ⟨ob, lim, _, by simpa using hob, hl, hro, hrl⟩

end

end Pql.C05
