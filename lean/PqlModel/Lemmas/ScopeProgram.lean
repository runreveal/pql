/-
The substitution statement for whole queries: the subquery splitter commutes with substitution
(`splitQueries_rel`, `splitOps_rel`; `SubRel`, `ColNamed` / `tabNamed`, `TrueFree`), given that the
expression writer does so in join mode.  The subquery writer: Lemmas/ScopeWriteSub.lean.

Fixed throughout: the two scopes `sc` (with the lets) and `s0` (without), the environment
`env`, and the expression-level fact `HJ` (join mode):
writing `e` under `sc` is related to writing `substExpr env e` under `s0`.
-/
import PqlModel.Lemmas.ScopeLets
import PqlModel.Lemmas.WriterCongStmt
import PqlModel.Lemmas.ExactBasic
namespace Pql
open CompileOracle


section
variable (env : List (Bytes × Expr))

theorem substExpr_qident_two (a b : Ident) (rest : List Ident) :
    substExpr env (.qident (a :: b :: rest)) = .qident (a :: b :: rest) := by
  simp only [substExpr]

theorem rewriteSimple_subst (y : Expr) :
    rewriteSimpleJoinCondition (substCond env y) = substExpr env (rewriteSimpleJoinCondition y) := by
  unfold substCond
  cases y with
  | qident parts =>
    match parts with
    | [] | _ :: _ :: _ =>
      simp only [Misuse.isBareKey, Bool.false_eq_true, if_false, substExpr, rewriteSimpleJoinCondition]
    | [p] =>
      have hb := Exact.builtinIdent_isSome p.name
      cases hq : p.quoted with
      | true =>
        simp only [Misuse.isBareKey, hq, Bool.not_true, Bool.false_and, Bool.false_eq_true, if_false,
          substExpr, if_true, rewriteSimpleJoinCondition, Bool.true_or]
      | false =>
        cases hc : Misuse.isBuiltinConst p.name with
        | false =>
          rw [hc] at hb
          simp only [Misuse.isBareKey, hq, hc, Bool.not_false, Bool.and_self, if_true,
            rewriteSimpleJoinCondition, hb, Bool.or_self, Bool.false_eq_true, if_false, substExpr]
        | true =>
          rw [hc] at hb
          simp only [Misuse.isBareKey, hq, hc, Bool.not_false, Bool.not_true, Bool.and_false,
            Bool.false_eq_true, if_false, rewriteSimpleJoinCondition, hb, Bool.or_true, if_true]
          simp only [substExpr, hq, Bool.false_eq_true, if_false]
          cases List.find? (fun x => x.fst == p.name) env with
          | none => simp only [hq, hb, Bool.or_true, if_true]
          | some kv => rfl
  | nil | lit | unary | binary | inE | paren | call | index =>
    simp only [Misuse.isBareKey, Bool.false_eq_true, if_false, substExpr, rewriteSimpleJoinCondition]

theorem buildJoinGo_subst : (ys : ExprList) → (x : Expr) →
    buildJoinCondition.go (substExpr env x) (substConds env ys) = substExpr env (buildJoinCondition.go x ys)
  | .nil, x => by simp only [substConds, buildJoinCondition.go]
  | .cons y ys, x => by
    simp only [substConds, buildJoinCondition.go, rewriteSimple_subst]
    rw [← buildJoinGo_subst ys]
    simp only [substExpr]

/-- no let is called `true` -/
def TrueFree : Prop :=
  substExpr env (.qident [⟨Bytes.ofString "true", .zero, false⟩]) = .qident [⟨Bytes.ofString "true", .zero, false⟩]

theorem buildJoin_subst (hT : TrueFree env) (conds : ExprList) :
    buildJoinCondition (substConds env conds) = substExpr env (buildJoinCondition conds) := by
  cases conds with
  | nil =>
    simp only [substConds, buildJoinCondition]
    exact hT.symm
  | cons c cs =>
    simp only [substConds, buildJoinCondition, rewriteSimple_subst]
    exact buildJoinGo_subst env cs _

end

section
variable (env : List (Bytes × Expr))

def substTerm (t : SortTerm) : SortTerm := { t with x := substExpr env t.x }

/-- a column `name = expr` (an implicit name would be sliced from the source text of the
    column's expression, which substitution changes; a missing expression only arises from
    parse errors) -/
def ColNamed (c : Column) : Prop := c.name.isSome = true ∧ c.x ≠ .nil

def colsNamed : Op → Prop
  | .extend _ _ cs => ∀ c ∈ cs, ColNamed c
  | .summarize _ _ cs _ gs => (∀ c ∈ cs, ColNamed c) ∧ (∀ c ∈ gs, ColNamed c)
  | _ => True

def optColsNamed : Option Op → Prop
  | some o => colsNamed o
  | none => True

/-- `b` is `a` with its expressions substituted; sources may differ by parentheses (the join
    condition is part of the source) -/
structure SubRel (a b : Subquery) : Prop where
  name : b.name = a.name
  source : EqUpToParens a.source b.source
  op : b.op = a.op.map (substOp env)
  sort : b.sort = a.sort.map (·.map (substTerm env))
  take : b.take = a.take.map (substExpr env)
  named : optColsNamed a.op

theorem opTypeName_subst (o : Op) : opTypeName (substOp env o) = opTypeName o := by
  cases o <;> simp only [substOp, opTypeName]

theorem canAttachSort_subst (op : Option Op) : canAttachSort (op.map (substOp env)) = canAttachSort op := by
  cases op with
  | none => rfl
  | some o => simp only [Option.map_some, canAttachSort, opTypeName_subst]

variable {env}

theorem chain_subRel {dst dst' : List Subquery} (h : ListRel (SubRel env) dst dst') (ds : Nat) (source : Option Ident) :
    SubRel env (chainSubquery dst ds source) (chainSubquery dst' ds source) := by
  rw [chainSubquery_rel h fun _ _ hab => hab.name]
  exact ⟨rfl, .refl _, rfl, rfl, rfl, trivial⟩

end

section
variable {src : Bytes} {sc s0 : Scope} {env : List (Bytes × Expr)}

theorem SubRel.bits {a b : Subquery} (hab : SubRel env a b) : attachBits b = attachBits a := by
  simp only [attachBits, hab.op, hab.sort, hab.take, canAttachSort_subst, Option.isNone_map]

mutual
def tabNamed : Tabular → Prop
  | .nil => True
  | .mk _ ops => opsNamed ops
def opsNamed : OpList → Prop
  | .nil => True
  | .cons o os => opNamed o ∧ opsNamed os
def opNamed : Op → Prop
  | .join _ _ _ _ _ _ right _ _ _ => tabNamed right
  | .extend _ _ cs => ∀ c ∈ cs, ColNamed c
  | .summarize _ _ cs _ gs => (∀ c ∈ cs, ColNamed c) ∧ (∀ c ∈ gs, ColNamed c)
  | _ => True
end

theorem kind_substOp (o : Op) :
    SplitQ.steps (substOp env o) = SplitQ.steps o ∧ SplitQ.attaches (substOp env o) = SplitQ.attaches o := by
  cases o with
  | top p k n b c => cases c <;> exact ⟨rfl, rfl⟩
  | _ => exact ⟨rfl, rfl⟩

theorem store_subRel {o : Op} (hn : opNamed o) (hst : SplitQ.steps o = true) {a b : Subquery} (hab : SubRel env a b) :
    SubRel env (SplitQ.store o a) (SplitQ.store (substOp env o) b) := by
  cases o with
  | join => cases hst
  | sort => exact ⟨hab.name, hab.source, hab.op, rfl, hab.take, hab.named⟩
  | take => exact ⟨hab.name, hab.source, hab.op, hab.sort, rfl, hab.named⟩
  | top p k n b c =>
    cases c with
    | none => cases hst
    | some c => exact ⟨hab.name, hab.source, hab.op, rfl, rfl, hab.named⟩
  | as_ => exact ⟨rfl, hab.source, rfl, hab.sort, hab.take, trivial⟩
  | count | where_ | project | extend | summarize | render =>
    exact ⟨hab.name, hab.source, rfl, hab.sort, hab.take, hn⟩

mutual
theorem splitQueries_rel (HJ : WriteRel src sc s0 env .join) (hT : TrueFree env) :
    (t : Tabular) → tabNamed t → (dst dst' : List Subquery) → ListRel (SubRel env) dst dst' →
      ExRel (ListRel (SubRel env)) (splitQueries src sc dst t) (splitQueries src s0 dst' (substTabular env t))
  | .nil, _, dst, dst', _ => by
    simp only [substTabular, splitQueries]
    exact ExRel.error_error _
  | .mk source ops, hN, dst, dst', h => by
    simp only [tabNamed] at hN
    rw [SplitQ.splitQueries_mk, substTabular, SplitQ.splitQueries_mk, ← h.length_eq]
    exact (splitOps_rel HJ hT ops hN source dst.length dst dst' h).bind fun _ _ hd =>
      ExRel.ok_ok (closeBlock_rel hd _ (chain_subRel hd _ source))

/-- every operator but `join` is one `place` step of both loops -/
theorem splitOps_rel (HJ : WriteRel src sc s0 env .join) (hT : TrueFree env) :
    (ops : OpList) → opsNamed ops → (source : Option Ident) → (ds : Nat) → (dst dst' : List Subquery) →
      ListRel (SubRel env) dst dst' →
      ExRel (ListRel (SubRel env)) (splitOps src sc source ds dst ops)
        (splitOps src s0 source ds dst' (substOps env ops))
  | .nil, _, source, ds, dst, dst', h => by
    simp only [substOps, splitOps]
    exact ExRel.pure_pure h
  | .cons o rest, hN, source, ds, dst, dst', h => by
    simp only [opsNamed] at hN
    have ih := fun d d' => splitOps_rel HJ hT rest hN.2 source ds d d'
    rw [substOps]
    cases hst : SplitQ.steps o with
    | true =>
      rw [SplitQ.splitOps_step src sc source ds dst hst,
        SplitQ.splitOps_step src s0 source ds dst' ((kind_substOp o).1.trans hst)]
      exact ih _ _ (place_rel h ds (chain_subRel h ds source) (kind_substOp o).2 (fun _ _ => SubRel.bits)
        fun _ _ => store_subRel hN.1 hst)
    | false =>
      cases o with
      | join p kw kind ka flavor lp right rp on conds =>
        simp only [opNamed] at hN
        rw [SplitQ.splitOps_join, substOp, SplitQ.splitOps_join, ← h.length_eq]
        refine ExRel.bind (splitQueries_rel HJ hT right hN.1 dst dst' h) fun d d' hd => ?_
        refine ExRel.bind (joinSub_alike EqUpToParens.cong.frame hd (fun _ _ hab => by rw [hab.name]; exact .refl _)
          (.refl _) (.refl _) rfl (by rw [buildJoin_subst env hT]; exact HJ _)
          (fun _ _ hx => ⟨rfl, hx, rfl, rfl, rfl, trivial⟩) ds dst.length) fun sub sub' hsub => ?_
        exact ih _ _ (hd.append (ListRel.single hsub))
      | top p kw n b col =>
        cases col with
        | none =>
          simp only [substOp, Option.map_none, splitOps]
          exact ExRel.error_error _
        | some c => cases hst
      | _ => cases hst
end

end

end Pql
