/-
ParseRoundtrip under a scope: the round trip for every output of the writer, `goodS_all` — the
instance `rtCases` of `WriterCases` for the motive `RtInv`.

`ScopeRT j scope env` is what it needs to know about the scope: the names bound in `scope` are the names
bound in `env`, and the chunks stored for a name are read by the SQL reader as ONE ATOM whose tree is
the translation of the value `env` holds for that name.
-/
import PqlModel.Lemmas.ScopeRTCalls
namespace Pql.RT
set_option linter.unusedSimpArgs false
open Pql Sql CompileOracle

structure ScopeRT (j : Bool) (scope : Scope) (env : List (Bytes × Expr)) : Prop where
  bound : ∀ name sql, lookupScope scope name = some sql →
    ∃ n v, env.find? (·.1 == name) = some (n, v) ∧ ∀ want, tr j v = some want → AtomP (toksOf sql) want
  free : ∀ name, lookupScope scope name = none → env.find? (·.1 == name) = none

theorem scopeRT_nil (j : Bool) : ScopeRT j [] [] :=
  ⟨fun name sql h => by simp [lookupScope] at h, fun _ _ => rfl⟩

section
variable {ctx : Ctx} {env : List (Bytes × Expr)}

theorem rtCases (hS : ScopeRT (ctx.mode == .join) ctx.scope env) (hJ : JoinOK ctx env) :
    WriterCases ctx (RtInv ctx env) where
  nil := fun hs => by simp [shapeOK] at hs
  paren := fun a x b cs ih hs hl want h2 => by
    simp only [substExpr, tr] at h2
    simpa only [Trip, needsWrap, isSigned] using ih (by simpa [shapeOK] using hs) (by simpa [Expr.lexOK] using hl) want h2
  bound := fun p sql hq hl _ _ want h2 => by
    obtain ⟨n, v, hf, hv⟩ := hS.bound _ _ hl
    simp only [substExpr, hq, hf, Bool.false_eq_true, if_false, tr] at h2
    exact .ofAtom (hv want h2)
  builtin := fun p sql hq hl hb _ _ want h2 => by
    have hf := hS.free _ hl
    simp only [substExpr, hq, hf, Bool.false_eq_true, if_false, tr, Bool.not_false, Bool.true_and] at h2
    refine .ofAtom ?_
    rcases builtinIdent_cases p.name with ⟨hn, hb'⟩ | ⟨hn, hb'⟩ | ⟨hn, hb'⟩ | ⟨_, _, _, hb'⟩
    · rw [hb'] at hb; cases hb
      have e1 : isName p.name "true" = false := by rw [hn]; decide
      have e2 : isName p.name "false" = true := by rw [hn]; decide
      simp only [e1, e2, if_true, if_false, Bool.false_eq_true, Option.some.injEq] at h2
      subst h2
      simpa using (constP (w := Bytes.ofString "FALSE") (by simp) (by simp))
    · rw [hb'] at hb; cases hb
      have e1 : isName p.name "true" = false := by rw [hn]; decide
      have e2 : isName p.name "false" = false := by rw [hn]; decide
      have e3 : isName p.name "null" = true := by rw [hn]; decide
      simp only [e1, e2, e3, if_true, if_false, Bool.false_eq_true, Option.some.injEq] at h2
      subst h2
      simpa using (constP (w := Bytes.ofString "NULL") (by simp) (by simp))
    · rw [hb'] at hb; cases hb
      have e1 : isName p.name "true" = true := by rw [hn]; decide
      simp only [e1, if_true, Option.some.injEq] at h2
      subst h2
      simpa using (constP (w := Bytes.ofString "TRUE") (by simp) (by simp))
    · rw [hb'] at hb; cases hb
  cols := fun parts hu _ _ hs _ want h2 => by
    refine .ofAtom ?_
    match parts, hs, hu, h2 with
    | [], hs, _, _ => simp [shapeOK] at hs
    | [p], _, hu, h2 =>
      have key : tr (ctx.mode == .join) (substExpr env (.qident [p])) = some (.col [p.name]) := by
        cases hq : p.quoted with
        | true => simp [substExpr, tr, hq]
        | false =>
          obtain ⟨hl, hb⟩ := hu p rfl hq
          have hf := hS.free _ hl
          rcases builtinIdent_cases p.name with ⟨_, hb'⟩ | ⟨_, hb'⟩ | ⟨_, hb'⟩ | ⟨n1, n2, n3, _⟩
          · rw [hb'] at hb; cases hb
          · rw [hb'] at hb; cases hb
          · rw [hb'] at hb; cases hb
          · simp [substExpr, tr, hq, hf, isName_false n1, isName_false n2, isName_false n3]
      rw [key] at h2; cases h2
      rw [toksOf_qident]
      exact colP p.name []
    | p :: q :: ps, _, _, h2 =>
      simp only [substExpr, tr, Option.some.injEq] at h2
      subst h2
      rw [toksOf_qident]
      exact colP p.name ((q :: ps).map (·.name))
  num := fun sp v _ _ want h2 => by
    simp only [substExpr, tr, if_true, Option.some.injEq] at h2
    subst h2
    exact .ofAtom (by simpa using numP v)
  str := fun sp v _ _ want h2 => by
    simp only [substExpr, tr, reduceCtorEq, if_false, if_true, Option.some.injEq] at h2
    subst h2
    exact .ofAtom (by simpa using strP v)
  litOther := fun sp k v h1 h2 _ hl => by simp [Expr.lexOK, h1, h2] at hl
  unary := fun a op x xs ih hs hl want h2 => by
    simp only [substExpr, tr] at h2
    obtain ⟨wx, hwx, h2⟩ := obind_some h2
    simp only [Expr.lexOK, Bool.and_eq_true, Bool.or_eq_true, decide_eq_true_eq] at hl
    have hu := (ih (by simpa [shapeOK] using hs) hl.2 wx hwx).tight.toUnit
    refine .ofUnit rfl ?_
    rcases hl.1 with rfl | rfl
    · simp only [reduceCtorEq, if_false, if_true, pure, Option.some.injEq] at h2
      subst h2
      simpa [signText] using hu.pos
    · simp only [if_true, pure, Option.some.injEq] at h2
      subst h2
      simpa [signText] using hu.neg
  eqJoin := fun x a y xs ys hj ihx ihy hs hl want h2 => by
    simp only [substExpr, tr] at h2
    obtain ⟨wx, wy, tx, ty, h2⟩ := two ihx ihy hs hl h2
    simp only [if_true, if_pos ((joinTest_subst hJ).mpr hj), pure, Option.some.injEq] at h2
    subst h2
    exact .ofExpr (C01.C01_needsWrap_binary ..) (by simpa using binP infix_eq tx.unit ty.unit)
  eq := fun x a y xs ys hj ihx ihy hs hl want h2 => by
    simp only [substExpr, tr] at h2
    obtain ⟨wx, wy, tx, ty, h2⟩ := two ihx ihy hs hl h2
    simp only [if_true, if_neg (fun h => hj ((joinTest_subst hJ).mp h)), pure, Option.some.injEq] at h2
    subst h2
    exact .ofExpr (C01.C01_needsWrap_binary ..) (by simpa using (coalesceP (binP infix_eq tx.unit ty.unit)).toExpr)
  ne := fun x a y xs ys ihx ihy hs hl want h2 => by
    simp only [substExpr, tr] at h2
    obtain ⟨wx, wy, tx, ty, h2⟩ := two ihx ihy hs hl h2
    simp only [reduceCtorEq, if_false, if_true, pure, Option.some.injEq] at h2
    subst h2
    exact .ofExpr (C01.C01_needsWrap_binary ..) (by simpa using (coalesceP (binP infix_ne tx.unit ty.unit)).toExpr)
  cieq := fun x a y xs ys ihx ihy hs hl want h2 => by
    simp only [substExpr, tr] at h2
    obtain ⟨wx, wy, tx, ty, h2⟩ := two ihx ihy hs hl h2
    simp only [reduceCtorEq, if_false, if_true, pure, Option.some.injEq] at h2
    subst h2
    exact .ofExpr (C01.C01_needsWrap_binary ..)
      (by simpa [fnCall] using binP infix_eq (call1P ws_lower tx.1).toUnit (call1P ws_lower ty.1).toUnit)
  cine := fun x a y xs ys ihx ihy hs hl want h2 => by
    simp only [substExpr, tr] at h2
    obtain ⟨wx, wy, tx, ty, h2⟩ := two ihx ihy hs hl h2
    simp only [reduceCtorEq, if_false, if_true, pure, Option.some.injEq] at h2
    subst h2
    exact .ofExpr (C01.C01_needsWrap_binary ..)
      (by simpa [fnCall] using binP infix_ne (call1P ws_lower tx.1).toUnit (call1P ws_lower ty.1).toUnit)
  plain := fun x a op y sql xs ys h1 h2' h3 h4 hb ihx ihy hs hl want h2 => by
    simp only [substExpr, tr] at h2
    obtain ⟨wx, wy, tx, ty, h2⟩ := two ihx ihy hs hl h2
    rw [if_neg h1, if_neg h2', if_neg h3, if_neg h4] at h2
    cases hp : plainOp op with
    | none => rw [hp] at h2; cases h2
    | some sym =>
      obtain ⟨hb', t, p, htt, hinf⟩ := plain_op hp
      rw [hb] at hb'; cases hb'
      simp only [hp, pure, Option.some.injEq] at h2
      subst h2
      exact .ofExpr (C01.C01_needsWrap_binary ..) (by simpa [htt] using binP hinf tx.unit ty.unit)
  binOther := fun x a op y h1 h2' h3 h4 hb hs hl want h2 => by
    simp only [substExpr] at h2
    exact absurd h2 (tr_binOther h1 h2' h3 h4 hb want)
  inE := fun x a b vals c xs as ihx ihv hs hl want h2 => by
    simp only [substExpr, tr] at h2
    simp only [shapeOK, Expr.lexOK, Bool.and_eq_true, bne_iff_ne, ne_eq] at hs hl
    obtain ⟨wx, hwx, h2⟩ := obind_some h2
    obtain ⟨ws, hws, h2⟩ := obind_some h2
    obtain ⟨ps, hps⟩ := args_rel ihv hs.1.2 hl.2 ws hws
    simp only [pure, Option.some.injEq] at h2
    subst h2
    refine .ofExpr (C01.C01_needsWrap_in ..) ?_
    have hu := (ihx hs.1.1 hl.1 wx hwx).unit
    match ps, hps with
    | [], hps =>
      have := hps.exprs
      cases vals with
      | nil => exact absurd rfl hs.2
      | cons _ _ => simp [ExprList.toList] at this
    | p :: ps, hps =>
      have key := inP hu (toksOf (wrapMaybe p.1 p.2.1), p.2.2) (wrapPairs ps) (hps.good p (by simp)).2.toExpr
        (by
          intro q hq
          simp only [wrapPairs, List.mem_map] at hq
          obtain ⟨r, hr, rfl⟩ := hq
          exact (hps.good r (by simp [hr])).2.toExpr)
      have hvs : wrapArgs vals as = (p :: ps).map (fun p => wrapMaybe p.1 p.2.1) := by
        simp [wrapArgs, zip_rel hps, List.map_map, Function.comp_def]
      rw [hps.trs, hvs]
      simp only [List.map_cons, toksOf_append, toksOf_cons, chunkToks_txt, tt_in, tt_rparen, toksOf_nil,
        toksOf_sepChunks, List.append_nil]
      rw [sepTail_wrap ", " (S ",") tt_comma ps]
      simpa [wrapPairs, Function.comp_def] using key
  index := fun x a i b xs is ihx ihi hs hl want h2 => by
    simp only [substExpr, tr] at h2
    simp only [shapeOK, Expr.lexOK, Bool.and_eq_true] at hs hl
    obtain ⟨wx, hwx, h2⟩ := obind_some h2
    obtain ⟨wi, hwi, h2⟩ := obind_some h2
    simp only [pure, Option.some.injEq] at h2
    subst h2
    exact .ofExpr (C01.C01_needsWrap_index ..)
      (by simpa using (indexP (ihx hs.1 hl.1 wx hwx).tight (ihi hs.2 hl.2 wi hwi).1).toExpr)
  known := call_known
  passthrough := call_pass

end

theorem goodS_all (ctx : Ctx) (env : List (Bytes × Expr)) (hS : ScopeRT (ctx.mode == .join) ctx.scope env)
    (hJ : JoinOK ctx env) : ∀ e : Expr, shapeOK e = true → e.lexOK = true → GoodS ctx env e :=
  fun e hs hl cs want h1 h2 => writeExpr_cases (rtCases hS hJ) e cs h1 hs hl want h2

theorem goodS_list (ctx : Ctx) (env : List (Bytes × Expr)) (hS : ScopeRT (ctx.mode == .join) ctx.scope env)
    (hJ : JoinOK ctx env) :
    ∀ es : ExprList, shapeOKList es = true → es.lexOK = true → ∀ e ∈ es.toList, GoodS ctx env e
  | .nil, _, _ => by intro e he; simp [ExprList.toList] at he
  | .cons e es, hs, hl => by
    simp only [shapeOKList, ExprList.lexOK, Bool.and_eq_true] at hs hl
    intro e' he'
    rcases List.mem_cons.mp he' with rfl | h
    · exact goodS_all ctx env hS hJ _ hs.1 hl.1
    · exact goodS_list ctx env hS hJ es hs.2 hl.2 e' h

theorem joinOK_nil (ctx : Ctx) : JoinOK ctx [] := fun _ x => by rw [substExpr_nil]

end Pql.RT
