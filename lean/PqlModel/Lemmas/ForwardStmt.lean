/-
Property C07 (forward direction): `let` statements, one statement, and the statement
loop of `Parse` against `Grammar.splitStatementsToks`.
-/
import PqlModel.Lemmas.ForwardTab
import PqlModel.Props.C12Fuel
namespace Pql
open Grammar

theorem pLet_fwd (c : PCtx) (fuel : Nat) (kw : Span) (name : Option Ident) (asg : Span) (x : Expr)
    (ts : List Token) (hwf : wfStmt (.let_ kw name asg x) = true)
    (hr : RealBy unparseStmt (.let_ kw name asg x) ts) (hf : 4 * ts.length + 4 ≤ fuel) :
    pLet c fuel ts = ⟨some (.let_ kw name asg x), [], []⟩ := by
  obtain ⟨us, hu, ha, hn⟩ := hr
  simp only [unparseStmt, Option.bind_eq_bind, Option.pure_def, Option.bind_eq_some_iff,
    Option.some.injEq] at hu
  obtain ⟨n, rfl, xs, hx, rfl⟩ := hu
  obtain ⟨tkw, t2, rfl, htkw, h2⟩ := accounts_cons_inv rfl ha
  obtain ⟨tn, t3, rfl, htn, h3⟩ := accounts_cons_inv (by simp [identTok]) h2
  obtain ⟨ta, tx, rfl, hta, h4⟩ := accounts_cons_inv rfl h3
  obtain ⟨hkn, hks⟩ := tokOk_kwTok1_inv htkw
  have hid := tokOk_identTok_inv htn
  obtain ⟨hak, has⟩ := tokOk_sym_inv hta
  subst hks has
  simp only [wfStmt] at hwf
  simp only [List.length_cons] at hf
  have hrx : Real x tx := ⟨xs, hx, h4, nlc_tail (nlc_tail (nlc_tail hn))⟩
  have hE := pExpr_real c fuel [] hwf hrx rfl (by simp only [List.append_nil]; omega)
  simp only [List.append_nil] at hE
  simp [pLet, hkn, pIdent_real hid, hak, hE, mkOpaque]

/-- the source table of a tabular statement is not the unquoted identifier `let`: the parser tries
    `let` statements first and does not backtrack once it has seen the keyword -/
def notLetSource : Stmt → Bool
  | .tabular (.mk (some s) _) => s.quoted || s.name != Bytes.ofString "let"
  | _ => true

/-- what the forward theorem assumes about a statement and its tokens; `C07.StmtHyp`
    (Props/C07Full.lean) is this with `RealBy` unfolded -/
def StmtOK (st : Stmt) (g : List Token) : Prop :=
  wfStmt st = true ∧ canonStmt st = true ∧ notLetSource st = true ∧ RealBy unparseStmt st g

theorem pStatement_fwd (c : PCtx) (st : Stmt) (g : List Token) (h : StmtOK st g) :
    pStatement c g = (some st, [], false) := by
  obtain ⟨hwf, hcan, hnl, hr⟩ := h
  cases st with
  | let_ kw name asg x =>
    have hL := pLet_fwd c (fuelFor g.length) kw name asg x g hwf hr (C12.C12_fuelFor_ge _)
    simp [pStatement, hL, mkOpaque, endSplit]
  | tabular t =>
    simp only [wfStmt] at hwf
    simp only [canonStmt] at hcan
    have hrt : RealBy unparseTabular t g := hr
    obtain ⟨hT, -⟩ := (tabFwd_all c (fuelFor g.length)).tab t g hwf hcan hrt
      (by have := C12.C12_fuelFor_ge g.length; omega)
    -- `pLet` reports "not found": the first token is not the keyword `let`
    obtain ⟨us, hu, ha, hn⟩ := hr
    cases t with
    | nil => simp [wfTabular] at hwf
    | mk src ops =>
      simp only [unparseStmt, unparseTabular, Option.bind_eq_bind, Option.pure_def, Option.bind_eq_some_iff,
        Option.some.injEq] at hu
      obtain ⟨s, rfl, os, hos, rfl⟩ := hu
      obtain ⟨tsrc, tos, rfl, hsrc, h2⟩ := accounts_cons_inv (by simp [identTok]) ha
      have hid := tokOk_identTok_inv hsrc
      have hnot : isIdentNamed tsrc "let" = false := by
        simp only [notLetSource, Bool.or_eq_true, bne_iff_ne, ne_eq] at hnl
        have h2 := hid.2
        subst h2
        simp only [decide_eq_true_eq] at hnl
        rcases hnl with hq | hne
        · simp [isIdentNamed, hq]
        · simp [isIdentNamed, hne]
      simp only [List.length_cons] at hT
      simp [pStatement, pLet, hnot, hT, mkOpaque, endSplit]

theorem parseTokens_fwd (srcLen : Nat) (ts : List Token) (stmts : List Stmt)
    (h : Forall₂ StmtOK stmts (splitStatementsToks ts)) : parseTokens srcLen ts = (stmts, []) :=
  (parseTokens_ok_iff srcLen ts stmts).2 (h.imp_mem fun s _ g _ hs => pStatement_fwd _ s g hs)

end Pql
