import Lean.Meta.Tactic.Simp.RegisterCommand
import PqlModel.Model.ExprIR
/-- the equations that run `ExprIR.exec` on symbolic data (Props/C01WriteExprIR.lean) -/
register_simp_attr exprIR

namespace Pql.ExprIR
open Pql.WriteIR (M)

/-- Lean makes the equation lemmas of a recursive definition when a proof first unfolds it, and in the module where that
    happens every later proof that unfolds it makes them again; a module that imports that one finds them made.  So the
    recursive definitions of Model/ExprIR.lean are unfolded here once, on the smallest input, ahead of the runs. -/
theorem interp_smallest (sem : Sem) (st : State) (body : State → M (Flow × State)) :
    exec sem .ret st = .ok (.ret, st) ∧ execBlock sem [] st = .ok (.next, st) ∧
    evalCond st (.flag ⟨"", ""⟩) = (st.get "" >>= (flagAt · "") >>= fun b => pure (b, [])) ∧
    assignIn "" (.bool true) [] = none ∧ unparenLoop .nil = .nil ∧ plainAll sem ⟨[], [], .default⟩ .nil = .ok [] ∧
    forEach "" "" body 0 [] st = .ok (.next, st) ∧ forEntries "" "" body [] st = .ok (.next, st) ∧
    visitAll "" body [] st = .ok (.next, st) := by
  simp only [exec, execBlock, evalCond, assignIn, unparenLoop, plainAll, forEach, forEntries, visitAll, and_self]

end Pql.ExprIR
