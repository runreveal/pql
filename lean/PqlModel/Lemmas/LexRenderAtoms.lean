/-
LexRender: atoms.  Every piece of text the writer emits is a sequence of *atoms* —
white space, words, one- and two-character symbols, quoted names and strings, numbers, block
comments — each read by exactly one iteration of the SQL lexer.  `AdjBefore rest as` says that
every atom is well formed and is not directly followed by a byte that would change its reading
(a second `-`, a `*` after `/`, the second half of a two-character symbol, a word byte after a
word, a digit / `.` / word byte after a number, the same quote after a quoted token);
`lexAux_atoms` is the compositional lexing lemma at this level.
-/
import PqlModel.Lemmas.LexRenderNum
namespace Pql.LexRender
open Pql Sql

inductive Atom
  | sp (c : UInt8)
  | word (w : Bytes)
  | sym1 (c : UInt8)
  | sym2 (c d : UInt8)
  | qid (n : Bytes)
  | str (v : Bytes)
  | num (v : Bytes)
  | cmt (body : Bytes)
  deriving DecidableEq, Repr

def Atom.bytes : Atom → Bytes
  | .sp c => [c]
  | .word w => w
  | .sym1 c => [c]
  | .sym2 c d => [c, d]
  | .qid n => quoteIdentifier n
  | .str v => quoteSQLString v
  | .num v => v
  | .cmt b => 47 :: 42 :: (b ++ [42, 47])

def sym1Name (c : UInt8) : String := ((oneCharSyms.find? (fun o => o.1 == c)).map (·.2)).getD ""
def sym2Name (c d : UInt8) : String :=
  ((twoCharSyms.find? (fun o => o.1 == c && o.2.1 == d)).map (·.2.2)).getD ""

/-- the tokens of an atom as `lexAux` emits them (comments included) -/
def Atom.toks : Atom → List STok
  | .sp _ => []
  | .word w => [.word w]
  | .sym1 c => [.sym (sym1Name c)]
  | .sym2 c d => [.sym (sym2Name c d)]
  | .qid n => [.qid n]
  | .str v => [.str v]
  | .num v => [.num v]
  | .cmt _ => [.comment]

def wordOK : Bytes → Bool
  | [] => false
  | c :: w => isWordStart c && w.all isWordCont

def Atom.wf : Atom → Bool
  | .sp c => isSpaceB c
  | .word w => wordOK w
  | .sym1 c => (oneCharSyms.find? (fun o => o.1 == c)).isSome
  | .sym2 c d => (twoCharSyms.find? (fun o => o.1 == c && o.2.1 == d)).isSome
  | .qid _ => true
  | .str _ => true
  | .num v => numOK v
  | .cmt b => skipBlockComment (b ++ [42, 47]) == some []

def Atom.bad : Atom → UInt8 → Bool
  | .sp _, _ => false
  | .word _, d => isWordCont d
  | .sym1 c, d => sym1Bad c d
  | .sym2 _ _, _ => false
  | .qid _, d => d == 34
  | .str _, d => d == 39
  | .num _, d => numBad d
  | .cmt _, _ => false

/-- the atom may be followed by text starting like this (`none`: end of input) -/
def follows (a : Atom) : Option UInt8 → Bool
  | none => true
  | some d => !a.bad d

def renderAtoms (as : List Atom) : Bytes := as.flatMap Atom.bytes
def rawToks (as : List Atom) : List STok := as.flatMap Atom.toks

def AdjBefore (rest : Bytes) : List Atom → Bool
  | [] => true
  | a :: r => a.wf && follows a (renderAtoms r ++ rest).head? && AdjBefore rest r

theorem follows_elim {a : Atom} {h : Option UInt8} (hf : follows a h = true) :
    ∀ d, h = some d → a.bad d = false := by
  intro d hd; subst hd
  simpa [follows] using hf

theorem wordOK_elim {w : Bytes} (h : wordOK w = true) :
    ∃ c w', w = c :: w' ∧ isWordStart c = true ∧ ∀ b ∈ w', isWordCont b = true := by
  cases w with
  | nil => simp [wordOK] at h
  | cons c w' =>
    simp only [wordOK, Bool.and_eq_true, List.all_eq_true] at h
    exact ⟨c, w', rfl, h.1, h.2⟩

theorem nameOK_wordOK {v : Bytes} (h : nameOK v = true) : wordOK v = true := by
  obtain ⟨c, w, rfl, hc, hw⟩ := nameOK_scan v h
  simp only [wordOK, Bool.and_eq_true, List.all_eq_true]
  exact ⟨hc, hw⟩

theorem lexAux_atom (a : Atom) (f : Nat) (rest : Bytes) (hwf : a.wf = true)
    (hf : follows a rest.head? = true) :
    lexAux .standard (f + 1) (a.bytes ++ rest) = (lexAux .standard f rest).map (a.toks ++ ·) := by
  have hbad := follows_elim hf
  cases a with
  | sp c =>
    simp only [Atom.bytes, List.cons_append, List.nil_append, Atom.toks]
    rw [lexAux_step, lexStep_space _ _ _ hwf]; rfl
  | word w =>
    obtain ⟨c, w', rfl, hc, hw⟩ := wordOK_elim hwf
    simp only [Atom.bytes, List.cons_append, Atom.toks]
    rw [lexAux_step, lexStep_word _ c w' rest hc hw hbad]; rfl
  | sym1 c =>
    simp only [Atom.wf] at hwf
    obtain ⟨o, hk⟩ := Option.isSome_iff_exists.mp hwf
    simp only [Atom.bytes, List.cons_append, List.nil_append, Atom.toks, sym1Name, hk, Option.map_some,
      Option.getD_some]
    rw [lexAux_step, lexStep_sym1 _ c o rest hk hbad]; rfl
  | sym2 c d =>
    simp only [Atom.wf] at hwf
    obtain ⟨o, hk⟩ := Option.isSome_iff_exists.mp hwf
    simp only [Atom.bytes, List.cons_append, List.nil_append, Atom.toks, sym2Name, hk, Option.map_some,
      Option.getD_some]
    rw [lexAux_step, lexStep_sym2 _ c d o rest hk]; rfl
  | qid n =>
    have hr : rest.head? ≠ some 34 := by
      intro h; have := hbad 34 h; simp [Atom.bad] at this
    simp only [Atom.bytes, quoteIdentifier, C04.quoteWith_eq, List.cons_append, List.append_assoc,
      List.nil_append, Atom.toks]
    rw [lexAux_step, lexStep_qid n rest hr]; rfl
  | str v =>
    have hr : rest.head? ≠ some 39 := by
      intro h; have := hbad 39 h; simp [Atom.bad] at this
    simp only [Atom.bytes, quoteSQLString, C04.quoteWith_eq, List.cons_append, List.append_assoc,
      List.nil_append, Atom.toks]
    rw [lexAux_step, lexStep_str v rest hr]; rfl
  | num v =>
    obtain ⟨c, v', hv, hs⟩ := lexStep_num v rest hwf hbad
    simp only [Atom.bytes, Atom.toks]
    rw [hv, List.cons_append, lexAux_step, ← hv, hs]; rfl
  | cmt b =>
    have hb : skipBlockComment (b ++ [42, 47]) = some [] := by simpa [Atom.wf] using hwf
    simp only [Atom.bytes, List.cons_append, Atom.toks]
    have := lexStep_cmt .standard b rest hb
    simp only [List.cons_append] at this
    rw [lexAux_step, this]; rfl

theorem renderAtoms_cons (a : Atom) (r : List Atom) : renderAtoms (a :: r) = a.bytes ++ renderAtoms r := by
  simp [renderAtoms]
theorem renderAtoms_append (a b : List Atom) : renderAtoms (a ++ b) = renderAtoms a ++ renderAtoms b := by
  simp [renderAtoms]
theorem rawToks_cons (a : Atom) (r : List Atom) : rawToks (a :: r) = a.toks ++ rawToks r := by
  simp [rawToks]
theorem rawToks_append (a b : List Atom) : rawToks (a ++ b) = rawToks a ++ rawToks b := by
  simp [rawToks]

theorem lexAux_atoms (as : List Atom) : ∀ (f : Nat) (rest : Bytes), AdjBefore rest as = true →
    lexAux .standard (f + as.length) (renderAtoms as ++ rest) =
      (lexAux .standard f rest).map (rawToks as ++ ·) := by
  induction as with
  | nil => intro f rest _; simp [renderAtoms, rawToks]
  | cons a r ih =>
    intro f rest h
    simp only [AdjBefore, Bool.and_eq_true] at h
    obtain ⟨⟨hwf, hfo⟩, hr⟩ := h
    rw [renderAtoms_cons, rawToks_cons, List.append_assoc, List.length_cons, ← Nat.add_assoc,
      lexAux_atom a _ _ hwf hfo, ih f rest hr]
    cases lexAux .standard f rest <;> simp

theorem head?_append_ne {l : Bytes} (r : Bytes) (h : l ≠ []) : (l ++ r).head? = l.head? := by
  cases l with
  | nil => exact absurd rfl h
  | cons c l' => rfl

theorem atom_bytes_ne {a : Atom} (h : a.wf = true) : a.bytes ≠ [] := by
  cases a with
  | word w => obtain ⟨c, w', rfl, _⟩ := wordOK_elim h; simp [Atom.bytes]
  | num v => obtain ⟨c, v', rfl, _⟩ := numOK_scan v h; simp [Atom.bytes]
  | qid n => simp [Atom.bytes, quoteIdentifier, quoteWith]
  | str n => simp [Atom.bytes, quoteSQLString, quoteWith]
  | _ => simp [Atom.bytes]

theorem AdjBefore_append (rest : Bytes) (a b : List Atom) :
    AdjBefore rest (a ++ b) = (AdjBefore (renderAtoms b ++ rest) a && AdjBefore rest b) := by
  induction a with
  | nil => simp [AdjBefore]
  | cons x a ih =>
    simp only [List.cons_append, AdjBefore, ih, renderAtoms_append, List.append_assoc, Bool.and_assoc]

theorem AdjBefore_head_wf {rest : Bytes} {a : Atom} {r : List Atom} (h : AdjBefore rest (a :: r) = true) :
    a.wf = true := by
  simp only [AdjBefore, Bool.and_eq_true] at h; exact h.1.1

theorem renderAtoms_ne {rest : Bytes} {a : Atom} {r : List Atom} (h : AdjBefore rest (a :: r) = true) :
    renderAtoms (a :: r) ≠ [] := by
  rw [renderAtoms_cons]
  intro hn
  exact atom_bytes_ne (AdjBefore_head_wf h) (List.append_eq_nil_iff.mp hn).1

theorem AdjBefore_nil_of {rest : Bytes} {as : List Atom} (h : AdjBefore rest as = true) :
    AdjBefore [] as = true := by
  induction as with
  | nil => rfl
  | cons a r ih =>
    simp only [AdjBefore, Bool.and_eq_true] at h ⊢
    obtain ⟨⟨hwf, hfo⟩, hr⟩ := h
    refine ⟨⟨hwf, ?_⟩, ih hr⟩
    cases r with
    | nil => simp [renderAtoms, follows]
    | cons b r' =>
      rw [head?_append_ne _ (renderAtoms_ne hr)] at hfo
      rw [head?_append_ne _ (renderAtoms_ne hr)]; exact hfo

def lastFollows (as : List Atom) (h : Option UInt8) : Bool :=
  match as.getLast? with
  | none => true
  | some a => follows a h

theorem AdjBefore_of_nil {rest : Bytes} {as : List Atom} (h : AdjBefore [] as = true)
    (hl : lastFollows as rest.head? = true) : AdjBefore rest as = true := by
  induction as with
  | nil => rfl
  | cons a r ih =>
    simp only [AdjBefore, Bool.and_eq_true] at h ⊢
    obtain ⟨⟨hwf, hfo⟩, hr⟩ := h
    cases r with
    | nil =>
      simp only [lastFollows, List.getLast?_singleton] at hl
      simp [renderAtoms, AdjBefore, hwf, hl]
    | cons b r' =>
      have hl' : lastFollows (b :: r') rest.head? = true := by
        simpa [lastFollows, List.getLast?_cons_cons] using hl
      refine ⟨⟨hwf, ?_⟩, ih hr hl'⟩
      rw [head?_append_ne _ (renderAtoms_ne hr)] at hfo
      rw [head?_append_ne _ (renderAtoms_ne hr)]; exact hfo

theorem adj_length_le {rest : Bytes} {as : List Atom} (h : AdjBefore rest as = true) :
    as.length ≤ (renderAtoms as).length := by
  induction as with
  | nil => simp
  | cons a r ih =>
    have hwf := AdjBefore_head_wf h
    simp only [AdjBefore, Bool.and_eq_true] at h
    have := ih h.2
    have hne := atom_bytes_ne hwf
    have : 0 < a.bytes.length := List.length_pos_iff.mpr hne
    rw [renderAtoms_cons, List.length_append, List.length_cons]; omega

theorem lexAux_nil_pos (mode : QuoteMode) (f : Nat) : lexAux mode (f + 1) [] = some [] := by
  simp [lexAux]

theorem lexRaw_atoms (as : List Atom) (h : AdjBefore [] as = true) :
    lexRaw .standard (renderAtoms as) = some (rawToks as) := by
  have hlen := adj_length_le h
  have := lexAux_atoms as ((renderAtoms as).length - as.length + 1) [] h
  simp only [List.append_nil] at this
  have hfuel : (renderAtoms as).length - as.length + 1 + as.length = (renderAtoms as).length + 1 := by omega
  rw [hfuel, lexAux_nil_pos] at this
  simp [lexRaw, this]

theorem lex_atoms (as : List Atom) (h : AdjBefore [] as = true) :
    lex .standard (renderAtoms as) = some ((rawToks as).filter (· != .comment)) := by
  rw [lex, lexRaw_atoms as h]
  rfl

end Pql.LexRender
