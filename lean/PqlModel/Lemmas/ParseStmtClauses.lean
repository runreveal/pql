/-
C05, syntactic half, stage 2: one lemma per clause of `pSelect` — what each clause parser
returns on the token shapes the writer emits, given that the expressions inside are read as intended
(`ExprP`, from the C01 round trip) — at the fuel `pSelect` actually uses.  The reader's four
comma-separated lists (`pItems`, `pExprsComma`, `pOrderTerms`, `pCtes`) are one `SqlCommaLoop` over an item
parser: `SqlCommaLoop.list` reads a written list back, `SqlCommaLoop.map` commutes the loop with a token map.
-/
import PqlModel.Lemmas.ParseStmtSelect
namespace Pql.C05
set_option linter.unusedSimpArgs false
open Pql Sql CompileOracle Intended Pql.RT

def NormEq (s w : SExpr) : Prop := normS s = normS w

theorem _root_.Pql.RT.ExprP.atFuel {ts : List STok} {w : SExpr} {rest : List STok} (h : ExprP ts w) (hr : Ends stopTok rest) :
    ∃ s, NormEq s w ∧ pExprS (fuelOf (ts ++ rest)) 0 (ts ++ rest) = some (s, rest) := by
  obtain ⟨s, hs, N, hN⟩ := h rest hr
  exact ⟨s, hs, pExprS_fuelOf (hN N (Nat.le_refl _))⟩

def sepToks : List (List STok) → List STok
  | [] => []
  | [x] => x
  | x :: y :: ys => x ++ S "," :: sepToks (y :: ys)

theorem sepToks_cons (x : List STok) (xs : List (List STok)) :
    sepToks (x :: xs) = x ++ xs.flatMap fun y => S "," :: y := by
  induction xs generalizing x with
  | nil => simp [sepToks]
  | cons y ys ih => simp [sepToks, ih y]

theorem toksOf_sepChunks (xs : List (List Chunk)) : toksOf (sepChunks ", " xs) = sepToks (xs.map toksOf) := by
  match xs with
  | [] => rfl
  | [x] => simp [sepChunks, sepToks]
  | x :: y :: ys =>
    have ih := toksOf_sepChunks (y :: ys)
    simp only [sepChunks, toksOf_append, toksOf_cons, chunkToks_txt, tt_comma, List.map_cons, sepToks] at ih ⊢
    rw [ih]
    simp

theorem toksOf_commaFlat (xs : List (List Chunk)) :
    toksOf (xs.flatMap fun c => .txt ", " :: c) = (xs.map toksOf).flatMap fun y => S "," :: y := by
  induction xs with
  | nil => rfl
  | cons x xs ih => simp [ih]

theorem sepToks_length (xs : List (List STok)) (h : ∀ x ∈ xs, 1 ≤ x.length) : xs.length ≤ (sepToks xs).length := by
  match xs with
  | [] => simp
  | [x] => simpa [sepToks] using h x (by simp)
  | x :: y :: ys =>
    have ih := sepToks_length (y :: ys) (fun z hz => h z (List.mem_cons_of_mem _ hz))
    have := h x (by simp)
    simp only [sepToks, List.length_cons, List.length_append] at ih ⊢
    omega

/-- `loop` reads `item`s separated by commas until the token after an item is no comma: the shape of
    `pItems`, `pExprsComma`, `pOrderTerms`, `pCtes` -/
def SqlCommaLoop {α : Type} (loop : Nat → List STok → PR (List α)) (item : List STok → PR α) : Prop :=
  ∀ fuel ts, loop (fuel + 1) ts =
    match item ts with
    | some (it, r) =>
      match r with
      | cm :: r2 => if isSym cm "," then (loop fuel r2).map fun rr => (it :: rr.1, rr.2) else some ([it], r)
      | [] => some ([it], [])
    | none => none

/-- A comma loop reads a comma-separated list element by element, at the fuel the clauses of `pSelect`
    give it: `P ts w` says that `item` reads `ts` as something standing for `w` in front of any rest that
    starts with a `q` token; the comma is one, and the rest `r` of the whole list starts with one that is
    no comma. -/
theorem SqlCommaLoop.list {α β : Type} {loop : Nat → List STok → PR (List α)} {item : List STok → PR α}
    (hl : SqlCommaLoop loop item) (hnil : item [] = none) {P : List STok → β → Prop} {R : α → β → Prop} {q : STok → Bool}
    (hP : ∀ ts w, P ts w → ∀ r, Ends q r → ∃ it, item (ts ++ r) = some (it, r) ∧ R it w) (hq : q (S ",") = true)
    {tss : List (List STok)} {wants : List β} (h : ListRel P tss wants) (hne : tss ≠ [])
    {r : List STok} (hr : Ends q r) (hc : Ends (fun t => !isSym t ",") r) :
    ∃ es, loop ((sepToks tss ++ r).length + 1) (sepToks tss ++ r) = some (es, r) ∧ ListRel R es wants := by
  have hlen : tss.length ≤ (sepToks tss ++ r).length + 1 := by
    have : ∀ x ∈ tss, 1 ≤ x.length := by
      intro x hx
      clear hne
      induction h with
      | nil => cases hx
      | cons hw _ ih =>
        rcases List.mem_cons.1 hx with rfl | hx
        · obtain ⟨it, hp, _⟩ := hP _ _ hw [] trivial
          cases x with
          | nil => rw [List.append_nil, hnil] at hp; cases hp
          | cons t tl => simp
        · exact ih hx
    have := sepToks_length tss this
    simp only [List.length_append]
    omega
  revert hlen
  generalize (sepToks tss ++ r).length + 1 = fuel
  induction h generalizing fuel with
  | nil => exact absurd rfl hne
  | @cons ts w tss' wants' hw hrest ih =>
    intro hf
    obtain ⟨f, rfl⟩ : ∃ f, fuel = f + 1 := ⟨fuel - 1, by simp at hf; omega⟩
    cases hrest with
    | nil =>
      obtain ⟨it, hp, hrel⟩ := hP _ _ hw r hr
      refine ⟨[it], ?_, .cons hrel .nil⟩
      rw [sepToks, hl, hp]
      cases r with
      | nil => rfl
      | cons t tl =>
        simp only [Ends, Bool.not_eq_true'] at hc
        simp only [hc, Bool.false_eq_true, if_false]
    | @cons ts2 w2 tss2 wants2 hw2 hrest2 =>
      obtain ⟨es, hes, hrel⟩ := ih (by simp) f (by simp at hf ⊢; omega)
      obtain ⟨it, hp, hr1⟩ := hP _ _ hw (S "," :: (sepToks (ts2 :: tss2) ++ r)) hq
      refine ⟨it :: es, ?_, .cons hr1 hrel⟩
      rw [sepToks, List.append_assoc, List.cons_append, hl, hp]
      simp only [S, isSym_sym, BEq.rfl, if_true, hes, Option.map_some]

theorem SqlCommaLoop.map {α : Type} {loop : Nat → List STok → PR (List α)} {item : List STok → PR α}
    (hl : SqlCommaLoop loop item) (h0 : ∀ ts, loop 0 ts = none) {τ : STok → STok}
    (hτ : ∀ t, isSym (τ t) "," = isSym t ",") {f : α → α}
    (hi : ∀ ts, item (ts.map τ) = (item ts).map fun r => (f r.1, r.2.map τ)) :
    ∀ fuel ts, loop fuel (ts.map τ) = (loop fuel ts).map fun r => (r.1.map f, r.2.map τ)
  | 0, ts => by rw [h0, h0]; rfl
  | fuel + 1, ts => by
    rw [hl, hl, hi]
    rcases item ts with _ | ⟨it, _ | ⟨cm, r2⟩⟩
    · rfl
    · rfl
    · simp only [Option.map_some, List.map_cons, hτ]
      split
      · rw [SqlCommaLoop.map hl h0 hτ hi fuel r2]; cases loop fuel r2 <;> rfl
      · rfl
theorem pItems_loop : SqlCommaLoop pItems pItem := fun fuel ts => by
  rw [pItems_succ]
  rcases pItem ts with _ | ⟨it, _ | ⟨cm, r2⟩⟩ <;> rfl

theorem pExprsComma_loop : SqlCommaLoop pExprsComma fun ts => pExprS (fuelOf ts) 0 ts := fun fuel ts => by
  dsimp only
  rw [pExprsComma]
  rcases pExprS (fuelOf ts) 0 ts with _ | ⟨e, _ | ⟨cm, r2⟩⟩ <;> rfl

theorem exprClause_some {kw : String} (hkw : isWord (RT.W kw) kw = true) {ts : List STok} {w : SExpr} {r : List STok}
    (h : ExprP ts w) (hr : Ends stopTok r) :
    ∃ s, NormEq s w ∧ exprClause kw (RT.W kw :: (ts ++ r)) = some (some s, r) := by
  obtain ⟨s, hs, hp⟩ := h.atFuel hr
  exact ⟨s, hs, by simp [exprClause, hkw, hp]⟩

theorem exprClause_none {kw : String} {r : List STok} (hr : Ends (endTok [kw]) r) : exprClause kw r = some (none, r) := by
  cases r with
  | nil => rfl
  | cons t tl =>
    have := endTok_word (k := kw) hr (by simp)
    simp [exprClause, this]

theorem listClause_none {α : Type} {kw : String} {loop : Nat → List STok → PR (List α)} {r : List STok}
    (hr : Ends (endTok [kw]) r) : listClause kw loop r = some ([], r) := by
  match r, hr with
  | [], _ => rfl
  | [t], _ => rfl
  | t :: b :: tl, hr =>
    have := endTok_word (k := kw) hr (by simp)
    simp [listClause, this]

theorem groupPart_some {tss : List (List STok)} {wants : List SExpr} (h : ListRel ExprP tss wants) (hne : tss ≠ [])
    {r : List STok} (hr : Ends (endTok []) r) :
    ∃ es, groupPart (RT.W "GROUP" :: RT.W "BY" :: (sepToks tss ++ r)) = some (es, r) ∧ ListRel NormEq es wants := by
  obtain ⟨es, hes, hrel⟩ := SqlCommaLoop.list pExprsComma_loop (by decide)
    (fun ts w hw r hr => let ⟨s, hs, hp⟩ := hw.atFuel hr; ⟨s, hp, hs⟩) stop_comma h hne (endTok_stop hr) (endTok_noComma hr)
  exact ⟨es, by simpa [listClause] using hes, hrel⟩

def OrdRel (o w : OrderTerm) : Prop := NormEq o.expr w.expr ∧ o.asc = w.asc ∧ o.nullsFirst = w.nullsFirst

def ordToks (E : List STok) (asc nf : Bool) : List STok :=
  E ++ [RT.W (if asc then "ASC" else "DESC"), RT.W "NULLS", RT.W (if nf then "FIRST" else "LAST")]

def OrdP (ts : List STok) (w : OrderTerm) : Prop := ∃ E, ts = ordToks E w.asc w.nullsFirst ∧ ExprP E w.expr

theorem stop_dir (asc : Bool) : stopTok (RT.W (if asc then "ASC" else "DESC")) = true := by
  cases asc
  · exact stop_kw (by simp [C01.clauseWords])
  · exact stop_kw (by simp [C01.clauseWords])

theorem isWord_dir (asc : Bool) :
    isWord (RT.W (if asc then "ASC" else "DESC")) "ASC" = asc ∧ isWord (RT.W (if asc then "ASC" else "DESC")) "DESC" = !asc := by
  cases asc <;> simp [RT.W]

theorem isWord_nulls (nf : Bool) :
    isWord (RT.W (if nf then "FIRST" else "LAST")) "FIRST" = nf ∧ isWord (RT.W (if nf then "FIRST" else "LAST")) "LAST" = !nf := by
  cases nf <;> simp [RT.W]

def pOrderTerm (ts : List STok) : PR OrderTerm :=
  match pExprS (fuelOf ts) 0 ts with
  | some (e, d :: n :: fl :: r2) =>
    if (isWord d "ASC" || isWord d "DESC") && isWord n "NULLS" && (isWord fl "FIRST" || isWord fl "LAST") then
      some (⟨e, isWord d "ASC", isWord fl "FIRST"⟩, r2)
    else none
  | _ => none

theorem pOrderTerms_loop : SqlCommaLoop pOrderTerms pOrderTerm := by
  intro fuel ts
  cases hp : pExprS (fuelOf ts) 0 ts with
  | none => simp only [pOrderTerms, pOrderTerm, hp]
  | some x =>
    obtain ⟨e, r⟩ := x
    rcases r with _ | ⟨d, _ | ⟨n, _ | ⟨fl, r2⟩⟩⟩ <;> simp only [pOrderTerms, pOrderTerm, hp]
    split <;> rfl

theorem OrdP.reads {ts : List STok} {w : OrderTerm} (h : OrdP ts w) (r : List STok) :
    ∃ o, pOrderTerm (ts ++ r) = some (o, r) ∧ OrdRel o w := by
  obtain ⟨E, rfl, hE⟩ := h
  obtain ⟨e, asc, nf⟩ := w
  obtain ⟨s, hs, hp⟩ := hE.atFuel (rest := RT.W (if asc then "ASC" else "DESC") :: RT.W "NULLS" ::
    RT.W (if nf then "FIRST" else "LAST") :: r) (stop_dir asc)
  refine ⟨⟨s, asc, nf⟩, ?_, hs, rfl, rfl⟩
  have hn : isWord (RT.W "NULLS") "NULLS" = true := by simp [RT.W]
  simp only [ordToks, List.append_assoc, List.cons_append, List.nil_append] at hp ⊢
  simp only [pOrderTerm, hp, isWord_dir, isWord_nulls, hn, Bool.or_not_self, Bool.and_self, if_true]

theorem orderPart_some {tss : List (List STok)} {wants : List OrderTerm} (h : ListRel OrdP tss wants) (hne : tss ≠ [])
    {r : List STok} (hr : Ends (endTok []) r) :
    ∃ obs, orderPart (RT.W "ORDER" :: RT.W "BY" :: (sepToks tss ++ r)) = some (obs, r) ∧ ListRel OrdRel obs wants := by
  obtain ⟨obs, hobs, hrel⟩ := SqlCommaLoop.list pOrderTerms_loop (by decide) (q := fun _ => true)
    (fun ts w hw r _ => hw.reads r) rfl h hne (hr.mono fun _ _ => rfl) (endTok_noComma hr)
  exact ⟨obs, by simpa [listClause] using hobs, hrel⟩

def ItemRel (it w : SelectItem) : Prop := it.star = w.star ∧ NormEq it.expr w.expr ∧ it.alias = w.alias

def ItemP (ts : List STok) (w : SelectItem) : Prop := ∀ r, ∃ it, pItem (ts ++ r) = some (it, r) ∧ ItemRel it w

theorem itemP_star : ItemP [S "*"] ⟨true, .none_, none⟩ :=
  fun r => ⟨⟨true, .none_, none⟩, by simp [pItem], rfl, rfl, rfl⟩

theorem pAlias_some {a : Bytes} (ha : upper a = "AS") (n : Bytes) (r : List STok) :
    pAlias (.word a :: .qid n :: r) = (some n, r) := by
  simp [pAlias, ha]

theorem pAlias_none {r : List STok} (hr : Ends (endTok ["AS"]) r) : pAlias r = (none, r) := by
  unfold pAlias
  split
  · have := endTok_word (k := "AS") hr (by simp)
    simp [this]
  · rfl

theorem ExprP.not_star {E : List STok} {w : SExpr} (h : ExprP E w) : ∃ t tl, E = t :: tl ∧ isSym t "*" = false := by
  obtain ⟨t, tl, rfl, ht⟩ := h.head
  refine ⟨t, tl, rfl, ?_⟩
  simp only [startTok, Bool.and_eq_true, Bool.not_eq_true'] at ht
  exact ht.2

theorem itemP_alias {E : List STok} {w : SExpr} (h : ExprP E w) {a : Bytes} (ha : upper a = "AS") (n : Bytes) :
    ItemP (E ++ [.word a, .qid n]) ⟨false, w, some n⟩ := by
  intro r
  have hstop : stopTok (.word a) = true := stop_kw (by rw [ha]; simp [C01.clauseWords])
  obtain ⟨s, hs, hp⟩ := h.atFuel (rest := STok.word a :: .qid n :: r) hstop
  obtain ⟨t, tl, rfl, ht⟩ := ExprP.not_star h
  refine ⟨⟨false, s, some n⟩, ?_, rfl, hs, rfl⟩
  simp only [List.append_assoc, List.cons_append, List.nil_append] at hp ⊢
  simp only [pItem, ht, Bool.false_eq_true, if_false, hp, pAlias_some ha]

theorem pItems_select {tss : List (List STok)} {wants : List SelectItem} (h : ListRel ItemP tss wants) (hne : tss ≠ [])
    (r : List STok) :
    ∃ its, pItems ((sepToks tss ++ RT.W "FROM" :: r).length + 1) (sepToks tss ++ RT.W "FROM" :: r) =
        some (its, RT.W "FROM" :: r) ∧ ListRel ItemRel its wants :=
  SqlCommaLoop.list pItems_loop rfl (q := fun _ => true) (fun _ _ hw r _ => hw r) rfl h hne rfl rfl

theorem pTableRef_named (n : Bytes) {r : List STok} (hr : Ends (endTok ["AS"]) r) :
    pTableRef (.qid n :: r) = some (.named n none, r) := by
  simp [pTableRef, pAlias_none hr]

theorem joinPart_none {r : List STok} (hr : Ends (endTok ["JOIN", "LEFT"]) r) : joinPart r = some (none, r) := by
  cases r with
  | nil => rfl
  | cons t tl =>
    have h1 := endTok_word (k := "JOIN") hr (by simp)
    have h2 := endTok_word (k := "LEFT") hr (by simp)
    simp [joinPart, h1, h2]

def joinToks (unique left : Bool) (l r : Bytes) (cond : List STok) : List STok :=
  (if unique then [S "(", RT.W "SELECT", RT.W "DISTINCT", S "*", RT.W "FROM", STok.qid l, S ")"] else [STok.qid l]) ++
  [RT.W "AS", .qid (Bytes.ofString "$left")] ++ (if left then [RT.W "LEFT", RT.W "JOIN"] else [RT.W "JOIN"]) ++
  [STok.qid r, RT.W "AS", .qid (Bytes.ofString "$right"), RT.W "ON"] ++ cond

theorem join_parse (unique left : Bool) (l r : Bytes) {cond : List STok} {w : SExpr} (h : ExprP cond w)
    {rest : List STok} (hr : Ends stopTok rest) :
    ∃ c, NormEq c w ∧ ∃ r3,
      pTableRef (joinToks unique left l r cond ++ rest) =
        some (if unique then .distinctOf l (some (Bytes.ofString "$left")) else .named l (some (Bytes.ofString "$left")), r3) ∧
      joinPart r3 = some (some ⟨left, .named r (some (Bytes.ofString "$right")), c⟩, rest) := by
  obtain ⟨c, hc, hp⟩ := h.atFuel hr
  refine ⟨c, hc, (if left then [RT.W "LEFT", RT.W "JOIN"] else [RT.W "JOIN"]) ++
    [STok.qid r, RT.W "AS", .qid (Bytes.ofString "$right"), RT.W "ON"] ++ cond ++ rest, ?_, ?_⟩
  · cases unique <;> simp [joinToks, pTableRef, pAlias]
  · cases left <;> simp [joinPart, pTableRef, pAlias, hp]

/-- one element of a WITH list: `"name" AS ( select )` -/
def pCte (ts : List STok) : PR (Bytes × Select) :=
  match ts with
  | .qid n :: a :: lp :: rest =>
    if isWord a "AS" && isSym lp "(" then
      match pSelect rest with
      | some (sel, rp :: r2) => if !isSym rp ")" then none else some ((n, sel), r2)
      | _ => none
    else none
  | _ => none

theorem pCte_nq {t : STok} (h : ∀ n, t ≠ .qid n) (rest : List STok) : pCte (t :: rest) = none := by
  cases t with
  | qid m => exact absurd rfl (h m)
  | _ => rcases rest with _ | ⟨a, _ | ⟨b, r⟩⟩ <;> rfl

theorem pCtes_loop : SqlCommaLoop pCtes pCte := fun fuel ts => by
  rcases ts with _ | ⟨t, _ | ⟨a, _ | ⟨lp, rest⟩⟩⟩
  · rfl
  · cases t <;> rfl
  · cases t <;> rfl
  · cases t <;> try rfl
    simp only [pCtes, pCte]
    split
    · rcases pSelect rest with _ | ⟨sel, _ | ⟨rp, _ | ⟨cm, r3⟩⟩⟩ <;> try rfl
      all_goals (simp only; split <;> rfl)
    · rfl

end Pql.C05
