/-
LexRender: byte-class facts and the behaviour of one lexer step (`lexStep`) on each
kind of token, with an abstract following text.
-/
import PqlModel.Lemmas.LexRenderStep
import PqlModel.Props.C04
namespace Pql.LexRender
open Pql Sql

/-- a Boolean property of bytes checked on all 256 values -/
theorem forall_uint8 (P : UInt8 → Bool)
    (h : (List.range 256).all (fun n => P (UInt8.ofNat n)) = true) (c : UInt8) : P c = true := by
  have := List.all_eq_true.mp h c.toNat (by simp [List.mem_range]; exact c.toNat_lt)
  simpa using this

/-- the byte starts none of the branches of `lexStep` before the word branch -/
def preWord (c : UInt8) : Bool :=
  !isSpaceB c && !(c == 45) && !(c == 47) && !(c == 39) && !(c == 34)

/-- the byte reaches the symbol branch of `lexStep` unless it opens a comment -/
def symByte (c : UInt8) : Bool :=
  !isSpaceB c && !(c == 39) && !(c == 34) && !isWordStart c && !isDigitB c && !(c == 36) &&
    !(c == 63) && !(c == 123)

theorem wordStart_pre (c : UInt8) : (!isWordStart c || preWord c) = true :=
  forall_uint8 (fun c => !isWordStart c || preWord c) (by decide +kernel) c

theorem digit_pre (c : UInt8) : (!isDigitB c || (preWord c && !isWordStart c)) = true :=
  forall_uint8 (fun c => !isDigitB c || (preWord c && !isWordStart c)) (by decide +kernel) c

/-- every symbol of the two tables starts with a byte that reaches the symbol branch (checked
    on the tables) -/
theorem sym1_pre {c : UInt8} {o : UInt8 × String} (hk : oneCharSyms.find? (fun o => o.1 == c) = some o) :
    symByte c = true := by
  have ho : oneCharSyms.all (fun o => symByte o.1) = true := by decide
  have := List.all_eq_true.mp ho o (List.mem_of_find?_eq_some hk)
  have hc : (o.1 == c) = true := List.find?_some (p := fun o : UInt8 × String => o.1 == c) hk
  rwa [eq_of_beq hc] at this

theorem sym2_pre {c d : UInt8} {o : UInt8 × UInt8 × String}
    (hk : twoCharSyms.find? (fun o => o.1 == c && o.2.1 == d) = some o) :
    (symByte c && !(c == 45) && !(c == 47)) = true := by
  have ho : twoCharSyms.all (fun o => symByte o.1 && !(o.1 == 45) && !(o.1 == 47)) = true := by decide
  have := List.all_eq_true.mp ho o (List.mem_of_find?_eq_some hk)
  have hc : (o.1 == c && o.2.1 == d) = true := List.find?_some (p := fun o : UInt8 × UInt8 × String => o.1 == c && o.2.1 == d) hk
  rw [Bool.and_eq_true] at hc
  rwa [eq_of_beq hc.1] at this

theorem preWord_elim {c : UInt8} (h : preWord c = true) :
    isSpaceB c = false ∧ (c == 45) = false ∧ (c == 47) = false ∧ (c == 39) = false ∧ (c == 34) = false := by
  simp only [preWord, Bool.and_eq_true, Bool.not_eq_true'] at h
  exact ⟨h.1.1.1.1, h.1.1.1.2, h.1.1.2, h.1.2, h.2⟩

theorem symByte_elim {c : UInt8} (h : symByte c = true) :
    isSpaceB c = false ∧ (c == 39) = false ∧ (c == 34) = false ∧ isWordStart c = false ∧
      isDigitB c = false ∧ (c == 36) = false ∧ (c == 63) = false ∧ (c == 123) = false := by
  simp only [symByte, Bool.and_eq_true, Bool.not_eq_true'] at h
  exact ⟨h.1.1.1.1.1.1.1, h.1.1.1.1.1.1.2, h.1.1.1.1.1.2, h.1.1.1.1.2, h.1.1.1.2, h.1.1.2, h.1.2, h.2⟩

theorem spanWhile_append_stop (p : UInt8 → Bool) (w rest : Bytes) (hw : ∀ b ∈ w, p b = true)
    (hr : ∀ c, rest.head? = some c → p c = false) : spanWhile p (w ++ rest) = (w, rest) := by
  induction w with
  | nil =>
    cases rest with
    | nil => rfl
    | cons c r => simp [spanWhile, hr c rfl]
  | cons b w ih =>
    have hb := hw b (by simp)
    have := ih (fun x hx => hw x (by simp [hx]))
    simp [spanWhile, hb, this]

theorem skipBlock_append (a rest : Bytes) (h : skipBlockComment a = some []) :
    skipBlockComment (a ++ rest) = some rest := by
  induction a using skipBlockComment.induct with
  | case1 => simp [skipBlockComment] at h
  | case2 x => simp [skipBlockComment] at h
  | case3 a b r hc =>
    rw [skipBlockComment, if_pos hc] at h
    simp only [Option.some.injEq] at h
    subst h
    simp [skipBlockComment, hc]
  | case4 a b r hc ih =>
    rw [skipBlockComment, if_neg hc] at h
    have := ih h
    simp only [List.cons_append] at this ⊢
    rw [skipBlockComment, if_neg hc]; exact this

theorem lexStep_space (mode : QuoteMode) (c : UInt8) (rest : Bytes) (h : isSpaceB c = true) :
    lexStep mode c rest = some ([], rest) := by
  rw [lexStep, if_pos h]

theorem lexStep_wordStart (mode : QuoteMode) (c : UInt8) (rest : Bytes) (hc : isWordStart c = true) :
    lexStep mode c rest =
      some ([STok.word (c :: (spanWhile isWordCont rest).1)], (spanWhile isWordCont rest).2) := by
  have hp := wordStart_pre c
  simp only [hc, Bool.not_true, Bool.false_or] at hp
  obtain ⟨h1, h2, h3, h4, h5⟩ := preWord_elim hp
  rw [lexStep]
  simp only [h1, h2, h3, h4, h5, hc, Bool.false_and, Bool.false_eq_true, if_false, if_true]

theorem lexStep_word (mode : QuoteMode) (c : UInt8) (w rest : Bytes) (hc : isWordStart c = true)
    (hw : ∀ b ∈ w, isWordCont b = true) (hr : ∀ d, rest.head? = some d → isWordCont d = false) :
    lexStep mode c (w ++ rest) = some ([STok.word (c :: w)], rest) := by
  rw [lexStep_wordStart mode c _ hc, spanWhile_append_stop isWordCont w rest hw hr]

theorem lexStep_digit (mode : QuoteMode) (c : UInt8) (rest : Bytes) (hc : isDigitB c = true) :
    lexStep mode c rest =
      match numStep rest with
      | some (t, r) => some ([STok.num (c :: t)], r)
      | none => none := by
  have hp := digit_pre c
  simp only [hc, Bool.not_true, Bool.false_or, Bool.and_eq_true, Bool.not_eq_true'] at hp
  obtain ⟨h1, h2, h3, h4, h5⟩ := preWord_elim hp.1
  rw [lexStep]
  simp only [h1, h2, h3, h4, h5, hp.2, hc, Bool.false_and, Bool.false_eq_true, if_false, if_true]
  cases numStep rest <;> rfl

theorem lexStep_qid (n rest : Bytes) (hr : rest.head? ≠ some 34) :
    lexStep .standard 34 (C04.dbl 34 n ++ 34 :: rest) = some ([STok.qid n], rest) := by
  have hq := C04.lexQuoted_dbl .standard 34 n rest hr (by intro h; cases h)
  have h1 : isSpaceB 34 = false := by decide
  have h2 : ((34 : UInt8) == 45) = false := by decide
  have h3 : ((34 : UInt8) == 47) = false := by decide
  have h4 : ((34 : UInt8) == 39) = false := by decide
  rw [lexStep]
  simp only [h1, h2, h3, h4, hq, Bool.false_and, Bool.false_eq_true, if_false, if_true, beq_self_eq_true]

theorem lexStep_str (v rest : Bytes) (hr : rest.head? ≠ some 39) :
    lexStep .standard 39 (C04.dbl 39 v ++ 39 :: rest) = some ([STok.str v], rest) := by
  have hq := C04.lexQuoted_dbl .standard 39 v rest hr (by intro h; cases h)
  have h1 : isSpaceB 39 = false := by decide
  have h2 : ((39 : UInt8) == 45) = false := by decide
  have h3 : ((39 : UInt8) == 47) = false := by decide
  rw [lexStep]
  simp only [h1, h2, h3, hq, Bool.false_and, Bool.false_eq_true, if_false, if_true, beq_self_eq_true]

theorem lexStep_cmt (mode : QuoteMode) (body rest : Bytes)
    (hb : skipBlockComment (body ++ [42, 47]) = some []) :
    lexStep mode 47 (42 :: (body ++ [42, 47]) ++ rest) = some ([STok.comment], rest) := by
  have h1 : isSpaceB 47 = false := by decide
  have h2 : ((47 : UInt8) == 45) = false := by decide
  have hs := skipBlock_append _ rest hb
  rw [lexStep]
  simp only [h1, h2, Bool.false_and, Bool.false_eq_true, if_false, List.cons_append, List.head?_cons,
    beq_self_eq_true, Bool.and_self, if_true, List.tail_cons, hs]

/-- what must not follow a one-character symbol: the second half of a comment opener or of a
    two-character symbol -/
def sym1Bad (c d : UInt8) : Bool :=
  (c == 45 && d == 45) || (c == 47 && d == 42) ||
    (twoCharSyms.find? (fun o => o.1 == c && o.2.1 == d)).isSome

theorem lexStep_sym1 (mode : QuoteMode) (c : UInt8) (o : UInt8 × String) (rest : Bytes)
    (hk : oneCharSyms.find? (fun o => o.1 == c) = some o)
    (hbad : ∀ d, rest.head? = some d → sym1Bad c d = false) :
    lexStep mode c rest = some ([STok.sym o.2], rest) := by
  obtain ⟨h1, h2, h3, h4, h5, h6, h7, h8⟩ := symByte_elim (sym1_pre hk)
  rw [lexStep]
  cases rest with
  | nil =>
    simp only [h1, h2, h3, h4, h5, h6, h7, h8, List.head?_nil, Bool.false_eq_true, if_false,
      Option.bind_none, hk]
    simp
  | cons d r =>
    have hb := hbad d rfl
    simp only [sym1Bad, Bool.or_eq_false_iff] at hb
    obtain ⟨⟨hb1, hb2⟩, hb3⟩ := hb
    have hb3' : twoCharSyms.find? (fun o => o.1 == c && o.2.1 == d) = none := by
      cases hf : twoCharSyms.find? (fun o => o.1 == c && o.2.1 == d) with
      | none => rfl
      | some x => rw [hf] at hb3; simp at hb3
    have e1 : (c == 45 && some d == some 45) = false := by
      rw [← hb1]; simp
    have e2 : (c == 47 && some d == some 42) = false := by
      rw [← hb2]; simp
    simp only [h1, h2, h3, h4, h5, h6, h7, h8, e1, e2, Bool.false_eq_true, if_false,
      List.head?_cons, Option.bind_some, hb3', hk]

/-- a two-character symbol is read whole, whatever follows (no adjacency condition, unlike `lexStep_sym1`) -/
theorem lexStep_sym2 (mode : QuoteMode) (c d : UInt8) (o : UInt8 × UInt8 × String) (rest : Bytes)
    (hk : twoCharSyms.find? (fun o => o.1 == c && o.2.1 == d) = some o) :
    lexStep mode c (d :: rest) = some ([STok.sym o.2.2], rest) := by
  have hp := sym2_pre hk
  simp only [Bool.and_eq_true, Bool.not_eq_true'] at hp
  obtain ⟨⟨hs, h45⟩, h47⟩ := hp
  obtain ⟨h1, h2, h3, h4, h5, h6, h7, h8⟩ := symByte_elim hs
  rw [lexStep]
  simp only [h1, h2, h3, h4, h5, h6, h7, h8, h45, h47, Bool.false_and, Bool.false_eq_true, if_false,
    List.head?_cons, Option.bind_some, hk, List.tail_cons]

end Pql.LexRender
