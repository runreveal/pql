/-
C08, second sentence: three shapes that the analysis by token classes (`okPair`, `balanced`)
cannot exclude (`join` without `on`, `f(,)`, `in ()`), rejected by running the parser model on the
shape with arbitrary identifiers, spellings of the names and positions.
-/
import PqlModel.Lemmas.PiecewiseStmts
import PqlModel.Lemmas.RejectCl
namespace Pql.Reject
open Pql

theorem rejected_of_pStatement (src : Bytes) (h : ∀ t ∈ scan src, t.kind ≠ .semi)
    (he : (pStatement ⟨src.length⟩ (scan src)).2.1 ≠ []) : (parse src).2 ≠ [] := by
  rw [Piecewise.parse_nosemi_snd src h]; exact he

/-- `T | join (U)` — no `on` -/
theorem join_without_on (c : PCtx) (T pp jn lp U rp : Token)
    (hT : T.kind = .ident) (hpp : pp.kind = .pipe) (hjn : jn.kind = .ident) (hjv : jn.value = b "join")
    (hlp : lp.kind = .lparen) (hU : U.kind = .ident) (hrp : rp.kind = .rparen) :
    (pStatement c [T, pp, jn, lp, U, rp]).2.1 ≠ [] := by
  by_cases hl : T.value = Bytes.ofString "let"
  · simp +decide [pStatement, pLet, pIdent, hT, hpp, isIdentNamed, hl, isNF, mkOpaque, nfAt]
  · simp +decide [pStatement, pLet, fuelFor, pTabular, pIdent, hT, pOps, hpp, split, splitAux, hjn, hlp, hU,
      hrp, pOperator, hjv, pJoin, isIdentNamed, b, hl, isNF, nfAt, mkOpaque, endSplit, errAt]

/-- `T | where f(,)` — a comma without an argument -/
theorem call_only_comma (c : PCtx) (T pp wh f lp cm rp : Token)
    (hT : T.kind = .ident) (hpp : pp.kind = .pipe) (hwh : wh.kind = .ident) (hwv : wh.value = b "where")
    (hf : f.kind = .ident) (hlp : lp.kind = .lparen) (hcm : cm.kind = .comma) (hrp : rp.kind = .rparen) :
    (pStatement c [T, pp, wh, f, lp, cm, rp]).2.1 ≠ [] := by
  by_cases hl : T.value = Bytes.ofString "let"
  · simp +decide [pStatement, pLet, pIdent, hT, hpp, isIdentNamed, hl, isNF, mkOpaque, nfAt]
  · simp +decide [pStatement, pLet, fuelFor, pTabular, pIdent, hT, pOps, hpp, split, splitAux, hwh, hlp, hf,
      hcm, hrp, pOperator, hwv, pExpr, pUnary, pPrimary, pInner, pQualifiedIdent, pQualTail, pExprList, pTrail,
      isIdentNamed, b, hl, isNF, nfAt, mkOpaque, endSplit, errAt]

/-- `T | where a in ()` — an empty value list -/
theorem in_empty_list (c : PCtx) (T pp wh a i lp rp : Token)
    (hT : T.kind = .ident) (hpp : pp.kind = .pipe) (hwh : wh.kind = .ident) (hwv : wh.value = b "where")
    (ha : a.kind = .ident) (hi : i.kind = .in_) (hlp : lp.kind = .lparen) (hrp : rp.kind = .rparen) :
    (pStatement c [T, pp, wh, a, i, lp, rp]).2.1 ≠ [] := by
  by_cases hl : T.value = Bytes.ofString "let"
  · simp +decide [pStatement, pLet, pIdent, hT, hpp, isIdentNamed, hl, isNF, mkOpaque, nfAt]
  · simp +decide [pStatement, pLet, fuelFor, pTabular, pIdent, hT, pOps, hpp, split, splitAux, hwh, hlp, ha,
      hi, hrp, pOperator, hwv, pExpr, pUnary, pPrimary, pInner, pQualifiedIdent, pQualTail, pExprList, pTrail,
      precOf, isIdentNamed, b, hl, isNF, nfAt, mkOpaque, endSplit]

end Pql.Reject
