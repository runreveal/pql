/-
C08, second sentence: the token classes of `unparseExpr` (one clause per way it succeeds,
`UnparseExprAlg`).  For every expression a parse returns (`ParsedOK.sOK`): its `unparse` is
non-empty, starts with something that can start an operand, ends with an operand end, has only
allowed neighbours, and is bracket-balanced.
-/
import PqlModel.Lemmas.RejectCl
import PqlModel.Lemmas.ParsedOKExpr
import PqlModel.Lemmas.UnparseInduct
import PqlModel.Lemmas.TreeInduct
namespace Pql.Reject
open Pql Pql.Grammar
open Pql.ParsedOK (sOK sOKList)
open Pql.Exact (knownBinOp)

/-- first classes of an expression -/
def FE : List Cl := [.nm, .lit, .s .lparen, .s .plus, .s .minus]
/-- last classes of an expression -/
def LE : List Cl := [.nm, .lit, .s .rparen, .s .rbracket]

structure Good (F L : List Cl) (us : List UTok) : Prop where
  lin : Lin F L (us.map cl)
  bal : BalC (us.map cl)

theorem Good.one (u : UTok) (hbr : (cl u).br = .n) : Good [cl u] [cl u] [u] :=
  ⟨Lin.one _, BalC.one _ hbr⟩

theorem Good.app {F L F' L' : List Cl} {a c : List UTok} (ha : Good F L a) (hc : Good F' L' c)
    (h : ∀ x ∈ L, ∀ y ∈ F', okPair x y = true) : Good F L' (a ++ c) :=
  ⟨by rw [List.map_append]; exact ha.lin.app hc.lin h, by rw [List.map_append]; exact ha.bal.app hc.bal⟩

theorem Good.cons {F L : List Cl} {l : List UTok} (u : UTok) (c : Cl) (hc : cl u = c) (hbr : c.br = .n)
    (hl : Good F L l) (h : ∀ y ∈ F, okPair c y = true) : Good [c] L (u :: l) := by
  subst hc
  exact ⟨by rw [List.map_cons]; exact hl.lin.cons _ h, by rw [List.map_cons]; exact hl.bal.cons _ hbr⟩

theorem Good.snoc {F L : List Cl} {l : List UTok} (u : UTok) (c : Cl) (hc : cl u = c) (hbr : c.br = .n)
    (hl : Good F L l) (h : ∀ x ∈ L, okPair x c = true) : Good F [c] (l ++ [u]) := by
  subst hc
  exact hl.app (Good.one u hbr) (by intro x hx y hy; rw [List.mem_singleton.1 hy]; exact h x hx)

theorem Good.mono {F L F' L' : List Cl} {l : List UTok} (hl : Good F L l)
    (hF : ∀ a ∈ F, a ∈ F') (hL : ∀ a ∈ L, a ∈ L') : Good F' L' l :=
  ⟨hl.lin.mono hF hL, hl.bal⟩

theorem Good.parenRest {F L F' L' : List Cl} {a rest : List UTok} (lp rp : UTok)
    (hlp : cl lp = .s .lparen) (hrp : cl rp = .s .rparen) (ha : Good F L a) (hr : Good F' L' rest)
    (h1 : ∀ y ∈ F, okPair (.s .lparen) y = true) (h2 : ∀ x ∈ L, okPair x (.s .rparen) = true)
    (h3 : ∀ y ∈ F', okPair (.s .rparen) y = true) : Good [.s .lparen] L' (lp :: (a ++ rp :: rest)) := by
  refine ⟨?_, ?_⟩
  · have h := ((ha.lin.snoc (.s .rparen) h2).app hr.lin
      (by intro x hx y hy; rw [List.mem_singleton.1 hx]; exact h3 y hy)).cons (.s .lparen) h1
    simpa [hlp, hrp] using h
  · have h := BalC.paren ha.bal hr.bal
    simpa [hlp, hrp] using h

theorem Good.paren {F L : List Cl} {a : List UTok} (lp rp : UTok)
    (hlp : cl lp = .s .lparen) (hrp : cl rp = .s .rparen) (ha : Good F L a)
    (h1 : ∀ y ∈ F, okPair (.s .lparen) y = true) (h2 : ∀ x ∈ L, okPair x (.s .rparen) = true) :
    Good [.s .lparen] [.s .rparen] (lp :: (a ++ [rp])) := by
  refine ⟨?_, ?_⟩
  · have h := (ha.lin.snoc (.s .rparen) h2).cons (.s .lparen) h1
    simpa [hlp, hrp] using h
  · have h := BalC.paren ha.bal BalC.nil
    simpa [hlp, hrp] using h

theorem Good.parenEmpty (lp rp : UTok) (hlp : cl lp = .s .lparen) (hrp : cl rp = .s .rparen) :
    Good [.s .lparen] [.s .rparen] [lp, rp] := by
  refine ⟨?_, ?_⟩
  · have h := (Lin.one (.s .rparen)).cons (.s .lparen) (by decide)
    simpa [hlp, hrp] using h
  · have h := BalC.paren BalC.nil BalC.nil
    simpa [hlp, hrp] using h

theorem Good.brack {F L : List Cl} {a : List UTok} (lb rb : UTok)
    (hlb : cl lb = .s .lbracket) (hrb : cl rb = .s .rbracket) (ha : Good F L a)
    (h1 : ∀ y ∈ F, okPair (.s .lbracket) y = true) (h2 : ∀ x ∈ L, okPair x (.s .rbracket) = true) :
    Good [.s .lbracket] [.s .rbracket] (lb :: (a ++ [rb])) := by
  refine ⟨?_, ?_⟩
  · have h := (ha.lin.snoc (.s .rbracket) h2).cons (.s .lbracket) h1
    simpa [hlb, hrb] using h
  · have h := BalC.brack ha.bal BalC.nil
    simpa [hlb, hrb] using h

@[simp] theorem cl_sym (k : TokKind) (sp : Span) : cl (sym k sp) = plainCl k := rfl
@[simp] theorem cl_identTok (i : Ident) : cl (identTok i) = .nm := by
  cases i with
  | mk n sp q => cases q <;> rfl
@[simp] theorem cl_commaTok : cl commaTok = .s .comma := rfl
@[simp] theorem cl_lit (k : TokKind) (v : Bytes) (a c : Option Int) :
    cl { kind := k, value := v, start := a, stop := c } = plainCl k := rfl
@[simp] theorem cl_rparenOpt (rp : Span) : cl { sym .rparen rp with optComma := true } = .s .rparen := rfl
@[simp] theorem cl_dot : cl { kind := .dot } = .s .dot := rfl

theorem identsDotted_good : ∀ parts : List Ident, parts ≠ [] → Good [.nm] [.nm] (identsDotted parts)
  | [], h => absurd rfl h
  | [i], _ => by
    have := Good.one (identTok i) (by simp [Cl.br])
    simpa [identsDotted] using this
  | i :: j :: is, _ => by
    have ih := identsDotted_good (j :: is) (by simp)
    have h := (ih.cons { kind := .dot } (.s .dot) rfl rfl (by decide)).cons (identTok i) .nm (by simp) rfl
      (by decide)
    simpa [identsDotted] using h

theorem binop_facts (op : TokKind) (h : knownBinOp op = true) :
    (plainCl op).br = .n ∧ (∀ y ∈ FE, okPair (plainCl op) y = true) ∧
      (∀ x ∈ LE, okPair x (plainCl op) = true) := by
  have all : ∀ k ∈ [TokKind.eq, .ne, .cieq, .cine, .and_, .or_, .plus, .minus, .star, .slash, .mod, .lt,
      .le, .gt, .ge], (plainCl k).br = .n ∧ (∀ y ∈ FE, okPair (plainCl k) y = true) ∧
        (∀ x ∈ LE, okPair x (plainCl k) = true) := by decide +kernel
  exact all op ((Exact.knownBinOp_iff op).1 h)

theorem sign_facts (op : TokKind) (h : op = .plus ∨ op = .minus) :
    (plainCl op).br = .n ∧ (∀ y ∈ FE, okPair (plainCl op) y = true) ∧ plainCl op ∈ FE := by
  rcases h with rfl | rfl <;> decide

theorem lit_facts (k : TokKind) (h : k = .number ∨ k = .string) : plainCl k = .lit := by
  rcases h with rfl | rfl <;> rfl

theorem exprGood_alg : UnparseExprAlg (fun e us => sOK e = true → Good FE LE us)
    (fun l us => sOKList l = true → (l = .nil ∧ us = []) ∨ (l ≠ .nil ∧ Good FE LE us)) where
  qident := fun i is _ => (identsDotted_good (i :: is) (List.cons_ne_nil _ _)).mono (by decide) (by decide)
  lit := fun sp k v h => by
    simp only [sOK, Bool.or_eq_true, decide_eq_true_eq] at h
    have := Good.one { kind := k, value := v, start := some sp.start, stop := some sp.stop }
      (by rw [cl_lit, lit_facts k h]; rfl)
    rw [cl_lit, lit_facts k h] at this
    exact this.mono (by decide) (by decide)
  unary := fun os op _ _ ih h => by
    simp only [sOK, Bool.and_eq_true, Bool.or_eq_true, decide_eq_true_eq] at h
    obtain ⟨f1, f2, f3⟩ := sign_facts op h.1
    exact ((ih h.2).cons (sym op os) _ rfl f1 f2).mono (by intro a ha; rw [List.mem_singleton.1 ha]; exact f3)
      (fun _ h => h)
  binary := fun _ os op _ _ _ ihx ihy h => by
    obtain ⟨f1, f2, f3⟩ := binop_facts op (and_true_of h).1
    exact (ihx (and_true_of (and_true_of h).2).1).app
      ((ihy (and_true_of (and_true_of h).2).2).cons (sym op os) _ rfl f1 f2)
      (by intro a ha c hc; rw [List.mem_singleton.1 hc]; exact f3 a ha)
  inE := fun _ i lp vals rp _ vs ihx ihv h => by
    simp only [sOK, Bool.and_eq_true, bne_iff_ne, ne_eq] at h
    have hvs : Good FE LE vs := by
      rcases ihv h.2.1 with ⟨hn, _⟩ | ⟨_, hg⟩
      · rw [hn] at h; exact absurd rfl h.2.2
      · exact hg
    have hp := Good.paren (sym .lparen lp) (sym .rparen rp) rfl rfl hvs (by decide) (by decide)
    have := (ihx h.1).app (hp.cons (sym .in_ i) (.s .in_) rfl rfl (by decide)) (by decide)
    rw [List.append_assoc]
    exact this.mono (L' := LE) (fun _ h => h) (by decide)
  paren := fun lp _ rp _ ih h =>
    (Good.paren (sym .lparen lp) (sym .rparen rp) rfl rfl (ih h) (by decide) (by decide)).mono (by decide)
      (by decide)
  call := fun fn lp _ rp as iha h => by
    have hp : Good [.s .lparen] [.s .rparen] (sym .lparen lp :: (as ++ [{ sym .rparen rp with optComma := true }])) := by
      rcases iha (and_true_of h).2 with ⟨_, hn⟩ | ⟨_, hg⟩
      · subst hn; exact Good.parenEmpty _ _ rfl rfl
      · exact Good.paren _ _ rfl rfl hg (by decide) (by decide)
    exact (hp.cons (identTok fn) .nm (by simp) rfl (by decide)).mono (by decide) (by decide)
  index := fun _ lb _ rb _ _ ihx ihi h => by
    have hb := Good.brack (sym .lbracket lb) (sym .rbracket rb) rfl rfl (ihi (and_true_of h).2) (by decide)
      (by decide)
    rw [List.append_assoc]
    exact ((ihx (and_true_of h).1).app hb (by decide)).mono (L' := LE) (fun _ h => h) (by decide)
  lnil := fun _ => Or.inl ⟨rfl, rfl⟩
  one := fun _ _ ih h => Or.inr ⟨nofun, ih (and_true_of h).1⟩
  cons := fun _ _ _ _ _ ihe ihl h =>
    Or.inr ⟨nofun, (ihe (and_true_of h).1).app
      (((ihl (and_true_of h).2).resolve_left (fun hn => nomatch hn.1)).2.cons commaTok (.s .comma) rfl rfl
        (by decide)) (by decide)⟩

theorem expr_good (e : Expr) (us : List UTok) (h : sOK e = true) (hu : unparseExpr e = some us) :
    Good FE LE us := exprGood_alg.expr e us hu h

theorem list_good (l : ExprList) (us : List UTok) (h : sOKList l = true) (hu : unparseExprList l = some us) :
    (l = .nil ∧ us = []) ∨ (l ≠ .nil ∧ Good FE LE us) := exprGood_alg.list l us hu h

end Pql.Reject
