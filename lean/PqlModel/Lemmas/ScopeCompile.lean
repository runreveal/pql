/-
The subquery splitter consults the scope only for the names the expressions of the query mention (as
unquoted single-part identifiers): scopes that agree on those names (`AgreeOn`) give the same split
(`splitOps_agree`); equivalent scopes (`ScopeEq`) and scopes that differ at an unmentioned name only
(`ScopeEqOff`) are the two instances.  Every expression of a subquery of the split is an expression of the
query (`splitOps_all`), so the writers behind the split agree as well (Props/C14Order.lean).

Also here: the writer of a subquery cut into its SELECT part and its ORDER BY / LIMIT part (`bodyOf`,
`tailOf`; `write_eq`: `Subquery.write` is the one followed by the other), and `paramScope`, the scope a
parameter list stands for, which for distinct names does not depend on the order of the list
(`paramScope_perm`).
-/
import PqlModel.Lemmas.ScopeEq
import PqlModel.Lemmas.SplitQueriesInv
namespace Pql

/-- `project name` stands for `project name = name` -/
def projExpr (c : Column) : Expr :=
  match c.x with
  | .nil => .qident (match c.name with | some n => [n] | none => [])
  | x => x

mutual
/-- every expression of a query that is ever written (join conditions before their rewrite) -/
def tabularExprs : Tabular → List Expr
  | .nil => []
  | .mk _ ops => opsExprs ops
def opsExprs : OpList → List Expr
  | .nil => []
  | .cons o os => opExprs o ++ opsExprs os
def opExprs : Op → List Expr
  | .where_ _ _ e => [e]
  | .sort _ _ ts => ts.map (·.x)
  | .take _ _ n => [n]
  | .top _ _ n _ c => n :: (match c with | some t => [t.x] | none => [])
  | .project _ _ cs => cs.map projExpr
  | .extend _ _ cs => cs.map (·.x)
  | .summarize _ _ cs _ gs => gs.map (·.x) ++ cs.map (·.x)
  | .join _ _ _ _ _ _ right _ _ conds =>
    -- a join without conditions is written as `on true`
    tabularExprs right ++
      (match conds with
       | .nil => [.qident [⟨Bytes.ofString "true", .zero, false⟩]]
       | .cons c cs => c :: cs.toList)
  | .count .. => []
  | .as_ .. => []
  | .render .. => []
end

/-- the expressions `compileStmts` / `compileChunks` write: let values before the query, and
    the query's -/
def stmtsExprs : List Stmt → Bool → List Expr
  | [], _ => []
  | .tabular t :: rest, _ => tabularExprs t ++ stmtsExprs rest true
  | .let_ _ _ _ x :: rest, seen => (if seen then [] else [x]) ++ stmtsExprs rest seen

theorem forall_opsExprs_cons {P : Expr → Prop} {o : Op} {os : OpList} (h : ∀ e ∈ opsExprs (.cons o os), P e) :
    (∀ e ∈ opExprs o, P e) ∧ ∀ e ∈ opsExprs os, P e := by
  simp only [opsExprs] at h
  exact ⟨fun e he => h e (List.mem_append_left _ he), fun e he => h e (List.mem_append_right _ he)⟩

def ScopeEqOff (k : Bytes) (s s' : Scope) : Prop := ∀ n, n ≠ k → lookupScope s n = lookupScope s' n

theorem ScopeEqOff.extra (k : Bytes) (v : List Chunk) (s : Scope) : ScopeEqOff k ((k, v) :: s) s := by
  intro n hn
  rw [lookupScope_cons]
  have : (k == n) = false := by
    simp only [beq_eq_false_iff_ne, ne_eq]
    exact fun h => hn h.symm
  simp only [this, Bool.false_eq_true, if_false]

theorem ScopeEqOff.agreeOn {k : Bytes} {s s' : Scope} (h : ScopeEqOff k s s') {e : Expr}
    (hm : exprMentions k e = false) : AgreeOn s s' e :=
  fun n hn => h n (by rintro rfl; rw [hm] at hn; cases hn)

theorem writeList_off {k : Bytes} {src : Bytes} {m : Mode} {s s' : Scope} (h : ScopeEqOff k s s') :
    (es : ExprList) → listMentions k es = false → writeList ⟨src, s, m⟩ es = writeList ⟨src, s', m⟩ es :=
  fun es hm => writeList_agree es fun n hn => h n (by rintro rfl; rw [hm] at hn; cases hn)

theorem writeListMP_off {k : Bytes} {src : Bytes} {m : Mode} {s s' : Scope} (h : ScopeEqOff k s s') :
    (es : ExprList) → listMentions k es = false →
      writeListMaybeParen' ⟨src, s, m⟩ es = writeListMaybeParen' ⟨src, s', m⟩ es :=
  fun es hm => writeListMP_agree es fun n hn => h n (by rintro rfl; rw [hm] at hn; cases hn)

theorem buildJoin_agree {s s' : Scope} (conds : ExprList)
    (h : ∀ e ∈ (match conds with
       | .nil => [Expr.qident [⟨Bytes.ofString "true", .zero, false⟩]]
       | .cons c cs => c :: cs.toList), AgreeOn s s' e) :
    AgreeOn s s' (buildJoinCondition conds) := by
  have key : ∀ part, AgreeOn s s' (.qident [part]) → AgreeOn s s' (.binary
      (.qident [⟨leftAlias, .zero, false⟩, part]) .zero .eq (.qident [⟨rightAlias, .zero, false⟩, part])) :=
    fun _ _ n hn => by simp only [exprMentions, Bool.or_self, Bool.false_eq_true] at hn
  cases conds with
  | nil => exact h _ (List.mem_singleton.2 rfl)
  | cons c cs =>
    exact buildJoinCondition_go_of (PL := fun es => ∀ y ∈ es.toList, AgreeOn s s' y) key
      (fun y ys h => ⟨h y (by simp [ExprList.toList]), fun z hz => h z (by simp [ExprList.toList, hz])⟩)
      (fun _ _ hx hy n hn => (Bool.or_eq_true_iff.1 hn).elim (hx n) (hy n)) cs _
      (rewriteSimpleJoinCondition_of key (h c (by simp))) (fun y hy => h y (by simp [hy]))

/-- the expressions `Subquery.write` writes for an operator -/
def opWriteExprs : Op → List Expr
  | .project _ _ cols => cols.map projExpr
  | .extend _ _ cols => cols.map (·.x)
  | .summarize _ _ cols _ gs => gs.map (·.x) ++ cols.map (·.x)
  | .where_ _ _ pred => [pred]
  | _ => []

def subExprs (sub : Subquery) : List Expr :=
  (match sub.op with | some o => opWriteExprs o | none => []) ++
  (match sub.sort with | some ts => ts.map (·.x) | none => []) ++
  (match sub.take with | some n => [n] | none => [])

theorem projExpr_write (ctx : Ctx) (c : Column) :
    (match c.x with
      | .nil => writeExpr ctx (.qident (match c.name with | some n => [n] | none => []))
      | x => writeExpr ctx x) = writeExpr ctx (projExpr c) := by
  unfold projExpr
  cases c.x <;> rfl

def projCol (ctx : Ctx) (c : Column) : W := do
  let x ← match c.x with
    | .nil => writeExpr ctx (.qident (match c.name with | some n => [n] | none => []))
    | x => writeExpr ctx x
  pure (x ++ [.txt " AS ", .qid (identName c.name)])

theorem projCol_eq (ctx : Ctx) (c : Column) :
    projCol ctx c = writeExpr ctx (projExpr c) >>= fun x => pure (x ++ [.txt " AS ", .qid (identName c.name)]) := by
  obtain ⟨nm, asg, x⟩ := c
  cases x <;> rfl

/-- one extend / summarize column, as the model writes it -/
def colW (ctx : Ctx) (c : Column) : W :=
  writeExpr ctx c.x >>= fun x => columnAlias ctx c >>= fun a => pure (x ++ a)

theorem writeColumns_eq (ctx : Ctx) : ∀ cs, writeColumns ctx cs = cs.mapM (colW ctx)
  | [] => rfl
  | c :: cs => by
    rw [writeColumns, List.mapM_cons, writeColumns_eq ctx cs, colW]
    cases writeExpr ctx c.x with
    | error e => rfl
    | ok x => cases columnAlias ctx c <;> rfl

def bodyOf (ctx : Ctx) (op : Option Op) (source : List Chunk) : Except WErr (Option (List Chunk)) :=
  match op with
  | none => pure (some (.txt "SELECT * FROM " :: source))
  | some (.as_ ..) => pure (some (.txt "SELECT * FROM " :: source))
  | some (.project _ _ cols) => do
    let cs ← cols.mapM (projCol ctx)
    pure (some (.txt "SELECT " :: sepChunks ", " cs ++ .txt " FROM " :: source))
  | some (.extend _ _ cols) => do
    let cs ← writeColumns ctx cols
    pure (some (.txt "SELECT *" :: (cs.flatMap fun c => .txt ", " :: c) ++ .txt " FROM " :: source))
  | some (.summarize _ _ cols _ groupBy) => do
    let gs ← writeColumns ctx groupBy
    let cs ← writeColumns ctx cols
    let gb ← groupBy.mapM fun (c : Column) => writeExpr ctx c.x
    pure (some (.txt "SELECT " :: sepChunks ", " (gs ++ cs) ++ .txt " FROM " :: source ++
      (if groupBy.isEmpty then [] else .txt " GROUP BY " :: sepChunks ", " gb)))
  | some (.where_ _ _ pred) => do
    let p ← writeExpr ctx pred
    pure (some (.txt "SELECT * FROM " :: source ++ .txt " WHERE " :: p))
  | some (.count ..) => pure (some (.txt "SELECT COUNT(*) AS \"count()\" FROM " :: source))
  | some (.render _ _ chart _ _ props _) =>
    pure (some ([.txt "SELECT *,\n", .txt "    ", .qstr (identName chart), .txt " as \"render_type\""] ++
      (props.flatMap fun p =>
        [.txt ",\n    ", .qstr (renderPropValue p.value), .txt " as ",
         .qid (Bytes.ofString "render_prop_" ++ identName p.name)]) ++
      .txt "\nFROM " :: source))
  | some _ => pure none

/-- the operator kinds `splitQueries` stores in a subquery -/
def Exact.storedOp : Op → Bool
  | .as_ .. | .project .. | .extend .. | .summarize .. | .where_ .. | .count .. | .render .. => true
  | _ => false

/-- `bodyOf` has a body exactly for no operator and for the stored kinds: the default case of the type switch
    of `(*subquery).write` is the case of an operator that is never stored -/
theorem Exact.bodyOf_isSome {ctx : Ctx} {op : Option Op} {source : List Chunk} {b : Option (List Chunk)}
    (h : bodyOf ctx op source = .ok b) : b.isSome = op.all Exact.storedOp := by
  have one : ∀ {α : Type} {w : Except WErr α} {f : α → List Chunk},
      (w >>= fun a => pure (some (f a))) = .ok b → b.isSome = true := by
    intro α w f h
    cases w with
    | error e => cases h
    | ok a => cases h; rfl
  rcases op with _ | o
  · cases h; rfl
  cases o with
  | where_ | project | extend => exact one h
  | summarize p k cols by_ gs =>
    simp only [bodyOf] at h
    cases hg : writeColumns ctx gs with
    | error e => rw [hg] at h; cases h
    | ok g =>
      cases hc : writeColumns ctx cols with
      | error e => rw [hg, hc] at h; cases h
      | ok c => rw [hg, hc] at h; exact one h
  | _ => cases h; rfl

theorem bodyOf_noBody (c : Ctx) {o : Op} (src : List Chunk) : Exact.storedOp o = false → bodyOf c (some o) src = pure none := by
  cases o <;> first | (intro _; rfl) | (intro h; cases h)

def tailOf (ctx : Ctx) (sort : Option (List SortTerm)) (take : Option Expr) (body : Option (List Chunk)) : W :=
  match body with
  | none => pure [.txt "SELECT NULL /* unsupported operator */"]
  | some body => do
    let sortPart ← match sort with
      | some terms => do
        let ts ← writeSortTerms ctx terms
        pure (.txt " ORDER BY " :: sepChunks ", " ts)
      | none => pure []
    let takePart ← match take with
      | some n => do
        let x ← writeExpr ctx n
        pure (.txt " LIMIT " :: x)
      | none => pure []
    pure (body ++ sortPart ++ takePart)

def sortPartOf (ctx : Ctx) : Option (List SortTerm) → W
  | some terms => do
    let ts ← writeSortTerms ctx terms
    pure (.txt " ORDER BY " :: sepChunks ", " ts)
  | none => pure []

def takePartOf (ctx : Ctx) : Option Expr → W
  | some n => do
    let x ← writeExpr ctx n
    pure (.txt " LIMIT " :: x)
  | none => pure []

theorem tailOf_some (ctx : Ctx) (sort : Option (List SortTerm)) (take : Option Expr) (body : List Chunk) :
    tailOf ctx sort take (some body) = (do
      let sp ← sortPartOf ctx sort
      let tp ← takePartOf ctx take
      pure (body ++ sp ++ tp)) := by
  cases sort <;> cases take <;> simp only [tailOf, sortPartOf, takePartOf, bind_assoc, pure_bind]

theorem write_eq (ctx : Ctx) (sub : Subquery) :
    sub.write ctx = bodyOf ctx sub.op sub.source >>= tailOf ctx sub.sort sub.take := by
  obtain ⟨name, source, op, sort, take⟩ := sub
  rcases op with _ | o
  · rfl
  · cases o with
    | project | extend | summarize | where_ =>
      simp only [Subquery.write, bodyOf, tailOf, bind_assoc, pure_bind]
      rfl
    | _ => rfl

mutual
theorem splitQueries_agree {src : Bytes} {s s' : Scope} :
    (t : Tabular) → (∀ e ∈ tabularExprs t, AgreeOn s s' e) → (dst : List Subquery) →
      splitQueries src s dst t = splitQueries src s' dst t
  | .nil, _, dst => by simp only [splitQueries]
  | .mk source ops, hm, dst => by
    simp only [tabularExprs] at hm
    simp only [splitQueries, splitOps_agree ops hm]

theorem splitOps_agree {src : Bytes} {s s' : Scope} :
    (ops : OpList) → (∀ e ∈ opsExprs ops, AgreeOn s s' e) →
    (source : Option Ident) → (dstStart : Nat) → (dst : List Subquery) →
      splitOps src s source dstStart dst ops = splitOps src s' source dstStart dst ops
  | .nil, _, source, dstStart, dst => by simp only [splitOps]
  | .cons o rest, hm, source, dstStart, dst => by
    obtain ⟨ho, hrest⟩ := forall_opsExprs_cons hm
    cases hst : SplitQ.steps o with
    | true =>
      rw [SplitQ.splitOps_step src s source dstStart dst hst, SplitQ.splitOps_step src s' source dstStart dst hst,
        splitOps_agree rest hrest]
    | false =>
      cases o with
      | join _ _ _ _ flavor _ right _ _ conds =>
        have hright := splitQueries_agree (src := src) right fun e he => ho e (List.mem_append_left _ he)
        have hcond := buildJoin_agree conds fun e he => ho e (List.mem_append_right _ he)
        simp only [splitOps, splitOps_agree (src := src) rest hrest, hright, writeExpr_agree _ hcond]
      | top _ _ _ _ col =>
        cases col with
        | none => simp only [splitOps]
        | some c => cases hst
      | _ => cases hst
end

theorem splitOps_scopeEq {src : Bytes} {s s' : Scope} (h : ScopeEq s s') :
    (ops : OpList) → (source : Option Ident) → (dstStart : Nat) → (dst : List Subquery) →
      splitOps src s source dstStart dst ops = splitOps src s' source dstStart dst ops :=
  fun ops => splitOps_agree ops fun e _ => h.agreeOn e

theorem splitOps_off {k : Bytes} {src : Bytes} {s s' : Scope} (h : ScopeEqOff k s s') :
    (ops : OpList) → (∀ e ∈ opsExprs ops, exprMentions k e = false) →
    (source : Option Ident) → (dstStart : Nat) → (dst : List Subquery) →
      splitOps src s source dstStart dst ops = splitOps src s' source dstStart dst ops :=
  fun ops hm => splitOps_agree ops fun e he => h.agreeOn (hm e he)

def SubsAll (P : Expr → Prop) (subs : List Subquery) : Prop := ∀ sub ∈ subs, ∀ e ∈ subExprs sub, P e

theorem SubsAll.nil (P : Expr → Prop) : SubsAll P [] := by
  intro sub hsub
  cases hsub

theorem SubsAll.append {P : Expr → Prop} {a b : List Subquery} (ha : SubsAll P a) (hb : SubsAll P b) :
    SubsAll P (a ++ b) := by
  intro sub hsub
  rcases List.mem_append.1 hsub with h | h
  · exact ha sub h
  · exact hb sub h

theorem SubsAll.single {P : Expr → Prop} {sub : Subquery} (h : ∀ e ∈ subExprs sub, P e) : SubsAll P [sub] := by
  intro sub' hsub
  rw [List.mem_singleton.1 hsub]
  exact h

theorem opWriteExprs_subset {o : Op} {e : Expr} (h : e ∈ opWriteExprs o) : e ∈ opExprs o := by
  cases o <;> first | exact h | cases h

section
variable {P : Expr → Prop} {src : Bytes} {s : Scope}

theorem subExprs_store {o : Op} {sub : Subquery} {e : Expr} (he : e ∈ subExprs (SplitQ.store o sub)) :
    e ∈ subExprs sub ∨ e ∈ opExprs o := by
  cases o with
  | sort =>
    simp only [SplitQ.store, subExprs, opExprs, List.mem_append] at he ⊢
    rcases he with (he | he) | he
    · exact .inl (.inl (.inl he))
    · exact .inr he
    · exact .inl (.inr he)
  | take =>
    simp only [SplitQ.store, subExprs, opExprs, List.mem_append] at he ⊢
    rcases he with (he | he) | he
    · exact .inl (.inl (.inl he))
    · exact .inl (.inl (.inr he))
    · exact .inr he
  | top p k n b col =>
    cases col with
    | none =>
      simp only [SplitQ.store, subExprs, opWriteExprs, List.mem_append] at he ⊢
      rcases he with (he | he) | he
      · exact nomatch he
      · exact .inl (.inl (.inr he))
      · exact .inl (.inr he)
    | some c =>
      simp only [SplitQ.store, subExprs, opExprs, List.mem_append, List.map_cons, List.map_nil] at he ⊢
      rcases he with (he | he) | he
      · exact .inl (.inl (.inl he))
      · exact .inr (List.mem_cons_of_mem _ he)
      · exact .inr (List.mem_cons.2 (.inl (List.mem_singleton.1 he)))
  | _ =>
    simp only [SplitQ.store, subExprs, List.mem_append] at he ⊢
    rcases he with (he | he) | he
    · exact .inr (opWriteExprs_subset he)
    · exact .inl (.inl (.inr he))
    · exact .inl (.inr he)

theorem run_all {source : Option Ident} {ds : Nat} {dst r : List Subquery} {ops : OpList}
    (h : SplitQ.Run src s source ds dst ops r) : (∀ e ∈ opsExprs ops, P e) → SubsAll P dst → SubsAll P r :=
  SplitQ.Run.forall_mem (P := fun sub => ∀ e ∈ subExprs sub, P e) (Q := fun ops => ∀ e ∈ opsExprs ops, P e)
    (Qo := fun o => ∀ e ∈ opExprs o, P e) (Qc := fun _ => True)
    (fun _ _ h => forall_opsExprs_cons h)
    (fun _ _ _ _ _ _ _ _ _ _ _ h => ⟨fun e he => h e (List.mem_append_left _ he), trivial⟩)
    (fun _ _ _ _ he => nomatch he)
    (fun _ _ _ _ _ ho e he => (subExprs_store he).elim (fun h => nomatch h) (ho e))
    (fun _ _ _ ho hl e he => (subExprs_store he).elim (hl e) (ho e))
    (fun _ _ _ _ _ _ _ _ _ _ _ _ he => nomatch he) h 0

theorem splitOps_all :
    (ops : OpList) → (∀ e ∈ opsExprs ops, P e) → (source : Option Ident) → (ds : Nat) →
    (dst r : List Subquery) → SubsAll P dst → splitOps src s source ds dst ops = .ok r → SubsAll P r :=
  fun ops hm source ds dst r hd h => run_all (SplitQ.splitOps_run src s ops source ds dst r h) hm hd

theorem splitQueries_all (t : Tabular) (hm : ∀ e ∈ tabularExprs t, P e) (dst r : List Subquery)
    (hd : SubsAll P dst) (h : splitQueries src s dst t = .ok r) : SubsAll P r := by
  obtain ⟨source, ops, mid, rfl, hrun, rfl⟩ := SplitQ.splitQueries_run src s t dst r h
  exact SplitQ.forall_closeBlock (run_all hrun hm hd) (fun e he => nomatch he)

end

theorem find?_key_perm {α β : Type} [BEq α] [LawfulBEq α] {l l' : List (α × β)} (hp : l.Perm l')
    (hn : (l.map (·.1)).Nodup) (n : α) : l.find? (·.1 == n) = l'.find? (·.1 == n) := by
  induction hp with
  | nil => rfl
  | cons x _ ih =>
    simp only [List.map_cons, List.nodup_cons] at hn
    simp only [List.find?_cons, ih hn.2]
  | swap x y l =>
    simp only [List.map_cons, List.nodup_cons, List.mem_cons, not_or] at hn
    simp only [List.find?_cons]
    cases hx : x.1 == n <;> cases hy : y.1 == n <;> try rfl
    exact absurd ((eq_of_beq hy).trans (eq_of_beq hx).symm) hn.1.1
  | trans hp₁ _ ih₁ ih₂ =>
    exact (ih₁ hn).trans (ih₂ ((hp₁.map _).nodup_iff.1 hn))

def paramScope (params : List (Bytes × Bytes)) : Scope := params.map fun kv => (kv.1, [Chunk.raw kv.2])

theorem lookupScope_paramScope (params : List (Bytes × Bytes)) (n : Bytes) :
    lookupScope (paramScope params) n = (params.find? (·.1 == n)).map fun kv => [Chunk.raw kv.2] := by
  induction params with
  | nil => rfl
  | cons kv rest ih =>
    unfold paramScope at ih ⊢
    rw [List.map_cons, lookupScope_cons, List.find?_cons, ih]
    cases kv.1 == n <;> rfl

theorem paramScope_perm {params params' : List (Bytes × Bytes)} (hp : params.Perm params')
    (hn : (params.map (·.1)).Nodup) : ScopeEq (paramScope params) (paramScope params') := by
  intro n
  rw [lookupScope_paramScope, lookupScope_paramScope, find?_key_perm hp hn n]

end Pql
