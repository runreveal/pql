/-
The line loop of the command-line tool against the whole-input specification: the loop state
after any prefix of the lines is the specification's accumulator over the terminated pieces of
the prefix, with the last piece still pending.
-/
import PqlModel.Lemmas.CliLemmasSplit
import PqlModel.Props.C15
import PqlModel.Model.Cli
import PqlModel.Spec.CliSpec
import PqlModel.Props.C16a
namespace Pql
open Pql.CliSpec

theorem cliStatement_pending (compile : Bytes → Option Bytes) (st : CliState) (stmt : Bytes) :
    (cliStatement compile st stmt).pending = st.pending := by
  unfold cliStatement
  repeat' split
  all_goals rfl

theorem foldl_cliStatement_pending (compile : Bytes → Option Bytes) (ps : List Bytes)
    (st : CliState) : (ps.foldl (cliStatement compile) st).pending = st.pending := by
  induction ps generalizing st with
  | nil => rfl
  | cons p ps ih => rw [List.foldl_cons, ih, cliStatement_pending]

theorem splitStatements_singleton {s p : Bytes} (h : splitStatements s = [p]) : p = s := by
  have := C15.C15_join s
  rw [h] at this
  exact this

theorem splitStatements_decomp (s : Bytes) :
    splitStatements s = (splitStatements s).dropLast ++ [lastPiece s] := by
  have hne := splitStatements_ne_nil s
  rcases List.eq_nil_or_concat (splitStatements s) with h | ⟨l, b, h⟩
  · exact absurd h hne
  · rw [List.concat_eq_append] at h
    simp only [lastPiece, h, List.dropLast_concat, List.getLast?_concat, Option.getD_some]

/-- One input line, without the case distinction on the number of pieces: process all pieces
    of `pending ++ line ++ "\n"` but the last, keep the last. -/
theorem cliLine_eq (compile : Bytes → Option Bytes) (st : CliState) (line : Bytes) :
    cliLine compile st line =
      { (splitStatements (st.pending ++ line ++ [10])).dropLast.foldl (cliStatement compile) st
          with pending := lastPiece (st.pending ++ line ++ [10]) } := by
  have hd := splitStatements_decomp (st.pending ++ line ++ [10])
  generalize hl : lastPiece (st.pending ++ line ++ [10]) = last at hd
  generalize hi : (splitStatements (st.pending ++ line ++ [10])).dropLast = init at hd
  unfold cliLine
  simp only [hd, List.reverse_append, List.reverse_cons, List.reverse_nil, List.nil_append,
    List.singleton_append, List.reverse_reverse, List.isEmpty_reverse]
  cases init with
  | nil =>
    have := splitStatements_singleton hd
    simp [this]
  | cons p init => simp

/-- what `run` does after the loop -/
def cliFinish (compile : Bytes → Option Bytes) (st : CliState) (readErr : Bool) : CliResult :=
  let st := if readErr then { st with failed := true, nErrors := st.nErrors + 1 } else st
  if (scan st.pending).isEmpty then ⟨st.out, st.nErrors, st.failed⟩
  else
    match compile (st.lets ++ st.pending) with
    | some sql => ⟨st.out ++ sql ++ [10, 10], st.nErrors, st.failed⟩
    | none => ⟨st.out, st.nErrors + 1, true⟩

def cliFrom (compile : Bytes → Option Bytes) (st : CliState) (lines : List Bytes)
    (readErr : Bool) : CliResult :=
  cliFinish compile (lines.foldl (cliLine compile) st) readErr

theorem cliRun_eq_cliFrom (compile : Bytes → Option Bytes) (lines : List Bytes) (readErr : Bool) :
    cliRun compile lines readErr = cliFrom compile {} lines readErr := rfl

def specFinish (compile : Bytes → Option Bytes) (a : Acc) (last : Bytes) (readErr : Bool) :
    CliResult :=
  let a := if readErr then { a with nErrors := a.nErrors + 1 } else a
  if (scan last).isEmpty then ⟨a.out, a.nErrors, a.nErrors > 0⟩
  else
    match compile (a.lets ++ last) with
    | some sql => ⟨a.out ++ sql ++ [10, 10], a.nErrors, a.nErrors > 0⟩
    | none => ⟨a.out, a.nErrors + 1, true⟩

def specFrom (compile : Bytes → Option Bytes) (a : Acc) (text : Bytes) (readErr : Bool) :
    CliResult :=
  specFinish compile ((splitStatements text).dropLast.foldl (statement compile) a)
    (lastPiece text) readErr

theorem specRun_eq_specFrom (compile : Bytes → Option Bytes) (lines : List Bytes)
    (readErr : Bool) :
    CliSpec.run compile lines readErr = specFrom compile {} (normalise lines) readErr := rfl

theorem cliFinish_eq (compile : Bytes → Option Bytes) (st : CliState) (a : Acc) (readErr : Bool)
    (h : C16.Rel st a) : cliFinish compile st readErr = specFinish compile a st.pending readErr := by
  obtain ⟨h1, h2, h3, h4⟩ := h
  unfold cliFinish specFinish
  cases readErr with
  | false =>
    simp only [Bool.false_eq_true, if_false, h1, h2, h3, h4]
  | true =>
    simp only [if_true, h1, h2, h3]
    have : decide (a.nErrors + 1 > 0) = true := by simp
    rw [this]

theorem specFrom_append (compile : Bytes → Option Bytes) (a : Acc) (x y : Bytes) (readErr : Bool)
    (h : Reaches (x ++ y) x.length) :
    specFrom compile a (x ++ y) readErr =
      specFrom compile ((splitStatements x).dropLast.foldl (statement compile) a)
        (lastPiece x ++ y) readErr := by
  have hne := splitStatements_ne_nil (lastPiece x ++ y)
  have hl : lastPiece (x ++ y) = lastPiece (lastPiece x ++ y) := by
    show (splitStatements (x ++ y)).getLast?.getD [] =
      (splitStatements (lastPiece x ++ y)).getLast?.getD []
    rw [splitStatements_append x y h, getLast?_append_ne _ _ hne]
  unfold specFrom
  rw [hl, splitStatements_append x y h, List.dropLast_append_of_ne_nil hne, List.foldl_append]

theorem normalise_cons (l : Bytes) (ls : List Bytes) :
    normalise (l :: ls) = (l ++ [10]) ++ normalise ls := by
  simp [normalise]

/-- **Loop invariant.** From any state whose pending text is a closed piece without semicolon
    token, the loop over the remaining lines is the specification on the pending text followed
    by the remaining normalised input. -/
theorem cliFrom_eq_specFrom (compile : Bytes → Option Bytes) (lines : List Bytes)
    (readErr : Bool) (st : CliState) (a : Acc) (h : C16.Rel st a) (hc : Closed st.pending)
    (hp : splitStatements st.pending = [st.pending]) :
    cliFrom compile st lines readErr =
      specFrom compile a (st.pending ++ normalise lines) readErr := by
  induction lines generalizing st a with
  | nil =>
    have hl : lastPiece st.pending = st.pending := by simp [lastPiece, hp]
    simp only [cliFrom, List.foldl_nil, normalise, List.flatMap_nil, List.append_nil, specFrom,
      hp, List.dropLast_singleton, hl]
    exact cliFinish_eq compile st a readErr h
  | cons l ls ih =>
    have htext : Closed (st.pending ++ l ++ [10]) := closed_newline _
    have hassoc : st.pending ++ normalise (l :: ls) = (st.pending ++ l ++ [10]) ++ normalise ls := by
      rw [normalise_cons]; simp
    rw [hassoc, specFrom_append compile a _ _ readErr (htext _)]
    unfold cliFrom
    rw [List.foldl_cons]
    have hst := cliLine_eq compile st l
    have hpend : (cliLine compile st l).pending = lastPiece (st.pending ++ l ++ [10]) := by
      rw [hst]
    have hrel : C16.Rel (cliLine compile st l)
        ((splitStatements (st.pending ++ l ++ [10])).dropLast.foldl (statement compile) a) := by
      have := C16.C16_statements_sim compile (splitStatements (st.pending ++ l ++ [10])).dropLast st a h
      rw [hst]
      exact this
    have := ih (cliLine compile st l) _ hrel (by rw [hpend]; exact closed_lastPiece htext)
      (by
        rw [hpend]
        exact splitStatements_nosemi _
          (C15.C15_no_semi_in_piece _ _ (lastPiece_mem _)))
    rw [hpend] at this
    exact this

end Pql
