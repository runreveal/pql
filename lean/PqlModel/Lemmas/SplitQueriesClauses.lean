/-
The pipeline reading of the subqueries `splitQueries` produces (C02, clause 2): reading every
subquery as `op; sort; take` (the order `Subquery.write` evaluates them) and concatenating gives
back the operator list, with `top` read as `sort; take`.

Join-free pipelines, semantically (over the specification interpreter `Rel`): reading every
subquery as  source → op → sort → take  and feeding each subquery the table of the previous one
computes what `Rel.interpOps` computes for the operator list.
-/
import PqlModel.Lemmas.SplitQueriesRun
namespace Pql.SplitQ
open Pql

/-- what one pipeline step does; `sort` and `take` without their keyword spans, any other operator whole -/
inductive Clause
  | op (o : Op)                      -- an operator that gets its own SELECT
  | sort (terms : List SortTerm)     -- ORDER BY
  | take (n : Expr)                  -- LIMIT

/-- the operator a subquery's SELECT body stands for, if any (`none`: a plain `SELECT *`) -/
def opPart (s : Subquery) : List Clause :=
  match s.op with | some o => [.op o] | none => []

def subClauses (s : Subquery) : List Clause :=
  opPart s ++
  (match s.sort with | some ts => [.sort ts] | none => []) ++
  (match s.take with | some n => [.take n] | none => [])

def opClauses : Op → List Clause
  | .sort _ _ terms => [.sort terms]
  | .take _ _ n => [.take n]
  | .top _ _ n _ (some c) => [.sort [c], .take n]
  | .top _ _ _ _ none => []
  | .join .. => []
  | o => [.op o]

mutual
/-- the reading of a whole tabular expression in the order its subqueries are laid out: the
    right-hand side of a join is split (recursively) where the join stands; the join subquery
    itself is a `SELECT *` over the two sides and carries no clause of its own -/
def tabClauses : Tabular → List Clause
  | .nil => []
  | .mk _ ops => opsClauses ops
def opsClauses : OpList → List Clause
  | .nil => []
  | .cons o rest => opClausesRec o ++ opsClauses rest
def opClausesRec : Op → List Clause
  | .join _ _ _ _ _ _ right _ _ _ => tabClauses right
  | .sort _ _ terms => [.sort terms]
  | .take _ _ n => [.take n]
  | .top _ _ n _ (some c) => [.sort [c], .take n]
  | .top _ _ _ _ none => []
  | o => [.op o]
end

def joinFree : OpList → Bool
  | .nil => true
  | .cons (.join ..) _ => false
  | .cons _ rest => joinFree rest

def isJoin : Op → Bool
  | .join .. => true
  | _ => false

theorem joinFree_cons (o : Op) (rest : OpList) :
    joinFree (.cons o rest) = (!isJoin o && joinFree rest) := by
  cases o <;> simp [joinFree, isJoin]

theorem joinFree_cons_iff {o : Op} {rest : OpList} :
    joinFree (.cons o rest) = true ↔ isJoin o = false ∧ joinFree rest = true := by
  rw [joinFree_cons, Bool.and_eq_true, Bool.not_eq_true']

theorem opClausesRec_of_not_join (o : Op) (h : isJoin o = false) : opClausesRec o = opClauses o := by
  cases o with
  | top p k n b col => cases col <;> simp [opClausesRec, opClauses]
  | join => simp [isJoin] at h
  | _ => simp [opClausesRec, opClauses]

theorem opsClauses_joinFree : ∀ (ops : OpList), joinFree ops = true →
    opsClauses ops = ops.toList.flatMap opClauses
  | .nil, _ => by simp [opsClauses, OpList.toList]
  | .cons o rest, h => by
    rw [joinFree_cons_iff] at h
    simp [opsClauses, OpList.toList, opClausesRec_of_not_join o h.1, opsClauses_joinFree rest h.2]

theorem flatMap_snoc (dst : List Subquery) (s : Subquery) :
    (dst ++ [s]).flatMap subClauses = dst.flatMap subClauses ++ subClauses s := by
  simp

theorem flatMap_closeBlock (mid : List Subquery) (k : Nat) (source : Option Ident) :
    (closeBlock mid k source).flatMap subClauses = mid.flatMap subClauses := by
  unfold closeBlock; split
  · simp [subClauses, opPart, chainSubquery]
  · rfl

theorem subClauses_store_chain (o : Op) (ho : steps o = true) (dst : List Subquery) (k : Nat)
    (source : Option Ident) : subClauses (store o (chainSubquery dst k source)) = opClausesRec o := by
  cases o with
  | top p kw n b col => cases col <;> simp [steps] at ho; simp [store, subClauses, opPart, chainSubquery, opClausesRec]
  | join => simp [steps] at ho
  | _ => simp [store, subClauses, opPart, chainSubquery, opClausesRec]

theorem subClauses_store_attach {o : Op} {l : Subquery} (ha : attaches o l = true) :
    subClauses (store o l) = subClauses l ++ opClausesRec o := by
  cases o with
  | sort | take => simp_all [attaches, store, subClauses, opPart, opClausesRec]
  | top p kw n b col => cases col <;> simp_all [attaches, store, subClauses, opPart, opClausesRec]
  | _ => cases ha

theorem run_clauses {src : Bytes} {scope : List (Bytes × List Chunk)} {source : Option Ident} {dstStart : Nat} {dst out : List Subquery} {ops : OpList}
    (h : Run src scope source dstStart dst ops out) :
    out.flatMap subClauses = dst.flatMap subClauses ++ opsClauses ops := by
  induction h with
  | nil => simp [opsClauses]
  | chain o ho _ ih =>
    rw [ih, flatMap_snoc, subClauses_store_chain o ho, opsClauses, List.append_assoc]
  | attach o init l hk ha _ ih =>
    rw [ih, flatMap_snoc, flatMap_snoc, subClauses_store_attach ha, opsClauses]
    simp only [List.append_assoc]
  | join p k kind ka flavor lp rsource rops rp on conds unique kw cond mid dst' hkw hcond _ hd' _ ih1 ih2 =>
    subst hd'
    rw [ih2, flatMap_snoc, flatMap_closeBlock, ih1]
    simp [subClauses, opPart, opsClauses, opClausesRec, tabClauses]

end Pql.SplitQ

namespace Pql.SplitQ
open Pql Sql

def interpClause (src : Bytes) (db : DB) (t : Table) : Clause → Table
  | .op o => Rel.interpOp src db t o
  | .sort terms => Rel.sortTable t terms
  | .take n => Rel.takeTable t n

def subEval (src : Bytes) (db : DB) (t : Table) (s : Subquery) : Table :=
  (subClauses s).foldl (interpClause src db) t

theorem interpOp_eq_clauses (src : Bytes) (db : DB) (t : Table) (o : Op) (h : isJoin o = false) :
    Rel.interpOp src db t o = (opClauses o).foldl (interpClause src db) t := by
  cases o with
  | top p k n b col => cases col <;> simp [Rel.interpOp, opClauses, interpClause]
  | join => simp [isJoin] at h
  | _ => simp [Rel.interpOp, opClauses, interpClause]

theorem interpOps_eq_clauses (src : Bytes) (db : DB) : ∀ (ops : OpList) (t : Table), joinFree ops = true →
    Rel.interpOps src db t ops = (ops.toList.flatMap opClauses).foldl (interpClause src db) t
  | .nil, t, _ => by simp [Rel.interpOps, OpList.toList]
  | .cons o rest, t, h => by
    rw [joinFree_cons_iff] at h
    rw [Rel.interpOps, interpOps_eq_clauses src db rest _ h.2, interpOp_eq_clauses src db t o h.1]
    simp [OpList.toList]

theorem foldl_subEval (src : Bytes) (db : DB) (dst : List Subquery) (t : Table) :
    dst.foldl (subEval src db) t = (dst.flatMap subClauses).foldl (interpClause src db) t := by
  induction dst generalizing t with
  | nil => rfl
  | cons s dst ih => simp [List.flatMap_cons, List.foldl_append, ih, subEval]

end Pql.SplitQ
