/-
Parameters: two initial scopes with the same keys whose stored chunk lists have the same
bytes (or the same tokens, or agree under any other chunk-wise reading `r`) compile to chunk lists
with the same bytes (tokens, …) — and fail alike (`compileFrom_flat_congr`: "read alike" is a relation
`compileFrom_srel` applies to).

Also: two scopes with the same keys are fillings of ONE scope of holes (entry number `i` is the hole
`.raw (enc i)`), so they compile to one chunk list with holes, filled the one way or the other
(`compileFrom_common_skeleton`).
-/
import PqlModel.Lemmas.ParamsBindTop
import PqlModel.Spec.ChunkToks
namespace Pql.Params
open Pql

/-- the name of hole number `i` -/
def enc (i : Nat) : Bytes := List.replicate i 0

/-- entry number `i` is bound to hole number `i` -/
def holeScope (keys : List Bytes) : Scope := keys.zipIdx.map fun p => (p.1, [Chunk.raw (enc p.2)])

/-- hole number `i` is filled with what `sc` stores in entry number `i` -/
def fill (sc : Scope) : Bytes → List Chunk := fun v => ((sc[v.length]?).map (·.2)).getD []

theorem bindScope_holes (sc : Scope) : bindScope (fill sc) (holeScope (sc.map (·.1))) = sc := by
  apply List.ext_getElem?
  intro i
  simp only [bindScope, holeScope, List.getElem?_map, List.getElem?_zipIdx, Option.map_map]
  cases h : sc[i]? with
  | none => rfl
  | some kv =>
    simp only [Option.map_some, Function.comp, Option.some.injEq]
    have : fill sc (enc (0 + i)) = kv.2 := by
      simp [fill, enc, h]
    simp only [bindRaw, List.flatMap_cons, List.flatMap_nil, bindC, this, List.append_nil]

/-- same keys, entry by entry the same reading `r` of the stored values -/
theorem scopeRel_reads {γ : Type} (r : Chunk → List γ) : (s1 s2 : Scope) → s1.map (·.1) = s2.map (·.1) →
    (s1.map fun kv => kv.2.flatMap r) = (s2.map fun kv => kv.2.flatMap r) →
    ScopeRel (fun a b => a.flatMap r = b.flatMap r) s1 s2
  | [], [], _, _ => ScopeRel.nil _
  | (n, v) :: s1, (n', v') :: s2, hk, hv => by
    simp only [List.map_cons, List.cons.injEq] at hk hv
    cases hk.1
    exact (scopeRel_reads r s1 s2 hk.2 hv.2).cons n hv.1
  | [], _ :: _, hk, _ | _ :: _, [], hk, _ => by cases hk

/-- **same keys, same readings of the stored values ⟹ same reading of the result**: `compileFrom_srel` at the
    relation "read alike" -/
theorem compileFrom_flat_congr {γ : Type} (r : Chunk → List γ) (src : Bytes) (s1 s2 : Scope) (stmts : List Stmt)
    (hk : s1.map (·.1) = s2.map (·.1))
    (hv : (s1.map fun kv => kv.2.flatMap r) = (s2.map fun kv => kv.2.flatMap r)) :
    (compileFrom src s1 stmts).map (fun cs => cs.flatMap r) = (compileFrom src s2 stmts).map (fun cs => cs.flatMap r) := by
  have hR : WCong CMap.idMap fun a b : List Chunk => a.flatMap r = b.flatMap r :=
    ⟨⟨rfl, fun _ => rfl, fun _ => rfl, fun h₁ h₂ => by simp only [List.flatMap_append, h₁, h₂]⟩,
      fun _ => rfl, fun _ => rfl, fun _ => rfl⟩
  exact (compileFrom_srel (src := src) hR (scopeRel_reads r s1 s2 hk hv) stmts).map_eq

/-- **one skeleton**: two initial scopes with the same keys compile to ONE chunk list with holes, filled
    with the values of the one scope resp. the other (hole number `i` = entry number `i`); in particular
    the two results have the same chunks outside the stored values, at the same places -/
theorem compileFrom_common_skeleton (src : Bytes) (s1 s2 : Scope) (stmts : List Stmt)
    (hk : s1.map (·.1) = s2.map (·.1)) :
    ∃ r0 : W, compileFrom src s1 stmts = r0.map (bindRaw (fill s1)) ∧
      compileFrom src s2 stmts = r0.map (bindRaw (fill s2)) := by
  have h1 := compileFrom_bindScope (fill s1) src (holeScope (s1.map (·.1))) stmts
  have h2 := compileFrom_bindScope (fill s2) src (holeScope (s2.map (·.1))) stmts
  rw [bindScope_holes] at h1 h2
  rw [hk] at h1
  exact ⟨_, h1, h2⟩

theorem compileFrom_render_congr (src : Bytes) (s1 s2 : Scope) (stmts : List Stmt)
    (hk : s1.map (·.1) = s2.map (·.1))
    (hv : (s1.map fun kv => renderChunks kv.2) = (s2.map fun kv => renderChunks kv.2)) :
    (compileFrom src s1 stmts).map renderChunks = (compileFrom src s2 stmts).map renderChunks :=
  compileFrom_flat_congr Chunk.bytes src s1 s2 stmts hk hv

theorem compileFrom_toks_congr (src : Bytes) (s1 s2 : Scope) (stmts : List Stmt)
    (hk : s1.map (·.1) = s2.map (·.1))
    (hv : (s1.map fun kv => toksOf kv.2) = (s2.map fun kv => toksOf kv.2)) :
    (compileFrom src s1 stmts).map toksOf = (compileFrom src s2 stmts).map toksOf :=
  compileFrom_flat_congr chunkToks src s1 s2 stmts hk hv

end Pql.Params
