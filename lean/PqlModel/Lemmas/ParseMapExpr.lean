/-
The expression block commutes with a map on tokens: every production of the mutual block
`pExpr … pExprListTail` (same fuel on both sides).
-/
import PqlModel.Lemmas.ParseMapBasic
import PqlModel.Lemmas.ParseInduct
namespace Pql.Layout

theorem mapExprList_snoc (f : Span → Span) (x : Expr) : (acc : ExprList) →
    mapExprList f (acc.snoc x) = (mapExprList f acc).snoc (mapExpr f x)
  | .nil => by simp only [ExprList.snoc, mapExprList]
  | .cons e es => by simp only [ExprList.snoc, mapExprList, mapExprList_snoc f x es]

theorem pushArg_map (f : Span → Span) (acc : ExprList) (v : Expr) :
    pushArg (mapExprList f acc) (mapExpr f v) = mapExprList f (pushArg acc v) := by
  cases v <;> simp only [pushArg, mapExpr, mapExprList_snoc]

theorem snocNonNil_map (f : Span → Span) (acc : ExprList) (v : Expr) :
    (match mapExpr f v with | .nil => mapExprList f acc | x => (mapExprList f acc).snoc x) =
      mapExprList f (match v with | .nil => acc | x => acc.snoc x) :=
  pushArg_map f acc v

end Pql.Layout

namespace Pql
open Layout

/-- closes the equation of a leaf: unfold the image of the result and of the tree, move the
    constant spans; the facts about the spans of the tokens involved are passed in -/
macro "res_eq" "[" ts:Lean.Parser.Tactic.simpLemma,* "]" : tactic =>
  `(tactic| (simp only [TokMap.res, mapExpr, mapExprList, mapIdent, mapSortTerm, mapColumn, mapRenderProp,
      mapOp, mapTabular, mapOpList, mapStmt, mapErrs_nil, mapErrs_append,
      mkOpaque_mapErrs, mapErrs_errAt, mapErrs_nfAt, mapErrs_errNoPos, mapErrs_errFuel, TokMap.eof,
      TokMap.null, TokMap.zero, TokMap.value, List.map_cons, List.map_nil, List.map_append,
      Option.map_some, Option.map_none, $ts,*]))

namespace TokMap
variable {M : TokMap}

/-- The motives speak of the run on the tokens; at each leaf the run on their images is rewritten
    with the same case equation, whose guards hold there because kinds are kept and the
    sub-results are images. -/
theorem exprComm : ∀ f, ExprHolds M.src
    (fun f ts r => M.Ok ts → M.Comm (mapExpr M.sp) r (pExpr M.dst f (ts.map M.tok)))
    (fun f x m acc ts r => M.Ok ts → M.Comm (mapExpr M.sp) r
      (pTrail M.dst f (mapExpr M.sp x) m (mapErrs M.esp acc) (ts.map M.tok)))
    (fun f y p acc ts r => M.Ok ts → M.Comm (mapExpr M.sp) r
      (pHigher M.dst f (mapExpr M.sp y) p (mapErrs M.esp acc) (ts.map M.tok)))
    (fun f ts r => M.Ok ts → M.Comm (mapExpr M.sp) r (pUnary M.dst f (ts.map M.tok)))
    (fun f ts r => M.Ok ts → M.Comm (mapExpr M.sp) r (pPrimary M.dst f (ts.map M.tok)))
    (fun f ts r => M.Ok ts → M.Comm (mapExpr M.sp) r (pInner M.dst f (ts.map M.tok)))
    (fun f ts r => M.Ok ts → M.Comm (mapExprList M.sp) r (pExprList M.dst f (ts.map M.tok)))
    (fun f acc ts r => M.Ok ts → M.Comm (mapExprList M.sp) r
      (pExprListTail M.dst f (mapExprList M.sp acc) (ts.map M.tok))) f := by
  apply expr_induct
  case e_fuel | t_fuel | h_fuel | u_fuel | p_fuel | i_fuel | l_fuel | lt_fuel =>
    intros
    exact ⟨by simp only [pExpr, pTrail, pHigher, pUnary, pPrimary, pInner, pExprList, pExprListTail]; res_eq [],
      by assumption⟩
  case e_nf =>
    intro f ts r1 _ ih hn h
    obtain ⟨e1, p1⟩ := ih h
    rw [pExpr_nf (by rw [e1, res_errs, isNF_mapErrs]; exact hn)]
    exact ⟨e1, p1⟩
  case e_trail =>
    intro f ts r1 r2 _ ih1 hn _ ih2 h
    obtain ⟨e1, p1⟩ := ih1 h
    obtain ⟨e2, p2⟩ := ih2 p1
    rw [mapErrs_nil] at e2
    rw [pExpr_trail (by rw [e1, res_errs, isNF_mapErrs]; exact hn), e1, res_val, res_rest, e2]
    exact ⟨by res_eq [], p2⟩
  case t_nil => exact fun f x m acc _ => ⟨pTrail_nil, M.Ok_nil⟩
  case t_stop => exact fun f x m acc op rest hs h => ⟨pTrail_stop (M.kind op ▸ hs), h⟩
  case t_inEof =>
    intro f x m acc op hs hk h
    rw [List.map_cons, List.map_nil, pTrail_in_eof (M.kind op ▸ hs) (M.kind op ▸ hk)]
    exact ⟨by res_eq [M.span op h.head], M.Ok_nil⟩
  case t_inNoParen =>
    intro f x m acc op lp rest2 hs hk hl h
    rw [List.map_cons, List.map_cons, pTrail_in_noparen (M.kind op ▸ hs) (M.kind op ▸ hk) (M.kind lp ▸ hl)]
    exact ⟨by res_eq [M.span op h.head, M.span lp h.tail.head, M.espan lp h.tail.head], h.tail.tail⟩
  case t_inOpen =>
    intro f x m acc op lp rest2 rl cl hs hk hl hsp _ ihl hcl h
    obtain ⟨el, pl⟩ := ihl (h.tail.tail.split1 (k := .rparen))
    obtain ⟨ec, pc⟩ := M.closeSplit_map .rparen h.tail.tail M.null
      ((M.espan lp h.tail.head).trans (M.span lp h.tail.head).symm)
    rw [hcl] at ec pc
    rw [List.map_cons, List.map_cons, pTrail_in_open (M.kind op ▸ hs) (M.kind op ▸ hk) (M.kind lp ▸ hl)
      (by rw [M.split_map_snd, hsp]; rfl), M.split_map_fst, el, ec]
    exact ⟨by res_eq [M.span op h.head, M.span lp h.tail.head, M.esp_endSplit pl], pc⟩
  case t_inList =>
    intro f x m acc op lp rest2 rl cl res hs hk hl hsp _ ihl hcl _ ihr h
    obtain ⟨el, pl⟩ := ihl (h.tail.tail.split1 (k := .rparen))
    obtain ⟨ec, pc⟩ := M.closeSplit_map .rparen h.tail.tail M.null
      ((M.espan lp h.tail.head).trans (M.span lp h.tail.head).symm)
    rw [hcl] at ec pc
    rw [List.map_cons, List.map_cons, pTrail_in_list (M.kind op ▸ hs) (M.kind op ▸ hk) (M.kind lp ▸ hl)
      (by rw [M.split_map_snd]; exact fun e => hsp (List.map_eq_nil_iff.mp e)), M.split_map_fst, el, ec]
    have := ihr pc
    simp only [mapExpr, mapErrs_append, ← mkOpaque_mapErrs, M.esp_endSplit pl, ← M.span op h.head,
      ← M.span lp h.tail.head] at this
    exact this
  case t_binary =>
    intro f x m acc op rest ry rh res hs hk _ ihy _ ihh _ ihr h
    obtain ⟨ey, py⟩ := ihy h.tail
    obtain ⟨eh, ph⟩ := ihh py
    rw [mapErrs_append, ← mkOpaque_mapErrs] at eh
    rw [List.map_cons, pTrail_binary (M.kind op ▸ hs) (M.kind op ▸ hk), ey, res_val, res_errs, res_rest,
      M.kind, eh, res_val, res_errs, res_rest]
    have := ihr ph
    simp only [mapExpr, ← M.span op h.head] at this
    exact this
  case h_nil => exact fun f y p acc _ => ⟨pHigher_nil, M.Ok_nil⟩
  case h_stop => exact fun f y p acc op rest hs h => ⟨pHigher_stop (M.kind op ▸ hs), h⟩
  case h_go =>
    intro f y p acc op rest r res hs _ iht _ ihh h
    obtain ⟨et, pt⟩ := iht h
    rw [mapErrs_nil, List.map_cons] at et
    rw [List.map_cons, pHigher_go (M.kind op ▸ hs), et, res_val, res_errs, res_rest, mkOpaque_mapErrs,
      ← mapErrs_append]
    exact ihh pt
  case u_nil => exact fun f _ => ⟨by rw [List.map_nil, pUnary_nil]; res_eq [], M.Ok_nil⟩
  case u_sign =>
    intro f t rest r hk _ ih h
    obtain ⟨e, p⟩ := ih h.tail
    rw [List.map_cons, pUnary_sign (M.kind t ▸ hk), e]
    exact ⟨by res_eq [M.kind, M.span t h.head], p⟩
  case u_plain =>
    intro f t rest r hk _ ih h
    rw [List.map_cons, pUnary_plain (M.kind t ▸ hk)]
    exact ih h
  case p_err =>
    intro f ts r _ ih he h
    obtain ⟨e, p⟩ := ih h
    rw [pPrimary_err (by rw [e, res_errs, ne_eq, mapErrs_eq_nil]; exact he)]
    exact ⟨e, p⟩
  case p_plain =>
    intro f ts r _ ih he hr h
    obtain ⟨e, p⟩ := ih h
    rw [pPrimary_plain (by rw [e, res_errs, he]; rfl) (by rw [e]; exact M.head_kind_map hr), e]
    exact ⟨rfl, p⟩
  case p_index =>
    intro f ts r t rest ri cl _ ih he hr hk _ ihi hcl h
    obtain ⟨e, p⟩ := ih h
    rw [hr] at p
    obtain ⟨ei, pi_⟩ := ihi (p.tail.split1 (k := .rbracket))
    obtain ⟨ec, pc⟩ := M.closeSplit_map .rbracket p.tail M.zero M.eof
    rw [hcl] at ec pc
    rw [pPrimary_index (t := M.tok t) (rest := rest.map M.tok) (by rw [e, res_errs, he]; rfl)
      (by rw [e, res_rest, hr]; rfl) (M.kind t ▸ hk), M.split_map_fst, e, ei, ec]
    exact ⟨by res_eq [M.span t p.head, M.esp_endSplit pi_], pc⟩
  case i_nil => exact fun f _ => ⟨by rw [List.map_nil, pInner_nil]; res_eq [], M.Ok_nil⟩
  case i_lit =>
    intro f t rest hk h
    rw [List.map_cons, pInner_lit (M.kind t ▸ hk)]
    exact ⟨by res_eq [M.kind, M.span t h.head], h.tail⟩
  case i_ident =>
    intro f t rest q hk hq hn h
    obtain ⟨e, p⟩ := M.qualHead_map false h
    rw [hq] at e p
    rw [List.map_cons, pInner_ident (M.kind t ▸ hk) (by rw [e]; exact M.notCall_res hn), e]
    exact ⟨rfl, p⟩
  case i_call =>
    intro f t rest q lp rest2 ra cl hk hq he hl hr hlp _ iha hcl h
    obtain ⟨e, p⟩ := M.qualHead_map false h
    rw [hq] at e p
    rw [hr] at p
    obtain ⟨ea, pa⟩ := iha (p.tail.split1 (k := .rparen))
    obtain ⟨ec, pc⟩ := M.closeSplit_map .rparen p.tail M.null M.eof
    rw [hcl] at ec pc
    rw [List.map_cons, pInner_call (lp := M.tok lp) (rest2 := rest2.map M.tok) (M.kind t ▸ hk)
      (by rw [e, res_errs, he]; rfl) (by rw [e, res_val, List.length_map]; exact hl)
      (by rw [e, res_rest, hr]; rfl) (M.kind lp ▸ hlp), M.split_map_fst, ea, ec,
      M.callArgErrs_res _ pa]
    exact ⟨by res_eq [M.span t h.head, M.span lp p.head], pc⟩
  case i_qident =>
    intro f t rest q hk hq h
    obtain ⟨e, p⟩ := M.qualHead_map true h
    rw [hq] at e p
    rw [List.map_cons, pInner_qident (M.kind t ▸ hk), e]
    exact ⟨rfl, p⟩
  case i_paren =>
    intro f t rest rx cl hk _ ihx hcl h
    obtain ⟨ex, px⟩ := ihx (h.tail.split1 (k := .rparen))
    obtain ⟨ec, pc⟩ := M.closeSplit_map .rparen h.tail M.null M.eof
    rw [hcl] at ec pc
    rw [List.map_cons, pInner_paren (M.kind t ▸ hk), M.split_map_fst, ex, ec]
    exact ⟨by res_eq [M.span t h.head, M.esp_endSplit px], pc⟩
  case i_other =>
    intro f t rest h1 h2 h3 h4 h
    rw [List.map_cons, pInner_other (M.kind t ▸ h1) (M.kind t ▸ h2) (M.kind t ▸ h3) (M.kind t ▸ h4)]
    exact ⟨by res_eq [M.span t h.head, M.espan t h.head], h⟩
  case l_err =>
    intro f ts r _ ih he h
    obtain ⟨e, p⟩ := ih h
    rw [pExprList_err (by rw [e, res_errs, ne_eq, mapErrs_eq_nil]; exact he), e]
    exact ⟨rfl, p⟩
  case l_tail =>
    intro f ts r res _ ih he _ iht h
    obtain ⟨e, p⟩ := ih h
    rw [pExprList_tail (by rw [e, res_errs, he]; rfl), e]
    exact iht p
  case lt_nil => exact fun f acc _ => ⟨pExprListTail_nil, M.Ok_nil⟩
  case lt_stop => exact fun f acc t rest hk h => ⟨pExprListTail_stop (M.kind t ▸ hk), h⟩
  case lt_back =>
    intro f acc t rest r hk _ ih hn h
    obtain ⟨e, _⟩ := ih h.tail
    exact ⟨pExprListTail_back (M.kind t ▸ hk) (by rw [e, res_errs, isNF_mapErrs]; exact hn), h⟩
  case lt_err =>
    intro f acc t rest r hk _ ih hn he h
    obtain ⟨e, p⟩ := ih h.tail
    rw [List.map_cons, pExprListTail_err (M.kind t ▸ hk) (by rw [e, res_errs, isNF_mapErrs]; exact hn)
      (by rw [e, res_errs, ne_eq, mapErrs_eq_nil]; exact he), e, res_val, res_errs, res_rest, pushArg_map,
      mkOpaque_mapErrs]
    exact ⟨rfl, p⟩
  case lt_more =>
    intro f acc t rest r res hk _ ih he _ iht h
    obtain ⟨e, p⟩ := ih h.tail
    rw [List.map_cons, pExprListTail_more (M.kind t ▸ hk) (by rw [e, res_errs, he]; rfl), e, res_val,
      res_rest, pushArg_map]
    exact iht p

variable (M)

theorem pExpr_map (fuel : Nat) (ts : List Token) (h : M.Ok ts) :
    M.Comm (mapExpr M.sp) (pExpr M.src fuel ts) (pExpr M.dst fuel (ts.map M.tok)) :=
  (exprComm fuel).expr ts h

theorem pExprList_map (fuel : Nat) (ts : List Token) (h : M.Ok ts) :
    M.Comm (mapExprList M.sp) (pExprList M.src fuel ts) (pExprList M.dst fuel (ts.map M.tok)) :=
  (exprComm fuel).exprList ts h

end TokMap
end Pql
