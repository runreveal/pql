/-
Placeholders: the lets `let k = <value of the placeholder>` a parameter list stands for, the scope
the statement loop builds from them, and the three fillings of ONE skeleton (placeholders, numbers, values).
-/
import PqlModel.Lemmas.E2EMoreHolesLex
import PqlModel.Lemmas.E2EMoreInstTop
import PqlModel.Lemmas.ParamsHoles
import PqlModel.Lemmas.E2EFinalProgram
import PqlModel.Props.C06ParamsAtomic
namespace Pql.E2EMore
set_option linter.unusedSimpArgs false
open Pql Sql LexRender Pql.Params CompileOracle Intended Pql.RT

def PVal.expr : PVal → Expr
  | .str v => .lit .zero .string v
  | .num v => .lit .zero .number v

/-- a number value must be a number spelling (`numOK`: what the SQL lexer reads as one number) -/
def PVal.ok : PVal → Bool
  | .str _ => true
  | .num v => numOK v

def pletOf (k : Bytes) (v : PVal) : Stmt := .let_ .zero (some ⟨k, .zero, false⟩) .zero v.expr

/-- the lets a parameter list stands for under the assignment `ρ` of values to placeholder texts
    (first parameter = newest binding, as in the scope `Compile` starts from) -/
def pletsOf (ρ : Bytes → PVal) (params : List (Bytes × Bytes)) : List Stmt :=
  params.reverse.map fun kv => pletOf kv.1 (ρ kv.2)

def valScope (ρ : Bytes → PVal) (params : List (Bytes × Bytes)) : Scope :=
  params.map fun kv => (kv.1, [(ρ kv.2).chunk])

theorem pletsOf_isLets (ρ : Bytes → PVal) (params : List (Bytes × Bytes)) : IsLets (pletsOf ρ params) := by
  intro st hst
  obtain ⟨kv, _, rfl⟩ := List.mem_map.mp hst
  exact ⟨_, _, _, _, rfl⟩

theorem compileStmts_plets (src : Bytes) (ρ : Bytes → PVal) :
    ∀ (l : List (Bytes × Bytes)) (sc : Scope),
      compileStmts src (l.map fun kv => pletOf kv.1 (ρ kv.2)) sc none =
        .ok ((l.reverse.map fun kv => (kv.1, [(ρ kv.2).chunk])) ++ sc, none)
  | [], sc => rfl
  | kv :: l, sc => by
    have hw : (writeExpr ⟨src, sc, .let_⟩ (ρ kv.2).expr).map (wrapTight (ρ kv.2).expr) = .ok [(ρ kv.2).chunk] := by
      cases ρ kv.2 <;> rfl
    simp only [List.map_cons, pletOf, compileStmts, hw]
    have := compileStmts_plets src ρ l ((kv.1, [(ρ kv.2).chunk]) :: sc)
    simp only [pletOf] at this
    rw [this]
    simp

theorem compileStmts_pletsOf (src : Bytes) (ρ : Bytes → PVal) (params : List (Bytes × Bytes)) :
    compileStmts src (pletsOf ρ params) [] none = .ok (valScope ρ params, none) := by
  rw [pletsOf, compileStmts_plets]
  simp [valScope]

theorem valScope_keys (ρ : Bytes → PVal) (params : List (Bytes × Bytes)) :
    (valScope ρ params).map (·.1) = params.map (·.1) := by simp [valScope]

theorem paramScope_keys (params : List (Bytes × Bytes)) :
    (paramScope params).map (·.1) = params.map (·.1) := by simp [paramScope]

theorem compileChunks_plets (src : Bytes) (ρ : Bytes → PVal) (params : List (Bytes × Bytes)) (stmts : List Stmt) :
    compileChunks src [] (pletsOf ρ params ++ stmts) = compileFrom src (valScope ρ params) stmts := by
  rw [compileChunks_eq_from]
  exact compileFrom_append (compileStmts_pletsOf src ρ params) stmts

theorem compileFrom_skeleton (src : Bytes) (params : List (Bytes × Bytes)) (stmts : List Stmt) (s : Scope)
    (hk : s.map (·.1) = params.map (·.1)) :
    compileFrom src s stmts =
      (compileFrom src (holeScope (params.map (·.1))) stmts).map (bindRaw (fill s)) := by
  have h1 := compileFrom_bindScope (fill s) src (holeScope (s.map (·.1))) stmts
  rw [bindScope_holes, hk] at h1
  exact h1

theorem holeVal_fill (ρ : Bytes → PVal) (params : List (Bytes × Bytes))
    (hph : ∀ kv ∈ params, isPlaceholder kv.2 = true) :
    HoleVal ρ (fill (paramScope params)) (fill (valScope ρ params)) := by
  intro v
  simp only [fill, paramScope, valScope, List.getElem?_map]
  cases h : params[v.length]? with
  | none => left; simp
  | some kv =>
    right
    exact ⟨kv.2, by simp, hph kv (List.mem_of_getElem? h), by simp⟩

theorem plets_lexOK (ρ : Bytes → PVal) (stmts : List Stmt) (hs : stmtsLexOK stmts = true) :
    ∀ (l : List (Bytes × Bytes)), (∀ kv ∈ l, (ρ kv.2).ok = true) →
      stmtsLexOK ((l.map fun kv => pletOf kv.1 (ρ kv.2)) ++ stmts) = true
  | [], _ => hs
  | kv :: l, h => by
    simp only [List.map_cons, List.cons_append, pletOf, stmtsLexOK, Bool.and_eq_true]
    refine ⟨?_, plets_lexOK ρ stmts hs l (fun kv' h' => h kv' (List.mem_cons_of_mem _ h'))⟩
    have := h kv List.mem_cons_self
    cases hρ : ρ kv.2 with
    | str v => simp [PVal.expr, Expr.lexOK]
    | num v => rw [hρ] at this; simpa [PVal.expr, Expr.lexOK, PVal.ok] using this

theorem pletsOf_lexOK (ρ : Bytes → PVal) (params : List (Bytes × Bytes)) (stmts : List Stmt)
    (hs : stmtsLexOK stmts = true) (hρ : ∀ kv ∈ params, (ρ kv.2).ok = true) :
    stmtsLexOK (pletsOf ρ params ++ stmts) = true :=
  plets_lexOK ρ stmts hs params.reverse (fun kv h => hρ kv (List.mem_reverse.mp h))

theorem pletsOf_valuesOK (ρ : Bytes → PVal) (params : List (Bytes × Bytes))
    (hρ : ∀ kv ∈ params, (ρ kv.2).ok = true) : LetValuesOK (pletsOf ρ params) := by
  intro st hst kw n a x hx
  obtain ⟨kv, hkv, rfl⟩ := List.mem_map.mp hst
  simp only [pletOf, Stmt.let_.injEq] at hx
  obtain ⟨_, _, _, rfl⟩ := hx
  have := hρ kv (List.mem_reverse.mp hkv)
  cases hρ' : ρ kv.2 with
  | str v => simp [PVal.expr, Expr.lexOK, shapeOK]
  | num v => rw [hρ'] at this; simpa [PVal.expr, Expr.lexOK, shapeOK, PVal.ok] using this

theorem plets_side (ρ : Bytes → PVal) (params : List (Bytes × Bytes)) (lets : List Stmt) (t : Tabular)
    (hρ : ∀ kv ∈ params, (ρ kv.2).ok = true) (hl : IsLets lets) (hv : LetValuesOK lets)
    (hlexP : stmtsLexOK (lets ++ [.tabular t]) = true) :
    IsLets (pletsOf ρ params ++ lets) ∧ LetValuesOK (pletsOf ρ params ++ lets) ∧
      stmtsLexOK (pletsOf ρ params ++ lets ++ [.tabular t]) = true := by
  refine ⟨fun st hst => ?_, fun st hst => ?_, ?_⟩
  · exact (List.mem_append.1 hst).elim (pletsOf_isLets ρ params st) (hl st)
  · exact (List.mem_append.1 hst).elim (pletsOf_valuesOK ρ params hρ st) (hv st)
  · rw [List.append_assoc]; exact pletsOf_lexOK ρ params _ hlexP hρ

end Pql.E2EMore
