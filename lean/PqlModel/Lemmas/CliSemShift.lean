/-
Property C16, semantic half — compiling ignores a span shift together with a prepended text.

`shStmt d` is `mapStmt` of a content map (`CMap`, Lemmas/ShapeBasic.lean) that moves positions and leaves all
contents alone, so the parametricity theorem `compileChunks_mrel` applies.  Its side condition is the implicit column
name, sliced from the source at `Span()` of the column's expression: `(P ++ s)[sp + |P|] = s[sp]`
(`sliceSource_shift`), and `Span()` commutes with the shift when all span fields of the expression are token spans
(`goodE`; `spanOf_sh`).
-/
import PqlModel.Lemmas.CliSemDefs
import PqlModel.Lemmas.ShapeAll
import PqlModel.Lemmas.PiecewiseTab
import PqlModel.Lemmas.TreeInduct
import PqlModel.Lemmas.SpanExtentBasic
namespace Pql.CliSem
open Pql Pql.Piecewise

def shMap (d : Nat) : CMap := ⟨id, id, id, shSpan d⟩

@[simp] theorem fsp_shMap (d : Nat) (sp : Span) : (shMap d).fsp sp = shSpan d sp := rfl
@[simp] theorem fn_shMap (d : Nat) (n : Bytes) : (shMap d).fn n = n := rfl

theorem mapC_shMap (d : Nat) (c : Chunk) : Chunk.mapC (shMap d) c = c := by cases c <;> rfl

theorem map_mapC_shMap (d : Nat) (cs : List Chunk) : cs.map (Chunk.mapC (shMap d)) = cs := by
  induction cs with
  | nil => rfl
  | cons c cs ih => rw [List.map_cons, mapC_shMap, ih]

theorem ident_shMap (d : Nat) : (shMap d).ident = shIdent d := rfl
theorem fnIdent_shMap (d : Nat) : (shMap d).fnIdent = shIdent d := rfl

/-- the content map that applies `f` to every position and leaves all contents alone:
    `shMap d = spMap (shSpan d)`, `spErase = spMap toZero` -/
def spMap (f : Span → Span) : CMap := ⟨id, id, id, f⟩

theorem lit_spMap (f : Span → Span) (k : TokKind) (v : Bytes) : (spMap f).lit k v = v := by
  unfold CMap.lit
  split
  · rfl
  · split <;> rfl

mutual
theorem mapE_spMap (f : Span → Span) : (e : Expr) → mapE (spMap f) e = Layout.mapExpr f e
  | .nil => rfl
  | .qident parts => rfl
  | .lit sp k v => by simp only [mapE, Layout.mapExpr, lit_spMap]; rfl
  | .unary os op x => by simp only [mapE, Layout.mapExpr, mapE_spMap f x]; rfl
  | .binary x os op y => by simp only [mapE, Layout.mapExpr, mapE_spMap f x, mapE_spMap f y]; rfl
  | .inE x i lp vals rp => by simp only [mapE, Layout.mapExpr, mapE_spMap f x, mapL_spMap f vals]; rfl
  | .paren lp x rp => by simp only [mapE, Layout.mapExpr, mapE_spMap f x]; rfl
  | .call fn lp args rp => by simp only [mapE, Layout.mapExpr, mapL_spMap f args]; rfl
  | .index x lb idx rb => by simp only [mapE, Layout.mapExpr, mapE_spMap f x, mapE_spMap f idx]; rfl
theorem mapL_spMap (f : Span → Span) : (es : ExprList) → mapL (spMap f) es = Layout.mapExprList f es
  | .nil => rfl
  | .cons e es => by simp only [mapL, Layout.mapExprList, mapE_spMap f e, mapL_spMap f es]
end

theorem mapE_shMap (d : Nat) (e : Expr) : mapE (shMap d) e = shExpr d e :=
  (mapE_spMap (shSpan d) e).trans (congrFun (shExpr_eq d) e).symm
theorem mapL_shMap (d : Nat) (es : ExprList) : mapL (shMap d) es = shExprList d es :=
  (mapL_spMap (shSpan d) es).trans (congrFun (shExprList_eq d) es).symm

theorem mapSortTerm_shMap (d : Nat) : mapSortTerm (shMap d) = shSortTerm d := by
  funext t; simp only [mapSortTerm, shSortTerm, mapE_shMap, fsp_shMap]
theorem mapColumn_shMap (d : Nat) : mapColumn (shMap d) = shColumn d := by
  funext c; simp only [mapColumn, shColumn, mapE_shMap, fsp_shMap, ident_shMap]
theorem mapProp_shMap (d : Nat) : mapProp (shMap d) = shRenderProp d := by
  funext p; simp only [mapProp, shRenderProp, mapE_shMap, fsp_shMap, ident_shMap]

mutual
theorem mapT_shMap (d : Nat) : (t : Tabular) → mapT (shMap d) t = shTabular d t
  | .nil => rfl
  | .mk src ops => by simp only [mapT, shTabular, ident_shMap, mapOps_shMap d ops]
theorem mapOp_shMap (d : Nat) : (o : Op) → mapOp (shMap d) o = shOp d o
  | .count p k => by simp only [mapOp, shOp, fsp_shMap]
  | .where_ p k e => by simp only [mapOp, shOp, fsp_shMap, mapE_shMap]
  | .sort p k ts => by simp only [mapOp, shOp, fsp_shMap, mapSortTerm_shMap]
  | .take p k e => by simp only [mapOp, shOp, fsp_shMap, mapE_shMap]
  | .top p k e b col => by simp only [mapOp, shOp, fsp_shMap, mapE_shMap, mapSortTerm_shMap]
  | .project p k cs => by simp only [mapOp, shOp, fsp_shMap, mapColumn_shMap]
  | .extend p k cs => by simp only [mapOp, shOp, fsp_shMap, mapColumn_shMap]
  | .summarize p k cs b gs => by simp only [mapOp, shOp, fsp_shMap, mapColumn_shMap]
  | .join p k kind ka fl lp right rp on conds => by
    simp only [mapOp, shOp, fsp_shMap, fnIdent_shMap, mapT_shMap d right, mapL_shMap]
  | .as_ p k nm => by simp only [mapOp, shOp, fsp_shMap, ident_shMap]
  | .render p k ch w lp props rp => by simp only [mapOp, shOp, fsp_shMap, ident_shMap, mapProp_shMap]
theorem mapOps_shMap (d : Nat) : (os : OpList) → mapOps (shMap d) os = shOpList d os
  | .nil => rfl
  | .cons o os => by simp only [mapOps, shOpList, mapOp_shMap d o, mapOps_shMap d os]
end

theorem mapStmt_shMap (d : Nat) : mapStmt (shMap d) = shStmt d := by
  funext st
  cases st with
  | let_ kw name asg x => simp only [mapStmt, shStmt, fsp_shMap, fnIdent_shMap, mapE_shMap]
  | tabular t => simp only [mapStmt, shStmt, mapT_shMap]

/-- `null`, or `0 ≤ start < stop` -/
def G (s : Span) : Prop := s = .null ∨ goodSp s = true

theorem goodSp_iff (s : Span) : goodSp s = true ↔ 0 ≤ s.start ∧ s.start < s.stop := by
  simp [goodSp]

theorem shSpan_good (d : Nat) (s : Span) (h : goodSp s = true) :
    shSpan d s = ⟨s.start + d, s.stop + d⟩ := by
  rw [goodSp_iff] at h
  simp only [shSpan]
  rw [if_pos (by omega)]

theorem goodSp_shSpan (d : Nat) (s : Span) (h : goodSp s = true) : goodSp (shSpan d s) = true := by
  rw [shSpan_good d s h]
  rw [goodSp_iff] at h ⊢
  simp only
  omega

theorem G_null : G .null := Or.inl rfl

theorem G_shSpan (d : Nat) {s : Span} (h : G s) : G (shSpan d s) := by
  rcases h with rfl | h
  · rw [shSpan_null]; exact G_null
  · exact Or.inr (goodSp_shSpan d s h)

theorem isValid_of_good {s : Span} (h : goodSp s = true) : s.isValid = true := by
  rw [goodSp_iff] at h
  simp only [Span.isValid, Bool.and_eq_true, decide_eq_true_eq]
  omega

theorem isValid_null : Span.null.isValid = false := null_isValid

theorem isValid_shSpan {d : Nat} {s : Span} (h : G s) : (shSpan d s).isValid = s.isValid := by
  rcases h with rfl | h
  · rw [shSpan_null]
  · rw [isValid_of_good h, isValid_of_good (goodSp_shSpan d s h)]

theorem G.good {s : Span} (h : G s) (hv : s.isValid = true) : goodSp s = true := by
  rcases h with rfl | h
  · rw [isValid_null] at hv; cases hv
  · exact h

theorem union_shift (d : Nat) {u s : Span} (hu : G u) (hs : G s) :
    G (Span.union u s) ∧ shSpan d (Span.union u s) = Span.union (shSpan d u) (shSpan d s) := by
  unfold Span.union
  rw [isValid_shSpan hu, isValid_shSpan hs]
  cases hsv : s.isValid
  · exact ⟨hu, rfl⟩
  · cases huv : u.isValid
    · exact ⟨hs, rfl⟩
    · -- both are token-like, and so is the hull
      have hu := hu.good huv
      have hs := hs.good hsv
      have hg : goodSp (⟨min u.start s.start, max u.stop s.stop⟩ : Span) = true := by
        rw [goodSp_iff] at hu hs ⊢
        simp only
        omega
      refine ⟨Or.inr hg, ?_⟩
      simp only [Bool.not_true, Bool.false_eq_true, if_false, if_true]
      rw [shSpan_good d _ hg, shSpan_good d u hu, shSpan_good d s hs]
      simp only [Span.mk.injEq]
      constructor <;> omega

theorem foldl_union_shift (d : Nat) (ss : List Span) (hs : ∀ s ∈ ss, G s) (u : Span) (hu : G u) :
    G (ss.foldl Span.union u) ∧
      shSpan d (ss.foldl Span.union u) = (ss.map (shSpan d)).foldl Span.union (shSpan d u) := by
  induction ss generalizing u with
  | nil => exact ⟨hu, rfl⟩
  | cons s ss ih =>
    simp only [List.foldl_cons, List.map_cons]
    have h1 := union_shift d hu (hs s (by simp))
    have h2 := ih (fun s' h' => hs s' (by simp [h'])) (Span.union u s) h1.1
    rw [← h1.2]
    exact h2

theorem unions_shift (d : Nat) (ss : List Span) (hs : ∀ s ∈ ss, G s) :
    G (Span.unions ss) ∧ Span.unions (ss.map (shSpan d)) = shSpan d (Span.unions ss) := by
  have := foldl_union_shift d ss hs .null G_null
  rw [shSpan_null] at this
  exact ⟨this.1, this.2.symm⟩

theorem sliceSpan_shift (d : Nat) (ss : List Span) (hs : ∀ s ∈ ss, G s) :
    G (sliceSpan ss) ∧ sliceSpan (ss.map (shSpan d)) = shSpan d (sliceSpan ss) := by
  rw [sliceSpan_eq_unions, sliceSpan_eq_unions]
  exact unions_shift d ss hs

theorem G.tok {s : Span} (h : goodSp s = true) : G s := Or.inr h

/- every `Span()` is the union of span fields, sub-`Span()`s and `sliceSpan`s, all `G` -/
mutual
theorem spanOf_sh (d : Nat) : (e : Expr) → goodE e = true →
    G e.spanOf ∧ (shExpr d e).spanOf = shSpan d e.spanOf
  | .nil, _ => ⟨G_null, by simp only [shExpr, Expr.spanOf, shSpan_null]⟩
  | .qident parts, h => by
    simp only [goodE, List.all_eq_true, goodIdent] at h
    have hs : ∀ s ∈ parts.map (fun i => i.span), G s := by
      intro s hmem
      obtain ⟨i, hi, rfl⟩ := List.mem_map.mp hmem
      exact .tok (h i hi)
    simp only [shExpr, Expr.spanOf, List.map_map]
    rw [← (sliceSpan_shift d _ hs).2, List.map_map]
    exact ⟨(sliceSpan_shift d _ hs).1, rfl⟩
  | .lit sp _ _, h => by
    simp only [goodE] at h
    exact ⟨.tok h, rfl⟩
  | .unary os op x, h => by
    simp only [goodE, Bool.and_eq_true] at h
    obtain ⟨i1, i2⟩ := spanOf_sh d x h.2
    simp only [shExpr, Expr.spanOf, i2]
    exact unions_shift d _ (all_cons (.tok h.1) (all_cons i1 all_nil))
  | .binary x os op y, h => by
    simp only [goodE, Bool.and_eq_true] at h
    obtain ⟨i1, i2⟩ := spanOf_sh d x h.1.1
    obtain ⟨j1, j2⟩ := spanOf_sh d y h.2
    simp only [shExpr, Expr.spanOf, i2, j2]
    exact unions_shift d _ (all_cons i1 (all_cons (.tok h.1.2) (all_cons j1 all_nil)))
  | .inE x i lp vals rp, h => by
    simp only [goodE, Bool.and_eq_true] at h
    obtain ⟨i1, i2⟩ := spanOf_sh d x h.1.1.1.1
    obtain ⟨v1, v2⟩ := spansOf_sh d vals h.1.2
    obtain ⟨w1, w2⟩ := sliceSpan_shift d _ v1
    simp only [shExpr, Expr.spanOf, i2, v2, w2]
    exact unions_shift d _ (all_cons i1 (all_cons (.tok h.1.1.1.2) (all_cons (.tok h.1.1.2)
      (all_cons w1 (all_cons (.tok h.2) all_nil)))))
  | .paren lp x rp, h => by
    simp only [goodE, Bool.and_eq_true] at h
    obtain ⟨i1, i2⟩ := spanOf_sh d x h.1.2
    simp only [shExpr, Expr.spanOf, i2]
    exact unions_shift d _ (all_cons (.tok h.1.1) (all_cons i1 (all_cons (.tok h.2) all_nil)))
  | .call fn lp args rp, h => by
    simp only [goodE, Bool.and_eq_true, goodIdent] at h
    obtain ⟨v1, v2⟩ := spansOf_sh d args h.1.2
    obtain ⟨w1, w2⟩ := sliceSpan_shift d _ v1
    simp only [shExpr, Expr.spanOf, v2, w2, shIdent]
    exact unions_shift d _ (all_cons (.tok h.1.1.1) (all_cons (.tok h.1.1.2)
      (all_cons w1 (all_cons (.tok h.2) all_nil))))
  | .index x lb idx rb, h => by
    simp only [goodE, Bool.and_eq_true] at h
    obtain ⟨i1, i2⟩ := spanOf_sh d x h.1.1.1
    obtain ⟨j1, j2⟩ := spanOf_sh d idx h.1.2
    simp only [shExpr, Expr.spanOf, i2, j2]
    exact unions_shift d _ (all_cons i1 (all_cons (.tok h.1.1.2) (all_cons j1
      (all_cons (.tok h.2) all_nil))))
theorem spansOf_sh (d : Nat) : (es : ExprList) → goodL es = true →
    (∀ s ∈ es.spansOf, G s) ∧ (shExprList d es).spansOf = es.spansOf.map (shSpan d)
  | .nil, _ => ⟨all_nil, rfl⟩
  | .cons e es, h => by
    simp only [goodL, Bool.and_eq_true] at h
    obtain ⟨i1, i2⟩ := spanOf_sh d e h.1
    obtain ⟨j1, j2⟩ := spansOf_sh d es h.2
    simp only [shExprList, ExprList.spansOf, i2, j2, List.map_cons]
    exact ⟨all_cons i1 j1, trivial⟩
end

/-- **the implicit column name is the same text**: shifting the span by `|P|` and prepending `P`
    to the source leave the slice unchanged (`sp` is `null` — both fail — or a token-like span) -/
theorem sliceSource_shift (P s : Bytes) (sp : Span) (h : G sp) :
    sliceSource (P ++ s) (shSpan P.length sp) = sliceSource s sp := by
  rcases h with rfl | h
  · rw [shSpan_null]
    simp [sliceSource, Span.null]
  · rw [shSpan_good _ _ h]
    rw [goodSp_iff] at h
    obtain ⟨a, b⟩ := sp
    simp only at h
    unfold sliceSource
    simp only [List.length_append, Int.natCast_add]
    by_cases hb : b ≤ (s.length : Int)
    · rw [if_pos (by omega), if_pos (by omega)]
      have e1 : (a + (P.length : Int)).toNat = P.length + a.toNat := by omega
      have e2 : (b + (P.length : Int) - (a + (P.length : Int))).toNat = (b - a).toNat := by omega
      rw [e1, e2, List.drop_append, List.drop_eq_nil_of_le (by omega), Nat.add_sub_cancel_left,
        List.nil_append]
    · rw [if_neg (by omega), if_neg (by omega)]

theorem sliceSource_shExpr (P s : Bytes) (x : Expr) (h : goodE x = true) :
    sliceSource (P ++ s) (mapE (shMap P.length) x).spanOf = sliceSource s x.spanOf := by
  obtain ⟨h1, h2⟩ := spanOf_sh P.length x h
  rw [mapE_shMap, h2, sliceSource_shift P s _ h1]

theorem aliasRel_shift (P s : Bytes) (cs : List Column) (h : goodCols cs = true) :
    ∀ c ∈ cs, AliasRel (shMap P.length) (MapsTo (shMap P.length)) s (P ++ s) c := by
  intro c hc _
  simp only [goodCols, List.all_eq_true] at h
  rw [sliceSource_shExpr P s c.x (h c hc)]
  exact ExRel.refl' (fun t => (rfl : MapsTo (shMap P.length) [.qid t] [.qid t])) _

theorem renderPropValue_sh (d : Nat) (x : Expr) : renderPropValue (shExpr d x) = renderPropValue x := by
  cases x with
  | qident parts => cases parts <;> rfl
  | _ => rfl

theorem identName_sh (d : Nat) (i : Option Ident) : identName (i.map (shIdent d)) = identName i := by
  cases i <;> rfl

theorem opOK_shift (P s : Bytes) (o : Op) (h : goodOp o = true) :
    OpOK (shMap P.length) (MapsTo (shMap P.length)) s (P ++ s) o := by
  cases o with
  | extend p k cs =>
    simp only [goodOp] at h
    simp only [OpOK]
    exact aliasRel_shift P s cs h
  | summarize p k cs b gs =>
    simp only [goodOp, Bool.and_eq_true] at h
    simp only [OpOK]
    exact ⟨aliasRel_shift P s cs h.1, aliasRel_shift P s gs h.2⟩
  | project p k cs =>
    simp only [OpOK]
    exact fun _ _ _ => rfl
  | render p k ch w lp props rp =>
    simp only [OpOK]
    refine ⟨?_, fun pr _ => ⟨?_, ?_⟩⟩
    · rw [ident_shMap, identName_sh]; rfl
    · rw [mapE_shMap, renderPropValue_sh]; rfl
    · rw [ident_shMap, identName_sh]; rfl
  | count | where_ | sort | take | top | join | as_ => simp only [OpOK]

theorem tabOK_shift (P s : Bytes) (t : Tabular) (h : colsGood t = true) :
    TabOK (shMap P.length) (MapsTo (shMap P.length)) s (P ++ s) t :=
  TabOK_of_all (P := goodOp) (opOK_shift P s) t h

theorem compileChunks_shift (P s : Bytes) (stmts : List Stmt)
    (hg : ∀ st ∈ stmts, colsGoodStmt st = true) :
    compileChunks (P ++ s) [] (stmts.map (shStmt P.length)) = compileChunks s [] stmts := by
  have H : SplitCong (shMap P.length) (MapsTo (shMap P.length)) :=
    MapsTo.splitCong _ (fun _ => rfl) rfl
  have h := compileChunks_mrel (src := s) (src' := P ++ s) H [] stmts
    (inertProg_of_fn_id (φ := shMap P.length) (fun _ => rfl) s stmts _ none)
    (fun t ht => tabOK_shift P s t (hg _ ht))
  have e := h.mapsTo_eq
  rw [mapStmt_shMap] at e
  rw [e]
  cases compileChunks s [] stmts with
  | error _ => rfl
  | ok cs => simp only [Except.map, map_mapC_shMap]

end Pql.CliSem
