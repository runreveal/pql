/-
Property C15, parse half — the statement loop of `Parse` over the pieces of `SplitStatements`.

The loop is the fold of `stepAcc` over the groups of tokens between the semicolon tokens
(`parseTokens_eq_fold`, ParseFold.lean); the groups of a source are the scans of its pieces
(`semiGroups_scan`).  `offsetsFrom`: the start offsets of the pieces (sum of the lengths of the
earlier pieces, plus one per ';').
-/
import PqlModel.Lemmas.PiecewiseTab
import PqlModel.Lemmas.ParseFold
import PqlModel.Props.C15
namespace Pql.Piecewise
open Pql Pql.C15

def offsetsFrom : Nat → List Bytes → List Nat
  | _, [] => []
  | off, p :: ps => off :: offsetsFrom (off + p.length + 1) ps

theorem offsetsFrom_length (off : Nat) (ps : List Bytes) : (offsetsFrom off ps).length = ps.length := by
  induction ps generalizing off with
  | nil => rfl
  | cons p ps ih => simp [offsetsFrom, ih]

theorem offsetsFrom_add (a b : Nat) (ps : List Bytes) :
    offsetsFrom (a + b) ps = (offsetsFrom a ps).map (· + b) := by
  induction ps generalizing a with
  | nil => rfl
  | cons p ps ih =>
    simp only [offsetsFrom, List.map_cons]
    rw [show a + b + p.length + 1 = (a + p.length + 1) + b by omega, ih]

/-- the start offsets computed from the piece lengths are the `pieceStarts` of `C15_piece_tokens_at`
    (0 and the `stop` of every semicolon token) -/
theorem offsetsFrom_eq_pieceStarts (src : Bytes) :
    offsetsFrom 0 (splitStatements src) = pieceStarts src := by
  refine splitStatements_induct (P := fun s ps => offsetsFrom 0 ps = pieceStarts s)
    (fun s h1 => by rw [pieceStarts_nosemi s h1]; rfl) ?_ src
  intro u v h2 h3 ih
  rw [pieceStarts_semi u v h2 h3, ← ih]
  simp only [offsetsFrom, Nat.zero_add]
  rw [← offsetsFrom_add]
  simp

theorem scanFrom_nosemi (p : Bytes) (off : Nat) (h : ∀ t ∈ scan p, t.kind ≠ .semi) :
    ∀ t ∈ scanFrom p off, t.kind ≠ .semi := by
  rw [scanFrom_eq_map_scan]
  intro t ht
  obtain ⟨t', ht', rfl⟩ := List.mem_map.mp ht
  exact h t' ht'

theorem semiGroups_rejoin : ∀ (ps : List Bytes), ps ≠ [] → ∀ (off : Nat),
    (∀ p ∈ ps, ∀ t ∈ scan p, t.kind ≠ .semi) →
    semiGroups (rejoinTokens off ps) =
      (ps.zip (offsetsFrom off ps)).map fun po => scanFrom po.1 po.2 := by
  intro ps
  induction ps with
  | nil => intro h; exact absurd rfl h
  | cons p ps ih =>
    intro _ off hns
    have hp := semiGroups_nosemi _ (scanFrom_nosemi p off (hns p List.mem_cons_self))
    cases ps with
    | nil => exact hp
    | cons q ps =>
      rw [rejoinTokens_cons off p (List.cons_ne_nil _ _), semiGroups_append _ _ _ rfl, hp,
        ih (List.cons_ne_nil _ _) _ fun p' hp' => hns p' (List.mem_cons_of_mem _ hp')]
      rfl

theorem semiGroups_scan (src : Bytes) : semiGroups (scan src) =
    ((splitStatements src).zip (offsetsFrom 0 (splitStatements src))).map fun po => scanFrom po.1 po.2 := by
  rw [C15_piece_tokens]
  exact semiGroups_rejoin _ (splitStatements_ne_nil src) 0 (C15_no_semi_in_piece src)

theorem parse_nosemi (p : Bytes) (h : ∀ t ∈ scan p, t.kind ≠ .semi) :
    parse p = stepAcc ([], []) (pStatement ⟨p.length⟩ (scan p)) := by
  rw [parse, parseTokens_eq_fold, semiGroups_nosemi _ h]
  rfl

theorem parse_nosemi_fst (p : Bytes) (h : ∀ t ∈ scan p, t.kind ≠ .semi) :
    (parse p).1 = (pStatement ⟨p.length⟩ (scan p)).1.toList := by
  rw [parse_nosemi p h]; simp [stepAcc]

theorem parse_nosemi_snd (p : Bytes) (h : ∀ t ∈ scan p, t.kind ≠ .semi) :
    (parse p).2 = (pStatement ⟨p.length⟩ (scan p)).2.1 := by
  rw [parse_nosemi p h]; simp only [stepAcc, List.nil_append]; split <;> rfl

/-- **The statement loop commutes with moving the tokens** (source length `n`, tokens `ts`, against
    source length `m`, tokens moved by `d`). -/
theorem parseTokens_sh {n m d : Nat} (ts : List Token) (h : TokP ts) :
    parseTokens m (ts.map (Token.shift d)) =
      ((parseTokens n ts).1.map (shStmt d), mapE n m d (parseTokens n ts).2) := by
  rw [shStmt_eq]
  exact (shiftMap n m d).parseTokens_map ts (ok_of_tokP h)

end Pql.Piecewise
