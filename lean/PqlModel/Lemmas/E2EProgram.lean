/-
End-to-end composition: the meaning `Rel.interpProgram` gives a program `lets ++ [query]` whose
extend / summarize columns are all named (`tabNamed`, the side condition of C06) is `Rel.interp` of the
query with the lets resolved.

The side condition of the syntactic half (`C05.tabularOK`: every
expression is `lexOK`, `shapeOK` and translatable) implies the side condition of the lexical half
(`Tabular.lexOK`), so the composed theorem needs only the former.
-/
import PqlModel.Spec.Rel
import PqlModel.Lemmas.ScopeProgram
import PqlModel.Lemmas.ParseStmtOK
import PqlModel.Lemmas.LexStmtSplit
namespace Pql.E2E
open Pql Sql CompileOracle

theorem nameColumn_named (src : Bytes) (c : Column) (h : ColNamed c) : Rel.nameColumn src c = c := by
  obtain ⟨h1, _⟩ := h
  unfold Rel.nameColumn
  cases hn : c.name with
  | none => rw [hn] at h1; cases h1
  | some n => rfl

theorem map_nameColumn (src : Bytes) (cs : List Column) (h : ∀ c ∈ cs, ColNamed c) :
    cs.map (Rel.nameColumn src) = cs := by
  conv => rhs; rw [← List.map_id cs]
  exact List.map_congr_left fun c hc => nameColumn_named src c (h c hc)

mutual
theorem nameTabular_named (src : Bytes) : (t : Tabular) → tabNamed t → Rel.nameTabular src t = t
  | .nil, _ => rfl
  | .mk s ops, h => by
    simp only [tabNamed] at h
    simp only [Rel.nameTabular, nameOps_named src ops h]
theorem nameOps_named (src : Bytes) : (ops : OpList) → opsNamed ops → Rel.nameOps src ops = ops
  | .nil, _ => rfl
  | .cons o os, h => by
    simp only [opsNamed] at h
    simp only [Rel.nameOps, nameOp_named src o h.1, nameOps_named src os h.2]
theorem nameOp_named (src : Bytes) : (o : Op) → opNamed o → Rel.nameOp src o = o
  | .extend _ _ cs, h => by
    simp only [opNamed] at h
    simp only [Rel.nameOp, map_nameColumn src cs h]
  | .summarize _ _ cs _ gs, h => by
    simp only [opNamed] at h
    simp only [Rel.nameOp, map_nameColumn src cs h.1, map_nameColumn src gs h.2]
  | .join _ _ _ _ _ _ right _ _ _, h => by
    simp only [opNamed] at h
    simp only [Rel.nameOp, nameTabular_named src right h]
  | .count .., _ | .where_ .., _ | .sort .., _ | .take .., _ | .top .., _ | .project .., _ | .as_ .., _
  | .render .., _ => rfl
end

theorem map_lets_query (f : Stmt → Stmt) (t t' : Tabular)
    (hlet : ∀ kw n a x, f (.let_ kw n a x) = .let_ kw n a x) (ht : f (.tabular t) = .tabular t') :
    (lets : List Stmt) → IsLets lets → (lets ++ [Stmt.tabular t]).map f = lets ++ [.tabular t']
  | [], _ => by rw [List.nil_append, List.map_singleton, ht]; rfl
  | s :: lets, hl => by
    obtain ⟨kw, n, a, x, rfl⟩ := hl s List.mem_cons_self
    rw [List.cons_append, List.map_cons, hlet, map_lets_query f t t' hlet ht lets fun s hs => hl s (List.mem_cons_of_mem _ hs)]
    rfl

theorem interpProgram_query (src : Bytes) (db : DB) (lets : List Stmt) (t : Tabular) (hl : IsLets lets) :
    Rel.interpProgram src db (lets ++ [.tabular t]) =
      (resolveLets (lets ++ [.tabular (Rel.nameTabular src t)]) []).map (Rel.interp src db) := by
  unfold Rel.interpProgram
  simp only
  rw [map_lets_query _ t _ (fun _ _ _ _ => rfl) rfl lets hl]

theorem interpProgram_lets (src : Bytes) (db : DB) (lets : List Stmt) (t t' : Tabular) (hl : IsLets lets)
    (hN : tabNamed t) (hres : resolveLets (lets ++ [.tabular t]) [] = some t') :
    Rel.interpProgram src db (lets ++ [.tabular t]) = some (Rel.interp src db t') := by
  rw [interpProgram_query src db lets t hl, nameTabular_named src t hN, hres]
  rfl
end Pql.E2E

namespace Pql.E2E
open Pql Sql CompileOracle Intended C05

theorem exprOKin_lexOK {j : Bool} {e : Expr} (h : exprOKin j e = true) : e.lexOK = true := by
  simp only [exprOKin, Bool.and_eq_true] at h
  exact h.1.1

theorem projColOK_projOK (c : Column) (h : projColOK c = true) : c.projOK = true := by
  unfold projColOK at h
  unfold Column.projOK
  split at h
  · rename_i hx; simp only [hx]
  · rename_i x hx
    split
    · rfl
    · exact exprOKin_lexOK h

theorem lexOK_alg : TreeAlg (fun t => tabularOK t = true → t.lexOK = true)
    (fun o => opOK1 o = true → o.lexOK = true) (fun ops => opsOK ops = true → ops.lexOK = true) where
  tnil := fun _ => rfl
  tmk := fun _ _ ih => ih
  onil := fun _ => rfl
  cons := fun _ _ iho ihl h => and_true' (iho (and_true_of h).1) (ihl (and_true_of h).2)
  count := fun _ _ _ => rfl
  where_ := fun _ _ _ => exprOKin_lexOK
  sort := fun _ _ _ h => all_imp (fun _ => exprOKin_lexOK) (and_true_of h).2
  take := fun _ _ _ => exprOKin_lexOK
  top := fun _ _ _ _ col h => and_true' (exprOKin_lexOK (and_true_of h).1)
    (match col, (and_true_of h).2 with
      | none, _ => rfl
      | some _, h => exprOKin_lexOK h)
  project := fun _ _ _ h => all_imp projColOK_projOK (and_true_of h).2
  extend := fun _ _ _ => all_imp fun _ => exprOKin_lexOK
  summarize := fun _ _ _ _ _ h =>
    and_true' (all_imp (fun _ => exprOKin_lexOK) (and_true_of (and_true_of h).1).2)
      (all_imp (fun _ => exprOKin_lexOK) (and_true_of h).2)
  join := fun _ _ _ _ _ _ _ _ _ conds ih h =>
    and_true' (ih (and_true_of h).1) (buildJoin_lexOK_eq conds ▸ exprOKin_lexOK (and_true_of h).2)
  as_ := fun _ _ _ _ => rfl
  render := fun _ _ _ _ _ _ _ _ => rfl

theorem tabularOK_lexOK : (t : Tabular) → tabularOK t = true → t.lexOK = true := lexOK_alg.tabular

theorem opsOK_lexOK : (ops : OpList) → opsOK ops = true → ops.lexOK = true := lexOK_alg.ops

theorem opOK1_lexOK : (o : Op) → opOK1 o = true → o.lexOK = true := lexOK_alg.op

end Pql.E2E
