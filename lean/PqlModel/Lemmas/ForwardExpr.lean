/-
Property C07 (forward direction), the expression productions: on the tokens of a
well-grouped tree, followed by something that does not continue the expression, each production
returns exactly the tree, no error, and what follows.  Proved for all productions at once by
induction on the fuel (`Fwd c fuel`), one step lemma per production, with the fuel ranks of
`Lemmas/ParseFuelExpr.lean`.
-/
import PqlModel.Lemmas.ForwardSpine
import PqlModel.Lemmas.ParseCases
namespace Pql
open Grammar

theorem pIdent_real {c : PCtx} {i : Ident} {t : Token} {rest : List Token} (h : IsIdentTok i t) :
    pIdent c (t :: rest) = ⟨some i, [], rest⟩ := by
  simp only [pIdent, h.1, if_true, h.2]

def NotDot : List Token → Bool
  | [] => true
  | t :: _ => t.kind != .dot

theorem qualTailReal_length : ∀ {is : List Ident} {ts : List Token}, QualTailReal is ts →
    ts.length = 2 * is.length
  | [], ts, h => by
    have : ts = [] := h
    subst this; rfl
  | i :: is, ts, h => by
    obtain ⟨d, t, ts', rfl, -, -, hr⟩ := h
    have := qualTailReal_length hr
    simp only [List.length_cons, this]; omega

theorem pQualTail_real (c : PCtx) : ∀ (more : List Ident) (fuel : Nat) (parts : List Ident)
    (ts rest : List Token), QualTailReal more ts → NotDot rest = true → more.length + 1 ≤ fuel →
    pQualTail c fuel parts (ts ++ rest) = ⟨parts ++ more, [], rest⟩
  | [], fuel, parts, ts, rest, h, hnd, hf => by
    have : ts = [] := h
    subst this
    obtain ⟨f, rfl⟩ : ∃ f, fuel = f + 1 := ⟨fuel - 1, by omega⟩
    cases rest with
    | nil => simp [pQualTail]
    | cons t r =>
      have : t.kind ≠ .dot := by simpa [NotDot] using hnd
      simp [pQualTail, this]
  | i :: is, fuel, parts, ts, rest, h, hnd, hf => by
    obtain ⟨d, t, ts', rfl, hd, ht, hr⟩ := h
    obtain ⟨f, rfl⟩ : ∃ f, fuel = f + 1 := ⟨fuel - 1, by omega⟩
    simp only [List.length_cons] at hf
    simp only [List.cons_append, pQualTail, hd, if_true, pIdent_real ht]
    rw [pQualTail_real c is f (parts ++ [i]) ts' rest hr hnd (by omega)]
    simp

def InnerStops : List Token → Bool
  | [] => true
  | t :: _ => t.kind != .dot && t.kind != .lparen

theorem headStops_inner {rest : List Token} (h : HeadStops rest = true) : InnerStops rest = true := by
  cases rest with
  | nil => rfl
  | cons t r =>
    simp only [HeadStops, Bool.and_eq_true] at h
    simp only [InnerStops, Bool.and_eq_true]
    exact h.1

theorem innerStops_notDot {rest : List Token} (h : InnerStops rest = true) : NotDot rest = true := by
  cases rest with
  | nil => rfl
  | cons t r =>
    simp only [InnerStops, Bool.and_eq_true] at h
    exact h.1

/-- what may follow an expression list: nothing that continues an expression, and a comma only
    as the very last token (the trailing comma of a call) -/
def ListStops (rest : List Token) : Bool :=
  StopsAt 0 rest && (match rest with | t :: _ :: _ => t.kind != .comma | _ => true)

def appendL : ExprList → ExprList → ExprList
  | .nil, l => l
  | .cons e es, l => .cons e (appendL es l)

theorem appendL_snoc : ∀ (acc : ExprList) (e : Expr) (l : ExprList),
    appendL (acc.snoc e) l = appendL acc (.cons e l)
  | .nil, _, _ => rfl
  | .cons a as, e, l => by simp only [ExprList.snoc, appendL, appendL_snoc as e l]

theorem appendL_nil : ∀ (acc : ExprList), appendL acc .nil = acc
  | .nil => rfl
  | .cons a as => by simp only [appendL, appendL_nil as]

structure Fwd (c : PCtx) (f : Nat) : Prop where
  expr : ∀ (e : Expr) (ts rest : List Token), (okSpine 0 e).isSome = true → Real e ts →
    StopsAt 0 rest = true → 4 * (ts ++ rest).length + 4 ≤ f → pExpr c f (ts ++ rest) = ⟨e, [], rest⟩
  trail : ∀ (segs : List Seg) (x : Expr) (m cap cap' : Int) (acc : Errs) (sg rest : List Token),
    okSegs m cap segs = some cap' → SegsReal segs sg → StopsAt m rest = true →
    4 * (sg ++ rest).length + 1 ≤ f → pTrail c f x m acc (sg ++ rest) = ⟨foldSegs x segs, acc, rest⟩
  higher : ∀ (segs : List Seg) (y : Expr) (p cap' : Int) (acc : Errs) (sg rest : List Token),
    okSegs (p + 1) inf segs = some cap' → SegsReal segs sg → StopsAt (p + 1) rest = true →
    4 * (sg ++ rest).length + 2 ≤ f → pHigher c f y p acc (sg ++ rest) = ⟨foldSegs y segs, acc, rest⟩
  unary : ∀ (h : Expr) (th rest : List Token), isHeadE h = true → (okSpine 0 h).isSome = true →
    Real h th → HeadStops rest = true → 4 * (th ++ rest).length + 3 ≤ f →
    pUnary c f (th ++ rest) = ⟨h, [], rest⟩
  primary : ∀ (h : Expr) (th rest : List Token), isPrimary h = true → (okSpine 0 h).isSome = true →
    Real h th → HeadStops rest = true → 4 * (th ++ rest).length + 2 ≤ f →
    pPrimary c f (th ++ rest) = ⟨h, [], rest⟩
  inner : ∀ (h : Expr) (th rest : List Token), isInnerPrimary h = true → (okSpine 0 h).isSome = true →
    Real h th → InnerStops rest = true → 4 * (th ++ rest).length + 1 ≤ f →
    pInner c f (th ++ rest) = ⟨h, [], rest⟩
  exprList : ∀ (e : Expr) (es : ExprList) (ts rest : List Token), okList (.cons e es) = true →
    RealL (.cons e es) ts → ListStops rest = true → 4 * (ts ++ rest).length + 5 ≤ f →
    pExprList c f (ts ++ rest) = ⟨.cons e es, [], rest⟩
  exprListTail : ∀ (acc l : ExprList) (ts rest : List Token), okList l = true → ListTailReal l ts →
    ListStops rest = true → 4 * (ts ++ rest).length + 1 ≤ f →
    pExprListTail c f acc (ts ++ rest) = ⟨appendL acc l, [], rest⟩

theorem Fwd.zero (c : PCtx) : Fwd c 0 := by
  constructor <;> intros <;> omega

theorem Fwd.spine {c : PCtx} {f : Nat} (F : Fwd c f) {e : Expr} {m cap : Int} {ts rest : List Token}
    (hok : okSpine m e = some cap) (hr : Real e ts) (hs : StopsAt m rest = true)
    (hf : 4 * (ts ++ rest).length + 3 ≤ f) :
    ∃ th sg, ts = th ++ sg ∧ pUnary c f (th ++ (sg ++ rest)) = ⟨spineHead e, [], sg ++ rest⟩ ∧
      okSegs m inf (spineSegs e) = some cap ∧ SegsReal (spineSegs e) sg := by
  obtain ⟨th, sg, rfl, hh, hh0, hrh, hsegs, hrs⟩ := spine_cut e m cap ts hok hr
  exact ⟨th, sg, rfl, F.unary _ th (sg ++ rest) hh hh0 hrh (headStops_segs hsegs hrs hs)
    (by rwa [List.append_assoc] at hf), hsegs, hrs⟩

theorem closeSplit_of_split {k : TokKind} {dflt errSp : Span} {ts a rest : List Token} {cl : Token}
    (h : split k ts = (a, cl :: rest)) : closeSplit k dflt errSp ts = ⟨cl.span, [], rest⟩ :=
  closeSplit_close (by rw [h])

theorem pExpr_fwd_step (c : PCtx) (f : Nat) (ih : Fwd c f) (e : Expr) (ts rest : List Token)
    (hok : (okSpine 0 e).isSome = true) (hr : Real e ts) (hs : StopsAt 0 rest = true)
    (hf : 4 * (ts ++ rest).length + 4 ≤ f + 1) : pExpr c (f + 1) (ts ++ rest) = ⟨e, [], rest⟩ := by
  obtain ⟨cap, hcap⟩ := Option.isSome_iff_exists.1 hok
  obtain ⟨th, sg, rfl, hU, hsegs, hrs⟩ := ih.spine hcap hr hs (by omega)
  simp only [List.length_append] at hf
  have hT := ih.trail (spineSegs e) (spineHead e) 0 inf cap [] sg rest hsegs hrs hs
    (by simp only [List.length_append]; omega)
  rw [List.append_assoc, pExpr_trail (by rw [hU]; rfl)]
  simp only [hU, hT, fold_spine, List.append_nil]

theorem pHigher_fwd_step (c : PCtx) (f : Nat) (ih : Fwd c f) (segs : List Seg) (y : Expr) (p cap' : Int)
    (acc : Errs) (sg rest : List Token) (hok : okSegs (p + 1) inf segs = some cap')
    (hr : SegsReal segs sg) (hs : StopsAt (p + 1) rest = true)
    (hf : 4 * (sg ++ rest).length + 2 ≤ f + 1) :
    pHigher c (f + 1) y p acc (sg ++ rest) = ⟨foldSegs y segs, acc, rest⟩ := by
  cases segs with
  | nil =>
    have : sg = [] := hr
    subst this
    simp only [List.nil_append, foldSegs]
    cases rest with
    | nil => exact pHigher_nil
    | cons t r =>
      have h1 := stopsAt_trail hs
      exact pHigher_stop (by omega)
  | cons s tl =>
    obtain ⟨t, r, rfl, h0, h1, -⟩ := segs_first hok hr
    have hT := ih.trail (s :: tl) y (p + 1) inf cap' [] (t :: r) rest hok hr hs (by omega)
    have hH := ih.higher [] (foldSegs y (s :: tl)) p inf acc [] rest rfl rfl hs
      (by simp only [List.length_append, List.length_cons, List.nil_append] at hf ⊢; omega)
    have hn : ¬ (Pql.precOf t.kind < 0 ∨ Pql.precOf t.kind ≤ p) := by omega
    simp only [List.cons_append] at hT ⊢
    simp only [List.nil_append, foldSegs] at hH
    rw [pHigher_go hn]
    simp only [hT, mkOpaque, List.map_nil, List.append_nil, hH, foldSegs]

theorem pTrail_fwd_step (c : PCtx) (f : Nat) (ih : Fwd c f) (segs : List Seg) (x : Expr) (m cap cap' : Int)
    (acc : Errs) (sg rest : List Token) (hok : okSegs m cap segs = some cap') (hr : SegsReal segs sg)
    (hs : StopsAt m rest = true) (hf : 4 * (sg ++ rest).length + 1 ≤ f + 1) :
    pTrail c (f + 1) x m acc (sg ++ rest) = ⟨foldSegs x segs, acc, rest⟩ := by
  cases segs with
  | nil =>
    have : sg = [] := hr
    subst this
    simp only [List.nil_append, foldSegs]
    cases rest with
    | nil => exact pTrail_nil
    | cons t r => exact pTrail_stop (stopsAt_trail hs)
  | cons s tl =>
    obtain ⟨a, b, rfl, ha, hb⟩ := hr
    simp only [okSegs] at hok
    split at hok
    · rename_i c0 h0
      cases s with
      | bin os op y =>
        obtain ⟨t, ty, rfl, hk, hsp, hy⟩ := ha
        obtain ⟨hop, hm, hc, hoy, rfl⟩ := okSeg_bin h0
        subst hk hsp
        obtain ⟨capy, hcapy⟩ := Option.isSome_iff_exists.1 hoy
        -- `x op y rest…`: the parser reads `y` as a head (`ih.spine`) and its own segments at minimum
        -- precedence `prec op + 1` (`ih.higher`); that stops in front of `b` by the cap (`hst`);
        -- then the loop goes on with `x op y` as the left operand and `prec op` as the new cap (`ih.trail`)
        have hst : StopsAt (Pql.precOf t.kind + 1) (b ++ rest) = true := stopsAt_after hok hb hs hm
        simp only [List.length_append, List.length_cons] at hf
        obtain ⟨thy, sgy, rfl, hU, hsegsy, hrs⟩ := ih.spine hcapy hy hst
          (by simp only [List.length_append]; omega)
        simp only [List.length_append] at hf
        have hH := ih.higher (spineSegs y) (spineHead y) (Pql.precOf t.kind) capy acc sgy (b ++ rest) hsegsy
          hrs hst (by simp only [List.length_append]; omega)
        have hT := ih.trail tl (.binary x t.span t.kind y) m (Pql.precOf t.kind) cap' acc b rest hok hb hs
          (by simp only [List.length_append]; omega)
        have hkk := isBinaryOp_kind hop
        have hn : ¬ (Pql.precOf t.kind < 0 ∨ Pql.precOf t.kind < m) := by omega
        have hlist : (t :: (thy ++ sgy)) ++ b ++ rest = t :: (thy ++ (sgy ++ (b ++ rest))) := by simp
        rw [hlist, pTrail_binary hn hkk.1]
        simp only [hU, mkOpaque, List.map_nil, List.append_nil, hH, fold_spine, hT, foldSegs, Seg.apply]
      | inn i lp vals rp =>
        obtain ⟨ti, tl', tv, tr, rfl, hk1, hs1, hk2, hs2, hv, hk3, hs3⟩ := ha
        obtain ⟨hm, hc, hlen, hov, rfl⟩ := okSeg_inn h0
        subst hs1 hs2 hs3
        simp only [List.length_append, List.length_cons, List.length_nil] at hf
        have hT := ih.trail tl (.inE x ti.span tl'.span vals tr.span) m inf cap' acc b rest hok hb hs
          (by simp only [List.length_append]; omega)
        -- the values are bracket-balanced, so `split .rparen` finds the `)` that closes the list
        have hpass : Passes tv := realL_passes vals tv hov hv
        have hsplit : split .rparen (tv ++ tr :: (b ++ rest)) = (tv, tr :: (b ++ rest)) :=
          split_at (Or.inl rfl) hk3 (hpass _ _ (Or.inl rfl))
        have hL : pExprList c f tv = ⟨vals, [], []⟩ := by
          cases vals with
          | nil => simp [ExprList.length] at hlen
          | cons e es =>
            have := ih.exprList e es tv [] hov hv rfl (by simp only [List.append_nil]; omega)
            simpa using this
        have hp : Pql.precOf ti.kind = 2 := by rw [hk1, C07.precOf_eq]
        have hn : ¬ (Pql.precOf ti.kind < 0 ∨ Pql.precOf ti.kind < m) := by omega
        have hlist : (ti :: tl' :: (tv ++ [tr])) ++ b ++ rest = ti :: tl' :: (tv ++ tr :: (b ++ rest)) := by
          simp
        rw [hlist, pTrail_in_list hn hk1 hk2 (by rw [hsplit]; exact List.cons_ne_nil _ _),
          closeSplit_of_split hsplit, hsplit]
        simp only [hL, mkOpaque, List.map_nil, List.append_nil, endSplit, hT, foldSegs, Seg.apply]
    · simp at hok

theorem pPrimary_sign_errs {c : PCtx} {t : Token} {r : List Token} (hk : t.kind = .plus ∨ t.kind = .minus) :
    ∀ f, (pPrimary c f (t :: r)).errs ≠ []
  | 0 => by simp [pPrimary, errFuel]
  | 1 => by simp [pPrimary, pInner, errFuel]
  | f + 2 => by
    have hI : pInner c (f + 1) (t :: r) = ⟨.nil, nfAt t.span, t :: r⟩ := by
      rcases hk with hk | hk <;> exact pInner_other (by simp [hk]) (by simp [hk]) (by simp [hk]) (by simp [hk])
    rw [pPrimary_err (by rw [hI]; simp [nfAt]), hI]
    simp [nfAt]

theorem pUnary_of_primary (c : PCtx) (f : Nat) (ih : Fwd c f) (h : Expr) (th rest : List Token)
    (hp : isPrimary h = true) (hok : (okSpine 0 h).isSome = true) (hr : Real h th)
    (hs : HeadStops rest = true) (hf : 4 * (th ++ rest).length + 3 ≤ f + 1) :
    pUnary c (f + 1) (th ++ rest) = ⟨h, [], rest⟩ := by
  have hP := ih.primary h th rest hp hok hr hs (by omega)
  obtain ⟨t, r, rfl⟩ := List.exists_cons_of_ne_nil (real_iff.1 hr).1.ne_nil.2
  rw [List.cons_append] at hP ⊢
  -- the first token is no sign: on a sign `primaryExpr` would have reported an error
  rw [pUnary_plain fun hk => pPrimary_sign_errs hk f (by rw [hP]), hP]

theorem pUnary_fwd_step (c : PCtx) (f : Nat) (ih : Fwd c f) (h : Expr) (th rest : List Token)
    (hh : isHeadE h = true) (hok : (okSpine 0 h).isSome = true) (hr : Real h th)
    (hs : HeadStops rest = true) (hf : 4 * (th ++ rest).length + 3 ≤ f + 1) :
    pUnary c (f + 1) (th ++ rest) = ⟨h, [], rest⟩ := by
  cases h with
  | unary os op x =>
    obtain ⟨hop, hpx, hox⟩ := okSpine_unary hok
    obtain ⟨t, tx, rfl, hk, hsp, hrx⟩ := real_unary hr
    subst hk hsp
    simp only [List.cons_append, List.length_cons] at hf
    have hP := ih.primary x tx rest hpx hox hrx hs (by omega)
    rw [List.cons_append, pUnary_sign hop, hP]
    rfl
  | qident parts => exact pUnary_of_primary c f ih _ th rest rfl hok hr hs hf
  | lit a b d => exact pUnary_of_primary c f ih _ th rest rfl hok hr hs hf
  | call a b d e => exact pUnary_of_primary c f ih _ th rest rfl hok hr hs hf
  | paren a b d => exact pUnary_of_primary c f ih _ th rest rfl hok hr hs hf
  | index a b d e => exact pUnary_of_primary c f ih _ th rest rfl hok hr hs hf
  | nil => simp [okSpine] at hok
  | binary _ _ _ _ => simp [isHeadE] at hh
  | inE _ _ _ _ _ => simp [isHeadE] at hh

theorem pPrimary_fwd_step (c : PCtx) (f : Nat) (ih : Fwd c f) (h : Expr) (th rest : List Token)
    (hp : isPrimary h = true) (hok : (okSpine 0 h).isSome = true) (hr : Real h th)
    (hs : HeadStops rest = true) (hf : 4 * (th ++ rest).length + 2 ≤ f + 1) :
    pPrimary c (f + 1) (th ++ rest) = ⟨h, [], rest⟩ := by
  have hinner : ∀ h', isInnerPrimary h' = true → (okSpine 0 h').isSome = true → Real h' th →
      pPrimary c (f + 1) (th ++ rest) = ⟨h', [], rest⟩ := by
    intro h' hi' hok' hr'
    have hI := ih.inner h' th rest hi' hok' hr' (headStops_inner hs) (by omega)
    rw [pPrimary_plain (by rw [hI]) ?_, hI]
    rw [hI]
    intro t r hrest
    have hrest' : rest = t :: r := hrest
    subst hrest'
    simp only [HeadStops, Bool.and_eq_true, bne_iff_ne] at hs
    exact hs.2
  cases h with
  | index x lb idx rb =>
    obtain ⟨hix, hox, hoi⟩ := okSpine_index hok
    obtain ⟨tx, tl, ti, tr, rfl, hx, hk1, hs1, hi, hk2, hs2⟩ := real_index hr
    subst hs1 hs2
    simp only [List.length_append, List.length_cons, List.length_nil] at hf
    have hI := ih.inner x tx (tl :: (ti ++ tr :: rest)) hix hox hx (by simp [InnerStops, hk1])
      (by simp only [List.length_append, List.length_cons]; omega)
    have hpass : Passes ti := real_passes idx 0 ti hoi hi
    have hsplit : split .rbracket (ti ++ tr :: rest) = (ti, tr :: rest) :=
      split_at (Or.inr (Or.inl rfl)) hk2 (hpass _ _ (Or.inr (Or.inl rfl)))
    have hE : pExpr c f ti = ⟨idx, [], []⟩ := by
      have := ih.expr idx ti [] hoi hi rfl (by simp only [List.append_nil]; omega)
      simpa using this
    have hlist : tx ++ tl :: (ti ++ [tr]) ++ rest = tx ++ tl :: (ti ++ tr :: rest) := by simp
    rw [hlist, pPrimary_index (t := tl) (rest := ti ++ tr :: rest) (by rw [hI]) (by rw [hI]) hk1,
      closeSplit_of_split hsplit, hsplit, hI, hE]
    rfl
  | qident parts => exact hinner _ rfl hok hr
  | lit a b d => exact hinner _ rfl hok hr
  | call a b d e => exact hinner _ rfl hok hr
  | paren a b d => exact hinner _ rfl hok hr
  | nil => simp [isPrimary, isInnerPrimary] at hp
  | unary _ _ _ => simp [isPrimary, isInnerPrimary] at hp
  | binary _ _ _ _ => simp [isPrimary, isInnerPrimary] at hp
  | inE _ _ _ _ _ => simp [isPrimary, isInnerPrimary] at hp

theorem pExpr_nil (c : PCtx) (f : Nat) : pExpr c (f + 2) [] = ⟨.nil, nfAt c.eof, []⟩ := by
  simp [pExpr, pUnary]

theorem pExprList_nil (c : PCtx) (f : Nat) : pExprList c (f + 3) [] = ⟨.nil, nfAt c.eof, []⟩ := by
  simp [pExprList, pExpr_nil]

theorem pInner_fwd_step (c : PCtx) (f : Nat) (ih : Fwd c f) (h : Expr) (th rest : List Token)
    (hi : isInnerPrimary h = true) (hok : (okSpine 0 h).isSome = true) (hr : Real h th)
    (hs : InnerStops rest = true) (hf : 4 * (th ++ rest).length + 1 ≤ f + 1) :
    pInner c (f + 1) (th ++ rest) = ⟨h, [], rest⟩ := by
  cases h with
  | lit sp k v =>
    have hk := okSpine_lit hok
    obtain ⟨t, rfl, rfl, rfl, rfl⟩ := real_lit (by rcases hk with rfl | rfl <;> decide) hr
    exact pInner_lit hk
  | qident parts =>
    obtain ⟨i, is, t, ts', rfl, rfl, ⟨hkind, rfl⟩, hq⟩ := real_qident hr
    have hl := qualTailReal_length hq
    have hT := pQualTail_real c is ((ts' ++ rest).length + 1) [⟨t.value, t.span, t.kind = .qident⟩] ts' rest hq
      (innerStops_notDot hs) (by simp only [List.length_append]; omega)
    rw [List.cons_append]
    rcases hkind with hid | hqd
    · have hd : decide (t.kind = .qident) = false := by simp [hid]
      rw [hd] at hT ⊢
      rw [pInner_ident hid, hT]
      · rfl
      · -- not a call: several parts, or no `(` behind the name
        rw [hT]
        cases is with
        | cons j js => exact Or.inr (Or.inl (by simp))
        | nil =>
          refine Or.inr (Or.inr fun lp rest2 hrest => ?_)
          have hrest' : rest = lp :: rest2 := hrest
          subst hrest'
          simp only [InnerStops, Bool.and_eq_true, bne_iff_ne] at hs
          exact hs.2
    · have hd : decide (t.kind = .qident) = true := by simp [hqd]
      rw [hd] at hT ⊢
      rw [pInner_qident hqd, hT]
      rfl
  | paren lp x rp =>
    obtain ⟨tl, tx, tr, rfl, hk1, rfl, hx, hk2, rfl⟩ := real_paren hr
    have hox := okSpine_paren hok
    simp only [List.length_append, List.length_cons, List.length_nil] at hf
    have hsplit : split .rparen (tx ++ tr :: rest) = (tx, tr :: rest) :=
      split_at (Or.inl rfl) hk2 (real_passes x 0 tx hox hx _ _ (Or.inl rfl))
    have hE : pExpr c f tx = ⟨x, [], []⟩ := by
      have := ih.expr x tx [] hox hx rfl (by simp only [List.append_nil]; omega)
      rwa [List.append_nil] at this
    have hlist : tl :: (tx ++ [tr]) ++ rest = tl :: (tx ++ tr :: rest) := by simp
    rw [hlist, pInner_paren hk1, closeSplit_of_split hsplit, hsplit, hE]
    rfl
  | call fn lp args rp =>
    obtain ⟨tf, tl, ta, tc, tr, rfl, hfn, hk1, rfl, ha, hc, hk2, rfl⟩ := real_call hr
    obtain ⟨hq, hoa⟩ := okSpine_call hok
    simp only [List.length_append, List.length_cons, List.length_nil] at hf
    obtain ⟨hid, rfl⟩ := hfn.plain hq
    have hpass : Passes (ta ++ tc) := by
      refine passes_append (realL_passes args ta hoa ha) ?_
      rcases hc with rfl | ⟨cm, rfl, hcm, -⟩
      · exact passes_nil
      · exact passes_kind hcm
    have hsplit : split .rparen (ta ++ tc ++ tr :: rest) = (ta ++ tc, tr :: rest) :=
      split_at (Or.inl rfl) hk2 (hpass _ _ (Or.inl rfl))
    have hlist : tf :: tl :: (ta ++ tc ++ [tr]) ++ rest = tf :: tl :: (ta ++ tc ++ tr :: rest) := by simp
    have hnd : tl.kind ≠ .dot := by rw [hk1]; decide
    rw [hlist, pInner_call (lp := tl) (rest2 := ta ++ tc ++ tr :: rest) hid (by rw [pQualTail_stop hnd])
      (by rw [pQualTail_stop hnd]; simp) (by rw [pQualTail_stop hnd]) hk1,
      closeSplit_of_split hsplit, hsplit]
    -- the arguments: none; a list; a list and one comma
    have hargs : (pExprList c f (ta ++ tc)).val = args ∧ callArgErrs (pExprList c f (ta ++ tc)) = [] := by
      cases args with
      | nil =>
        have hta := realL_nil ha
        subst hta
        have htc : tc = [] := by
          rcases hc with rfl | ⟨cm, rfl, -, hne⟩
          · rfl
          · exact absurd rfl hne
        subst htc
        obtain ⟨f', rfl⟩ : ∃ f', f = f' + 3 := ⟨f - 3, by omega⟩
        rw [List.append_nil, pExprList_nil]
        exact ⟨rfl, callArgErrs_nf rfl⟩
      | cons e es =>
        have hL : pExprList c f (ta ++ tc) = ⟨.cons e es, [], tc⟩ := by
          refine ih.exprList e es ta tc hoa ha ?_ (by simp only [List.length_append]; omega)
          rcases hc with rfl | ⟨cm, rfl, hcm, -⟩
          · rfl
          · simp only [ListStops, Bool.and_true]; exact stopsAt_comma hcm
        rw [hL]
        refine ⟨rfl, ?_⟩
        rw [callArgErrs_of_not_nf rfl]
        rcases hc with rfl | ⟨cm, rfl, hcm, -⟩
        · rfl
        · rw [callArgRest_comma rfl rfl hcm]; rfl
    rw [hargs.1, hargs.2]
    rfl
  | nil => simp [isInnerPrimary] at hi
  | unary _ _ _ => simp [isInnerPrimary] at hi
  | binary _ _ _ _ => simp [isInnerPrimary] at hi
  | inE _ _ _ _ _ => simp [isInnerPrimary] at hi
  | index _ _ _ _ => simp [isInnerPrimary] at hi

theorem listStops_stops {rest : List Token} (h : ListStops rest = true) : StopsAt 0 rest = true := by
  simp only [ListStops, Bool.and_eq_true] at h
  exact h.1

theorem listTail_stops {l : ExprList} {tl rest : List Token} (hl : ListTailReal l tl)
    (hs : ListStops rest = true) : StopsAt 0 (tl ++ rest) = true := by
  cases l with
  | nil =>
    have : tl = [] := hl
    subst this
    exact listStops_stops hs
  | cons e es =>
    obtain ⟨cm, te, tl', rfl, hcm, -, -⟩ := hl
    exact stopsAt_comma hcm

theorem pExprList_fwd_step (c : PCtx) (f : Nat) (ih : Fwd c f) (e : Expr) (es : ExprList)
    (ts rest : List Token) (hok : okList (.cons e es) = true) (hr : RealL (.cons e es) ts)
    (hs : ListStops rest = true) (hf : 4 * (ts ++ rest).length + 5 ≤ f + 1) :
    pExprList c (f + 1) (ts ++ rest) = ⟨.cons e es, [], rest⟩ := by
  obtain ⟨te, tl, rfl, he, hl⟩ := realL_cons hr
  obtain ⟨hoe, hoes⟩ := okList_cons hok
  simp only [List.length_append] at hf
  have hE := ih.expr e te (tl ++ rest) hoe he (listTail_stops hl hs)
    (by simp only [List.length_append]; omega)
  have hT := ih.exprListTail (.cons e .nil) es tl rest hoes hl hs
    (by simp only [List.length_append]; omega)
  rw [List.append_assoc, pExprList_tail (by rw [hE]), hE]
  exact hT

theorem pExprListTail_fwd_step (c : PCtx) (f : Nat) (ih : Fwd c f) (acc l : ExprList)
    (ts rest : List Token) (hok : okList l = true) (hr : ListTailReal l ts)
    (hs : ListStops rest = true) (hf : 4 * (ts ++ rest).length + 1 ≤ f + 1) :
    pExprListTail c (f + 1) acc (ts ++ rest) = ⟨appendL acc l, [], rest⟩ := by
  cases l with
  | nil =>
    have : ts = [] := hr
    subst this
    simp only [List.nil_append, appendL_nil]
    cases rest with
    | nil => exact pExprListTail_nil
    | cons t r =>
      by_cases hc : t.kind = .comma
      · cases r with
        | nil =>
          simp only [List.nil_append, List.length_cons, List.length_nil] at hf
          obtain ⟨f', rfl⟩ : ∃ f', f = f' + 2 := ⟨f - 2, by omega⟩
          exact pExprListTail_back hc (by rw [pExpr_nil]; rfl)
        | cons t2 r2 =>
          simp [ListStops, hc] at hs
      · exact pExprListTail_stop hc
  | cons e es =>
    obtain ⟨cm, te, tl, rfl, hcm, he, hl⟩ := hr
    obtain ⟨hoe, hoes⟩ := okList_cons hok
    simp only [List.cons_append, List.length_cons, List.length_append] at hf
    have hE := ih.expr e te (tl ++ rest) hoe he (listTail_stops hl hs)
      (by simp only [List.length_append]; omega)
    have hT := ih.exprListTail (acc.snoc e) es tl rest hoes hl hs
      (by simp only [List.length_append]; omega)
    have hlist : cm :: (te ++ tl) ++ rest = cm :: (te ++ (tl ++ rest)) := by simp
    have hne : e ≠ .nil := by rintro rfl; simp [okSpine] at hoe
    rw [hlist, pExprListTail_more hcm (by rw [hE])]
    simp only [hE, pushArg_of_ne hne, hT, appendL_snoc]

theorem fwd_all (c : PCtx) (fuel : Nat) : Fwd c fuel := by
  induction fuel with
  | zero => exact Fwd.zero c
  | succ f ih =>
    exact
      { expr := pExpr_fwd_step c f ih
        trail := pTrail_fwd_step c f ih
        higher := pHigher_fwd_step c f ih
        unary := pUnary_fwd_step c f ih
        primary := pPrimary_fwd_step c f ih
        inner := pInner_fwd_step c f ih
        exprList := pExprList_fwd_step c f ih
        exprListTail := pExprListTail_fwd_step c f ih }

end Pql
