/-
C13 exactness: `splitQueries` / `splitOps` on well-formed trees.  The result is a
list of subqueries of the invariant shape (`subOK`) whose stored operators, sort terms and row
counts carry exactly the not-yet-checked part of `Misuse.badTabular`; the join conditions are
checked on the spot.  Every operator but `join` is one step `SplitQ.place` of the loop: it leaves
`SplitQ.store o` in a fresh subquery or in the last one (`subOK_store`, `badSub_store`); a `join` is
its right-hand pipeline and then `SplitQ.joinSub` (`splitOps_join`), which on a documented flavour fails
only with the join condition.
-/
import PqlModel.Lemmas.ExactWrite
namespace Pql.Exact
open Pql SplitQ

/-- what a split step returns, against the specification verdict `bad` of the operators it
    consumed: on success every subquery has the invariant shape, the verdicts stored in the
    subqueries are the old ones plus `bad`, and at least `n` subqueries exist (`n` is carried along
    only so that a whole query yields at least one: `finish_agrees` takes the last as the query) -/
def SplitSpec (src : Bytes) (bound : List Bytes) (dst : List Subquery) (bad : Bool) (n : Nat)
    (r : Except WErr (List Subquery)) : Prop :=
  match r with
  | .ok dst' =>
    (∀ s ∈ dst', subOK src s = true) ∧
    dst'.any (badSub bound) = (dst.any (badSub bound) || bad) ∧ n ≤ dst'.length
  | .error .err => bad = true
  | .error .panic => False

variable {src : Bytes} {bound : List Bytes}

theorem SplitSpec.elim {dst : List Subquery} {bad : Bool} {n : Nat} {r : Except WErr (List Subquery)}
    (h : SplitSpec src bound dst bad n r) :
    (∃ dst', r = .ok dst' ∧ (∀ s ∈ dst', subOK src s = true) ∧
      dst'.any (badSub bound) = (dst.any (badSub bound) || bad) ∧ n ≤ dst'.length) ∨
    (r = .error .err ∧ bad = true) :=
  match r, h with
  | .ok dst', h => .inl ⟨dst', rfl, h⟩
  | .error .err, h => .inr ⟨rfl, h⟩

theorem SplitSpec.of_eq {dst : List Subquery} {b b' : Bool} {n : Nat} {r : Except WErr (List Subquery)}
    (h : SplitSpec src bound dst b n r) (hb : b = b') : SplitSpec src bound dst b' n r := hb ▸ h

theorem SplitSpec.trans {dst dst2 : List Subquery} {b1 b2 : Bool} {n : Nat} {r : Except WErr (List Subquery)}
    (hany : dst2.any (badSub bound) = (dst.any (badSub bound) || b1))
    (h : SplitSpec src bound dst2 b2 n r) : SplitSpec src bound dst (b1 || b2) n r := by
  rcases h.elim with ⟨dst', rfl, h1, h2, h3⟩ | ⟨rfl, rfl⟩
  · exact ⟨h1, by rw [h2, hany, Bool.or_assoc], h3⟩
  · exact Bool.or_true b1

theorem SplitSpec.of_step {dst dst2 : List Subquery} {b1 b2 : Bool} {n : Nat} {r : Except WErr (List Subquery)}
    (hany : dst2.any (badSub bound) = (dst.any (badSub bound) || b1))
    (hlen : n ≤ dst2.length)
    (h : SplitSpec src bound dst2 b2 dst2.length r) : SplitSpec src bound dst (b1 || b2) n r := by
  rcases (h.trans hany).elim with ⟨dst', rfl, h1, h2, h3⟩ | ⟨rfl, hb⟩
  · exact ⟨h1, h2, Nat.le_trans hlen h3⟩
  · exact hb

theorem SplitSpec.bind {dst : List Subquery} {b1 b2 : Bool} {n1 n : Nat}
    {r : Except WErr (List Subquery)} {f : List Subquery → Except WErr (List Subquery)}
    (h1 : SplitSpec src bound dst b1 n1 r)
    (h2 : ∀ dst1, (∀ s ∈ dst1, subOK src s = true) → n1 ≤ dst1.length →
      SplitSpec src bound dst1 b2 n (f dst1)) :
    SplitSpec src bound dst (b1 || b2) n (r >>= f) := by
  rcases h1.elim with ⟨dst1, rfl, ha, hb, hc⟩ | ⟨rfl, rfl⟩
  · exact (h2 dst1 ha hc).trans hb
  · exact rfl

theorem SplitSpec.bindA {α : Type} {dst : List Subquery} {b1 b2 : Bool} {n : Nat}
    {r : Except WErr α} {f : α → Except WErr (List Subquery)}
    (h1 : Agrees r b1) (h2 : ∀ x, SplitSpec src bound dst b2 n (f x)) :
    SplitSpec src bound dst (b1 || b2) n (r >>= f) := by
  rcases h1.elim with ⟨x, rfl, rfl⟩ | ⟨rfl, rfl⟩
  · exact h2 x
  · exact rfl

theorem SplitSpec.bindW {α : Type} {b : Bool} {n : Nat} {r : Except WErr (List Subquery)}
    {f : List Subquery → Except WErr α} (h : SplitSpec src bound [] b n r)
    (hf : ∀ subs, (∀ s ∈ subs, subOK src s = true) → n ≤ subs.length →
      Agrees (f subs) (subs.any (badSub bound))) : Agrees (r >>= f) b := by
  rcases h.elim with ⟨subs, rfl, hok, hany, hlen⟩ | ⟨rfl, rfl⟩
  · exact (hf subs hok hlen).of_eq hany
  · exact rfl

theorem forall_mem_append_singleton {dst : List Subquery} {s : Subquery} {P : Subquery → Prop}
    (hd : ∀ x ∈ dst, P x) (hs : P s) : ∀ x ∈ dst ++ [s], P x := by
  intro x hx
  rcases List.mem_append.1 hx with hx | hx
  · exact hd x hx
  · rw [List.mem_singleton.1 hx]; exact hs

theorem any_append_singleton (dst : List Subquery) (s : Subquery) (p : Subquery → Bool) :
    (dst ++ [s]).any p = (dst.any p || p s) := by
  rw [List.any_append, List.any_cons, List.any_nil, Bool.or_false]

theorem leftOf_of_flavorOK {fl : Option Ident} (h : flavorOK fl = true) : ∃ left, C05.leftOf fl = some left := by
  cases fl with
  | none => exact ⟨false, by decide⟩
  | some f =>
    unfold flavorOK isJoinType Facts.joinTypes at h
    simp only [List.any_cons, List.any_nil, Bool.or_false, beq_comm_bytes _ f.name, ← Bool.or_assoc] at h
    unfold C05.leftOf C05.uniqueOf JoinSem.kindOf
    by_cases h12 : (f.name == Bytes.ofString "inner" || f.name == Bytes.ofString "innerunique") = true
    · exact ⟨false, if_pos h12⟩
    · rw [Bool.or_eq_true, or_iff_right h12] at h
      exact ⟨true, by rw [if_neg h12, if_pos h]⟩

theorem subOK_store {o : Op} {s : Subquery} (ho : steps o = true) (hw : wfOp o = true)
    (hsp : spansOp src o = true) (hs : subOK src s = true) : subOK src (store o s) = true := by
  simp only [subOK, Bool.and_eq_true] at hs
  cases o with
  | join => cases ho
  | sort p k ts => simp only [store, subOK, Bool.and_eq_true]; exact ⟨hs.1, hw, hs.2.2⟩
  | take p k n => simp only [store, subOK, Bool.and_eq_true]; exact ⟨hs.1, hs.2.1, hw⟩
  | top p k n b col =>
    cases col with
    | none => cases ho
    | some c =>
      simp only [wfOp, Bool.and_eq_true] at hw
      simp only [store, subOK, Bool.and_eq_true, sortTermsWf, List.all_cons, List.all_nil, Bool.and_true]
      exact ⟨hs.1, hw.2, hw.1⟩
  | _ => simp only [store, subOK, storedOp, hw, hsp, Bool.and_self, Bool.true_and, Bool.and_eq_true]; exact hs.2

/-- the verdict of a subquery after an operator went into it: the operator's is added, when the
    fields it sets were free (a fresh subquery, or one that lets the operator in) -/
theorem badSub_store {o : Op} {s : Subquery} (ho : steps o = true)
    (h : (s.op = none ∧ s.sort = none ∧ s.take = none) ∨ attaches o s = true) :
    badSub bound (store o s) = (badSub bound s || Misuse.badOp bound o) := by
  cases o with
  | join => cases ho
  | sort p k ts =>
    have hn : s.sort = none := h.elim (·.2.1) fun ha => by simp [attaches] at ha; exact ha.1.2
    simp only [store, badSub, hn, badOptSort, Misuse.badOp, badSortTerms, Bool.false_or]
    rw [Bool.or_assoc, Bool.or_comm (badOptTake bound s.take)]
  | take p k n =>
    have hn : s.take = none := h.elim (·.2.2) fun ha => by simp [attaches] at ha; exact ha.2
    simp only [store, badSub, hn, badOptTake, Misuse.badOp, Bool.or_false, Bool.or_assoc]
  | top p k n b col =>
    cases col with
    | none => cases ho
    | some c =>
      have hn : s.sort = none ∧ s.take = none :=
        h.elim (·.2) fun ha => by simp [attaches] at ha; exact ⟨ha.1.2, ha.2⟩
      simp only [store, badSub, hn.1, hn.2, badOptSort, badOptTake, Misuse.badOp, badSortTerms, List.any_cons,
        List.any_nil, Bool.or_false, Bool.or_comm (Misuse.badExpr .plain bound n)]
  | _ =>
    obtain ⟨h1, h2, h3⟩ := h.resolve_right (by simp [attaches])
    simp only [store, badSub, h1, h2, h3, badOptOp, badOptSort, badOptTake, Bool.or_false, Bool.false_or]

mutual
theorem splitQueries_spec (src : Bytes) (scope : List (Bytes × List Chunk)) :
    ∀ (t : Tabular) (dst : List Subquery), wfTabular t = true → spansTabular src t = true →
      (∀ s ∈ dst, subOK src s = true) →
      SplitSpec src (names scope) dst (Misuse.badTabular (names scope) t) (dst.length + 1)
        (splitQueries src scope dst t)
  | .nil, dst, hw, _, _ => by rw [wfTabular] at hw; cases hw
  | .mk source ops, dst, hw, hs, hd => by
    rw [wfTabular] at hw
    rw [spansTabular] at hs
    rw [splitQueries, Misuse.badTabular]
    refine (SplitSpec.bind (splitOps_spec src scope ops source dst.length dst hw hs hd) (b2 := false)
      (fun dst1 hok hlen => ?_)).of_eq (Bool.or_false _)
    by_cases hl : dst1.length = dst.length
    · rw [if_pos hl]
      refine ⟨forall_mem_append_singleton hok rfl, ?_, ?_⟩
      · have hc : badSub (names scope) (chainSubquery dst1 dst.length source) = false := rfl
        rw [any_append_singleton, hc]
      · rw [List.length_append, hl]; exact Nat.le_refl _
    · rw [if_neg hl]
      exact ⟨hok, (Bool.or_false _).symm, by omega⟩
theorem splitOps_spec (src : Bytes) (scope : List (Bytes × List Chunk)) :
    ∀ (ops : OpList) (source : Option Ident) (dstStart : Nat) (dst : List Subquery),
      wfOps ops = true → spansOps src ops = true → (∀ s ∈ dst, subOK src s = true) →
      SplitSpec src (names scope) dst (Misuse.badOps (names scope) ops) dst.length
        (splitOps src scope source dstStart dst ops)
  | .nil, source, dstStart, dst, _, _, hd => by
    rw [splitOps, Misuse.badOps]
    exact ⟨hd, (Bool.or_false _).symm, Nat.le_refl _⟩
  | .cons o rest, source, dstStart, dst, hw, hs, hd => by
    by_cases ho : steps o = true
    · rw [wfOps, Bool.and_eq_true] at hw
      rw [spansOps, Bool.and_eq_true] at hs
      rw [Misuse.badOps, splitOps_step src scope source dstStart dst ho]
      have ih := splitOps_spec src scope rest source dstStart (place source dstStart o dst) hw.2 hs.2
      rcases place_cases source dstStart o dst with he | ⟨init, l, rfl, _, ha, he⟩ <;> rw [he] at ih ⊢
      · refine SplitSpec.of_step ?_ ?_
          (ih (forall_mem_append_singleton hd (subOK_store ho hw.1 hs.1 rfl)))
        · rw [any_append_singleton, badSub_store ho (.inl ⟨rfl, rfl, rfl⟩)]; rfl
        · rw [List.length_append]; exact Nat.le_add_right _ _
      · refine SplitSpec.of_step ?_ ?_
          (ih (forall_mem_append_singleton (fun x hx => hd x (List.mem_append_left _ hx))
            (subOK_store ho hw.1 hs.1 (hd l (by simp)))))
        · rw [any_append_singleton, any_append_singleton, badSub_store ho (.inr ha), Bool.or_assoc]
        · rw [List.length_append, List.length_append]; exact Nat.le_refl _
    · cases o with
      | top p k n b col =>
        cases col with
        | none => rw [wfOps, wfOp] at hw; simp at hw
        | some c => exact absurd rfl ho
      | join p k kind ka fl lp right rp on conds =>
        rw [wfOps, Bool.and_eq_true, wfOp, Bool.and_eq_true, Bool.and_eq_true] at hw
        rw [spansOps, Bool.and_eq_true, spansOp] at hs
        obtain ⟨⟨hfl, hwr, hwc⟩, hwrest⟩ := hw
        obtain ⟨left, hleft⟩ := leftOf_of_flavorOK hfl
        rw [Misuse.badOps, Misuse.badOp, Bool.or_assoc, splitOps_join]
        refine SplitSpec.bind (splitQueries_spec src scope right dst hwr hs.1 hd) fun dst1 hok hlen => ?_
        simp only [joinSub, hleft]
        rw [bind_assoc]
        refine SplitSpec.bindA (buildJoin_agrees src scope conds hwc) fun c => ?_
        refine (SplitSpec.of_step (b1 := false) ?_ ?_ (splitOps_spec src scope rest source dstStart _ hwrest hs.2
          (forall_mem_append_singleton hok rfl))).of_eq (Bool.false_or _)
        · rw [any_append_singleton, Bool.or_false]; exact Bool.or_false _
        · rw [List.length_append]; omega
      | _ => exact absurd rfl ho
end
end Pql.Exact
