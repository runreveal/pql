/-
`evalSelect` of a join-free SELECT reading one named table, in stages.

ORDER BY / LIMIT of a SELECT compute `Rel.sortTable` / `Rel.takeTable` of the table the body
computes, provided ORDER BY sees the same values in (output aliases ++ source columns) as in the
output columns alone (or there is at most one row).

The stages (`outColsOf`, `whereRows`, `outRowsOf`, `sortStep`, `limitStep`; `JoinFull.joinPairs` for a join SELECT) are the
`let`s of `Sql.evalSelect` (Spec/Sql/Eval.lean) written out as definitions; `evalSelect_table` / `evalSelect_joinSel` hold by
`rfl` only as long as they repeat that text.
-/
import PqlModel.Lemmas.SelSemEngine
import PqlModel.Lemmas.SelSemNorm
import PqlModel.Lemmas.SplitQueriesClauses
import PqlModel.Spec.Intended
namespace Pql.SelSem
open Pql Sql

abbrev ORow := Env × List Env × List Val

def outColsOf (s : Select) (t : Table) : List Bytes :=
  s.items.flatMap fun it => if it.star then t.cols else [it.alias.getD (Bytes.ofString "?")]

def srcRowsOf (t : Table) : List (Env × List Val) := t.rows.map fun r => (envOfRow [] t.cols r, r)

def whereRows (s : Select) (t : Table) : List (Env × List Val) :=
  match s.where_ with
  | some w => (srcRowsOf t).filter fun r => evalS [] r.1 w == .bool true
  | none => srcRowsOf t

def isAggQ (s : Select) : Bool := !s.groupBy.isEmpty || s.items.any fun it => !it.star && hasAgg it.expr

def outRowsOf (s : Select) (t : Table) : List ORow :=
  if isAggQ s then
    let groups : List (List Val × List (Env × List Val)) :=
      if s.groupBy.isEmpty then [([], whereRows s t)]
      else groupBy (fun r => s.groupBy.map fun g => evalS [] r.1 g) (whereRows s t)
    groups.map fun (_, members) =>
      let genv := members.map (·.1)
      let env := (genv.head?).getD []
      let vals := s.items.flatMap fun it => if it.star then ((members.head?).map (·.2)).getD [] else [evalS genv env it.expr]
      (env, genv, vals)
  else
    (whereRows s t).map fun (env, flat) =>
      (env, [], s.items.flatMap fun it => if it.star then flat else [evalS [] env it.expr])

def sortStep (orderBy : List OrderTerm) (outCols : List Bytes) (rows : List ORow) : List ORow :=
  if orderBy.isEmpty then rows
  else
    sortByKeys (orderBy.map fun o => (o.asc, o.nullsFirst))
      (fun (r : ORow) =>
        let env := envOfRow [] outCols r.2.2 ++ r.1
        orderBy.map fun o => evalS r.2.1 env o.expr) rows

def limitStep (limit : Option SExpr) (rows : List ORow) : List ORow :=
  match limit with
  | some l => match limitOf (evalS [] [] l) with | some n => rows.take n | none => rows
  | none => rows

theorem evalSelect_table (db : DB) (ctes : List (Bytes × Table)) (s : Select) (n : Bytes)
    (hsrc : s.source = .named n none) (hj : s.join = none) (hd : s.distinct = false) :
    evalSelect db ctes s =
      let t := lookupTable db ctes n
      ⟨outColsOf s t, (limitStep s.limit (sortStep s.orderBy (outColsOf s t) (outRowsOf s t))).map (·.2.2)⟩ := by
  simp only [evalSelect, hsrc, hj, hd, refTable, Option.getD_none]
  rfl

end Pql.SelSem

namespace Pql.SelSem
open Pql Sql CompileOracle Intended SplitQ

def opPartA (a : SubA) : List Clause :=
  match a.op with | some o => [.op o] | none => []

def sortTakeA (a : SubA) : List Clause :=
  (match a.sort with | some ts => [.sort ts] | none => []) ++
  (match a.take with | some n => [.take n] | none => [])

def subClausesA (a : SubA) : List Clause := opPartA a ++ sortTakeA a

def subEvalA (src : Bytes) (db : DB) (t : Table) (a : SubA) : Table :=
  (subClausesA a).foldl (interpClause src db) t

def trD (e : Expr) : SExpr := (tr false e).getD .none_

theorem evalP_trD (g : List Env) (env : Env) (e : Expr) (h : tr false e = some (trD e)) :
    Rel.evalP false g env e = evalS g env (trD e) := evalP_eq false g env e _ h

theorem isAggExpr_trD (e : Expr) (h : tr false e = some (trD e)) : Rel.isAggExpr e = hasAgg (trD e) := by
  unfold Rel.isAggExpr; rw [h]

/-- Every list `selOf` translates (select items, GROUP BY keys, ORDER BY terms) goes through `mapM` of a
    function that translates one expression `g x` of the element and wraps the result: when it
    succeeds, every element has a translation and the result is the list of the wrapped translations. -/
theorem mapM_tr {α β} (g : α → Expr) (mk : α → SExpr → β) (f : α → Option β)
    (hf : ∀ x, f x = (tr false (g x)).map (mk x)) : ∀ (l : List α) (ys : List β), l.mapM f = some ys →
    ys = l.map (fun x => mk x (trD (g x))) ∧ ∀ x ∈ l, tr false (g x) = some (trD (g x))
  | [], ys, h => by
    simp only [List.mapM_nil, pure, Option.some.injEq] at h
    subst h; simp
  | x :: xs, ys, h => by
    simp only [List.mapM_cons, bind, Option.bind, hf x] at h
    cases hx : tr false (g x) with
    | none => simp [hx] at h
    | some e =>
      cases hxs : xs.mapM f with
      | none => simp [hx, hxs] at h
      | some ys' =>
        simp only [hx, hxs, Option.map_some, pure, Option.some.injEq] at h
        subst h
        obtain ⟨h1, h2⟩ := mapM_tr g mk f hf xs ys' hxs
        refine ⟨by rw [List.map_cons, ← h1]; simp [trD, hx], fun z hz => ?_⟩
        rcases List.mem_cons.mp hz with rfl | hz
        · simp [trD, hx]
        · exact h2 z hz

theorem orderOf_eq (t : SortTerm) : orderOf t = (tr false t.x).map fun e => ⟨e, t.asc, t.nullsFirst⟩ := by
  unfold orderOf; cases tr false t.x <;> rfl

theorem mapM_orderOf (terms : List SortTerm) (obs : List OrderTerm) (h : terms.mapM orderOf = some obs) :
    obs = terms.map (fun t => ⟨trD t.x, t.asc, t.nullsFirst⟩) ∧ ∀ t ∈ terms, tr false t.x = some (trD t.x) :=
  mapM_tr (·.x) (fun t e => ⟨e, t.asc, t.nullsFirst⟩) orderOf orderOf_eq terms obs h

theorem sortByKeys_short {α} (dirs : List (Bool × Bool)) (key : α → List Val) (xs : List α)
    (h : xs.length ≤ 1) : sortByKeys dirs key xs = xs := by
  match xs, h with
  | [], _ => rfl
  | [x], _ => exact sortByKeys_singleton dirs key x
  | _ :: _ :: _, h => simp at h

/-- `sortStep` always is the stable sort (an empty ORDER BY sorts by nothing) -/
theorem sortStep_eq (obs : List OrderTerm) (outCols : List Bytes) (rows : List ORow) :
    sortStep obs outCols rows =
      sortByKeys (obs.map fun o => (o.asc, o.nullsFirst))
        (fun (r : ORow) => obs.map fun o => evalS r.2.1 (envOfRow [] outCols r.2.2 ++ r.1) o.expr) rows := by
  unfold sortStep
  split
  · rename_i h
    have : obs = [] := by simpa using h
    subst this
    simp [sortByKeys_nil_dirs]
  · rfl

def obsOf (sort : Option (List SortTerm)) : Option (List OrderTerm) :=
  match sort with | some terms => terms.mapM orderOf | none => pure []

def limOf (take : Option Expr) : Option (Option SExpr) :=
  match take with | some n => (tr false n).map some | none => pure none

theorem obsOf_sort_none {a : SubA} {obs : List OrderTerm} (hs : a.sort = none) (hob : obsOf a.sort = some obs) :
    obs = [] := by
  simp only [obsOf, hs, pure, Option.some.injEq] at hob
  exact hob.symm

theorem post {ρ} (src : Bytes) (db : DB) (a : SubA) (obs : List OrderTerm) (lim : Option SExpr)
    (hob : obsOf a.sort = some obs) (hlim : limOf a.take = some lim)
    (outCols : List Bytes) (rows : List ρ) (g : ρ → ORow)
    (hkey : (∀ r ∈ rows, ∀ o ∈ obs, evalS (g r).2.1 (envOfRow [] outCols (g r).2.2 ++ (g r).1) o.expr =
                    evalS [] (envOfRow [] outCols (g r).2.2) o.expr) ∨ rows.length ≤ 1) :
    (sortTakeA a).foldl (interpClause src db) ⟨outCols, rows.map fun r => (g r).2.2⟩ =
      ⟨outCols, (limitStep lim (sortStep obs outCols (rows.map g))).map (·.2.2)⟩ := by
  have hsort : (match a.sort with | some ts => [Clause.sort ts] | none => []).foldl (interpClause src db)
        ⟨outCols, rows.map fun r => (g r).2.2⟩ =
      ⟨outCols, (sortStep obs outCols (rows.map g)).map (·.2.2)⟩ := by
    cases hs : a.sort with
    | none =>
      cases obsOf_sort_none hs hob
      simp [sortStep]
    | some terms =>
      simp only [obsOf, hs] at hob
      obtain ⟨rfl, htr⟩ := mapM_orderOf terms obs hob
      have hd : (terms.map fun t => (⟨trD t.x, t.asc, t.nullsFirst⟩ : OrderTerm)).map (fun o => (o.asc, o.nullsFirst)) =
          terms.map fun s => (s.asc, s.nullsFirst) := by simp [List.map_map, Function.comp_def]
      have hk : ∀ g env, terms.map (fun s => Rel.evalP false g env s.x) =
          (terms.map fun t => (⟨trD t.x, t.asc, t.nullsFirst⟩ : OrderTerm)).map fun o => evalS g env o.expr := by
        intro g env
        rw [List.map_map]
        exact List.map_congr_left fun t ht => evalP_trD g env t.x (htr t ht)
      simp only [List.foldl_cons, List.foldl_nil, interpClause, Rel.sortTable, Rel.rowEnv, Table.mk.injEq, true_and]
      rw [sortStep_eq]
      rcases hkey with hkey | hlen
      · rw [← hd, show rows.map (fun r => (g r).2.2) = (rows.map g).map (·.2.2) by rw [List.map_map]; rfl]
        apply sortByKeys_map_on
        intro x hx
        obtain ⟨r, hr, rfl⟩ := List.mem_map.mp hx
        rw [hk]
        exact List.map_congr_left fun o ho => (hkey r hr o ho).symm
      · rw [sortByKeys_short _ _ _ (by simpa using hlen), sortByKeys_short _ _ _ (by simpa using hlen)]
        simp
  unfold sortTakeA
  rw [List.foldl_append, hsort]
  cases ht : a.take with
  | none =>
    simp only [limOf, ht, pure, Option.some.injEq] at hlim
    subst hlim
    simp [limitStep]
  | some n =>
    simp only [limOf, ht] at hlim
    cases hn : tr false n with
    | none => simp [hn] at hlim
    | some l =>
      simp only [hn, Option.map_some, Option.some.injEq] at hlim
      subst hlim
      simp only [List.foldl_cons, List.foldl_nil, interpClause, Rel.takeTable, limitStep,
        evalP_eq false [] [] n l hn]
      cases limitOf (evalS [] [] l) with
      | none => rfl
      | some k => simp [List.map_take]

end Pql.SelSem
