/-
The statement of  T | before | join (U | rops) on conds | after  evaluates, CTE by CTE, to the
documented meaning: the links of `before` and of `rops` by `BlockSem`, the join link by
`JoinFull.evalSelect_join_sort`, the links of `after` by `BlockSem` again.
-/
import PqlModel.Lemmas.JoinSemShape
namespace Pql.JoinSem
open Pql Sql CompileOracle Intended SplitQ SelSem

theorem interpOps_append (src : Bytes) (db : DB) : ∀ (a b : OpList) (t : Table),
    Rel.interpOps src db t (appendOps a b) = Rel.interpOps src db (Rel.interpOps src db t a) b
  | .nil, b, t => by simp [appendOps, Rel.interpOps]
  | .cons o os, b, t => by simp only [appendOps, Rel.interpOps, interpOps_append src db os b]

theorem lastName_append (xs ys : List SubA) (h : ys ≠ []) : lastName (xs ++ ys) = lastName ys := by
  rcases List.eq_nil_or_concat ys with rfl | ⟨pre, y, rfl⟩
  · exact absurd rfl h
  · simp [lastName, ← List.append_assoc]

theorem mapM_single (src : Bytes) (J : SubA) (sels : List (Bytes × Select)) (h : [J].mapM (linkSel src) = some sels) :
    ∃ sel, selOf src J = some sel ∧ sels = [(J.name, sel)] := by
  obtain ⟨sel, xs, hsel, hxs, rfl⟩ := mapM_linkSel_cons h
  cases hxs
  exact ⟨sel, hsel, rfl⟩

theorem stmtOf_some_of_mapM (src : Bytes) (R : List SubA) (sels : List (Bytes × Select)) (hne : R ≠ [])
    (h : R.mapM (linkSel src) = some sels) : ∃ st, stmtOf src R = some st := by
  rcases List.eq_nil_or_concat R with rfl | ⟨init, q, rfl⟩
  · exact absurd rfl hne
  · rw [List.concat_eq_append] at h ⊢
    obtain ⟨a, b, ha, hb, _⟩ := mapM_append_some _ _ _ _ h
    obtain ⟨body, hbody, _⟩ := mapM_single src q b hb
    exact ⟨⟨a, body⟩, by rw [stmtOf_concat, ha, hbody]; rfl⟩

/-- **the statement theorem of property C02** (`C02_statement_semantics`: the statement of a join-free
    pipeline evaluates to the pipeline's meaning) is `BlockSem` at the start of the chain. -/
theorem BlockSem_of_statement (src : Bytes) (db : DB) (T : Ident) (ops : OpList)
    (hjf : SplitQ.joinFree ops = true)
    (hR3 : ∀ subs st, splitA [] (.mk (some T) ops) = some subs → stmtOf src subs = some st →
      (subs.map (·.name)).Nodup →
      evalStatement db st = Rel.interpOps src db (lookupTable db [] T.name) ops) :
    BlockSem src db [] [] T ops := by
  intro R sels hsplit hsels hnd _
  obtain ⟨_, _, R', r, _, hR', _, hlast⟩ := C05.blk_tab _ [] _ hsplit
  simp only [List.nil_append] at hR' hsplit
  subst hR'
  obtain ⟨st, hst⟩ := stmtOf_some_of_mapM src R sels (fun h => by simp [h] at hlast) hsels
  obtain ⟨all, hall, hev⟩ := evalStatement_chain src db R st hst hnd
  rw [hsels] at hall
  cases hall
  rw [← hev]
  exact hR3 R st hsplit hst hnd

theorem chain_after (src : Bytes) (db : DB) (pre : List SubA) (J : SubA) (rest : OpList) (subs : List SubA)
    (hjr : SplitQ.joinFree rest = true)
    (hcase : (rest = .nil ∧ subs = pre ++ [J]) ∨
      (rest ≠ .nil ∧ splitA (pre ++ [J]) (.mk (some ⟨J.name, .zero, false⟩) rest) = some subs))
    (hnames : (subs.map (·.name)).Nodup) :
    ∃ A, subs = pre ++ [J] ++ A ∧ ∀ (ctes : List (Bytes × Table)) (V : Table) selsA,
      ctes.map (·.1) = pre.map (·.name) →
      BlockSem src db (ctes ++ [(J.name, V)]) (pre ++ [J]) ⟨J.name, .zero, false⟩ rest →
      A.mapM (linkSel src) = some selsA →
      lookupTable db (runCtes db (ctes ++ [(J.name, V)]) selsA) (lastName subs) = Rel.interpOps src db V rest := by
  have hA : ∃ A, subs = pre ++ [J] ++ A ∧ ((rest = .nil ∧ A = []) ∨
      (A ≠ [] ∧ splitA (pre ++ [J]) (.mk (some ⟨J.name, .zero, false⟩) rest) = some (pre ++ [J] ++ A))) := by
    rcases hcase with ⟨h1, h2⟩ | ⟨_, h2⟩
    · exact ⟨[], by simpa using h2, .inl ⟨h1, rfl⟩⟩
    · obtain ⟨_, _, A, r, _, hA, _, hlast⟩ := C05.blk_tab _ _ _ h2
      exact ⟨A, hA, .inr ⟨fun h => by simp [h] at hlast, hA ▸ h2⟩⟩
  obtain ⟨A, rfl, hAcase⟩ := hA
  refine ⟨A, rfl, fun ctes V selsA hctes hR3a hsA => ?_⟩
  simp only [List.map_append, List.map_cons, List.map_nil] at hnames
  rw [List.nodup_append] at hnames
  obtain ⟨hpreJ, hndA, hdisj⟩ := hnames
  have hJfresh : J.name ∉ ctes.map (·.1) := by
    rw [hctes]
    intro hmem
    exact (List.nodup_append.mp hpreJ).2.2 _ hmem _ (by simp) rfl
  rcases hAcase with ⟨rfl, rfl⟩ | ⟨hAne, hsplit⟩
  · have : selsA = [] := by simpa using hsA.symm
    subst this
    simp only [List.append_nil, Rel.interpOps]
    rw [lastName_snoc]
    exact lookupTable_snoc_self _ _ _ _ hJfresh
  · rw [lastName_append _ _ hAne, hR3a A selsA hsplit hsA hndA, lookupTable_snoc_self _ _ _ _ hJfresh]
    intro m hm hmem
    apply hdisj m _ m hm rfl
    simpa [hctes] using hmem

theorem nodup_append3 {α} {a b c : List α} (h : (a ++ b ++ c).Nodup) :
    a.Nodup ∧ b.Nodup ∧ c.Nodup ∧ (∀ x ∈ b, x ∉ a) ∧ (∀ x ∈ c, x ∉ a ++ b) := by
  rw [List.nodup_append] at h
  obtain ⟨hab, hc, hd⟩ := h
  rw [List.nodup_append] at hab
  obtain ⟨ha, hb, hd2⟩ := hab
  exact ⟨ha, hb, hc, fun x hx hxa => hd2 x hxa x hx rfl, fun x hx hxab => hd x hxab x hx rfl⟩

theorem chain_upto_join (src : Bytes) (db : DB) (T U : Ident) (before rops : OpList) (flavor : Option Ident)
    (left : Bool) (conds : ExprList) (B R : List SubA) (J : SubA) (selsB selsR selsJ : List (Bytes × Select))
    (hB : splitOpsA (some T) 0 [] before = some B)
    (hBR : splitA B (.mk (some U) rops) = some (B ++ R))
    (hl : C05.leftOf flavor = some left)
    (hJsrc : J.source = .join (C05.uniqueOf flavor) left (C05.prevNameA (some T) B) (lastName R)
      (buildJoinCondition conds))
    (hJop : J.op = none) (hJsort : J.sort = none)
    (hsB : B.mapM (linkSel src) = some selsB) (hsR : R.mapM (linkSel src) = some selsR)
    (hsJ : [J].mapM (linkSel src) = some selsJ)
    (hnd : ((B ++ R ++ [J]).map (·.name)).Nodup)
    (hT : T.name ∉ (B ++ R).map (·.name)) (hU : U.name ∉ B.map (·.name))
    (hR3b : BlockSem src db [] [] T before)
    (hR3r : ∀ ctes0 dst, BlockSem src db ctes0 dst U rops) :
    let cBR := runCtes db (runCtes db [] selsB) selsR
    runCtes db cBR selsJ = cBR ++ [(J.name, (sortTakeA J).foldl (interpClause src db)
      (joinTables (kindOf flavor == Bytes.ofString "innerunique") (kindOf flavor == Bytes.ofString "leftouter")
        (Rel.interpOps src db (lookupTable db [] T.name) before)
        (Rel.interp src db (.mk (some U) rops)) (buildJoinCondition conds)))] := by
  intro cBR
  simp only [List.map_append, List.map_cons, List.map_nil] at hnd
  obtain ⟨ndB, ndR, _, hRB, _⟩ := nodup_append3 hnd
  have hnB : (runCtes db [] selsB).map (·.1) = B.map (·.name) := by
    rw [runCtes_names, mapM_linkSel_names src _ _ hsB]; rfl
  have hnBR : cBR.map (·.1) = B.map (·.name) ++ R.map (·.name) := by
    rw [runCtes_names, hnB, mapM_linkSel_names src _ _ hsR]
  obtain ⟨more, hmore⟩ := runCtes_prefix db selsR (runCtes db [] selsB)
  have hleft : lookupTable db cBR (C05.prevNameA (some T) B) =
      Rel.interpOps src db (lookupTable db [] T.name) before := by
    cases before with
    | nil =>
      simp only [splitOpsA, Option.some.injEq] at hB
      subst hB
      rw [JoinFull.prevNameA_nil, identName, lookupTable_of_not_mem]
      · rfl
      · rw [hnBR]; simpa using hT
    | cons o rest =>
      obtain ⟨B', hB', g⟩ := JoinFull.gen_ops [] [] _ (some T) [] [] B hB
      have hBne : B ≠ [] := by rw [hB']; exact g.ne (by simp)
      have hsp : splitA [] (.mk (some T) (.cons o rest)) = some ([] ++ B) :=
        splitA_of_run_nonempty [] B (some T) _ hB (List.length_pos_iff.mpr hBne)
      have := hR3b B selsB hsp hsB ndB (by simp)
      rw [JoinFull.prevNameA_eq_lastName (some T) B hBne]
      show lookupTable db (runCtes db (runCtes db [] selsB) selsR) (lastName B) = _
      rw [hmore, lookupTable_append_of_mem, this]
      rw [hnB]
      exact lastName_mem B hBne
  have hright : lookupTable db cBR (lastName R) = Rel.interp src db (.mk (some U) rops) := by
    rw [interp_mk]
    have := hR3r (runCtes db [] selsB) B R selsR hBR hsR ndR (by rw [hnB]; exact hRB)
    rw [this, lookupTable_of_not_mem _ _ _ (by rw [hnB]; exact hU)]
  obtain ⟨sel, hsel, rfl⟩ := mapM_single src _ _ hsJ
  show runCtes db cBR ([] ++ [(J.name, sel)]) = _
  rw [runCtes_snoc]
  simp only [runCtes, List.foldl_nil]
  rw [JoinFull.evalSelect_join_sort src db cBR J _ left _ _ _ sel hJsrc hJop hsel
    (fun ts hts => by rw [hJsort] at hts; cases hts) (fun h => by rw [hJsort] at h; cases h),
    hleft, hright, JoinFull.uniqueOf_eq, JoinFull.leftOf_some hl]

theorem chain_eval (src : Bytes) (db : DB) (T U : Ident) (before rops rest : OpList) (flavor : Option Ident)
    (left : Bool) (conds : ExprList) (B R : List SubA) (J : SubA) (subs : List SubA) (st : Statement)
    (hjr : SplitQ.joinFree rest = true)
    (hB : splitOpsA (some T) 0 [] before = some B)
    (hBR : splitA B (.mk (some U) rops) = some (B ++ R))
    (hl : C05.leftOf flavor = some left)
    (hJsrc : J.source = .join (C05.uniqueOf flavor) left (C05.prevNameA (some T) B) (lastName R)
      (buildJoinCondition conds))
    (hJop : J.op = none) (hJsort : J.sort = none)
    (hcase : (rest = .nil ∧ subs = B ++ R ++ [J]) ∨
      (rest ≠ .nil ∧ splitA (B ++ R ++ [J]) (.mk (some ⟨J.name, .zero, false⟩) rest) = some subs))
    (hst : stmtOf src subs = some st)
    (hnames : (subs.map (·.name)).Nodup)
    (hT : T.name ∉ subs.map (·.name)) (hU : U.name ∉ subs.map (·.name))
    (hR3b : BlockSem src db [] [] T before)
    (hR3r : ∀ ctes0 dst, BlockSem src db ctes0 dst U rops)
    (hR3a : ∀ ctes0 dst (J : Ident), BlockSem src db ctes0 dst J rest) :
    evalStatement db st =
      Rel.interpOps src db ((sortTakeA J).foldl (interpClause src db)
        (joinTables (kindOf flavor == Bytes.ofString "innerunique") (kindOf flavor == Bytes.ofString "leftouter")
          (Rel.interpOps src db (lookupTable db [] T.name) before)
          (Rel.interp src db (.mk (some U) rops)) (buildJoinCondition conds))) rest := by
  obtain ⟨all, hall, hev⟩ := evalStatement_chain src db subs st hst hnames
  rw [hev]
  obtain ⟨A, rfl, hafter⟩ := chain_after src db (B ++ R) J rest subs hjr hcase hnames
  obtain ⟨sBRJ, selsA, h1, hsA, rfl⟩ := mapM_append_some _ _ _ _ hall
  obtain ⟨sBR, selsJ, h2, hsJ, rfl⟩ := mapM_append_some _ _ _ _ h1
  obtain ⟨selsB, selsR, hsB, hsR, rfl⟩ := mapM_append_some _ _ _ _ h2
  have hnd' : ((B ++ R ++ [J]).map (·.name)).Nodup := by
    have := hnames
    rw [List.map_append] at this
    exact (List.nodup_append.mp this).1
  have hJ := chain_upto_join src db T U before rops flavor left conds B R J selsB selsR selsJ hB hBR hl
    hJsrc hJop hJsort hsB hsR hsJ hnd'
    (fun h => hT (by simp only [List.map_append, List.mem_append] at h ⊢; exact .inl (.inl h)))
    (fun h => hU (by simp only [List.map_append, List.mem_append] at h ⊢; exact .inl (.inl (.inl h)))) hR3b hR3r
  rw [runCtes_append, runCtes_append, runCtes_append, hJ]
  exact hafter _ _ selsA
    (by simp [runCtes_names, mapM_linkSel_names src _ _ hsB, mapM_linkSel_names src _ _ hsR]) (hR3a _ _ _) hsA

end Pql.JoinSem
