/-
The expected statement trees of the functions `harness/extract_lexscan.go` translates (and of the six
units of `Facts.lexNumberIR` they call, decoded by the decoder of Model/LexScanIRSyntax.lean), and the
theorems `…_ir : decodeFn (irOf <regenerated table> key) = some <expected tree> := by rfl`.
An edit of the Go code changes the regenerated table and one of these stops building; the semantic
lemmas (Lemmas/LexScanIR*.lean, Props/C09ScanIR*.lean) are about the expected trees.
-/
import PqlModel.Model.LexScanIR
namespace Pql.ScanIR
open Pql
open Pql.LexIR (irOf)

def eS : Expr := .var "s"
def eC : Expr := .var "c"
def ePos : Expr := .fld eS "pos"
def eLast : Expr := .fld eS "last"
def eSrc : Expr := .fld eS "s"
def eNext : Expr := .call "scanner.next" [eS]
def sPrev : Stmt := .do_ (.call "scanner.prev" [eS])
def cIs (n : Nat) : Expr := .bin .eq eC (.int n)
def cIsNot (n : Nat) : Expr := .bin .ne eC (.int n)
def eOk : Expr := .var "ok"
def notOk : Expr := .not eOk
def setNext : Stmt := .set2 "c" "ok" eNext
def defNext : Stmt := .def2 "c" "ok" eNext
def spanHere : Expr := .call "newSpan" [.var "start", ePos]
def errHere (msg : String) : Expr := .call "errorToken" [spanHere, .str msg]
def push (e : Expr) : Stmt := .set "tokens" (.call "append" [.var "tokens", e])
def symTok (k : String) : Expr := .mkToken (.kind k) spanHere (.str "")
def pushSym (k : String) : Stmt := push (symTok k)
def pushSub (m : String) : List Stmt := [sPrev, push (.call m [eS])]
def inRange (lo hi : Nat) : Expr := .bin .and (.bin .le (.int lo) eC) (.bin .le eC (.int hi))

/-- `switch { case c₁: b₁ … default: d }` as the translator writes it: an if / else-if chain -/
def mkSwitch : List (Expr × List Stmt) → List Stmt → List Stmt
  | [], d => d
  | (c, b) :: r, d => [.ite c b (mkSwitch r d)]

def newSpanDecl : FnDecl :=
  ⟨("", ""), [("start", "int"), ("end", "int")], [("", "Span")],
   [.ret [.mkSpan (.var "start") (.var "end")]]⟩

def indexSpanDecl : FnDecl :=
  ⟨("", ""), [("i", "int")], [("", "Span")], [.ret [.mkSpan (.var "i") (.var "i")]]⟩

def spanIsValidDecl : FnDecl :=
  ⟨("span", "Span"), [], [("", "bool")],
   [.ret [.bin .and
     (.bin .and (.bin .ge (.fld (.var "span") "Start") (.int 0)) (.bin .ge (.fld (.var "span") "End") (.int 0)))
     (.bin .le (.fld (.var "span") "Start") (.fld (.var "span") "End"))]]⟩

def spanStringDecl : FnDecl :=
  ⟨("", ""), [("s", "string"), ("span", "Span")], [("", "string")],
   [.ite (.not (.call "Span.IsValid" [.var "span"])) [.ret [.str ""]] [],
    .ret [.slice (.var "s") (.fld (.var "span") "Start") (.fld (.var "span") "End")]]⟩

def nextDecl : FnDecl :=
  ⟨("s", "*scanner"), [], [("", "rune"), ("", "bool")],
   [.ite (.bin .ge ePos (.len eSrc)) [.ret [.int 0, .ff]] [],
    .def2 "c" "n" (.call "utf8.DecodeRuneInString" [.slice eSrc ePos .none]),
    .setFld "s" "last" ePos,
    .setFld "s" "pos" (.bin .add ePos (.var "n")),
    .ret [.var "c", .tt]]⟩

def prevDecl : FnDecl := ⟨("s", "*scanner"), [], [], [.setFld "s" "pos" eLast]⟩

def isAlphaDecl : FnDecl :=
  ⟨("", ""), [("c", "rune")], [("", "bool")], [.ret [.bin .or (inRange 97 122) (inRange 65 90)]]⟩

def isDigitDecl : FnDecl := ⟨("", ""), [("c", "rune")], [("", "bool")], [.ret [inRange 48 57]]⟩

def isHexDigitDecl : FnDecl :=
  ⟨("", ""), [("c", "rune")], [("", "bool")],
   [.ret [.bin .or (.bin .or (.call "isDigit" [eC]) (inRange 97 102)) (inRange 65 70)]]⟩

def errorTokenDecl : FnDecl :=
  ⟨("", ""), [("span", "Span"), ("format", "string"), ("args", "...any")], [("", "Token")],
   [.ret [.mkToken (.kind "TokenError") (.var "span") (.call "fmt.Sprintf" [.var "format", .spread "args"])]]⟩

def identCont : Expr := .bin .or (.bin .or (.call "isAlpha" [eC]) (.call "isDigit" [eC])) (cIs 95)

def identLoopBody : List Stmt :=
  [defNext, .ite notOk [.break_] [], .ite (.not identCont) [sPrev, .break_] []]

def identRest : List Stmt :=
  [.def_ "tok" (.mkToken (.kind "TokenIdentifier") spanHere (.str "")),
   .setFld "tok" "Value" (.call "spanString" [eSrc, .fld (.var "tok") "Span"]),
   .block
     [.def2 "kind" "ok" (.mapGet "keywords" (.fld (.var "tok") "Value")),
      .ite eOk [.setFld "tok" "Kind" (.var "kind"), .setFld "tok" "Value" (.str "")] []],
   .ret [.var "tok"]]

def identDecl : FnDecl :=
  ⟨("s", "*scanner"), [], [("", "Token")],
   .def_ "start" ePos :: .do_ eNext :: .forever identLoopBody :: identRest⟩

def notOkOrNot96 : Expr := .bin .or notOk (cIsNot 96)

def qidentValue : Expr :=
  .call "strings.ReplaceAll"
    [.slice eSrc (.bin .add (.var "start") (.len (.str "`"))) (.bin .sub ePos (.len (.str "`"))), .str "``", .str "`"]

def qidentLoopBody : List Stmt :=
  [defNext,
   .ite notOk [.ret [errHere "parse quoted identifier: unexpected EOF"]] [],
   .ite (cIs 96)
     [setNext,
      .ite notOkOrNot96
        [.ite eOk [sPrev] [],
         .ret [.mkToken (.kind "TokenQuotedIdentifier") spanHere qidentValue]] []]
     [.ite (cIs 10) [sPrev, .ret [errHere "parse quoted identifier: unexpected end of line"]] []]]

def quotedIdentDecl : FnDecl :=
  ⟨("s", "*scanner"), [], [("", "Token")],
   [.def_ "start" ePos,
    .block
      [defNext,
       .ite notOkOrNot96
         [.ret [.call "errorToken" [spanHere, .str "parse quoted identifier: expected '`', found %q", eC]]] []],
    .forever qidentLoopBody]⟩

def eVB : Expr := .var "valueBuilder"
def unterminated : List Stmt := [.ret [errHere "unterminated string"]]
def srcSlice (a b : Expr) : Expr := .slice eSrc a b
def vbWrite (e : Expr) : Stmt := .do_ (.call "strings.Builder.WriteString" [eVB, e])
def vbRune (n : Nat) : Stmt := .do_ (.call "strings.Builder.WriteRune" [eVB, .int n])

/-- the case `c == quoteChar` -/
def strClose : List Stmt :=
  [.var_ "value" "string",
   .ite (.bin .eq eVB .nil)
     [.set "value" (srcSlice (.var "valueStart") eLast)]
     [.set "value" (.call "strings.Builder.String" [eVB])],
   .ret [.mkToken (.kind "TokenString") spanHere (.var "value")]]

/-- the case `c == '\\'` -/
def strEscape : List Stmt :=
  [.ite (.bin .eq eVB .nil)
     [.set "valueBuilder" .newBuilder, vbWrite (srcSlice (.var "valueStart") eLast)] [],
   defNext,
   .ite notOk unterminated [],
   .ite (cIs 10) (sPrev :: unterminated)
     [.ite (cIs 110) [vbRune 10]
       [.ite (cIs 116) [vbRune 9] [vbWrite (srcSlice eLast ePos)]]]]

def strLoopBody : List Stmt :=
  [defNext,
   .ite notOk unterminated [],
   .ite (.bin .eq eC (.var "quoteChar")) strClose
     [.ite (cIs 10) (sPrev :: unterminated)
       [.ite (cIs 92) strEscape
         [.ite (.bin .ne eVB .nil) [vbWrite (srcSlice eLast ePos)] []]]]]

def stringDecl : FnDecl :=
  ⟨("s", "*scanner"), [], [("", "Token")],
   [.def_ "start" ePos,
    .def2 "quoteChar" "ok" eNext,
    .ite notOk [.ret [.call "errorToken" [.call "indexSpan" [.var "start"], .str "unexpected EOF (expected string)"]]] [],
    .ite (.bin .and (.bin .ne (.var "quoteChar") (.int 39)) (.bin .ne (.var "quoteChar") (.int 34)))
      [sPrev,
       .ret [.call "errorToken" [.call "indexSpan" [.var "start"], .str "unexpected %q (expected string)", .var "quoteChar"]]] [],
    .def_ "valueStart" ePos,
    .var_ "valueBuilder" "*strings.Builder",
    .forever strLoopBody]⟩

def giveBack (e : Expr) : List Stmt := [.ite eOk [sPrev] [], push e]

/-- the nested switch after `=` / `!`: `c, ok := s.next(); switch { case ok && c == '=': … }` -/
def twoSwitch (kEq kTilde : String) (other : Expr) : List Stmt :=
  [defNext,
   .ite (.bin .and eOk (cIs 61)) [pushSym kEq]
     [.ite (.bin .and eOk (cIs 126)) [pushSym kTilde] (giveBack other)]]

/-- `if c, ok := s.next(); ok && c == '=' { … } else { … }` after `<` / `>` -/
def ifEq (kEq kOther : String) : List Stmt :=
  [.block [defNext, .ite (.bin .and eOk (cIs 61)) [pushSym kEq] (giveBack (symTok kOther))]]

def commentLoopBody : List Stmt := [setNext, .ite (.bin .or notOk (cIs 10)) [.break_] []]

def slashCase : List Stmt :=
  [setNext,
   .ite notOk [pushSym "TokenSlash", .continue_] [],
   .ite (cIs 47) [.forever commentLoopBody, .continue_] [],
   sPrev,
   pushSym "TokenSlash"]

def scanCases : List (Expr × List Stmt) :=
  [(.call "unicode.IsSpace" [eC], []),
   (.bin .or (.bin .or (.call "isAlpha" [eC]) (cIs 95)) (cIs 36), pushSub "scanner.ident"),
   (.bin .or (.call "isDigit" [eC]) (cIs 46), pushSub "scanner.numberOrDot"),
   (cIs 44, [pushSym "TokenComma"]),
   (.bin .or (cIs 34) (cIs 39), pushSub "scanner.string"),
   (cIs 96, pushSub "scanner.quotedIdent"),
   (cIs 124, [pushSym "TokenPipe"]),
   (cIs 40, [pushSym "TokenLParen"]),
   (cIs 41, [pushSym "TokenRParen"]),
   (cIs 91, [pushSym "TokenLBracket"]),
   (cIs 93, [pushSym "TokenRBracket"]),
   (cIs 61, twoSwitch "TokenEq" "TokenCaseInsensitiveEq" (symTok "TokenAssign")),
   (cIs 33, twoSwitch "TokenNE" "TokenCaseInsensitiveNE" (errHere "unrecognized token '!'")),
   (cIs 43, [pushSym "TokenPlus"]),
   (cIs 45, [pushSym "TokenMinus"]),
   (cIs 42, [pushSym "TokenStar"]),
   (cIs 47, slashCase),
   (cIs 37, [pushSym "TokenMod"]),
   (cIs 60, ifEq "TokenLE" "TokenLT"),
   (cIs 62, ifEq "TokenGE" "TokenGT"),
   (cIs 59, [pushSym "TokenSemi"])]

def scanDefault : List Stmt :=
  [.def_ "span" spanHere,
   push (.call "errorToken" [.var "span", .str "unrecognized character %q",
     .call "spanString" [.var "query", .var "span"]])]

def scanLoopBody : List Stmt :=
  .def_ "start" ePos :: defNext :: .ite notOk [.break_] [] :: mkSwitch scanCases scanDefault

def scanDecl : FnDecl :=
  ⟨("", ""), [("query", "string")], [("", "[]Token")],
   [.def_ "s" (.mkScanner (.var "query")),
    .var_ "tokens" "[]Token",
    .forever scanLoopBody,
    .ret [.var "tokens"]]⟩

theorem newSpan_ir : decodeFn (irOf Facts.lexNumberIR "newSpan") = some newSpanDecl := by rfl
theorem indexSpan_ir : decodeFn (irOf Facts.lexNumberIR "indexSpan") = some indexSpanDecl := by rfl
theorem spanIsValid_ir : decodeFn (irOf Facts.lexNumberIR "Span.IsValid") = some spanIsValidDecl := by rfl
theorem spanString_ir : decodeFn (irOf Facts.lexNumberIR "spanString") = some spanStringDecl := by rfl
theorem next_ir : decodeFn (irOf Facts.lexNumberIR "scanner.next") = some nextDecl := by rfl
theorem prev_ir : decodeFn (irOf Facts.lexNumberIR "scanner.prev") = some prevDecl := by rfl
theorem isAlpha_ir : decodeFn (irOf Facts.lexScanIR "isAlpha") = some isAlphaDecl := by rfl
theorem isDigit_ir : decodeFn (irOf Facts.lexScanIR "isDigit") = some isDigitDecl := by rfl
theorem isHexDigit_ir : decodeFn (irOf Facts.lexScanIR "isHexDigit") = some isHexDigitDecl := by rfl
theorem errorToken_ir : decodeFn (irOf Facts.lexScanIR "errorToken") = some errorTokenDecl := by rfl
theorem ident_ir : decodeFn (irOf Facts.lexScanIR "scanner.ident") = some identDecl := by rfl
theorem quotedIdent_ir : decodeFn (irOf Facts.lexScanIR "scanner.quotedIdent") = some quotedIdentDecl := by rfl
theorem string_ir : decodeFn (irOf Facts.lexScanIR "scanner.string") = some stringDecl := by rfl
set_option maxRecDepth 100000 in
theorem Scan_ir : decodeFn (irOf Facts.lexScanIR "Scan") = some scanDecl := by rfl

theorem fnOf_eq {tbl : List (String × List (List String))} {key : String} {d : FnDecl}
    (h : decodeFn (irOf tbl key) = some d) (env : Env) (fuel : Nat) :
    fnOf tbl env fuel key = interpFn env fuel d := by
  simp only [fnOf, h]

/-- `exec`, `eval` and their list forms unfolded once, on the smallest input: Lean makes the equation lemmas of a
    recursive definition in the module where a proof first unfolds it, and there every later unfolding makes them again;
    the modules that import this one find them made (as `LexIR.interp_smallest`). -/
theorem interp_smallest (env : Env) (fuel : Nat) (s : State) : exec env fuel .break_ s = .ok (.brk, s) ∧
    eval env [] .tt s.st = .ok (.bool true, s.st) ∧ evalArgs env [] [] s.st = .ok ([], s.st) ∧
    execBlock env fuel [] s = .ok (.next, s) := by
  simp only [exec, eval, evalArgs, execBlock, and_self]

end Pql.ScanIR
