import Lean.Meta.Tactic.Simp.RegisterCommand
/-- the equations that run the interpreter of Model/ExprParseIR.lean on symbolic data (`ir_simp`, Lemmas/ExprParseIRCursor.lean) -/
register_simp_attr eparseIR
