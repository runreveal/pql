/-
Whole programs: the statement loop and `compileChunks` are parametric in contents.
-/
import PqlModel.Lemmas.ShapeSplit
import PqlModel.Lemmas.StmtLoop
namespace Pql

/-- let names are key names (they decide which identifiers are replaced): not renamed -/
def mapStmt (φ : CMap) : Stmt → Stmt
  | .let_ kw name asg x => .let_ (φ.fsp kw) (name.map φ.fnIdent) (φ.fsp asg) (mapE φ x)
  | .tabular t => .tabular (mapT φ t)

/-- inertness of a program: every let value in the scope built so far (let mode), and the query
    in the final scope.  Runs the statement loop of the model to know the scopes; where that loop
    stops with an error (a second query, a let whose value fails or that has no name) the answer is
    `true`: both programs fail there alike and nothing after it is written. -/
def inertProg (src : Bytes) (φ : CMap) : List Stmt → Scope → Option Tabular → Bool
  | [], scope, q =>
    match q with
    | some t => inertT scope φ t
    | none => true
  | .tabular t :: rest, scope, q =>
    match q with
    | some _ => true
    | none => inertProg src φ rest scope (some t)
  | .let_ _ name _ x :: rest, scope, q =>
    match q with
    | some _ => inertProg src φ rest scope q
    | none =>
      inertE scope .let_ φ x &&
      match (writeExpr ⟨src, scope, .let_⟩ x).map (wrapTight x), name with
      | .ok sql, some n => inertProg src φ rest ((n.name, sql) :: scope) q
      | _, _ => true

section
variable {φ : CMap} {R : List Chunk → List Chunk → Prop} {src src' : Bytes}

def StmtsRel (φ : CMap) (R : List Chunk → List Chunk → Prop) (P : Tabular → Prop)
    (r r' : Scope × Option Tabular) : Prop :=
  ScopeRel R r.1 r'.1 ∧ r'.2 = r.2.map (mapT φ) ∧
    ∀ t, r.2 = some t → inertT r.1 φ t = true ∧ P t

theorem compileStmts_mrel (hR : WCong φ R) (P : Tabular → Prop) :
    (stmts : List Stmt) → (scope scope' : Scope) → ScopeRel R scope scope' → (q : Option Tabular) →
      inertProg src φ stmts scope q = true → (∀ t, q = some t → P t) → (∀ t, Stmt.tabular t ∈ stmts → P t) →
      ExRel (StmtsRel φ R P) (compileStmts src stmts scope q)
        (compileStmts src' (stmts.map (mapStmt φ)) scope' (q.map (mapT φ)))
  | [], scope, scope', hs, q, hi, hq, _ => by
    simp only [List.map_nil, compileStmts]
    refine ⟨hs, rfl, fun t ht => ?_⟩
    subst ht
    exact ⟨by simpa only [inertProg] using hi, hq t rfl⟩
  | .tabular t :: rest, scope, scope', hs, q, hi, hq, hall => by
    simp only [List.map_cons, mapStmt, compileStmts]
    cases q with
    | some _ => exact ExRel.error_error _
    | none =>
      simp only [Option.map_none]
      simp only [inertProg] at hi
      exact compileStmts_mrel hR P rest scope scope' hs (some t) hi
        (fun t' ht' => by cases ht'; exact hall t (List.mem_cons_self ..))
        (fun t' ht' => hall t' (List.mem_cons_of_mem _ ht'))
  | .let_ kw name asg x :: rest, scope, scope', hs, q, hi, hq, hall => by
    have hrest : ∀ t, Stmt.tabular t ∈ rest → P t := fun t ht => hall t (List.mem_cons_of_mem _ ht)
    cases q with
    | some t =>
      simp only [inertProg] at hi
      exact compileStmts_mrel hR P rest scope scope' hs (some t) hi hq hrest
    | none =>
      simp only [inertProg, Bool.and_eq_true] at hi
      simp only [List.map_cons, mapStmt, Option.map_none, compileStmts_let]
      refine (mapE_alike (src := src) (src' := src') hR hs x hi.1).tight.bind' fun sql sql' hsql _ hrel => ?_
      cases name with
      | none => exact ExRel.error_error _
      | some n =>
        rw [hsql] at hi
        simp only [Option.map_some, CMap.fnIdent_name]
        exact compileStmts_mrel hR P rest _ _ (hs.cons n.name hrel) none hi.2 (fun _ h => nomatch h) hrest

theorem paramScope_rel (hR : MapCong φ R) : (params : List (Bytes × Bytes)) →
    ScopeRel R (paramScope params) (paramScope params)
  | [] => ScopeRel.nil R
  | kv :: params => by
    simp only [paramScope, List.map_cons]
    exact (paramScope_rel hR params).cons kv.1 (hR.raw kv.2)

theorem compileFrom_mrel (H : WSplitCong φ R) {s0 s0' : Scope} (hs0 : ScopeRel R s0 s0') (stmts : List Stmt)
    (hi : inertProg src φ stmts s0 none = true) (hok : ∀ t, Stmt.tabular t ∈ stmts → TabOK φ R src src' t) :
    ExRel R (compileStmts src stmts s0 none >>= fun r => C14.finishChunks src r.1 r.2)
      (compileStmts src' (stmts.map (mapStmt φ)) s0' none >>= fun r => C14.finishChunks src' r.1 r.2) := by
  have hR := H.cong
  refine ExRel.bind (compileStmts_mrel (src := src) (src' := src') hR (TabOK φ R src src') stmts _ _
    hs0 none hi (fun _ h => by cases h) hok) fun r r' hr => ?_
  obtain ⟨scope, q⟩ := r
  obtain ⟨scope', q'⟩ := r'
  obtain ⟨hs, hq, hP⟩ := hr
  dsimp only at hs hq hP ⊢
  subst hq
  cases q with
  | none => exact ExRel.error_error _
  | some t =>
    obtain ⟨hit, hokt⟩ := hP t rfl
    exact finishChunks_alike hR.toFrameCong (msplitQueries_rel H hs t hit hokt [] [] .nil) fun a b hab =>
      ⟨hab.name, Subquery.write_mrel hR hs hab.toMSubRel hab.inert hab.ok⟩

theorem compileChunks_mrel (H : SplitCong φ R) (params : List (Bytes × Bytes)) (stmts : List Stmt)
    (hi : inertProg src φ stmts (paramScope params) none = true)
    (hok : ∀ t, Stmt.tabular t ∈ stmts → TabOK φ R src src' t) :
    ExRel R (compileChunks src params stmts) (compileChunks src' params (stmts.map (mapStmt φ))) :=
  compileFrom_mrel H.toW (paramScope_rel H.cong params) stmts hi hok

end

end Pql
