/-
Every chunk of the compiler's output: `Subquery.write`, `writeCtes`, `splitQueries`, the
statement loop and the final assembly, for a chunk predicate `p` with `Emits p` (the expression
writer: Lemmas/WriteAllExpr.lean).  The whole chunk list is a list of chunks satisfying `p` followed by the
one `.txt ";"` (`program_all_from`).

`stmtPhFree` (decidable, tree level): every expression the compiler writes is `phFree` (a `project` column
may lack its expression: the name is written instead).  `subPhFree` (decidable): what a subquery stores —
the operator is absent or one of the stored kinds (`Exact.storedOp`: not the default case of the type switch
of `(*subquery).write`) with `phFree` expressions, the sort terms and the row count are `phFree`; for a
`tabPhFree` tree it is a pointwise invariant of the split (`SplitQ.Run.forall_mem`).

No internal placeholder: `hasOpen b` says that the two bytes `/*` occur in `b`; a chunk is *comment-free*
(`cf`) when it is not a fixed text containing `/*` (names, strings, numbers, function names and raw
parameter text are not fixed texts of the writer), `CF` is the same for chunk lists.  Every placeholder
the model can write (`NULL /* unhandled … */`, `/* unhandled … unary op */ `,
`SELECT NULL /* unsupported operator */`) is a fixed text containing `/*`, and no other fixed text of the
writers does (`cf_emits`: the tables of Lemmas/WriteAllExpr.lean).  So, by the induction of
Lemmas/WriteAllExpr.lean and of this file, the chunks of a program without placeholder sites
(`stmtPhFree`) are comment-free: `program_cf`.
-/
import PqlModel.Lemmas.WriteAllExpr
namespace Pql.WriteInv
open Pql Sql LexRender Pql.C05

def termsPhFree (ts : List SortTerm) : Bool := ts.all fun t => phFree t.x
def colsPhFree (cs : List Column) : Bool := cs.all fun c => phFree c.x
def projColsPhFree (cs : List Column) : Bool := cs.all fun c => Exact.isNilExpr c.x || phFree c.x

mutual
def tabPhFree : Tabular → Bool
  | .nil => true
  | .mk _ ops => opsPhFree ops
def opPhFree : Op → Bool
  | .count .. => true
  | .where_ _ _ e => phFree e
  | .sort _ _ ts => termsPhFree ts
  | .take _ _ n => phFree n
  | .top _ _ n _ c => phFree n && (match c with | some t => phFree t.x | none => true)
  | .project _ _ cs => projColsPhFree cs
  | .extend _ _ cs => colsPhFree cs
  | .summarize _ _ cs _ gs => colsPhFree cs && colsPhFree gs
  | .join _ _ _ _ _ _ right _ _ conds => tabPhFree right && phFreeList conds
  | .as_ .. => true
  | .render .. => true
def opsPhFree : OpList → Bool
  | .nil => true
  | .cons o os => opPhFree o && opsPhFree os
end

def stmtPhFree : Stmt → Bool
  | .let_ _ _ _ x => phFree x
  | .tabular t => tabPhFree t

def subPhFree (s : Subquery) : Bool :=
  (match s.op with
   | none => true
   | some o => Exact.storedOp o && opPhFree o) &&
  ((match s.sort with | none => true | some ts => termsPhFree ts) &&
   (match s.take with | none => true | some n => phFree n))

section write
variable {p : Chunk → Bool} (hp : Emits p) (ctx : Ctx) (hscope : ∀ q ∈ ctx.scope, q.2.all p = true)
include hp

theorem all_commaList : ∀ (cs : List (List Chunk)), (∀ c ∈ cs, c.all p = true) →
    (cs.flatMap fun c => Chunk.txt ", " :: c).all p = true
  | [], _ => rfl
  | c :: cs, h => by
    have h0 := hp.expr ", " (by decide)
    have h1 := h c List.mem_cons_self
    have h2 := all_commaList cs (fun x hx => h x (List.mem_cons_of_mem _ hx))
    simp only [List.flatMap_cons]
    all_close

theorem all_renderProps : ∀ (props : List RenderProp),
    (props.flatMap fun q =>
      [Chunk.txt ",\n    ", .qstr (renderPropValue q.value), .txt " as ",
       .qid (Bytes.ofString "render_prop_" ++ identName q.name)]).all p = true
  | [] => rfl
  | q :: qs => by
    have ht := hp.stmt
    unfold_texts ht
    have ih := all_renderProps qs
    simp only [List.flatMap_cons]
    simp only [List.all_append, List.all_cons, List.all_nil, ht, hp.qstr, hp.qid, ih, Bool.and_self]

include hscope

theorem projCol_all {c : Column} (hc : Unhandled p ∨ (Exact.isNilExpr c.x || phFree c.x) = true) :
    Yields (·.all p = true) (projCol ctx c) := by
  have h1 := hp.stmt " AS " (by decide)
  have h2 := hp.qid (identName c.name)
  rw [Pql.projCol_eq]
  refine (writeExpr_all hp ctx hscope _ (hc.imp_right fun h => ?_)).bind fun x hx => .ok (by all_close)
  unfold projExpr
  cases hx : c.x <;> first | rfl | simpa [hx, Exact.isNilExpr] using h

omit hscope in
theorem columnAlias_all {c : Column} : Yields (·.all p = true) (columnAlias ctx c) := by
  have h1 := hp.stmt " AS " (by decide)
  unfold columnAlias
  split
  · exact .ok (by rw [List.all_cons, h1, all_one (hp.qid _)]; rfl)
  · exact .bind (q := fun _ => True) (fun _ _ => trivial) fun t _ =>
      .ok (by rw [List.all_cons, h1, all_one (hp.qid _)]; rfl)

theorem writeColumns_all : ∀ (cols : List Column), Unhandled p ∨ colsPhFree cols = true →
    Yields (fun cs => ∀ c ∈ cs, c.all p = true) (writeColumns ctx cols)
  | [], _ => by rw [writeColumns]; exact .ok (by simp)
  | c :: cols, hok => by
    rw [writeColumns]
    simp only [colsPhFree, List.all_cons, Bool.and_eq_true, or_and_left] at hok
    exact (writeExpr_all hp ctx hscope _ hok.1).bind fun x hx => (columnAlias_all hp ctx).bind fun a ha =>
      (writeColumns_all cols hok.2).bind fun r hr =>
        .ok (List.forall_mem_cons.mpr ⟨by rw [List.all_append, hx, ha]; rfl, hr⟩)

theorem writeSortTerms_all : ∀ (ts : List SortTerm), Unhandled p ∨ termsPhFree ts = true →
    Yields (fun cs => ∀ c ∈ cs, c.all p = true) (writeSortTerms ctx ts)
  | [], _ => by rw [writeSortTerms]; exact .ok (by simp)
  | t :: ts, hok => by
    rw [writeSortTerms]
    simp only [termsPhFree, List.all_cons, Bool.and_eq_true, or_and_left] at hok
    have ht := hp.stmt
    unfold_texts ht
    have h1 : p (.txt (if t.asc then " ASC" else " DESC")) = true := by split <;> simp only [ht]
    have h2 : p (.txt (if t.nullsFirst then " NULLS FIRST" else " NULLS LAST")) = true := by split <;> simp only [ht]
    exact (writeExpr_all hp ctx hscope _ hok.1).bind fun x hx => (writeSortTerms_all ts hok.2).bind fun r hr =>
      .ok (List.forall_mem_cons.mpr ⟨by all_close, hr⟩)

/-- what `bodyOf` returns: a body satisfying `p`, or none — the default case of the type switch,
    for which `tailOf` writes the unhandled text -/
def BodyOK (p : Chunk → Bool) : Option (List Chunk) → Prop
  | none => Unhandled p
  | some b => b.all p = true

/-- the operator part: a stored operator never reaches the default case -/
theorem bodyOf_all (op : Option Op)
    (hop : Unhandled p ∨ (match op with | none => true | some o => Exact.storedOp o && opPhFree o) = true)
    {source : List Chunk} (hs : source.all p = true) : Yields (BodyOK p) (bodyOf ctx op source) := by
  have ht := hp.stmt
  unfold_texts ht
  have hcomma := all_commaSep hp
  rcases op with _ | o
  · exact .ok (show List.all _ p = true by all_close)
  simp only [Bool.and_eq_true, or_and_left] at hop
  obtain ⟨hst, hph⟩ := hop
  cases o with
  | as_ | count => exact .ok (show List.all _ p = true by all_close)
  | project _ _ cols =>
    simp only [bodyOf]
    have hcs : Yields (fun cs => ∀ c ∈ cs, c.all p = true) (cols.mapM (projCol ctx)) :=
      mapM_forall cols fun c hc => projCol_all hp ctx hscope (hph.imp_right fun h => List.all_eq_true.mp h c hc)
    refine hcs.bind fun cs hcs => .ok (show List.all _ p = true from ?_)
    have hg := hcomma cs hcs
    all_close
  | extend _ _ cols =>
    simp only [bodyOf]
    refine (writeColumns_all hp ctx hscope cols hph).bind fun cs hcs => .ok (show List.all _ p = true from ?_)
    have hg := all_commaList hp cs hcs
    all_close
  | summarize _ _ cols _ groupBy =>
    simp only [bodyOf]
    simp only [opPhFree, Bool.and_eq_true, or_and_left] at hph
    have hgb : Yields (fun gb => ∀ c ∈ gb, c.all p = true) (groupBy.mapM fun c => writeExpr ctx c.x) :=
      mapM_forall groupBy fun c hc =>
        writeExpr_all hp ctx hscope _ (hph.2.imp_right fun h => List.all_eq_true.mp h c hc)
    refine (writeColumns_all hp ctx hscope groupBy hph.2).bind fun gs hgs =>
      (writeColumns_all hp ctx hscope cols hph.1).bind fun cs hcs => hgb.bind fun gb hgb =>
        .ok (show List.all _ p = true from ?_)
    have hg3 := hcomma gb hgb
    have hall := hcomma (gs ++ cs) fun v hv => (List.mem_append.mp hv).elim (hgs v) (hcs v)
    split <;> all_close
  | where_ _ _ pred =>
    simp only [bodyOf]
    exact (writeExpr_all hp ctx hscope pred hph).bind fun ps hps => .ok (show List.all _ p = true by all_close)
  | render _ _ chart _ _ props _ =>
    have h1 := all_renderProps hp props
    have h2 := hp.qstr (identName chart)
    exact .ok (show List.all _ p = true by all_close)
  | sort | take | top | join =>
    refine .ok (show Unhandled p from ?_)
    rcases hst with hu | hst
    · exact hu
    · simp [Exact.storedOp] at hst

theorem tailOf_all {sort : Option (List SortTerm)} {take : Option Expr}
    (hsort : Unhandled p ∨ (match sort with | none => true | some ts => termsPhFree ts) = true)
    (htake : Unhandled p ∨ (match take with | none => true | some n => phFree n) = true)
    {body : Option (List Chunk)} (hb : BodyOK p body) : Yields (·.all p = true) (tailOf ctx sort take body) := by
  rcases body with _ | b
  · exact .ok (all_one (Unhandled.op hb))
  have hb : b.all p = true := hb
  have ht := hp.stmt
  unfold_texts ht
  rcases sort with _ | ts <;> rcases take with _ | n <;> simp only [tailOf, pure_bind]
  · exact .ok (by all_close)
  · exact (writeExpr_all hp ctx hscope n htake).bind fun x hx => .ok (by all_close)
  · refine (writeSortTerms_all hp ctx hscope ts hsort).bind fun xs hxs => .ok ?_
    have := all_commaSep hp xs hxs
    all_close
  · refine (writeSortTerms_all hp ctx hscope ts hsort).bind fun xs hxs =>
      (writeExpr_all hp ctx hscope n htake).bind fun x hx => .ok ?_
    have := all_commaSep hp xs hxs
    all_close

theorem write_all {sub : Subquery} (hsrc : sub.source.all p = true) (hsub : Unhandled p ∨ subPhFree sub = true) :
    Yields (·.all p = true) (sub.write ctx) := by
  rw [Pql.write_eq]
  simp only [subPhFree, Bool.and_eq_true, or_and_left] at hsub
  exact (bodyOf_all hp ctx hscope sub.op hsub.1 hsrc).bind fun body hb =>
    tailOf_all hp ctx hscope hsub.2.1 hsub.2.2 hb

theorem writeCtes_all : ∀ (l : List Subquery),
    (∀ s ∈ l, s.source.all p = true ∧ (Unhandled p ∨ subPhFree s = true)) → Yields (·.all p = true) (writeCtes ctx l)
  | [], _ => by simp only [writeCtes]; exact .ok rfl
  | [s], hl => by
    simp only [writeCtes]
    have ht := hp.stmt
    unfold_texts ht
    have h2 := hp.qid s.name
    exact (write_all hp ctx hscope (hl s (by simp)).1 (hl s (by simp)).2).bind fun b hb => .ok (by all_close)
  | s :: s2 :: l, hl => by
    simp only [writeCtes]
    have ht := hp.stmt
    unfold_texts ht
    have h2 := hp.qid s.name
    exact (write_all hp ctx hscope (hl s (by simp)).1 (hl s (by simp)).2).bind fun b hb =>
      (writeCtes_all (s2 :: l) fun x hx => hl x (List.mem_cons_of_mem _ hx)).bind fun r hr => .ok (by all_close)

end write

/-- the invariant of the subqueries `splitQueries` builds (a property of `s`, not a type of subqueries):
    `write_all` applies to `s` -/
def Sub (p : Chunk → Bool) (s : Subquery) : Prop :=
  s.source.all p = true ∧ (Unhandled p ∨ subPhFree s = true)

section split
variable {p : Chunk → Bool} (hp : Emits p)
include hp

theorem chain_sub (dst : List Subquery) (k : Nat) (source : Option Ident) :
    Sub p (chainSubquery dst k source) := by
  refine ⟨?_, .inr rfl⟩
  unfold chainSubquery
  dsimp only
  split
  · split
    · exact all_one (hp.qid _)
    · rfl
  · exact all_one (hp.qid _)

omit hp in
theorem setSort_sub (ts : List SortTerm) (hts : Unhandled p ∨ termsPhFree ts = true) (s : Subquery) (h : Sub p s) :
    Sub p { s with sort := some ts } := by
  refine ⟨h.1, ?_⟩
  rcases hts with hu | hts
  · exact .inl hu
  · refine h.2.imp_right fun h2 => ?_
    simp only [subPhFree, Bool.and_eq_true] at h2 ⊢
    exact ⟨h2.1, hts, h2.2.2⟩

omit hp in
theorem setTake_sub (n : Expr) (hn : Unhandled p ∨ phFree n = true) (s : Subquery) (h : Sub p s) :
    Sub p { s with take := some n } := by
  refine ⟨h.1, ?_⟩
  rcases hn with hu | hn
  · exact .inl hu
  · refine h.2.imp_right fun h2 => ?_
    simp only [subPhFree, Bool.and_eq_true] at h2 ⊢
    exact ⟨h2.1, h2.2.1, hn⟩

theorem joinSource_all (unique : Bool) {leftSrc cond : List Chunk} (hl : leftSrc.all p = true)
    (hc : cond.all p = true) {kw : String} (hkw : kw = " JOIN " ∨ kw = " LEFT JOIN ") (rightName : Bytes) :
    (SplitQ.joinSourceOf unique kw leftSrc rightName cond).all p = true := by
  unfold SplitQ.joinSourceOf
  have ht := hp.stmt
  unfold_texts ht
  have h2 := hp.qid rightName
  have hk : p (.txt kw) = true := by rcases hkw with rfl | rfl <;> simp only [ht]
  cases unique <;> all_close

omit hp in
theorem buildJoin_phFree (conds : ExprList) (h : phFreeList conds = true) :
    phFree (buildJoinCondition conds) = true :=
  buildJoinCondition_of (P := fun e => phFree e = true) (PL := fun es => phFreeList es = true)
    (fun _ _ => by simp [phFree, binKnown])
    (fun _ _ h => by simpa only [phFreeList, Bool.and_eq_true] using h)
    (fun _ _ hx hy => by simp only [phFree, hx, hy, show binKnown .and_ = true by decide, Bool.and_self])
    (by simp [phFree]) conds h

end split

variable {p : Chunk → Bool}

theorem store_sub {o : Op} {s : Subquery} (hs : Sub p s) (hst : SplitQ.steps o = true)
    (ho : Unhandled p ∨ opPhFree o = true) : Sub p (SplitQ.store o s) := by
  have setOp : ∀ s' : Subquery, s'.source = s.source → s'.op = some o → s'.sort = s.sort → s'.take = s.take →
      Exact.storedOp o = true → Sub p s' := fun s' h1 h2 h3 h4 hst => by
    refine ⟨h1 ▸ hs.1, ?_⟩
    rcases ho with hu | ho
    · exact .inl hu
    · refine hs.2.imp_right fun h => ?_
      simp only [subPhFree, Bool.and_eq_true] at h
      simp only [subPhFree, h2, h3, h4, hst, ho, Bool.and_self, Bool.true_and, Bool.and_eq_true]
      exact h.2
  cases o with
  | sort _ _ ts => exact setSort_sub ts (by simpa [opPhFree] using ho) s hs
  | take _ _ n => exact setTake_sub n (by simpa [opPhFree] using ho) s hs
  | top _ _ n _ c =>
    cases c with
    | none => cases hst
    | some c =>
      simp only [opPhFree, Bool.and_eq_true, or_and_left] at ho
      exact setTake_sub n ho.1 _ (setSort_sub [c] (ho.2.imp_right fun h => by simpa [termsPhFree] using h) s hs)
  | join => cases hst
  | _ => exact setOp _ rfl rfl rfl rfl rfl

theorem run_sub (hp : Emits p) {src : Bytes} {scope : Scope} (hsc : ∀ q ∈ scope, q.2.all p = true)
    {source : Option Ident} {dstStart : Nat} {dst out : List Subquery} {ops : OpList}
    (h : SplitQ.Run src scope source dstStart dst ops out) :
    (Unhandled p ∨ opsPhFree ops = true) → (∀ s ∈ dst, Sub p s) → ∀ s ∈ out, Sub p s :=
  SplitQ.Run.forall_mem (Q := fun ops => Unhandled p ∨ opsPhFree ops = true)
    (Qo := fun o => Unhandled p ∨ opPhFree o = true) (Qc := fun c => Unhandled p ∨ phFreeList c = true)
    (fun o rest h => by simpa only [opsPhFree, Bool.and_eq_true, or_and_left] using h)
    (fun _ _ _ _ _ _ _ _ _ _ _ h => by simpa only [opPhFree, tabPhFree, Bool.and_eq_true, or_and_left] using h)
    (chain_sub hp)
    (fun _ _ _ _ hst ho => store_sub (chain_sub hp ..) hst ho)
    (fun _ _ ha ho hl => store_sub hl (SplitQ.steps_of_attaches ha) ho)
    (fun conds unique kw l r cond n hc hkw hl hw =>
      ⟨joinSource_all hp unique (leftSrc := l) (hl.elim (· ▸ rfl) fun ⟨m, hm⟩ => hm ▸ all_one (hp.qid m))
        (writeExpr_all hp ⟨src, scope, .join⟩ hsc _ (hc.imp_right (buildJoin_phFree conds)) cond hw) hkw r, .inr rfl⟩) h 0

theorem splitOps_sub (hp : Emits p) (src : Bytes) (scope : Scope)
    (hsc : ∀ q ∈ scope, q.2.all p = true) (ops : OpList) (source : Option Ident) (dstStart : Nat)
    (dst : List Subquery) (ht : Unhandled p ∨ opsPhFree ops = true) (hd : ∀ s ∈ dst, Sub p s) :
    Yields (fun out => ∀ s ∈ out, Sub p s) (splitOps src scope source dstStart dst ops) :=
  fun out h => run_sub hp hsc (SplitQ.splitOps_run src scope ops source dstStart dst out h) ht hd

theorem splitQueries_sub (hp : Emits p) (src : Bytes) (scope : Scope)
    (hsc : ∀ q ∈ scope, q.2.all p = true) (t : Tabular) (dst : List Subquery)
    (ht : Unhandled p ∨ tabPhFree t = true) (hd : ∀ s ∈ dst, Sub p s) :
    Yields (fun out => ∀ s ∈ out, Sub p s) (splitQueries src scope dst t) := by
  intro out h
  obtain ⟨source, ops, mid, rfl, hrun, rfl⟩ := SplitQ.splitQueries_run src scope t dst out h
  exact SplitQ.forall_closeBlock (run_sub hp hsc hrun (by simpa only [tabPhFree] using ht) hd) (chain_sub hp ..)

theorem compileStmts_all (hp : Emits p) (src : Bytes) (stmts : List Stmt) (scope : Scope)
    (hst : ∀ s ∈ stmts, Unhandled p ∨ stmtPhFree s = true) (hs : ∀ e ∈ scope, e.2.all p = true) :
    Yields (fun r => (∀ e ∈ r.1, e.2.all p = true) ∧ ∀ t, r.2 = some t → Unhandled p ∨ tabPhFree t = true)
      (compileStmts src stmts scope none) :=
  fun _ h => compileStmts_induct src
    (motive := fun stmts scope r => (∀ s ∈ stmts, Unhandled p ∨ stmtPhFree s = true) →
      (∀ e ∈ scope, e.2.all p = true) →
      (∀ e ∈ r.1, e.2.all p = true) ∧ ∀ t, r.2 = some t → Unhandled p ∨ tabPhFree t = true)
    (fun _ _ hs => ⟨hs, fun _ e => nomatch e⟩)
    (fun t _ hst hs => ⟨hs, fun _ e => by cases e; exact hst (.tabular t) List.mem_cons_self⟩)
    (fun _ _ _ x cs hw ih hst hs =>
      ih (fun s h => hst s (List.mem_cons_of_mem _ h)) (List.forall_mem_cons.mpr
        ⟨(all_wrapTight hp x cs).trans (writeExpr_all hp _ hs x (hst _ List.mem_cons_self) cs hw), hs⟩))
    h hst hs

theorem finish_all (hp : Emits p) (src : Bytes) (scope : Scope)
    (hsc : ∀ q ∈ scope, q.2.all p = true) (t : Tabular) (ht : Unhandled p ∨ tabPhFree t = true) :
    Yields (fun cs => ∃ init, cs = init ++ [Chunk.txt ";"] ∧ init.all p = true)
      (C14.finishChunks src scope (some t)) := by
  intro cs hc
  obtain ⟨ctes, query, body, hs, hb, hcase⟩ := C14.finishChunks_tabular src scope t cs hc
  have hall := splitQueries_sub hp src scope hsc t [] ht (by simp) _ hs
  have hq := hall query (by simp)
  have hbody := write_all hp ⟨src, scope, .default⟩ hsc hq.1 hq.2 body hb
  rcases hcase with ⟨_, rfl⟩ | ⟨_, c, hcte, rfl⟩
  · exact ⟨_, rfl, hbody⟩
  · have hc := writeCtes_all hp ⟨src, scope, .default⟩ hsc ctes (fun s h => hall s (List.mem_append_left _ h)) c hcte
    have hwith := hp.stmt "WITH " (by decide)
    exact ⟨_, rfl, by all_close⟩

theorem program_all_from (hp : Emits p) (src : Bytes) (scope0 : Scope)
    (hs0 : ∀ q ∈ scope0, q.2.all p = true) (stmts : List Stmt) (hst : ∀ s ∈ stmts, Unhandled p ∨ stmtPhFree s = true) :
    Yields (fun cs => ∃ init, cs = init ++ [Chunk.txt ";"] ∧ init.all p = true)
      (compileStmts src stmts scope0 none >>= fun r => C14.finishChunks src r.1 r.2) := by
  refine (compileStmts_all hp src stmts scope0 hst hs0).bind fun ⟨scope, q⟩ h => ?_
  cases q with
  | none => exact .error
  | some t => exact finish_all hp src scope h.1 t (h.2 t rfl)

end Pql.WriteInv

namespace Pql.WriteInv
open Pql Sql LexRender Pql.C05

def hasOpen : Bytes → Bool
  | [] => false
  | a :: r => (a == 47 && r.head? == some 42) || hasOpen r

def cf : Chunk → Bool
  | .txt s => !hasOpen (Bytes.ofString s)
  | _ => true

def CF (cs : List Chunk) : Bool := cs.all cf

def hasPlaceholder (cs : List Chunk) : Bool := cs.any fun c => !cf c

theorem hasPlaceholder_eq (cs : List Chunk) : hasPlaceholder cs = !CF cs := by
  induction cs with
  | nil => rfl
  | cons c cs ih => simp [hasPlaceholder, CF] at ih ⊢; cases cf c <;> simp [ih]

theorem cf_qid (v : Bytes) : cf (.qid v) = true := rfl
theorem cf_qstr (v : Bytes) : cf (.qstr v) = true := rfl
theorem cf_num (v : Bytes) : cf (.num v) = true := rfl
theorem cf_fname (v : Bytes) : cf (.fname v) = true := rfl
theorem cf_raw (v : Bytes) : cf (.raw v) = true := rfl

theorem cf_emits : Emits cf :=
  ⟨by decide +kernel, by decide +kernel, by decide +kernel, by decide +kernel, by decide +kernel,
    cf_qid, cf_qstr, cf_num, cf_fname⟩

/-- the unhandled texts are not comment-free: only trees without a site for one are covered -/
theorem cf_handled {P : Prop} (h : Unhandled cf ∨ P) : P :=
  h.resolve_left fun hu => absurd hu.op (by decide +kernel)

theorem CF_nil : CF [] = true := rfl
theorem CF_cons (c : Chunk) (cs : List Chunk) : CF (c :: cs) = (cf c && CF cs) := by simp [CF]
theorem CF_append (a b : List Chunk) : CF (a ++ b) = (CF a && CF b) := by simp [CF]

def ScopeCF (scope : List (Bytes × List Chunk)) : Prop := ∀ p ∈ scope, CF p.2 = true

theorem scopeCF_nil : ScopeCF [] := fun _ h => by cases h

theorem scopeCF_params (params : List (Bytes × Bytes)) :
    ScopeCF (params.map fun kv => (kv.1, [Chunk.raw kv.2])) := by
  intro p hp
  obtain ⟨kv, _, rfl⟩ := List.mem_map.mp hp
  rfl

theorem writeList_cf (ctx : Ctx) (hscope : ScopeCF ctx.scope) :
    (es : ExprList) → phFreeList es = true → (as : List (List Chunk)) → writeList ctx es = .ok as →
      ∀ b ∈ as, CF b = true :=
  fun es hok => writeList_all cf_emits ctx hscope es (.inr hok)

theorem writeListMP_cf (ctx : Ctx) (hscope : ScopeCF ctx.scope) :
    (es : ExprList) → phFreeList es = true → (vs : List (List Chunk)) →
      writeListMaybeParen' ctx es = .ok vs → ∀ b ∈ vs, CF b = true :=
  fun es hok => writeListMP_all cf_emits ctx hscope es (.inr hok)

def SubCF (s : Subquery) : Prop := CF s.source = true ∧ subPhFree s = true

theorem splitOps_subCF (src : Bytes) (scope : List (Bytes × List Chunk)) (hsc : ScopeCF scope) :
    ∀ (ops : OpList) (source : Option Ident) (dstStart : Nat) (dst out : List Subquery),
      opsPhFree ops = true → (∀ s ∈ dst, SubCF s) →
      splitOps src scope source dstStart dst ops = .ok out → ∀ s ∈ out, SubCF s :=
  fun ops source dstStart dst out ht hd h s hs =>
    have hsub := splitOps_sub cf_emits src scope hsc ops source dstStart dst (.inr ht)
      (fun s hs => ⟨(hd s hs).1, .inr (hd s hs).2⟩) out h s hs
    ⟨hsub.1, cf_handled hsub.2⟩

theorem program_cf (src : Bytes) (params : List (Bytes × Bytes)) (stmts : List Stmt)
    (hst : ∀ s ∈ stmts, stmtPhFree s = true) (cs : List Chunk)
    (hc : compileChunks src params stmts = .ok cs) : CF cs = true := by
  rw [C14.compileChunks_eq] at hc
  obtain ⟨init, rfl, h⟩ := program_all_from cf_emits src _ (scopeCF_params params) stmts
    (fun s hs => .inr (hst s hs)) cs hc
  have h : CF init = true := h
  rw [CF_append, h]; rfl

end Pql.WriteInv
