/-
Property C12, "the interpretation of the translated code never panics": the model-level facts about the
pieces `Compile` chains, on the trees of an error-free parse, and the layers of `Compile`.

`C13_exact_source` says `compile params src ≠ .panic`; that alone does not say that EACH piece returns
normally (an earlier error return hides what a later piece would have done).  Here each piece is taken
separately, from the stage lemmas of C13 (`Exact.splitQueries_spec`, `Exact.write_agrees`, `Exact.finish_agrees`).

`ExprIR.interpCompile` is the interpretation of the regenerated front part of `Compile` (unit
`Compile:pre`) followed by the regenerated statement assembly (unit `Compile` of `Facts.writeIR`).  Three
callees enter it as MODEL functions (`Sem` parameters): `parser.Parse` (`ExprIR.parseModel`),
`splitQueries` (`ExprIR.splitModel`) and, inside the assembly, `(*subquery).write`
(`WriteIR.modelSem.subWrite`) with its `writeExpression` (`WriteIR.modelSem.writeExpression`).  The
expression writers the front part calls (`writeExpressionTight` in let mode, and below it
`writeExpression`, `…MaybeParen`, `hasJoinTerms`, the `write*Function`s) ARE interpreted from their own
regenerated bodies.  For `splitQueries`, `(*subquery).write` and the assembly the theorems here give
the separate statement about the callee's own regenerated IR, on the trees of an error-free parse.
-/
import PqlModel.Props.C11Compile
import PqlModel.Props.C03JoinCondIR
import PqlModel.Props.C13Exact
import PqlModel.Props.C05NoPlaceholder
import PqlModel.Props.C02SplitIR
import PqlModel.Props.C06CompileIR
namespace Pql.NoPanic
open Pql Pql.Exact

theorem parsed_query (src : Bytes) (stmts : List Stmt) (hp : parse src = (stmts, []))
    (t : Tabular) (hm : Stmt.tabular t ∈ stmts) :
    wfTabular t = true ∧ spansTabular src t = true ∧ SplitImp.skeletonOk t = true ∧ t.Good := by
  have hp' : parseTokens src.length (scan src) = (stmts, []) := hp
  refine ⟨?_, ?_, SplitImp.skeletonOk_of_parsed hp' t hm, ?_⟩
  · exact parseTokens_wf hp' _ hm
  · have := parse_spansInside hp
    unfold SpansInside at this
    rw [List.all_eq_true] at this
    exact this _ hm
  · have := parseTokens_good hp' _ hm
    simpa only [Stmt.Good] using this

/-- `splitQueries(nil, source, scope, expr)` on a well-formed query: no panic; every subquery has the
    invariant shape; there is at least one -/
theorem split_noPanic (src : Bytes) (scope : List (Bytes × List Chunk)) (t : Tabular)
    (hw : wfTabular t = true) (hs : spansTabular src t = true) :
    splitQueries src scope [] t ≠ .error .panic ∧
    ∀ subs, splitQueries src scope [] t = .ok subs → (∀ s ∈ subs, subOK src s = true) ∧ 1 ≤ subs.length := by
  have h := splitQueries_spec src scope t [] hw hs (fun s hs => by cases hs)
  constructor
  · intro hc
    rw [hc] at h
    exact h
  · intro subs hsq
    rw [hsq] at h
    exact ⟨h.1, h.2.2⟩

theorem write_noPanic (src : Bytes) (scope : List (Bytes × List Chunk)) (sub : Subquery)
    (h : subOK src sub = true) : sub.write ⟨src, scope, .default⟩ ≠ .error .panic :=
  (write_agrees src scope sub h).ne_panic

theorem assemble_noPanic (src : Bytes) (scope : List (Bytes × List Chunk)) (t : Tabular)
    (hw : wfTabular t = true) (hs : spansTabular src t = true) (subs : List Subquery)
    (hsq : splitQueries src scope [] t = .ok subs) :
    WriteIR.assemble ⟨src, scope, .default⟩ subs ≠ .error .panic := by
  have h := (finish_agrees src scope t hw hs).ne_panic
  rw [WriteIR.finishW_eq, hsq] at h
  exact h

set_option linter.unusedSimpArgs false

/-- a normal return of an interpreter: a value or a Go error (`SafeW` for `WriteIR` and `ExprIR`, `SafeS` for `SplitIR`, whose
    error type is a copy of theirs) -/
def SafeW {α : Type} (r : WriteIR.M α) : Prop := (∃ a, r = .ok a) ∨ r = .error (.go .err)

def SafeS {α : Type} (r : SplitIR.IM α) : Prop := (∃ a, r = .ok a) ∨ r = .error (.go .err)

theorem SafeW.ne_panic {α : Type} {r : WriteIR.M α} (h : SafeW r) : r ≠ .error (.go .panic) := by
  rcases h with ⟨a, rfl⟩ | rfl <;> simp
theorem SafeW.ne_stuck {α : Type} {r : WriteIR.M α} (h : SafeW r) : r ≠ .error .stuck := by
  rcases h with ⟨a, rfl⟩ | rfl <;> simp
theorem SafeS.ne_panic {α : Type} {r : SplitIR.IM α} (h : SafeS r) : r ≠ .error (.go .panic) := by
  rcases h with ⟨a, rfl⟩ | rfl <;> simp
theorem SafeS.ne_stuck {α : Type} {r : SplitIR.IM α} (h : SafeS r) : r ≠ .error .stuck := by
  rcases h with ⟨a, rfl⟩ | rfl <;> simp

theorem safeW_iff {α : Type} (r : WriteIR.M α) : SafeW r ↔ r ≠ .error (.go .panic) ∧ r ≠ .error .stuck := by
  constructor
  · exact fun h => ⟨h.ne_panic, h.ne_stuck⟩
  · intro ⟨h1, h2⟩
    cases r with
    | ok a => exact .inl ⟨a, rfl⟩
    | error e =>
      cases e with
      | stuck => exact absurd rfl h2
      | go e => cases e with
        | err => exact .inr rfl
        | panic => exact absurd rfl h1

theorem SafeW.liftW {α : Type} {x : Except WErr α} (h : x ≠ .error .panic) : SafeW (WriteIR.liftW x) := by
  cases x with
  | ok a => exact .inl ⟨a, rfl⟩
  | error e => cases e with
    | err => exact .inr rfl
    | panic => exact absurd rfl h

theorem SafeS.liftW {α : Type} {x : Except WErr α} (h : x ≠ .error .panic) : SafeS (SplitIR.liftW x) := by
  cases x with
  | ok a => exact .inl ⟨a, rfl⟩
  | error e => cases e with
    | err => exact .inr rfl
    | panic => exact absurd rfl h

/-- **`splitQueries` / `chainSubquery`, regenerated IR, on a parsed query.**  `hm`: `t` is a statement of
    a program parsed without error.  The interpretation on the empty heap (the call in `Compile`) returns
    normally — a heap and a slice, or a Go error — and, read through the final heap, is exactly what the
    model `splitQueries` (the `Sem` parameter `ExprIR.splitModel` of `interpCompile`) returns. -/
theorem split_ir_safe (src : Bytes) (stmts : List Stmt) (hp : parse src = (stmts, []))
    (t : Tabular) (hm : Stmt.tabular t ∈ stmts) (scope : List (Bytes × List Chunk)) :
    SafeS (SplitIR.interpSplit src scope #[] [] t) ∧
    (SplitIR.interpSplit src scope #[] [] t).map (fun r => SplitImp.abs r.1 r.2) =
      SplitIR.liftW (splitQueries src scope [] t) ∧
    ExprIR.splitModel src scope t = WriteIR.liftW (splitQueries src scope [] t) := by
  obtain ⟨hw, hs, hsk, _⟩ := parsed_query src stmts hp t hm
  have hnp := (split_noPanic src scope t hw hs).1
  have href := SplitImp.C02_splitQueries_refines src scope t #[] [] rfl hsk
  refine ⟨?_, SplitIR.C02_split_ir_refines_model_top src scope t hsk, rfl⟩
  rw [SplitIR.C02_split_ir]
  refine SafeS.liftW ?_
  intro hI
  rw [hI] at href
  exact hnp href.symm

/-- **`(*subquery).write`, regenerated IR, on every subquery of a parsed program**: equal to the model
    function (which is the callee `interpAssembly` is given), and a normal return. -/
theorem write_ir_safe (src : Bytes) (stmts : List Stmt) (hp : parse src = (stmts, []))
    (scope0 scope : List (Bytes × List Chunk)) (t : Tabular)
    (hc : compileStmts src stmts scope0 none = .ok (scope, some t))
    (subs : List Subquery) (hsq : splitQueries src scope [] t = .ok subs) :
    ∀ sub ∈ subs,
      WriteIR.interpWrite WriteIR.modelSem ⟨src, scope, .default⟩ sub =
        WriteIR.liftW (sub.write ⟨src, scope, .default⟩) ∧
      SafeW (WriteIR.interpWrite WriteIR.modelSem ⟨src, scope, .default⟩ sub) := by
  intro sub hsub
  obtain ⟨hw, hs, _, _⟩ := parsed_query src stmts hp t (WriteInv.compileStmts_query_mem src hc)
  have hok := ((split_noPanic src scope t hw hs).2 subs hsq).1 sub hsub
  have he := WriteInv.C05_parsed_write_ir src stmts hp scope0 scope t hc subs hsq ⟨src, scope, .default⟩ sub hsub
  exact ⟨he, by rw [he]; exact SafeW.liftW (write_noPanic src scope sub hok)⟩

theorem assembly_ir_safe (src : Bytes) (stmts : List Stmt) (hp : parse src = (stmts, []))
    (scope0 scope : List (Bytes × List Chunk)) (t : Tabular)
    (hc : compileStmts src stmts scope0 none = .ok (scope, some t))
    (subs : List Subquery) (hsq : splitQueries src scope [] t = .ok subs) :
    WriteIR.interpAssembly WriteIR.modelSem src scope subs =
        WriteIR.liftW (WriteIR.assemble ⟨src, scope, .default⟩ subs) ∧
    SafeW (WriteIR.interpAssembly WriteIR.modelSem src scope subs) := by
  obtain ⟨hw, hs, _, _⟩ := parsed_query src stmts hp t (WriteInv.compileStmts_query_mem src hc)
  have he := WriteIR.C05_assembly_ir src scope subs
  exact ⟨he, by rw [he]; exact SafeW.liftW (assemble_noPanic src scope t hw hs subs hsq)⟩

/-- **the join case of `splitQueries` below the split interpreter.**  For every join operator anywhere in
    a parsed program and every scope: the regenerated `buildJoinCondition` (with
    `rewriteSimpleJoinCondition` interpreted) returns the model's condition, and the interpretation of
    `writeExpression` in join mode on it — `hasJoinTerms` and everything else interpreted — is the
    `writeExpr` the split interpreter uses as a primitive. -/
theorem join_condition_ir (src : Bytes) (stmts : List Stmt) (hp : parse src = (stmts, []))
    (s : Stmt) (hs : s ∈ stmts) (p k kind ka : Span) (fl : Option Ident) (lp : Span) (right : Tabular)
    (rp on : Span) (conds : ExprList)
    (hj : Node.op (.join p k kind ka fl lp right rp on conds) ∈ allNodes (Node.ofStmt s))
    (sc : List (Bytes × List Chunk)) :
    JoinCondIR.interpBuild conds = .ok (buildJoinCondition conds) ∧
    ExprIR.interpWriteExpression ⟨src, sc, .join⟩ (buildJoinCondition conds) =
      WriteIR.liftW (writeExpr ⟨src, sc, .join⟩ (buildJoinCondition conds)) :=
  ⟨JoinCondIR.C03_buildJoinCondition_ir conds,
   ExprIR.C01_writeExpression_ir _ _ fun _ =>
     good_buildJoinCondition conds
       (Glue.parsed_join_conds_good _ _ stmts hp s hs p k kind ka fl lp right rp on conds hj)⟩

/-- **`Compile` returns normally**: for every order `ord` in which Go may visit the parameter map (any
    function at all), every options value and every source, the interpretation of the regenerated
    `Compile` is a value or a Go error — never a Go panic, never stuck — because the model never panics
    (`C13_exact_source`). -/
theorem interpCompile_safe (ord : List (Bytes × Bytes) → List (Bytes × Bytes))
    (opts : Option (List (Bytes × Bytes))) (src : Bytes) : SafeW (ExprIR.interpCompile ord opts src) := by
  rw [ExprIR.interpCompile_eq]
  have hnp := (C13.C13_exact_source ((opts.map fun ps => (ord ps).reverse).getD []) src).2.2
  cases hc : compile ((opts.map fun ps => (ord ps).reverse).getD []) src with
  | ok sql => exact .inl ⟨sql, rfl⟩
  | error => exact .inr rfl
  | panic => exact absurd hc hnp

end Pql.NoPanic
