/-
`scan` produces well-formed token lists (`TokOK`): tokens with `start ≤ stop` in source order, and only
identifiers, quoted identifiers, numbers and strings carry a value.
-/
import PqlModel.Lemmas.AccountedBasic
import PqlModel.Lemmas.LexSplit
import PqlModel.Props.C09
namespace Pql

/-- **the scanner's tokens are well-formed**: order and extent from the partition of the source
    (C09); a token has a value only if its rule of the grammar gives it one (`Found`), and the
    scanner refines the grammar step by step -/
theorem scan_tokOK (src : Bytes) : TokOK (scan src) := by
  refine ⟨?_, C09.ordered_pairwise (C09.C09_partition src)⟩
  intro t ht
  refine ⟨by have := mem_scan_bounds src t ht; omega, ?_⟩
  obtain ⟨n, -, -, -, htok, -⟩ := reaches_of_mem src 0 t ht
  obtain ⟨c, rest, -, hf⟩ := scanOne_tok_found htok
  have hv : ValOK t.kind t.value := hf.kind.2
  intro h1 h2 h3 h4
  rcases hv with h | h | h | h | h
  · exact absurd h h1
  · exact absurd h h2
  · exact absurd h h3
  · exact absurd h h4
  · exact h

end Pql
