/-
LexRender: a fuel-free, one-token view of the SQL lexer.

`lexStep mode c rest` is what one iteration of `Sql.lexAux` does on the input `c :: rest`:
the tokens it emits (none for white space) and the remaining input, or `none` for a lexing
failure.  The lemmas on single tokens open the long `if` chain of `lexAux` through `lexAux_step` only;
`LexRenderNum.lexAux_shape` walks it once more, by `fun_induction`.
-/
import PqlModel.Spec.Sql.Lex
namespace Pql.LexRender
open Pql Sql

/-- the number branch of `lexAux`: text after the first digit and the remaining input -/
def numStep (rest : Bytes) : Option (Bytes × Bytes) :=
  let ip := spanWhile isDigitB rest
  let fr : Bytes × Bytes :=
    match ip.2 with
    | d :: r => if d == 46 then let f := spanWhile isDigitB r; (46 :: f.1, f.2) else ([], ip.2)
    | [] => ([], [])
  let ex := lexExponent fr.2
  if (ex.2.head?.map isWordStart).getD false then none
  else some (ip.1 ++ fr.1 ++ ex.1, ex.2)

/-- one iteration of `lexAux` on `c :: rest` -/
def lexStep (mode : QuoteMode) (c : UInt8) (rest : Bytes) : Option (List STok × Bytes) :=
  if isSpaceB c then some ([], rest)
  else if c == 45 && rest.head? == some 45 then some ([STok.comment], skipLineComment rest)
  else if c == 47 && rest.head? == some 42 then
    match skipBlockComment rest.tail with
    | some r => some ([STok.comment], r)
    | none => none
  else if c == 39 then
    match lexQuoted mode 39 rest with
    | some (v, r) => some ([STok.str v], r)
    | none => none
  else if c == 34 then
    match lexQuoted mode 34 rest with
    | some (v, r) => some ([STok.qid v], r)
    | none => none
  else if isWordStart c then
    let r := spanWhile isWordCont rest
    some ([STok.word (c :: r.1)], r.2)
  else if isDigitB c then
    match numStep rest with
    | some (t, r) => some ([STok.num (c :: t)], r)
    | none => none
  else if c == 36 then
    let r := spanWhile isWordCont rest
    if r.1.isEmpty then none else some ([STok.param (c :: r.1)], r.2)
  else if c == 63 then some ([STok.param [63]], rest)
  else if c == 123 then
    let r := spanWhile (· != 125) rest
    match r.2 with
    | _ :: r2 => some ([STok.param (c :: r.1 ++ [125])], r2)
    | [] => none
  else
    match rest.head?.bind (fun d => twoCharSyms.find? (fun o => o.1 == c && o.2.1 == d)) with
    | some o => some ([STok.sym o.2.2], rest.tail)
    | none =>
      match oneCharSyms.find? (fun o => o.1 == c) with
      | some o => some ([STok.sym o.2], rest)
      | none => none

def andThen (mode : QuoteMode) (fuel : Nat) : Option (List STok × Bytes) → Option (List STok)
  | none => none
  | some (t, r) => (lexAux mode fuel r).map (t ++ ·)

theorem lexAux_step (mode : QuoteMode) (fuel : Nat) (c : UInt8) (rest : Bytes) :
    lexAux mode (fuel + 1) (c :: rest) = andThen mode fuel (lexStep mode c rest) := by
  rw [lexAux, lexStep]
  by_cases h1 : isSpaceB c = true
  · rw [if_pos h1, if_pos h1]; simp [andThen]
  rw [if_neg h1, if_neg h1]
  by_cases h2 : (c == 45 && rest.head? == some 45) = true
  · rw [if_pos h2, if_pos h2]; rfl
  rw [if_neg h2, if_neg h2]
  by_cases h3 : (c == 47 && rest.head? == some 42) = true
  · rw [if_pos h3, if_pos h3]; cases skipBlockComment rest.tail <;> rfl
  rw [if_neg h3, if_neg h3]
  by_cases h4 : (c == 39) = true
  · rw [if_pos h4, if_pos h4]; rcases lexQuoted mode 39 rest with _ | ⟨v, r⟩ <;> rfl
  rw [if_neg h4, if_neg h4]
  by_cases h5 : (c == 34) = true
  · rw [if_pos h5, if_pos h5]; rcases lexQuoted mode 34 rest with _ | ⟨v, r⟩ <;> rfl
  rw [if_neg h5, if_neg h5]
  by_cases h6 : isWordStart c = true
  · rw [if_pos h6, if_pos h6]; rfl
  rw [if_neg h6, if_neg h6]
  by_cases h7 : isDigitB c = true
  · rw [if_pos h7, if_pos h7]
    unfold numStep
    dsimp only
    generalize spanWhile isDigitB rest = ip
    obtain ⟨ip1, ip2⟩ := ip
    have fin : ∀ (fr : Bytes × Bytes),
        (if (Option.map isWordStart (List.head? (lexExponent fr.2).2)).getD false = true then none
         else Option.map (fun x => STok.num (c :: ip1 ++ fr.1 ++ (lexExponent fr.2).1) :: x)
          (lexAux mode fuel (lexExponent fr.2).2)) =
        andThen mode fuel
          (match (if (Option.map isWordStart (List.head? (lexExponent fr.2).2)).getD false = true then none
            else some (ip1 ++ fr.1 ++ (lexExponent fr.2).1, (lexExponent fr.2).2)) with
          | some (t, r) => some ([STok.num (c :: t)], r)
          | none => none) := by
      intro fr
      by_cases h8 : (Option.map isWordStart (List.head? (lexExponent fr.2).2)).getD false = true
      · rw [if_pos h8, if_pos h8]; rfl
      · rw [if_neg h8, if_neg h8]; simp [andThen]
    rcases ip2 with _ | ⟨d, r⟩
    · exact fin ([], [])
    · dsimp only
      by_cases hd : (d == 46) = true
      · simp only [hd, if_true]; exact fin (46 :: (spanWhile isDigitB r).1, (spanWhile isDigitB r).2)
      · simp only [hd]; exact fin ([], d :: r)
  rw [if_neg h7, if_neg h7]
  by_cases h9 : (c == 36) = true
  · rw [if_pos h9, if_pos h9]; dsimp only
    by_cases h10 : (spanWhile isWordCont rest).1.isEmpty = true
    · rw [if_pos h10, if_pos h10]; rfl
    · rw [if_neg h10, if_neg h10]; rfl
  rw [if_neg h9, if_neg h9]
  by_cases h11 : (c == 63) = true
  · rw [if_pos h11, if_pos h11]; rfl
  rw [if_neg h11, if_neg h11]
  by_cases h12 : (c == 123) = true
  · rw [if_pos h12, if_pos h12]; dsimp only
    cases (spanWhile (fun x => x != 125) rest).2 <;> rfl
  rw [if_neg h12, if_neg h12]
  cases rest.head?.bind (fun d => twoCharSyms.find? (fun o => o.1 == c && o.2.1 == d)) with
  | some o => rfl
  | none =>
    dsimp only
    cases oneCharSyms.find? (fun o => o.1 == c) <;> rfl

end Pql.LexRender
