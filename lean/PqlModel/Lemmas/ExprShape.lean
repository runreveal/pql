/-
Facts about the tree the expression productions build, proved once for all of them.

`ExprAlg ok P PL` says that `P` / `PL` are closed under the constructor applications the parser
performs, with what the parser knows at each of them (the kind of the token a leaf comes from,
that a binary operator has a precedence and is not `in`, that a call follows an unquoted
identifier).  `ok` is the clause "no error was reported": an error-free parse builds no `.nil`
and no empty `in` list.  `exprShapeOk` gives `P` of every error-free result, `exprShapeAll` (at
`ok := False`) of every result, failed or not.
-/
import PqlModel.Lemmas.ParseInductOk
namespace Pql

structure ExprAlg (ok : Prop) (P : Expr → Prop) (PL : ExprList → Prop) : Prop where
  nil : ¬ok → P .nil
  lit : ∀ t : Token, t.kind = .number ∨ t.kind = .string → P (.lit t.span t.kind t.value)
  qident : ∀ parts : List Ident, parts ≠ [] → P (.qident parts)
  unary : ∀ (t : Token) (x : Expr), t.kind = .plus ∨ t.kind = .minus → P x →
    P (.unary t.span t.kind x)
  binary : ∀ (x : Expr) (op : Token) (y : Expr), ¬precOf op.kind < 0 → op.kind ≠ .in_ → P x → P y →
    P (.binary x op.span op.kind y)
  inE : ∀ (x : Expr) (a b : Span) (l : ExprList) (c : Span), P x → PL l → (ok → l ≠ .nil) →
    P (.inE x a b l c)
  paren : ∀ (a : Span) (x : Expr) (b : Span), P x → P (.paren a x b)
  call : ∀ (t : Token) (a : Span) (l : ExprList) (b : Span), t.kind = .ident → PL l →
    P (.call ⟨t.value, t.span, false⟩ a l b)
  index : ∀ (x : Expr) (a : Span) (i : Expr) (b : Span), P x → P i → P (.index x a i b)
  lnil : PL .nil
  snoc : ∀ (l : ExprList) (x : Expr), PL l → P x → PL (l.snoc x)

theorem pQualTail_ne_nil (c : PCtx) : ∀ (fuel : Nat) (parts : List Ident) (ts : List Token),
    parts ≠ [] → (pQualTail c fuel parts ts).val ≠ []
  | 0, parts, ts, h => by simpa [pQualTail] using h
  | fuel + 1, parts, ts, h => by
    revert ts
    apply pQualTail_cases (motive := fun _ r => r.val ≠ [])
    case nil => exact h
    case stop => intro _ _ _; exact h
    case sel => intro t rest ri sel _ _ _; exact pQualTail_ne_nil c fuel _ _ (by simp)
    case nosel => intro _ _ _ _ _ _; exact h

section
variable {ok : Prop} {P : Expr → Prop} {PL : ExprList → Prop}

theorem ExprAlg.qualTail (A : ExprAlg ok P PL) (c : PCtx) (n : Nat) (id : Ident) (ts : List Token) :
    P (.qident (pQualTail c n [id] ts).val) :=
  A.qident _ (pQualTail_ne_nil c n [id] ts (by simp))

theorem ExprAlg.pushArg (A : ExprAlg ok P PL) {acc : ExprList} {v : Expr} (ha : PL acc) (hv : P v) :
    PL (pushArg acc v) := by
  apply pushArg_cases (motive := PL)
  case nil => intro _; exact ha
  case snoc => intro _; exact A.snoc _ _ ha hv

theorem pushArg_ne_nil {acc : ExprList} (hn : acc ≠ .nil) (v : Expr) : pushArg acc v ≠ .nil := by
  apply pushArg_cases (motive := fun l => l ≠ .nil)
  case nil => intro _; exact hn
  case snoc => intro _; exact ExprList.snoc_ne_nil _ _

theorem exprShapeOk (A : ExprAlg True P PL) (c : PCtx) (f : Nat) :
    (∀ ts : List Token, (pExpr c f ts).errs = [] → P (pExpr c f ts).val) ∧
    (∀ ts : List Token, (pExprList c f ts).errs = [] →
      PL (pExprList c f ts).val ∧ (pExprList c f ts).val ≠ .nil) := by
  have g := expr_ok_induct (c := c)
    (mE := fun _ _ v _ => P v) (mU := fun _ _ v _ => P v) (mP := fun _ _ v _ => P v)
    (mI := fun _ _ v _ => P v)
    (mT := fun _ x _ _ v _ => P x → P v) (mH := fun _ y _ _ v _ => P y → P v)
    (mL := fun _ _ vl _ => PL vl ∧ vl ≠ .nil)
    (mLT := fun _ acc _ vl _ => PL acc → acc ≠ .nil → PL vl ∧ vl ≠ .nil)
    (e_ok := fun _ _ _ _ _ _ hu ht => ht hu)
    (t_nil := fun _ _ _ => id)
    (t_stop := fun _ _ _ _ _ _ => id)
    (t_inList := fun _ _ _ _ _ _ _ _ _ _ _ _ _ _ _ _ hl ht hx =>
      ht (A.inE _ _ _ _ _ hx hl.1 fun _ => hl.2))
    (t_binary := fun _ x _ op _ _ _ vh _ _ _ hprec hin hu hh ht hx =>
      ht (A.binary x op vh (fun h => hprec (Or.inl h)) hin hx (hh hu)))
    (h_nil := fun _ _ _ => id)
    (h_stop := fun _ _ _ _ _ _ => id)
    (h_go := fun _ _ _ _ _ _ _ _ _ _ ht hh hy => hh (ht hy))
    (u_sign := fun _ t _ v _ hk hp => A.unary t v hk hp)
    (u_plain := fun _ _ _ _ _ _ hp => hp)
    (p_plain := fun _ _ _ _ hi _ => hi)
    (p_index := fun _ _ _ _ _ _ _ _ hi _ _ _ he => A.index _ _ _ _ hi he)
    (i_lit := fun _ t _ hk => A.lit t hk)
    (i_ident := fun _ _ _ _ _ hq _ _ => hq ▸ A.qualTail c _ _ _)
    (i_call0 := fun _ t _ _ _ _ _ _ hk _ _ _ _ _ _ _ _ => A.call t _ _ _ hk A.lnil)
    (i_call := fun _ t _ _ _ _ _ _ _ _ hk _ _ _ _ _ hl _ _ _ => A.call t _ _ _ hk hl.1)
    (i_qident := fun _ _ _ _ _ hq _ => hq ▸ A.qualTail c _ _ _)
    (i_paren := fun _ _ _ _ _ _ _ _ _ he => A.paren _ _ _ he)
    (l_tail := fun _ _ v _ _ _ he hlt => hlt (A.snoc .nil v A.lnil he) (by simp))
    (lt_nil := fun _ _ ha hn => ⟨ha, hn⟩)
    (lt_stop := fun _ _ _ _ _ ha hn => ⟨ha, hn⟩)
    (lt_back := fun _ _ _ _ _ _ ha hn => ⟨ha, hn⟩)
    (lt_more := fun _ _ _ _ v _ _ _ _ he hlt ha hn =>
      hlt (A.pushArg ha he) (pushArg_ne_nil hn v)) f
  exact ⟨g.expr, g.exprList⟩

theorem exprShapeAll (A : ExprAlg False P PL) (c : PCtx) (f : Nat) :
    (∀ ts : List Token, P (pExpr c f ts).val) ∧ (∀ ts : List Token, PL (pExprList c f ts).val) := by
  have nil : P .nil := A.nil id
  have inE : ∀ {x : Expr} {l : ExprList} (a b d : Span), P x → PL l → P (.inE x a b l d) :=
    fun a b d hx hl => A.inE _ a b _ d hx hl (fun h => h.elim)
  have g := expr_induct (c := c)
    (mE := fun _ _ r => P r.val) (mU := fun _ _ r => P r.val) (mP := fun _ _ r => P r.val)
    (mI := fun _ _ r => P r.val)
    (mT := fun _ x _ _ _ r => P x → P r.val) (mH := fun _ y _ _ _ r => P y → P r.val)
    (mL := fun _ _ r => PL r.val) (mLT := fun _ acc _ r => PL acc → PL r.val)
    (e_fuel := fun _ => nil) (t_fuel := fun _ _ _ _ => id) (h_fuel := fun _ _ _ _ => id)
    (u_fuel := fun _ => nil) (p_fuel := fun _ => nil) (i_fuel := fun _ => nil)
    (l_fuel := fun _ => A.lnil) (lt_fuel := fun _ _ => id)
    (e_nf := fun _ _ _ _ hu _ => hu)
    (e_trail := fun _ _ _ _ _ hu _ _ ht => ht hu)
    (t_nil := fun _ _ _ _ => id)
    (t_stop := fun _ _ _ _ _ _ _ => id)
    (t_inEof := fun _ _ _ _ _ _ _ hx => inE _ _ _ hx A.lnil)
    (t_inNoParen := fun _ _ _ _ _ _ _ _ _ _ hx => inE _ _ _ hx A.lnil)
    (t_inOpen := fun _ _ _ _ _ _ _ _ _ _ _ _ _ _ hl _ hx => inE _ _ _ hx hl)
    (t_inList := fun _ _ _ _ _ _ _ _ _ _ _ _ _ _ _ hl _ _ ht hx => ht (inE _ _ _ hx hl))
    (t_binary := fun _ x _ _ op _ _ rh _ hprec hin _ hu _ hh _ ht hx =>
      ht (A.binary x op rh.val (fun h => hprec (Or.inl h)) hin hx (hh hu)))
    (h_nil := fun _ _ _ _ => id)
    (h_stop := fun _ _ _ _ _ _ _ => id)
    (h_go := fun _ _ _ _ _ _ _ _ _ _ ht _ hh hy => hh (ht hy))
    (u_nil := fun _ => nil)
    (u_sign := fun _ t _ r hk _ hp => A.unary t r.val hk hp)
    (u_plain := fun _ _ _ _ _ _ hp => hp)
    (p_err := fun _ _ _ _ hi _ => hi)
    (p_plain := fun _ _ _ _ hi _ _ => hi)
    (p_index := fun _ _ _ _ _ _ _ _ hi _ _ _ _ he _ => A.index _ _ _ _ hi he)
    (i_nil := fun _ => nil)
    (i_lit := fun _ t _ hk => A.lit t hk)
    (i_ident := fun _ _ _ _ _ hq _ => hq ▸ A.qualTail c _ _ _)
    (i_call := fun _ t _ _ _ _ _ _ hk _ _ _ _ _ _ hl _ => A.call t _ _ _ hk hl)
    (i_qident := fun _ _ _ _ _ hq => hq ▸ A.qualTail c _ _ _)
    (i_paren := fun _ _ _ _ _ _ _ he _ => A.paren _ _ _ he)
    (i_other := fun _ _ _ _ _ _ _ => nil)
    (l_err := fun _ _ _ _ _ _ => A.lnil)
    (l_tail := fun _ _ r _ _ he _ _ hlt => hlt (A.snoc .nil r.val A.lnil he))
    (lt_nil := fun _ _ => id)
    (lt_stop := fun _ _ _ _ _ => id)
    (lt_back := fun _ _ _ _ _ _ _ _ _ => id)
    (lt_err := fun _ _ _ _ _ _ _ he _ _ ha => A.pushArg ha he)
    (lt_more := fun _ _ _ _ _ _ _ _ he _ _ hlt ha => hlt (A.pushArg ha he)) f
  exact ⟨g.expr, g.exprList⟩

end

end Pql
