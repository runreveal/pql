/-
A production of the parser model that reports no error returns a tree without nil in a required
position (`Good`, see WalkLemmas), hence a tree on which `Walk` neither panics nor hands a nil
node to the visitor.  `Good` is closed under what the productions build (`good_alg`,
`good_tabAlg`).
-/
import PqlModel.Lemmas.ParsedOKLift
import PqlModel.Lemmas.WalkLemmas
namespace Pql

theorem ExprList.good_snoc : (acc : ExprList) → (x : Expr) →
    ((acc.snoc x).Good ↔ acc.Good ∧ x.Good)
  | .nil, x => by simp [ExprList.snoc, ExprList.Good]
  | .cons e es, x => by simp [ExprList.snoc, ExprList.Good, ExprList.good_snoc es x, and_assoc]

theorem good_alg : ExprAlg True Expr.Good ExprList.Good where
  nil := fun h => absurd trivial h
  lit := fun _ _ => trivial
  qident := fun _ _ => trivial
  unary := fun _ _ _ hx => hx
  binary := fun _ _ _ _ _ hx hy => ⟨hx, hy⟩
  inE := fun _ _ _ _ _ hx hl _ => ⟨hx, hl⟩
  paren := fun _ _ _ hx => hx
  call := fun _ _ _ _ _ hl => hl
  index := fun _ _ _ _ hx hi => ⟨hx, hi⟩
  lnil := trivial
  snoc := fun l x hl hx => (ExprList.good_snoc l x).2 ⟨hl, hx⟩

theorem pExpr_good {c : PCtx} {fuel : Nat} {ts : List Token} (h : (pExpr c fuel ts).errs = []) :
    (pExpr c fuel ts).val.Good := (exprShapeOk good_alg c fuel).1 ts h

theorem pExprList_good {c : PCtx} {fuel : Nat} {ts : List Token}
    (h : (pExprList c fuel ts).errs = []) : (pExprList c fuel ts).val.Good :=
  ((exprShapeOk good_alg c fuel).2 ts h).1

theorem OpList.good_snoc : (ops : OpList) → (o : Op) → ((ops.snoc o).Good ↔ ops.Good ∧ o.Good)
  | .nil, o => by simp [OpList.snoc, OpList.Good]
  | .cons p ps, o => by simp [OpList.snoc, OpList.Good, OpList.good_snoc ps o, and_assoc]

theorem Op.good_count (p k : Span) : (Op.count p k).Good ↔ True := Iff.rfl
theorem Op.good_where (p k : Span) (e : Expr) : (Op.where_ p k e).Good ↔ e.Good := Iff.rfl
theorem Op.good_sort (p k : Span) (ts : List SortTerm) :
    (Op.sort p k ts).Good ↔ ∀ t ∈ ts, SortTerm.Good t := Iff.rfl
theorem Op.good_take (p k : Span) (e : Expr) : (Op.take p k e).Good ↔ e.Good := Iff.rfl
theorem Op.good_top (p k : Span) (n : Expr) (b : Span) (col : Option SortTerm) :
    (Op.top p k n b col).Good ↔ n.Good ∧ ∃ t, col = some t ∧ SortTerm.Good t := Iff.rfl
theorem Op.good_project (p k : Span) (cs : List Column) :
    (Op.project p k cs).Good ↔ ∀ c ∈ cs, c.name ≠ none ∧ c.x.OptGood := Iff.rfl
theorem Op.good_extend (p k : Span) (cs : List Column) :
    (Op.extend p k cs).Good ↔ ∀ c ∈ cs, c.x.OptGood := Iff.rfl
theorem Op.good_as (p k : Span) (n : Option Ident) : (Op.as_ p k n).Good ↔ n ≠ none := Iff.rfl
theorem Op.good_join (p k kind ka : Span) (fl : Option Ident) (lp : Span) (right : Tabular)
    (rp on : Span) (conds : ExprList) :
    (Op.join p k kind ka fl lp right rp on conds).Good ↔ right.Good ∧ conds.Good := Iff.rfl

theorem good_tabAlg : TabAlg True Expr.Good ExprList.Good Tabular.Good Op.Good OpList.Good where
  tnil := fun h => absurd trivial h
  tmk := fun _ _ h => ⟨nofun, h⟩
  onil := trivial
  snoc := fun ops o ho h => (OpList.good_snoc ops o).2 ⟨ho, h⟩
  count := fun _ _ => trivial
  where_ := fun _ _ _ h => h
  sort := fun _ _ _ h => h
  take := fun _ _ _ h => h
  top := fun _ _ _ _ col h1 h2 h3 => by
    cases col with
    | none => exact absurd rfl (h3 trivial)
    | some t => exact ⟨h1, t, rfl, h2 t rfl⟩
  project := fun _ _ _ h => h
  extend := fun _ _ _ h k hk => Or.inr (h k hk)
  summarize := fun _ _ _ _ _ h1 h2 => ⟨h1, h2⟩
  join := fun _ _ _ _ _ _ _ _ _ _ _ h1 h2 => ⟨h1, h2⟩
  as_ := fun _ _ _ h => h trivial
  render := fun _ _ _ _ _ _ _ h1 h2 _ => ⟨h2 trivial, fun q hq => ⟨(h1 q hq).1, Or.inr (h1 q hq).2⟩⟩

structure TabInv (c : PCtx) (fuel : Nat) : Prop where
  tabular : ∀ ts, (pTabular c fuel ts).errs = [] → (pTabular c fuel ts).val.Good
  ops : ∀ ops acc ts, (pOps c fuel ops acc ts).errs = [] →
    acc = [] ∧ (ops.Good → (pOps c fuel ops acc ts).val.Good)
  operator : ∀ pipe name ts r, pOperator c fuel pipe name ts = some r → r.errs = [] → r.val.Good
  join : ∀ pipe kw ts, (pJoin c fuel pipe kw ts).errs = [] → (pJoin c fuel pipe kw ts).val.Good

theorem tabInv (c : PCtx) (fuel : Nat) : TabInv c fuel :=
  have g := tabShapeOk good_tabAlg (fun _ _ _ => pExpr_good) (fun _ _ _ => pExprList_good) c fuel
  { tabular := fun ts h => g.tabular ts fun _ => h
    ops := fun ops acc ts h => ⟨(g.ops ops acc ts fun _ => h).1 trivial, (g.ops ops acc ts fun _ => h).2⟩
    operator := fun pipe name ts r hr h => g.operator pipe name ts r hr fun _ => h
    join := fun pipe kw ts h => g.join pipe kw ts fun _ => h }

theorem pTabular_good {c : PCtx} {fuel : Nat} {ts : List Token}
    (h : (pTabular c fuel ts).errs = []) : (pTabular c fuel ts).val.Good :=
  (tabInv c fuel).tabular ts h

theorem parseTokens_good {srcLen : Nat} {ts : List Token} {stmts : List Stmt}
    (h : parseTokens srcLen ts = (stmts, [])) : ∀ s ∈ stmts, s.Good :=
  ParsedOK.parseTokens_stmts (S := Stmt.Good) (fun _ _ _ _ _ he => ⟨nofun, pExpr_good he⟩)
    (fun _ _ _ he => pTabular_good he) h

end Pql
