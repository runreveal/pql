/-
C08, second sentence: from an error-free parse to the token classes of every statement
piece, and what the classes say about the source tokens.
-/
import PqlModel.Lemmas.RejectOps
import PqlModel.Props.C08Full
namespace Pql.Reject
open Pql Pql.Grammar

/-- the statement pieces of a source: the non-empty token groups between semicolon tokens -/
def pieces (src : Bytes) : List (List Token) := splitStatementsToks (scan src)

/-- every expression of every statement of an error-free parse is one a parse returns (`sOK`):
    the hypothesis of `stmt_good`, `unparse_balanced`, `unparse_last_token` -/
theorem parsed_stmtAll (src : Bytes) (h : (parse src).2 = []) : ∀ s ∈ (parse src).1, StmtAll EOK LOK s := by
  have hp : parse src = ((parse src).1, []) := by rw [← h]
  exact parseTokens_all (E := EOK) (EL := LOK) (fun _ _ _ he => ParsedOK.pExpr_sOK he)
    (fun _ _ _ he => ParsedOK.pExprList_sOK he) (srcLen := src.length) (ts := scan src) hp

/-- **every piece of an accepted source is the `unparse` of one statement of the result**, and the
    classes of that `unparse` are those of a statement (`stmt_good`) -/
theorem accepted_piece (src : Bytes) (h : (parse src).2 = []) : ∀ g ∈ pieces src,
    ∃ st ∈ (parse src).1, ∃ us, unparseStmt st = some us ∧ accounts true us g = true ∧ Acc us g ∧
      Good FS LO us := by
  have hp : parse src = ((parse src).1, []) := by rw [← h]
  have hacc := C08.C08_accounted_parse src _ hp
  intro g hg
  obtain ⟨st, hst, us, hus, ha⟩ := hacc.exists_mem_right g hg
  exact ⟨st, hst, us, hus, ha, acc_of_accounts true us g ha,
    stmt_good st us (parsed_stmtAll src h st hst) hus⟩

theorem mem_pieces {src : Bytes} {t : Token} (ht : t ∈ scan src) (hk : t.kind ≠ .semi) :
    ∃ g ∈ pieces src, t ∈ g :=
  mem_splitStatementsToks hk (scan src) ht

theorem pieces_nosemi (src : Bytes) (hne : scan src ≠ []) (h : ∀ t ∈ scan src, t.kind ≠ .semi) :
    pieces src = [scan src] :=
  splitStatementsToks_nosemi hne h

def allKeywordSpellings : List Bytes :=
  otherSpellings ++ [b "count", b "asc", b "desc", b "first", b "last"]

/-- a token that can only be a name: a quoted identifier, or an identifier not spelled like a keyword -/
def isNameTok (t : Token) : Bool :=
  t.kind == .qident || (t.kind == .ident && !allKeywordSpellings.contains t.value)

/-- a token that ends an operand: literal, `)`, `]`, name -/
def operandEndTok (t : Token) : Bool :=
  t.kind == .number || t.kind == .string || t.kind == .rparen || t.kind == .rbracket || isNameTok t

/-- a token that starts a juxtaposed operand: literal or name -/
def operandStartTok (t : Token) : Bool :=
  t.kind == .number || t.kind == .string || isNameTok t

theorem other_sub {v : Bytes} (h : otherSpellings.contains v = true) : allKeywordSpellings.contains v = true := by
  simp only [allKeywordSpellings, List.contains_iff_mem, List.mem_append] at h ⊢
  exact Or.inl h

theorem compat_kw {c : Cl} {t : Token} (hk : isKw c = true) (h : compat c t = true) :
    t.kind = .ident ∧ allKeywordSpellings.contains t.value = true := by
  cases c with
  | kCount =>
    simp only [compat, Bool.and_eq_true, beq_iff_eq] at h
    exact ⟨h.1, by rw [h.2]; decide⟩
  | kDir =>
    simp only [compat, Bool.and_eq_true, Bool.or_eq_true, beq_iff_eq] at h
    exact ⟨h.1, by rcases h.2 with h2 | h2 <;> (rw [h2]; decide)⟩
  | kNF =>
    simp only [compat, Bool.and_eq_true, Bool.or_eq_true, beq_iff_eq] at h
    exact ⟨h.1, by rcases h.2 with h2 | h2 <;> (rw [h2]; decide)⟩
  | kw =>
    simp only [compat, Bool.and_eq_true, beq_iff_eq] at h
    exact ⟨h.1, other_sub h.2⟩
  | nm | lit | bad | s k => cases hk

theorem compat_name {c : Cl} {t : Token} (h : compat c t = true) (hn : never c = false)
    (ht : isNameTok t = true) : c = .nm := by
  simp only [isNameTok, Bool.or_eq_true, Bool.and_eq_true, beq_iff_eq, Bool.not_eq_true'] at ht
  cases hkw : isKw c with
  | true =>
    obtain ⟨hk, hv⟩ := compat_kw hkw h
    rcases ht with ht | ht
    · rw [hk] at ht; cases ht
    · rw [hv] at ht; cases ht.2
  | false =>
    cases c with
    | nm => rfl
    | lit =>
      simp only [compat, Bool.or_eq_true, beq_iff_eq] at h
      rcases ht with ht | ht <;> rcases h with h | h <;> simp_all
    | bad => cases hn
    | s k =>
      simp only [compat, beq_iff_eq] at h
      subst h
      rcases ht with ht | ht
      · rw [ht] at hn; cases hn
      · rw [ht.1] at hn; cases hn
    | kCount | kDir | kNF | kw => cases hkw

theorem compat_sym {c : Cl} {t : Token} (h : compat c t = true) (hn : never c = false)
    (hk : t.kind ≠ .ident ∧ t.kind ≠ .qident ∧ t.kind ≠ .number ∧ t.kind ≠ .string) : c = .s t.kind := by
  cases c <;> simp_all [compat, never]

theorem compat_lit {c : Cl} {t : Token} (h : compat c t = true) (hn : never c = false)
    (hk : t.kind = .number ∨ t.kind = .string) : c = .lit := by
  cases c with
  | lit => rfl
  | bad => cases hn
  | s k =>
    simp only [compat, beq_iff_eq] at h
    subst h
    rcases hk with hk | hk <;> (rw [hk] at hn; cases hn)
  | nm | kCount | kDir | kNF | kw => rcases hk with hk | hk <;> simp [compat, hk] at h

theorem compat_end {c : Cl} {t : Token} (h : compat c t = true) (hn : never c = false)
    (ht : operandEndTok t = true) : endsOperand c = true := by
  simp only [operandEndTok, Bool.or_eq_true, beq_iff_eq] at ht
  rcases ht with (((hk | hk) | hk) | hk) | hname
  · rw [compat_lit h hn (Or.inl hk)]; rfl
  · rw [compat_lit h hn (Or.inr hk)]; rfl
  · rw [compat_sym h hn (by simp [hk]), hk]; rfl
  · rw [compat_sym h hn (by simp [hk]), hk]; rfl
  · rw [compat_name h hn hname]; rfl

theorem compat_start {c : Cl} {t : Token} (h : compat c t = true) (hn : never c = false)
    (ht : operandStartTok t = true) : startsOperand c = true := by
  simp only [operandStartTok, Bool.or_eq_true, beq_iff_eq] at ht
  rcases ht with (hk | hk) | hname
  · rw [compat_lit h hn (Or.inl hk)]; rfl
  · rw [compat_lit h hn (Or.inr hk)]; rfl
  · rw [compat_name h hn hname]; rfl

theorem okPair_juxt {a c : Cl} (ha : endsOperand a = true) (hc : startsOperand c = true) :
    okPair a c = false := by simp [okPair, ha, hc]

theorem good_not_never {us : List UTok} (hg : Good FS LO us) : ∀ u ∈ us, never (cl u) = false := by
  intro u hu
  cases hn : never (cl u) with
  | false => rfl
  | true =>
    have := adjOK_never _ hg.lin.adj (cl u) (List.mem_map.2 ⟨u, hu, rfl⟩) hn
    obtain ⟨a, ha, haF⟩ := hg.lin.first
    rw [this] at ha
    simp only [List.head?_cons, Option.some.injEq] at ha
    subst ha
    revert hn haF
    generalize cl u = c
    intro hn haF
    simp only [FS, List.mem_cons, List.not_mem_nil, or_false] at haF
    rcases haF with rfl | rfl <;> cases hn

theorem window_classes {us : List UTok} {g : List Token} (hacc : Acc us g) (hg : Good FS LO us)
    (pre w post : List Token) (hw : g = pre ++ w ++ post) (hnc : ∀ t ∈ w, t.kind ≠ .comma) :
    ∃ pre' v post', us = pre' ++ v ++ post' ∧ Acc post' post ∧
      Forall₂ (fun u t => compat (cl u) t = true ∧ never (cl u) = false) v w ∧
      adjOK (v.map cl) = true := by
  obtain ⟨pre', v, post', hv, hf, hp⟩ := hacc.window pre w post hw hnc
  refine ⟨pre', v, post', hv, hp, ?_, ?_⟩
  · have hmem : ∀ u ∈ v, u ∈ us := by intro u hu; rw [hv]; simp [hu]
    exact hf.imp_mem fun u hu t _ hm => ⟨tokMatches_compat hm, good_not_never hg u (hmem u hu)⟩
  · have := hg.lin.adj
    rw [hv, List.map_append, List.map_append] at this
    exact adjOK_infix _ _ _ this

end Pql.Reject
