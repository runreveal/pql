/-
Layout independence of the parser: forgetting positions is a token map (`npMap`), so every
production run on the tokens moved to position 0, with `srcLen = 0`, returns the `keepNull`-image
of what it returns on the tokens themselves (`Lemmas/ParseMapTab`).
-/
import PqlModel.Lemmas.ParseMapTab
namespace Pql.Layout
open Pql

@[simp] theorem span_zero_lit : (⟨0, 0⟩ : Span) = Span.zero := rfl

/-- forgetting positions: every token at 0:0, in an empty source; `Span.null` ("absent") is kept -/
def npMap (c : PCtx) : TokMap where
  tok := np
  sp := keepNull
  esp := keepNull
  src := c
  dst := c0
  ok := fun _ => True
  lt := fun _ _ => True
  kind := fun _ => rfl
  value := fun _ => rfl
  span := fun t _ => (keepNull_span t).symm
  espan := fun _ _ => rfl
  span2 := fun _ _ _ _ _ => (keepNull_nat _ _).symm
  null := rfl
  zero := rfl
  eof := keepNull_eof c

theorem npMap_ok (c : PCtx) (ts : List Token) : (npMap c).Ok ts :=
  ⟨fun _ _ => trivial, List.pairwise_of_forall fun _ _ => trivial⟩

/-- what `TokMap.exprComm` gives at `npMap c` (its side condition `Ok` is trivial there), written with `mp` -/
structure ExprLay (c : PCtx) (fuel : Nat) : Prop where
  expr : ∀ ts, pExpr c0 fuel (ts.map np) = mp (mapExpr keepNull) (pExpr c fuel ts)
  trail : ∀ x m acc ts, pTrail c0 fuel (mapExpr keepNull x) m (mapErrs keepNull acc) (ts.map np) =
    mp (mapExpr keepNull) (pTrail c fuel x m acc ts)
  higher : ∀ y p acc ts, pHigher c0 fuel (mapExpr keepNull y) p (mapErrs keepNull acc) (ts.map np) =
    mp (mapExpr keepNull) (pHigher c fuel y p acc ts)
  unary : ∀ ts, pUnary c0 fuel (ts.map np) = mp (mapExpr keepNull) (pUnary c fuel ts)
  primary : ∀ ts, pPrimary c0 fuel (ts.map np) = mp (mapExpr keepNull) (pPrimary c fuel ts)
  inner : ∀ ts, pInner c0 fuel (ts.map np) = mp (mapExpr keepNull) (pInner c fuel ts)
  exprList : ∀ ts, pExprList c0 fuel (ts.map np) = mp (mapExprList keepNull) (pExprList c fuel ts)
  exprListTail : ∀ acc ts, pExprListTail c0 fuel (mapExprList keepNull acc) (ts.map np) =
    mp (mapExprList keepNull) (pExprListTail c fuel acc ts)

theorem exprLay (c : PCtx) (fuel : Nat) : ExprLay c fuel :=
  have h := (npMap c).exprComm fuel
  have ok := npMap_ok c
  ⟨fun ts => (h.expr ts (ok _)).1, fun x m acc ts => (h.trail x m acc ts (ok _)).1,
    fun y p acc ts => (h.higher y p acc ts (ok _)).1, fun ts => (h.unary ts (ok _)).1,
    fun ts => (h.primary ts (ok _)).1, fun ts => (h.inner ts (ok _)).1,
    fun ts => (h.exprList ts (ok _)).1, fun acc ts => (h.exprListTail acc ts (ok _)).1⟩

/-- `TokMap.TabComm` at `npMap c`, written with `mp` -/
structure TabLay (c : PCtx) (fuel : Nat) : Prop where
  tabular : ∀ ts, pTabular c0 fuel (ts.map np) = mp (mapTabular keepNull) (pTabular c fuel ts)
  ops : ∀ ops acc ts, pOps c0 fuel (mapOpList keepNull ops) (mapErrs keepNull acc) (ts.map np) =
    mp (mapOpList keepNull) (pOps c fuel ops acc ts)
  operator : ∀ pipe name ts, pOperator c0 fuel (keepNull pipe) (np name) (ts.map np) =
    (pOperator c fuel pipe name ts).map (mp (mapOp keepNull))
  join : ∀ pipe kw ts, pJoin c0 fuel (keepNull pipe) (keepNull kw) (ts.map np) =
    mp (mapOp keepNull) (pJoin c fuel pipe kw ts)

theorem tabLay (c : PCtx) (fuel : Nat) : TabLay c fuel :=
  have h := (npMap c).tabComm fuel
  have ok := npMap_ok c
  ⟨fun ts => (h.tabular ts (ok _)).1, fun ops acc ts => (h.ops ops acc ts (ok _)).1,
    fun pipe name ts => (h.operator pipe name ts (ok _)).1,
    fun pipe kw ts => (h.join pipe kw ts (ok _)).1⟩

theorem pOperator_np (c : PCtx) (fuel : Nat) (pipe : Span) (name : Token) (ts : List Token) :
    pOperator c0 fuel (keepNull pipe) (np name) (ts.map np) =
      (pOperator c fuel pipe name ts).map (mp (mapOp keepNull)) := (tabLay c fuel).operator pipe name ts

theorem parseTokens_np (n : Nat) (ts : List Token) :
    parseTokens 0 (ts.map np) =
      ((parseTokens n ts).1.map (mapStmt keepNull), mapErrs keepNull (parseTokens n ts).2) :=
  (npMap ⟨n⟩).parseTokens_map ts (npMap_ok _ ts)

end Pql.Layout
