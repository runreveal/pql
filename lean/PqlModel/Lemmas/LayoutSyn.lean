/-
Keyword synonyms (where/filter, sort/order, take/limit).

An identifier `filter` may also be a column name, so the synonyms are stated where the parser
decides: `pOperator` returns *exactly* the same result for a keyword token and for the token with
its value canonicalised (`canonKw`: filter ↦ where, order ↦ sort, limit ↦ take), and so do the
productions above it on a token list in which the identifier directly after every `|` that the
operator loop `pOps` will treat as a pipe of *this* pipeline (bracket depth 0, cut with the parser's
own `split`) is canonicalised (`canonPipes`).
-/
import PqlModel.Lemmas.ParseMapBasic
import PqlModel.Lemmas.TabDispatch
import PqlModel.Lemmas.ParseFold
set_option linter.unusedSimpArgs false
namespace Pql.Layout
open Pql

def kwWhere : Bytes := Bytes.ofString "where"
def kwFilter : Bytes := Bytes.ofString "filter"
def kwSort : Bytes := Bytes.ofString "sort"
def kwOrder : Bytes := Bytes.ofString "order"
def kwTake : Bytes := Bytes.ofString "take"
def kwLimit : Bytes := Bytes.ofString "limit"

def canonKw (v : Bytes) : Bytes :=
  if v = kwFilter then kwWhere else if v = kwOrder then kwSort else if v = kwLimit then kwTake else v

def canonTok (t : Token) : Token := if t.kind = .ident then { t with value := canonKw t.value } else t

@[simp] theorem canonTok_kind (t : Token) : (canonTok t).kind = t.kind := by
  unfold canonTok; split <;> rfl
@[simp] theorem canonTok_span (t : Token) : (canonTok t).span = t.span := by
  unfold canonTok; split <;> rfl

theorem pOperator_canon (c : PCtx) (fuel : Nat) (pipe : Span) (name : Token) (ts : List Token) :
    pOperator c fuel pipe (canonTok name) ts = pOperator c fuel pipe name ts := by
  cases fuel with
  | zero => simp only [pOperator, canonTok_span]
  | succ f =>
    unfold canonTok
    split
    · obtain ⟨k, s, e, v⟩ := name
      simp only [canonKw]
      by_cases h1 : v = kwFilter
      · rw [if_pos h1, pOperator_where c f pipe _ ts (Or.inl rfl), pOperator_where c f pipe _ ts (Or.inr h1)]
        rfl
      · rw [if_neg h1]
        by_cases h2 : v = kwOrder
        · rw [if_pos h2, pOperator_sort c f pipe _ ts (Or.inl rfl), pOperator_sort c f pipe _ ts (Or.inr h2)]
          rfl
        · rw [if_neg h2]
          by_cases h3 : v = kwLimit
          · rw [if_pos h3, pOperator_take c f pipe _ ts (Or.inl rfl), pOperator_take c f pipe _ ts (Or.inr h3)]
            rfl
          · rw [if_neg h3]
    · rfl

def canonHead : List Token → List Token
  | [] => []
  | t :: ts => canonTok t :: ts

/-- canonicalise the identifier directly after every `|` of the pipeline `ts` (bracket depth 0, cut
    with the parser's `split`); `n` is fuel: every round consumes the pipe token, so `ts.length` suffices
    (read off the recursion; no theorem needs it, since `pOps_canon` holds for every `n`) -/
def canonPipes : Nat → List Token → List Token
  | 0, ts => ts
  | _ + 1, [] => []
  | n + 1, p :: rest =>
    if p.kind ≠ .pipe then p :: rest
    else p :: (canonHead (split .pipe rest).1 ++ canonPipes n (split .pipe rest).2)

@[simp] theorem canonHead_kinds (ts : List Token) : (canonHead ts).map Token.kind = ts.map Token.kind := by
  cases ts <;> simp [canonHead]
@[simp] theorem canonHead_length (ts : List Token) : (canonHead ts).length = ts.length := by
  cases ts <;> simp [canonHead]

theorem canonPipes_kinds (n : Nat) : ∀ ts, (canonPipes n ts).map Token.kind = ts.map Token.kind := by
  induction n with
  | zero => intro ts; rfl
  | succ n ih =>
    intro ts
    cases ts with
    | nil => rfl
    | cons p rest =>
      simp only [canonPipes]
      split
      · rfl
      · have := congrArg (List.map Token.kind) (split_append .pipe rest)
        simp only [List.map_cons, List.map_append, canonHead_kinds, ih]
        rw [← List.map_append, split_append]

theorem canonPipes_head (n : Nat) (ts : List Token) :
    canonPipes n ts = [] ∧ ts = [] ∨ ∃ p r r', ts = p :: r ∧ canonPipes n ts = p :: r' := by
  cases n with
  | zero => cases ts with
    | nil => exact Or.inl ⟨rfl, rfl⟩
    | cons p r => exact Or.inr ⟨p, r, r, rfl, rfl⟩
  | succ n => cases ts with
    | nil => exact Or.inl ⟨rfl, rfl⟩
    | cons p r =>
      by_cases hp : p.kind = .pipe
      · exact Or.inr ⟨p, r, canonHead (split .pipe r).1 ++ canonPipes n (split .pipe r).2, rfl,
          by simp only [canonPipes, hp, ne_eq, not_true_eq_false, if_false]⟩
      · exact Or.inr ⟨p, r, r, rfl, by simp only [canonPipes, hp, ne_eq, not_false_eq_true, if_true]⟩

theorem endSplit_canonPipes (n : Nat) (ts : List Token) : endSplit (canonPipes n ts) = endSplit ts := by
  rcases canonPipes_head n ts with ⟨h1, h2⟩ | ⟨p, r, r', h1, h2⟩
  · rw [h1, h2]
  · rw [h2, h1]; rfl

theorem split_canon (n : Nat) (rest : List Token) :
    split .pipe (canonHead (split .pipe rest).1 ++ canonPipes n (split .pipe rest).2) =
      (canonHead (split .pipe rest).1, canonPipes n (split .pipe rest).2) := by
  apply split_of_kinds .pipe rest
  · rw [List.map_append, canonHead_kinds, canonPipes_kinds, ← List.map_append, split_append]
  · exact canonHead_length _

theorem pOps_canon (c : PCtx) : ∀ (fuel n : Nat) (ops : OpList) (acc : Errs) (ts : List Token),
    ∃ k, pOps c fuel ops acc (canonPipes n ts) =
      ⟨(pOps c fuel ops acc ts).val, (pOps c fuel ops acc ts).errs, canonPipes k (pOps c fuel ops acc ts).rest⟩ := by
  intro fuel
  induction fuel with
  | zero => intro n ops acc ts; exact ⟨n, by simp only [pOps]⟩
  | succ fuel ih =>
    intro n ops acc ts
    cases n with
    | zero => exact ⟨0, rfl⟩
    | succ n =>
      cases ts with
      | nil => exact ⟨0, rfl⟩
      | cons p rest =>
        simp only [canonPipes]
        by_cases hp : p.kind = .pipe
        · simp only [hp, ne_eq, not_true_eq_false, if_false]
          simp only [pOps, hp, ne_eq, not_true_eq_false, if_false, split_canon]
          rcases h : (split .pipe rest).1 with _ | ⟨name, opToks⟩
          · simp only [canonHead]
            exact ih n _ _ _
          · simp only [canonHead, canonTok_kind, canonTok_span, pOperator_canon]
            by_cases hn : name.kind = .ident
            · simp only [hn, ne_eq, not_true_eq_false, if_false]
              cases pOperator c fuel p.span name opToks with
              | none => exact ih n _ _ _
              | some r => exact ih n _ _ _
            · simp only [hn, ne_eq, not_false_eq_true, if_true]
              exact ih n _ _ _
        · simp only [hp, ne_eq, not_false_eq_true, if_true]
          exact ⟨0, rfl⟩

def canonTab : List Token → List Token
  | [] => []
  | t :: rest => t :: canonPipes rest.length rest

def canonStmtToks (ts : List Token) : List Token :=
  match ts with
  | [] => []
  | t :: _ => if isIdentNamed t "let" then ts else canonTab ts

theorem canonPipes_length (n : Nat) (ts : List Token) : (canonPipes n ts).length = ts.length := by
  have := congrArg List.length (canonPipes_kinds n ts)
  simpa only [List.length_map] using this

theorem canonTab_length (ts : List Token) : (canonTab ts).length = ts.length := by
  cases ts with
  | nil => rfl
  | cons t rest => simp only [canonTab, List.length_cons, canonPipes_length]

theorem canonStmtToks_length (ts : List Token) : (canonStmtToks ts).length = ts.length := by
  cases ts with
  | nil => rfl
  | cons t rest =>
    simp only [canonStmtToks]
    split
    · rfl
    · exact canonTab_length _

theorem canonStmtToks_kinds (ts : List Token) : (canonStmtToks ts).map Token.kind = ts.map Token.kind := by
  cases ts with
  | nil => rfl
  | cons t rest =>
    simp only [canonStmtToks]
    split
    · rfl
    · simp only [canonTab, List.map_cons, canonPipes_kinds]

theorem pTabular_canon (c : PCtx) (fuel : Nat) (ts : List Token) :
    (pTabular c fuel (canonTab ts)).val = (pTabular c fuel ts).val ∧
    (pTabular c fuel (canonTab ts)).errs = (pTabular c fuel ts).errs ∧
    endSplit (pTabular c fuel (canonTab ts)).rest = endSplit (pTabular c fuel ts).rest := by
  cases ts with
  | nil => exact ⟨rfl, rfl, rfl⟩
  | cons t rest =>
    cases fuel with
    | zero => simp only [canonTab, pTabular, endSplit_cons, and_self]
    | succ fuel =>
      simp only [canonTab, pTabular]
      by_cases hk : t.kind = .ident ∨ t.kind = .qident
      · rw [pIdent_cons hk, pIdent_cons hk]
        obtain ⟨k, hk2⟩ := pOps_canon c fuel rest.length .nil [] rest
        dsimp only
        rw [hk2]
        exact ⟨rfl, rfl, endSplit_canonPipes _ _⟩
      · rw [pIdent_other hk, pIdent_other hk]
        exact ⟨rfl, rfl, rfl⟩

theorem pStatement_canon (c : PCtx) (ts : List Token) :
    pStatement c (canonStmtToks ts) = pStatement c ts := by
  cases ts with
  | nil => rfl
  | cons t rest =>
    by_cases hlet : isIdentNamed t "let" = true
    · simp only [canonStmtToks, hlet, if_true]
    · have e : canonStmtToks (t :: rest) = canonTab (t :: rest) := by
        simp only [canonStmtToks, hlet, Bool.false_eq_true, if_false]
      rw [e]
      obtain ⟨h1, h2, h3⟩ := pTabular_canon c (fuelFor (t :: rest).length) (t :: rest)
      have hl : pLet c (fuelFor (t :: rest).length) (canonTab (t :: rest)) =
          ⟨none, nfAt t.span, canonTab (t :: rest)⟩ := by
        simp only [canonTab, pLet, hlet, Bool.not_false, if_true]
      have hl' : pLet c (fuelFor (t :: rest).length) (t :: rest) = ⟨none, nfAt t.span, t :: rest⟩ := by
        simp only [pLet, hlet, Bool.not_false, if_true]
      have hnf : isNF (nfAt t.span) = true := rfl
      simp only [pStatement, canonTab_length, hl, hl', hnf, Bool.not_true, Bool.false_eq_true, if_false]
      generalize pTabular c (fuelFor (t :: rest).length) (canonTab (t :: rest)) = r' at h1 h2 h3
      generalize pTabular c (fuelFor (t :: rest).length) (t :: rest) = r at h1 h2 h3
      obtain ⟨v', e', rr'⟩ := r'
      obtain ⟨v, e, rr⟩ := r
      simp only at h1 h2 h3
      subst h1 h2
      -- `pStatement` looks at what `pTabular` leaves only through emptiness and the span of its first token:
      -- that is `endSplit`, which `pTabular_canon` keeps (`h3`)
      have key : (rr' = [] ∧ rr = []) ∨ ∃ a ra b rb, rr' = a :: ra ∧ rr = b :: rb ∧ a.span = b.span := by
        rcases rr' with _ | ⟨a, ra⟩ <;> rcases rr with _ | ⟨b, rb⟩
        · exact Or.inl ⟨rfl, rfl⟩
        · simp [errAt] at h3
        · simp [errAt] at h3
        · right
          refine ⟨a, ra, b, rb, rfl, rfl, ?_⟩
          simpa [errAt] using h3
      rcases key with ⟨rfl, rfl⟩ | ⟨a, ra, b, rb, rfl, rfl, hab⟩
      · rfl
      · cases v' <;> simp only [endSplit_cons, hab]

/-- canonicalise every statement of a program (`;`-separated); `n` is fuel: every round consumes a `;`, so
    `ts.length + 1` suffices (read off the recursion; `parseTokens_canon` holds for every `n`) -/
def canonProg : Nat → List Token → List Token
  | 0, ts => ts
  | n + 1, ts =>
    canonStmtToks (splitSemi ts).1 ++
      match (splitSemi ts).2 with
      | [] => []
      | s :: rest => s :: canonProg n rest

theorem canonStmtToks_no_semi (a : List Token) (h : ∀ t ∈ a, t.kind ≠ .semi) :
    ∀ t ∈ canonStmtToks a, t.kind ≠ .semi := by
  intro t ht
  have hk := canonStmtToks_kinds a
  have : t.kind ∈ (canonStmtToks a).map Token.kind := List.mem_map_of_mem ht
  rw [hk] at this
  obtain ⟨u, hu, e⟩ := List.mem_map.mp this
  rw [← e]; exact h u hu

/-- group by group `pStatement` does not see the difference -/
theorem canonProg_groups (c : PCtx) : ∀ (k : Nat) (ts : List Token),
    (semiGroups (canonProg k ts)).map (pStatement c) = (semiGroups ts).map (pStatement c)
  | 0, _ => rfl
  | k + 1, ts => by
    have hns := canonStmtToks_no_semi _ (splitSemi_no_semi ts)
    rw [semiGroups_eq ts]
    rcases splitSemi_rest ts with h | ⟨s, r, h, hs⟩
    · simp only [canonProg, h, List.append_nil, semiGroups_nosemi _ hns, List.map_cons,
        pStatement_canon, List.map_nil]
    · simp only [canonProg, h, semiGroups_append _ s _ hs, semiGroups_nosemi _ hns, List.map_append,
        List.map_cons, List.map_nil, pStatement_canon, canonProg_groups c k r, List.singleton_append]

theorem canonProg_length (k : Nat) : ∀ ts, (canonProg k ts).length = ts.length := by
  induction k with
  | zero => intro ts; rfl
  | succ k ih =>
    intro ts
    have := congrArg List.length (splitSemi_append ts)
    rcases splitSemi_rest ts with h | ⟨s, r, h, hs⟩
    · simp only [canonProg, h, List.append_nil, canonStmtToks_length] at this ⊢
      exact this
    · simp only [canonProg, h, List.length_append, List.length_cons, canonStmtToks_length, ih] at this ⊢
      exact this

theorem parseTokens_canon (n k : Nat) (ts : List Token) :
    parseTokens n (canonProg k ts) = parseTokens n ts := by
  rw [parseTokens_eq_fold, parseTokens_eq_fold, foldStmts, foldStmts,
    ← List.foldl_map (f := pStatement ⟨n⟩) (g := stepAcc), canonProg_groups, List.foldl_map]

end Pql.Layout
