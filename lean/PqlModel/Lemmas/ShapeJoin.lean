/-
Join conditions under a content map.  `buildJoinCondition` synthesises `$left.k == $right.k`
(with zero positions) from a bare key `k`; so it commutes with `mapE` only up to positions — which
the writers never look at (`writeExpr_eraseSp`) — and only if the renaming fixes `$left`/`$right`.
-/
import PqlModel.Lemmas.ShapeOps
namespace Pql

def spErase : CMap := ⟨id, id, id, fun _ => .zero⟩

def eraseSp (e : Expr) : Expr := mapE spErase e

theorem mapC_spErase (c : Chunk) : Chunk.mapC spErase c = c := by cases c <;> rfl

theorem map_mapC_spErase (cs : List Chunk) : cs.map (Chunk.mapC spErase) = cs := by
  induction cs with
  | nil => rfl
  | cons c cs ih => rw [List.map_cons, mapC_spErase, ih]

theorem inertPart_of_fn_id {φ : CMap} (hn : ∀ n, φ.fn n = n) (s : Scope) (m : Mode) (single : Bool) (p : Ident) :
    inertPart s m φ single p = true := by
  have hk : keyName s m single (φ.ident p) = keyName s m single p := by
    simp only [keyName, CMap.ident_name, CMap.ident_quoted, hn]
  simp only [inertPart, hk, hn, beq_self_eq_true]
  cases keyName s m single p <;> rfl

mutual
theorem inertE_of_fn_id {φ : CMap} (hn : ∀ n, φ.fn n = n) (s : Scope) (m : Mode) :
    (e : Expr) → inertE s m φ e = true
  | .nil | .lit .. => by simp only [inertE]
  | .qident parts => by
    simp only [inertE, List.all_eq_true]
    exact fun p _ => inertPart_of_fn_id hn s m _ p
  | .unary _ _ x | .paren _ x _ => by simp only [inertE, inertE_of_fn_id hn s m x]
  | .binary x _ _ y | .index x _ y _ => by
    simp only [inertE, inertE_of_fn_id hn s m x, inertE_of_fn_id hn s m y, Bool.and_self]
  | .inE x _ _ vals _ => by simp only [inertE, inertE_of_fn_id hn s m x, inertL_of_fn_id hn s m vals, Bool.and_self]
  | .call _ _ args _ => by simp only [inertE, inertL_of_fn_id hn s m args]
theorem inertL_of_fn_id {φ : CMap} (hn : ∀ n, φ.fn n = n) (s : Scope) (m : Mode) :
    (es : ExprList) → inertL s m φ es = true
  | .nil => by simp only [inertL]
  | .cons e es => by simp only [inertL, inertE_of_fn_id hn s m e, inertL_of_fn_id hn s m es, Bool.and_self]
end

theorem writeExpr_eraseSp (src src' : Bytes) (s : Scope) (m : Mode) (e : Expr) :
    writeExpr ⟨src', s, m⟩ (eraseSp e) = writeExpr ⟨src, s, m⟩ e := by
  have hs : ScopeRel (MapsTo spErase) s s := by
    intro n
    cases lookupScope s n with
    | none => exact .none
    | some v => exact .some (map_mapC_spErase v).symm
  have h := (mapE_rel (src := src) (src' := src') (m := m) (MapsTo.cong spErase).toWCong hs e
    (inertE_of_fn_id (fun _ => rfl) _ _ e)).mapsTo_eq
  rw [eraseSp, h]
  cases writeExpr ⟨src, s, m⟩ e with
  | error err => rfl
  | ok v => exact congrArg Except.ok (map_mapC_spErase v)

theorem writeExpr_of_eraseSp_eq (src src' : Bytes) (s : Scope) (m : Mode) {e e' : Expr}
    (h : eraseSp e = eraseSp e') : writeExpr ⟨src, s, m⟩ e = writeExpr ⟨src', s, m⟩ e' := by
  rw [← writeExpr_eraseSp src src s m e, h, writeExpr_eraseSp]

theorem needsWrap_of_eraseSp_eq {e e' : Expr} (h : eraseSp e = eraseSp e') : needsWrap e = needsWrap e' := by
  have h1 := needsWrap_mapE spErase e
  have h2 := needsWrap_mapE spErase e'
  unfold eraseSp at h
  rw [← h1, h, h2]

section
variable {φ : CMap} {s : Scope}

def fixesAliases (φ : CMap) : Bool := φ.fn leftAlias == leftAlias && φ.fn rightAlias == rightAlias

theorem builtin_of_inert {p : Ident} (h : inertPart s .join φ true p = true) (hq : p.quoted = false) :
    (builtinIdent (φ.fn p.name)).isSome = (builtinIdent p.name).isSome := by
  have := inertPart_pred h (fun n q => !q && (builtinIdent n).isSome) (by
    intro q hk
    simp only [keyName, Bool.or_eq_false_iff, Bool.and_eq_false_iff, Bool.true_and] at hk
    cases hqq : q.quoted with
    | true => rfl
    | false =>
      have h2 := hk.2
      simp only [hqq, Bool.not_false, Bool.true_eq_false, false_or] at h2
      simp only [Bool.not_false, Bool.true_and]
      exact h2.2)
  simpa only [CMap.ident_name, CMap.ident_quoted, hq, Bool.not_false, Bool.true_and] using this

theorem rewriteSimple_mapE (hf : fixesAliases φ = true) (y : Expr) (hi : inertE s .join φ y = true) :
    eraseSp (rewriteSimpleJoinCondition (mapE φ y)) = eraseSp (mapE φ (rewriteSimpleJoinCondition y)) := by
  simp only [fixesAliases, Bool.and_eq_true, beq_iff_eq] at hf
  cases y with
  | qident parts =>
    match parts, hi with
    | [], _ => simp only [mapE, List.map_nil, rewriteSimpleJoinCondition]
    | _ :: _ :: _, _ => simp only [mapE, List.map_cons, rewriteSimpleJoinCondition]
    | [p], hi =>
      simp only [inertE, List.all_cons, List.all_nil, Bool.and_true, List.length_cons, List.length_nil,
        Nat.zero_add, beq_self_eq_true] at hi
      simp only [mapE, List.map_cons, List.map_nil, rewriteSimpleJoinCondition, CMap.ident_quoted, CMap.ident_name]
      cases hq : p.quoted with
      | true => simp only [Bool.true_or, if_true, mapE, List.map_cons, List.map_nil]
      | false =>
        rw [builtin_of_inert hi hq]
        cases (builtinIdent p.name).isSome with
        | true => simp only [Bool.or_true, if_true, mapE, List.map_cons, List.map_nil]
        | false =>
          simp only [Bool.or_false, Bool.false_eq_true, if_false, eraseSp, mapE, List.map_cons, List.map_nil,
            CMap.ident, spErase, id, hf.1, hf.2]
  | _ => simp only [mapE, rewriteSimpleJoinCondition]

/-- inertness passes from a bare key `k` to `$left.k == $right.k` -/
theorem inert_key (hf : fixesAliases φ = true) (p : Ident) (hi : inertE s .join φ (.qident [p]) = true) :
    inertE s .join φ (.binary (.qident [⟨leftAlias, .zero, false⟩, p]) .zero .eq
      (.qident [⟨rightAlias, .zero, false⟩, p])) = true := by
  simp only [fixesAliases, Bool.and_eq_true, beq_iff_eq] at hf
  simp only [inertE, List.all_cons, List.all_nil, Bool.and_true, List.length_cons, List.length_nil,
    Nat.zero_add, beq_self_eq_true] at hi
  have hL : inertPart s .join φ false ⟨leftAlias, .zero, false⟩ = true := by
    have hk : keyName s .join false ⟨leftAlias, .zero, false⟩ = true := by
      simp only [keyName, isAlias, beq_self_eq_true, Bool.true_or, Bool.not_false, Bool.and_self,
        Bool.false_and, Bool.or_false]
    simp only [inertPart, hk, if_true, hf.1, beq_self_eq_true]
  have hR : inertPart s .join φ false ⟨rightAlias, .zero, false⟩ = true := by
    have hk : keyName s .join false ⟨rightAlias, .zero, false⟩ = true := by
      simp only [keyName, isAlias, beq_self_eq_true, Bool.or_true, Bool.not_false, Bool.and_self,
        Bool.false_and, Bool.or_false]
    simp only [inertPart, hk, if_true, hf.2, beq_self_eq_true]
  have hp : inertPart s .join φ false p = true := by
    -- the key names of a qualified part are among those of a single part
    cases hk : keyName s .join true p with
    | true =>
      have hn := inertPart_key hi hk
      have hk' : keyName s .join false (φ.ident p) = keyName s .join false p := by
        simp only [keyName, CMap.ident_name, CMap.ident_quoted, hn]
      simp only [inertPart, hk', hn, beq_self_eq_true]
      cases keyName s .join false p <;> rfl
    | false =>
      have hk2 := inertPart_notKey hi hk
      have e1 : keyName s .join false p = false := by
        simp only [keyName, Bool.or_eq_false_iff] at hk ⊢
        exact ⟨hk.1, by simp only [Bool.false_and]⟩
      have e2 : keyName s .join false (φ.ident p) = false := by
        simp only [keyName, Bool.or_eq_false_iff] at hk2 ⊢
        exact ⟨hk2.1, by simp only [Bool.false_and]⟩
      simp only [inertPart, e1, e2, Bool.false_eq_true, if_false, Bool.not_false]
  simp only [inertE, List.all_cons, List.all_nil, Bool.and_true, List.length_cons, List.length_nil,
    Nat.zero_add, show ((1 + 1 : Nat) == 1) = false by decide, hL, hR, hp, Bool.and_self]

theorem eraseSp_binary (x : Expr) (sp : Span) (op : TokKind) (y : Expr) :
    eraseSp (.binary x sp op y) = .binary (eraseSp x) .zero op (eraseSp y) := by
  simp only [eraseSp, mapE, spErase]

theorem buildJoinGo_mapE (hf : fixesAliases φ = true) : (ys : ExprList) → inertL s .join φ ys = true →
    (x x' : Expr) → eraseSp x' = eraseSp (mapE φ x) →
    eraseSp (buildJoinCondition.go x' (mapL φ ys)) = eraseSp (mapE φ (buildJoinCondition.go x ys))
  | .nil, _, x, x', hx => by simpa only [mapL, buildJoinCondition.go] using hx
  | .cons y ys, hi, x, x', hx => by
    simp only [inertL, Bool.and_eq_true] at hi
    simp only [mapL, buildJoinCondition.go]
    refine buildJoinGo_mapE hf ys hi.2 _ _ ?_
    simp only [mapE, eraseSp_binary, hx, rewriteSimple_mapE hf y hi.1]

variable {R : List Chunk → List Chunk → Prop} {src src' : Bytes} {s' : Scope}

theorem buildJoin_rel (hR : WCong φ R) (hs : ScopeRel R s s') (hf : fixesAliases φ = true)
    (conds : ExprList) (hi : inertL s .join φ conds = true) :
    ExRel R (writeExpr ⟨src, s, .join⟩ (buildJoinCondition conds))
      (writeExpr ⟨src', s', .join⟩ (buildJoinCondition (mapL φ conds))) := by
  cases conds with
  | nil =>
    simp only [mapL, buildJoinCondition]
    rw [writeExpr_qident_single, writeExpr_qident_single]
    simp only [Bool.false_eq_true, if_false]
    have hsc := hs (Bytes.ofString "true")
    revert hsc
    generalize lookupScope s (Bytes.ofString "true") = l1
    generalize lookupScope s' (Bytes.ofString "true") = l2
    intro hsc
    cases hsc with
    | some hab => exact hab
    | none =>
      have hb : builtinIdent (Bytes.ofString "true") = some "TRUE" := by decide
      simp only [hb]
      exact hR.txt _
  | cons c cs =>
    simp only [inertL, Bool.and_eq_true] at hi
    simp only [mapL, buildJoinCondition]
    have he := buildJoinGo_mapE hf cs hi.2 (rewriteSimpleJoinCondition c) (rewriteSimpleJoinCondition (mapE φ c))
      (rewriteSimple_mapE hf c hi.1)
    rw [writeExpr_of_eraseSp_eq src' src' _ _ he]
    exact mapE_rel hR hs _ (buildJoinCondition_go_of (PL := fun es => inertL s .join φ es = true) (inert_key hf)
      (fun _ _ h => by simpa only [inertL, Bool.and_eq_true] using h)
      (fun _ _ hx hy => by simp only [inertE, hx, hy, Bool.and_self]) cs _
      (rewriteSimpleJoinCondition_of (inert_key hf) hi.1) hi.2)

end

end Pql
