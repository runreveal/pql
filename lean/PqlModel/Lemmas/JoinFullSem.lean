/-
The side conditions on a whole tabular expression (`tabOpsOk`); the table the next link of a block reads,
by name (`cur`) and as the value of the block's last link (`val`: equal when the names are fresh,
`cur_eq_val`); and the two ways a join-free operator changes the block: a new link (`push_sem`) or
ORDER BY / LIMIT attached to the last one (`attach_sem`).
-/
import PqlModel.Lemmas.JoinFullEval
import PqlModel.Lemmas.SplitABlock
namespace Pql.JoinFull
open Pql Sql CompileOracle Intended SplitQ SelSem C02

def sortTermsOf : Op → List SortTerm
  | .sort _ _ ts => ts
  | .top _ _ _ _ (some c) => [c]
  | _ => []

mutual
/-- the side conditions of the general theorem, on the whole tabular expression: every operator
    satisfies its aggregate side condition (`C02.opOk`), also in the right-hand pipelines of
    joins; a `sort` / `top` DIRECTLY after a join (it becomes the ORDER BY of the join's own SELECT)
    does not mention `$left.…` / `$right.…` -/
def tabOpsOk : Tabular → Bool
  | .nil => true
  | .mk _ ops => opsOkJ false ops
/-- `aj`: the previous operator was a join -/
def opsOkJ (aj : Bool) : OpList → Bool
  | .nil => true
  | .cons o rest => opOkJ aj o && opsOkJ (isJoin o) rest
def opOkJ (aj : Bool) : Op → Bool
  | .join _ _ _ _ _ _ right _ _ _ => tabOpsOk right
  | o => opOk o && (!aj || aliasFreeTerms (sortTermsOf o))
end

theorem opOkJ_of_not_join (aj : Bool) (o : Op) (h : isJoin o = false) :
    opOkJ aj o = (opOk o && (!aj || aliasFreeTerms (sortTermsOf o))) := by
  cases o <;> first | rfl | simp [isJoin] at h

theorem opOkJ_mono (o : Op) (h : opOkJ true o = true) (aj : Bool) : opOkJ aj o = true := by
  cases aj
  · cases o with
    | join => simpa [opOkJ] using h
    | _ =>
      simp only [opOkJ, Bool.and_eq_true] at h ⊢
      exact ⟨h.1, by simp⟩
  · exact h

def openJoinL (N : List SubA) : Bool :=
  match N.getLast? with
  | some l => isJoinSrc l.source && l.sort.isNone && l.take.isNone
  | none => false

theorem openJoinL_snoc (N : List SubA) (a : SubA) :
    openJoinL (N ++ [a]) = (isJoinSrc a.source && a.sort.isNone && a.take.isNone) := by
  simp [openJoinL]

def cur (src : Bytes) (db : DB) (E : List (Bytes × Table)) (source : Option Ident) (N : List SubA) : Table :=
  lookupTable db (evalLinks src db E N) (C05.prevNameA source N)

theorem prevNameA_snoc (source : Option Ident) (N : List SubA) (a : SubA) :
    C05.prevNameA source (N ++ [a]) = a.name := by
  simp [C05.prevNameA]

theorem prevNameA_nil (source : Option Ident) : C05.prevNameA source [] = identName source := rfl

theorem prevNameA_ne_nil (s1 s2 : Option Ident) (N : List SubA) (h : N ≠ []) :
    C05.prevNameA s1 N = C05.prevNameA s2 N := by
  rcases List.eq_nil_or_concat N with rfl | ⟨N0, l, rfl⟩
  · exact absurd rfl h
  · simp [C05.prevNameA]

theorem prevNameA_eq_lastName (source : Option Ident) (R : List SubA) (h : R ≠ []) :
    C05.prevNameA source R = JoinSem.lastName R := by
  rcases List.eq_nil_or_concat R with rfl | ⟨R0, l, rfl⟩
  · exact absurd rfl h
  · simp [C05.prevNameA, JoinSem.lastName]

theorem uniqueOf_eq (flavor : Option Ident) :
    C05.uniqueOf flavor = (JoinSem.kindOf flavor == Bytes.ofString "innerunique") := by
  cases flavor <;> rfl

theorem leftOf_some {flavor : Option Ident} {left : Bool} (h : C05.leftOf flavor = some left) :
    left = (JoinSem.kindOf flavor == Bytes.ofString "leftouter") := by
  unfold C05.leftOf C05.uniqueOf at h
  split at h
  · rename_i hk
    cases h
    simp only [Bool.or_eq_true, beq_iff_eq] at hk
    rcases hk with hk | hk <;> rw [hk] <;> decide
  · split at h
    · rename_i hk; cases h; exact hk.symm
    · cases h

theorem cur_nil (src : Bytes) (db : DB) (E : List (Bytes × Table)) (source : Option Ident) :
    cur src db E source [] = lookupTable db E (identName source) := rfl

def FreshNames (E : List (Bytes × Table)) (ns : List Bytes) : Prop :=
  ns.Nodup ∧ ∀ n ∈ ns, n ∉ E.map (·.1)

theorem FreshNames.prefix {E : List (Bytes × Table)} {ns extra : List Bytes} (h : FreshNames E (ns ++ extra)) :
    FreshNames E ns :=
  ⟨(List.nodup_append.mp h.1).1, fun n hn => h.2 n (List.mem_append_left _ hn)⟩

theorem FreshNames.suffix {E : List (Bytes × Table)} {ns extra : List Bytes} (h : FreshNames E (ns ++ extra)) :
    extra.Nodup ∧ ∀ n ∈ extra, n ∉ E.map (·.1) ++ ns := by
  refine ⟨(List.nodup_append.mp h.1).2.1, fun n hn hmem => ?_⟩
  rcases List.mem_append.mp hmem with hm | hm
  · exact h.2 n (List.mem_append_right _ hn) hm
  · exact (List.nodup_append.mp h.1).2.2 n hm n hn rfl

theorem FreshNames.sublist {E : List (Bytes × Table)} {ns ns' : List Bytes} (hs : ns.Sublist ns')
    (h : FreshNames E ns') : FreshNames E ns :=
  ⟨h.1.sublist hs, fun n hn => h.2 n (hs.subset hn)⟩

theorem FreshNames.dropLast {E : List (Bytes × Table)} {N : List SubA} (h : FreshNames E (N.map (·.name))) :
    FreshNames E (N.dropLast.map (·.name)) :=
  h.sublist ((List.dropLast_sublist N).map (·.name))

theorem dropLast_names_sublist {N N' : List SubA} {extra : List Bytes}
    (hn : N'.map (·.name) = N.map (·.name) ++ extra) :
    (N.dropLast.map (·.name)).Sublist (N'.dropLast.map (·.name)) := by
  rw [List.map_dropLast, List.map_dropLast, hn]
  cases extra with
  | nil => simp
  | cons e es =>
    rw [List.dropLast_append_of_ne_nil (by simp)]
    exact (List.dropLast_sublist _).trans (List.sublist_append_left ..)

theorem FreshNames.dropLast_of_append {E : List (Bytes × Table)} {N N' : List SubA} {extra : List Bytes}
    (hn : N'.map (·.name) = N.map (·.name) ++ extra) (h : FreshNames E (N'.dropLast.map (·.name))) :
    FreshNames E (N.dropLast.map (·.name)) :=
  h.sublist (dropLast_names_sublist hn)

theorem cur_snoc (src : Bytes) (db : DB) (E : List (Bytes × Table)) (source : Option Ident) (N : List SubA) (a : SubA)
    (hnd : FreshNames E ((N ++ [a]).map (·.name))) :
    cur src db E source (N ++ [a]) = linkVal src db (evalLinks src db E N) a := by
  unfold cur
  rw [prevNameA_snoc, evalLinks_snoc]
  apply JoinSem.lookupTable_snoc_self
  rw [evalLinks_names]
  rw [List.map_append] at hnd
  exact hnd.suffix.2 a.name (by simp)

/-- the value of the block's last link (the table `identName source` denotes, for the empty block): what
    `cur` looks up when the last name is fresh (`cur_eq_val`), and what the statement's body computes
    whether it is or not -/
def val (src : Bytes) (db : DB) (E : List (Bytes × Table)) (source : Option Ident) (N : List SubA) : Table :=
  match N.getLast? with
  | some a => linkVal src db (evalLinks src db E N.dropLast) a
  | none => lookupTable db E (identName source)

theorem val_snoc (src : Bytes) (db : DB) (E : List (Bytes × Table)) (source : Option Ident) (N : List SubA) (a : SubA) :
    val src db E source (N ++ [a]) = linkVal src db (evalLinks src db E N) a := by
  simp [val]

theorem cur_eq_val (src : Bytes) (db : DB) (E : List (Bytes × Table)) (source : Option Ident) (N : List SubA)
    (hnd : FreshNames E (N.map (·.name))) : cur src db E source N = val src db E source N := by
  rcases List.eq_nil_or_concat N with rfl | ⟨N0, a, rfl⟩
  · rfl
  · rw [List.concat_eq_append] at hnd ⊢
    rw [cur_snoc src db E source N0 a hnd, val_snoc]

theorem push_sem (src : Bytes) (db : DB) (E : List (Bytes × Table)) (source : Option Ident) (N : List SubA) (a : SubA)
    (ha : a.source = .table (C05.prevNameA source N))
    (hnd : FreshNames E (N.map (·.name))) :
    val src db E source (N ++ [a]) = subEvalA src db (val src db E source N) a := by
  rw [val_snoc, ← cur_eq_val src db E source N hnd]
  simp only [linkVal, ha, srcVal, cur]

theorem attach_sem (src : Bytes) (db : DB) (E : List (Bytes × Table)) (source : Option Ident) (N0 : List SubA)
    (l l' : SubA) (extra : List Clause)
    (hsrc : l'.source = l.source) (hcl : subClausesA l' = subClausesA l ++ extra) :
    val src db E source (N0 ++ [l']) = extra.foldl (interpClause src db) (val src db E source (N0 ++ [l])) := by
  simp only [val_snoc, linkVal, subEvalA, hsrc, hcl, List.foldl_append]

theorem subEvalA_of_clauses (src : Bytes) (db : DB) (t : Table) (a : SubA) (o : Op) (hj : isJoin o = false)
    (h : subClausesA a = opClauses o) : subEvalA src db t a = Rel.interpOp src db t o := by
  rw [interpOp_eq_clauses src db t o hj, subEvalA, h]

end Pql.JoinFull
