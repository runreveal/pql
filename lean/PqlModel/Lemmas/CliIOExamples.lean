/-
C16 input/output: concrete scripts (non-vacuity) and counterexamples for the hypotheses of the
theorems in Props/C16IO.lean.  Everything here is a kernel-checked evaluation of the model
(`decide`; `decide +kernel` where `scan`, a well-founded recursion, is involved), except the three facts about a
line of 65536 bytes, which is cut by `rawLines_one_line` / `splitLines_line` and not evaluated, and the negated
existential of `lines_prefix_needs_error`, refuted by comparing lengths.  Long string literals are first
rewritten to the lists of their characters (`Bytes.ofString_ofList`): the kernel turns a literal into bytes in time
quadratic in its length.

`stub` stands in for `pql.Compile`: it fails on the empty text and on any text containing '!',
otherwise "compiles" to the text with its newlines removed (so the prelude handed to it is
visible in the output).
-/
import PqlModel.Lemmas.CliIOMulti
import PqlModel.Lemmas.CliIOLines
import PqlModel.Lemmas.CliIOSpec
import PqlModel.Base.BytesLemmas
namespace Pql.CliIO
open Pql Pql.CliSpec

def stub (s : Bytes) : Option Bytes :=
  if s.isEmpty || s.contains 33 then none else some (s.filter (· != 10))

local notation "E" => Bytes.ofString

/-- accepted let, query, failing query, failing let (not in later preludes), second let, two
    statements on one line, unterminated last statement: 3 SQL texts in statement order, each
    with the lets accepted before it, 2 logged errors, exit status non-zero -/
theorem ex_script :
    cliMain stub (E "let a = 1;\nX;\n!bad;\nlet !b = 2;\nlet c = 3; Y;\nZ") =
      ⟨E "let a = 1;X\n\nlet a = 1;let c = 3; Y\n\nlet a = 1;let c = 3;Z\n\n", 2, true⟩ := by
  rw [Bytes.ofString_ofList, Bytes.ofString_ofList]
  decide +kernel

theorem ex_script_outcomes :
    allOutcomes stub (splitStatements (crlfToLf (ensureNL
      (E "let a = 1;\nX;\n!bad;\nlet !b = 2;\nlet c = 3; Y;\nZ")))) =
    [.letOk, .sql (E "let a = 1;X"), .queryFail, .letFail, .letOk,
      .sql (E "let a = 1;let c = 3; Y"), .sql (E "let a = 1;let c = 3;Z")] := by
  iterate 4 rw [Bytes.ofString_ofList]
  decide +kernel

/-- the same script with `\r\n` line ends and a final `\r`: same result -/
theorem ex_script_crlf :
    cliMain stub (E "let a = 1;\r\nX;\r\n!bad;\r\nlet !b = 2;\r\nlet c = 3; Y;\r\nZ\r") =
      cliMain stub (E "let a = 1;\nX;\n!bad;\nlet !b = 2;\nlet c = 3; Y;\nZ") := by
  rw [Bytes.ofString_ofList, Bytes.ofString_ofList]
  decide +kernel

/-- an empty statement is a statement (it fails), an empty input is nothing -/
theorem ex_empty_statement :
    cliMain stub (E "X;;Y") = ⟨E "X\n\nY\n\n", 1, true⟩ ∧ cliMain stub [] = ⟨[], 0, false⟩ ∧
    cliMain stub (E "X;\n") = ⟨E "X\n\n", 0, false⟩ := by
  decide +kernel

/-- the records with their preludes: the failed let is not in the prelude of `X` -/
theorem ex_steps :
    steps stub [] [E "let a", E "let !b", E "X"] =
      [⟨[], E "let a", .letOk⟩, ⟨E "let a;\n", E "let !b", .letFail⟩,
        ⟨E "let a;\n", E "X", .sql (E "let a;X")⟩] := by
  decide +kernel

/-- which `\r` go: the one before '\n' and the one at the very end of an unterminated input -/
theorem ex_lines :
    bufioLines [97, 13, 13, 10, 13, 98, 13] = ([[97, 13], [13, 98]], false) ∧
    crlfToLf (ensureNL [97, 13, 13, 10, 13, 98, 13]) = [97, 13, 10, 13, 98, 10] ∧
    bufioLines [13] = ([[]], false) ∧ bufioLines [97] = ([[97]], false) ∧
    bufioLines [97, 10] = ([[97]], false) ∧ bufioLines [] = ([], false) ∧
    bufioLines [10, 10] = ([[], []], false) := by
  decide

/-- `C16_lines_identity` needs "no `\r\n`" -/
theorem lines_identity_needs_no_crlf :
    (bufioLines [13, 10]).2 = false ∧ normalise (bufioLines [13, 10]).1 ≠ ensureNL [13, 10] := by
  decide

/-- `normalise_inj` needs '\n'-free lines -/
theorem normalise_inj_needs_no_nl : normalise [[10]] = normalise [[], []] ∧ [[(10 : UInt8)]] ≠ [[], []] := by
  decide

/-- `rawLines_one_line` needs both hypotheses -/
theorem rawLines_one_line_needs : rawLines [] ≠ [[]] ∧ rawLines [10] ≠ [[10]] := by decide

theorem long_line :
    List.replicate maxLine (97 : UInt8) ≠ [] ∧ (10 : UInt8) ∉ List.replicate maxLine (97 : UInt8) :=
  ⟨fun h0 => absurd (congrArg List.length h0) (by rw [List.length_replicate]; decide),
    fun hm => by have := List.eq_of_mem_replicate hm; simp at this⟩

/-- `C16_lines_lossless` needs "no over-long line": behind one, nothing is delivered -/
theorem lines_lossless_needs_short :
    (bufioLines (List.replicate maxLine 97)).2 = true ∧
    normalise (bufioLines (List.replicate maxLine 97)).1 ≠
      crlfToLf (ensureNL (List.replicate maxLine 97)) := by
  obtain ⟨hne, hnl⟩ := long_line
  have hb : bufioLines (List.replicate maxLine 97) = ([], true) := by
    rw [bufioLines_eq, rawLines_one_line _ hne hnl]
    simp
  rw [hb]
  refine ⟨rfl, fun h => ?_⟩
  have h2 := congrArg (List.filter (· != 13)) h
  rw [crlfToLf_filter, ensureNL_no_nl _ hne hnl] at h2
  simp [normalise] at h2

/-- `C16_lines_prefix` needs the read error: without an over-long line there is none to find -/
theorem lines_prefix_needs_error :
    (bufioLines []).2 = false ∧
    ¬ ∃ (pre : List Bytes) (long : Bytes) (rest : List Bytes),
      ensureNL [] = normalise (pre ++ long :: rest) := by
  refine ⟨by decide, ?_⟩
  rintro ⟨pre, long, rest, h⟩
  have := congrArg List.length h
  simp [ensureNL, normalise] at this

/-- When reading stops at an over-long
    line, the statement that was being collected is cut off there and still compiled — its SQL
    is written (the failure is logged and the exit status is non-zero).  Here the input is
    `T`, newline, then a line of 65536 bytes that would continue the statement. -/
theorem truncated_statement_is_compiled :
    cliMain stub (E "T\n" ++ List.replicate maxLine 97) = ⟨E "T\n\n", 1, true⟩ := by
  obtain ⟨hne, hnl⟩ := long_line
  have hraw : rawLines (E "T\n" ++ List.replicate maxLine 97) = [E "T", List.replicate maxLine 97] := by
    rw [show E "T\n" = E "T" ++ [10] by decide, List.append_assoc, List.singleton_append, rawLines,
      splitLines_line _ (by decide), ← rawLines, rawLines_one_line _ hne hnl]
    rfl
  have hb : bufioLines (E "T\n" ++ List.replicate maxLine 97) = ([E "T"], true) := by
    rw [bufioLines_eq, hraw]
    have h1 : decide ((E "T").length < maxLine) = true := by decide
    have h2 : decide ((List.replicate maxLine (97 : UInt8)).length < maxLine) = false := by
      rw [List.length_replicate]; simp
    have h3 : dropCR (E "T") = E "T" := by decide
    have h4 : decide (maxLine ≤ (List.replicate maxLine (97 : UInt8)).length) = true := by
      rw [List.length_replicate]; simp
    rw [List.takeWhile_cons, if_pos h1, List.takeWhile_cons, h2]
    simp only [Bool.false_eq_true, if_false, List.map_cons, List.map_nil, h3, List.any_cons, h4,
      Bool.true_or, Bool.or_true]
  unfold cliMain
  simp only [hb]
  decide +kernel

theorem multi_noErr_needed :
    noErr [[([1], .err)]] = false ∧
    inputStream [[([1], .err)]] ≠
      ((([[([1], .err)]] : List Reader).map fun r => (Reader.content r).1).flatten, .eof) := by
  decide

theorem multi_noErr_nonvacuous :
    noErr [[([1], .ok), ([], .ok), ([2], .eof)], [], [([3], .ok)]] = true ∧
    inputStream [[([1], .ok), ([], .ok), ([2], .eof)], [], [([3], .ok)]] = ([1, 2, 3], .eof) := by
  decide

theorem reader_alone_fuel_tight :
    drain Reader.read ([([1], Status.ok)] : Reader).length [([1], .ok)] = ([1], .outOfFuel) := by
  decide

theorem multi_chunking_needs_same_contents :
    inputStream [[([1], .eof)]] ≠ inputStream [[([2], .eof)]] := by decide

theorem multi_chunking_nonvacuous :
    ([[([1, 2], .eof)], [([3], .ok)]] : List Reader).map Reader.content =
      ([[([1], .ok), ([], .ok), ([2], .ok)], [([], .ok), ([3], .eof), ([9], .ok)]] : List Reader).map
        Reader.content := by decide

/-- `C16_failure_isolated` needs `post ≠ []`: appended at the very end, the failing `s` (here
    an empty piece) takes the place of the unterminated last piece -/
theorem failure_isolated_needs_post :
    (outcome stub (preludeAfter [] (steps stub [] [E "X"])) []).failed = true ∧
    runPieces stub ([E "X"] ++ [] :: []) false = ⟨E "X\n\n", 0, false⟩ ∧
    runPieces stub ([E "X"] ++ []) false = ⟨E "X\n\n", 0, false⟩ := by
  decide +kernel

/-- `C16_failure_isolated` needs the inserted statement to fail -/
theorem failure_isolated_needs_failure :
    (outcome stub (preludeAfter [] (steps stub [] [E "X"])) (E "Y")).failed = false ∧
    runPieces stub ([E "X"] ++ E "Y" :: [[]]) false = ⟨E "X\n\nY\n\n", 0, false⟩ ∧
    runPieces stub ([E "X"] ++ [[]]) false = ⟨E "X\n\n", 0, false⟩ := by
  decide +kernel

/-- non-vacuity: a failing query and a failing let between two statements -/
theorem failure_isolated_nonvacuous :
    (outcome stub (preludeAfter [] (steps stub [] [E "let a"])) (E "!")).failed = true ∧
    (outcome stub (preludeAfter [] (steps stub [] [E "let a"])) (E "let !")).failed = true ∧
    runPieces stub ([E "let a"] ++ E "!" :: [E "X", []]) false = ⟨E "let a;X\n\n", 1, true⟩ ∧
    runPieces stub ([E "let a"] ++ E "let !" :: [E "X", []]) false = ⟨E "let a;X\n\n", 1, true⟩ ∧
    runPieces stub ([E "let a"] ++ [E "X", []]) false = ⟨E "let a;X\n\n", 0, false⟩ := by
  decide +kernel

/-- `C16_failed_let_not_in_prelude` needs the failure: an accepted let changes the prelude -/
theorem accepted_let_changes_prelude :
    steps stub [] [E "let a", E "X"] =
      [] ++ ⟨[], E "let a", .letOk⟩ :: ⟨E "let a;\n", E "X", .sql (E "let a;X")⟩ :: [] := by
  decide +kernel

/-- `nFailed_of_total` needs a `compile` that never fails -/
theorem nFailed_of_total_needs : nFailed (allOutcomes (fun _ => none) [E "X", []]) = 1 := by
  decide +kernel

end Pql.CliIO
