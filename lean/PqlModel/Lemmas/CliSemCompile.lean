/-
Property C16, semantic half — the prelude text IS the scope.

`Compile` sees of leading `let` statements only the name and the position-free value (`letKey`), and of the rest the
trees up to a uniform shift with the text before them (`compileChunks_behind`).  So compiling `preludeOf ls ++ s` is
compiling `s` with the lets of `ls`, each parsed on its own, in scope (`prelude_compile`); the probe
`preludeOf ls ++ l ++ ";X"` is the case `s = l ++ ";X"`, in which `X` always compiles.
-/
import PqlModel.Lemmas.CliSemParse
import PqlModel.Lemmas.CliSemShift
import PqlModel.Lemmas.CliSemSpans
import PqlModel.Lemmas.LexFollower
import PqlModel.Props.C06Subst
namespace Pql.CliSem
open Pql Pql.Piecewise

theorem semiClosed_of_reaches {l v : Bytes} (h : Reaches (l ++ 59 :: v) l.length) : SemiClosed l :=
  fun z => reaches_semi_indep l v z h

theorem semiClosed_iff (l : Bytes) : SemiClosed l ↔ SemiEnds l :=
  ⟨fun h => h [], fun h => semiClosed_of_reaches h⟩

/-- what `SplitStatements` guarantees of a ';'-terminated piece (`termPiece_of_split`): the ';' behind it is a token whatever
    follows, and none of its own tokens is a ';' -/
def TermPiece (l : Bytes) : Prop := SemiClosed l ∧ ∀ t ∈ scan l, t.kind ≠ .semi

theorem termPiece_of_split (text : Bytes) : ∀ p ∈ (splitStatements text).dropLast, TermPiece p :=
  splitStatements_induct (P := fun _ ps => ∀ p ∈ ps.dropLast, TermPiece p)
    (fun _ _ p hp => by simp at hp)
    (fun u v hr hu ih p hp => by
      rw [List.dropLast_cons_of_ne_nil (splitStatements_ne_nil v)] at hp
      rcases List.mem_cons.mp hp with rfl | hp
      · exact ⟨semiClosed_of_reaches hr, hu⟩
      · exact ih p hp) text

/-- what `Compile` reads of a `let` statement: its name and its value without the positions; `none` for a query -/
def letKey : Stmt → Option (Option Bytes × Expr)
  | .let_ _ n _ x => some (n.map (·.name), eraseSp x)
  | .tabular _ => none

/-- `IsLets` (Lemmas/StmtLoop.lean) said with `letKey`; `isLets_of_allLets` hands over to the lemmas about `IsLets` -/
def AllLets (L : List Stmt) : Prop := ∀ st ∈ L, (letKey st).isSome = true

theorem isLets_of_allLets {L : List Stmt} (h : AllLets L) : IsLets L := by
  intro st hst
  have := h st hst
  cases st with
  | let_ kw n a x => exact ⟨kw, n, a, x, rfl⟩
  | tabular t => simp [letKey] at this

theorem colsGoodStmt_of_let {st : Stmt} (h : (letKey st).isSome = true) : colsGoodStmt st = true := by
  cases st with
  | let_ => rfl
  | tabular t => simp [letKey] at h

/- erasing all positions after moving them is erasing them: both are span maps, `toZero ∘ f = toZero` -/
theorem eraseSp_shExpr (d : Nat) (e : Expr) : eraseSp (shExpr d e) = eraseSp e := by
  rw [shExpr_eq]
  exact ((mapE_spMap Layout.toZero _).trans (Layout.mapExpr_comp _ _ e)).trans (mapE_spMap Layout.toZero e).symm

theorem eraseSpL_shExpr (d : Nat) : (es : ExprList) → mapL spErase (shExprList d es) = mapL spErase es := by
  intro es
  rw [shExprList_eq]
  exact ((mapL_spMap Layout.toZero _).trans (Layout.mapExprList_comp _ _ es)).trans (mapL_spMap Layout.toZero es).symm

theorem letKey_shStmt (d : Nat) (st : Stmt) : letKey (shStmt d st) = letKey st := by
  cases st with
  | tabular t => rfl
  | let_ kw n a x =>
    simp only [shStmt, letKey, eraseSp_shExpr]
    cases n <;> rfl

theorem wrapTight_of_eraseSp_eq {x x' : Expr} (h : eraseSp x = eraseSp x') : wrapTight x = wrapTight x' := by
  have h1 := wrapTight_mapE spErase x
  have h2 := wrapTight_mapE spErase x'
  unfold eraseSp at h
  rw [← h1, ← h2, h]

/-- **The statement loop sees of leading `let` statements only their keys**, and not the source
    text: lets with the same keys, against any two texts, lead to the same scope. -/
theorem compileStmts_lets_congr (src src' : Bytes) {tail tail' : List Stmt}
    (ht : ∀ scope, compileStmts src tail scope none = compileStmts src' tail' scope none) :
    ∀ (A B : List Stmt), A.map letKey = B.map letKey → AllLets A → ∀ scope,
      compileStmts src (A ++ tail) scope none = compileStmts src' (B ++ tail') scope none
  | [], [], _, _, scope => ht scope
  | [], _ :: _, h, _, _ => by simp at h
  | _ :: _, [], h, _, _ => by simp at h
  | .tabular _ :: _, _ :: _, _, hA, _ => by simpa [letKey] using hA _ (List.mem_cons_self ..)
  | .let_ kw n asg x :: A, b :: B, h, hA, scope => by
    simp only [List.map_cons, List.cons.injEq] at h
    cases b with
    | tabular t => simp [letKey] at h
    | let_ kw' n' asg' x' =>
      simp only [letKey, Option.some.injEq, Prod.mk.injEq] at h
      obtain ⟨⟨hn, hx⟩, hrest⟩ := h
      have ih := compileStmts_lets_congr src src' ht A B hrest fun st hst => hA st (List.mem_cons_of_mem _ hst)
      simp only [List.cons_append, compileStmts]
      rw [writeExpr_of_eraseSp_eq src src' _ _ hx, wrapTight_of_eraseSp_eq hx]
      cases (writeExpr ⟨src', scope, .let_⟩ x').map (wrapTight x') with
      | error e => rfl
      | ok sql =>
        cases n <;> cases n' <;> simp only [Option.map_some, Option.map_none, Option.some.injEq, reduceCtorEq] at hn
        · rfl
        · simp only [hn]
          exact ih _

theorem compileChunks_letKey (src : Bytes) (A B tail : List Stmt) (h : A.map letKey = B.map letKey)
    (hA : AllLets A) : compileChunks src [] (A ++ tail) = compileChunks src [] (B ++ tail) := by
  rw [C14.compileChunks_eq, C14.compileChunks_eq, compileStmts_lets_congr src src (fun _ => rfl) A B h hA]

theorem compileStmts_lets_src (src src' : Bytes) (L : List Stmt) (hL : AllLets L) (scope) :
    compileStmts src L scope none = compileStmts src' L scope none := by
  have := compileStmts_lets_congr src src' (tail := []) (tail' := []) (fun _ => rfl) L L rfl hL scope
  rwa [List.append_nil] at this

def renderResult : W → CompileResult
  | .ok cs => .ok (renderChunks cs)
  | .error .err => .error
  | .error .panic => .panic

theorem compile_eq (params : List (Bytes × Bytes)) (src : Bytes) :
    compile params src =
      if (parse src).2 = [] then renderResult (compileChunks src params (parse src).1) else .error := by
  unfold compile
  simp only []
  by_cases h : (parse src).2 = []
  · rw [if_pos h]
    simp only [h, List.isEmpty_nil, Bool.not_true, Bool.false_eq_true, if_false]
    cases compileChunks src params (parse src).1 with
    | ok cs => rfl
    | error e => cases e <;> rfl
  · rw [if_neg h]
    have : (parse src).2.isEmpty = false := by
      cases hp : (parse src).2 with
      | nil => exact absurd hp h
      | cons _ _ => rfl
    simp [this]

/-- **the library's result for the text `s` with the `let` statements `lets` in scope**: the
    statement list `lets ++ statements of s`, compiled as `Compile` compiles a parsed source
    (implicit column names sliced from `s`, in which the trees of `s` have their positions) -/
def compileWithLets (lets : List Stmt) (s : Bytes) : CompileResult :=
  if (parse s).2 = [] then renderResult (compileChunks s [] (lets ++ (parse s).1)) else .error

theorem compileWithLets_nil (s : Bytes) : compileWithLets [] s = compile [] s := by
  rw [compile_eq]; rfl

/-- a let text as the tool keeps it in its prelude (`acceptedLet_of_accepts`): the ';' behind it is a token whatever follows,
    it parses without error, into `let` statements only; each conjunct is needed (`C16_needs_semiEnds`, `C16_needs_errorFree`,
    `C16_needs_allLets` in Props/C16Semantics.lean) -/
def AcceptedLet (l : Bytes) : Prop := SemiClosed l ∧ (parse l).2 = [] ∧ AllLets (parse l).1

theorem map_shStmt_keys (d : Nat) (L : List Stmt) : (L.map (shStmt d)).map letKey = L.map letKey := by
  rw [List.map_map]
  apply List.map_congr_left
  intro st _
  exact letKey_shStmt d st

theorem letsAt_keys (off : Nat) (ls : List Bytes) : (letsAt off ls).map letKey = (letsOf ls).map letKey := by
  induction ls generalizing off with
  | nil => rfl
  | cons l ls ih =>
    simp only [letsAt, letsOf, List.flatMap_cons, List.map_append, map_shStmt_keys]
    exact congrArg _ (ih _)

theorem allLets_letsOf {ls : List Bytes} (h : ∀ l ∈ ls, AllLets (parse l).1) : AllLets (letsOf ls) := by
  intro st hst
  simp only [letsOf, List.mem_flatMap] at hst
  obtain ⟨l, hl, hst⟩ := hst
  exact h l hl st hst

theorem allLets_of_keys {A B : List Stmt} (h : A.map letKey = B.map letKey) (hB : AllLets B) : AllLets A := by
  intro st hst
  have hm : letKey st ∈ B.map letKey := h ▸ List.mem_map_of_mem hst
  obtain ⟨b, hb, hk⟩ := List.mem_map.mp hm
  rw [← hk]; exact hB b hb

/-- statements `A` with the keys of the lets `L`, then the statements of `s` moved behind a text
    `Q`, against `Q ++ s`: the lets count by their keys only, the rest is unmoved by
    `compileChunks_shift` -/
theorem compileChunks_behind (Q s : Bytes) (A L : List Stmt) (hk : A.map letKey = L.map letKey)
    (hL : AllLets L) (hs : (parse s).2 = []) :
    compileChunks (Q ++ s) [] (A ++ (parse s).1.map (shStmt Q.length)) =
      compileChunks s [] (L ++ (parse s).1) := by
  have hA : AllLets A := allLets_of_keys hk hL
  rw [compileChunks_letKey (Q ++ s) A (L.map (shStmt Q.length)) _ (by rw [map_shStmt_keys, hk]) hA,
    ← List.map_append]
  apply compileChunks_shift
  intro st hst
  rcases List.mem_append.mp hst with h | h
  · exact colsGoodStmt_of_let (hL st h)
  · exact colsGood_of_parse s (parse s).1 (Prod.ext rfl hs) st h

theorem prelude_compile (ls : List Bytes) (hls : ∀ l ∈ ls, AcceptedLet l) (s : Bytes) :
    compile [] (preludeOf ls ++ s) = compileWithLets (letsOf ls) s := by
  obtain ⟨h1, h2⟩ := prelude_parse ls (fun l hl => (hls l hl).1) s
  have hL : AllLets (letsOf ls) := allLets_letsOf (fun l hl => (hls l hl).2.2)
  rw [compile_eq, compileWithLets]
  by_cases hs : (parse s).2 = []
  · rw [if_pos (h2.mpr ⟨fun l hl => (hls l hl).2.1, hs⟩), if_pos hs, h1,
      compileChunks_behind _ s _ _ (letsAt_keys 0 ls) hL hs]
  · rw [if_neg (fun h => hs (h2.mp h).2), if_neg hs]

/-- the query `X` that cmd/pql puts behind a `let` text (as `;X`) to have `Compile` test it -/
def probeX : Bytes := [88]

def xTab : Tabular := .mk (some ⟨[88], ⟨0, 1⟩, false⟩) .nil

set_option maxRecDepth 100000 in
theorem parse_probeX : parse probeX = ([.tabular xTab], []) := by
  rw [parse, scan_eq_scanFuel]; rfl

/-- **the probe behind let statements `L`**: `l ++ ";X"` is the statements of `l` and the query `X`,
    and `X` compiles whenever the statement loop gets through the lets -/
theorem compileWithLets_probe (L : List Stmt) (l : Bytes) (hl : SemiClosed l)
    (hL : AllLets (L ++ (parse l).1)) :
    compileWithLets L (l ++ 59 :: probeX) =
      if (parse l).2 = [] then
        match compileStmts [] (L ++ (parse l).1) [] none with
        | .ok _ => .ok (renderChunks [.txt "SELECT * FROM ", .qid [88], .txt ";"])
        | .error .err => .error
        | .error .panic => .panic
      else .error := by
  obtain ⟨p1, p2⟩ := C15_parse_semicolon_of_reaches l probeX (hl probeX)
  rw [parse_probeX] at p1 p2
  rw [compileWithLets, p1]
  by_cases hs : (parse l).2 = []
  · rw [if_pos (p2.mpr ⟨hs, rfl⟩), if_pos hs, ← List.append_assoc, List.map_singleton, shStmt,
      C14.compileChunks_eq, show paramScope [] = ([] : Scope) from rfl,
      C06.compileStmts_lets_then_query _ _ _ (isLets_of_allLets hL), compileStmts_lets_src _ [] _ hL]
    cases compileStmts [] (L ++ (parse l).1) [] none with
    | error e => cases e <;> rfl
    | ok r => rfl
  · rw [if_neg fun h => hs (p2.mp h).1, if_neg hs]

end Pql.CliSem
