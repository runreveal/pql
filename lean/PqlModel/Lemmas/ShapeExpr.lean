/-
The expression writer is parametric in contents: writing `mapE φ e` gives the output of writing
`e` with related pieces (`WCong φ R`), and the same error when `e` does not compile —
provided the content map is inert on `e` (fixes the names the writer looks at).  The two sides differ
in the leaves only (identifiers, literals); around them: `Alike.*` (Lemmas/WriterCong.lean).
-/
import PqlModel.Lemmas.ShapeInert
import PqlModel.Lemmas.WriterCases
namespace Pql

section
variable {φ : CMap} {R : List Chunk → List Chunk → Prop}

theorem qident_single_rel (hR : WCong φ R) {src src' : Bytes} {s s' : Scope} {m : Mode}
    (hs : ScopeRel R s s') (p : Ident) (h : inertPart s m φ true p = true) :
    ExRel R (writeExpr ⟨src, s, m⟩ (.qident [p])) (writeExpr ⟨src', s', m⟩ (.qident [φ.ident p])) := by
  have hal : aliasErr m (φ.ident p) = aliasErr m p := inertPart_aliasErr h
  rw [writeExpr_qident_single, writeExpr_qident_single]
  simp only [CMap.ident_quoted, CMap.ident_name, hal]
  cases hk : keyName s m true p with
  | true =>
    have hn := inertPart_key h hk
    rw [hn]
    have hq0 := hR.qid p.name
    rw [hn] at hq0
    have hsc := hs p.name
    repeat' apply ExRel.ite
    · exact ExRel.error_error _
    · exact hq0
    · revert hsc
      generalize lookupScope s p.name = l1
      generalize lookupScope s' p.name = l2
      intro hsc
      cases hsc with
      | some hab => exact hab
      | none =>
        dsimp only
        cases hb : builtinIdent p.name with
        | some sql => exact hR.txt _
        | none =>
          dsimp only
          repeat' apply ExRel.ite
          · exact ExRel.error_error _
          · exact ExRel.error_error _
          · exact hq0
  | false =>
    have hk' := inertPart_notKey h hk
    have hk'' : keyName s' m true (φ.ident p) = false := by rw [keyName_scopeRel hs]; exact hk'
    cases hq : p.quoted with
    | true =>
      simp only [if_true]
      apply ExRel.ite
      · exact ExRel.error_error _
      · exact hR.qid _
    | false =>
      simp only [Bool.false_eq_true, if_false]
      simp only [keyName, hq, Bool.not_false, Bool.true_or, Bool.and_true, Bool.true_and, Bool.or_eq_false_iff,
        Option.isSome_eq_false_iff, Option.isNone_iff_eq_none, CMap.ident_quoted, CMap.ident_name] at hk hk''
      rw [hk.2.1, hk.2.2, hk''.2.1, hk''.2.2]
      dsimp only
      repeat' apply ExRel.ite
      · exact ExRel.error_error _
      · exact ExRel.error_error _
      · exact hR.qid _

theorem qident_rel (hR : WCong φ R) {src src' : Bytes} {s s' : Scope} {m : Mode}
    (hs : ScopeRel R s s') (parts : List Ident) (h : inertE s m φ (.qident parts) = true) :
    ExRel R (writeExpr ⟨src, s, m⟩ (.qident parts)) (writeExpr ⟨src', s', m⟩ (mapE φ (.qident parts))) := by
  simp only [inertE, List.all_eq_true] at h
  simp only [mapE]
  by_cases hl : parts.length = 1
  · match parts, hl with
    | [p], _ => exact qident_single_rel hR hs p (h p (List.mem_cons_self ..))
  · rw [writeExpr_qident_multi _ _ hl, writeExpr_qident_multi _ _ (by rw [List.length_map]; exact hl)]
    have hany : (parts.map φ.ident).any (aliasErr m) = parts.any (aliasErr m) :=
      any_map_congr _ _ _ fun x hx => inertPart_aliasErr (h x hx)
    have hsep : R (sepChunks "." (parts.map fun p => [Chunk.qid p.name]))
        (sepChunks "." ((parts.map φ.ident).map fun p => [Chunk.qid p.name])) := by
      apply hR.sepChunks
      clear h hl hany
      induction parts with
      | nil => exact .nil
      | cons a l ih => exact .cons (hR.qid _) ih
    simp only [hany]
    repeat' apply ExRel.ite
    · exact ExRel.error_error _
    · exact ExRel.error_error _
    · exact hsep

/-- an argument of a known function: its plain output, and its output in operand position -/
def MArgRel (R : List Chunk → List Chunk → Prop) (p p' : Expr × List Chunk) : Prop :=
  R p.2 p'.2 ∧ R (wrapMaybe p.1 p.2) (wrapMaybe p'.1 p'.2)

def MArgsRel (R : List Chunk → List Chunk → Prop) (es es' : ExprList) (as as' : List (List Chunk)) : Prop :=
  ListRel R as as' ∧ ListRel (MArgRel R) (es.toList.zip as) (es'.toList.zip as')

variable {src src' : Bytes} {s s' : Scope} {m : Mode}

theorem joinTest_mapE {x y : Expr} (hx : inertE s m φ x = true) (hy : inertE s m φ y = true) :
    joinTest ⟨src, s, m⟩ x y ↔ joinTest ⟨src', s', m⟩ (mapE φ x) (mapE φ y) := by
  by_cases hm : m = .join
  · subst hm
    simp only [joinTest, hasJoinTerms_mapE x hx, hasJoinTerms_mapE y hy]
  · simp only [joinTest, hm, false_and]

theorem mapE_alg (hR : WCong φ R) (hs : ScopeRel R s s') : ExprTreeAlg
    (fun e => inertE s m φ e = true → Alike R ⟨src, s, m⟩ ⟨src', s', m⟩ e (mapE φ e))
    (fun es => inertL s m φ es = true → AlikeArgs R ⟨src, s, m⟩ ⟨src', s', m⟩ es (mapL φ es) ∧
      AlikeVals R ⟨src, s, m⟩ ⟨src', s', m⟩ es (mapL φ es)) where
  nil := fun _ => Alike.of_shape hR.toFrameCong (hR.txt _) rfl rfl
  qident := fun parts hi =>
    Alike.of_shape hR.toFrameCong (qident_rel hR hs parts hi) (needsWrap_mapE ..) (isSigned_mapE ..)
  lit := fun _ k val _ => by
    refine Alike.of_shape hR.toFrameCong ?_ (needsWrap_mapE ..) (isSigned_mapE ..)
    simp only [mapE, writeExpr, CMap.lit]
    by_cases hn : k = .number
    · subst hn
      exact hR.num _
    · by_cases hq : k = .string
      · subst hq
        exact hR.qstr _
      · simp only [hn, hq, if_false]
        exact hR.txt _
  unary := fun _ _ _ ih hi => (ih hi).unary hR.toFrameCong ..
  binary := fun _ _ _ _ ihx ihy hi =>
    (ihx (and_true_of hi).1).binary hR.toFrameCong (ihy (and_true_of hi).2)
      (joinTest_mapE (and_true_of hi).1 (and_true_of hi).2) ..
  inE := fun _ _ _ _ _ ihx ihl hi => (ihx (and_true_of hi).1).inE hR.toFrameCong (ihl (and_true_of hi).2).2 ..
  paren := fun _ _ _ ih hi => (ih hi).paren ..
  call := fun _ _ _ _ ihl hi => Alike.call hR.toFrameCong (CMap.fnIdent_name ..) (mapL_length ..) (ihl hi).1 ..
  index := fun _ _ _ _ ihx ihi hi => (ihx (and_true_of hi).1).index hR.toFrameCong (ihi (and_true_of hi).2) ..
  lnil := fun _ => ⟨AlikeArgs.nil, AlikeVals.nil⟩
  cons := fun _ _ ihe ihl hi =>
    ⟨AlikeArgs.cons (ihe (and_true_of hi).1) (ihl (and_true_of hi).2).1,
      AlikeVals.cons (ihe (and_true_of hi).1) (ihl (and_true_of hi).2).2⟩

theorem mapE_alike (hR : WCong φ R) (hs : ScopeRel R s s') (e : Expr) (hi : inertE s m φ e = true) :
    Alike R ⟨src, s, m⟩ ⟨src', s', m⟩ e (mapE φ e) :=
  (mapE_alg hR hs).expr e hi

theorem mapE_rel (hR : WCong φ R) (hs : ScopeRel R s s') (e : Expr) (hi : inertE s m φ e = true) :
    ExRel R (writeExpr ⟨src, s, m⟩ e) (writeExpr ⟨src', s', m⟩ (mapE φ e)) :=
  (mapE_alike hR hs e hi).bare

theorem mapL_rel (hR : MapCong φ R) (hs : ScopeRel R s s') :
    (es : ExprList) → inertL s m φ es = true →
      ExRel (MArgsRel R es (mapL φ es)) (writeList ⟨src, s, m⟩ es) (writeList ⟨src', s', m⟩ (mapL φ es)) :=
  fun es hi => ((mapE_alg hR.toWCong hs).list es hi).1

theorem mapLMP_rel (hR : MapCong φ R) (hs : ScopeRel R s s') :
    (es : ExprList) → inertL s m φ es = true →
      ExRel (ListRel R) (writeListMaybeParen' ⟨src, s, m⟩ es) (writeListMaybeParen' ⟨src', s', m⟩ (mapL φ es)) :=
  fun es hi => ((mapE_alg hR.toWCong hs).list es hi).2

end

end Pql
