/-
ParseRoundtrip (the lemma family `pExprS (toksOf (write e)) = tr e`: the modules `SqlRoundtrip*` and
`ScopeRT*`, namespace `RT`): the token table.  `toksOf` distributes over the chunk structure, every
fixed text the expression writer emits stands for a fixed token list (kernel-evaluated), and the
classifications (`upper`, `isWord`, `isSym`) of those tokens are computed.
-/
import PqlModel.Spec.ChunkToks
import PqlModel.Spec.CompileOracle
namespace Pql.RT
open Pql Sql

@[simp] theorem toksOf_nil : toksOf [] = [] := rfl

@[simp] theorem toksOf_cons (c : Chunk) (cs : List Chunk) : toksOf (c :: cs) = chunkToks c ++ toksOf cs := by
  simp [toksOf]

@[simp] theorem toksOf_append (a b : List Chunk) : toksOf (a ++ b) = toksOf a ++ toksOf b := by
  simp [toksOf]

@[simp] theorem chunkToks_txt (s : String) : chunkToks (.txt s) = txtToks s := rfl
@[simp] theorem chunkToks_qid (n : Bytes) : chunkToks (.qid n) = [.qid n] := rfl
@[simp] theorem chunkToks_qstr (n : Bytes) : chunkToks (.qstr n) = [.str n] := rfl
@[simp] theorem chunkToks_num (n : Bytes) : chunkToks (.num n) = [.num n] := rfl
@[simp] theorem chunkToks_fname (n : Bytes) : chunkToks (.fname n) = [.word n] := rfl

theorem toksOf_parenthesise (body : List Chunk) :
    toksOf (parenthesise body) = txtToks "(" ++ (toksOf body ++ txtToks ")") := by
  simp [parenthesise]

abbrev W (s : String) : STok := .word (Bytes.ofString s)
abbrev S (s : String) : STok := .sym s

@[simp] theorem tt_lparen : txtToks "(" = [S "("] := by decide +kernel
@[simp] theorem tt_rparen : txtToks ")" = [S ")"] := by decide +kernel
@[simp] theorem tt_lbrack : txtToks "[" = [S "["] := by decide +kernel
@[simp] theorem tt_rbrack : txtToks "]" = [S "]"] := by decide +kernel
@[simp] theorem tt_dot : txtToks "." = [S "."] := by decide +kernel
@[simp] theorem tt_comma : txtToks ", " = [S ","] := by decide +kernel
@[simp] theorem tt_space : txtToks " " = [] := by decide +kernel
@[simp] theorem tt_plus : txtToks "+" = [S "+"] := by decide +kernel
@[simp] theorem tt_minus : txtToks "-" = [S "-"] := by decide +kernel
@[simp] theorem tt_eq : txtToks " = " = [S "="] := by decide +kernel
@[simp] theorem tt_ne : txtToks " <> " = [S "<>"] := by decide +kernel
@[simp] theorem tt_coalesce : txtToks "coalesce(" = [W "coalesce", S "("] := by decide +kernel
@[simp] theorem tt_false_close : txtToks ", FALSE)" = [S ",", W "FALSE", S ")"] := by decide +kernel
@[simp] theorem tt_lower : txtToks "lower(" = [W "lower", S "("] := by decide +kernel
@[simp] theorem tt_eq_lower : txtToks ") = lower(" = [S ")", S "=", W "lower", S "("] := by decide +kernel
@[simp] theorem tt_ne_lower : txtToks ") <> lower(" = [S ")", S "<>", W "lower", S "("] := by decide +kernel
@[simp] theorem tt_in : txtToks " IN (" = [W "IN", S "("] := by decide +kernel
@[simp] theorem tt_not : txtToks "NOT " = [W "NOT"] := by decide +kernel
@[simp] theorem tt_is_null : txtToks " IS NULL" = [W "IS", W "NULL"] := by decide +kernel
@[simp] theorem tt_is_not_null : txtToks " IS NOT NULL" = [W "IS", W "NOT", W "NULL"] := by decide +kernel
@[simp] theorem tt_concat : txtToks " || " = [S "||"] := by decide +kernel
@[simp] theorem tt_count : txtToks "count()" = [W "count", S "(", S ")"] := by decide +kernel
@[simp] theorem tt_count_filter : txtToks "count() FILTER (WHERE " =
    [W "count", S "(", S ")", W "FILTER", S "(", W "WHERE"] := by decide +kernel
@[simp] theorem tt_case : txtToks "CASE WHEN coalesce(" = [W "CASE", W "WHEN", W "coalesce", S "("] := by decide +kernel
@[simp] theorem tt_then : txtToks ", FALSE) THEN " = [S ",", W "FALSE", S ")", W "THEN"] := by decide +kernel
@[simp] theorem tt_else : txtToks " ELSE " = [W "ELSE"] := by decide +kernel
@[simp] theorem tt_end : txtToks " END" = [W "END"] := by decide +kernel
@[simp] theorem tt_LOWER : txtToks "LOWER(" = [W "LOWER", S "("] := by decide +kernel
@[simp] theorem tt_UPPER : txtToks "UPPER(" = [W "UPPER", S "("] := by decide +kernel
@[simp] theorem tt_now : txtToks "CURRENT_TIMESTAMP" = [W "CURRENT_TIMESTAMP"] := by decide +kernel
@[simp] theorem tt_TRUE : txtToks "TRUE" = [W "TRUE"] := by decide +kernel
@[simp] theorem tt_FALSE : txtToks "FALSE" = [W "FALSE"] := by decide +kernel
@[simp] theorem tt_NULL : txtToks "NULL" = [W "NULL"] := by decide +kernel
-- the operator texts of `Facts.binaryOps`
@[simp] theorem tt_AND : txtToks "AND" = [W "AND"] := by decide +kernel
@[simp] theorem tt_OR : txtToks "OR" = [W "OR"] := by decide +kernel
@[simp] theorem tt_ge : txtToks ">=" = [S ">="] := by decide +kernel
@[simp] theorem tt_gt : txtToks ">" = [S ">"] := by decide +kernel
@[simp] theorem tt_le : txtToks "<=" = [S "<="] := by decide +kernel
@[simp] theorem tt_lt : txtToks "<" = [S "<"] := by decide +kernel
@[simp] theorem tt_mod : txtToks "%" = [S "%"] := by decide +kernel
@[simp] theorem tt_slash : txtToks "/" = [S "/"] := by decide +kernel
@[simp] theorem tt_star : txtToks "*" = [S "*"] := by decide +kernel

theorem upper_eq (w : Bytes) :
    upper w = String.ofList ((w.map fun c => if 32 ≤ c.toNat ∧ c.toNat < 127 then Char.ofNat c.toNat else '?').map
      Char.toUpper) := by
  simp [upper, Bytes.toStringLossy, String.toUpper, String.map_eq_internal]

@[simp] theorem up_coalesce : upper (Bytes.ofString "coalesce") = "COALESCE" := by rw [upper_eq]; decide +kernel
@[simp] theorem up_lower : upper (Bytes.ofString "lower") = "LOWER" := by rw [upper_eq]; decide +kernel
@[simp] theorem up_LOWER : upper (Bytes.ofString "LOWER") = "LOWER" := by rw [upper_eq]; decide +kernel
@[simp] theorem up_UPPER : upper (Bytes.ofString "UPPER") = "UPPER" := by rw [upper_eq]; decide +kernel
@[simp] theorem up_count : upper (Bytes.ofString "count") = "COUNT" := by rw [upper_eq]; decide +kernel
@[simp] theorem up_TRUE : upper (Bytes.ofString "TRUE") = "TRUE" := by rw [upper_eq]; decide +kernel
@[simp] theorem up_FALSE : upper (Bytes.ofString "FALSE") = "FALSE" := by rw [upper_eq]; decide +kernel
@[simp] theorem up_NULL : upper (Bytes.ofString "NULL") = "NULL" := by rw [upper_eq]; decide +kernel
@[simp] theorem up_now : upper (Bytes.ofString "CURRENT_TIMESTAMP") = "CURRENT_TIMESTAMP" := by
  rw [upper_eq]; decide +kernel
@[simp] theorem up_NOT : upper (Bytes.ofString "NOT") = "NOT" := by rw [upper_eq]; decide +kernel
@[simp] theorem up_IS : upper (Bytes.ofString "IS") = "IS" := by rw [upper_eq]; decide +kernel
@[simp] theorem up_IN : upper (Bytes.ofString "IN") = "IN" := by rw [upper_eq]; decide +kernel
@[simp] theorem up_CASE : upper (Bytes.ofString "CASE") = "CASE" := by rw [upper_eq]; decide +kernel
@[simp] theorem up_WHEN : upper (Bytes.ofString "WHEN") = "WHEN" := by rw [upper_eq]; decide +kernel
@[simp] theorem up_THEN : upper (Bytes.ofString "THEN") = "THEN" := by rw [upper_eq]; decide +kernel
@[simp] theorem up_ELSE : upper (Bytes.ofString "ELSE") = "ELSE" := by rw [upper_eq]; decide +kernel
@[simp] theorem up_END : upper (Bytes.ofString "END") = "END" := by rw [upper_eq]; decide +kernel
@[simp] theorem up_FILTER : upper (Bytes.ofString "FILTER") = "FILTER" := by rw [upper_eq]; decide +kernel
@[simp] theorem up_WHERE : upper (Bytes.ofString "WHERE") = "WHERE" := by rw [upper_eq]; decide +kernel
@[simp] theorem up_AND : upper (Bytes.ofString "AND") = "AND" := by rw [upper_eq]; decide +kernel
@[simp] theorem up_OR : upper (Bytes.ofString "OR") = "OR" := by rw [upper_eq]; decide +kernel

@[simp] theorem isWord_word (w : Bytes) (kw : String) : isWord (.word w) kw = (upper w == kw) := rfl
@[simp] theorem isWord_sym (s kw : String) : isWord (.sym s) kw = false := rfl
@[simp] theorem isWord_qid (s : Bytes) (kw : String) : isWord (.qid s) kw = false := rfl
@[simp] theorem isWord_str (s : Bytes) (kw : String) : isWord (.str s) kw = false := rfl
@[simp] theorem isWord_num (s : Bytes) (kw : String) : isWord (.num s) kw = false := rfl
@[simp] theorem isWord_param (s : Bytes) (kw : String) : isWord (.param s) kw = false := rfl
@[simp] theorem isWord_comment (kw : String) : isWord .comment kw = false := rfl
@[simp] theorem isSym_sym (s x : String) : isSym (.sym s) x = (s == x) := rfl
@[simp] theorem isSym_word (w : Bytes) (x : String) : isSym (.word w) x = false := rfl
@[simp] theorem isSym_qid (w : Bytes) (x : String) : isSym (.qid w) x = false := rfl
@[simp] theorem isSym_str (w : Bytes) (x : String) : isSym (.str w) x = false := rfl
@[simp] theorem isSym_num (w : Bytes) (x : String) : isSym (.num w) x = false := rfl
@[simp] theorem isSym_param (w : Bytes) (x : String) : isSym (.param w) x = false := rfl
@[simp] theorem isSym_comment (x : String) : isSym .comment x = false := rfl

end Pql.RT
