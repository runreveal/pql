/-
Interpreter for the IR of the statement and operator level of parser/parser.go (`Facts.parseIR`,
translator `harness/extract_parse.go`, syntax and decoder `Model/ParseIRSyntax.lean`).

State.  The Go variables in scope (innermost first) and a heap of the records allocated by `&T{…}` in
the function being interpreted (an address is an index; a record has ALL the fields of its struct, in
declaration order, taken from the regenerated `Facts.structFields`, unset ones at Go's zero value).
A `*parser` variable holds the model's token-list state: the tokens that remain, and — for Go's one
token push-back — the list `prev()` gives back (`undo`; present only directly after a `next()`).
`next()` at the end yields Go's EOF token and stays at the end; `prev()` without a directly preceding
`next()` cannot be expressed on token lists and is `stuck`.  `p.pos` is the remaining list;
`p.pos = x` continues with that list.

Calls.  `next`, `prev`, `split`, `splitSemi`, `endSplit` are interpreted here (with the model's
`split`, `splitSemi`, `endSplit`).  Every other method of `*parser` is a parameter (`Env.callee`): the
expression productions are primitives, and a call from one translated function to another takes the
callee's meaning from the model (Props/C07OperatorIR*.lean prove, function by function, that this
meaning IS the interpretation of the callee's own regenerated body).

`x.(*BasicLit)` in the comma-ok form looks at the model's expression (`Expr.lit` is a `*BasicLit`; any other
node and the nil interface give `nil, false`); `lit.IsInteger()` is the model's `litIsInteger` (which
Props/C09NumberIR.lean `C09_IsInteger_ir` ties to the regenerated body of `(*BasicLit).IsInteger`) and a Go
panic on a nil `*BasicLit`.

Errors are the model's `Errs`: `joinErrors` is append, `makeErrorOpaque` is `mkOpaque`,
`isNotFound` is `isNF`, `&parseError{span: s, err: notFoundError{…}}` is `nfAt s`, with a plain
message `errAt s`, a position-less `fmt.Errorf` is `errNoPos`, `%w` keeps the leaves.

Loops take fuel as the model's do: a `for` of a function gets `length of the receiver's remaining
tokens + 1` iterations (`Env.fuelLoop = false`; `pSortTerms`, `pProjectCols`, … `pStatements`) or the
call depth `k` that is left, each iteration running its callees at one less (`fuelLoop = true`;
`pOps`).  Running out yields the flow `.fuel`; the theorems map it to the model's `errFuel` result.

Go run-time failures are explicit: nil dereference and index out of range are `IErr.panic`;
`IErr.stuck` is kept apart: the IR refers to a variable that is not in scope, applies an operation to
a value of the wrong type, or uses a construct this interpreter does not understand.
-/
import PqlModel.Model.ParseIRSyntax
namespace Pql.OpIR
open Pql

inductive IErr
  | panic
  | stuck
  deriving DecidableEq, Repr

abbrev M := Except IErr
def goPanic {α : Type} : M α := .error .panic
def stuck {α : Type} : M α := .error .stuck

/-- what a Go variable or a field can hold.  Nodes returned by a callee are immutable model values;
    nodes allocated in the interpreted function are references into the heap. -/
inductive Val
  | tok (t : Token)
  | bool (b : Bool)
  | int (n : Int)
  | str (b : Bytes)
  | kind (k : TokKind)
  | span (s : Span)
  | errs (e : Errs)                        -- error ([] = nil)
  | pos (l : List Token)                   -- a value of p.pos
  | parser (rest : List Token) (undo : Option (List Token))
  | expr (e : Expr)                        -- Expr (Expr.nil = nil)
  | exprs (l : ExprList)                   -- []Expr
  | ident (i : Option Ident)               -- *Ident
  | sterm (t : Option SortTerm)            -- *SortTerm
  | col (c : Column)                       -- a non-nil *ProjectColumn / *ExtendColumn / *SummarizeColumn
  | prop (p : Option RenderProp)           -- *RenderProperty
  | op (o : Op)                            -- a non-nil *…Operator
  | tab (t : Tabular)                      -- *TabularExpr (Tabular.nil = nil)
  | stmt (s : Option Stmt)                 -- *LetStatement
  | istmt (s : Stmt)                       -- a Statement holding a non-nil node
  | typedNil                               -- an interface value holding a nil pointer (not == nil)
  | ref (a : Nat)                          -- a record allocated here
  | nil                                    -- nil
  | list (l : List Val)                    -- a slice of nodes
  | tokPtr (t : Option Token)              -- *Token
  | query                                  -- the string parameter of Parse
  | fn (i : Nat)                           -- the i-th production handed to firstParse
  | lit (l : Option (Span × TokKind × Bytes))   -- *BasicLit (ValueSpan, Kind, Value)

structure Rec where
  ty : String
  fields : List (String × Val)

structure St where
  vars : List (String × Val)
  heap : List Rec := []

inductive Flow
  | next
  | brk
  | cont
  | ret (vs : List Val)
  | fuel                                   -- a loop ran out of fuel

/-- the parameters of an interpretation -/
structure Env where
  c : PCtx
  /-- meaning of `recv.method(args)` at call depth `k` on the receiver's remaining tokens:
      the results and what remains -/
  callee : Nat → String → List Val → List Token → Option (List Val × List Token)
  fuelLoop : Bool := false
  scan : Bytes → List Token := fun _ => []
  src : Bytes := []

/-! ### variables -/

def St.get (st : St) (v : String) : M Val :=
  match st.vars.find? (·.1 == v) with
  | some kv => .ok kv.2
  | none => stuck

def St.declare (st : St) (v : String) (x : Val) : St :=
  if v == "_" then st else { st with vars := (v, x) :: st.vars }

def assignIn (v : String) (x : Val) : List (String × Val) → Option (List (String × Val))
  | [] => none
  | kv :: r => if kv.1 == v then some ((v, x) :: r) else (assignIn v x r).map (kv :: ·)

def St.assign (st : St) (v : String) (x : Val) : M St :=
  match assignIn v x st.vars with
  | some vars => .ok { st with vars := vars }
  | none => stuck

/-- leaving a block: the variables it declared go out of scope; the heap stays -/
def St.leave (st outer : St) : St :=
  { st with vars := st.vars.drop (st.vars.length - outer.vars.length) }

def St.parser (st : St) (p : String) : M (List Token × Option (List Token)) := do
  match ← st.get p with
  | .parser r u => pure (r, u)
  | _ => stuck

/-! ### records -/

def zeroOf (ty : String) : Option Val :=
  if ty == "Span" then some (.span Span.zero)
  else if ty == "*Ident" then some (.ident none)
  else if ty == "Expr" then some (.expr .nil)
  else if ty == "[]Expr" then some (.exprs .nil)
  else if ty == "*SortTerm" then some (.sterm none)
  else if ty == "*TabularExpr" then some (.tab .nil)
  else if ty == "TabularDataSource" then some .nil
  else if ty == "bool" then some (.bool false)
  else if ty == "string" then some (.str [])
  else if ty == "[]*SortTerm" || ty == "[]*ProjectColumn" || ty == "[]*ExtendColumn" || ty == "[]*SummarizeColumn"
      || ty == "[]*RenderProperty" || ty == "[]TabularOperator" then some (.list [])
  else none

def zeroFields : List (String × String) → Option (List (String × Val))
  | [] => some []
  | (f, ty) :: r =>
    match zeroOf ty, zeroFields r with
    | some z, some zs => some ((f, z) :: zs)
    | _, _ => none

/-- `&ty{}`: all fields of the struct as regenerated from parser/ast.go, at their zero values -/
def newRec (ty : String) : Option Rec :=
  match Facts.structFields.find? (·.1 == ty) with
  | some (_, fs) => (zeroFields fs).map fun zs => ⟨ty, zs⟩
  | none => none

def setField (f : String) (x : Val) : List (String × Val) → Option (List (String × Val))
  | [] => none
  | kv :: r => if kv.1 == f then some ((f, x) :: r) else (setField f x r).map (kv :: ·)

def getField (f : String) (fs : List (String × Val)) : Option Val := (fs.find? (·.1 == f)).map (·.2)

/-- `*a.f = x` -/
def St.setFld (st : St) (a : Nat) (f : String) (x : Val) : M St :=
  match st.heap[a]? with
  | some r =>
    match setField f x r.fields with
    | some fs => .ok { st with heap := st.heap.set a ⟨r.ty, fs⟩ }
    | none => stuck
  | none => stuck

/-! ### values -/

def Expr.isNilB : Expr → Bool
  | .nil => true
  | _ => false

def Tabular.isNilB : Tabular → Bool
  | .nil => true
  | _ => false

/-- `x == nil` -/
def isNilVal : Val → M Bool
  | .errs e => .ok e.isEmpty
  | .expr e => .ok (Expr.isNilB e)
  | .ident i => .ok i.isNone
  | .sterm t => .ok t.isNone
  | .prop p => .ok p.isNone
  | .tab t => .ok (Tabular.isNilB t)
  | .stmt s => .ok s.isNone
  | .tokPtr t => .ok t.isNone
  | .lit l => .ok l.isNone
  | .list l => .ok l.isEmpty
  | .nil => .ok true
  | .col _ | .op _ | .istmt _ | .typedNil | .ref _ => .ok false
  | _ => stuck

def valEq : Val → Val → M Bool
  | .nil, x => isNilVal x
  | x, .nil => isNilVal x
  | .kind a, .kind b => .ok (decide (a = b))
  | .str a, .str b => .ok (a == b)
  | .int a, .int b => .ok (decide (a = b))
  | .bool a, .bool b => .ok (a == b)
  | _, _ => stuck

def asErrs : Val → M Errs
  | .errs e => .ok e
  | .nil => .ok []
  | _ => stuck

def asSpan : Val → M Span
  | .span s => .ok s
  | _ => stuck

def asInt : Val → M Int
  | .int n => .ok n
  | _ => stuck

/-- Go's EOF token (`(*parser).next` at the end) -/
def eofTok (c : PCtx) : Token := ⟨.error, c.srcLen, c.srcLen, Bytes.ofString "EOF"⟩

def tokField (t : Token) (f : String) : M Val :=
  if f == "Kind" then .ok (.kind t.kind)
  else if f == "Span" then .ok (.span t.span)
  else if f == "Value" then .ok (.str t.value)
  else stuck

/-- `x.f` -/
def fieldOf (st : St) (f : String) : Val → M Val
  | .tok t => tokField t f
  | .tokPtr (some t) => tokField t f
  | .tokPtr none => goPanic
  | .nil => goPanic
  | .span s => if f == "Start" then .ok (.int s.start) else if f == "End" then .ok (.int s.stop) else stuck
  | .ref a =>
    match st.heap[a]? with
    | some r => match getField f r.fields with | some v => .ok v | none => stuck
    | none => stuck
  | _ => stuck

/-- `append(s, x)` on a slice of nodes -/
def appendVal : Val → Val → M Val
  | .list l, x => .ok (.list (l ++ [x]))
  | .nil, x => .ok (.list [x])
  | _, _ => stuck

def lenVal : Val → M Int
  | .list l => .ok l.length
  | .nil => .ok 0
  | .exprs l => .ok l.length
  | _ => stuck

/-- `(*Ident).AsQualified` -/
def asQualified : Val → M Val
  | .ident (some i) => .ok (.expr (.qident [i]))
  | .ident none => .ok .typedNil
  | .nil => .ok .typedNil
  | _ => stuck

/-- a pointer stored in an interface value -/
def toIface : Val → M Val
  | .stmt (some s) => .ok (.istmt s)
  | .stmt none => .ok .typedNil
  | .tab .nil => .ok .typedNil
  | .tab t => .ok (.istmt (.tabular t))
  | _ => stuck

/-! ### expressions -/

def eval (env : Env) : IExpr → St → M (Val × St)
  | .var v, st => do pure (← st.get v, st)
  | .nil, st => .ok (.nil, st)
  | .bool b, st => .ok (.bool b, st)
  | .int n, st => .ok (.int n, st)
  | .str s, st => .ok (.str (Bytes.ofString s), st)
  | .kind k, st =>
    match TokKind.ofGoName k with
    | some kd => .ok (.kind kd, st)
    | none => stuck
  | .fld f e, st => do
    let (x, st1) ← eval env e st
    pure (← fieldOf st1 f x, st1)
  | .nullSpan, st => .ok (.span .null, st)
  | .newSpan a b, st => do
    let (x, st1) ← eval env a st
    let (y, st2) ← eval env b st1
    pure (.span ⟨← asInt x, ← asInt y⟩, st2)
  | .eofSpan p, st => do
    let _ ← st.parser p
    pure (.span env.c.eof, st)
  | .new ty, st =>
    match newRec ty with
    | some r => .ok (.ref st.heap.length, { st with heap := st.heap ++ [r] })
    | none => stuck
  | .withFld e f x, st => do
    let (r, st1) ← eval env e st
    let (v, st2) ← eval env x st1
    match r with
    | .ref a => pure (.ref a, ← st2.setFld a f v)
    | _ => stuck
  | .perr p nf sp, st => do
    let _ ← st.parser p
    let (s, st1) ← eval env sp st
    let s ← asSpan s
    pure (.errs (if nf then nfAt s else errAt s), st1)
  | .errNoPos, st => .ok (.errs errNoPos, st)
  | .wrapW e, st => do
    let (x, st1) ← eval env e st
    pure (.errs (← asErrs x), st1)
  | .join a b, st => do
    let (x, st1) ← eval env a st
    let (y, st2) ← eval env b st1
    pure (.errs ((← asErrs x) ++ (← asErrs y)), st2)
  | .opaque e, st => do
    let (x, st1) ← eval env e st
    pure (.errs (mkOpaque (← asErrs x)), st1)
  | .append s x, st => do
    let (l, st1) ← eval env s st
    let (v, st2) ← eval env x st1
    pure (← appendVal l v, st2)
  | .len e, st => do
    let (x, st1) ← eval env e st
    pure (.int (← lenVal x), st1)
  | .addr v, st => do
    match ← st.get v with
    | .tok t => pure (.tokPtr (some t), st)
    | _ => stuck
  | .asQual e, st => do
    let (x, st1) ← eval env e st
    pure (← asQualified x, st1)
  | .pos p, st => do
    let (r, _) ← st.parser p
    pure (.pos r, st)
  | .tokAt p, st => do
    let (r, _) ← st.parser p
    match r with
    | t :: _ => pure (.tok t, st)
    | [] => goPanic
  | .endSplit p, st => do
    let (r, _) ← st.parser p
    pure (.errs (endSplit r), st)
  | .toIface e, st => do
    let (x, st1) ← eval env e st
    pure (← toIface x, st1)

def asBool : Val → M Bool
  | .bool b => .ok b
  | _ => stuck

/-- conditions are free of side effects on the heap in the translated code; the state is threaded all the same -/
def evalCond (env : Env) : ICond → St → M (Bool × St)
  | .eq a b, st => do
    let (x, st1) ← eval env a st
    let (y, st2) ← eval env b st1
    pure (← valEq x y, st2)
  | .ne a b, st => do
    let (x, st1) ← eval env a st
    let (y, st2) ← eval env b st1
    pure (!(← valEq x y), st2)
  | .not c, st => do
    let (b, st1) ← evalCond env c st
    pure (!b, st1)
  | .and a b, st => do
    let (x, st1) ← evalCond env a st
    if x then evalCond env b st1 else pure (false, st1)
  | .or a b, st => do
    let (x, st1) ← evalCond env a st
    if x then pure (true, st1) else evalCond env b st1
  | .isNF e, st => do
    let (x, st1) ← eval env e st
    pure (isNF (← asErrs x), st1)
  | .truth e, st => do
    let (x, st1) ← eval env e st
    pure (← asBool x, st1)
  | .more p, st => do
    let (r, _) ← st.parser p
    pure (!r.isEmpty, st)
  | .isInteger e, st => do
    let (x, st1) ← eval env e st
    match x with
    | .lit (some (_, k, v)) => pure (litIsInteger k v, st1)
    | .lit none => goPanic                 -- `lit.Kind` on a nil *BasicLit
    | _ => stuck

/-! ### statements -/

def assignTo (st : St) : Target → Val → M St
  | .blank, _ => .ok st
  | .def_ v, x => .ok (st.declare v x)
  | .set v, x => st.assign v x
  | .fset v f, x => do
    match ← st.get v with
    | .ref a => st.setFld a f x
    | .nil => goPanic
    | _ => stuck
  | .setPos p, x => do
    let _ ← st.parser p
    match x with
    | .pos l => st.assign p (.parser l none)
    | _ => stuck

def assignAll (st : St) : List Target → List Val → M St
  | [], [] => .ok st
  | t :: ts, v :: vs => do
    let st1 ← assignTo st t v
    assignAll st1 ts vs
  | _, _ => stuck

def evalAll (env : Env) : List IExpr → St → M (List Val × St)
  | [], st => .ok ([], st)
  | e :: es, st => do
    let (v, st1) ← eval env e st
    let (vs, st2) ← evalAll env es st1
    pure (v :: vs, st2)

/-- `recv.method(args)` on a parser whose state is `(rest, undo)`: results, new state of the receiver -/
def callMethod (env : Env) (k : Nat) (method : String) (args : List Val) (rest : List Token) :
    M (List Val × Val) :=
  if method == "next" then
    match args, rest with
    | [], [] => .ok ([.tok (eofTok env.c), .bool false], .parser [] (some []))
    | [], t :: ts => .ok ([.tok t, .bool true], .parser ts (some rest))
    | _, _ => stuck
  else if method == "split" then
    match args with
    | [.kind kd] => .ok ([.parser (split kd rest).1 none], .parser (split kd rest).2 none)
    | _ => stuck
  else if method == "splitSemi" then
    match args with
    | [] => .ok ([.parser (splitSemi rest).1 none], .parser (splitSemi rest).2 none)
    | _ => stuck
  else
    match env.callee k method args rest with
    | some (vs, r) => .ok (vs, .parser r none)
    | none => stuck

/-- zero value of a declared variable -/
def zeroVar (ty : String) : Option Val :=
  if ty == "error" then some (.errs [])
  else if ty == "*Token" then some (.tokPtr none)
  else if ty == "[]Statement" then some (.list [])
  else none

/-- a `for` loop: `n` iterations are left; with `dec` the body of an iteration runs at depth `n - 1`,
    else at `k`.  `break` ends the loop, `continue` starts the next iteration. -/
def runLoop (dec : Bool) (body : Nat → St → M (Flow × St)) : Nat → Nat → St → M (Flow × St)
  | 0, _, st => .ok (.fuel, st)
  | n + 1, k, st => do
    let (f, st1) ← body (if dec then n else k) st
    match f with
    | .next | .cont => runLoop dec body n k (st1.leave st)
    | .brk => pure (.next, st1.leave st)
    | f => pure (f, st1.leave st)

/-- `firstParse(a, b)` as the model of the generic function that Props/C07OperatorIRParse ties to the
    regenerated body of `firstParse`: the first production unless it reports not-found, else the second -/
def firstOf (a b : St → M (List Val × St)) (st : St) : M (List Val × St) := do
  let (vs, st1) ← a st
  match vs with
  | [_, e] => if !isNF (← asErrs e) then pure (vs, st1) else b st1
  | _ => stuck

mutual
def exec (env : Env) : IStmt → Nat → St → M (Flow × St)
  | .call recv method lhs args, k, st => do
    let (rest, _) ← st.parser recv
    let (vs, st1) ← evalAll env args st
    let (res, ps) ← callMethod env k method vs rest
    let st2 ← st1.assign recv ps
    let st3 ← assignAll st2 lhs res
    pure (.next, st3)
  | .prev recv, _, st => do
    match ← st.parser recv with
    | (_, some l) => pure (.next, ← st.assign recv (.parser l none))
    | (_, none) => stuck
  | .assign t e, _, st => do
    let (x, st1) ← eval env e st
    pure (.next, ← assignTo st1 t x)
  | .varDecl v ty, _, st =>
    match zeroVar ty with
    | some z => .ok (.next, st.declare v z)
    | none => stuck
  | .newParser v q, _, st => do
    match ← st.get q with
    | .query => pure (.next, st.declare v (.parser (env.scan env.src) none))
    | _ => stuck
  | .mapOk v m e, _, st => do
    let (x, st1) ← eval env e st
    match x with
    | .str s => if m == "joinTypes" then pure (.next, st1.declare v (.bool (isJoinType s))) else stuck
    | _ => stuck
  | .msgOnly _ _, _, st => .ok (.next, st)
  | .ite c t e, k, st => do
    let (b, st0) ← evalCond env c st
    let (f, st1) ← if b then execBlock env t k st0 else execBlock env e k st0
    pure (f, st1.leave st)
  | .scope body, k, st => do
    let (f, st1) ← execBlock env body k st
    pure (f, st1.leave st)
  | .loop body, k, st => do
    let (rest, _) ← st.parser "p"
    runLoop env.fuelLoop (execBlock env body) (if env.fuelLoop then k else rest.length + 1) k st
  | .brk, _, st => .ok (.brk, st)
  | .cont, _, st => .ok (.cont, st)
  | .ret es, _, st => do
    let (vs, st1) ← evalAll env es st
    pure (.ret vs, st1)
  | .firstParse lhs a b, k, st => do
    let (vs, st1) ← firstOf (closure env a k st) (closure env b k st) st
    pure (.next, ← assignAll st1 lhs vs)
  | .rangeInit _ _ _, _, _ => stuck
  | .callFn _ _, _, _ => stuck
  | .retLast _, _, _ => stuck
  | .asType ty lhs e, _, st => do
    let (x, st1) ← eval env e st
    if ty == "BasicLit" then
      match x with
      | .expr (.lit s k v) => pure (.next, ← assignAll st1 lhs [.lit (some (s, k, v)), .bool true])
      | .expr _ => pure (.next, ← assignAll st1 lhs [.lit none, .bool false])    -- another node type, or a nil interface
      | .nil => pure (.next, ← assignAll st1 lhs [.lit none, .bool false])
      | _ => stuck
    else stuck

def execBlock (env : Env) : List IStmt → Nat → St → M (Flow × St)
  | [], _, st => .ok (.next, st)
  | s :: r, k, st => do
    let (f, st1) ← exec env s k st
    match f with
    | .next => execBlock env r k st1
    | _ => pure (f, st1)

/-- a function literal `func() (T, error) { body }` called in the state `st`: it sees (and changes) the
    variables of the enclosing function; what it declares is gone when it returns -/
def closure (env : Env) (body : List IStmt) (k : Nat) (outer : St) (st : St) : M (List Val × St) := do
  let (f, st1) ← execBlock env body k st
  match f with
  | .ret vs => pure (vs, st1.leave outer)
  | _ => stuck
end

/-! ### running a function -/

/-- the state at the entry of a function whose receiver `p` has the tokens `ts` left -/
def entry (params : List (String × Val)) : St := ⟨params.reverse, []⟩

def run (env : Env) (body : List IStmt) (k : Nat) (params : List (String × Val)) : M (Flow × St) :=
  execBlock env body k (entry params)

/-! ### reading nodes back -/

def toIdent (h : List Rec) : Val → Option (Option Ident)
  | .ident i => some i
  | .nil => some none
  | .ref a =>
    match h[a]? with
    | some ⟨ty, [(_, .str n), (_, .span s), (_, .bool q)]⟩ => if ty == "Ident" then some (some ⟨n, s, q⟩) else none
    | _ => none
  | _ => none

def toExpr : Val → Option Expr
  | .expr e => some e
  | .nil => some .nil
  | _ => none

def toExprs : Val → Option ExprList
  | .exprs l => some l
  | .nil => some .nil
  | _ => none

def toSterm : Val → Option (Option SortTerm)
  | .sterm t => some t
  | .nil => some none
  | _ => none

def toTab : Val → Option Tabular
  | .tab t => some t
  | .nil => some .nil
  | _ => none

def toColumn (h : List Rec) : Val → Option Column
  | .col c => some c
  | .ref a =>
    match h[a]? with
    | some ⟨ty, [(_, n), (_, .span s), (_, x)]⟩ =>
      if ty == "ProjectColumn" || ty == "ExtendColumn" || ty == "SummarizeColumn" then
        match toIdent h n, toExpr x with
        | some n, some x => some ⟨n, s, x⟩
        | _, _ => none
      else none
    | _ => none
  | _ => none

def toColumns (h : List Rec) : List Val → Option (List Column)
  | [] => some []
  | v :: vs =>
    match toColumn h v, toColumns h vs with
    | some c, some cs => some (c :: cs)
    | _, _ => none

def toSterms : List Val → Option (List SortTerm)
  | [] => some []
  | .sterm (some t) :: vs => (toSterms vs).map (t :: ·)
  | _ => none

def toProp (h : List Rec) : Val → Option (Option RenderProp)
  | .prop p => some p
  | .nil => some none
  | .ref a =>
    match h[a]? with
    | some ⟨ty, [(_, n), (_, .span s), (_, x)]⟩ =>
      if ty == "RenderProperty" then
        match toIdent h n, toExpr x with
        | some n, some x => some (some ⟨n, s, x⟩)
        | _, _ => none
      else none
    | _ => none
  | _ => none

def toProps : List Val → Option (List RenderProp)
  | [] => some []
  | .prop (some p) :: vs => (toProps vs).map (p :: ·)
  | _ => none

def listOf : Val → Option (List Val)
  | .list l => some l
  | .nil => some []
  | _ => none

def recToOp (h : List Rec) (r : Rec) : Option Op :=
  if r.ty == "CountOperator" then
    match r.fields with
    | [(_, .span p), (_, .span k)] => some (.count p k)
    | _ => none
  else if r.ty == "WhereOperator" then
    match r.fields with
    | [(_, .span p), (_, .span k), (_, x)] => (toExpr x).map (.where_ p k ·)
    | _ => none
  else if r.ty == "TakeOperator" then
    match r.fields with
    | [(_, .span p), (_, .span k), (_, x)] => (toExpr x).map (.take p k ·)
    | _ => none
  else if r.ty == "AsOperator" then
    match r.fields with
    | [(_, .span p), (_, .span k), (_, n)] => (toIdent h n).map (.as_ p k ·)
    | _ => none
  else if r.ty == "SortOperator" then
    match r.fields with
    | [(_, .span p), (_, .span k), (_, ts)] => ((listOf ts).bind toSterms).map (.sort p k ·)
    | _ => none
  else if r.ty == "TopOperator" then
    match r.fields with
    | [(_, .span p), (_, .span k), (_, n), (_, .span b), (_, c)] =>
      match toExpr n, toSterm c with
      | some n, some c => some (.top p k n b c)
      | _, _ => none
    | _ => none
  else if r.ty == "ProjectOperator" then
    match r.fields with
    | [(_, .span p), (_, .span k), (_, cs)] => ((listOf cs).bind (toColumns h)).map (.project p k ·)
    | _ => none
  else if r.ty == "ExtendOperator" then
    match r.fields with
    | [(_, .span p), (_, .span k), (_, cs)] => ((listOf cs).bind (toColumns h)).map (.extend p k ·)
    | _ => none
  else if r.ty == "SummarizeOperator" then
    match r.fields with
    | [(_, .span p), (_, .span k), (_, cs), (_, .span b), (_, gs)] =>
      match (listOf cs).bind (toColumns h), (listOf gs).bind (toColumns h) with
      | some cs, some gs => some (.summarize p k cs b gs)
      | _, _ => none
    | _ => none
  else if r.ty == "RenderOperator" then
    match r.fields with
    | [(_, .span p), (_, .span k), (_, ch), (_, .span w), (_, .span lp), (_, ps), (_, .span rp)] =>
      match toIdent h ch, (listOf ps).bind toProps with
      | some ch, some ps => some (.render p k ch w lp ps rp)
      | _, _ => none
    | _ => none
  else if r.ty == "JoinOperator" then
    match r.fields with
    | [(_, .span p), (_, .span k), (_, .span kd), (_, .span ka), (_, fl), (_, .span lp), (_, right), (_, .span rp),
        (_, .span on), (_, cs)] =>
      match toIdent h fl, toTab right, toExprs cs with
      | some fl, some right, some cs => some (.join p k kd ka fl lp right rp on cs)
      | _, _, _ => none
    | _ => none
  else none

def toOp (h : List Rec) : Val → Option Op
  | .op o => some o
  | .ref a => match h[a]? with | some r => recToOp h r | none => none
  | _ => none

def toOps (h : List Rec) : List Val → Option OpList
  | [] => some .nil
  | v :: vs =>
    match toOp h v, toOps h vs with
    | some o, some os => some (.cons o os)
    | _, _ => none

/-- `*TabularExpr`: Source is a `*TableRef` -/
def toTabular (h : List Rec) : Val → Option Tabular
  | .tab t => some t
  | .nil => some .nil
  | .ref a =>
    match h[a]? with
    | some ⟨ty, [(_, .ref s), (_, ops)]⟩ =>
      if ty == "TabularExpr" then
        match h[s]? with
        | some ⟨ty2, [(_, n)]⟩ =>
          if ty2 == "TableRef" then
            match toIdent h n, (listOf ops).bind (toOps h) with
            | some n, some os => some (.mk n os)
            | _, _ => none
          else none
        | _ => none
      else none
    | _ => none
  | _ => none

def toLet (h : List Rec) : Val → Option (Option Stmt)
  | .stmt s => some s
  | .nil => some none
  | .ref a =>
    match h[a]? with
    | some ⟨ty, [(_, .span k), (_, n), (_, .span asg), (_, x)]⟩ =>
      if ty == "LetStatement" then
        match toIdent h n, toExpr x with
        | some n, some x => some (some (.let_ k n asg x))
        | _, _ => none
      else none
    | _ => none
  | _ => none

def toStmts : List Val → Option (List Stmt)
  | [] => some []
  | .istmt s :: vs => (toStmts vs).map (s :: ·)
  | _ => none

def optM {α : Type} : Option α → M α
  | some a => .ok a
  | none => stuck

/-- what a function of the shape `func (p *parser) f(…) (*Node, error)` did: the node, the error, the tokens left.
    A loop that ran out of fuel: the node in `nodeVar` as it is, the fuel leaf after the error
    accumulated in `errVar` (if the function has one). -/
def result {α : Type} (conv : List Rec → Val → Option α) (nodeVar : String) (errVar : Option String)
    (r : M (Flow × St)) : M (PRes α) := do
  let (f, st) ← r
  let (rest, _) ← st.parser "p"
  match f with
  | .ret [v, e] => pure ⟨← optM (conv st.heap v), ← asErrs e, rest⟩
  | .fuel =>
    let acc ← match errVar with
      | some ev => do asErrs (← st.get ev)
      | none => pure []
    pure ⟨← optM (conv st.heap (← st.get nodeVar)), acc ++ errFuel, rest⟩
  | _ => stuck

/-! ### `firstParse`: a function whose parameters are functions

`firstParse[T any](productions ...func() (T, error))` is generic in what its productions do.  Its body is
interpreted with the productions as functions on an arbitrary state `σ` of the caller (for `Parse`: the
interpreter state of `Parse` itself, on which the two function literals run, see `closure`): a variable
of function type holds `.fn i`, the index of a production; `for _, v := range w[:len(w)-1]`, `x, err :=
v()` and `return w[len(w)-1]()` are interpreted here (in `exec`, which has no productions, they are `stuck`).
Slicing or indexing an empty `w` is a Go panic. -/

/-- `for _, elem := range fs { body }` -/
def rangeFP {σ : Type} (elem : String) (body : St × σ → M (Flow × (St × σ))) : List Val → St × σ → M (Flow × (St × σ))
  | [], s => .ok (.next, s)
  | x :: xs, (st, w) => do
    let (f, (st1, w1)) ← body (st.declare elem x, w)
    match f with
    | .next | .cont => rangeFP elem body xs (st1.leave st, w1)
    | .brk => pure (.next, (st1.leave st, w1))
    | f => pure (f, (st1.leave st, w1))

mutual
def execFP {σ : Type} (env : Env) (prods : List (σ → M (List Val × σ))) : IStmt → St × σ → M (Flow × (St × σ))
  | .rangeInit v w body, (st, x) => do
    match ← st.get w with
    | .list fs => if fs.isEmpty then goPanic else rangeFP v (execFPBlock env prods body) fs.dropLast (st, x)
    | _ => stuck
  | .callFn f lhs, (st, x) => do
    match ← st.get f with
    | .fn i =>
      match prods[i]? with
      | some t => do
        let (vs, x1) ← t x
        pure (.next, (← assignAll st lhs vs, x1))
      | none => stuck
    | _ => stuck
  | .ite c t e, (st, x) => do
    let (b, st0) ← evalCond env c st
    let (f, (st1, x1)) ← if b then execFPBlock env prods t (st0, x) else execFPBlock env prods e (st0, x)
    pure (f, (st1.leave st, x1))
  | .ret es, (st, x) => do
    let (vs, st1) ← evalAll env es st
    pure (.ret vs, (st1, x))
  | .retLast w, (st, x) => do
    match ← st.get w with
    | .list fs =>
      match fs.getLast? with
      | some (.fn i) =>
        match prods[i]? with
        | some t => do
          let (vs, x1) ← t x
          pure (.ret vs, (st, x1))
        | none => stuck
      | some _ => stuck
      | none => goPanic
    | _ => stuck
  | _, _ => stuck

def execFPBlock {σ : Type} (env : Env) (prods : List (σ → M (List Val × σ))) : List IStmt → St × σ → M (Flow × (St × σ))
  | [], s => .ok (.next, s)
  | s :: r, x => do
    let (f, x1) ← execFP env prods s x
    match f with
    | .next => execFPBlock env prods r x1
    | _ => pure (f, x1)
end

/-- `firstParse(prods…)` called in the caller's state `x`: what it returns, and the caller's state afterwards -/
def runFirstParse {σ : Type} (env : Env) (body : List IStmt) (prods : List (σ → M (List Val × σ))) (x : σ) : M (List Val × σ) := do
  let fns := (List.range prods.length).map Val.fn
  let (f, (_, x1)) ← execFPBlock env prods body (entry [("productions", .list fns)], x)
  match f with
  | .ret vs => pure (vs, x1)
  | _ => stuck

/-- what `firstParse` computes for two productions, on any caller state (`firstOf` is the instance `σ = St`) -/
def firstOfG {σ : Type} (a b : σ → M (List Val × σ)) (x : σ) : M (List Val × σ) := do
  let (vs, x1) ← a x
  match vs with
  | [_, e] => if !isNF (← asErrs e) then pure (vs, x1) else b x1
  | _ => stuck

end Pql.OpIR
