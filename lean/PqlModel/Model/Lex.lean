/-
Model of parser/lex.go: `Scan`, the sub-scanners, `normalizeNumberValue`,
`SplitStatements`.  Hand-written, tied to the Go code by the correspondence
check (SCAN / SPLIT lines) and, for the keyword table and the rune-class
predicates, by the regenerated facts.

The model reproduces behaviour, not the `pos/last` cursor: every sub-scanner
receives the suffix that starts at the token and returns the token's kind,
value and width.  Bytes ≥ 0x80 matter to the scanner only in the main dispatch
(white space or one error token per rune); inside identifiers, numbers, strings,
quoted identifiers and comments every decision is on an ASCII byte, and an
ASCII byte is always a rune of its own in Go's decoder, so those loops are
byte loops.
-/
import PqlModel.Base.Utf8
import PqlModel.Model.Token
import PqlModel.Generated.Facts
namespace Pql

/-! ### rune classes (lex.go isAlpha / isDigit / isHexDigit), from the regenerated ranges -/

def inRanges (rs : List (Nat × Nat)) (c : UInt8) : Bool :=
  rs.any fun r => r.1 ≤ c.toNat && c.toNat ≤ r.2

def isAlpha (c : UInt8) : Bool := inRanges Facts.isAlphaRanges c
def isDigit (c : UInt8) : Bool := inRanges Facts.isDigitRanges c
def isHexDigit (c : UInt8) : Bool := inRanges Facts.isHexDigitRanges c

def isIdentStart (c : UInt8) : Bool := isAlpha c || c == 95 || c == 36   -- '_' '$'
def isIdentCont (c : UInt8) : Bool := isAlpha c || isDigit c || c == 95

def keywordKind (text : Bytes) : Option TokKind :=
  match Facts.keywords.find? (fun kv => Bytes.ofString kv.1 == text) with
  | some kv => TokKind.ofGoName kv.2
  | none => none

/-! ### sub-scanners -/

/-- number of identifier-continuation bytes at the head -/
def identLoop : Bytes → Nat
  | [] => 0
  | c :: rest => if isIdentCont c then identLoop rest + 1 else 0

structure Lexeme where
  kind : TokKind
  value : Bytes
  width : Nat
  deriving Repr, DecidableEq

/-- `(*scanner).ident`; `s` starts with an identifier-start byte. -/
def scanIdent (s : Bytes) : Lexeme :=
  let w := identLoop s.tail + 1
  let text := s.take w
  match keywordKind text with
  | some k => ⟨k, [], w⟩
  | none => ⟨.ident, text, w⟩

/-- Result of a quoted scan: closed with a value, or broken off (EOF / end of line). -/
inductive QRes
  | closed (val : Bytes) (w : Nat)
  | bad (w : Nat)
  deriving Repr, DecidableEq

def QRes.shift (k : Nat) (c : Option UInt8) : QRes → QRes
  | .closed v w => .closed (match c with | some b => b :: v | none => v) (w + k)
  | .bad w => .bad (w + k)

/-- body of `(*scanner).quotedIdent`, after the opening back-quote -/
def qidentLoop : Bytes → QRes
  | [] => .bad 0
  | c :: rest =>
    if c == 96 then
      match rest with
      | [] => .closed [] 1
      | d :: rest' =>
        if d == 96 then (qidentLoop rest').shift 2 (some 96)
        else .closed [] 1
    else if c == 10 then .bad 0
    else (qidentLoop rest).shift 1 (some c)

def scanQuotedIdent (s : Bytes) : Lexeme :=
  match qidentLoop s.tail with
  | .closed v w => ⟨.qident, v, w + 1⟩
  | .bad w => ⟨.error, [], w + 1⟩

/-- body of `(*scanner).string`, after the opening quote `q` -/
def stringLoop (q : UInt8) : Bytes → QRes
  | [] => .bad 0
  | c :: rest =>
    if c == q then .closed [] 1
    else if c == 10 then .bad 0
    else if c == 92 then
      match rest with
      | [] => .bad 1
      | e :: rest' =>
        if e == 10 then .bad 1
        else
          let v : UInt8 := if e == 110 then 10 else if e == 116 then 9 else e
          (stringLoop q rest').shift 2 (some v)
    else (stringLoop q rest).shift 1 (some c)

def scanString (s : Bytes) : Lexeme :=
  match s with
  | [] => ⟨.error, [], 0⟩
  | q :: rest =>
    match stringLoop q rest with
    | .closed v w => ⟨.string, v, w + 1⟩
    | .bad w => ⟨.error, [], w + 1⟩

def digitsLen : Bytes → Nat
  | [] => 0
  | c :: rest => if isDigit c then digitsLen rest + 1 else 0

def hexDigitsLen : Bytes → Nat
  | [] => 0
  | c :: rest => if isHexDigit c then hexDigitsLen rest + 1 else 0

/-- `(*scanner).numberExponent`: width of an exponent at the head, 0 if there is none -/
def exponentLen : Bytes → Nat
  | e :: c :: rest =>
    if e == 101 || e == 69 then
      if c == 43 || c == 45 then
        match rest with
        | d :: rest' => if isDigit d then digitsLen rest' + 3 else 0
        | [] => 0
      else if isDigit c then digitsLen rest + 2 else 0
    else 0
  | _ => 0

/-- the "subsequent decimal digits" loop of `numberOrDot`: digits, at most one '.', digits -/
def mantissaLoop (hasDot : Bool) : Bytes → Nat
  | [] => 0
  | c :: rest =>
    if c == 46 && !hasDot then mantissaLoop true rest + 1
    else if isDigit c then mantissaLoop hasDot rest + 1
    else 0

def trimLeftZeros : Bytes → Bytes
  | [] => []
  | c :: rest => if c == 48 then trimLeftZeros rest else c :: rest

/-- `normalizeNumberValue` -/
def normalizeNumber (s : Bytes) : Bytes :=
  match trimLeftZeros s with
  | [] => [48]
  | c :: rest => if c == 46 || c == 101 || c == 69 then 48 :: c :: rest else c :: rest

def hexVal (c : UInt8) : Nat :=
  let n := c.toNat
  if 48 ≤ n && n ≤ 57 then n - 48
  else if 97 ≤ n && n ≤ 102 then n - 87
  else if 65 ≤ n && n ≤ 70 then n - 55
  else 0

def hexToNat (ds : Bytes) : Nat := ds.foldl (fun acc c => acc * 16 + hexVal c) 0

def natToDec (n : Nat) : Bytes := (Nat.toDigits 10 n).map fun c => UInt8.ofNat c.toNat

/-- decimal number ending after `k` bytes of `s` plus mantissa and exponent -/
def finishNumber (s : Bytes) (k : Nat) (hasDot : Bool) : Lexeme :=
  let m := mantissaLoop hasDot (s.drop k)
  let e := exponentLen (s.drop (k + m))
  let w := k + m + e
  ⟨.number, normalizeNumber (s.take w), w⟩

/-- `(*scanner).numberOrDot`; `s` starts with a digit or '.' -/
def scanNumberOrDot (s : Bytes) : Lexeme :=
  match s with
  | [] => ⟨.error, [], 0⟩
  | c :: rest =>
    if c == 48 then
      match rest with
      | [] => ⟨.number, [48], 1⟩
      | c2 :: rest2 =>
        if c2 == 46 then finishNumber s 2 true
        else if c2 == 101 || c2 == 69 then
          let w := exponentLen rest + 1
          ⟨.number, normalizeNumber (s.take w), w⟩
        else if c2 == 120 || c2 == 88 then
          let n := hexDigitsLen rest2
          if n == 0 then ⟨.error, [], 2⟩
          else
            let v := hexToNat (rest2.take n)
            if v < 18446744073709551616 then ⟨.number, natToDec v, n + 2⟩
            else ⟨.error, [], n + 2⟩
        else if isDigit c2 then finishNumber s 2 false
        else finishNumber s 1 false
    else if c == 46 then
      match rest with
      | [] => ⟨.dot, [], 1⟩
      | c2 :: _ => if isDigit c2 then finishNumber s 2 true else ⟨.dot, [], 1⟩
    else finishNumber s 1 false

/-- a `//` comment's body: everything up to and including the next newline -/
def commentLen : Bytes → Nat
  | [] => 0
  | c :: rest => if c == 10 then 1 else commentLen rest + 1

/-! ### main dispatch -/

/-- One step of `Scan`'s loop at a non-empty suffix: an optional token starting at the
    head of the suffix, and the number of bytes consumed. -/
structure Step where
  tok : Option (TokKind × Bytes)
  width : Nat
  deriving Repr, DecidableEq

def Step.ofLexeme (l : Lexeme) : Step := ⟨some (l.kind, l.value), l.width⟩
def Step.sym (k : TokKind) (w : Nat) : Step := ⟨some (k, []), w⟩
def Step.skip (w : Nat) : Step := ⟨none, w⟩

def isAsciiSpace (c : UInt8) : Bool :=
  c == 9 || c == 10 || c == 11 || c == 12 || c == 13 || c == 32

/-- single-byte tokens -/
def singleKind (c : UInt8) : Option TokKind :=
  if c == 44 then some .comma
  else if c == 124 then some .pipe
  else if c == 40 then some .lparen
  else if c == 41 then some .rparen
  else if c == 91 then some .lbracket
  else if c == 93 then some .rbracket
  else if c == 43 then some .plus
  else if c == 45 then some .minus
  else if c == 42 then some .star
  else if c == 37 then some .mod
  else if c == 59 then some .semi
  else none

/-- operators decided with one byte of look-ahead, comments, and the error default;
    `c` is an ASCII byte that starts no identifier, number, string or quoted identifier -/
def scanPunct (c : UInt8) (rest : Bytes) : Step :=
  match singleKind c with
  | some k => .sym k 1
  | none =>
    let d := rest.head?
    if c == 61 then
      if d == some 61 then .sym .eq 2 else if d == some 126 then .sym .cieq 2 else .sym .assign 1
    else if c == 33 then
      if d == some 61 then .sym .ne 2 else if d == some 126 then .sym .cine 2 else .sym .error 1
    else if c == 60 then
      if d == some 61 then .sym .le 2 else .sym .lt 1
    else if c == 62 then
      if d == some 61 then .sym .ge 2 else .sym .gt 1
    else if c == 47 then
      if d == some 47 then .skip (commentLen rest.tail + 2) else .sym .slash 1
    else .sym .error 1

/-- bytes ≥ 0x80: one rune, white space or an error token -/
def scanNonAscii (s : Bytes) : Step :=
  let rw := decodeRune s
  if isSpaceRune rw.1 then .skip rw.2 else .sym .error rw.2

def scanOne (s : Bytes) : Step :=
  match s with
  | [] => .skip 0
  | c :: rest =>
    if 128 ≤ c.toNat then scanNonAscii s
    else if isAsciiSpace c then .skip 1
    else if isIdentStart c then .ofLexeme (scanIdent s)
    else if isDigit c || c == 46 then .ofLexeme (scanNumberOrDot s)
    else if c == 34 || c == 39 then .ofLexeme (scanString s)
    else if c == 96 then .ofLexeme (scanQuotedIdent s)
    else scanPunct c rest

theorem scanPunct_width_pos (c : UInt8) (rest : Bytes) : 1 ≤ (scanPunct c rest).width := by
  fun_cases scanPunct c rest
  all_goals simp [Step.skip, Step.sym]

theorem scanIdent_width_pos (s : Bytes) : 1 ≤ (scanIdent s).width := by
  simp only [scanIdent]; split <;> simp

theorem scanString_width_pos (c : UInt8) (rest : Bytes) : 1 ≤ (scanString (c :: rest)).width := by
  simp only [scanString]; split <;> simp

theorem scanQuotedIdent_width_pos (s : Bytes) : 1 ≤ (scanQuotedIdent s).width := by
  simp only [scanQuotedIdent]; split <;> simp

theorem scanNumberOrDot_width_pos (c : UInt8) (rest : Bytes) :
    1 ≤ (scanNumberOrDot (c :: rest)).width := by
  generalize hs : c :: rest = s
  fun_cases scanNumberOrDot s
  case case1 => cases hs
  all_goals simp only [finishNumber]
  all_goals omega

theorem scanNonAscii_width_pos (c : UInt8) (rest : Bytes) :
    1 ≤ (scanNonAscii (c :: rest)).width := by
  unfold scanNonAscii
  have := decodeRune_width_pos c rest
  simp only [Step.skip, Step.sym]
  split <;> simpa

theorem scanOne_width_pos (c : UInt8) (rest : Bytes) : 1 ≤ (scanOne (c :: rest)).width := by
  generalize hs : c :: rest = s
  fun_cases scanOne s
  · cases hs
  · exact hs ▸ scanNonAscii_width_pos c rest
  · exact Nat.le_refl 1
  · exact scanIdent_width_pos _
  · exact scanNumberOrDot_width_pos _ _
  · exact scanString_width_pos _ _
  · exact scanQuotedIdent_width_pos _
  · exact scanPunct_width_pos _ _

/-- `Scan`: iterate `scanOne`; `off` is the absolute offset of `s` in the source. -/
def scanFrom (s : Bytes) (off : Nat) : List Token :=
  match s with
  | [] => []
  | c :: rest =>
    let st := scanOne (c :: rest)
    let tl := scanFrom ((c :: rest).drop st.width) (off + st.width)
    match st.tok with
    | some (k, v) => ⟨k, off, off + st.width, v⟩ :: tl
    | none => tl
termination_by s.length
decreasing_by
  have := scanOne_width_pos c rest
  simp only [List.length_drop, List.length_cons]
  omega

def scan (s : Bytes) : List Token := scanFrom s 0

/-! ### SplitStatements -/

/-- `SplitStatements`: cut `src` at the spans of the semicolon tokens. -/
def splitAtSemis (src : Bytes) : List Token → Nat → List Bytes
  | [], start => [src.drop start]
  | t :: ts, start =>
    if t.kind = .semi then (src.drop start).take (t.start - start) :: splitAtSemis src ts t.stop
    else splitAtSemis src ts start

def splitStatements (src : Bytes) : List Bytes := splitAtSemis src (scan src) 0

end Pql
