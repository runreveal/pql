import PqlModel.Props.C01
import PqlModel.Props.C01Syntactic
import PqlModel.Props.C01LexRender
import PqlModel.Props.C01Sem
import PqlModel.Props.C06Operand
import PqlModel.Props.C05ParseStatement
import PqlModel.Props.C01Templates
import PqlModel.Props.C02EndToEnd
import PqlModel.Props.C05Parsed
import PqlModel.Props.C02EndToEndSource
import PqlModel.Props.C05NoPlaceholder
import PqlModel.Props.C01WriteExprIR
import PqlModel.Props.C01WriteExprIRCases
import PqlModel.Props.C01WriteExprIRAll
import PqlModel.Props.C07ExprIR
import PqlModel.Props.IRHeadlinesA
#print axioms Pql.C01.C01_parens_write
#print axioms Pql.C01.C01_parens_wrap
#print axioms Pql.C01.C01_unparen_write
#print axioms Pql.C01.C01_bare_types
#print axioms Pql.C01.C01_known_functions
#print axioms Pql.C01.C01_needsWrap_binary
#print axioms Pql.C01.C01_needsWrap_in
#print axioms Pql.C01.C01_needsWrap_index
#print axioms Pql.C01.C01_tight_signed
#print axioms Pql.C01.C01_binary_ops
#print axioms Pql.C01.C01_lexRender
#print axioms Pql.C01.C01_lexRender_before
#print axioms Pql.C01.writeExpr_adj
#print axioms Pql.C01.writeExpr_adj_before
#print axioms Pql.C01.writeExpr_no_leading_minus
#print axioms Pql.LexRender.lexRender_of_adj
#print axioms Pql.LexRender.lexRender_of_adj_top
#print axioms Pql.C01.C01_eq_never_null
#print axioms Pql.C01.C01_ne_never_null
#print axioms Pql.C01.C01_parse_roundtrip_partial
#print axioms Pql.C01.C01_parse_roundtrip_whole
#print axioms Pql.C01.C01_parse_roundtrip_anyfuel
#print axioms Pql.C01.C01_operand_is_unit
#print axioms Pql.C01.C01_counterexample_Not
#print axioms Pql.C01T.C01_template_keys
#print axioms Pql.C01T.C01_writers_have_templates
#print axioms Pql.C01T.C01_builtin_templates
#print axioms Pql.C01T.C01_ne_template
#print axioms Pql.C01T.C01_cieq_template
#print axioms Pql.C01T.C01_cine_template
#print axioms Pql.C01T.C01_eq_template
#print axioms Pql.C01T.C01_plain_op_template
#print axioms Pql.C01T.C01_index_template
#print axioms Pql.C01T.C01_in_template
#print axioms Pql.C01T.C01_call_default_template
#print axioms Pql.C01T.C01_call_known_template
#print axioms Pql.ExprIR.maybe_ir
#print axioms Pql.ExprIR.tight_ir
#print axioms Pql.ExprIR.hasJoin_ir
#print axioms Pql.ExprIR.we_ir
#print axioms Pql.ExprIR.writers_checked
#print axioms Pql.ExprIR.C01_exprIR_keys
#print axioms Pql.ExprIR.C01_writers_have_units
#print axioms Pql.ExprIR.C01_maybeParen_ir
#print axioms Pql.ExprIR.C01_tight_ir
#print axioms Pql.ExprIR.C01_hasJoinTerms_ir
#print axioms Pql.ExprIR.C01_hasJoinTerms_ir_needs_good
#print axioms Pql.ExprIR.C01_hasJoinTerms_ir_nonvacuous
#print axioms Pql.ExprIR.known_eq
#print axioms Pql.ExprIR.C01_writeExpression_step
#print axioms Pql.ExprIR.C01_writeExpression_ir
#print axioms Pql.ExprIR.C01_writeMaybeParen_ir
#print axioms Pql.ExprIR.C01_writeTight_ir
#print axioms Pql.ExprIR.C01_writeExpression_ir_nonjoin
#print axioms Pql.ExprIR.C01_writeExpression_ir_needs_good
#print axioms Pql.ExprIR.C01_writeExpression_ir_nonvacuous
#print axioms Pql.IRHead.C01_lexRender_ir
#print axioms Pql.IRHead.C01_parse_roundtrip_ir
#print axioms Pql.IRHead.C01_parse_roundtrip_anyfuel_ir
#print axioms Pql.IRHead.C01_operand_is_unit_ir
#print axioms Pql.IRHead.C01_unparen_ir
#print axioms Pql.IRHead.C01_on_translated_code
#print axioms Pql.IRHead.C01_on_translated_code_nonvacuous
