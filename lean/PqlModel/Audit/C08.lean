import PqlModel.Props.C08
import PqlModel.Props.C08Full
import PqlModel.Props.C08Reject
import PqlModel.Props.C08RejectCx
import PqlModel.Props.C07OperatorIRTreesA
import PqlModel.Props.C07OperatorIRTreesB
import PqlModel.Props.C07OperatorIRSort
import PqlModel.Props.C07OperatorIRExtend
import PqlModel.Props.C07OperatorIRProject
import PqlModel.Props.C07OperatorIRLet
import PqlModel.Props.C07OperatorIRTabular
import PqlModel.Props.C07OperatorIRSummarize
import PqlModel.Props.C07OperatorIRRender
import PqlModel.Props.C07OperatorIRJoin
import PqlModel.Props.C07OperatorIRParse
import PqlModel.Props.C07ExprIR
import PqlModel.Props.C08ErrIRUnits
import PqlModel.Props.C08ErrIRAlgebra
import PqlModel.Props.C08ErrIRShape
import PqlModel.Props.C08ErrIR
import PqlModel.Props.IRHeadlinesC
#print axioms Pql.C08.C08_split_partition
#print axioms Pql.C08.C08_splitSemi_partition
#print axioms Pql.C08.C08_endSplit_iff
#print axioms Pql.C08.C08_accounts_no_error_token
#print axioms Pql.C08.C08_accounted_expr
#print axioms Pql.C08.C08_accounted_exprList
#print axioms Pql.C08.C08_accounted_sortTerm
#print axioms Pql.C08.C08_accounted_column
#print axioms Pql.C08.C08_accounted_operator
#print axioms Pql.C08.C08_accounted_tabular
#print axioms Pql.C08.C08_accounted_let
#print axioms Pql.C08.C08_accounted_partial
#print axioms Pql.C08.C08_accounted_parse
#print axioms Pql.C08.C08_accounted_parse_zip
#print axioms Pql.C08.C08_accounted_unrestricted_false
#print axioms Pql.Reject.C08_error_token_rejected
#print axioms Pql.Reject.C08_error_token_not_compiled
#print axioms Pql.Reject.unparse_balanced
#print axioms Pql.Reject.C08_unbalanced_rejected
#print axioms Pql.Reject.unparse_last_token
#print axioms Pql.Reject.C08_dangling_operator_rejected
#print axioms Pql.Reject.C08_last_keyword_is_name
#print axioms Pql.Reject.C08_dangling_inside_rejected
#print axioms Pql.Reject.C08_whole_piece_is_one_statement
#print axioms Pql.Reject.C08_adjacent_rejected
#print axioms Pql.Reject.C08_two_operands_rejected
#print axioms Pql.Reject.C08_pipe_needs_operator
#print axioms Pql.Reject.C08_double_pipe_rejected
#print axioms Pql.Reject.C08_count_argument_rejected
#print axioms Pql.Reject.C08_asc_desc_rejected
#print axioms Pql.Reject.C08_missing_argument_rejected
#print axioms Pql.Reject.C08_operator_keyword_alone_rejected
#print axioms Pql.Reject.C08_missing_argument_inside_rejected
#print axioms Pql.Reject.C08_join_without_on_rejected
#print axioms Pql.Reject.C08_call_only_comma_rejected
#print axioms Pql.Reject.C08_in_empty_list_rejected
#print axioms Pql.ErrIR.C08_joinErrors_ir
#print axioms Pql.ErrIR.C08_makeErrorOpaque_ir
#print axioms Pql.ErrIR.C08_isNotFound_ir
#print axioms Pql.ErrIR.C08_isNotFound_built
#print axioms Pql.ErrIR.C08_built_closed
#print axioms Pql.ErrIR.C08_built_invariant
#print axioms Pql.ErrIR.C08_nil_ir
#print axioms Pql.ErrIR.C08_errSites_ir
#print axioms Pql.ErrIR.C08_site_leaves
#print axioms Pql.ErrIR.C08_returned_leaves
#print axioms Pql.ErrIR.C08_opIR_primitives
#print axioms Pql.ErrIR.C08_exprIR_primitives
#print axioms Pql.ErrIR.C08_examples_trees
#print axioms Pql.ErrIR.C08_examples_built
#print axioms Pql.ErrIR.C08_examples_leaves
#print axioms Pql.ErrIR.C08_examples_nontrivial
#print axioms Pql.ErrIR.joinErrors_ir
#print axioms Pql.ErrIR.makeErrorOpaque_ir
#print axioms Pql.ErrIR.isNotFound_ir
#print axioms Pql.ErrIR.errTypes_ir
#print axioms Pql.ErrIR.joinErrors_interp
#print axioms Pql.ErrIR.makeErrorOpaque_interp
#print axioms Pql.ErrIR.isNotFound_interp
#print axioms Pql.ErrIR.leaves_goJoin
#print axioms Pql.ErrIR.leaves_goOpaque
#print axioms Pql.ErrIR.errorsAs_leaves
#print axioms Pql.ErrIR.built_normal
#print axioms Pql.ErrIR.leaves_eq_nil_iff
#print axioms Pql.ErrIR.leaves_spans
#print axioms Pql.ErrIR.join_empty_cx
#print axioms Pql.ErrIR.perr_nested_cx
#print axioms Pql.ErrIR.bareNF_cx
#print axioms Pql.ErrIR.opaque_unwrap_cx
#print axioms Pql.ErrIR.nf_unwrap_irrelevant_as
#print axioms Pql.ErrIR.nested_join_kept
#print axioms Pql.ErrIR.wrap_inside_cx
#print axioms Pql.IRHead.C08_accounted_ir
#print axioms Pql.IRHead.C08_rejection_ir
#print axioms Pql.IRHead.C08_shapes_rejected_ir
#print axioms Pql.IRHead.C08_on_translated_code
#print axioms Pql.IRHead.C08_on_translated_code_nonvacuous
