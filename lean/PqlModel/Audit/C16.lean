import PqlModel.Props.C16a
import PqlModel.Props.C16
import PqlModel.Props.C16IO
import PqlModel.Props.C16Semantics
import PqlModel.Props.C05NoPlaceholderCli
import PqlModel.Props.C16RunIR
import PqlModel.Props.C16IOIRTrees
import PqlModel.Props.C16IOIR
import PqlModel.Props.C16IOIRMake
import PqlModel.Props.IRHeadlines
import PqlModel.Props.IRHeadlinesIO
import PqlModel.Props.C16StreamIR
import PqlModel.Props.C16MainIR
#print axioms Pql.C16.C16_statement_sim
#print axioms Pql.C16.C16_statements_sim
#print axioms Pql.C16.C16_output_monotone
#print axioms Pql.C16.C16_refines
#print axioms Pql.C16.C16_refines_all
#print axioms Pql.C16.C16_last_terminated_or_not
#print axioms Pql.C16.C16_last_terminated_or_not_cli
#print axioms Pql.CliIO.C16_multi_concat
#print axioms Pql.CliIO.C16_multi_concat_fuel
#print axioms Pql.CliIO.C16_multi_terminates
#print axioms Pql.CliIO.C16_multi_concat_noErr
#print axioms Pql.CliIO.C16_reader_alone
#print axioms Pql.CliIO.C16_multi_single
#print axioms Pql.CliIO.C16_multi_chunking
#print axioms Pql.CliIO.C16_multi_zero_nil
#print axioms Pql.CliIO.C16_multi_progress
#print axioms Pql.CliIO.C16_files
#print axioms Pql.CliIO.C16_files_general
#print axioms Pql.CliIO.C16_lines_lossless
#print axioms Pql.CliIO.C16_lines_only_cr_dropped
#print axioms Pql.CliIO.C16_lines_identity
#print axioms Pql.CliIO.C16_lines_prefix
#print axioms Pql.CliIO.C16_main_spec
#print axioms Pql.CliIO.C16_main_spec_bytes
#print axioms Pql.CliIO.C16_spec_closed
#print axioms Pql.CliIO.C16_output_order
#print axioms Pql.CliIO.C16_steps_prelude
#print axioms Pql.CliIO.C16_failed_let_not_in_prelude
#print axioms Pql.CliIO.C16_failure_isolated
#print axioms Pql.CliIO.C16_failure_replace
#print axioms Pql.CliIO.C16_exit_iff
#print axioms Pql.CliIO.C16_nothing_dropped
#print axioms Pql.CliIO.C16_nothing_dropped_main
#print axioms Pql.CliSem.C16_prelude_parse
#print axioms Pql.CliSem.C16_semiEnds_iff
#print axioms Pql.CliSem.C16_semiEnds_indep
#print axioms Pql.CliSem.C16_pieces_semiEnds
#print axioms Pql.CliSem.C16_let_piece
#print axioms Pql.CliSem.C16_prelude_is_scope
#print axioms Pql.CliSem.C16_compile_ignores_shift
#print axioms Pql.CliSem.C16_colsGood_of_parse
#print axioms Pql.CliSem.C16_slice_shift
#print axioms Pql.CliSem.C16_shadow
#print axioms Pql.CliSem.C16_prelude_is_substitution
#print axioms Pql.CliSem.C16_let_test_sound
#print axioms Pql.CliSem.C16_letAccepts_iff
#print axioms Pql.CliSem.C16_accepted_invariant
#print axioms Pql.CliSem.C16_cli_semantics
#print axioms Pql.CliSem.C16_cli_output
#print axioms Pql.CliSem.C16_needs_semiEnds
#print axioms Pql.CliSem.C16_probe_needs_semiEnds
#print axioms Pql.CliSem.C16_needs_errorFree
#print axioms Pql.CliSem.C16_needs_allLets
#print axioms Pql.CliSem.C16_probe_needs_let
#print axioms Pql.CliSem.C16_slice_needs_good
#print axioms Pql.CliIR.run_ir
#print axioms Pql.CliIR.run_params
#print axioms Pql.CliIR.stmt_step
#print axioms Pql.CliIR.line_step
#print axioms Pql.CliIR.interpRun_eq
#print axioms Pql.CliIR.C16_run_ir
#print axioms Pql.CliIR.C16_main_ir
#print axioms Pql.CliIR.C16_run_ir_error
#print axioms Pql.CliIR.empty_slice_panics
#print axioms Pql.CliIR.unguarded_index_panics
#print axioms Pql.CliIR.no_return_stuck
#print axioms Pql.CliIOIR.read_ir
#print axioms Pql.CliIOIR.close_ir
#print axioms Pql.CliIOIR.makeInput_ir
#print axioms Pql.CliIOIR.makeOutput_ir
#print axioms Pql.CliIOIR.isTerminal_ir
#print axioms Pql.CliIOIR.read_run
#print axioms Pql.CliIOIR.mrRead_of_inv
#print axioms Pql.CliIOIR.C16_Read_ir_heap
#print axioms Pql.CliIOIR.C16_Read_ir_fuel_tight
#print axioms Pql.CliIOIR.C16_Read_ir_nil_panics
#print axioms Pql.CliIOIR.close_run
#print axioms Pql.CliIOIR.mrClose_spec
#print axioms Pql.CliIOIR.C16_Close_ir
#print axioms Pql.CliIOIR.C16_Close_ir_nil_panics
#print axioms Pql.CliIOIR.makeInput_run
#print axioms Pql.CliIOIR.miLoop_spec
#print axioms Pql.CliIOIR.den_eq_denote
#print axioms Pql.CliIOIR.C16_makeInput_ir
#print axioms Pql.CliIOIR.C16_makeOutput_ir
#print axioms Pql.CliIOIR.C16_isTerminal_ir
#print axioms Pql.IRHead.C16_multi_concat_ir
#print axioms Pql.IRHead.C16_multi_concat_ir_needs_fuel
#print axioms Pql.IRHead.C16_run_spec_any_compile_ir
#print axioms Pql.IRHead.C16_run_spec_ir
#print axioms Pql.IRHead.C16_main_semantics_ir
#print axioms Pql.IRHead.C16_last_terminated_or_not_ir
#print axioms Pql.IRHead.C16_no_placeholder_ir
#print axioms Pql.IRHead.C16_on_translated_code
#print axioms Pql.StreamIR.C16_Read_ir_iterated_steps
#print axioms Pql.StreamIR.C16_Read_ir_iterated_then_Close
#print axioms Pql.StreamIR.C16_main_pipeline_ir
#print axioms Pql.StreamIR.C16_main_pipeline_ir_closed
#print axioms Pql.StreamIR.C16_main_pipeline_ir_semantics
#print axioms Pql.StreamIR.C16_main_pipeline_ir_chunking
#print axioms Pql.StreamIR.C16_main_pipeline_ir_needs_fuel
#print axioms Pql.StreamIR.C16_main_pipeline_ir_needs_calls
#print axioms Pql.StreamIR.C16_main_pipeline_ir_needs_clean
#print axioms Pql.StreamIR.C16_Read_ir_iterated_needs_nodup
#print axioms Pql.StreamIR.C16_Read_ir_iterated_needs_denote
#print axioms Pql.StreamIR.C16_Read_ir_iterated_needs_fuel
#print axioms Pql.MainIR.runE_ir
#print axioms Pql.MainIR.logError_ir
#print axioms Pql.MainIR.main_ir
#print axioms Pql.MainIR.command_ir
#print axioms Pql.MainIR.flags_ir
#print axioms Pql.MainIR.interpRunE_eq
#print axioms Pql.MainIR.interpMain_eq
#print axioms Pql.MainIR.interpMain_unknown_flag
#print axioms Pql.MainIR.C16_RunE_ir_general
#print axioms Pql.MainIR.C16_main_ir
#print axioms Pql.MainIR.C16_exit_status_ir
#print axioms Pql.MainIR.C16_exit_status_ir_close_ok
#print axioms Pql.MainIR.ex_two_files_and_stdin
#print axioms Pql.MainIR.ex_open_fails
#print axioms Pql.MainIR.ex_create_fails
#print axioms Pql.MainIR.ex_read_error
#print axioms Pql.MainIR.ex_close_fails
#print axioms Pql.MainIR.ex_compile_error
#print axioms Pql.MainIR.C16_RunE_ir_needs_close
#print axioms Pql.MainIR.C16_main_ir_needs_flags
#print axioms Pql.MainIR.C16_main_ir_needs_fuel
#print axioms Pql.MainIR.C16_main_ir_needs_calls
#print axioms Pql.MainIR.C16_main_ir_needs_clean
#print axioms Pql.MainIR.failure_modes
