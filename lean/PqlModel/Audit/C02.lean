import PqlModel.Props.C02
import PqlModel.Props.C02Split
import PqlModel.Props.C05SplitRefines
import PqlModel.Props.C02Semantics
import PqlModel.Props.C02Statement
import PqlModel.Props.C02SemanticsCex
import PqlModel.Props.C05ParseStatement
import PqlModel.Props.C03Full
import PqlModel.Props.C02EndToEnd
import PqlModel.Props.C05Parsed
import PqlModel.Props.C02EndToEndSource
import PqlModel.Props.C05WriteIRAll
import PqlModel.Props.C05WriteIRStmt
import PqlModel.Props.C07Defaults
import PqlModel.Props.C02SplitImperative
import PqlModel.Props.C06Placeholders
import PqlModel.Props.C02ProgramNames
import PqlModel.Props.C02SplitIR
import PqlModel.Props.C03JoinCondIR
import PqlModel.Props.C07OperatorIRTerm
import PqlModel.Props.IRHeadlinesA
#print axioms Pql.C02.C02_canAttachSort_table
#print axioms Pql.C02.C02_top_eq_sort_take
#print axioms Pql.C02.C02_spec_top
#print axioms Pql.SplitQ.splitOps_run
#print axioms Pql.SplitQ.splitQueries_run
#print axioms Pql.SplitQ.splitOps_preserves
#print axioms Pql.SplitQ.splitQueries_preserves
#print axioms Pql.SplitQ.splitQueries_inv
#print axioms Pql.C02.C02_sort_not_after_rename
#print axioms Pql.C02.C02_limit_never_crosses
#print axioms Pql.C02.C02_limit_never_crosses_nested
#print axioms Pql.C02.C02_segment_forms
#print axioms Pql.C02.C02_sort_chains
#print axioms Pql.C02.C02_take_chains
#print axioms Pql.C02.C02_sort_attaches
#print axioms Pql.C02.C02_take_attaches
#print axioms Pql.C02.C02_pipeline_order_semantics
#print axioms Pql.C02.C02_sel_none
#print axioms Pql.C02.C02_sel_as
#print axioms Pql.C02.C02_sel_where
#print axioms Pql.C02.C02_sel_count
#print axioms Pql.C02.C02_sel_render
#print axioms Pql.C02.C02_sel_extend
#print axioms Pql.C02.C02_sel_project
#print axioms Pql.C02.C02_sel_summarize
#print axioms Pql.C02.C02_statement_semantics_ctes
#print axioms Pql.C02.C02_statement_interp
#print axioms Pql.C02.C02_statement_semantics_asNames
#print axioms Pql.C02.C02_intended_semantics
#print axioms Pql.C02.Cex.C02_project_agg_differs
#print axioms Pql.C02.Cex.C02_extend_agg_differs
#print axioms Pql.C02.Cex.C02_summarize_plain_differs
#print axioms Pql.C02.Cex.C02_project_sort_differs
#print axioms Pql.C02.Cex.C02_summarize_sort_differs
#print axioms Pql.C02.Cex.C02_duplicate_names_differ
#print axioms Pql.E2E.C02_end_to_end_tree
#print axioms Pql.E2E.C02_end_to_end_tree_detail
#print axioms Pql.E2E.C02_end_to_end_tree_raw
#print axioms Pql.E2E.C02_end_to_end_source
#print axioms Pql.E2E.C02_end_to_end_program_partial
#print axioms Pql.E2E.evalStatement_of_statementEq
#print axioms Pql.E2E.evalS_not_invariant_under_normS
#print axioms Pql.E2EFinal.C02_end_to_end_bytes
#print axioms Pql.E2EFinal.C02_end_to_end_bytes_detail
#print axioms Pql.E2EFinal.C02_compiled_no_bang
#print axioms Pql.E2EFinal.C02_compiled_bang_free
#print axioms Pql.E2EFinal.C02_parse_noBang
#print axioms Pql.E2EFinal.C02_end_to_end_tree_raw_full
#print axioms Pql.E2EFinal.C02_end_to_end_bytes_raw
#print axioms Pql.E2EFinal.C02_end_to_end_run
#print axioms Pql.E2EFinal.C05_parse_statement_program
#print axioms Pql.E2EFinal.C02_end_to_end_program
#print axioms Pql.E2EFinal.C02_end_to_end_program_bytes
#print axioms Pql.E2EFinal.C02_end_to_end_program_bytes_detail
#print axioms Pql.E2EFinal.C02_end_to_end_program_run
#print axioms Pql.SplitImp.C02_splitQueries_refines
#print axioms Pql.SplitImp.C02_splitQueries_refines_list
#print axioms Pql.SplitImp.C02_splitQueries_refines_top
#print axioms Pql.SplitImp.C02_splitQueriesI_post
#print axioms Pql.SplitImp.C02_callee_preserves_caller_view
#print axioms Pql.SplitImp.C02_lastSubquery_is_last
#print axioms Pql.SplitImp.C02_aliasing_is_visible
#print axioms Pql.SplitImp.C02_limit_never_crosses_nested_imp
#print axioms Pql.SplitImp.C05_names_by_index_imp
#print axioms Pql.SplitImp.C05_reads_earlier_imp
#print axioms Pql.SplitImp.C02_compile_imperative
#print axioms Pql.SplitImp.C02_refines_needs_valid
#print axioms Pql.SplitImp.C02_refines_needs_source
#print axioms Pql.SplitImp.C02_refines_needs_as_name
#print axioms Pql.E2EMore.C02_compile_named
#print axioms Pql.E2EMore.C02_end_to_end_program_names
#print axioms Pql.E2EMore.C02_end_to_end_program_names_bytes
#print axioms Pql.E2EMore.C02_end_to_end_program_names_run
#print axioms Pql.SplitIR.C02_chain_ir
#print axioms Pql.SplitIR.C02_split_ir
#print axioms Pql.SplitIR.C02_split_ir_fuel
#print axioms Pql.SplitIR.C02_split_ir_not_stuck
#print axioms Pql.SplitIR.C02_split_ir_refines_model
#print axioms Pql.SplitIR.C02_split_ir_refines_model_top
#print axioms Pql.SplitIR.C02_split_ir_fuel_needed
#print axioms Pql.SplitIR.chain_ir
#print axioms Pql.SplitIR.pre_ir
#print axioms Pql.SplitIR.post_ir
#print axioms Pql.SplitIR.as_ir
#print axioms Pql.SplitIR.default_ir
#print axioms Pql.SplitIR.sort_ir
#print axioms Pql.SplitIR.take_ir
#print axioms Pql.SplitIR.top_ir
#print axioms Pql.SplitIR.join_ir
#print axioms Pql.SplitIR.loop_header
#print axioms Pql.SplitIR.run_tab
#print axioms Pql.SplitIR.run_ops
#print axioms Pql.SplitIR.exec_joinTail
#print axioms Pql.SplitIR.exec_joinHead
#print axioms Pql.IRHead.C02_end_to_end_bytes_raw_ir
#print axioms Pql.IRHead.C02_end_to_end_bytes_detail_ir
#print axioms Pql.IRHead.C02_end_to_end_program_bytes_ir
#print axioms Pql.IRHead.C02_end_to_end_program_names_bytes_ir
#print axioms Pql.IRHead.C02_end_to_end_program_run_ir
#print axioms Pql.IRHead.C02_end_to_end_program_run_ir_nonvacuous
#print axioms Pql.IRHead.C02_split_invariants_ir
#print axioms Pql.IRHead.C02_split_invariants_parsed_ir
#print axioms Pql.IRHead.C02_split_invariants_ir_nonvacuous
#print axioms Pql.IRHead.C02_on_translated_code
