/-
Go-compatible UTF-8 decoding (`utf8.DecodeRuneInString`) and `unicode.IsSpace`.
Invalid input decodes to (RuneError = U+FFFD, width 1), exactly as in Go.
-/
import PqlModel.Base.Bytes
namespace Pql

def runeError : Nat := 0xFFFD

@[inline] def isCont (b : UInt8) : Bool := 0x80 ≤ b.toNat && b.toNat ≤ 0xBF

/-- lower/upper bound Go's `acceptRanges` puts on the second byte. -/
def secondLo (n0 : Nat) : Nat := if n0 == 0xE0 then 0xA0 else if n0 == 0xF0 then 0x90 else 0x80
def secondHi (n0 : Nat) : Nat := if n0 == 0xED then 0x9F else if n0 == 0xF4 then 0x8F else 0xBF

/-- Multi-byte tail of the decoder: lead byte value `n0 ≥ 0x80`, `rest` the bytes after it. -/
def decodeMulti (n0 : Nat) (rest : Bytes) : Option (Nat × Nat) :=
  if n0 < 0xC2 then none
  else if n0 < 0xE0 then
    match rest with
    | b1 :: _ => if isCont b1 then some ((n0 % 32) * 64 + b1.toNat % 64, 2) else none
    | _ => none
  else if n0 < 0xF0 then
    match rest with
    | b1 :: b2 :: _ =>
      if secondLo n0 ≤ b1.toNat && b1.toNat ≤ secondHi n0 && isCont b2 then
        some ((n0 % 16) * 4096 + (b1.toNat % 64) * 64 + b2.toNat % 64, 3)
      else none
    | _ => none
  else if n0 < 0xF5 then
    match rest with
    | b1 :: b2 :: b3 :: _ =>
      if secondLo n0 ≤ b1.toNat && b1.toNat ≤ secondHi n0 && isCont b2 && isCont b3 then
        some ((n0 % 8) * 262144 + (b1.toNat % 64) * 4096 + (b2.toNat % 64) * 64 + b3.toNat % 64, 4)
      else none
    | _ => none
  else none

/-- `decodeRune s = (rune, width)`; width = 0 only for the empty input. -/
def decodeRune : Bytes → Nat × Nat
  | [] => (runeError, 0)
  | b0 :: rest =>
    if b0.toNat < 0x80 then (b0.toNat, 1)
    else match decodeMulti b0.toNat rest with
      | some rw => rw
      | none => (runeError, 1)

/-- Go's `unicode.IsSpace`. -/
def isSpaceRune (r : Nat) : Bool :=
  r == 0x09 || r == 0x0A || r == 0x0B || r == 0x0C || r == 0x0D || r == 0x20 ||
  r == 0x85 || r == 0xA0 || r == 0x1680 || (0x2000 ≤ r && r ≤ 0x200A) ||
  r == 0x2028 || r == 0x2029 || r == 0x202F || r == 0x205F || r == 0x3000

theorem le_secondLo (n0 : Nat) : 0x80 ≤ secondLo n0 := by
  unfold secondLo; split
  · decide
  · split <;> decide

theorem le_of_isCont {b : UInt8} (h : isCont b = true) : 0x80 ≤ b.toNat := by
  simp only [isCont, Bool.and_eq_true, decide_eq_true_eq] at h
  exact h.1

/-- A successful multi-byte decode of width `w` reads exactly the `w - 1` bytes `bs` behind the
    lead byte, none of them ASCII, and nothing else. -/
theorem decodeMulti_some {n0 : Nat} {rest : Bytes} {r w : Nat}
    (h : decodeMulti n0 rest = some (r, w)) :
    ∃ bs tl, rest = bs ++ tl ∧ bs.length + 1 = w ∧ 1 ≤ bs.length ∧ (∀ b ∈ bs, 0x80 ≤ b.toNat) ∧
      ∀ tl', decodeMulti n0 (bs ++ tl') = some (r, w) := by
  revert h
  fun_cases decodeMulti n0 rest
  all_goals intro h
  all_goals try cases h
  case case2.refl b1 tl hb =>
    refine ⟨[b1], tl, rfl, rfl, by simp, ?_, fun tl' => by simp [decodeMulti, *]⟩
    simpa using le_of_isCont hb
  case case5.refl b1 b2 tl hb =>
    refine ⟨[b1, b2], tl, rfl, rfl, by simp, ?_, fun tl' => by simp [decodeMulti, *]⟩
    simp only [Bool.and_eq_true, decide_eq_true_eq] at hb
    have := le_secondLo n0
    simpa using ⟨by omega, le_of_isCont hb.2⟩
  case case8.refl b1 b2 b3 tl hb =>
    refine ⟨[b1, b2, b3], tl, rfl, rfl, by simp, ?_, fun tl' => by simp [decodeMulti, *]⟩
    simp only [Bool.and_eq_true, decide_eq_true_eq] at hb
    have := le_secondLo n0
    simpa using ⟨by omega, le_of_isCont hb.1.2, le_of_isCont hb.2⟩

/-- the continuation bytes consumed by a successful multi-byte decode are all ≥ 0x80 -/
theorem decodeMulti_bytes_ge {n0 : Nat} {rest : Bytes} {r w : Nat}
    (h : decodeMulti n0 rest = some (r, w)) : ∀ x ∈ rest.take (w - 1), 0x80 ≤ x.toNat := by
  obtain ⟨bs, tl, rfl, rfl, -, hbs, -⟩ := decodeMulti_some h
  simpa using hbs

theorem decodeMulti_width {n0 : Nat} {rest : Bytes} {r w : Nat}
    (h : decodeMulti n0 rest = some (r, w)) : 2 ≤ w ∧ w ≤ rest.length + 1 := by
  obtain ⟨bs, tl, rfl, rfl, h1, -⟩ := decodeMulti_some h
  simp only [List.length_append]
  omega

theorem decodeRune_cons (b : UInt8) (s : Bytes) :
    decodeRune (b :: s) =
      if b.toNat < 0x80 then (b.toNat, 1)
      else match decodeMulti b.toNat s with
        | some rw => rw
        | none => (runeError, 1) := rfl

theorem decodeRune_ascii (c : UInt8) (rest : Bytes) (h : c.toNat < 128) :
    decodeRune (c :: rest) = (c.toNat, 1) := by
  rw [decodeRune_cons, if_pos h]

theorem decodeRune_width_pos (b : UInt8) (s : Bytes) : 1 ≤ (decodeRune (b :: s)).2 := by
  rw [decodeRune_cons]
  split
  · simp
  · cases h : decodeMulti b.toNat s with
    | none => simp
    | some rw =>
      obtain ⟨r, w⟩ := rw
      have := decodeMulti_width h
      simp; omega

theorem decodeRune_width_le (s : Bytes) : (decodeRune s).2 ≤ s.length := by
  cases s with
  | nil => simp [decodeRune]
  | cons b s =>
    rw [decodeRune_cons]
    split
    · simp
    · cases h : decodeMulti b.toNat s with
      | none => simp
      | some rw =>
        obtain ⟨r, w⟩ := rw
        have := decodeMulti_width h
        simp; omega

end Pql
