import PqlModel.Base.Bytes
namespace Pql

theorem ofString_empty : Bytes.ofString "" = [] := rfl

/-- The bytes of a string literal as a `flatMap` over its characters.  Proofs rewrite with this before evaluating
    (`rw` unifies the literal with `String.ofList […]`): evaluating `Bytes.ofString "…"` itself goes through
    `ByteArray.push` for every byte. -/
theorem Bytes.ofString_ofList (l : List Char) :
    Bytes.ofString (String.ofList l) = l.flatMap String.utf8EncodeChar := by
  simp [Bytes.ofString, String.toUTF8, List.utf8Encode]

theorem Bytes.ofString_append (a b : String) : Bytes.ofString (a ++ b) = Bytes.ofString a ++ Bytes.ofString b := by
  have h : (a ++ b).toUTF8 = a.toUTF8 ++ b.toUTF8 := ByteArray.ext rfl
  simp only [Bytes.ofString, h, ByteArray.data_append, Array.toList_append]

end Pql
